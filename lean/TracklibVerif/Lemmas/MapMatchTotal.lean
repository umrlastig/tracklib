import TracklibVerif.Lemmas.MapMatchZ
/-! Helper lemmas for C10, fifth part: WHEN `mapOnNetwork` raises nothing. The two exceptions of the candidate loop come from the
projection (C20): `ZeroDivisionError` on a vertical segment (finding D16), and from `__distToNode` on a geometry with a single
vertex (`IndexError`; an EMPTY geometry raises it in the projection, `Xp[0]`). A geometry all of whose segments are skipped
(zero length) is no longer among them: since the `fix:` commit 563eeba it is an ordinary candidate. On a network none of whose
edge geometries has a kept vertical segment or fewer than two vertices the preparation of `STATES`
returns for every observation and every answer of the index made of existing edge numbers; with in-range decoded indices the
whole call returns. -/
namespace TV.MapMatch
open TV.Proj
variable {α : Type} [Field α] [LinearOrder α] [IsStrictOrderedRing α]

/-- an edge geometry on which the candidate loop cannot raise: no kept segment is vertical (`proj_segment`: D16), and the
geometry has at least two vertices (`__distToNode` reads `abs_curv[i + 1]`, `track[i + 1]`). NO segment need be kept: since
the `fix:` commit 563eeba a geometry all of whose vertices coincide is an ordinary candidate (its first vertex, index 0) -/
def GoodGeom (eps : α) (g : List (α × α)) : Prop :=
  (∀ j p1 p2, g[j]? = some p1 → g[j + 1]? = some p2 → skipped eps p1.1 p1.2 p2.1 p2.2 = false → p1.1 ≠ p2.1) ∧
  2 ≤ g.length

theorem candStep_total {sqrt : α → α} (hs : SqrtSpec sqrt) (eps radius : α) (edges : List (Edge α))
    (hcurv : ∀ eg ∈ edges, eg.curv = absCurv sqrt eg.geom) (hgood : ∀ eg ∈ edges, GoodGeom eps eg.geom)
    (pos : α × α) (elem : Nat) (hlt : elem < edges.length) :
    ∃ o, candStep sqrt eps radius edges pos elem = .ok o := by
  have he : edges[elem]? = some (edges[elem]'hlt) := List.getElem?_eq_getElem hlt
  generalize edges[elem]'hlt = eg at he
  have hmem : eg ∈ edges := List.mem_of_getElem? he
  obtain ⟨hnv, h2⟩ := hgood eg hmem
  obtain ⟨⟨d, px, py, i⟩, hr⟩ := TV.C20.proj_polyline_total hs eps eg.geom pos.1 pos.2 hnv
    (List.ne_nil_of_length_pos (Nat.lt_of_lt_of_le Nat.zero_lt_two h2))
  have hp : projOnTrack sqrt eps eg.geom pos.1 pos.2 = .ok ((px, py), d, i) :=
    (TV.C20.projOnTrack_spec sqrt eps eg.geom pos.1 pos.2 d px py i).mpr hr
  obtain ⟨_, _, p1, g1, hseg, _⟩ := TV.C20.proj_polyline_on hs eps eg.geom pos.1 pos.2 d px py i hr
  obtain ⟨p2, g2, _⟩ := hseg h2
  obtain ⟨ha, hb⟩ := distToNode_eq sqrt eg (px, py) i p1 p2 g1 g2 (hcurv eg hmem)
  unfold candStep
  rw [he]; dsimp only
  rw [hp]; dsimp only
  by_cases hd : d < radius
  · simp only [hd, ↓reduceIte, ha, hb]; exact ⟨_, rfl⟩
  · simp only [hd, ↓reduceIte]; exact ⟨_, rfl⟩

theorem obsStates_total {sqrt : α → α} (hs : SqrtSpec sqrt) (eps radius : α) (edges : List (Edge α))
    (hcurv : ∀ eg ∈ edges, eg.curv = absCurv sqrt eg.geom) (hgood : ∀ eg ∈ edges, GoodGeom eps eg.geom)
    (pos : α × α) (cand : Option (List Nat)) (hc : ∀ E, cand = some E → ∀ n ∈ E, n < edges.length) :
    ∃ l, obsStates sqrt eps radius edges pos cand = .ok l := by
  obtain ⟨os, hos⟩ := travE_total (f := candStep sqrt eps radius edges pos) (l := cand.getD []) fun n hn =>
    candStep_total hs eps radius edges hcurv hgood pos n (by
      cases cand with
      | none => cases hn
      | some E => exact hc E rfl n hn)
  exact ⟨_, by rw [obsStates_eq, hos]; rfl⟩

theorem allStates_total {sqrt : α → α} (hs : SqrtSpec sqrt) (eps radius : α) (edges : List (Edge α))
    (hcurv : ∀ eg ∈ edges, eg.curv = absCurv sqrt eg.geom) (hgood : ∀ eg ∈ edges, GoodGeom eps eg.geom) :
    ∀ (track : List (Obs α)) (cands : List (Option (List Nat))),
      (∀ c ∈ cands, ∀ E, c = some E → ∀ n ∈ E, n < edges.length) →
      ∃ ss, allStates sqrt eps radius edges track cands = .ok ss := by
  intro track cands hc
  rw [allStates_eq]
  refine travE_padZip_total fun k o _ => obsStates_total hs eps radius edges hcurv hgood o.pos _ fun E hE => ?_
  cases hk : cands[k]? with
  | none => rw [hk] at hE; cases hE
  | some c => rw [hk] at hE; exact hc c (List.mem_of_getElem? hk) E hE

end TV.MapMatch
