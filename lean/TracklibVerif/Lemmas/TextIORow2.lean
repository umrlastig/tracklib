import TracklibVerif.Lemmas.TextIORow
/-! Assembly: `writeRow` then `readRow` (core only). -/
namespace TV.TextIO
open TV.ObsTime

def rowFields (f : CsvFmt) (d : Nat) (pf : List Tok) (r : Row) (afs : List AFVal) : List Str :=
  cols f (fixedCoreS d r.x) (fixedCoreS d r.y) (if f.idU = -1 then none else some (fixedCoreS d r.z))
    (if f.idT = -1 then none else some (printTime pf r.t)) ++ afs.map afText

theorem writeRow_eq (f : CsvFmt) (geo : Bool) (pf : List Tok) (naf : Nat) (r : Row) (afs : List AFVal)
    (hv : ValidIds f) (htime : f.idT ≠ -1 → TimeOK pf f.sep) :
    writeRow f geo pf (orderList f naf) r afs = .ok (joinChar f.sep (rowFields f (floatFmt geo).2 pf r afs)) := by
  unfold writeRow
  have hafs := foldl_sep_append f.sep afText afs []
  simp only [List.nil_append] at hafs
  rw [hafs]
  cases hg : floatFmt geo with
  | mk w d =>
    simp only
    rw [printInOrder_layout f hv naf _ _ _ _ _ (isSome_ite _ _) (isSome_ite _ _)]
    have hz : (if f.idU = -1 then none else some (fixedWS w d r.z)).map strip
        = if f.idU = -1 then none else some (fixedCoreS d r.z) := by split <;> simp [strip_fixedWS]
    have ht : (if f.idT = -1 then none else some (printTime pf r.t)).map strip
        = if f.idT = -1 then none else some (printTime pf r.t) := by
      split
      · rfl
      · rename_i h; simp [strip_printTime pf f.sep (htime h)]
    have e : (afs.map (fun v => f.sep :: afText v)) = (afs.map afText).map (fun v => f.sep :: v) := by simp
    rw [hz, ht, strip_fixedWS, strip_fixedWS, e, joinChar_append_flatten _ _ _ (cols_ne_nil _ _ _ _ _)]
    rfl

/-- a text that survives as one field of a data line: not empty, no blank at either end, not starting with the comment
character, free of the separator and of the newline -/
def FieldOK (sep : Char) (s : Str) : Prop :=
  (s ≠ [] ∧ (∀ c, s.head? = some c → isWs c = false ∧ c ≠ '#') ∧ (∀ c, s.getLast? = some c → isWs c = false))
  ∧ sep ∉ s ∧ '\n' ∉ s

theorem fieldOK_intro (sep : Char) (s : Str) (hne : s ≠ []) (hws : ∀ c ∈ s, isWs c = false ∧ c ≠ '#' ∧ c ≠ '\n')
    (hsep : sep ∉ s) : FieldOK sep s :=
  ⟨⟨hne, fun c hc => ⟨(hws c (List.mem_of_mem_head? hc)).1, (hws c (List.mem_of_mem_head? hc)).2.1⟩,
    fun c hc => (hws c (List.mem_of_getLast? hc)).1⟩, hsep, fun hm => (hws _ hm).2.2 rfl⟩

theorem strip_of_fieldOK (sep : Char) (s : Str) (h : FieldOK sep s) : strip s = s :=
  strip_eq_self s (fun c hc => (h.1.2.1 c hc).1) h.1.2.2

theorem filter_nonempty (vs : List Str) (h : ∀ s ∈ vs, s ≠ []) : vs.filter (fun s => !s.isEmpty) = vs :=
  List.filter_eq_self.2 (fun s hs => by cases s with | nil => exact absurd rfl (h _ hs) | cons _ _ => rfl)

theorem fields_of_join (sep : Char) (hnl : sep ≠ '\n') (fs : List Str) (hne : fs ≠ []) (h : ∀ s ∈ fs, FieldOK sep s) :
    (splitOnChar sep (joinChar sep fs)).filter (fun s => !s.isEmpty) = fs
    ∧ strip (joinChar sep fs) = joinChar sep fs
    ∧ strip ('#' :: joinChar sep fs) = '#' :: joinChar sep fs
    ∧ (∃ c cs, joinChar sep fs = c :: cs ∧ c ≠ '#') ∧ '\n' ∉ joinChar sep fs := by
  obtain ⟨h0, h1, h2⟩ := joinChar_ends sep fs hne (fun s hs => (h s hs).1)
  obtain ⟨c, cs, hj⟩ := List.exists_cons_of_ne_nil h0
  refine ⟨?_, strip_eq_self _ (fun c hc => (h1 c hc).1) h2, strip_eq_self _ (fun c hc => ?_) (fun c hc => ?_),
    ⟨c, cs, hj, (h1 c (by rw [hj]; rfl)).2⟩, not_mem_joinChar (Ne.symm hnl) (fun v hv => (h v hv).2.2)⟩
  · rw [splitOnChar_joinChar _ _ hne (fun v hv => (h v hv).2.1), filter_nonempty fs (fun s hs => (h s hs).1.1)]
  · simp only [List.head?_cons, Option.some.injEq] at hc
    subst hc; decide
  · rw [hj, List.getLast?_cons_cons, ← hj] at hc
    exact h2 c hc

theorem numField_ok (sep : Char) (hsep : numChar sep = false) (s : Str) (hne : s ≠ []) (h : Over numChar s) : FieldOK sep s :=
  fieldOK_intro sep s hne (fun c hc => ⟨(numChar_props (h c hc)).1, (numChar_props (h c hc)).2.1, (numChar_props (h c hc)).2.2.1⟩)
    (h.not_mem hsep)

/-- what a feature value must satisfy to be written as one column: its text is a good field (always true of an `int`;
of a float when the separator is not a number character, see `afOK_int`, `afOK_dec`) -/
def AFOK (sep : Char) (v : AFVal) : Prop := FieldOK sep (afText v)

theorem afOK_int (sep : Char) (hsep : numChar sep = false) (i : Int) : AFOK sep (.int i) :=
  numField_ok _ hsep _ (intStr_ne_nil _) (intStr_numChar _)

theorem rowFields_ok (f : CsvFmt) (d : Nat) (pf : List Tok) (r : Row) (afs : List AFVal) (hv : ValidIds f)
    (hsep : numChar f.sep = false) (htime : f.idT ≠ -1 → TimeOK pf f.sep) (hafs : ∀ v ∈ afs, AFOK f.sep v) :
    ∀ s ∈ rowFields f d pf r afs, FieldOK f.sep s := by
  intro s hs
  unfold rowFields at hs
  rcases List.mem_append.1 hs with hs | hs
  · have := mem_cols f hv _ _ _ _ (isSome_ite _ _) (isSome_ite _ _) s hs
    rcases this with rfl | rfl | h | h
    · exact numField_ok _ hsep _ (fixedCoreS_ne_nil _ _) (fixedCoreS_numChar _ _)
    · exact numField_ok _ hsep _ (fixedCoreS_ne_nil _ _) (fixedCoreS_numChar _ _)
    · split at h
      · simp at h
      · simp only [Option.some.injEq] at h
        subst h
        exact numField_ok _ hsep _ (fixedCoreS_ne_nil _ _) (fixedCoreS_numChar _ _)
    · split at h
      · simp at h
      · rename_i ht
        simp only [Option.some.injEq] at h
        subst h
        have hok := htime ht
        have ha := printTime_avoids pf f.sep hok hsep r.t
        exact ⟨printTime_ends pf f.sep hok r.t,
          ha.1, ha.2.2⟩
  · simp only [List.mem_map] at hs
    obtain ⟨v, hv', rfl⟩ := hs
    exact hafs v hv'

def rowLine (f : CsvFmt) (geo : Bool) (pf : List Tok) (r : Row) (afs : List AFVal) : Str :=
  joinChar f.sep (rowFields f (floatFmt geo).2 pf r afs)

/-- the observation as the reader returns it -/
def expRow (f : CsvFmt) (geo : Bool) (pf : List Tok) (r : Row) : RRow :=
  ⟨(r.x.toInt, (floatFmt geo).2), (r.y.toInt, (floatFmt geo).2),
    if f.idU = -1 then (0, 0) else (r.z.toInt, (floatFmt geo).2),
    if f.idT = -1 then epoch else project pf r.t⟩

def RowOK (f : CsvFmt) (geo : Bool) (pf : List Tok) (r : Row) : Prop :=
  (f.idT ≠ -1 → Fits r.t) ∧
  decTrunc (r.x.toInt, (floatFmt geo).2) ≠ noData ∧ decTrunc (r.y.toInt, (floatFmt geo).2) ≠ noData

/-- **T2 (data line)**: for a bijective column layout and a separator that is not a number character,
the line written for an observation is read back as that observation: coordinates equal to the
printed decimals, the timestamp reduced to the fields of the format. -/
theorem row_roundtrip_line (f : CsvFmt) (geo : Bool) (pf : List Tok) (naf : Nat) (r : Row) (afs : List AFVal)
    (hv : ValidIds f) (hsep : numChar f.sep = false) (hnl : f.sep ≠ '\n')
    (htime : f.idT ≠ -1 → TimeOK pf f.sep) (hr : RowOK f geo pf r) (hafs : ∀ v ∈ afs, AFOK f.sep v) :
    writeRow f geo pf (orderList f naf) r afs = .ok (rowLine f geo pf r afs) ∧
      '\n' ∉ rowLine f geo pf r afs ∧ strip (rowLine f geo pf r afs) = rowLine f geo pf r afs ∧
      (∃ c cs, rowLine f geo pf r afs = c :: cs ∧ c ≠ '#') ∧
      readRow f pf (rowLine f geo pf r afs) = .ok (expRow f geo pf r) := by
  obtain ⟨hfits, hnd⟩ := hr
  unfold rowLine expRow
  refine ⟨writeRow_eq f geo pf naf r afs hv htime, ?_⟩
  generalize hd : (floatFmt geo).2 = d at *
  have hok := rowFields_ok f d pf r afs hv hsep htime hafs
  have hne : rowFields f d pf r afs ≠ [] := by
    unfold rowFields
    intro h
    exact cols_ne_nil _ _ _ _ _ (List.append_eq_nil_iff.1 h).1
  obtain ⟨hfs, hstrip, _, hc, hnl'⟩ := fields_of_join f.sep hnl _ hne hok
  refine ⟨hnl', hstrip, hc, ?_⟩
  · rw [← hstrip] at hfs
    have hl := cols_lookup f hv (fixedCoreS d r.x) (fixedCoreS d r.y) (if f.idU = -1 then none else some (fixedCoreS d r.z))
      (if f.idT = -1 then none else some (printTime pf r.t)) (afs.map afText)
    have hb := validB_bounds hv
    apply readRow_of_fields f pf _ _ hfs (fixedCoreS d r.x) (fixedCoreS d r.y) _ _ _ _ hl.1 hl.2.1
      (coordField_fixedCoreS _ _ _) (coordField_fixedCoreS _ _ _) hnd
    · by_cases hu : f.idU = -1
      · have : ¬ f.idU ≥ 0 := by omega
        simp [hu]
      · have hge : f.idU ≥ 0 := by rcases hb.2.2.1 with h | h <;> omega
        rw [if_pos hge, if_neg hu]
        refine ⟨fixedCoreS d r.z, ?_, coordField_fixedCoreS _ _ _⟩
        have := hl.2.2.1 hu
        simpa [hu, rowFields] using this
    · by_cases ht : f.idT = -1
      · simp [ht]
      · rw [if_pos ht, if_neg ht]
        refine ⟨printTime pf r.t, ?_, ?_⟩
        · have := hl.2.2.2 ht
          simpa [ht, rowFields] using this
        · have hok' := htime ht
          rw [strip_printTime pf f.sep hok', filter_ne_of_not_mem (printTime_avoids pf f.sep hok' hsep r.t).2.1,
            readTimestamp_printTime pf hok'.lossless r.t (hfits ht)]

theorem row_roundtrip (f : CsvFmt) (geo : Bool) (pf : List Tok) (naf : Nat) (r : Row) (afs : List AFVal)
    (hv : ValidIds f) (hsep : numChar f.sep = false) (hnl : f.sep ≠ '\n')
    (htime : f.idT ≠ -1 → TimeOK pf f.sep ∧ Fits r.t)
    (hnd : decTrunc (r.x.toInt, (floatFmt geo).2) ≠ noData ∧ decTrunc (r.y.toInt, (floatFmt geo).2) ≠ noData)
    (hafs : ∀ v ∈ afs, AFOK f.sep v) :
    ∃ line, writeRow f geo pf (orderList f naf) r afs = .ok line ∧
      '\n' ∉ line ∧ strip line = line ∧ (∃ c cs, line = c :: cs ∧ c ≠ '#') ∧
      readRow f pf line = .ok ⟨(r.x.toInt, (floatFmt geo).2), (r.y.toInt, (floatFmt geo).2),
        if f.idU = -1 then (0, 0) else (r.z.toInt, (floatFmt geo).2),
        if f.idT = -1 then epoch else project pf r.t⟩ :=
  ⟨_, row_roundtrip_line f geo pf naf r afs hv hsep hnl (fun h => (htime h).1) ⟨fun h => (htime h).2, hnd⟩ hafs⟩

instance (f : List Tok) : Decidable (FullDate f) := by unfold FullDate; exact inferInstance
instance (f : CsvFmt) : Decidable (ValidIds f) := by unfold ValidIds; exact inferInstance
instance (t : Stamp) : Decidable (Fits t) := by unfold Fits; exact inferInstance

def timeOKb (pf : List Tok) (sep : Char) : Bool :=
  decide (Lossless pf) && !pf.isEmpty &&
  pf.all (fun tk => match tk with
    | Tok.lit c => c != sep && c != '"' && c != '#' && c != '\n'
    | _ => true) &&
  (match pf.head? with | some (Tok.lit c) => !isWs c | _ => true) &&
  (match pf.getLast? with | some (Tok.lit c) => !isWs c | _ => true)

theorem timeOK_of_b (pf : List Tok) (sep : Char) (h : timeOKb pf sep = true) : TimeOK pf sep := by
  unfold timeOKb at h
  simp only [Bool.and_eq_true, decide_eq_true_eq, Bool.not_eq_true', List.all_eq_true] at h
  obtain ⟨⟨⟨⟨h1, h2⟩, h3⟩, h4⟩, h5⟩ := h
  refine ⟨h1, ?_, ?_, ?_, ?_⟩
  · intro e; rw [e] at h2; simp at h2
  · intro c hc
    have := h3 _ hc
    simp only [bne_iff_ne, ne_eq, Bool.and_eq_true] at this
    exact ⟨this.1.1.1, this.1.1.2, this.1.2, this.2⟩
  · intro c hc
    rw [hc] at h4
    simpa using h4
  · intro c hc
    rw [hc] at h5
    simpa using h5

end TV.TextIO
