import TracklibVerif.Lemmas.CinTabProg
import TracklibVerif.Lemmas.CinTabOpt
/-! The VALUES of the read-only entry points `Track.length`, `Track.duration`, `Track.isSorted` on a lawful feature
table (C17): each one only reads and returns a function of the current coordinate / time columns. -/
namespace TV.CinTab
open TV.Features

variable {σ V : Type} [Tbl σ V]
variable {I : σ → Prop} {n : σ → Nat} {rd : σ → String → Option (List V)} {co : σ → Coord → List V}

variable {N : Nat} {C : Coord → List V}

/-- the `ENUCoords` distance (3D) between fixes `i` and `j` of the coordinate columns -/
def leg3 (g : GOps V) (X Y Z : List V) (i j : Nat) : V :=
  norm3D g (g.sub (atFix g X j) (atFix g X i)) (g.sub (atFix g Y j) (atFix g Y i)) (g.sub (atFix g Z j) (atFix g Z i))

theorem dist3DT_read (L : Laws I n rd co) (g : GOps V) (s : σ) (hI : I s) (hn : n s = N) (hco : co s = C) :
    ReadsLeg (dist3DT g : Nat → Nat → M σ V) (leg3 g (C .x) (C .y) (C .z)) N s := fun _ _ hi hj =>
  (getObs_co_bind L g .x hi hI hn hco _).trans <| (getObs_co_bind L g .y hi hI hn hco _).trans <|
    (getObs_co_bind L g .z hi hI hn hco _).trans <| (getObs_co_bind L g .x hj hI hn hco _).trans <|
    (getObs_co_bind L g .y hj hI hn hco _).trans <| (getObs_co_bind L g .z hj hI hn hco _).trans rfl

theorem lengthT_read (L : Laws I n rd co) (g : GOps V) (s : σ) (hI : I s) :
    (lengthT g : M σ V) s = (.ok (sumL g (leg3 g (co s .x) (co s .y) (co s .z)) (n s - 1)), s) := by
  unfold lengthT
  rw [bind_of_ok (L.size s)]
  exact foldL_read_range' _ (sumL g (leg3 g (co s .x) (co s .y) (co s .z))) s 1 _ (fun i hi => by
    rw [Nat.add_comm 1 i, Nat.add_sub_cancel, bind_of_ok (dist3DT_read L g s hI rfl rfl i (i + 1) (by omega) (by omega))]
    rfl)

/-- `Track.duration()` as a function of the time column -/
def durF (g : GOps V) (T : List V) (N : Nat) : V := g.sub (atFix g T (N - 1)) (atFix g T 0)

theorem durationT_read (L : Laws I n rd co) (g : GOps V) (s : σ) (hI : I s) (hn : 0 < n s) :
    (durationT g : M σ V) s = (.ok (durF g (co s .t) (n s)), s) := by
  unfold durationT
  rw [bind_of_ok (L.size s), if_neg (by omega)]
  exact (getObs_co_bind L g .t (show n s - 1 < n s by omega) hI rfl rfl _).trans
    ((getObs_co_bind L g .t hn hI rfl rfl _).trans rfl)

/-- `Track.isSorted()` after `k` comparisons, as a function of the time column -/
def sortedF (g : GOps V) (T : List V) (k : Nat) : Bool :=
  (List.range k).all fun i => !(g.nonpos (g.sub (atFix g T (i + 1)) (atFix g T i)))

omit [Tbl σ V] in
theorem sortedF_succ (g : GOps V) (T : List V) (k : Nat) :
    sortedF g T (k + 1) = (sortedF g T k && !(g.nonpos (g.sub (atFix g T (k + 1)) (atFix g T k)))) := by
  simp only [sortedF, List.range_succ, List.all_append, List.all_cons, List.all_nil, Bool.and_true]

theorem isSortedT_read (L : Laws I n rd co) (g : GOps V) (s : σ) (hI : I s) :
    (isSortedT g : M σ Bool) s = (.ok (sortedF g (co s .t) (n s - 1)), s) := by
  unfold isSortedT
  rw [bind_of_ok (L.size s)]
  refine foldL_read_range _ (sortedF g (co s .t)) s _ (fun i hi => ?_)
  rw [sortedF_succ]
  cases sortedF g (co s .t) i with
  | false => rfl
  | true =>
    exact (getObs_co_bind L g .t (show i + 1 < n s by omega) hI rfl rfl _).trans
      ((getObs_co_bind L g .t (show i < n s by omega) hI rfl rfl _).trans rfl)

section opt
variable {α : Type} [Add α] [Sub α] [Mul α] [Div α] [OfNat α 0] [BEq α] [LE α] [DecidableLE α]
open TV.Cinematics

def zsOf (zs : List α) : List (Option α) := zs.map some

/-- 3D length of the first `k` legs of finite positions (`xy`, `zs`), each leg `sqrt(dx² + dy² + dz²)` of
`P[k+1] - P[k]`, accumulated in Python's order -/
def len3D (sqrt : α → α) (xy : List (α × α)) (zs : List α) : Nat → α
  | 0 => 0
  | k + 1 => len3D sqrt xy zs k + (match xy[k]?, zs[k]?, xy[k + 1]?, zs[k + 1]? with
      | some p, some zp, some q, some zq =>
        sqrt ((q.1 - p.1) * (q.1 - p.1) + (q.2 - p.2) * (q.2 - p.2) + (zq - zp) * (zq - zp))
      | _, _, _, _ => 0)

theorem sumL_len3D (sqrt : α → α) (ofNat : Nat → α) (isNaN : α → Bool) (xy : List (α × α)) (zs : List α)
    (hz : zs.length = xy.length) (k : Nat) (hk : k < xy.length) :
    sumL (optG sqrt ofNat isNaN) (leg3 (optG sqrt ofNat isNaN) (xsOf xy) (ysOf xy) (zsOf zs)) k = some (len3D sqrt xy zs k) :=
  sumL_opt sqrt ofNat isNaN _ (len3D sqrt xy zs) (fun k => match xy[k]?, zs[k]?, xy[k + 1]?, zs[k + 1]? with
      | some p, some zp, some q, some zq =>
        sqrt ((q.1 - p.1) * (q.1 - p.1) + (q.2 - p.2) * (q.2 - p.2) + (zq - zp) * (zq - zp))
      | _, _, _, _ => 0)
    rfl (fun _ => rfl) k (fun i hi => by
      unfold leg3 atFix
      simp only [xsOf, ysOf, zsOf, List.getElem?_map, List.getElem?_eq_getElem (show i < xy.length by omega),
        List.getElem?_eq_getElem (show i + 1 < xy.length by omega), List.getElem?_eq_getElem (show i < zs.length by omega),
        List.getElem?_eq_getElem (show i + 1 < zs.length by omega), Option.map_some, Option.getD_some]
      rfl)

theorem durF_opt (sqrt : α → α) (ofNat : Nat → α) (isNaN : α → Bool) (ts : List α) (h : 0 < ts.length) :
    durF (optG sqrt ofNat isNaN) (tsOf ts) ts.length = some (ts[ts.length - 1]'(by omega) - ts[0]'h) := by
  unfold durF atFix
  simp only [tsOf, List.getElem?_map, List.getElem?_eq_getElem h,
    List.getElem?_eq_getElem (show ts.length - 1 < ts.length by omega), Option.map_some, Option.getD_some]
  rfl

theorem sortedF_opt (sqrt : α → α) (ofNat : Nat → α) (isNaN : α → Bool) (ts : List α) :
    sortedF (optG sqrt ofNat isNaN) (tsOf ts) (ts.length - 1) = true
      ↔ ∀ i (h : i + 1 < ts.length), ¬ (ts[i + 1]'h - ts[i]'(Nat.lt_of_succ_lt h) ≤ 0) := by
  have key : ∀ i (h : i + 1 < ts.length),
      (!(optG sqrt ofNat isNaN).nonpos ((optG sqrt ofNat isNaN).sub (atFix (optG sqrt ofNat isNaN) (tsOf ts) (i + 1))
        (atFix (optG sqrt ofNat isNaN) (tsOf ts) i))) = true ↔ ¬ (ts[i + 1]'h - ts[i]'(Nat.lt_of_succ_lt h) ≤ 0) := fun i h => by
    simp only [atFix, tsOf, List.getElem?_map, List.getElem?_eq_getElem h, List.getElem?_eq_getElem (Nat.lt_of_succ_lt h),
      Option.map_some, Option.getD_some]
    rw [Bool.not_eq_true']
    exact decide_eq_false_iff_not
  unfold sortedF
  rw [List.all_eq_true]
  exact ⟨fun H i h => (key i h).1 (H i (List.mem_range.2 (by omega))),
    fun H i hi => have h : i + 1 < ts.length := by have := List.mem_range.1 hi; omega
      (key i h).2 (H i h)⟩

end opt
end TV.CinTab
