import TracklibVerif.Model.SeqOps
import TracklibVerif.Lemmas.Seq
/-! Helper lemmas for C04: `sortRadix` (least-significant-digit bucket sort). Core Lean only. -/
namespace TV.Seq

/-- lexicographic order of positions by a list of key functions (most significant first), ties broken
by the base relation `B` -/
def LexLe (B : Nat → Nat → Prop) : List (Nat → Int) → Nat → Nat → Prop
  | [], i, j => B i j
  | f :: fs, i, j => f i < f j ∨ (f i = f j ∧ LexLe B fs i j)

theorem flatMap_filter_perm_filter (f : Nat → Nat) (ids : List Nat) : ∀ bs : List Nat, bs.Nodup →
    (bs.flatMap (fun b => ids.filter (fun i => f i == b))).Perm (ids.filter (fun i => bs.contains (f i)))
  | [], _ => by simp
  | b :: bs, hn => by
    have hn' := List.nodup_cons.mp hn
    -- the first bucket and the others split the ids whose key is in `b :: bs`
    have hsplit := List.filter_append_perm (fun i => f i == b) (ids.filter (fun i => (b :: bs).contains (f i)))
    rw [List.filter_filter, List.filter_filter] at hsplit
    have e1 : ids.filter (fun i => (f i == b) && (b :: bs).contains (f i)) = ids.filter (fun i => f i == b) :=
      List.filter_congr fun i _ => by simpa using Or.inl
    have e2 : ids.filter (fun i => (!(f i == b)) && (b :: bs).contains (f i)) = ids.filter (fun i => bs.contains (f i)) :=
      List.filter_congr fun i _ => by
        by_cases h : f i = b
        · simp [h, hn'.1]
        · simp [h]
    rw [e1, e2] at hsplit
    rw [List.flatMap_cons]
    exact ((flatMap_filter_perm_filter f ids bs hn'.2).append_left _).trans hsplit

theorem flatMap_filter_perm (f : Nat → Nat) (ids bs : List Nat) (hn : bs.Nodup) (hall : ∀ i ∈ ids, f i ∈ bs) :
    (bs.flatMap (fun b => ids.filter (fun i => f i == b))).Perm ids := by
  have := flatMap_filter_perm_filter f ids bs hn
  rwa [List.filter_eq_self.mpr (fun i hi => by simpa using hall i hi)] at this

/-- reading out the buckets in increasing order sorts by the key and keeps the previous order inside a bucket -/
theorem flatMap_filter_sorted (f : Nat → Nat) (R : Nat → Nat → Prop) (nb : Nat) (ids : List Nat)
    (h : ids.Pairwise R) :
    ((List.range nb).flatMap (fun b => ids.filter (fun i => f i == b))).Pairwise
      (fun i j => f i < f j ∨ (f i = f j ∧ R i j)) := by
  rw [List.pairwise_flatMap]
  constructor
  · intro b _
    have := List.Pairwise.filter (fun i => f i == b) h
    refine List.Pairwise.imp_of_mem ?_ this
    intro i j hi hj hr
    have ei : f i = b := by simpa using (List.mem_filter.mp hi).2
    have ej : f j = b := by simpa using (List.mem_filter.mp hj).2
    exact Or.inr ⟨by omega, hr⟩
  · refine List.Pairwise.imp ?_ (List.pairwise_lt_range (n := nb))
    intro b1 b2 hlt x hx y hy
    have ex : f x = b1 := by simpa using (List.mem_filter.mp hx).2
    have ey : f y = b2 := by simpa using (List.mem_filter.mp hy).2
    exact Or.inl (by omega)

theorem bucketPass_spec (nb : Nat) (key : Nat → Int) (R : Nat → Nat → Prop) (ids : List Nat)
    (hk : ∀ i ∈ ids, 0 ≤ key i ∧ key i < nb) (h : ids.Pairwise R) :
    ∃ out, bucketPass nb key ids = some out ∧ out.Perm ids ∧
      out.Pairwise (fun i j => key i < key j ∨ (key i = key j ∧ R i j)) := by
  have hb : ∀ i ∈ ids, bucketOf nb (key i) = some (key i).toNat := fun i hi => by
    have := hk i hi
    exact bucketOf_of (by omega) (Or.inl (by omega))
  have hall : ids.all (fun i => (bucketOf nb (key i)).isSome) = true := by
    rw [List.all_eq_true]
    intro i hi
    rw [hb i hi]; rfl
  have hfilt : ∀ b, ids.filter (fun i => bucketOf nb (key i) == some b) =
      ids.filter (fun i => (key i).toNat == b) := by
    intro b
    apply List.filter_congr
    intro i hi
    rw [hb i hi]
    simp
  have hp := flatMap_filter_perm (fun i => (key i).toNat) ids (List.range nb) List.nodup_range
    (fun i hi => by have := hk i hi; exact List.mem_range.mpr (by omega))
  refine ⟨(List.range nb).flatMap (fun b => ids.filter (fun i => (key i).toNat == b)), ?_, hp, ?_⟩
  · simp only [bucketPass, hall, if_true, hfilt]
  · refine List.Pairwise.imp_of_mem ?_ (flatMap_filter_sorted (fun i => (key i).toNat) R nb ids h)
    intro i j hi hj hr
    have h1 := hk i (hp.mem_iff.mp hi)
    have h2 := hk j (hp.mem_iff.mp hj)
    rcases hr with hr | ⟨he, hr⟩
    · exact Or.inl (by omega)
    · exact Or.inr ⟨by omega, hr⟩

/-- the passes of `runPasses` (least significant first), every key inside its buckets: no `IndexError`, the
result is a permutation of the input, ordered lexicographically by the keys from the LAST pass to the first,
then by the order `B` the input was in (stable). -/
theorem runPasses_spec (B : Nat → Nat → Prop) : ∀ (passes : List (Nat × (Nat → Int))) (acc : List (Nat → Int)) (ids : List Nat),
    (∀ p ∈ passes, ∀ i ∈ ids, 0 ≤ p.2 i ∧ p.2 i < p.1) → ids.Pairwise (LexLe B acc) →
    ∃ out, runPasses passes ids = some out ∧ out.Perm ids ∧
      out.Pairwise (LexLe B ((passes.map (·.2)).reverse ++ acc))
  | [], acc, ids, _, h => ⟨ids, rfl, List.Perm.refl _, by simpa using h⟩
  | (nb, key) :: rest, acc, ids, hk, h => by
    obtain ⟨o1, e1, p1, s1⟩ := bucketPass_spec nb key (LexLe B acc) ids (fun i hi => hk (nb, key) (by simp) i hi) h
    have hk' : ∀ p ∈ rest, ∀ i ∈ o1, 0 ≤ p.2 i ∧ p.2 i < p.1 := by
      intro p hp i hi
      exact hk p (List.mem_cons_of_mem _ hp) i (p1.mem_iff.mp hi)
    obtain ⟨o2, e2, p2, s2⟩ := runPasses_spec B rest (key :: acc) o1 hk' s1
    refine ⟨o2, ?_, p2.trans p1, ?_⟩
    · simp only [runPasses, e1, e2]
    · simpa [List.map_cons, List.reverse_cons, List.append_assoc] using s2

theorem digitPasses_inRange (bs : List Nat) (digits : Nat → List Int) (n : Nat)
    (hd : ∀ i, i < n → ∀ k, k < bs.length → 0 ≤ (digits i).getD k 0 ∧ (digits i).getD k 0 < (bs.getD k 0 : Nat)) :
    ∀ p ∈ bs.zipIdx.map (fun p => ((p.1, fun id => (digits id).getD p.2 0) : Nat × (Nat → Int))),
      ∀ i ∈ List.range n, 0 ≤ p.2 i ∧ p.2 i < (p.1 : Int) := by
  intro p hp i hi
  obtain ⟨⟨b, k⟩, hm, rfl⟩ := List.mem_map.mp hp
  have hk : bs[k]? = some b := List.mem_zipIdx_iff_getElem?.mp hm
  have hb : bs.getD k 0 = b := by rw [List.getD_eq_getElem?_getD, hk]; rfl
  exact hb ▸ hd i (List.mem_range.mp hi) k (List.getElem?_eq_some_iff.mp hk).1

/-! ### the year pass: buckets from the earliest to the latest year of the track -/

/-- Python's `min(iterable, default=d)` on a non-empty list is the library's minimum (`List.min?_cons'` holds by `rfl` of `minD`) -/
theorem minD_le (l : List Int) (d x : Int) (hx : x ∈ l) : minD l d ≤ x := by
  cases l with
  | nil => cases hx
  | cons y ys => exact (List.min?_eq_some_iff.mp (List.min?_cons' (x := y) (xs := ys))).2 x hx

theorem le_maxD (l : List Int) (d x : Int) (hx : x ∈ l) : x ≤ maxD l d := by
  cases l with
  | nil => cases hx
  | cons y ys => exact (List.max?_eq_some_iff.mp (List.max?_cons' (x := y) (xs := ys))).2 x hx

theorem yearPass_inRange (digits : Nat → List Int) (n i : Nat) (hi : i < n) :
    0 ≤ (yearPass digits n).2 i ∧ (yearPass digits n).2 i < ((yearPass digits n).1 : Int) := by
  have hm : yearDigit digits i ∈ (List.range n).map (yearDigit digits) :=
    List.mem_map.mpr ⟨i, List.mem_range.mpr hi, rfl⟩
  have h1 := minD_le _ 0 _ hm
  have h2 := le_maxD _ (-1) _ hm
  simp only [yearPass]
  omega

theorem lexLe_shift (B : Nat → Nat → Prop) (f : Nat → Int) (c : Int) (fs : List (Nat → Int)) (i j : Nat) :
    LexLe B ((fun id => f id - c) :: fs) i j ↔ LexLe B (f :: fs) i j := by
  simp only [LexLe, Int.sub_lt_sub_right_iff, Int.sub_left_inj]

end TV.Seq
