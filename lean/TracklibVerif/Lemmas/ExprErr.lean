import TracklibVerif.Lemmas.Expr
/-! Helper lemmas for C02, the ERROR direction: when the tree semantics `denoteM` of a well-formed tree
(bound variables, known functions, no function applied to a bare number token) is an error, the stack
machine `evalRPN` on the postfix form raises the SAME error, having changed the track only by appended
temporaries (the error half of `evalRPN_sim`, `Lemmas/Expr.lean`) — which the purge of `operate` removes, so that
`operateTokens` leaves the track exactly as it was. -/
namespace TV.Expr
open Scalar
variable {α : Type} [Scalar α]

theorem evalRPN_post_err (e : Ex) : ∀ (tr : Tr α) (st : List (Item α)) (k : Nat) (rest : List Str) (err : Err),
    WFx e → CallsOK e → Bound tr e → tr.n ≠ 0 → Fresh tr k → NoLitNames tr → denoteM tr e = .error err →
    ∃ tr', evalRPN tr (post e ++ rest) st k = (.error err, tr') ∧ Step tr tr' k (k + nops e) := by
  intro tr st k rest err hw hc hb hn hf hl hd
  obtain ⟨tr', s, h⟩ := evalRPN_sim e tr st k rest hw hn hf hl
  rw [hd] at h
  exact ⟨tr', h ⟨hc, hb⟩, s⟩

/-- the evaluation alone (`Track.__evaluate` from the token list on, before the purge): same error, the
    track has only gained temporaries -/
theorem evalTokens_error (tr : Tr α) (lhs : Str) (e : Ex) (void : Bool) (err : Err)
    (hop : isOperatorTok lhs = none) (hw : WFx e) (hc : CallsOK e) (hb : Bound tr e)
    (hn : tr.n ≠ 0) (hnt : NoTemps tr) (hl : NoLitNames tr) (hd : denoteM tr e = .error err) :
    ∃ ad, evalTokens tr (lhs :: (post e ++ [['=']])) void = (.error err, ext tr ad) ∧ ∀ p ∈ ad, isTemp p.1 = true := by
  obtain ⟨tr1, e1, s1⟩ := evalRPN_post_err e tr [.tok lhs] 0 [['=']] err hw hc hb hn (hnt.fresh 0) hl hd
  obtain ⟨ad, rfl, had⟩ := s1.added
  refine ⟨ad, ?_, temp_of_added had⟩
  simp only [evalTokens, evalRPN_tok tr hop, e1]

/-- **`operate` on `lhs = e` (or `#output = e`) when the tree semantics of `e` is an error**: the same
    error comes out, the assignment is never reached, and after the purge of the `finally` clause the
    track is exactly as it was. -/
theorem operateTokens_error (tr : Tr α) (lhs : Str) (e : Ex) (void : Bool) (err : Err)
    (hop : isOperatorTok lhs = none) (hw : WFx e) (hc : CallsOK e) (hb : Bound tr e)
    (hn : tr.n ≠ 0) (hnt : NoTemps tr) (hl : NoLitNames tr) (hd : denoteM tr e = .error err) :
    operateTokens tr (lhs :: (post e ++ [['=']])) void = (.error err, tr) := by
  obtain ⟨ad, hev, had⟩ := evalTokens_error tr lhs e void err hop hw hc hb hn hnt hl hd
  have := purge_ext hnt ad [] had (by simp)
  simp only [ext_nil] at this
  simp only [operateTokens, hev, this]

/-! ### non-vacuity, and the cases the hypotheses exclude -/
namespace ErrEx

/-- a toy exact scalar (integers) whose `sqrt` raises on negatives and whose `pow` raises on `0 ** negative`;
    local to this section -/
local instance toyE : Scalar Int where
  add := (· + ·)
  sub := (· - ·)
  mul := (· * ·)
  div := (· / ·)
  neg := fun x => -x
  pow := fun x y => if x == 0 && decide (y < 0) then .error "err:zerodiv" else .ok (x ^ y.toNat)
  sqrt := fun x => if decide (x < 0) then .error "err:value" else .ok x
  abs := fun x => x.natAbs
  lt := fun a b => decide (a < b)
  isZero := fun x => x == 0
  isNaN := fun _ => false
  nan := 0
  ofDec := fun m k => (m : Int) / (10 ^ k : Nat)
  inf := 10 ^ 300

def trE : Tr Int := ⟨3, [1, 2, 3], [0, 0, 0], [0, 0, 0], [0, 10, 20], [(['a'], [1, -2, 4]), (['b'], [2, 0, 5])]⟩
def sqrtN : Str := ['S', 'Q', 'R', 'T']
def eDiv : Ex := .bin '/' (.var ['a']) (.num ['0'])
def eSqrt : Ex := .call sqrtN (.var ['a'])
def eDeep : Ex := .bin '+' (.bin '*' (.var ['a']) (.var ['b'])) (.call sqrtN (.bin '-' (.var ['a']) (.var ['b'])))
def eType : Ex := .call sqrtN (.bin '+' (.num ['1']) (.num ['1']))

theorem trE_n : trE.n ≠ 0 := by decide
theorem trE_noTemps : NoTemps trE := by
  show ∀ p ∈ trE.feats, isTemp p.1 = false
  decide
theorem trE_noLit : NoLitNames trE := NoLitNames.of_keys (by decide)

example : WFx eDiv ∧ WFx eSqrt ∧ WFx eDeep ∧ WFx eType := by simp only [eDiv, eSqrt, eDeep, eType, WFx]; decide
example : CallsOK eDiv ∧ CallsOK eSqrt ∧ CallsOK eDeep ∧ CallsOK eType := by
  simp only [eDiv, eSqrt, eDeep, eType, CallsOK, isNumLeaf]; decide
example : Bound trE eDeep := ⟨⟨⟨_, rfl⟩, ⟨_, rfl⟩⟩, ⟨_, rfl⟩, ⟨_, rfl⟩⟩

/-- `a/0`: division of a feature by the number 0 raises at the first observation (`a[0] / 0`), the temporary `#0` having been
    created as for every other scalar operator (fixes 5676890 / 2dd86ce; it used to raise on `1.0 / 0` before anything was
    created); the purge of `operate` removes it -/
example : denoteM trE eDiv = .error "err:zerodiv" := by rfl
example : evalTokens trE (outputName :: (post eDiv ++ [['=']])) false
    = (.error "err:zerodiv", ext trE [(tmpName 0, [0, 0, 0])]) := by rfl
/-- `SQRT{a}` with a negative value: the temporary `#0` was created before the computation and is left behind
    by the evaluation; the purge of `operate` removes it -/
example : denoteM trE eSqrt = .error "err:value" := by rfl
example : evalTokens trE (outputName :: (post eSqrt ++ [['=']])) false
    = (.error "err:value", ext trE [(tmpName 0, [0, 0, 0])]) := by rfl
example : operateTokens trE (outputName :: (post eSqrt ++ [['=']])) false = (.error "err:value", trE) := by rfl
/-- the error deep in the right operand, after two successful operations: three temporaries before the purge -/
example : denoteM trE eDeep = .error "err:value" := by rfl
example : evalTokens trE (['c'] :: (post eDeep ++ [['=']])) true
    = (.error "err:value", ext trE [(tmpName 0, [2, 0, 20]), (tmpName 1, [-1, -2, -1]), (tmpName 2, [0, 0, 0])]) := by rfl
/-- a function applied to a folded number: the same TypeError on both sides -/
example : denoteM trE eType = .error "err:type" := by rfl
example : operateTokens trE (outputName :: (post eType ++ [['=']])) false = (.error "err:type", trE) := by rfl

example : operateTokens trE (outputName :: (post eDiv ++ [['=']])) false = (.error "err:zerodiv", trE) :=
  operateTokens_error trE outputName eDiv false _ rfl (by simp only [eDiv, WFx]; decide) (by simp only [eDiv, CallsOK, and_self])
    ⟨⟨_, rfl⟩, trivial⟩ trE_n trE_noTemps trE_noLit (by rfl)
example : operateTokens trE (['c'] :: (post eDeep ++ [['=']])) true = (.error "err:value", trE) :=
  operateTokens_error trE ['c'] eDeep true _ rfl (by simp only [eDeep, WFx]; decide)
    (by simp only [eDeep, CallsOK, isNumLeaf]; decide)
    ⟨⟨⟨_, rfl⟩, ⟨_, rfl⟩⟩, ⟨_, rfl⟩, ⟨_, rfl⟩⟩ trE_n trE_noTemps trE_noLit (by rfl)

/-! the excluded cases: there the machine's outcome is NOT the error of the tree semantics -/

/-- `SQRT{2}` (a void function applied to a bare number token; excluded by `CallsOK`): the tree semantics
    says TypeError, the machine takes the token `2` for a feature name -/
example : denoteM trE (.call sqrtN (.num ['2'])) = .error "err:type"
    ∧ (operateTokens trE (outputName :: (post (.call sqrtN (.num ['2'])) ++ [['=']])) false).1
        = .error "err:AnalyticalFeatureError" := ⟨by rfl, by rfl⟩
/-- `I{2}` on a track of one observation: the input is never read (`voidReads`), the machine succeeds -/
example : denoteM (⟨1, [1], [0], [0], [0], []⟩ : Tr Int) (.call ['I'] (.num ['2'])) = .error "err:type"
    ∧ (operateTokens (⟨1, [1], [0], [0], [0], []⟩ : Tr Int) (outputName :: (post (.call ['I'] (.num ['2'])) ++ [['=']])) false).1
        = .ok (some [0]) := ⟨by rfl, by rfl⟩
/-- `FOO{a}` (unknown function; excluded by `CallsOK`): "err:unsupported" against `sys.exit` -/
example : denoteM trE (.call ['F', 'O', 'O'] (.var ['a'])) = .error "err:unsupported"
    ∧ (operateTokens trE (outputName :: (post (.call ['F', 'O', 'O'] (.var ['a'])) ++ [['=']])) false).1
        = .error "err:exit" := ⟨by rfl, by rfl⟩
/-- `c+1`, `c+a` with `c` unknown (excluded by `Bound`): AnalyticalFeatureError against `sys.exit` / ValueError -/
example : denoteM trE (.bin '+' (.var ['c']) (.num ['1'])) = .error "err:AnalyticalFeatureError"
    ∧ (operateTokens trE (outputName :: (post (.bin '+' (.var ['c']) (.num ['1'])) ++ [['=']])) false).1 = .error "err:exit"
    ∧ (operateTokens trE (outputName :: (post (.bin '+' (.var ['c']) (.var ['a'])) ++ [['=']])) false).1 = .error "err:value" :=
  ⟨by rfl, by rfl, by rfl⟩

end ErrEx

end TV.Expr
