import TracklibVerif.Lemmas.GridIndex
/-! The constructor of `Model/Grid.lean`: what `mkIndex` produces (extent, cell size, shape), the bounding box
contains every vertex, every vertex is inside the extent when `margin ≥ 0`, cell sizes are positive. -/
namespace TV.Grid

section order
variable {α : Type} [LinearOrder α]

/-- the running box of the bbox fold only grows, and ends up containing every point folded in -/
theorem bbox_fold (rest : List (α × α)) (bb0 : α × α × α × α) :
    let bb := rest.foldl (fun (bb : α × α × α × α) q =>
      (pyMin bb.1 q.1, pyMax bb.2.1 q.1, pyMin bb.2.2.1 q.2, pyMax bb.2.2.2 q.2)) bb0
    (bb.1 ≤ bb0.1 ∧ bb0.2.1 ≤ bb.2.1 ∧ bb.2.2.1 ≤ bb0.2.2.1 ∧ bb0.2.2.2 ≤ bb.2.2.2) ∧
    ∀ q ∈ rest, bb.1 ≤ q.1 ∧ q.1 ≤ bb.2.1 ∧ bb.2.2.1 ≤ q.2 ∧ q.2 ≤ bb.2.2.2 := by
  induction rest generalizing bb0 with
  | nil => simp
  | cons q rest ih =>
    simp only [List.foldl_cons]
    obtain ⟨⟨a1, a2, a3, a4⟩, hq⟩ := ih (pyMin bb0.1 q.1, pyMax bb0.2.1 q.1, pyMin bb0.2.2.1 q.2, pyMax bb0.2.2.2 q.2)
    simp only [pyMin_eq, pyMax_eq] at a1 a2 a3 a4 hq ⊢
    refine ⟨⟨le_trans a1 (min_le_left _ _), le_trans (le_max_left _ _) a2, le_trans a3 (min_le_left _ _),
      le_trans (le_max_left _ _) a4⟩, ?_⟩
    intro p hp
    rcases List.mem_cons.mp hp with rfl | hp
    · exact ⟨le_trans a1 (min_le_right _ _), le_trans (le_max_right _ _) a2, le_trans a3 (min_le_right _ _),
        le_trans (le_max_right _ _) a4⟩
    · exact hq p hp

theorem bboxOf_bounds (pts : List (α × α)) (bb : α × α × α × α) (h : bboxOf pts = some bb) :
    ∀ p ∈ pts, bb.1 ≤ p.1 ∧ p.1 ≤ bb.2.1 ∧ bb.2.2.1 ≤ p.2 ∧ p.2 ≤ bb.2.2.2 := by
  cases pts with
  | nil => simp [bboxOf] at h
  | cons p0 rest =>
    simp only [bboxOf, Option.some.injEq] at h
    have := bbox_fold rest (p0.1, p0.1, p0.2, p0.2)
    simp only at this
    rw [h] at this
    obtain ⟨⟨a1, a2, a3, a4⟩, hq⟩ := this
    intro p hp
    rcases List.mem_cons.mp hp with rfl | hp
    · exact ⟨a1, a2, a3, a4⟩
    · exact hq p hp

end order

variable {α : Type} [Field α] [LinearOrder α]

theorem isZero_false_iff (x : α) : isZero x = false ↔ x ≠ 0 := by
  unfold isZero
  constructor
  · intro h hx
    subst hx
    simp at h
  · intro h
    rcases lt_or_gt_of_ne h with h' | h'
    · simp [h']
    · simp [h']

theorem isZero_true_iff (x : α) : isZero x = true ↔ x = 0 := by
  rw [← not_iff_not, Bool.not_eq_true]
  exact isZero_false_iff x

theorem mkIndex_ok (fl : α → Int) (bb : α × α × α × α) (res : Option (α × α)) (m : α) (ix : Index α)
    (h : mkIndex fl bb res m = .ok ix) :
    let xmin := bb.1 - m * (bb.2.1 - bb.1)
    let xmax := bb.2.1 + m * (bb.2.1 - bb.1)
    let ymin := bb.2.2.1 - m * (bb.2.2.2 - bb.2.2.1)
    let ymax := bb.2.2.2 + m * (bb.2.2.2 - bb.2.2.1)
    let ax := xmax - xmin
    let ay := ymax - ymin
    let r := reqSide ax ay res
    ix.xmin = xmin ∧ ix.xmax = xmax ∧ ix.ymin = ymin ∧ ix.ymax = ymax ∧ r.1 ≠ 0 ∧ r.2 ≠ 0 ∧
    ix.csize = max 1 (pyInt fl (ax / r.1)) ∧ ix.lsize = max 1 (pyInt fl (ay / r.2)) ∧
    ix.dX = (if 0 < ax then ax / ((ix.csize : Int) : α) else r.1) ∧
    ix.dY = (if 0 < ay then ay / ((ix.lsize : Int) : α) else r.2) ∧
    ix.grid = List.replicate ix.csize.toNat (List.replicate ix.lsize.toNat []) ∧ ix.inv = [] := by
  intro xmin xmax ymin ymax ax ay r
  unfold mkIndex at h
  simp only at h
  split at h
  · cases h
  split at h
  · cases h
  rename_i hz1 hz2
  cases h
  exact ⟨rfl, rfl, rfl, rfl, (isZero_false_iff _).mp (Bool.eq_false_iff.mpr hz1),
    (isZero_false_iff _).mp (Bool.eq_false_iff.mpr hz2), rfl, rfl, rfl, rfl, rfl, rfl⟩

theorem mkIndex_wf (fl : α → Int) (bb : α × α × α × α) (res : Option (α × α)) (m : α) (ix : Index α)
    (h : mkIndex fl bb res m = .ok ix) : WF ix := by
  obtain ⟨_, _, _, _, _, _, _, _, _, _, hg, hi⟩ := mkIndex_ok fl bb res m ix h
  refine ⟨?_, ?_, ?_⟩
  · intro i j d hm; rw [hi] at hm; simp at hm
  · rw [hg]; simp
  · intro row hr; rw [hg] at hr
    rw [(List.mem_replicate.mp hr).2]; simp

variable [IsStrictOrderedRing α]

/-- the cell size the constructor works with is positive: the explicit one by hypothesis, the default one because
it is `max(ax, ay) / 100` when that is positive and `1` otherwise -/
theorem reqSide_pos (ax ay : α) (res : Option (α × α)) (hres : ∀ r, res = some r → 0 < r.1 ∧ 0 < r.2) :
    0 < (reqSide ax ay res).1 ∧ 0 < (reqSide ax ay res).2 := by
  cases res with
  | some r => exact hres r rfl
  | none =>
    have h100 : (0 : α) < ((100 : Int) : α) := by norm_num
    have : 0 < (if 0 < pyMax ax ay then pyMax ax ay / ((100 : Int) : α) else ((1 : Int) : α)) := by
      split_ifs with h
      · exact div_pos h h100
      · norm_num
    exact ⟨this, this⟩

/-- one axis of the constructor: extent `a`, requested cell size `r` -/
theorem axis_spec {fl : α → Int} (hf : IsFloor fl) (a r : α) (hr : 0 < r) :
    let n := max 1 (pyInt fl (a / r))
    let side := if 0 < a then a / ((n : Int) : α) else r
    0 < side ∧ (0 < a → side * ((n : Int) : α) = a) ∧ (a = 0 → n = 1) := by
  intro n side
  have hn1 : 1 ≤ n := le_max_left _ _
  have hn : (0 : α) < ((n : Int) : α) := by exact_mod_cast (by omega : 0 < n)
  refine ⟨?_, ?_, ?_⟩
  · simp only [side]
    split_ifs with h
    · exact div_pos h hn
    · exact hr
  · intro h
    simp only [side, if_pos h]
    exact div_mul_cancel₀ _ (ne_of_gt hn)
  · intro h
    simp only [n, h, zero_div]
    have : pyInt fl (0 : α) = 0 := by
      unfold pyInt; rw [if_neg (lt_irrefl _), hf.zero]
    rw [this]; rfl

/-- the constructor up to the registration loop never raises when the cell size is the default one or positive
(any bounding box — a single point, a flat one, one shorter than the cell size included): the grid has at least one
column and one row, both cell sides are positive, the cells tile every axis of positive length exactly and an axis
of zero length has one column / row. -/
theorem mkIndex_builds {fl : α → Int} (hf : IsFloor fl) (bb : α × α × α × α) (res : Option (α × α)) (m : α)
    (hres : ∀ r, res = some r → 0 < r.1 ∧ 0 < r.2) :
    ∃ ix, mkIndex fl bb res m = .ok ix ∧ 1 ≤ ix.csize ∧ 1 ≤ ix.lsize ∧ 0 < ix.dX ∧ 0 < ix.dY ∧
      (ix.xmin < ix.xmax → ix.dX * ((ix.csize : Int) : α) = ix.xmax - ix.xmin) ∧
      (ix.ymin < ix.ymax → ix.dY * ((ix.lsize : Int) : α) = ix.ymax - ix.ymin) ∧
      (ix.xmin = ix.xmax → ix.csize = 1) ∧ (ix.ymin = ix.ymax → ix.lsize = 1) := by
  obtain ⟨hr1, hr2⟩ := reqSide_pos ((bb.2.1 + m * (bb.2.1 - bb.1)) - (bb.1 - m * (bb.2.1 - bb.1)))
    ((bb.2.2.2 + m * (bb.2.2.2 - bb.2.2.1)) - (bb.2.2.1 - m * (bb.2.2.2 - bb.2.2.1))) res hres
  obtain ⟨ix, h⟩ : ∃ ix, mkIndex fl bb res m = .ok ix := by
    unfold mkIndex
    simp only
    rw [(isZero_false_iff _).mpr (ne_of_gt hr1), (isZero_false_iff _).mpr (ne_of_gt hr2)]
    exact ⟨_, rfl⟩
  obtain ⟨e1, e2, e3, e4, _, _, ecs, els, edx, edy, _, _⟩ := mkIndex_ok fl bb res m ix h
  obtain ⟨px, tx, ox⟩ := axis_spec hf _ _ hr1
  obtain ⟨py, ty, oy⟩ := axis_spec hf _ _ hr2
  rw [← ecs, ← edx] at px tx
  rw [← ecs] at ox
  rw [← els, ← edy] at py ty
  rw [← els] at oy
  refine ⟨ix, h, by rw [ecs]; exact le_max_left _ _, by rw [els]; exact le_max_left _ _, px, py, ?_, ?_, ?_, ?_⟩
  · intro hlt; rw [e1, e2] at hlt ⊢; exact tx (sub_pos.mpr hlt)
  · intro hlt; rw [e3, e4] at hlt ⊢; exact ty (sub_pos.mpr hlt)
  · intro heq; rw [e1, e2] at heq; exact ox (sub_eq_zero.mpr heq.symm)
  · intro heq; rw [e3, e4] at heq; exact oy (sub_eq_zero.mpr heq.symm)

theorem getCell_of_bbox (fl : α → Int) (bb : α × α × α × α) (res : Option (α × α)) (m : α) (ix : Index α)
    (h : mkIndex fl bb res m = .ok ix) (hm : 0 ≤ m) (p : α × α)
    (hp : bb.1 ≤ p.1 ∧ p.1 ≤ bb.2.1 ∧ bb.2.2.1 ≤ p.2 ∧ p.2 ≤ bb.2.2.2) : getCell ix p ≠ none := by
  obtain ⟨e1, e2, e3, e4, _⟩ := mkIndex_ok fl bb res m ix h
  obtain ⟨p1, p2, p3, p4⟩ := hp
  have hx := mul_nonneg hm (sub_nonneg.mpr (le_trans p1 p2))
  have hy := mul_nonneg hm (sub_nonneg.mpr (le_trans p3 p4))
  apply Option.ne_none_iff_exists'.mpr
  refine ⟨_, (getCell_some_iff ix p _).mpr ⟨?_, ?_, rfl⟩⟩
  · rw [e1, e2]; exact ⟨le_trans (sub_le_self _ hx) p1, le_trans p2 (le_add_of_nonneg_right hx)⟩
  · rw [e3, e4]; exact ⟨le_trans (sub_le_self _ hy) p3, le_trans p4 (le_add_of_nonneg_right hy)⟩

end TV.Grid
