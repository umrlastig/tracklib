import TracklibVerif.Lemmas.SimplifyVwFirst
/-! Visvalingam on **columns of NaN only** (the far end of T14, for the whole run): when **no** triangle area of the track is a number
`<=` ARGMIN's start value nor `>` the squared tolerance (on doubles: every area is NaN) every pass takes ARGMIN's default index 0: the run
removes the observations from the front and returns the **last two** (`vwLoop_all_nan`). The other end — no NaN at all, every pass finds
a minimum — is `allHit_vwInit` of `Lemmas/SimplifyVwFirst.lean`. No property of the scalar type is used. -/
namespace TV.Simplify
variable {α : Type} [Add α] [Sub α] [Mul α] [Div α] [Neg α] [LT α] [DecidableLT α] [BEq α]
  [OfNat α 0] [OfNat α 1] [OfNat α 2]

theorem VInvP.interior {P : α → Prop} {L : List (Fix α)} {S : VState α} (h : VInvP P L S) (j : Nat) (p : Fix α) (v : α)
    (hj : S[j]? = some (p, some v)) : 0 < j ∧ j + 1 < S.length :=
  ⟨FirstNaN.pos h.first hj, LastNaN.lt h.last hj⟩

/-- a state on which ARGMIN finds nothing and the `break` cannot fire, now or later: no triangle area of its observations, and no entry that is
not the NaN of an `IndexError` (`none`), is `<` or `==` the start value or `>` the threshold. A predicate on the state alone: the body only removes
observations and writes triangle areas of the observations left. -/
structure NanInv (big eps2 : α) (S : VState α) : Prop where
  areas : ∀ a b c, a ∈ S.map (·.1) → b ∈ S.map (·.1) → c ∈ S.map (·.1) →
    ¬ areaFix a b c < big ∧ ¬ (areaFix a b c == big) = true ∧ ¬ areaFix a b c > eps2
  nan : ∀ e ∈ S, ∀ v, e.2 = some v → ¬ v < big ∧ ¬ (v == big) = true ∧ ¬ v > eps2

section
omit [Add α] [Neg α]

theorem NanInv.erase {big eps2 : α} {S : VState α} (h : NanInv big eps2 S) (id : Nat) : NanInv big eps2 (S.eraseIdx id) := by
  have s : ((S.eraseIdx id).map (·.1)).Sublist (S.map (·.1)) := by rw [map_eraseIdx']; exact List.eraseIdx_sublist _ _
  exact ⟨fun a b c ha hb hc => h.areas a b c (s.subset ha) (s.subset hb) (s.subset hc),
    fun e he => h.nan e (List.mem_of_mem_eraseIdx he)⟩

theorem NanInv.setAire {big eps2 : α} {S : VState α} (h : NanInv big eps2 S) (i : Nat) : NanInv big eps2 (setAire S i) := by
  refine ⟨by rw [setAire_map_fst]; exact h.areas, fun e he v hv => ?_⟩
  unfold TV.Simplify.setAire at he
  split at he
  · rcases List.mem_or_eq_of_mem_set he with h1 | h1
    · exact h.nan e h1 v hv
    · subst h1
      obtain ⟨p0, p1, p2, m0, m1, m2, rfl⟩ := aireVisval_mem _ _ _ hv
      exact h.areas _ _ _ m0 m1 m2
  · exact h.nan e he v hv

/-- one pass on such a state of more than two observations: ARGMIN answers its default 0, no `break`, the first observation goes -/
theorem vwStep_all_nan (big eps2 : α) (S : VState α) (h : NanInv big eps2 S) (hl : S.length > 2) :
    vwStep big eps2 S = some (vwBody S 0) ∧ NanInv big eps2 (vwBody S 0) := by
  have ea : argmin big (S.map (·.2)) = 0 := argmin_miss big _ fun v hv => by
    obtain ⟨e, he, hc⟩ := List.mem_map.mp hv
    exact ⟨(h.nan e he v hc).1, (h.nan e he v hc).2.1⟩
  have hstop : vwStop eps2 S 0 = false := by
    cases hb : vwStop eps2 S 0 with
    | false => rfl
    | true =>
      obtain ⟨p, w, e, hw⟩ := vwStop_true.mp hb
      exact absurd hw (h.nan _ (List.mem_of_getElem? e) w rfl).2.2
  exact ⟨by rw [vwStep_go big hl (ea ▸ hstop), ea], vwBody_ind S 0 (h.erase 0) fun T j hT _ _ => hT.setAire j⟩

/-- the whole run on a column of NaN: the observations are removed from the front until two remain -/
theorem vwLoop_all_nan (big eps2 : α) (fuel : Nat) (S : VState α) (h : NanInv big eps2 S) (hl : S.length ≤ fuel + 2) :
    (vwLoop big eps2 fuel S).map (·.1) = (S.map (·.1)).drop (S.length - 2) := by
  fun_induction vwLoop big eps2 fuel S with
  | case1 S => rw [Nat.sub_eq_zero_of_le hl, List.drop_zero]
  | case2 fuel S hs =>
    have h2 : ¬ S.length > 2 := fun h2 => by rw [(vwStep_all_nan big eps2 S h h2).1] at hs; cases hs
    rw [Nat.sub_eq_zero_of_le (Nat.le_of_not_lt h2), List.drop_zero]
  | case3 fuel S S' hs ih =>
    obtain ⟨h2, _, _⟩ := vwStep_some hs
    obtain ⟨e1, e2⟩ := vwStep_all_nan big eps2 S h h2
    cases hs.symm.trans e1
    have hlen := vwBody_length S 0 (by omega)
    rw [ih e2 (by omega), vwBody_map_fst, hlen, List.eraseIdx_zero, ← List.drop_one, List.drop_drop]
    congr 1
    omega

theorem vwInit_nanInv (big eps2 : α) (L : List (Fix α))
    (hn : ∀ a b c, a ∈ L → b ∈ L → c ∈ L →
      ¬ areaFix a b c < big ∧ ¬ (areaFix a b c == big) = true ∧ ¬ areaFix a b c > eps2) :
    NanInv big eps2 (vwInit L) :=
  ⟨by rw [vwInit_map_fst]; exact hn, fun _ he _ hv =>
    vwInit_area (P := fun v => ¬ v < big ∧ ¬ (v == big) = true ∧ ¬ v > eps2) L hn he hv⟩

end

end TV.Simplify
