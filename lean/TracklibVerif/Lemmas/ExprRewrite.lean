import TracklibVerif.Lemmas.ExprSyntax
/-! # The rewriting chain of `Track.__evaluate` on printed source strings

Each pass that does something (`{`→`@(`, `}`→`)`, `(-`→`(0-`) is a map between printed strings with other brackets; every other
pass finds no occurrence of its pattern, by the adjacency invariant. So `preprocess (lhs ++ '=' :: src e)` and `preprocess (src e)`
are exact equalities (`rewr_src`, for any admissible prefix `PreOK`). -/

namespace TV.Expr
open TV.Rpn

theorem flatMap_wrapS (g : Char → Str) (h1 : g '(' = ['(']) (h2 : g ')' = [')']) (b : Bool) (s : Str) :
    (wrapS b s).flatMap g = wrapS b (s.flatMap g) := by
  cases b with
  | false => rfl
  | true => simp [wrapS, List.flatMap_cons, List.flatMap_append, h1, h2]

theorem flatMap_name {c : Char} (rep : Str) (hc : c = '{' ∨ c = '}') {s : Str} (h : ∀ d ∈ s, achar d = true) :
    s.flatMap (fm c rep) = s := by
  apply flatMap_fm_absent
  intro hm
  have := achar_ne_braces (h c hm)
  rcases hc with rfl | rfl
  · exact this.1 rfl
  · exact this.2 rfl

theorem pr_flatMap (c : Char) (rep : Str) (hc : c = '{' ∨ c = '}') (lb rb ng : Str) (hng : c ∉ ng) (e : Sx) (h : SrcOK e) :
    (pr lb rb ng e).flatMap (fm c rep) = pr (lb.flatMap (fm c rep)) (rb.flatMap (fm c rep)) ng e := by
  have h1 : fm c rep '(' = ['('] := fm_ne rep (by rcases hc with rfl | rfl <;> decide)
  have h2 : fm c rep ')' = [')'] := fm_ne rep (by rcases hc with rfl | rfl <;> decide)
  induction e with
  | num s => exact flatMap_name rep hc h.1.2
  | var s => exact flatMap_name rep hc h.1.2
  | bin o l r ihl ihr =>
    have ho : fm c rep o = [o] := by
      apply fm_ne
      intro e
      have := h.1.1
      rcases hc with rfl | rfl <;> (subst e; revert this; decide)
    simp only [pr, List.flatMap_append, List.flatMap_cons, flatMap_wrapS _ h1 h2, ihl h.2.1, ihr h.2.2, ho,
      List.cons_append, List.nil_append]
  | call f e ih =>
    simp only [pr, List.flatMap_append, flatMap_name rep hc h.1.2, ih h.2]
  | neg e ih =>
    simp only [pr, List.flatMap_append, List.flatMap_cons, List.flatMap_nil, flatMap_wrapS _ h1 h2, ih h, h2,
      flatMap_fm_absent hng, List.append_nil]
  | par e ih =>
    simp only [pr, List.flatMap_append, List.flatMap_cons, List.flatMap_nil, ih h, h1, h2, List.cons_append,
      List.nil_append]

/-- the middle string: calls already `f@(…)`, unary minus still `(-…)` -/
def mid (e : Sx) : Str := pr ['@', '('] [')'] ['(', '-'] e

theorem mid_inv (e : Sx) (h : SrcOK e) : Inv (mid e) := pr_inv (Or.inr rfl) (Or.inr rfl) (Or.inl rfl) e h

/-- `s.replace("(-", "(0-")` -/
abbrev r2 : Str → Str := rep2 '(' '-' ['(', '0', '-']

theorem r2_app (s t : Str) (hj : s.getLast? ≠ some '(' ∨ t.head? ≠ some '-') : r2 (s ++ t) = r2 s ++ r2 t :=
  rep2_append _ _ _ s t hj

theorem r2_snoc_rp (s : Str) : r2 (s ++ [')']) = r2 s ++ [')'] := rep2_snoc_ne _ (by decide) s

theorem r2_lp_cons (s : Str) (h : s.head? ≠ some '-') : r2 ('(' :: s) = '(' :: r2 s := by
  have := r2_app ['('] s (Or.inr h)
  simpa [r2, rep2] using this

theorem head?_append_inv {s t : Str} (h : Inv s) : (s ++ t).head? ≠ some '-' := by
  obtain ⟨c, hc, h1, _⟩ := h.head
  simp only [List.head?_append, hc, Option.some_or]
  intro e; exact h1 (Option.some.inj e)

theorem r2_paren {s : Str} (h : Inv s) : r2 ('(' :: (s ++ [')'])) = '(' :: (r2 s ++ [')']) := by
  rw [r2_lp_cons _ (head?_append_inv h), r2_snoc_rp]

theorem r2_wrapS {s : Str} (b : Bool) (h : Inv s) : r2 (wrapS b s) = wrapS b (r2 s) := by
  cases b with
  | false => rfl
  | true => exact r2_paren h

theorem r2_name {s : Str} (h : ∀ d ∈ s, achar d = true) : r2 s = s :=
  rep2_absent_left (fun hm => (achar_facts (h _ hm)).1 rfl)

theorem r2_mid (e : Sx) (h : SrcOK e) : r2 (mid e) = tgt e := by
  have hinv : ∀ e, SrcOK e → Inv (pr ['@', '('] [')'] ['(', '-'] e) := mid_inv
  unfold mid tgt
  induction e with
  | num s => exact r2_name h.1.2
  | var s => exact r2_name h.1.2
  | bin o l r ihl ihr =>
    have hl := Inv.wrap (decide (slv l < pyLvl o)) (hinv l h.2.1)
    have hne : o ≠ '(' := by intro e; subst e; exact absurd h.1.1 (by decide)
    simp only [pr]
    rw [r2_app _ _ (Or.inl hl.last_ne)]
    have : r2 (o :: wrapS (decide (slv r ≤ pyLvl o)) (pr ['@', '('] [')'] ['(', '-'] r))
        = o :: r2 (wrapS (decide (slv r ≤ pyLvl o)) (pr ['@', '('] [')'] ['(', '-'] r)) := by
      have := r2_app [o] (wrapS (decide (slv r ≤ pyLvl o)) (pr ['@', '('] [')'] ['(', '-'] r))
        (Or.inl (by simpa using hne))
      simpa [r2, rep2] using this
    rw [this, r2_wrapS _ (hinv l h.2.1), r2_wrapS _ (hinv r h.2.2), ihl h.2.1, ihr h.2.2]
  | call f e ih =>
    have hx := hinv e h.2
    have hf : f.getLast? ≠ some '(' := by
      intro hl
      exact (achar_facts (h.1.2 _ (List.mem_of_getLast? hl))).1 rfl
    simp only [pr]
    rw [r2_app _ _ (Or.inl hf), r2_name h.1.2, r2_app _ _ (Or.inr (head?_append_inv hx)), r2_snoc_rp, ih h.2]
    rfl
  | neg e ih =>
    have hx := hinv e h
    simp only [pr]
    have : r2 (['(', '-'] ++ (wrapS (decide (slv e ≤ 2)) (pr ['@', '('] [')'] ['(', '-'] e) ++ [')']))
        = ['(', '0', '-'] ++ r2 (wrapS (decide (slv e ≤ 2)) (pr ['@', '('] [')'] ['(', '-'] e) ++ [')']) := by
      simp [r2, rep2]
    rw [this, r2_snoc_rp, r2_wrapS _ hx, ih h]
  | par e ih =>
    simp only [pr]
    rw [r2_paren (hinv e h), ih h]

end TV.Expr

namespace TV.Expr
open TV.Rpn

/-- the rewriting chain, before the `#output = ` prefix -/
def rewr (e : Str) : Except Err Str := do
  let e := replace e [' '] []
  let e := specialOpChar e
  let e := convertReflexOperator e
  let e ← unaryOp e
  pure (funcAt e)

def outPrefix : Str := ['#', 'o', 'u', 't', 'p', 'u', 't', ' ', '=', ' ']

theorem preprocess_eq_rewr (s : Str) :
    preprocess s = (rewr s).map fun r => (if contains ['='] r then r else outPrefix ++ r, contains ['='] r) := by
  simp only [preprocess, rewr]
  cases unaryOp (convertReflexOperator (specialOpChar (replace s [' '] []))) <;> rfl

theorem preprocess_of_rewr {s r : Str} (h : rewr s = .ok r) :
    preprocess s = .ok (if contains ['='] r then r else outPrefix ++ r, contains ['='] r) := by
  rw [preprocess_eq_rewr, h]; rfl

theorem preprocess_rewr_congr {s u : Str} (h : rewr u = rewr s) : preprocess u = preprocess s := by
  rw [preprocess_eq_rewr, preprocess_eq_rewr, h]

theorem foldl_fix {β : Type} (g : Str → β → Str) (e : Str) : ∀ (L : List β), (∀ x ∈ L, g e x = e) → L.foldl g e = e
  | [], _ => rfl
  | x :: xs, h => by
    rw [List.foldl_cons, h x (by simp)]
    exact foldl_fix g e xs (fun y hy => h y (by simp [hy]))

theorem reflex_bad : ∀ op ∈ reflexOps, chn okp (op ++ ['=']) = false := by decide

theorem convertReflex_id {R : Char → Char → Bool} (hbad : ∀ op ∈ reflexOps, chn R (op ++ ['=']) = false)
    {s : Str} (hs : chn R s = true) : convertReflexOperator s = s := by
  unfold convertReflexOperator
  apply foldl_fix
  intro op hop
  have : contains (op ++ ['=']) s = false := contains_false_of_chn hs (hbad op hop)
  simp only [this, Bool.false_eq_true, if_false]

/-- the two brace maps of `__specialOpChar` -/
def sp (s : Str) : Str := (s.flatMap (fm '{' ['@', '('])).flatMap (fm '}' [')'])

theorem sp_append (s t : Str) : sp (s ++ t) = sp s ++ sp t := by simp [sp, List.flatMap_append]

theorem sp_cons {c : Char} (h1 : c ≠ '{') (h2 : c ≠ '}') (t : Str) : sp (c :: t) = c :: sp t := by
  simp [sp, List.flatMap_cons, fm_ne _ h1, fm_ne _ h2]

/-- an adjacency relation under which none of the four two-character patterns of `__specialOpChar` occurs -/
structure NoSpecial (R : Char → Char → Bool) : Prop where
  ss : chn R ['*', '*'] = false
  ds : chn R ['.', '*'] = false
  gg : chn R ['>', '>'] = false
  ll : chn R ['<', '<'] = false

theorem special_flat {R : Char → Char → Bool} (hR : NoSpecial R) (s : Str) (c0 : chn R s = true)
    (c1 : chn R (sp s) = true) : specialOpChar s = sp s := by
  simp only [specialOpChar]
  rw [replace_chn ['*', '*'] _ c0 hR.ss, replace_chn ['.', '*'] _ c0 hR.ds, replace_one s, replace_one]
  show replace (replace (sp s) ['>', '>'] ['&']) ['<', '<'] ['$'] = sp s
  rw [replace_chn ['>', '>'] _ c1 hR.gg, replace_chn ['<', '<'] _ c1 hR.ll]

theorem sp_pre_src (pre : Str) (nolb : '{' ∉ pre) (norb : '}' ∉ pre) (e : Sx) (h : SrcOK e) :
    sp (pre ++ src e) = pre ++ mid e := by
  unfold sp
  rw [List.flatMap_append, flatMap_fm_absent nolb, src, pr_flatMap '{' _ (Or.inl rfl) _ _ _ (by decide) e h,
    List.flatMap_append, flatMap_fm_absent norb, pr_flatMap '}' _ (Or.inr rfl) _ _ _ (by decide) e h]
  rfl

theorem rewr_sp {R : Char → Char → Bool} (hR : NoSpecial R) {s : Str} (nosp : ' ' ∉ s) (c0 : chn R s = true)
    (c1 : chn R (sp s) = true) :
    rewr s = (unaryOp (convertReflexOperator (sp s))).bind (fun e => pure (funcAt e)) := by
  simp only [rewr, replace_absent_char [] nosp, special_flat hR _ c0 c1]
  rfl

theorem void_bad : ∀ f ∈ namesVoid, lastIn f ['+', '-', '*', '/', '^', '!', '>', '<', '%', '&', '$'] = false →
    chn okp (f ++ ['(']) = false := by decide

theorem nonvoid_bad : ∀ f ∈ namesNonVoid, lastIn f ['+', '-', '*', '/', '^'] = false →
    chn okp (f ++ ['(']) = false := by decide

theorem funcLoop_id (names : List Str) (skip : List Char)
    (hbad : ∀ f ∈ names, lastIn f skip = false → chn okp (f ++ ['(']) = false) {s : Str} (hs : chn okp s = true) :
    names.foldl (fun e f => if lastIn f skip then e else replace e (f ++ ['(']) (f ++ ['@', '('])) s = s := by
  apply foldl_fix
  intro f hf
  cases hl : lastIn f skip with
  | true => simp
  | false =>
    simp only [Bool.false_eq_true, if_false]
    exact replace_chn _ _ hs (hbad f hf hl)

theorem funcAt_id {s : Str} (hs : chn okp s = true) : funcAt s = s := by
  simp only [funcAt, funcLoop_id _ _ void_bad hs, funcLoop_id _ _ nonvoid_bad hs]

/-- what may stand in front of the printed expression: nothing, or `lhs=` -/
structure PreOK (pre : Str) : Prop where
  chn : ∀ X, Inv X → chn okp (pre ++ X) = true
  nosp : ' ' ∉ pre
  nolb : '{' ∉ pre
  norb : '}' ∉ pre
  nolp : '(' ∉ pre
  first : ∀ X, Inv X → ∃ c r, pre ++ X = c :: r ∧ c ≠ '-' ∧ c ≠ '+'

theorem preOK_nil : PreOK [] where
  chn := fun X h => h.chn
  nosp := by simp
  nolb := by simp
  norb := by simp
  nolp := by simp
  first := fun X h => by
    obtain ⟨c, hc, h1, h2⟩ := h.head
    cases X with
    | nil => simp at hc
    | cons d ds =>
      simp only [List.head?_cons, Option.some.injEq] at hc
      subst hc
      exact ⟨d, ds, rfl, h1, h2⟩

theorem name_not_mem {lhs : Str} (hl : NameOK lhs) {c : Char} (hc : achar c = false) : c ∉ lhs := by
  intro hm
  rw [hl.2 c hm] at hc
  cases hc

theorem preOK_lhs {lhs : Str} (hl : NameOK lhs) : PreOK (lhs ++ ['=']) := by
  have hnot : ∀ c, achar c = false → c ≠ '=' → c ∉ lhs ++ ['='] := by
    intro c hc h1
    simp only [List.mem_append, List.mem_singleton, not_or]
    exact ⟨name_not_mem hl hc, h1⟩
  refine ⟨fun X h => ?_, hnot _ (by decide) (by decide), hnot _ (by decide) (by decide), hnot _ (by decide) (by decide),
    hnot _ (by decide) (by decide), fun X _ => ?_⟩
  · obtain ⟨a, z, hseg, ha, hz⟩ := seg_atom lhs hl.1 (fun c hc => cls_achar (hl.2 c hc))
    obtain ⟨ax, zx, hx, hax, _⟩ := h
    rw [List.append_assoc]
    exact (Seg.append hseg (Seg.cons hx (okp_op_start (by decide) hax)) (okp_A_op hz (by decide) (by decide))).1
  · cases lhs with
    | nil => exact absurd rfl hl.1
    | cons c r =>
      refine ⟨c, r ++ ['='] ++ X, by simp, ?_⟩
      exact startC_ne (Or.inl (cls_achar (hl.2 c (by simp))))

theorem PreOK.name_op {pre lhs : Str} {op : Char} (hp : PreOK pre) (hl : NameOK lhs) (hd : lhs.getLast? ≠ some '.')
    (hop : pyLvl op < 9) : PreOK (pre ++ lhs ++ [op]) := by
  have inv : ∀ X, Inv X → Inv (lhs ++ op :: X) := fun X h => Inv.bin (inv_name hl hd) h hop
  have e : ∀ X, pre ++ lhs ++ [op] ++ X = pre ++ (lhs ++ op :: X) := fun X => by simp
  have hnot : ∀ c, achar c = false → ¬ pyLvl c < 9 → c ∉ pre → c ∉ pre ++ lhs ++ [op] := by
    intro c hc h2 h3
    simp only [List.mem_append, List.mem_singleton, not_or]
    exact ⟨⟨h3, name_not_mem hl hc⟩, fun e => h2 (e ▸ hop)⟩
  exact ⟨fun X h => e X ▸ hp.chn _ (inv X h), hnot _ (by decide) (by decide) hp.nosp, hnot _ (by decide) (by decide) hp.nolb,
    hnot _ (by decide) (by decide) hp.norb, hnot _ (by decide) (by decide) hp.nolp, fun X h => e X ▸ hp.first _ (inv X h)⟩

theorem src_no_space (e : Sx) (h : SrcOK e) : ' ' ∉ src e := by
  intro hm
  refine pr_all (fun c => c ≠ ' ') ⟨by decide, by decide⟩ (by decide) (by decide) (by decide) ?_ ?_ e h ' ' hm rfl
  · intro c hc e; subst e; revert hc; decide
  · intro o ho _ e; subst e; revert ho; decide

theorem tgt_no_eq (e : Sx) (h : SrcOK e) : '=' ∉ tgt e := by
  intro hm
  refine pr_all (fun c => c ≠ '=') ⟨by decide, by decide⟩ (by decide) (by decide) (by decide) ?_ ?_ e h '=' hm rfl
  · intro c hc e; subst e; revert hc; decide
  · intro o _ ho; exact ho

/-- the eight replacements of `__unaryOp` -/
def uchain (e : Str) : Str :=
  let e := replace (replace e ['=', '-'] ['=', '0', '-']) ['=', '+'] ['=', '0', '+']
  let e := replace (replace e ['(', '-'] ['(', '0', '-']) ['(', '+'] ['(', '0', '+']
  let e := replace (replace e ['-', '-'] ['+']) ['+', '+'] ['+']
  replace (replace e ['+', '-'] ['-']) ['-', '+'] ['-']

theorem unaryOp_cons (c : Char) (t : Str) :
    unaryOp (c :: t) = .ok (uchain (if c == '-' || c == '+' then '0' :: c :: t else c :: t)) := rfl

theorem unary_mid (pre : Str) (hp : PreOK pre) (e : Sx) (h : SrcOK e) :
    unaryOp (pre ++ mid e) = .ok (pre ++ tgt e) := by
  have c1 : chn okp (pre ++ mid e) = true := hp.chn _ (mid_inv e h)
  have c2 : chn okp (pre ++ tgt e) = true := hp.chn _ (tgt_inv e h)
  have hr : rep2 '(' '-' ['(', '0', '-'] (pre ++ mid e) = pre ++ tgt e :=
    (rep2_prefix _ hp.nolp _).trans (congrArg _ (r2_mid e h))
  -- no sign in front: `__unaryOp` is the eight replacements; the third fires, the others find nothing
  obtain ⟨c, r, hcr, h1, h2⟩ := hp.first _ (mid_inv e h)
  have hb : (c == '-' || c == '+') = false := by simp [h1, h2]
  have hu : unaryOp (pre ++ mid e) = .ok (uchain (pre ++ mid e)) := by
    rw [hcr, unaryOp_cons, hb]
    rfl
  refine hu.trans (congrArg Except.ok ?_)
  simp only [uchain]
  rw [replace_chn ['=', '-'] _ c1 (by decide), replace_chn ['=', '+'] _ c1 (by decide), replace_two (pre ++ mid e), hr,
    replace_chn ['(', '+'] _ c2 (by decide), replace_chn ['-', '-'] _ c2 (by decide),
    replace_chn ['+', '+'] _ c2 (by decide), replace_chn ['+', '-'] _ c2 (by decide),
    replace_chn ['-', '+'] _ c2 (by decide)]

theorem rewr_src (pre : Str) (hp : PreOK pre) (e : Sx) (h : SrcOK e) : rewr (pre ++ src e) = .ok (pre ++ tgt e) := by
  have c1 : chn okp (pre ++ mid e) = true := hp.chn _ (mid_inv e h)
  have hsp := sp_pre_src pre hp.nolb hp.norb e h
  have nosp : ' ' ∉ pre ++ src e := by simp only [List.mem_append, not_or]; exact ⟨hp.nosp, src_no_space e h⟩
  rw [rewr_sp ⟨by decide, by decide, by decide, by decide⟩ nosp (hp.chn _ (src_inv e h)) (hsp ▸ c1), hsp,
    convertReflex_id reflex_bad c1, unary_mid pre hp e h]
  exact congrArg Except.ok (funcAt_id (hp.chn _ (tgt_inv e h)))

theorem pyLvl_zero {o : Char} (h : pyLvl o = 0) : o = '=' :=
  List.mem_singleton.mp ((grp_mem (by decide) o).mpr h)

theorem slv_ne_zero (e : Sx) (h : SrcOK e) : slv e ≠ 0 := by
  cases e with
  | bin o l r => exact fun h0 => h.1.2 (pyLvl_zero h0)
  | _ => simp [slv]

theorem preprocess_assign (lhs : Str) (e : Sx) (hl : NameOK lhs) (h : SrcOK e) :
    preprocess (lhs ++ '=' :: src e)
      = .ok (flat (shw pyLvl 9 (.bin '=' (.atom (String.ofList lhs)) (toE' e))), true) := by
  have hr := rewr_src (lhs ++ ['=']) (preOK_lhs hl) e h
  have hc : contains ['='] (lhs ++ ['='] ++ tgt e) = true := contains_single_true (by simp)
  have hs : lhs ++ '=' :: src e = lhs ++ ['='] ++ src e := by simp
  rw [hs, preprocess_of_rewr hr, hc]
  have h0 : pyLvl '=' = 0 := by decide
  have hz : decide (slv e ≤ pyLvl '=') = false := by
    rw [h0]; simp only [Nat.le_zero_eq, decide_eq_false_iff_not]; exact slv_ne_zero e h
  simp only [if_true, shw, lv_toE', hz]
  simp only [lv, h0, wrap, flat_append, flat, tgt_eq]
  simp [flat]

theorem preprocess_value (e : Sx) (h : SrcOK e) :
    preprocess (src e) = .ok ("#output = ".toList ++ flat (shw pyLvl 9 (toE' e)), false) := by
  have hr := rewr_src [] preOK_nil e h
  simp only [List.nil_append] at hr
  have hc : contains ['='] (tgt e) = false := contains_single_false (tgt_no_eq e h)
  rw [preprocess_of_rewr hr, hc, tgt_eq]
  rfl

end TV.Expr
