import TracklibVerif.Model.DTWTable
import TracklibVerif.Lemmas.DTW
/-! Refinement: the executable table form of `_dtw` (`Model/DTWTable.lean`) equals the function-style
`T` / `pred` of `Model/DTW.lean`; the backward walk (`walk_spec`), couplings as lists, the loop of `_fillAF_dtw` (`fillAFOn_spec`: for a coupling
it returns `outOf`, whatever the track carried) and `_dtw` as a whole (`dtw_spec`). -/
namespace TV.DTW
section table
variable {α : Type} [LinearOrder α]

theorem pmin_eq_min (a b : α) : pmin a b = min a b := by
  unfold pmin
  by_cases h : b < a
  · simp [h, min_eq_right (le_of_lt h)]
  · simp [h, min_eq_left (not_lt.mp h)]

theorem pmax_eq_max (a b : α) : pmax a b = max a b := by
  unfold pmax
  by_cases h : a < b
  · rw [if_pos h, max_eq_right (le_of_lt h)]
  · rw [if_neg h, max_eq_left (not_lt.mp h)]

theorem pmin3_eq_min3 (ul u l : α) : pmin ul (pmin u l) = min3 ul u l := by
  rw [pmin_eq_min, pmin_eq_min, min3_eq_min]

theorem predCell_eq (i j : Nat) (ul u l : α) :
    predCell (i+1) (j+1) ul u l =
      if ul ≤ u ∧ ul ≤ l then (i, j) else if u < l then (i, j+1) else (i+1, j) := by
  unfold predCell
  rw [pmin_eq_min]
  by_cases h1 : ul ≤ u ∧ ul ≤ l
  · have : ul ≤ min u l := le_min h1.1 h1.2
    simp [h1, this]
  · have h1' : ¬ ul ≤ min u l := fun h => h1 ⟨le_trans h (min_le_left _ _), le_trans h (min_le_right _ _)⟩
    by_cases h2 : u < l
    · have : ¬ l ≤ u := not_le.mpr h2
      simp [h1, h1', h2, this]
    · have : l ≤ u := not_lt.mp h2
      simp [h1, h1', h2, this]

/-- column `j` of the function-style tables `T`, `M` -/
def tableCol (w : α → α → α) (z : α) (D : Nat → Nat → α) (n2 j : Nat) : List (Cell α) :=
  (List.range' 0 n2).map (fun i => (T w z D i j, pred w z D i j))

/-- the columns of a distance matrix given as a function (`n1` columns of `n2` entries) -/
def dcols (D : Nat → Nat → α) (n1 n2 : Nat) : List (List α) :=
  (List.range' 0 n1).map (fun j => (List.range' 0 n2).map (fun i => D i j))

theorem firstCol_from (w : α → α → α) (z : α) (D : Nat → Nat → α) :
    ∀ n i acc, w acc (D i 0) = T w z D i 0 →
      firstCol w i acc ((List.range' i n).map (fun r => D r 0)) = (List.range' i n).map (fun r => (T w z D r 0, pred w z D r 0))
  | 0, _, _, _ => by simp [firstCol]
  | n+1, i, acc, h => by
    rw [List.range'_succ]
    simp only [List.map_cons, firstCol]
    rw [h, firstCol_from w z D n (i+1) _ (by simp only [T])]
    cases i <;> simp [pred]

theorem firstCol_spec (w : α → α → α) (z : α) (D : Nat → Nat → α) (n2 : Nat) :
    firstCol w 0 z ((List.range' 0 n2).map (fun r => D r 0)) = tableCol w z D n2 0 :=
  firstCol_from w z D n2 0 z (by simp only [T])

theorem restCol_spec (w : α → α → α) (z : α) (D : Nat → Nat → α) (j : Nat) :
    ∀ n i, restCol w (j+1) (i+1) (T w z D i j) (T w z D i (j+1))
        ((List.range' (i+1) n).map (fun r => (T w z D r j, pred w z D r j)))
        ((List.range' (i+1) n).map (fun r => D r (j+1)))
      = (List.range' (i+1) n).map (fun r => (T w z D r (j+1), pred w z D r (j+1)))
  | 0, i => by simp [restCol]
  | n+1, i => by
    rw [List.range'_succ]
    simp only [List.map_cons, restCol]
    have h := restCol_spec w z D j n (i+1)
    have ht : w (pmin (T w z D i j) (pmin (T w z D i (j+1)) (T w z D (i+1) j))) (D (i+1) (j+1))
        = T w z D (i+1) (j+1) := by
      rw [pmin3_eq_min3]; simp only [T]
    rw [ht, h, predCell_eq]
    simp [pred]

theorem nextCol_spec (w : α → α → α) (z : α) (D : Nat → Nat → α) (n2 j : Nat) :
    nextCol w (j+1) (tableCol w z D n2 j) ((List.range' 0 n2).map (fun r => D r (j+1))) = tableCol w z D n2 (j+1) := by
  unfold tableCol
  cases n2 with
  | zero => simp [nextCol]
  | succ n =>
    rw [List.range'_succ]
    simp only [List.map_cons, nextCol]
    have h := restCol_spec w z D j n 0
    have ht : w (T w z D 0 j) (D 0 (j+1)) = T w z D 0 (j+1) := by simp only [T]
    rw [ht, h]
    simp [pred]

theorem laterCols_spec (w : α → α → α) (z : α) (D : Nat → Nat → α) (n2 : Nat) :
    ∀ n j, laterCols w (j+1) (tableCol w z D n2 j)
        ((List.range' (j+1) n).map (fun c => (List.range' 0 n2).map (fun r => D r c)))
      = (List.range' (j+1) n).map (tableCol w z D n2)
  | 0, j => by simp [laterCols]
  | n+1, j => by
    rw [List.range'_succ]
    simp only [List.map_cons, laterCols]
    rw [nextCol_spec, laterCols_spec w z D n2 n (j+1)]

theorem table_spec (w : α → α → α) (z : α) (D : Nat → Nat → α) (n1 n2 : Nat) :
    table w z (dcols D n1 n2) = (List.range' 0 n1).map (tableCol w z D n2) := by
  unfold dcols
  cases n1 with
  | zero => simp [table]
  | succ n =>
    rw [List.range'_succ]
    simp only [List.map_cons, table]
    rw [firstCol_spec, laterCols_spec w z D n2 n 0]

theorem cellAt_table (w : α → α → α) (z : α) (D : Nat → Nat → α) (n1 n2 i j : Nat) (hi : i < n2) (hj : j < n1) :
    cellAt (table w z (dcols D n1 n2)) i j = some (T w z D i j, pred w z D i j) := by
  rw [table_spec]
  unfold cellAt tableCol
  simp [hi, hj]

theorem cellAt_table_none (w : α → α → α) (z : α) (D : Nat → Nat → α) (n1 n2 i j : Nat) (h : n2 ≤ i ∨ n1 ≤ j) :
    cellAt (table w z (dcols D n1 n2)) i j = none := by
  rw [table_spec]
  unfold cellAt tableCol
  rcases h with h | h
  · by_cases hj : j < n1
    · simp [hj, Nat.not_lt.mpr h]
    · simp [hj]
  · simp [Nat.not_lt.mpr h]

end table

theorem cellAt_dcols {α : Type} (D : Nat → Nat → α) (n1 n2 i j : Nat) (hi : i < n2) (hj : j < n1) :
    cellAt (dcols D n1 n2) i j = some (D i j) := by
  unfold cellAt dcols
  simp [hi, hj]

section paths
variable {α : Type}

/-- `b` is a lattice predecessor of `a`: one step back in track2, in track1, or in both -/
def IsStep (a b : Nat × Nat) : Prop :=
  (a.1 = b.1 + 1 ∧ a.2 = b.2) ∨ (a.1 = b.1 ∧ a.2 = b.2 + 1) ∨ (a.1 = b.1 + 1 ∧ a.2 = b.2 + 1)

/-- a list of pairs, as `S` in the code (last pair first), that is a monotone coupling with unit steps ending at `(0,0)` -/
def BackPath : List (Nat × Nat) → Prop
  | [] => False
  | [s] => s = (0, 0)
  | a :: b :: rest => IsStep a b ∧ BackPath (b :: rest)

/-- accumulated cost of a coupling given last pair first: `weight(… weight(weight(0, D[0,0]), D[s₁]) …, D[last])` -/
def costBack (w : α → α → α) (z : α) (D : Nat → Nat → α) : List (Nat × Nat) → α
  | [] => z
  | s :: rest => w (costBack w z D rest) (D s.1 s.2)

/-- the backward step that `_dtw` and `_fdtw` share: `Good` is the set of nodes whose back-pointer can be followed (every cell for
`_dtw`, the visited nodes for `_fdtw`), `val` the value stored there -/
theorem walk_spec (w : α → α → α) (z : α) (D : Nat → Nat → α) (M : Nat → Nat → Option (Nat × Nat))
    (Good : Nat × Nat → Prop) (val : Nat × Nat → α) (h0 : val (0, 0) = w z (D 0 0))
    (hstep : ∀ y, Good y → (0 < y.1 ∨ 0 < y.2) →
      ∃ v, Good v ∧ IsStep y v ∧ M y.1 y.2 = some v ∧ val y = w (val v) (D y.1 y.2)) :
    ∀ fuel (y : Nat × Nat), Good y → y.1 + y.2 ≤ fuel →
      BackPath (walk M fuel y) ∧ (walk M fuel y).head? = some y ∧ costBack w z D (walk M fuel y) = val y := by
  intro fuel y
  have single : ∀ s : Nat × Nat, ¬(0 < s.1 ∨ 0 < s.2) →
      BackPath [s] ∧ [s].head? = some s ∧ costBack w z D [s] = val s := by
    rintro ⟨i, j⟩ h
    obtain ⟨rfl, rfl⟩ : i = 0 ∧ j = 0 := by simp only at h; omega
    exact ⟨rfl, rfl, h0.symm⟩
  fun_induction walk M fuel y with
  | case1 s => exact fun _ h => single s (by omega)
  | case2 f i j hpos m hM ih =>
    intro hy hf
    obtain ⟨v, hv, hs, hM', hT⟩ := hstep (i, j) hy hpos
    cases hM.symm.trans hM'
    obtain ⟨b1, b2, b3⟩ := ih hv (by unfold IsStep at hs; simp only at hs hf; omega)
    generalize walk M f m = l at b1 b2 b3
    match l, b2 with
    | _ :: rest, rfl => exact ⟨⟨hs, b1⟩, rfl, by simp only [costBack] at b3 ⊢; rw [b3, hT]⟩
  | case3 f i j hpos hM =>
    intro hy _
    obtain ⟨v, _, _, hM', _⟩ := hstep (i, j) hy hpos
    cases hM.symm.trans hM'
  | case4 f i j hpos => exact fun _ _ => single _ hpos

theorem backPath_induction {motive : Nat → Nat → List (Nat × Nat) → Prop} (base : motive 0 0 [(0, 0)])
    (step : ∀ a b rest, IsStep a b → BackPath (b :: rest) → motive b.1 b.2 (b :: rest) → motive a.1 a.2 (a :: b :: rest)) :
    ∀ (S : List (Nat × Nat)) (i j : Nat), BackPath S → S.head? = some (i, j) → motive i j S
  | [], _, _, h, _ => h.elim
  | [s], i, j, h, hh => by
    have hs : s = (0, 0) := h
    subst hs
    cases Option.some.inj hh
    exact base
  | a :: b :: rest, i, j, h, hh => by
    have ha : a = (i, j) := Option.some.inj hh
    subst ha
    exact step _ b rest h.1 h.2 (backPath_induction base step (b :: rest) b.1 b.2 h.2 rfl)

theorem coupling_step {w : α → α → α} {z : α} {D : Nat → Nat → α} {y v : Nat × Nat} {c : α}
    (h : IsStep y v) (hc : Coupling w z D v.1 v.2 c) : Coupling w z D y.1 y.2 (w c (D y.1 y.2)) := by
  obtain ⟨y1, y2⟩ := y
  obtain ⟨v1, v2⟩ := v
  unfold IsStep at h
  simp only at h hc ⊢
  rcases h with ⟨a, b⟩ | ⟨a, b⟩ | ⟨a, b⟩ <;> subst a <;> subst b
  · exact Coupling.down hc
  · exact Coupling.right hc
  · exact Coupling.diag hc

theorem backPath_coupling (w : α → α → α) (z : α) (D : Nat → Nat → α) :
    ∀ (S : List (Nat × Nat)) (i j : Nat), BackPath S → S.head? = some (i, j) →
      Coupling w z D i j (costBack w z D S) :=
  backPath_induction (motive := fun i j S => Coupling w z D i j (costBack w z D S)) Coupling.base
    (fun _ _ _ hs _ ih => coupling_step hs ih)

theorem backPath_bounds : ∀ (S : List (Nat × Nat)) (i j : Nat), BackPath S → S.head? = some (i, j) →
    ∀ s ∈ S, s.1 ≤ i ∧ s.2 ≤ j :=
  backPath_induction (motive := fun i j S => ∀ s ∈ S, s.1 ≤ i ∧ s.2 ≤ j)
    (fun s hs => by cases List.mem_singleton.mp hs; exact ⟨Nat.le_refl _, Nat.le_refl _⟩)
    (fun a b rest hst _ ih s hs => by
      rcases List.mem_cons.mp hs with hs | hs
      · subst hs; exact ⟨Nat.le_refl _, Nat.le_refl _⟩
      · have := ih s hs
        unfold IsStep at hst
        omega)

theorem backPath_covers : ∀ (S : List (Nat × Nat)) (i j : Nat), BackPath S → S.head? = some (i, j) →
    (∀ a, a ≤ i → ∃ b, (a, b) ∈ S) ∧ (∀ b, b ≤ j → ∃ a, (a, b) ∈ S) :=
  backPath_induction (motive := fun i j S => (∀ a, a ≤ i → ∃ b, (a, b) ∈ S) ∧ (∀ b, b ≤ j → ∃ a, (a, b) ∈ S))
    ⟨fun a ha => ⟨0, by simp; omega⟩, fun b hb => ⟨0, by simp; omega⟩⟩
    (fun p q rest hst _ ih => by
      unfold IsStep at hst
      constructor
      · intro a ha
        by_cases hai : a = p.1
        · subst hai; exact ⟨p.2, List.mem_cons_self⟩
        · obtain ⟨b, hb⟩ := ih.1 a (by omega)
          exact ⟨b, List.mem_cons_of_mem _ hb⟩
      · intro b hb
        by_cases hbj : b = p.2
        · subst hbj; exact ⟨p.1, List.mem_cons_self⟩
        · obtain ⟨a, ha⟩ := ih.2 b (by omega)
          exact ⟨a, List.mem_cons_of_mem _ ha⟩)

theorem backPath_length : ∀ (S : List (Nat × Nat)) (i j : Nat), BackPath S → S.head? = some (i, j) →
    i + 1 ≤ S.length ∧ j + 1 ≤ S.length ∧ S.length ≤ i + j + 1 :=
  backPath_induction (motive := fun i j S => i + 1 ≤ S.length ∧ j + 1 ≤ S.length ∧ S.length ≤ i + j + 1) (by simp)
    (fun a b rest hst _ ih => by
      unfold IsStep at hst
      simp only [List.length_cons] at ih ⊢
      omega)

theorem backPath_sorted : ∀ (S : List (Nat × Nat)) (i j : Nat), BackPath S → S.head? = some (i, j) →
    S.Pairwise (fun a b => b.2 ≤ a.2) :=
  backPath_induction (motive := fun _ _ S => S.Pairwise (fun a b => b.2 ≤ a.2)) (List.pairwise_singleton _ _)
    (fun a b rest hst hbp ih => List.pairwise_cons.mpr ⟨fun s hs => by
      have := (backPath_bounds _ _ _ hbp rfl s hs).2
      unfold IsStep at hst
      omega, ih⟩)

theorem backPath_in_tracks (S : List (Nat × Nat)) (n1 n2 : Nat) (h1 : 0 < n1) (h2 : 0 < n2)
    (hbp : BackPath S) (hhd : S.head? = some (n2 - 1, n1 - 1)) :
    (∀ s ∈ S, s.1 < n2 ∧ s.2 < n1) ∧ (∀ j, j < n1 → ∃ i, (i, j) ∈ S) :=
  ⟨fun s hs => by have := backPath_bounds _ _ _ hbp hhd s hs; omega, fun j hj => (backPath_covers _ _ _ hbp hhd).2 j (by omega)⟩

end paths

section pred
variable {α : Type} [LinearOrder α]

def walkF (w : α → α → α) (z : α) (D : Nat → Nat → α) : Nat → Nat × Nat → List (Nat × Nat) :=
  walk (fun i j => some (pred w z D i j))

theorem pred_isStep (w : α → α → α) (z : α) (D : Nat → Nat → α) (i j : Nat) (h : 0 < i ∨ 0 < j) :
    IsStep (i, j) (pred w z D i j) := by
  unfold IsStep
  match i, j with
  | 0, 0 => omega
  | i+1, 0 => simp [pred]
  | 0, j+1 => simp [pred]
  | i+1, j+1 =>
    simp only [pred]
    split
    · simp
    · split <;> simp

theorem pred_le (w : α → α → α) (z : α) (D : Nat → Nat → α) (i j : Nat) :
    (pred w z D i j).1 ≤ i ∧ (pred w z D i j).2 ≤ j ∧
      ((0 < i ∨ 0 < j) → (pred w z D i j).1 + (pred w z D i j).2 < i + j) := by
  by_cases h : 0 < i ∨ 0 < j
  · have hs := pred_isStep w z D i j h
    unfold IsStep at hs
    omega
  · obtain ⟨rfl, rfl⟩ : i = 0 ∧ j = 0 := by omega
    simp [pred]

/-- `T_pred` with the border: away from the first cell, the value is `w` of the value at `pred` -/
theorem T_pred_all (w : α → α → α) (z : α) (D : Nat → Nat → α) (i j : Nat) (h : 0 < i ∨ 0 < j) :
    T w z D i j = w (T w z D (pred w z D i j).1 (pred w z D i j).2) (D i j) := by
  match i, j with
  | 0, 0 => omega
  | i+1, 0 => simp only [T, pred]
  | 0, j+1 => simp only [T, pred]
  | i+1, j+1 => exact T_pred w z D i j

/-- T3, T4: with enough fuel the walk through `pred` is a monotone unit-step coupling down to `(0,0)` whose accumulated cost is the
table value (each back-pointer is a minimal predecessor) -/
theorem walkF_spec (w : α → α → α) (z : α) (D : Nat → Nat → α) (f i j : Nat) (h : i + j ≤ f) :
    BackPath (walkF w z D f (i, j)) ∧ (walkF w z D f (i, j)).head? = some (i, j) ∧
      costBack w z D (walkF w z D f (i, j)) = T w z D i j :=
  walk_spec w z D _ (fun _ => True) (fun y => T w z D y.1 y.2) (by simp only [T])
    (fun y _ hy => ⟨_, trivial, pred_isStep w z D _ _ hy, rfl, T_pred_all w z D _ _ hy⟩) f (i, j) trivial h

theorem min3_swap (a b c : α) : min3 a b c = min3 a c b := by
  rw [min3_eq_min, min3_eq_min, min_comm b c]

/-- T2 (core): transposing the distance matrix transposes the table -/
theorem T_transpose (w : α → α → α) (z : α) (D : Nat → Nat → α) (i j : Nat) :
    T w z (fun a b => D b a) j i = T w z D i j := by
  induction i, j using T.induct with
  | case1 => simp only [T]
  | case2 i ih => simp only [T, ih]
  | case3 j ih => simp only [T, ih]
  | case4 i j ih1 ih2 ih3 => simp only [T, ih1, ih2, ih3, min3_swap]

theorem walk_table (w : α → α → α) (z : α) (D : Nat → Nat → α) (n1 n2 : Nat) :
    ∀ f i j, i < n2 → j < n1 →
      walk (fun i j => (cellAt (table w z (dcols D n1 n2)) i j).map (·.2)) f (i, j) = walkF w z D f (i, j) := by
  intro f
  induction f with
  | zero => intro i j _ _; simp [walkF, walk]
  | succ f ih =>
    intro i j hi hj
    have hp := pred_le w z D i j
    have hrec := ih (pred w z D i j).1 (pred w z D i j).2 (by omega) (by omega)
    unfold walkF at hrec ⊢
    simp only [walk, cellAt_table w z D n1 n2 i j hi hj, Option.map_some]
    split
    · rw [hrec]
    · rfl

theorem dtwCore_spec (w : α → α → α) (z : α) (D : Nat → Nat → α) (n1 n2 : Nat) (h1 : 0 < n1) (h2 : 0 < n2) :
    dtwCore w z n1 n2 (dcols D n1 n2)
      = some (T w z D (n2 - 1) (n1 - 1), walkF w z D (n1 + n2) (n2 - 1, n1 - 1)) := by
  unfold dtwCore
  simp only []
  rw [walk_table w z D n1 n2 (n1 + n2) (n2 - 1) (n1 - 1) (by omega) (by omega),
    cellAt_table w z D n1 n2 (n2 - 1) (n1 - 1) (by omega) (by omega)]
  rfl

end pred

/-- the partners that the pairs of `L` (in visiting order) give to observation `j` of track1 -/
def partners (L : List (Nat × Nat)) (j : Nat) : List Nat := (L.filter (fun s => s.2 == j)).map (·.1)

theorem mem_partners (L : List (Nat × Nat)) (i j : Nat) : i ∈ partners L j ↔ (i, j) ∈ L := by
  simp [partners]

theorem partners_map_pair (L : List (Nat × Nat)) (j : Nat) :
    (partners L j).map (fun i => (i, j)) = L.filter (fun s => s.2 == j) := by
  rw [partners, List.map_map]
  refine (List.map_congr_left fun s hs => ?_).trans (List.map_id _)
  have : s.2 = j := by simpa using (List.mem_filter.mp hs).2
  simp [← this]

section rows
variable {α : Type} [Sub α] [OfNat α 0]

/-- the row that `_fillAF_dtw` writes for observation `j` when its last partner is `i` -/
def rowFor (dist : Pt α → Pt α → α) (t1 t2 : List (Pt α)) (j i : Nat) (pair : List Nat) : Row α :=
  { diff := some (dist (t1[j]?.getD ⟨0, 0, 0⟩) (t2[i]?.getD ⟨0, 0, 0⟩)), pair := pair,
    ex := some ((t1[j]?.getD ⟨0, 0, 0⟩).x - (t2[i]?.getD ⟨0, 0, 0⟩).x),
    ey := some ((t1[j]?.getD ⟨0, 0, 0⟩).y - (t2[i]?.getD ⟨0, 0, 0⟩).y) }

/-- what one iteration of `_fillAF_dtw` (pair `s`) does to the row of observation `j` -/
def stepRow (dist : Pt α → Pt α → α) (t1 t2 : List (Pt α)) (j : Nat) (r : Row α) (s : Nat × Nat) : Row α :=
  if s.2 = j then rowFor dist t1 t2 j s.1 (r.pair ++ [s.1]) else r

theorem fill_foldl_rows (dist : Pt α → Pt α → α) (t1 t2 : List (Pt α)) :
    ∀ (L : List (Nat × Nat)) (rows : List (Row α)) (nb : Nat), rows.length = t1.length →
      (∀ s ∈ L, s.1 < t2.length ∧ s.2 < t1.length) →
      L.foldl (fillStep dist t1 t2) (some (rows, nb))
        = some (rows.mapIdx (fun j r => L.foldl (stepRow dist t1 t2 j) r), nb + L.length)
  | [], rows, nb, _, _ => by
    have : rows.mapIdx (fun _ r => r) = rows := by
      apply List.ext_getElem? ; intro j; simp [List.getElem?_mapIdx]
    simp [this]
  | s :: L, rows, nb, hl, hb => by
    have hs := hb s List.mem_cons_self
    have h1 : s.2 < t1.length := hs.2
    have h2 : s.1 < t2.length := hs.1
    have hr : s.2 < rows.length := by omega
    simp only [List.foldl_cons, fillStep, List.getElem?_eq_getElem h1, List.getElem?_eq_getElem h2,
      List.getElem?_eq_getElem hr]
    rw [fill_foldl_rows dist t1 t2 L _ (nb + 1) (by simp [hl]) (fun s' hs' => hb s' (List.mem_cons_of_mem _ hs'))]
    congr 2
    · apply List.ext_getElem?
      intro j
      simp only [List.getElem?_mapIdx]
      by_cases hj : s.2 = j
      · subst hj
        simp [List.getElem?_set_self hr, List.getElem?_eq_getElem hr, stepRow, rowFor, List.getElem?_eq_getElem h1,
          List.getElem?_eq_getElem h2]
      · simp [List.getElem?_set_ne hj, stepRow, hj]
    · simp only [List.length_cons]; omega

theorem foldl_stepRow_last (dist : Pt α → Pt α → α) (t1 t2 : List (Pt α)) (j : Nat) :
    ∀ (L : List (Nat × Nat)) (r : Row α),
      L.foldl (stepRow dist t1 t2 j) r =
        match (partners L j).getLast? with
        | none => r
        | some i => rowFor dist t1 t2 j i (r.pair ++ partners L j)
  | [], r => by simp [partners]
  | s :: L, r => by
    simp only [List.foldl_cons]
    rw [foldl_stepRow_last dist t1 t2 j L]
    by_cases hj : s.2 = j
    · have hp : partners (s :: L) j = s.1 :: partners L j := by simp [partners, hj]
      rw [hp]
      cases hl : (partners L j).getLast? with
      | none =>
        have : partners L j = [] := List.getLast?_eq_none_iff.mp hl
        simp [this, stepRow, hj, rowFor]
      | some i =>
        have : (s.1 :: partners L j).getLast? = some i := by
          rw [List.getLast?_cons, hl]; rfl
        simp [this, stepRow, hj, rowFor]
    · have hp : partners (s :: L) j = partners L j := by simp [partners, hj]
      rw [hp]
      simp [stepRow, hj]

/-- what `_fillAF_dtw` makes of a coupling `S` and a score, whatever the track it writes on carried: `pair` of observation `j` lists the
partners `i` of the pairs `(i, j)` of `S` in coupling order, `diff`, `ex`, `ey` are those of the last of them, `nb_links` is the number of
pairs -/
def outOf (dist : Pt α → Pt α → α) (t1 t2 : List (Pt α)) (S : List (Nat × Nat)) (score : α) : Out α :=
  { score := score, S := S, nbLinks := S.length,
    rows := (List.range t1.length).map fun j =>
      rowFor dist t1 t2 j ((partners S.reverse j).getLast?.getD 0) (partners S.reverse j) }

theorem outOf_length (dist : Pt α → Pt α → α) (t1 t2 : List (Pt α)) (S : List (Nat × Nat)) (score : α) :
    (outOf dist t1 t2 S score).rows.length = t1.length := by
  simp [outOf]

theorem outOf_pair (dist : Pt α → Pt α → α) (t1 t2 : List (Pt α)) (S : List (Nat × Nat)) (score : α) (j : Nat)
    (hj : j < t1.length) : ((outOf dist t1 t2 S score).rows[j]?).map (·.pair) = some (partners S.reverse j) := by
  simp only [outOf, List.getElem?_map, List.getElem?_range hj, Option.map_some, rowFor]

theorem outOf_row (dist : Pt α → Pt α → α) (t1 t2 : List (Pt α)) (S : List (Nat × Nat)) (score : α) (j i : Nat)
    (hj : j < t1.length) (hi : (partners S.reverse j).getLast? = some i) :
    (outOf dist t1 t2 S score).rows[j]? = some (rowFor dist t1 t2 j i (partners S.reverse j)) := by
  simp only [outOf, List.getElem?_map, List.getElem?_range hj, Option.map_some, hi, Option.getD_some]

theorem outOf_links (dist : Pt α → Pt α → α) (t1 t2 : List (Pt α)) (S : List (Nat × Nat)) (score : α)
    (hS : BackPath S ∧ S.head? = some (t2.length - 1, t1.length - 1)) (h1 : 0 < t1.length) (h2 : 0 < t2.length) :
    (∀ s ∈ S, s.1 < t2.length ∧ s.2 < t1.length) ∧
    (∀ j, j < t1.length → ∃ r : Row α, (outOf dist t1 t2 S score).rows[j]? = some r ∧ (∀ i, i ∈ r.pair ↔ (i, j) ∈ S) ∧ r.pair ≠ []) ∧
    (∀ i, i < t2.length → ∃ (j : Nat) (r : Row α), (outOf dist t1 t2 S score).rows[j]? = some r ∧ i ∈ r.pair) := by
  obtain ⟨hbp, hhd⟩ := hS
  have hb := backPath_bounds _ _ _ hbp hhd
  have hc := backPath_covers _ _ _ hbp hhd
  have hrow : ∀ j, j < t1.length → ∃ r : Row α, (outOf dist t1 t2 S score).rows[j]? = some r ∧ (∀ i, i ∈ r.pair ↔ (i, j) ∈ S) :=
    fun j hj => by
      obtain ⟨r, hr, hp⟩ := Option.map_eq_some_iff.mp (outOf_pair dist t1 t2 S score j hj)
      exact ⟨r, hr, fun i => hp ▸ (mem_partners _ i j).trans List.mem_reverse⟩
  refine ⟨fun s hs => by have := hb s hs; omega, fun j hj => ?_, fun i hi => ?_⟩
  · obtain ⟨r, hr, hmem⟩ := hrow j hj
    obtain ⟨a, ha⟩ := hc.2 j (by omega)
    exact ⟨r, hr, hmem, List.ne_nil_of_mem ((hmem a).mpr ha)⟩
  · obtain ⟨b, hb'⟩ := hc.1 i (by omega)
    obtain ⟨r, hr, hmem⟩ := hrow b (by have := hb _ hb'; simp only at this; omega)
    exact ⟨b, r, hr, (hmem i).mpr hb'⟩

end rows

section fill
variable {α : Type} [Sub α] [OfNat α 0]

/-- `_fillAF_dtw` on pairs that exist and link every observation of track1: whatever feature rows `output = track1.copy()` carries
(one per observation), it returns `outOf` of the pairs and the score -/
theorem fillAFOn_spec (dist : Pt α → Pt α → α) (t1 t2 : List (Pt α)) (S : List (Nat × Nat)) (score : α)
    (hb : ∀ s ∈ S, s.1 < t2.length ∧ s.2 < t1.length) (hc : ∀ j, j < t1.length → ∃ i, (i, j) ∈ S)
    (rows0 : List (Row α)) (hl : rows0.length = t1.length) :
    fillAFOn dist t1 t2 rows0 S score = some (outOf dist t1 t2 S score) := by
  unfold fillAFOn outOf
  rw [fill_foldl_rows dist t1 t2 S.reverse _ 0 (by simp [hl]) (fun s hs => hb s (List.mem_reverse.mp hs))]
  simp only [Nat.zero_add, List.length_reverse, Option.some.injEq, Out.mk.injEq, true_and, and_true]
  apply List.ext_getElem (by simp [hl])
  intro j hj _
  have hj : j < t1.length := by simpa [hl] using hj
  -- observation `j` has a partner, so its row is rewritten whatever it held
  obtain ⟨i, hi⟩ := hc j hj
  have hne : partners S.reverse j ≠ [] :=
    List.ne_nil_of_mem ((mem_partners _ i j).mpr (List.mem_reverse.mpr hi))
  cases hlast : (partners S.reverse j).getLast? with
  | none => exact absurd (List.getLast?_eq_none_iff.mp hlast) hne
  | some i' =>
    simp only [List.getElem_mapIdx, List.getElem_map, List.getElem_range, foldl_stepRow_last, hlast, Option.getD_some,
      List.nil_append]

end fill

theorem map_eq_range' {β γ : Type} (l : List β) (d : β) (f : β → γ) :
    l.map f = (List.range' 0 l.length).map (fun i => f (l[i]?.getD d)) := by
  apply List.ext_getElem?
  intro i
  by_cases h : i < l.length
  · simp [h]
  · simp [h]

section matrix
variable {α : Type} [OfNat α 0]

/-- the distance matrix of `_dtw` as a function: `D[i,j] = _distance(track2[i], track1[j], dim)` -/
def Dmat (dist : Pt α → Pt α → α) (t1 t2 : List (Pt α)) (i j : Nat) : α :=
  dist (t2[i]?.getD ⟨0, 0, 0⟩) (t1[j]?.getD ⟨0, 0, 0⟩)

theorem distCols_eq (dist : Pt α → Pt α → α) (t1 t2 : List (Pt α)) :
    distCols dist t1 t2 = dcols (Dmat dist t1 t2) t1.length t2.length := by
  unfold distCols dcols Dmat
  rw [map_eq_range' t1 ⟨0, 0, 0⟩]
  congr 1
  funext j
  rw [map_eq_range' t2 ⟨0, 0, 0⟩]

variable [LinearOrder α]

theorem walkF_last (dist : Pt α → Pt α → α) (w : α → α → α) (t1 t2 : List (Pt α)) :
    (BackPath (walkF w 0 (Dmat dist t1 t2) (t1.length + t2.length) (t2.length - 1, t1.length - 1)) ∧
      (walkF w 0 (Dmat dist t1 t2) (t1.length + t2.length) (t2.length - 1, t1.length - 1)).head? = some (t2.length - 1, t1.length - 1)) ∧
    costBack w 0 (Dmat dist t1 t2) (walkF w 0 (Dmat dist t1 t2) (t1.length + t2.length) (t2.length - 1, t1.length - 1))
      = T w 0 (Dmat dist t1 t2) (t2.length - 1) (t1.length - 1) :=
  have h := walkF_spec w 0 (Dmat dist t1 t2) (t1.length + t2.length) (t2.length - 1) (t1.length - 1) (by omega)
  ⟨⟨h.1, h.2.1⟩, h.2.2⟩

theorem T_swap (dist : Pt α → Pt α → α) (hd : ∀ p q : Pt α, dist p q = dist q p) (w : α → α → α) (t1 t2 : List (Pt α)) (i j : Nat) :
    T w 0 (Dmat dist t2 t1) j i = T w 0 (Dmat dist t1 t2) i j := by
  have hD : Dmat dist t2 t1 = fun a b => Dmat dist t1 t2 b a := by
    funext a b; unfold Dmat; exact hd _ _
  rw [hD, T_transpose]

end matrix

section whole
variable {α : Type} [Sub α] [LinearOrder α] [OfNat α 0]

/-- `_dtw` on two non-empty tracks, whatever feature rows track1 carries (one per observation), is `_fillAF_dtw` of the walk through
the minimal predecessors (`walkF_last`: a coupling whose accumulated cost is the score) and of the table value at the last pair -/
theorem dtw_spec (dist : Pt α → Pt α → α) (w : α → α → α) (t1 t2 : List (Pt α))
    (h1 : 0 < t1.length) (h2 : 0 < t2.length) (rows0 : List (Row α)) (hl : rows0.length = t1.length) :
    dtwOn dist w rows0 t1 t2 = some (outOf dist t1 t2
      (walkF w 0 (Dmat dist t1 t2) (t1.length + t2.length) (t2.length - 1, t1.length - 1))
      (T w 0 (Dmat dist t1 t2) (t2.length - 1) (t1.length - 1))) := by
  obtain ⟨hS, _⟩ := walkF_last dist w t1 t2
  obtain ⟨hb, hc⟩ := backPath_in_tracks _ _ _ h1 h2 hS.1 hS.2
  unfold dtwOn
  rw [distCols_eq, dtwCore_spec w 0 _ _ _ h1 h2]
  exact fillAFOn_spec dist t1 t2 _ _ hb hc rows0 hl

end whole
end TV.DTW
