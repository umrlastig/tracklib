/-! A Python `dict` as a list in insertion order, read by `find?` on a key. First for any element type with a key function
(the records of `NODES` / `EDGES`), then for lists of pairs read by `assoc` (name ↦ column, name ↦ index): what a read returns
after the ways the models write — dropping a key (`filter`), editing the values in place (a `map` that keeps the keys),
appending, and `d[k] = v` (`dictSet`: in place for a key that is there, at the end otherwise). Core only. -/
namespace TV.Common
variable {β β' γ κ : Type} [BEq κ] [LawfulBEq κ]

section Key
variable (key : β → κ)

theorem find?_key_isSome (l : List β) (k : κ) : (l.find? (fun x => key x == k)).isSome = true ↔ k ∈ l.map key := by
  simp only [List.find?_isSome, List.mem_map, beq_iff_eq]

omit [LawfulBEq κ] in
theorem find?_key_eq_none {l : List β} {k : κ} : l.find? (fun x => key x == k) = none ↔ l.any (fun x => key x == k) = false := by
  rw [List.find?_eq_none, List.any_eq_false]

theorem find?_key_some {l : List β} {k : κ} {x : β} (h : l.find? (fun x => key x == k) = some x) : key x = k := by
  have := List.find?_some h; exact eq_of_beq this

omit [LawfulBEq κ] in
theorem find?_map_key (key' : β' → κ) (h : β → β') (hk : ∀ x, key' (h x) = key x) (l : List β) (k : κ) :
    (l.map h).find? (fun x => key' x == k) = (l.find? (fun x => key x == k)).map h := by
  rw [List.find?_map]; congr 2; funext x; exact congrArg (· == k) (hk x)

theorem find?_key_filter_ne [DecidableEq κ] (l : List β) (k k' : κ) :
    (l.filter (fun x => !(key x == k))).find? (fun x => key x == k') =
      if k' = k then none else l.find? (fun x => key x == k') := by
  rw [List.find?_filter]
  split
  · next h => subst h; exact List.find?_eq_none.mpr fun x _ => by cases key x == k' <;> simp
  · next h =>
    congr 1; funext x
    cases hx : key x == k'
    · simp
    · simpa using fun e => h ((eq_of_beq hx).symm.trans e)

theorem find?_of_nodup (l : List β) (hnd : (l.map key).Nodup) : ∀ x ∈ l, l.find? (fun y => key y == key x) = some x := by
  induction l with
  | nil => intro x hx; cases hx
  | cons a rest ih =>
    intro x hx
    rw [List.map_cons, List.nodup_cons] at hnd
    rw [List.find?_cons]
    rcases List.mem_cons.mp hx with rfl | hx
    · rw [beq_self_eq_true]
    · rw [beq_false_of_ne fun heq => hnd.1 (by rw [heq]; exact List.mem_map.mpr ⟨x, hx, rfl⟩)]
      exact ih hnd.2 x hx

/-- `d[key v] = v`: an existing key keeps its place -/
def dictSet (l : List β) (v : β) : List β :=
  if l.any (fun x => key x == key v) then l.map (fun x => if key x == key v then v else x) else l ++ [v]

theorem find?_dictSet [DecidableEq κ] (l : List β) (v : β) (k : κ) :
    (dictSet key l v).find? (fun x => key x == k) = if k = key v then some v else l.find? (fun x => key x == k) := by
  unfold dictSet
  split
  · next hany =>
    rw [find?_map_key key key _ (fun x => by split; exact (eq_of_beq ‹_›).symm; rfl)]
    cases hx : l.find? (fun x => key x == k) with
    | none =>
      rw [if_neg fun e => by subst e; rw [(find?_key_eq_none key).mp hx] at hany; cases hany]; rfl
    | some x =>
      rw [Option.map_some, find?_key_some key hx]
      by_cases h : k = key v
      · rw [if_pos h, if_pos (beq_iff_eq.mpr h)]
      · rw [if_neg h, if_neg fun e => h (eq_of_beq e)]
  · next hany =>
    rw [List.find?_append, List.find?_singleton]
    by_cases h : k = key v
    · subst h
      rw [(find?_key_eq_none key).mpr (Bool.eq_false_iff.mpr hany), beq_self_eq_true]; simp
    · rw [if_neg h, beq_false_of_ne (Ne.symm h)]; cases l.find? (fun x => key x == k) <;> rfl

end Key

def assoc (l : List (κ × β)) (k : κ) : Option β := (l.find? (fun p => p.1 == k)).map Prod.snd

theorem assoc_isSome_iff (l : List (κ × β)) (k : κ) : (assoc l k).isSome = true ↔ k ∈ l.map Prod.fst := by
  unfold assoc; rw [Option.isSome_map]; exact find?_key_isSome Prod.fst l k

theorem assoc_mem {l : List (κ × β)} {k : κ} {v : β} (h : assoc l k = some v) : (k, v) ∈ l := by
  obtain ⟨p, hp, rfl⟩ := Option.map_eq_some_iff.mp h
  rw [← find?_key_some Prod.fst hp]
  exact List.mem_of_find?_eq_some hp

theorem assoc_map (l : List (κ × β)) (g : κ → β → γ) (k : κ) :
    assoc (l.map (fun p => (p.1, g p.1 p.2))) k = (assoc l k).map (g k) := by
  unfold assoc
  rw [find?_map_key Prod.fst Prod.fst (fun p => (p.1, g p.1 p.2)) (fun _ => rfl)]
  cases hx : l.find? (fun p => p.1 == k) with
  | none => rfl
  | some p => simp only [Option.map_some, find?_key_some Prod.fst hx]

theorem assoc_filter [DecidableEq κ] (l : List (κ × β)) (k k' : κ) :
    assoc (l.filter (fun p => !(p.1 == k))) k' = if k' = k then none else assoc l k' := by
  unfold assoc; rw [find?_key_filter_ne Prod.fst]; split <;> rfl

omit [LawfulBEq κ] in
theorem assoc_append (l l' : List (κ × β)) (k : κ) : assoc (l ++ l') k = (assoc l k).or (assoc l' k) := by
  unfold assoc; rw [List.find?_append]; cases l.find? (fun p => p.1 == k) <;> rfl

theorem assoc_append_new [DecidableEq κ] (l : List (κ × β)) (k : κ) (v : β) (k' : κ) (hnew : assoc l k = none) :
    assoc (l ++ [(k, v)]) k' = if k' = k then some v else assoc l k' := by
  rw [assoc_append]
  split
  · next h => subst h; rw [hnew]; simp [assoc]
  · next h => rw [show assoc [(k, v)] k' = none by simp [assoc, Ne.symm h], Option.or_none]

theorem assoc_dictSet [DecidableEq κ] (l : List (κ × β)) (k : κ) (v : β) (k' : κ) :
    assoc (dictSet Prod.fst l (k, v)) k' = if k' = k then some v else assoc l k' := by
  unfold assoc; rw [find?_dictSet Prod.fst]; split <;> rfl

end TV.Common
