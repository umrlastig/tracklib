import TracklibVerif.Lemmas.Common.MapM
import Mathlib.Data.List.Forall2
/-! The characterisation of `Common/MapM` said with `List.Forall₂`, for the statements that speak of it. Apart, because the
lemmas of `Forall₂` are Mathlib's and `Common/MapM` is imported by files that import no Mathlib. -/
namespace TV.Common

theorem mapM_ok_iff_forall₂ {α β ε : Type} (f : α → Except ε β) (l : List α) (r : List β) :
    l.mapM f = .ok r ↔ List.Forall₂ (fun a b => f a = .ok b) l r := by
  rw [mapM_eq_ok_iff, ← List.forall₂_eq_eq_eq, List.forall₂_map_left_iff, List.forall₂_map_right_iff]

end TV.Common
