/-! `[f a for a in l]` in `Option` and in `Except`: the loop that stops at the first failure. A returning run is characterised
in each monad by `l.map f = r.map some` / `r.map .ok`, so that length, position and membership of the results are facts of
`List.map`; then where a failing run failed, and that a function given by the two equations of such a loop is `mapM`.
(`List.mapM_map`, `List.mapM_append` are in core.) Core only. -/
namespace TV.Common
variable {α β ε : Type}

theorem mapM_eq_some_iff (f : α → Option β) (l : List α) (r : List β) : l.mapM f = some r ↔ l.map f = r.map some := by
  induction l generalizing r with
  | nil => cases r <;> simp
  | cons a l ih => cases r <;> simp [List.mapM_cons, Option.bind_eq_some_iff, ih]

theorem mapM_eq_ok_iff (f : α → Except ε β) (l : List α) (r : List β) : l.mapM f = .ok r ↔ l.map f = r.map .ok := by
  induction l generalizing r with
  | nil => cases r <;> simp [pure, Except.pure]
  | cons a l ih =>
    rw [List.mapM_cons, List.map_cons]
    cases f a with
    | error e => cases r <;> simp [bind, Except.bind]
    | ok b =>
      cases hl : l.mapM f with
      | error e =>
        have hn : ∀ r : List β, l.map f ≠ r.map .ok := fun r h => by have := (ih r).mpr h; rw [hl] at this; cases this
        cases r <;> simp [bind, Except.bind, hn]
      | ok bs => cases r <;> simp [bind, Except.bind, pure, Except.pure, ← ih, hl]

theorem mapM_some_of_forall {f : α → Option β} {g : α → β} {l : List α} (h : ∀ a ∈ l, f a = some (g a)) :
    l.mapM f = some (l.map g) :=
  (mapM_eq_some_iff ..).mpr (by rw [List.map_map]; exact List.map_congr_left h)

theorem mapM_ok_of_forall {f : α → Except ε β} {g : α → β} {l : List α} (h : ∀ a ∈ l, f a = .ok (g a)) :
    l.mapM f = .ok (l.map g) :=
  (mapM_eq_ok_iff ..).mpr (by rw [List.map_map]; exact List.map_congr_left h)

theorem mapM_map_ok_of_forall {γ : Type} {h : γ → α} {f : α → Except ε β} {g : γ → β} {l : List γ}
    (H : ∀ c ∈ l, f (h c) = .ok (g c)) : (l.map h).mapM f = .ok (l.map g) := by
  rw [List.mapM_map]; exact mapM_ok_of_forall H

theorem mapM_map_some_of_forall {γ : Type} {h : γ → α} {f : α → Option β} {g : γ → β} {l : List γ}
    (H : ∀ c ∈ l, f (h c) = some (g c)) : (l.map h).mapM f = some (l.map g) := by
  rw [List.mapM_map]; exact mapM_some_of_forall H

theorem mapM_isSome_iff (f : α → Option β) (l : List α) : (l.mapM f).isSome = true ↔ ∀ a ∈ l, (f a).isSome = true := by
  induction l with
  | nil => simp
  | cons a l ih => rw [List.mapM_cons, List.forall_mem_cons, ← ih]; cases f a <;> cases l.mapM f <;> simp

theorem mapM_ok_getElem? {f : α → Except ε β} {l : List α} {r : List β} (h : l.mapM f = .ok r) :
    r.length = l.length ∧ ∀ (k : Nat) a, l[k]? = some a → ∃ b, r[k]? = some b ∧ f a = .ok b := by
  have h := (mapM_eq_ok_iff ..).mp h
  refine ⟨by simpa using (congrArg List.length h).symm, fun k a ha => ?_⟩
  have hk := congrArg (·[k]?) h
  simp only [List.getElem?_map, ha, Option.map_some] at hk
  cases hr : r[k]? with
  | none => rw [hr] at hk; cases hk
  | some b => rw [hr] at hk; exact ⟨b, rfl, by simpa using hk⟩

theorem mapM_ok_mem {f : α → Except ε β} {l : List α} {r : List β} (h : l.mapM f = .ok r) :
    (∀ a ∈ l, ∃ b, f a = .ok b) ∧ ∀ b, b ∈ r ↔ ∃ a ∈ l, f a = .ok b := by
  have h := (mapM_eq_ok_iff ..).mp h
  have mem : ∀ x, x ∈ l.map f ↔ x ∈ r.map .ok := fun x => by rw [h]
  simp only [List.mem_map] at mem
  exact ⟨fun a ha => (((mem _).mp ⟨a, ha, rfl⟩).imp fun _ hb => hb.2.symm),
    fun b => ⟨fun hb => (mem _).mpr ⟨b, hb, rfl⟩, fun ha => by obtain ⟨b', hb', e⟩ := (mem _).mp ha; cases e; exact hb'⟩⟩

theorem mapM_ok_of_each {f : α → Except ε β} {l : List α} (h : ∀ a ∈ l, ∃ b, f a = .ok b) : ∃ r, l.mapM f = .ok r := by
  induction l with
  | nil => exact ⟨[], rfl⟩
  | cons a l ih =>
    obtain ⟨b, hb⟩ := h a List.mem_cons_self
    obtain ⟨bs, hbs⟩ := ih fun a' ha' => h a' (List.mem_cons_of_mem _ ha')
    exact ⟨b :: bs, by rw [List.mapM_cons, hb, hbs]; rfl⟩

theorem mapM_error_mem {f : α → Except ε β} {l : List α} {e : ε} (h : l.mapM f = .error e) : ∃ a ∈ l, f a = .error e := by
  induction l with
  | nil => cases h
  | cons a l ih =>
    rw [List.mapM_cons] at h
    cases ha : f a with
    | error e1 => rw [ha] at h; cases h; exact ⟨a, List.mem_cons_self, ha⟩
    | ok b =>
      rw [ha] at h
      cases hl : l.mapM f with
      | error e1 =>
        rw [hl] at h; cases h
        obtain ⟨a', ha', hf⟩ := ih hl
        exact ⟨a', List.mem_cons_of_mem _ ha', hf⟩
      | ok bs => rw [hl] at h; cases h

theorem eq_mapM {f : α → Except ε β} {F : List α → Except ε (List β)} (h0 : F [] = .ok [])
    (hc : ∀ a l, F (a :: l) =
      match f a with
      | .error e => .error e
      | .ok b => match F l with
        | .error e => .error e
        | .ok bs => .ok (b :: bs)) : ∀ l, F l = l.mapM f := by
  intro l
  induction l with
  | nil => exact h0
  | cons a l ih =>
    rw [hc, ih, List.mapM_cons]
    cases f a with
    | error e => rfl
    | ok b => cases l.mapM f <;> rfl

end TV.Common
