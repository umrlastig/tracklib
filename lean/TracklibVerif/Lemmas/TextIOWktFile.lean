import TracklibVerif.Lemmas.TextIONet
/-! A csv file with a WKT column (core only): the lines a user writes with `sep.join([uid, tid, '"' + track.toWKT() + '"'])`
read back by `TrackReader.readFromWkt` (`csv.reader` with either value of `doublequote`, header count, blank lines skipped). -/
namespace TV.TextIO

theorem wktCols_eq (uid tid w : Str) : wktCols 2 0 1 uid tid w = [uid, tid, w] := by
  simp [wktCols, List.range_succ]

theorem wktFileLine_eq (sep : Char) (d : Nat) (t : Str × Str × List Pt) :
    wktFileLine sep true 2 0 1 d t = joinChar sep ([t.1, t.2.1] ++ ['"' :: toWKT d t.2.2 ++ ['"']]) := by
  simp [wktFileLine, wktCols_eq]

/-- the track `readFromWkt` returns for a line -/
def expWTrack (d : Nat) (t : Str × Str × List Pt) : WTrack := ⟨some t.1, some t.2.1, t.2.2.map (expVertex d)⟩

/-- what is required of a track: ids that can be written bare, at least one vertex -/
def WTrackOK (sep : Char) (t : Str × Str × List Pt) : Prop := IdOK sep t.1 ∧ IdOK sep t.2.1 ∧ t.2.2 ≠ []

theorem wktIds_ok (sep : Char) (t : Str × Str × List Pt) (ht : WTrackOK sep t) : ∀ s ∈ [t.1, t.2.1], IdOK sep s := by
  intro s hm
  simp only [List.mem_cons, List.not_mem_nil, or_false] at hm
  rcases hm with rfl | rfl
  · exact ht.1
  · exact ht.2.1

theorem wktLine_clean (sep : Char) (hs : sep ≠ '\n' ∧ sep ≠ '\r') (d : Nat) (t : Str × Str × List Pt) (ht : WTrackOK sep t) :
    ∀ c ∈ wktFileLine sep true 2 0 1 d t, c ≠ '\n' ∧ c ≠ '\r' := by
  rw [wktFileLine_eq]
  exact quotedLine_clean sep hs _ (wktIds_ok sep t ht) _
    ⟨(toWKT_over d t.2.2).not_mem (by decide),
     (toWKT_over d t.2.2).not_mem (by decide)⟩

theorem csvRecordQ_wktLine (dq : Bool) (sep : Char) (hsep : sep ≠ '"') (hs : sep ≠ '\n' ∧ sep ≠ '\r') (d : Nat)
    (t : Str × Str × List Pt) (ht : WTrackOK sep t) :
    csvRecordQ dq sep ((wktFileLine sep true 2 0 1 d t).filter (fun c => c ≠ '\n' ∧ c ≠ '\r')) = [t.1, t.2.1, toWKT d t.2.2] := by
  rw [filter_eol _ (wktLine_clean sep hs d t ht), wktFileLine_eq]
  exact csvRecordQ_join dq sep hsep _ (wktIds_ok sep t ht) _
    ((toWKT_over d t.2.2).not_mem (by decide))

theorem wktReadRow_record (dq : Bool) (sep : Char) (hdr d : Nat) (t : Str × Str × List Pt) (hne : t.2.2 ≠ []) :
    wktReadRow ⟨2, 0, 1, sep, hdr, dq⟩ [t.1, t.2.1, toWKT d t.2.2] = .ok (expWTrack d t) := by
  unfold wktReadRow
  have h0 : ((0 : Int) ≥ 0) := by decide
  have h1 : ((1 : Int) ≥ 0) := by decide
  simp only [nth, List.getElem?_cons_succ, List.getElem?_cons_zero, wkt_roundtrip d t.2.2 hne, h0, h1, ↓reduceIte,
    Int.toNat_zero, Int.toNat_one, bind, Except.bind, pure, Except.pure]
  rfl

theorem records_blank {α : Type} (g : Str → List Str) (hg : g [] = []) (L : α → Str) (blank : Bool) (ts : List α)
    (hL : ∀ t ∈ ts, g (L t) ≠ []) :
    (((ts.map (fun t => [L t] ++ (if blank then [[]] else []))).flatten.map g).filter (fun r => !r.isEmpty)) = ts.map (fun t => g (L t)) := by
  induction ts with
  | nil => rfl
  | cons t r ih =>
    have hne : (g (L t)).isEmpty = false := List.isEmpty_eq_false_iff.2 (hL t (by simp))
    have := ih (fun x hx => hL x (by simp [hx]))
    cases blank <;> simp_all

/-- the reader skips `header` first lines whatever they hold, and the empty lines between the tracks -/
theorem readWktFile_written (dq : Bool) (sep : Char) (hsep : sep ≠ '"') (hs : sep ≠ '\n' ∧ sep ≠ '\r') (blank : Bool) (d : Nat)
    (tracks : List (Str × Str × List Pt)) (hok : ∀ t ∈ tracks, WTrackOK sep t) (pre : List Str) (hpre : ∀ l ∈ pre, '\n' ∉ l) :
    readWktFile ⟨2, 0, 1, sep, pre.length, dq⟩
        (((pre ++ (tracks.map (fun t => [wktFileLine sep true 2 0 1 d t] ++ (if blank then [[]] else []))).flatten).map
          (· ++ ['\n'])).flatten)
      = .ok (tracks.map (expWTrack d)) := by
  unfold readWktFile
  have hls : ∀ l ∈ (tracks.map (fun t => [wktFileLine sep true 2 0 1 d t] ++ (if blank then [[]] else []))).flatten, '\n' ∉ l := by
    intro l hl
    obtain ⟨ls, hls', hl⟩ := List.mem_flatten.1 hl
    obtain ⟨t, ht, rfl⟩ := List.mem_map.1 hls'
    rcases List.mem_append.1 hl with hl | hl
    · simp only [List.mem_singleton] at hl; subst hl
      exact fun hc => (wktLine_clean sep hs d t (hok t ht) _ hc).1 rfl
    · split at hl
      · simp only [List.mem_singleton] at hl; subst hl; simp
      · simp at hl
  rw [fileLines_flatten _ (fun l hl => (List.mem_append.1 hl).elim (hpre l) (hls l))]
  generalize hg : (fun l : Str => csvRecordQ dq sep (l.filter (fun c => c ≠ '\n' ∧ c ≠ '\r'))) = g
  have hrec : ∀ t ∈ tracks, g (wktFileLine sep true 2 0 1 d t) = [t.1, t.2.1, toWKT d t.2.2] :=
    fun t ht => hg ▸ csvRecordQ_wktLine dq sep hsep hs d t (hok t ht)
  rw [List.map_append, if_neg (by rw [List.length_append, List.length_map]; exact Nat.not_lt.2 (Nat.le_add_right _ _)), List.drop_left' (List.length_map _),
    records_blank g (by rw [← hg]; rfl) _ blank tracks (fun t ht => by rw [hrec t ht]; simp)]
  exact Common.mapM_map_ok_of_forall (fun t ht => by
    rw [hrec t ht]
    exact wktReadRow_record dq sep _ d t (hok t ht).2.2)

/-- **WKT file**: the file of the tracks of a collection — one line `uid sep tid sep "LINESTRING(…)"` per track, an optional
header line, optionally an empty line after each track — is read back by `readFromWkt(path, 2, 0, 1, sep, h, doublequote)` as
the same tracks in order: user id, track id, and every vertex with the planimetric coordinates written -/
theorem wkt_file_roundtrip (dq : Bool) (sep : Char) (hsep : sep ≠ '"') (hs : sep ≠ '\n' ∧ sep ≠ '\r') (hdr blank : Bool) (d : Nat)
    (tracks : List (Str × Str × List Pt)) (hok : ∀ t ∈ tracks, WTrackOK sep t) :
    readWktFile ⟨2, 0, 1, sep, if hdr then 1 else 0, dq⟩ (wktFile sep hdr true blank 2 0 1 d tracks)
      = .ok (tracks.map (expWTrack d)) := by
  have hhdr : '\n' ∉ joinChar sep (wktCols 2 0 1 "user".toList "track".toList "wkt".toList) := by
    rw [wktCols_eq]
    refine not_mem_joinChar (Ne.symm hs.1) ?_
    repeat rw [String.toList_ofList]
    decide
  unfold wktFile
  cases hdr
  · exact readWktFile_written dq sep hsep hs blank d tracks hok [] (fun _ hl => absurd hl List.not_mem_nil)
  · exact readWktFile_written dq sep hsep hs blank d tracks hok [_] (fun l hl => List.mem_singleton.1 hl ▸ hhdr)

end TV.TextIO
