import TracklibVerif.Lemmas.CinTabHoare
import TracklibVerif.Lemmas.FeaturesFrame
/-! The specification table `Features.ATab` (name ↦ column) satisfies the laws of a feature table. -/
namespace TV.CinTab
open TV.Features

variable {V : Type}

def aI (a : ATab V) : Prop :=
  (∀ p ∈ a.cols, p.2.length = a.size) ∧ a.ys.length = a.size ∧ a.zs.length = a.size ∧ a.ts.length = a.size

def aRd (a : ATab V) (name : String) : Option (List V) := if reserved name then none else lookup a.cols name

theorem aRd_nr (a : ATab V) {name : String} (hr : reserved name = false) : aRd a name = lookup a.cols name := by
  simp [aRd, hr]

theorem cols_law {a : ATab V} (h : aI a) {cols' : List (String × List V)} (hc : ∀ p ∈ cols', p.2.length = a.size)
    {name : String} (hr : reserved name = false) {R : Option (List V)}
    (hlk : ∀ m, lookup cols' m = if m = name then R else lookup a.cols m) :
    aI { a with cols := cols' } ∧ aRd { a with cols := cols' } name = R ∧ ATab.size { a with cols := cols' } = a.size
      ∧ (∀ m, m ≠ name → aRd { a with cols := cols' } m = aRd a m) ∧ ATab.coord { a with cols := cols' } = a.coord := by
  refine ⟨⟨hc, h.2.1, h.2.2.1, h.2.2.2⟩, ?_, rfl, fun m hm => ?_, rfl⟩
  · rw [aRd_nr _ hr]
    exact (hlk name).trans (if_pos rfl)
  · show (if reserved m = true then none else lookup cols' m) = _
    rw [hlk m, if_neg hm]
    rfl

theorem laws_ATab [Inhabited V] : Laws (σ := ATab V) (V := V) aI ATab.size aRd ATab.coord where
  size := fun _ => rfl
  has := by
    intro a name _ hr
    show (Except.ok (hasA a name), a) = _
    simp [hasA, hr, aRd]
  co_len := by
    intro a c h
    cases c with
    | x => rfl
    | y => exact h.2.1
    | z => exact h.2.2.1
    | t => exact h.2.2.2
  rd_len := by
    intro a name col h hrd
    by_cases hr : reserved name = true
    · simp [aRd, hr] at hrd
    · rw [aRd_nr a (by simpa using hr)] at hrd
      obtain ⟨p, hp, rfl⟩ := lookup_mem _ _ _ hrd
      exact h.1 p hp
  getObs_coord := by
    intro o a c i v _ hv
    show getObsA o (cnm c) i a = _
    unfold getObsA
    simp only [coord?_cnm, hv]
  getObs_feat := by
    intro o a name col i v _ hr hrd hv
    rw [aRd_nr a hr] at hrd
    obtain ⟨h1, h2, h3⟩ := coord?_of_not_reserved hr
    show getObsA o name i a = _
    unfold getObsA
    simp only [h1, h2, h3, Bool.false_eq_true, if_false, hrd, hv]
  get_feat := by
    intro o a name col _ hr hrd
    rw [aRd_nr a hr] at hrd
    obtain ⟨h1, h2, h3⟩ := coord?_of_not_reserved hr
    show getA o name a = _
    unfold getA
    simp only [h1, h2, h3, Bool.false_eq_true, if_false, hrd]
  create_new := by
    intro a name v h hr hrd hn
    rw [aRd_nr a hr] at hrd
    refine ⟨_, List.replicate a.size v, createA_new a name (.scalar v) hr (by omega) hrd trivial,
      cols_law h (fun p hp => ?_) hr (fun m => lookup_append_new _ _ m _ hrd)⟩
    rcases List.mem_append.mp hp with hp | hp
    · exact h.1 p hp
    · rw [List.mem_singleton.mp hp]
      exact List.length_replicate
  create_old := by
    intro a name v col _ hr hrd hn
    rw [aRd_nr a hr] at hrd
    exact createA_existing a name (.scalar v) hr (by omega) (by rw [hrd]; rfl)
  setObs := by
    intro a name col i v h hr hrd hi
    rw [aRd_nr a hr] at hrd
    have hlen : col.length = a.size := by
      obtain ⟨p, hp, rfl⟩ := lookup_mem _ _ _ hrd
      exact h.1 p hp
    refine ⟨_, setObsA_ok a name i v col hr hrd (by omega),
      cols_law h (fun p hp => ?_) hr (fun m => by rw [lookup_replaceCol, hrd]; rfl)⟩
    obtain ⟨q, hq, rfl⟩ := List.mem_map.mp hp
    by_cases hqn : (q.1 == name) = true
    · simp [hqn, hlen]
    · simp [hqn]; exact h.1 q hq
  remove := by
    intro a name col h hr hrd
    rw [aRd_nr a hr] at hrd
    exact ⟨_, removeA_ok a name (by rw [hrd]; rfl),
      cols_law h (fun p hp => h.1 p (List.mem_filter.mp hp).1) hr (fun m => Common.assoc_filter a.cols name m)⟩

end TV.CinTab
