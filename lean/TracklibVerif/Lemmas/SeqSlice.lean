import TracklibVerif.Model.SeqOps
import TracklibVerif.Lemmas.Seq
/-! Helper lemmas for C04: Python slices `L[a:b:c]` (`sliceBounds`, `sliceLen`, `pySlice` of `Model/SeqOps.lean`), for a
positive and for a negative step. Core Lean only.

`sliceBounds` clamps each given bound with `sliceAdj` (between `0` and `len` for a positive step, between `-1` and
`len - 1` for a negative one); `pySlice_entries` reads off the entries of any slice; the two directions are then
`stepAux` of a segment (`pySlice_pos`) or of a reversed segment (`pySlice_neg`). -/
namespace TV.Seq
variable {α : Type}

theorem sliceBounds_eq (len : Nat) (a b : Option Int) (st : Int) :
    sliceBounds len a b st =
      if st < 0 then (a.elim ((len : Int) - 1) (sliceAdj len (-1) (len - 1)), b.elim (-1) (sliceAdj len (-1) (len - 1)))
      else (a.elim 0 (sliceAdj len 0 len), b.elim (len : Int) (sliceAdj len 0 len)) := by
  by_cases h : st < 0 <;> simp only [sliceBounds, h, if_true, if_false] <;> cases a <;> cases b <;> rfl

theorem sliceAdj_neg_step (n v : Int) (hn : 0 ≤ n) :
    -1 ≤ sliceAdj n (-1) (n - 1) v ∧ sliceAdj n (-1) (n - 1) v ≤ n - 1 ∧
    (0 ≤ v → sliceAdj n (-1) (n - 1) v = min v (n - 1)) ∧ (v < 0 → sliceAdj n (-1) (n - 1) v = max (v + n) (-1)) := by
  rcases Int.lt_or_le v 0 with h | h
  · rw [sliceAdj_of_neg h]; omega
  · rw [sliceAdj_of_nonneg h]; omega

theorem sliceLen_pos (s e d : Int) (hd : 0 < d) (k : Nat) : k < sliceLen s e d ↔ s + k * d < e := by
  unfold sliceLen
  rw [if_pos hd]
  have hnn : 0 ≤ (k : Int) * d := Int.mul_nonneg (by omega) (by omega)
  by_cases hse : s < e
  · rw [if_pos hse]
    have hq : 0 ≤ (e - s - 1) / d := Int.ediv_nonneg (by omega) (by omega)
    have h1 : k < ((e - s - 1) / d + 1).toNat ↔ (k : Int) ≤ (e - s - 1) / d := by omega
    rw [h1, Int.le_ediv_iff_mul_le hd]; omega
  · rw [if_neg hse]; omega

theorem sliceLen_neg (s e d : Int) (hd : 0 < d) (k : Nat) : k < sliceLen s e (-d) ↔ e < s - k * d := by
  have : sliceLen s e (-d) = sliceLen e s d := by
    unfold sliceLen; rw [if_neg (by omega), if_pos hd, Int.neg_neg]
  rw [this, sliceLen_pos e s d hd]; omega

theorem pySlice_eq_none_iff (l : List α) (a b c : Option Int) : pySlice l a b c = none ↔ c = some 0 := by
  have hc : c = some 0 ↔ c.getD 1 = 0 := by cases c <;> simp
  rw [hc]
  fun_cases pySlice l a b c
  case case1 st h => exact iff_of_true rfl h
  case case2 st h _ _ _ => exact iff_of_false nofun h

theorem pySlice_entries (l : List α) (a b : Option Int) (st s e : Int) (h0 : st ≠ 0)
    (hb : sliceBounds l.length a b st = (s, e)) (hin : ∀ k : Nat, k < sliceLen s e st → (s + k * st).toNat < l.length)
    (r : List α) (hr : ∀ i : Nat, r[i]? = if i < sliceLen s e st then l[(s + i * st).toNat]? else none) :
    pySlice l a b (some st) = some r := by
  simp only [pySlice, Option.getD_some, h0, if_false, hb]
  refine congrArg some (List.ext_getElem? fun i => ?_)
  rw [hr i]
  exact filterMap_range_all _ _ (fun k hk => by rw [List.getElem?_eq_getElem (hin k hk)]; rfl) i

theorem sliceBounds_pos (len : Nat) (a b : Option Int) (st : Int) (hst : 0 < st) :
    ∃ s e : Nat, sliceBounds len a b st = ((s : Int), (e : Int)) ∧ s ≤ len ∧ e ≤ len ∧
      (∀ x : Nat, a = some (x : Int) → s = min x len) ∧ (a = none → s = 0) ∧
      (∀ x : Nat, b = some (x : Int) → e = min x len) ∧ (b = none → e = len) := by
  have adj : ∀ (o : Option Int) (d : Nat), d ≤ len → ∃ r : Nat, o.elim (d : Int) (sliceAdj len 0 len) = r ∧ r ≤ len ∧
      (∀ x : Nat, o = some (x : Int) → r = min x len) ∧ (o = none → r = d) := by
    intro o d hd
    cases o with
    | none => exact ⟨d, rfl, hd, nofun, fun _ => rfl⟩
    | some v =>
      obtain ⟨h1, h2, h3⟩ := sliceAdj_pos_step len v
      exact ⟨_, (Int.toNat_of_nonneg h1).symm, by omega, fun x hx => by cases hx; exact h3 (by omega), nofun⟩
  obtain ⟨s, hs, hs1, hs2, hs3⟩ := adj a 0 (by omega)
  obtain ⟨e, he, he1, he2, he3⟩ := adj b len (by omega)
  exact ⟨s, e, by rw [sliceBounds_eq, if_neg (by omega), ← hs, ← he]; rfl, hs1, he1, hs2, hs3, he2, he3⟩

theorem sliceBounds_neg (len : Nat) (a b : Option Int) (st : Int) (hst : st < 0) :
    ∃ s e : Int, sliceBounds len a b st = (s, e) ∧ -1 ≤ s ∧ s ≤ (len : Int) - 1 ∧ -1 ≤ e ∧ e ≤ (len : Int) - 1 ∧
      (a = none → s = (len : Int) - 1) ∧ (∀ x : Int, a = some x → 0 ≤ x → s = min x ((len : Int) - 1)) ∧
      (∀ x : Int, a = some x → x < 0 → s = max (x + (len : Int)) (-1)) ∧
      (b = none → e = -1) ∧ (∀ x : Int, b = some x → 0 ≤ x → e = min x ((len : Int) - 1)) ∧
      (∀ x : Int, b = some x → x < 0 → e = max (x + (len : Int)) (-1)) := by
  have adj : ∀ (o : Option Int) (d : Int), -1 ≤ d → d ≤ (len : Int) - 1 →
      ∃ r : Int, o.elim d (sliceAdj len (-1) (len - 1)) = r ∧ -1 ≤ r ∧ r ≤ (len : Int) - 1 ∧ (o = none → r = d) ∧
        (∀ x : Int, o = some x → 0 ≤ x → r = min x ((len : Int) - 1)) ∧
        (∀ x : Int, o = some x → x < 0 → r = max (x + (len : Int)) (-1)) := by
    intro o d h1 h2
    cases o with
    | none => exact ⟨d, rfl, h1, h2, fun _ => rfl, nofun, nofun⟩
    | some v =>
      obtain ⟨g1, g2, g3, g4⟩ := sliceAdj_neg_step len v (by omega)
      exact ⟨_, rfl, g1, g2, nofun, fun x hx => by cases hx; exact g3, fun x hx => by cases hx; exact g4⟩
  obtain ⟨s, hs, s1, s2, s3, s4, s5⟩ := adj a ((len : Int) - 1) (by omega) (by omega)
  obtain ⟨e, he, e1, e2, e3, e4, e5⟩ := adj b (-1) (by omega) (by omega)
  exact ⟨s, e, by rw [sliceBounds_eq, if_pos hst, hs, he], s1, s2, e1, e2, s3, s4, s5, e3, e4, e5⟩

theorem pySlice_pos (l : List α) (a b : Option Int) (st s e : Nat) (hst : 1 ≤ st)
    (hb : sliceBounds l.length a b (st : Int) = ((s : Int), (e : Int))) (he : e ≤ l.length) :
    pySlice l a b (some (st : Int)) = some (stepAux st 0 ((l.take e).drop s)) := by
  have hidx : ∀ k : Nat, ((s : Int) + (k : Int) * (st : Int)).toNat = s + k * st := fun k => by
    rw [← Int.natCast_mul, ← Int.natCast_add, Int.toNat_natCast]
  have hlen : ∀ k : Nat, k < sliceLen s e st ↔ s + k * st < e := fun k => by
    rw [sliceLen_pos s e st (by omega), ← Int.natCast_mul, ← Int.natCast_add, Int.ofNat_lt]
  refine pySlice_entries l a b st s e (by omega) hb (fun k hk => by rw [hidx]; have := (hlen k).mp hk; omega) _ fun k => ?_
  rw [hidx, stepAux_getElem? st hst, List.getElem?_drop, List.getElem?_take, Nat.zero_add]
  simp only [hlen k]


theorem stepAux_reverse_getElem? (l : List α) (d : Nat) (hd : 1 ≤ d) (e s : Nat) (hs : s ≤ l.length) (i : Nat) :
    (stepAux d 0 ((l.take s).drop e).reverse)[i]? = if e + i * d < s then l[s - 1 - i * d]? else none := by
  have hlen : ((l.take s).drop e).length = s - e := by rw [List.length_drop, List.length_take]; omega
  rw [stepAux_getElem? d hd, Nat.zero_add]
  by_cases h : e + i * d < s
  · rw [if_pos h, List.getElem?_reverse (by omega), List.getElem?_drop, List.getElem?_take, hlen, if_pos (by omega)]
    congr 1; omega
  · rw [if_neg h, List.getElem?_eq_none (by rw [List.length_reverse, hlen]; omega)]

theorem pySlice_neg (l : List α) (a b : Option Int) (d : Nat) (hd : 1 ≤ d) (s e : Int)
    (hb : sliceBounds l.length a b (-(d : Int)) = (s, e)) (hs : s ≤ (l.length : Int) - 1) (he : -1 ≤ e) :
    pySlice l a b (some (-(d : Int))) = some (stepAux d 0 ((l.take (s + 1).toNat).drop (e + 1).toNat).reverse) ∧
    ∀ i : Nat, (stepAux d 0 ((l.take (s + 1).toNat).drop (e + 1).toNat).reverse)[i]? =
      if e < s - (i : Int) * (d : Int) then l[(s - (i : Int) * (d : Int)).toNat]? else none := by
  have hidx : ∀ k : Nat, s + (k : Int) * -(d : Int) = s - ((k * d : Nat) : Int) := fun k => by
    rw [Int.mul_neg, Int.natCast_mul]; omega
  have hlen : ∀ k : Nat, k < sliceLen s e (-(d : Int)) ↔ e < s - ((k * d : Nat) : Int) := fun k => by
    rw [sliceLen_neg s e d (by omega), Int.natCast_mul]
  have hrev : ∀ i : Nat, (stepAux d 0 ((l.take (s + 1).toNat).drop (e + 1).toNat).reverse)[i]? =
      if e < s - ((i * d : Nat) : Int) then l[(s - ((i * d : Nat) : Int)).toNat]? else none := fun i => by
    rw [stepAux_reverse_getElem? l d hd _ _ (by omega)]
    by_cases h : e < s - ((i * d : Nat) : Int)
    · rw [if_pos h, if_pos (by omega)]; congr 1; omega
    · rw [if_neg h, if_neg (by omega)]
  refine ⟨pySlice_entries l a b (-(d : Int)) s e (by omega) hb
    (fun k hk => by rw [hidx]; have := (hlen k).mp hk; omega) _ fun k => ?_, fun i => by rw [hrev i, Int.natCast_mul]⟩
  rw [hrev k, hidx]
  simp only [hlen k]

theorem pySlice_all_pos (l : List α) (c : Nat) (hc : 1 ≤ c) :
    pySlice l none none (some (c : Int)) = some (stepAux c 0 l) := by
  have hb : sliceBounds l.length none none (c : Int) = (((0 : Nat) : Int), (l.length : Int)) := by
    rw [sliceBounds_eq, if_neg (by omega)]; rfl
  rw [pySlice_pos l none none c 0 l.length hc hb (Nat.le_refl _), List.take_length, List.drop_zero]

theorem pySlice_all_neg (l : List α) (d : Nat) (hd : 1 ≤ d) :
    pySlice l none none (some (-(d : Int))) = some (stepAux d 0 l.reverse) := by
  have hb : sliceBounds l.length none none (-(d : Int)) = ((l.length : Int) - 1, -1) := by
    rw [sliceBounds_eq, if_pos (by omega)]; rfl
  have hp := (pySlice_neg l none none d hd _ _ hb (Int.le_refl _) (Int.le_refl _)).1
  rwa [show ((l.length : Int) - 1 + 1).toNat = l.length by omega, show ((-1 : Int) + 1).toNat = 0 from rfl,
    List.take_length, List.drop_zero] at hp

/-- `L[::n]` written out (`pyStep`, the model of `track % n`) is the slice with both bounds absent, for EVERY `n` -/
theorem pyStep_eq_pySlice (l : List α) (n : Int) : pyStep l n = pySlice l none none (some n) := by
  unfold pyStep
  rcases Int.lt_trichotomy n 0 with h | rfl | h
  · obtain ⟨d, rfl⟩ : ∃ d : Nat, n = -(d : Int) := ⟨(-n).toNat, by omega⟩
    rw [if_neg (by omega), if_neg (by omega), Int.neg_neg, Int.toNat_natCast, pySlice_all_neg l d (by omega)]
  · exact ((pySlice_eq_none_iff l none none _).mpr rfl).symm
  · obtain ⟨c, rfl⟩ := Int.eq_ofNat_of_zero_le (Int.le_of_lt h)
    rw [if_neg (by omega), if_pos h, Int.toNat_natCast, pySlice_all_pos l c (by omega)]

theorem decimateStep_eq_getitemSlice (tr : Track) (n : Int) :
    decimateStep tr n = getitemSlice tr none none (some n) := by
  rw [decimateStep, pyStep_eq_pySlice]; rfl

end TV.Seq
