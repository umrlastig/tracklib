import TracklibVerif.Model.Simplify
/-! Lemmas about the simplification model that need **no** property of the scalar type (one lemma apart:
`dpFuel_mem_all` assumes `ReflBEq`): they hold for every instantiation of the operations, the driver's `Float` included.

Douglas–Peucker: `DpTree` is the shape every run has (leave a piece, collapse it to its chord, cut it anywhere and concatenate);
what the property says about observations is proved on that shape, once, for any element type; that a run has it, like every other
fact about one of the model's recursions, is proved along that recursion. Visvalingam: `Operator.ARGMIN`, `setAire`, the initial column. -/
namespace TV.Simplify

/-- `out` is made from `L` by the moves of the recursion: `L` left as it is; `L` (three or more elements) replaced by its two ends when
the chord test `C first last L` accepts; `L` cut at **any** index and the results for the two pieces concatenated -/
inductive DpTree {β : Type} (C : β → β → List β → Prop) : List β → List β → Prop
  | leaf (L : List β) : DpTree C L L
  | chord (L : List β) (a b : β) : L.head? = some a → L.getLast? = some b → 3 ≤ L.length → C a b L → DpTree C L [a, b]
  | split (L : List β) (i : Nat) {o1 o2 : List β} : DpTree C (L.take i) o1 → DpTree C (L.drop i) o2 → DpTree C L (o1 ++ o2)

theorem mem_pair {β : Type} (p : β) (out : List β) (hp : p ∈ out) (h2 : 2 ≤ out.length) :
    ∃ q, [p, q] <:+: out ∨ [q, p] <:+: out := by
  obtain ⟨s, t, rfl⟩ := List.append_of_mem hp
  cases t with
  | cons q t' => exact ⟨q, Or.inl ⟨s, t', by simp⟩⟩
  | nil =>
    rcases List.eq_nil_or_concat s with rfl | ⟨s', q, rfl⟩
    · simp at h2
    · exact ⟨q, Or.inr ⟨s', [], by simp⟩⟩

theorem three_of_len {β : Type} (L : List β) (h : ¬ L.length ≤ 2) : ∃ a p q rest, L = a :: p :: q :: rest := by
  match L, h with
  | [], h => simp at h
  | [_], h => simp at h
  | [_, _], h => simp at h
  | a :: p :: q :: rest, _ => exact ⟨a, p, q, rest, rfl⟩

theorem getLast?_cons_cons_cons {β : Type} (a p q : β) (rest : List β) :
    (a :: p :: q :: rest).getLast? = some ((q :: rest).getLast (List.cons_ne_nil _ _)) := by
  rw [List.getLast?_cons_cons, List.getLast?_cons_cons, List.getLast?_eq_some_getLast]

namespace DpTree
variable {β : Type} {C : β → β → List β → Prop} {L out : List β}

theorem sublist (h : DpTree C L out) : out.Sublist L := by
  induction h with
  | leaf L => exact List.Sublist.refl _
  | chord L a b ha hb h3 _ =>
    obtain ⟨x, p, q, rest, rfl⟩ := three_of_len L (by omega)
    cases ha
    rw [List.getLast?_cons_cons] at hb
    exact List.Sublist.cons_cons _ (List.singleton_sublist.mpr (List.mem_of_getLast? hb))
  | split L i _ _ h1 h2 => simpa only [List.take_append_drop] using List.Sublist.append h1 h2

theorem ends (h : DpTree C L out) : out.head? = L.head? ∧ out.getLast? = L.getLast? := by
  induction h with
  | leaf L => exact ⟨rfl, rfl⟩
  | chord L a b ha hb _ _ => exact ⟨ha.symm, hb.symm⟩
  | split L i _ _ h1 h2 =>
    constructor
    · rw [List.head?_append, h1.1, h2.1, ← List.head?_append, List.take_append_drop]
    · rw [List.getLast?_append, h1.2, h2.2, ← List.getLast?_append, List.take_append_drop]

theorem length (h : DpTree C L out) : min L.length 2 ≤ out.length := by
  induction h with
  | leaf L => exact Nat.min_le_left _ _
  | chord L a b _ _ _ _ => exact Nat.min_le_right _ _
  | split L i _ _ h1 h2 =>
    rw [← List.take_append_drop i L, List.length_append, List.length_append]
    omega

theorem two_le (h : DpTree C L out) (h2 : 2 ≤ L.length) : 2 ≤ out.length :=
  Nat.le_trans (Nat.le_min.mpr ⟨h2, Nat.le_refl 2⟩) h.length

/-- if the chord test vouches (`W p a b`) for every element of a piece it collapses, every element of the input is either kept or
vouched for with respect to two **consecutive** elements of the output -/
theorem cover {W : β → β → β → Prop} (hC : ∀ a b L, C a b L → ∀ p ∈ L, W p a b) (h : DpTree C L out) :
    ∀ p ∈ L, p ∈ out ∨ ∃ a b, [a, b] <:+: out ∧ W p a b := by
  induction h with
  | leaf L => exact fun p hp => Or.inl hp
  | chord L a b _ _ _ hc => exact fun x hx => Or.inr ⟨a, b, List.infix_refl _, hC _ _ _ hc x hx⟩
  | @split L i o1 o2 _ _ h1 h2 =>
    intro x hx
    rw [← List.take_append_drop i L] at hx
    rcases List.mem_append.mp hx with hx | hx
    · rcases h1 x hx with hm | ⟨u, v, hi, hn⟩
      · exact Or.inl (List.mem_append_left _ hm)
      · exact Or.inr ⟨u, v, hi.trans (List.prefix_append o1 o2).isInfix, hn⟩
    · rcases h2 x hx with hm | ⟨u, v, hi, hn⟩
      · exact Or.inl (List.mem_append_right _ hm)
      · exact Or.inr ⟨u, v, hi.trans (List.suffix_append o1 o2).isInfix, hn⟩

/-- … and when a vertex is vouched for with respect to every segment it ends, every element of an input of two or more is -/
theorem tolerance {W : β → β → β → Prop} (hC : ∀ a b L, C a b L → ∀ p ∈ L, W p a b) (hself : ∀ p q, W p p q ∧ W p q p)
    (h : DpTree C L out) (h2 : 2 ≤ L.length) : ∀ p ∈ L, ∃ a b, [a, b] <:+: out ∧ W p a b := by
  intro p hp
  rcases h.cover hC p hp with hm | hc
  · obtain ⟨q, hq | hq⟩ := mem_pair p out hm (h.two_le h2)
    · exact ⟨p, q, hq, (hself p q).1⟩
    · exact ⟨q, p, hq, (hself p q).2⟩
  · exact hc

end DpTree

section
variable {α : Type} [Add α] [Sub α] [Mul α] [Div α] [Neg α] [LT α] [DecidableLT α] [BEq α]
  [OfNat α 0] [OfNat α 1] [OfNat α 2]

def chordEnd (q : Fix α) (rest : List (Fix α)) : Fix α := (q :: rest).getLast (List.cons_ne_nil _ _)

/-- the chord test of `douglas_peucker`: the farthest fix of the piece is nearer than `eps` to the chord `[a, b]` -/
def chordBelow (sqrt : α → α) (eps : α) (a b : Fix α) (L : List (Fix α)) : Prop := (farthest sqrt a b L 0 0 0).1 < eps

end

section
variable {α : Type} [Add α] [Sub α] [Mul α] [Div α] [LT α] [DecidableLT α] [BEq α] [OfNat α 0]

theorem dpFuel_short (sqrt : α → α) (eps : α) (fuel : Nat) (L : List (Fix α)) (h : L.length ≤ 2) :
    dpFuel sqrt eps fuel L = some L := by
  match L, h with
  | [], _ | [_], _ | [_, _], _ => rw [dpFuel]
  | _ :: _ :: _ :: _, h => simp at h

/-- the two ends come as `head?` / `getLast?` because that is how the `Track`-level recursion (`dpTrkFuel`) reads them -/
theorem dpFuel_long (sqrt : α → α) (eps : α) (fuel : Nat) {L : List (Fix α)} {a b : Fix α} (ha : L.head? = some a)
    (hb : L.getLast? = some b) (hl : ¬ L.length ≤ 2) :
    dpFuel sqrt eps (fuel + 1) L = if (farthest sqrt a b L 0 0 0).1 < eps then some [a, b] else
      match dpFuel sqrt eps fuel (L.take (farthest sqrt a b L 0 0 0).2),
            dpFuel sqrt eps fuel (L.drop (farthest sqrt a b L 0 0 0).2) with
      | some o1, some o2 => some (o1 ++ o2)
      | _, _ => none := by
  obtain ⟨x, p, q, rest, rfl⟩ := three_of_len L hl
  cases ha
  cases (getLast?_cons_cons_cons a p q rest).symm.trans hb
  rfl

section
omit [Add α] [Sub α] [Mul α] [Div α] [LT α] [DecidableLT α] [BEq α] [OfNat α 0]

theorem chordEnd_mem (q : Fix α) (rest : List (Fix α)) : chordEnd q rest ∈ q :: rest :=
  List.getLast_mem _

end

theorem dpFuel_tree (sqrt : α → α) (eps : α) (fuel : Nat) (L out : List (Fix α)) (h : dpFuel sqrt eps fuel L = some out) :
    DpTree (chordBelow sqrt eps) L out := by
  fun_induction dpFuel sqrt eps fuel L generalizing out with
  | case1 | case2 | case3 => cases h; exact .leaf _
  | case4 | case7 => cases h
  | case5 fuel a p q rest L b r hlt =>
    cases h
    exact .chord _ a _ rfl (getLast?_cons_cons_cons a p q rest) (by simp) hlt
  | case6 fuel a p q rest L b r hlt o1 o2 hd ht ih1 ih2 => cases h; exact .split _ _ (ih1 _ ht) (ih2 _ hd)

theorem dpAllFuel_short (sqrt : α → α) (eps : α) (fuel : Nat) (L : List (Fix α)) (h : L.length ≤ 2) :
    dpAllFuel sqrt eps fuel L = [L] := by
  match L, h with
  | [], _ => rw [dpAllFuel]
  | [_], _ => rw [dpAllFuel]
  | [_, _], _ => rw [dpAllFuel]
  | _ :: _ :: _ :: _, h => simp at h

theorem dpAllFuel_tree (sqrt : α → α) (eps : α) (fuel : Nat) (L out : List (Fix α)) (h : out ∈ dpAllFuel sqrt eps fuel L) :
    DpTree (chordBelow sqrt eps) L out := by
  fun_induction dpAllFuel sqrt eps fuel L generalizing out with
  | case1 | case2 | case3 => cases List.mem_singleton.mp h; exact .leaf _
  | case4 => cases h
  | case5 fuel a p q rest L b r hlt =>
    cases List.mem_singleton.mp h
    exact .chord _ a _ rfl (getLast?_cons_cons_cons a p q rest) (by simp) hlt
  | case6 fuel a p q rest L b r hlt ihd iht =>
    simp only [List.mem_flatMap, List.mem_map] at h
    obtain ⟨i, _, o1, h1, o2, h2, rfl⟩ := h
    exact .split _ i (iht i _ h1) (ihd i _ h2)

theorem farthest_witness (sqrt : α → α) (a b : Fix α) (rest : List (Fix α)) (i : Nat) (dmax : α) (imax : Nat) :
    farthest sqrt a b rest i dmax imax = (dmax, imax) ∨
      ∃ p k, (p, k) ∈ rest.zipIdx i ∧ (farthest sqrt a b rest i dmax imax).2 = k ∧
        (farthest sqrt a b rest i dmax imax).1 = distFix sqrt a b p := by
  fun_induction farthest sqrt a b rest i dmax imax with
  | case1 => left; rfl
  | case2 p rest i dmax imax d hgt ih =>
    right
    rcases ih with h | ⟨q, j, hm, h⟩
    · rw [h]; exact ⟨p, i, List.mem_cons_self, rfl, rfl⟩
    · exact ⟨q, j, List.mem_cons_of_mem _ hm, h⟩
  | case3 p rest i dmax imax d hgt ih =>
    exact ih.imp id fun ⟨q, j, hm, h⟩ => ⟨q, j, List.mem_cons_of_mem _ hm, h⟩

theorem farthest_inside (sqrt : α → α) (eps : α) (heps : (0 : α) < eps) (a b : Fix α) (tl : List (Fix α))
    (hd0 : ¬ (distFix sqrt a b a > 0))
    (hne : ¬ (farthest sqrt a b (a :: tl) 0 0 0).1 < eps) :
    1 ≤ (farthest sqrt a b (a :: tl) 0 0 0).2 ∧ (farthest sqrt a b (a :: tl) 0 0 0).2 < (a :: tl).length := by
  have e : farthest sqrt a b (a :: tl) 0 0 0 = farthest sqrt a b tl 1 0 0 := by
    rw [farthest]; exact if_neg hd0
  rw [e] at hne ⊢
  rcases farthest_witness sqrt a b tl 1 0 0 with h | ⟨p, k, hm, h, _⟩
  · rw [h] at hne; exact absurd heps hne
  · rw [h, List.length_cons, Nat.add_comm]
    exact ⟨(List.le_snd_of_mem_zipIdx hm : 1 ≤ k), (List.snd_lt_add_of_mem_zipIdx hm : k < 1 + tl.length)⟩

/-- termination, scalar-independent form: with a positive tolerance, and provided the distance of a fix to a
chord that starts at this very fix is never strictly positive, the recursion never exhausts `len(L)` levels -/
theorem dpFuel_total_gen (sqrt : α → α) (eps : α) (heps : (0 : α) < eps)
    (hd0 : ∀ a b : Fix α, ¬ (distFix sqrt a b a > 0)) (fuel : Nat) (L : List (Fix α)) (h : L.length ≤ fuel + 2) :
    ∃ out, dpFuel sqrt eps fuel L = some out := by
  fun_induction dpFuel sqrt eps fuel L with
  | case1 | case2 | case3 | case5 | case6 => exact ⟨_, rfl⟩
  | case4 => simp at h
  | case7 fuel a p q rest L b r hlt hno ih1 ih2 =>
    -- the cut is strictly inside, both halves are shorter and return
    have hi : 1 ≤ r.2 ∧ r.2 < L.length := farthest_inside sqrt eps heps a b _ (hd0 a b) hlt
    have h : L.length ≤ fuel + 1 + 2 := h
    obtain ⟨o1, e1⟩ := ih1 (by rw [List.length_take]; omega)
    obtain ⟨o2, e2⟩ := ih2 (by rw [List.length_drop]; omega)
    exact absurd e2 (hno _ _ e1)

theorem tiesAt_eq (sqrt : α → α) (a b : Fix α) (d : α) (rest : List (Fix α)) (i : Nat) :
    tiesAt sqrt a b d rest i = ((rest.zipIdx i).filter fun pk => distFix sqrt a b pk.1 == d).map (·.2) := by
  induction rest generalizing i with
  | nil => rfl
  | cons q rest ih => rw [tiesAt, List.zipIdx_cons, List.filter_cons, ih]; split <;> rfl

/-- the code's own run is one of the runs enumerated by `dpAllFuel` (reflexive `==`, positive tolerance,
first fix at distance 0 from its chord) -/
theorem dpFuel_mem_all [ReflBEq α] (sqrt : α → α) (eps : α) (heps : (0 : α) < eps)
    (hd0 : ∀ a b : Fix α, ¬ (distFix sqrt a b a > 0)) (fuel : Nat) (L out : List (Fix α))
    (h : dpFuel sqrt eps fuel L = some out) : out ∈ dpAllFuel sqrt eps fuel L := by
  fun_induction dpAllFuel sqrt eps fuel L generalizing out with
  | case1 | case2 | case3 => rw [dpFuel] at h; cases h; exact List.mem_singleton.mpr rfl
  | case4 => cases h
  | case5 fuel a p q rest L b r hlt =>
    rw [dpFuel, if_pos hlt] at h
    cases h; exact List.mem_singleton.mpr rfl
  | case6 fuel a p q rest L b r hlt ihd iht =>
    rw [dpFuel, if_neg hlt] at h
    split at h
    · rename_i o1 o2 h1 h2
      cases h
      simp only [List.mem_flatMap, List.mem_map, List.mem_filter, decide_eq_true_eq]
      have hin := (farthest_inside sqrt eps heps a b _ (hd0 a b) hlt).1
      refine ⟨r.2, ⟨?_, hin⟩, o1, iht _ _ h1, o2, ihd _ _ h2, rfl⟩
      -- the split index holds the farthest distance, so it is among the ties
      rcases farthest_witness sqrt a b L 0 0 0 with e | ⟨x, k, hm, e1, e2⟩
      · rw [e] at hin; exact absurd hin (Nat.not_succ_le_zero 0)
      · rw [tiesAt_eq, e1, e2]
        exact List.mem_map.mpr ⟨_, List.mem_filter.mpr ⟨hm, BEq.rfl⟩, rfl⟩
    · cases h

end

section
variable {α : Type} [LT α] [DecidableLT α] [BEq α]

theorem argminLoop_miss (col : List (Option α)) (i : Nat) (m : α) (id0 : Option Nat)
    (h : ∀ v, some v ∈ col → ¬ (v < m ∨ (id0 = none ∧ (v == m) = true))) : argminLoop col i m id0 = id0 := by
  induction col generalizing i with
  | nil => rfl
  | cons c rest ih =>
    have hr := ih (i + 1) fun v hv => h v (List.mem_cons_of_mem _ hv)
    cases c with
    | none => rw [argminLoop]; exact hr
    | some w => rw [argminLoop, if_neg (h w List.mem_cons_self)]; exact hr

/-- as soon as one entry is a number below the running minimum — or, while no index is recorded, equal to it —, ARGMIN's loop
designates a non-NaN entry -/
theorem argminLoop_hit (col : List (Option α)) (i : Nat) (m : α) (id0 : Option Nat)
    (h : ∃ v, some v ∈ col ∧ (v < m ∨ (id0 = none ∧ (v == m) = true))) :
    ∃ (k : Nat) (v : α), argminLoop col i m id0 = some k ∧ (some v, k) ∈ col.zipIdx i := by
  fun_induction argminLoop col i m id0 with
  | case1 => obtain ⟨v, hv, _⟩ := h; cases hv
  | case2 rest i m id0 ih =>
    obtain ⟨v, hv, hq⟩ := h
    obtain ⟨k, w, e, hm⟩ := ih ⟨v, (List.mem_cons.mp hv).resolve_left nofun, hq⟩
    exact ⟨k, w, e, List.mem_cons_of_mem _ hm⟩
  | case3 w rest i m id0 hw ih =>
    -- `w` is taken; it stays unless the rest undercuts it
    by_cases hr : ∃ v, some v ∈ rest ∧ (v < w ∨ ((some i : Option Nat) = none ∧ (v == w) = true))
    · obtain ⟨k, v, e, hm⟩ := ih hr
      exact ⟨k, v, e, List.mem_cons_of_mem _ hm⟩
    · exact ⟨i, w, argminLoop_miss rest _ _ _ (fun v hv hq => hr ⟨v, hv, hq⟩), List.mem_cons_self⟩
  | case4 w rest i m id0 hw ih =>
    obtain ⟨v, hv, hq⟩ := h
    rcases List.mem_cons.mp hv with e | hv
    · cases e; exact absurd hq hw
    · obtain ⟨k, v', e, hm⟩ := ih ⟨v, hv, hq⟩
      exact ⟨k, v', e, List.mem_cons_of_mem _ hm⟩

theorem argmin_hit (big : α) (col : List (Option α)) (h : ∃ v, some v ∈ col ∧ (v < big ∨ (v == big) = true)) :
    ∃ v, col[argmin big col]? = some (some v) := by
  obtain ⟨v0, a, b⟩ := h
  obtain ⟨k, v, e1, e2⟩ := argminLoop_hit col 0 big none ⟨v0, a, b.imp id (fun x => ⟨rfl, x⟩)⟩
  exact ⟨v, by rw [argmin, e1]; exact List.mem_zipIdx_iff_getElem?.mp e2⟩

/-- … and otherwise (since b728412: a column of NaN) it answers its default 0 -/
theorem argmin_miss (big : α) (col : List (Option α)) (h : ∀ v, some v ∈ col → ¬ v < big ∧ ¬ (v == big) = true) :
    argmin big col = 0 := by
  rw [argmin, argminLoop_miss col 0 big none fun v hv hq => hq.elim (h v hv).1 (fun x => (h v hv).2 x.2)]
  rfl

theorem argmin_cases (big : α) (col : List (Option α)) :
    argmin big col = 0 ∨ ∃ v, col[argmin big col]? = some (some v) := by
  by_cases h : ∃ v, some v ∈ col ∧ (v < big ∨ (v == big) = true)
  · exact Or.inr (argmin_hit big col h)
  · exact Or.inl (argmin_miss big col fun v hv => ⟨fun x => h ⟨v, hv, Or.inl x⟩, fun x => h ⟨v, hv, Or.inr x⟩⟩)

end

section
variable {α : Type} [Add α] [Sub α] [Mul α] [Div α] [Neg α] [LT α] [DecidableLT α] [BEq α]
  [OfNat α 0] [OfNat α 1] [OfNat α 2]

theorem argmin_lt (big : α) (col : List (Option α)) (h : 0 < col.length) : argmin big col < col.length := by
  rcases argmin_cases big col with e | ⟨v, e⟩
  · rw [e]; exact h
  · exact (List.getElem?_eq_some_iff.mp e).1

end

section
variable {α : Type} [Sub α] [Mul α] [Div α] [LT α] [DecidableLT α] [OfNat α 0] [OfNat α 1] [OfNat α 2]

theorem setAire_getElem? (S : VState α) (i m : Nat) :
    (setAire S i)[m]? = if m = i then (S[i]?).map (fun e => (e.1, aireVisval (S.map (·.1)) i)) else S[m]? := by
  unfold setAire
  split
  · rename_i p c hi
    rw [List.getElem?_set, hi]
    by_cases h : m = i
    · subst h; rw [if_pos rfl, if_pos rfl, if_pos (List.getElem?_eq_some_iff.mp hi).1]; rfl
    · rw [if_neg (fun x => h x.symm), if_neg h]
  · rename_i hi
    split
    · rename_i h; subst h; rw [hi]; rfl
    · rfl

theorem setAire_ne (S : VState α) (i j : Nat) (h : i ≠ j) : (setAire S i)[j]? = S[j]? := by
  rw [setAire_getElem?, if_neg (fun x => h x.symm)]

theorem setAire_map_fst (S : VState α) (i : Nat) : (setAire S i).map (·.1) = S.map (·.1) := by
  apply List.ext_getElem?
  intro m
  rw [List.getElem?_map, List.getElem?_map, setAire_getElem?]
  split
  · rename_i h; subst h; cases S[m]? <;> rfl
  · rfl

theorem setAire_length (S : VState α) (i : Nat) : (setAire S i).length = S.length := by
  have := congrArg List.length (setAire_map_fst S i)
  rwa [List.length_map, List.length_map] at this

theorem aireVisval_interior (L : List (Fix α)) (i : Nat) (h0 : 0 < i) (p0 p1 p2 : Fix α)
    (e0 : L[i - 1]? = some p0) (e1 : L[i]? = some p1) (e2 : L[i + 1]? = some p2) :
    aireVisval L i = some (areaFix p0 p1 p2) := by
  unfold aireVisval
  rw [if_neg (Nat.ne_of_gt h0), e0, e1, e2]

/-- the entry of the last fix is NaN: `getObs(i+1)` raises `IndexError` -/
theorem aireVisval_last (L : List (Fix α)) (i : Nat) (h : L.length ≤ i + 1) : aireVisval L i = none := by
  fun_cases aireVisval L i with
  | case1 prev p0 p1 p2 h2 => rw [List.getElem?_eq_none_iff.mpr h] at h2; cases h2
  | case2 => rfl

theorem aireVisval_mem (L : List (Fix α)) (i : Nat) (v : α) (h : aireVisval L i = some v) :
    ∃ p0 p1 p2, p0 ∈ L ∧ p1 ∈ L ∧ p2 ∈ L ∧ v = areaFix p0 p1 p2 := by
  revert h
  fun_cases aireVisval L i with
  | case1 prev p0 p1 p2 h2 h1 h0 =>
    intro h
    refine ⟨p0, p1, p2, ?_, List.mem_of_getElem? h1, List.mem_of_getElem? h2, (Option.some.inj h).symm⟩
    dsimp only [prev] at h0
    split at h0
    · exact List.mem_of_getLast? h0
    · exact List.mem_of_getElem? h0
  | case2 => nofun

theorem getElem?_of_lt {β : Type} (l : List β) (i : Nat) (h : i < l.length) : ∃ a, l[i]? = some a :=
  ⟨l[i], List.getElem?_eq_getElem h⟩

theorem vwInit_getElem? (L : List (Fix α)) (i : Nat) :
    (vwInit L)[i]? = (L[i]?).map (fun p => (p, if i = 0 then none else aireVisval L i)) := by
  unfold vwInit
  rw [List.getElem?_map, List.getElem?_zipIdx]
  cases L[i]? with
  | none => rfl
  | some p => simp

theorem vwInit_map_fst (L : List (Fix α)) : (vwInit L).map (·.1) = L := by
  apply List.ext_getElem?
  intro i
  rw [List.getElem?_map, vwInit_getElem?]
  cases L[i]? <;> rfl

theorem vwInit_fst_mem (L : List (Fix α)) {e : Fix α × Option α} (he : e ∈ vwInit L) : e.1 ∈ L := by
  rw [← vwInit_map_fst L]; exact List.mem_map.mpr ⟨e, he, rfl⟩

theorem vwInit_length (L : List (Fix α)) : (vwInit L).length = L.length := by
  have := congrArg List.length (vwInit_map_fst L)
  rwa [List.length_map] at this

theorem vwInit_mid (L : List (Fix α)) (i : Nat) (h0 : 0 < i) (h1 : i + 1 < L.length) :
    ∃ p0 p1 p2, L[i - 1]? = some p0 ∧ L[i]? = some p1 ∧ L[i + 1]? = some p2 ∧
      (vwInit L)[i]? = some (p1, some (areaFix p0 p1 p2)) := by
  obtain ⟨p0, e0⟩ := getElem?_of_lt L (i - 1) (Nat.lt_of_le_of_lt (Nat.sub_le i 1) (Nat.lt_of_succ_lt h1))
  obtain ⟨p1, e1⟩ := getElem?_of_lt L i (Nat.lt_of_succ_lt h1)
  obtain ⟨p2, e2⟩ := getElem?_of_lt L (i + 1) h1
  refine ⟨p0, p1, p2, e0, e1, e2, ?_⟩
  rw [vwInit_getElem?, e1, Option.map_some, if_neg (Nat.ne_of_gt h0), aireVisval_interior L i h0 p0 p1 p2 e0 e1 e2]

end

theorem map_eraseIdx' {β γ : Type} (f : β → γ) (l : List β) (i : Nat) :
    (l.eraseIdx i).map f = (l.map f).eraseIdx i := by
  induction l generalizing i with
  | nil => rfl
  | cons a l ih =>
    cases i with
    | zero => rfl
    | succ i => simp [List.eraseIdx, ih]

theorem head?_eraseIdx_pos {β : Type} (l : List β) (i : Nat) (h : 0 < i) : (l.eraseIdx i).head? = l.head? := by
  cases l with
  | nil => rfl
  | cons a l =>
    cases i with
    | zero => omega
    | succ i => rfl

theorem getLast?_eraseIdx_interior {β : Type} (l : List β) (i : Nat) (h : i + 1 < l.length) :
    (l.eraseIdx i).getLast? = l.getLast? := by
  rw [List.getLast?_eq_getElem?, List.getLast?_eq_getElem?, List.getElem?_eraseIdx,
    List.length_eraseIdx_of_lt (by omega), if_neg (by omega)]
  congr 1
  omega

end TV.Simplify
