import TracklibVerif.Model.CinematicsTabK
import TracklibVerif.Lemmas.FeaturesRelEval
/-! Relations between runs that every program of the feature table keeps because the Track API of `World` keeps them.

`RelP J S m` is `Features.Rel` on one program: two runs of `m` from `J`-related worlds raise or return the same and end
`J`-related, the second moving its world by `S`. `Respected J S`: the nine primitives keep the relation (`setObs` on a FEATURE
name). Sequencing, `catchIndex`, `tryFinally` and the loops keep every `Rel` (`Lemmas/FeaturesRel.lean`), the programs of
`Model/Features.lean` keep it by C01's lemmas (`Lemmas/FeaturesRelOps.lean`, `Lemmas/FeaturesRelEval.lean`) and those of
`Model/CinematicsTab.lean`, `Model/CinematicsTabK.lean` by one lemma each below. An operation of a history on features is such
a program run on one track (`stepW_onFeatures`, `stepK_onFeatures`). The two instances of C17 are `Keeps`
(`Lemmas/CinTabGeom.lean`: no position, stamp or reference list is written; `J = Eq`) and `Blind`
(`Lemmas/CinTabZone.lean`: no zone is read; `J` = "rewritten by `f`"). -/
namespace TV.CinTab
open TV.Features TV.CinTabK

variable {V : Type} [AbsTime V]

def RelP (J S : World V → World V → Prop) : ∀ {α : Type}, M (World V) α → Prop :=
  fun m => Rel J S (fun _ => True) m m

/-- `PrimRel` has one permission for all writes — here a FEATURE name, what `setObs` needs (`setObsAnalyticalFeature("x", …)`
writes a position); `create`, `update`, `remove` are kept for every name (`track[name] = list` takes any) -/
structure Respected (J S : World V → World V → Prop) : Prop where
  prim : PrimRel (V := V) (σ := World V) (τ := World V) J S (fun nm => reserved nm = false) (fun _ => True) True
  create : ∀ name init, RelP J S (Tbl.create name init : M (World V) Unit)
  update : ∀ name init, RelP J S (Tbl.update name init : M (World V) Unit)
  remove : ∀ name, RelP J S (Tbl.remove name : M (World V) Unit)

variable {J S : World V → World V → Prop} [Step S]

theorem Respected.of_nine (size : RelP J S (Tbl.size : M (World V) Nat)) (has : ∀ name, RelP J S (Tbl.has name : M (World V) Bool))
    (names : RelP J S (Tbl.names : M (World V) (List String)))
    (get : ∀ o name, RelP J S (Tbl.get o name : M (World V) (List V)))
    (getObs : ∀ o name i, RelP J S (Tbl.getObs o name i : M (World V) V))
    (setObs : ∀ name i v, reserved name = false → RelP J S (Tbl.setObs name i v : M (World V) Unit))
    (create : ∀ name init, RelP J S (Tbl.create name init : M (World V) Unit))
    (update : ∀ name init, RelP J S (Tbl.update name init : M (World V) Unit))
    (remove : ∀ name, RelP J S (Tbl.remove name : M (World V) Unit)) : Respected J S :=
  ⟨PrimRel.of_nine size has names get getObs setObs (fun nm init _ => create nm init) (fun nm init _ => update nm init)
    (fun nm _ => remove nm), create, update, remove⟩

omit [AbsTime V] in
/-- `ds(track, i)` for any distance program -/
theorem relP_dsAlg (g : GOps V) (dist : Nat → Nat → M (World V) V) (h : ∀ i j, RelP J S (dist i j)) (i : Nat) :
    RelP J S (if i = 0 then Pure.pure g.zero else dist i (i - 1)) :=
  rel_ite _ (fun _ => rel_pure _ trivial) (fun _ => h _ _)

namespace Respected
variable (hR : Respected J S)
include hR

theorem setItem (name : String) (init : Init V) : RelP J S (setItem name init : M (World V) Unit) := by
  unfold Features.setItem
  exact rel_bind (hR.prim.has name) fun _ _ => rel_ite _ (fun _ => hR.update name init) (fun _ => hR.create name init)

theorem dist2DT (g : GOps V) (i j : Nat) : RelP J S (dist2DT g i j : M (World V) V) := by
  unfold CinTab.dist2DT
  exact rel_bind (hR.prim.getObs _ _ _) fun _ _ => rel_bind (hR.prim.getObs _ _ _) fun _ _ =>
    rel_bind (hR.prim.getObs _ _ _) fun _ _ => rel_bind (hR.prim.getObs _ _ _) fun _ _ => rel_pure _ trivial

theorem fetch2 (g : GOps V) (i j : Nat) : RelP J S (fetch2 g i j : M (World V) _) := by
  unfold CinTabK.fetch2
  exact rel_bind (hR.prim.getObs _ _ _) fun _ _ => rel_bind (hR.prim.getObs _ _ _) fun _ _ =>
    rel_bind (hR.prim.getObs _ _ _) fun _ _ => rel_bind (hR.prim.getObs _ _ _) fun _ _ =>
    rel_bind (hR.prim.getObs _ _ _) fun _ _ => rel_bind (hR.prim.getObs _ _ _) fun _ _ => rel_pure _ trivial

theorem dist3DT (g : GOps V) (i j : Nat) : RelP J S (dist3DT g i j : M (World V) V) := by
  unfold CinTab.dist3DT
  exact rel_bind (hR.prim.getObs _ _ _) fun _ _ => rel_bind (hR.prim.getObs _ _ _) fun _ _ =>
    rel_bind (hR.prim.getObs _ _ _) fun _ _ => rel_bind (hR.prim.getObs _ _ _) fun _ _ =>
    rel_bind (hR.prim.getObs _ _ _) fun _ _ => rel_bind (hR.prim.getObs _ _ _) fun _ _ => rel_pure _ trivial

theorem posDistT (g : GOps V) (K : Kernel V) (i j : Nat) : RelP J S (posDistT g K i j : M (World V) V) :=
  rel_bind (hR.fetch2 g i j) fun _ _ => rel_ofExcept _

theorem obsDistT (g : GOps V) (K : Kernel V) (i j : Nat) : RelP J S (obsDistT g K i j : M (World V) V) :=
  rel_bind (hR.fetch2 g i j) fun _ _ => rel_ofExcept _

/-- `speed(track, i)` for any way `between a b` of taking the speed between two fixes -/
theorem speedAlg (between : Nat → Nat → M (World V) V) (h : ∀ a b, RelP J S (between a b)) (i : Nat) :
    RelP J S (if i = 0 then between 1 0
       else (Tbl.size : M (World V) Nat) >>= fun n =>
         if i = n - 1 then between (n - 1) (n - 2) else between (i + 1) (i - 1)) :=
  rel_ite _ (fun _ => h _ _) fun _ => rel_bind hR.prim.size fun _ _ => rel_ite _ (fun _ => h _ _) (fun _ => h _ _)

/-- the speed between two fixes for any distance program -/
theorem speedBetween (g : GOps V) (dist : Nat → Nat → M (World V) V) (h : ∀ i j, RelP J S (dist i j)) (a b : Nat) :
    RelP J S (dist a b >>= fun d => (Tbl.getObs g.toOps "t" a : M (World V) V) >>= fun ta =>
      (Tbl.getObs g.toOps "t" b : M (World V) V) >>= fun tb =>
      Pure.pure (if g.isZero (g.sub ta tb) then g.nan else g.div d (g.sub ta tb))) :=
  rel_bind (h a b) fun _ _ => rel_bind (hR.prim.getObs _ _ _) fun _ _ => rel_bind (hR.prim.getObs _ _ _) fun _ _ =>
    rel_pure _ trivial

/-- `computeCurvAbsBetweenTwoPoints(track)` for any distance program -/
theorem sumLegs (g : GOps V) (dist : Nat → Nat → M (World V) V) (h : ∀ i j, RelP J S (dist i j)) :
    RelP J S ((Tbl.size : M (World V) Nat) >>= fun n => M.foldL (List.range (n - 1)) g.zero fun acc i =>
      dist i (i + 1) >>= fun d => Pure.pure (g.add acc d)) :=
  rel_bind hR.prim.size fun _ _ => rel_foldL_true _ _ fun _ _ _ =>
    rel_bind (h _ _) fun _ _ => rel_pure _ trivial

theorem speedAlgT (g : GOps V) (i : Nat) : RelP J S (speedAlgT g i : M (World V) V) :=
  hR.speedAlg _ (hR.speedBetween g _ (hR.dist2DT g)) i

theorem speedAlgK (g : GOps V) (K : Kernel V) (i : Nat) : RelP J S (speedAlgK g K i : M (World V) V) :=
  hR.speedAlg _ (hR.speedBetween g _ (hR.posDistT g K)) i

theorem addAFfn (o : Ops V) (alg : Nat → M (World V) V) (halg : ∀ i, RelP J S (alg i)) (name : String) :
    RelP J S (addAFfn o alg name : M (World V) (List V)) := by
  unfold CinTab.addAFfn
  cases hr : reserved name with
  | true => exact rel_throw _
  | false =>
    have hloop : ∀ n, RelP J S (afLoop o alg name n) := fun n =>
      rel_forEach _ fun i _ => rel_bind (rel_catchIndex _ (halg i) trivial) fun v _ => hR.prim.setObs name i v hr
    have hcreate : ∀ b : Bool, RelP J S (if !b then Tbl.create name (.scalar o.zero) else Pure.pure () : M (World V) Unit) :=
      fun _ => rel_ite _ (fun _ => hR.create name _) fun _ => rel_pure _ trivial
    simp only [Bool.false_eq_true, if_false]
    exact rel_bind (hR.prim.has name) fun b _ => rel_bind (hcreate b) fun _ _ => rel_bind hR.prim.size fun n _ =>
      rel_bind (hloop n) fun _ _ => hR.prim.get o name

theorem computeAbsCurvG (g : GOps V) (alg : Nat → M (World V) V) (halg : ∀ i, RelP J S (alg i)) :
    RelP J S (computeAbsCurvG g alg : M (World V) (List V)) := by
  have hds : RelP J S (ensureDsG g alg : M (World V) Unit) :=
    rel_bind (hR.prim.has _) fun _ _ =>
      rel_ite _ (fun _ => rel_bind (hR.addAFfn _ _ halg _) fun _ _ => rel_pure _ trivial) fun _ => rel_pure _ trivial
  have hac : RelP J S (ensureAbsCurvT g : M (World V) Unit) :=
    rel_bind (hR.prim.has _) fun _ _ =>
      rel_ite _ (fun _ => rel_bind (rel_unaryVoid hR.prim _ _ _ _ (by decide)) fun _ _ => rel_pure _ trivial)
        fun _ => rel_pure _ trivial
  exact rel_bind hds fun _ _ => rel_bind hac fun _ _ => rel_bind (hR.remove _) fun _ _ => hR.prim.get _ _

theorem estimateSpeedG (g : GOps V) (alg : Nat → M (World V) V) (halg : ∀ i, RelP J S (alg i)) :
    RelP J S (estimateSpeedG g alg : M (World V) (List V)) := by
  unfold CinTabK.estimateSpeedG
  exact rel_bind (hR.prim.has _) fun _ _ => rel_ite _ (fun _ => hR.prim.get _ _) fun _ => hR.addAFfn _ _ halg _

theorem lengthT (g : GOps V) : RelP J S (lengthT g : M (World V) V) := by
  unfold CinTab.lengthT
  exact rel_bind hR.prim.size fun _ _ => rel_foldL_true _ _ fun _ _ _ =>
    rel_bind (hR.dist3DT g _ _) fun _ _ => rel_pure _ trivial

theorem isSortedT (g : GOps V) : RelP J S (isSortedT g : M (World V) Bool) := by
  unfold CinTab.isSortedT
  exact rel_bind hR.prim.size fun _ _ => rel_foldL_true _ _ fun _ _ _ =>
    rel_ite _ (fun _ => rel_pure _ trivial) fun _ =>
      rel_bind (hR.prim.getObs _ _ _) fun _ _ => rel_bind (hR.prim.getObs _ _ _) fun _ _ => rel_pure _ trivial

theorem durationT (g : GOps V) : RelP J S (durationT g : M (World V) V) := by
  unfold CinTab.durationT
  exact rel_bind hR.prim.size fun _ _ => rel_ite _ (fun _ => rel_throw _) fun _ =>
    rel_bind (hR.prim.getObs _ _ _) fun _ _ => rel_bind (hR.prim.getObs _ _ _) fun _ _ => rel_pure _ trivial

theorem integExprT (g : GOps V) : RelP J S (integExprT g : M (World V) Unit) :=
  rel_tryFinally
    (rel_bind (rel_unaryVoid hR.prim g.toOps .integrator "ds" "#0" (by decide)) fun _ _ =>
      rel_assignOp hR.prim g.toOps (.tok "abs_curv") (.tok "#0") (fun m h => by cases h; decide) trivial
        fun m h => ⟨hash_not_reserved m h, trivial⟩)
    (rel_purge hR.prim fun m h => ⟨hash_not_reserved m h, trivial⟩)

end Respected

/-- the operations of a history that compute, read, remove or write FEATURES (not the in-place edits of positions /
stamps and not the operations that make new tracks) -/
def WOp.onFeatures : WOp V → Bool
  | .absCurv _ | .speed _ | .speedAF _ | .dsAF _ | .integ _ | .integExpr _ | .diff _ | .length _ | .curvAbs _ | .read _ _
  | .remove _ _ | .write _ _ _ | .sorted _ | .duration _ | .times _ | .speedMethod _ => true
  | _ => false

/-- run the program `m` on track `k` of the world and pack its outcome by `F` (`.unsupported` = no such track): the
shape of every operation on features in `stepW` / `stepK` (`runCol k m = runOn k m (·.map .col)`) -/
def runOn {α : Type} (k : Nat) (m : M (World V) α) (F : Except Err α → Except Err (WRet V)) : M (World V) (WRet V) := fun w0 =>
  if k ≥ w0.trks.length then (.error .unsupported, w0)
  else match m { w0 with cur := k } with | (r, w') => (F r, w')

omit [AbsTime V] in
theorem runOn_ok {α : Type} (k : Nat) (m : M (World V) α) (F : Except Err α → Except Err (WRet V)) (w w' : World V) (r : α)
    (hk : k < w.trks.length) (e : m { w with cur := k } = (.ok r, w')) : runOn k m F w = (F (.ok r), w') := by
  unfold runOn
  rw [if_neg (Nat.not_le.mpr hk), e]

theorem stepW_onFeatures (g : GOps V) (op : WOp V) (hop : op.onFeatures = true) :
    ∃ (α : Type) (m : M (World V) α) (F : Except Err α → Except Err (WRet V)), (∀ {J S : World V → World V → Prop} [Step S], Respected J S → RelP J S m)
      ∧ stepW g op = runOn op.track m F := by
  cases op with
  | absCurv k => exact ⟨_, _, (·.map .col), fun h => h.computeAbsCurvG g (dsAlgT g) (relP_dsAlg g _ (h.dist2DT g)), rfl⟩
  | speed k => exact ⟨_, _, (·.map .col), fun h => h.estimateSpeedG g _ (h.speedAlgT g), rfl⟩
  | speedMethod k => exact ⟨_, _, (·.map .col), fun h => h.estimateSpeedG g _ (h.speedAlgT g), rfl⟩
  | speedAF k => exact ⟨_, _, (·.map .col), fun h => h.addAFfn g.toOps _ (h.speedAlgT g) "speed", rfl⟩
  | dsAF k => exact ⟨_, _, (·.map .col), fun h => h.addAFfn g.toOps (dsAlgT g) (relP_dsAlg g _ (h.dist2DT g)) "ds", rfl⟩
  | integ k => exact ⟨_, _, (·.map .col), fun h => rel_unaryVoid h.prim g.toOps .integrator "ds" "abs_curv" (by decide), rfl⟩
  | integExpr k => exact ⟨_, _, (·.map fun _ => .none), fun h => h.integExprT g, rfl⟩
  | diff k => exact ⟨_, _, (·.map .col), fun h => rel_unaryVoid h.prim g.toOps .differentiator "abs_curv" "dd" (by decide), rfl⟩
  | length k => exact ⟨_, _, (·.map .num), fun h => h.lengthT g, rfl⟩
  | curvAbs k => exact ⟨_, curvAbsT g, (·.map .num), fun h => h.sumLegs g _ (h.dist2DT g), rfl⟩
  | read k name => exact ⟨_, _, (·.map .col), fun h => h.prim.get g.toOps name, rfl⟩
  | remove k name => exact ⟨_, _, (·.map fun _ => .none), fun h => h.remove name, rfl⟩
  | write k name vals => exact ⟨_, _, (·.map fun _ => .none), fun h => h.setItem name (.list vals), rfl⟩
  | sorted k => exact ⟨_, _, (·.map .bool), fun h => h.isSortedT g, rfl⟩
  | duration k => exact ⟨_, _, (·.map .num), fun h => h.durationT g, rfl⟩
  | times k => exact ⟨_, _, (·.map .col), fun h => h.prim.get g.toOps "t", rfl⟩
  | _ => cases hop

/-- `stepW_onFeatures` for the kernel of every coordinate class; `Track.length()` is not modelled there (the second alternative) -/
theorem stepK_onFeatures (g : GOps V) (K : Kernel V) (op : WOp V) (hop : op.onFeatures = true) :
    (∃ (α : Type) (m : M (World V) α) (F : Except Err α → Except Err (WRet V)), (∀ {J S : World V → World V → Prop} [Step S], Respected J S → RelP J S m)
      ∧ stepK g K op = runOn op.track m F)
      ∨ stepK g K op = M.throw .unsupported := by
  cases op with
  | absCurv k => exact .inl ⟨_, _, (·.map .col), fun h => h.computeAbsCurvG g (dsAlgK g K) (relP_dsAlg g _ (h.obsDistT g K)), rfl⟩
  | speed k => exact .inl ⟨_, _, (·.map .col), fun h => h.estimateSpeedG g _ (h.speedAlgK g K), rfl⟩
  | speedMethod k => exact .inl ⟨_, _, (·.map .col), fun h => h.estimateSpeedG g _ (h.speedAlgK g K), rfl⟩
  | speedAF k => exact .inl ⟨_, _, (·.map .col), fun h => h.addAFfn g.toOps _ (h.speedAlgK g K) "speed", rfl⟩
  | dsAF k => exact .inl ⟨_, _, (·.map .col), fun h => h.addAFfn g.toOps (dsAlgK g K) (relP_dsAlg g _ (h.obsDistT g K)) "ds", rfl⟩
  | curvAbs k => exact .inl ⟨_, curvAbsK g K, (·.map .num), fun h => h.sumLegs g _ (h.posDistT g K), rfl⟩
  | length k => exact .inr rfl
  | integ k | integExpr k | diff k | read k name | remove k name | write k name vals | sorted k | duration k | times k =>
    exact .inl (stepW_onFeatures g _ hop)
  | _ => cases hop

end TV.CinTab
