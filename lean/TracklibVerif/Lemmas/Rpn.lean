import TracklibVerif.Model.Rpn
/-! The token-level `makeRPN` on a printed tree; `lvl` is an operator's precedence group, `G` the number of groups (9 at `pyLvl`).
`shw e` has balance 0 and every suffix a balance ≥ 0 (`SN`), so nothing inside a parenthesis is at depth 0: the split that
`firstSplit` finds is at the root operator (`split_root`, `no_split_below`), and `rpn_shw` follows by induction on the tree. -/
namespace TV.Rpn
variable (lvl : Char → Nat) (G : Nat)

theorem bal_append (xs ys : List Tok) : bal (xs ++ ys) = bal xs + bal ys := by
  induction xs with
  | nil => simp [bal]
  | cons t ts ih => cases t <;> simp [bal, ih] <;> omega

def SN : List Tok → Prop
  | [] => True
  | t :: ts => 0 ≤ bal (t :: ts) ∧ SN ts

theorem SN_append {xs ys : List Tok} (hx : SN xs) (hy : SN ys) (hb : 0 ≤ bal ys) : SN (xs ++ ys) := by
  induction xs with
  | nil => simpa using hy
  | cons t ts ih =>
    obtain ⟨h1, h2⟩ := hx
    refine ⟨?_, ih h2⟩
    have := bal_append (t :: ts) ys
    rw [List.cons_append] at this
    show 0 ≤ bal (t :: (ts ++ ys))
    omega

/-- inside `… ++ [rp]` (one more closing parenthesis to the right) nothing is at depth 0 -/
theorem splitR_shift (g : Nat) (ts suf : List Tok) (hs : SN ts) (hsuf : 0 < bal suf)
    (hn : splitR lvl g suf = none) : splitR lvl g (ts ++ suf) = none := by
  induction ts with
  | nil => simpa using hn
  | cons t ts ih =>
    obtain ⟨h1, h2⟩ := hs
    simp only [List.cons_append, splitR, ih h2]
    cases t with
    | op c =>
      have hb : bal (ts ++ suf) ≠ 0 := by
        have := bal_append ts suf
        have h1' : 0 ≤ bal ts := by simpa [bal] using h1
        omega
      simp [hb]
    | _ => rfl

theorem splitR_wrapped (g : Nat) (ts : List Tok) (hs : SN ts) :
    splitR lvl g (Tok.lp :: (ts ++ [Tok.rp])) = none := by
  have h : splitR lvl g (ts ++ [Tok.rp]) = none :=
    splitR_shift lvl g ts [Tok.rp] hs (by simp [bal]) (by simp [splitR])
  simp [splitR, h]

theorem splitR_append (g : Nat) (xs ys : List Tok) (hb : bal ys = 0) :
    splitR lvl g (xs ++ ys) =
      match splitR lvl g ys with
      | some (l, c, r) => some (xs ++ l, c, r)
      | none => (splitR lvl g xs).map (fun (l, c, r) => (l, c, r ++ ys)) := by
  induction xs with
  | nil => cases h : splitR lvl g ys with
    | none => simp [splitR, h]
    | some x => obtain ⟨l, c, r⟩ := x; simp [h]
  | cons t ts ih =>
    simp only [List.cons_append, splitR, ih]
    cases hy : splitR lvl g ys with
    | some x => obtain ⟨l, c, r⟩ := x; simp
    | none =>
      simp only []
      cases hx : splitR lvl g ts with
      | some x => obtain ⟨l, c, r⟩ := x; simp
      | none =>
        simp only [Option.map_none]
        cases t with
        | op c =>
          have : bal (ts ++ ys) = bal ts := by rw [bal_append]; omega
          by_cases hc : lvl c = g ∧ bal ts = 0
          · simp [this, hc]
          · simp [this, hc]
        | _ => simp
end TV.Rpn

namespace TV.Rpn
variable (lvl : Char → Nat) (G : Nat)

theorem bal_wrap (b : Bool) (ts : List Tok) : bal (wrap b ts) = bal ts := by
  unfold wrap; split
  · simp [bal, bal_append]
  · rfl

theorem SN_wrap (b : Bool) (ts : List Tok) (hs : SN ts) (hb : bal ts = 0) : SN (wrap b ts) := by
  unfold wrap; split
  · refine ⟨?_, SN_append hs (by simp [SN, bal]) (by simp [bal])⟩
    simp [bal, bal_append, hb]
  · exact hs

theorem shw_bal_SN (e : E) : bal (shw lvl G e) = 0 ∧ SN (shw lvl G e) := by
  induction e with
  | atom s => simp [shw, bal, SN]
  | par e ih =>
    have := SN_wrap true _ ih.2 ih.1
    have hb := bal_wrap true (shw lvl G e)
    simp only [wrap, if_true] at this hb
    exact ⟨by simp [shw]; rw [hb]; exact ih.1, by simpa [shw] using this⟩
  | bin c l r ihl ihr =>
    have bl := bal_wrap (decide (lv lvl G l < lvl c)) (shw lvl G l)
    have br := bal_wrap (decide (lv lvl G r ≤ lvl c)) (shw lvl G r)
    have sl := SN_wrap (decide (lv lvl G l < lvl c)) _ ihl.2 ihl.1
    have sr := SN_wrap (decide (lv lvl G r ≤ lvl c)) _ ihr.2 ihr.1
    constructor
    · simp only [shw, bal_append, bal, bl, br, ihl.1, ihr.1]; omega
    · simp only [shw]
      apply SN_append sl
      · refine ⟨?_, sr⟩
        simp [bal, br, ihr.1]
      · simp [bal, br, ihr.1]

theorem splitR_wrap (g : Nat) (b : Bool) (e : E) (h : b = false → splitR lvl g (shw lvl G e) = none) :
    splitR lvl g (wrap b (shw lvl G e)) = none := by
  cases b with
  | true => exact splitR_wrapped lvl g _ (shw_bal_SN lvl G e).2
  | false => exact h rfl

theorem splitR_node (g : Nat) (c : Char) (bl br : Bool) (l r : E)
    (hl : lvl c ≠ g → splitR lvl g (wrap bl (shw lvl G l)) = none) (hr : splitR lvl g (wrap br (shw lvl G r)) = none) :
    splitR lvl g (wrap bl (shw lvl G l) ++ Tok.op c :: wrap br (shw lvl G r)) =
      if lvl c = g then some (wrap bl (shw lvl G l), c, wrap br (shw lvl G r)) else none := by
  have hbr : bal (wrap br (shw lvl G r)) = 0 := by rw [bal_wrap]; exact (shw_bal_SN lvl G r).1
  rw [splitR_append lvl g _ _ (by simp [bal, hbr])]
  by_cases hc : lvl c = g
  · simp [splitR, hr, hbr, hc]
  · simp [splitR, hr, hbr, hc, hl hc]

/-- no operator of a group below the root's is at depth 0 -/
theorem no_split_below (e : E) (g : Nat) (hg : g < lv lvl G e) : splitR lvl g (shw lvl G e) = none := by
  induction e with
  | atom s => simp [shw, splitR]
  | par e _ => simpa [shw] using splitR_wrapped lvl g _ (shw_bal_SN lvl G e).2
  | bin c l r ihl ihr =>
    simp only [lv] at hg
    rw [shw, splitR_node lvl G g c _ _ l r (fun _ => splitR_wrap lvl G g _ l fun h => ihl (by simp at h; omega))
      (splitR_wrap lvl G g _ r fun h => ihr (by simp at h; omega)), if_neg (by omega)]

/-- the root operator is the rightmost depth-0 operator of its group -/
theorem split_root (c : Char) (l r : E) :
    splitR lvl (lvl c) (shw lvl G (E.bin c l r)) =
      some (wrap (decide (lv lvl G l < lvl c)) (shw lvl G l), c, wrap (decide (lv lvl G r ≤ lvl c)) (shw lvl G r)) := by
  rw [shw, splitR_node lvl G (lvl c) c _ _ l r (fun h => absurd rfl h)
    (splitR_wrap lvl G _ _ r fun h => no_split_below lvl G r _ (by simp at h; omega)), if_pos rfl]
end TV.Rpn

namespace TV.Rpn
variable (lvl : Char → Nat) (G : Nat)

theorem firstSplit_none (ts : List Tok) (h : ∀ g, splitR lvl g ts = none) (k g : Nat) :
    firstSplit lvl k g ts = none := by
  induction k generalizing g with
  | zero => rfl
  | succ k ih => simp [firstSplit, h g, ih]

theorem firstSplit_some (ts : List Tok) (x : List Tok × Char × List Tok) (g0 : Nat)
    (hx : splitR lvl g0 ts = some x) (hbelow : ∀ g, g < g0 → splitR lvl g ts = none)
    (k g : Nat) (hg : g ≤ g0) (hk : g0 < g + k) : firstSplit lvl k g ts = some x := by
  induction k generalizing g with
  | zero => omega
  | succ k ih =>
    by_cases h : g = g0
    · subst h; simp [firstSplit, hx]
    · simp only [firstSplit, hbelow g (by omega)]
      exact ih (g+1) (by omega) (by omega)

theorem firstSplit_atom (s : String) : firstSplit lvl G 0 [Tok.atom s] = none :=
  firstSplit_none lvl _ (fun g => by simp [splitR]) G 0

theorem firstSplit_paren (e : E) : firstSplit lvl G 0 (Tok.lp :: (shw lvl G e ++ [Tok.rp])) = none :=
  firstSplit_none lvl _ (fun g => splitR_wrapped lvl g _ (shw_bal_SN lvl G e).2) G 0

theorem firstSplit_bin (c : Char) (l r : E) (hc : lvl c < G) :
    firstSplit lvl G 0 (shw lvl G (E.bin c l r)) =
      some (wrap (decide (lv lvl G l < lvl c)) (shw lvl G l), c, wrap (decide (lv lvl G r ≤ lvl c)) (shw lvl G r)) :=
  firstSplit_some lvl _ _ (lvl c) (split_root lvl G c l r)
    (fun g hg => no_split_below lvl G (E.bin c l r) g (by simpa [lv] using hg)) G 0 (Nat.zero_le _) (by omega)

theorem size_pos (e : E) : 0 < size e := by cases e <;> simp [size]

theorem rpn_wrap (b : Bool) (e : E) (h : ∀ f, size e ≤ f → rpn lvl G f (shw lvl G e) = post e) :
    ∀ f', size e + 1 ≤ f' → rpn lvl G f' (wrap b (shw lvl G e)) = post e := by
  intro f' hf
  cases b with
  | false => simpa [wrap] using h f' (by omega)
  | true =>
    obtain ⟨f'', rfl⟩ : ∃ f'', f' = f'' + 1 := ⟨f' - 1, by omega⟩
    simp only [wrap, if_true, rpn, firstSplit_paren, List.dropLast_concat]
    exact h f'' (by omega)

theorem rpn_shw (e : E) (hwf : WF lvl G e) : ∀ f, size e ≤ f → rpn lvl G f (shw lvl G e) = post e := by
  induction e with
  | atom s =>
    intro f hf
    obtain ⟨f', rfl⟩ : ∃ f', f = f' + 1 := ⟨f - 1, by simp [size] at hf; omega⟩
    simp [shw, rpn, firstSplit_atom, render, post]
  | par e ih =>
    intro f hf
    have := rpn_wrap lvl G true e (ih hwf) f (by simp [size] at hf; omega)
    simpa [wrap, shw, post] using this
  | bin c l r ihl ihr =>
    intro f hf
    obtain ⟨hc, hwl, hwr⟩ := hwf
    obtain ⟨f', rfl⟩ : ∃ f', f = f' + 1 := ⟨f - 1, by simp [size] at hf; omega⟩
    have hsl := size_pos l
    have hsr := size_pos r
    simp only [size] at hf
    simp only [rpn, firstSplit_bin lvl G c l r hc, post]
    rw [rpn_wrap lvl G _ l (ihl hwl) f' (by omega),
        rpn_wrap lvl G _ r (ihr hwr) f' (by omega)]


example : rpn pyLvl 9 20 (shw pyLvl 9 (E.bin '-' (E.bin '-' (E.atom "a") (E.atom "b")) (E.atom "c")))
    = ["a", "b", "-", "c", "-"] := by decide
end TV.Rpn
