import TracklibVerif.Lemmas.TextIOCols
import TracklibVerif.Lemmas.TextIOFixed
import TracklibVerif.Lemmas.TextIOTime
/-! One CSV data line written by `writeToFile` and read by `__readFromCsv` (core only). -/
namespace TV.TextIO
open TV.ObsTime

/-- the loops that append `sep + text` for every feature (names in the header block, values in a data line) -/
theorem foldl_sep_append {α : Type} (sep : Char) (g : α → Str) (l : List α) (acc : Str) :
    l.foldl (fun acc v => acc ++ [sep] ++ g v) acc = acc ++ (l.map (fun v => sep :: g v)).flatten := by
  induction l generalizing acc with
  | nil => simp
  | cons a r ih => simp

theorem joinChar_append_flatten (sep : Char) (cs more : List Str) (h : cs ≠ []) :
    joinChar sep cs ++ (more.map (fun v => sep :: v)).flatten = joinChar sep (cs ++ more) := by
  obtain ⟨a, r, rfl⟩ := List.exists_cons_of_ne_nil h
  simp [joinChar_eq]

theorem readRow_of_fields (f : CsvFmt) (rf : List Tok) (line : Str) (fs : List Str)
    (hfs : (splitOnChar f.sep (strip line)).filter (fun s => !s.isEmpty) = fs)
    (X Y : Str) (xv yv zv : Dec) (tv : Stamp)
    (hE : nth fs (idx f.idE) = .ok X) (hN : nth fs (idx f.idN) = .ok Y)
    (hX : coordField X true = some xv) (hY : coordField Y true = some yv)
    (hnd : decTrunc xv ≠ noData ∧ decTrunc yv ≠ noData)
    (hZ : if f.idU ≥ 0 then ∃ Z, nth fs (idx f.idU) = .ok Z ∧ coordField Z false = some zv else zv = (0, 0))
    (hT : if f.idT ≠ -1 then ∃ Ts, nth fs (idx f.idT) = .ok Ts ∧
            (match readTimestamp rf ((strip Ts).filter (· ≠ '"')) with | some t => t | none => epoch) = tv
          else tv = epoch) :
    readRow f rf line = .ok ⟨xv, yv, zv, tv⟩ := by
  unfold readRow
  by_cases hT' : f.idT ≠ -1
  · rw [if_pos hT'] at hT
    obtain ⟨Ts, hTs, htv⟩ := hT
    simp only [ne_eq, decide_not] at htv
    by_cases hU' : f.idU ≥ 0
    · rw [if_pos hU'] at hZ
      obtain ⟨Z, hZ1, hZ2⟩ := hZ
      simp [hfs, hT', hU', hTs, hE, hN, hZ1, hX, hY, hZ2, hnd, bind, Except.bind, pure, Except.pure]
      exact htv
    · rw [if_neg hU'] at hZ
      simp [hfs, hT', hU', hTs, hE, hN, hX, hY, hZ, hnd, bind, Except.bind, pure, Except.pure]
      exact htv
  · rw [if_neg hT'] at hT
    by_cases hU' : f.idU ≥ 0
    · rw [if_pos hU'] at hZ
      obtain ⟨Z, hZ1, hZ2⟩ := hZ
      simp [hfs, hT', hU', hE, hN, hZ1, hX, hY, hZ2, hnd, hT, bind, Except.bind, pure, Except.pure]
    · rw [if_neg hU'] at hZ
      simp [hfs, hT', hU', hE, hN, hX, hY, hZ, hnd, hT, bind, Except.bind, pure, Except.pure]

theorem coordField_fixedCoreS (d : Nat) (v : SNum) (naToo : Bool) :
    coordField (fixedCoreS d v) naToo = some (v.toInt, d) := by
  unfold coordField
  rw [strip_fixedCoreS]
  have h1 : (fixedCoreS d v).isEmpty = false := List.isEmpty_eq_false_iff.2 (fixedCoreS_ne_nil d v)
  have h2 : (fixedCoreS d v == ['N', 'A']) = false := by
    cases h : fixedCoreS d v == ['N', 'A'] with
    | false => rfl
    | true =>
      have e : fixedCoreS d v = ['N', 'A'] := by simpa using h
      exact absurd (e ▸ List.mem_cons_self) ((fixedCoreS_numChar d v).not_mem (x := 'N') (by decide))
  simp [h1, h2, parseDec_fixedCoreS]

theorem printTime_append (a b : List Tok) (t : Stamp) : printTime (a ++ b) t = printTime a t ++ printTime b t := by
  induction a with
  | nil => rfl
  | cons tk r ih => cases tk <;> simp [printTime, ih]

def timeChar (pf : List Tok) (c : Char) : Bool := (digitVal? c).isSome || decide (Tok.lit c ∈ pf)

theorem printTime_over (pf : List Tok) (t : Stamp) : Over (timeChar pf) (printTime pf t) := by
  induction pf with
  | nil => exact fun c hc => absurd hc (by simp [printTime])
  | cons tk r ih =>
    have ih' : Over (timeChar (tk :: r)) (printTime r t) := ih.mono (fun c hc => by
      simp only [timeChar, Bool.or_eq_true, decide_eq_true_eq, List.mem_cons] at hc ⊢
      exact hc.imp_right Or.inr)
    cases tk with
    | code w l => exact Over.append (fun c hc => by simp [timeChar, zpad_digits _ _ c hc]) ih'
    | lit c => exact fun x hx => (List.mem_cons.1 hx).elim (fun e => by simp [timeChar, e]) (ih' x)

/-- the print format can be used for a CSV column with separator `sep` -/
structure TimeOK (pf : List Tok) (sep : Char) : Prop where
  lossless : Lossless pf
  nonempty : pf ≠ []
  lits : ∀ c, Tok.lit c ∈ pf → c ≠ sep ∧ c ≠ '"' ∧ c ≠ '#' ∧ c ≠ '\n'
  headOK : ∀ c, pf.head? = some (Tok.lit c) → isWs c = false
  lastOK : ∀ c, pf.getLast? = some (Tok.lit c) → isWs c = false

theorem tokStr_head (tk : Tok) (t : Stamp) (r : Str) :
    ∃ c, (printTime [tk] t ++ r).head? = some c ∧ ((digitVal? c).isSome = true ∨ tk = Tok.lit c) := by
  cases tk with
  | code w l =>
    cases h : zpad w (fieldVal t w l) with
    | nil => exact absurd h (zpad_ne_nil _ _)
    | cons c cs =>
      refine ⟨c, by simp [printTime, h], Or.inl (zpad_digits w (fieldVal t w l) c (by rw [h]; simp))⟩
  | lit c => exact ⟨c, by simp [printTime], Or.inr rfl⟩

theorem tokStr_last (tk : Tok) (t : Stamp) (r : Str) :
    ∃ c, (r ++ printTime [tk] t).getLast? = some c ∧ ((digitVal? c).isSome = true ∨ tk = Tok.lit c) := by
  cases tk with
  | code w l =>
    have hne := zpad_ne_nil w (fieldVal t w l)
    have : (printTime [Tok.code w l] t) = zpad w (fieldVal t w l) := by simp [printTime]
    rw [this, List.getLast?_append]
    cases h : (zpad w (fieldVal t w l)).getLast? with
    | none => simp at h; exact absurd h hne
    | some c => exact ⟨c, by simp, Or.inl (zpad_digits _ _ c (List.mem_of_getLast? h))⟩
  | lit c => exact ⟨c, by simp [printTime], Or.inr rfl⟩

theorem printTime_ends (pf : List Tok) (sep : Char) (h : TimeOK pf sep) (t : Stamp) :
    printTime pf t ≠ [] ∧ (∀ c, (printTime pf t).head? = some c → isWs c = false ∧ c ≠ '#') ∧
    (∀ c, (printTime pf t).getLast? = some c → isWs c = false) := by
  obtain ⟨tk, r, hp⟩ := List.exists_cons_of_ne_nil h.nonempty
  obtain ⟨a, ha, hda⟩ := tokStr_head tk t (printTime r t)
  rw [← printTime_append, List.singleton_append, ← hp] at ha
  refine ⟨fun hnil => ?_, fun c hc => ?_, fun c hc => ?_⟩
  · rw [hnil] at ha; cases ha
  · obtain rfl : a = c := Option.some.inj (ha.symm.trans hc)
    rcases hda with hd | hd
    · exact ⟨(digit_of_digitVal hd).1, fun e => by subst e; revert hd; decide⟩
    · exact ⟨h.headOK a (by rw [hp, hd]; rfl), (h.lits a (by rw [hp, hd]; simp)).2.2.1⟩
  · obtain ⟨b, hb, hdb⟩ := tokStr_last (pf.getLast h.nonempty) t (printTime pf.dropLast t)
    rw [← printTime_append, List.dropLast_concat_getLast h.nonempty] at hb
    obtain rfl : b = c := Option.some.inj (hb.symm.trans hc)
    rcases hdb with hd | hd
    · exact (digit_of_digitVal hd).1
    · exact h.lastOK b (by rw [← hd]; exact List.getLast?_eq_some_getLast h.nonempty)

theorem strip_printTime (pf : List Tok) (sep : Char) (h : TimeOK pf sep) (t : Stamp) :
    strip (printTime pf t) = printTime pf t :=
  strip_eq_self _ (fun c hc => ((printTime_ends pf sep h t).2.1 c hc).1) (printTime_ends pf sep h t).2.2

theorem printTime_avoids (pf : List Tok) (sep : Char) (h : TimeOK pf sep) (hsep : numChar sep = false) (t : Stamp) :
    sep ∉ printTime pf t ∧ '"' ∉ printTime pf t ∧ '\n' ∉ printTime pf t := by
  have key : ∀ x, (digitVal? x).isSome = false → (∀ c, Tok.lit c ∈ pf → c ≠ x) → x ∉ printTime pf t :=
    fun x hd hl => (printTime_over pf t).not_mem (by simpa [timeChar, hd] using fun hm => hl x hm rfl)
  refine ⟨key _ ?_ (fun c hc => (h.lits c hc).1), key _ (by decide) (fun c hc => (h.lits c hc).2.1),
    key _ (by decide) (fun c hc => (h.lits c hc).2.2.2)⟩
  unfold numChar at hsep
  cases hd : (digitVal? sep).isSome with
  | false => rfl
  | true => simp [hd] at hsep

theorem joinChar_head (sep : Char) (a : Str) (r : List Str) (ha : a ≠ []) :
    (joinChar sep (a :: r)).head? = a.head? := by
  cases a with
  | nil => exact absurd rfl ha
  | cons c cs => cases r <;> simp [joinChar]

theorem joinChar_getLast (sep : Char) (fs : List Str) (hne : fs ≠ []) (hl : fs.getLast hne ≠ []) :
    (joinChar sep fs).getLast? = (fs.getLast hne).getLast? := by
  obtain ⟨init, last, rfl⟩ : ∃ init last, fs = init ++ [last] := ⟨_, _, (List.dropLast_concat_getLast hne).symm⟩
  rw [List.getLast_concat] at hl ⊢
  -- the line is `sep.join(init + [""])` followed by the last item
  have e := joinChar_concat_append sep init [] last
  rw [List.nil_append] at e
  rw [← e, List.getLast?_append]
  cases h : last.getLast? with
  | none => exact absurd (List.getLast?_eq_none_iff.1 h) hl
  | some y => rfl

theorem joinChar_ends (sep : Char) (fs : List Str) (hne : fs ≠ [])
    (hf : ∀ s ∈ fs, s ≠ [] ∧ (∀ c, s.head? = some c → isWs c = false ∧ c ≠ '#') ∧ (∀ c, s.getLast? = some c → isWs c = false)) :
    joinChar sep fs ≠ [] ∧ (∀ c, (joinChar sep fs).head? = some c → isWs c = false ∧ c ≠ '#') ∧
      (∀ c, (joinChar sep fs).getLast? = some c → isWs c = false) := by
  obtain ⟨a, r, rfl⟩ := List.exists_cons_of_ne_nil hne
  have ha := hf a (by simp)
  have hhead := joinChar_head sep a r ha.1
  refine ⟨fun hj => ?_, fun c hc => ha.2.1 c (hhead ▸ hc), fun c hc => ?_⟩
  · rw [hj] at hhead
    cases a with
    | nil => exact ha.1 rfl
    | cons c cs => simp at hhead
  · have hlast := hf ((a :: r).getLast hne) (List.getLast_mem hne)
    rw [joinChar_getLast sep (a :: r) hne hlast.1] at hc
    exact hlast.2.2 c hc

end TV.TextIO
