import TracklibVerif.Model.DTWReal
import TracklibVerif.Lemmas.DTWFront
/-! The front ends with an exponent that is any positive number (`Model/DTWReal.lean`): on the arguments of `Model/DTWTable.lean`
(exponent a natural number or infinity, embedded by `toX`) they are the front ends defined there; `_p2weight` on a number that is not a
natural number, and what it can return at all (`p2weightX_ok`); `match` / `compare` after `_exponent` as `_p2weight`, then `warpW`, then
`cmpPostX` (`matchBodyX_eq`, `compareBodyX_eq`); what `warpW` returns. -/
namespace TV.DTW

section exponentX
variable {α : Type}

theorem PArg.toX_exponent (p : PArg) : (p.toX (α := α)).exponent = p.exponent.toX := rfl

theorem PArgX.exponent_numpy (p : PArgX α) (h : p.isNumpy = true) :
    p.exponent.isFn = false ∧ p.exponent.isNum = true ∧ p.exponent.val = p.val ∧ p.exponent.fnw = p.fnw :=
  ⟨(exponentTy_numpy p.tyname h).1, (exponentTy_numpy p.tyname h).2, rfl, rfl⟩

theorem PArgX.exponent_other (p : PArgX α) (h : p.isNumpy = false) : p.exponent = p := by
  obtain ⟨ty, v, f⟩ := p
  simp only [PArgX.exponent]
  rw [exponentTy_other ty h]

theorem PArgX.exponent_isFn (p : PArgX α) : p.exponent.isFn = p.isFn := by
  cases h : p.isNumpy with
  | false => rw [PArgX.exponent_other p h]
  | true => rw [(PArgX.exponent_numpy p h).1]; exact (isNumpy_not_fn p.tyname h).symm

end exponentX

section cascade
variable {α : Type} [Add α] [Mul α] [LT α] [DecidableLT α] [OfNat α 0] [OfNat α 1]

theorem p2weightX_toX (pow : α → α → α) (p : PArg) : p2weightX pow (p.toX (α := α)) = p2weight p := by
  have h1 : (p.toX (α := α)).isFn = p.isFn := rfl
  have h2 : (p.toX (α := α)).isNum = p.isNum := rfl
  unfold p2weightX p2weight
  rw [h1, h2]
  generalize p.isFn = f
  generalize p.isNum = n
  -- the four tests are those of `p2weight`; what they select agrees on every value and every callable
  obtain ⟨ty, val, fnw⟩ := p
  rcases fnw with _ | fw <;> rcases val with _ | (_ | k) | _ <;> simp [PArg.toX, PArgX.isZero, PArgX.isInf, accOf] <;> rfl

/-- `_p2weight(p)` for a number `p = x` that is not a natural number nor infinity and whose type name contains `int` or `float`
(Python `float`, `numpy.float16/32/64`): `lambda A, B: A + B**x` -/
theorem p2weightX_real (pow : α → α → α) (p : PArgX α) (x : α) (hn : p.isNum = true)
    (hv : p.val = some (.real x)) (hx : 0 < x) : p2weightX pow p = .ok (weightX pow (.real x)) := by
  unfold p2weightX PArgX.isZero PArgX.isInf
  simp [hn, hv, accOf, hx]

theorem p2weightX_real_callable (pow : α → α → α) (p : PArgX α) (x : α) (hf : p.isFn = true) (hn : p.isNum = false)
    (hw : p.fnw = some (.real x)) (hv : p.val = none) (hx : 0 < x) : p2weightX pow p = .ok (weightX pow (.real x)) := by
  unfold p2weightX PArgX.isZero PArgX.isInf
  simp [hf, hn, hv, hw, accOf, hx]

/-- a number that is not a natural number nor infinity, of a type whose name contains none of `int`, `float`, `function`
(`numpy.longdouble(1.5)`, `Fraction(3, 2)`, `Decimal('1.5')`): UnboundLocalError -/
theorem p2weightX_real_unbound (pow : α → α → α) (p : PArgX α) (x : α) (hf : p.isFn = false) (hn : p.isNum = false)
    (hv : p.val = some (.real x)) : p2weightX pow p = .error "err:UnboundLocalError" := by
  unfold p2weightX PArgX.isZero PArgX.isInf
  simp [hf, hn, hv]

/-- whatever `_p2weight` returns is `A + B**x` for the value `x` of `p` (`A + (B != 0)` for 0, `max` for infinity), with `0 < x` for
an `x` that is not a natural number -/
theorem p2weightX_ok (pow : α → α → α) (p : PArgX α) (w : α → α → α) (h : p2weightX pow p = .ok w) :
    ∃ e : PExp α, w = weightX pow e ∧ (∀ x, e = .real x → 0 < x) := by
  have hacc : ∀ (v : PExp α) (w : α → α → α), accOf pow v = .ok w → ∃ e : PExp α, w = weightX pow e ∧ (∀ x, e = .real x → 0 < x) := by
    intro v w hv
    cases v with
    | norm n =>
      simp only [accOf] at hv
      cases hv
      exact ⟨.norm n, rfl, fun x hx => by cases hx⟩
    | real x =>
      simp only [accOf] at hv
      split at hv
      · cases hv
        rename_i hx
        exact ⟨.real x, rfl, fun y hy => by cases hy; exact hx⟩
      · cases hv
  have hnorm : ∀ n : PNorm, ∃ e : PExp α, weight (α := α) n = weightX pow e ∧ (∀ x, e = .real x → 0 < x) :=
    fun n => ⟨.norm n, rfl, fun x hx => by cases hx⟩
  unfold p2weightX at h
  by_cases hi : p.isInf = true
  · simp only [hi, if_true] at h
    cases h
    exact hnorm _
  · by_cases hz : p.isZero = true
    · simp only [hi, hz, if_true, if_false, Bool.false_eq_true] at h
      cases h
      exact hnorm _
    · by_cases hn : p.isNum = true
      · simp only [hi, hz, hn, if_true, if_false, Bool.false_eq_true] at h
        cases hv : p.val with
        | none => rw [hv] at h; cases h
        | some v => rw [hv] at h; exact hacc v w h
      · by_cases hf : p.isFn = true
        · simp only [hi, hz, hn, hf, if_true, if_false, Bool.false_eq_true] at h
          cases hv : p.fnw with
          | none => rw [hv] at h; cases h
          | some v => rw [hv] at h; exact hacc v w h
        · simp only [hi, hz, hn, hf, if_false, Bool.false_eq_true] at h
          cases h

end cascade

section frontX
variable {α : Type} [Add α] [Sub α] [Mul α] [Div α] [Neg α] [LT α] [LE α] [DecidableLT α] [DecidableLE α] [OfNat α 0] [OfNat α 1]
  [OfScientific α]

theorem warpOn_eq_warpW (G : Geom α) (big : α) (fast : Bool) (p : PArg) (dim : DimArg α) (a : TrackObj α) (t2 : List (Pt α)) :
    warpOn G big fast p dim a t2 = (p2weight p).bind (fun w => warpW G big fast w dim a t2) := rfl

theorem warpOnX_toX (pow : α → α → α) (G : Geom α) (big : α) (fast : Bool) (p : PArg) (dim : DimArg α) (a : TrackObj α)
    (t2 : List (Pt α)) : warpOnX pow G big fast p.toX dim a t2 = warpOn G big fast p dim a t2 := by
  unfold warpOnX
  rw [p2weightX_toX, warpOn_eq_warpW]
  rfl

theorem matchBodyX_toX (pow : α → α → α) (G : Geom α) (big : α) (mode : Nat) (p : PArg) (dim : DimArg α) (a : TrackObj α)
    (t2 : List (Pt α)) : matchBodyX pow G big mode p.toX dim a t2 = matchBody G big mode p dim a t2 := by
  unfold matchBodyX matchBody
  simp only [warpOnX_toX]

theorem warpCompareX_toX (pow : α → α → α) (G : Geom α) (root : Nat → α → α) (ofNat : Nat → α) (big : α) (fast : Bool) (p : PArg)
    (dim : DimArg α) (a : TrackObj α) (t2 : List (Pt α)) :
    warpCompareX pow G root ofNat big fast p.toX dim a t2 = warpCompare G root ofNat big fast p dim a t2 := by
  unfold warpCompareX warpCompare
  rw [warpOnX_toX]
  cases warpOn G big fast p dim a t2 with
  | error e => rfl
  | ok m =>
    have h1 : (p.toX (α := α)).isFn = p.isFn := rfl
    simp only [bind, Except.bind, h1]
    generalize p.isFn = f
    obtain ⟨ty, val, fnw⟩ := p
    rcases val with _ | (_ | k) | _ <;> simp [PArg.toX, PArgX.isZero, PArgX.isInf]

theorem compareBodyX_toX (pow : α → α → α) (G : Geom α) (root : Nat → α → α) (ofNat : Nat → α) (big : α) (mode : Nat) (p : PArg)
    (dim : DimArg α) (a : TrackObj α) (t2 : List (Pt α)) :
    compareBodyX pow G root ofNat big mode p.toX dim a t2 = compareBody G root ofNat big mode p dim a t2 := by
  unfold compareBodyX compareBody
  simp only [warpCompareX_toX]

/-- **on the arguments of `Model/DTWTable.lean` the front end `matchCallX` that the driver runs is `matchCall`** -/
theorem matchCallX_toX (pow : α → α → α) (G : Geom α) (big : α) (mode : Nat) (p : PArg) (dim : DimArg α) (a : TrackObj α)
    (t2 : List (Pt α)) : matchCallX pow G big mode p.toX dim a t2 = matchCall G big mode p dim a t2 := by
  unfold matchCallX matchCall
  rw [PArg.toX_exponent, matchBodyX_toX]

theorem compareCallX_toX (pow : α → α → α) (G : Geom α) (root : Nat → α → α) (ofNat : Nat → α) (big : α) (mode : Nat) (p : PArg)
    (dim : DimArg α) (a : TrackObj α) (t2 : List (Pt α)) :
    compareCallX pow G root ofNat big mode p.toX dim a t2 = compareCall G root ofNat big mode p dim a t2 := by
  unfold compareCallX compareCall
  rw [PArg.toX_exponent, compareBodyX_toX]

theorem runSeqX_toX (pow : α → α → α) (G : Geom α) (root : Nat → α → α) (ofNat : Nat → α) (big : α)
    (steps : List (Step α)) (env : List (Option (TrackObj α))) :
    runSeqX pow G root ofNat big env (steps.map Step.toX) = runSeq G root ofNat big env steps := by
  fun_induction runSeq G root ofNat big env steps
  all_goals simp only [List.map_cons, List.map_nil, runSeqX, Step.toX, matchCallX_toX, compareCallX_toX, if_true, if_false,
    Bool.false_eq_true, *]
  rfl

theorem matchBodyX_eq (pow : α → α → α) (G : Geom α) (big : α) (mode : Nat) (p : PArgX α) (dim : DimArg α) (a : TrackObj α)
    (t2 : List (Pt α)) :
    matchBodyX pow G big mode p dim a t2 =
      if mode = 2 ∨ mode = 3 ∨ mode = 4 then
        (p2weightX pow (if mode = 4 then PArg.pyInf.toX else p)).bind fun w => warpW G big (decide (mode = 3)) w dim a t2
      else .error (if mode = 1 then "unmodelled" else "err:UnknownModeError") := by
  unfold matchBodyX
  by_cases m1 : mode = 1; · subst m1; rfl
  by_cases m4 : mode = 4; · subst m4; rfl
  by_cases m2 : mode = 2; · subst m2; rfl
  by_cases m3 : mode = 3; · subst m3; rfl
  rw [if_neg m1, if_neg m4, if_neg m2, if_neg m3, if_neg (by omega), if_neg m1]

/-- what `_dtw_comparison` (`fast = false`) / `_fdtw_comparison` make of the matching `m`: the part of `warpCompareX` after its first line -/
def cmpPostX (pow : α → α → α) (root : Nat → α → α) (ofNat : Nat → α) (fast : Bool) (p : PArgX α) (m : Out α) : Except String α :=
  if p.isZero = true ∨ p.isInf = true ∨ (fast = false ∧ p.isFn = true) then pure m.score
  else match p.val with
    | some (.norm (.nat k)) => pure (root k (m.score / ofNat m.nbLinks))
    | some (.real x) => pure (pow (m.score / ofNat m.nbLinks) (1 / x))
    | _ => .error (if p.isFn then "err:type" else "unmodelled")

theorem compareBodyX_eq (pow : α → α → α) (G : Geom α) (root : Nat → α → α) (ofNat : Nat → α) (big : α) (mode : Nat) (p : PArgX α)
    (dim : DimArg α) (a : TrackObj α) (t2 : List (Pt α)) :
    compareBodyX pow G root ofNat big mode p dim a t2 =
      if mode = 106 ∨ mode = 107 ∨ mode = 108 then
        (matchBodyX pow G big (mode - 104) p dim a t2).bind
          (cmpPostX pow root ofNat (decide (mode = 107)) (if mode = 108 then PArg.pyInf.toX else p))
      else .error (if mode = 101 ∨ mode = 109 ∨ mode = 102 ∨ mode = 103 ∨ mode = 104 ∨ mode = 105 then "unmodelled"
        else "err:UnknownModeError") := by
  unfold compareBodyX
  by_cases m8 : mode = 108; · subst m8; rfl
  by_cases m6 : mode = 106; · subst m6; rfl
  by_cases m7 : mode = 107; · subst m7; rfl
  rw [if_neg (show ¬(mode = 106 ∨ mode = 107 ∨ mode = 108) by omega), if_neg m8, if_neg m6, if_neg m7]
  exact (apply_ite Except.error _ _ _).symm

end frontX

section warp
variable {α : Type} [Add α] [Sub α] [Mul α] [Div α] [Neg α] [LinearOrder α] [OfNat α 0] [OfScientific α]

theorem warpW_eq (G : Geom α) (big : α) (fast : Bool) (w : α → α → α) (dim : DimArg α) (dist : Pt α → Pt α → α)
    (hd : distanceOf G dim = .ok dist) (a : TrackObj α) (t2 : List (Pt α)) (h1 : 0 < a.pts.length) (h2 : 0 < t2.length) :
    warpW G big fast w dim a t2 =
      match (if fast then fdtwOn dist big w a.rows a.pts t2 else dtwOn dist w a.rows a.pts t2) with
      | some o => .ok o
      | none => .error "err:index" := by
  simp only [warpW, hd, List.isEmpty_eq_false_iff.mpr (List.ne_nil_of_length_pos h1),
    List.isEmpty_eq_false_iff.mpr (List.ne_nil_of_length_pos h2), Bool.false_eq_true, if_false]
  rfl

/-- `match` in the modes DTW (2) / FDTW (3), once `_p2weight(_exponent(p))` has returned `w`: `_dtw` / `_fdtw` with `w` -/
theorem matchCallX_ok [OfNat α 1] (pow : α → α → α) (G : Geom α) (big : α) (fast : Bool) (p : PArgX α) (w : α → α → α)
    (hp : p2weightX pow p.exponent = .ok w) (dim : DimArg α) (a : TrackObj α) (t2 : List (Pt α)) :
    matchCallX pow G big (if fast then 3 else 2) p dim a t2 = warpW G big fast w dim a t2 := by
  unfold matchCallX
  cases fast <;> simp only [matchBodyX_eq, Bool.false_eq_true, if_false, if_true, Nat.reduceEqDiff, or_true, true_or, hp] <;> rfl

end warp
end TV.DTW
