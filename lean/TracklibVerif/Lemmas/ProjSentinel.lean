import TracklibVerif.Model.Proj
/-! Agreement of the two renderings of the sentinel `distmin = 1e400` of `proj_polyligne` (C20, shared by C10).

`Model/Proj.lean` has the loop twice: the `none`-state forms (`polyLoop / projPolyligne / polyLoopXY / projPolyligneXY`:
the sentinel is "no current minimum", every distance beats it — the forms the theorems of `Props/C20.lean` are about) and
the sentinel-faithful S-forms (`polyLoopS / projPolyligneS / polyLoopXYS / projPolyligneXYS`: the test is `dist < inf`
as in the code, and the lines after the loop — `if distmin == 1e400: distmin = math.sqrt((x - xproj) ** 2 + (y - yproj) ** 2)`,
the code since the `fix:` commit 563eeba — are evaluated literally on the code's state by `finishS`, with the squaring `sq` a
parameter — the forms `Tie/C20.lean` proves equal to the translated source on ALL inputs). This file proves that
they are EQUAL whenever every distance the loop meets (on a segment that is not skipped and on which `proj_segment`
returns) is `< inf`, a value `< inf` is not `== inf`, `inf == inf`, and `sq v = .ok (v * v)`; and that the first hypothesis is
what separates the loops (`projPolyligneXYS_single_not_lt`). It also relates, for both renderings at once, the loop on two
sequences to the loop on the zipped vertices (`polyLoopXY_zip`).

Core Lean only, bare operation classes: nothing is assumed of the scalar type, so the statements hold for IEEE doubles
(`inf = +∞`: the hypotheses say "no distance is `inf`/NaN, no square overflows into an `OverflowError`") as well as for an
ordered field (any `inf` above the distances, `sq v := .ok (v * v)`). -/
namespace TV.Proj

theorem betterS_eq_better {α : Type} [LT α] [DecidableLT α] (inf dist : α) (cur : Option (α × α × α × Nat)) (h : dist < inf) :
    betterS inf dist cur = better dist cur := by
  cases cur with
  | none => exact decide_eq_true h
  | some c => rfl

theorem betterS_some {α : Type} [LT α] [DecidableLT α] (inf dist : α) (c : α × α × α × Nat) : betterS inf dist (some c) = better dist (some c) := rfl

theorem zip_map_fst_snd {β γ : Type} (l : List (β × γ)) : (l.map Prod.fst).zip (l.map Prod.snd) = l := by
  rw [← List.unzip_fst, ← List.unzip_snd, List.zip_unzip]

theorem mapError_base_inj {β : Type} {a b : Except Err β} (h : a.mapError ErrX.base = b.mapError ErrX.base) : a = b := by
  cases a <;> cases b <;> cases h <;> rfl

section
variable {α : Type} [Add α] [Sub α] [Mul α] [Div α] [Neg α] [LT α] [LE α]
  [DecidableLT α] [DecidableLE α] [OfNat α 0]

/-- with Python numbers (`np = false`) `projSegmentG` is `projSegment` -/
theorem projSegmentG_false (sqrt : α → α) (x1 y1 x2 y2 x y : α) :
    projSegmentG false sqrt x1 y1 x2 y2 x y = projSegment sqrt x1 y1 x2 y2 x y := rfl

theorem polyLoopXY_zip (np : Bool) (sqrt : α → α) (eps x y : α) :
    ∀ (X Y : List α) (i : Nat) (cur : Option (α × α × α × Nat)), X.length ≤ Y.length →
      (∀ k p1 p2, (X.zip Y)[k]? = some p1 → (X.zip Y)[k + 1]? = some p2 → skipped eps p1.1 p1.2 p2.1 p2.2 = false →
        projSegmentG np sqrt p1.1 p1.2 p2.1 p2.2 x y = projSegment sqrt p1.1 p1.2 p2.1 p2.2 x y) →
      polyLoopXY np sqrt eps x y X Y i cur = (polyLoop sqrt eps x y (X.zip Y) i cur).mapError ErrX.base ∧
      ∀ inf, polyLoopXYS np inf sqrt eps x y X Y i cur = (polyLoopS inf sqrt eps x y (X.zip Y) i cur).mapError ErrX.base := by
  intro X
  induction X with
  | nil => exact fun Y i cur _ _ => ⟨rfl, fun _ => rfl⟩
  | cons x1 tl ih =>
    cases tl with
    | nil =>
      intro Y i cur hl _
      match Y, hl with
      | _ :: _, _ => exact ⟨rfl, fun _ => rfl⟩
    | cons x2 xs =>
      intro Y i cur hl hseg
      match Y, hl with
      | [_], hl => exact absurd hl (by simp)
      | y1 :: y2 :: ys', hl =>
        have ih := fun c => ih (y2 :: ys') (i + 1) c (Nat.le_of_succ_le_succ hl)
          fun k p1 p2 h1 h2 => hseg (k + 1) p1 p2 h1 h2
        cases hsk : skipped eps x1 y1 x2 y2 with
        | true =>
          simp only [List.zip_cons_cons, polyLoopXY, polyLoopXYS, polyLoop, polyLoopS, hsk, if_true]
          exact ih cur
        | false =>
          have h0 := hseg 0 (x1, y1) (x2, y2) rfl rfl hsk
          cases hp : projSegment sqrt x1 y1 x2 y2 x y with
          | error e =>
            simp only [List.zip_cons_cons, polyLoopXY, polyLoopXYS, polyLoop, polyLoopS, hsk, h0, hp]
            exact ⟨rfl, fun _ => rfl⟩
          | ok r =>
            simp only [List.zip_cons_cons, polyLoopXY, polyLoopXYS, polyLoop, polyLoopS, hsk, h0, hp]
            exact ⟨(ih _).1, fun inf => (ih _).2 inf⟩

theorem polyLoopXY_pairs (sqrt : α → α) (eps x y : α) (pts : List (α × α)) (i : Nat) (cur : Option (α × α × α × Nat)) :
    polyLoopXY false sqrt eps x y (pts.map Prod.fst) (pts.map Prod.snd) i cur =
        (polyLoop sqrt eps x y pts i cur).mapError ErrX.base ∧
      ∀ inf, polyLoopXYS false inf sqrt eps x y (pts.map Prod.fst) (pts.map Prod.snd) i cur =
        (polyLoopS inf sqrt eps x y pts i cur).mapError ErrX.base := by
  have h := polyLoopXY_zip false sqrt eps x y (pts.map Prod.fst) (pts.map Prod.snd) i cur
    (by rw [List.length_map, List.length_map]; exact Nat.le_refl _) fun _ _ _ _ _ _ => projSegmentG_false ..
  rwa [zip_map_fst_snd] at h

/-- **agreement of the two-sequence loops**: if on every segment `j` of the two sequences that is not skipped and on
which `proj_segment` returns the distance is `< inf` (and so is the current best, if there is one), the sentinel-faithful
loop is the `none`-state loop (from any index), and a minimum it ends with is `< inf`: it is one of the distances met -/
theorem polyLoopXYS_eq (np : Bool) (inf : α) (sqrt : α → α) (eps x y : α) (X Y : List α) (i : Nat)
    (cur : Option (α × α × α × Nat))
    (hinf : ∀ (j : Nat) (x1 y1 x2 y2 : α) (r : α × α × α), X[j]? = some x1 → Y[j]? = some y1 → X[j + 1]? = some x2 →
      Y[j + 1]? = some y2 → skipped eps x1 y1 x2 y2 = false →
      projSegmentG np sqrt x1 y1 x2 y2 x y = .ok r → r.1 < inf)
    (hc : ∀ c, cur = some c → c.1 < inf) :
    polyLoopXYS np inf sqrt eps x y X Y i cur = polyLoopXY np sqrt eps x y X Y i cur ∧
      ∀ c, polyLoopXY np sqrt eps x y X Y i cur = .ok (some c) → c.1 < inf := by
  -- the branches of `polyLoop` (no segment left, skipped, raises, returns `r`) and a sixth: `Yp` runs out
  fun_induction polyLoopXY np sqrt eps x y X Y i cur with
  | case1 | case2 => exact ⟨rfl, fun c h => hc c (Except.ok.inj h)⟩
  | case3 x1 x2 xs i cur y1 y2 ys hsk ih =>
    rw [polyLoopXYS, if_pos hsk]
    exact ih (fun j => hinf (j + 1)) hc
  | case4 x1 x2 xs i cur y1 y2 ys hsk e hp =>
    rw [polyLoopXYS, if_neg hsk, hp]
    exact ⟨rfl, fun c h => nomatch h⟩
  | case5 x1 x2 xs i cur y1 y2 ys hsk r hp cur' ih =>
    have hlt : r.1 < inf := hinf 0 x1 y1 x2 y2 r rfl rfl rfl rfl (eq_false_of_ne_true hsk) hp
    rw [polyLoopXYS, if_neg hsk, hp]
    simp only [betterS_eq_better inf r.1 cur hlt]
    refine ih (fun j => hinf (j + 1)) fun c hc' => ?_
    simp only [cur'] at hc'
    split at hc'
    · cases hc'; exact hlt
    · exact hc c hc'
  | case6 x1 x2 xs ys i cur hys =>
    rw [polyLoopXYS]
    · exact ⟨rfl, fun c h => nomatch h⟩
    · exact hys

end

section
variable {α : Type} [Add α] [Sub α] [LE α] [DecidableLE α]

theorem finishS_kept (inf : α) (sqrt : α → α) (sq : α → Except Err α) (x y : α) (s : α × α × α × Nat)
    (h : isEq s.1 inf = false) : finishS inf sqrt sq x y s = .ok s := by
  unfold finishS; rw [h]; rfl

variable [Mul α]

theorem finishS_none (inf : α) (sqrt : α → α) (sq : α → Except Err α) (x y x0 y0 : α)
    (hii : isEq inf inf = true) (hsq : ∀ v, sq v = .ok (v * v)) :
    finishS inf sqrt sq x y (encS inf x0 y0 none) = .ok (firstVertex sqrt x y x0 y0) := by
  simp only [finishS, encS, hii, hsq, firstVertex, if_true]

end

section
variable {α : Type} [Add α] [Sub α] [Mul α] [Div α] [Neg α] [LT α] [LE α]
  [DecidableLT α] [DecidableLE α] [OfNat α 0]

/-- **agreement for `proj_polyligne(Xp, Yp, x, y)`**: under the hypotheses that every distance met is `< inf`, that a value
`< inf` is not `== inf`, that `inf == inf`, and that `v ** 2` is `v * v` (never raising), the sentinel-faithful
`projPolyligneXYS` (what the code does) is `projPolyligneXY` (what the theorems are about), exceptions included. All four
hold for finite distances on doubles with `inf = +∞` away from the overflow of `v ** 2`, and in an ordered field for any
`inf` above the distances. -/
theorem projPolyligneXYS_eq (np : Bool) (inf : α) (sqrt : α → α) (sq : α → Except Err α) (eps : α) (X Y : List α) (x y : α)
    (hinf : ∀ (j : Nat) (x1 y1 x2 y2 : α) (r : α × α × α), X[j]? = some x1 → Y[j]? = some y1 → X[j + 1]? = some x2 →
      Y[j + 1]? = some y2 → skipped eps x1 y1 x2 y2 = false →
      projSegmentG np sqrt x1 y1 x2 y2 x y = .ok r → r.1 < inf)
    (hne : ∀ d : α, d < inf → isEq d inf = false) (hii : isEq inf inf = true) (hsq : ∀ v, sq v = .ok (v * v)) :
    projPolyligneXYS np inf sqrt sq eps X Y x y = projPolyligneXY np sqrt eps X Y x y := by
  obtain ⟨e, hlt⟩ := polyLoopXYS_eq np inf sqrt eps x y X Y 0 none hinf nofun
  -- the outcomes of the wrapper: `Xp[0]` / `Yp[0]` raises, the loop raises, ends with nothing kept, ends with `r`
  fun_cases projPolyligneXY np sqrt eps X Y x y with
  | case1 | case2 => rfl
  | case3 x0 xs y0 ys e' hl => rw [projPolyligneXYS, e, hl]
  | case4 x0 xs y0 ys hl =>
    rw [projPolyligneXYS, e, hl]; exact congrArg (Except.mapError ErrX.base) (finishS_none inf sqrt sq x y x0 y0 hii hsq)
  | case5 x0 xs y0 ys r hl =>
    rw [projPolyligneXYS, e, hl]; exact congrArg (Except.mapError ErrX.base) (finishS_kept inf sqrt sq x y r (hne r.1 (hlt r hl)))

/-- the same with Python numbers (`np = false`), the sentinel hypothesis stated on the kernel `projSegment`: literally the
hypothesis `hinf` of `Tie/C20.lean` `tie_proj_polyligne` -/
theorem projPolyligneXYS_eq_false (inf : α) (sqrt : α → α) (sq : α → Except Err α) (eps : α) (X Y : List α) (x y : α)
    (hinf : ∀ (j : Nat) (x1 y1 x2 y2 : α) (r : α × α × α), X[j]? = some x1 → Y[j]? = some y1 → X[j + 1]? = some x2 →
      Y[j + 1]? = some y2 → skipped eps x1 y1 x2 y2 = false →
      projSegment sqrt x1 y1 x2 y2 x y = .ok r → r.1 < inf)
    (hne : ∀ d : α, d < inf → isEq d inf = false) (hii : isEq inf inf = true) (hsq : ∀ v, sq v = .ok (v * v)) :
    projPolyligneXYS false inf sqrt sq eps X Y x y = projPolyligneXY false sqrt eps X Y x y :=
  projPolyligneXYS_eq false inf sqrt sq eps X Y x y
    (fun j x1 y1 x2 y2 r h1 h2 h3 h4 hs hp => hinf j x1 y1 x2 y2 r h1 h2 h3 h4 hs (projSegmentG_false sqrt x1 y1 x2 y2 x y ▸ hp))
    hne hii hsq

/-- **agreement of the loops on a vertex list**: `polyLoopXYS_eq` on the abscissas and the ordinates of the vertices -/
theorem polyLoopS_eq (inf : α) (sqrt : α → α) (eps x y : α) (pts : List (α × α)) (i : Nat) (cur : Option (α × α × α × Nat))
    (hinf : ∀ (j : Nat) (p1 p2 : α × α) (r : α × α × α), pts[j]? = some p1 → pts[j + 1]? = some p2 →
      skipped eps p1.1 p1.2 p2.1 p2.2 = false → projSegment sqrt p1.1 p1.2 p2.1 p2.2 x y = .ok r → r.1 < inf)
    (hc : ∀ c, cur = some c → c.1 < inf) :
    polyLoopS inf sqrt eps x y pts i cur = polyLoop sqrt eps x y pts i cur ∧
      ∀ c, polyLoop sqrt eps x y pts i cur = .ok (some c) → c.1 < inf := by
  obtain ⟨e, eS⟩ := polyLoopXY_pairs sqrt eps x y pts i cur
  have h := polyLoopXYS_eq false inf sqrt eps x y (pts.map Prod.fst) (pts.map Prod.snd) i cur
    (fun j x1 y1 x2 y2 r h1 h2 h3 h4 => hinf j (x1, y1) (x2, y2) r
      (zip_map_fst_snd pts ▸ List.getElem?_zip_eq_some.mpr ⟨h1, h2⟩)
      (zip_map_fst_snd pts ▸ List.getElem?_zip_eq_some.mpr ⟨h3, h4⟩)) hc
  rw [e, eS inf] at h
  exact ⟨mapError_base_inj h.1, fun c hc => h.2 c (by rw [hc]; rfl)⟩

/-- **agreement for `proj_polyligne` on a vertex list** (the kernel form `projPolyligne` of the theorems), same hypotheses -/
theorem projPolyligneS_eq (inf : α) (sqrt : α → α) (sq : α → Except Err α) (eps : α) (pts : List (α × α)) (x y : α)
    (hinf : ∀ (j : Nat) (p1 p2 : α × α) (r : α × α × α), pts[j]? = some p1 → pts[j + 1]? = some p2 →
      skipped eps p1.1 p1.2 p2.1 p2.2 = false → projSegment sqrt p1.1 p1.2 p2.1 p2.2 x y = .ok r → r.1 < inf)
    (hne : ∀ d : α, d < inf → isEq d inf = false) (hii : isEq inf inf = true) (hsq : ∀ v, sq v = .ok (v * v)) :
    projPolyligneS inf sqrt sq eps pts x y = projPolyligne sqrt eps pts x y := by
  obtain ⟨e, hlt⟩ := polyLoopS_eq inf sqrt eps x y pts 0 none hinf nofun
  fun_cases projPolyligne sqrt eps pts x y with
  | case1 => rfl
  | case2 p0 rest e' hl => rw [projPolyligneS, e, hl]
  | case3 p0 rest hl => rw [projPolyligneS, e, hl]; exact finishS_none inf sqrt sq x y p0.1 p0.2 hii hsq
  | case4 p0 rest r hl => rw [projPolyligneS, e, hl]; exact finishS_kept inf sqrt sq x y r (hne r.1 (hlt r hl))

/-- the sentinel hypothesis is what separates the two forms: on ONE kept segment whose distance is not `< inf` (a distance
that is `inf` or NaN on doubles) the sentinel-faithful form keeps nothing and answers from the FIRST VERTEX (`finishS` on
the initial state, as the code does since 563eeba; before, it raised `UnboundLocalError`) while the `none`-state form
returns that segment -/
theorem projPolyligneXYS_single_not_lt (np : Bool) (inf : α) (sqrt : α → α) (sq : α → Except Err α) (eps x1 y1 x2 y2 x y : α)
    (r : α × α × α)
    (hs : skipped eps x1 y1 x2 y2 = false) (hp : projSegmentG np sqrt x1 y1 x2 y2 x y = .ok r) (hn : ¬ r.1 < inf) :
    projPolyligneXYS np inf sqrt sq eps [x1, x2] [y1, y2] x y =
        (finishS inf sqrt sq x y (inf, x1, y1, 0)).mapError ErrX.base ∧
      projPolyligneXY np sqrt eps [x1, x2] [y1, y2] x y = .ok (r.1, r.2.1, r.2.2, 0) := by
  have hd : decide (r.1 < inf) = false := decide_eq_false hn
  constructor
  · simp only [projPolyligneXYS, polyLoopXYS, hs, hp, betterS, hd]
    rfl
  · simp only [projPolyligneXY, polyLoopXY, hs, hp, better]
    rfl

end
end TV.Proj
