import TracklibVerif.Lemmas.PartitionTable
/-! The matrices built by the front ends (`optimalSegmentation`, `findStopsGlobal`): the nested loops with in-place
assignment (and, for stop detection, the `break`) compute the closed forms; before them, the calls of the cost function
(`segCall`) against the function `segCost` selects. Core Lean only. -/
namespace TV.Partition
variable {α : Type}

theorem segCall_eq {γ : Type} (c : CostFn γ α) (glob : Option γ) (i : Nat) (e : Int) :
    segCall c glob i e = match segCost c glob with
      | some f => .ok (f i e)
      | none => .error .type := by
  cases c <;> cases glob <;> rfl

theorem segCost_of_ok {γ : Type} {c : CostFn γ α} {glob : Option γ} {req : Nat → Int → α}
    (h : ∀ i e, segCall c glob i e = .ok (req i e)) : segCost c glob = some req := by
  simp only [segCall_eq] at h
  generalize segCost c glob = s at h ⊢
  cases s with
  | none => cases h 0 0
  | some f => exact congrArg some (funext fun i => funext fun e => Except.ok.inj (h i e))

theorem segCost_of_error {γ : Type} {c : CostFn γ α} {glob : Option γ}
    (h : ∀ i e, segCall c glob i e = .error .type) : segCost c glob = none := by
  simp only [segCall_eq] at h
  generalize segCost c glob = s at h ⊢
  cases s with
  | none => rfl
  | some f => cases h 0 0

/-- `optimalSegmentationPy` on a track long enough for the cost function to be called: the first call decides -/
theorem optimalSegmentationPy_of_three_le {γ : Type} [Add α] [LT α] [DecidableLT α] (zero : α) {size : Nat} (h : 3 ≤ size)
    (c : CostFn γ α) (glob : Option γ) (mode : Nat) :
    optimalSegmentationPy zero size c glob mode =
      match segCost c glob with
      | some cost => .ok (optimalSegmentation zero size cost mode)
      | none => .error .type := by
  unfold optimalSegmentationPy
  rw [if_neg (by omega), if_neg (by omega)]
  cases segCost c glob with
  | none => exact if_neg (by omega)
  | some f => rfl

/-- one row: `for j in range(lo, lo+n): C[i,j] = v j` -/
theorem row_write (C : Nat → Nat → α) (i lo : Nat) (v : Nat → α) :
    ∀ n a b, loop lo n (fun j C => upd C i j (v j)) C a b =
      if a = i ∧ lo ≤ b ∧ b < lo + n then v b else C a b := by
  intro n
  induction n with
  | zero => intro a b; simp only [loop]; rw [if_neg (by omega)]
  | succ n ih =>
    intro a b
    simp only [loop, upd]
    by_cases h : a = i ∧ b = lo + n
    · rw [if_pos h, if_pos ⟨h.1, by omega, by omega⟩, h.2]
    · rw [if_neg h, ih]; exact ite_iff_congr (by omega) _ _

/-- rows `0 … m−1`, row `i` written from column `lo i` up to column `hi`:
`for i in range(m): for j in range(lo(i), hi): C[i,j] = v i j` -/
theorem rows_write (C : Nat → Nat → α) (lo : Nat → Nat) (hi : Nat) (v : Nat → Nat → α) (m a b : Nat) :
    loop 0 m (fun i C => loop (lo i) (hi - lo i) (fun j C => upd C i j (v i j)) C) C a b =
      if a < m ∧ lo a ≤ b ∧ b < hi then v a b else C a b := by
  induction m with
  | zero => rw [if_neg (by omega)]; rfl
  | succ m ih =>
    simp only [loop, Nat.zero_add]
    rw [row_write]
    have hlo : a = m → lo a = lo m := congrArg lo
    by_cases h : a = m ∧ lo m ≤ b ∧ b < lo m + (hi - lo m)
    · rw [if_pos h, if_pos (by omega), h.1]
    · rw [if_neg h, ih]
      exact ite_iff_congr (by omega) _ _

theorem segFill_eq (zero : α) (size : Nat) (cost : Nat → Int → α) (a b : Nat) :
    segFill zero size cost a b =
      if a + 2 < size ∧ a ≤ b ∧ b + 1 < size then cost a ((b : Int) - 1) else zero := by
  unfold segFill
  rw [rows_write (fun _ _ => zero) (fun i => i) (size - 1) (fun i j => cost i ((j : Int) - 1))]
  exact ite_iff_congr (by omega) _ _

theorem segMatrixL_eq [Add α] (zero : α) (size : Nat) (cost : Nat → Int → α) :
    segMatrixL zero size cost = segMatrix zero size cost := by
  funext a b
  simp only [segMatrixL, addTranspose, segMatrix, segFill_eq]

/-- has the `j` loop of row `i` met `far(i, j'−1)` for some `i < j' ≤ i + n` -/
def farBefore (p : StopPred) (i : Nat) : Nat → Bool
  | 0 => false
  | n+1 => farBefore p i n || p.far i (i + n)

theorem farBefore_iff (p : StopPred) (i : Nat) : ∀ n, farBefore p i n = true ↔ ∃ j, i < j ∧ j ≤ i + n ∧ p.far i (j - 1) = true := by
  intro n
  induction n with
  | zero => simp only [farBefore]; constructor
            · intro h; cases h
            · rintro ⟨j, h1, h2, _⟩; omega
  | succ n ih =>
    simp only [farBefore, Bool.or_eq_true, ih]
    constructor
    · rintro (⟨j, h1, h2, h3⟩ | h)
      · exact ⟨j, h1, by omega, h3⟩
      · exact ⟨i + n + 1, by omega, by omega, by simpa using h⟩
    · rintro ⟨j, h1, h2, h3⟩
      by_cases hj : j = i + n + 1
      · right; subst hj; simpa using h3
      · left; exact ⟨j, h1, by omega, h3⟩

/-- the first `n` passages of the `j` loop of row `i` -/
def rowLoop (zero : α) (sq : Nat → α) (p : StopPred) (i n : Nat) (C : Nat → Nat → α) : (Nat → Nat → α) × Bool :=
  loop (i + 1) n (fun j (st : (Nat → Nat → α) × Bool) =>
    if st.2 then st
    else if p.far i (j - 1) then (upd st.1 i j zero, true)
    else (upd st.1 i j (stopCell zero sq p i j), false)) (C, false)

/-- what the `j` loop of row `i` leaves in cell `(i, b)` of a row that was all zero: the cell's value if the loop got there,
`0` where it broke, and the untouched `0` after that -/
def rowVal (zero : α) (sq : Nat → α) (p : StopPred) (i b : Nat) : α :=
  if farBefore p i (b - i) = false then stopCell zero sq p i b else zero

theorem rowLoop_succ (zero : α) (sq : Nat → α) (p : StopPred) (i n : Nat) (C : Nat → Nat → α) :
    rowLoop zero sq p i (n + 1) C =
      if (rowLoop zero sq p i n C).2 = true then rowLoop zero sq p i n C
      else if p.far i (i + n) = true then (upd (rowLoop zero sq p i n C).1 i (i + 1 + n) zero, true)
      else (upd (rowLoop zero sq p i n C).1 i (i + 1 + n) (stopCell zero sq p i (i + 1 + n)), false) := by
  have e : i + 1 + n - 1 = i + n := by omega
  unfold rowLoop
  simp only [loop]
  rw [e]

/-- on a row that is still zero, a passage skipped after the `break` does what a passage writing `0` would do: the `j` loop is
the plain loop that writes `rowVal` in every cell -/
theorem rowLoop_eq (zero : α) (sq : Nat → α) (p : StopPred) (i : Nat) (C : Nat → Nat → α) (hrow : ∀ b, C i b = zero) : ∀ n,
    rowLoop zero sq p i n C = (loop (i + 1) n (fun j C => upd C i j (rowVal zero sq p i j)) C, farBefore p i n)
  | 0 => rfl
  | n + 1 => by
    have hz : loop (i + 1) n (fun j C => upd C i j (rowVal zero sq p i j)) C i (i + 1 + n) = zero := by
      rw [row_write, if_neg (by omega), hrow]
    rw [rowLoop_succ, rowLoop_eq zero sq p i C hrow n]
    simp only [loop]
    unfold rowVal
    rw [show i + 1 + n - i = n + 1 by omega]
    have hfb : farBefore p i (n + 1) = (farBefore p i n || p.far i (i + n)) := rfl
    by_cases hb : farBefore p i n = true
    · rw [if_pos hb, show farBefore p i (n + 1) = true by rw [hfb, hb]; rfl]
      exact Prod.ext ((upd_self _ i (i + 1 + n)).symm.trans (congrArg (upd _ i (i + 1 + n)) hz)) hb
    · rw [if_neg hb]
      by_cases hf : p.far i (i + n) = true
      · rw [if_pos hf, show farBefore p i (n + 1) = true by rw [hfb, hf, Bool.or_true]]; rfl
      · rw [if_neg hf, show farBefore p i (n + 1) = false by
          rw [hfb, Bool.eq_false_iff.mpr hb, Bool.eq_false_iff.mpr hf]; rfl]
        rfl

/-- every row is still zero when its turn comes: the row loops are plain writing loops, whose closed form is `rows_write` -/
theorem stopsFill_loop (zero : α) (sq : Nat → α) (p : StopPred) (size : Nat) : ∀ m,
    loop 0 m (fun i C => (stopsRow zero sq p size i C).1) (fun _ _ => zero) =
      loop 0 m (fun i C => loop (i + 1) (size - 1 - (i + 1)) (fun j C => upd C i j (rowVal zero sq p i j)) C) (fun _ _ => zero)
  | 0 => rfl
  | m + 1 => by
    simp only [loop, Nat.zero_add]
    rw [stopsFill_loop zero sq p size m]
    exact congrArg Prod.fst (rowLoop_eq zero sq p m _ (fun b => by rw [rows_write, if_neg (by omega)]) _)

/-- the reward `findStopsGlobal` writes in cell `(i, j)`, `i < j`: `(j−i)²` when the row loop reaches `j` (no earlier
end point met the `break` test `far`), the `continue` test `short` fails and the size of the segment is admitted
(`small = some true`); `0` otherwise -/
def stopsReward (zero : α) (sq : Nat → α) (p : StopPred) (size i j : Nat) : α :=
  if i + 2 < size ∧ i < j ∧ j + 1 < size ∧ farBefore p i (j - i) = false then stopCell zero sq p i j else zero

theorem stopsFill_eq (zero : α) (sq : Nat → α) (p : StopPred) (size a b : Nat) :
    stopsFill zero sq p size a b = stopsReward zero sq p size a b := by
  unfold stopsFill stopsReward
  rw [stopsFill_loop, rows_write]
  unfold rowVal
  by_cases h : a + 2 < size ∧ a < b ∧ b + 1 < size
  · rw [if_pos (by omega)]
    cases hf : farBefore p a (b - a)
    · rw [if_pos rfl, if_pos ⟨h.1, h.2.1, h.2.2, rfl⟩]
    · rw [if_neg Bool.true_eq_false.mp, if_neg (fun c => absurd c.2.2.2 Bool.true_eq_false.mp)]
  · rw [if_neg (by omega), if_neg (fun c => h ⟨c.1, c.2.1, c.2.2.1⟩)]

theorem stopsReward_cases (zero : α) (sq : Nat → α) (p : StopPred) (size a b : Nat) (hab : a < b) (hb : b ≤ size - 2)
    (hs : 3 ≤ size) :
    (((∃ j, a < j ∧ j ≤ b ∧ p.far a (j - 1) = true) ∨ p.short a (b - 1) = true ∨ p.small a (b - 1) ≠ some true) →
      stopsReward zero sq p size a b = zero) ∧
    (¬ ((∃ j, a < j ∧ j ≤ b ∧ p.far a (j - 1) = true) ∨ p.short a (b - 1) = true ∨ p.small a (b - 1) ≠ some true) →
      stopsReward zero sq p size a b = sq (b - a)) := by
  have hfb := farBefore_iff p a (b - a)
  rw [show a + (b - a) = b by omega] at hfb
  unfold stopsReward stopCell
  rw [← hfb]
  cases hf : farBefore p a (b - a)
  · rw [if_pos ⟨by omega, hab, by omega, rfl⟩]
    cases p.short a (b - 1)
    · rcases p.small a (b - 1) with _ | _ | _ <;> simp
    · simp
  · rw [if_neg (fun c => Bool.noConfusion c.2.2.2)]
    simp
end TV.Partition
