import TracklibVerif.Lemmas.Hmm
/-! What `HMM.estimate` does to the POSITIONS of the track (`Model/Hmm.lean`: `pos`, `xyz`, the names `x`, `y`, `z` as
observations), read off the backward loop (`writeBack_forward_all` in `Lemmas/Hmm.lean`).

The position of an epoch is a reference: the track's own `Coords` object or a state object BOUND there by a decoding in
mode 3, 4, 5. `estimate` only rebinds; the coordinates of the track's own objects (`xyz`) and of the state objects
(`Num.stXYZ`, a constant) have no writer.

At the end `NoDomainError`, the hypothesis under which `estimateS` is `estimate` on the items (`TV.C09.any_sequence_of_candidates`). -/
namespace TV.Hmm
open TV.Viterbi
variable {α : Type}

theorem writeBack_xyz (mode : Nat) (STATES : List (List Nat)) :
    ∀ (cols : List (List α × List Nat)) (idk : Nat) (tr : Trk α), (writeBack mode STATES cols idk tr).1.xyz = tr.xyz := by
  intro cols idk tr
  -- the cases of `writeBack`: no column left; the first write raises; the second raises; a round and the rest; an index out of range
  fun_induction writeBack mode STATES cols idk tr
  case case3 e1 _ _ => exact (setObs_frame _ _ _ _ _ e1).2
  case case4 e1 _ e2 ih => rw [ih, posStep_eq, (setObs_frame _ _ _ _ _ e2).2, (setObs_frame _ _ _ _ _ e1).2]
  all_goals rfl

section
variable [LinearOrder α]

theorem writeBack_forward_pos (mode : Nat) (hm : PosMode mode) (STATES : List (List Nat)) (t : Tables α) (k : Nat) :
    ∀ (l : Nat) (tr : Trk α), (∀ j, j ≤ k → 0 < t.n j) → l < t.n k →
      (∀ j, j ≤ k → (STATES.getD j []).length = t.n j) →
      tr.WF → tr.has "hmm_inference" = true → tr.has "hmm_cost" = true → k < tr.size → k < tr.pos.length →
      ∀ j, j ≤ k → (writeBack mode STATES (forward t k) l tr).1.pos[j]?
        = some (some ((STATES.getD j []).getD (back t k l j) 0)) := by
  intro l tr hpos hl hS hwf hinf hcost hk hp
  obtain ⟨tr', e, _, _, pp⟩ :=
    writeBack_forward_all mode STATES t k l tr hpos hl hS hwf hinf hcost hk
  rw [e]
  exact pp hm hp
end

section
variable [Add α] [Neg α] [LT α] [DecidableLT α] [BEq α]

/-- no value handed to `math.log` is outside its domain (in particular: the flag is set, or `logDom` is total) -/
def NoDomainError (nm : Num α) (h : ObjS α) (tr : Trk α) (obs : List String) (log : Bool) (mode : Nat) : Prop :=
  ∀ OBS, (List.range tr.size).mapM (fun k => getObsK nm tr obs k mode) = .ok OBS →
    domainError nm { h.toObj with log := h.log || log } tr ((List.range tr.size).map (h.toObj.S tr)) OBS = false
end
end TV.Hmm
