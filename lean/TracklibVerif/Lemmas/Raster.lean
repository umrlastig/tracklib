import TracklibVerif.Model.Raster
import Mathlib.Algebra.Order.Field.Basic
import Mathlib.Algebra.Order.Floor.Ring
import Mathlib.Tactic.Ring
import Mathlib.Tactic.Linarith
import Mathlib.Tactic.Push
import Mathlib.Algebra.BigOperators.Group.Finset.Basic
import Mathlib.Algebra.BigOperators.Group.Finset.Piecewise
import Mathlib.Algebra.BigOperators.Group.List.Basic
/-! Helper lemmas for C19 (model: `Model/Raster.lean`): cell geometry over a linearly ordered field with a floor (the line rule of `getCell` is its column
rule mirrored), the scatter for any scalar type, the cell operators as plain list functions of the non-NaN values. -/
namespace TV.Raster

section extentTest
variable {α : Type} [Sub α] [Div α] [IntCast α] [LT α] [DecidableLT α] [BEq α]

theorem getCell_eq_none_iff (floor : α → Int) (g : Grid α) (x y : α) :
    getCell floor g x y = none ↔ (x < g.xmin ∨ g.xmax < x) ∨ y < g.ymin ∨ g.ymax < y := by
  unfold getCell
  by_cases h1 : x < g.xmin ∨ g.xmax < x
  · rw [if_pos h1]; exact iff_of_true rfl (.inl h1)
  · by_cases h2 : y < g.ymin ∨ g.ymax < y
    · rw [if_neg h1, if_pos h2]; exact iff_of_true rfl (.inr h2)
    · rw [if_neg h1, if_neg h2]; exact iff_of_false nofun (not_or.2 ⟨h1, h2⟩)

end extentTest

section geometry
variable {α : Type} [Field α] [LinearOrder α]

theorem div_sub_eq {lo r x k : α} (hr : 0 < r) : (x - lo) / r = k ↔ x = lo + k * r := by
  rw [div_eq_iff hr.ne', sub_eq_iff_eq_add']

variable [IsStrictOrderedRing α]

theorem le_div_sub {lo r x k : α} (hr : 0 < r) : k ≤ (x - lo) / r ↔ lo + k * r ≤ x := by
  rw [le_div_iff₀ hr, le_sub_iff_add_le']
theorem div_sub_lt {lo r x k : α} (hr : 0 < r) : (x - lo) / r < k ↔ x < lo + k * r := by
  rw [div_lt_iff₀ hr, sub_lt_iff_lt_add']

variable [FloorRing α]

theorem max_one_ceil (A : α) : 0 < max 1 ⌈A⌉ ∧ A ≤ ((max 1 ⌈A⌉ : ℤ) : α) :=
  ⟨lt_of_lt_of_le Int.one_pos (le_max_left _ _),
   (Int.le_ceil A).trans (by exact_mod_cast le_max_right (1 : ℤ) ⌈A⌉)⟩

/-- the column rule of `getCell` on the normalised abscissa `u = (x - xmin)/rx` -/
def colOf (ncol : ℤ) (u : α) : ℤ := if u = (ncol : α) then ⌊u⌋ - 1 else ⌊u⌋

/-- the line rule of `getCell` on `idy = (nrow-1) - (y - ymin)/ry` -/
def lineOf (idy : α) : ℤ :=
  if (⌊idy⌋ : α) = idy ∧ ⌊idy⌋ > -1 then ⌊idy⌋
  else if (⌊idy⌋ : α) = idy ∧ ⌊idy⌋ = -1 then ⌊idy⌋ + 1 else ⌊idy⌋ + 1

theorem col_spec {ncol : ℤ} {u : α} (hu0 : 0 ≤ u) (hun : u ≤ (ncol : α)) (hn : 0 < ncol) :
    0 ≤ colOf ncol u ∧ colOf ncol u < ncol ∧ (colOf ncol u : α) ≤ u
      ∧ (u < (colOf ncol u : α) + 1 ∨ (colOf ncol u = ncol - 1 ∧ u = (ncol : α))) := by
  by_cases h : u = (ncol : α)
  · have hc : colOf ncol u = ncol - 1 := by rw [colOf, if_pos h, h, Int.floor_intCast]
    rw [hc]
    refine ⟨by omega, by omega, ?_, Or.inr ⟨rfl, h⟩⟩
    rw [h, Int.cast_sub, Int.cast_one]; exact sub_le_self _ zero_le_one
  · rw [colOf, if_neg h]
    exact ⟨Int.floor_nonneg.2 hu0, Int.floor_lt.2 (lt_of_le_of_ne hun h), Int.floor_le u,
      Or.inl (Int.lt_floor_add_one u)⟩

theorem colOf_intCast (n k : ℤ) : colOf n (k : α) = if k = n then k - 1 else k := by
  simp only [colOf, Int.floor_intCast, Int.cast_inj]

theorem lineOf_intCast (z : ℤ) : lineOf (z : α) = if z > -1 then z else z + 1 := by
  simp only [lineOf, Int.floor_intCast, true_and, ite_self]

omit [IsStrictOrderedRing α] in
theorem lineOf_of_not_int {idy : α} (h : (⌊idy⌋ : α) ≠ idy) : lineOf idy = ⌊idy⌋ + 1 := by
  rw [lineOf, if_neg (fun c => h c.1), if_neg (fun c => h c.1)]

theorem lineOf_eq {nrow : ℤ} {v idy : α} (hvn : v ≤ (nrow : α)) (hidy : idy = ((nrow - 1 : ℤ) : α) - v) :
    lineOf idy = nrow - 1 - colOf nrow v := by
  by_cases hint : ∃ k : ℤ, v = k
  · obtain ⟨k, rfl⟩ := hint
    have hk : k ≤ nrow := Int.cast_le.1 hvn
    rw [hidy, ← Int.cast_sub, lineOf_intCast, colOf_intCast]
    split_ifs <;> omega
  · -- `v` is not an integer: neither is `idy`, and `⌊idy⌋ = nrow - 1 - ⌈v⌉ = nrow - 2 - ⌊v⌋`
    have hne : (⌊idy⌋ : α) ≠ idy := fun e =>
      hint ⟨nrow - 1 - ⌊idy⌋, by rw [Int.cast_sub, e, hidy, sub_sub_cancel]⟩
    have hfl : ⌊idy⌋ = nrow - 1 + -⌈v⌉ := by rw [hidy, sub_eq_add_neg, Int.floor_intCast_add, Int.floor_neg]
    have hc : ⌈v⌉ = ⌊v⌋ + 1 := le_antisymm (Int.ceil_le_floor_add_one v)
      (Int.lt_ceil.2 (lt_of_le_of_ne (Int.floor_le v) (fun e => hint ⟨⌊v⌋, e.symm⟩)))
    rw [lineOf_of_not_int hne, colOf, if_neg (fun e => hint ⟨nrow, e⟩)]
    omega

theorem line_spec {nrow : ℤ} {v : α} (hv0 : 0 ≤ v) (hvn : v ≤ (nrow : α)) (hn : 0 < nrow)
    (idy : α) (hidy : idy = ((nrow - 1 : ℤ) : α) - v) :
    0 ≤ lineOf idy ∧ lineOf idy < nrow ∧ ((nrow - 1 - lineOf idy : ℤ) : α) ≤ v ∧
      (v < ((nrow - lineOf idy : ℤ) : α) ∨ (lineOf idy = 0 ∧ v = (nrow : α))) := by
  obtain ⟨c0, c1, c2, c3⟩ := col_spec hv0 hvn hn
  rw [lineOf_eq hvn hidy]
  refine ⟨by omega, by omega, ?_, ?_⟩
  · rw [show nrow - 1 - (nrow - 1 - colOf nrow v) = colOf nrow v by omega]; exact c2
  · rw [show nrow - (nrow - 1 - colOf nrow v) = colOf nrow v + 1 by omega, Int.cast_add, Int.cast_one]
    exact c3.imp id (fun ⟨h1, h2⟩ => ⟨by omega, h2⟩)

def Inside (g : Grid α) (x y : α) : Prop := (g.xmin ≤ x ∧ x ≤ g.xmax) ∧ (g.ymin ≤ y ∧ y ≤ g.ymax)

section
omit [IsStrictOrderedRing α]

theorem getCell_inside (g : Grid α) (x y : α) (hx : g.xmin ≤ x ∧ x ≤ g.xmax) (hy : g.ymin ≤ y ∧ y ≤ g.ymax) :
    getCell Int.floor g x y
      = some (colOf g.ncol ((x - g.xmin) / g.rx), lineOf (((g.nrow - 1 : ℤ) : α) - (y - g.ymin) / g.ry)) := by
  unfold getCell colOf lineOf
  have h1 : ¬ (x < g.xmin ∨ g.xmax < x) := by push Not; exact ⟨hx.1, hx.2⟩
  have h2 : ¬ (y < g.ymin ∨ g.ymax < y) := by push Not; exact ⟨hy.1, hy.2⟩
  simp only [h1, h2, ↓reduceIte, beq_iff_eq, Bool.and_eq_true, decide_eq_true_eq]

theorem getCell_outside (g : Grid α) (x y : α) (h : ¬ Inside g x y) : getCell Int.floor g x y = none :=
  (getCell_eq_none_iff _ g x y).2 (by simpa only [Inside, not_and_or, not_le] using h)

end

/-- a well-formed grid: positive resolution, an extent that may have zero width or zero height (all the points on
    one vertical / horizontal line, or a single point), `ncol`/`nrow` as computed by the constructor
    (at least one column and one row) -/
structure WF (g : Grid α) : Prop where
  rx : 0 < g.rx
  ry : 0 < g.ry
  wx : g.xmin ≤ g.xmax
  wy : g.ymin ≤ g.ymax
  ncol : g.ncol = max 1 ⌈(g.xmax - g.xmin) / g.rx⌉
  nrow : g.nrow = max 1 ⌈(g.ymax - g.ymin) / g.ry⌉

theorem WF.ncol_pos {g : Grid α} (hg : WF g) : 0 < g.ncol := hg.ncol ▸ (max_one_ceil _).1
theorem WF.nrow_pos {g : Grid α} (hg : WF g) : 0 < g.nrow := hg.nrow ▸ (max_one_ceil _).1

/-- footprint of the cell (column `c`, line `r` counted from the top): half-open, closed on the outer right /
    top border -/
def InCell (g : Grid α) (c r : ℤ) (x y : α) : Prop :=
  g.xmin + (c : α) * g.rx ≤ x ∧ (x < g.xmin + ((c : α) + 1) * g.rx ∨ (c = g.ncol - 1 ∧ x = g.xmin + (g.ncol : α) * g.rx)) ∧
  g.ymin + ((g.nrow - 1 - r : ℤ) : α) * g.ry ≤ y ∧
    (y < g.ymin + ((g.nrow - r : ℤ) : α) * g.ry ∨ (r = 0 ∧ y = g.ymin + (g.nrow : α) * g.ry))

theorem norm_range {lo hi r x : α} {n : ℤ} (hr : 0 < r) (h0 : lo ≤ x) (h1 : x ≤ hi) (hn : n = max 1 ⌈(hi - lo) / r⌉) :
    0 ≤ (x - lo) / r ∧ (x - lo) / r ≤ (n : α) :=
  ⟨div_nonneg (sub_nonneg.2 h0) hr.le,
   (div_le_div_of_nonneg_right (sub_le_sub_right h1 _) hr.le).trans (hn ▸ (max_one_ceil _).2)⟩

theorem getCell_footprint (g : Grid α) (hg : WF g) (x y : α)
    (hx : g.xmin ≤ x ∧ x ≤ g.xmax) (hy : g.ymin ≤ y ∧ y ≤ g.ymax) :
    ∃ c r : ℤ, getCell Int.floor g x y = some (c, r) ∧ 0 ≤ c ∧ c < g.ncol ∧ 0 ≤ r ∧ r < g.nrow ∧ InCell g c r x y := by
  have hrx := hg.rx
  have hry := hg.ry
  obtain ⟨u0, u1⟩ := norm_range hrx hx.1 hx.2 hg.ncol
  obtain ⟨v0, v1⟩ := norm_range hry hy.1 hy.2 hg.nrow
  obtain ⟨c0, c1, c2, c3⟩ := col_spec u0 u1 hg.ncol_pos
  obtain ⟨r0, r1, r2, r3⟩ := line_spec v0 v1 hg.nrow_pos _ rfl
  exact ⟨_, _, getCell_inside g x y hx hy, c0, c1, r0, r1,
    (le_div_sub hrx).1 c2, c3.imp (div_sub_lt hrx).1 (And.imp_right (div_sub_eq hrx).1),
    (le_div_sub hry).1 r2, r3.imp (div_sub_lt hry).1 (And.imp_right (div_sub_eq hry).1)⟩

theorem edge_lt {lo r x : α} (hr : 0 < r) {A B : ℤ} (h1 : lo + (A : α) * r ≤ x) (h2 : x < lo + (B : α) * r) : A < B :=
  Int.cast_lt.1 (lt_of_mul_lt_mul_right (lt_of_add_lt_add_left (h1.trans_lt h2)) hr.le)

theorem inCell_unique (g : Grid α) (hrx : 0 < g.rx) (hry : 0 < g.ry) (x y : α) (c r c' r' : ℤ)
    (hc : c < g.ncol) (hc' : c' < g.ncol) (hr : 0 ≤ r) (hr' : 0 ≤ r')
    (h : InCell g c r x y) (h' : InCell g c' r' x y) : c = c' ∧ r = r' := by
  obtain ⟨a1, a2, a3, a4⟩ := h
  obtain ⟨b1, b2, b3, b4⟩ := h'
  have cast1 : ∀ k : ℤ, (k : α) + 1 = ((k + 1 : ℤ) : α) := fun k => by rw [Int.cast_add, Int.cast_one]
  rw [cast1] at a2 b2
  -- each lower edge lies before the other cell's upper edge; on the closed outer border the other cell is the last one
  have h1 : c' < c + 1 := a2.elim (edge_lt hrx b1) (fun e => by omega)
  have h2 : c < c' + 1 := b2.elim (edge_lt hrx a1) (fun e => by omega)
  have h3 : g.nrow - 1 - r' < g.nrow - r := a4.elim (edge_lt hry b3) (fun e => by omega)
  have h4 : g.nrow - 1 - r < g.nrow - r' := b4.elim (edge_lt hry a3) (fun e => by omega)
  exact ⟨by omega, by omega⟩

theorem mkGrid_wf (bx0 bx1 by0 by1 rx ry margin : α) (hx : bx0 ≤ bx1) (hy : by0 ≤ by1)
    (hrx : 0 < rx) (hry : 0 < ry) (hm : 0 ≤ margin) :
    WF (mkGrid Int.ceil bx0 bx1 by0 by1 rx ry margin)
    ∧ (mkGrid Int.ceil bx0 bx1 by0 by1 rx ry margin).xmin ≤ bx0 ∧ bx1 ≤ (mkGrid Int.ceil bx0 bx1 by0 by1 rx ry margin).xmax
    ∧ (mkGrid Int.ceil bx0 bx1 by0 by1 rx ry margin).ymin ≤ by0 ∧ by1 ≤ (mkGrid Int.ceil bx0 bx1 by0 by1 rx ry margin).ymax := by
  have hdx : 0 ≤ margin * (bx1 - bx0) := mul_nonneg hm (sub_nonneg.2 hx)
  have hdy : 0 ≤ margin * (by1 - by0) := mul_nonneg hm (sub_nonneg.2 hy)
  have x0 := sub_le_self bx0 hdx
  have x1 := le_add_of_nonneg_right (a := bx1) hdx
  have y0 := sub_le_self by0 hdy
  have y1 := le_add_of_nonneg_right (a := by1) hdy
  exact ⟨⟨hrx, hry, x0.trans (hx.trans x1), y0.trans (hy.trans y1), rfl, rfl⟩, x0, x1, y0, y1⟩

end geometry

section scatter
variable {O V : Type}

def cellAt (c : Cells V) (i j : Nat) : List V := ((c[i]?.getD [])[j]?).getD []

def Rect (c : Cells V) (nrow ncol : Nat) : Prop := c.length = nrow ∧ ∀ row ∈ c, row.length = ncol

/-- the values of the observations located in (column `j`, line `i`), in scatter order -/
def located (cell : O → Option (Int × Int)) (val : O → V) (j i : Nat) (obs : List O) : List V :=
  obs.filterMap (fun o => if cell o = some ((j : Int), (i : Int)) then some (val o) else none)

def InGrid (cell : O → Option (Int × Int)) (nrow ncol : Nat) (o : O) : Prop :=
  ∃ col line : Int, cell o = some (col, line) ∧ 0 ≤ col ∧ col < ncol ∧ 0 ≤ line ∧ line < nrow

theorem InGrid.of_int {cell : O → Option (Int × Int)} {nrow ncol : Int} {o : O} (hc : 0 < ncol) (hr : 0 < nrow)
    (h : ∃ col line : Int, cell o = some (col, line) ∧ 0 ≤ col ∧ col < ncol ∧ 0 ≤ line ∧ line < nrow) :
    InGrid cell nrow.toNat ncol.toNat o := by
  obtain ⟨col, line, e, c0, c1, l0, l1⟩ := h
  exact ⟨col, line, e, c0, by omega, l0, by omega⟩

theorem pyIdx_inrange (len : Nat) (i : Int) (h0 : 0 ≤ i) (h1 : i < len) : pyIdx len i = some i.toNat := by
  unfold pyIdx; simp [h0, h1]

theorem rect_empty (nrow ncol : Nat) : Rect (emptyCells nrow ncol : Cells V) nrow ncol :=
  ⟨List.length_replicate, fun _ hrow => (List.eq_of_mem_replicate hrow).symm ▸ List.length_replicate⟩

theorem cellAt_empty (nrow ncol i j : Nat) : cellAt (emptyCells nrow ncol : Cells V) i j = [] := by
  unfold cellAt emptyCells
  by_cases hi : i < nrow
  · by_cases hj : j < ncol <;> simp [hi, hj]
  · simp [hi]

theorem map_map_entry {W : Type} (f : List V → W) (c : Cells V) (i j : Nat) (hi : i < c.length) (hj : j < (c[i]'hi).length) :
    ((c.map (fun row => row.map f))[i]?.bind (·[j]?)) = some (f (cellAt c i j)) := by
  unfold cellAt
  simp [hi, hj]

theorem put_spec (c : Cells V) (nrow ncol : Nat) (hR : Rect c nrow ncol) (line col : Int)
    (hl0 : 0 ≤ line) (hl1 : line < nrow) (hc0 : 0 ≤ col) (hc1 : col < ncol) (v : V) :
    ∃ c', put c line col v = some c' ∧ Rect c' nrow ncol ∧
      ∀ i j, cellAt c' i j = cellAt c i j ++ if i = line.toNat ∧ j = col.toNat then [v] else [] := by
  obtain ⟨hlen, hrows⟩ := hR
  have hl : line.toNat < c.length := by omega
  have hrow : (c[line.toNat]'hl).length = ncol := hrows _ (List.getElem_mem hl)
  have hk : col.toNat < (c[line.toNat]'hl).length := by omega
  refine ⟨c.set line.toNat ((c[line.toNat]'hl).set col.toNat (((c[line.toNat]'hl)[col.toNat]?).getD [] ++ [v])), ?_, ?_, ?_⟩
  · unfold put
    rw [pyIdx_inrange c.length line hl0 (by omega)]
    simp only [List.getElem?_eq_getElem hl]
    rw [pyIdx_inrange _ col hc0 (by omega)]
  · refine ⟨by simp [hlen], ?_⟩
    intro row hmem
    rcases List.mem_or_eq_of_mem_set hmem with h | h
    · exact hrows row h
    · rw [h]; simp [hrow]
  · intro i j
    unfold cellAt
    rw [List.getElem?_set]
    by_cases hi : line.toNat = i
    · subst hi
      rw [if_pos rfl, if_pos hl, Option.getD_some, List.getElem?_set, List.getElem?_eq_getElem hl, Option.getD_some]
      by_cases hj : col.toNat = j
      · subst hj; rw [if_pos rfl, if_pos hk, if_pos ⟨rfl, rfl⟩, Option.getD_some]
      · rw [if_neg hj, if_neg (fun h => hj h.2.symm), List.append_nil]
    · rw [if_neg hi, if_neg (fun h => hi h.1.symm), List.append_nil]

theorem located_append (cell : O → Option (Int × Int)) (val : O → V) (j i : Nat) (a b : List O) :
    located cell val j i (a ++ b) = located cell val j i a ++ located cell val j i b :=
  List.filterMap_append

theorem located_cons {cell : O → Option (Int × Int)} {o : O} {col line : Int} (h : cell o = some (col, line))
    (hc0 : 0 ≤ col) (hl0 : 0 ≤ line) (val : O → V) (j i : Nat) (rest : List O) :
    located cell val j i (o :: rest)
      = (if i = line.toNat ∧ j = col.toNat then [val o] else []) ++ located cell val j i rest := by
  have e : cell o = some ((j : Int), (i : Int)) ↔ i = line.toNat ∧ j = col.toNat := by
    rw [h, Option.some.injEq, Prod.mk.injEq]; omega
  unfold located
  by_cases hp : i = line.toNat ∧ j = col.toNat
  · rw [List.filterMap_cons_some (by rw [if_pos (e.2 hp)]), if_pos hp]; rfl
  · rw [List.filterMap_cons_none (by rw [if_neg (mt e.1 hp)]), if_neg hp]; rfl

/-- conservation, weighted form: summing any per-value weight over all cells gives the total weight of the
    observations (weight 1: the number of observations; weight `[v is not NaN]`: the `co_count` total) -/
theorem located_weight_sum (cell : O → Option (Int × Int)) (val : O → V) (w : V → Nat) (nrow ncol : Nat) :
    ∀ (obs : List O), (∀ o ∈ obs, InGrid cell nrow ncol o) →
      ∑ i ∈ Finset.range nrow, ∑ j ∈ Finset.range ncol, ((located cell val j i obs).map w).sum
        = (obs.map (fun o => w (val o))).sum := by
  intro obs
  induction obs with
  | nil => intro _; simp [located]
  | cons o rest ih =>
    intro hin
    obtain ⟨col, line, hcell, hc0, hc1, hl0, hl1⟩ := hin o List.mem_cons_self
    have hL : line.toNat ∈ Finset.range nrow := by rw [Finset.mem_range]; omega
    have hC : col.toNat ∈ Finset.range ncol := by rw [Finset.mem_range]; omega
    -- the new observation contributes its weight in exactly one cell
    have key : ∀ i j : Nat, (((if i = line.toNat ∧ j = col.toNat then [val o] else []) : List V).map w).sum
        = if j = col.toNat then (if i = line.toNat then w (val o) else 0) else 0 := by
      intro i j
      by_cases h1 : i = line.toNat <;> by_cases h2 : j = col.toNat <;> simp [h1, h2]
    simp only [located_cons hcell hc0 hl0, List.map_append, List.sum_append, Finset.sum_add_distrib, key, List.map_cons,
      List.sum_cons, ih (fun o' ho' => hin o' (List.mem_cons_of_mem _ ho')), Finset.sum_ite_eq', hL, hC, if_true]

theorem located_conserves {cell : O → Option (Int × Int)} {val : O → V} {nrow ncol : Nat} {obs : List O}
    (hin : ∀ o ∈ obs, InGrid cell nrow ncol o) {c : Cells V} (hc : ∀ i j, cellAt c i j = located cell val j i obs) :
    (∑ i ∈ Finset.range nrow, ∑ j ∈ Finset.range ncol, (cellAt c i j).length) = obs.length
    ∧ ∀ w : V → ℕ, (∑ i ∈ Finset.range nrow, ∑ j ∈ Finset.range ncol, ((cellAt c i j).map w).sum)
        = (obs.map (fun o => w (val o))).sum := by
  have hw : ∀ w : V → ℕ, (∑ i ∈ Finset.range nrow, ∑ j ∈ Finset.range ncol, ((cellAt c i j).map w).sum)
      = (obs.map (fun o => w (val o))).sum := fun w => by
    simp only [hc]; exact located_weight_sum cell val w nrow ncol obs hin
  exact ⟨by simpa using hw (fun _ => 1), hw⟩

end scatter

section scatterSpec
variable {α V : Type} [Sub α] [Div α] [IntCast α] [LT α] [DecidableLT α] [BEq α]

theorem scatter_spec (floor : α → Int) (g : Grid α) (nrow ncol : Nat) :
    ∀ (obs : List (α × α × V)) (c : Cells V), Rect c nrow ncol →
      (∀ o ∈ obs, InGrid (fun o : α × α × V => getCell floor g o.1 o.2.1) nrow ncol o) →
      ∃ c', scatter floor g c obs = some c' ∧ Rect c' nrow ncol ∧
        ∀ i j, cellAt c' i j
          = cellAt c i j ++ located (fun o : α × α × V => getCell floor g o.1 o.2.1) (fun o => o.2.2) j i obs := by
  intro obs
  induction obs with
  | nil => intro c hR _; exact ⟨c, rfl, hR, fun i j => (List.append_nil _).symm⟩
  | cons o rest ih =>
    intro c hR hin
    obtain ⟨col, line, hcell, hc0, hc1, hl0, hl1⟩ := hin o List.mem_cons_self
    obtain ⟨c1, hput, hR1, hcells1⟩ := put_spec c nrow ncol hR line col hl0 hl1 hc0 hc1 o.2.2
    obtain ⟨c2, hsc, hR2, hcells2⟩ := ih c1 hR1 (fun o' ho' => hin o' (List.mem_cons_of_mem _ ho'))
    refine ⟨c2, ?_, hR2, fun i j => ?_⟩
    · have hcell' : getCell floor g o.1 o.2.1 = some (col, line) := hcell
      obtain ⟨x, y, v⟩ := o
      simp only [scatter, hcell', hput]; exact hsc
    · rw [hcells2 i j, hcells1 i j, located_cons (cell := fun o : α × α × V => getCell floor g o.1 o.2.1) hcell hc0 hl0,
        List.append_assoc]

/-- conservation for any scalar type and `floor`, from the one fact that every observation gets a cell of the grid: the
    scatter from empty cells does not fail, the cell (line `i`, column `j`) holds exactly the values of the observations whose
    `getCell` is `(j, i)`, in scatter order; the cell sizes add up to the number of observations and any per-value weight is
    conserved -/
theorem scatter_conserves (floor : α → Int) (g : Grid α) (nrow ncol : Nat) (obs : List (α × α × V))
    (hin : ∀ o ∈ obs, InGrid (fun o : α × α × V => getCell floor g o.1 o.2.1) nrow ncol o) :
    ∃ cells : Cells V,
      scatter floor g (emptyCells nrow ncol) obs = some cells
      ∧ Rect cells nrow ncol
      ∧ (∀ i j, cellAt cells i j
          = located (fun o : α × α × V => getCell floor g o.1 o.2.1) (fun o => o.2.2) j i obs)
      ∧ (∑ i ∈ Finset.range nrow, ∑ j ∈ Finset.range ncol, (cellAt cells i j).length) = obs.length
      ∧ ∀ w : V → ℕ, (∑ i ∈ Finset.range nrow, ∑ j ∈ Finset.range ncol, ((cellAt cells i j).map w).sum)
          = (obs.map (fun o => w o.2.2)).sum := by
  obtain ⟨cells, hsc, hR, hcells⟩ := scatter_spec floor g nrow ncol obs _ (rect_empty _ _) hin
  have hc : ∀ i j, cellAt cells i j
      = located (fun o : α × α × V => getCell floor g o.1 o.2.1) (fun o => o.2.2) j i obs := fun i j => by
    rw [hcells, cellAt_empty, List.nil_append]
  exact ⟨cells, hsc, hR, hc, located_conserves hin hc⟩

end scatterSpec

section extent
variable {α : Type} [Field α] [LinearOrder α] [IsStrictOrderedRing α] [FloorRing α]

theorem getCell_inGrid {V : Type} {g : Grid α} (hg : WF g) (o : α × α × V)
    (hx : g.xmin ≤ o.1 ∧ o.1 ≤ g.xmax) (hy : g.ymin ≤ o.2.1 ∧ o.2.1 ≤ g.ymax) :
    InGrid (fun o : α × α × V => getCell Int.floor g o.1 o.2.1) g.nrow.toNat g.ncol.toNat o := by
  obtain ⟨c, r, h, c0, c1, r0, r1, _⟩ := getCell_footprint g hg o.1 o.2.1 hx hy
  exact .of_int hg.ncol_pos hg.nrow_pos ⟨c, r, h, c0, c1, r0, r1⟩

end extent

section minmax
variable {α : Type} [LinearOrder α]

theorem minOf_eq_min? : ∀ l : List α, minOf l = l.min?
  | [] => rfl
  | a :: r => congrArg (fun f => some (r.foldl f a)) (funext₂ fun m v => (min_def_lt v m).symm.trans (min_comm v m))

theorem maxOf_eq_max? : ∀ l : List α, maxOf l = l.max?
  | [] => rfl
  | a :: r => congrArg (fun f => some (r.foldl f a)) (funext₂ fun m v => (max_def_lt m v).symm)

theorem lastMin_eq_min? (a : α) (l : List α) : some (lastMin a l) = (a :: l).min? :=
  congrArg (fun f => some (l.foldl f a)) (funext₂ fun m v => (min_def v m).symm.trans (min_comm v m))

theorem minOf_spec (l : List α) (hne : l ≠ []) : ∃ m, minOf l = some m ∧ m ∈ l ∧ ∀ v ∈ l, m ≤ v := by
  obtain ⟨m, hm⟩ := Option.isSome_iff_exists.1 (List.isSome_min?_iff.2 hne)
  exact ⟨m, (minOf_eq_min? l).trans hm, List.min?_eq_some_iff.1 hm⟩

theorem maxOf_spec (l : List α) (hne : l ≠ []) : ∃ m, maxOf l = some m ∧ m ∈ l ∧ ∀ v ∈ l, v ≤ m := by
  obtain ⟨m, hm⟩ := Option.isSome_iff_exists.1 (List.isSome_max?_iff.2 hne)
  exact ⟨m, (maxOf_eq_max? l).trans hm, List.max?_eq_some_iff.1 hm⟩

theorem lastMin_spec (a : α) (r : List α) :
    lastMin a (a :: r) ∈ a :: r ∧ ∀ v ∈ a :: r, lastMin a (a :: r) ≤ v := by
  obtain ⟨h1, h2⟩ := List.min?_eq_some_iff.1 (lastMin_eq_min? a (a :: r)).symm
  exact ⟨(List.mem_cons.1 h1).elim (fun e => by rw [e]; exact List.mem_cons_self) id,
    fun v hv => h2 v (List.mem_cons_of_mem _ hv)⟩

end minmax

section aggr
variable {α : Type}

theorem nonNaN_cons_none (r : List (Option α)) : nonNaN (none :: r) = nonNaN r := rfl
theorem nonNaN_cons_some (a : α) (r : List (Option α)) : nonNaN (some a :: r) = a :: nonNaN r := rfl

theorem nonNaN_foldl {σ : Type} (f : σ → α → σ) (l : List (Option α)) (s : σ) :
    (nonNaN l).foldl f s = l.foldl (fun s v => match v with | none => s | some a => f s a) s := by
  rw [nonNaN, List.foldl_filterMap]
  exact congrArg (fun g => l.foldl g s) (funext₂ fun s v => by cases v <;> rfl)

theorem coCount_eq (l : List (Option α)) : coCount l = (nonNaN l).length := by
  induction l with
  | nil => rfl
  | cons v r ih =>
    cases v with
    | none => exact ih
    | some a => exact congrArg (· + 1) ih

/-- the fold of `co_min` / `co_max` (`p a b`: the new value `a` replaces the current `b`) skips the NaNs and is the scan of
    `minOf` / `maxOf` over the other values -/
def pickO (p : α → α → Prop) [DecidableRel p] (m v : Option α) : Option α :=
  match v with
  | none => m
  | some a => match m with
    | none => some a
    | some b => if p a b then some a else some b

theorem foldl_pickO (p : α → α → Prop) [DecidableRel p] (l : List (Option α)) :
    l.foldl (pickO p) none = match nonNaN l with
      | [] => none
      | a :: t => some (t.foldl (fun m v => if p v m then v else m) a) := by
  rw [show l.foldl (pickO p) none = _ from (nonNaN_foldl (fun m a => pickO p m (some a)) l none).symm]
  cases nonNaN l with
  | nil => rfl
  | cons a t => exact List.foldl_hom some fun m v => by simp only [pickO, apply_ite some]

theorem coMin_eq [LT α] [DecidableLT α] (l : List (Option α)) : coMin l = minOf (nonNaN l) := by
  refine (foldl_pickO (fun a b => a < b) l).trans ?_
  cases nonNaN l <;> rfl

theorem coMax_eq [LT α] [DecidableLT α] (l : List (Option α)) : coMax l = maxOf (nonNaN l) := by
  refine (foldl_pickO (fun a b => b < a) l).trans ?_
  cases nonNaN l <;> rfl

section order
variable [LinearOrder α]

theorem coMin_spec (l : List (Option α)) :
    (coMin l = none ↔ nonNaN l = []) ∧ ∀ m, coMin l = some m → m ∈ nonNaN l ∧ ∀ v ∈ nonNaN l, m ≤ v := by
  rw [coMin_eq, minOf_eq_min?]
  exact ⟨List.min?_eq_none_iff, fun _ => List.min?_eq_some_iff.1⟩

theorem coMax_spec (l : List (Option α)) :
    (coMax l = none ↔ nonNaN l = []) ∧ ∀ m, coMax l = some m → m ∈ nonNaN l ∧ ∀ v ∈ nonNaN l, v ≤ m := by
  rw [coMax_eq, maxOf_eq_max?]
  exact ⟨List.max?_eq_none_iff, fun _ => List.max?_eq_some_iff.1⟩

theorem selSort_spec (k : Nat) (l : List α) (h : l.length = k) :
    (selSort k l).Perm l ∧ (selSort k l).Pairwise (· ≤ ·) := by
  fun_induction selSort k l with
  | case1 l => rw [List.eq_nil_of_length_eq_zero h]; exact ⟨.nil, .nil⟩
  | case2 => exact ⟨.nil, .nil⟩
  | case3 k a r m ih =>
    obtain ⟨hm, hle⟩ := lastMin_spec a r
    obtain ⟨ihp, ihs⟩ := ih (by rw [List.length_erase_of_mem hm]; exact Nat.succ.inj h)
    exact ⟨(ihp.cons _).trans (List.perm_cons_erase hm).symm,
      List.pairwise_cons.2 ⟨fun x hx => hle x (List.mem_of_mem_erase (ihp.mem_iff.1 hx)), ihs⟩⟩

end order

section field
variable [Field α]

theorem coSum_eq (l : List (Option α)) : coSum l = (nonNaN l).sum := by
  rw [List.sum_eq_foldl, nonNaN_foldl]; rfl

theorem coAvg_spec (l : List (Option α)) :
    coAvg l = if nonNaN l = [] then none else some ((nonNaN l).sum / ((nonNaN l).length : α)) := by
  unfold coAvg
  by_cases hl : l.length = 0
  · have : l = [] := List.eq_nil_of_length_eq_zero hl
    subst this; simp [nonNaN]
  · simp only [hl, ↓reduceIte, coCount_eq, coSum_eq]
    by_cases hn : nonNaN l = []
    · simp [hn]
    · have : (nonNaN l).length ≠ 0 := fun h => hn (List.eq_nil_of_length_eq_zero h)
      simp [hn, this]

variable [LinearOrder α]

/-- `co_median`: NaN exactly when there is no non-NaN value; otherwise the middle element (odd count) or the
    half-sum of the two middle elements (even count) of the sorted non-NaN values -/
theorem coMedian_spec (l : List (Option α)) :
    (coMedian l = none ↔ nonNaN l = []) ∧
    (nonNaN l ≠ [] → ∃ s : List α, s.Perm (nonNaN l) ∧ s.Pairwise (· ≤ ·) ∧
      (((nonNaN l).length % 2 = 1 ∧ ∃ h : ((nonNaN l).length - 1) / 2 < s.length,
          coMedian l = some s[((nonNaN l).length - 1) / 2])
       ∨ ((nonNaN l).length % 2 = 0 ∧ ∃ (h1 : (nonNaN l).length / 2 < s.length) (h2 : (nonNaN l).length / 2 - 1 < s.length),
          coMedian l = some ((1 / 2 : α) * (s[(nonNaN l).length / 2] + s[(nonNaN l).length / 2 - 1]))))) := by
  refine (fun second => ⟨⟨fun h => ?mp, fun h => ?mpr⟩, second⟩) ?second
  case mp =>
    by_contra hne
    obtain ⟨s, _, _, hcase⟩ := second hne
    rcases hcase with ⟨_, _, e⟩ | ⟨_, _, _, e⟩ <;> rw [h] at e <;> exact nomatch e
  case mpr =>
    unfold coMedian
    by_cases hl : l.length = 0 <;> simp [hl, h]
  case second =>
    intro hne
    have hn : (nonNaN l).length ≠ 0 := fun h => hne (List.eq_nil_of_length_eq_zero h)
    have hl : l.length ≠ 0 := fun h => hne (by rw [List.eq_nil_of_length_eq_zero h]; rfl)
    obtain ⟨hp, hs⟩ := selSort_spec (nonNaN l).length (nonNaN l) rfl
    have hlen : (selSort (nonNaN l).length (nonNaN l)).length = (nonNaN l).length := hp.length_eq
    refine ⟨selSort (nonNaN l).length (nonNaN l), hp, hs, ?_⟩
    by_cases hodd : (nonNaN l).length % 2 = 1
    · have hi : ((nonNaN l).length - 1) / 2 < (selSort (nonNaN l).length (nonNaN l)).length := by rw [hlen]; omega
      refine .inl ⟨hodd, hi, ?_⟩
      unfold coMedian
      simp only [hl, hn, hodd, ↓reduceIte, List.getElem?_eq_getElem hi]
    · have h1 : (nonNaN l).length / 2 < (selSort (nonNaN l).length (nonNaN l)).length := by rw [hlen]; omega
      have h2 : (nonNaN l).length / 2 - 1 < (selSort (nonNaN l).length (nonNaN l)).length := by rw [hlen]; omega
      refine .inr ⟨by omega, h1, h2, ?_⟩
      unfold coMedian
      simp only [hl, hn, hodd, ↓reduceIte, List.getElem?_eq_getElem h1, List.getElem?_eq_getElem h2]

theorem cellValue_empty {l : List (Option α)} (hnil : nonNaN l = []) (op : Op) :
    cellValue op l = if op = .count ∨ op = .sum then some 0 else none := by
  cases op
  · simp [cellValue, coCount_eq, hnil]
  · simp [cellValue, coSum_eq, hnil]
  · simpa [cellValue] using (coMin_spec l).1.2 hnil
  · simpa [cellValue] using (coMax_spec l).1.2 hnil
  · simp [cellValue, coAvg_spec, hnil]
  · simpa [cellValue] using (coMedian_spec l).1.2 hnil

end field
end aggr

end TV.Raster
