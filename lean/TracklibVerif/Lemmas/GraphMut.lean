import TracklibVerif.Model.GraphMut
import TracklibVerif.Lemmas.GraphPathExt
/-! Lemmas for the network that is modified between the routing calls (`Model/GraphMut.lean`), for C07.

* `forwardA_eq`: the forward pass over explicit adjacency lists is the model's forward pass when relaxing over the list of a
  settled node does what relaxing over `nextEdges` does;
* `Inv`: `NEXT_EDGES` agrees with the orientation attributes of the edges of `EDGES` (`Synced`), edge ids are unique, the
  network is well formed, node ids are below the bound. It holds of a new `Network()` and every call preserves it — except
  `getEdge(i).orientation = o`, which changes the attribute and leaves `NEXT_EDGES` as it was;
* `search_spec` / `path_query`: under `Inv`, a routing call = the same call on a FRESH network holding the current content;
* `OriEq` / `exec_oriEq`: two objects that differ only in the orientation attributes of their edges answer every call alike. -/
namespace TV.GraphMut
open TV.Graph TV.GraphExt

section
variable {W : Type}

theorem registered_iff (o : Obj W) (v : Nat) : registered o v = (order o).contains v := by
  unfold registered order
  induction o.nb.nodes with
  | nil => rfl
  | cons p r ih =>
    simp only [List.any_cons, List.map_cons, List.contains_cons, ih]
    congr 1
    exact Bool.beq_comm

theorem hasEdge_false (o : Obj W) (i : Nat) (h : hasEdge o i = false) : ∀ e ∈ o.nb.edges, e.id ≠ i := by
  intro e he hid
  unfold hasEdge at h
  have := List.any_eq_false.1 h e he
  simp [hid] at this

theorem map_updEdge {β : Type} (g : Edge W → β) (f : Edge W → Edge W) (hg : ∀ e, g (f e) = g e) (i : Nat) (es : List (Edge W)) :
    (updEdge f i es).map g = es.map g := by
  unfold updEdge
  rw [List.map_map]
  refine List.map_congr_left fun e _ => ?_
  show g (if e.id = i then f e else e) = g e
  split
  · exact hg e
  · rfl

theorem addNode_nodes (nb : NetObj W Seq.Obs) (v : Nat) (c : Seq.Obs) (n : Nat) (hv : v < n) (h : ∀ p ∈ nb.nodes, p.1 < n) :
    ∀ p ∈ (GraphExt.addNode nb v c).nodes, p.1 < n := by
  unfold GraphExt.addNode
  split
  · exact h
  · intro p hp
    simp only [List.mem_append, List.mem_singleton] at hp
    rcases hp with hp | rfl
    · exact h p hp
    · exact hv
end

section plain
variable {W : Type} [LT W] [DecidableLT W] [Add W]

theorem forwardA_eq_loopG (nx : Nat → List (Edge W)) (n : Nat) (tgt : Option Nat) (cut : Option W) (f : Nat) (st : St W)
    (out : List (Nat × W)) :
    forwardA nx n tgt cut f st out = loopG (fun st => popMinAux st n) (settleA nx) tgt cut f st out := by
  induction f generalizing st out with
  | zero => rfl
  | succ f ih =>
    unfold forwardA loopG
    cases popMinAux st n with
    | none => rfl
    | some p => simp only [ih]

theorem forwardA_eq (net : Net W) (nx : Nat → List (Edge W))
    (h : ∀ u du (st : St W), st.vis u = true → (nx u).foldl (relaxOne u du) st = (nextEdges net u).foldl (relaxOne u du) st)
    (tgt : Option Nat) (cut : Option W) (f : Nat) (st : St W) (out : List (Nat × W)) :
    forwardA nx net.n tgt cut f st out = forward net tgt cut f st out := by
  rw [forwardA_eq_loopG, forward_eq_loopG]
  exact loopG_congr _ _ _ (fun st u du _ => h u du _ (if_pos rfl)) tgt cut f st out

theorem forwardA_congr (nx nx' : Nat → List (Edge W)) (n : Nat)
    (h : ∀ u du (st : St W), (nx u).foldl (relaxOne u du) st = (nx' u).foldl (relaxOne u du) st)
    (tgt : Option Nat) (cut : Option W) (f : Nat) (st : St W) (out : List (Nat × W)) :
    forwardA nx n tgt cut f st out = forwardA nx' n tgt cut f st out := by
  rw [forwardA_eq_loopG, forwardA_eq_loopG]
  exact loopG_congr _ _ _ (fun st u du _ => h u du _) tgt cut f st out

theorem hasEdge_true (o : Obj W) (i : Nat) (h : hasEdge o i = true) : ∃ e ∈ o.nb.edges, e.id = i := by
  unfold hasEdge at h
  obtain ⟨e, he, hid⟩ := List.any_eq_true.1 h
  exact ⟨e, he, by simpa using hid⟩
end plain

section ordered
variable {W : Type} [LinearOrder W] [Add W] [Zero W] [WalkAdd W]

/-- `NEXT_EDGES[u]` lists, in insertion order, the ids of the edges of `EDGES` that their CURRENT orientation attribute
permits to leave from `u` -/
def Synced (o : Obj W) : Prop := ∀ u, o.nb.next u = o.nb.edges.flatMap (fun e => nextOf e u)

structure Inv (o : Obj W) : Prop where
  synced : Synced o
  uniq : UniqueIds (netOf o)
  wf : WFNet (netOf o)
  bound : ∀ p ∈ o.nb.nodes, p.1 < o.n
end ordered

section
variable {W : Type}

/-- under `Synced`, the edges met by `for edge_id in NEXT_EDGES[u]: e = EDGES[edge_id]` are `pyNext` of the current content -/
theorem adj_pyNext (o : Obj W) (hs : Synced o) (hu : UniqueIds (netOf o)) (u : Nat) : adj o u = pyNext (netOf o) u := by
  unfold adj pyNext
  rw [hs u]
  exact lookup_next (netOf o) hu u (netOf o).edges (fun e he => he)
end

section
variable {W : Type} [LinearOrder W] [Zero W]

theorem inv_new (n : Nat) : Inv (Obj.new n : Obj W) where
  synced := fun _ => rfl
  uniq := fun e he => by cases he
  wf := fun e he => by cases he
  bound := fun p hp => by cases hp

theorem registered_lt (o : Obj W) (hi : Inv o) (v : Nat) (h : registered o v = true) : v < o.n := by
  unfold registered at h
  obtain ⟨p, hp, hv⟩ := List.any_eq_true.1 h
  have := hi.bound p hp
  simp only [beq_iff_eq] at hv
  omega

theorem inv_of_nb (o o' : Obj W) (hi : Inv o) (h1 : o'.nb.edges = o.nb.edges) (h2 : o'.nb.next = o.nb.next)
    (h3 : ∀ p ∈ o'.nb.nodes, p.1 < o'.n) (h4 : o'.n = o.n) : Inv o' := by
  refine ⟨?_, ?_, ?_, h3⟩
  · intro u; rw [h2, h1]; exact hi.synced u
  · intro e he e' he'; unfold netOf at he he'; simp only [h1] at he he'; exact hi.uniq e he e' he'
  · intro e he; unfold netOf at he ⊢; simp only [h1] at he; simp only [h4]; exact hi.wf e he
end

section
variable {W : Type} [LinearOrder W] [Add W] [Zero W]

theorem forward_now (o : Obj W) (hi : Inv o) (s : Nat) (t : Option Nat) (cut : Option W) :
    forwardA (adj o) o.n t cut o.n (setSource (GraphExt.resetFlags (some o.flags)) s) [] = runForward (netOf o) s t cut := by
  have := forwardA_eq (netOf o) (adj o) (fun u du st hv => by
    rw [adj_pyNext o hi.synced hi.uniq u]; exact pyNext_fold (netOf o) u du st hv) t cut o.n (St.init s) []
  exact this

theorem search_spec (o : Obj W) (hi : Inv o) (s : Nat) (hs : registered o s = true) (t : Option Nat) (cut : Option W) (ud : Bool) :
    search o s t cut ud =
      { o with flags := (runForward (netOf o) s t cut).1, seen := order o,
               dict := if ud then record o.dict s (runForward (netOf o) s t cut).2 else o.dict } := by
  unfold search
  rw [if_pos hs]
  simp only [forward_now o hi s t cut]

/-- `shortest_path(s, t, cut[, output_dict])` on the object, whatever was done to it before (`Inv`): what it returns on a
fresh network holding the current nodes, edges (current weights), polylines and coordinates -/
theorem path_query (o : Obj W) (hi : Inv o) (s t : NodeArg) (cut : Option W) (ud : Bool)
    (hs : registered o (correctInputNode s) = true) (ht : registered o (correctInputNode t) = true) :
    (exec o (.path s t cut ud)).2 =
      .path (shortestPathT (netOf o) (geoOf o) (correctInputNode s) (correctInputNode t) cut)
            (shortestDistance (netOf o) (correctInputNode s) (correctInputNode t) cut) := by
  simp only [exec, hs, if_true]
  rw [search_spec o hi _ hs]
  unfold backward
  have h2 : (order o).contains (correctInputNode t) = true := by rw [← registered_iff]; exact ht
  have h1 : ∀ (f : St W) (sn : List Nat) (dc : Table W), registered ({ o with flags := f, seen := sn, dict := dc } : Obj W) (correctInputNode t) = true :=
    fun _ _ _ => ht
  simp only [h1, h2, Bool.not_true, Bool.false_eq_true, if_false]
  rfl
end

section
variable {W : Type} [LinearOrder W] [Add W] [Zero W] [WalkAdd W]

theorem dist_query (o : Obj W) (hi : Inv o) (s t : NodeArg) (cut : Option W) (ud : Bool)
    (hs : registered o (correctInputNode s) = true) (ht : registered o (correctInputNode t) = true) :
    (exec o (.dist s (some t) cut ud)).2 = .dist (shortestDistance (netOf o) (correctInputNode s) (correctInputNode t) cut) := by
  simp only [exec, hs, ht, Option.map_some, Bool.not_true, Bool.false_eq_true, if_false, if_true]
  rw [search_spec o hi _ hs]
  rfl

def Op.isSetOri : Op W → Bool
  | .setOri _ _ => true
  | _ => false
end

section
variable {W : Type} [LinearOrder W] [Add W] [Zero W]

theorem search_nb (o : Obj W) (s : Nat) (t : Option Nat) (cut : Option W) (ud : Bool) :
    (search o s t cut ud).nb = o.nb ∧ (search o s t cut ud).n = o.n ∧ (search o s t cut ud).geom = o.geom := by
  unfold search
  split <;> exact ⟨rfl, rfl, rfl⟩

theorem exec_cases (o : Obj W) (op : Op W) :
    (exec o op).1 = o ∨
    (∃ v c, v < o.n ∧ (exec o op).1 = { o with nb := GraphExt.addNode o.nb v c }) ∨
    (∃ e sc tc g, (e.src < o.n ∧ e.tgt < o.n ∧ ¬ e.w < 0 ∧ hasEdge o e.id = false) ∧
      (exec o op).1 = { o with nb := GraphExt.addEdge o.nb e sc tc, geom := fun i => if i = e.id then g else o.geom i }) ∨
    (∃ i w, ¬ w < 0 ∧
      (exec o op).1 = { o with nb := { o.nb with edges := updEdge (fun e => { e with w := w }) i o.nb.edges } }) ∨
    (∃ i x, op.isSetOri = true ∧
      (exec o op).1 = { o with nb := { o.nb with edges := updEdge (fun e => { e with ori := x }) i o.nb.edges } }) ∨
    (∃ i g, (exec o op).1 = { o with geom := fun j => if j = i then g else o.geom j }) ∨
    (∃ v c, (exec o op).1 = { o with nb := { o.nb with nodes := o.nb.nodes.map (fun p => if p.1 = v then (v, c) else p) } }) ∨
    (∃ s t cut ud, (exec o op).1 = search o s t cut ud) := by
  fun_cases exec o op
  case case1 v c hv => exact Or.inr (Or.inl ⟨v, c, hv, rfl⟩)
  case case3 e sc tc g hg =>
    refine Or.inr (Or.inr (Or.inl ⟨e, sc, tc, g, ?_, rfl⟩))
    simpa only [Bool.and_eq_true, decide_eq_true_eq, Bool.not_eq_true', decide_eq_false_iff_not, and_assoc] using hg
  case case7 i w _ hw => exact Or.inr (Or.inr (Or.inr (Or.inl ⟨i, w, fun h => hw (decide_eq_true h), rfl⟩)))
  case case9 i x _ => exact Or.inr (Or.inr (Or.inr (Or.inr (Or.inl ⟨i, x, rfl, rfl⟩))))
  case case11 i g _ => exact Or.inr (Or.inr (Or.inr (Or.inr (Or.inr (Or.inl ⟨i, g, rfl⟩)))))
  case case13 v c _ => exact Or.inr (Or.inr (Or.inr (Or.inr (Or.inr (Or.inr (Or.inl ⟨v, c, rfl⟩))))))
  -- a refused call and `run_routing_backward` leave the object as it is; the remaining calls search
  all_goals first | exact Or.inl rfl | exact Or.inr (Or.inr (Or.inr (Or.inr (Or.inr (Or.inr (Or.inr ⟨_, _, _, _, rfl⟩))))))

theorem exec_inv (o : Obj W) (hi : Inv o) (op : Op W) (hop : op.isSetOri = false) : Inv (exec o op).1 := by
  rcases exec_cases o op with h | ⟨v, c, hv, h⟩ | ⟨e, sc, tc, g, ⟨h1, h2, h3, h4⟩, h⟩ | ⟨i, w, hw, h⟩ | ⟨i, x, hx, _⟩ |
    ⟨i, g, h⟩ | ⟨v, c, h⟩ | ⟨s, t, cut, ud, h⟩
  · rw [h]; exact hi
  · rw [h]
    exact inv_of_nb o _ hi (addNode_edges o.nb v c).1 (addNode_edges o.nb v c).2 (addNode_nodes o.nb v c o.n hv hi.bound) rfl
  · rw [h]
    have hne := hasEdge_false o e.id h4
    have hmem : ∀ a, a ∈ (GraphExt.addEdge o.nb e sc tc).edges → a ∈ o.nb.edges ∨ a = e := fun a ha => by
      rw [addEdge_edges] at ha
      simpa only [List.mem_append, List.mem_singleton] using ha
    refine ⟨fun u => ?_, fun a ha b hb hab => ?_, fun a ha => ?_, ?_⟩
    · show (GraphExt.addEdge o.nb e sc tc).next u = (GraphExt.addEdge o.nb e sc tc).edges.flatMap (fun e => nextOf e u)
      rw [addEdge_next, addEdge_edges, List.flatMap_append, hi.synced u]
      simp
    · rcases hmem a ha with ha' | rfl <;> rcases hmem b hb with hb' | rfl
      · exact hi.uniq a ha' b hb' hab
      · exact absurd hab (hne a ha')
      · exact absurd hab.symm (hne b hb')
      · rfl
    · rcases hmem a ha with ha' | rfl
      · exact hi.wf a ha'
      · exact ⟨h1, h2, not_lt.mp h3⟩
    · show ∀ p ∈ (GraphExt.addEdge o.nb e sc tc).nodes, p.1 < o.n
      rw [addEdge_nodes]
      exact addNode_nodes _ _ _ _ h2 (addNode_nodes _ _ _ _ h1 hi.bound)
  · rw [h]
    refine ⟨fun u => ?_, fun a ha b hb hab => ?_, fun a ha => ?_, hi.bound⟩
    · show o.nb.next u = (updEdge (fun e => { e with w := w }) i o.nb.edges).flatMap (fun e => nextOf e u)
      rw [List.flatMap_def, map_updEdge (fun e => nextOf e u) (fun e => { e with w := w }) (fun _ => rfl), ← List.flatMap_def]
      exact hi.synced u
    · obtain ⟨a0, ha0, rfl⟩ := List.mem_map.1 ha
      obtain ⟨b0, hb0, rfl⟩ := List.mem_map.1 hb
      have key : ∀ e : Edge W, (if e.id = i then ({ e with w := w } : Edge W) else e).id = e.id := by
        intro e; split <;> rfl
      rw [hi.uniq a0 ha0 b0 hb0 (by rw [← key a0, ← key b0]; exact hab)]
    · obtain ⟨a0, ha0, rfl⟩ := List.mem_map.1 ha
      obtain ⟨x, y, z⟩ := hi.wf a0 ha0
      split
      · exact ⟨x, y, not_lt.mp hw⟩
      · exact ⟨x, y, z⟩
  · rw [hop] at hx; cases hx
  · rw [h]; exact inv_of_nb o _ hi rfl rfl hi.bound rfl
  · rw [h]
    refine inv_of_nb o _ hi rfl rfl (fun p hp => ?_) rfl
    obtain ⟨q, hq, rfl⟩ := List.mem_map.1 hp
    have hb := hi.bound q hq
    split
    · rename_i h1; rw [← h1]; exact hb
    · exact hb
  · rw [h]
    obtain ⟨a, b, _⟩ := search_nb o s t cut ud
    exact inv_of_nb o _ hi (by rw [a]) (by rw [a]) (by rw [a, b]; exact hi.bound) b

theorem runOps_inv : ∀ (ops : List (Op W)) (o : Obj W), Inv o → (∀ op ∈ ops, op.isSetOri = false) → Inv (runOps o ops).2 := by
  intro ops
  induction ops with
  | nil => intro o hi _; exact hi
  | cons op ops ih =>
    intro o hi h
    simp only [runOps]
    exact ih _ (exec_inv o hi op (h op List.mem_cons_self)) (fun q hq => h q (List.mem_cons_of_mem _ hq))
end

section ori
variable {W : Type} [LT W] [DecidableLT W] [Add W] [OfNat W 0]

def strip (e : Edge W) : Edge W := { e with ori := 0 }

structure OriEq (o o' : Obj W) : Prop where
  n : o.n = o'.n
  nodes : o.nb.nodes = o'.nb.nodes
  next : o.nb.next = o'.nb.next
  edges : o.nb.edges.map strip = o'.nb.edges.map strip
  geom : o.geom = o'.geom
  flags : o.flags = o'.flags
  seen : o.seen = o'.seen
  dict : o.dict = o'.dict
end ori

section
variable {W : Type}

theorem OriEq.refl (o : Obj W) : OriEq o o := ⟨rfl, rfl, rfl, rfl, rfl, rfl, rfl, rfl⟩

theorem findEdge_strip (n n' : Nat) (es es' : List (Edge W)) (h : es.map strip = es'.map strip) (i : Nat) :
    (findEdge ⟨n, es⟩ i).map strip = (findEdge ⟨n', es'⟩ i).map strip := by
  unfold findEdge
  have key : ∀ l : List (Edge W), (l.find? (fun e => e.id == i)).map strip = (l.map strip).find? (fun e => e.id == i) := by
    intro l
    rw [List.find?_map]
    rfl
  simp only []
  rw [key es, key es', h]

theorem adj_strip (o o' : Obj W) (h : OriEq o o') (u : Nat) : (adj o u).map strip = (adj o' u).map strip := by
  unfold adj
  rw [List.map_filterMap, List.map_filterMap, h.next]
  congr 1
  funext i
  exact findEdge_strip o.n o'.n _ _ h.edges i

theorem runBackwardT_strip (net net' : Net W) (geo : GeoT) (st : St W) (hn : net.n = net'.n)
    (hf : ∀ i, (findEdge net i).map strip = (findEdge net' i).map strip) (t : Nat) :
    runBackwardT net geo st t = runBackwardT net' geo st t :=
  runBackwardT_congr net net' geo st st (fun _ => True) hn (fun _ _ => ⟨rfl, fun _ i _ => ⟨trivial, by
    have := congrArg (Option.map Edge.src) (hf i)
    rwa [Option.map_map, Option.map_map] at this⟩⟩) t trivial

theorem registered_oriEq (o o' : Obj W) (h : OriEq o o') (v : Nat) : registered o v = registered o' v := by
  unfold registered; rw [h.nodes]

theorem order_oriEq (o o' : Obj W) (h : OriEq o o') : order o = order o' := by
  unfold order; rw [h.nodes]

theorem hasEdge_oriEq (o o' : Obj W) (h : OriEq o o') (i : Nat) : hasEdge o i = hasEdge o' i := by
  have key : ∀ l : List (Edge W), l.any (fun e => e.id == i) = (l.map strip).any (fun e => e.id == i) := by
    intro l; rw [List.any_map]; rfl
  unfold hasEdge
  rw [key o.nb.edges, key o'.nb.edges, h.edges]

theorem geoOf_oriEq (o o' : Obj W) (h : OriEq o o') : geoOf o = geoOf o' := by
  unfold geoOf posOf; rw [h.nodes, h.geom]

theorem addNode_nodes_congr (nb nb' : NetObj W Seq.Obs) (h : nb.nodes = nb'.nodes) (v : Nat) (c : Seq.Obs) :
    (GraphExt.addNode nb v c).nodes = (GraphExt.addNode nb' v c).nodes := by
  unfold GraphExt.addNode
  rw [h]
  split <;> simp [h]

theorem updEdge_strip (f : Edge W → Edge W) (hf : ∀ e, strip (f e) = f (strip e)) (i : Nat) (es : List (Edge W)) :
    (updEdge f i es).map strip = updEdge f i (es.map strip) := by
  unfold updEdge
  rw [List.map_map, List.map_map]
  congr 1
  funext e
  show strip (if e.id = i then f e else e) = if (strip e).id = i then f (strip e) else strip e
  have : (strip e).id = e.id := rfl
  rw [this]
  split
  · exact hf e
  · rfl

theorem updEdge_ori_strip (x : Int) (i : Nat) (es : List (Edge W)) :
    (updEdge (fun e => { e with ori := x }) i es).map strip = es.map strip :=
  map_updEdge strip (fun e => { e with ori := x }) (fun _ => rfl) i es

theorem oriEq_ite {c c' : Prop} [Decidable c] [Decidable c'] (hc : c ↔ c') {a b a' b' : Obj W × Out W}
    (ha : OriEq a.1 a'.1 ∧ a.2 = a'.2) (hb : OriEq b.1 b'.1 ∧ b.2 = b'.2) :
    OriEq (if c then a else b).1 (if c' then a' else b').1 ∧ (if c then a else b).2 = (if c' then a' else b').2 := by
  by_cases h : c
  · rw [if_pos h, if_pos (hc.1 h)]; exact ha
  · rw [if_neg h, if_neg (fun h' => h (hc.2 h'))]; exact hb

theorem backward_oriEq (o o' : Obj W) (h : OriEq o o') (t : Nat) : backward o t = backward o' t := by
  unfold backward
  rw [registered_oriEq o o' h t, h.seen, h.flags, geoOf_oriEq o o' h,
    runBackwardT_strip (netOf o) (netOf o') (geoOf o') o'.flags h.n (fun i => findEdge_strip o.n o'.n _ _ h.edges i) t]
end

section
variable {W : Type} [LT W] [DecidableLT W] [Add W]

theorem adj_fold (o o' : Obj W) (h : OriEq o o') (u : Nat) (du : W) (st : St W) :
    (adj o u).foldl (relaxOne u du) st = (adj o' u).foldl (relaxOne u du) st := by
  -- the relaxation reads the ends, the weight and the id of an edge, not its orientation
  have hs : ∀ l : List (Edge W), (l.map strip).foldl (relaxOne u du) st = l.foldl (relaxOne u du) st :=
    fun l => by rw [List.foldl_map]; rfl
  rw [← hs (adj o u), ← hs (adj o' u), adj_strip o o' h u]
end

section
variable {W : Type} [LT W] [DecidableLT W] [Add W] [OfNat W 0]

theorem search_oriEq (o o' : Obj W) (h : OriEq o o') (s : Nat) (t : Option Nat) (cut : Option W) (ud : Bool) :
    OriEq (search o s t cut ud) (search o' s t cut ud) := by
  unfold search
  rw [registered_oriEq o o' h s, order_oriEq o o' h, h.flags, h.dict, h.n]
  have hfw := forwardA_congr (adj o) (adj o') o'.n (fun u du st => adj_fold o o' h u du st) t cut o'.n
    (setSource (GraphExt.resetFlags (some o'.flags)) s) []
  split
  · exact ⟨rfl, h.nodes, h.next, h.edges, h.geom, by simp only [hfw], rfl, by simp only [hfw]⟩
  · exact ⟨rfl, h.nodes, h.next, h.edges, h.geom, rfl, rfl, rfl⟩

theorem exec_oriEq (o o' : Obj W) (h : OriEq o o') (op : Op W) :
    OriEq (exec o op).1 (exec o' op).1 ∧ (exec o op).2 = (exec o' op).2 := by
  have hE : ∀ i, hasEdge o i = hasEdge o' i := hasEdge_oriEq o o' h
  have hR : ∀ v, registered o v = registered o' v := registered_oriEq o o' h
  cases op with
  | addNode v c =>
    refine oriEq_ite (by rw [h.n]) ⟨⟨h.n, addNode_nodes_congr _ _ h.nodes v c, ?_, ?_, h.geom, h.flags, h.seen, h.dict⟩, rfl⟩
      ⟨h, rfl⟩
    · show (GraphExt.addNode o.nb v c).next = (GraphExt.addNode o'.nb v c).next
      rw [(addNode_edges o.nb v c).2, (addNode_edges o'.nb v c).2, h.next]
    · show (GraphExt.addNode o.nb v c).edges.map strip = (GraphExt.addNode o'.nb v c).edges.map strip
      rw [(addNode_edges o.nb v c).1, (addNode_edges o'.nb v c).1, h.edges]
  | addEdge e sc tc g =>
    refine oriEq_ite (by rw [h.n, hE]) ⟨⟨h.n, ?_, ?_, ?_, by simp only [h.geom], h.flags, h.seen, h.dict⟩, rfl⟩ ⟨h, rfl⟩
    · show (GraphExt.addEdge o.nb e sc tc).nodes = (GraphExt.addEdge o'.nb e sc tc).nodes
      rw [addEdge_nodes, addEdge_nodes]
      exact addNode_nodes_congr _ _ (addNode_nodes_congr _ _ h.nodes _ _) _ _
    · show (GraphExt.addEdge o.nb e sc tc).next = (GraphExt.addEdge o'.nb e sc tc).next
      funext u
      rw [addEdge_next, addEdge_next, h.next]
    · show (GraphExt.addEdge o.nb e sc tc).edges.map strip = (GraphExt.addEdge o'.nb e sc tc).edges.map strip
      rw [addEdge_edges, addEdge_edges, List.map_append, List.map_append, h.edges]
  | setWeight i w =>
    refine oriEq_ite (by rw [hE]) ⟨h, rfl⟩ (oriEq_ite Iff.rfl ⟨h, rfl⟩
      ⟨⟨h.n, h.nodes, h.next, ?_, h.geom, h.flags, h.seen, h.dict⟩, rfl⟩)
    show (updEdge (fun e => { e with w := w }) i o.nb.edges).map strip = (updEdge (fun e => { e with w := w }) i o'.nb.edges).map strip
    rw [updEdge_strip (fun e => { e with w := w }) (fun e => rfl), updEdge_strip (fun e => { e with w := w }) (fun e => rfl), h.edges]
  | setOri i x =>
    refine oriEq_ite (by rw [hE]) ⟨h, rfl⟩ ⟨⟨h.n, h.nodes, h.next, ?_, h.geom, h.flags, h.seen, h.dict⟩, rfl⟩
    show (updEdge (fun e => { e with ori := x }) i o.nb.edges).map strip = (updEdge (fun e => { e with ori := x }) i o'.nb.edges).map strip
    rw [updEdge_ori_strip, updEdge_ori_strip, h.edges]
  | setGeom i g =>
    exact oriEq_ite (by rw [hE]) ⟨h, rfl⟩ ⟨⟨h.n, h.nodes, h.next, h.edges, by simp only [h.geom], h.flags, h.seen, h.dict⟩, rfl⟩
  | setCoord v c =>
    exact oriEq_ite (by rw [hR]) ⟨h, rfl⟩ ⟨⟨h.n, by simp only [h.nodes], h.next, h.edges, h.geom, h.flags, h.seen, h.dict⟩, rfl⟩
  | path s t cut ud =>
    have hs := search_oriEq o o' h (correctInputNode s) (some (correctInputNode t)) cut ud
    exact oriEq_ite (by rw [hR]) ⟨hs, backward_oriEq _ _ hs _⟩ ⟨hs, rfl⟩
  | dist s t cut ud =>
    have hs := search_oriEq o o' h (correctInputNode s) (t.map correctInputNode) cut ud
    cases t with
    | none => exact oriEq_ite (by rw [hR]) ⟨hs, rfl⟩ ⟨hs, by rw [order_oriEq o o' h, hs.flags]⟩
    | some t =>
      exact oriEq_ite (by rw [hR]) ⟨hs, rfl⟩ (oriEq_ite (by rw [hR]) ⟨hs, by rw [hs.flags]⟩ ⟨hs, rfl⟩)
  | fwd s t cut ud =>
    have hs := search_oriEq o o' h (correctInputNode s) (t.map correctInputNode) cut ud
    exact oriEq_ite (by rw [hR]) ⟨hs, rfl⟩ ⟨hs, rfl⟩
  | back t => exact ⟨h, backward_oriEq o o' h _⟩

theorem runOps_oriEq : ∀ (ops : List (Op W)) (o o' : Obj W), OriEq o o' →
    (runOps o ops).1 = (runOps o' ops).1 ∧ OriEq (runOps o ops).2 (runOps o' ops).2 := by
  intro ops
  induction ops with
  | nil => intro o o' h; exact ⟨rfl, h⟩
  | cons op ops ih =>
    intro o o' h
    obtain ⟨h1, h2⟩ := exec_oriEq o o' h op
    obtain ⟨h3, h4⟩ := ih _ _ h1
    simp only [runOps]
    exact ⟨by rw [h2, h3], h4⟩

/-- `getEdge(i).orientation = x` on a built network changes an attribute that no routing call reads -/
theorem setOri_oriEq (o : Obj W) (i : Nat) (x : Int) : OriEq (exec o (.setOri i x)).1 o := by
  simp only [exec]
  split
  · exact OriEq.refl o
  · exact ⟨rfl, rfl, rfl, updEdge_ori_strip x i o.nb.edges, rfl, rfl, rfl, rfl⟩
end

section history
variable {W : Type} [LT W] [DecidableLT W] [Add W] [OfNat W 0]

theorem OriEq.symm {o o' : Obj W} (h : OriEq o o') : OriEq o' o :=
  ⟨h.n.symm, h.nodes.symm, h.next.symm, h.edges.symm, h.geom.symm, h.flags.symm, h.seen.symm, h.dict.symm⟩

def dropOri (ops : List (Op W)) : List (Op W) := ops.filter (fun op => !op.isSetOri)
end history

section
variable {W : Type}

theorem OriEq.trans {o o' o'' : Obj W} (h : OriEq o o') (h' : OriEq o' o'') : OriEq o o'' :=
  ⟨h.n.trans h'.n, h.nodes.trans h'.nodes, h.next.trans h'.next, h.edges.trans h'.edges, h.geom.trans h'.geom,
   h.flags.trans h'.flags, h.seen.trans h'.seen, h.dict.trans h'.dict⟩

theorem dropOri_clean (ops : List (Op W)) : ∀ op ∈ dropOri ops, op.isSetOri = false := by
  intro op h
  unfold dropOri at h
  have := (List.mem_filter.1 h).2
  simpa using this

/-- the `while node.antecedent != ""` loop ends when the antecedents are ranked: every antecedent is a settled node whose
recorded edge is still in `EDGES`, and the antecedent of a settled node has a smaller rank -/
theorem backAuxT_ends (net : Net W) (geo : GeoT) (st : St W) (rk : Nat → Nat)
    (h1 : ∀ v a i, st.pred v = some (a, i) → st.vis a = true ∧ (findEdge net i).isSome = true)
    (h3 : ∀ v a i, st.pred v = some (a, i) → st.vis v = true → rk a < rk v) :
    ∀ (f v : Nat) (nodes : List Nat) (track : Seq.Track), 1 ≤ f → (∀ a i, st.pred v = some (a, i) → rk a + 2 ≤ f) →
      backAuxT net geo st f v nodes track ≠ .diverge := by
  intro f v nodes track hf hb
  fun_induction backAuxT net geo st f v nodes track with
  | case1 => omega
  | case2 => nofun
  | case3 f v nodes track a i hp hfe => exact absurd (h1 v a i hp).2 (by rw [hfe]; nofun)
  | case4 f v nodes track a i hp e hfe g g' ih =>
    have hba := hb a i hp
    exact ih (by omega) fun b j hpa => by have := h3 a b j hpa (h1 v a i hp).1; omega
end

section
variable {W : Type} [LT W] [DecidableLT W] [Add W] [OfNat W 0]

theorem runOps_dropOri : ∀ (ops : List (Op W)) (o o' : Obj W), OriEq o o' → OriEq (runOps o ops).2 (runOps o' (dropOri ops)).2 := by
  intro ops
  induction ops with
  | nil => intro o o' h; exact h
  | cons op ops ih =>
    intro o o' h
    cases hop : op.isSetOri with
    | true =>
      have hd : dropOri (op :: ops) = dropOri ops := by unfold dropOri; simp [hop]
      rw [hd]
      simp only [runOps]
      apply ih
      cases op with
      | setOri i x => exact (setOri_oriEq o i x).trans h
      | _ => cases hop
    | false =>
      have hd : dropOri (op :: ops) = op :: dropOri ops := by unfold dropOri; simp [hop]
      rw [hd]
      simp only [runOps]
      exact ih _ _ (exec_oriEq o o' h op).1

/-- the flags on the nodes are ranked antecedent chains through edges of `EDGES` (true of the flags of any forward pass on
an earlier content: edges are never removed) -/
def ChainOK (o : Obj W) : Prop :=
  ∃ rk : Nat → Nat,
    (∀ v a i, o.flags.pred v = some (a, i) → o.flags.vis a = true ∧ hasEdge o i = true) ∧
    (∀ a, o.flags.vis a = true → rk a < o.n) ∧
    (∀ v a i, o.flags.pred v = some (a, i) → o.flags.vis v = true → rk a < rk v)
end

section
variable {W : Type}

theorem findEdge_isSome (o : Obj W) (i : Nat) (h : hasEdge o i = true) : (findEdge (netOf o) i).isSome = true := by
  unfold findEdge netOf
  rw [List.find?_isSome]
  unfold hasEdge at h
  exact List.any_eq_true.1 h
end

section
variable {W : Type} [LT W] [DecidableLT W] [Add W] [OfNat W 0]

def Out.ends : Out W → Prop
  | .path b _ => b ≠ .diverge
  | _ => True
end

section
variable {W : Type}

theorem backward_ends (o : Obj W) (hc : ChainOK o) (t : Nat) : (backward o t).ends := by
  obtain ⟨rk, c1, c2, c3⟩ := hc
  unfold backward
  by_cases h1 : (!registered o t) = true
  · rw [if_pos h1]; trivial
  rw [if_neg h1]
  by_cases h2 : (!o.seen.contains t) = true
  · rw [if_pos h2]; trivial
  rw [if_neg h2]
  show runBackwardT (netOf o) (geoOf o) o.flags t ≠ .diverge
  unfold runBackwardT
  cases hp : o.flags.pred t with
  | none => intro h'; cases h'
  | some p =>
    simp only []
    apply backAuxT_ends (netOf o) (geoOf o) o.flags rk
      (fun v a i hv => ⟨(c1 v a i hv).1, findEdge_isSome o i (c1 v a i hv).2⟩) c3
    · show 1 ≤ o.n + 1
      omega
    · intro a i hpa
      have := c2 a (c1 t a i hpa).1
      show rk a + 2 ≤ o.n + 1
      omega

theorem chainOK_of_flags (o o' : Obj W) (hc : ChainOK o) (hf : o'.flags = o.flags) (hn : o'.n = o.n)
    (he : ∀ i, hasEdge o i = true → hasEdge o' i = true) : ChainOK o' := by
  obtain ⟨rk, c1, c2, c3⟩ := hc
  refine ⟨rk, ?_, ?_, ?_⟩
  · intro v a i h; rw [hf] at h ⊢; exact ⟨(c1 v a i h).1, he i (c1 v a i h).2⟩
  · intro a h; rw [hf] at h; rw [hn]; exact c2 a h
  · intro v a i h hv; rw [hf] at h hv; exact c3 v a i h hv

theorem any_id_updEdge (f : Edge W → Edge W) (hf : ∀ e, (f e).id = e.id) (j i : Nat) (es : List (Edge W)) :
    (updEdge f j es).any (fun e => e.id == i) = es.any (fun e => e.id == i) := by
  have h : ∀ l : List (Edge W), l.any (fun e => e.id == i) = (l.map (·.id)).any (· == i) := fun l => by rw [List.any_map]; rfl
  rw [h, h, map_updEdge _ f hf]

theorem chainOK_reset (o : Obj W) (h : o.flags = GraphExt.resetFlags none) : ChainOK o := by
  refine ⟨fun _ => 0, ?_, ?_, ?_⟩
  · intro v a i hp; rw [h] at hp; simp [GraphExt.resetFlags] at hp
  · intro a hv; rw [h] at hv; simp [GraphExt.resetFlags] at hv
  · intro v a i hp; rw [h] at hp; simp [GraphExt.resetFlags] at hp

theorem chainOK_new (n : Nat) : ChainOK (Obj.new n : Obj W) := chainOK_reset _ rfl
end

section history2
variable {W : Type} [LinearOrder W] [Add W] [Zero W] [WalkAdd W]

theorem search_chainOK (o : Obj W) (hi : Inv o) (s : Nat) (t : Option Nat) (cut : Option W) (ud : Bool) :
    ChainOK (search o s t cut ud) := by
  by_cases hs : registered o s = true
  · rw [search_spec o hi s hs]
    have hlt := registered_lt o hi s hs
    obtain ⟨hinv, rk, K, hp⟩ := runForward_good (netOf o) hi.wf s hlt t cut
    refine ⟨rk, ?_, ?_, ?_⟩
    · intro v a i h
      obtain ⟨_, hva, e, he, hid, _⟩ := hp.p2 v a i h
      refine ⟨hva, ?_⟩
      unfold hasEdge
      exact List.any_eq_true.2 ⟨e, (mem_nextEdges.1 he).1, by simp [hid]⟩
    · intro a h
      have h4 := hp.p4 a h
      have h6 := hp.p6
      show rk a < (netOf o).n
      omega
    · intro v a i h hv; exact hp.p5 v a i h hv
  · unfold search
    rw [if_neg hs]
    exact chainOK_reset _ rfl

theorem exec_chainOK (o : Obj W) (hi : Inv o) (hc : ChainOK o) (op : Op W) : ChainOK (exec o op).1 := by
  -- a mutation keeps the flags and never removes an edge
  have keep : ∀ o' : Obj W, o'.flags = o.flags → o'.n = o.n → (∀ i, hasEdge o i = true → hasEdge o' i = true) → ChainOK o' :=
    fun o' hf hn he => chainOK_of_flags o o' hc hf hn he
  rcases exec_cases o op with h | ⟨v, c, _, h⟩ | ⟨e, sc, tc, g, _, h⟩ | ⟨i, w, _, h⟩ | ⟨i, x, _, h⟩ |
    ⟨i, g, h⟩ | ⟨v, c, h⟩ | ⟨s, t, cut, ud, h⟩
  · rw [h]; exact hc
  · rw [h]
    refine keep _ rfl rfl (fun i hi' => ?_)
    unfold hasEdge at hi' ⊢
    show (GraphExt.addNode o.nb v c).edges.any _ = true
    rw [(addNode_edges o.nb v c).1]; exact hi'
  · rw [h]
    refine keep _ rfl rfl (fun i hi' => ?_)
    unfold hasEdge at hi' ⊢
    show (GraphExt.addEdge o.nb e sc tc).edges.any _ = true
    rw [addEdge_edges, List.any_append, hi']; rfl
  · rw [h]; exact keep _ rfl rfl (fun j hj => (any_id_updEdge (fun e => { e with w := w }) (fun _ => rfl) i j o.nb.edges).trans hj)
  · rw [h]; exact keep _ rfl rfl (fun j hj => (any_id_updEdge (fun e => { e with ori := x }) (fun _ => rfl) i j o.nb.edges).trans hj)
  · rw [h]; exact keep _ rfl rfl (fun j hj => hj)
  · rw [h]; exact keep _ rfl rfl (fun j hj => hj)
  · rw [h]; exact search_chainOK o hi s t cut ud

theorem exec_ends (o : Obj W) (hi : Inv o) (hc : ChainOK o) (op : Op W) : (exec o op).2.ends := by
  fun_cases exec o op
  case case14 s t cut ud _ _ _ _ => exact backward_ends _ (search_chainOK o hi _ _ cut ud) _
  case case22 t => exact backward_ends o hc _
  all_goals trivial

/-- in ANY sequence of calls on a new network — modifications, orientation assignments, searches, backward passes on flags
of any age — no `run_routing_backward` / `shortest_path` loops for ever -/
theorem runOps_ends : ∀ (ops : List (Op W)) (o o0 : Obj W), OriEq o o0 → Inv o0 → ChainOK o0 →
    ∀ out ∈ (runOps o ops).1, out.ends := by
  intro ops
  induction ops with
  | nil => intro o o0 _ _ _ out h; cases h
  | cons op ops ih =>
    intro o o0 he hi hc out h
    simp only [runOps, List.mem_cons] at h
    cases hop : op.isSetOri with
    | true =>
      cases op with
      | setOri i x =>
        rcases h with rfl | h
        · simp only [exec]; split <;> trivial
        · exact ih _ o0 ((setOri_oriEq o i x).trans he) hi hc out h
      | _ => cases hop
    | false =>
      obtain ⟨h1, h2⟩ := exec_oriEq o o0 he op
      rcases h with rfl | h
      · rw [h2]; exact exec_ends o0 hi hc op
      · exact ih _ _ h1 (exec_inv o0 hi op hop) (exec_chainOK o0 hi hc op) out h
end history2
end TV.GraphMut
