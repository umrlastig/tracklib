import TracklibVerif.Lemmas.MapMatchNet
/-! Helper lemmas for C10: the time stamps of the observations are never read by `mapOnNetwork` (no chronological order is
required, none is established): the preparation of `STATES` reads the positions only, and with a decoder that reads positions,
feature names and the `obs_noise` column (what `HMM.estimate` is given through `__obs_log` / `__tst_log`) everything the call
produces is the same for two tracks that differ by their time stamps only. -/
namespace TV.MapMatch
open TV.Proj
variable {α : Type} [Field α] [LinearOrder α]

theorem allStatesNet_pos_only (sqrt : α → α) (fl : α → Int) (eps radius : α) (net : Net α)
    (o o' : List (Obs α)) (h : o.map (·.pos) = o'.map (·.pos)) :
    allStatesNet sqrt fl eps radius net o = allStatesNet sqrt fl eps radius net o' := by
  rw [allStatesNet_eq, allStatesNet_eq]
  show o.mapM (obsStatesNet sqrt fl eps radius net ∘ (·.pos)) = o'.mapM (obsStatesNet sqrt fl eps radius net ∘ (·.pos))
  rw [← List.mapM_map, ← List.mapM_map, h]

/-- what a call leaves besides the observations themselves: `STATES`, the `hmm_inference` column, the feature names and the
`obs_noise` column -/
def ResultN.view (r : ResultN α) : List (List (State α)) × List (State α) × List String × List α :=
  (r.states, r.inference, r.track.names, r.track.noise)

def Decoder.TimeBlind (dec : Decoder α) : Prop :=
  ∀ (net : Net α) (u u' : TrackS α) (st : List (List (State α))),
    u.obs.map (·.pos) = u'.obs.map (·.pos) → u.names = u'.names → u.noise = u'.noise → dec net u st = dec net u' st

theorem matchOne_time_blind (sqrt : α → α) (fl : α → Int) (eps : α) (net : Net α) (dec : Decoder α)
    (hdec : Decoder.TimeBlind dec) (a : Args α) (t t' : TrackS α)
    (hpos : t.obs.map (·.pos) = t'.obs.map (·.pos)) (hn : t.names = t'.names) (hz : t.noise = t'.noise) :
    (matchOne sqrt fl eps net dec a t).map ResultN.view = (matchOne sqrt fl eps net dec a t').map ResultN.view := by
  have hemp : t.obs.isEmpty = t'.obs.isEmpty := by
    rw [← List.isEmpty_map (f := (·.pos)), hpos, List.isEmpty_map]
  -- the tracks the two calls work on differ by their time stamps only
  obtain ⟨o1, n1, z1⟩ := withNoise_fields a t
  obtain ⟨o2, n2, z2⟩ := withNoise_fields a t'
  have hnames : (withNoise a t).names = (withNoise a t').names := by rw [n1, n2, hn]
  have hnoise : (withNoise a t).noise = (withNoise a t').noise := by
    rw [z1, z2, hn, hz, List.map_const', List.map_const', ← List.length_map (f := (·.pos)), hpos, List.length_map]
  rw [matchOne_eq, matchOne_eq, ← hemp, allStatesNet_pos_only sqrt fl eps a.searchRadius net t.obs t'.obs hpos]
  split
  · rfl
  · cases allStatesNet sqrt fl eps a.searchRadius net t'.obs with
    | error e => rfl
    | ok states =>
      dsimp only
      rw [hdec net (withNoise a t) (withNoise a t') states (by rw [o1, o2, hpos]) hnames hnoise]
      cases inferAll states (dec net (withNoise a t') states) with
      | error e => rfl
      | ok inf => simp only [Except.map, ResultN.view, hnames, hnoise]

end TV.MapMatch
