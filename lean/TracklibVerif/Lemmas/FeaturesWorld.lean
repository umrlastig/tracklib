import TracklibVerif.Model.FeaturesWorld
import TracklibVerif.Lemmas.Features
/-! The Track API on a heap of `Obs` objects (`Model/FeaturesWorld.lean`) against the one-track table `St`:
the loop `forObs` on pairwise distinct objects, what `view` shows afterwards, and from these the simulation of each
primitive on the heap (`primSimWd`: `I = WGood n h0 ids0`, `ab = view`). -/
namespace TV.Features
variable {V : Type}

theorem lt_of_getElem?_some {α : Type} {l : List α} {i : Nat} {a : α} (h : l[i]? = some a) : i < l.length :=
  (List.getElem?_eq_some_iff.mp h).1

section
variable [Inhabited V]

structure LoopRes (g : Nat → HObs V → HObs V) (s k : Nat) (ids : List Nat) (h h' : List (HObs V)) : Prop where
  length : h'.length = h.length
  other : ∀ id, id ∉ ids.take k → h'[id]? = h[id]?
  done : ∀ i id, i < k → ids[i]? = some id → h'[id]? = (h[id]?).map (g (s + i))

end

/-- The loop over pairwise distinct objects that satisfy `Q`: if the statement succeeds on such objects at the first `k`
positions (doing `g`) and, when `k` is not the last position, raises `e` at position `k`, the loop returns / raises `e` and
leaves `LoopRes`. -/
theorem forObs_prefix (f : Nat → HObs V → Except Err (HObs V)) (g : Nat → HObs V → HObs V) (e : Err)
    (Q : HObs V → Prop) :
    ∀ (ids : List Nat) (s k : Nat) (h : List (HObs V)), ids.Nodup → (∀ id ∈ ids, id < h.length) →
      (∀ id ∈ ids, ∀ ob, h[id]? = some ob → Q ob) → k ≤ ids.length →
      (∀ i ob, i < k → Q ob → f (s + i) ob = .ok (g (s + i) ob)) →
      (∀ ob, k < ids.length → Q ob → f (s + k) ob = .error e) →
      ∃ h', forObs f s ids h = (if k < ids.length then .error e else .ok (), h') ∧ LoopRes g s k ids h h' := by
  intro ids
  induction ids with
  | nil =>
    intro s k h _ _ _ hk _ _
    obtain rfl : k = 0 := by simpa using hk
    exact ⟨h, by simp [forObs], ⟨rfl, fun _ _ => rfl, fun i _ hi _ => by omega⟩⟩
  | cons id rest ih =>
    intro s k h hnd hv hq hk hok herr
    have hid : id < h.length := hv id (by simp)
    have hob : h[id]? = some h[id] := List.getElem?_eq_getElem hid
    have hqo : Q h[id] := hq id (by simp) _ hob
    obtain ⟨hnotin, hnd'⟩ := List.nodup_cons.mp hnd
    cases k with
    | zero =>
      have he := herr h[id] (by simp) hqo
      simp only [Nat.add_zero] at he
      exact ⟨h, by simp [forObs, hob, he], ⟨rfl, fun _ _ => rfl, fun i _ hi _ => by omega⟩⟩
    | succ k =>
      have h0 := hok 0 h[id] (by omega) hqo
      simp only [Nat.add_zero] at h0
      have hget : ∀ id', id' ≠ id → (h.set id (g s h[id]))[id']? = h[id']? := fun id' hne =>
        List.getElem?_set_ne (Ne.symm hne)
      have hne : ∀ id' ∈ rest, id' ≠ id := fun id' hm e => hnotin (e ▸ hm)
      -- the objects at the remaining positions are the old ones, so they still satisfy `Q`
      obtain ⟨h', hrun, hres⟩ := ih (s + 1) k (h.set id (g s h[id])) hnd'
        (fun id' hm => by rw [List.length_set]; exact hv id' (by simp [hm]))
        (fun id' hm ob ho => hq id' (by simp [hm]) ob (by rwa [hget id' (hne id' hm)] at ho))
        (by simpa using hk)
        (fun i ob hi hQ => by rw [show s + 1 + i = s + (i + 1) by omega]; exact hok (i + 1) ob (by omega) hQ)
        (fun ob hlt hQ => by rw [show s + 1 + k = s + (k + 1) by omega]; exact herr ob (by simpa using hlt) hQ)
      refine ⟨h', ?_, ⟨?_, ?_, ?_⟩⟩
      · simp only [forObs, hob, h0, hrun, List.length_cons, Nat.add_lt_add_iff_right]
      · rw [hres.length, List.length_set]
      · intro id' hni
        have hne : id' ≠ id := fun e => hni (by simp [e])
        have : id' ∉ rest.take k := fun hm => hni (by simp [hm])
        rw [hres.other id' this, hget id' hne]
      · intro i id' hi hri
        cases i with
        | zero =>
          have : id' = id := by simpa using hri.symm
          subst this
          have : id' ∉ rest.take k := fun hm => hnotin (List.mem_of_mem_take hm)
          rw [hres.other id' this, List.getElem?_set_self hid, hob]
          simp
        | succ j =>
          have hrj : rest[j]? = some id' := by simpa using hri
          rw [hres.done j id' (by omega) hrj, hget id' (hne id' (List.mem_of_getElem? hrj)),
            show s + 1 + j = s + (j + 1) by omega]

theorem forObs_ok (f : Nat → HObs V → Except Err (HObs V)) (g : Nat → HObs V → HObs V) (Q : HObs V → Prop)
    (ids : List Nat) (h : List (HObs V)) (hnd : ids.Nodup) (hv : ∀ id ∈ ids, id < h.length)
    (hq : ∀ id ∈ ids, ∀ ob, h[id]? = some ob → Q ob)
    (hok : ∀ i ob, i < ids.length → Q ob → f i ob = .ok (g i ob)) :
    ∃ h', forObs f 0 ids h = (.ok (), h') ∧ LoopRes g 0 ids.length ids h h' := by
  obtain ⟨h', h1, h2⟩ := forObs_prefix f g .index Q ids 0 ids.length h hnd hv hq (Nat.le_refl _)
    (fun i ob hi hQ => by simpa using hok i ob hi hQ)
    (fun _ hlt => absurd hlt (Nat.lt_irrefl _))
  exact ⟨h', by simpa using h1, h2⟩

theorem LoopRes.at {g : Nat → HObs V → HObs V} {k : Nat} {ids : List Nat} {h h' : List (HObs V)}
    (hr : LoopRes g 0 k ids h h') (hnd : ids.Nodup) {i id : Nat} (hi : ids[i]? = some id) :
    h'[id]? = (h[id]?).map (fun ob => if i < k then g i ob else ob) := by
  by_cases hik : i < k
  · have := hr.done i id hik hi
    simp only [Nat.zero_add] at this
    simp [this, hik]
  · have hni : id ∉ ids.take k := by
      intro hm
      obtain ⟨j, hj, hje⟩ := List.mem_take_iff_getElem.mp hm
      have hjl : j < ids.length := by omega
      have hil : i < ids.length := lt_of_getElem?_some hi
      have hie : ids[i] = id := by
        rw [List.getElem?_eq_getElem hil] at hi; exact Option.some.inj hi
      have : j = i := (List.getElem_inj hnd).mp (hje.trans hie.symm)
      omega
    rw [hr.other id hni]
    cases h[id]? <;> simp [hik]

theorem featsAt_some {h : List (HObs V)} {id : Nat} {ob : HObs V} (ho : h[id]? = some ob) : featsAt h id = ob.feats := by
  simp [featsAt, ho]

section
variable [Inhabited V]

def onFeats (φ : List V → List V) (ob : HObs V) : HObs V := { ob with feats := φ ob.feats }

end

theorem onFeats_coord (φ : List V → List V) (ob : HObs V) (c : Coord) : (onFeats φ ob).coord c = ob.coord c := by
  cases c <;> rfl

theorem rows_loop {φ : Nat → List V → List V} {k : Nat} {ids : List Nat} {h h' : List (HObs V)}
    (hr : LoopRes (fun i => onFeats (φ i)) 0 k ids h h') (hnd : ids.Nodup) (hv : ∀ id ∈ ids, id < h.length) (i : Nat) :
    (ids.map (featsAt h'))[i]? = ((ids.map (featsAt h))[i]?).map (fun r => if i < k then φ i r else r) := by
  simp only [List.getElem?_map]
  cases hi : ids[i]? with
  | none => rfl
  | some id =>
    have hid : id < h.length := hv id (List.mem_of_getElem? hi)
    have hob : h[id]? = some h[id] := List.getElem?_eq_getElem hid
    have h1 := hr.at hnd hi
    rw [hob] at h1
    simp only [Option.map_some] at h1 ⊢
    rw [featsAt_some h1, featsAt_some hob]
    by_cases hik : i < k <;> simp [hik, onFeats]

variable [Inhabited V]

theorem coordAt_some {h : List (HObs V)} {id : Nat} {ob : HObs V} (ho : h[id]? = some ob) (c : Coord) :
    coordAt h c id = ob.coord c := by
  simp [coordAt, ho]

theorem coords_loop {φ : Nat → List V → List V} {k : Nat} {ids : List Nat} {h h' : List (HObs V)}
    (hr : LoopRes (fun i => onFeats (φ i)) 0 k ids h h') (hnd : ids.Nodup) (hv : ∀ id ∈ ids, id < h.length) (c : Coord) :
    ids.map (coordAt h' c) = ids.map (coordAt h c) := by
  apply List.map_congr_left
  intro id hm
  obtain ⟨i, hil, hie⟩ := List.getElem_of_mem hm
  have hi : ids[i]? = some id := by rw [List.getElem?_eq_getElem hil, hie]
  have hid : id < h.length := hv id hm
  have hob : h[id]? = some h[id] := List.getElem?_eq_getElem hid
  have h1 := hr.at hnd hi
  rw [hob] at h1
  simp only [Option.map_some] at h1
  rw [coordAt_some h1, coordAt_some hob]
  by_cases hik : i < k <;> simp [hik, onFeats_coord]

theorem view_loop {φ : Nat → List V → List V} {k : Nat} {w : Wd V} {h' : List (HObs V)} (d' : List (String × Nat))
    (hr : LoopRes (fun i => onFeats (φ i)) 0 k w.ids w.heap h') (hnd : w.ids.Nodup) (hv : ∀ id ∈ w.ids, id < w.heap.length)
    (rows' : List (List V))
    (hrows : ∀ i, rows'[i]? = ((view w).rows[i]?).map (fun r => if i < k then φ i r else r)) :
    view { w with heap := h', dico := d' } = { view w with dico := d', rows := rows' } := by
  unfold view
  simp only [St.mk.injEq, true_and]
  refine ⟨?_, coords_loop hr hnd hv .x, coords_loop hr hnd hv .y, coords_loop hr hnd hv .z, coords_loop hr hnd hv .t⟩
  apply List.ext_getElem?
  intro i
  rw [rows_loop hr hnd hv i, hrows i]
  rfl

/-- The track in focus refers to pairwise distinct existing objects and shows an aligned table of `n` observations; and,
with respect to the heap `h0` and the track `ids0` the history started from: the track still refers to the same objects,
no object was added or dropped, and every object OUTSIDE the track is as it was. -/
structure WGood (n : Nat) (h0 : List (HObs V)) (ids0 : List Nat) (w : Wd V) : Prop where
  nodup : w.ids.Nodup
  valid : ∀ id ∈ w.ids, id < w.heap.length
  inv : Inv n (view w)
  ids : w.ids = ids0
  length : w.heap.length = h0.length
  other : ∀ id, id ∉ ids0 → w.heap[id]? = h0[id]?

variable {n : Nat} {h0 : List (HObs V)} {ids0 : List Nat}

theorem view_rows_length (w : Wd V) : (view w).rows.length = w.ids.length := by simp [view]

theorem view_isEmpty (w : Wd V) : (view w).rows.isEmpty = w.ids.isEmpty := by
  simp only [view]; cases w.ids <;> rfl

theorem view_dico (w : Wd V) : (view w).dico = w.dico := rfl

theorem view_has (w : Wd V) (name : String) : hasC (view w) name = hasW w name := rfl

theorem prim_close {α : Type} {P : α → Prop} {mc : M (St V) α} {ma : M (ATab V) α} (hs : Sim n P mc ma)
    {w w' : Wd V} (hg : WGood n h0 ids0 w) {r : Except Err α} (hC : mc (view w) = (r, view w'))
    (hids : w'.ids = w.ids) (hlen : w'.heap.length = w.heap.length) (hoth : ∀ id, id ∉ w.ids → w'.heap[id]? = w.heap[id]?) :
    WGood n h0 ids0 w' ∧ mc (view w) = (r, view w') := by
  refine ⟨⟨by rw [hids]; exact hg.nodup, ?_, ?_, by rw [hids]; exact hg.ids, by rw [hlen]; exact hg.length, ?_⟩, hC⟩
  · intro id hm
    rw [hids] at hm; rw [hlen]; exact hg.valid id hm
  · have := (hs (view w) hg.inv).1
    rw [hC] at this; exact this
  · intro id hni
    rw [hoth id (by rw [hg.ids]; exact hni)]; exact hg.other id hni

theorem map_if_lt {α : Type} (rows : List α) (k : Nat) (hk : rows.length = k) (f : Nat → α → α) (i : Nat) :
    (rows[i]?).map (fun r => if i < k then f i r else r) = (rows[i]?).map (f i) := by
  by_cases hi : i < k
  · simp [hi]
  · rw [List.getElem?_eq_none (by omega)]; rfl

theorem loop_close {α : Type} {P : α → Prop} {mc : M (St V) α} {ma : M (ATab V) α} (hs : Sim n P mc ma)
    {w : Wd V} (hg : WGood n h0 ids0 w) {φ : Nat → List V → List V} {k : Nat} {h' : List (HObs V)}
    (hr : LoopRes (fun i => onFeats (φ i)) 0 k w.ids w.heap h') (d' : List (String × Nat)) (rows' : List (List V))
    (hrows : ∀ i, rows'[i]? = ((view w).rows[i]?).map (fun r => if i < k then φ i r else r))
    {r : Except Err α} (hC : mc (view w) = (r, { view w with dico := d', rows := rows' })) :
    WGood n h0 ids0 { w with heap := h', dico := d' } ∧ mc (view w) = (r, view { w with heap := h', dico := d' }) := by
  refine prim_close hs hg ?_ rfl hr.length ?_
  · rw [view_loop d' hr hg.nodup hg.valid rows' hrows]; exact hC
  · intro id hni
    exact hr.other id (fun hm => hni (List.mem_of_mem_take hm))

theorem w_create (name : String) (init : Init V) :
    GSim (WGood n h0 ids0) view (fun _ => True) (createW (V := V) name init) (createC name init) := by
  refine gsim_of fun w hg => ?_
  have hs := sim_create (V := V) (n := n) name init
  fun_cases createW name init w
  case case1 h1 => exact ⟨hg, by simp [createC, h1]⟩
  case case2 h1 h2 => exact ⟨hg, by simp [createC, h1, view_isEmpty, h2]⟩
  case case3 h1 h2 h3 => exact ⟨hg, by simp [createC, h1, view_isEmpty, h2, view_has, h3]⟩
  case case4 h1 h2 h3 _ v r =>
    obtain ⟨h', hrun, hres⟩ := forObs_ok (fun _ ob => .ok (pushFeat v ob)) (fun _ => onFeats (· ++ [v])) (fun _ => True)
      w.ids w.heap hg.nodup hg.valid (fun _ _ _ _ => trivial) (fun _ _ _ _ => rfl)
    rw [show r = (.ok (), h') from hrun]
    refine loop_close hs hg hres (w.dico ++ [(name, w.dico.length)]) ((view w).rows.map (· ++ [v])) (fun i => ?_)
      (by simp [createC, h1, view_isEmpty, h2, view_has, h3, view_dico])
    rw [map_if_lt _ _ (view_rows_length w) (fun _ r => r ++ [v])]; simp
  case case5 h1 h2 h3 l h4 =>
    exact ⟨hg, by simp [createC, h1, view_isEmpty, h2, view_has, h3, view_rows_length, h4]⟩
  case case6 h1 h2 h3 _ l h4 r =>
    obtain ⟨h', hrun, hres⟩ := forObs_ok (pushNth l)
      (fun i => onFeats (fun r => match l[i]? with | some v => r ++ [v] | none => r)) (fun _ => True) w.ids w.heap
      hg.nodup hg.valid (fun _ _ _ _ => trivial) (by
        intro i ob hil _
        have : i < l.length := by omega
        simp [pushNth, List.getElem?_eq_getElem this, pushFeat, onFeats])
    rw [show r = (.ok (), h') from hrun]
    refine loop_close hs hg hres (w.dico ++ [(name, w.dico.length)]) (appendCol (view w).rows l) (fun i => ?_)
      (by simp [createC, h1, view_isEmpty, h2, view_has, h3, view_rows_length, h4, view_dico])
    rw [map_if_lt _ _ (view_rows_length w) (fun i r => match l[i]? with | some v => r ++ [v] | none => r), appendCol_getElem?]
    rfl

theorem WGood.slot {w : Wd V} (hg : WGood n h0 ids0 w) {name : String} {idx : Nat} (hf : find w.dico name = some idx)
    {id : Nat} {ob : HObs V} (hm : id ∈ w.ids) (ho : w.heap[id]? = some ob) : idx < ob.feats.length := by
  have hr : featsAt w.heap id ∈ (view w).rows := List.mem_map_of_mem hm
  rw [← featsAt_some ho]
  exact hg.inv.slot (st := view w) hf _ hr

theorem w_update (name : String) (init : Init V) :
    GSim (WGood n h0 ids0) view (fun _ => True) (updateW (V := V) name init) (updateC name init) := by
  refine gsim_of fun w hg => ?_
  have hs := sim_update (V := V) (n := n) name init
  fun_cases updateW name init w
  case case1 h1 => exact ⟨hg, by simp [updateC, view_has, h1]⟩
  case case2 h1 h2 => exact ⟨hg, by simp [updateC, view_has, h1, view_isEmpty, h2]⟩
  case case3 h1 h2 hf => exact ⟨hg, by simp [updateC, view_has, h1, view_isEmpty, h2, view_dico, hf]⟩
  case case4 h1 h2 idx hf r =>
    cases init with
    | scalar v =>
      obtain ⟨h', hrun, hres⟩ := forObs_ok (fun _ ob => setFeat idx v ob) (fun _ => onFeats (·.set idx v))
        (fun ob => idx < ob.feats.length) w.ids w.heap hg.nodup hg.valid (fun _ hm _ ho => hg.slot hf hm ho) (by
          intro i ob _ (hsl : idx < ob.feats.length)
          simp [setFeat, hsl, onFeats])
      rw [show r = (.ok (), h') from hrun]
      refine loop_close hs hg hres w.dico ((view w).rows.map (·.set idx v)) (fun i => ?_)
        (by simp [updateC, view_has, h1, view_isEmpty, h2, view_dico, hf])
      rw [map_if_lt _ _ (view_rows_length w) (fun _ r => r.set idx v)]; simp
    | list l =>
      by_cases h4 : l.length < w.ids.length
      · obtain ⟨h', hrun, hres⟩ := forObs_prefix (setNth idx l)
          (fun i => onFeats (fun r => match l[i]? with | some v => r.set idx v | none => r)) .index
          (fun ob => idx < ob.feats.length) w.ids 0 l.length w.heap
          hg.nodup hg.valid (fun _ hm _ ho => hg.slot hf hm ho) (by omega)
          (by
            intro i ob hil (hsl : idx < ob.feats.length)
            simp [setNth, List.getElem?_eq_getElem hil, setFeat, hsl, onFeats])
          (by
            intro ob _ _
            simp [setNth])
        simp only [h4, if_true] at hrun
        rw [show r = (.error .index, h') from hrun]
        refine loop_close hs hg hres w.dico (writeCol idx (view w).rows l) (fun i => ?_)
          (by simp [updateC, view_has, h1, view_isEmpty, h2, view_dico, hf, view_rows_length, h4])
        rw [writeCol_getElem?]
        congr 1
        funext r
        by_cases hil : i < l.length
        · simp [hil]
        · simp [hil]
      · obtain ⟨h', hrun, hres⟩ := forObs_ok (setNth idx l)
          (fun i => onFeats (fun r => match l[i]? with | some v => r.set idx v | none => r))
          (fun ob => idx < ob.feats.length) w.ids w.heap
          hg.nodup hg.valid (fun _ hm _ ho => hg.slot hf hm ho) (by
            intro i ob hi (hsl : idx < ob.feats.length)
            have hil : i < l.length := by omega
            simp [setNth, List.getElem?_eq_getElem hil, setFeat, hsl, onFeats])
        rw [show r = (.ok (), h') from hrun]
        refine loop_close hs hg hres w.dico (writeCol idx (view w).rows l) (fun i => ?_)
          (by simp [updateC, view_has, h1, view_isEmpty, h2, view_dico, hf, view_rows_length, h4])
        rw [map_if_lt _ _ (view_rows_length w) (fun i r => match l[i]? with | some v => r.set idx v | none => r), writeCol_getElem?]
        rfl

theorem w_remove (name : String) :
    GSim (WGood n h0 ids0) view (fun _ => True) (removeW (V := V) name) (removeC name) := by
  refine gsim_of fun w hg => ?_
  have hs := sim_remove (V := V) (n := n) name
  -- every object of the track has the slot, so the loop of deletions returns
  have hloop : ∀ idx, find w.dico name = some idx → ∃ h', forObs (fun _ ob => delFeat idx ob) 0 w.ids w.heap = (.ok (), h') ∧
      LoopRes (fun _ => onFeats (·.eraseIdx idx)) 0 w.ids.length w.ids w.heap h' := fun idx hf =>
    forObs_ok _ _ (fun ob => idx < ob.feats.length) w.ids w.heap hg.nodup hg.valid (fun _ hm _ ho => hg.slot hf hm ho)
      fun i ob _ (hsl : idx < ob.feats.length) => by simp [delFeat, hsl, onFeats]
  fun_cases removeW name w
  case case1 h1 => exact ⟨hg, by simp [removeC, view_has, h1]⟩
  case case2 h1 hf => exact ⟨hg, by simp [removeC, view_has, h1, view_dico, hf]⟩
  case case3 h1 idx hf r e he =>
    obtain ⟨h', hrun, _⟩ := hloop idx hf
    rw [show r = (.ok (), h') from hrun] at he
    cases he
  case case4 h1 idx hf r _ _ =>
    obtain ⟨h', hrun, hres⟩ := hloop idx hf
    rw [show r = (.ok (), h') from hrun]
    refine loop_close hs hg hres _ ((view w).rows.map (·.eraseIdx idx)) (fun i => ?_)
      (by simp [removeC, view_has, h1, view_dico, hf])
    rw [map_if_lt _ _ (view_rows_length w) (fun _ r => r.eraseIdx idx)]; simp

omit [Inhabited V] in
theorem featsAt_getElem? (h : List (HObs V)) (id idx : Nat) : (featsAt h id)[idx]? = (h[id]?).bind (·.feats[idx]?) := by
  unfold featsAt
  cases h[id]? <;> simp

theorem view_coord (w : Wd V) (c : Coord) : (view w).coord c = w.ids.map (coordAt w.heap c) := by
  cases c <;> rfl

theorem w_get (o : Ops V) (name : String) :
    GSim (WGood n h0 ids0) view (fun _ => True) (getW (V := V) o name) (getC o name) := by
  refine gsim_of fun w hg => ?_
  have hm : ∀ c, w.ids.mapM (fun id => (w.heap[id]?).map (·.coord c)) = some (w.ids.map (coordAt w.heap c)) := fun c =>
    Common.mapM_some_of_forall fun id hid => by simp [coordAt, List.getElem?_eq_getElem (hg.valid id hid)]
  have hrows : ∀ idx : Nat, (view w).rows.mapM (fun r : List V => r[idx]?) = w.ids.mapM (fun id => (w.heap[id]?).bind (·.feats[idx]?)) :=
    fun idx => by
      show (w.ids.map (featsAt w.heap)).mapM (fun r => r[idx]?) = _
      rw [List.mapM_map]
      exact congrArg (w.ids.mapM ·) (funext fun id => featsAt_getElem? w.heap id idx)
  fun_cases getW o name w
  case case1 c hc l hl =>
    obtain rfl := Option.some.inj ((hm c).symm.trans hl)
    exact ⟨hg, by simp [getC, hc, view_coord]⟩
  -- a reference to no object: excluded, the references of the track are valid
  case case2 c hc hl => rw [hm c] at hl; cases hl
  case case3 hc h1 => exact ⟨hg, by simp [getC, hc, h1]⟩
  case case4 hc h1 h2 => exact ⟨hg, by simp [getC, hc, h1, h2, view_rows_length]⟩
  case case5 hc h1 h2 hf => exact ⟨hg, by simp [getC, hc, h1, h2, view_dico, hf]⟩
  case case6 hc h1 h2 idx hf col hcol => exact ⟨hg, by simp [getC, hc, h1, h2, view_dico, hf, hrows, hcol]⟩
  case case7 hc h1 h2 idx hf hcol => exact ⟨hg, by simp [getC, hc, h1, h2, view_dico, hf, hrows, hcol]⟩

theorem WGood.obj {w : Wd V} (hg : WGood n h0 ids0 w) {i id : Nat} (hi : w.ids[i]? = some id) :
    ∃ ob, w.heap[id]? = some ob :=
  ⟨_, List.getElem?_eq_getElem (hg.valid id (List.mem_of_getElem? hi))⟩

theorem view_rows_getElem? (w : Wd V) (i : Nat) : (view w).rows[i]? = (w.ids[i]?).map (featsAt w.heap) := by
  simp [view]

theorem view_xs_getElem? (w : Wd V) (c : Coord) (i : Nat) : ((view w).coord c)[i]? = (w.ids[i]?).map (coordAt w.heap c) := by
  rw [view_coord]; simp

theorem WGood.at {w : Wd V} (hg : WGood n h0 ids0 w) (i : Nat) :
    (view w).rows[i]? = ((w.ids[i]?).bind (w.heap[·]?)).map (·.feats) ∧
    ∀ c, ((view w).coord c)[i]? = ((w.ids[i]?).bind (w.heap[·]?)).map (·.coord c) := by
  cases hi : w.ids[i]? with
  | none => simp [view_rows_getElem?, view_xs_getElem?, hi]
  | some id =>
    obtain ⟨ob, ho⟩ := hg.obj hi
    simp [view_rows_getElem?, view_xs_getElem?, hi, ho, featsAt_some ho, coordAt_some ho]

theorem w_getObs (o : Ops V) (name : String) (i : Nat) :
    GSim (WGood n h0 ids0) view (fun _ => True) (getObsW (V := V) o name i) (getObsC o name i) := by
  refine gsim_of fun w hg => ?_
  obtain ⟨hrow, hco⟩ := hg.at i
  fun_cases getObsW o name i w
  case case1 c hc ob hq => exact ⟨hg, by simp [getObsC, hc, hco, hq]⟩
  case case2 c hc hq => exact ⟨hg, by simp [getObsC, hc, hco, hq]⟩
  case case3 hc h1 => exact ⟨hg, by simp [getObsC, hc, h1]⟩
  case case4 hc h1 h2 => exact ⟨hg, by simp [getObsC, hc, h1, h2]⟩
  case case5 hc h1 h2 hf => exact ⟨hg, by simp [getObsC, hc, h1, h2, view_dico, hf]⟩
  case case6 hc h1 h2 idx hf hq => exact ⟨hg, by simp [getObsC, hc, h1, h2, view_dico, hf, hrow, hq]⟩
  case case7 hc h1 h2 idx hf ob hq v hv =>
    exact ⟨hg, by simp [getObsC, hc, h1, h2, view_dico, hf, hrow, hq, hv]⟩
  case case8 hc h1 h2 idx hf ob hq hv =>
    exact ⟨hg, by simp [getObsC, hc, h1, h2, view_dico, hf, hrow, hq, hv]⟩

omit [Inhabited V] in
theorem map_set_obj {β : Type} (q : Option (HObs V) → β) {ids : List Nat} (hnd : ids.Nodup) (heap : List (HObs V))
    {i id : Nat} (hi : ids[i]? = some id) (hid : id < heap.length) (ob' : HObs V) :
    ids.map (fun j => q ((heap.set id ob')[j]?)) = (ids.map (fun j => q (heap[j]?))).set i (q (some ob')) := by
  apply List.ext_getElem?
  intro j
  have hil := lt_of_getElem?_some hi
  by_cases hji : j = i
  · subst hji
    rw [List.getElem?_set_self (by simpa using hil), List.getElem?_map, hi]
    simp [List.getElem?_set_self hid]
  · rw [List.getElem?_set_ne (fun e => hji e.symm), List.getElem?_map, List.getElem?_map]
    cases hj : ids[j]? with
    | none => rfl
    | some id' =>
      have hne : id ≠ id' := by
        intro e
        have hjl := lt_of_getElem?_some hj
        rw [List.getElem?_eq_getElem hil] at hi
        rw [List.getElem?_eq_getElem hjl] at hj
        have : ids[j] = ids[i] := by rw [Option.some.inj hi, Option.some.inj hj, e]
        exact hji ((List.getElem_inj hnd).mp this)
      simp [List.getElem?_set_ne hne]

theorem set_same {α : Type} (l : List α) (i : Nat) (a : α) (h : l[i]? = some a) : l.set i a = l := by
  obtain ⟨hi, rfl⟩ := List.getElem?_eq_some_iff.mp h
  exact List.set_getElem_self hi

theorem view_set_obj {w : Wd V} (hnd : w.ids.Nodup) {i id : Nat} (hi : w.ids[i]? = some id) (hid : id < w.heap.length)
    (ob' : HObs V) :
    view { w with heap := w.heap.set id ob' } =
      { dico := w.dico, rows := (view w).rows.set i ob'.feats,
        xs := (view w).xs.set i ob'.x, ys := (view w).ys.set i ob'.y, zs := (view w).zs.set i ob'.z, ts := (view w).ts.set i ob'.t } := by
  unfold view
  simp only [St.mk.injEq, true_and]
  exact ⟨map_set_obj (β := List V) (fun o => (o.map HObs.feats).getD []) hnd w.heap hi hid ob',
    map_set_obj (β := V) (fun o => (o.map (fun ob => HObs.coord ob .x)).getD default) hnd w.heap hi hid ob',
    map_set_obj (β := V) (fun o => (o.map (fun ob => HObs.coord ob .y)).getD default) hnd w.heap hi hid ob',
    map_set_obj (β := V) (fun o => (o.map (fun ob => HObs.coord ob .z)).getD default) hnd w.heap hi hid ob',
    map_set_obj (β := V) (fun o => (o.map (fun ob => HObs.coord ob .t)).getD default) hnd w.heap hi hid ob'⟩

theorem coord_set_same {w : Wd V} {i id : Nat} {ob : HObs V} (hi : w.ids[i]? = some id) (ho : w.heap[id]? = some ob) (c : Coord) :
    ((view w).coord c).set i (ob.coord c) = (view w).coord c :=
  set_same _ _ _ (by rw [view_xs_getElem?, hi]; simp [coordAt_some ho])

theorem rows_set_same {w : Wd V} {i id : Nat} {ob : HObs V} (hi : w.ids[i]? = some id) (ho : w.heap[id]? = some ob) :
    (view w).rows.set i ob.feats = (view w).rows :=
  set_same _ _ _ (by rw [view_rows_getElem?, hi]; simp [featsAt_some ho])

theorem view_setFeats {w : Wd V} (hnd : w.ids.Nodup) {i id : Nat} {ob : HObs V} (hi : w.ids[i]? = some id)
    (ho : w.heap[id]? = some ob) (fs : List V) :
    view { w with heap := w.heap.set id { ob with feats := fs } } = { view w with rows := (view w).rows.set i fs } := by
  have hcx := coord_set_same hi ho .x
  have hcy := coord_set_same hi ho .y
  have hcz := coord_set_same hi ho .z
  have hct := coord_set_same hi ho .t
  simp only [St.coord, HObs.coord] at hcx hcy hcz hct
  rw [view_set_obj hnd hi (lt_of_getElem?_some ho), hcx, hcy, hcz, hct]
  rfl

theorem view_setCoord {w : Wd V} (hnd : w.ids.Nodup) {i id : Nat} {ob : HObs V} (hi : w.ids[i]? = some id)
    (ho : w.heap[id]? = some ob) {c : Coord} (hc : c ≠ .t) (v : V) :
    view { w with heap := w.heap.set id (ob.setCoord c v) } = (view w).setCoord c (((view w).coord c).set i v) := by
  have hr := rows_set_same hi ho
  have hcx := coord_set_same hi ho .x
  have hcy := coord_set_same hi ho .y
  have hcz := coord_set_same hi ho .z
  have hct := coord_set_same hi ho .t
  simp only [St.coord, HObs.coord] at hcx hcy hcz hct
  rw [view_set_obj hnd hi (lt_of_getElem?_some ho)]
  cases c with
  | x => simp only [HObs.setCoord, hr, hcy, hcz, hct]; rfl
  | y => simp only [HObs.setCoord, hr, hcx, hcz, hct]; rfl
  | z => simp only [HObs.setCoord, hr, hcx, hcy, hct]; rfl
  | t => exact absurd rfl hc

theorem coord_of_xyz {name : String} (h : (name == "x" || name == "y" || name == "z") = true) :
    ∃ c, coord? name = some c ∧ c ≠ .t := by
  simp only [Bool.or_eq_true, beq_iff_eq] at h
  rcases h with (h | h) | h <;> subst h
  · exact ⟨.x, by decide +kernel, by decide⟩
  · exact ⟨.y, by decide +kernel, by decide⟩
  · exact ⟨.z, by decide +kernel, by decide⟩

theorem w_setObs (name : String) (i : Nat) (v : V) :
    GSim (WGood n h0 ids0) view (fun _ => True) (setObsW (V := V) name i v) (setObsC name i v) := by
  refine gsim_of fun w hg => ?_
  have hs := sim_setObs (V := V) (n := n) name i v
  have hoth : ∀ {id : Nat}, w.ids[i]? = some id → ∀ ob' id', id' ∉ w.ids → (w.heap.set id ob')[id']? = w.heap[id']? :=
    fun {id} hi _ id' hni => List.getElem?_set_ne (fun (e : id = id') => hni (e ▸ List.mem_of_getElem? hi))
  have hlen : ∀ c, ((view w).coord c).length = w.ids.length := fun c => by rw [view_coord, List.length_map]
  have hnl : w.ids[i]? = none → ¬ i < w.ids.length := fun hi hlt => by rw [List.getElem?_eq_getElem hlt] at hi; cases hi
  fun_cases setObsW name i v w
  case case1 hxyz c hc hi => exact ⟨hg, by simp [setObsC, hxyz, hc, hlen, hnl hi]⟩
  -- a reference to no object: excluded, the references of the track are valid
  case case2 hxyz c hc id hi ho | case7 hxyz idx hf id hi ho =>
    obtain ⟨ob, ho'⟩ := hg.obj hi
    rw [ho] at ho'; cases ho'
  case case3 hxyz c hc id hi ob ho =>
    refine prim_close hs hg ?_ rfl (by simp) (hoth hi _)
    have hct : c ≠ .t := fun e => by
      obtain ⟨c', hc', hct'⟩ := coord_of_xyz hxyz
      rw [hc] at hc'; cases hc'; exact hct' e
    rw [view_setCoord hg.nodup hi ho hct]
    simp [setObsC, hxyz, hc, hlen, lt_of_getElem?_some hi]
  case case4 hxyz hc => exact ⟨hg, by simp [setObsC, hxyz, hc]⟩
  case case5 hxyz hf => exact ⟨hg, by simp [setObsC, hxyz, view_dico, hf]⟩
  case case6 hxyz idx hf hi => exact ⟨hg, by simp [setObsC, hxyz, view_dico, hf, view_rows_getElem?, hi]⟩
  case case8 hxyz idx hf id hi ob ho ob' hset =>
    have hsl := hg.slot hf (List.mem_of_getElem? hi) ho
    obtain rfl : ob' = { ob with feats := ob.feats.set idx v } := by simpa [setFeat, hsl] using hset.symm
    refine prim_close hs hg ?_ rfl (by simp) (hoth hi _)
    rw [view_setFeats hg.nodup hi ho]
    simp [setObsC, hxyz, view_dico, hf, view_rows_getElem?, hi, featsAt_some ho, hsl]
  -- the object has the slot: `features[idx] = v` cannot raise
  case case9 hxyz idx hf id hi ob ho e hset => simp [setFeat, hg.slot hf (List.mem_of_getElem? hi) ho] at hset

/-- **The Track API on a heap of pairwise distinct objects is the Track API on the table the track shows.** -/
instance primSimWd : PrimSim (WGood (V := V) n h0 ids0) view where
  size := gsim_of fun w hg => ⟨hg, by simp [Tbl.size, view_rows_length]⟩
  has := fun _ => gsim_of fun _ hg => ⟨hg, rfl⟩
  names := gsim_of fun _ hg => ⟨hg, rfl⟩
  get := w_get
  getObs := w_getObs
  setObs := w_setObs
  create := w_create
  update := w_update
  remove := w_remove

end TV.Features
