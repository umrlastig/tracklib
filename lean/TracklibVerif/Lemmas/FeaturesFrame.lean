import TracklibVerif.Lemmas.FeaturesSpec
import TracklibVerif.Lemmas.CinTabHoare
/-! Frame ("no other feature, coordinate or timestamp changes as a side effect"), on the specification table:
`Same T a a'` says that every name outside `T` is untouched — its presence, its column, and, for the names `x y z t`,
the coordinate. The primitives respect `Same W` when they may write the name concerned (`framePrim`), hence so does every
operation (`Lemmas/FeaturesRelEval.lean`); transported to the code's table through the simulation in `Props/C01.lean`. -/
namespace TV.Features
variable {V : Type}

section
variable [Inhabited V]

structure Same (T : String → Prop) (a a' : ATab V) : Prop where
  cols : ∀ m, ¬ T m → lookup a'.cols m = lookup a.cols m
  coord : ∀ c, ¬ T (CinTab.cnm c) → a'.coord c = a.coord c
  size : a'.xs.length = a.xs.length

end

theorem Same.refl (T : String → Prop) (a : ATab V) : Same T a a := ⟨fun _ _ => rfl, fun _ _ => rfl, rfl⟩

theorem Same.trans {T : String → Prop} {a b c : ATab V} (h1 : Same T a b) (h2 : Same T b c) : Same T a c :=
  ⟨fun m hm => (h2.cols m hm).trans (h1.cols m hm), fun k hk => (h2.coord k hk).trans (h1.coord k hk),
   h2.size.trans h1.size⟩

theorem Same.mono {T T' : String → Prop} {a b : ATab V} (h : Same T a b) (hT : ∀ m, T m → T' m) : Same T' a b :=
  ⟨fun m hm => h.cols m (fun t => hm (hT m t)), fun k hk => h.coord k (fun t => hk (hT _ t)), h.size⟩

theorem same_cols {T : String → Prop} (a : ATab V) (cols' : List (String × List V))
    (h : ∀ m, ¬ T m → lookup cols' m = lookup a.cols m) : Same T a { a with cols := cols' } :=
  ⟨h, fun c _ => by cases c <;> rfl, rfl⟩

section
variable [Inhabited V]

instance (T : String → Prop) : Step (Same (V := V) T) := ⟨Same.refl T, Same.trans⟩

/-- What `createAnalyticalFeature`, `updateAnalyticalFeature` and `setObsAnalyticalFeature` under the name `nm` can do to
the specification table, returning or raising: nothing, a new last column `nm`, new values in the column `nm`, new values
in the coordinate `nm`. The frame and the listing (`Lemmas/FeaturesKeep.lean`) are read off these four shapes. -/
inductive Wrote (nm : String) (a : ATab V) : ATab V → Prop
  | none : Wrote nm a a
  | append (c : List V) : lookup a.cols nm = none → Wrote nm a { a with cols := a.cols ++ [(nm, c)] }
  | replace (c : List V) : Wrote nm a { a with cols := replaceCol a.cols nm c }
  | coord (c : Coord) (l : List V) : coord? nm = some c → l.length = (a.coord c).length → Wrote nm a (a.setCoord c l)

end

theorem wrote_create (nm : String) (init : Init V) (a : ATab V) : Wrote nm a (createA nm init a).2 := by
  fun_cases createA nm init a
  case case4 hh _ | case6 hh _ _ => exact .append _ (by simp [hasA] at hh; exact hh.1)
  all_goals exact .none

theorem wrote_update (nm : String) (init : Init V) (a : ATab V) : Wrote nm a (updateA nm init a).2 := by
  fun_cases updateA nm init a
  case case4 | case5 => exact .replace _
  all_goals exact .none

theorem wrote_setObs (nm : String) (i : Nat) (v : V) (a : ATab V) : Wrote nm a (setObsA nm i v a).2 := by
  fun_cases setObsA nm i v a
  case case1 c hc _ => exact .coord _ _ hc (List.length_set ..)
  case case5 => exact .replace _
  all_goals exact .none

theorem Wrote.same {nm : String} {a a' : ATab V} (h : Wrote nm a a') : Same (· = nm) a a' := by
  cases h with
  | none => exact Same.refl _ a
  | append c hl => exact same_cols a _ (fun m hm => by rw [lookup_append_new _ _ _ _ hl]; simp [hm])
  | replace c => exact same_cols a _ (fun m hm => by rw [lookup_replaceCol]; simp [hm])
  | coord c l hc hlen =>
    have hn := CinTab.cnm_of_coord? hc
    refine ⟨fun _ _ => by cases c <;> rfl, fun c' hc' => ?_, by cases c <;> first | exact hlen | rfl⟩
    have : c' ≠ c := fun e => hc' (by rw [e, hn])
    cases c <;> cases c' <;> first | rfl | exact absurd rfl this

theorem same_remove (nm : String) (a : ATab V) : Same (· = nm) a (removeA nm a).2 := by
  fun_cases removeA nm a
  case case3 => exact same_cols a _ (fun m hm => lookup_filter_ne _ _ _ hm)
  all_goals exact Same.refl _ a

theorem framePrim (W : String → Prop) :
    PrimRel (V := V) (Eq : ATab V → ATab V → Prop) (Same W) W (fun _ => True) True :=
  PrimRel.of_nine (rel_eq fun a => Same.refl W a) (fun _ => rel_eq fun a => Same.refl W a)
    (rel_eq fun a => Same.refl W a)
    (fun o nm => rel_eq fun a => (getA_snd o nm a).symm ▸ Same.refl W a)
    (fun o nm i => rel_eq fun a => (getObsA_snd o nm i a).symm ▸ Same.refl W a)
    (fun nm i v h => rel_eq fun a => (wrote_setObs nm i v a).same.mono (fun _ e => e ▸ h))
    (fun nm init h => rel_eq fun a => (wrote_create nm init a).same.mono (fun _ e => e ▸ h))
    (fun nm init h => rel_eq fun a => (wrote_update nm init a).same.mono (fun _ e => e ▸ h))
    (fun nm h => rel_eq fun a => (same_remove nm a).mono (fun _ e => e ▸ h))

theorem frame_step (o : Ops V) (op : Op V) (a : ATab V) : Same (touched op) a (step o op a).2 :=
  (rel_step (framePrim _) o op (fun _ h => h) (fun _ _ => trivial) (fun _ _ => trivial) a a rfl).2.2.1

theorem frame_stepList (o : Ops V) (ops : List (Op V)) (a : ATab V) :
    Same (fun m => ∃ op ∈ ops, touched op m) a (stepList o ops a).2 :=
  (rel_stepList (framePrim _) o ops (fun op h _ ht => ⟨op, h, ht⟩) (fun _ _ _ _ => trivial) (fun _ _ => trivial)
    a a rfl).2.2.1

theorem frame_evaluate (o : Ops V) (rpn : List String) (a : ATab V) : Same (exprT rpn) a (evaluate o rpn a).2 :=
  (rel_evaluate (framePrim _) o rpn trivial (fun _ hm => ⟨Or.inr hm, trivial⟩) (fun _ hm hop => Or.inl ⟨hm, hop⟩)
    a a rfl).2.2.1

theorem aread_same (o : Ops V) {T : String → Prop} {a a' : ATab V} (h : Same T a a') (m : String) (hm : ¬ T m) :
    aread o a' m = aread o a m := by
  unfold aread
  fun_cases getA o m a
  case case1 c hc => simp [getA, hc, h.coord c (by rw [← CinTab.cnm_of_coord? hc]; exact hm)]
  case case2 hc h1 => simp [getA, hc, h1]
  case case3 hc h1 h2 => simp [getA, hc, h1, h2, ATab.size, h.size]
  case case4 hc h1 h2 hl | case5 hc h1 h2 col hl => simp [getA, hc, h1, h2, h.cols m hm, hl]

variable [Inhabited V]

theorem same_reads {n : Nat} (o : Ops V) {st st' : St V} (h : Inv n st) (h' : Inv n st') {T : String → Prop}
    (hsame : Same T (abs st) (abs st')) (m : String) (hm : ¬ T m) :
    read o st' m = read o st m ∧ (m ∈ names st' ↔ m ∈ names st) := by
  refine ⟨by rw [read_abs o h', read_abs o h]; exact aread_same o hsame m hm, ?_⟩
  rw [← names_abs, ← names_abs]
  unfold anames
  rw [← lookup_isSome_iff, ← lookup_isSome_iff, hsame.cols m hm]

theorem reads_kept {n : Nat} {α : Type} {P : α → Prop} {m : M (St V) α} {ma : M (ATab V) α} (hs : Sim n P m ma) (o : Ops V)
    {st : St V} (h : Inv n st) {T : String → Prop} (hw : Same T (abs st) (ma (abs st)).2) (k : String) (hk : ¬ T k) :
    read o (m st).2 k = read o st k ∧ (k ∈ names (m st).2 ↔ k ∈ names st) := by
  obtain ⟨hi, e, _⟩ := hs st h
  rw [e] at hw
  exact same_reads o h hi hw k hk

end TV.Features
