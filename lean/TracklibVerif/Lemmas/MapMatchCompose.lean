import TracklibVerif.Lemmas.MapMatchNet
import TracklibVerif.Props.C08
import TracklibVerif.Props.C09
/-! Helper lemmas for C10, third part: the two PARAMETERS of the model instantiated with the models of C08 (spatial index)
and C09 (Viterbi decoder), through the registered theorems of those properties only (`TV.C08.neighborhood_complete`,
`TV.C09.decode_succeeds`, `TV.C09.decoded_valid`). -/
namespace TV.MapMatch
open TV.Proj
variable {α : Type} [Field α] [LinearOrder α] [IsStrictOrderedRing α]

/-- `HMM.estimate` as modelled for C09 (`Viterbi.decode`, the table-building form the C09 driver runs), over ANY cost tables
whose numbers of states per epoch are the sizes of the candidate lists: it does not raise (`TV.C09.decode_succeeds`),
answers one in-range index per epoch (`TV.C09.decoded_valid`), and the backward step of `mapOnNetwork` fed with these
indices returns an inference column whose entry `k` is one of `STATES[k]`. Discharges the hypothesis of
`decoder_in_range_total` for the real decoder; needs the candidate lists non-empty, which `candidate_sound` gives. -/
theorem viterbi_inference {β : Type} [LinearOrder β] (ss : List (List (State α))) (N : Nat) (hlen : ss.length = N + 1)
    (hne : ∀ (k : Nat) (l : List (State α)), ss[k]? = some l → l ≠ [])
    (t : TV.Viterbi.Tables β) (hn : ∀ (k : Nat) (l : List (State α)), ss[k]? = some l → t.n k = l.length) :
    ∃ (r : List (Nat × β)) (inf : List (State α)), TV.Viterbi.decode t (N + 1) = .ok r ∧
      inferAll ss (r.map Prod.fst) = .ok inf ∧ inf.length = N + 1 ∧
      ∀ (k : Nat) (st : State α), inf[k]? = some st → ∃ l, ss[k]? = some l ∧ st ∈ l := by
  have hpos : ∀ k, k ≤ N → 0 < t.n k := by
    intro k hk
    have hk' : k < ss.length := by omega
    have e : ss[k]? = some ss[k] := List.getElem?_eq_getElem hk'
    rw [hn k _ e]
    exact List.length_pos_iff.mpr (hne k _ e)
  obtain ⟨r, hr, hrl⟩ := TV.C09.decode_succeeds t N hpos
  obtain ⟨_, hv⟩ := TV.C09.decoded_valid t N hpos r hr
  obtain ⟨inf, hinf⟩ := inferAll_total ss (r.map Prod.fst) (by
    intro k l hk
    have hk' : k < ss.length := (List.getElem?_eq_some_iff.mp hk).1
    have := hv k (by omega)
    rw [hn k l hk] at this
    simpa [TV.Viterbi.seqOf] using this)
  obtain ⟨len, mem⟩ := inferAll_mem ss _ _ hinf
  exact ⟨r, inf, hr, hinf, by rw [len, hlen], mem⟩

/-- `TV.C08.neighborhood_complete` read for map-matching: for a network whose index was built by the constructor of C08's
model on the network's geometries (`margin ≥ 0`, positive or default cell size), an observation `q` inside the extent and
an edge number `k` that has a point within Euclidean distance `d` of `q`: IF the search unit computed by
`__mapOnNetwork` (`ceil(search_radius / min(csize, lsize))`, from the NUMBERS of cells) is the unit the index itself derives
from the ground distance `d` (`groundDistanceToUnits`), then `k` is among the candidates of `q`. The code's unit is in
general a different number: completeness of the candidates in terms of the search radius is not claimed by C10 and does not
hold in general. -/
theorem near_edge_is_candidate {fl : α → Int} (hf : TV.Grid.IsFloor fl) (net : Net α) (res : Option (α × α)) (margin : α)
    (ix : TV.Grid.Index α) (hm : 0 ≤ margin) (hres : ∀ r, res = some r → 0 < r.1 ∧ 0 < r.2)
    (hb : TV.Grid.build fl (netFeatures net) res margin = .ok ix) (hix : net.index = some ix)
    (k : Nat) (g : List (α × α)) (hk : (netFeatures net)[k]? = some g) (A B : α × α) (hAB : (A, B) ∈ TV.Grid.Consec g)
    (s : α) (hs0 : 0 ≤ s) (hs1 : s ≤ 1) (q : α × α) (hq : TV.Grid.getCell ix q ≠ none) (d : α) (hd : 0 ≤ d)
    (hdist : (q.1 - (TV.Grid.lerp A B s).1) ^ 2 + (q.2 - (TV.Grid.lerp A B s).2) ^ 2 ≤ d ^ 2)
    (radius : α) (hu : ∀ u, TV.Grid.groundDistanceToUnits fl ix d = .ok u → searchUnit fl radius ix = .ok u) :
    ∃ l, candidatesOf fl radius net q = .ok (some l) ∧ k ∈ l := by
  obtain ⟨u, l, hgu, hnb, hkl⟩ :=
    TV.C08.neighborhood_complete hf (netFeatures net) res margin ix hm hres hb k g hk A B hAB s hs0 hs1 q hq d hd hdist
  refine ⟨l, ?_, hkl⟩
  unfold candidatesOf
  simp only [hix, hu u hgu, hnb]

end TV.MapMatch
