import TracklibVerif.Lemmas.CinTabRespected
import TracklibVerif.Lemmas.CinTabHeap
/-! No program of the feature table ever writes a position or a timestamp: for EVERY world (aligned or not,
whatever observations the tracks share, and also when the operation ends in an exception) the positions and
calendar stamps of all observation objects and the reference lists of all tracks are what they were. -/
namespace TV.CinTab
open TV.Features TV.ObsTime TV.CinTabK

variable {V α β : Type}

/-- position and stamp (the seven calendar fields and `zone`) of every observation object of the heap -/
def geom (w : World V) : List (V × V × V × StampZ × Int) := w.heap.map (fun ob => (ob.x, ob.y, ob.z, ob.t, ob.zone))

def frameOf (w : World V) : List (V × V × V × StampZ × Int) × List (List Nat) × Nat := (geom w, w.trks.map (·.ids), w.cur)

/-- `m` leaves positions, stamps and reference lists alone, on every world and on every outcome -/
def Keeps (m : M (World V) α) : Prop := ∀ w, frameOf (m w).2 = frameOf w

theorem keeps_read {m : M (World V) α} (h : ∀ w, (m w).2 = w) : Keeps m := fun w => by rw [h w]

def SameFrame (w w' : World V) : Prop := frameOf w' = frameOf w

instance : Step (SameFrame (V := V)) := ⟨fun _ => rfl, fun h1 h2 => Eq.trans h2 h1⟩

theorem keeps_iff {m : M (World V) α} : Keeps m ↔ RelP Eq SameFrame m :=
  ⟨fun h => rel_eq h, fun h w => (h w w rfl).2.2.1⟩

theorem keeps_ite (c : Prop) [Decidable c] {a b : M (World V) α} (ha : Keeps a) (hb : Keeps b) : Keeps (if c then a else b) := by
  split
  · exact ha
  · exact hb

def gOf (ob : WObs V) : V × V × V × StampZ × Int := (ob.x, ob.y, ob.z, ob.t, ob.zone)

theorem map_set_fix (h : List (WObs V)) (id : Nat) (ob ob' : WObs V) (hob : h[id]? = some ob) (hf : gOf ob' = gOf ob) :
    (h.set id ob').map gOf = h.map gOf := by
  obtain ⟨hlt, rfl⟩ := List.getElem?_eq_some_iff.mp hob
  rw [List.map_set, hf, ← List.getElem_map gOf (h := by rwa [List.length_map])]
  exact List.set_getElem_self _

theorem pushSlot_geom (h : List (WObs V)) (id : Nat) (v : V) : (pushSlot h id v).map gOf = h.map gOf :=
  (map_modify_comm gOf (fun ob => { ob with feats := ob.feats ++ [v] }) _root_.id (fun _ => rfl) h id).trans (List.modify_id _ _)

theorem appendScalar_geom (v : V) : ∀ (ids : List Nat) (h : List (WObs V)), (appendScalar v ids h).map gOf = h.map gOf
  | [], _ => rfl
  | id :: ids, h => by
    show (appendScalar v ids (pushSlot h id v)).map gOf = _
    rw [appendScalar_geom v ids, pushSlot_geom]

theorem appendVals_geom (ids : List Nat) (l : List V) (h : List (WObs V)) : (appendVals ids l h).2.map gOf = h.map gOf := by
  fun_induction appendVals ids l h with
  | case3 _ _ _ _ _ ih => exact ih.trans (pushSlot_geom _ _ _)
  | _ => rfl

theorem writeSlot_geom (h h' : List (WObs V)) (id idx : Nat) (v : V) (hw : writeSlot h id idx v = some h') :
    h'.map gOf = h.map gOf := by
  revert hw
  fun_cases writeSlot h id idx v
  case case2 ob hob _ => rintro ⟨⟩; exact map_set_fix h id ob _ hob rfl
  all_goals nofun

theorem writeVals_geom (idx : Nat) (ids : List Nat) (l : List V) (h : List (WObs V)) :
    (writeVals idx ids l h).2.map gOf = h.map gOf := by
  fun_induction writeVals idx ids l h with
  | case4 _ _ _ _ _ h' hw ih => exact ih.trans (writeSlot_geom _ h' _ idx _ hw)
  | _ => rfl

theorem writeScalar_geom (idx : Nat) (v : V) (ids : List Nat) (h : List (WObs V)) :
    (writeScalar idx v ids h).2.map gOf = h.map gOf := by
  fun_induction writeScalar idx v ids h with
  | case3 _ _ _ h' hw ih => exact ih.trans (writeSlot_geom _ h' _ idx _ hw)
  | _ => rfl

theorem delSlots_geom (idx : Nat) (ids : List Nat) (h : List (WObs V)) : (delSlots idx ids h).2.map gOf = h.map gOf := by
  fun_induction delSlots idx ids h with
  | case3 _ _ _ ob hob _ ih => exact ih.trans (map_set_fix _ _ ob _ hob rfl)
  | _ => rfl

theorem setDico_frame (w : World V) (d : List (String × Nat)) : frameOf (w.setDico d) = frameOf w := by
  unfold frameOf World.setDico geom
  simp only [Prod.mk.injEq, true_and, and_true]
  apply List.ext_getElem?
  intro j
  rw [List.getElem?_map, List.getElem?_map, List.getElem?_modify]
  cases w.trks[j]? with
  | none => rfl
  | some t => by_cases hj : w.cur = j <;> simp [hj]

theorem heap_frame (w : World V) (h : List (WObs V)) (hg : h.map gOf = w.heap.map gOf) :
    frameOf ({ w with heap := h } : World V) = frameOf w := by
  unfold frameOf geom
  simp only [Prod.mk.injEq, and_true]
  exact hg

variable [AbsTime V]

theorem keeps_size : Keeps (Tbl.size : M (World V) Nat) := keeps_read (fun _ => rfl)
theorem keeps_has (name : String) : Keeps (Tbl.has name : M (World V) Bool) := keeps_read (fun _ => rfl)

theorem keeps_get (o : Ops V) (name : String) : Keeps (Tbl.get o name : M (World V) (List V)) := by
  apply keeps_read
  intro w
  show (getW o name w).2 = w
  fun_cases getW o name w <;> rfl

theorem keeps_getObs (o : Ops V) (name : String) (i : Nat) : Keeps (Tbl.getObs o name i : M (World V) V) := by
  apply keeps_read
  intro w
  show (getObsW o name i w).2 = w
  fun_cases getObsW o name i w <;> rfl

theorem keeps_create (name : String) (init : Init V) : Keeps (Tbl.create name init : M (World V) Unit) := by
  intro w
  show frameOf (createW name init w).2 = _
  fun_cases createW name init w
  case case4 => exact (heap_frame (w.setDico _) _ (appendScalar_geom _ _ _)).trans (setDico_frame _ _)
  case case6 => exact (heap_frame (w.setDico _) _ (appendVals_geom _ _ _)).trans (setDico_frame _ _)
  all_goals rfl

theorem keeps_update (name : String) (init : Init V) : Keeps (Tbl.update name init : M (World V) Unit) := by
  intro w
  show frameOf (updateW name init w).2 = _
  fun_cases updateW name init w
  case case4 =>
    cases init with
    | scalar v => exact heap_frame _ _ (writeScalar_geom _ v _ _)
    | list l => exact heap_frame _ _ (writeVals_geom _ _ l _)
  all_goals rfl

theorem keeps_remove (name : String) : Keeps (Tbl.remove name : M (World V) Unit) := by
  intro w
  show frameOf (removeW name w).2 = _
  have hg := fun idx => delSlots_geom idx w.trk.ids w.heap
  fun_cases removeW name w
  case case3 idx _ _ h hd => exact heap_frame _ _ (by simpa only [hd] using hg idx)
  case case4 idx _ _ h hd => exact (setDico_frame _ _).trans (heap_frame _ _ (by simpa only [hd] using hg idx))
  all_goals rfl

/-- writing a FEATURE value (any name but `x`, `y`, `z`) -/
theorem keeps_setObs (name : String) (hr : reserved name = false) (i : Nat) (v : V) :
    Keeps (Tbl.setObs name i v : M (World V) Unit) := by
  intro w
  show frameOf (setObsW name i v w).2 = _
  fun_cases setObsW name i v w
  case case1 hxyz _ _ _ _ _ => simp [reserved, hxyz] at hr
  case case7 h hw => exact heap_frame _ _ (writeSlot_geom _ _ _ _ _ hw)
  all_goals rfl

theorem keeps_names : Keeps (Tbl.names : M (World V) (List String)) := keeps_read (fun _ => rfl)

theorem keeps : Respected (V := V) Eq SameFrame :=
  .of_nine (keeps_iff.1 keeps_size) (fun nm => keeps_iff.1 (keeps_has nm)) (keeps_iff.1 keeps_names)
    (fun o nm => keeps_iff.1 (keeps_get o nm)) (fun o nm i => keeps_iff.1 (keeps_getObs o nm i))
    (fun nm i v h => keeps_iff.1 (keeps_setObs nm h i v)) (fun nm init => keeps_iff.1 (keeps_create nm init))
    (fun nm init => keeps_iff.1 (keeps_update nm init)) (fun nm => keeps_iff.1 (keeps_remove nm))

omit [AbsTime V] in
theorem runOn_frame {m : M (World V) α} (hm : Keeps m) (k : Nat) (F : Except Err α → Except Err (WRet V)) (w : World V) :
    geom (runOn k m F w).2 = geom w ∧ (runOn k m F w).2.trks.map (·.ids) = w.trks.map (·.ids) := by
  unfold runOn
  split
  · exact ⟨rfl, rfl⟩
  · have := hm { w with cur := k }
    unfold frameOf at this
    simp only [Prod.mk.injEq] at this
    exact ⟨this.1, this.2.1⟩

theorem stepW_frame (g : GOps V) (op : WOp V) (hop : op.onFeatures = true) (w : World V) :
    geom (stepW g op w).2 = geom w ∧ (stepW g op w).2.trks.map (·.ids) = w.trks.map (·.ids) := by
  obtain ⟨_, m, F, hm, e⟩ := stepW_onFeatures g op hop
  rw [e]
  exact runOn_frame (keeps_iff.2 (hm keeps)) _ F w

theorem _root_.TV.CinTabK.stepK_frame (g : GOps V) (K : Kernel V) (op : WOp V) (hop : op.onFeatures = true) (w : World V) :
    geom (stepK g K op w).2 = geom w ∧ (stepK g K op w).2.trks.map (·.ids) = w.trks.map (·.ids) := by
  rcases stepK_onFeatures g K op hop with ⟨_, m, F, hm, e⟩ | e
  · rw [e]
    exact runOn_frame (keeps_iff.2 (hm keeps)) _ F w
  · rw [e]
    exact ⟨rfl, rfl⟩

end TV.CinTab
