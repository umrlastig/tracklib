import TracklibVerif.Model.SeqOps
import TracklibVerif.Lemmas.Common.MapM
/-! Helper lemmas for C04 (`Model/Seq.lean`, `Model/SeqOps.lean`): sub-sequences by an index predicate, Python's index
normalisation and clamp, `extract`, `% n`, `% pattern`, `removeObsList`, `sort`. The dichotomy of `__getInsertionIndex` is in
`Lemmas/SeqSearch.lean`, slices in `Lemmas/SeqSlice.lean`. Core Lean only. -/
namespace TV.Seq
variable {α : Type}

/-- the elements whose position (counted from `i`) satisfies `p`, in order: a filter on the enumeration, so what holds of it comes
from the library's `zipIdx` / `filter` lemmas -/
def keepIdx (p : Nat → Bool) (i : Nat) (l : List α) : List α := ((l.zipIdx i).filter (fun q => p q.2)).map (·.1)

theorem keepIdx_cons (p : Nat → Bool) (i : Nat) (x : α) (xs : List α) :
    keepIdx p i (x :: xs) = if p i then x :: keepIdx p (i + 1) xs else keepIdx p (i + 1) xs := by
  unfold keepIdx
  rw [List.zipIdx_cons, List.filter_cons]
  split <;> rfl

theorem keepIdx_append (p : Nat → Bool) (i : Nat) (A B : List α) :
    keepIdx p i (A ++ B) = keepIdx p i A ++ keepIdx p (i + A.length) B := by
  unfold keepIdx
  rw [List.zipIdx_append, List.filter_append, List.map_append]

theorem keepIdx_congr (p q : Nat → Bool) (i : Nat) (l : List α) (h : ∀ j, i ≤ j → j < i + l.length → p j = q j) :
    keepIdx p i l = keepIdx q i l := by
  unfold keepIdx
  rw [List.filter_congr (fun x hx => h x.2 (List.le_snd_of_mem_zipIdx hx) (List.snd_lt_add_of_mem_zipIdx hx))]

theorem keepIdx_all (p : Nat → Bool) (i : Nat) (l : List α) (h : ∀ j, i ≤ j → p j = true) :
    keepIdx p i l = l := by
  unfold keepIdx
  rw [List.filter_eq_self.mpr (fun x hx => h x.2 (List.le_snd_of_mem_zipIdx hx)), List.zipIdx_map_fst]

theorem keepIdx_subset (p : Nat → Bool) (i : Nat) (l : List α) : ∀ x ∈ keepIdx p i l, x ∈ l := by
  intro x hx
  obtain ⟨q, hq, rfl⟩ := List.mem_map.mp hx
  exact List.fst_mem_of_mem_zipIdx (List.mem_filter.mp hq).1

/-- split the list at `a`: before it the two predicates agree, after it both keep everything -/
theorem keepIdx_eraseIdx (p : Nat → Bool) (l : List α) (i a : Nat) (ha : a < l.length)
    (hp : ∀ j, i + a ≤ j → p j = true) :
    keepIdx p i (l.eraseIdx a) = keepIdx (fun j => p j && j != i + a) i l := by
  have hl : l = l.take a ++ l[a] :: l.drop (a + 1) := by
    rw [← List.drop_eq_getElem_cons ha, List.take_append_drop]
  have hA : (l.take a).length = a := by rw [List.length_take]; omega
  rw [List.eraseIdx_eq_take_drop_succ]
  conv => rhs; rw [hl]
  rw [keepIdx_append, keepIdx_append, keepIdx_cons, hA]
  simp only [bne_self_eq_false, Bool.and_false, Bool.false_eq_true, if_false]
  rw [keepIdx_all p _ _ hp, keepIdx_all _ (i + a + 1) _ (fun j hj => by rw [hp j (by omega)]; simp; omega)]
  congr 1
  refine keepIdx_congr _ _ _ _ (fun j _ hj => ?_)
  have : j ≠ i + a := by omega
  simp [this]

/-! ### Python's index normalisation

`bucketOf n i` is the position `L[i]` designates in a list of length `n` (`none` = `IndexError`); reading, deleting and
assigning at an integer index are that position followed by the list operation. -/

theorem pyGet_nat (l : List α) (i : Nat) : pyGet l (i : Int) = l[i]? := by
  simp [pyGet]

theorem bucketOf_eq_none_iff (n : Nat) (i : Int) : bucketOf n i = none ↔ (n : Int) ≤ i ∨ i < -(n : Int) := by
  fun_cases bucketOf n i <;> simp only [reduceCtorEq, false_iff, true_iff] <;> omega

theorem bucketOf_of {n k : Nat} {i : Int} (hk : k < n) (hi : i = k ∨ i = (k : Int) - n) : bucketOf n i = some k := by
  unfold bucketOf
  rcases hi with rfl | rfl
  · rw [if_pos (by omega), if_pos (by omega), Int.toNat_natCast]
  · rw [if_neg (by omega), if_pos (by omega)]; congr 1; omega

theorem bucketOf_lt {n k : Nat} {i : Int} (h : bucketOf n i = some k) : k < n := by
  revert h
  fun_cases bucketOf n i
  case case1 _ h1 => rintro ⟨⟩; exact h1
  case case3 => rintro ⟨⟩; omega
  all_goals nofun

theorem bucketOf_map {β : Type} (n : Nat) (i : Int) (f : Nat → β) :
    (bucketOf n i).map f =
      if 0 ≤ i then (if i.toNat < n then some (f i.toNat) else none)
      else if 0 ≤ (n : Int) + i then some (f ((n : Int) + i).toNat) else none := by
  simp only [bucketOf, apply_ite (Option.map f), Option.map_some, Option.map_none]

theorem pyGet_eq (l : List α) (i : Int) : pyGet l i = (bucketOf l.length i).bind (l[·]?) := by
  unfold pyGet
  fun_cases bucketOf l.length i
  case case1 h0 _ => rw [if_pos h0]; rfl
  case case2 h0 h1 => rw [if_pos h0]; exact List.getElem?_eq_none (by omega)
  case case3 h0 h1 => rw [if_neg h0, if_pos h1]; rfl
  case case4 h0 h1 => rw [if_neg h0, if_neg h1]; rfl

theorem pyDel_eq (l : List α) (i : Int) : pyDel l i = (bucketOf l.length i).map l.eraseIdx :=
  (bucketOf_map l.length i l.eraseIdx).symm

theorem pyGet_none_iff (l : List α) (i : Int) : pyGet l i = none ↔ (l.length : Int) ≤ i ∨ i < -(l.length : Int) := by
  rw [pyGet_eq, ← bucketOf_eq_none_iff]
  cases h : bucketOf l.length i with
  | none => simp
  | some k => simp [List.getElem?_eq_getElem (bucketOf_lt h)]

theorem pyDel_none_iff (l : List α) (i : Int) : pyDel l i = none ↔ (l.length : Int) ≤ i ∨ i < -(l.length : Int) := by
  rw [pyDel_eq, Option.map_eq_none_iff, bucketOf_eq_none_iff]

theorem pyDel_some (l l' : List α) (i : Int) (h : pyDel l i = some l') :
    l'.Sublist l ∧ l'.length + 1 = l.length := by
  rw [pyDel_eq] at h
  obtain ⟨k, hb, rfl⟩ := Option.map_eq_some_iff.mp h
  have := bucketOf_lt hb
  exact ⟨List.eraseIdx_sublist _ _, by rw [List.length_eraseIdx, if_pos this]; omega⟩

theorem pyDel_nat (l : List α) (i : Int) (h0 : 0 ≤ i) (h1 : i < l.length) :
    pyDel l i = some (l.eraseIdx i.toNat) := by
  have : i.toNat < l.length := by omega
  simp [pyDel, h0, this]

/-- a negative bound counts from the end and stops at `lo`, a non-negative one stops at `up`: the position `list.insert`
uses (`lo = 0`, `up = n`) and the local `adj` of `sliceBounds` (CPython's `PySlice_AdjustIndices`) -/
def sliceAdj (n lo up v : Int) : Int :=
  if v < 0 then (if v + n < lo then lo else v + n) else (if v > up then up else v)

theorem sliceAdj_of_neg {n lo up v : Int} (h : v < 0) : sliceAdj n lo up v = max (v + n) lo := by
  unfold sliceAdj; rw [if_pos h]; split <;> omega

theorem sliceAdj_of_nonneg {n lo up v : Int} (h : 0 ≤ v) : sliceAdj n lo up v = min v up := by
  unfold sliceAdj; rw [if_neg (by omega)]; split <;> omega

theorem sliceAdj_pos_step (n : Nat) (v : Int) :
    0 ≤ sliceAdj n 0 n v ∧ sliceAdj n 0 n v ≤ n ∧ (0 ≤ v → (sliceAdj n 0 n v).toNat = min v.toNat n) := by
  rcases Int.lt_or_le v 0 with h | h
  · rw [sliceAdj_of_neg h]; omega
  · rw [sliceAdj_of_nonneg h]; omega

theorem pyInsert_eq (l : List α) (i : Int) (x : α) : pyInsert l i x = l.insertIdx (sliceAdj l.length 0 l.length i).toNat x := rfl

theorem insertIdx_eq_take_drop (l : List α) (i : Nat) (x : α) (h : i ≤ l.length) :
    l.insertIdx i x = l.take i ++ x :: l.drop i := by
  induction i generalizing l with
  | zero => simp
  | succ i ih =>
    cases l with
    | nil => simp at h
    | cons y ys =>
      simp only [List.insertIdx_succ_cons, List.take_succ_cons, List.drop_succ_cons, List.cons_append]
      rw [ih ys (by simpa using h)]

theorem pyInsert_nat (l : List α) (i : Nat) (x : α) (h : i ≤ l.length) : pyInsert l i x = l.take i ++ x :: l.drop i := by
  rw [pyInsert_eq, sliceAdj_of_nonneg (by omega), ← insertIdx_eq_take_drop l i x h]
  congr 1; omega

theorem extractLoop_eq (l : List α) (k n : Nat) (h : 0 < n → k + n ≤ l.length) :
    extractLoop l (k : Int) n = some ((l.drop k).take n) := by
  induction n generalizing k with
  | zero => simp [extractLoop]
  | succ n ih =>
    have h := h (Nat.succ_pos n)
    have hk : k < l.length := by omega
    have e : ((k : Int) + 1) = ((k + 1 : Nat) : Int) := by omega
    simp only [extractLoop, pyGet_nat, e, ih (k + 1) (fun _ => by omega)]
    rw [List.getElem?_eq_getElem hk, List.drop_eq_getElem_cons hk, List.take_succ_cons]

theorem extractLoop_eq_mapM (l : List α) (n : Nat) : ∀ k : Int,
    extractLoop l k n = (List.range n).mapM (fun (i : Nat) => pyGet l (k + i)) := by
  induction n with
  | zero => intro k; rfl
  | succ n ih =>
    intro k
    have e : (fun (i : Nat) => pyGet l (k + i)) ∘ Nat.succ = fun (i : Nat) => pyGet l (k + 1 + i) :=
      funext fun i => congrArg (pyGet l) (by simp only [Nat.succ_eq_add_one, Int.natCast_add]; omega)
    rw [extractLoop, ih, List.range_succ_eq_map, List.mapM_cons, List.mapM_map, e, Int.natCast_zero, Int.add_zero]
    cases pyGet l k <;> cases List.mapM (fun (i : Nat) => pyGet l (k + 1 + i)) (List.range n) <;> rfl

theorem extractLoop_get (l : List α) (n : Nat) (k : Int) :
    (∀ r, extractLoop l k n = some r → r.length = n ∧ ∀ i : Nat, i < n → r[i]? = pyGet l (k + (i : Int))) ∧
    (extractLoop l k n = none ↔ ∃ i : Nat, i < n ∧ pyGet l (k + (i : Int)) = none) := by
  rw [extractLoop_eq_mapM]
  refine ⟨fun r h => ?_, ?_⟩
  · have h := (Common.mapM_eq_some_iff ..).mp h
    have hlen : r.length = n := by simpa using (congrArg List.length h).symm
    refine ⟨hlen, fun i hi => ?_⟩
    have hi' := congrArg (·[i]?) h
    simp only [List.getElem?_map, List.getElem?_range hi, List.getElem?_eq_getElem (hlen ▸ hi), Option.map_some] at hi' ⊢
    exact (Option.some.inj hi').symm
  · rw [← Option.not_isSome_iff_eq_none, Common.mapM_isSome_iff]
    simp only [List.mem_range, Option.isSome_iff_ne_none, ne_eq, Classical.not_forall, Classical.not_not, exists_prop]

theorem stepAux_getElem? (n : Nat) (hn : 1 ≤ n) (k : Nat) (l : List α) (i : Nat) :
    (stepAux n k l)[i]? = l[k + i * n]? := by
  induction l generalizing k i with
  | nil => simp [stepAux]
  | cons x xs ih =>
    cases k with
    | zero =>
      cases i with
      | zero => simp [stepAux]
      | succ i =>
        simp only [stepAux, List.getElem?_cons_succ, ih]
        have : 0 + (i + 1) * n = (n - 1 + i * n) + 1 := by rw [Nat.add_mul]; omega
        rw [this, List.getElem?_cons_succ]
    | succ k =>
      simp only [stepAux, ih]
      have : k + 1 + i * n = (k + i * n) + 1 := by omega
      rw [this, List.getElem?_cons_succ]

theorem stepAux_one (l : List α) : stepAux 1 0 l = l := by
  apply List.ext_getElem?
  intro i
  rw [stepAux_getElem? 1 (by omega), Nat.zero_add, Nat.mul_one]

theorem stepAux_eq_keepIdx (n k off : Nat) (l : List α)
    (hk : k < n) (h : (off + k) % n = 0) :
    stepAux n k l = keepIdx (fun j => j % n == 0) off l := by
  induction l generalizing k off with
  | nil => rfl
  | cons x xs ih =>
    cases k with
    | zero =>
      have h0 : off % n = 0 := by simpa using h
      simp only [stepAux, keepIdx_cons, h0, beq_self_eq_true, if_true]
      rw [ih (n - 1) (off + 1) (by omega)]
      have : off + 1 + (n - 1) = off + n := by omega
      rw [this, Nat.add_mod_right]; exact h0
    | succ k =>
      have hne : off % n ≠ 0 := by
        intro h0
        have h2 := Nat.add_mod off (k + 1) n
        rw [h, h0, Nat.zero_add, Nat.mod_mod, Nat.mod_eq_of_lt hk] at h2
        omega
      have : (off % n == 0) = false := by simp [hne]
      simp only [stepAux, keepIdx_cons, this]
      rw [ih k (off + 1) (by omega)]
      · rfl
      · rw [← h]; congr 1; omega

theorem patLoop_eq_keepIdx (pat : List Bool) (i : Nat) (l : List α) :
    patLoop pat i l = keepIdx (fun j => pat[j % pat.length]?.getD false) i l := by
  induction l generalizing i with
  | nil => rfl
  | cons x xs ih => simp only [patLoop, keepIdx_cons, ih]

/-- on a sorted list a repeated entry has an equal neighbour: the test of `removeObsList` (after `tab.sort()`) decides `Nodup` -/
theorem hasAdjDup_sorted : ∀ (s : List Int), s.Pairwise (· ≤ ·) → (hasAdjDup s = true ↔ ¬ s.Nodup)
  | [], _ => by simp [hasAdjDup]
  | [_], _ => by simp [hasAdjDup]
  | a :: b :: rest, hs => by
    obtain ⟨ha, hs'⟩ := List.pairwise_cons.mp hs
    have hb := (List.pairwise_cons.mp hs').1
    have hmem : a ∈ b :: rest ↔ a = b := by
      refine ⟨fun h => ?_, fun h => h ▸ List.mem_cons_self⟩
      rcases List.mem_cons.mp h with h | h
      · exact h
      · have := ha b List.mem_cons_self
        have := hb a h
        omega
    rw [hasAdjDup, Bool.or_eq_true, beq_iff_eq, hasAdjDup_sorted (b :: rest) hs', List.nodup_cons (a := a) (l := b :: rest), hmem]
    by_cases h : a = b <;> simp [h]
theorem delLoop_cons_none {i : Int} {l : List α} (rest : List Int) (c : Nat) (h : pyDel l i = none) :
    delLoop (i :: rest) l c = (l, none) := by
  rw [delLoop, h]

theorem delLoop_cons_some {i : Int} {l l' : List α} (rest : List Int) (c : Nat) (h : pyDel l i = some l') :
    delLoop (i :: rest) l c = delLoop rest l' (c + 1) := by
  rw [delLoop, h]
  show delLoop rest l' (c + (l.length - l'.length)) = _
  rw [show l.length - l'.length = 1 by have := (pyDel_some l l' i h).2; omega]

/-- descending deletes of a strictly decreasing list of valid positions leave exactly the others -/
theorem delLoop_desc (d : List Int) (l : List α) (c : Nat)
    (hd : d.Pairwise (· > ·)) (hr : ∀ x ∈ d, 0 ≤ x ∧ x < l.length) :
    delLoop d l c = (keepIdx (fun j => !d.contains (j : Int)) 0 l, some (c + d.length)) := by
  induction d generalizing l c with
  | nil =>
    simp only [delLoop, List.length_nil, Nat.add_zero]
    rw [keepIdx_all]; intro j _; simp
  | cons a rest ih =>
    have ha := hr a (by simp)
    have hp := List.pairwise_cons.mp hd
    have hlen : (l.eraseIdx a.toNat).length = l.length - 1 := by
      rw [List.length_eraseIdx, if_pos (by omega)]
    rw [delLoop_cons_some rest c (pyDel_nat l a ha.1 ha.2), ih (l.eraseIdx a.toNat) _ hp.2]
    · have hge : ∀ j, a.toNat ≤ j → (!rest.contains (j : Int)) = true := by
        intro j hj
        simp only [Bool.not_eq_true', List.contains_eq_mem, decide_eq_false_iff_not]
        intro hm
        have := hp.1 _ hm
        omega
      rw [keepIdx_eraseIdx _ l 0 a.toNat (by omega) (by rwa [Nat.zero_add]), Nat.zero_add]
      congr 1
      · apply keepIdx_congr
        intro j _ _
        have : ((j : Int) == a) = (j == a.toNat) := by
          rw [Bool.eq_iff_iff]; simp only [beq_iff_eq]; omega
        simp only [List.contains_cons, Bool.not_or, bne, this, Bool.and_comm]
      · rw [List.length_cons, Nat.add_assoc, Nat.add_comm 1]
    · intro x hx
      have h1 := hr x (List.mem_cons_of_mem _ hx)
      have h2 := hp.1 x hx
      rw [hlen]; omega

theorem removeObs_eq (l : List α) (i : Int) :
    removeObs l i = match bucketOf l.length i with
      | none => (l, none)
      | some k => (l.eraseIdx k, some 1) := by
  have : removeObs l i = delLoop [i] l 0 := by
    simp only [removeObs, removeByIdx, List.isEmpty_cons, Bool.false_eq_true, if_false, List.mergeSort_singleton,
      hasAdjDup, List.reverse_cons, List.reverse_nil, List.nil_append]
  cases h : bucketOf l.length i with
  | none => rw [this, delLoop_cons_none [] 0 (by rw [pyDel_eq, h]; rfl)]
  | some k => rw [this, delLoop_cons_some [] 0 (l' := l.eraseIdx k) (by rw [pyDel_eq, h]; rfl)]; rfl

theorem sortInts_sorted (tab : List Int) : (tab.mergeSort (fun a b => decide (a ≤ b))).Pairwise (· ≤ ·) :=
  (List.pairwise_mergeSort (le := fun (a b : Int) => decide (a ≤ b))
    (by intro a b c; simp only [decide_eq_true_eq]; omega)
    (by intro a b; simp only [Bool.or_eq_true, decide_eq_true_eq]; omega) tab).imp (by intro a b h; simpa using h)

/-- the duplicate test of `removeObsList` (equal neighbours after `tab.sort()`) finds a repeated entry iff there is one -/
theorem hasAdjDup_sort (tab : List Int) :
    hasAdjDup (tab.mergeSort (fun a b => decide (a ≤ b))) = true ↔ ¬ tab.Nodup := by
  rw [hasAdjDup_sorted _ (sortInts_sorted tab), (List.mergeSort_perm tab _).nodup_iff]

/-- the front end of `removeObsList`, with indices or with timestamps: an empty or a repeating list gives the default, otherwise the
loop `k` runs on the sorted list -/
theorem sortedNodup_eq {β : Type} (tab : List Int) (dflt : β) (k : List Int → β) (h0 : k [] = dflt) :
    (if tab.isEmpty then dflt else
      if hasAdjDup (tab.mergeSort (fun a b => decide (a ≤ b))) then dflt else k (tab.mergeSort (fun a b => decide (a ≤ b)))) =
      if tab.Nodup then k (tab.mergeSort (fun a b => decide (a ≤ b))) else dflt := by
  by_cases hn : tab.Nodup
  · rw [if_pos hn, if_neg (fun h => (hasAdjDup_sort tab).mp h hn)]
    cases tab with
    | nil => simp [h0]
    | cons t ts => rfl
  · rw [if_neg hn, if_pos ((hasAdjDup_sort tab).mpr hn), ite_self]

/-- `removeObsList(tab)` with indices: a repeated index is refused, otherwise the deletions run from the largest index down -/
theorem removeByIdx_eq (l : List α) (tab : List Int) :
    removeByIdx l tab =
      if tab.Nodup then delLoop (tab.mergeSort (fun a b => decide (a ≤ b))).reverse l 0 else (l, some 0) :=
  sortedNodup_eq tab (l, some 0) (fun s => delLoop s.reverse l 0) rfl

theorem removeByIdx_nodup (l : List α) (tab : List Int)
    (hr : ∀ x ∈ tab, 0 ≤ x ∧ x < l.length) (hn : tab.Nodup) :
    removeByIdx l tab = (keepIdx (fun j => !tab.contains (j : Int)) 0 l, some tab.length) := by
  have hperm := List.mergeSort_perm tab (fun a b => decide (a ≤ b))
  have hlt : (tab.mergeSort (fun a b => decide (a ≤ b))).Pairwise (· < ·) :=
    ((sortInts_sorted tab).and (hperm.nodup_iff.mpr hn)).imp (fun h => by omega)
  rw [removeByIdx_eq, if_pos hn, delLoop_desc _ _ _ (List.pairwise_reverse.mpr hlt)
    (fun x hx => hr x (hperm.mem_iff.mp (List.mem_reverse.mp hx)))]
  congr 1
  · exact keepIdx_congr _ _ _ _ (fun j _ _ => by rw [List.contains_reverse, hperm.contains_eq])
  · rw [List.length_reverse, hperm.length_eq, Nat.zero_add]

theorem gather_eq_mapM (l : List α) (perm : List Nat) : gather l perm = perm.mapM (l[·]?) := by
  induction perm with
  | nil => rfl
  | cons i is ih => rw [gather, ih, List.mapM_cons]; cases l[i]? <;> cases is.mapM (l[·]?) <;> rfl

theorem gather_eq (l : List α) (perm : List Nat) (h : ∀ i ∈ perm, i < l.length) :
    gather l perm = some (perm.filterMap (fun i => l[i]?)) := by
  rw [gather_eq_mapM, Common.mapM_eq_some_iff, List.map_filterMap_some_eq_filter_map_isSome]
  exact (List.filter_eq_self.mpr fun o ho => by
    obtain ⟨i, hi, rfl⟩ := List.mem_map.mp ho
    rw [List.getElem?_eq_getElem (h i hi)]; rfl).symm

theorem filterMap_getElem?_of_all {β : Type} (f : β → Option α) : ∀ (xs : List β), (∀ x ∈ xs, (f x).isSome = true) →
    ∀ k : Nat, (xs.filterMap f)[k]? = xs[k]?.bind f
  | [], _, _ => rfl
  | x :: xs, h, k => by
    obtain ⟨y, hy⟩ := Option.isSome_iff_exists.mp (h x List.mem_cons_self)
    rw [List.filterMap_cons_some hy]
    cases k with
    | zero => exact hy.symm
    | succ k => exact filterMap_getElem?_of_all f xs (fun z hz => h z (List.mem_cons_of_mem _ hz)) k

theorem filterMap_range_all (f : Nat → Option α) (m : Nat) (h : ∀ k, k < m → (f k).isSome = true) (k : Nat) :
    ((List.range m).filterMap f)[k]? = if k < m then f k else none := by
  rw [filterMap_getElem?_of_all f _ (fun x hx => h x (List.mem_range.mp hx))]
  by_cases hk : k < m
  · rw [if_pos hk, List.getElem?_range hk]; rfl
  · rw [if_neg hk, List.getElem?_eq_none (by rw [List.length_range]; omega)]; rfl

theorem filterMap_range_getElem? (l : List α) :
    (List.range l.length).filterMap (fun i => l[i]?) = l := by
  apply List.ext_getElem?
  intro k
  rw [filterMap_range_all _ _ (fun i hi => by rw [List.getElem?_eq_getElem hi]; rfl)]
  split
  · rfl
  · exact (List.getElem?_eq_none (by omega)).symm

theorem gather_perm (l : List α) (ids : List Nat) (hp : ids.Perm (List.range l.length)) :
    gather l ids = some (ids.filterMap (fun i => l[i]?)) ∧ (ids.filterMap (fun i => l[i]?)).Perm l :=
  ⟨gather_eq l ids (fun i hi => List.mem_range.mp (hp.mem_iff.mp hi)),
    by have := hp.filterMap (fun i => l[i]?); rwa [filterMap_range_getElem?] at this⟩

theorem argsort_perm (T : List Int) : (argsort T).Perm (List.range T.length) := by
  unfold argsort
  have := (List.mergeSort_perm T.zipIdx (fun a b => decide (a.1 ≤ b.1))).map (·.2)
  rw [List.zipIdx_map_snd, ← List.range_eq_range'] at this
  exact this

theorem argsort_sorted (T : List Int) :
    (argsort T).Pairwise (fun i j => ∀ a b, T[i]? = some a → T[j]? = some b → a ≤ b) := by
  unfold argsort
  rw [List.pairwise_map]
  have hs := List.pairwise_mergeSort (le := fun (a b : Int × Nat) => decide (a.1 ≤ b.1))
    (by intro a b c; simp only [decide_eq_true_eq]; omega)
    (by intro a b; simp only [Bool.or_eq_true, decide_eq_true_eq]; omega) T.zipIdx
  have hperm := List.mergeSort_perm T.zipIdx (fun a b => decide (a.1 ≤ b.1))
  refine hs.imp_of_mem ?_
  intro p q hp hq hle x y hx hy
  have hp' := List.mem_zipIdx (hperm.mem_iff.mp hp)
  have hq' := List.mem_zipIdx (hperm.mem_iff.mp hq)
  have h1 : T[p.2]? = some p.1 := by
    rw [List.getElem?_eq_getElem (by omega)]; simp [hp'.2.2]
  have h2 : T[q.2]? = some q.1 := by
    rw [List.getElem?_eq_getElem (by omega)]; simp [hq'.2.2]
  rw [h1] at hx; rw [h2] at hy
  simp only [decide_eq_true_eq] at hle
  cases hx; cases hy; exact hle

end TV.Seq
