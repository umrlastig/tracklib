import TracklibVerif.Model.SplitNum
import TracklibVerif.Lemmas.SplitVal
/-! Lemmas on `Model/SplitNum.lean`: the comparison of two numbers is exact unless numpy converts an integer operand,
and that conversion is the identity below 2^53. -/
namespace TV.Split

/-- "a exceeds b" between two numbers: the exact `>` of their values -/
def PNum.gt (a b : PNum) : Bool := decide (b.val < a.val)

theorem PNum.image_false (a : PNum) : a.image false = a.val := by
  unfold PNum.image
  simp

theorem PNum.le?_exact (a b : PNum) (h : a.converts b = false) : PNum.le? a b = .ok (!PNum.gt a b) := by
  rw [PNum.le?, h, PNum.image_false, PNum.image_false, PNum.gt, Ext.decide_le]

/-- two Python numbers (int or float, in any pairing) never convert -/
theorem PNum.converts_python (a b : PNum) (ha : a.kind.isNumpy = false) (hb : b.kind.isNumpy = false) :
    a.converts b = false := by
  simp [PNum.converts, ha, hb]

/-- two integers, or two floats, never convert -/
theorem PNum.converts_same (a b : PNum) (h : a.kind.isInt = b.kind.isInt) : a.converts b = false := by
  simp [PNum.converts, h]

theorem roundNat_small (n : Nat) (h : n < 2 ^ 53) : roundNat n = n := by
  have he : (n.log2 + 1) - 53 = 0 := by
    by_cases h0 : n = 0
    · subst h0; decide
    · have := (Nat.log2_lt h0).mpr h
      omega
  unfold roundNat
  simp only [he, Nat.shiftRight_zero, Nat.shiftLeft_zero, Nat.sub_self]
  simp

theorem roundInt_small (n : Int) (h : n.natAbs < 2 ^ 53) : roundInt n = n := by
  unfold roundInt
  rw [roundNat_small _ h]
  split <;> omega

theorem PNum.image_small (c : Bool) (k : NumKind) (n : Int) (h : n.natAbs < 2 ^ 53) :
    PNum.image c ⟨k, .fin (n : Rat)⟩ = .fin (n : Rat) := by
  unfold PNum.image
  cases hc : (c && k.isInt) with
  | false => rfl
  | true =>
    simp only
    rw [Rat.num_intCast, roundInt_small n h]

theorem PNum.typed (ths : List PNum) (vals : List (Option PNum))
    (h : ∀ (i : Nat) (v th : PNum), vals[i]? = some (some v) → ths[i]? = some th → v.converts th = false) :
    Typed PNum.isnan PNum.le? PNum.gt ths 0 vals := by
  intro i w hw v th hv _ hth
  subst hv
  rw [Nat.zero_add] at hth
  exact PNum.le?_exact v th (h i v th hw hth)
end TV.Split
