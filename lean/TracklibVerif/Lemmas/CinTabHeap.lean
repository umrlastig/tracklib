import TracklibVerif.Lemmas.CinTabHoare
import TracklibVerif.Model.CinematicsTab
/-! Heap-level lemmas for `CinTab.World`: applying the same change to the observation objects of one track
(distinct references) and looking an object up afterwards. -/
namespace TV.CinTab
open TV.Features

variable {V : Type}

theorem map_modify_comm {α β : Type} (φ : α → β) (f : α → α) (f' : β → β) (hf : ∀ a, φ (f a) = f' (φ a)) (l : List α) (i : Nat) :
    (l.modify i f).map φ = (l.map φ).modify i f' := by
  apply List.ext_getElem?
  intro j
  rw [List.getElem?_map, List.getElem?_modify, List.getElem?_modify, List.getElem?_map]
  cases l[j]? with
  | none => rfl
  | some a => by_cases hj : i = j <;> simp [hj, hf]

def updAll (f : WObs V → WObs V) (ids : List Nat) (h : List (WObs V)) : List (WObs V) :=
  ids.foldl (fun h id => h.modify id f) h

theorem updAll_length (f : WObs V → WObs V) : ∀ (ids : List Nat) (h : List (WObs V)), (updAll f ids h).length = h.length
  | [], _ => rfl
  | id :: ids, h => by
    show (updAll f ids (h.modify id f)).length = _
    rw [updAll_length f ids, List.length_modify]

theorem updAll_getElem?_not_mem (f : WObs V → WObs V) : ∀ (ids : List Nat) (h : List (WObs V)) (j : Nat),
    j ∉ ids → (updAll f ids h)[j]? = h[j]?
  | [], _, _, _ => rfl
  | id :: ids, h, j, hj => by
    show (updAll f ids (h.modify id f))[j]? = _
    rw [updAll_getElem?_not_mem f ids _ j (fun hm => hj (List.mem_cons_of_mem _ hm)),
      List.getElem?_modify_ne f h (fun e => hj (by rw [e]; exact List.mem_cons_self))]

theorem updAll_getElem?_mem (f : WObs V → WObs V) : ∀ (ids : List Nat) (h : List (WObs V)) (j : Nat),
    ids.Nodup → j ∈ ids → (updAll f ids h)[j]? = (h[j]?).map f
  | id :: ids, h, j, hnd, hj => by
    obtain ⟨hnot, hnd'⟩ := List.nodup_cons.mp hnd
    show (updAll f ids (h.modify id f))[j]? = _
    rcases List.mem_cons.mp hj with rfl | hj'
    · rw [updAll_getElem?_not_mem f ids _ j hnot, List.getElem?_modify_eq]; rfl
    · have hne : id ≠ j := fun e => hnot (e ▸ hj')
      rw [updAll_getElem?_mem f ids _ j hnd' hj', List.getElem?_modify_ne f h hne]

theorem appendScalar_eq (v : V) (ids : List Nat) (h : List (WObs V)) :
    appendScalar v ids h = updAll (fun ob => { ob with feats := ob.feats ++ [v] }) ids h := rfl

theorem set_eq_modify (h : List (WObs V)) (id : Nat) (ob : WObs V) (f : WObs V → WObs V) (hob : h[id]? = some ob) :
    h.set id (f ob) = h.modify id f := by
  obtain ⟨hlt, rfl⟩ := List.getElem?_eq_some_iff.mp hob
  rw [List.modify_eq_take_cons_drop hlt, List.set_eq_take_append_cons_drop, if_pos hlt]

/-- `for i in range(size): del getObs(i).features[idx]` succeeds when every object carries the slot -/
theorem delSlots_ok (idx : Nat) : ∀ (ids : List Nat) (h : List (WObs V)), ids.Nodup →
    (∀ id ∈ ids, ∃ ob, h[id]? = some ob ∧ idx < ob.feats.length) →
    delSlots idx ids h = (.ok (), updAll (fun ob => { ob with feats := ob.feats.eraseIdx idx }) ids h)
  | [], _, _, _ => rfl
  | id :: ids, h, hnd, hall => by
    obtain ⟨hnot, hnd'⟩ := List.nodup_cons.mp hnd
    obtain ⟨ob, hob, hlt⟩ := hall id List.mem_cons_self
    unfold delSlots
    simp only [hob, hlt, if_true]
    rw [set_eq_modify h id ob (fun ob => { ob with feats := ob.feats.eraseIdx idx }) hob]
    rw [delSlots_ok idx ids _ hnd' (fun j hj => by
      obtain ⟨ob', hob', hlt'⟩ := hall j (List.mem_cons_of_mem _ hj)
      have hne : id ≠ j := fun e => hnot (e ▸ hj)
      exact ⟨ob', by rw [List.getElem?_modify_ne _ h hne]; exact hob', hlt'⟩)]
    rfl

end TV.CinTab
