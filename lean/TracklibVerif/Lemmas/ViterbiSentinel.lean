import TracklibVerif.Lemmas.ViterbiTable
/-! The decoder WITHOUT the hypothesis that every running cost stays below the `1e300` sentinel (`PathsBelow`).

`best_val = 1e300; best_ant = 0` and the strict `val < best_val` mean: a candidate of epoch `k+1` none of whose
predecessors has a value below the sentinel — every transition into it impossible (cost `+inf`, the logarithm of a
zero probability supplied by the user), or every predecessor itself unreachable — gets the value `1e300 + p` and the
back-pointer `0`. When adding a cost never decreases a value (`Infl`: non-negative or infinite costs) such a cell can
never come back below the sentinel, so: a value below the sentinel is the cost of the back-pointer path ending there,
values at or above it belong to candidates that no sequence of cost below the sentinel ends in. -/
namespace TV.Viterbi
variable {α : Type} [LinearOrder α]

/-- **The sentinel cell.** A candidate `l` of epoch `k+1` none of whose predecessors offers a value below the sentinel:
`TAB_MRK[k+1][l] = 0` (the initial `best_ant`) and `TAB_VAL[k+1][l] = 1e300 + p` — not `+inf`. -/
theorem sentinel_cell (t : Tables α) (k l : Nat)
    (h : ∀ m, m < t.n k → ¬ t.add (t.trans k m l) (val t k m) < t.big) :
    mrk t k l = 0 ∧ val t (k+1) l = t.add t.big (t.obs (k+1) l) := by
  rcases (scanMin_spec t.big (fun m => t.add (t.trans k m l) (val t k m)) (t.n k)).2 with h1 | ⟨h1, h2, h3⟩
  · refine ⟨?_, ?_⟩
    · unfold mrk; rw [h1]
    · simp only [val]; rw [h1]
  · exact absurd (h3 ▸ h1) (h _ h2)

/-- adding a cost of the tables never decreases the running value: true of `+` with non-negative (or infinite) costs -/
structure Infl (t : Tables α) (N : Nat) : Prop where
  trans : ∀ k m l a, k < N → m < t.n k → l < t.n (k+1) → a ≤ t.add (t.trans k m l) a
  obs : ∀ k l a, k ≤ N → l < t.n k → a ≤ t.add a (t.obs k l)

theorem val_le_cost_any (t : Tables α) (hm : Mono t) (N : Nat) (σ : Nat → Nat) (hσ : ∀ k, k ≤ N → σ k < t.n k)
    (k : Nat) (hk : k ≤ N) : val t k (σ k) ≤ cost t σ k :=
  val_le_cost t hm σ k (fun j hj => hσ j (by omega))

/-- a value below the sentinel was found by every scan on its back-pointer path: costs never decrease a value, so the
scan that produced it and the predecessor it came from are below the sentinel too -/
theorem found_of_below (t : Tables α) (N : Nat) (hi : Infl t N) (k : Nat) :
    k ≤ N → ∀ l, l < t.n k → val t k l < t.big → Found t k l := by
  induction k with
  | zero => intro _ _ _ _ j hj; omega
  | succ k ih =>
    intro hk l hl hv
    have hf := exists_of_scanMin_lt _ _ _ (lt_of_le_of_lt (hi.obs (k+1) l _ hk hl) hv)
    obtain ⟨hm, hlt, _⟩ := scan_found t k l hf
    have hbelow : val t k (mrk t k l) < t.big := lt_of_le_of_lt (hi.trans k _ l _ (by omega) hm hl) hlt
    intro j hj
    by_cases hjk : j = k
    · subst hjk; rw [back_self]; exact hf
    · rw [back_lt t k l (j+1) (by omega)]
      exact ih (by omega) _ hm hbelow j (by omega)

/-- **Decoding without the sentinel hypothesis** (function style). `idk` a minimal entry of the last column, costs that
never decrease a value. (1) if SOME candidate sequence costs less than the sentinel, the minimal entry is below it;
(2) if it is, the values along the back-pointer path are the prefix costs of that path and the path costs no more than
ANY candidate sequence; (3) if every candidate sequence costs at least the sentinel, so does the recorded value. -/
theorem decoded_no_sentinel_hyp (t : Tables α) (hm : Mono t) (N : Nat) (hpos : ∀ k, k ≤ N → 0 < t.n k)
    (hi : Infl t N) (idk : Nat) (h1 : idk < t.n N) (hmin : ∀ l', l' < t.n N → val t N idk ≤ val t N l') :
    ((∃ σ : Nat → Nat, (∀ k, k ≤ N → σ k < t.n k) ∧ cost t σ N < t.big) → val t N idk < t.big) ∧
    (val t N idk < t.big →
      (∀ j, j ≤ N → val t j (back t N idk j) = cost t (back t N idk) j) ∧
      ∀ σ : Nat → Nat, (∀ k, k ≤ N → σ k < t.n k) → cost t (back t N idk) N ≤ cost t σ N) ∧
    ((∀ σ : Nat → Nat, (∀ k, k ≤ N → σ k < t.n k) → t.big ≤ cost t σ N) → t.big ≤ val t N idk) := by
  have hlow := minVal_le_cost t hm N idk hmin
  have hf : val t N idk < t.big → Found t N idk := found_of_below t N hi N (Nat.le_refl _) idk h1
  refine ⟨fun ⟨σ, hσ, hc⟩ => (hlow σ hσ).trans_lt hc,
    fun hv => ⟨fun j hj => val_back_eq_cost t N idk j (hf hv) hj, fun σ hσ => ?_⟩, fun hall => ?_⟩
  · rw [cost_back_of_found t N idk (hf hv)]; exact hlow σ hσ
  · by_contra hlt
    have := hall (back t N idk) (back_lt_n t N idk (fun k hk => hpos k (by omega)) h1)
    rw [cost_back_of_found t N idk (hf (not_le.mp hlt))] at this
    exact hlt this
end TV.Viterbi
