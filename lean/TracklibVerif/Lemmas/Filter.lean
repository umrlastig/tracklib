import TracklibVerif.Lemmas.FilterLocal
import TracklibVerif.Lemmas.Common.Assoc
import Mathlib.Algebra.Order.Field.Basic
import Mathlib.Tactic.Ring
import Mathlib.Tactic.Linarith
import Mathlib.Tactic.FieldSimp
/-! `Filter.execute` over a field (property C15). The specification side: the sums of the window of an output index (`wsum`, `wtot`;
the window itself is law-free, `Lemmas/FilterLocal.lean`), its renormalised mean (`wmean`), the signal of these means (`meanSignal`). Then,
in this order: the two sums of a cell are `wsum` and `wtot` (`inner_eq`); what a run of `filterWindowG` returns (`filterWindowG_run`,
`filterWindowG_zeroDiv`); what is in a window; weighted means lie between two values of the window; normalising a weight list does not
change the mean; `execute` with a kernel object that keeps filtering with the same window across calls (`MeanKernel`); `toSlidingWindow`
and the kernel functions written out in `kernel.py`; named signals and the loop of `filter_seq`. -/
namespace TV.Filter

section spec
variable {α : Type} [Field α]

def wsum (W : List (α × α)) : α := (W.map (fun p => p.2 * p.1)).sum
def wtot (W : List (α × α)) : α := (W.map (fun p => p.1)).sum
def wmean (W : List (α × α)) : α := wsum W / wtot W

/-- the output signal the property describes: at every index the renormalised weighted mean of its
window, except that the first and last `D` values are the inputs when boundaries are not filtered -/
def meanSignal (v : List (Option α)) (k : List α) (boundary : Bool) : List (Option α) :=
  (List.range v.length).map (fun i =>
    if boundary = false ∧ (i < k.length / 2 ∨ v.length - k.length / 2 ≤ i) then (v[i]?).join
    else some (wmean (window v k (k.length / 2) i)))
end spec

section loop
variable {α : Type} [Field α]

theorem wsum_nil : wsum ([] : List (α × α)) = 0 := by simp [wsum]
theorem wtot_nil : wtot ([] : List (α × α)) = 0 := by simp [wtot]
theorem wsum_cons (p : α × α) (W : List (α × α)) : wsum (p :: W) = p.2 * p.1 + wsum W := by simp [wsum]
theorem wtot_cons (p : α × α) (W : List (α × α)) : wtot (p :: W) = p.1 + wtot W := by simp [wtot]

theorem foldl_add (k : List α) (a : α) : k.foldl (· + ·) a = a + k.sum := by
  induction k generalizing a with
  | nil => simp
  | cons x k ih => rw [List.foldl_cons, ih, List.sum_cons, add_assoc]

/-- the loop over `j` adds the window's `Σ k·v` to `temp[i]` and its `Σ k` to `norm` -/
theorem inner_eq (v : List (Option α)) (D i : Nat) (ks : List α) (j : Nat) (t nm : α) :
    inner v D i ks j (t, nm) = (t + wsum (windowFrom v D i ks j), nm + wtot (windowFrom v D i ks j)) := by
  rw [inner_eq_foldl, foldl_add, foldl_add]
  rfl

theorem cells_eq (v : List (Option α)) (k : List α) (D : Nat) :
    cells v k D = (List.range v.length).map (fun i => (wsum (window v k D i), wtot (window v k D i))) := by
  unfold cells window
  apply List.map_congr_left
  intro i _
  rw [inner_eq]; simp
end loop

section fw
variable {α : Type} [Field α]

theorem meanSignal_get (v : List (Option α)) (k : List α) (b : Bool) (i : Nat) (hi : i < v.length) :
    (meanSignal v k b)[i]? = some (if b = false ∧ (i < k.length / 2 ∨ v.length - k.length / 2 ≤ i) then (v[i]?).join
      else some (wmean (window v k (k.length / 2) i))) := by
  unfold meanSignal
  rw [List.getElem?_map, List.getElem?_range hi]
  rfl

theorem meanSignal_length (v : List (Option α)) (k : List α) (b : Bool) : (meanSignal v k b).length = v.length := by
  simp [meanSignal]

theorem meanSignal_eq_self (v : List (Option α)) (k : List α) (b : Bool)
    (h : ∀ i (hi : i < v.length), ¬ (b = false ∧ (i < k.length / 2 ∨ v.length - k.length / 2 ≤ i)) →
      v[i] = some (wmean (window v k (k.length / 2) i))) : meanSignal v k b = v := by
  apply List.ext_getElem?
  intro i
  by_cases hi : i < v.length
  · rw [meanSignal_get v k b i hi, List.getElem?_eq_getElem hi]
    split
    · rfl
    · rename_i hc; rw [h i hi hc]
  · rw [List.getElem?_eq_none (by rw [meanSignal_length]; omega), List.getElem?_eq_none (by omega)]

/-- boundaries copied on a signal of at most `2D` values (shorter than the window of `2D+1` weights): every
index lies in the first or in the last half window, so the signal the property describes is the input -/
theorem meanSignal_short (v : List (Option α)) (k : List α) (h : v.length ≤ 2 * (k.length / 2)) :
    meanSignal v k false = v :=
  meanSignal_eq_self v k false (fun i hi hc => absurd ⟨rfl, by omega⟩ hc)

variable [DecidableEq α]

/-- the signal a successful run returns: the input in the copied boundaries; elsewhere the renormalised weighted mean
of the window, NaN when its norm is 0 (numpy weights: `0.0 / 0.0`) -/
def outSignal (v : List (Option α)) (k : List α) (boundary : Bool) : List (Option α) :=
  (List.range v.length).map (fun i =>
    if boundary = false ∧ (i < k.length / 2 ∨ v.length - k.length / 2 ≤ i) then (v[i]?).join
    else if wtot (window v k (k.length / 2) i) = 0 then none
    else some (wmean (window v k (k.length / 2) i)))

theorem outSignal_length (v : List (Option α)) (k : List α) (b : Bool) : (outSignal v k b).length = v.length := by
  simp [outSignal]

theorem outSignal_get (v : List (Option α)) (k : List α) (b : Bool) (i : Nat) (hi : i < v.length) :
    (outSignal v k b)[i]? = some (if b = false ∧ (i < k.length / 2 ∨ v.length - k.length / 2 ≤ i) then (v[i]?).join
      else if wtot (window v k (k.length / 2) i) = 0 then none
      else some (wmean (window v k (k.length / 2) i))) := by
  unfold outSignal
  rw [List.getElem?_map, List.getElem?_range hi]
  rfl

theorem outSignal_eq_meanSignal (v : List (Option α)) (k : List α) (b : Bool)
    (hden : ∀ i, i < v.length → wtot (window v k (k.length / 2) i) ≠ 0) : outSignal v k b = meanSignal v k b := by
  unfold outSignal meanSignal
  apply List.map_congr_left
  intro i hi
  rw [if_neg (hden i (List.mem_range.mp hi))]

/-- `temp[i] /= norm` fails at some index: a zero norm, with Python floats or in a window that read no sample -/
theorem zeroDiv_test_iff (v : List (Option α)) (k : List α) (np : Bool) :
    (cells v k (k.length / 2)).zipIdx.any (fun c => c.1.2 == 0 && (!np || !anySample v (k.length / 2) c.2 k 0)) = true ↔
      ∃ i, i < v.length ∧ wtot (window v k (k.length / 2) i) = 0 ∧ (np = false ∨ window v k (k.length / 2) i = []) := by
  rw [cells_any]
  apply exists_congr
  intro i
  rw [inner_eq, anySample_eq]
  cases np <;> simp [window, List.isEmpty_iff]

theorem filterWindowG_zeroDiv (v : List (Option α)) (k : List α) (boundary np : Bool) (hodd : k.length % 2 = 1)
    (i : Nat) (hi : i < v.length) (h0 : wtot (window v k (k.length / 2) i) = 0)
    (h : np = false ∨ window v k (k.length / 2) i = []) : filterWindowG v k boundary np = .error .zeroDiv := by
  rw [filterWindowG_eq_run, runCells_eq (cells_length v k _) (fun _ => rfl), if_neg (by omega),
    if_pos ((zeroDiv_test_iff v k np).2 ⟨i, hi, h0, h⟩)]

theorem runOut_cells (v : List (Option α)) (k : List α) (b : Bool) :
    runOut v.length k.length (cells v k (k.length / 2)) (fun c => if c.2 == 0 then none else some (c.1 / c.2))
      (fun i => (v[i]?).join) Option.join b = outSignal v k b := by
  unfold runOut outSignal
  rw [cells_eq, List.map_map]
  apply List.map_congr_left
  intro i hi
  rw [List.getElem?_map, List.getElem?_range (List.mem_range.mp hi)]
  simp [wmean]

/-- odd window and no failing division: the run goes through to the boundary copy, which fails on a track shorter than
the half window and otherwise returns `outSignal` -/
theorem filterWindowG_run (v : List (Option α)) (k : List α) (boundary np : Bool) (hodd : k.length % 2 = 1)
    (hok : ∀ i, i < v.length → wtot (window v k (k.length / 2) i) = 0 → np = true ∧ window v k (k.length / 2) i ≠ []) :
    filterWindowG v k boundary np =
      if boundary = false ∧ v.length < k.length / 2 then .error .index else .ok (outSignal v k boundary) := by
  have htest : ¬ (cells v k (k.length / 2)).zipIdx.any
      (fun c => c.1.2 == 0 && (!np || !anySample v (k.length / 2) c.2 k 0)) = true := by
    rw [zeroDiv_test_iff]
    rintro ⟨i, hi, h0, h⟩
    obtain ⟨h1, h2⟩ := hok i hi h0
    rcases h with h | h
    · rw [h1] at h; cases h
    · exact h2 h
  rw [filterWindowG_eq_run, runCells_eq (cells_length v k _) (fun _ => rfl), if_neg (by omega), if_neg htest,
    runOut_cells]

theorem filterWindowG_mean (v : List (Option α)) (k : List α) (boundary np : Bool)
    (hodd : k.length % 2 = 1)
    (hden : ∀ i, i < v.length → wtot (window v k (k.length / 2) i) ≠ 0) :
    filterWindowG v k boundary np =
      if boundary = false ∧ v.length < k.length / 2 then .error .index else .ok (meanSignal v k boundary) := by
  rw [filterWindowG_run v k boundary np hodd (fun i hi h0 => absurd h0 (hden i hi)), outSignal_eq_meanSignal v k boundary hden]

theorem filterWindow_eq (v : List (Option α)) (k : List α) (boundary : Bool)
    (hodd : k.length % 2 = 1)
    (hden : ∀ i, i < v.length → wtot (window v k (k.length / 2) i) ≠ 0)
    (hlen : boundary = false → k.length / 2 ≤ v.length) :
    filterWindow v k boundary = .ok (meanSignal v k boundary) := by
  rw [filterWindow, filterWindowG_mean v k boundary false hodd hden, if_neg (not_short hlen)]
end fw

section members
variable {α : Type}

theorem window_value_mem {v : List (Option α)} {k : List α} {i : Nat} {p : α × α}
    (h : p ∈ window v k (k.length / 2) i) :
    ∃ m, m < v.length ∧ i ≤ m + k.length / 2 ∧ m ≤ i + k.length / 2 ∧ v[m]? = some (some p.2) := by
  obtain ⟨j, hk, hj, hv⟩ := (mem_window v k _ i p).mp h
  have hjk : j < k.length := (List.getElem?_eq_some_iff.mp hk).1
  exact ⟨i + k.length / 2 - j, (List.getElem?_eq_some_iff.mp hv).1, by omega, by omega, hv⟩

theorem mem_window_of_sample (v : List (Option α)) (k : List α) (i m : Nat) (x : α)
    (hodd : k.length % 2 = 1) (h1 : i ≤ m + k.length / 2) (h2 : m ≤ i + k.length / 2)
    (hv : v[m]? = some (some x)) :
    ∃ w, k[i + k.length / 2 - m]? = some w ∧ (w, x) ∈ window v k (k.length / 2) i := by
  have hj : i + k.length / 2 - m < k.length := by omega
  refine ⟨_, List.getElem?_eq_getElem hj, (mem_window v k _ i _).mpr ⟨_, List.getElem?_eq_getElem hj, by omega, ?_⟩⟩
  rw [show i + k.length / 2 - (i + k.length / 2 - m) = m by omega]
  exact hv

theorem centre_mem_window (v : List (Option α)) (k : List α) (i : Nat) (x w : α)
    (hx : v[i]? = some (some x)) (hw : k[k.length / 2]? = some w) :
    (w, x) ∈ window v k (k.length / 2) i :=
  (mem_window v k _ i _).mpr ⟨_, hw, by omega, by rw [Nat.add_sub_cancel]; exact hx⟩
end members

section mean
variable {α : Type} [Field α]

theorem dirac_window (v : List (Option α)) (i : Nat) (x : α) (hx : v[i]? = some (some x)) :
    wsum (window v [0, 1, 0] 1 i) = x ∧ wtot (window v [0, 1, 0] 1 i) = 1 := by
  have hc : val? v 1 i (0 + 1) = some x := (val?_eq_some v 1 i _ x).mpr ⟨by omega, by rw [Nat.add_sub_cancel]; exact hx⟩
  unfold window
  rw [windowFrom_cons, windowFrom_cons, windowFrom_cons, windowFrom_nil, hc]
  cases val? v 1 i 0 <;> cases val? v 1 i (0 + 1 + 1) <;>
    simp [wsum_cons, wtot_cons, wsum_nil, wtot_nil]

theorem wsum_const (W : List (α × α)) (c : α) (hc : ∀ p ∈ W, p.2 = c) : wsum W = c * wtot W := by
  induction W with
  | nil => simp [wsum_nil, wtot_nil]
  | cons p W ih =>
    rw [wsum_cons, wtot_cons, ih (fun q hq => hc q (List.mem_cons_of_mem _ hq)), hc p List.mem_cons_self]
    ring

theorem wmean_const (W : List (α × α)) (c : α) (hne : wtot W ≠ 0) (hc : ∀ p ∈ W, p.2 = c) :
    wmean W = c := by
  unfold wmean
  rw [wsum_const W c hc, mul_div_assoc, div_self hne, mul_one]

theorem wsum_scale (W : List (α × α)) (a : α) :
    wsum (W.map (fun p => (p.1 / a, p.2))) = wsum W / a := by
  induction W with
  | nil => simp [wsum_nil]
  | cons p W ih => rw [List.map_cons, wsum_cons, wsum_cons, ih]; ring

theorem wtot_scale (W : List (α × α)) (a : α) :
    wtot (W.map (fun p => (p.1 / a, p.2))) = wtot W / a := by
  induction W with
  | nil => simp [wtot_nil]
  | cons p W ih => rw [List.map_cons, wtot_cons, wtot_cons, ih]; ring

theorem wmean_scale (W : List (α × α)) (a : α) (ha : a ≠ 0) :
    wmean (W.map (fun p => (p.1 / a, p.2))) = wmean W := by
  unfold wmean
  rw [wsum_scale, wtot_scale, div_div_div_cancel_right₀ ha]

theorem wsum_dev (W : List (α × α)) (s y : α) :
    (W.map (fun p => s * (p.2 - y) * p.1)).sum = s * (wsum W - y * wtot W) := by
  induction W with
  | nil => simp [wsum_nil, wtot_nil]
  | cons p W ih => rw [List.map_cons, List.sum_cons, ih, wsum_cons, wtot_cons]; ring

variable [LinearOrder α] [IsStrictOrderedRing α]

theorem sum_nonneg' (l : List α) (h : ∀ x ∈ l, 0 ≤ x) : 0 ≤ l.sum := by
  induction l with
  | nil => simp
  | cons a l ih =>
    rw [List.sum_cons]
    exact add_nonneg (h a List.mem_cons_self) (ih (fun x hx => h x (List.mem_cons_of_mem _ hx)))

theorem map_div_nonneg (l : List α) (c : α) (hl : ∀ y ∈ l, 0 ≤ y) (hc : 0 ≤ c) : ∀ x ∈ l.map (· / c), 0 ≤ x := by
  intro x hx
  obtain ⟨y, hy, rfl⟩ := List.mem_map.mp hx
  exact div_nonneg (hl y hy) hc

theorem sum_pos_of_mem (l : List α) (h : ∀ x ∈ l, 0 ≤ x) (a : α) (ha : a ∈ l) (hpos : 0 < a) : 0 < l.sum := by
  induction l with
  | nil => cases ha
  | cons b l ih =>
    rw [List.sum_cons]
    have hl := sum_nonneg' l (fun x hx => h x (List.mem_cons_of_mem _ hx))
    rcases List.mem_cons.mp ha with rfl | h'
    · exact add_pos_of_pos_of_nonneg hpos hl
    · exact add_pos_of_nonneg_of_pos (h b List.mem_cons_self) (ih (fun x hx => h x (List.mem_cons_of_mem _ hx)) h')

theorem wtot_pos_of_mem (W : List (α × α)) (hw : ∀ p ∈ W, 0 ≤ p.1) (q : α × α) (hq : q ∈ W) (hq0 : 0 < q.1) :
    0 < wtot W :=
  sum_pos_of_mem _ (fun x hx => by obtain ⟨p, hp, rfl⟩ := List.mem_map.mp hx; exact hw p hp) q.1
    (List.mem_map.mpr ⟨q, hq, rfl⟩) hq0

theorem weights_zero_of_wtot_zero (W : List (α × α)) (hw : ∀ p ∈ W, 0 ≤ p.1) (h0 : wtot W = 0) :
    ∀ p ∈ W, p.1 = 0 := by
  intro p hp
  by_contra hne
  exact absurd h0 (ne_of_gt (wtot_pos_of_mem W hw p hp (lt_of_le_of_ne (hw p hp) (Ne.symm hne))))

/-- the deviations from the mean, weighted, sum to 0: with non-negative weights they cannot all lie strictly on one side
(`s = 1`: some value is at most the mean; `s = -1`: some value is at least the mean) -/
theorem exists_dev_nonpos (W : List (α × α)) (hw : ∀ p ∈ W, 0 ≤ p.1) (hpos : 0 < wtot W) (s : α) :
    ∃ p ∈ W, s * (p.2 - wmean W) ≤ 0 := by
  by_contra hc
  have hall : ∀ p ∈ W, 0 < s * (p.2 - wmean W) := fun p hp => lt_of_not_ge (fun h => hc ⟨p, hp, h⟩)
  obtain ⟨q, hq, hq0⟩ : ∃ q ∈ W, 0 < q.1 := by
    by_contra hn
    have h0 : ∀ p ∈ W, p.1 = 0 := fun p hp => le_antisymm (le_of_not_gt (fun h => hn ⟨p, hp, h⟩)) (hw p hp)
    have : wtot W = 0 := List.sum_eq_zero (fun x hx => by obtain ⟨p, hp, rfl⟩ := List.mem_map.mp hx; exact h0 p hp)
    exact absurd this (ne_of_gt hpos)
  have h := sum_pos_of_mem (W.map (fun p => s * (p.2 - wmean W) * p.1))
    (fun x hx => by obtain ⟨p, hp, rfl⟩ := List.mem_map.mp hx; exact mul_nonneg (le_of_lt (hall p hp)) (hw p hp))
    _ (List.mem_map.mpr ⟨q, hq, rfl⟩) (mul_pos (hall q hq) hq0)
  rw [wsum_dev, wmean, div_mul_cancel₀ _ (ne_of_gt hpos), sub_self, mul_zero] at h
  exact lt_irrefl _ h

theorem wmean_between (W : List (α × α)) (hw : ∀ p ∈ W, 0 ≤ p.1) (hpos : 0 < wtot W) :
    (∃ p ∈ W, p.2 ≤ wmean W) ∧ (∃ p ∈ W, wmean W ≤ p.2) := by
  obtain ⟨p, hp, h1⟩ := exists_dev_nonpos W hw hpos 1
  obtain ⟨q, hq, h2⟩ := exists_dev_nonpos W hw hpos (-1)
  rw [one_mul, sub_nonpos] at h1
  rw [neg_one_mul, neg_nonpos, sub_nonneg] at h2
  exact ⟨⟨p, hp, h1⟩, ⟨q, hq, h2⟩⟩
end mean

section norm
variable {α : Type}

theorem window_map (v : List (Option α)) (D i : Nat) (g : α → α) (k : List α) :
    window v (k.map g) D i = (window v k D i).map (fun p => (g p.1, p.2)) := windowFrom_map v D i g k 0

variable [Field α]

theorem normalise_eq (k : List α) : normalise k = k.map (· / k.sum) := by
  unfold normalise
  simp only [foldl_add, zero_add]

theorem sum_map_div (k : List α) (a : α) : (k.map (· / a)).sum = k.sum / a := by
  induction k with
  | nil => simp
  | cons x k ih => rw [List.map_cons, List.sum_cons, List.sum_cons, ih]; ring

theorem normalise_sum (k : List α) (hs : k.sum ≠ 0) : (normalise k).sum = 1 := by
  rw [normalise_eq, sum_map_div, div_self hs]

/-- normalising a normalised list leaves it unchanged (the list is the same Python object for the
three coordinates in `filter_seq`) -/
theorem normalise_idem (k : List α) (hs : k.sum ≠ 0) : normalise (normalise k) = normalise k := by
  conv_lhs => rw [normalise_eq, normalise_sum k hs]
  simp

theorem normaliseN_of_pos (k : List α) (hs : k.sum ≠ 0) : ∀ n, 0 < n → normaliseN k n = normalise k
  | 1, _ => rfl
  | n + 2, _ => by
    rw [normaliseN, normaliseN_of_pos (normalise k) (by rw [normalise_sum k hs]; exact one_ne_zero) (n + 1) (Nat.succ_pos _),
      normalise_idem k hs]

theorem normalise_map_div (w : List α) (c : α) (hc : c ≠ 0) : normalise (w.map (· / c)) = w.map (· / w.sum) := by
  rw [normalise_eq, sum_map_div, List.map_map]
  apply List.map_congr_left
  intro x _
  exact div_div_div_cancel_right₀ hc x w.sum

theorem meanSignal_scale (v : List (Option α)) (k : List α) (b : Bool) (c : α) (hc : c ≠ 0) :
    meanSignal v (k.map (· / c)) b = meanSignal v k b := by
  unfold meanSignal
  rw [List.length_map]
  apply List.map_congr_left
  intro i _
  rw [window_map, wmean_scale _ _ hc]

theorem meanSignal_normalise (v : List (Option α)) (k : List α) (b : Bool) (hs : k.sum ≠ 0) :
    meanSignal v (normalise k) b = meanSignal v k b := by
  rw [normalise_eq, meanSignal_scale v k b _ hs]

theorem wtot_window_normalise (v : List (Option α)) (k : List α) (i : Nat) :
    wtot (window v (normalise k) (k.length / 2) i) = wtot (window v k (k.length / 2) i) / k.sum := by
  rw [normalise_eq, window_map, wtot_scale]

theorem window_normalise_eq_nil (v : List (Option α)) (k : List α) (i : Nat) :
    window v (normalise k) (k.length / 2) i = [] ↔ window v k (k.length / 2) i = [] := by
  rw [normalise_eq, window_map]
  simp

variable [DecidableEq α]

theorem outSignal_normalise (v : List (Option α)) (k : List α) (b : Bool) (hs : k.sum ≠ 0) :
    outSignal v (normalise k) b = outSignal v k b := by
  unfold outSignal
  rw [normalise_length]
  apply List.map_congr_left
  intro i _
  rw [wtot_window_normalise, normalise_eq, window_map, wmean_scale _ _ hs]
  simp only [div_eq_zero_iff, hs, or_false]

end norm
section exec
variable {α : Type} [Field α] [LinearOrder α]

/-- `Filter.execute` with a weight list whose sum is not zero, every window holding a valid sample: the list is left
normalised; a window whose valid weights sum to 0 has no weighted mean and gives NaN (`outSignal`) -/
theorem execute_list_partial (v : List (Option α)) (k : List α) (hodd : k.length % 2 = 1)
    (hsample : ∀ i, i < v.length → window v k (k.length / 2) i ≠ [])
    (hlen : k.length / 2 ≤ v.length) (hs : k.sum ≠ 0) :
    execute v (.list k) = .ok (some (normalise k), outSignal v k false) := by
  unfold execute prepare
  have h := filterWindowG_run v (normalise k) false true (by rw [normalise_length]; exact hodd)
    (by
      intro i hi _
      rw [normalise_length]
      exact ⟨rfl, fun h => hsample i hi ((window_normalise_eq_nil v k i).mp h)⟩)
  rw [normalise_length, if_neg (fun h => Nat.not_lt.mpr hlen h.2), outSignal_normalise v k false hs] at h
  simp only [h]

/-- … and the mean signal of the caller's (un-normalised) weights when no window has a zero norm -/
theorem execute_list_eq (v : List (Option α)) (k : List α) (hodd : k.length % 2 = 1)
    (hden : ∀ i, i < v.length → wtot (window v k (k.length / 2) i) ≠ 0)
    (hlen : k.length / 2 ≤ v.length) (hs : k.sum ≠ 0) :
    execute v (.list k) = .ok (some (normalise k), meanSignal v k false) := by
  rw [execute_list_partial v k hodd (fun i hi h => hden i hi (by rw [h, wtot_nil])) hlen hs,
    outSignal_eq_meanSignal v k false hden]

/-- the kernel object filters with the window `w` and the boundary flag `b`, now and after any number of calls: a weight list is
`w` up to a non-zero scale (every call leaves it divided by its total, which the renormalised mean does not see), a Kernel object
has the sliding window `w`, the Dirac kernel is `[0,1,0]` -/
def MeanKernel (kern : KArg α) (w : List α) (b : Bool) : Prop :=
  match kern with
  | .list k => (∃ c, c ≠ 0 ∧ k = w.map (· / c)) ∧ b = false ∧ w.sum ≠ 0
  | .obj true fb _ _ _ => w = [0, 1, 0] ∧ b = fb
  | .obj false fb f support S => slidingWindow f support S = .ok w ∧ b = fb

theorem prepare_meanKernel {kern : KArg α} {w : List α} {b : Bool} (hk : MeanKernel kern w b) :
    ∃ k' c np, c ≠ 0 ∧ prepare kern = .ok (k', w.map (· / c), b, np) ∧ MeanKernel (nextKernel kern k') w b ∧
      ∀ k, kern = .list k → k' = some (normalise k) := by
  have h1 : w.map (· / (1 : α)) = w := (List.map_congr_left fun x _ => div_one x).trans (List.map_id' w)
  cases kern with
  | list k =>
    obtain ⟨⟨c, hc, rfl⟩, rfl, hs⟩ := hk
    exact ⟨some (w.map (· / w.sum)), w.sum, true, hs, by simp only [prepare, normalise_map_div w c hc], ⟨⟨w.sum, hs, rfl⟩, rfl, hs⟩,
      fun k hk => by cases hk; rw [normalise_map_div w c hc]⟩
  | obj dirac fb f support S =>
    cases dirac with
    | true =>
      obtain ⟨rfl, rfl⟩ := hk
      exact ⟨none, 1, false, one_ne_zero, by simp only [prepare, h1, if_true], ⟨rfl, rfl⟩, fun k hk => nomatch hk⟩
    | false =>
      obtain ⟨hw, rfl⟩ := hk
      exact ⟨none, 1, false, one_ne_zero, by simp only [prepare, h1, hw, Bool.false_eq_true, if_false], ⟨hw, rfl⟩, fun k hk => nomatch hk⟩

theorem execute_meanKernel (v : List (Option α)) (kern : KArg α) (w : List α) (b : Bool) (hk : MeanKernel kern w b)
    (hodd : w.length % 2 = 1) (hden : ∀ i, i < v.length → wtot (window v w (w.length / 2) i) ≠ 0) :
    ∃ k', execute v kern = (if b = false ∧ v.length < w.length / 2 then .error .index else .ok (k', meanSignal v w b)) ∧
      MeanKernel (nextKernel kern k') w b ∧ ∀ k, kern = .list k → k' = some (normalise k) := by
  obtain ⟨k', c, np, hc, hprep, hk', hlist⟩ := prepare_meanKernel hk
  refine ⟨k', ?_, hk', hlist⟩
  rw [execute, hprep]
  simp only []
  rw [filterWindowG_mean v (w.map (· / c)) b np (by rw [List.length_map]; exact hodd)
    (fun i hi => by rw [List.length_map, window_map, wtot_scale]; exact div_ne_zero (hden i hi) hc), List.length_map,
    meanSignal_scale v w b c hc]
  by_cases h : b = false ∧ v.length < w.length / 2
  · rw [if_pos h, if_pos h]
  · rw [if_neg h, if_neg h]

theorem meanKernel_seqKernelAfter {kern : KArg α} {w : List α} {b : Bool} (hk : MeanKernel kern w b) (hone : ∀ a, kern ≠ .list [a])
    (dims : List String) (hne : dims ≠ []) :
    ∃ kern2 : KArg α, seqKernelAfter (.k kern) dims = .k kern2 ∧ MeanKernel kern2 w b ∧ ∀ a, kern2 ≠ .list [a] := by
  cases kern with
  | obj dirac fb f support S => exact ⟨_, rfl, hk, fun a h => by cases h⟩
  | list k =>
    obtain ⟨⟨c, hc, rfl⟩, rfl, hs⟩ := hk
    have hlen : w.length ≠ 1 := by
      intro hl
      match w, hl with
      | [a], _ => exact hone (a / c) rfl
    refine ⟨.list (w.map (· / w.sum)), ?_, ⟨⟨w.sum, hs, rfl⟩, rfl, hs⟩, fun a h => ?_⟩
    · unfold seqKernelAfter
      simp only [List.length_map, beq_iff_eq, hlen, if_false]
      rw [normaliseN_of_pos _ (by rw [sum_map_div]; exact div_ne_zero hs hc) _ (List.length_pos_of_ne_nil hne), normalise_map_div w c hc]
    · exact hlen (by rw [← List.length_map (· / w.sum), KArg.list.inj h]; rfl)
end exec
section sliding
variable {α : Type} [Field α] [LinearOrder α] [IsStrictOrderedRing α]

theorem samplePoint_eq (S i : Nat) : (samplePoint (2 * S + 1) i : α) = (S : α) - (i : α) := by
  unfold samplePoint
  push_cast
  ring

theorem absv_eq_abs (x : α) : absv x = |x| := by
  unfold absv
  split
  · rename_i h; rw [abs_of_neg h]
  · rename_i h; rw [abs_of_nonneg (le_of_not_gt h)]

theorem absv_neg (x : α) : absv (-x) = absv x := by rw [absv_eq_abs, absv_eq_abs, abs_neg]

theorem absv_zero : absv (0 : α) = 0 := by rw [absv_eq_abs, abs_zero]

theorem absv_nonneg (x : α) : 0 ≤ absv x := by rw [absv_eq_abs]; exact abs_nonneg x

theorem evaluate_neg (f : α → α) (support x : α) (heven : ∀ y, f (-y) = f y) :
    evaluate f support (-x) = evaluate f support x := by
  unfold evaluate
  rw [heven, absv_neg]

def rawWindow (f : α → α) (support : α) (S : Nat) : List α :=
  (List.range (2 * S + 1)).map (fun (i : Nat) => evaluate f support ((S : α) - (i : α)))

theorem slidingWindow_raw (f : α → α) (support : α) (S : Nat) (hs : ¬ support < 1) :
    slidingWindow f support S = if (rawWindow f support S).sum = 0 then .error .zeroDiv
      else .ok ((rawWindow f support S).map (· / (rawWindow f support S).sum)) := by
  unfold slidingWindow rawWindow
  simp only [hs, if_false, samplePoint_eq, foldl_add, zero_add, beq_iff_eq]

theorem slidingWindow_eq (f : α → α) (support : α) (S : Nat) (hs : ¬ support < 1)
    (hsum : (rawWindow f support S).sum ≠ 0) :
    slidingWindow f support S = .ok ((rawWindow f support S).map (· / (rawWindow f support S).sum)) := by
  rw [slidingWindow_raw f support S hs, if_neg hsum]

section
omit [IsStrictOrderedRing α]

theorem rawWindow_length (f : α → α) (support : α) (S : Nat) : (rawWindow f support S).length = 2 * S + 1 := by
  simp [rawWindow]

theorem rawWindow_get (f : α → α) (support : α) (S i : Nat) (hi : i ≤ 2 * S) :
    (rawWindow f support S)[i]? = some (evaluate f support ((S : α) - (i : α))) := by
  unfold rawWindow
  rw [List.getElem?_map, List.getElem?_range (by omega)]
  rfl

end

theorem rawWindow_symm (f : α → α) (support : α) (S i : Nat) (hi : i ≤ 2 * S) (heven : ∀ y, f (-y) = f y) :
    (rawWindow f support S)[2 * S - i]? = (rawWindow f support S)[i]? := by
  rw [rawWindow_get f support S i hi, rawWindow_get f support S (2 * S - i) (by omega)]
  have e : ((S : α) - ((2 * S - i : Nat) : α)) = -((S : α) - (i : α)) := by
    rw [Nat.cast_sub hi]; push_cast; ring
  rw [e, evaluate_neg f support _ heven]
end sliding
section builtin
variable {α : Type} [Field α]

theorem ind_pos {p : Prop} [Decidable p] (h : p) : (ind p : α) = 1 := if_pos h

variable [LinearOrder α]

theorem evaluate_inside (f : α → α) (support x : α) (h : absv x ≤ support) : evaluate f support x = f x := by
  unfold evaluate
  rw [ind_pos h, mul_one]

variable [IsStrictOrderedRing α]

theorem ind_nonneg (p : Prop) [Decidable p] : (0 : α) ≤ ind p := by
  unfold ind; split <;> simp

theorem evaluate_zero (f : α → α) (support : α) (hs : ¬ support < 1) : evaluate f support 0 = f 0 :=
  evaluate_inside f support 0 (by rw [absv_zero]; exact le_trans zero_le_one (le_of_not_gt hs))

theorem rawWindow_nonneg (f : α → α) (support : α) (S : Nat)
    (hf : ∀ i : Nat, i ≤ 2 * S → 0 ≤ f ((S : α) - (i : α))) : ∀ x ∈ rawWindow f support S, 0 ≤ x := by
  intro x hx
  unfold rawWindow at hx
  rw [List.mem_map] at hx
  obtain ⟨i, hi, rfl⟩ := hx
  have hi := List.mem_range.mp hi
  unfold evaluate
  exact mul_nonneg (hf i (by omega)) (ind_nonneg _)

theorem rawWindow_sum_pos (f : α → α) (support : α) (S : Nat) (hf : ∀ i : Nat, i ≤ 2 * S → 0 ≤ f ((S : α) - (i : α)))
    (i0 : Nat) (hi0 : i0 ≤ 2 * S) (hin : absv ((S : α) - (i0 : α)) ≤ support) (hpos : 0 < f ((S : α) - (i0 : α))) :
    0 < (rawWindow f support S).sum := by
  apply sum_pos_of_mem _ (rawWindow_nonneg f support S hf) (f ((S : α) - (i0 : α))) _ hpos
  have h := rawWindow_get f support S i0 hi0
  rw [evaluate_inside f support _ hin] at h
  exact List.mem_of_getElem? h

theorem rawWindow_sum_pos_of_centre (f : α → α) (support : α) (S : Nat) (hs : ¬ support < 1)
    (hf : ∀ i : Nat, i ≤ 2 * S → 0 ≤ f ((S : α) - (i : α))) (hc : 0 < f 0) : 0 < (rawWindow f support S).sum :=
  rawWindow_sum_pos f support S hf S (by omega) (by rw [sub_self, absv_zero]; exact le_trans zero_le_one (le_of_not_gt hs))
    (by rw [sub_self]; exact hc)

theorem uniformF_even (size y : α) : uniformF size (-y) = uniformF size y := by
  unfold uniformF; rw [absv_neg]
theorem uniformF_nonneg (size x : α) (h : 0 < size) : 0 ≤ uniformF size x :=
  div_nonneg (mul_nonneg zero_le_one (ind_nonneg _)) (by positivity)
theorem uniformF_zero_pos (size : α) (h : 0 < size) : 0 < uniformF size 0 := by
  unfold uniformF
  rw [absv_zero, ind_pos (le_of_lt h)]
  positivity

theorem triangularF_even (size y : α) : triangularF size (-y) = triangularF size y := by
  unfold triangularF; rw [absv_neg]
theorem triangularF_nonneg (size x : α) (h : 0 < size) : 0 ≤ triangularF size x := by
  unfold triangularF ind
  split
  · rename_i hle
    exact div_nonneg (mul_nonneg (sub_nonneg.mpr hle) zero_le_one) (by positivity)
  · rw [mul_zero, zero_div]
theorem triangularF_zero_pos (size : α) (h : 0 < size) : 0 < triangularF size 0 := by
  unfold triangularF
  rw [absv_zero, ind_pos (le_of_lt h), sub_zero]
  positivity

theorem epanechnikovF_even (size y : α) : epanechnikovF size (-y) = epanechnikovF size y := by
  unfold epanechnikovF; rw [absv_neg, neg_div, neg_mul_neg]
theorem epanechnikovF_nonneg (size x : α) (h : 0 < size) : 0 ≤ epanechnikovF size x := by
  unfold epanechnikovF ind
  split
  · rename_i hle
    have hsq : x / size * (x / size) ≤ 1 := by
      rw [← abs_mul_abs_self, abs_div, abs_of_pos h, ← absv_eq_abs]
      have hu : absv x / size ≤ 1 := (div_le_one h).mpr hle
      exact mul_le_one₀ hu (div_nonneg (absv_nonneg x) (le_of_lt h)) hu
    exact div_nonneg (mul_nonneg (mul_nonneg (by positivity) (sub_nonneg.mpr hsq)) zero_le_one) (le_of_lt h)
  · rw [mul_zero, zero_div]
theorem epanechnikovF_zero_pos (size : α) (h : 0 < size) : 0 < epanechnikovF size 0 := by
  unfold epanechnikovF
  rw [absv_zero, ind_pos (le_of_lt h), zero_div, mul_zero, sub_zero]
  positivity
end builtin
section seq
variable {α : Type}

theorem getSig_eq (t : Sigs α) (m : String) : getSig t m = (t.find? (·.1 == m)).map (·.2) := by
  unfold getSig; cases t.find? (·.1 == m) <;> rfl

theorem getSig_nil (m : String) : getSig ([] : Sigs α) m = none := rfl

theorem getSig_cons (p : String × List (Option α)) (t : Sigs α) (m : String) :
    getSig (p :: t) m = if p.1 = m then some p.2 else getSig t m := by
  rw [getSig_eq, getSig_eq, List.find?_cons]
  cases h : p.1 == m
  · rw [if_neg (by simpa using h)]
  · rw [if_pos (by simpa using h)]; rfl

theorem getSig_append (t u : Sigs α) (m : String) : getSig (t ++ u) m = (getSig t m).or (getSig u m) := by
  simp only [getSig_eq, List.find?_append, Option.map_or]

theorem getSig_append_single (t : Sigs α) (n m : String) (s : List (Option α)) :
    getSig (t ++ [(n, s)]) m = (getSig t m).or (if n = m then some s else none) := by
  rw [getSig_append, getSig_cons, getSig_nil]

theorem getSig_none_of_not_any (t : Sigs α) (n : String) (h : t.any (·.1 == n) = false) : getSig t n = none := by
  rw [getSig_eq, List.find?_eq_none.2 (List.any_eq_false.1 h)]; rfl

theorem getSig_setSig (t : Sigs α) (n m : String) (s : List (Option α)) :
    getSig (setSig t n s) m = if m = n then some s else getSig t m := by
  rw [getSig_eq, getSig_eq]; exact Common.assoc_dictSet t n s m

theorem getSig_setSig_same (t : Sigs α) (n : String) (s : List (Option α)) :
    getSig (setSig t n s) n = some s := by
  rw [getSig_setSig, if_pos rfl]

theorem getSig_setSig_other (t : Sigs α) (n m : String) (s : List (Option α)) (hne : m ≠ n) :
    getSig (setSig t n s) m = getSig t m := by
  rw [getSig_setSig, if_neg hne]

/-- one turn of the loop `for af in dim` -/
def stepSig (t : Sigs α) (af : String) (out : List (Option α)) : Sigs α :=
  if af = "x" ∨ af = "y" ∨ af = "z" then setSig (setSig t "temp" out) af out else setSig t af out

theorem getSig_stepSig_same (t : Sigs α) (af : String) (out : List (Option α)) :
    getSig (stepSig t af out) af = some out := by
  unfold stepSig; split <;> exact getSig_setSig_same _ _ _

theorem getSig_stepSig_other (t : Sigs α) (af m : String) (out : List (Option α)) (h1 : m ≠ af) (h2 : m ≠ "temp") :
    getSig (stepSig t af out) m = getSig t m := by
  unfold stepSig; split
  · rw [getSig_setSig_other _ _ _ _ h1, getSig_setSig_other _ _ _ _ h2]
  · rw [getSig_setSig_other _ _ _ _ h1]

theorem trackSize_of_getSig (t : Sigs α) (v : List (Option α)) (h : getSig t "x" = some v) : trackSize t = v.length := by
  unfold trackSize; rw [h]

theorem trackSize_stepSig (t : Sigs α) (af : String) (v out : List (Option α)) (hv : getSig t af = some v)
    (hlen : out.length = v.length) (htemp : af ≠ "temp") : trackSize (stepSig t af out) = trackSize t := by
  unfold trackSize
  by_cases h : af = "x"
  · subst h
    rw [getSig_stepSig_same, hv]
    exact hlen
  · rw [getSig_stepSig_other _ _ _ _ (fun e => h e.symm) (by decide)]

theorem map_set_of_not_any (t : Sigs α) (n : String) (s : List (Option α)) (h : t.any (·.1 == n) = false) :
    t.map (fun p => if p.1 == n then (n, s) else p) = t := by
  induction t with
  | nil => rfl
  | cons p t ih =>
    rw [List.any_cons, Bool.or_eq_false_iff] at h
    rw [List.map_cons, ih h.2, h.1]
    rfl

variable [OfNat α 0]

theorem getSig_createAF_of_some (t : Sigs α) (n m : String) (v : List (Option α)) (h : getSig t m = some v) :
    getSig (createAF t n) m = some v := by
  unfold createAF
  split
  · exact h
  · rw [getSig_append, h]; rfl

theorem getSig_createAF_other (t : Sigs α) (n m : String) (hne : m ≠ n) :
    getSig (createAF t n) m = getSig t m := by
  unfold createAF
  split
  · rfl
  · rw [getSig_append_single, if_neg (Ne.symm hne), Option.or_none]

theorem setSig_createAF (t : Sigs α) (n : String) (s : List (Option α)) :
    setSig (createAF t n) n s = setSig t n s := by
  unfold createAF
  rcases hb : t.any (·.1 == n) with _ | _
  · simp only [Bool.false_eq_true, if_false]
    unfold setSig
    have h1 : (t ++ [(n, List.replicate (trackSize t) (some (0 : α)))]).any (·.1 == n) = true := by simp
    rw [h1, hb]
    simp only [if_true, Bool.false_eq_true, if_false, List.map_append, List.map_cons, List.map_nil]
    rw [map_set_of_not_any t n s hb]
    simp
  · simp
end seq

section seq2
variable {α : Type} [Field α] [LinearOrder α]

/-- `track.operate(FILTER, af_in, kernel, af_out)` with a list or Kernel object, an acceptable output name, a non-empty track and an
existing input feature is `Filter.execute` on the values of the input feature, failures included (the odd-window test that `operate`
makes before it looks at the track is the first test of the run), the output being stored under `af_out` -/
theorem operate_arg_eq (t : Sigs α) (afIn afOut : String) (ka : KArg α) (v : List (Option α))
    (hres : reservedName afOut = false) (hsize : trackSize t ≠ 0) (hv : getSig (createAF t afOut) afIn = some v) :
    operate t afIn (.arg ka) afOut =
      match execute v ka with
      | .error e => .error e
      | .ok (k', out) => .ok (.arg (nextKernel ka k'), out, setSig t afOut out) := by
  have hs : (trackSize t == 0) = false := by simpa using hsize
  unfold operate resolve execute
  simp only [hres, hs, hv, Bool.false_eq_true, if_false, setSig_createAF, nextSrc]
  rcases prepare ka with e | ⟨k0, w, b, np⟩
  · rfl
  · by_cases h : (w.length % 2 == 0) = true
    · simp only [h, if_true, filterWindowG]
    · simp only [h]
      cases filterWindowG v w b np <;> rfl

theorem reservedName_temp : reservedName "temp" = false := by decide

theorem coord_ne_temp {af : String} (h : af = "x" ∨ af = "y" ∨ af = "z") : af ≠ "temp" := by
  rcases h with rfl | rfl | rfl <;> decide

theorem reservedName_feature (af : String) (h1 : ¬ (af = "x" ∨ af = "y" ∨ af = "z"))
    (h2 : af ≠ "t" ∧ af ≠ "timestamp" ∧ af ≠ "idx") : reservedName af = false := by
  unfold reservedName
  simp only [not_or] at h1
  simp [h1.1, h1.2.1, h1.2.2, h2.1, h2.2.1, h2.2.2]

theorem seqLoop_step (kern : KArg α) (af : String) (rest : List String) (t : Sigs α) (v : List (Option α))
    (hv : getSig t af = some v) (hsize : trackSize t ≠ 0) (hres : af ≠ "t" ∧ af ≠ "timestamp" ∧ af ≠ "idx") :
    seqLoop (af :: rest) (.arg kern) t =
      match execute v kern with
      | .error e => .error e
      | .ok (k', out) => seqLoop rest (.arg (nextKernel kern k')) (stepSig t af out) := by
  rw [seqLoop]
  unfold stepSig
  by_cases h : af = "x" ∨ af = "y" ∨ af = "z"
  · simp only [beq_iff_eq, h, if_true, operate_arg_eq t af "temp" kern v reservedName_temp hsize (getSig_createAF_of_some t _ af v hv)]
    cases execute v kern <;> rfl
  · simp only [beq_iff_eq, h, if_false,
      operate_arg_eq t af af kern v (reservedName_feature af h hres) hsize (getSig_createAF_of_some t _ af v hv)]
    cases execute v kern <;> rfl

/-- **The loop `for af in dim`** with a kernel object that keeps filtering with the window `w` (`MeanKernel`): every listed
signal is replaced by its mean signal, every other signal except `temp` is untouched -/
theorem seqLoop_mean (w : List α) (b : Bool) :
    ∀ (dims : List String) (kern : KArg α) (t : Sigs α), MeanKernel kern w b → dims.Nodup → "temp" ∉ dims →
      (∀ d ∈ dims, d ≠ "t" ∧ d ≠ "timestamp" ∧ d ≠ "idx") → trackSize t ≠ 0 →
      (∀ d ∈ dims, ∃ v, getSig t d = some v ∧ w.length % 2 = 1 ∧
        (∀ i, i < v.length → wtot (window v w (w.length / 2) i) ≠ 0) ∧ (b = false → w.length / 2 ≤ v.length)) →
      ∃ t', seqLoop dims (.arg kern) t = .ok t' ∧
        (∀ d ∈ dims, ∃ v, getSig t d = some v ∧ getSig t' d = some (meanSignal v w b)) ∧
        (∀ nm, nm ∉ dims → nm ≠ "temp" → getSig t' nm = getSig t nm) := by
  intro dims
  induction dims with
  | nil =>
    intro kern t _ _ _ _ _ _
    exact ⟨t, by rw [seqLoop], by simp, fun _ _ _ => rfl⟩
  | cons af rest ih =>
    intro kern t hk hnd htemp hres hsize hall
    obtain ⟨v, hv, hodd, hden, hlen⟩ := hall af List.mem_cons_self
    obtain ⟨k', hex, hk', _⟩ := execute_meanKernel v kern w b hk hodd hden
    rw [if_neg (not_short hlen)] at hex
    rw [List.nodup_cons] at hnd
    have haf : af ≠ "temp" := fun h => htemp (h ▸ List.mem_cons_self)
    have hrest : "temp" ∉ rest := fun h => htemp (List.mem_cons_of_mem _ h)
    have hother : ∀ d ∈ rest, getSig (stepSig t af (meanSignal v w b)) d = getSig t d := by
      intro d hd
      apply getSig_stepSig_other
      · rintro rfl; exact hnd.1 hd
      · rintro rfl; exact hrest hd
    obtain ⟨t', h1, h2, h3⟩ := ih (nextKernel kern k') (stepSig t af (meanSignal v w b)) hk' hnd.2 hrest
      (fun d hd => hres d (List.mem_cons_of_mem _ hd))
      (by rw [trackSize_stepSig t af v _ hv (meanSignal_length v w b) haf]; exact hsize)
      (by
        intro d hd
        obtain ⟨u, hu, hdu⟩ := hall d (List.mem_cons_of_mem _ hd)
        exact ⟨u, by rw [hother d hd]; exact hu, hdu⟩)
    refine ⟨t', by rw [seqLoop_step kern af rest t v hv hsize (hres af List.mem_cons_self), hex]; exact h1, ?_, ?_⟩
    · intro d hd
      rcases List.mem_cons.mp hd with rfl | hd
      · exact ⟨v, hv, by rw [h3 d hnd.1 haf, getSig_stepSig_same]⟩
      · obtain ⟨u, hu, hu'⟩ := h2 d hd
        exact ⟨u, by rw [← hother d hd]; exact hu, hu'⟩
    · intro nm hnm hnt
      have h4 : nm ∉ rest := fun h => hnm (List.mem_cons_of_mem _ h)
      have h5 : nm ≠ af := fun h => hnm (h ▸ List.mem_cons_self)
      rw [h3 nm h4 hnt, getSig_stepSig_other _ _ _ _ h5 hnt]
end seq2
end TV.Filter
