import TracklibVerif.Lemmas.Simplify
/-! The **depth of the recursion** of `douglas_peucker` (`dpDepthFuel` / `dpDepth` of `Model/Simplify.lean`): it is defined exactly
when the result is, it is at most `len(L) − 2` under the hypotheses of T3, and it is `len(L) − 2` on every track on which each split
peels exactly one fix (`PeelOne`). No property of the scalar type is used. -/
namespace TV.Simplify
section
variable {α : Type} [Add α] [Sub α] [Mul α] [Div α] [LT α] [DecidableLT α] [BEq α] [OfNat α 0]

theorem dpDepthFuel_isSome (sqrt : α → α) (eps : α) (fuel : Nat) (L : List (Fix α)) :
    (dpDepthFuel sqrt eps fuel L).isSome = (dpFuel sqrt eps fuel L).isSome := by
  fun_induction dpDepthFuel sqrt eps fuel L with
  | case1 | case2 | case3 => rw [dpFuel]; rfl
  | case4 => rfl
  | case5 fuel a p q rest L b r hlt => rw [dpFuel, if_pos hlt]; rfl
  | case6 fuel a p q rest L b r hlt d1 d2 hd ht ih1 ih2 =>
    rw [dpFuel, if_neg hlt]
    rw [ht] at ih1; rw [hd] at ih2
    obtain ⟨o1, e1⟩ := Option.isSome_iff_exists.mp ih1.symm
    obtain ⟨o2, e2⟩ := Option.isSome_iff_exists.mp ih2.symm
    simp only [L, r, b] at e1 e2 ⊢
    rw [e1, e2]; rfl
  | case7 fuel a p q rest L b r hlt hno ih1 ih2 =>
    rw [dpFuel, if_neg hlt]
    split
    · rename_i o1 o2 e1 e2
      rw [e1] at ih1; rw [e2] at ih2
      obtain ⟨d1, f1⟩ := Option.isSome_iff_exists.mp ih1
      obtain ⟨d2, f2⟩ := Option.isSome_iff_exists.mp ih2
      exact absurd f2 (hno _ _ f1)
    · rfl

/-- the bound: under the hypotheses of T3 (positive tolerance; a chord's first end is never strictly away from it) every split has
two strictly shorter halves, so a track of `n >= 2` fixes is at most `n − 2` levels deep -/
theorem dpDepthFuel_le (sqrt : α → α) (eps : α) (heps : (0 : α) < eps)
    (hd0 : ∀ a b : Fix α, ¬ (distFix sqrt a b a > 0)) (fuel : Nat) (L : List (Fix α)) (d : Nat)
    (h : dpDepthFuel sqrt eps fuel L = some d) : d ≤ L.length - 2 := by
  fun_induction dpDepthFuel sqrt eps fuel L generalizing d with
  | case1 | case2 | case3 | case5 => cases h; exact Nat.zero_le _
  | case4 | case7 => cases h
  | case6 fuel a p q rest L b r hlt d1 d2 hd ht ih1 ih2 =>
    cases h
    have hi : 1 ≤ r.2 ∧ r.2 < L.length := farthest_inside sqrt eps heps a b _ (hd0 a b) hlt
    have b1 := ih1 _ ht
    have b2 := ih2 _ hd
    rw [List.length_take] at b1
    rw [List.length_drop] at b2
    have e : L.length = rest.length + 3 := rfl
    have hm : Nat.max d1 d2 ≤ rest.length := Nat.max_le.mpr ⟨by omega, by omega⟩
    exact Nat.le_trans (Nat.add_le_add_left hm 1) (Nat.le_of_eq (Nat.add_comm 1 _))

end

section
variable {α : Type} [Add α] [Sub α] [Mul α] [Div α] [Neg α] [LT α] [DecidableLT α] [BEq α]
  [OfNat α 0] [OfNat α 1] [OfNat α 2]

/-- every split of the run peels exactly **one** fix: at every level the farthest fix from the chord is `L[1]` and it is not below the
tolerance, down to two fixes -/
def PeelOne (sqrt : α → α) (eps : α) : List (Fix α) → Prop
  | a :: p :: q :: rest =>
    (¬ (farthest sqrt a (chordEnd q rest) (a :: p :: q :: rest) 0 0 0).1 < eps ∧
      (farthest sqrt a (chordEnd q rest) (a :: p :: q :: rest) 0 0 0).2 = 1) ∧ PeelOne sqrt eps (p :: q :: rest)
  | _ => True

end

section
variable {α : Type} [Add α] [Sub α] [Mul α] [Div α] [LT α] [DecidableLT α] [BEq α] [OfNat α 0]

theorem dpDepthFuel_peel (sqrt : α → α) (eps : α) (fuel : Nat) (L : List (Fix α)) (hp : PeelOne sqrt eps L)
    (hl : L.length ≤ fuel + 2) : dpDepthFuel sqrt eps fuel L = some (L.length - 2) := by
  fun_induction dpDepthFuel sqrt eps fuel L with
  | case1 | case2 | case3 => rfl
  | case4 => simp at hl
  | case5 fuel a p q rest L b r hlt => exact absurd hlt hp.1.1
  | case6 fuel a p q rest L b r hlt d1 d2 hd ht ih1 ih2 =>
    rw [show r.2 = 1 from hp.1.2] at hd ht ih1 ih2
    cases ht.symm.trans (ih1 trivial (Nat.le_add_left _ _))
    cases hd.symm.trans (ih2 hp.2 (Nat.le_of_succ_le_succ hl))
    simp only [L, List.take, List.drop, List.length_cons, List.length_nil]
    exact congrArg some (show 1 + max (0 + 1 - 2) (rest.length + 1 + 1 - 2) = _ by omega)
  | case7 fuel a p q rest L b r hlt hno ih1 ih2 =>
    rw [show r.2 = 1 from hp.1.2] at hno ih1 ih2
    exact absurd (ih2 hp.2 (Nat.le_of_succ_le_succ hl)) (hno _ _ (ih1 trivial (Nat.le_add_left _ _)))

theorem farthest_no_gt (sqrt : α → α) (a b : Fix α) (rest : List (Fix α)) (i : Nat) (dmax : α) (imax : Nat)
    (h : ∀ p ∈ rest, ¬ distFix sqrt a b p > dmax) : farthest sqrt a b rest i dmax imax = (dmax, imax) := by
  induction rest generalizing i with
  | nil => rfl
  | cons p rest ih =>
    rw [farthest]
    simp only [h p List.mem_cons_self, ↓reduceIte]
    exact ih (i + 1) (fun x hx => h x (List.mem_cons_of_mem _ hx))

theorem farthest_second (sqrt : α → α) (a b p : Fix α) (rest : List (Fix α))
    (h0 : ¬ distFix sqrt a b a > 0) (h1 : distFix sqrt a b p > 0)
    (h : ∀ x ∈ rest, ¬ distFix sqrt a b x > distFix sqrt a b p) :
    farthest sqrt a b (a :: p :: rest) 0 0 0 = (distFix sqrt a b p, 1) := by
  rw [farthest]
  simp only [h0, ↓reduceIte]
  rw [farthest]
  simp only [h1, ↓reduceIte]
  exact farthest_no_gt sqrt a b rest _ _ _ h

end

end TV.Simplify
