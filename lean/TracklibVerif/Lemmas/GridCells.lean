import TracklibVerif.Model.Grid
import TracklibVerif.Lemmas.Grid
import Mathlib.Algebra.Order.Field.Basic
import Mathlib.Algebra.Order.Ring.Cast
import Mathlib.Data.Int.Range
import Mathlib.Tactic.Ring
import Mathlib.Tactic.Linarith
import Mathlib.Tactic.Push
/-! What `isSegmentIntersects`, `cellHit` and `cellsCross` of `Model/Grid.lean` compute, in the terms of the ordered-field
geometry of `Lemmas/Grid.lean`; then the contract of `math.floor` (`IsFloor`) and, with it, the completeness of `cellsCross`. -/
namespace TV.Grid
variable {α : Type} [Field α]

theorem evalLine_cartesienne (x1 y1 x2 y2 x y : α) :
    evalLine (cartesienne ⟨x1, y1, x2, y2⟩) x y = ev x1 y1 x2 y2 x y := rfl

variable [LinearOrder α]

theorem isSegmentIntersects_iff (s1 s2 : Seg α) :
    isSegmentIntersects s1 s2 = true ↔ inter s1.x1 s1.y1 s1.x2 s1.y2 s2.x1 s2.y1 s2.x2 s2.y2 := by
  simp only [isSegmentIntersects, Bool.and_eq_true, decide_eq_true_eq]
  rfl

theorem cellHit_iff (c1 c2 : α × α) (i j : Int) :
    cellHit c1 c2 i j = true ↔
      ((((((((i : α) < c1.1 ∧ c1.1 < (i : α) + 1) ∧ (i : α) < c2.1) ∧ c2.1 < (i : α) + 1) ∧ (j : α) < c1.2) ∧
        c1.2 < (j : α) + 1) ∧ (j : α) < c2.2) ∧ c2.2 < (j : α) + 1) ∨
      inter (i : α) j (i + 1) j c1.1 c1.2 c2.1 c2.2 ∨ inter (i : α) j i (j + 1) c1.1 c1.2 c2.1 c2.2 ∨
      inter (i : α) (j + 1) (i + 1) (j + 1) c1.1 c1.2 c2.1 c2.2 ∨ inter ((i : α) + 1) j (i + 1) (j + 1) c1.1 c1.2 c2.1 c2.2 := by
  simp only [cellHit, Bool.if_true_left, Bool.decide_eq_true, Bool.or_eq_true, Bool.and_eq_true, decide_eq_true_eq,
    isSegmentIntersects_iff, Bool.if_false_right, Bool.and_true, Int.cast_add, Int.cast_one]

theorem mem_rangeI (lo hi k : Int) : k ∈ rangeI lo hi ↔ lo ≤ k ∧ k < hi := Int.mem_range_iff

theorem mem_foldl_step {β γ : Type} (g : List β → γ → List β) (Q : γ → β → Prop)
    (hg : ∀ acc x c, c ∈ g acc x ↔ c ∈ acc ∨ Q x c) (xs : List γ) (init : List β) (c : β) :
    c ∈ xs.foldl g init ↔ c ∈ init ∨ ∃ x ∈ xs, Q x c := by
  induction xs generalizing init with
  | nil => simp
  | cons x xs ih => rw [List.foldl_cons, ih, hg, or_assoc]; simp only [List.mem_cons, exists_eq_or_imp]

theorem mem_addNew {β : Type} [BEq β] [LawfulBEq β] (l : List β) (x y : β) : y ∈ addNew l x ↔ y ∈ l ∨ y = x := by
  unfold addNew
  split
  · rename_i h
    exact ⟨Or.inl, fun h' => h'.elim id fun e => e ▸ List.contains_iff_mem.mp h⟩
  · exact List.mem_append.trans (or_congr_right List.mem_singleton)

theorem mem_addAll {β : Type} [BEq β] [LawfulBEq β] (values tab : List β) (y : β) :
    y ∈ addAll tab values ↔ y ∈ tab ∨ y ∈ values := by
  rw [addAll, mem_foldl_step addNew (fun x c => c = x) mem_addNew]
  simp only [exists_eq_right']

theorem mem_outer (hit : Int → Int → Bool) (is js : List Int) (init : List (Int × Int)) (c : Int × Int) :
    c ∈ is.foldl (fun cells i => js.foldl (fun cells j => if hit i j then addNew cells (i, j) else cells) cells) init
      ↔ c ∈ init ∨ ∃ i ∈ is, ∃ j ∈ js, hit i j = true ∧ c = (i, j) := by
  refine mem_foldl_step _ (fun i c => ∃ j ∈ js, hit i j = true ∧ c = (i, j)) (fun acc i c => ?_) is init c
  refine mem_foldl_step _ (fun j c => hit i j = true ∧ c = (i, j)) (fun acc j c => ?_) js acc c
  split
  · rename_i h; rw [mem_addNew, h]; simp only [true_and]
  · rename_i h; simp only [h, Bool.false_eq_true, false_and, or_false]

theorem mem_cellsCross (fl : α → Int) (cs ls : Int) (c1 c2 : α × α) (i j : Int) :
    (i, j) ∈ cellsCross fl cs ls c1 c2 ↔
      (min (min (fl c1.1) (fl c2.1)) (cs - 1) ≤ i ∧ i ≤ min (max (fl c1.1) (fl c2.1)) (cs - 1)) ∧
      (min (min (fl c1.2) (fl c2.2)) (ls - 1) ≤ j ∧ j ≤ min (max (fl c1.2) (fl c2.2)) (ls - 1)) ∧
      cellHit c1 c2 i j = true := by
  unfold cellsCross
  simp only [mem_outer, mem_rangeI, List.not_mem_nil, false_or, Prod.mk.injEq]
  constructor
  · rintro ⟨i', ⟨a, b⟩, j', ⟨c, d⟩, h, rfl, rfl⟩
    exact ⟨⟨a, by omega⟩, ⟨c, by omega⟩, h⟩
  · rintro ⟨⟨a, b⟩, ⟨c, d⟩, h⟩
    exact ⟨i, ⟨a, by omega⟩, j, ⟨c, by omega⟩, h, rfl, rfl⟩

variable [IsStrictOrderedRing α]

/-- contract of `math.floor` -/
def IsFloor (fl : α → Int) : Prop := ∀ x : α, ((fl x : Int) : α) ≤ x ∧ x < ((fl x : Int) : α) + 1

/-- `floor` is the lower adjoint of the integer cast: every other fact about it follows from this one -/
theorem IsFloor.le_iff {fl : α → Int} (h : IsFloor fl) {x : α} {k : Int} : k ≤ fl x ↔ ((k : Int) : α) ≤ x := by
  constructor
  · intro hk; exact le_trans (Int.cast_le.mpr hk) (h x).1
  · intro hk
    have : ((k : Int) : α) < ((fl x + 1 : Int) : α) := by push_cast; exact lt_of_le_of_lt hk (h x).2
    exact Int.lt_add_one_iff.mp (Int.cast_lt.mp this)

theorem IsFloor.mono {fl : α → Int} (h : IsFloor fl) {x y : α} (hxy : x ≤ y) : fl x ≤ fl y :=
  h.le_iff.mpr (le_trans (h x).1 hxy)

theorem IsFloor.eq_of {fl : α → Int} (h : IsFloor fl) {x : α} {k : Int}
    (h1 : ((k : Int) : α) ≤ x) (h2 : x < ((k : Int) : α) + 1) : fl x = k := by
  refine le_antisymm (Int.lt_add_one_iff.mp (lt_of_not_ge fun hc => ?_)) (h.le_iff.mpr h1)
  have := h.le_iff.mp hc
  push_cast at this
  exact not_le.mpr h2 this

theorem IsFloor.zero {fl : α → Int} (hf : IsFloor fl) : fl 0 = 0 :=
  hf.eq_of (by simp) (by simp)

theorem clamp_spec {fl : α → Int} (hf : IsFloor fl) (x : α) (n : Int) (hx : x ≤ ((n : Int) : α)) :
    ((min (fl x) (n - 1) : Int) : α) ≤ x ∧
      (x < ((min (fl x) (n - 1) : Int) : α) + 1 ∨ (min (fl x) (n - 1) = n - 1 ∧ x = ((n : Int) : α))) := by
  refine ⟨le_trans (Int.cast_le.mpr (min_le_left _ _)) (hf x).1, ?_⟩
  rcases le_total (fl x) (n - 1) with h | h
  · left; rw [min_eq_left h]; exact (hf x).2
  · rw [min_eq_right h]
    rcases lt_or_eq_of_le hx with hlt | heq
    · left; push_cast; rwa [sub_add_cancel]
    · right; exact ⟨rfl, heq⟩

theorem cellHit_of_point (c1 c2 : α × α) (i j : Int) (s : α) (hs0 : 0 ≤ s) (hs1 : s ≤ 1)
    (hx : ((i : Int) : α) ≤ c1.1 + s * (c2.1 - c1.1) ∧ c1.1 + s * (c2.1 - c1.1) ≤ ((i : Int) : α) + 1)
    (hy : ((j : Int) : α) ≤ c1.2 + s * (c2.2 - c1.2) ∧ c1.2 + s * (c2.2 - c1.2) ≤ ((j : Int) : α) + 1) :
    cellHit c1 c2 i j = true := by
  rw [cellHit_iff]
  rcases cell_core c1.1 c1.2 c2.1 c2.2 s (i : α) (j : α) hs0 hs1 hx hy with ⟨⟨a1, a2, a3, a4⟩, b1, b2, b3, b4⟩ | h
  · exact Or.inl ⟨⟨⟨⟨⟨⟨⟨a1, a2⟩, b1⟩, b2⟩, a3⟩, a4⟩, b3⟩, b4⟩
  · exact Or.inr h

theorem conv_between (a b s : α) (hs0 : 0 ≤ s) (hs1 : s ≤ 1) :
    min a b ≤ a + s * (b - a) ∧ a + s * (b - a) ≤ max a b :=
  between a b (min a b) (max a b) s hs0 hs1 ⟨min_le_left _ _, le_max_left _ _⟩ ⟨min_le_right _ _, le_max_right _ _⟩

theorem floor_conv_box {fl : α → Int} (hf : IsFloor fl) (a b s : α) (hs0 : 0 ≤ s) (hs1 : s ≤ 1) :
    min (fl a) (fl b) ≤ fl (a + s * (b - a)) ∧ fl (a + s * (b - a)) ≤ max (fl a) (fl b) := by
  have hm : Monotone fl := fun _ _ => hf.mono
  obtain ⟨h1, h2⟩ := conv_between a b s hs0 hs1
  exact ⟨hm.map_min ▸ hm h1, hm.map_max ▸ hm h2⟩

/-- T2 (`cells_complete`): let `P = c1 + s (c2 − c1)` be a point of the segment `[c1, c2]` (fractional cell indices) and
`(i, j)` a cell containing it — `i ≤ Px < i + 1`, or `i = cs − 1` is the last column and `i ≤ Px ≤ cs`; likewise for `j`.
Then `(i, j)` is in the list returned by `__cellsCrossSegment(c1, c2)`: on each axis the index lies in the scanned
(clamped) range and the coordinate in the closed unit interval of the index, so the cell passes one of the five tests -/
theorem cellsCross_complete {fl : α → Int} (hf : IsFloor fl) (cs ls : Int) (c1 c2 : α × α) (s : α) (hs0 : 0 ≤ s) (hs1 : s ≤ 1)
    (i j : Int) (hic : i ≤ cs - 1) (hjc : j ≤ ls - 1)
    (hi : ((i : Int) : α) ≤ c1.1 + s * (c2.1 - c1.1) ∧
      (c1.1 + s * (c2.1 - c1.1) < ((i : Int) : α) + 1 ∨ (i = cs - 1 ∧ c1.1 + s * (c2.1 - c1.1) ≤ ((cs : Int) : α))))
    (hj : ((j : Int) : α) ≤ c1.2 + s * (c2.2 - c1.2) ∧
      (c1.2 + s * (c2.2 - c1.2) < ((j : Int) : α) + 1 ∨ (j = ls - 1 ∧ c1.2 + s * (c2.2 - c1.2) ≤ ((ls : Int) : α)))) :
    (i, j) ∈ cellsCross fl cs ls c1 c2 := by
  have axis : ∀ (a b : α) (k n : Int), k ≤ n - 1 → ((k : Int) : α) ≤ a + s * (b - a) →
      (a + s * (b - a) < ((k : Int) : α) + 1 ∨ (k = n - 1 ∧ a + s * (b - a) ≤ ((n : Int) : α))) →
      (min (min (fl a) (fl b)) (n - 1) ≤ k ∧ k ≤ min (max (fl a) (fl b)) (n - 1)) ∧
        (((k : Int) : α) ≤ a + s * (b - a) ∧ a + s * (b - a) ≤ ((k : Int) : α) + 1) := by
    intro a b k n hkn h1 h2
    obtain ⟨a1, a2⟩ := floor_conv_box hf a b s hs0 hs1
    have hk := hf.le_iff.mpr h1
    rcases h2 with h2 | ⟨rfl, h2⟩
    · have := hf.eq_of h1 h2
      exact ⟨by omega, h1, le_of_lt h2⟩
    · refine ⟨by omega, h1, ?_⟩
      push_cast
      rwa [sub_add_cancel]
  obtain ⟨bi, pi⟩ := axis c1.1 c2.1 i cs hic hi.1 hi.2
  obtain ⟨bj, pj⟩ := axis c1.2 c2.2 j ls hjc hj.1 hj.2
  exact (mem_cellsCross ..).mpr ⟨bi, bj, cellHit_of_point c1 c2 i j s hs0 hs1 pi pj⟩

end TV.Grid
