import TracklibVerif.Lemmas.Simplify
import Mathlib.Order.Defs.LinearOrder
/-! Douglas–Peucker's tolerance over a **totally ordered scalar type with arbitrary arithmetic**: nothing is assumed about
`+ − × ÷ sqrt ==` (they may round, overflow, be anything), only that `<` is a linear order. The farthest-fix search then
returns an upper bound of the *computed* distances, so when a piece is collapsed to its chord every fix of the piece has a
computed distance `< eps`; whatever the caller knows about fixes whose computed distance is below `eps` (an abstract
acceptance predicate `W`) therefore holds for every input fix with respect to a segment of the output polyline. Also here: the zero laws
(`ZeroLaws`) under which a chord's first end is at computed distance 0 from it — T3's hypothesis (`ZeroLaws.self_distance`). -/
namespace TV.Simplify

section order
variable {α : Type} [LinearOrder α]

theorem pmax_eq (a b : α) : pmax a b = max a b := by
  unfold pmax
  rcases lt_trichotomy a b with h | h | h
  · rw [if_pos h, max_eq_right (le_of_lt h)]
  · subst h; simp
  · rw [if_neg (not_lt.mpr (le_of_lt h)), max_eq_left (le_of_lt h)]

theorem pmin_eq (a b : α) : pmin a b = min a b := by
  unfold pmin
  rcases lt_trichotomy a b with h | h | h
  · rw [if_neg (not_lt.mpr (le_of_lt h)), min_eq_left (le_of_lt h)]
  · subst h; simp
  · rw [if_pos h, min_eq_right (le_of_lt h)]

theorem pmax_pmin_self (a b : α) : pmax a (pmin a b) = a := by
  rw [pmax_eq, pmin_eq]; exact max_eq_left (min_le_left a b)

theorem pmin_pmax_self (a b : α) : pmin a (pmax a b) = a := by
  rw [pmin_eq, pmax_eq]; exact min_eq_left (le_max_left a b)

end order

section
variable {α : Type} [Add α] [Sub α] [Mul α] [Div α] [BEq α] [OfNat α 0] [LinearOrder α]

theorem farthest_ub_ord (sqrt : α → α) (a b : Fix α) (rest : List (Fix α)) (i : Nat) (dmax : α) (imax : Nat) :
    dmax ≤ (farthest sqrt a b rest i dmax imax).1 ∧
      ∀ p ∈ rest, distFix sqrt a b p ≤ (farthest sqrt a b rest i dmax imax).1 := by
  fun_induction farthest sqrt a b rest i dmax imax with
  | case1 => exact ⟨le_refl _, fun p hp => by cases hp⟩
  | case2 p rest i dmax imax d hgt ih => exact ⟨le_trans (le_of_lt hgt) ih.1, List.forall_mem_cons.mpr ih⟩
  | case3 p rest i dmax imax d hgt ih => exact ⟨ih.1, List.forall_mem_cons.mpr ⟨le_trans (not_lt.mp hgt) ih.1, ih.2⟩⟩

/-- a piece that Douglas–Peucker collapses to its chord: every fix of it has a computed distance `< eps` to the chord, so whatever
is known of such fixes (`hbase`) holds of every fix of the piece. With `DpTree.tolerance` this is T5'. -/
theorem chord_accept (sqrt : α → α) (eps : α) (W : Fix α → Fix α → Fix α → Prop)
    (hbase : ∀ a b p, distFix sqrt a b p < eps → W p a b) :
    ∀ a b L, chordBelow sqrt eps a b L → ∀ p ∈ L, W p a b :=
  fun a b L hc p hp => hbase a b p (lt_of_le_of_lt ((farthest_ub_ord sqrt a b L 0 0 0).2 p hp) hc)

end

section
variable {α : Type} [Add α] [Sub α] [Mul α] [Div α] [Neg α] [BEq α] [OfNat α 0] [OfNat α 1] [OfNat α 2] [LinearOrder α]

/-- the identities of the arithmetic that `distance_to_segment(A; A, B)` goes through. Exact arithmetic satisfies them; so do
IEEE doubles on finite values whose differences do not overflow (`x − x = +0`, `0 × d = ±0`, `±0 + ±0 = ±0`, `±0 / l = ±0`,
`x + ±0 = x`, `sqrt(±0) = ±0`, and `±0` is not `> 0`) -/
structure ZeroLaws (sqrt : α → α) : Prop where
  sub_self : ∀ x : α, x - x = 0
  zero_mul : ∀ x : α, (0 : α) * x = 0
  zero_add_zero : (0 : α) + 0 = 0
  zero_div : ∀ x : α, (0 : α) / x = 0
  add_zero : ∀ x : α, x + 0 = x
  sqrt_zero : sqrt 0 = 0

end

section
variable {α : Type} [Add α] [Sub α] [Mul α] [Div α] [BEq α] [OfNat α 0] [LinearOrder α]

/-- `distance_to_segment(A; A, B) = 0` in any arithmetic with the zero laws (either branch of `l == 0`) -/
theorem distFix_self_ord (sqrt : α → α) (hz : ZeroLaws sqrt) (a b : Fix α) : distFix sqrt a b a = 0 := by
  unfold distFix distanceToSegment
  simp only [hz.sub_self, hz.zero_mul, hz.zero_add_zero, hz.zero_div, hz.add_zero, hz.sqrt_zero]
  split
  · rfl
  · simp only [pmax_pmin_self, pmin_pmax_self, hz.sub_self, hz.zero_mul, hz.zero_add_zero, hz.sqrt_zero]

theorem ZeroLaws.self_distance {sqrt : α → α} (hz : ZeroLaws sqrt) (a b : Fix α) : ¬ distFix sqrt a b a > 0 := by
  rw [distFix_self_ord sqrt hz a b]; exact lt_irrefl _

end

end TV.Simplify
