import TracklibVerif.Model.GraphPathExt
import TracklibVerif.Lemmas.GraphBack
import TracklibVerif.Props.C04
/-! Lemmas for the extension of C07 (`Model/GraphPathExt.lean`):

* `run_routing_backward` written with the track operators of the C04 model (`Seq.concat` = `+`,
  `Seq.dropFirst` = `>`, `reverseT`, `copyT`, `Seq.addObs`) returns the track whose points are those of the
  list-level model `TV.Graph.runBackward` and whose feature table is empty. The two operator facts used are the C04
  property theorems `TV.C04.concat_spec` and `TV.C04.dropFirst_spec`.
* the session: `__resetFlags` followed by `poids[source] = 0` is the initial state whatever the earlier searches
  left, so every forward pass of a session is the forward pass on a fresh network. -/
namespace TV.GraphExt
open TV.Graph TV.Seq

theorem reverseT_spec (tr : Track) : reverseT tr = ⟨tr.pts.reverse, tr.table⟩ := rfl

theorem copyT_spec (tr : Track) : copyT tr = tr := rfl

/-- `track + (edge_geom > 1)` when `track` has no analytical feature: the points of `track` followed by those of
`edge_geom` but the first, and no analytical feature (whatever the features of the edge geometry are) -/
theorem chain_step (track g : Track) (ht : track.table = []) :
    concat track (dropFirst g 1) = ⟨track.pts ++ g.pts.drop 1, []⟩ := by
  have hd : dropFirst g 1 = ⟨g.pts.drop 1, g.table⟩ := by simpa using TV.C04.dropFirst_spec g 1
  obtain ⟨h1, h2⟩ := TV.C04.concat_spec track (dropFirst g 1)
  rw [ht] at h2
  have h2' : (concat track (dropFirst g 1)).table = [] := by rw [h2]; split <;> rfl
  rw [hd] at h1 h2' ⊢
  cases hc : concat track ⟨g.pts.drop 1, g.table⟩ with
  | mk p tb =>
    rw [hc] at h1 h2'
    simp only at h1 h2'
    rw [h1, h2']

variable {W : Type}

theorem backAuxT_eq (net : Net W) (geo : GeoT) (st : St W) :
    ∀ (f node : Nat) (nodes : List Nat) (track : Track), track.table = [] →
      backAuxT net geo st f node nodes track = liftBack (backAux net geo.toGeo st f node nodes track.pts) := by
  intro f
  induction f with
  | zero => intro node nodes track _; rfl
  | succ f ih =>
    intro node nodes track ht
    unfold backAuxT backAux
    cases hp : st.pred node with
    | none =>
      simp only [liftBack, reverseT_spec, ht]
    | some p =>
      obtain ⟨a, eid⟩ := p
      simp only []
      cases hf : findEdge net eid with
      | none => simp only [liftBack]
      | some e =>
        simp only []
        by_cases hs : e.src ≠ node
        · simp only [hs, ne_eq, not_false_eq_true, if_true, copyT_spec]
          rw [chain_step track (reverseT (geo.geom eid)) ht, ih a (nodes ++ [a]) _ rfl]
          rfl
        · simp only [hs, if_false, copyT_spec]
          rw [chain_step track (geo.geom eid) ht, ih a (nodes ++ [a]) _ rfl]
          rfl

theorem runBackwardT_eq (net : Net W) (geo : GeoT) (st : St W) (t : Nat) :
    runBackwardT net geo st t = liftBack (runBackward net geo.toGeo st t) := by
  unfold runBackwardT runBackward
  cases hp : st.pred t with
  | none => rfl
  | some p =>
    simp only []
    rw [backAuxT_eq net geo st (net.n + 1) t [t] (addObs emptyT (geo.pos t)) rfl]
    rfl

/-- the backward loop reads the antecedents along the chain from its start node only, and of a recorded edge only whether
it is still in `EDGES` and its `source`: two runs that agree on that (`S`: a set of nodes holding the chain) return the same -/
theorem backAuxT_congr (net net' : Net W) (geo : GeoT) (st st' : St W) (S : Nat → Prop)
    (h : ∀ v, S v → st.pred v = st'.pred v ∧ ∀ a i, st'.pred v = some (a, i) →
      S a ∧ (findEdge net i).map (·.src) = (findEdge net' i).map (·.src)) :
    ∀ (f v : Nat) (nodes : List Nat) (track : Track), S v →
      backAuxT net geo st f v nodes track = backAuxT net' geo st' f v nodes track := by
  intro f
  induction f with
  | zero => intro v nodes track _; rfl
  | succ f ih =>
    intro v nodes track hv
    unfold backAuxT
    rw [(h v hv).1]
    cases hp : st'.pred v with
    | none => rfl
    | some q =>
      obtain ⟨a, eid⟩ := q
      obtain ⟨ha, he⟩ := (h v hv).2 a eid hp
      simp only []
      cases h1 : findEdge net eid with
      | none =>
        cases h2 : findEdge net' eid with
        | none => rfl
        | some e' => rw [h1, h2] at he; cases he
      | some e =>
        cases h2 : findEdge net' eid with
        | none => rw [h1, h2] at he; cases he
        | some e' =>
          rw [h1, h2] at he
          simp only [Option.some.inj he]
          exact ih a _ _ ha

theorem runBackwardT_congr (net net' : Net W) (geo : GeoT) (st st' : St W) (S : Nat → Prop) (hn : net.n = net'.n)
    (h : ∀ v, S v → st.pred v = st'.pred v ∧ ∀ a i, st'.pred v = some (a, i) →
      S a ∧ (findEdge net i).map (·.src) = (findEdge net' i).map (·.src)) (t : Nat) (ht : S t) :
    runBackwardT net geo st t = runBackwardT net' geo st' t := by
  unfold runBackwardT
  rw [(h t ht).1, hn]
  cases st'.pred t with
  | none => rfl
  | some q => exact backAuxT_congr net net' geo st st' S h _ t _ _ ht

theorem liftBack_path {b : Back Obs} {nodes : List Nat} {trk : Track} (h : liftBack b = .path nodes trk) :
    b = .path nodes trk.pts ∧ trk.table = [] := by
  cases b with
  | none => cases h
  | diverge => cases h
  | path n g =>
    simp only [liftBack, BackT.path.injEq] at h
    obtain ⟨rfl, rfl⟩ := h
    exact ⟨rfl, rfl⟩

theorem liftBack_none {b : Back Obs} : liftBack b = .none ↔ b = .none := by
  cases b <;> simp [liftBack]

theorem liftBack_diverge {b : Back Obs} : liftBack b = .diverge ↔ b = .diverge := by
  cases b <;> simp [liftBack]

/-- `__resetFlags` then `poids[source] = 0`: the initial state, whatever was there -/
theorem reset_init [OfNat W 0] (flags : Option (St W)) (s : Nat) : setSource (resetFlags flags) s = St.init s := rfl

variable [LT W] [DecidableLT W] [Add W] [OfNat W 0]

theorem runForwardOn_eq (net : Net W) (flags : Option (St W)) (s : NodeArg) (t : Option NodeArg) (cut : Option W) :
    runForwardOn net flags s t cut = runForward net (correctInputNode s) (t.map correctInputNode) cut := rfl


section session
variable {W : Type} [LinearOrder W] [Add W] [Zero W]

theorem GoodH.answerT {net : Net W} (hu : UniqueIds net) (geo : GeoT) {s : Nat} {st : St W} (h : GoodH net s st) (t : Nat) :
    runBackwardT net geo st t ≠ .diverge ∧
    (runBackwardT net geo st t = .none ↔ (st.d t = none ∨ t = s)) ∧
    (∀ nodes trk, runBackwardT net geo st t = .path nodes trk → ∃ l g g' y, nodes = l ++ [t] ∧
      trk = ⟨g ++ [geo.pos t], []⟩ ∧ Route net geo.toGeo s l g g' t y ∧ st.d t = some y) := by
  obtain ⟨a, b, c⟩ := h.answer hu geo.toGeo t
  rw [runBackwardT_eq]
  refine ⟨fun e => a (liftBack_diverge.1 e), liftBack_none.trans b, fun nodes trk e => ?_⟩
  obtain ⟨pts, tb⟩ := trk
  obtain ⟨e1, rfl⟩ : runBackward net geo.toGeo st t = .path nodes pts ∧ tb = [] := liftBack_path e
  obtain ⟨l, g, g', y, rfl, rfl, hr, hd⟩ := c nodes pts e1
  exact ⟨l, g, g', y, rfl, rfl, hr, hd⟩

/-- optimality is the predecessor structure plus one fact about the forward pass: the label of `t` is its distance -/
theorem GoodH.optimalT {net : Net W} (hu : UniqueIds net) (geo : GeoT) {s : Nat} {st : St W} (h : GoodH net s st) (t : Nat)
    (hd : (∀ y, st.d t = some y ↔ IsDist net s t y) ∧ (st.d t = none ↔ ¬ Reachable net s t)) :
    runBackwardT net geo st t ≠ .diverge ∧
    (runBackwardT net geo st t = .none ↔ (¬ Reachable net s t ∨ t = s)) ∧
    (∀ nodes trk, runBackwardT net geo st t = .path nodes trk →
      ∃ l g g' y, nodes = l ++ [t] ∧ trk = ⟨g ++ [geo.pos t], []⟩ ∧ Route net geo.toGeo s l g g' t y ∧ IsDist net s t y) := by
  obtain ⟨a, b, c⟩ := GoodH.answerT hu geo h t
  refine ⟨a, by rw [← hd.2]; exact b, fun nodes trk e => ?_⟩
  obtain ⟨l, g, g', y, e1, e2, hr, hy⟩ := c nodes trk e
  exact ⟨l, g, g', y, e1, e2, hr, (hd.1 y).1 hy⟩

def SessGood (net : Net W) (se : Sess W) : Prop := ∀ st, se.flags = some st → ∃ s, s < net.n ∧ Good net s st

def OpOk (net : Net W) : Op W → Prop
  | .path s _ _ _ => correctInputNode s < net.n
  | .dist s _ _ _ => correctInputNode s < net.n
  | .fwd s _ _ _ => correctInputNode s < net.n
  | .back _ => True

/-- what a `.path` output of a session must be: never a divergence; a returned track is the chain of a real route
(from the source of the last search) closed by the position of its last node, without analytical feature, and the
weights of the route's edges sum to the label reported with it -/
def OutOk (net : Net W) (geo : GeoT) : Out W → Prop
  | .path b label => b ≠ .diverge ∧ ∀ nodes trk, b = .path nodes trk →
      ∃ s t l g g' y, nodes = l ++ [t] ∧ trk = ⟨g ++ [geo.pos t], []⟩ ∧ Route net geo.toGeo s l g g' t y ∧ label = some y
  | _ => True

theorem backward_out_ok (net : Net W) (hu : UniqueIds net) (geo : GeoT) (s : Nat) (st : St W) (hg : GoodH net s st)
    (t : Nat) : OutOk net geo (.path (runBackwardT net geo st t) (st.d t)) := by
  obtain ⟨a, _, c⟩ := GoodH.answerT hu geo hg t
  refine ⟨a, fun nodes trk h => ?_⟩
  obtain ⟨l, g, g', y, e1, e2, hr, hd⟩ := c nodes trk h
  exact ⟨s, t, l, g, g', y, e1, e2, hr, hd⟩

end session

section
variable {W : Type} [LinearOrder W] [Add W] [Zero W] [WalkAdd W]

omit [WalkAdd W] in
theorem sessGood_start (net : Net W) : SessGood net (Sess.start : Sess W) := by
  intro st h; cases h

theorem sess_forward_good (net : Net W) (hnet : WFNet net) (se : Sess W) (s : NodeArg) (t : Option NodeArg)
    (cut : Option W) (ud : Bool) (hs : correctInputNode s < net.n) : SessGood net (se.forward net s t cut ud) := by
  intro st h
  simp only [Sess.forward, Option.some.injEq] at h
  subst h
  exact ⟨correctInputNode s, hs, runForward_good net hnet _ hs _ cut⟩

/-- after a forward pass the nodes do carry flags, so the `AttributeError` branches of `shortest_path` / `shortest_distance` are
not taken -/
theorem stepOp_ok (net : Net W) (hnet : WFNet net) (hu : UniqueIds net) (geo : GeoT) (order : List Nat) (se : Sess W) (op : Op W)
    (hok : OpOk net op) (hse : SessGood net se) :
    OutOk net geo (stepOp net geo order se op).2 ∧ SessGood net (stepOp net geo order se op).1 := by
  cases op with
  | path s t cut ud =>
    exact ⟨backward_out_ok net hu geo _ _ (runForward_good net hnet _ hok _ cut).toGoodH _,
      sess_forward_good net hnet se s (some t) cut ud hok⟩
  | dist s t cut ud => cases t <;> exact ⟨trivial, sess_forward_good net hnet se s _ cut ud hok⟩
  | fwd s t cut ud => exact ⟨trivial, sess_forward_good net hnet se s t cut ud hok⟩
  | back t =>
    simp only [stepOp]
    split
    · exact ⟨trivial, hse⟩
    · rename_i st hst
      obtain ⟨s0, _, hgood⟩ := hse st hst
      exact ⟨backward_out_ok net hu geo s0 st hgood.toGoodH _, hse⟩

end

end TV.GraphExt

namespace TV.GraphExt
open TV.Graph
section construction
variable {W : Type}

theorem addNode_edges {P : Type} (nb : NetObj W P) (id : Nat) (c : P) :
    (addNode nb id c).edges = nb.edges ∧ (addNode nb id c).next = nb.next := by
  unfold addNode; split <;> exact ⟨rfl, rfl⟩

theorem addEdge_eq {P : Type} (nb : NetObj W P) (e : Edge W) (sc tc : P) :
    addEdge nb e sc tc =
      { nodes := (addNode (addNode nb e.src sc) e.tgt tc).nodes, edges := nb.edges ++ [e],
        next := fun u => nb.next u ++ nextOf e u } := by
  have hn : (addNode (addNode nb e.src sc) e.tgt tc).edges = nb.edges ∧
      (addNode (addNode nb e.src sc) e.tgt tc).next = nb.next := by
    rw [(addNode_edges _ _ _).1, (addNode_edges _ _ _).1, (addNode_edges _ _ _).2, (addNode_edges _ _ _).2]
    exact ⟨rfl, rfl⟩
  unfold addEdge nextOf
  simp only []
  generalize addNode (addNode nb e.src sc) e.tgt tc = nb' at hn ⊢
  obtain ⟨nd, es, nx⟩ := nb'
  obtain ⟨rfl, rfl⟩ := hn
  have e1 : ∀ u, (u = e.src) = (e.src = u) := fun u => propext eq_comm
  have e2 : ∀ u, (u = e.tgt) = (e.tgt = u) := fun u => propext eq_comm
  by_cases ha : 0 ≤ e.ori <;> by_cases hb : e.ori ≤ 0 <;>
    simp only [ha, hb, if_true, if_false, true_and, false_and, e1, e2, List.append_nil, List.nil_append]
  all_goals (congr 1; funext u; by_cases hs : e.src = u <;> by_cases ht : e.tgt = u <;> simp [hs, ht])

theorem addEdge_edges {P : Type} (nb : NetObj W P) (e : Edge W) (sc tc : P) :
    (addEdge nb e sc tc).edges = nb.edges ++ [e] := by rw [addEdge_eq]

theorem addEdge_next {P : Type} (nb : NetObj W P) (e : Edge W) (sc tc : P) (u : Nat) :
    (addEdge nb e sc tc).next u = nb.next u ++ nextOf e u := by rw [addEdge_eq]

theorem addEdge_nodes {P : Type} (nb : NetObj W P) (e : Edge W) (sc tc : P) :
    (addEdge nb e sc tc).nodes = (addNode (addNode nb e.src sc) e.tgt tc).nodes := by rw [addEdge_eq]

theorem build_spec {P : Type} (es : List (Edge W × P × P)) : ∀ (nb : NetObj W P),
    (build nb es).edges = nb.edges ++ es.map (·.1) ∧
    ∀ u, (build nb es).next u = nb.next u ++ (es.map (·.1)).flatMap (fun e => nextOf e u) := by
  induction es with
  | nil => intro nb; simp [build]
  | cons x r ih =>
    intro nb
    obtain ⟨e, sc, tc⟩ := x
    obtain ⟨h1, h2⟩ := ih (addEdge nb e sc tc)
    refine ⟨by simp [build, h1, addEdge_edges], fun u => ?_⟩
    simp [build, h2, addEdge_next, List.append_assoc]


theorem addNode_posOf {P : Type} (nb : NetObj W P) (id : Nat) (c : P) (v : Nat) (p : P) (h : posOf nb v = some p) :
    posOf (addNode nb id c) v = some p := by
  unfold addNode
  split
  · exact h
  · unfold posOf at h ⊢
    simp only [Option.map_eq_some_iff] at h ⊢
    obtain ⟨q, hq, rfl⟩ := h
    exact ⟨q, by rw [List.find?_append, hq]; rfl, rfl⟩

theorem addNode_posOf_self {P : Type} (nb : NetObj W P) (id : Nat) (c : P) :
    posOf (addNode nb id c) id = some ((posOf nb id).getD c) := by
  have h : nb.nodes.any (fun p => p.1 == id) = (nb.nodes.find? (fun p => p.1 == id)).isSome := by
    rw [Bool.eq_iff_iff, List.any_eq_true, List.find?_isSome]
  unfold addNode posOf
  rw [h]
  cases hf : nb.nodes.find? (fun p => p.1 == id) with
  | none => simp [List.find?_append, hf]
  | some r => simp [hf]

theorem addEdge_posOf_of_addNode {P : Type} (nb : NetObj W P) (e : Edge W) (sc tc : P) (v : Nat) (p : P)
    (h : posOf (addNode (addNode nb e.src sc) e.tgt tc) v = some p) : posOf (addEdge nb e sc tc) v = some p := by
  rw [addEdge_eq]; exact h

theorem addEdge_posOf {P : Type} (nb : NetObj W P) (e : Edge W) (sc tc : P) (v : Nat) (p : P) (h : posOf nb v = some p) :
    posOf (addEdge nb e sc tc) v = some p :=
  addEdge_posOf_of_addNode nb e sc tc v p (addNode_posOf _ e.tgt tc v p (addNode_posOf nb e.src sc v p h))

theorem build_posOf {P : Type} (es : List (Edge W × P × P)) : ∀ (nb : NetObj W P) (v : Nat) (p : P),
    posOf nb v = some p → posOf (build nb es) v = some p := by
  induction es with
  | nil => intro nb v p h; exact h
  | cons x r ih =>
    intro nb v p h
    obtain ⟨e, sc, tc⟩ := x
    exact ih _ v p (addEdge_posOf nb e sc tc v p h)

theorem lookup_next (net : Net W) (hu : UniqueIds net) (u : Nat) : ∀ (l : List (Edge W)), (∀ e ∈ l, e ∈ net.edges) →
    (l.flatMap (fun e => nextOf e u)).filterMap (findEdge net) =
      l.flatMap (fun e => (if 0 ≤ e.ori ∧ e.src = u then [e] else []) ++ (if e.ori ≤ 0 ∧ e.tgt = u then [e] else [])) := by
  intro l
  induction l with
  | nil => intro _; rfl
  | cons e r ih =>
    intro h
    have he : findEdge net e.id = some e := findEdge_of_mem net hu e (h e (List.mem_cons_self))
    rw [List.flatMap_cons, List.flatMap_cons, List.filterMap_append, ih (fun x hx => h x (List.mem_cons_of_mem _ hx))]
    congr 1
    unfold nextOf
    by_cases ha : 0 ≤ e.ori ∧ e.src = u <;> by_cases hb : e.ori ≤ 0 ∧ e.tgt = u <;> simp [ha, hb, he]

end construction

section lookup
variable {W : Type} [LinearOrder W] [Add W]

theorem relaxOne_loop (u : Nat) (du : W) (st : St W) (e : Edge W) (hv : st.vis u = true) (hs : e.src = u) (ht : e.tgt = u) :
    relaxOne u du st e = st := by
  have : other e u = u := by unfold other; rw [if_pos ht, hs]
  unfold relaxOne
  simp only [this, hv, if_true]

/-- the visits the loop over `NEXT_EDGES[u]` pays to one edge: one relaxation if the edge may be left from `u` — the second visit
of a two-way self-loop finds `fils = pere`, which is marked `visite` -/
theorem pyNext_one (u : Nat) (du : W) (e : Edge W) (st : St W) (hv : st.vis u = true) :
    ((if 0 ≤ e.ori ∧ e.src = u then [e] else []) ++ (if e.ori ≤ 0 ∧ e.tgt = u then [e] else [])).foldl (relaxOne u du) st =
      if (decide (0 ≤ e.ori) && decide (e.src = u) || decide (e.ori ≤ 0) && decide (e.tgt = u)) = true then relaxOne u du st e
      else st := by
  by_cases ha : 0 ≤ e.ori ∧ e.src = u <;> by_cases hb : e.ori ≤ 0 ∧ e.tgt = u
  · rw [if_pos ha, if_pos hb, if_pos (by simp [ha.1, ha.2])]
    exact relaxOne_loop u du _ e ((congrFun (relaxOne_spec u du st e).1 u).trans hv) ha.2 hb.2
  · rw [if_pos ha, if_neg hb, if_pos (by simp [ha.1, ha.2])]; rfl
  · rw [if_neg ha, if_pos hb, if_pos (by simp [hb.1, hb.2])]; rfl
  · rw [if_neg ha, if_neg hb, if_neg (by simpa using ⟨not_and.1 ha, not_and.1 hb⟩)]; rfl

/-- the relaxation loop over `NEXT_EDGES[u]` as `addEdge` fills it = the loop over the model's `nextEdges net u` (each
permitted edge once) -/
theorem pyNext_fold (net : Net W) (u : Nat) (du : W) : ∀ (st : St W), st.vis u = true →
    (pyNext net u).foldl (relaxOne u du) st = (nextEdges net u).foldl (relaxOne u du) st := by
  unfold pyNext nextEdges
  induction net.edges with
  | nil => intro st _; rfl
  | cons e es ih =>
    intro st hv
    rw [List.flatMap_cons, List.foldl_append, pyNext_one u du e st hv, List.filter_cons]
    split
    · exact ih _ ((congrFun (relaxOne_spec u du st e).1 u).trans hv)
    · exact ih _ hv

end lookup
end TV.GraphExt
