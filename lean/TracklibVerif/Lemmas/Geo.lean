import TracklibVerif.Model.Geo
import Mathlib.Analysis.SpecialFunctions.Complex.Arg
import Mathlib.Analysis.SpecialFunctions.Trigonometric.Arctan
import Mathlib.Analysis.SpecialFunctions.Pow.Real
import Mathlib.Tactic.LinearCombination
import Mathlib.Tactic.FieldSimp
/-! Helper lemmas for C14: the model `TV.Geo` instantiated at `ℝ` with Mathlib's functions (`realTrig`), the rotation
identities for any `Trig ℝ` satisfying `sin² + cos² = 1`, the closed form of the forward map, the ellipsoid equation,
exact recovery of the longitude and — on the ellipsoid — of the latitude (Bowring's formula). -/
namespace TV.Geo
open Real

theorem V3.eq_of {a b : V3 ℝ} (hx : a.x = b.x) (hy : a.y = b.y) (hz : a.z = b.z) : a = b := by
  cases a; cases b; simp_all

def Pyth (T : Trig ℝ) : Prop := ∀ x, T.sin x ^ 2 + T.cos x ^ 2 = 1

/-- the matrix of `ECEFCoords.toENUCoords`, built from the sines and cosines of two angles, is undone by its transpose:
the algebra behind T1, about numbers -/
theorem rot_inv {sl cl sp cp : ℝ} (h1 : sl ^ 2 + cl ^ 2 = 1) (h2 : sp ^ 2 + cp ^ 2 = 1) {x y z e n u : ℝ}
    (he : e = -x * sl + y * cl) (hn : n = -x * cl * sp - y * sl * sp + z * cp)
    (hu : u = x * cl * cp + y * sl * cp + z * sp) :
    -e * sl - n * cl * sp + u * cl * cp = x ∧ e * cl - n * sl * sp + u * sl * cp = y ∧ n * cp + u * sp = z := by
  subst he hn hu
  exact ⟨by linear_combination x * h1 + (x * cl ^ 2 + y * sl * cl) * h2,
    by linear_combination y * h1 + (x * cl * sl + y * sl ^ 2) * h2, by linear_combination z * h2⟩

/-- … and the transpose by the matrix -/
theorem rot_inv' {sl cl sp cp : ℝ} (h1 : sl ^ 2 + cl ^ 2 = 1) (h2 : sp ^ 2 + cp ^ 2 = 1) {x y z e n u : ℝ}
    (hx : x = -e * sl - n * cl * sp + u * cl * cp) (hy : y = e * cl - n * sl * sp + u * sl * cp)
    (hz : z = n * cp + u * sp) :
    -x * sl + y * cl = e ∧ -x * cl * sp - y * sl * sp + z * cp = n ∧ x * cl * cp + y * sl * cp + z * sp = u := by
  subst hx hy hz
  exact ⟨by linear_combination e * h1, by linear_combination (n * sp ^ 2 - u * cp * sp) * h1 + n * h2,
    by linear_combination (-n * sp * cp + u * cp ^ 2) * h1 + u * h2⟩

/-- the exponents carry their type for the reason given at `bowring_exact` -/
theorem rot_norm {sl cl sp cp : ℝ} (h1 : sl ^ 2 + cl ^ 2 = 1) (h2 : sp ^ 2 + cp ^ 2 = 1) {x y z e n u : ℝ}
    (he : e = -x * sl + y * cl) (hn : n = -x * cl * sp - y * sl * sp + z * cp)
    (hu : u = x * cl * cp + y * sl * cp + z * sp) :
    e ^ (2 : ℕ) + n ^ (2 : ℕ) + u ^ (2 : ℕ) = x ^ (2 : ℕ) + y ^ (2 : ℕ) + z ^ (2 : ℕ) := by
  subst he hn hu
  linear_combination ((x * cl + y * sl) ^ 2 + z ^ 2) * h2 + (x ^ 2 + y ^ 2) * h1

/-- the rotation into the local frame preserves the length of the chord -/
theorem ecefToEnu_norm (T : Trig ℝ) (hT : Pyth T) (p : V3 ℝ) (b : Base ℝ) :
    (ecefToEnu T p b).x ^ 2 + (ecefToEnu T p b).y ^ 2 + (ecefToEnu T p b).z ^ 2
      = (p.x - (b.toEcef T).x) ^ 2 + (p.y - (b.toEcef T).y) ^ 2 + (p.z - (b.toEcef T).z) ^ 2 :=
  rot_norm (hT _) (hT _) rfl rfl rfl

theorem enuToEcef_ecefToEnu' (T : Trig ℝ) (hT : Pyth T) (p : V3 ℝ) (b : Base ℝ) :
    enuToEcef T (ecefToEnu T p b) b = p :=
  have h := rot_inv (hT _) (hT _) (x := p.x - (b.toEcef T).x) (y := p.y - (b.toEcef T).y) (z := p.z - (b.toEcef T).z)
    rfl rfl rfl
  V3.eq_of (eq_sub_iff_add_eq.mp h.1) (eq_sub_iff_add_eq.mp h.2.1) (eq_sub_iff_add_eq.mp h.2.2)

theorem ecefToEnu_enuToEcef' (T : Trig ℝ) (hT : Pyth T) (q : V3 ℝ) (b : Base ℝ) :
    ecefToEnu T (enuToEcef T q b) b = q :=
  have h := rot_inv' (hT _) (hT _) (e := q.x) (n := q.y) (u := q.z) (add_sub_cancel_right _ _) (add_sub_cancel_right _ _)
    (add_sub_cancel_right _ _)
  V3.eq_of h.1 h.2.1 h.2.2

theorem ecefToEnu_base' (T : Trig ℝ) (b : Base ℝ) : ecefToEnu T (b.toEcef T) b = ⟨0, 0, 0⟩ := by
  apply V3.eq_of <;> simp only [ecefToEnu] <;> ring

theorem geoToEnu_of_toEcef (T : Trig ℝ) (g : V3 ℝ) (b : Base ℝ) (h : geoToEcef T g = b.toEcef T) :
    geoToEnu T g b = ⟨0, 0, 0⟩ :=
  (congrArg (fun p => ecefToEnu T p (.ecef (b.toEcef T))) h).trans (ecefToEnu_base' T (.ecef (b.toEcef T)))

theorem geoToEnu_self' (T : Trig ℝ) (g : V3 ℝ) : geoToEnu T g (.geo g) = ⟨0, 0, 0⟩ :=
  geoToEnu_of_toEcef T g (.geo g) rfl

theorem geoToEnu_base' (T : Trig ℝ) (b : Base ℝ) : geoToEnu T (b.toGeo T) (.geo (b.toGeo T)) = ⟨0, 0, 0⟩ :=
  geoToEnu_self' T _

theorem enuToEcef_geoToEnu' (T : Trig ℝ) (hT : Pyth T) (g : V3 ℝ) (b : Base ℝ) :
    enuToEcef T (geoToEnu T g b) (.ecef (b.toEcef T)) = geoToEcef T g :=
  enuToEcef_ecefToEnu' T hT _ _

/-- Geo → ENU → Geo is Geo → ECEF → Geo, for every base: the local frame adds no error of its own -/
theorem enuToGeo_geoToEnu' (T : Trig ℝ) (hT : Pyth T) (g : V3 ℝ) (b : Base ℝ) :
    enuToGeo T (geoToEnu T g b) b = ecefToGeo T (geoToEcef T g) := by
  simp only [enuToGeo, enuToEcef_geoToEnu' T hT]

theorem enuToEnu_enuToEnu' (T : Trig ℝ) (hT : Pyth T) (q : V3 ℝ) (b1 b2 : Base ℝ) :
    enuToEnu T (enuToEnu T q b1 b2) b2 b1 = q := by
  simp only [enuToEnu, enuToEcef_ecefToEnu' T hT, ecefToEnu_enuToEcef' T hT]

theorem enuToEnu_self' (T : Trig ℝ) (hT : Pyth T) (q : V3 ℝ) (b : Base ℝ) : enuToEnu T q b b = q := by
  simp only [enuToEnu, ecefToEnu_enuToEcef' T hT]

theorem enuToGeo_enuToEnu' (T : Trig ℝ) (hT : Pyth T) (q : V3 ℝ) (b1 b2 : Base ℝ) :
    enuToGeo T (enuToEnu T q b1 b2) b2 = enuToGeo T q b1 := by
  simp only [enuToGeo, enuToEnu, enuToEcef_ecefToEnu' T hT]

noncomputable def realTrig : Trig ℝ where
  pi := Real.pi
  sin := Real.sin
  cos := Real.cos
  tan := Real.tan
  atan := Real.arctan
  atan2 := fun y x => Complex.arg ⟨x, y⟩
  sqrt := Real.sqrt
  log := Real.log
  exp := Real.exp
  pow := fun x y => x ^ y

@[simp] theorem rt_pi : realTrig.pi = π := rfl
@[simp] theorem rt_sin : realTrig.sin = Real.sin := rfl
@[simp] theorem rt_cos : realTrig.cos = Real.cos := rfl
@[simp] theorem rt_sqrt : realTrig.sqrt = Real.sqrt := rfl
@[simp] theorem rt_atan2 (y x : ℝ) : realTrig.atan2 y x = Complex.arg ⟨x, y⟩ := rfl
theorem rt_pow2 (x : ℝ) : realTrig.pow x 2.0 = x ^ 2 := by
  show x ^ (2.0 : ℝ) = x ^ 2
  rw [show (2.0 : ℝ) = ((2 : ℕ) : ℝ) by norm_num, Real.rpow_natCast]
theorem rt_pow3 (x : ℝ) : realTrig.pow x 3.0 = x ^ 3 := by
  show x ^ (3.0 : ℝ) = x ^ 3
  rw [show (3.0 : ℝ) = ((3 : ℕ) : ℝ) by norm_num, Real.rpow_natCast]

theorem pyth_real : Pyth realTrig := fun x => Real.sin_sq_add_cos_sq x

theorem lit1 : (1.0 : ℝ) = 1 := by norm_num
theorem lit180 : (180.0 : ℝ) = 180 := by norm_num

theorem deg_rad (x : ℝ) : x * π / 180 * (180 / π) = x := by
  have := Real.pi_ne_zero
  field_simp

theorem rad_lt {x y : ℝ} (h : x < y) : x * π / 180 < y * π / 180 :=
  div_lt_div_of_pos_right (mul_lt_mul_of_pos_right h Real.pi_pos) (by norm_num)

theorem rad_le {x y : ℝ} (h : x ≤ y) : x * π / 180 ≤ y * π / 180 :=
  div_le_div_of_nonneg_right (mul_le_mul_of_nonneg_right h Real.pi_pos.le) (by norm_num)

theorem rad_mem {lat : ℝ} (h1 : -90 < lat) (h2 : lat < 90) : lat * π / 180 ∈ Set.Ioo (-(π / 2)) (π / 2) :=
  ⟨lt_of_eq_of_lt (by ring) (rad_lt h1), lt_of_lt_of_eq (rad_lt h2) (by ring)⟩

theorem rad_lon {lon : ℝ} (h1 : -180 < lon) (h2 : lon ≤ 180) : -π < lon * π / 180 ∧ lon * π / 180 ≤ π :=
  ⟨lt_of_eq_of_lt (by ring) (rad_lt h1), le_of_le_of_eq (rad_le h2) (by ring)⟩

/-- an error bound in radians, relative to the angle, is the same bound in degrees -/
theorem abs_deg_le {r y K : ℝ} (h : |r - y * π / 180| ≤ K * |y * π / 180|) : |r * 180 / π - y| ≤ K * |y| := by
  have hp : 0 < 180 / π := div_pos (by norm_num) Real.pi_pos
  calc |r * 180 / π - y| = |r - y * π / 180| * (180 / π) := by
        rw [← abs_of_pos hp, ← abs_mul, sub_mul, deg_rad, mul_div_assoc]
    _ ≤ K * |y * π / 180| * (180 / π) := mul_le_mul_of_nonneg_right h hp.le
    _ = K * |y| := by rw [mul_assoc, ← abs_of_pos hp, ← abs_mul, deg_rad]

theorem Re_val : (Re : ℝ) = 6378137 := by unfold Re; norm_num
theorem Fe_val : (Fe : ℝ) = 1 / 298.257223563 := by unfold Fe; norm_num
theorem Re_pos : (0 : ℝ) < Re := by rw [Re_val]; norm_num
theorem Fe_pos : (0 : ℝ) < Fe := by rw [Fe_val]; norm_num
theorem Fe_lt_one : (Fe : ℝ) < 1 := by rw [Fe_val]; norm_num

/-- first eccentricity squared `e² = f (2 − f)` -/
noncomputable def e2 : ℝ := Fe * (2 - Fe)
theorem e2_pos : 0 < e2 := mul_pos Fe_pos (by linarith [Fe_lt_one])
theorem e2_lt_one : e2 < 1 := by unfold e2; rw [Fe_val]; norm_num
theorem one_sub_e2 : 1 - e2 = (1 - Fe) ^ 2 := by unfold e2; ring

theorem ecc_sq : Real.sqrt (Fe * (2.0 - Fe)) * Real.sqrt (Fe * (2.0 - Fe)) = e2 := by
  rw [show (2.0 : ℝ) = 2 by norm_num]
  exact Real.mul_self_sqrt e2_pos.le

/-- prime-vertical radius of curvature `N(φ) = a / √(1 − e² sin² φ)` -/
noncomputable def primeVertical (φ : ℝ) : ℝ := 6378137 / Real.sqrt (1 - e2 * Real.sin φ ^ 2)

theorem w2_pos (φ : ℝ) : 0 < 1 - e2 * Real.sin φ ^ 2 := by
  have := mul_le_mul_of_nonneg_left (Real.sin_sq_le_one φ) e2_pos.le
  linarith [e2_lt_one]

theorem sqrtW_pos (φ : ℝ) : 0 < Real.sqrt (1 - e2 * Real.sin φ ^ 2) := Real.sqrt_pos.mpr (w2_pos φ)

/-- `W(φ)² = cos² φ + ((1 − f) sin φ)²`: the form in which both `atan2` of Bowring's formula meet it -/
theorem sqrtW_sq (φ : ℝ) :
    Real.sqrt (1 - e2 * Real.sin φ ^ 2) ^ 2 = Real.cos φ ^ 2 + ((1 - Fe) * Real.sin φ) ^ 2 := by
  rw [Real.sq_sqrt (w2_pos φ).le, mul_pow, ← one_sub_e2]
  linear_combination -(Real.sin_sq_add_cos_sq φ)

theorem primeVertical_ge (φ : ℝ) : 6378137 ≤ primeVertical φ := by
  rw [primeVertical, le_div_iff₀ (sqrtW_pos φ)]
  refine mul_le_of_le_one_right (by norm_num) (Real.sqrt_le_one.mpr ?_)
  linarith [mul_nonneg e2_pos.le (sq_nonneg (Real.sin φ))]

/-- meridian-plane coordinates of the point of geodetic latitude `φ` (radians) and height `h` -/
noncomputable def merP (φ h : ℝ) : ℝ := (primeVertical φ + h) * Real.cos φ
noncomputable def merZ (φ h : ℝ) : ℝ := ((1 - e2) * primeVertical φ + h) * Real.sin φ

theorem merP_pos {φ h : ℝ} (hφ : φ ∈ Set.Ioo (-(π / 2)) (π / 2)) (hh : -6378137 < h) : 0 < merP φ h :=
  mul_pos (by linarith [primeVertical_ge φ]) (Real.cos_pos_of_mem_Ioo hφ)

theorem primeVertical_model (φ : ℝ) :
    Re / realTrig.sqrt (1.0 - realTrig.pow (realTrig.sqrt (Fe * (2.0 - Fe)) * realTrig.sin φ) 2.0) = primeVertical φ := by
  rw [rt_pow2, mul_pow, sq (realTrig.sqrt _)]
  simp only [rt_sqrt, rt_sin, ecc_sq, Re_val, lit1]
  rfl

/-- the forward map is the closed-form WGS84 formula: the meridian-plane point turned by the longitude -/
theorem geoToEcef_closed_form (g : V3 ℝ) :
    geoToEcef realTrig g = ⟨merP (g.y * π / 180) g.z * Real.cos (g.x * π / 180),
      merP (g.y * π / 180) g.z * Real.sin (g.x * π / 180), merZ (g.y * π / 180) g.z⟩ := by
  unfold geoToEcef
  simp only [primeVertical_model]
  simp only [rt_sqrt, rt_sin, rt_cos, rt_pi, ecc_sq, lit180, lit1]
  rfl

theorem arg_polar (r lam : ℝ) (hr : 0 < r) (h1 : -π < lam) (h2 : lam ≤ π) :
    Complex.arg ⟨r * Real.cos lam, r * Real.sin lam⟩ = lam := by
  have : (⟨r * Real.cos lam, r * Real.sin lam⟩ : ℂ) = ↑r * (Complex.cos ↑lam + Complex.sin ↑lam * Complex.I) := by
    apply Complex.ext <;> simp [← Complex.ofReal_cos, ← Complex.ofReal_sin]
  rw [this]
  exact Complex.arg_mul_cos_add_sin_mul_I hr ⟨h1, h2⟩

theorem sqrt_polar {r : ℝ} (hr : 0 ≤ r) (lam : ℝ) :
    Real.sqrt (r * Real.cos lam * (r * Real.cos lam) + r * Real.sin lam * (r * Real.sin lam)) = r := by
  rw [show r * Real.cos lam * (r * Real.cos lam) + r * Real.sin lam * (r * Real.sin lam)
      = r ^ 2 * (Real.sin lam ^ 2 + Real.cos lam ^ 2) by ring, Real.sin_sq_add_cos_sq, mul_one, Real.sqrt_sq hr]

/-- sine and cosine of `atan2 (K s') (K c')` when `(c', s')` has length `w` -/
theorem sincos_arg (K w c' s' : ℝ) (hK : 0 < K) (hw : 0 < w) (h : c' ^ 2 + s' ^ 2 = w ^ 2) :
    Real.sin (Complex.arg ⟨K * c', K * s'⟩) = s' / w ∧ Real.cos (Complex.arg ⟨K * c', K * s'⟩) = c' / w := by
  have hn : ‖(⟨K * c', K * s'⟩ : ℂ)‖ = K * w := by
    rw [Complex.norm_eq_sqrt_sq_add_sq]
    simp only
    rw [mul_pow, mul_pow, ← mul_add, h, ← mul_pow]
    exact Real.sqrt_sq (mul_pos hK hw).le
  have hne : (⟨K * c', K * s'⟩ : ℂ) ≠ 0 := by
    intro h0
    rw [h0, norm_zero] at hn
    exact (mul_pos hK hw).ne hn
  rw [Complex.sin_arg, Complex.cos_arg hne, hn]
  exact ⟨mul_div_mul_left _ _ hK.ne', mul_div_mul_left _ _ hK.ne'⟩

/-- Bowring's one-step latitude (radians) exactly as `ECEFCoords.toGeoCoords` computes it, as a function of the
meridian-plane coordinates `p = √(X² + Y²)` and `z = Z` -/
noncomputable def bowringLat (p z : ℝ) : ℝ :=
  Complex.arg ⟨p - (Re * Re - Re * (1 - Fe) * (Re * (1 - Fe))) / Re *
        Real.cos (Complex.arg ⟨p * (Re * (1 - Fe)), z * Re⟩) ^ 3,
      z + (Re * Re - Re * (1 - Fe) * (Re * (1 - Fe))) / (Re * (1 - Fe)) *
        Real.sin (Complex.arg ⟨p * (Re * (1 - Fe)), z * Re⟩) ^ 3⟩

/-- the height `ECEFCoords.toGeoCoords` derives from that latitude -/
noncomputable def bowringHgt (p z : ℝ) : ℝ :=
  p / Real.cos (bowringLat p z) - primeVertical (bowringLat p z)

theorem ecefToGeo_eq_bowring (P : V3 ℝ) :
    ecefToGeo realTrig P = ⟨Complex.arg ⟨P.x, P.y⟩ * (180 / π),
      bowringLat (Real.sqrt (P.x * P.x + P.y * P.y)) P.z * (180 / π),
      bowringHgt (Real.sqrt (P.x * P.x + P.y * P.y)) P.z⟩ := by
  unfold ecefToGeo bowringHgt bowringLat
  simp only [primeVertical_model, rt_pow3]
  simp only [rt_sqrt, rt_sin, rt_cos, rt_pi, rt_atan2, lit180, lit1]

/-- Geo → ECEF → Geo, every height: the longitude comes back exactly, and latitude and height are the explicit functions
`bowringLat`, `bowringHgt` of the meridian-plane coordinates of the point — they do not depend on the longitude -/
theorem geo_ecef_geo_residual' (g : V3 ℝ) (hlon1 : -180 < g.x) (hlon2 : g.x ≤ 180) (hlat1 : -90 < g.y) (hlat2 : g.y < 90)
    (hh : -6378137 < g.z) :
    ecefToGeo realTrig (geoToEcef realTrig g) =
      ⟨g.x, bowringLat (merP (g.y * π / 180) g.z) (merZ (g.y * π / 180) g.z) * (180 / π),
        bowringHgt (merP (g.y * π / 180) g.z) (merZ (g.y * π / 180) g.z)⟩ := by
  have hr := merP_pos (rad_mem hlat1 hlat2) hh
  rw [ecefToGeo_eq_bowring, geoToEcef_closed_form]
  simp only
  rw [sqrt_polar hr.le, arg_polar _ _ hr (rad_lon hlon1 hlon2).1 (rad_lon hlon1 hlon2).2, deg_rad]

theorem bowringHgt_of_lat (φ h : ℝ) (hφ : φ ∈ Set.Ioo (-(π / 2)) (π / 2))
    (hl : bowringLat (merP φ h) (merZ φ h) = φ) : bowringHgt (merP φ h) (merZ φ h) = h := by
  rw [bowringHgt, hl, merP, mul_div_cancel_right₀ _ (Real.cos_pos_of_mem_Ioo hφ).ne', add_sub_cancel_left]

/-- Bowring's formula on an ellipsoid of semi-major axis `a` and flattening `f`, at the point of geodetic latitude `φ` of
the ellipsoid itself, `(p, z) = (a cos φ / w, (1 − f)² a sin φ / w)` with `w² = cos² φ + ((1 − f) sin φ)²`: the first
`atan2` is the reduced latitude (sine `(1 − f) sin φ / w`, cosine `cos φ / w`), and with these the second `atan2` is taken
at `ρ (cos φ, sin φ)`, `ρ = a (1 − f)² / w³` the meridian radius of curvature — so it returns `φ`.
(The exponents carry their type: Lean elaborates a statement with many untyped numerals quadratically.) -/
theorem bowring_exact {a f w φ : ℝ} (ha : 0 < a) (hf : f < 1) (hw : 0 < w) (hφ : φ ∈ Set.Ioo (-(π / 2)) (π / 2))
    (hw2 : w ^ (2 : ℕ) = Real.cos φ ^ (2 : ℕ) + ((1 - f) * Real.sin φ) ^ (2 : ℕ)) :
    Complex.arg ⟨a / w * Real.cos φ - (a * a - a * (1 - f) * (a * (1 - f))) / a *
        Real.cos (Complex.arg ⟨a / w * Real.cos φ * (a * (1 - f)), (1 - f) ^ (2 : ℕ) * (a / w) * Real.sin φ * a⟩) ^ (3 : ℕ),
      (1 - f) ^ (2 : ℕ) * (a / w) * Real.sin φ + (a * a - a * (1 - f) * (a * (1 - f))) / (a * (1 - f)) *
        Real.sin (Complex.arg ⟨a / w * Real.cos φ * (a * (1 - f)), (1 - f) ^ (2 : ℕ) * (a / w) * Real.sin φ * a⟩) ^ (3 : ℕ)⟩
      = φ := by
  have hsc := Real.sin_sq_add_cos_sq φ
  have hf' : 0 < 1 - f := sub_pos.mpr hf
  have hK : 0 < a / w * a * (1 - f) := mul_pos (mul_pos (div_pos ha hw) ha) hf'
  obtain ⟨hst, hct⟩ := sincos_arg _ w (Real.cos φ) ((1 - f) * Real.sin φ) hK hw hw2.symm
  have ha0 := ha.ne'
  have hw0 := hw.ne'
  have hf0 := hf'.ne'
  rw [show a / w * Real.cos φ * (a * (1 - f)) = a / w * a * (1 - f) * Real.cos φ by ring,
    show (1 - f) ^ 2 * (a / w) * Real.sin φ * a = a / w * a * (1 - f) * ((1 - f) * Real.sin φ) by ring, hst, hct,
    show a / w * Real.cos φ - (a * a - a * (1 - f) * (a * (1 - f))) / a * (Real.cos φ / w) ^ 3
      = a * (1 - f) ^ 2 / w ^ 3 * Real.cos φ by
      field_simp
      linear_combination Real.cos φ * hw2 + Real.cos φ * (1 - f) ^ 2 * hsc,
    show (1 - f) ^ 2 * (a / w) * Real.sin φ + (a * a - a * (1 - f) * (a * (1 - f))) / (a * (1 - f)) *
        ((1 - f) * Real.sin φ / w) ^ 3 = a * (1 - f) ^ 2 / w ^ 3 * Real.sin φ by
      field_simp
      linear_combination Real.sin φ * hw2 + Real.sin φ * hsc]
  have hpi := half_lt_self Real.pi_pos
  exact arg_polar _ _ (div_pos (mul_pos ha (pow_pos hf' 2)) (pow_pos hw 3)) ((neg_lt_neg hpi).trans hφ.1)
    (hφ.2.trans hpi).le

theorem bowringLat_h0 (φ : ℝ) (hφ : φ ∈ Set.Ioo (-(π / 2)) (π / 2)) : bowringLat (merP φ 0) (merZ φ 0) = φ := by
  unfold bowringLat merP merZ primeVertical
  rw [add_zero, add_zero, one_sub_e2, ← Re_val]
  exact bowring_exact Re_pos Fe_lt_one (sqrtW_pos φ) hφ (sqrtW_sq φ)

theorem ecefToGeo_geoToEcef_h0' (g : V3 ℝ) (hlon1 : -180 < g.x) (hlon2 : g.x ≤ 180) (hlat1 : -90 < g.y) (hlat2 : g.y < 90)
    (h0 : g.z = 0) : ecefToGeo realTrig (geoToEcef realTrig g) = g := by
  have hφ := rad_mem hlat1 hlat2
  have hl := bowringLat_h0 _ hφ
  rw [geo_ecef_geo_residual' g hlon1 hlon2 hlat1 hlat2 (by rw [h0]; norm_num), h0, bowringHgt_of_lat _ _ hφ hl, hl,
    deg_rad, ← h0]

theorem meridianRoundTrip_eq (g : V3 ℝ) (hlon1 : -180 < g.x) (hlon2 : g.x ≤ 180) (hlat1 : -90 < g.y) (hlat2 : g.y < 90)
    (hh : -6378137 < g.z) :
    ((ecefToGeo realTrig (geoToEcef realTrig g)).y, (ecefToGeo realTrig (geoToEcef realTrig g)).z)
      = meridianRoundTrip realTrig g.y g.z := by
  have h1 := geo_ecef_geo_residual' g hlon1 hlon2 hlat1 hlat2 hh
  have h2 := geo_ecef_geo_residual' ⟨0, g.y, g.z⟩ (by norm_num) (by norm_num) hlat1 hlat2 hh
  unfold meridianRoundTrip
  rw [h1, show (0.0 : ℝ) = 0 by norm_num, h2]

/-- the equation of the ellipsoid of semi-major axis `a` and flattening `f` at the point of geodetic latitude `φ`
(`s`, `c` its sine and cosine, `w² = c² + ((1 − f) s)²`) and any longitude -/
theorem ellipsoid_eq {a f w s c sl cl : ℝ} (ha : a ≠ 0) (hw : w ≠ 0)
    (hw2 : w ^ (2 : ℕ) = c ^ (2 : ℕ) + ((1 - f) * s) ^ (2 : ℕ)) (hl : sl ^ (2 : ℕ) + cl ^ (2 : ℕ) = 1) :
    (a / w * c * cl) ^ (2 : ℕ) / a ^ (2 : ℕ) + (a / w * c * sl) ^ (2 : ℕ) / a ^ (2 : ℕ)
      + ((1 - f) ^ (2 : ℕ) * (a / w) * s) ^ (2 : ℕ) / (a * (1 - f)) ^ (2 : ℕ) = 1 := by
  field_simp
  linear_combination c ^ 2 * hl - hw2

end TV.Geo
