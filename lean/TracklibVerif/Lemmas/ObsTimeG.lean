import TracklibVerif.Model.ObsTimeG
import TracklibVerif.Lemmas.ObsTime
import Mathlib.Algebra.Order.Field.Basic
import Mathlib.Algebra.Order.Ring.Cast
import Mathlib.Tactic.Ring
import Mathlib.Tactic.Linarith
import Mathlib.Tactic.NormNum
/-! Helper lemmas for the float path of C03: over a linearly ordered field with an exact truncation the
generic reader `readUnixG` on `n + f` (`n` a natural number, `0 ≤ f < 1`) runs the integer reader
`readUnixSec` on `n` and carries the fraction `f` untouched to the millisecond statement. -/
namespace TV.ObsTime

section
variable {α : Type} [Field α] [LinearOrder α] [IsStrictOrderedRing α]

/-- contract of Python's `int()` on non-negative reals: the integer part. (On negative reals `int()`
rounds toward zero; the theorems never apply it there.) -/
def TruncZ (trunc : α → Int) : Prop :=
  ∀ x : α, 0 ≤ x → 0 ≤ trunc x ∧ ((trunc x : Int) : α) ≤ x ∧ x < ((trunc x : Int) : α) + 1

theorem nat_add_frac_lt (r N : Nat) (f : α) (hf0 : 0 ≤ f) (hf1 : f < 1) :
    (r : α) + f < (N : α) ↔ r < N :=
  ⟨fun h => Nat.cast_lt.1 (lt_of_le_of_lt (le_add_of_nonneg_right hf0) h),
   fun h => lt_of_lt_of_le ((add_lt_add_iff_left (r : α)).2 hf1)
     (by exact_mod_cast Nat.succ_le_of_lt h : (r : α) + 1 ≤ N)⟩

theorem trunc_div_nat (trunc : α → Int) (htr : TruncZ trunc) (r c : Nat) (hc : 0 < c) (f : α)
    (hf0 : 0 ≤ f) (hf1 : f < 1) : trunc (((r : α) + f) / (c : α)) = ((r / c : Nat) : Int) := by
  have hcα : (0 : α) < (c : α) := by exact_mod_cast hc
  obtain ⟨h0, h1, h2⟩ := htr (((r : α) + f) / (c : α)) (div_nonneg (add_nonneg (Nat.cast_nonneg r) hf0) hcα.le)
  obtain ⟨q, hq⟩ := Int.eq_ofNat_of_zero_le h0
  rw [hq, Int.cast_natCast] at h1 h2
  rw [le_div_iff₀ hcα] at h1
  rw [div_lt_iff₀ hcα] at h2
  -- `q c ≤ r + f < r + 1` and `r ≤ r + f < (q + 1) c`, among natural numbers
  have b1 : q * c < r + 1 := by exact_mod_cast lt_of_le_of_lt h1 ((add_lt_add_iff_left (r : α)).2 hf1)
  have b2 : r < (q + 1) * c := by exact_mod_cast lt_of_le_of_lt (le_add_of_nonneg_right hf0) h2
  rw [hq, Nat.div_eq_of_lt_le (by omega) b2]

/-- one "divide, truncate, subtract" step of `readUnixTime`: `k = int(e / c); e -= k * c` -/
theorem step_div (trunc : α → Int) (htr : TruncZ trunc) (r c : Nat) (hc : 0 < c) (f : α)
    (hf0 : 0 ≤ f) (hf1 : f < 1) :
    trunc (((r : α) + f) / (((c : Nat) : Int) : α)) = ((r / c : Nat) : Int)
    ∧ ((r : α) + f) - (((((r / c : Nat) : Int) * ((c : Nat) : Int)) : Int) : α)
        = ((r % c : Nat) : α) + f := by
  constructor
  · simpa using trunc_div_nat trunc htr r c hc f hf0 hf1
  · rw [Nat.mod_eq_sub_div_mul, Nat.cast_sub (Nat.div_mul_le_self r c)]
    simp only [Int.cast_mul, Int.cast_natCast, Nat.cast_mul]
    ring

theorem yearLoopG_eq (f : α) (hf0 : 0 ≤ f) (hf1 : f < 1) (fuel y sec rem : Nat) (hfuel : rem / (365 * 86400) < fuel) :
    ∃ sec', yearLoopG (((sec + rem : Nat) : α) + f) fuel y sec = some ((yearLoop fuel y rem).1, sec')
      ∧ ((sec + rem : Nat) : α) + f - (sec' : α) = ((yearLoop fuel y rem).2 : α) + f := by
  induction fuel generalizing y sec rem with
  | zero => omega
  | succ k ih =>
    have e : ((sec + rem : Nat) : α) + f - (sec : α) = (rem : α) + f := by rw [Nat.cast_add]; ring
    simp only [yearLoopG, yearLoop, e, Int.cast_natCast, nat_add_frac_lt _ _ f hf0 hf1]
    by_cases h : rem < yearDays y * 86400
    · rw [if_pos h, if_pos h]
      exact ⟨sec, rfl, e⟩
    · rw [if_neg h, if_neg h]
      have h365 := yearDays_ge y
      have := ih (y + 1) (sec + yearDays y * 86400) (rem - yearDays y * 86400) (by omega)
      rwa [show sec + yearDays y * 86400 + (rem - yearDays y * 86400) = sec + rem by omega] at this

theorem monthLoopG_eq (y : Nat) (f : α) (hf0 : 0 ≤ f) (hf1 : f < 1) (fuel m r : Nat) :
    monthLoopG y fuel m ((r : α) + f)
      = ((monthLoop y fuel m r).1, (((monthLoop y fuel m r).2 : Nat) : α) + f) := by
  induction fuel generalizing m r with
  | zero => rfl
  | succ k ih =>
    simp only [monthLoopG, monthLoop, Int.cast_natCast, nat_add_frac_lt _ _ f hf0 hf1]
    by_cases h : r < monthDays y m * 86400
    · rw [if_pos h, if_pos h]
    · rw [if_neg h, if_neg h, ← ih (m + 1), Nat.cast_sub (Nat.le_of_not_lt h), add_sub_right_comm]

omit [IsStrictOrderedRing α] in
/-- `readUnixTime` after its two loops, for any way `emb` of carrying a whole number `r` of seconds in the scalar on which
every "divide, truncate, subtract" step acts as division with remainder on `r` (`s`: the sign the quotients get):
day, hour, minute and second are the mixed-radix digits of `r` (the second is the step with divisor 1).
After 1970 `emb r = r + f`, before it `-(r + f)`. -/
theorem readUnixG_of_steps (trunc : α → Int) (e0 : α) (emb : Nat → α) (s : Nat → Int)
    (hdiv : ∀ r c : Nat, 0 < c → trunc (emb r / (((c : Nat) : Int) : α)) = s (r / c)
      ∧ emb r - ((s (r / c) * ((c : Nat) : Int) : Int) : α) = emb (r % c))
    (y sec m r : Nat)
    (hy : yearLoopG e0 ((trunc (e0 / ((31536000 : Int) : α))).toNat + 1) 1970 0 = some (y, sec))
    (hm : monthLoopG y 12 0 (e0 - (((sec : Nat) : Int) : α)) = (m, emb r)) :
    readUnixG trunc e0 = some ⟨y, m + 1, s (r / 86400) + 1, s (r % 86400 / 3600), s (r % 3600 / 60), s (r % 60),
      trunc (emb 0 * ((1000 : Int) : α))⟩ := by
  have d := hdiv r 86400 (by decide)
  have h := hdiv (r % 86400) 3600 (by decide)
  have mi := hdiv (r % 3600) 60 (by decide)
  have sc := hdiv (r % 60) 1 Nat.one_pos
  rw [Nat.mod_mod_of_dvd r (by decide : 3600 ∣ 86400)] at h
  rw [Nat.mod_mod_of_dvd r (by decide : 60 ∣ 3600)] at mi
  simp only [Nat.cast_ofNat, Nat.cast_one, Int.cast_one, div_one, Nat.div_one, Int.mul_one, Nat.mod_one] at d h mi sc
  unfold readUnixG
  rw [hy]
  simp only
  rw [hm]
  simp only
  rw [d.1, Int.add_sub_cancel, d.2, h.1, h.2, mi.1, mi.2, sc.1, sc.2]

theorem readUnixG_nat_add_frac (trunc : α → Int) (htr : TruncZ trunc) (n : Nat) (f : α)
    (hf0 : 0 ≤ f) (hf1 : f < 1) :
    readUnixG trunc ((n : α) + f) = some (Stamp.toZ ⟨readUnixSec n, (trunc (f * 1000)).toNat⟩) := by
  have hfuel : (trunc (((n : α) + f) / ((31536000 : Int) : α))).toNat = n / (365 * 86400) := by
    have := trunc_div_nat trunc htr n 31536000 (by decide) f hf0 hf1
    simp only [Nat.cast_ofNat] at this
    simp only [Int.cast_ofNat, this, Int.toNat_natCast]
  obtain ⟨sec', hy, e1⟩ := yearLoopG_eq f hf0 hf1 (n / (365 * 86400) + 1) 1970 0 n (by omega)
  rw [Nat.zero_add] at hy e1
  rw [readUnixG_of_steps trunc _ (fun r => (r : α) + f) Nat.cast (fun r c hc => step_div trunc htr r c hc f hf0 hf1)
    _ _ _ _ (by rw [hfuel]; exact hy) (by rw [Int.cast_natCast, e1, monthLoopG_eq _ f hf0 hf1]), readUnixSec_proj]
  have h0 : 0 ≤ trunc (f * 1000) := (htr (f * 1000) (by positivity)).1
  simp only [Stamp.toZ, Nat.cast_zero, zero_add, Int.cast_ofNat, Int.toNat_of_nonneg h0, Nat.cast_add, Nat.cast_one]

/-- what `readUnixTime(x)` returns in exact arithmetic (the specification of the float reader): the integer
reader on `⌊x⌋` and `⌊(x − ⌊x⌋)·1000⌋` milliseconds, with `⌊·⌋` = `trunc` on non-negative scalars -/
def readUnixSpec (trunc : α → Int) (x : α) : Stamp :=
  ⟨readUnixSec (trunc x).toNat, (trunc ((x - ((trunc x).toNat : α)) * 1000)).toNat⟩

theorem frac_bounds (trunc : α → Int) (htr : TruncZ trunc) (x : α) (hx : 0 ≤ x) :
    0 ≤ x - ((trunc x).toNat : α) ∧ x - ((trunc x).toNat : α) < 1 := by
  obtain ⟨h0, h1, h2⟩ := htr x hx
  have e : ((trunc x).toNat : α) = ((trunc x : Int) : α) := by
    rw [← Int.cast_natCast, Int.toNat_of_nonneg h0]
  rw [e]
  exact ⟨sub_nonneg.2 h1, sub_lt_iff_lt_add'.2 h2⟩

theorem ms_bounds (trunc : α → Int) (htr : TruncZ trunc) (f : α) (hf0 : 0 ≤ f) (hf1 : f < 1) :
    (trunc (f * 1000)).toNat < 1000 ∧ ((trunc (f * 1000)).toNat : α) ≤ f * 1000
      ∧ f * 1000 < ((trunc (f * 1000)).toNat : α) + 1 := by
  obtain ⟨h0, h1⟩ := frac_bounds trunc htr (f * 1000) (by positivity)
  refine ⟨?_, sub_nonneg.1 h0, sub_lt_iff_lt_add'.1 h1⟩
  have : ((trunc (f * 1000)).toNat : α) < ((1000 : Nat) : α) :=
    lt_of_le_of_lt (sub_nonneg.1 h0) (by rw [Nat.cast_ofNat]; exact mul_lt_of_lt_one_left (by norm_num) hf1)
  exact_mod_cast this

theorem trunc_natCast (trunc : α → Int) (htr : TruncZ trunc) (k : Nat) : trunc (k : α) = (k : Int) := by
  simpa using trunc_div_nat trunc htr k 1 Nat.one_pos 0 le_rfl one_pos

theorem ms_split (m : Nat) : (m : α) / 1000 = ((m / 1000 : Nat) : α) + ((m % 1000 : Nat) : α) / 1000 := by
  have : (m : α) = ((m / 1000 * 1000 + m % 1000 : Nat) : α) := by rw [Nat.div_add_mod']
  rw [this]; push_cast; ring

theorem ms_frac (m : Nat) : (0 : α) ≤ ((m % 1000 : Nat) : α) / 1000 ∧ ((m % 1000 : Nat) : α) / 1000 < 1 :=
  ⟨by positivity, by rw [div_lt_one (by norm_num), ← Nat.cast_ofNat (R := α)]; exact Nat.cast_lt.2 (Nat.mod_lt m (by decide))⟩

theorem readUnixG_ms (trunc : α → Int) (htr : TruncZ trunc) (m : Nat) :
    readUnixG trunc ((m : α) / 1000) = some (readUnixMs m).toZ := by
  obtain ⟨hf0, hf1⟩ := ms_frac (α := α) m
  rw [ms_split, readUnixG_nat_add_frac trunc htr _ _ hf0 hf1, div_mul_cancel₀ _ (by norm_num), trunc_natCast trunc htr,
    Int.toNat_natCast]
  rfl

/-- the Python `int` named `seconds` in `toAbsTime` is the integer model's `toAbsSec` -/
theorem secondsZ_toZ (s : Stamp) (hd : 1 ≤ s.d.day) : secondsZ s.toZ = (toAbsSec s.d : Int) := by
  simp only [secondsZ, Stamp.toZ, toAbsSec]
  omega

theorem toAbsG_toZ (s : Stamp) (hd : 1 ≤ s.d.day) : (toAbsG s.toZ : α) = (toAbsMs s : α) / 1000 := by
  unfold toAbsG
  rw [secondsZ_toZ s hd]
  simp only [Stamp.toZ, toAbsMs, Int.cast_natCast, Int.cast_ofNat, Nat.cast_add, Nat.cast_mul, Nat.cast_ofNat]
  ring

theorem ms_strictMono : StrictMono fun m : Nat => (m : α) / 1000 :=
  fun _ _ h => div_lt_div_of_pos_right (Nat.cast_lt.2 h) (by norm_num)

end

theorem natCast_bne (x y : Nat) : ((x : Int) != (y : Int)) = (x != y) := by
  rw [Bool.eq_iff_iff, bne_iff_ne, bne_iff_ne, Ne, Int.natCast_inj]

end TV.ObsTime
