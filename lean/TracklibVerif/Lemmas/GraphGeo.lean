import TracklibVerif.Lemmas.GraphSessionQ
import TracklibVerif.Model.GraphAStar
/-! Networks extracted from a network by keeping some of its edges — what `Network.sub_network` returns in either mode
(`sub_net.addEdge(e, e.source, e.target)` for every kept `Edge` object `e`: same ends, same weight, same orientation):
walks and shortest distances of the extract in terms of the parent; the GEOMETRIC selection rule (`subEdgesGeo`). -/
namespace TV.Graph
section
variable {W : Type} [LinearOrder W] [Add W] [Zero W] [WalkAdd W]

def subNetOf (net : Net W) (keep : Edge W → Bool) : Net W := { n := net.n, edges := net.edges.filter keep }

def ArcIn (net : Net W) (keep : Edge W → Bool) (u v : Nat) (w : W) : Prop :=
  ∃ e ∈ net.edges, keep e = true ∧ e.w = w ∧
    ((0 ≤ e.ori ∧ e.src = u ∧ e.tgt = v) ∨ (e.ori ≤ 0 ∧ e.tgt = u ∧ e.src = v))

inductive WalkIn (net : Net W) (keep : Edge W → Bool) (s : Nat) : Nat → W → Prop
  | nil : WalkIn net keep s s 0
  | snoc {v t : Nat} {c w : W} : WalkIn net keep s v c → ArcIn net keep v t w → WalkIn net keep s t (c + w)
end

section
variable {W : Type}

theorem arc_sub_iff (net : Net W) (keep : Edge W → Bool) (u v : Nat) (w : W) :
    Arc (subNetOf net keep) u v w ↔ ArcIn net keep u v w := by
  unfold Arc ArcIn subNetOf
  constructor
  · rintro ⟨e, he, hw, hd⟩
    simp only [List.mem_filter] at he
    exact ⟨e, he.1, he.2, hw, hd⟩
  · rintro ⟨e, he, hk, hw, hd⟩
    exact ⟨e, by simp only [List.mem_filter]; exact ⟨he, hk⟩, hw, hd⟩

theorem arcIn_arc {net : Net W} {keep : Edge W → Bool} {u v : Nat} {w : W} (h : ArcIn net keep u v w) : Arc net u v w := by
  obtain ⟨e, he, _, hw, hd⟩ := h
  exact ⟨e, he, hw, hd⟩

variable [Add W] [Zero W]

theorem walk_sub_iff (net : Net W) (keep : Edge W → Bool) (s v : Nat) (c : W) :
    Walk (subNetOf net keep) s v c ↔ WalkIn net keep s v c := by
  constructor
  · intro h
    induction h with
    | nil => exact WalkIn.nil
    | snoc _ ha ih => exact WalkIn.snoc ih ((arc_sub_iff net keep _ _ _).1 ha)
  · intro h
    induction h with
    | nil => exact Walk.nil
    | snoc _ ha ih => exact Walk.snoc ih ((arc_sub_iff net keep _ _ _).2 ha)

theorem walkIn_walk {net : Net W} {keep : Edge W → Bool} {s v : Nat} {c : W} (h : WalkIn net keep s v c) : Walk net s v c := by
  induction h with
  | nil => exact Walk.nil
  | snoc _ ha ih => exact Walk.snoc ih (arcIn_arc ha)
end

section
variable {W : Type} [LinearOrder W]

theorem within_mono {cut : Option W} {y c : W} (h : y ≤ c) (hc : Within cut c) : Within cut y :=
  fun k hk => le_trans h (hc k hk)

variable [Zero W]

theorem wf_sub {net : Net W} (h : WFNet net) (keep : Edge W → Bool) : WFNet (subNetOf net keep) := by
  intro e he
  simp only [subNetOf, List.mem_filter] at he
  exact h e he.1
end

section
variable {W : Type} [LinearOrder W] [Add W] [Zero W] [WalkAdd W]

inductive WalkV (net : Net W) (P : Nat → Prop) (s : Nat) : Nat → W → Prop
  | nil : P s → WalkV net P s s 0
  | snoc {v t : Nat} {c w : W} : WalkV net P s v c → Arc net v t w → P t → WalkV net P s t (c + w)

/-- **shortest distances on an extract**, for any rule of selection `keep`. On the returned network
`shortest_distance(s, t)` is the minimum weight over the permitted walks of the PARENT that stay inside the extract, the
sentinel iff there is none; so it is never below the parent's distance, and it equals the parent's distance exactly when
some shortest walk of the parent stays inside. -/
theorem subNet_distance (net : Net W) (hnet : WFNet net) (keep : Edge W → Bool) (s t : Nat) (hs : s < net.n) :
    (∀ y, shortestDistance (subNetOf net keep) s t none = some y ↔
        (WalkIn net keep s t y ∧ ∀ c, WalkIn net keep s t c → y ≤ c)) ∧
    (shortestDistance (subNetOf net keep) s t none = none ↔ ¬ ∃ c, WalkIn net keep s t c) ∧
    (∀ y y', shortestDistance (subNetOf net keep) s t none = some y → IsDist net s t y' → y' ≤ y) ∧
    (∀ y, IsDist net s t y → (shortestDistance (subNetOf net keep) s t none = some y ↔ WalkIn net keep s t y)) := by
  obtain ⟨h1, h2⟩ := shortestDistance_spec (subNetOf net keep) (wf_sub hnet keep) s t hs
  simp only [IsDist, Reachable, walk_sub_iff] at h1 h2
  exact ⟨h1, h2, fun y y' hy hy' => hy'.2 y (walkIn_walk ((h1 y).1 hy).1),
    fun y hy => ⟨fun h => ((h1 y).1 h).1, fun h => (h1 y).2 ⟨h, fun c hc => hy.2 c (walkIn_walk hc)⟩⟩⟩

theorem walk_within (net : Net W) (hnet : WFNet net) (s : Nat) (hs : s < net.n) (cut : Option W) {v : Nat} {c : W}
    (hw : Walk net s v c) (hc : Within cut c) :
    WalkV net (fun u => ∃ y, IsDist net s u y ∧ Within cut y) s v c := by
  induction hw with
  | nil =>
    obtain ⟨y, hy, hle⟩ := exists_dist net hnet s hs (Walk.nil (net := net) (s := s))
    exact WalkV.nil ⟨y, hy, within_mono hle hc⟩
  | snoc hw' ha ih =>
    rename_i v' t' c' w'
    have hle : c' ≤ c' + w' := WalkAdd.le_add_right c' w' (arc_wf hnet ha).2
    obtain ⟨y, hy, hyle⟩ := exists_dist net hnet s hs (Walk.snoc hw' ha)
    exact WalkV.snoc (ih (within_mono hle hc)) ha ⟨y, hy, within_mono hyle hc⟩
end

section
variable {W : Type} [Add W] [Zero W]

theorem walkV_end {net : Net W} {P : Nat → Prop} {s v : Nat} {c : W} (h : WalkV net P s v c) : P v := by
  cases h with
  | nil hp => exact hp
  | snoc _ _ hp => exact hp

theorem walkV_walkIn_both {net : Net W} {keep : Edge W → Bool} {P : Nat → Prop}
    (hk : ∀ e ∈ net.edges, P e.src → P e.tgt → keep e = true) {s v : Nat} {c : W} (h : WalkV net P s v c) :
    WalkIn net keep s v c := by
  induction h with
  | nil _ => exact WalkIn.nil
  | snoc hprev ha hp ih =>
    have hv := walkV_end hprev
    obtain ⟨e, he, hw, hd⟩ := ha
    refine WalkIn.snoc ih ⟨e, he, ?_, hw, hd⟩
    rcases hd with ⟨_, h2, h3⟩ | ⟨_, h2, h3⟩
    · exact hk e he (h2 ▸ hv) (h3 ▸ hp)
    · exact hk e he (h3 ▸ hp) (h2 ▸ hv)
end

section geo
variable {W : Type} [LinearOrder W] [Add W] [Zero W] [WalkAdd W]
variable [Sub W] [Mul W]

def keepGeo (sqrt : W → W) (pos : Nat → Pos W) (p : Pos W) (cut : Option W) (e : Edge W) : Bool :=
  let d1 := distance2DTo sqrt p (pos e.src)
  let d2 := distance2DTo sqrt p (pos e.tgt)
  let m := if d2 < d1 then d2 else d1
  match cut with
  | some c => !decide (c < m)
  | none => true
end geo

section
variable {W : Type} [LinearOrder W] [Add W] [Sub W] [Mul W]

theorem subEdgesGeo_eq (sqrt : W → W) (pos : Nat → Pos W) (net : Net W) (p : Pos W) (cut : Option W) :
    subEdgesGeo sqrt pos net p cut = (subNetOf net (keepGeo sqrt pos p cut)).edges := rfl

theorem keepGeo_iff (sqrt : W → W) (pos : Nat → Pos W) (p : Pos W) (cut : Option W) (e : Edge W) :
    keepGeo sqrt pos p cut e = true ↔
      (Within cut (distance2DTo sqrt p (pos e.src)) ∨ Within cut (distance2DTo sqrt p (pos e.tgt))) := by
  -- the code's `min(d1, d2)`
  have hmin : ∀ a b : W, (if b < a then b else a) = min a b := fun a b => by
    rw [min_def, ← ite_not]; exact if_congr not_lt rfl rfl
  unfold keepGeo Within
  cases cut with
  | none => simp
  | some c =>
    simp only [hmin, Bool.not_eq_true', decide_eq_false_iff_not, not_lt, min_le_iff, Option.some.injEq, forall_eq']
end
end TV.Graph
