import TracklibVerif.Lemmas.DTWReal
import TracklibVerif.Lemmas.FDTW
/-! `run_spec` states `dtw_spec`, `fdtw_spec` and `fdtw_struct` as one: `_dtw` / `_fdtw` return a coupling and its cost, the table
value under `FastHyp`. Histories and the fast variant: `_fdtw` on a `track1` that carries the feature rows of an earlier matching.
`_fillAF_dtw` resets every `pair` list but overwrites `diff` / `ex` / `ey` only at the observations the walk through the antecedent
map `A` visits, so the statement needs what makes that walk a coupling (`FastOK`): the hypotheses of `fdtw_spec` (`FastHyp`) or only
`big` above every partial coupling cost (`FastBig`, `fdtw_struct`), on the accumulation that `_p2weight` returns and the point
distance that `_distance` computes for the call at hand (`FastCallOK`). -/
namespace TV.DTW

section fastHyp
variable {α : Type} [Add α] [Sub α] [Mul α] [LinearOrder α] [OfNat α 0]

/-- the hypotheses of `fdtw_spec` / `fdtw_equal` on an accumulation `w`, a point distance `dist` and two tracks: `w` is monotone in
the accumulated cost, inflationary on the distances at hand, and `big` (the 1e300 placeholder priority of `_update_node`) is above
every candidate cost -/
def FastHyp (big : α) (w : α → α → α) (dist : Pt α → Pt α → α) (t1 t2 : List (Pt α)) : Prop :=
  (∀ a b d, a ≤ b → w a d ≤ w b d) ∧
  (∀ a i j, i < t2.length → j < t1.length → a ≤ w a (Dmat dist t1 t2 i j)) ∧
  (∀ i j i' j', i < t2.length → j < t1.length → i' < t2.length → j' < t1.length →
      w (T w 0 (Dmat dist t1 t2) i j) (Dmat dist t1 t2 i' j') < big)

/-- `big` is above the accumulated cost of every partial coupling of the two tracks (every monotone unit-step path from the first pair
to some pair): all that `fdtw_struct` needs, whatever the accumulation and the point distance -/
def FastBig (big : α) (w : α → α → α) (dist : Pt α → Pt α → α) (t1 t2 : List (Pt α)) : Prop :=
  ∀ i j c, i < t2.length → j < t1.length → Coupling w 0 (Dmat dist t1 t2) i j c → c < big

/-- what makes the walk through the antecedent map of `_fdtw` a coupling: the hypotheses of `fdtw_spec` (then the score is the optimum
too) **or** only `big` above every partial coupling cost (`fdtw_struct`: any accumulation) -/
def FastOK (big : α) (w : α → α → α) (dist : Pt α → Pt α → α) (t1 t2 : List (Pt α)) : Prop :=
  FastHyp big w dist t1 t2 ∨ FastBig big w dist t1 t2

end fastHyp

section run
variable {α : Type} [Sub α] [LinearOrder α] [OfNat α 0]

/-- `_dtw` (`fast = false`) or `_fdtw`: the run returns what `outOf` makes of a coupling `S` that ends at the last pair and of its
cost, whatever rows `track1` carried; under `FastHyp` (always, for `_dtw`) that cost is the table value -/
theorem run_spec (dist : Pt α → Pt α → α) (big : α) (fast : Bool) (w : α → α → α) (t1 t2 : List (Pt α))
    (h1 : 0 < t1.length) (h2 : 0 < t2.length) (H : fast = true → FastOK big w dist t1 t2) :
    ∃ S, (BackPath S ∧ S.head? = some (t2.length - 1, t1.length - 1)) ∧
      (∀ rows : List (Row α), rows.length = t1.length →
        (if fast then fdtwOn dist big w rows t1 t2 else dtwOn dist w rows t1 t2)
          = some (outOf dist t1 t2 S (costBack w 0 (Dmat dist t1 t2) S))) ∧
      ((fast = true → FastHyp big w dist t1 t2) →
        costBack w 0 (Dmat dist t1 t2) S = T w 0 (Dmat dist t1 t2) (t2.length - 1) (t1.length - 1)) := by
  cases fast with
  | false =>
    obtain ⟨hS, hc⟩ := walkF_last dist w t1 t2
    exact ⟨_, hS, fun rows hl => hc ▸ dtw_spec dist w t1 t2 h1 h2 rows hl, fun _ => hc⟩
  | true =>
    by_cases hH : FastHyp big w dist t1 t2
    · obtain ⟨S, hS, hc, he⟩ := fdtw_spec dist big w t1 t2 h1 h2 hH.1 hH.2.1 hH.2.2
      exact ⟨S, hS, he, fun _ => hc⟩
    · obtain ⟨S, hS, he⟩ := fdtw_struct dist big w t1 t2 h1 h2 ((H rfl).resolve_left hH)
      exact ⟨S, hS, he, fun h => absurd (h rfl) hH⟩

end run

section fastW
variable {α : Type} [Add α] [Sub α] [Mul α] [Div α] [Neg α] [LinearOrder α] [OfNat α 0] [OfScientific α]

theorem warpW_history (G : Geom α) (big : α) (fast : Bool) (w : α → α → α) (dim : DimArg α) (t1 t2 : List (Pt α))
    (h1 : 0 < t1.length) (h2 : 0 < t2.length)
    (H : fast = true → ∀ dist, distanceOf G dim = .ok dist → FastOK big w dist t1 t2) :
    ∃ r, (∀ rows : List (Row α), rows.length = t1.length → warpW G big fast w dim { pts := t1, rows := rows } t2 = r) ∧
      ∀ o, r = .ok o → o.rows.length = t1.length := by
  cases hd : distanceOf G dim with
  | error e =>
    refine ⟨.error e, fun rows _ => ?_, fun o h => nomatch h⟩
    simp only [warpW, hd, List.isEmpty_eq_false_iff.mpr (List.ne_nil_of_length_pos h1),
      List.isEmpty_eq_false_iff.mpr (List.ne_nil_of_length_pos h2), Bool.false_eq_true, if_false]
  | ok dist =>
    obtain ⟨S, _, he, _⟩ := run_spec dist big fast w t1 t2 h1 h2 (fun hf => H hf dist hd)
    exact ⟨_, fun rows hl => by rw [warpW_eq G big fast w dim dist hd _ t2 h1 h2, he rows hl],
      fun o h => by cases h; exact outOf_length dist t1 t2 _ _⟩

end fastW

section fastCall
variable {α : Type} [Add α] [Sub α] [Mul α] [Div α] [Neg α] [LinearOrder α] [OfNat α 0] [OfNat α 1] [OfScientific α]

/-- **the call is one the fast variant is good for**: whatever accumulation `_p2weight(_exponent(p))` returns and whatever point
distance `_distance(·, ·, dim)` is on this class of positions, the hypotheses of `fdtw_spec` — or, failing them, only `big` above every
partial coupling cost (`FastOK`) — hold on the two tracks (nothing is asked
of a call in which either fails: it raises before `_fdtw` runs) -/
def FastCallOK (pow : α → α → α) (G : Geom α) (big : α) (p : PArgX α) (dim : DimArg α) (t1 t2 : List (Pt α)) : Prop :=
  ∀ w dist, p2weightX pow p.exponent = .ok w → distanceOf G dim = .ok dist → FastOK big w dist t1 t2

/-- `match` after `_exponent`, in **every** mode, on a track1 with one feature row per observation: one result whatever the rows hold
— for the mode FDTW (3) when the call is one the fast variant is good for — and the track returned has one row per observation -/
theorem matchBodyX_history (pow : α → α → α) (G : Geom α) (big : α) (mode : Nat) (p : PArgX α) (dim : DimArg α)
    (t1 t2 : List (Pt α)) (h1 : 0 < t1.length) (h2 : 0 < t2.length)
    (H : mode = 3 → ∀ w dist, p2weightX pow p = .ok w → distanceOf G dim = .ok dist → FastOK big w dist t1 t2) :
    ∃ r, (∀ rows : List (Row α), rows.length = t1.length → matchBodyX pow G big mode p dim { pts := t1, rows := rows } t2 = r) ∧
      ∀ o, r = .ok o → o.rows.length = t1.length := by
  simp only [matchBodyX_eq]
  by_cases hm : mode = 2 ∨ mode = 3 ∨ mode = 4
  · simp only [if_pos hm]
    cases hp : p2weightX pow (if mode = 4 then PArg.pyInf.toX else p) with
    | error e => exact ⟨.error e, fun _ _ => rfl, fun o h => nomatch h⟩
    | ok w =>
      exact warpW_history G big _ w dim t1 t2 h1 h2 fun hf dist hd =>
        have h3 : mode = 3 := of_decide_eq_true hf
        H h3 w dist (by rwa [if_neg (by omega)] at hp) hd
  · exact ⟨_, fun _ _ => if_neg hm, fun o h => nomatch h⟩

theorem compareBodyX_history (pow : α → α → α) (G : Geom α) (root : Nat → α → α) (ofNat : Nat → α) (big : α) (mode : Nat)
    (p : PArgX α) (dim : DimArg α) (t1 t2 : List (Pt α)) (h1 : 0 < t1.length) (h2 : 0 < t2.length)
    (H : mode = 107 → ∀ w dist, p2weightX pow p = .ok w → distanceOf G dim = .ok dist → FastOK big w dist t1 t2) :
    ∃ r, ∀ rows : List (Row α), rows.length = t1.length →
      compareBodyX pow G root ofNat big mode p dim { pts := t1, rows := rows } t2 = r := by
  obtain ⟨r, hr, _⟩ := matchBodyX_history pow G big (mode - 104) p dim t1 t2 h1 h2 (fun h => H (by omega))
  exact ⟨_, fun rows hl => by rw [compareBodyX_eq, hr rows hl]⟩

theorem matchCallX_history_all (pow : α → α → α) (G : Geom α) (big : α) (mode : Nat) (p : PArgX α) (dim : DimArg α)
    (t1 t2 : List (Pt α)) (rows0 : List (Row α)) (hl : rows0.length = t1.length) (h1 : 0 < t1.length) (h2 : 0 < t2.length)
    (hm : mode = 3 → FastCallOK pow G big p dim t1 t2) :
    matchCallX pow G big mode p dim { pts := t1, rows := rows0 } t2 = matchCallX pow G big mode p dim (TrackObj.fresh t1) t2 := by
  obtain ⟨r, hr, _⟩ := matchBodyX_history pow G big mode p.exponent dim t1 t2 h1 h2 hm
  exact (hr rows0 hl).trans (hr _ (List.length_map _)).symm

end fastCall
end TV.DTW
