import TracklibVerif.Lemmas.ExprSource
/-! # Other ways of writing a source string: spaces anywhere, `**` for `^`, reflexive assignments `lhs op= e`

Each is reduced to a printed source string of `Lemmas/ExprSource.lean` by following the first passes of `preprocess`: the blanks
are removed first, `**` becomes `^` next, `a+=e` is rewritten to `a=a+(e)`. -/

/-! ## Spaces anywhere in the source string

`__evaluate` starts with `expression.replace(" ", "")`: the whole evaluation depends on the string only
through the string with its spaces removed. -/
namespace TV.Expr
open TV.Rpn

theorem replace_space_filter (s : Str) : replace s [' '] [] = s.filter (fun d => d != ' ') := by
  rw [replace_one]
  induction s with
  | nil => rfl
  | cons d ds ih =>
    by_cases hd : d = ' '
    · subst hd
      simp only [List.flatMap_cons, fm_self, List.nil_append, ih]
      rfl
    · have hb : (d != ' ') = true := by simpa using hd
      simp only [List.flatMap_cons, fm_ne [] hd, ih, List.filter_cons, hb, if_true, List.cons_append, List.nil_append]

theorem preprocess_spaces (s : Str) : preprocess s = preprocess (s.filter (fun d => d != ' ')) := by
  simp only [preprocess, replace_space_filter, List.filter_filter, Bool.and_self]

theorem operate_spaces {α : Type} [Scalar α] (tr : Tr α) (s : Str) :
    operate tr s = operate tr (s.filter (fun d => d != ' ')) :=
  operate_congr tr (preprocess_spaces s)

theorem preprocess_assign_spaces (s lhs : Str) (e : Sx) (hs : s.filter (fun d => d != ' ') = lhs ++ '=' :: src e)
    (hl : NameOK lhs) (h : SrcOK e) :
    preprocess s = .ok (flat (shw pyLvl 9 (.bin '=' (.atom (String.ofList lhs)) (toE' e))), true) := by
  rw [preprocess_spaces, hs]; exact preprocess_assign lhs e hl h

theorem preprocess_value_spaces (s : Str) (e : Sx) (hs : s.filter (fun d => d != ' ') = src e) (h : SrcOK e) :
    preprocess s = .ok ("#output = ".toList ++ flat (shw pyLvl 9 (toE' e)), false) := by
  rw [preprocess_spaces, hs]; exact preprocess_value e h

variable {α : Type} [Scalar α]

theorem operate_source_tokens_spaces (tr : Tr α) (s lhs : Str) (e : Sx)
    (hs : s.filter (fun d => d != ' ') = lhs ++ '=' :: src e)
    (hl : NameOK lhs) (hg : GoodTok lhs) (h : SrcOK e) (hq : NoQuote (desugar e)) :
    operate tr s = operateTokens tr (lhs :: (Expr.post (desugar e) ++ [['=']])) true := by
  rw [operate_spaces, hs]; exact operate_source_tokens tr lhs e hl hg h hq

theorem operate_source_value_spaces (tr : Tr α) (s : Str) (e : Sx) (v : Val α)
    (hs : s.filter (fun d => d != ' ') = src e) (h : SrcOK e) (hq : NoQuote (desugar e))
    (hw : WFx (desugar e)) (hn : tr.n ≠ 0) (hnt : NoTemps tr) (hl : NoLitNames tr)
    (hd : denoteM tr (desugar e) = .ok v) :
    operate tr s = (.ok (some (v.toVec tr.n)), tr) := by
  rw [operate_spaces, hs]; exact operate_source_value tr e v h hq hw hn hnt hl hd

end TV.Expr

/-! ## `**` written for `^`

Surface trees with one more node, `l ** r`; the first step of the chain (`**` → `^`) maps their source
string to the source string of the tree with `^`. -/
namespace TV.Expr
open TV.Rpn

inductive Sy where
  | num (s : Str)
  | var (s : Str)
  | bin (o : Char) (l r : Sy)
  | pw (l r : Sy)
  | call (f : Str) (e : Sy)
  | neg (e : Sy)
  | par (e : Sy)

def lower : Sy → Sx
  | .num s => .num s
  | .var s => .var s
  | .bin o l r => .bin o (lower l) (lower r)
  | .pw l r => .bin '^' (lower l) (lower r)
  | .call f e => .call f (lower e)
  | .neg e => .neg (lower e)
  | .par e => .par (lower e)

def srcY : Sy → Str
  | .num s => s
  | .var s => s
  | .bin o l r =>
    wrapS (decide (slv (lower l) < pyLvl o)) (srcY l) ++ o :: wrapS (decide (slv (lower r) ≤ pyLvl o)) (srcY r)
  | .pw l r =>
    wrapS (decide (slv (lower l) < pyLvl '^')) (srcY l) ++ '*' :: '*' :: wrapS (decide (slv (lower r) ≤ pyLvl '^')) (srcY r)
  | .call f e => f ++ ('{' :: (srcY e ++ ['}']))
  | .neg e => '(' :: '-' :: (wrapS (decide (slv (lower e) ≤ 2)) (srcY e) ++ [')'])
  | .par e => '(' :: (srcY e ++ [')'])

theorem getLast?_append_ne {s t : Str} (ht : t ≠ []) : (s ++ t).getLast? = t.getLast? := by
  rw [List.getLast?_append]
  cases h : t.getLast? with
  | none => exact absurd (List.getLast?_eq_none_iff.mp h) ht
  | some z => rfl

theorem getLast?_cons_snoc (c d : Char) (s : Str) : (c :: (s ++ [d])).getLast? = some d := by
  rw [← List.cons_append, List.getLast?_concat]

def NS (s : Str) : Prop := s ≠ [] ∧ s.head? ≠ some '*' ∧ s.getLast? ≠ some '*'

theorem NS.wrap {s : Str} (b : Bool) (h : NS s) : NS (wrapS b s) := by
  cases b with
  | false => exact h
  | true => exact ⟨by simp [wrapS], by simp [wrapS], by simp [wrapS, getLast?_cons_snoc]⟩

theorem NS.join {s t : Str} (m : Str) (hs : NS s) (ht : NS t) : NS (s ++ (m ++ t)) := by
  obtain ⟨s1, s2, _⟩ := hs
  obtain ⟨t1, _, t3⟩ := ht
  refine ⟨by simp [s1], ?_, ?_⟩
  · cases s with
    | nil => exact absurd rfl s1
    | cons c cs => simpa using s2
  · rw [← List.append_assoc, getLast?_append_ne t1]; exact t3

theorem NS_name {s : Str} (h : NameOK s) : NS s := by
  have hn : '*' ∉ s := name_not_mem h (by decide)
  refine ⟨h.1, ?_, ?_⟩
  · intro hh; exact hn (List.mem_of_mem_head? hh)
  · intro hh; exact hn (List.mem_of_getLast? hh)

theorem NS_paren (s : Str) : NS ('(' :: (s ++ [')'])) :=
  ⟨by simp, by simp, by simp [getLast?_cons_snoc]⟩

theorem srcY_NS (e : Sy) (h : SrcOK (lower e)) : NS (srcY e) := by
  induction e with
  | num s => exact NS_name h.1
  | var s => exact NS_name h.1
  | bin o l r ihl ihr => exact NS.join [o] ((ihl h.2.1).wrap _) ((ihr h.2.2).wrap _)
  | pw l r ihl ihr => exact NS.join ['*', '*'] ((ihl h.2.1).wrap _) ((ihr h.2.2).wrap _)
  | call f e ih =>
    refine ⟨by simp [srcY], ?_, ?_⟩
    · have := (NS_name h.1)
      cases f with
      | nil => exact absurd rfl this.1
      | cons c cs => simpa [srcY] using this.2.1
    · rw [srcY, getLast?_append_ne (by simp), getLast?_cons_snoc]; simp
  | neg e ih =>
    refine ⟨by simp [srcY], by simp [srcY], ?_⟩
    rw [srcY, List.getLast?_cons_cons, getLast?_cons_snoc]; simp
  | par e ih => exact NS_paren _

/-- `s.replace("**", "^")` -/
abbrev rS : Str → Str := rep2 '*' '*' ['^']

theorem rS_app (s t : Str) (hj : s.getLast? ≠ some '*' ∨ t.head? ≠ some '*') : rS (s ++ t) = rS s ++ rS t :=
  rep2_append _ _ _ s t hj

theorem rS_cons {c : Char} (hc : c ≠ '*') (t : Str) : rS (c :: t) = c :: rS t := rep2_cons_ne _ hc t

theorem rS_snoc {c : Char} (hc : c ≠ '*') (s : Str) : rS (s ++ [c]) = rS s ++ [c] := rep2_snoc_ne _ hc s

theorem rS_wrapS (b : Bool) (s : Str) : rS (wrapS b s) = wrapS b (rS s) := by
  cases b with
  | false => rfl
  | true => simp only [wrapS, if_true]; rw [rS_cons (by decide), rS_snoc (by decide)]

theorem rS_name {s : Str} (h : NameOK s) : rS s = s := rep2_absent_left (name_not_mem h (by decide))

theorem rS_srcY (e : Sy) (h : SrcOK (lower e)) : rS (srcY e) = src (lower e) := by
  unfold src
  induction e with
  | num s => exact rS_name h.1
  | var s => exact rS_name h.1
  | bin o l r ihl ihr =>
    have hl := (srcY_NS l h.2.1).wrap (decide (slv (lower l) < pyLvl o))
    have hr := (srcY_NS r h.2.2).wrap (decide (slv (lower r) ≤ pyLvl o))
    simp only [srcY, lower, pr]
    rw [rS_app _ _ (Or.inl hl.2.2)]
    have := rS_app [o] _ (Or.inr hr.2.1)
    simp only [List.cons_append, List.nil_append] at this
    rw [this, rS_wrapS, rS_wrapS, ihl h.2.1, ihr h.2.2]
    rfl
  | pw l r ihl ihr =>
    have hl := (srcY_NS l h.2.1).wrap (decide (slv (lower l) < pyLvl '^'))
    simp only [srcY, lower, pr]
    rw [rS_app _ _ (Or.inl hl.2.2)]
    have : ∀ t, rS ('*' :: '*' :: t) = '^' :: rS t := by intro t; simp [rS, rep2]
    rw [this, rS_wrapS, rS_wrapS, ihl h.2.1, ihr h.2.2]
  | call f e ih =>
    simp only [srcY, lower, pr]
    rw [rS_app _ _ (Or.inr (by simp)), rS_name h.1, rS_cons (by decide), rS_snoc (by decide), ih h.2]
    rfl
  | neg e ih =>
    simp only [srcY, lower, pr]
    rw [rS_cons (by decide), rS_cons (by decide), rS_snoc (by decide), rS_wrapS, ih h]
    rfl
  | par e ih =>
    simp only [srcY, lower, pr]
    rw [rS_cons (by decide), rS_snoc (by decide), ih h]

theorem srcY_no_space (e : Sy) (h : SrcOK (lower e)) : ' ' ∉ srcY e := fun hm =>
  src_no_space (lower e) h (rS_srcY e h ▸ mem_rep2_of_ne _ (by decide) (by decide) hm)

theorem preprocess_congr {s1 s2 : Str}
    (h : replace (replace s1 [' '] []) ['*', '*'] ['^'] = replace (replace s2 [' '] []) ['*', '*'] ['^']) :
    preprocess s1 = preprocess s2 := by
  simp only [preprocess, specialOpChar, h]

theorem preprocess_pow_pre (pre : Str) (hp : PreOK pre) (hs : '*' ∉ pre) (e : Sy) (h : SrcOK (lower e)) :
    preprocess (pre ++ srcY e) = preprocess (pre ++ src (lower e)) := by
  apply preprocess_congr
  have c0 : chn okp (pre ++ src (lower e)) = true :=
    hp.chn _ (src_inv (lower e) h)
  have a1 : replace (pre ++ srcY e) [' '] [] = pre ++ srcY e :=
    replace_absent_char [] (by simp only [List.mem_append, not_or]; exact ⟨hp.nosp, srcY_no_space e h⟩)
  have a2 : replace (pre ++ src (lower e)) [' '] [] = pre ++ src (lower e) :=
    replace_absent_char [] (by simp only [List.mem_append, not_or]; exact ⟨hp.nosp, src_no_space (lower e) h⟩)
  rw [a1, a2, replace_two, replace_chn ['*', '*'] _ c0 (by decide)]
  exact (rep2_prefix _ hs _).trans (congrArg _ (rS_srcY e h))

theorem preprocess_assign_pow (lhs : Str) (e : Sy) (hl : NameOK lhs) (h : SrcOK (lower e)) :
    preprocess (lhs ++ '=' :: srcY e)
      = .ok (flat (shw pyLvl 9 (.bin '=' (.atom (String.ofList lhs)) (toE' (lower e)))), true) := by
  have hs : '*' ∉ lhs ++ ['='] := by
    simp only [List.mem_append, List.mem_singleton, not_or]
    exact ⟨name_not_mem hl (by decide), by decide⟩
  have := preprocess_pow_pre (lhs ++ ['=']) (preOK_lhs hl) hs e h
  simp only [List.append_assoc, List.cons_append, List.nil_append] at this
  rw [this]
  exact preprocess_assign lhs (lower e) hl h

theorem preprocess_value_pow (e : Sy) (h : SrcOK (lower e)) :
    preprocess (srcY e) = .ok ("#output = ".toList ++ flat (shw pyLvl 9 (toE' (lower e))), false) := by
  have := preprocess_pow_pre [] preOK_nil (by simp) e h
  simp only [List.nil_append] at this
  rw [this]
  exact preprocess_value (lower e) h

variable {α : Type} [Scalar α]

theorem operate_source_value_pow (tr : Tr α) (e : Sy) (v : Val α) (h : SrcOK (lower e))
    (hq : NoQuote (desugar (lower e))) (hw : WFx (desugar (lower e))) (hn : tr.n ≠ 0) (hnt : NoTemps tr)
    (hl : NoLitNames tr) (hd : denoteM tr (desugar (lower e)) = .ok v) :
    operate tr (srcY e) = (.ok (some (v.toVec tr.n)), tr) := by
  rw [operate_congr tr ((preprocess_value_pow e h).trans (preprocess_value (lower e) h).symm)]
  exact operate_source_value tr (lower e) v h hq hw hn hnt hl hd

example : srcY (.bin '-' (.pw (.var ['a']) (.num ['2'])) (.var ['b'])) = "a**2-b".toList := by
  simp only [String.reduceToList]
  decide +kernel
example : (preprocess "c=a**2-b".toList).toOption = some ("c=a^2-b".toList, true) := by
  simp only [String.reduceToList]
  decide +kernel

end TV.Expr

/-! ## Reflexive assignments `lhs op= e` (`__convertReflexOperator`)

`a+=e` is rewritten to `a=a+(e)`: `preprocess (lhs ++ op :: '=' :: src e)` is `preprocess` of the source
string of the statement `lhs = lhs op (e)`. -/
namespace TV.Expr
open TV.Rpn

def okpR (op : Char) (a b : Char) : Bool := okp a b || (a == op && b == '=')

theorem okpR_of_okp (op : Char) (a b : Char) (h : okp a b = true) : okpR op a b = true := by simp [okpR, h]

theorem chn_reflex {lhs : Str} {op : Char} {X : Str} (hl : NameOK lhs) (hd : lhs.getLast? ≠ some '.')
    (hop : pyLvl op < 9) (hX : Inv X) : chn (okpR op) (lhs ++ op :: '=' :: X) = true := by
  obtain ⟨a, z, hs, _, hz⟩ := inv_name hl hd
  obtain ⟨ax, zx, hx, hax, _⟩ := hX
  have s1 : Seg (lhs ++ [op]) a op := Seg.snoc hs (okp_end_op hz (cls_op hop))
  have s2 : Seg ('=' :: X) '=' zx := Seg.cons hx (okp_op_start (by decide) hax)
  have : lhs ++ op :: '=' :: X = (lhs ++ [op]) ++ ('=' :: X) := by simp
  rw [this, chn_append, chn_mono (okpR_of_okp op) _ s1.1, chn_mono (okpR_of_okp op) _ s2.1]
  simp [junc, s1.2.2, okpR]

theorem convertReflex_at (op : Char) (before after : List Str) (hsplit : reflexOps = before ++ [op] :: after)
    (M N : Str) (hb : ∀ p ∈ before, contains (p ++ ['=']) M = false) (hat : contains [op, '='] M = true)
    (hN : (let splt := splitOn M [op, '=']
           splt.getD 0 [] ++ ['='] ++ splt.getD 0 [] ++ [op] ++ ['('] ++ splt.getD 1 [] ++ [')']) = N)
    (ha : ∀ p ∈ after, contains (p ++ ['=']) N = false) : convertReflexOperator M = N := by
  unfold convertReflexOperator
  rw [hsplit, List.foldl_append, List.foldl_cons]
  rw [foldl_fix _ M before (fun p hp => by simp only [hb p hp, Bool.false_eq_true, if_false])]
  have : [op] ++ ['='] = [op, '='] := rfl
  simp only [this, hat, if_true]
  simp only [] at hN
  rw [hN]
  exact foldl_fix _ N after (fun p hp => by simp only [ha p hp, Bool.false_eq_true, if_false])

theorem mid_no_eq (e : Sx) (h : SrcOK e) : '=' ∉ mid e := fun hm =>
  tgt_no_eq e h (r2_mid e h ▸ mem_rep2_of_ne _ (by decide) (by decide) hm)

/-- the single-character reflexive operators -/
def rops : List Char := ['+', '-', '*', '/', '^', '%', '!']

theorem rops_facts {op : Char} (hop : op ∈ rops) : pyLvl op < 9 ∧ op ≠ '=' := by
  simp only [rops, List.mem_cons, List.mem_nil_iff, or_false] at hop
  rcases hop with rfl | rfl | rfl | rfl | rfl | rfl | rfl <;> decide

/-- the table of `__convertReflexOperator` at a single-character operator `op`: `op` is in it, and with `op=` allowed none
    of the other patterns `p=`, nor a pattern of `__specialOpChar`, occurs in a chain -/
theorem rops_table : ∀ op ∈ rops, achar op = false ∧ [op] ∈ reflexOps
    ∧ (∀ p ∈ reflexOps, p ≠ [op] → chn (okpR op) (p ++ ['=']) = false)
    ∧ chn (okpR op) ['*', '*'] = false ∧ chn (okpR op) ['.', '*'] = false
    ∧ chn (okpR op) ['>', '>'] = false ∧ chn (okpR op) ['<', '<'] = false := by decide

theorem reflex_core (op : Char) (hop' : op ∈ rops) (lhs : Str) (e : Sx) (hl : NameOK lhs) (hd : lhs.getLast? ≠ some '.')
    (h : SrcOK e) : rewr (lhs ++ op :: '=' :: src e) = .ok (lhs ++ ['='] ++ lhs ++ [op] ++ tgt (.par e)) := by
  obtain ⟨hach, hmem, hbad, h1, h2, h3, h4⟩ := rops_table op hop'
  have hop := (rops_facts hop').1
  -- the operators tried before `op` are not followed by `=`
  obtain ⟨before, after, hsplit, hnb⟩ := List.eq_append_cons_of_mem hmem
  have hbef : ∀ p ∈ before, chn (okpR op) (p ++ ['=']) = false := fun p hp =>
    hbad p (by rw [hsplit]; exact List.mem_append_left _ hp) (fun e => hnb (e ▸ hp))
  have hpre : PreOK (lhs ++ ['='] ++ lhs ++ [op]) := (preOK_lhs hl).name_op hl hd hop
  have e0 : lhs ++ op :: '=' :: src e = (lhs ++ [op, '=']) ++ src e := by simp
  have e1 : lhs ++ op :: '=' :: mid e = (lhs ++ [op, '=']) ++ mid e := by simp
  have c0 : chn (okpR op) ((lhs ++ [op, '=']) ++ src e) = true := by rw [← e0]; exact chn_reflex hl hd hop (src_inv e h)
  have c1 : chn (okpR op) ((lhs ++ [op, '=']) ++ mid e) = true := by rw [← e1]; exact chn_reflex hl hd hop (mid_inv e h)
  have cN : chn okp (lhs ++ ['='] ++ lhs ++ [op] ++ mid (.par e)) = true := hpre.chn _ (mid_inv (.par e) h)
  have cT : chn okp (lhs ++ ['='] ++ lhs ++ [op] ++ tgt (.par e)) = true := hpre.chn _ (tgt_inv (.par e) h)
  have hopl : op ∉ lhs := name_not_mem hl hach
  have hsp : ' ' ≠ op := by intro e; subst e; revert hop; decide
  have hlbc : '{' ≠ op := by intro e; subst e; revert hop; decide
  have hrbc : '}' ≠ op := by intro e; subst e; revert hop; decide
  have nosp : ' ' ∉ (lhs ++ [op, '=']) ++ src e := by
    simp only [List.mem_append, List.mem_cons, List.mem_nil_iff, or_false, not_or]
    exact ⟨⟨name_not_mem hl (by decide), hsp, by decide⟩, src_no_space e h⟩
  have hS := sp_pre_src (lhs ++ [op, '=']) (by
      simp only [List.mem_append, List.mem_cons, List.mem_nil_iff, or_false, not_or]
      exact ⟨name_not_mem hl (by decide), hlbc, by decide⟩) (by
      simp only [List.mem_append, List.mem_cons, List.mem_nil_iff, or_false, not_or]
      exact ⟨name_not_mem hl (by decide), hrbc, by decide⟩) e h
  have hx : contains [op, '='] (mid e) = false := contains_false_of_not_mem (c := '=') (by simp) (mid_no_eq e h)
  have s3 : convertReflexOperator ((lhs ++ [op, '=']) ++ mid e) = lhs ++ ['='] ++ lhs ++ [op] ++ mid (.par e) := by
    apply convertReflex_at op before after hsplit
    · intro p hp; exact contains_false_of_chn c1 (hbef p hp)
    · have := contains_of_decomp [op, '='] lhs (mid e)
      simpa using this
    · rw [← e1, splitOn_once op '=' lhs (mid e) hopl hx]
      simp [mid, pr]
    · intro p hp
      exact contains_false_of_chn cN (reflex_bad p (by rw [hsplit]; simp [hp]))
  have s4 := unary_mid _ hpre (.par e) h
  rw [e0, rewr_sp ⟨h1, h2, h3, h4⟩ nosp c0 (hS ▸ c1), hS, s3, s4]
  exact congrArg Except.ok (funcAt_id cT)

theorem tgt_reflex (lhs : Str) (op : Char) (e : Sx) (hop : pyLvl op < 9) :
    tgt (.bin op (.var lhs) (.par e)) = lhs ++ op :: tgt (.par e) := by
  have h1 : decide (slv (Sx.var lhs) < pyLvl op) = false := decide_eq_false (by show ¬ (9 < pyLvl op); omega)
  have h2 : decide (slv (Sx.par e) ≤ pyLvl op) = false := decide_eq_false (by show ¬ (9 ≤ pyLvl op); omega)
  simp only [tgt, pr, h1, h2, wrapS, Bool.false_eq_true, if_false]

theorem srcOK_reflex {lhs : Str} {op : Char} {e : Sx} (hl : NameOK lhs) (hd : lhs.getLast? ≠ some '.')
    (hop : pyLvl op < 9) (hne : op ≠ '=') (h : SrcOK e) : SrcOK (.bin op (.var lhs) (.par e)) :=
  ⟨⟨hop, hne⟩, ⟨hl, hd⟩, h⟩

theorem rewr_reflex (lhs : Str) (op : Char) (e : Sx) (hop : op ∈ rops) (hl : NameOK lhs)
    (hd : lhs.getLast? ≠ some '.') (h : SrcOK e) :
    rewr (lhs ++ op :: '=' :: src e) = .ok (lhs ++ ['='] ++ tgt (.bin op (.var lhs) (.par e))) := by
  rw [reflex_core op hop lhs e hl hd h, tgt_reflex lhs op e (rops_facts hop).1]
  simp

theorem preprocess_reflex (lhs : Str) (op : Char) (e : Sx) (hop : op ∈ rops) (hl : NameOK lhs)
    (hd : lhs.getLast? ≠ some '.') (h : SrcOK e) :
    preprocess (lhs ++ op :: '=' :: src e) = preprocess (lhs ++ '=' :: src (.bin op (.var lhs) (.par e))) := by
  have h1 := rewr_reflex lhs op e hop hl hd h
  have h2 := rewr_src (lhs ++ ['=']) (preOK_lhs hl) (.bin op (.var lhs) (.par e))
    (srcOK_reflex hl hd (rops_facts hop).1 (rops_facts hop).2 h)
  have e2 : lhs ++ '=' :: src (.bin op (.var lhs) (.par e)) = lhs ++ ['='] ++ src (.bin op (.var lhs) (.par e)) := by simp
  rw [e2]
  exact preprocess_rewr_congr (h1.trans h2.symm)

theorem preprocess_reflex_eq (lhs : Str) (op : Char) (e : Sx) (hop : op ∈ rops) (hl : NameOK lhs)
    (hd : lhs.getLast? ≠ some '.') (h : SrcOK e) :
    preprocess (lhs ++ op :: '=' :: src e)
      = .ok (flat (shw pyLvl 9 (.bin '=' (.atom (String.ofList lhs))
          (.bin op (.atom (String.ofList lhs)) (.par (toE' e))))), true) := by
  rw [preprocess_reflex lhs op e hop hl hd h]
  exact preprocess_assign lhs _ hl (srcOK_reflex hl hd (rops_facts hop).1 (rops_facts hop).2 h)

example : (preprocess "a+=b*SUM{(-a)}".toList).toOption = some ("a=a+(b*SUM@((0-a)))".toList, true) := by
  simp only [String.reduceToList]
  decide +kernel
example : (preprocess "a*=b+1".toList).toOption = some ("a=a*(b+1)".toList, true) := by
  simp only [String.reduceToList]
  decide +kernel

end TV.Expr
