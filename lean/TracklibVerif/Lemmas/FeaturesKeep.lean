import TracklibVerif.Lemmas.FeaturesResult
/-! "Nothing is deleted unless a deletion is the meaning of the call", and "the deleting calls delete only what they are
meant to delete". `Unl X a a'` says that every name listed in `a` and outside `X` is listed in `a'`. Every primitive of the
Track API but `removeAnalyticalFeature` unlists nothing, `removeAnalyticalFeature(nm)` unlists `nm` only; with the
simulation this makes the primitives respect `Unl X` when `X` permits the removal (`unlPrim`), hence every operation
(`Lemmas/FeaturesRelEval.lean`), returning or raising, failures mid-way included. The one place where a user's name leaves
the listing for a moment is the re-assignment `a = <feature>` of `__applyOperation` (get / remove / create):
`unl_reassign` shows the create that follows the remove cannot fail on a non-empty track. This is the statement the seeded
change C01-9 broke (Apply.execute "cleaning up" its output column when the cell function raises). -/
namespace TV.Features
variable {V : Type} [Inhabited V] {n : Nat}

def Unl (X : String → Prop) (a a' : ATab V) : Prop :=
  ∀ m, (lookup a.cols m).isSome = true → ¬ X m → (lookup a'.cols m).isSome = true

instance (X : String → Prop) : Step (Unl (V := V) X) :=
  ⟨fun _ _ hm _ => hm, fun h1 h2 m hm hx => h2 m (h1 m hm hx) hx⟩

omit [Inhabited V] in
theorem isSome_replaceCol (cols : List (String × List V)) (nm m : String) (c : List V)
    (hm : (lookup cols m).isSome = true) : (lookup (replaceCol cols nm c) m).isSome = true := by
  rw [lookup_replaceCol]
  split
  · rename_i e
    subst e
    cases h : lookup cols m with
    | none => rw [h] at hm; cases hm
    | some _ => rfl
  · exact hm

omit [Inhabited V] in
theorem Wrote.unl {X : String → Prop} {nm : String} {a a' : ATab V} (h : Wrote nm a a') : Unl X a a' := by
  intro m hm _
  cases h with
  | none => exact hm
  | append c hl => rw [lookup_append_new _ _ _ _ hl]; split <;> first | rfl | exact hm
  | replace c => exact isSome_replaceCol _ _ _ _ hm
  | coord c l _ _ => cases c <;> exact hm

omit [Inhabited V] in
theorem unl_remove {X : String → Prop} (nm : String) (hX : X nm) (a : ATab V) : Unl X a (removeA nm a).2 := by
  intro m hl hx
  have hne : m ≠ nm := fun e => hx (e ▸ hX)
  fun_cases removeA nm a
  case case3 => exact (lookup_filter_ne a.cols nm m hne).symm ▸ hl
  all_goals exact hl

/-- `af = getAnalyticalFeature(src); removeAnalyticalFeature(s1); createAnalyticalFeature(s1, af)` on a non-empty aligned
table: `af` is a full column, so the create cannot fail and `s1` is listed again; nothing else leaves -/
theorem unl_reassign {X : String → Prop} (hn : n ≠ 0) (hres : ∀ m, reserved m = true → X m) (o : Ops V)
    (s1 src : String) {st : St V} (hinv : Inv n st) :
    Unl X (abs st) ((getA o src >>= fun af => removeA s1 >>= fun _ => createA s1 (.list af)) (abs st)).2 := by
  obtain ⟨_, e, hlen⟩ := sim_get o src st hinv
  have hsnd := getA_snd o src (abs st)
  cases hg : getA o src (abs st) with
  | mk r a1 =>
    rw [hg] at hsnd e
    obtain rfl : a1 = abs st := hsnd
    cases r with
    | error _ => rw [bind_of_error hg]; exact Step.refl _
    | ok af =>
      rw [bind_of_ok hg]
      have haf : af.length = n := hlen af (Prod.mk.inj e).1.symm
      intro m hl hx
      have hA := ainv_abs hinv
      by_cases hm : m = s1
      · subst hm
        have hr : reserved m = false := by
          cases h : reserved m with
          | false => rfl
          | true => exact absurd (hres m h) hx
        rw [bind_of_ok (removeA_ok _ _ hl)]
        have hsz : ({ (abs st) with cols := (abs st).cols.filter (fun p => !(p.1 == m)) } : ATab V).size = n := hA.size
        rw [createA_new _ m (.list af) hr (by rw [hsz]; exact hn) (lookup_filter_self _ _)
          (by simp only [hsz, haf]; exact Nat.le_refl _)]
        simp only
        rw [lookup_append_new _ _ _ _ (lookup_filter_self _ _)]
        simp
      · exact (rel_bind (rel_eq (S := Unl (· = s1)) (unl_remove s1 rfl))
          (fun _ _ => rel_eq fun a => (wrote_create s1 (.list af) a).unl) (abs st) (abs st) rfl).2.2.1 m hl hm

/-- The primitives on the code's table against the specification table, with the listing: unlisting `nm` needs `X nm`;
a re-assignment needs a non-empty track, and `X` to hold the reserved names (never listed by the API). -/
theorem unlPrim (X : String → Prop) :
    PrimRel (V := V) (fun s t => Inv n s ∧ t = abs s) (Unl X) (fun _ => True) X
      (n ≠ 0 ∧ ∀ m, reserved m = true → X m) where
  size := rel_of_gsim (sim_size (n := n)) (fun _ _ => Step.refl _)
    |> fun h => rel_weaken h (fun _ _ => trivial)
  has := fun nm => rel_of_gsim (sim_has nm) (fun _ _ => Step.refl _)
  names := rel_of_gsim sim_names (fun _ _ => Step.refl _)
  get := fun o nm => rel_weaken (rel_of_gsim (sim_get o nm) (fun st _ => (getA_snd o nm (abs st)).symm ▸ Step.refl _))
    (fun _ _ => trivial)
  getObs := fun o nm i => rel_of_gsim (sim_getObs o nm i) (fun st _ => (getObsA_snd o nm i (abs st)).symm ▸ Step.refl _)
  setObs := fun nm i v _ => rel_of_gsim (sim_setObs nm i v) (fun st _ => (wrote_setObs nm i v (abs st)).unl)
  create := fun nm init _ => rel_of_gsim (sim_create nm init) (fun st _ => (wrote_create nm init (abs st)).unl)
  update := fun nm init _ => rel_of_gsim (sim_update nm init) (fun st _ => (wrote_update nm init (abs st)).unl)
  remove := fun nm _ hx => rel_of_gsim (sim_remove nm) (fun st _ => unl_remove nm hx (abs st))
  reassign := fun o nm src _ hr =>
    rel_of_gsim (gsim_iff.2 (rel_bind (gsim_iff.1 (sim_get o src)) (fun af _ =>
      rel_bind (gsim_iff.1 (sim_remove nm)) (fun _ _ => gsim_iff.1 (sim_create nm (.list af))))))
      (fun _ hinv => unl_reassign hr.1 hr.2 o nm src hinv)

/-- the calls whose documented meaning includes a deletion: `removeAnalyticalFeature` / `'#DELETE'`, `computeAbsCurv`
(its intermediate `ds`), `operate(str)` (re-assignment = get / remove / create, purge of the `#` names) -/
def deletes : Op V → Bool
  | .remove _ => true
  | .absCurv => true
  | .expr _ => true
  | _ => false

omit [Inhabited V] in
theorem mayUnlist_deletes {op : Op V} {m : String} (h : mayUnlist op m) : deletes op = true := by
  cases op <;> first | rfl | exact h.elim

theorem unl_step (o : Ops V) (op : Op V) (hn : ∀ rpn, op = .expr rpn → n ≠ 0) {st : St V} (h : Inv n st) :
    Unl (mayUnlist op) (abs st) (step o op (abs st)).2 :=
  (rel_step (unlPrim _) o op (fun _ _ => trivial) (fun _ hm => hm)
    (fun rpn e => ⟨hn rpn e, fun m hm => by subst e; exact Or.inr hm⟩) st (abs st) ⟨h, rfl⟩).2.2.1

theorem unl_stepList (o : Ops V) (ops : List (Op V)) (hn : ∀ rpn, Op.expr rpn ∈ ops → n ≠ 0) {st : St V}
    (h : Inv n st) : Unl (fun m => ∃ op ∈ ops, mayUnlist op m) (abs st) (stepList o ops (abs st)).2 :=
  (rel_stepList (unlPrim _) o ops (fun _ _ _ _ => trivial) (fun op hop _ hm => ⟨op, hop, hm⟩)
    (fun rpn e => ⟨hn rpn e, fun _ hm => ⟨_, e, Or.inr hm⟩⟩) st (abs st) ⟨h, rfl⟩).2.2.1

def Call.deletes : Call V → Bool
  | .one op => Features.deletes op
  | .list ops => ops.any Features.deletes
  | .refused => false

def Call.mayUnlist : Call V → String → Prop
  | .one op, m => Features.mayUnlist op m
  | .list ops, m => ∃ op ∈ ops, Features.mayUnlist op m
  | .refused, _ => False

omit [Inhabited V] in
theorem Call.mayUnlist_deletes {c : Call V} {m : String} (h : c.mayUnlist m) : c.deletes = true := by
  cases c with
  | one op => exact Features.mayUnlist_deletes h
  | list ops =>
    obtain ⟨op, hop, hm⟩ := h
    exact List.any_eq_true.mpr ⟨op, hop, Features.mayUnlist_deletes hm⟩
  | refused => exact h.elim

theorem unl_call (o : Ops V) (c : Call V) (hn : c.deletes = true → n ≠ 0) {st : St V} (h : Inv n st) :
    Unl c.mayUnlist (abs st) (call o c (abs st)).2 := by
  cases c with
  | one op => exact unl_step o op (fun rpn e => hn (by subst e; rfl)) h
  | list ops =>
    exact unl_stepList o ops (fun rpn e => hn (List.any_eq_true.mpr ⟨_, e, rfl⟩)) h
  | refused => exact Step.refl _

end TV.Features
