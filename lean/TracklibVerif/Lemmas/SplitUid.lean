import TracklibVerif.Lemmas.SplitLimit
/-! Helper lemmas for C11: the uid numbers (`count`, `begin`, `end`) of the pieces. -/
namespace TV.Split
variable {β : Type}

/-- forgetting the uid numbers gives the loop of `splitL`; `begin != 0` is its `started` flag -/
theorem goU_goL (short : List β → Bool) (obs : List (β × Bool)) (i begin count : Nat) (cur : List β)
    (acc : List (PId × List β)) (st : Bool) (hst : decide (begin ≠ 0) = st) :
    ((goU short obs i begin count cur acc).1.map Prod.snd, (goU short obs i begin count cur acc).2.1,
      decide ((goU short obs i begin count cur acc).2.2.1 ≠ 0)) = goL short obs cur (acc.map Prod.snd) st := by
  fun_induction goU short obs i begin count cur acc generalizing st with
  | case1 => subst hst; rfl
  | case2 o rest i begin count cur acc hs ih => rw [goL, if_pos rfl, if_pos hs]; exact ih true rfl
  | case3 o rest i begin count cur acc hs ih => rw [goL, if_pos rfl, if_neg hs, ih true rfl, List.map_append]; rfl
  | case4 o m rest i begin count cur acc hm ih => rw [goL, if_neg hm]; exact ih st hst

/-- the piece with numbers (`count`, `begin`, `end`) is the run `begin..end` of the track -/
def IdOk (full : List β) (x : PId × List β) : Prop :=
  x.2 = (full.take (x.1.2.2 + 1)).drop x.1.2.1 ∧ x.1.2.1 ≤ x.1.2.2 + 1 ∧ x.1.2.2 + 1 ≤ full.length

theorem goU_inv (short : List β → Bool) (full : List β)
    (rest : List (β × Bool)) (pre : List β) (i begin count : Nat) (cur : List β) (acc : List (PId × List β))
    (hfull : full = pre ++ rest.map Prod.fst) (hi : i = pre.length) (hb : begin ≤ i) (hcur : cur = pre.drop begin)
    (hacc : ∀ x ∈ acc, IdOk full x) (hcnt : acc.map (fun x => x.1.1) = List.range count) :
    (∀ x ∈ (goU short rest i begin count cur acc).1, IdOk full x) ∧
    (goU short rest i begin count cur acc).1.map (fun x => x.1.1) = List.range (goU short rest i begin count cur acc).2.2.2 ∧
    (goU short rest i begin count cur acc).2.1 = full.drop (goU short rest i begin count cur acc).2.2.1 ∧
    (goU short rest i begin count cur acc).2.2.1 ≤ full.length := by
  fun_induction goU short rest i begin count cur acc generalizing pre with
  | case1 =>
    rw [List.map_nil, List.append_nil] at hfull
    subst hfull
    exact ⟨hacc, hcnt, hcur, hi ▸ hb⟩
  | case2 o rest i begin count cur acc _ ih =>
    exact ih (pre ++ [o]) (by simp [hfull]) (by simp [hi]) (Nat.le_refl _) (by simp [hi]) hacc hcnt
  | case3 o rest i begin count cur acc _ ih =>
    have hfull' : full = (pre ++ [o]) ++ rest.map Prod.fst := by simp [hfull]
    have hi' : i + 1 = (pre ++ [o]).length := by simp [hi]
    refine ih (pre ++ [o]) hfull' hi' (Nat.le_refl _) (by simp [hi])
      (List.forall_mem_append.mpr ⟨hacc, fun x hx => List.mem_singleton.mp hx ▸ ⟨?_, Nat.le_succ_of_le hb, ?_⟩⟩)
      (by simp [hcnt, List.range_succ])
    · show cur ++ [o] = (full.take (i + 1)).drop begin
      rw [hfull', hi', List.take_left', hcur, List.drop_append_of_le_length (hi ▸ hb)]
      rfl
    · show i + 1 ≤ full.length
      rw [hfull', List.length_append, ← hi']
      exact Nat.le_add_right _ _
  | case4 o m rest i begin count cur acc _ ih =>
    exact ih (pre ++ [o]) (by simp [hfull]) (by simp [hi]) (Nat.le_succ_of_le hb)
      (by rw [hcur, List.drop_append_of_le_length (hi ▸ hb)]) hacc hcnt

theorem goU_init (short : List β → Bool) (obs : List (β × Bool)) :
    (∀ x ∈ (goU short obs 0 0 0 [] []).1, IdOk (obs.map Prod.fst) x) ∧
    (goU short obs 0 0 0 [] []).1.map (fun x => x.1.1) = List.range (goU short obs 0 0 0 [] []).2.2.2 ∧
    (goU short obs 0 0 0 [] []).2.1 = (obs.map Prod.fst).drop (goU short obs 0 0 0 [] []).2.2.1 ∧
    (goU short obs 0 0 0 [] []).2.2.1 ≤ obs.length := by
  simpa only [List.length_map] using
    goU_inv short (obs.map Prod.fst) obs [] 0 0 0 [] [] rfl rfl (Nat.le_refl _) rfl (fun _ hx => nomatch hx) rfl

/-- the uid numbers of `split(track, name, limit)`: `begin` / `end` delimit the piece in the track, `count` numbers
the returned pieces 0, 1, 2, … -/
theorem splitU_ids (short keepTail : List β → Bool) (obs : List (β × Bool)) :
    (∀ x ∈ splitU short keepTail obs, IdOk (obs.map Prod.fst) x) ∧
    (splitU short keepTail obs).map (fun x => x.1.1) = List.range (splitU short keepTail obs).length := by
  obtain ⟨h1, h2, h3, h4⟩ := goU_init short obs
  have hlen := congrArg List.length h2
  rw [List.length_map, List.length_range] at hlen
  fun_cases splitU short keepTail obs with
  | case1 acc cur begin count hr hb =>
    rw [hr] at h1 h2 h3 h4 hlen
    refine ⟨List.forall_mem_append.mpr ⟨h1, fun x hx => ?_⟩, by simp [h2, hlen, List.range_succ]⟩
    obtain rfl := List.mem_singleton.mp hx
    -- `begin ≠ 0` and `begin ≤ size`: the track is not empty, `size - 1 + 1 = size`
    have e : obs.length - 1 + 1 = (obs.map Prod.fst).length := by
      rw [List.length_map]; exact Nat.sub_add_cancel (Nat.le_trans (Nat.pos_of_ne_zero hb) h4)
    exact ⟨by show cur = _; rw [e, List.take_length]; exact h3, by show begin ≤ _; rw [e, List.length_map]; exact h4,
      Nat.le_of_eq e⟩
  | case2 acc cur begin count hr => rw [hr] at h1 h2 hlen; exact ⟨h1, by rw [h2, hlen]⟩
  | case3 acc cur begin count hr => rw [hr] at h1 h2 hlen; exact ⟨h1, by rw [h2, hlen]⟩

/-- a piece with uid numbers (`begin`, `end`) is what `Track.extract(begin, end)` returns -/
theorem IdOk.extract {full : List β} {x : PId × List β} (h : IdOk full x) :
    extract full (x.1.2.1 : Int) (x.1.2.2 : Int) = some x.2 := by
  rw [extract_range full _ _ (Nat.le_trans h.2.1 h.2.2) h.2.2, h.1, List.drop_take]
end TV.Split
