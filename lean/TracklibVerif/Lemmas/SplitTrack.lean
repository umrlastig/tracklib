import TracklibVerif.Model.SplitTrack
import TracklibVerif.Lemmas.SplitVal
import TracklibVerif.Lemmas.SplitUid
/-! Helper lemmas for the front end of `split(track, <feature name>)` (`Model/SplitTrack.lean`). -/
namespace TV.Split
variable {α : Type}

/-- the marker of observation `i` as `split()` reads it from the column `col` -/
def colMark (isOne : Option α → Bool) (col : Col α) (i : Nat) : Bool := isOne ((col[i]?).getD none)

theorem marked_eq_tag (isOne : Option α → Bool) (t : FTrack α) (source : String) (col : Col α)
    (hg : t.get source = some col) :
    t.marked isOne source = some (tag (colMark isOne col) (List.range t.size)) := by
  simp [FTrack.marked, hg, tag, colMark]

theorem splitTrack_of_get (isOne : Option α → Bool) (t : FTrack α) (source : String) (col : Col α)
    (hg : t.get source = some col) :
    splitTrack isOne t source = .ok (split (tag (colMark isOne col) (List.range t.size))) := by
  unfold splitTrack
  by_cases hs : t.size = 0
  · simp [hs, tag, split, go]
  · simp [hs, marked_eq_tag isOne t source col hg]

theorem splitTrackU_of_get (isOne : Option α → Bool) (short keepTail : List Nat → Bool) (t : FTrack α) (source : String)
    (col : Col α) (hg : t.get source = some col) :
    splitTrackU isOne short keepTail t source = .ok (splitU short keepTail (tag (colMark isOne col) (List.range t.size))) := by
  unfold splitTrackU
  by_cases hs : t.size = 0
  · simp [hs, tag, splitU, goU]
  · simp [hs, marked_eq_tag isOne t source col hg]

/-- the marker column written by `segmentation()` (the integers 1 / 0), read back with `== 1` -/
theorem colMark_markers [OfNat α 0] [OfNat α 1] (isOne : Option α → Bool) (h1 : isOne (some 1) = true)
    (h0 : isOne (some 0) = false) (hn : isOne none = false) (bs : List Bool) :
    colMark isOne (bs.map (fun b => some (if b then (1 : α) else 0))) = fun i => (bs[i]?).getD false := by
  funext i
  simp only [colMark, List.getElem?_map]
  cases h : bs[i]? with
  | none => simpa using hn
  | some b => cases b <;> simpa using (by assumption)
end TV.Split
