import TracklibVerif.Lemmas.TextIOSci
import TracklibVerif.Lemmas.Common.MapM
/-! WKT export / parse (core only): `Track.toWKT` → `TrackReader.parseWkt`, and the vertex list shared with
`wktLineStringToObs`. Ordinates are printed by `str(float)` over its whole range (`reprFloat`: positional or exponent
notation); `parseWkt` upper-cases the text first, so it meets the marker `E` where the network reader meets `e`. -/
namespace TV.TextIO

theorem expChar_cases {ec : Char} (h : isExpChar ec = true) : ec = 'e' ∨ ec = 'E' := by
  unfold isExpChar at h
  simpa using h

theorem floatChar_not_ws {ec : Char} (hec : isExpChar ec = true) (c : Char) (h : floatChar ec c = true) : isWs c = false := by
  simp only [floatChar, Bool.or_eq_true, beq_iff_eq] at h
  rcases h with (h | rfl) | rfl
  · exact (numChar_props h).1
  · rcases expChar_cases hec with rfl | rfl <;> decide
  · decide

def vertexStr (ec : Char) (d : Nat) (p : Pt) : Str := reprFloat ec d p.1 ++ [' '] ++ reprFloat ec d p.2

theorem toWKTE_eq (ec : Char) (d : Nat) (pts : List Pt) :
    toWKTE ec d pts
      = ['L', 'I', 'N', 'E', 'S', 'T', 'R', 'I', 'N', 'G'] ++ ['('] ++ joinChar ',' (pts.map (vertexStr ec d)) ++ [')'] := by
  unfold toWKTE
  rw [String.toList_ofList]
  rfl

/-- the vertex as it is parsed back -/
def expVertex (d : Nat) (p : Pt) : Dec × Dec × Dec := (reprValF d p.1, reprValF d p.2, (0, 0))

def vertexChar (ec c : Char) : Bool := floatChar ec c || c == ' '

theorem vertexStr_over (ec : Char) (d : Nat) (p : Pt) : Over (vertexChar ec) (vertexStr ec d p) := by
  have h : ∀ v, Over (vertexChar ec) (reprFloat ec d v) :=
    fun v => (reprFloat_over ec d v).mono (fun c hc => by simp [vertexChar, hc])
  exact ((h p.1).append (fun c hc => by simp [vertexChar, List.mem_singleton.1 hc])).append (h p.2)

theorem parseVertex_vertexStr (ec : Char) (hec : isExpChar ec = true) (d : Nat) (p : Pt) :
    parseVertex (vertexStr ec d p) = .ok (expVertex d p) := by
  unfold parseVertex
  have hsp : floatChar ec ' ' = false := by rcases expChar_cases hec with rfl | rfl <;> decide
  have hws : ∀ v, ∀ c ∈ reprFloat ec d v, isWs c = false := fun v c hc => floatChar_not_ws hec c (reprFloat_over ec d v c hc)
  have hstrip : strip (vertexStr ec d p) = vertexStr ec d p := by
    unfold vertexStr
    rw [List.append_assoc]
    exact strip_between _ _ _ (reprFloat_ne_nil ec d p.1) (reprFloat_ne_nil ec d p.2) (hws p.1) (hws p.2)
  have hsplit : splitOnChar ' ' (vertexStr ec d p) = [reprFloat ec d p.1, reprFloat ec d p.2] := by
    unfold vertexStr
    rw [List.append_assoc, List.singleton_append, splitOnChar_append _ _ _ ((reprFloat_over ec d p.1).not_mem hsp),
      splitOnChar_of_not_mem _ _ ((reprFloat_over ec d p.2).not_mem hsp)]
  rw [hstrip, hsplit]
  simp [nth, parseDec_reprFloat ec hec, expVertex, bind, Except.bind, pure, Except.pure]

theorem mapM_vertexStr (ec : Char) (hec : isExpChar ec = true) (d : Nat) (pts : List Pt) :
    (pts.map (vertexStr ec d)).mapM parseVertex = .ok (pts.map (expVertex d)) :=
  Common.mapM_map_ok_of_forall fun p _ => parseVertex_vertexStr ec hec d p

/-- the coordinate list of a LINESTRING text: `wkt.split("(")[1].split(")")[0].split(",")` -/
theorem wktCoords_eq (pre : Str) (vs : List Str) (hpre : '(' ∉ pre) (hne : vs ≠ [])
    (hv : ∀ v ∈ vs, '(' ∉ v ∧ ')' ∉ v ∧ ',' ∉ v) :
    wktCoords (pre ++ ['('] ++ joinChar ',' vs ++ [')']) = .ok vs := by
  unfold wktCoords
  have hb1 : '(' ∉ joinChar ',' vs ++ [')'] := by
    intro hm
    rcases List.mem_append.1 hm with hm | hm
    · exact not_mem_joinChar (by decide) (fun v hv' => (hv v hv').1) hm
    · simp at hm
  have hb2 : ')' ∉ joinChar ',' vs := not_mem_joinChar (by decide) (fun v hv' => (hv v hv').2.1)
  have e1 : pre ++ ['('] ++ joinChar ',' vs ++ [')'] = pre ++ '(' :: (joinChar ',' vs ++ [')']) := by simp
  rw [e1, splitOnChar_append _ _ _ hpre, splitOnChar_of_not_mem _ _ hb1]
  have e2 : joinChar ',' vs ++ [')'] = joinChar ',' vs ++ ')' :: [] := rfl
  simp only [nth, List.getElem?_cons_succ, List.getElem?_cons_zero, bind, Except.bind, pure, Except.pure]
  rw [e2, splitOnChar_append _ _ _ hb2]
  simp only [List.getElem?_cons_zero]
  rw [splitOnChar_joinChar _ _ hne (fun v hv' => (hv v hv').2.2)]

theorem vertices_clean (ec : Char) (hec : isExpChar ec = true) (d : Nat) (pts : List Pt) :
    ∀ v ∈ pts.map (vertexStr ec d), '(' ∉ v ∧ ')' ∉ v ∧ ',' ∉ v := by
  have hc : vertexChar ec '(' = false ∧ vertexChar ec ')' = false ∧ vertexChar ec ',' = false := by
    rcases expChar_cases hec with rfl | rfl <;> decide
  intro v hv
  obtain ⟨p, _, rfl⟩ := List.mem_map.1 hv
  have := vertexStr_over ec d p
  exact ⟨this.not_mem hc.1, this.not_mem hc.2.1, this.not_mem hc.2.2⟩

/-- the characters of a WKT linestring text as `toWKT` writes it -/
def wktChar (c : Char) : Bool := vertexChar 'e' c || ['L', 'I', 'N', 'E', 'S', 'T', 'R', 'G', '(', ',', ')'].contains c

theorem toWKT_over (d : Nat) (pts : List Pt) : Over wktChar (toWKT d pts) := by
  rw [toWKT, toWKTE_eq]
  refine (Over.append (by decide) (Over.joinChar (by decide) ?_)).append (by decide)
  intro v hv
  obtain ⟨p, _, rfl⟩ := List.mem_map.1 hv
  exact (vertexStr_over 'e' d p).mono (fun c hc => by simp [wktChar, hc])

theorem wktCoords_toWKT (ec : Char) (hec : isExpChar ec = true) (d : Nat) (pts : List Pt) (hne : pts ≠ []) :
    wktCoords (toWKTE ec d pts) = .ok (pts.map (vertexStr ec d)) := by
  rw [toWKTE_eq]
  exact wktCoords_eq _ _ (by decide) (by simpa using hne) (vertices_clean ec hec d pts)

theorem map_joinChar (f : Char → Char) (c : Char) (l : List Str) :
    (joinChar c l).map f = joinChar (f c) (l.map (List.map f)) := by
  cases l with
  | nil => rfl
  | cons a r => simp [joinChar_eq, List.map_flatten, Function.comp_def]

theorem toUpper_num (s : Str) (h : Over numChar s) : s.map Char.toUpper = s := by
  have : ∀ c ∈ s, Char.toUpper c = id c := fun c hc => (numChar_props (h c hc)).2.2.2.2
  rw [List.map_congr_left this, List.map_id]

theorem toUpper_reprFloat (d : Nat) (v : SNum) : (reprFloat 'e' d v).map Char.toUpper = reprFloat 'E' d v := by
  unfold reprFloat
  split
  · rw [show (if v.neg then ['-'] else []) ++ sciMant (stripZeros v.mag) = sciHead v.neg (stripZeros v.mag) from rfl]
    rw [List.map_append, toUpper_num _ (sciHead_numChar _ _)]
    congr 1
    unfold expText
    rw [List.map_append, toUpper_num (zpad 2 _) (fun c hc => numChar_of_digit (zpad_digits _ _ c hc))]
    congr 1
    split <;> decide
  · split
    · exact toUpper_num _ (reprDecS_numChar _ _)
    · exact toUpper_num _ (reprDecS_numChar _ _)

theorem toUpper_vertices (d : Nat) (pts : List Pt) :
    (joinChar ',' (pts.map (vertexStr 'e' d))).map Char.toUpper = joinChar ',' (pts.map (vertexStr 'E' d)) := by
  rw [map_joinChar, List.map_map, show Char.toUpper ',' = ',' by decide]
  congr 1
  apply List.map_congr_left
  intro p _
  simp only [Function.comp, vertexStr, List.map_append, toUpper_reprFloat]
  rfl

theorem toUpper_toWKT (d : Nat) (pts : List Pt) : toUpper (toWKT d pts) = toWKTE 'E' d pts := by
  unfold toUpper toWKT
  rw [toWKTE_eq, toWKTE_eq, List.map_append, List.map_append, toUpper_vertices]
  rfl

/-- **T4 `wkt_roundtrip`** (model level) -/
theorem wkt_roundtrip (d : Nat) (pts : List Pt) (hne : pts ≠ []) :
    parseWkt (toWKT d pts) = .ok (pts.map (expVertex d)) := by
  unfold parseWkt
  rw [toUpper_toWKT]
  have htake : ((toWKTE 'E' d pts).take 4 == "LINE".toList) = true := by
    rw [toWKTE_eq, String.toList_ofList]
    rfl
  have hpoly : ((toWKTE 'E' d pts).take 4 == "POLY".toList) = false := by
    rw [toWKTE_eq, String.toList_ofList]
    rfl
  simp only [hpoly, Bool.false_eq_true, htake, ↓reduceIte, wktCoords_toWKT 'E' (by decide) d pts hne, bind, Except.bind]
  exact mapM_vertexStr 'E' (by decide) d pts

theorem splitOn2_of_not_mem (a b : Char) (s : Str) (h : a ∉ s) : splitOn2 a b s = [s] := by
  induction s using splitOn2.induct a b with
  | case1 => rfl
  | case2 x => rfl
  | case3 x y r hc ih =>
    exact absurd hc.1 (fun e => h (by simp [e]))
  | case4 x y r hc hnil ih =>
    have := ih (fun hm => h (by simp [hm]))
    rw [hnil] at this
    exact absurd this (by simp)
  | case5 x y r hc hd tl heq ih =>
    have := ih (fun hm => h (by simp [hm]))
    rw [heq] at this
    simp only [List.cons.injEq] at this
    unfold splitOn2
    simp only [hc, ↓reduceIte, heq]
    rw [this.1, this.2]

theorem splitOn2_append (a b : Char) (p r : Str) (h : a ∉ p) : splitOn2 a b (p ++ a :: b :: r) = p :: splitOn2 a b r := by
  induction p with
  | nil => simp [splitOn2]
  | cons x p' ih =>
    have hx : x ≠ a := fun e => h (by simp [e])
    have ih' := ih (fun hm => h (by simp [hm]))
    obtain ⟨y, rest, hy⟩ : ∃ y rest, p' ++ a :: b :: r = y :: rest := by
      cases p' with
      | nil => exact ⟨a, b :: r, rfl⟩
      | cons z zs => exact ⟨z, zs ++ a :: b :: r, rfl⟩
    rw [List.cons_append, hy]
    have hc : ¬ (x = a ∧ y = b) := fun c => hx c.1
    conv => lhs; unfold splitOn2
    simp only [hc, ↓reduceIte]
    rw [← hy, ih']

/-- a polygon in the canonical layout `POLYGON((x y,x y,…))` (one ring), as other tools write it -/
def toPolyWKT (ec : Char) (d : Nat) (pts : List Pt) : Str :=
  "POLYGON((".toList ++ joinChar ',' (pts.map (vertexStr ec d)) ++ "))".toList

theorem toPolyWKT_eq (ec : Char) (d : Nat) (pts : List Pt) :
    toPolyWKT ec d pts
      = ['P', 'O', 'L', 'Y', 'G', 'O', 'N'] ++ '(' :: '(' :: (joinChar ',' (pts.map (vertexStr ec d)) ++ ')' :: ')' :: []) := by
  unfold toPolyWKT
  rw [String.toList_ofList, String.toList_ofList]
  simp

/-- the coordinate list of a one-ring POLYGON text: `wkt.split("((")[1].split("))")[0].split(",")` -/
theorem wktCoordsPoly_eq (pre : Str) (vs : List Str) (hpre : '(' ∉ pre) (hne : vs ≠ [])
    (hv : ∀ v ∈ vs, '(' ∉ v ∧ ')' ∉ v ∧ ',' ∉ v) :
    wktCoordsPoly (pre ++ '(' :: '(' :: (joinChar ',' vs ++ ')' :: ')' :: [])) = .ok vs := by
  have hb1 : '(' ∉ joinChar ',' vs ++ [')', ')'] := by
    intro hm
    rcases List.mem_append.1 hm with hm | hm
    · exact not_mem_joinChar (by decide) (fun v hv' => (hv v hv').1) hm
    · revert hm; decide
  have hb2 : ')' ∉ joinChar ',' vs := not_mem_joinChar (by decide) (fun v hv' => (hv v hv').2.1)
  unfold wktCoordsPoly
  rw [splitOn2_append _ _ _ _ hpre, splitOn2_of_not_mem _ _ _ hb1]
  simp only [nth, List.getElem?_cons_succ, List.getElem?_cons_zero, bind, Except.bind, pure, Except.pure]
  rw [splitOn2_append _ _ _ _ hb2]
  simp only [List.getElem?_cons_zero]
  rw [splitOnChar_joinChar _ _ hne (fun v hv' => (hv v hv').2.2)]

theorem toUpper_toPolyWKT (d : Nat) (pts : List Pt) : toUpper (toPolyWKT 'e' d pts) = toPolyWKT 'E' d pts := by
  unfold toUpper
  simp only [toPolyWKT_eq, List.map_append, List.map_cons, toUpper_vertices]
  rfl

/-- a one-ring polygon text is parsed as the vertices of its ring -/
theorem polygon_parse (d : Nat) (pts : List Pt) (hne : pts ≠ []) :
    parseWkt (toPolyWKT 'e' d pts) = .ok (pts.map (expVertex d)) := by
  unfold parseWkt
  rw [toUpper_toPolyWKT]
  have htake : ((toPolyWKT 'E' d pts).take 4 == "POLY".toList) = true := by
    rw [toPolyWKT_eq, String.toList_ofList]
    rfl
  rw [toPolyWKT_eq] at htake ⊢
  simp only [htake, ↓reduceIte, wktCoordsPoly_eq ['P', 'O', 'L', 'Y', 'G', 'O', 'N'] _ (by decide) (by simpa using hne)
    (vertices_clean 'E' (by decide) d pts), bind, Except.bind]
  exact mapM_vertexStr 'E' (by decide) d pts

end TV.TextIO
