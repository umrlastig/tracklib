import TracklibVerif.Lemmas.GraphSession
/-! Lemmas for C06: what the calls of a session return, in terms of true distances — recorded entries of a search
stopped at a target, the visited set (`sub_network`), a table filled by several calls with the same dictionary. -/
namespace TV.Graph
variable {W : Type} [LinearOrder W] [Add W] [Zero W]

def TableSound (net : Net W) (tb : Table W) : Prop := ∀ s v y, tb (s, v) = some y → IsDist net s v y

theorem tableSound_empty (net : Net W) : TableSound net Table.empty := by
  intro s v y h; simp [Table.empty] at h

theorem exec_dist_eq (σ : Sess W) (h : SessOK σ) (s t : Nat) (hs : s ∈ σ.order) (ht : t ∈ σ.order) (cut : Option W)
    (ud : Bool) :
    (exec σ (.dist s t cut ud)).2 = .val (shortestDistance σ.net s t cut) ∧
    (exec σ (.dist s t cut ud)).1.udict =
      (if ud then record σ.udict s (runForward σ.net s (some t) cut).2 else σ.udict) ∧
    (exec σ (.dist s t cut ud)).1.prep = σ.prep := by
  simp only [exec, List.contains_iff_mem.2 hs, List.contains_iff_mem.2 ht, Bool.and_self, if_true,
    (routeOn_eq σ.net σ.order h.ends σ.flags h.clean s hs (some t) cut).1, and_true]
  rfl

theorem exec_distList_eq (σ : Sess W) (h : SessOK σ) (s : Nat) (hs : s ∈ σ.order) (cut : Option W) (ud : Bool) :
    (exec σ (.distList s cut ud)).2 = .vals (shortestDistanceList σ.net σ.order s cut) ∧
    (exec σ (.distList s cut ud)).1.udict =
      (if ud then record σ.udict s (runForward σ.net s none cut).2 else σ.udict) ∧
    (exec σ (.distList s cut ud)).1.prep = σ.prep := by
  simp only [exec, List.contains_iff_mem.2 hs, if_true, (routeOn_eq σ.net σ.order h.ends σ.flags h.clean s hs none cut).1,
    and_true]
  rfl

theorem exec_route_eq (σ : Sess W) (h : SessOK σ) (s : Nat) (hs : s ∈ σ.order) (t : Option Nat)
    (ht : ∀ t', t = some t' → t' ∈ σ.order) (cut : Option W) (ud : Bool) :
    (exec σ (.route s t cut ud)).2 =
      .flags (σ.order.map (runForward σ.net s t cut).1.d) (σ.order.map (runForward σ.net s t cut).1.vis) ∧
    (exec σ (.route s t cut ud)).1.udict = (if ud then record σ.udict s (runForward σ.net s t cut).2 else σ.udict) ∧
    (exec σ (.route s t cut ud)).1.prep = σ.prep := by
  have e := (routeOn_eq σ.net σ.order h.ends σ.flags h.clean s hs t cut).1
  cases t with
  | none => simp only [exec, List.contains_iff_mem.2 hs, Bool.and_true, if_true, e, and_true]
  | some t' => simp only [exec, List.contains_iff_mem.2 hs, List.contains_iff_mem.2 (ht t' rfl), Bool.and_self, if_true, e, and_true]

theorem exec_all_eq (σ : Sess W) (h : SessOK σ) (cut : Option W) (ud : Bool) :
    (exec σ (.all cut ud)).2 = .table (allShortestDistances σ.net σ.order cut (if ud then σ.udict else Table.empty)) ∧
    (exec σ (.all cut ud)).1.udict =
      (if ud then allShortestDistances σ.net σ.order cut σ.udict else σ.udict) ∧
    (exec σ (.all cut ud)).1.prep = σ.prep := by
  simp only [exec, (allOn_eq σ.net σ.order h.ends cut σ.flags (if ud then σ.udict else Table.empty) h.clean).1, and_true,
    true_and]
  cases ud <;> rfl

theorem exec_prepare_eq (σ : Sess W) (h : SessOK σ) (cut : Option W) :
    (exec σ (.prepare cut)).1.prep = some (prepare σ.net σ.order cut σ.prep) ∧
    (exec σ (.prepare cut)).1.udict = σ.udict := by
  simp only [exec, (allOn_eq σ.net σ.order h.ends cut σ.flags (σ.prep.getD Table.empty) h.clean).1, and_true]
  rfl

theorem exec_sub_eq (σ : Sess W) (h : SessOK σ) (s : Nat) (hs : s ∈ σ.order) (cut : Option W) :
    (exec σ (.sub s cut)).2 =
      .subnet ((subEdges σ.net (runForward σ.net s none cut).1).foldl (fun o e => addNodeTo (addNodeTo o e.src) e.tgt) [])
        ((subEdges σ.net (runForward σ.net s none cut).1).map (·.id)) ∧
    (exec σ (.sub s cut)).1.udict = σ.udict ∧ (exec σ (.sub s cut)).1.prep = σ.prep := by
  simp only [exec, List.contains_iff_mem.2 hs, if_true, (routeOn_eq σ.net σ.order h.ends σ.flags h.clean s hs none cut).1,
    and_true]

theorem exec_err (σ : Sess W) (op : Op W) (h : (exec σ op).2 = .err) : (exec σ op).1 = σ := by
  revert h
  fun_cases exec σ op <;> first | exact fun _ => rfl | nofun

variable [WalkAdd W]

/-- `all_shortest_distances(cut, output_dict)` on a dictionary that already has entries: the keys `(s, v)` within the
cut-off get the true distance (written or overwritten), every other key keeps what it had -/
theorem allShortestDistances_acc (net : Net W) (hnet : WFNet net) (order : List Nat) (horder : ∀ s ∈ order, s < net.n)
    (cut : Option W) (tb : Table W) (s v : Nat) (y : W) :
    allShortestDistances net order cut tb (s, v) = some y ↔
      ((s ∈ order ∧ IsDist net s v y ∧ Within cut y) ∨
       (tb (s, v) = some y ∧ ¬ (s ∈ order ∧ ∃ y', IsDist net s v y' ∧ Within cut y'))) := by
  unfold allShortestDistances
  rw [fold_record_apply]
  by_cases hs : s ∈ order
  · simp only [hs, if_true, true_and, Option.or_eq_some_iff, Option.eq_none_iff_forall_ne_some, ne_eq,
      look_runForward net hnet s (horder s hs) cut v, not_exists, and_comm (b := tb (s, v) = some y)]
  · simp only [hs, if_false, false_and, false_or, not_false_eq_true, and_true]

theorem record_sound (net : Net W) (hnet : WFNet net) (s : Nat) (hs : s < net.n) (tgt : Option Nat) (cut : Option W)
    (tb : Table W) (h : TableSound net tb) : TableSound net (record tb s (runForward net s tgt cut).2) := by
  intro s' v y hy
  rw [record_apply] at hy
  split at hy
  · rename_i e
    rcases Option.or_eq_some_iff.1 hy with hq | ⟨_, hq⟩
    · exact e ▸ ((runForward_entries net hnet s hs tgt cut).1 v y (look_mem hq)).1
    · exact h s' v y hq
  · exact h s' v y hy

theorem allShortestDistances_sound (net : Net W) (hnet : WFNet net) (order : List Nat) (horder : ∀ s ∈ order, s < net.n)
    (cut : Option W) (tb : Table W) (h : TableSound net tb) : TableSound net (allShortestDistances net order cut tb) := by
  intro s v y hy
  rcases (allShortestDistances_acc net hnet order horder cut tb s v y).1 hy with ⟨_, hd, _⟩ | ⟨h', _⟩
  · exact hd
  · exact h s v y h'

end TV.Graph
