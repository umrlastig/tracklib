import TracklibVerif.Lemmas.Features
/-! Facts about the specification table (`ATab`): what is read after each primitive write, and the purge of
the evaluator's temporaries. They are transported to the code's table through the simulation. -/
namespace TV.Features
variable {V : Type}

def anames (a : ATab V) : List String := a.cols.map Prod.fst

theorem lookup_filter_ne (cols : List (String × List V)) (nm m : String) (hne : m ≠ nm) :
    lookup (cols.filter (fun p => !(p.1 == nm))) m = lookup cols m := (Common.assoc_filter cols nm m).trans (if_neg hne)

theorem lookup_filter_self (cols : List (String × List V)) (nm : String) :
    lookup (cols.filter (fun p => !(p.1 == nm))) nm = none := (Common.assoc_filter cols nm nm).trans (if_pos rfl)

theorem lookup_append_new (cols : List (String × List V)) (nm m : String) (c : List V)
    (hnew : lookup cols nm = none) :
    lookup (cols ++ [(nm, c)]) m = if m = nm then some c else lookup cols m :=
  Common.assoc_append_new cols nm c m hnew

theorem lookup_replaceCol (cols : List (String × List V)) (nm m : String) (c : List V) :
    lookup (replaceCol cols nm c) m = if m = nm then (lookup cols nm).map (fun _ => c) else lookup cols m := by
  have : replaceCol cols nm c = cols.map (fun p => (p.1, if p.1 == nm then c else p.2)) := by
    unfold replaceCol; apply List.map_congr_left; intro p _; split <;> rfl
  show Common.assoc _ m = _
  rw [this, Common.assoc_map cols (fun k v => if k == nm then c else v)]
  by_cases h : m = nm
  · subst h; simp only [beq_self_eq_true, if_true]; rfl
  · simp only [beq_iff_eq, h, if_false, Option.map_id']; rfl

theorem lookup_mem (cols : List (String × List V)) (nm : String) (c : List V) (h : lookup cols nm = some c) :
    ∃ p ∈ cols, p.2 = c := by
  obtain ⟨p, hp, rfl⟩ := Option.map_eq_some_iff.mp h
  exact ⟨p, List.mem_of_find?_eq_some hp, rfl⟩

theorem removeA_ok (a : ATab V) (nm : String) (h : (lookup a.cols nm).isSome = true) :
    removeA nm a = (.ok (), { a with cols := a.cols.filter (fun p => !(p.1 == nm)) }) := by
  unfold removeA hasA
  simp only [h, Bool.true_or, Bool.not_true, Bool.false_eq_true, if_false]
  cases hl : lookup a.cols nm with
  | none => rw [hl] at h; cases h
  | some c => rfl

theorem purge_loop (l : List String) (a : ATab V) (hnd : l.Nodup)
    (hmem : ∀ x ∈ l, isHash x = true → x ∈ anames a) (hall : ∀ x ∈ anames a, isHash x = true → x ∈ l) :
    M.forEach l (fun af => if isHash af = true then removeA af else (pure () : M (ATab V) Unit)) a
      = (.ok (), { a with cols := a.cols.filter (fun p => !isHash p.1) }) := by
  induction l generalizing a with
  | nil =>
    have : a.cols.filter (fun p => !isHash p.1) = a.cols :=
      List.filter_eq_self.mpr fun p hp => by
        cases hh : isHash p.1 with
        | false => rfl
        | true => exact absurd (hall p.1 (List.mem_map_of_mem hp) hh) List.not_mem_nil
    simp only [M.forEach, this]; rfl
  | cons x t ih =>
    obtain ⟨hxt, hnd'⟩ := List.nodup_cons.mp hnd
    unfold M.forEach
    by_cases hx : isHash x = true
    · have hn : ∀ y, y ∈ anames { a with cols := a.cols.filter (fun p => !(p.1 == x)) } ↔ y ∈ anames a ∧ y ≠ x := by
        intro y
        simp only [anames, List.mem_map, List.mem_filter]
        constructor
        · rintro ⟨p, ⟨hp, hpx⟩, rfl⟩; exact ⟨⟨p, hp, rfl⟩, by simpa using hpx⟩
        · rintro ⟨⟨p, hp, rfl⟩, hne⟩; exact ⟨p, ⟨hp, by simpa using hne⟩, rfl⟩
      rw [bind_of_ok (by rw [if_pos hx]; exact removeA_ok a x ((lookup_isSome_iff _ _).mpr (hmem x (by simp) hx))),
        ih _ hnd' (fun y hy hhy => (hn y).mpr ⟨hmem y (by simp [hy]) hhy, fun e => hxt (e ▸ hy)⟩)
          (fun y hy hhy => by
            obtain ⟨hya, hne⟩ := (hn y).mp hy
            exact (List.mem_cons.mp (hall y hya hhy)).resolve_left hne)]
      -- dropping `x` first changes nothing: `x` is a `#` name
      congr 2
      rw [List.filter_filter]
      apply List.filter_congr
      intro p _
      by_cases hp : p.1 = x
      · simp [hp, hx]
      · simp [hp]
    · rw [bind_of_ok (s' := a) (by rw [if_neg hx]; rfl)]
      exact ih _ hnd' (fun y hy => hmem y (by simp [hy])) (fun y hy hhy =>
        (List.mem_cons.mp (hall y hy hhy)).resolve_left (fun e => hx (e ▸ hhy)))

theorem purge_spec (a : ATab V) (hnd : (anames a).Nodup) :
    purge (σ := ATab V) a = (.ok (), { a with cols := a.cols.filter (fun p => !isHash p.1) }) := by
  unfold purge
  rw [bind_of_ok (show Tbl.names a = (.ok (anames a), a) from rfl)]
  exact purge_loop (anames a) a hnd (fun x hx _ => hx) (fun x hx _ => hx)

theorem getA_snd (o : Ops V) (nm : String) (a : ATab V) : (getA o nm a).2 = a := by
  fun_cases getA o nm a <;> rfl

theorem getObsA_snd (o : Ops V) (nm : String) (i : Nat) (a : ATab V) : (getObsA o nm i a).2 = a := by
  fun_cases getObsA o nm i a <;> rfl

/-- what `getAnalyticalFeature(m)` returns (outcome and column) -/
def aread (o : Ops V) (a : ATab V) (m : String) : Except Err (List V) := (getA o m a).1
def read (o : Ops V) (st : St V) (m : String) : Except Err (List V) := (getC o m st).1

theorem coord?_of_not_reserved {m : String} (h : reserved m = false) :
    coord? m = none ∧ (m == "timestamp") = false ∧ (m == "idx") = false := by
  unfold reserved at h
  simp only [Bool.or_eq_false_iff] at h
  obtain ⟨⟨⟨⟨⟨hx, hy⟩, hz⟩, ht⟩, hts⟩, hi⟩ := h
  unfold coord?
  simp [hx, hy, hz, ht, hts, hi]

theorem aread_feature (o : Ops V) (a : ATab V) {m : String} (h : reserved m = false) :
    aread o a m = match lookup a.cols m with
      | none => .error .unknown
      | some c => .ok c := by
  obtain ⟨h1, h2, h3⟩ := coord?_of_not_reserved h
  unfold aread getA
  simp only [h1, h2, h3, Bool.false_eq_true, if_false]
  cases lookup a.cols m <;> rfl

section
variable [Inhabited V] {n : Nat}

/-- the column a successful create / update / bracket assignment writes -/
def initCol (k : Nat) : Init V → List V
  | .scalar v => List.replicate k v
  | .list l => l.take k

end

theorem createA_new (a : ATab V) (nm : String) (init : Init V) (hr : reserved nm = false) (hs : a.size ≠ 0)
    (hnew : lookup a.cols nm = none)
    (hok : match init with | .scalar _ => True | .list l => a.size ≤ l.length) :
    createA nm init a = (.ok (), { a with cols := a.cols ++ [(nm, initCol a.size init)] }) := by
  unfold createA hasA
  have hs' : (a.size == 0) = false := by simpa using hs
  simp only [hr, hs', hnew, Option.isSome_none, Bool.or_false, Bool.false_eq_true, if_false]
  cases init with
  | scalar v => rfl
  | list l =>
    simp only at hok
    have : ¬ l.length < a.size := by omega
    simp only [this, if_false, initCol]

theorem createA_existing (a : ATab V) (nm : String) (init : Init V) (hr : reserved nm = false) (hs : a.size ≠ 0)
    (hex : (lookup a.cols nm).isSome = true) : createA nm init a = (.ok (), a) := by
  unfold createA hasA
  have hs' : (a.size == 0) = false := by simpa using hs
  simp only [hr, hs', hex, Bool.or_false, Bool.false_eq_true, if_false, if_true]

theorem updateA_ok (a : ATab V) (nm : String) (init : Init V) (col : List V) (hs : a.size ≠ 0)
    (hl : lookup a.cols nm = some col) (hc : col.length = a.size)
    (hok : match init with | .scalar _ => True | .list l => a.size ≤ l.length) :
    updateA nm init a = (.ok (), { a with cols := replaceCol a.cols nm (initCol a.size init) }) := by
  unfold updateA hasA
  have hs' : (a.size == 0) = false := by simpa using hs
  simp only [hl, Option.isSome_some, Bool.true_or, Bool.not_true, Bool.false_eq_true, if_false, hs']
  cases init with
  | scalar v => simp only [hc, initCol]
  | list l =>
    simp only at hok
    have : ¬ l.length < a.size := by omega
    simp only [this, if_false, initCol, overwrite, hc]
    rw [List.drop_eq_nil_of_le (by omega), List.append_nil]

theorem setObsA_ok (a : ATab V) (nm : String) (i : Nat) (v : V) (col : List V) (hr : reserved nm = false)
    (hl : lookup a.cols nm = some col) (hi : i < col.length) :
    setObsA nm i v a = (.ok (), { a with cols := replaceCol a.cols nm (col.set i v) }) := by
  unfold reserved at hr
  simp only [Bool.or_eq_false_iff] at hr
  obtain ⟨⟨⟨⟨⟨hx, hy⟩, hz⟩, _⟩, _⟩, _⟩ := hr
  unfold setObsA
  simp only [hx, hy, hz, Bool.or_false, Bool.false_eq_true, if_false, hl, hi, if_true]

variable [Inhabited V] {n : Nat}

theorem names_abs (st : St V) : anames (abs st) = names st := by simp [anames, abs, names]

theorem tryFinally_snd {σ α : Type} (m : M σ α) (fin : M σ Unit) (s : σ) :
    (M.tryFinally m fin s).2 = (fin (m s).2).2 := by
  fun_cases M.tryFinally m fin s <;> simp [*]

/-- `operate(str)`, returning or raising, leaves the table the evaluation left, without its `#` columns -/
theorem expr_purged (o : Ops V) (rpn : List String) (st : St V) (h : Inv n st) :
    abs (step o (.expr rpn) st).2 = { abs (evaluate o rpn st).2 with
      cols := (abs (evaluate o rpn st).2).cols.filter (fun p => !isHash p.1) } := by
  have hev := gsim_evaluate (I := Inv n) (ab := abs) o rpn st h
  have e : (step (σ := ATab V) o (Op.expr rpn) (abs st)).2
      = (purge (σ := ATab V) (evaluate (σ := ATab V) o rpn (abs st)).2).2 := tryFinally_snd _ _ _
  -- the table after the evaluation is aligned, hence has distinct names: the purge meets each `#` name once
  rwa [(gsim_step (I := Inv n) (ab := abs) o (.expr rpn) st h).2.1, hev.2.1,
    purge_spec _ (by rw [names_abs]; exact hev.1.nodup)] at e

theorem read_abs (o : Ops V) {st : St V} (h : Inv n st) (m : String) : read o st m = aread o (abs st) m := by
  have := (sim_get o m st h).2.1
  unfold read aread
  rw [this]

/-- what a simulated primitive `m` leaves is read on the specification table: if the specification `ma` answers `r` and
leaves `a'` on `abs st`, then `m` answers `r` and every name reads after `m` as it reads on `a'` -/
theorem read_after {α : Type} {P : α → Prop} {m : M (St V) α} {ma : M (ATab V) α} (hs : Sim n P m ma) (o : Ops V)
    {st : St V} (h : Inv n st) {r : Except Err α} {a' : ATab V} (hA : ma (abs st) = (r, a')) :
    (m st).1 = r ∧ abs (m st).2 = a' ∧ ∀ k, read o (m st).2 k = aread o a' k := by
  obtain ⟨hi, e, _⟩ := hs st h
  obtain ⟨rfl, rfl⟩ := Prod.mk.inj (e.symm.trans hA)
  exact ⟨rfl, rfl, read_abs o hi⟩

end TV.Features
