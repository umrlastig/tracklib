import TracklibVerif.Lemmas.SimplifyVw
import Mathlib.Order.Defs.LinearOrder
/-! Visvalingam's threshold over a linearly ordered scalar type **with arbitrary arithmetic** (nothing is assumed about
`+ − × ÷ ==`: they may round; only `<` is a linear order): on a column without NaN `Operator.ARGMIN` designates a smallest entry, so when
the loop stops by `break` every remaining interior fix spans with its neighbours a triangle of *computed* area `> eps²`. -/
namespace TV.Simplify
variable {α : Type} [Add α] [Sub α] [Mul α] [Div α] [Neg α] [BEq α] [OfNat α 0] [OfNat α 1] [OfNat α 2] [LinearOrder α]

section
omit [Add α] [Sub α] [Mul α] [Div α] [Neg α] [OfNat α 0] [OfNat α 1] [OfNat α 2]

/-- ARGMIN's scan under a linear order. `H`: as long as no index is recorded every number of the column is below the running
minimum or `==` to it — then the first number is taken, by `<` or by the clause `idmin is None and val == minimum`, whatever `==` is,
and from there on the scan is strict. Either the initial index comes back and no number is below the running minimum, or the index
returned holds a number that no other number of the column undercuts (below the running minimum, if an index was recorded before). -/
theorem argminLoop_min (col : List (Option α)) (i : Nat) (m : α) (id0 : Option Nat)
    (H : id0 = none → ∀ v, some v ∈ col → v < m ∨ (v == m) = true) :
    (argminLoop col i m id0 = id0 ∧ ∀ v, some v ∈ col → m ≤ v) ∨
    (∃ (k : Nat) (w : α), argminLoop col i m id0 = some k ∧ (some w, k) ∈ col.zipIdx i ∧ (id0 ≠ none → w < m) ∧
      ∀ v, some v ∈ col → w ≤ v) := by
  fun_induction argminLoop col i m id0 with
  | case1 => exact Or.inl ⟨rfl, fun v hv => by cases hv⟩
  | case2 rest i m id0 ih =>
    have tl : ∀ v, some v ∈ none :: rest → some v ∈ rest :=
      fun v hv => (List.mem_cons.mp hv).resolve_left (fun e => by cases e)
    rcases ih (fun e v hv => H e v (List.mem_cons_of_mem _ hv)) with ⟨e, h⟩ | ⟨k, w, e, hw, hlt, h⟩
    · exact Or.inl ⟨e, fun v hv => h v (tl v hv)⟩
    · exact Or.inr ⟨k, w, e, List.mem_cons_of_mem _ hw, hlt, fun v hv => h v (tl v hv)⟩
  | case3 x rest i m id0 hc ih =>
    have hxm : id0 ≠ none → x < m := fun hid => hc.resolve_right fun a => hid a.1
    right
    rcases ih (fun e => by cases e) with ⟨e, h⟩ | ⟨k, w, e, hw, hlt, h⟩
    · exact ⟨i, x, e, List.mem_cons_self, hxm, fun v hv => (List.mem_cons.mp hv).elim (fun ev => by cases ev; exact le_refl _) (h v)⟩
    · have hlt := hlt nofun
      exact ⟨k, w, e, List.mem_cons_of_mem _ hw, fun hid => lt_trans hlt (hxm hid),
        fun v hv => (List.mem_cons.mp hv).elim (fun ev => by cases ev; exact le_of_lt hlt) (h v)⟩
  | case4 x rest i m id0 hc ih =>
    have hid : id0 ≠ none := fun e => hc ((H e x List.mem_cons_self).imp id fun q => ⟨e, q⟩)
    have hmx : m ≤ x := not_lt.mp fun a => hc (Or.inl a)
    rcases ih (fun e => absurd e hid) with ⟨e, h⟩ | ⟨k, w, e, hw, hlt, h⟩
    · exact Or.inl ⟨e, fun v hv => (List.mem_cons.mp hv).elim (fun ev => by cases ev; exact hmx) (h v)⟩
    · exact Or.inr ⟨k, w, e, List.mem_cons_of_mem _ hw, hlt,
        fun v hv => (List.mem_cons.mp hv).elim (fun ev => by cases ev; exact le_of_lt (lt_of_lt_of_le (hlt hid) hmx)) (h v)⟩

theorem argmin_min (big : α) (col : List (Option α)) (h : ∀ v, some v ∈ col → v < big ∨ (v == big) = true)
    (hne : ∃ v, some v ∈ col) :
    ∃ w, col[argmin big col]? = some (some w) ∧ ∀ v, some v ∈ col → w ≤ v := by
  rcases argminLoop_min col 0 big none (fun _ => h) with ⟨e, _⟩ | ⟨k, w, e, hw, _, hmin⟩
  · obtain ⟨v, hv⟩ := hne
    obtain ⟨k, _, e', _⟩ := argminLoop_hit col 0 big none ⟨v, hv, (h v hv).imp id fun q => ⟨rfl, q⟩⟩
    cases e.symm.trans e'
  · exact ⟨w, by rw [argmin, e]; exact List.mem_zipIdx_iff_getElem?.mp hw, hmin⟩

end

section
omit [Add α] [Neg α]

/-- when the loop has stopped (`vwStep = none`) on the initial column of `K`, no triangle area of which is NaN (strictly below ARGMIN's
start value: T10's hypothesis; equal to it: found all the same), every interior fix of `K` spans with its two neighbours a triangle of
area `> eps2`: the loop stopped by `break`, on ARGMIN's entry, a smallest number of the column -/
theorem vwInit_stop_above (big eps2 : α) (K : List (Fix α))
    (hnum : NumAreas big K) (hstop : vwStep big eps2 (vwInit K) = none) (i : Nat) (p0 p1 p2 : Fix α) (h0 : 0 < i)
    (e0 : K[i - 1]? = some p0) (e1 : K[i]? = some p1) (e2 : K[i + 1]? = some p2) :
    eps2 < areaFix p0 p1 p2 := by
  have hi1 : i + 1 < K.length := (List.getElem?_eq_some_iff.mp e2).1
  obtain ⟨q0, q1, q2, f0, f1, f2, hm⟩ := vwInit_mid K i h0 hi1
  rw [e0] at f0; rw [e1] at f1; rw [e2] at f2; cases f0; cases f1; cases f2
  have hmem : some (areaFix p0 p1 p2) ∈ (vwInit K).map (·.2) := List.mem_map.mpr ⟨_, List.mem_of_getElem? hm, rfl⟩
  obtain ⟨p, w, e, hw⟩ := vwStep_none hstop (by rw [vwInit_length]; omega)
  obtain ⟨w', ew, hmin⟩ := argmin_min big ((vwInit K).map (·.2)) (fun v hv => by
    obtain ⟨e', he', hc'⟩ := List.mem_map.mp hv
    exact vwInit_area (P := fun v => v < big ∨ (v == big) = true) K hnum he' hc') ⟨_, hmem⟩
  rw [List.getElem?_map, e] at ew
  obtain rfl : w = w' := Option.some.inj (Option.some.inj ew)
  exact lt_of_lt_of_le hw (hmin _ hmem)

end

end TV.Simplify
