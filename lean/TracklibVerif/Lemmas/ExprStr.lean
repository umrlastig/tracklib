import TracklibVerif.Model.Expr
/-! # Fuel-free characterisations of the Python string primitives of `Model/Expr.lean`

`pat in s` is `pat <:+: s`; `replace s pat rep` when `pat` does not occur, for a one-character pattern (a `flatMap`),
for a two-character pattern (`rep2`, structural) and for sequences of such passes (`runP`: a homomorphism at a clean
cut); `s.split(sep)` with one occurrence of a two-character separator; adjacency chains (`chn`) as the tool that shows
that a pattern does not occur. Core Lean only. -/
namespace TV.Expr

theorem contains_iff_infix {pat : Str} : ∀ {s : Str}, contains pat s = true ↔ pat <:+: s
  | [] => by simp [contains, List.isEmpty_iff]
  | c :: cs => by
    rw [contains, Bool.or_eq_true, List.isPrefixOf_iff_prefix, contains_iff_infix, List.infix_cons_iff]

theorem contains_decomp {pat s : Str} (h : contains pat s = true) : ∃ p q, s = p ++ pat ++ q :=
  let ⟨p, q, e⟩ := contains_iff_infix.mp h
  ⟨p, q, e.symm⟩

theorem contains_of_decomp (pat p q : Str) : contains pat (p ++ pat ++ q) = true :=
  contains_iff_infix.mpr ⟨p, q, rfl⟩

theorem contains_false_of_not_mem {c : Char} {pat s : Str} (hc : c ∈ pat) (h : c ∉ s) : contains pat s = false :=
  Bool.eq_false_iff.mpr fun hp => h ((contains_iff_infix.mp hp).mem hc)

theorem contains_single_true {c : Char} {s : Str} (h : c ∈ s) : contains [c] s = true := by
  obtain ⟨p, q, rfl⟩ := List.append_of_mem h
  simpa using contains_of_decomp [c] p q

theorem contains_single_false {c : Char} {s : Str} (h : c ∉ s) : contains [c] s = false :=
  contains_false_of_not_mem (List.mem_singleton_self c) h

theorem replaceAux_nil (pat rep : Str) (f : Nat) : replaceAux pat rep f [] = [] := by
  cases f <;> rfl

theorem replaceAux_absent (pat rep : Str) : ∀ (s : Str), contains pat s = false → ∀ f, replaceAux pat rep f s = s
  | [], _, f => replaceAux_nil pat rep f
  | c :: cs, h, f => by
    simp only [contains, Bool.or_eq_false_iff] at h
    cases f with
    | zero => rfl
    | succ f =>
      simp only [replaceAux, h.1, Bool.false_eq_true, if_false]
      rw [replaceAux_absent pat rep cs h.2 f]

theorem replace_absent (s pat rep : Str) (h : contains pat s = false) : replace s pat rep = s := by
  unfold replace
  split
  · rfl
  · exact replaceAux_absent pat rep s h _

theorem replace_absent_char {s : Str} {c : Char} (rep : Str) (h : c ∉ s) : replace s [c] rep = s :=
  replace_absent s [c] rep (contains_single_false h)

theorem splitAux_absent (sep : Str) : ∀ (s : Str), contains sep s = false → ∀ (f : Nat) (acc : Str),
    splitAux sep f acc s = [acc.reverse ++ s]
  | [], _, f, acc => by cases f <;> simp [splitAux]
  | c :: cs, h, f, acc => by
    simp only [contains, Bool.or_eq_false_iff] at h
    cases f with
    | zero => rfl
    | succ f =>
      simp only [splitAux, h.1, Bool.false_eq_true, if_false]
      rw [splitAux_absent sep cs h.2 f (c :: acc)]
      simp

theorem splitAux_once (a b : Char) (x : Str) (hx : contains [a, b] x = false) : ∀ (l : Str), a ∉ l →
    ∀ (f : Nat) (acc : Str), l.length < f → splitAux [a, b] f acc (l ++ a :: b :: x) = [acc.reverse ++ l, x]
  | [], _, f, acc, hf => by
    obtain ⟨f', rfl⟩ : ∃ f', f = f' + 1 := ⟨f - 1, by simp at hf; omega⟩
    simp only [List.nil_append, splitAux, List.isPrefixOf, beq_self_eq_true, Bool.and_self, if_true,
      List.length_cons, List.length_nil, List.drop_succ_cons, List.drop_zero, List.append_nil]
    rw [splitAux_absent _ x hx]
    rfl
  | c :: l, ha, f, acc, hf => by
    obtain ⟨f', rfl⟩ : ∃ f', f = f' + 1 := ⟨f - 1, by simp at hf; omega⟩
    have hc : (a == c) = false := by simpa using fun e => ha (by simp [e])
    have hl : a ∉ l := fun e => ha (List.mem_cons_of_mem _ e)
    simp only [List.cons_append, splitAux, List.isPrefixOf, hc, Bool.false_and, Bool.false_eq_true, if_false]
    rw [splitAux_once a b x hx l hl f' (c :: acc) (by simp at hf; omega)]
    simp

theorem splitOn_once (a b : Char) (l x : Str) (ha : a ∉ l) (hx : contains [a, b] x = false) :
    splitOn (l ++ a :: b :: x) [a, b] = [l, x] := by
  unfold splitOn
  rw [splitAux_once a b x hx l ha _ [] (by simp; omega)]
  rfl

/-- the character map of `s.replace(c, rep)` -/
def fm (c : Char) (rep : Str) : Char → Str := fun d => if d = c then rep else [d]

theorem fm_self (c : Char) (rep : Str) : fm c rep c = rep := by simp [fm]
theorem fm_ne {c d : Char} (rep : Str) (h : d ≠ c) : fm c rep d = [d] := by simp [fm, h]

theorem replaceAux_one (c : Char) (rep : Str) : ∀ (f : Nat) (s : Str), s.length < f →
    replaceAux [c] rep f s = s.flatMap (fm c rep)
  | 0, _, h => by omega
  | f+1, [], _ => rfl
  | f+1, d :: ds, h => by
    have hl : ds.length < f := by simp at h; omega
    have ih := replaceAux_one c rep f ds hl
    by_cases hd : d = c
    ·       simp only [replaceAux, List.flatMap_cons, List.isPrefixOf, hd, beq_self_eq_true, Bool.and_true, if_true,
        List.length_singleton, List.drop_succ_cons, List.drop_zero, ih, fm_self]
    · have hb : (c == d) = false := by simpa using fun h => hd h.symm
      simp only [replaceAux, List.flatMap_cons, List.isPrefixOf, hb, Bool.false_and, Bool.false_eq_true, if_false, ih,
        fm_ne rep hd, List.cons_append, List.nil_append]

theorem replace_one (s : Str) (c : Char) (rep : Str) : replace s [c] rep = s.flatMap (fm c rep) := by
  unfold replace
  simp only [List.isEmpty_cons, Bool.false_eq_true, if_false]
  exact replaceAux_one c rep _ s (by omega)

theorem flatMap_fm_absent {c : Char} {rep : Str} : ∀ {s : Str}, c ∉ s → s.flatMap (fm c rep) = s
  | [], _ => rfl
  | d :: ds, h => by
    have hd : d ≠ c := fun e => h (by simp [e])
    have hds : c ∉ ds := fun e => h (by simp [e])
    simp only [List.flatMap_cons, fm_ne rep hd, flatMap_fm_absent hds, List.cons_append, List.nil_append]

/-- `s.replace(a+b, rep)`, left to right, non-overlapping; structural -/
def rep2 (a b : Char) (rep : Str) : Str → Str
  | [] => []
  | [x] => [x]
  | x :: y :: rest => if (a == x && b == y) = true then rep ++ rep2 a b rep rest else x :: rep2 a b rep (y :: rest)

theorem replaceAux_two (a b : Char) (rep : Str) : ∀ (f : Nat) (s : Str), s.length < f →
    replaceAux [a, b] rep f s = rep2 a b rep s
  | 0, _, h => by omega
  | f+1, [], _ => rfl
  | f+1, [x], _ => by
    simp only [replaceAux, List.isPrefixOf, Bool.and_false, Bool.false_eq_true, if_false, replaceAux_nil, rep2]
  | f+1, x :: y :: r, h => by
    have h1 : (y :: r).length < f := by simp at h ⊢; omega
    have h2 : r.length < f := by simp at h; omega
    simp only [replaceAux, List.isPrefixOf, Bool.and_true, rep2]
    split
    · simp only [List.length_cons, List.length_nil, List.drop_succ_cons, List.drop_zero]
      rw [replaceAux_two a b rep f r h2]
    · rw [replaceAux_two a b rep f (y :: r) h1]

theorem replace_two (s : Str) (a b : Char) (rep : Str) : replace s [a, b] rep = rep2 a b rep s := by
  unfold replace
  simp only [List.isEmpty_cons, Bool.false_eq_true, if_false]
  exact replaceAux_two a b rep _ s (by omega)

theorem rep2_absent_left {a b : Char} {rep : Str} : ∀ {s : Str}, a ∉ s → rep2 a b rep s = s
  | [], _ => rfl
  | [x], _ => rfl
  | x :: y :: r, h => by
    have hx : (a == x) = false := by simpa using fun e => h (by simp [e])
    have : a ∉ y :: r := fun e => h (List.mem_cons_of_mem _ e)
    simp only [rep2, hx, Bool.false_and, Bool.false_eq_true, if_false]
    rw [rep2_absent_left this]

theorem mem_rep2_of_ne {a b c : Char} (rep : Str) (ha : c ≠ a) (hb : c ≠ b) : ∀ {s : Str}, c ∈ s → c ∈ rep2 a b rep s
  | [x], h => h
  | x :: y :: r, h => by
    simp only [rep2]
    split
    · next hm =>
      simp only [Bool.and_eq_true, beq_iff_eq] at hm
      have : c ∈ r := by
        rcases List.mem_cons.mp h with rfl | h
        · exact absurd hm.1.symm ha
        · rcases List.mem_cons.mp h with rfl | h
          · exact absurd hm.2.symm hb
          · exact h
      exact List.mem_append_right _ (mem_rep2_of_ne rep ha hb this)
    · rcases List.mem_cons.mp h with rfl | h
      · exact List.mem_cons_self
      · exact List.mem_cons_of_mem _ (mem_rep2_of_ne rep ha hb h)

/-- `rep2` is compositional as long as the cut does not fall inside an occurrence -/
theorem rep2_append (a b : Char) (rep : Str) : ∀ (s t : Str),
    (s.getLast? ≠ some a ∨ t.head? ≠ some b) → rep2 a b rep (s ++ t) = rep2 a b rep s ++ rep2 a b rep t
  | [], t, _ => rfl
  | [x], [], _ => rfl
  | [x], y :: t, hj => by
    have : ¬ ((a == x && b == y) = true) := by
      intro h
      simp only [Bool.and_eq_true, beq_iff_eq] at h
      rcases hj with hj | hj
      · exact hj (by simp [h.1])
      · exact hj (by simp [h.2])
    have hb : (a == x && b == y) = false := by simpa using this
    simp only [List.cons_append, List.nil_append, rep2, hb, Bool.false_eq_true, if_false]
  | x :: y :: r, t, hj => by
    simp only [List.cons_append, rep2]
    split
    · have hj' : r.getLast? ≠ some a ∨ t.head? ≠ some b := by
        cases r with
        | nil => left; simp
        | cons z r' => simpa using hj
      rw [rep2_append a b rep r t hj', List.append_assoc]
    · have hj' : (y :: r).getLast? ≠ some a ∨ t.head? ≠ some b := by simpa using hj
      have := rep2_append a b rep (y :: r) t hj'
      simp only [List.cons_append] at this
      rw [this]; rfl

theorem rep2_prefix {a b : Char} (rep : Str) {p : Str} (h : a ∉ p) (t : Str) : rep2 a b rep (p ++ t) = p ++ rep2 a b rep t := by
  rw [rep2_append a b rep p t (Or.inl fun hl => h (List.mem_of_getLast? hl)), rep2_absent_left h]

theorem rep2_cons_ne {a b x : Char} (rep : Str) (h : x ≠ a) (t : Str) : rep2 a b rep (x :: t) = x :: rep2 a b rep t := by
  have := rep2_append a b rep [x] t (Or.inl (by simpa using h))
  simpa [rep2] using this

theorem rep2_snoc_ne {a b x : Char} (rep : Str) (h : x ≠ b) (s : Str) : rep2 a b rep (s ++ [x]) = rep2 a b rep s ++ [x] := by
  rw [rep2_append a b rep s [x] (Or.inr (by simpa using h))]; rfl

theorem rep2_head_keep {a b : Char} {rep : Str} : ∀ {s : Str} {y : Char}, s.head? = some y →
    (y ≠ a ∨ rep.head? = some a) → (rep2 a b rep s).head? = some y
  | [x], y, h, _ => h
  | x :: z :: r, y, h, hk => by
    simp only [List.head?_cons, Option.some.injEq] at h
    subst h
    by_cases hm : (a == x && b == z) = true
    · have hx : a = x := by simp only [Bool.and_eq_true, beq_iff_eq] at hm; exact hm.1
      subst hx
      rcases hk with hk | hk
      · exact absurd rfl hk
      · simp only [rep2, hm, if_true, List.head?_append, hk, Option.some_or]
    · simp only [rep2, hm, Bool.false_eq_true, if_false, List.head?_cons]

theorem rep2_last_keep {a b : Char} (rep : Str) {s : Str} {x : Char} (h : s.getLast? = some x) (hx : x ≠ b) :
    (rep2 a b rep s).getLast? = some x := by
  rcases List.eq_nil_or_concat s with rfl | ⟨s', l, rfl⟩
  · simp at h
  · rw [List.concat_eq_append] at h ⊢
    have hl : l = x := by simpa using h
    subst hl
    rw [rep2_snoc_ne rep hx]; simp

def runP (ps : List (Char × Char × Str)) (s : Str) : Str := ps.foldl (fun s p => rep2 p.1 p.2.1 p.2.2 s) s

/-- `y` ends no pattern, so no pass sees across the cut (`rep2_append`); and every pass leaves `y` in front (it starts no
    pattern, or the replacement starts with it), so the right side still starts with `y` for the next pass. -/
theorem runP_cut_right (y : Char) : ∀ (ps : List (Char × Char × Str)) (A B : Str), B.head? = some y →
    (∀ p ∈ ps, y ≠ p.2.1 ∧ (y ≠ p.1 ∨ p.2.2.head? = some p.1)) →
    runP ps (A ++ B) = runP ps A ++ runP ps B
  | [], _, _, _, _ => rfl
  | p :: ps, A, B, hB, h => by
    obtain ⟨h1, h2⟩ := h p (List.mem_cons_self)
    have e : rep2 p.1 p.2.1 p.2.2 (A ++ B) = rep2 p.1 p.2.1 p.2.2 A ++ rep2 p.1 p.2.1 p.2.2 B :=
      rep2_append _ _ _ A B (Or.inr (by rw [hB]; intro e; exact h1 (Option.some.inj e)))
    have := runP_cut_right y ps (rep2 p.1 p.2.1 p.2.2 A) (rep2 p.1 p.2.1 p.2.2 B) (rep2_head_keep hB h2)
      (fun q hq => h q (List.mem_cons_of_mem _ hq))
    simpa only [runP, List.foldl_cons, e] using this

theorem runP_cut_left (x : Char) : ∀ (ps : List (Char × Char × Str)) (A B : Str), A.getLast? = some x →
    (∀ p ∈ ps, x ≠ p.1 ∧ x ≠ p.2.1) →
    runP ps (A ++ B) = runP ps A ++ runP ps B
  | [], _, _, _, _ => rfl
  | p :: ps, A, B, hA, h => by
    obtain ⟨h1, h2⟩ := h p (List.mem_cons_self)
    have e : rep2 p.1 p.2.1 p.2.2 (A ++ B) = rep2 p.1 p.2.1 p.2.2 A ++ rep2 p.1 p.2.1 p.2.2 B :=
      rep2_append _ _ _ A B (Or.inl (by rw [hA]; intro e; exact h1 (Option.some.inj e)))
    have := runP_cut_left x ps (rep2 p.1 p.2.1 p.2.2 A) (rep2 p.1 p.2.1 p.2.2 B) (rep2_last_keep _ hA h2)
      (fun q hq => h q (List.mem_cons_of_mem _ hq))
    simpa only [runP, List.foldl_cons, e] using this

def chn (R : Char → Char → Bool) : Str → Bool
  | [] => true
  | a :: cs => (match cs with | [] => true | b :: _ => R a b) && chn R cs

def junc (R : Char → Char → Bool) (s t : Str) : Bool :=
  match s.getLast?, t.head? with
  | some x, some y => R x y
  | _, _ => true

theorem chn_append (R : Char → Char → Bool) : ∀ (s t : Str), chn R (s ++ t) = (chn R s && chn R t && junc R s t)
  | [], t => by simp [chn, junc]
  | [a], t => by cases t <;> simp [chn, junc, Bool.and_comm]
  | a :: b :: r, t => by
    have ih := chn_append R (b :: r) t
    have hj : junc R (a :: b :: r) t = junc R (b :: r) t := by simp [junc]
    simp only [List.cons_append] at ih ⊢
    rw [hj]
    simp only [chn] at ih ⊢
    rw [ih]
    simp [Bool.and_assoc]

theorem chn_cons2 (R : Char → Char → Bool) (a b : Char) (r : Str) : chn R (a :: b :: r) = (R a b && chn R (b :: r)) := rfl

theorem chn_mono {R R' : Char → Char → Bool} (h : ∀ a b, R a b = true → R' a b = true) :
    ∀ (s : Str), chn R s = true → chn R' s = true
  | [], _ => rfl
  | [_], _ => rfl
  | a :: b :: r, hs => by
    rw [chn_cons2, Bool.and_eq_true] at hs ⊢
    exact ⟨h _ _ hs.1, chn_mono h (b :: r) hs.2⟩

theorem chn_tail {R : Char → Char → Bool} {c : Char} {s : Str} (h : chn R (c :: s) = true) : chn R s = true := by
  cases s with
  | nil => rfl
  | cons d r => rw [chn_cons2, Bool.and_eq_true] at h; exact h.2

theorem chn_cons_junc (R : Char → Char → Bool) (a : Char) (s : Str) : chn R (a :: s) = (chn R s && junc R [a] s) := by
  have := chn_append R [a] s
  simpa [chn] using this

theorem chn_mid {R : Char → Char → Bool} {p m q : Str} (h : chn R (p ++ m ++ q) = true) : chn R m = true := by
  rw [chn_append, chn_append] at h
  simp only [Bool.and_eq_true] at h
  exact h.1.1.1.2

theorem contains_false_of_chn {R : Char → Char → Bool} {s pat : Str} (hs : chn R s = true) (hp : chn R pat = false) :
    contains pat s = false := by
  cases hc : contains pat s with
  | false => rfl
  | true =>
    obtain ⟨p, q, hpq⟩ := contains_decomp hc
    rw [hpq] at hs
    rw [chn_mid hs] at hp
    cases hp

theorem replace_chn {R : Char → Char → Bool} {s : Str} (pat rep : Str) (hs : chn R s = true) (hp : chn R pat = false) :
    replace s pat rep = s :=
  replace_absent s pat rep (contains_false_of_chn hs hp)

end TV.Expr
