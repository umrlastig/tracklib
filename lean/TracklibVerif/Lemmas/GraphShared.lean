import TracklibVerif.Lemmas.GraphPD
import TracklibVerif.Lemmas.GraphSessionQ
import TracklibVerif.Model.GraphShared
/-! Lemmas for C06 about `Network` objects that share their `Node` objects (`Model/GraphShared.lean`).

The common store is read as `overlay order a b`: the flags `a` on the nodes of one network, `b` on all others.
`run_routing_forward` as coded (`routeOnPD`: reset of this network's nodes, explicit `priority_dict`) started on a store
in *any* state `st` leaves `overlay order a st`, `a` the flags of the pure search `runForward`, and records the
entries of that search (`routeOnPD_eq`). Hence a family of networks on one pool of `Node` objects answers,
call by call, as the same networks with `Node` objects of their own (`execFam_step`). -/
namespace TV.Graph
open TV.PDict

section
variable {W : Type} [LinearOrder W] [Add W] [Zero W] [WalkAdd W]

def AgreeOn (order : List Nat) (a b : St W) : Prop :=
  ∀ v ∈ order, a.d v = b.d v ∧ a.vis v = b.vis v ∧ a.pred v = b.pred v

def SameOutside (order : List Nat) (a b : St W) : Prop :=
  ∀ v, v ∉ order → a.d v = b.d v ∧ a.vis v = b.vis v ∧ a.pred v = b.pred v

def KeysIn (order : List Nat) (pd : PD W) : Prop := ∀ p ∈ pd.dict, p.1 ∈ order
end

section
variable {W : Type} [LinearOrder W]

theorem keysIn_setitem (order : List Nat) (pd : PD W) (k : Nat) (v : W) (h : KeysIn order pd) (hk : k ∈ order) :
    KeysIn order (setitem pd k v) := by
  intro p hp
  have hp' : p ∈ dictSet pd.dict k v := by
    unfold setitem at hp
    simp only [] at hp
    split at hp <;> exact hp
  rcases mem_dictSet _ _ _ _ hp' with h' | h'
  · rw [h']; exact hk
  · exact h p h'

theorem popSmallest_key (order : List Nat) (pd : PD W) (h : KeysIn order pd) (u : Nat) (pd' : PD W)
    (hp : popSmallest pd = some (u, pd')) : u ∈ order ∧ KeysIn order pd' := by
  unfold popSmallest at hp
  cases hl : popLoop pd.dict (pd.heap.length + 1) pd.heap with
  | none => rw [hl] at hp; cases hp
  | some kr =>
    obtain ⟨k, heap⟩ := kr
    rw [hl] at hp
    simp only [Option.some.injEq, Prod.mk.injEq] at hp
    obtain ⟨rfl, rfl⟩ := hp
    obtain ⟨v, hv⟩ := popLoop_key _ _ _ _ _ hl
    refine ⟨h _ (lookup_mem _ _ _ hv), ?_⟩
    intro p hp
    simp only [List.mem_filter] at hp
    exact h p hp.1

variable [Zero W]

theorem keysIn_init (order : List Nat) (s : Nat) (hs : s ∈ order) : KeysIn order (ofDict [(s, (0 : W))]) := by
  intro p hp
  simp only [ofDict, List.mem_singleton] at hp
  rw [hp]; exact hs
end

section
variable {W : Type} [LinearOrder W] [Add W]

theorem ite_overlay {α : Type} {order : List Nat} {v : Nat} (hv : v ∈ order) (x : α) (f g : Nat → α) (z : Nat) :
    (if z = v then x else if z ∈ order then f z else g z) = if z ∈ order then (if z = v then x else f z) else g z := by
  by_cases hz : z = v
  · rw [if_pos hz, if_pos (hz ▸ hv), if_pos hz]
  · rw [if_neg hz, if_neg hz]

theorem relaxOnePD_overlay (order : List Nat) (u : Nat) (du : W) (a b : St W) (pd : PD W) (e : Edge W)
    (hv : other e u ∈ order) (hk : KeysIn order pd) :
    relaxOnePD u du (overlay order a b, pd) e = (overlay order (relaxOnePD u du (a, pd) e).1 b, (relaxOnePD u du (a, pd) e).2) ∧
    KeysIn order (relaxOnePD u du (a, pd) e).2 := by
  have upd : ∀ x p, (⟨fun z => if z = other e u then x else (overlay order a b).d z, (overlay order a b).vis,
      fun z => if z = other e u then p else (overlay order a b).pred z⟩ : St W) =
      overlay order { a with d := fun z => if z = other e u then x else a.d z, pred := fun z => if z = other e u then p else a.pred z } b :=
      fun x p => by
    simp only [overlay, ite_overlay hv]
  have rd : (overlay order a b).d (other e u) = a.d (other e u) := if_pos hv
  have rvis : (overlay order a b).vis (other e u) = a.vis (other e u) := if_pos hv
  unfold relaxOnePD
  simp only [upd, rd, rvis]
  cases a.vis (other e u) with
  | true => exact ⟨rfl, hk⟩
  | false =>
    simp only [Bool.false_eq_true, if_false]
    cases a.d (other e u) with
    | none => exact ⟨rfl, keysIn_setitem order pd _ _ hk hv⟩
    | some y =>
      simp only []
      by_cases hl : du + e.w < y
      · simp only [if_pos hl]; exact ⟨trivial, keysIn_setitem order pd _ _ hk hv⟩
      · simp only [if_neg hl]; exact ⟨trivial, hk⟩

theorem relaxAllPD_overlay (order : List Nat) (u : Nat) (du : W) (b : St W) (es : List (Edge W))
    (hes : ∀ e ∈ es, other e u ∈ order) (a : St W) (pd : PD W) (hk : KeysIn order pd) :
    es.foldl (relaxOnePD u du) (overlay order a b, pd) =
      (overlay order (es.foldl (relaxOnePD u du) (a, pd)).1 b, (es.foldl (relaxOnePD u du) (a, pd)).2) ∧
    KeysIn order (es.foldl (relaxOnePD u du) (a, pd)).2 := by
  induction es generalizing a pd with
  | nil => exact ⟨rfl, hk⟩
  | cons e es ih =>
    obtain ⟨h1, h2⟩ := relaxOnePD_overlay order u du a b pd e (hes e List.mem_cons_self) hk
    simp only [List.foldl_cons, h1]
    exact ih (fun e' he' => hes e' (List.mem_cons_of_mem _ he')) _ _ h2

theorem forwardPD_overlay (net : Net W) (order : List Nat) (hends : ∀ e ∈ net.edges, e.src ∈ order ∧ e.tgt ∈ order)
    (tgt : Option Nat) (cut : Option W) (b : St W) (f : Nat) (a : St W) (pd : PD W) (out : List (Nat × W))
    (hk : KeysIn order pd) :
    forwardPD net tgt cut f (overlay order a b) pd out =
      (overlay order (forwardPD net tgt cut f a pd out).1 b, (forwardPD net tgt cut f a pd out).2) := by
  induction f generalizing a pd out with
  | zero => rfl
  | succ f ih =>
    unfold forwardPD
    by_cases hlen : len pd = 0
    · simp only [hlen, if_true]
    · simp only [hlen, if_false]
      cases hp : popSmallest pd with
      | none => rfl
      | some q =>
        obtain ⟨u, pd'⟩ := q
        obtain ⟨hu, hk'⟩ := popSmallest_key order pd hk u pd' hp
        have hd : (overlay order a b).d u = a.d u := if_pos hu
        have hvis : (⟨(overlay order a b).d, fun z => if z = u then true else (overlay order a b).vis z,
            (overlay order a b).pred⟩ : St W) = overlay order { a with vis := fun z => if z = u then true else a.vis z } b := by
          simp only [overlay, ite_overlay hu]
        simp only [hd, hvis]
        cases a.d u with
        | none => rfl
        | some du =>
          simp only []
          by_cases hs : stops tgt cut u du = true
          · simp only [hs, if_true]
          · obtain ⟨h1, h2⟩ := relaxAllPD_overlay order u du b (nextEdges net u) (fun e he => other_mem_of_next hends he)
              { a with vis := fun z => if z = u then true else a.vis z } pd' hk'
            simp only [hs, h1, Bool.false_eq_true, if_false]
            exact ih _ _ _ h2

variable [Zero W]

omit [LinearOrder W] [Add W] in
theorem startFlags_overlay (order : List Nat) (st : St W) (s : Nat) (hs : s ∈ order) :
    startFlags order st s = overlay order (St.init s) st := by
  unfold startFlags
  rw [resetFlags_eq]
  simp only [overlay, St.init, St.clean, ite_overlay hs (some (0 : W)) (fun _ => none) st.d]

theorem routeOnPD_eq (net : Net W) (hnet : WFNet net) (order : List Nat) (hnodes : ∀ v ∈ order, v < net.n)
    (hends : ∀ e ∈ net.edges, e.src ∈ order ∧ e.tgt ∈ order) (st : St W) (s : Nat) (hs : s ∈ order)
    (tgt : Option Nat) (cut : Option W) :
    routeOnPD net order st s tgt cut = (overlay order (runForward net s tgt cut).1 st, (runForward net s tgt cut).2) := by
  unfold routeOnPD
  rw [startFlags_overlay order st s hs, forwardPD_overlay net order hends tgt cut st _ _ _ _ (keysIn_init order s hs)]
  exact congrArg (fun r : St W × List (Nat × W) => (overlay order r.1 st, r.2)) (runForwardPD_eq net hnet s (hnodes s hs) tgt cut)

theorem routeOnPD_obs (net : Net W) (hnet : WFNet net) (order : List Nat) (hnodes : ∀ v ∈ order, v < net.n)
    (hends : ∀ e ∈ net.edges, e.src ∈ order ∧ e.tgt ∈ order) (st : St W) (s : Nat) (hs : s ∈ order)
    (tgt : Option Nat) (cut : Option W) :
    (routeOnPD net order st s tgt cut).2 = (runForward net s tgt cut).2 ∧
    AgreeOn order (routeOnPD net order st s tgt cut).1 (runForward net s tgt cut).1 ∧
    SameOutside order (routeOnPD net order st s tgt cut).1 st := by
  rw [routeOnPD_eq net hnet order hnodes hends st s hs]
  exact ⟨rfl, fun v hv => ⟨if_pos hv, if_pos hv, if_pos hv⟩, fun v hv => ⟨if_neg hv, if_neg hv, if_neg hv⟩⟩
end

section
variable {W : Type} [LinearOrder W] [Add W] [Zero W] [WalkAdd W]

/-- `R` started on flags satisfying `P` and `R'` started on any flags: same recorded entries, same flags on the nodes
of `order` afterwards, and `R` re-establishes `P` -/
def ObsEq (P : St W → Prop) (R R' : Router W) (net : Net W) (order : List Nat) : Prop :=
  ∀ f f' s tgt cut, P f → s ∈ order →
    (R net order f s tgt cut).2 = (R' net order f' s tgt cut).2 ∧
    AgreeOn order (R net order f s tgt cut).1 (R' net order f' s tgt cut).1 ∧ P (R net order f s tgt cut).1

def SameCore (σ σ' : Sess W) : Prop :=
  σ.net = σ'.net ∧ σ.order = σ'.order ∧ σ.prep = σ'.prep ∧ σ.udict = σ'.udict
end

section
variable {W : Type}

theorem allOnG_congr (P : St W → Prop) (R R' : Router W) (net : Net W) (order : List Nat) (h : ObsEq P R R' net order)
    (cut : Option W) (f f' : St W) (tb : Table W) (hP : P f) :
    (allOnG R net order cut (f, tb)).2 = (allOnG R' net order cut (f', tb)).2 ∧ P (allOnG R net order cut (f, tb)).1 := by
  unfold allOnG
  have key : ∀ (l : List Nat), (∀ s ∈ l, s ∈ order) → ∀ (f f' : St W) (tb : Table W), P f →
      (l.foldl (fun x s => let r := R net order x.1 s none cut; (r.1, record x.2 s r.2)) (f, tb)).2 =
      (l.foldl (fun x s => let r := R' net order x.1 s none cut; (r.1, record x.2 s r.2)) (f', tb)).2 ∧
      P (l.foldl (fun x s => let r := R net order x.1 s none cut; (r.1, record x.2 s r.2)) (f, tb)).1 := by
    intro l
    induction l with
    | nil => intro _ f f' tb hP; exact ⟨rfl, hP⟩
    | cons s0 r ih =>
      intro hl f f' tb hP
      simp only [List.foldl_cons]
      obtain ⟨e1, _, e3⟩ := h f f' s0 none cut hP (hl s0 List.mem_cons_self)
      rw [e1]
      exact ih (fun s hs => hl s (List.mem_cons_of_mem _ hs)) _ _ _ e3
  exact key order (fun s hs => hs) f f' tb hP

theorem map_agree (order : List Nat) (a b : St W) (h : AgreeOn order a b) :
    order.map a.d = order.map b.d ∧ order.map a.vis = order.map b.vis := by
  constructor
  · apply List.map_congr_left; intro v hv; exact (h v hv).1
  · apply List.map_congr_left; intro v hv; exact (h v hv).2.1

theorem subEdges_agree (net : Net W) (order : List Nat) (hends : ∀ e ∈ net.edges, e.src ∈ order ∧ e.tgt ∈ order)
    (a b : St W) (h : AgreeOn order a b) : subEdges net a = subEdges net b := by
  unfold subEdges
  apply List.filter_congr
  intro e he
  rw [(h _ (hends e he).1).2.1, (h _ (hends e he).2).2.1]

theorem congr_ite {c : Prop} [Decidable c] {a b a' b' : Sess W × Out W}
    (ha : c → a.2 = a'.2 ∧ SameCore a.1 a'.1) (hb : b.2 = b'.2 ∧ SameCore b.1 b'.1) :
    (if c then a else b).2 = (if c then a' else b').2 ∧ SameCore (if c then a else b).1 (if c then a' else b').1 := by
  by_cases h : c
  · simp only [if_pos h]; exact ha h
  · simp only [if_neg h]; exact hb

theorem mem_foldNodes (es : List (Edge W)) (o : List Nat) (v : Nat) :
    v ∈ es.foldl (fun o e => addNodeTo (addNodeTo o e.src) e.tgt) o ↔ (v ∈ o ∨ ∃ e ∈ es, v = e.src ∨ v = e.tgt) := by
  induction es generalizing o with
  | nil => simp
  | cons e es ih =>
    simp only [List.foldl_cons]
    rw [ih]
    simp only [mem_addNodeTo, List.mem_cons]
    constructor
    · rintro (((h | h) | h) | ⟨e', he', h⟩)
      · exact Or.inl h
      · exact Or.inr ⟨e, Or.inl rfl, Or.inl h⟩
      · exact Or.inr ⟨e, Or.inl rfl, Or.inr h⟩
      · exact Or.inr ⟨e', Or.inr he', h⟩
    · rintro (h | ⟨e', he' | he', h⟩)
      · exact Or.inl (Or.inl (Or.inl h))
      · subst he'
        rcases h with h | h
        · exact Or.inl (Or.inl (Or.inr h))
        · exact Or.inl (Or.inr h)
      · exact Or.inr ⟨e', he', h⟩
end

section
variable {W : Type} [LinearOrder W] [Zero W]

theorem execG_congr (P : St W → Prop) (R R' : Router W) (σ σ' : Sess W) (hc : SameCore σ σ')
    (hends : ∀ e ∈ σ.net.edges, e.src ∈ σ.order ∧ e.tgt ∈ σ.order)
    (hobs : ObsEq P R R' σ.net σ.order) (hP : P σ.flags) (op : Op W) :
    (execG R σ op).2 = (execG R' σ' op).2 ∧ SameCore (execG R σ op).1 (execG R' σ' op).1 := by
  obtain ⟨net, order, flags, prep, udict⟩ := σ
  obtain ⟨net', order', flags', prep', udict'⟩ := σ'
  obtain ⟨c1, c2, c3, c4⟩ := hc
  simp only at c1 c2 c3 c4 hends hobs hP
  subst c1 c2 c3 c4
  -- a failed guard, and every call that runs no search
  have idle : ∀ (x : Sess W) (y : Out W), y = y ∧ SameCore x { x with flags := flags' } :=
    fun x y => ⟨rfl, rfl, rfl, rfl, rfl⟩
  -- one search from a node of `NODES`
  have search : ∀ s t cut (ud : Bool), s ∈ order →
      order.map (R net order flags s t cut).1.d = order.map (R' net order flags' s t cut).1.d ∧
      order.map (R net order flags s t cut).1.vis = order.map (R' net order flags' s t cut).1.vis ∧
      (if ud then record udict s (R net order flags s t cut).2 else udict) =
        (if ud then record udict s (R' net order flags' s t cut).2 else udict) ∧
      AgreeOn order (R net order flags s t cut).1 (R' net order flags' s t cut).1 := by
    intro s t cut ud hs
    obtain ⟨e1, e2, _⟩ := hobs flags flags' s t cut hP hs
    obtain ⟨m1, m2⟩ := map_agree order _ _ e2
    exact ⟨m1, m2, by rw [e1], e2⟩
  cases op with
  | addNode v => exact congr_ite (fun _ => idle _ _) (idle _ _)
  | addEdge e => exact congr_ite (fun _ => idle _ _) (idle _ _)
  | route s t cut ud =>
    refine congr_ite (fun hcnd => ?_) (idle _ _)
    obtain ⟨m1, m2, m3, _⟩ := search s t cut ud (List.contains_iff_mem.1 (Bool.and_eq_true_iff.mp hcnd).1)
    exact ⟨by rw [m1, m2], rfl, rfl, rfl, m3⟩
  | dist s t cut ud =>
    refine congr_ite (fun hcnd => ?_) (idle _ _)
    obtain ⟨_, _, m3, m4⟩ := search s (some t) cut ud (List.contains_iff_mem.1 (Bool.and_eq_true_iff.mp hcnd).1)
    exact ⟨by rw [(m4 t (List.contains_iff_mem.1 (Bool.and_eq_true_iff.mp hcnd).2)).1], rfl, rfl, rfl, m3⟩
  | distList s cut ud =>
    refine congr_ite (fun hcnd => ?_) (idle _ _)
    obtain ⟨m1, _, m3, _⟩ := search s none cut ud (List.contains_iff_mem.1 hcnd)
    exact ⟨by rw [m1], rfl, rfl, rfl, m3⟩
  | all cut ud =>
    obtain ⟨e1, _⟩ := allOnG_congr P R R' net order hobs cut flags flags' (if ud then udict else Table.empty) hP
    exact ⟨by simp only [execG, e1], rfl, rfl, rfl, by simp only [execG, e1]⟩
  | prepare cut =>
    obtain ⟨e1, _⟩ := allOnG_congr P R R' net order hobs cut flags flags' (prep.getD Table.empty) hP
    exact ⟨rfl, rfl, rfl, by simp only [execG, e1], rfl⟩
  | prepared s t => simp only [execG]; split <;> exact idle _ _
  | hasPrepared s t => simp only [execG]; split <;> exact idle _ _
  | sub s cut =>
    refine congr_ite (fun hcnd => ?_) (idle _ _)
    obtain ⟨_, _, _, m4⟩ := search s none cut false (List.contains_iff_mem.1 hcnd)
    rw [subEdges_agree net order hends _ _ m4]
    exact ⟨rfl, rfl, rfl, rfl, rfl⟩
  | saveLoad => simp only [execG]; split <;> exact idle _ _

theorem subSess_ok (σ : Sess W) (h : SessOK σ) (st : St W) : SessOK (subSess σ (subEdges σ.net st)) := by
  have hsub : ∀ e ∈ subEdges σ.net st, e ∈ σ.net.edges := by
    intro e he; simp only [subEdges, List.mem_filter] at he; exact he.1
  refine ⟨?_, ?_, ?_, ?_⟩
  · intro e he; exact h.wf e (hsub e he)
  · intro v hv
    simp only [subSess] at hv
    rcases (mem_foldNodes _ _ _).1 hv with hv | ⟨e, he, hv⟩
    · cases hv
    · obtain ⟨a, b, _⟩ := h.wf e (hsub e he)
      rcases hv with hv | hv <;> rw [hv] <;> assumption
  · intro e he
    simp only [subSess] at he ⊢
    exact ⟨(mem_foldNodes _ _ _).2 (Or.inr ⟨e, he, Or.inl rfl⟩), (mem_foldNodes _ _ _).2 (Or.inr ⟨e, he, Or.inr rfl⟩)⟩
  · intro v _; simp [subSess, St.clean]
end

section
variable {W : Type} [LinearOrder W] [Add W] [Zero W]

theorem obsEq_own_shared (net : Net W) (hnet : WFNet net) (order : List Nat) (hnodes : ∀ v ∈ order, v < net.n)
    (hends : ∀ e ∈ net.edges, e.src ∈ order ∧ e.tgt ∈ order) :
    ObsEq (CleanOutside order) (routeOn (W := W)) routeOnPD net order := by
  intro f f' s tgt cut hf hs
  obtain ⟨a, b⟩ := routeOn_eq net order hends f hf s hs tgt cut
  rw [a, routeOnPD_eq net hnet order hnodes hends f' s hs]
  exact ⟨rfl, fun v hv => ⟨(if_pos hv).symm, (if_pos hv).symm, (if_pos hv).symm⟩, b⟩

/-- **one call, shared vs own `Node` objects.** A network whose nodes carry any flags `f` (the code as it runs:
`execSh`) and the same network with flags of its own that satisfy the session invariant (`exec`): the same answer, the
same object afterwards up to the flags. -/
theorem execSh_eq_exec (σ σ' : Sess W) (hc : SameCore σ σ') (h : SessOK σ') (op : Op W) :
    (execSh σ op).2 = (exec σ' op).2 ∧ SameCore (execSh σ op).1 (exec σ' op).1 := by
  obtain ⟨c1, c2, c3, c4⟩ := hc
  obtain ⟨a, b1, b2, b3, b4⟩ := execG_congr (CleanOutside σ'.order) routeOn routeOnPD σ' σ ⟨c1.symm, c2.symm, c3.symm, c4.symm⟩
    h.ends (obsEq_own_shared σ'.net h.wf σ'.order h.nodes h.ends) h.clean op
  rw [exec_eq_execG]
  exact ⟨a.symm, b1.symm, b2.symm, b3.symm, b4.symm⟩
end

section
variable {W : Type} [LinearOrder W] [Add W] [Zero W] [WalkAdd W]

/-- a network as the family stores it: without flags of its own -/
def Sess.core (σ : Sess W) : Sess W := { σ with flags := St.clean }
end

section
variable {W : Type}

theorem core_eq_of_sameCore {σ σ' : Sess W} (h : SameCore σ σ') : σ.core = σ'.core := by
  obtain ⟨net, order, flags, prep, udict⟩ := σ
  obtain ⟨c1, c2, c3, c4⟩ := h
  simp only at c1 c2 c3 c4
  subst c1 c2 c3 c4
  rfl

theorem Sess.core_net (σ : Sess W) : σ.core.net = σ.net := rfl

theorem Sess.core_order (σ : Sess W) : σ.core.order = σ.order := rfl

theorem sameCore_core (σ : Sess W) (f : St W) : SameCore { σ.core with flags := f } σ := ⟨rfl, rfl, rfl, rfl⟩
end

section
variable {W : Type} [LinearOrder W] [Add W] [Zero W] [WalkAdd W]

def FamRel (F : Fam W) (nets : List (Sess W)) : Prop := F.nets = nets.map Sess.core ∧ ∀ σ' ∈ nets, SessOK σ'
end

section
variable {W : Type} [LinearOrder W] [Zero W]

theorem setW_ok (eid : Nat) (w : W) (hw : 0 ≤ w) (σ : Sess W) (h : SessOK σ) : SessOK (setW eid w σ) := by
  refine ⟨?_, h.nodes, ?_, h.clean⟩
  · intro e he
    simp only [setW, List.mem_map] at he
    obtain ⟨e0, he0, rfl⟩ := he
    obtain ⟨a, b, c⟩ := h.wf e0 he0
    split
    · exact ⟨a, b, hw⟩
    · exact ⟨a, b, c⟩
  · intro e he
    simp only [setW, List.mem_map] at he
    obtain ⟨e0, he0, rfl⟩ := he
    split
    · exact h.ends e0 he0
    · exact h.ends e0 he0

theorem FamRel.get {F : Fam W} {nets : List (Sess W)} (h : FamRel F nets) {k : Nat} {σ : Sess W} (hk : F.nets[k]? = some σ) :
    ∃ σ', nets[k]? = some σ' ∧ σ = σ'.core ∧ SessOK σ' := by
  rw [h.1, List.getElem?_map] at hk
  obtain ⟨σ', h1, h2⟩ := Option.map_eq_some_iff.1 hk
  exact ⟨σ', h1, h2.symm, h.2 σ' (List.mem_of_getElem? h1)⟩

theorem famRel_new (n : Nat) : FamRel (Fam.new n : Fam W) [] := ⟨rfl, fun _ h => nomatch h⟩
end

section
variable {W : Type} [LinearOrder W] [Add W] [Zero W]

theorem execFam_step (F : Fam W) (nets : List (Sess W)) (h : FamRel F nets) (op : FamOp W) :
    (execFam F op).2 = (execFamU F.n nets op).2 ∧ FamRel (execFam F op).1 (execFamU F.n nets op).1 ∧
    (execFam F op).1.n = F.n := by
  obtain ⟨hn, hok⟩ := h
  have hget : ∀ k, F.nets[k]? = nets[k]?.map Sess.core := fun k => by rw [hn, List.getElem?_map]
  have hmem : ∀ {k σ'}, nets[k]? = some σ' → SessOK σ' := fun hk => hok _ (List.mem_of_getElem? hk)
  cases op with
  | create =>
    refine ⟨rfl, ⟨?_, ?_⟩, rfl⟩
    · show F.nets ++ [Sess.new F.n] = (nets ++ [Sess.new F.n]).map Sess.core
      rw [List.map_append, hn]; rfl
    · intro σ' hσ
      rcases List.mem_append.1 hσ with hσ | hσ
      · exact hok σ' hσ
      · rw [List.mem_singleton.1 hσ]; exact new_ok F.n
  | on k op =>
    simp only [execFam, execFamU, hget k]
    cases hk : nets[k]? with
    | none => exact ⟨rfl, ⟨hn, hok⟩, rfl⟩
    | some σ' =>
      obtain ⟨a, b⟩ := execSh_eq_exec { σ'.core with flags := F.flags } σ' (sameCore_core σ' _) (hmem hk) op
      refine ⟨a, ⟨?_, ?_⟩, rfl⟩
      · show F.nets.set k (Sess.core _) = (nets.set k (exec σ' op).1).map Sess.core
        rw [List.map_set, hn, ← core_eq_of_sameCore b]
      · intro τ hτ
        rcases List.mem_or_eq_of_mem_set hτ with hτ | hτ
        · exact hok τ hτ
        · rw [hτ]; exact exec_ok σ' (hmem hk) op
  | extract k s cut =>
    simp only [execFam, execFamU, hget k]
    cases hk : nets[k]? with
    | none => exact ⟨rfl, ⟨hn, hok⟩, rfl⟩
    | some σ' =>
      have h' := hmem hk
      simp only [Option.map_some, Sess.core_net, Sess.core_order]
      by_cases hs : σ'.order.contains s = true
      · have hs' : s ∈ σ'.order := List.contains_iff_mem.1 hs
        obtain ⟨_, p2, _⟩ := routeOnPD_obs σ'.net h'.wf σ'.order h'.nodes h'.ends F.flags s hs' none cut
        obtain ⟨q1, q2⟩ := routeOn_eq σ'.net σ'.order h'.ends σ'.flags h'.clean s hs' none cut
        have es : subEdges σ'.net (routeOnPD σ'.net σ'.order F.flags s none cut).1 =
            subEdges σ'.net (routeOn σ'.net σ'.order σ'.flags s none cut).1 := by
          rw [q1]; exact subEdges_agree σ'.net σ'.order h'.ends _ _ p2
        simp only [hs, if_true]
        refine ⟨by rw [← es]; rfl, ⟨?_, ?_⟩, trivial⟩
        · show F.nets ++ [subSess σ'.core (subEdges σ'.net (routeOnPD σ'.net σ'.order F.flags s none cut).1)] = List.map Sess.core (_ ++ _)
          rw [es, List.map_append, List.map_set, hn]
          exact congrArg (· ++ _) (Heapq.set_same (l := nets.map Sess.core) (by rw [List.getElem?_map, hk]; rfl)).symm
        · intro τ hτ
          rcases List.mem_append.1 hτ with hτ | hτ
          · rcases List.mem_or_eq_of_mem_set hτ with hτ | hτ
            · exact hok τ hτ
            · rw [hτ]; exact ⟨h'.wf, h'.nodes, h'.ends, q1 ▸ q2⟩
          · rw [List.mem_singleton.1 hτ]; exact subSess_ok σ' h' _
      · simp only [hs]; exact ⟨rfl, ⟨hn, hok⟩, rfl⟩
  | setWeight eid w =>
    simp only [execFam, execFamU]
    by_cases hw : w < 0
    · simp only [hw, if_true]; exact ⟨trivial, ⟨hn, hok⟩, trivial⟩
    · simp only [hw, if_false]
      refine ⟨trivial, ⟨?_, ?_⟩, trivial⟩
      · show F.nets.map (setW eid w) = (nets.map (setW eid w)).map Sess.core
        rw [hn, List.map_map, List.map_map]; rfl
      · intro τ hτ
        obtain ⟨σ', hσ, rfl⟩ := List.mem_map.1 hτ
        exact setW_ok eid w (not_lt.mp hw) σ' (hok σ' hσ)

/-- any program: the family that shares its `Node` objects returns what the family with private `Node` objects returns -/
theorem runFam_eq (F : Fam W) (nets : List (Sess W)) (h : FamRel F nets) (ops : List (FamOp W)) :
    runFam F ops = runFamU F.n nets ops ∧ FamRel (famAfter F ops) (famAfterU F.n nets ops) := by
  induction ops generalizing F nets with
  | nil => exact ⟨rfl, h⟩
  | cons op rest ih =>
    obtain ⟨a, b, c⟩ := execFam_step F nets h op
    obtain ⟨i1, i2⟩ := ih _ _ b
    simp only [runFam, runFamU, famAfter, famAfterU]
    rw [c] at i1 i2
    exact ⟨by rw [a, i1], i2⟩
end
end TV.Graph
