import TracklibVerif.Lemmas.GridMain
/-! Nothing raises on the query side of a good index of `Model/Grid.lean` (the upper-border repair): `request` in its
point, segment and track forms is the value-level computation on `getCell`, every cell it reads is inside the grid, and it
returns for every query point of the closed extent, the upper border included. -/
namespace TV.Grid
variable {α : Type} [Field α] [LinearOrder α]

theorem requestPoint_eq (fl : α → Int) (ix : Index α) (hg : Good ix) (q c : α × α) (hq : getCell ix q = some c) :
    requestPoint fl ix q = cellGet ix.grid (cellOf fl ix c).1 (cellOf fl ix c).2 := by
  simp only [requestPoint, hg.getCellR, hq, requestCell]

theorem requestSegInto_eq (fl : α → Int) (ix : Index α) (hg : Good ix) (tab : List Nat) (a b : α × α) :
    requestSegInto fl ix tab a b = match getCell ix a, getCell ix b with
      | some p1, some p2 => collectCells ix tab (cellsCross fl ix.csize ix.lsize p1 p2)
      | _, _ => .error .type := by
  simp only [requestSegInto, hg.getCellR]
  rfl

theorem requestSegInto_spec (fl : α → Int) (ix : Index α) (hg : Good ix) (tab out : List Nat) (a b : α × α)
    (h : requestSegInto fl ix tab a b = .ok out) :
    ∃ p1 p2, getCell ix a = some p1 ∧ getCell ix b = some p2 ∧
      ∀ d, d ∈ out ↔ d ∈ tab ∨ ∃ cell ∈ cellsCross fl ix.csize ix.lsize p1 p2, Holds ix.grid cell.1 cell.2 d := by
  rw [requestSegInto_eq fl ix hg] at h
  split at h
  · exact ⟨_, _, ‹_›, ‹_›, collectCells_mem ix _ tab out h⟩
  · cases h

theorem requestTrackLoop_spec (fl : α → Int) (ix : Index α) (hg : Good ix) (track : List (α × α)) (prev : Option (α × α))
    (tab out : List Nat) (h : requestTrackLoop fl ix tab prev track = .ok out) :
    (∀ x ∈ tab, x ∈ out) ∧
    ∀ A B, (A, B) ∈ Consec (prev.toList ++ track) → ∃ p1 p2, getCell ix A = some p1 ∧ getCell ix B = some p2 ∧
      ∀ cell ∈ cellsCross fl ix.csize ix.lsize p1 p2, ∀ d, Holds ix.grid cell.1 cell.2 d → d ∈ out := by
  revert h
  fun_induction requestTrackLoop fl ix tab prev track with
  | case1 tab prev => rintro ⟨⟩; cases prev <;> exact ⟨fun _ hx => hx, fun _ _ hAB => absurd hAB List.not_mem_nil⟩
  | case2 _ _ _ ih => exact ih
  | case3 => nofun
  | case4 tab p1 p2 rest tab' hs ih =>
    intro h
    obtain ⟨q1, q2, g1, g2, t⟩ := requestSegInto_spec fl ix hg tab tab' p1 p2 hs
    obtain ⟨u1, u2⟩ := ih h
    refine ⟨fun x hx => u1 x ((t x).mpr (Or.inl hx)), fun A B hAB => ?_⟩
    rcases List.mem_cons.mp hAB with h' | h'
    · cases h'
      exact ⟨q1, q2, g1, g2, fun cell hc d hd => u1 d ((t d).mpr (Or.inr ⟨cell, hc, hd⟩))⟩
    · exact u2 A B h'

variable [IsStrictOrderedRing α]

theorem requestPoint_ok {fl : α → Int} (hf : IsFloor fl) (ix : Index α) (hg : Good ix) (q c : α × α)
    (hq : getCell ix q = some c) : ∃ l, requestPoint fl ix q = .ok l := by
  rw [requestPoint_eq fl ix hg q c hq]
  exact (cellOf_inGrid hf ix hg q c hq).cellGet_ok hg.1.2

theorem requestSegInto_ok {fl : α → Int} (hf : IsFloor fl) (ix : Index α) (hg : Good ix) (tab : List Nat)
    (Q1 Q2 : α × α) (h1 : getCell ix Q1 ≠ none) (h2 : getCell ix Q2 ≠ none) :
    ∃ l, requestSegInto fl ix tab Q1 Q2 = .ok l := by
  obtain ⟨p1, hp1⟩ := Option.ne_none_iff_exists'.mp h1
  obtain ⟨p2, hp2⟩ := Option.ne_none_iff_exists'.mp h2
  simp only [requestSegInto_eq fl ix hg, hp1, hp2]
  exact collectCells_ok ix _ tab hg.1.2 (cellsCross_inGrid hf ix hg Q1 Q2 p1 p2 hp1 hp2)

theorem requestTrackLoop_ok {fl : α → Int} (hf : IsFloor fl) (ix : Index α) (hg : Good ix) (track : List (α × α))
    (prev : Option (α × α)) (tab : List Nat) (hin : ∀ p ∈ prev.toList ++ track, getCell ix p ≠ none) :
    ∃ l, requestTrackLoop fl ix tab prev track = .ok l := by
  induction track generalizing prev tab with
  | nil => cases prev <;> exact ⟨tab, rfl⟩
  | cons p2 rest ih =>
    cases prev with
    | none => exact ih (some p2) tab hin
    | some p1 =>
      obtain ⟨tab', hs⟩ := requestSegInto_ok hf ix hg tab p1 p2 (hin p1 (List.mem_cons_self ..))
        (hin p2 (List.mem_cons_of_mem _ (List.mem_cons_self ..)))
      obtain ⟨l, h⟩ := ih (some p2) tab' (fun p hp => hin p (List.mem_cons_of_mem _ hp))
      exact ⟨l, by simp only [requestTrackLoop, hs, h]⟩

end TV.Grid
