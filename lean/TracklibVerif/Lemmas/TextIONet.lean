import TracklibVerif.Lemmas.TextIOWkt
/-! Network CSV (core only): `NetworkWriter.writeToCsv` → `csv.reader` → `readLineAndAddToNetwork`. -/
namespace TV.TextIO

theorem csvFieldsQ_inField (dq : Bool) (sep : Char) (s rest cur : Str) (acc : List Str) (hs : sep ∉ s) :
    csvFieldsQ dq sep (s ++ sep :: rest) CsvSt.inField cur acc = csvFieldsQ dq sep rest CsvSt.start [] (acc ++ [cur ++ s]) := by
  induction s generalizing cur with
  | nil => simp [csvFieldsQ]
  | cons x xs ih =>
    have hx : x ≠ sep := fun e => hs (by simp [e])
    simp only [List.cons_append, csvFieldsQ, hx, ↓reduceIte]
    rw [ih _ (fun h => hs (by simp [h]))]
    simp

theorem csvFieldsQ_plain (dq : Bool) (sep : Char) (s rest : Str) (acc : List Str) (hsep : sep ≠ '"')
    (hs : sep ∉ s) (hq : '"' ∉ s) :
    csvFieldsQ dq sep (s ++ sep :: rest) CsvSt.start [] acc = csvFieldsQ dq sep rest CsvSt.start [] (acc ++ [s]) := by
  cases s with
  | nil => simp [csvFieldsQ, hsep]
  | cons x xs =>
    have hx : x ≠ sep := fun e => hs (by simp [e])
    have hxq : x ≠ '"' := fun e => hq (by simp [e])
    simp only [List.cons_append, csvFieldsQ, hx, hxq, ↓reduceIte]
    rw [csvFieldsQ_inField dq sep xs rest _ acc (fun h => hs (by simp [h]))]
    simp

theorem csvFieldsQ_inQuoted (dq : Bool) (sep : Char) (q rest cur : Str) (acc : List Str) (hq : '"' ∉ q) :
    csvFieldsQ dq sep (q ++ '"' :: rest) CsvSt.inQuoted cur acc = csvFieldsQ dq sep rest CsvSt.quoteInQuoted (cur ++ q) acc := by
  induction q generalizing cur with
  | nil => simp [csvFieldsQ]
  | cons x xs ih =>
    have hx : x ≠ '"' := fun e => hq (by simp [e])
    simp only [List.cons_append, csvFieldsQ, hx, ↓reduceIte]
    rw [ih _ (fun h => hq (by simp [h]))]
    simp

theorem csvFieldsQ_quoted_last (dq : Bool) (sep : Char) (q : Str) (acc : List Str) (hq : '"' ∉ q) :
    csvFieldsQ dq sep ('"' :: q ++ ['"']) CsvSt.start [] acc = acc ++ [q] := by
  simp only [List.cons_append, csvFieldsQ, ↓reduceIte]
  have : q ++ ['"'] = q ++ '"' :: [] := rfl
  rw [this, csvFieldsQ_inQuoted dq sep q [] [] acc hq]
  simp [csvFieldsQ]

/-- `csv.reader` with its default `doublequote=True` is the flagged reader with the flag on -/
theorem csvFields_eq (sep : Char) (s : Str) (st : CsvSt) (cur : Str) (acc : List Str) :
    csvFields sep s st cur acc = csvFieldsQ true sep s st cur acc := by
  induction s generalizing st cur acc with
  | nil => cases st <;> rfl
  | cons c cs ih => cases st <;> simp only [csvFields, csvFieldsQ, ih, and_true]

/-- identifiers that can be written unquoted -/
def IdOK (sep : Char) (s : Str) : Prop := sep ∉ s ∧ '"' ∉ s ∧ '\n' ∉ s ∧ '\r' ∉ s

theorem csvRecord_eq (sep : Char) (l : Str) : csvRecord sep l = csvRecordQ true sep l := csvFields_eq sep l _ _ _

theorem csvRecordQ_join (dq : Bool) (sep : Char) (hsep : sep ≠ '"') (ids : List Str) (hids : ∀ s ∈ ids, IdOK sep s)
    (q : Str) (hq : '"' ∉ q) :
    csvRecordQ dq sep (joinChar sep (ids ++ ['"' :: q ++ ['"']])) = ids ++ [q] := by
  have key : ∀ (ids acc : List Str), (∀ s ∈ ids, IdOK sep s) →
      csvFieldsQ dq sep (joinChar sep (ids ++ ['"' :: q ++ ['"']])) CsvSt.start [] acc = acc ++ (ids ++ [q]) := by
    intro ids
    induction ids with
    | nil => intro acc _; exact csvFieldsQ_quoted_last dq sep q acc hq
    | cons a r ih =>
      intro acc h
      rw [List.cons_append, joinChar_cons sep a (by simp), csvFieldsQ_plain dq sep a _ _ hsep (h a (by simp)).1 (h a (by simp)).2.1, ih _ (fun s hs => h s (by simp [hs]))]
      simp
  simpa [csvRecordQ] using key ids [] hids

theorem quotedLine_clean (sep : Char) (hs : sep ≠ '\n' ∧ sep ≠ '\r') (ids : List Str) (hids : ∀ s ∈ ids, IdOK sep s)
    (q : Str) (hq : '\n' ∉ q ∧ '\r' ∉ q) :
    ∀ c ∈ joinChar sep (ids ++ ['"' :: q ++ ['"']]), c ≠ '\n' ∧ c ≠ '\r' := by
  have av : ∀ x : Char, x ≠ sep → x ≠ '"' → (∀ s ∈ ids, x ∉ s) → x ∉ q → x ∉ joinChar sep (ids ++ ['"' :: q ++ ['"']]) := by
    intro x h1 h2 h3 h4
    refine not_mem_joinChar h1 (fun v hv => ?_)
    rcases List.mem_append.1 hv with hv | hv
    · exact h3 v hv
    · rw [List.mem_singleton.1 hv]
      simp [h2, h4]
  intro c hc
  exact ⟨fun e => av '\n' (Ne.symm hs.1) (by decide) (fun s h => (hids s h).2.2.1) hq.1 (e ▸ hc),
    fun e => av '\r' (Ne.symm hs.2) (by decide) (fun s h => (hids s h).2.2.2) hq.2 (e ▸ hc)⟩

theorem filter_eol (l : Str) (h : ∀ c ∈ l, c ≠ '\n' ∧ c ≠ '\r') : l.filter (fun c => c ≠ '\n' ∧ c ≠ '\r') = l :=
  List.filter_eq_self.2 (fun c hc => by simp [(h c hc).1, (h c hc).2])

/-- the edge as `readLineAndAddToNetwork` returns it -/
def expEdge (d : Nat) (e : NEdge) : REdge := ⟨e.id, e.src, e.tgt, e.orient, e.geom.map (expVertex d)⟩

/-- what is required of an edge for the writer's line to be well formed -/
def EdgeOK (sep : Char) (e : NEdge) : Prop :=
  IdOK sep e.id ∧ IdOK sep e.src ∧ IdOK sep e.tgt ∧ (e.orient = 0 ∨ e.orient = 1 ∨ e.orient = -1) ∧ 2 ≤ e.geom.length

theorem netReadRow_record (sep : Char) (hdr : Nat) (d : Nat) (e : NEdge) (he : EdgeOK sep e) :
    netReadRow ⟨0, 1, 2, 3, 4, sep, hdr⟩ [e.id, e.src, e.tgt, intStr e.orient, toWKT d e.geom] = .ok (expEdge d e) := by
  obtain ⟨_, _, _, ho, hg⟩ := he
  have hne : e.geom ≠ [] := by intro h; rw [h] at hg; simp at hg
  unfold netReadRow
  have hlen : ¬ (e.geom.map (expVertex d)).length < 2 := by simp; omega
  have hcoords : wktCoords (toWKT d e.geom) = .ok (e.geom.map (vertexStr 'e' d)) := wktCoords_toWKT 'e' (by decide) d e.geom hne
  have hstrip : strip (intStr e.orient) = intStr e.orient := strip_numStr _ (intStr_numChar _)
  have h3 : Int.toNat 3 = 3 := rfl
  have h31 : (3 : Int) ≠ -1 := by decide
  simp only [nth, List.getElem?_cons_zero, List.getElem?_cons_succ, bind, Except.bind, pure, Except.pure,
    hcoords, mapM_vertexStr 'e' (by decide) d e.geom, hlen, ↓reduceIte, h3, h31, hstrip, parseInt_intStr, ho]
  rfl

def edgeBody (sep : Char) (d : Nat) (e : NEdge) : Str :=
  e.id ++ [sep] ++ e.src ++ [sep] ++ e.tgt ++ [sep] ++ intStr e.orient ++ [sep] ++ ['"'] ++ toWKT d e.geom ++ ['"']

theorem netRow_eq (sep : Char) (d : Nat) (e : NEdge) : netRow sep d e = edgeBody sep d e ++ ['\n'] := by
  simp [netRow, edgeBody]

/-- what is required of the separator: not a number character (the orientation `-1` is written bare),
not the quote, not an end-of-line character -/
def SepOK (sep : Char) : Prop := numChar sep = false ∧ sep ≠ '"' ∧ sep ≠ '\n' ∧ sep ≠ '\r'

theorem intStr_idOK (sep : Char) (hs : SepOK sep) (i : Int) : IdOK sep (intStr i) :=
  ⟨(intStr_numChar i).not_mem hs.1, (intStr_numChar i).not_mem (by decide), (intStr_numChar i).not_mem (by decide),
   (intStr_numChar i).not_mem (by decide)⟩

theorem edgeBody_eq (sep : Char) (d : Nat) (e : NEdge) :
    edgeBody sep d e = joinChar sep ([e.id, e.src, e.tgt, intStr e.orient] ++ ['"' :: toWKT d e.geom ++ ['"']]) := by
  simp [edgeBody, joinChar]

theorem edgeIds_ok (sep : Char) (hs : SepOK sep) (e : NEdge) (he : EdgeOK sep e) :
    ∀ s ∈ [e.id, e.src, e.tgt, intStr e.orient], IdOK sep s := by
  intro s hm
  simp only [List.mem_cons, List.not_mem_nil, or_false] at hm
  rcases hm with rfl | rfl | rfl | rfl
  · exact he.1
  · exact he.2.1
  · exact he.2.2.1
  · exact intStr_idOK sep hs _

theorem edgeBody_clean (sep : Char) (hs : SepOK sep) (d : Nat) (e : NEdge) (he : EdgeOK sep e) :
    ∀ c ∈ edgeBody sep d e, c ≠ '\n' ∧ c ≠ '\r' := by
  rw [edgeBody_eq]
  exact quotedLine_clean sep ⟨hs.2.2.1, hs.2.2.2⟩ _ (edgeIds_ok sep hs e he) _
    ⟨(toWKT_over d e.geom).not_mem (by decide),
     (toWKT_over d e.geom).not_mem (by decide)⟩

theorem csvRecord_edgeBody (sep : Char) (hs : SepOK sep) (d : Nat) (e : NEdge) (he : EdgeOK sep e) :
    csvRecord sep ((edgeBody sep d e).filter (fun c => c ≠ '\n' ∧ c ≠ '\r'))
      = [e.id, e.src, e.tgt, intStr e.orient, toWKT d e.geom] := by
  rw [filter_eol _ (edgeBody_clean sep hs d e he), edgeBody_eq, csvRecord_eq]
  exact csvRecordQ_join true sep hs.2.1 _ (edgeIds_ok sep hs e he) _
    ((toWKT_over d e.geom).not_mem (by decide))

def hdrBody (sep : Char) : Str :=
  "link_id".toList ++ [sep] ++ "source".toList ++ [sep] ++ "target".toList ++ [sep] ++ "direction".toList ++ [sep] ++ "wkt".toList

theorem netHeader_eq (sep : Char) : netHeader sep = hdrBody sep ++ ['\n'] := by
  have : "wkt\n".toList = "wkt".toList ++ ['\n'] := by decide
  unfold netHeader hdrBody
  rw [this]
  simp only [List.append_assoc]

theorem hdrBody_nl (sep : Char) (hs : SepOK sep) : '\n' ∉ hdrBody sep := by
  have e : ∀ a b c d w : Str, a ++ [sep] ++ b ++ [sep] ++ c ++ [sep] ++ d ++ [sep] ++ w = joinChar sep [a, b, c, d, w] := by
    intros; simp [joinChar]
  unfold hdrBody
  rw [e]
  refine not_mem_joinChar (Ne.symm hs.2.2.1) ?_
  repeat rw [String.toList_ofList]
  decide

theorem netRead_flatten (f : NetFmt) (ls : List Str) (h : ∀ l ∈ ls, '\n' ∉ l) :
    netRead f ((ls.map (· ++ ['\n'])).flatten)
      = ((ls.map (fun l => csvRecord f.sep (l.filter (fun c => c ≠ '\n' ∧ c ≠ '\r')))).drop f.header).mapM (netReadRow f) := by
  unfold netRead
  rw [fileLines_flatten _ h]

theorem netRead_lines (sep : Char) (hs : SepOK sep) (hdr d : Nat) (es : List NEdge) (he : ∀ e ∈ es, EdgeOK sep e) :
    ((es.map (edgeBody sep d)).map (fun l => csvRecord sep (l.filter (fun c => c ≠ '\n' ∧ c ≠ '\r')))).mapM
        (netReadRow ⟨0, 1, 2, 3, 4, sep, hdr⟩) = .ok (es.map (expEdge d)) := by
  rw [List.map_map]
  refine Common.mapM_map_ok_of_forall fun e hem => ?_
  rw [Function.comp_apply, csvRecord_edgeBody sep hs d e (he e hem)]
  exact netReadRow_record sep hdr d e (he e hem)

/-- the reader skips `header` first lines whatever they hold; the edges that follow come back in order -/
theorem netRead_written (sep : Char) (hs : SepOK sep) (d : Nat) (es : List NEdge) (he : ∀ e ∈ es, EdgeOK sep e)
    (pre : List Str) (hpre : ∀ l ∈ pre, '\n' ∉ l) :
    netRead ⟨0, 1, 2, 3, 4, sep, pre.length⟩ (((pre ++ es.map (edgeBody sep d)).map (· ++ ['\n'])).flatten)
      = .ok (es.map (expEdge d)) := by
  rw [netRead_flatten, List.map_append, List.drop_left' (List.length_map _)]
  · exact netRead_lines sep hs pre.length d es he
  · intro l hl
    rcases List.mem_append.1 hl with hl | hl
    · exact hpre l hl
    · obtain ⟨e, hem, rfl⟩ := List.mem_map.1 hl
      exact fun hc => (edgeBody_clean sep hs d e (he e hem) _ hc).1 rfl

/-- **T4 (network file)** -/
theorem net_file_roundtrip (sep : Char) (hs : SepOK sep) (d : Nat) (es : List NEdge) (he : ∀ e ∈ es, EdgeOK sep e) :
    netRead ⟨0, 1, 2, 3, 4, sep, 1⟩ (netWrite sep 1 d es) = .ok (es.map (expEdge d))
    ∧ netRead ⟨0, 1, 2, 3, 4, sep, 0⟩ (netWrite sep 0 d es) = .ok (es.map (expEdge d)) := by
  have hrows : (es.map (netRow sep d)).flatten = ((es.map (edgeBody sep d)).map (· ++ ['\n'])).flatten := by
    rw [List.map_map]
    exact congrArg List.flatten (List.map_congr_left (fun e _ => netRow_eq sep d e))
  have e1 : netWrite sep 1 d es = (([hdrBody sep] ++ es.map (edgeBody sep d)).map (· ++ ['\n'])).flatten := by
    simp only [netWrite, ↓reduceIte, hrows, netHeader_eq, List.map_cons, List.flatten_cons, List.cons_append, List.nil_append]
  have e0 : netWrite sep 0 d es = (([] ++ es.map (edgeBody sep d)).map (· ++ ['\n'])).flatten := by
    simp only [netWrite, Nat.zero_ne_one, ↓reduceIte, hrows, List.nil_append]
  rw [e1, e0]
  exact ⟨netRead_written sep hs d es he [hdrBody sep] (fun l hl => List.mem_singleton.1 hl ▸ hdrBody_nl sep hs),
    netRead_written sep hs d es he [] (fun _ hl => absurd hl List.not_mem_nil)⟩

end TV.TextIO
