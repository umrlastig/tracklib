import TracklibVerif.Model.Proj
import Mathlib.Algebra.Order.Field.Basic
import Mathlib.Tactic.Ring
import Mathlib.Tactic.Linarith
import Mathlib.Tactic.LinearCombination
/-! Helper lemmas for C20 / C10: the projection model over a linearly ordered field. -/
namespace TV.Proj
section
variable {α : Type} [Field α] [LinearOrder α]

/-- contract of the `sqrt` parameter (inhabited by `Real.sqrt`) -/
def SqrtSpec (sqrt : α → α) : Prop := ∀ v, 0 ≤ v → 0 ≤ sqrt v ∧ sqrt v * sqrt v = v

def d2 (x y px py : α) : α := (x - px) * (x - px) + (y - py) * (y - py)

def OnSeg (x1 y1 x2 y2 px py : α) : Prop :=
  ∃ t, 0 ≤ t ∧ t ≤ 1 ∧ px = x1 + t * (x2 - x1) ∧ py = y1 + t * (y2 - y1)

theorem isZero_iff (v : α) : isZero v = true ↔ v = 0 := by
  unfold isZero
  simp only [Bool.and_eq_true, decide_eq_true_eq]
  exact ⟨fun h => le_antisymm h.1 h.2, fun h => by subst h; exact ⟨le_refl _, le_refl _⟩⟩

theorem isZero_false (v : α) (h : v ≠ 0) : isZero v = false := by
  cases hz : isZero v with
  | false => rfl
  | true => exact absurd ((isZero_iff v).mp hz) h

theorem sqrt_pos {sqrt : α → α} (hs : SqrtSpec sqrt) (v : α) (hv : 0 < v) : 0 < sqrt v := by
  obtain ⟨h0, h1⟩ := hs v hv.le
  refine h0.lt_of_ne fun h => hv.ne ?_
  rw [← h1, ← h, mul_zero]

variable [IsStrictOrderedRing α]

theorem OnSeg.left (x1 y1 x2 y2 : α) : OnSeg x1 y1 x2 y2 x1 y1 := ⟨0, le_refl _, zero_le_one, by ring, by ring⟩

theorem OnSeg.right (x1 y1 x2 y2 : α) : OnSeg x1 y1 x2 y2 x2 y2 := ⟨1, zero_le_one, le_refl _, by ring, by ring⟩

theorem OnSeg.symm {x1 y1 x2 y2 qx qy : α} (h : OnSeg x1 y1 x2 y2 qx qy) : OnSeg x2 y2 x1 y1 qx qy := by
  obtain ⟨t, t0, t1, e1, e2⟩ := h
  exact ⟨1 - t, sub_nonneg.mpr t1, sub_le_self 1 t0, by rw [e1]; ring, by rw [e2]; ring⟩

theorem d2_nonneg (x y px py : α) : 0 ≤ d2 x y px py :=
  add_nonneg (mul_self_nonneg _) (mul_self_nonneg _)

theorem fabs_eq_abs (v : α) : fabs v = |v| := by
  unfold fabs
  split
  · exact (abs_of_pos ‹_›).symm
  · rw [abs_of_nonpos (le_of_not_gt ‹_›), zero_sub]

theorem fabs_mul_self (v : α) : fabs v * fabs v = v * v := by rw [fabs_eq_abs, abs_mul_abs_self]

theorem fabs_nonneg (v : α) : 0 ≤ fabs v := fabs_eq_abs v ▸ abs_nonneg v

theorem fabs_eq_zero (v : α) (h : fabs v = 0) : v = 0 := abs_eq_zero.mp (fabs_eq_abs v ▸ h)

theorem sqrt_zero {sqrt : α → α} (hs : SqrtSpec sqrt) : sqrt 0 = 0 := by
  obtain ⟨_, h1⟩ := hs 0 (le_refl _)
  exact mul_self_eq_zero.mp h1

/-- closed form of the foot of the perpendicular from `(x,y)` on the line `a X + b Y + c = 0` -/
def footX (a b c x y : α) : α := (b * b * x - a * b * y - a * c) / (a * a + b * b)
def footY (a b c x y : α) : α := (a * a * y - a * b * x - b * c) / (a * a + b * b)

theorem norm_pos (a b : α) (hb : b ≠ 0) : 0 < a * a + b * b :=
  add_pos_of_nonneg_of_pos (mul_self_nonneg a) (mul_self_pos.mpr hb)

theorem foot_eq {sqrt : α → α} (hs : SqrtSpec sqrt) (a b c x y : α) (hb : b ≠ 0) :
    foot sqrt a b c x y = .ok (footX a b c x y, footY a b c x y) := by
  have hN := norm_pos a b hb
  have e : -b * -b + a * a = a * a + b * b := by ring
  have hn := (sqrt_pos hs _ (e ▸ hN)).ne'
  have hnn := (hs _ (e ▸ hN.le)).2
  unfold foot
  simp only [isZero_false b hb, isZero_false _ hn, Bool.false_eq_true, ↓reduceIte]
  -- `q = -c / b` and `n = sqrt (b² + a²)` enter only through `q b = -c` and `n n = a² + b²`
  have hq := div_mul_cancel₀ (-c) hb
  generalize -c / b = q at hq ⊢
  generalize sqrt (-b * -b + a * a) = n at hnn ⊢
  congr 2
  · rw [footX, zero_add, div_mul_eq_mul_div, div_div, hnn, e]
    congr 1
    linear_combination a * hq
  · rw [footY, div_mul_eq_mul_div, div_div, hnn, e, eq_div_iff hN.ne', add_mul, div_mul_cancel₀ _ hN.ne']
    linear_combination b * hq

theorem foot_on_line (a b c x y : α) (hb : b ≠ 0) :
    a * footX a b c x y + b * footY a b c x y + c = 0 := by
  have hN := (norm_pos a b hb).ne'
  rw [footX, footY, mul_div_assoc', mul_div_assoc', ← add_div, div_add' _ _ _ hN, div_eq_zero_iff]
  exact Or.inl (by ring)

/-- coefficients of `cartesienne` -/
abbrev cA (y1 y2 : α) : α := y2 - y1
abbrev cB (x1 x2 : α) : α := -(x2 - x1)
abbrev cC (x1 y1 x2 y2 : α) : α := -((y2 - y1) * x1 + (-(x2 - x1)) * y1)

/-- parameter of the orthogonal projection of `(x,y)` along the segment -/
def tstar (x1 y1 x2 y2 x y : α) : α :=
  ((x - x1) * (x2 - x1) + (y - y1) * (y2 - y1)) / ((x2 - x1) * (x2 - x1) + (y2 - y1) * (y2 - y1))

omit [LinearOrder α] [IsStrictOrderedRing α] in
theorem cB_ne (x1 x2 : α) (hx : x1 ≠ x2) : cB x1 x2 ≠ 0 := neg_ne_zero.mpr (sub_ne_zero.mpr hx.symm)

theorem seg_norm_pos (x1 y1 x2 y2 : α) (hx : x1 ≠ x2) :
    0 < (x2 - x1) * (x2 - x1) + (y2 - y1) * (y2 - y1) :=
  add_pos_of_pos_of_nonneg (mul_self_pos.mpr (sub_ne_zero.mpr hx.symm)) (mul_self_nonneg _)

theorem tstar_mul (x1 y1 x2 y2 x y : α) (hx : x1 ≠ x2) :
    tstar x1 y1 x2 y2 x y * ((x2 - x1) * (x2 - x1) + (y2 - y1) * (y2 - y1)) =
      (x - x1) * (x2 - x1) + (y - y1) * (y2 - y1) :=
  div_mul_cancel₀ _ (seg_norm_pos x1 y1 x2 y2 hx).ne'

theorem footX_param (x1 y1 x2 y2 x y : α) (hx : x1 ≠ x2) :
    footX (cA y1 y2) (cB x1 x2) (cC x1 y1 x2 y2) x y = x1 + tstar x1 y1 x2 y2 x y * (x2 - x1) := by
  rw [footX, div_eq_iff (norm_pos _ _ (cB_ne x1 x2 hx)).ne']
  linear_combination (-(x2 - x1)) * tstar_mul x1 y1 x2 y2 x y hx

theorem footY_param (x1 y1 x2 y2 x y : α) (hx : x1 ≠ x2) :
    footY (cA y1 y2) (cB x1 x2) (cC x1 y1 x2 y2) x y = y1 + tstar x1 y1 x2 y2 x y * (y2 - y1) := by
  rw [footY, div_eq_iff (norm_pos _ _ (cB_ne x1 x2 hx)).ne']
  linear_combination (-(y2 - y1)) * tstar_mul x1 y1 x2 y2 x y hx

theorem pythagoras (u v p q t T : α) (hN : u * u + v * v ≠ 0) (h : T * (u * u + v * v) = p * u + q * v) :
    (p - t * u) * (p - t * u) + (q - t * v) * (q - t * v) =
      (v * p - u * q) * (v * p - u * q) / (u * u + v * v) + (u * u + v * v) * ((t - T) * (t - T)) := by
  rw [div_add' _ _ _ hN, eq_div_iff hN]
  linear_combination (2 * t * (u * u + v * v) - T * (u * u + v * v) - (p * u + q * v)) * h

theorem d2_param (x1 y1 x2 y2 x y t : α) (hx : x1 ≠ x2) :
    d2 x y (x1 + t * (x2 - x1)) (y1 + t * (y2 - y1)) =
      (cA y1 y2 * x + cB x1 x2 * y + cC x1 y1 x2 y2) * (cA y1 y2 * x + cB x1 x2 * y + cC x1 y1 x2 y2) /
        (cA y1 y2 * cA y1 y2 + cB x1 x2 * cB x1 x2) +
      ((x2 - x1) * (x2 - x1) + (y2 - y1) * (y2 - y1)) *
        ((t - tstar x1 y1 x2 y2 x y) * (t - tstar x1 y1 x2 y2 x y)) := by
  have e : cA y1 y2 * x + cB x1 x2 * y + cC x1 y1 x2 y2 = (y2 - y1) * (x - x1) - (x2 - x1) * (y - y1) := by ring
  rw [d2, sub_add_eq_sub_sub, sub_add_eq_sub_sub, e, neg_mul_neg, add_comm (cA y1 y2 * cA y1 y2)]
  exact pythagoras _ _ _ _ t _ (seg_norm_pos x1 y1 x2 y2 hx).ne' (tstar_mul x1 y1 x2 y2 x y hx)

omit [Field α] [IsStrictOrderedRing α] in
theorem included_iff (x1 y1 x2 y2 px py : α) :
    included x1 y1 x2 y2 px py = true ↔
      ((x1 ≤ px ∧ px ≤ x2) ∨ (px ≤ x1 ∧ x2 ≤ px)) ∧ ((y1 ≤ py ∧ py ≤ y2) ∨ (py ≤ y1 ∧ y2 ≤ py)) := by
  unfold included
  simp only [Bool.and_eq_true, Bool.or_eq_true, decide_eq_true_eq]

theorem between_iff (u1 u2 p : α) : ((u1 ≤ p ∧ p ≤ u2) ∨ (p ≤ u1 ∧ u2 ≤ p)) ↔ (p - u1) * (p - u2) ≤ 0 := by
  simp only [mul_nonpos_iff, sub_nonneg, sub_nonpos]

theorem mul_sub_one_nonpos_iff (t : α) : t * (t - 1) ≤ 0 ↔ 0 ≤ t ∧ t ≤ 1 := by
  rw [mul_nonpos_iff, sub_nonpos, sub_nonneg]
  exact ⟨fun h => h.elim id fun h => absurd (h.2.trans h.1) (not_le.mpr zero_lt_one), Or.inl⟩

/-- on a non-vertical segment the inclusion test accepts the point of parameter `t` exactly when `0 ≤ t ≤ 1`:
both products of `between_iff` are `(u2 - u1)² t (t - 1)` -/
theorem included_param_iff (x1 y1 x2 y2 t : α) (hx : x1 ≠ x2) :
    included x1 y1 x2 y2 (x1 + t * (x2 - x1)) (y1 + t * (y2 - y1)) = true ↔ 0 ≤ t ∧ t ≤ 1 := by
  have e : ∀ u1 u2 : α, (u1 + t * (u2 - u1) - u1) * (u1 + t * (u2 - u1) - u2) = (u2 - u1) * (u2 - u1) * (t * (t - 1)) :=
    fun _ _ => by ring
  rw [included_iff, between_iff, between_iff, e, e, ← mul_sub_one_nonpos_iff]
  exact ⟨fun h => nonpos_of_mul_nonpos_right h.1 (mul_self_pos.mpr (sub_ne_zero.mpr hx.symm)),
    fun h => ⟨mul_nonpos_of_nonneg_of_nonpos (mul_self_nonneg _) h, mul_nonpos_of_nonneg_of_nonpos (mul_self_nonneg _) h⟩⟩

theorem sqrt_d2 {sqrt : α → α} (hs : SqrtSpec sqrt) (x y px py : α) :
    0 ≤ sqrt ((x - px) * (x - px) + (y - py) * (y - py)) ∧
      sqrt ((x - px) * (x - px) + (y - py) * (y - py)) * sqrt ((x - px) * (x - px) + (y - py) * (y - py)) = d2 x y px py :=
  hs _ (d2_nonneg x y px py)

theorem nearestEnd_spec {sqrt : α → α} (hs : SqrtSpec sqrt) {x1 y1 x2 y2 x y d px py : α}
    (h : nearestEnd sqrt x1 y1 x2 y2 x y = (d, px, py)) :
    ((px = x1 ∧ py = y1) ∨ (px = x2 ∧ py = y2)) ∧ 0 ≤ d ∧ d * d = d2 x y px py ∧
      d * d ≤ d2 x y x1 y1 ∧ d * d ≤ d2 x y x2 y2 := by
  obtain ⟨p1, q1⟩ := sqrt_d2 hs x y x1 y1
  obtain ⟨p2, q2⟩ := sqrt_d2 hs x y x2 y2
  unfold nearestEnd at h
  simp only [] at h
  split at h
  · rename_i hle
    obtain ⟨rfl, rfl, rfl⟩ := Prod.mk.inj h |>.imp id Prod.mk.inj
    exact ⟨Or.inl ⟨rfl, rfl⟩, p1, q1, q1.le, q2 ▸ mul_self_le_mul_self p1 hle⟩
  · rename_i hle
    obtain ⟨rfl, rfl, rfl⟩ := Prod.mk.inj h |>.imp id Prod.mk.inj
    exact ⟨Or.inr ⟨rfl, rfl⟩, p2, q2, q1 ▸ mul_self_le_mul_self p2 (le_of_not_ge hle), q2.le⟩

theorem projSegment_nonvertical {sqrt : α → α} (hs : SqrtSpec sqrt) (x1 y1 x2 y2 x y : α) (hx : x1 ≠ x2) :
    projSegment sqrt x1 y1 x2 y2 x y =
      if 0 ≤ tstar x1 y1 x2 y2 x y ∧ tstar x1 y1 x2 y2 x y ≤ 1 then
        .ok (fabs (cA y1 y2 * x + cB x1 x2 * y + cC x1 y1 x2 y2) / sqrt (cA y1 y2 * cA y1 y2 + cB x1 x2 * cB x1 x2),
             x1 + tstar x1 y1 x2 y2 x y * (x2 - x1), y1 + tstar x1 y1 x2 y2 x y * (y2 - y1))
      else .ok (nearestEnd sqrt x1 y1 x2 y2 x y) := by
  have hb := cB_ne x1 x2 hx
  have hn := sqrt_pos hs _ (norm_pos (cA y1 y2) (cB x1 x2) hb)
  unfold projSegment cartesienne projectionDroite
  simp only []
  rw [isZero_false _ hn.ne', isZero_false _ hb, foot_eq hs _ _ _ _ _ hb]
  simp only [Bool.false_eq_true, ↓reduceIte, footX_param _ _ _ _ _ _ hx, footY_param _ _ _ _ _ _ hx,
    included_param_iff _ _ _ _ _ hx]

/-- `proj_segment` on a vertical segment **as coded**: `ZeroDivisionError` when the pseudo-foot `(x, a)` passes
the inclusion test, the nearest END POINT otherwise (never the foot) -/
theorem projSegment_vertical {sqrt : α → α} (hs : SqrtSpec sqrt) (x1 y1 y2 x y : α) (hy : y1 ≠ y2) :
    projSegment sqrt x1 y1 x1 y2 x y =
      if included x1 y1 x1 y2 x (y2 - y1) then .error .zerodiv else .ok (nearestEnd sqrt x1 y1 x1 y2 x y) := by
  have ha : y2 - y1 ≠ 0 := sub_ne_zero.mpr (Ne.symm hy)
  have hN : 0 < (y2 - y1) * (y2 - y1) + (-(x1 - x1)) * (-(x1 - x1)) := by
    have := mul_self_pos.mpr ha; simp only [sub_self, neg_zero, mul_zero, add_zero]; exact this
  have hn := sqrt_pos hs _ hN
  have hb : isZero (-(x1 - x1)) = true := (isZero_iff _).mpr (by simp)
  unfold projSegment cartesienne projectionDroite foot
  simp only []
  rw [isZero_false _ (ne_of_gt hn), hb]
  simp only [Bool.false_eq_true, ↓reduceIte]

theorem projSegment_degenerate {sqrt : α → α} (hs : SqrtSpec sqrt) (x1 y1 x y : α) :
    projSegment sqrt x1 y1 x1 y1 x y = .error .zerodiv := by
  unfold projSegment cartesienne
  simp only [sub_self, neg_zero, mul_zero, add_zero, sqrt_zero hs]
  rw [(isZero_iff (0 : α)).mpr rfl]
  simp

/-- a quadratic `F + N (t - T)²` whose vertex `T` lies outside `[0, 1]` is, on `[0, 1]`, at least its value at the nearer end -/
theorem le_outside {N T t F D : α} (hN : 0 ≤ N) (t0 : 0 ≤ t) (t1 : t ≤ 1) (hT : ¬(0 ≤ T ∧ T ≤ 1))
    (l : D ≤ F + N * ((0 - T) * (0 - T))) (r : D ≤ F + N * ((1 - T) * (1 - T))) : D ≤ F + N * ((t - T) * (t - T)) := by
  rcases not_and_or.mp hT with h | h
  · exact l.trans (add_le_add_right (mul_le_mul_of_nonneg_left
      (mul_self_le_mul_self (sub_nonneg.mpr (le_of_not_ge h)) (sub_le_sub_right t0 T)) hN) F)
  · refine r.trans (add_le_add_right (mul_le_mul_of_nonneg_left ?_ hN) F)
    rw [← neg_mul_neg (1 - T), ← neg_mul_neg (t - T)]
    exact mul_self_le_mul_self (neg_nonneg.mpr (sub_nonpos.mpr (le_of_not_ge h))) (neg_le_neg (sub_le_sub_right t1 T))

/-- what an answer `(d, (px, py))` of `proj_segment` to the query `(x, y)` guarantees -/
structure SegAnswer (x1 y1 x2 y2 x y d px py : α) : Prop where
  on : OnSeg x1 y1 x2 y2 px py
  nonneg : 0 ≤ d
  dist : d * d = d2 x y px py
  left : d * d ≤ d2 x y x1 y1
  right : d * d ≤ d2 x y x2 y2
  /-- on a vertical segment the point is an end (never the foot) -/
  ends : x1 = x2 → (px = x1 ∧ py = y1) ∨ (px = x2 ∧ py = y2)
  /-- on a non-vertical segment the point is a nearest point -/
  min : x1 ≠ x2 → ∀ qx qy, OnSeg x1 y1 x2 y2 qx qy → d * d ≤ d2 x y qx qy

theorem projSegment_sound {sqrt : α → α} (hs : SqrtSpec sqrt) {x1 y1 x2 y2 x y d px py : α}
    (h : projSegment sqrt x1 y1 x2 y2 x y = .ok (d, px, py)) : SegAnswer x1 y1 x2 y2 x y d px py := by
  have ofEnd : nearestEnd sqrt x1 y1 x2 y2 x y = (d, px, py) →
      (x1 ≠ x2 → ∀ qx qy, OnSeg x1 y1 x2 y2 qx qy → d * d ≤ d2 x y qx qy) → SegAnswer x1 y1 x2 y2 x y d px py := by
    intro he hmin
    obtain ⟨hp, d0, dd, l, r⟩ := nearestEnd_spec hs he
    refine ⟨?_, d0, dd, l, r, fun _ => hp, hmin⟩
    rcases hp with ⟨rfl, rfl⟩ | ⟨rfl, rfl⟩
    · exact OnSeg.left ..
    · exact OnSeg.right ..
  by_cases hx : x1 = x2
  · subst hx
    by_cases hy : y1 = y2
    · subst hy; rw [projSegment_degenerate hs] at h; cases h
    · rw [projSegment_vertical hs _ _ _ _ _ hy] at h
      split at h
      · cases h
      · exact ofEnd (Except.ok.inj h) fun hne => absurd rfl hne
  · rw [projSegment_nonvertical hs _ _ _ _ _ _ hx] at h
    have hN := norm_pos (cA y1 y2) _ (cB_ne x1 x2 hx)
    have hS := seg_norm_pos x1 y1 x2 y2 hx
    -- Pythagoras, with `F` the squared distance to the line and `T` the parameter of the foot
    have hP := fun t => d2_param x1 y1 x2 y2 x y t hx
    split at h
    · rename_i ht
      obtain ⟨hd, rfl, rfl⟩ := (Prod.mk.inj (Except.ok.inj h)).imp id Prod.mk.inj
      rw [← fabs_mul_self, ← (hs _ hN.le).2, ← div_mul_div_comm, hd] at hP
      have hmin : ∀ qx qy, OnSeg x1 y1 x2 y2 qx qy → d * d ≤ d2 x y qx qy := by
        rintro qx qy ⟨t, _, _, rfl, rfl⟩
        rw [hP t]
        exact le_add_of_nonneg_right (mul_nonneg hS.le (mul_self_nonneg _))
      exact ⟨⟨_, ht.1, ht.2, rfl, rfl⟩, hd ▸ div_nonneg (fabs_nonneg _) (sqrt_pos hs _ hN).le,
        by rw [hP, sub_self, mul_zero, mul_zero, add_zero], hmin _ _ (OnSeg.left ..), hmin _ _ (OnSeg.right ..),
        fun e => absurd e hx, fun _ => hmin⟩
    · rename_i ht
      have he := Except.ok.inj h
      refine ofEnd he fun _ => ?_
      obtain ⟨_, _, _, l, r⟩ := nearestEnd_spec hs he
      rintro qx qy ⟨t, t0, t1, rfl, rfl⟩
      have e0 := hP 0
      have e1 := hP 1
      rw [zero_mul, add_zero, zero_mul, add_zero] at e0
      rw [one_mul, add_sub_cancel, one_mul, add_sub_cancel] at e1
      rw [hP t]
      exact le_outside hS.le t0 t1 ht (e0 ▸ l) (e1 ▸ r)

theorem projSegment_total {sqrt : α → α} (hs : SqrtSpec sqrt) (x1 y1 x2 y2 x y : α) (hx : x1 ≠ x2) :
    ∃ r, projSegment sqrt x1 y1 x2 y2 x y = .ok r := by
  rw [projSegment_nonvertical hs _ _ _ _ _ _ hx]
  split <;> exact ⟨_, rfl⟩

end

section
variable {α : Type}

def SegAt (l : List (α × α)) (k : Nat) (p1 p2 : α × α) : Prop := l[k]? = some p1 ∧ l[k + 1]? = some p2

theorem SegAt_nil (k : Nat) (p1 p2 : α × α) : ¬ SegAt ([] : List (α × α)) k p1 p2 := by
  intro h; simp [SegAt] at h

theorem SegAt_single (p : α × α) (k : Nat) (p1 p2 : α × α) : ¬ SegAt [p] k p1 p2 := by
  intro h; simp [SegAt] at h

theorem SegAt_zero (a b : α × α) (rest : List (α × α)) (p1 p2 : α × α) :
    SegAt (a :: b :: rest) 0 p1 p2 ↔ (p1 = a ∧ p2 = b) := by
  simp [SegAt, eq_comm]

theorem SegAt_succ (a : α × α) (l : List (α × α)) (k : Nat) (p1 p2 : α × α) :
    SegAt (a :: l) (k + 1) p1 p2 ↔ SegAt l k p1 p2 := by
  simp [SegAt]

variable [LinearOrder α]

/-- the code's `distmin`: the distance of the current best, `⊤` (for the sentinel `1e400`) while nothing is kept -/
def best (c : Option (α × α × α × Nat)) : WithTop α := c.map (·.1)

theorem best_keep (r : α × α × α) (i : Nat) (cur : Option (α × α × α × Nat)) :
    best (if better r.1 cur then some (r.1, r.2.1, r.2.2, i) else cur) = min (r.1 : WithTop α) (best cur) := by
  cases cur with
  | none => exact (min_top_right _).symm
  | some c =>
    simp only [better, decide_eq_true_eq]
    split
    · exact (min_eq_left (WithTop.coe_le_coe.mpr (le_of_lt ‹_›))).symm
    · exact (min_eq_right (WithTop.coe_le_coe.mpr (le_of_not_gt ‹_›))).symm

end

variable {α : Type} [Field α] [LinearOrder α]

/-- `r` is the answer of `proj_segment` on a non-skipped segment `k` of `l`, reported under index `i0 + k` -/
def FromSeg (sqrt : α → α) (eps x y : α) (l : List (α × α)) (i0 : Nat) (r : α × α × α × Nat) : Prop :=
  ∃ k p1 p2, SegAt l k p1 p2 ∧ r.2.2.2 = i0 + k ∧ skipped eps p1.1 p1.2 p2.1 p2.2 = false ∧
    projSegment sqrt p1.1 p1.2 p2.1 p2.2 x y = .ok (r.1, r.2.1, r.2.2.1)

theorem FromSeg_shift (sqrt : α → α) (eps x y : α) (a : α × α) (l : List (α × α)) (i0 : Nat) (r : α × α × α × Nat)
    (h : FromSeg sqrt eps x y l (i0 + 1) r) : FromSeg sqrt eps x y (a :: l) i0 r := by
  obtain ⟨k, p1, p2, hs, hi, hk, hp⟩ := h
  exact ⟨k + 1, p1, p2, (SegAt_succ a l k p1 p2).mpr hs, by omega, hk, hp⟩

/-- the three facts carried through the loop of `proj_polyligne`: where the result comes from, that it is no farther than the
initial best, and no farther than the answer on any kept segment (on which `proj_segment` therefore returned) -/
theorem polyLoop_spec (sqrt : α → α) (eps x y : α) (l : List (α × α)) (i0 : Nat) (cur res : Option (α × α × α × Nat))
    (h : polyLoop sqrt eps x y l i0 cur = .ok res) :
    (res = cur ∨ ∃ r, res = some r ∧ FromSeg sqrt eps x y l i0 r) ∧
      best res ≤ best cur ∧
      (∀ k p1 p2, SegAt l k p1 p2 → skipped eps p1.1 p1.2 p2.1 p2.2 = false →
        ∃ rk, projSegment sqrt p1.1 p1.2 p2.1 p2.2 x y = .ok rk ∧ best res ≤ (rk.1 : WithTop α)) := by
  -- the branches of the loop: no segment left (1, 2), a skipped one (3), `proj_segment` raises (4), returns `r` (5)
  fun_induction polyLoop sqrt eps x y l i0 cur with
  | case1 i cur =>
    cases h
    exact ⟨Or.inl rfl, le_rfl, fun k p1 p2 hs => absurd hs (SegAt_nil k p1 p2)⟩
  | case2 a i cur =>
    cases h
    exact ⟨Or.inl rfl, le_rfl, fun k p1 p2 hs => absurd hs (SegAt_single a k p1 p2)⟩
  | case3 a b rest i cur hsk ih =>
    obtain ⟨o1, o2, o3⟩ := ih h
    refine ⟨o1.imp_right fun ⟨r, e, f⟩ => ⟨r, e, FromSeg_shift sqrt eps x y a _ i r f⟩, o2, fun k p1 p2 hs hk => ?_⟩
    cases k with
    | zero =>
      obtain ⟨rfl, rfl⟩ := (SegAt_zero a b rest p1 p2).mp hs
      rw [hsk] at hk; cases hk
    | succ k => exact o3 k p1 p2 ((SegAt_succ a _ k p1 p2).mp hs) hk
  | case4 => cases h
  | case5 a b rest i cur hsk r hp cur' ih =>
    obtain ⟨o1, o2, o3⟩ := ih h
    rw [best_keep] at o2
    refine ⟨?_, o2.trans (min_le_right _ _), fun k p1 p2 hs hk => ?_⟩
    · rcases o1 with e | ⟨r', e, f⟩
      · simp only [cur'] at e
        split at e
        · exact Or.inr ⟨_, e, 0, a, b, (SegAt_zero a b rest a b).mpr ⟨rfl, rfl⟩, rfl, eq_false_of_ne_true hsk, hp⟩
        · exact Or.inl e
      · exact Or.inr ⟨r', e, FromSeg_shift sqrt eps x y a _ i r' f⟩
    · cases k with
      | zero =>
        obtain ⟨rfl, rfl⟩ := (SegAt_zero a b rest p1 p2).mp hs
        exact ⟨r, hp, o2.trans (min_le_left _ _)⟩
      | succ k => exact o3 k p1 p2 ((SegAt_succ a _ k p1 p2).mp hs) hk

theorem polyLoop_total (sqrt : α → α) (eps x y : α) (l : List (α × α))
    (hall : ∀ k p1 p2, SegAt l k p1 p2 → skipped eps p1.1 p1.2 p2.1 p2.2 = false →
      ∃ r, projSegment sqrt p1.1 p1.2 p2.1 p2.2 x y = .ok r)
    (i0 : Nat) (cur : Option (α × α × α × Nat)) : ∃ res, polyLoop sqrt eps x y l i0 cur = .ok res := by
  fun_induction polyLoop sqrt eps x y l i0 cur with
  | case1 | case2 => exact ⟨_, rfl⟩
  | case3 a b rest i cur hsk ih | case5 a b rest i cur hsk r hp cur' ih =>
    exact ih fun k p1 p2 hs => hall (k + 1) p1 p2 ((SegAt_succ a _ k p1 p2).mpr hs)
  | case4 a b rest i cur hsk e hp =>
    obtain ⟨r0, hr0⟩ := hall 0 a b ((SegAt_zero a b rest a b).mpr ⟨rfl, rfl⟩) (eq_false_of_ne_true hsk)
    cases hp.symm.trans hr0

/-! ### the lines after the loop (since the `fix:` commit 563eeba): the first vertex when nothing was kept -/

theorem polyLoop_none (sqrt : α → α) (eps x y : α) (l : List (α × α)) (i0 : Nat) (cur : Option (α × α × α × Nat))
    (h : polyLoop sqrt eps x y l i0 cur = .ok none) :
    ∀ k p1 p2, SegAt l k p1 p2 → skipped eps p1.1 p1.2 p2.1 p2.2 = true := by
  intro k p1 p2 hs
  cases hsk : skipped eps p1.1 p1.2 p2.1 p2.2 with
  | true => rfl
  | false =>
    obtain ⟨_, _, le⟩ := (polyLoop_spec sqrt eps x y l i0 cur none h).2.2 k p1 p2 hs hsk
    exact absurd (top_le_iff.mp le) WithTop.coe_ne_top

theorem polyLoop_all_skipped (sqrt : α → α) (eps x y : α) (l : List (α × α))
    (hall : ∀ k p1 p2, SegAt l k p1 p2 → skipped eps p1.1 p1.2 p2.1 p2.2 = true) :
    ∀ (i0 : Nat) (cur : Option (α × α × α × Nat)), polyLoop sqrt eps x y l i0 cur = .ok cur := by
  intro i0 cur
  -- the loop returns, since `proj_segment` is never called, and what it returns does not come from a segment
  obtain ⟨res, h⟩ := polyLoop_total sqrt eps x y l
    (fun k p1 p2 hk hsk => absurd (hall k p1 p2 hk) (hsk ▸ Bool.false_ne_true)) i0 cur
  rcases (polyLoop_spec sqrt eps x y l i0 cur res h).1 with rfl | ⟨_, _, k, p1, p2, hk, _, hsk, _⟩
  · exact h
  · exact absurd (hall k p1 p2 hk) (hsk ▸ Bool.false_ne_true)

/-- `proj_polyligne` on a polyline all of whose segments are skipped (all the vertices coincide up to `eps` per segment; a
single vertex): the first vertex, the distance to it, index 0 -/
theorem projPolyligne_all_skipped (sqrt : α → α) (eps : α) (p0 : α × α) (rest : List (α × α)) (x y : α)
    (hall : ∀ k p1 p2, SegAt (p0 :: rest) k p1 p2 → skipped eps p1.1 p1.2 p2.1 p2.2 = true) :
    projPolyligne sqrt eps (p0 :: rest) x y = .ok (firstVertex sqrt x y p0.1 p0.2) := by
  unfold projPolyligne
  simp only [polyLoop_all_skipped sqrt eps x y _ hall 0 none]

variable [IsStrictOrderedRing α]

theorem polyLoop_kept {sqrt : α → α} (hs : SqrtSpec sqrt) (eps x y : α) (pts : List (α × α)) {d px py : α} {i : Nat}
    (h : polyLoop sqrt eps x y pts 0 none = .ok (some (d, px, py, i))) :
    ∃ p1 p2, pts[i]? = some p1 ∧ pts[i + 1]? = some p2 ∧ skipped eps p1.1 p1.2 p2.1 p2.2 = false ∧
      projSegment sqrt p1.1 p1.2 p2.1 p2.2 x y = .ok (d, px, py) ∧
      ∀ j q1 q2, pts[j]? = some q1 → pts[j + 1]? = some q2 → skipped eps q1.1 q1.2 q2.1 q2.2 = false →
        (d * d ≤ d2 x y q1.1 q1.2 ∧ d * d ≤ d2 x y q2.1 q2.2) ∧
        (q1.1 ≠ q2.1 → ∀ qx qy, OnSeg q1.1 q1.2 q2.1 q2.2 qx qy → d * d ≤ d2 x y qx qy) := by
  obtain ⟨o1, _, o3⟩ := polyLoop_spec sqrt eps x y pts 0 none _ h
  rcases o1 with e | ⟨r, e, k, p1, p2, hk, hi, hsk, hp⟩
  · cases e
  · cases e
    rw [Nat.zero_add] at hi
    subst hi
    refine ⟨p1, p2, hk.1, hk.2, hsk, hp, fun j q1 q2 t1 t2 hj => ?_⟩
    obtain ⟨⟨dk, pxk, pyk⟩, hrk, le⟩ := o3 j q1 q2 ⟨t1, t2⟩ hj
    have A := projSegment_sound hs hrk
    have sq := mul_self_le_mul_self (projSegment_sound hs hp).nonneg (WithTop.coe_le_coe.mp le)
    exact ⟨⟨sq.trans A.left, sq.trans A.right⟩, fun hne qx qy hq => sq.trans (A.min hne qx qy hq)⟩

theorem projPolyligne_ok_cases (sqrt : α → α) (eps : α) (pts : List (α × α)) (x y : α) (r : α × α × α × Nat)
    (h : projPolyligne sqrt eps pts x y = .ok r) :
    polyLoop sqrt eps x y pts 0 none = .ok (some r) ∨
      (∃ p0 rest, pts = p0 :: rest ∧ r = firstVertex sqrt x y p0.1 p0.2 ∧
        ∀ k p1 p2, SegAt pts k p1 p2 → skipped eps p1.1 p1.2 p2.1 p2.2 = true) := by
  revert h
  -- the outcomes of the wrapper: `Xp[0]` raises, the loop raises, it ends with nothing kept, it ends with `r'` kept
  fun_cases projPolyligne sqrt eps pts x y with
  | case1 => nofun
  | case2 p0 rest e hl => rw [hl]; nofun
  | case3 p0 rest hl =>
    rw [hl]
    exact fun h => Or.inr ⟨p0, rest, rfl, (Except.ok.inj h).symm, polyLoop_none sqrt eps x y _ 0 none hl⟩
  | case4 p0 rest r' hl => rw [hl]; rintro ⟨⟩; exact Or.inl rfl

theorem projPolyligne_of_kept {sqrt : α → α} {eps : α} {pts : List (α × α)} {x y : α} {r : α × α × α × Nat}
    (h : projPolyligne sqrt eps pts x y = .ok r)
    (hex : ∃ j p1 p2, pts[j]? = some p1 ∧ pts[j + 1]? = some p2 ∧ skipped eps p1.1 p1.2 p2.1 p2.2 = false) :
    polyLoop sqrt eps x y pts 0 none = .ok (some r) := by
  refine (projPolyligne_ok_cases sqrt eps pts x y r h).resolve_right fun ⟨_, _, _, _, hsk⟩ => ?_
  obtain ⟨j, p1, p2, t1, t2, hk⟩ := hex
  rw [hsk j p1 p2 ⟨t1, t2⟩] at hk
  cases hk

end TV.Proj
