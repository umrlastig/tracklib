import TracklibVerif.Model.DTWInt64
import TracklibVerif.Lemmas.FDTW
import TracklibVerif.Lemmas.DTWScale
import Mathlib.Tactic.Linarith
/-! int64 arithmetic (`ipow64` is the exact power reduced modulo 2^64, `ipow64_eq_wrap`, and the exact power while it fits,
`ipow64_exact`) and the dependence of `_fdtw` on its accumulation: only its values on the point distances of
the two tracks matter (`fdtwOn_congr`). -/
namespace TV.DTW

theorem wrap64_of_range (n : Int) (h1 : -9223372036854775808 ≤ n) (h2 : n < 9223372036854775808) : wrap64 n = n := by
  unfold wrap64; omega

theorem wrap64_range (n : Int) : -9223372036854775808 ≤ wrap64 n ∧ wrap64 n < 9223372036854775808 := by
  unfold wrap64; omega

theorem wrap64_eq_bmod (n : Int) : wrap64 n = Int.bmod n 18446744073709551616 := by
  unfold wrap64
  rw [Int.bmod_def]
  omega

theorem wrap64_wrap_mul (x y : Int) : wrap64 (wrap64 x * y) = wrap64 (x * y) := by
  simp only [wrap64_eq_bmod, Int.bmod_mul_bmod]

/-- **`B ** k` in int64 is the exact power reduced modulo 2^64** (whatever the order in which numpy multiplies) -/
theorem ipow64_eq_wrap (b : Int) : ∀ k : Nat, ipow64 b k = wrap64 (b ^ k)
  | 0 => by simp only [ipow64, pow_zero]; exact (wrap64_of_range 1 (by decide) (by decide)).symm
  | k+1 => by
    simp only [ipow64, mul64]
    rw [ipow64_eq_wrap b k, wrap64_wrap_mul, pow_succ]

theorem ipow64_exact (b : Int) (k : Nat) (h0 : 0 ≤ b) (h : b ^ k < 9223372036854775808) : ipow64 b k = b ^ k := by
  rw [ipow64_eq_wrap]
  exact wrap64_of_range _ (by have := pow_nonneg h0 k; linarith) h

theorem npow_int (b : Int) : ∀ k : Nat, npow b k = b ^ k :=
  npow_pow b

section cells
variable {α : Type}

theorem cellAt_distCols_mem (dist : Pt α → Pt α → α) (t1 t2 : List (Pt α)) (i j : Nat) (d : α)
    (h : cellAt (distCols dist t1 t2) i j = some d) : ∃ p ∈ t2, ∃ q ∈ t1, d = dist p q := by
  obtain ⟨_, hc, hd⟩ := Option.bind_eq_some_iff.mp h
  simp only [distCols, List.getElem?_map, Option.map_eq_some_iff] at hc
  obtain ⟨q, hq, rfl⟩ := hc
  simp only [List.getElem?_map, Option.map_eq_some_iff] at hd
  obtain ⟨p, hp, rfl⟩ := hd
  exact ⟨p, List.mem_of_getElem? hp, q, List.mem_of_getElem? hq, rfl⟩

end cells

section congr
variable {α : Type} [LT α] [DecidableLT α]

theorem relax_congr (big : α) (w w' : α → α → α) (D : Nat → Nat → Option α)
    (h : ∀ a d i j, D i j = some d → w a d = w' a d) (node : Nat × Nat) (tij : α) (cond : Bool) (y : Nat × Nat) (st : FState α) :
    relax big w D node tij cond y st = relax big w' D node tij cond y st := by
  unfold relax
  cases cond with
  | false => rfl
  | true =>
    simp only [if_true]
    cases hD : D y.1 y.2 with
    | none => rfl
    | some d => simp only [Option.map_some, h tij d y.1 y.2 hD]

variable [OfNat α 0]

theorem fdtwLoop_congr (big : α) (w w' : α → α → α) (D : Nat → Nat → Option α)
    (h : ∀ a d i j, D i j = some d → w a d = w' a d) (n1 n2 : Nat) :
    ∀ (fuel : Nat) (st : FState α), fdtwLoop big w D n1 n2 fuel st = fdtwLoop big w' D n1 n2 fuel st
  | 0, _ => rfl
  | fuel+1, st => by
    unfold fdtwLoop
    cases popSmallest st.F with
    | none => rfl
    | some e =>
      simp only [relax_congr big w w' D h, fdtwLoop_congr big w w' D h n1 n2 fuel]

theorem fdtwOn_congr [Sub α] (dist : Pt α → Pt α → α) (big : α) (w w' : α → α → α) (rows0 : List (Row α)) (t1 t2 : List (Pt α))
    (h : ∀ p ∈ t2, ∀ q ∈ t1, ∀ a, w a (dist p q) = w' a (dist p q)) :
    fdtwOn dist big w rows0 t1 t2 = fdtwOn dist big w' rows0 t1 t2 := by
  have hc : ∀ a d i j, cellAt (distCols dist t1 t2) i j = some d → w a d = w' a d := fun a d i j hd => by
    obtain ⟨p, hp, q, hq, rfl⟩ := cellAt_distCols_mem dist t1 t2 i j d hd
    exact h p hp q hq a
  have hl := fdtwLoop_congr big w w' (cellAt (distCols dist t1 t2)) hc t1.length t2.length
  -- `w` occurs in the initial cell `T[0,0] = w 0 D[0,0]` and in the loop
  simp only [fdtwOn, Option.bind_eq_bind]
  cases hd : cellAt (distCols dist t1 t2) 0 0 with
  | none => simp only [Option.bind_none]   -- `rfl` would compare the two continuations first
  | some d00 => simp only [Option.bind_some, hc 0 d00 0 0 hd, hl]

end congr

end TV.DTW
