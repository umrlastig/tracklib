import TracklibVerif.Lemmas.SimplifyVwTie
/-! Visvalingam, **mixed columns** (some `'@aire'` entries numbers below ARGMIN's initial minimum, some infinite — found since b728412 — or NaN — never found): when exactly the
first observation survives. The entry of the first observation is NaN from the start and is never rewritten while ARGMIN answers an
index >= 1 (the two neighbour updates write `id - 1 >= 1` and `id >= 1`); ARGMIN answers an index >= 1 exactly when it finds a minimum,
i.e. when some entry is a number below its initial minimum or equal to it (`Hit`; `+inf` itself counts since b728412: only a column
of NaN has no minimum); otherwise it answers its default 0, `NaN > eps` is False, and the
first observation is removed. So the first observation is kept **iff every pass finds a minimum** (`AllHit`) — as every pass does on a
column without NaN (`allHit_vwInit`).
No property of the scalar type is used. -/
namespace TV.Simplify
variable {α : Type} [Add α] [Sub α] [Mul α] [Div α] [Neg α] [LT α] [DecidableLT α] [BEq α]
  [OfNat α 0] [OfNat α 1] [OfNat α 2]

/-- every pass of the run (at most `fuel` passes from `S`) finds a minimum -/
def AllHit (big eps2 : α) : Nat → VState α → Prop
  | 0, _ => True
  | fuel + 1, S =>
    match vwStep big eps2 S with
    | none => True
    | some S' => Hit big S ∧ AllHit big eps2 fuel S'

section
omit [Add α] [Neg α]

theorem allHit_vwInit (big eps2 : α) (fuel : Nat) :
    ∀ K : List (Fix α), NumAreas big K → AllHit big eps2 fuel (vwInit K) := by
  induction fuel with
  | zero => intro K _; trivial
  | succ fuel ih =>
    intro K hnum
    cases hs : vwStep big eps2 (vwInit K) with
    | none => simp only [AllHit, hs]
    | some S' =>
      obtain ⟨hl, _, rfl⟩ := vwStep_some hs
      have hK : 2 < K.length := by rwa [vwInit_length] at hl
      obtain ⟨_, _, e, _, hnum'⟩ := vwInit_pass hnum hK (argmin_mem_tieIds big _)
      simp only [AllHit, hs]
      rw [e]
      exact ⟨hit_vwInit hnum hK, ih _ hnum'⟩

/-- a pass that finds a minimum removes an observation other than the first -/
theorem vwStep_hit (big eps2 : α) (S S' : VState α) (hf : FirstNaN S) (hh : Hit big S)
    (hs : vwStep big eps2 S = some S') :
    FirstNaN S' ∧ (S'.map (·.1)).head? = (S.map (·.1)).head? ∧ (S'.map (·.1)).Sublist (S.map (·.1)) := by
  obtain ⟨_, _, rfl⟩ := vwStep_some hs
  have hpos := hit_argmin_pos big S hf hh
  rw [vwBody_map_fst]
  exact ⟨hf.body hpos, head?_eraseIdx_pos _ _ hpos, List.eraseIdx_sublist _ _⟩

/-- when no entry is a number `<=` ARGMIN's initial minimum (since b728412: a column of NaN) and more than two observations remain,
ARGMIN answers its default 0, the NaN stored there does not trigger the `break`, and the pass removes the **first** observation -/
theorem vwStep_of_not_hit (big eps2 : α) (S : VState α) (hl : 2 < S.length) (hf : FirstNaN S) (hh : ¬ Hit big S) :
    vwStep big eps2 S = some (vwBody S 0) := by
  have ea := argmin_of_not_hit hh
  obtain ⟨p, hp⟩ := hf
  rw [vwStep_go big hl (by rw [ea]; unfold vwStop; rw [hp]), ea]

theorem hit_vwInit_iff (big : α) (L : List (Fix α)) :
    Hit big (vwInit L) ↔ ∃ (j : Nat) (v : α), 0 < j ∧ aireVisval L j = some v ∧ (v < big ∨ (v == big) = true) := by
  have key : ∀ (j : Nat) (v : α), ((vwInit L).map (·.2))[j]? = some (some v) ↔ 0 < j ∧ aireVisval L j = some v := by
    intro j v
    rw [List.getElem?_map, vwInit_getElem?]
    cases hL : L[j]? with
    | none =>
      simp [aireVisval_last L j (Nat.le_succ_of_le (List.getElem?_eq_none_iff.mp hL))]
    | some p =>
      by_cases hj : j = 0
      · simp [hj]
      · simp [hj, Nat.pos_of_ne_zero hj]
  exact ⟨fun ⟨j, v, hj, hb⟩ => ⟨j, v, ((key j v).mp hj).1, ((key j v).mp hj).2, hb⟩,
    fun ⟨j, v, h0, hv, hb⟩ => ⟨j, v, (key j v).mpr ⟨h0, hv⟩, hb⟩⟩

end

/-- T14 along the run (observations pairwise different, as the tagged fixes of a track are): the first observation is still the first at the
end exactly when every pass finds a minimum. A pass that finds one leaves it in place (`vwStep_hit`); the first pass that finds none removes it, and
what the run keeps afterwards comes from the rest, where it does not occur again. -/
theorem vwLoop_first_iff (big eps2 : α) (fuel : Nat) (S : VState α) (hf : FirstNaN S) (hn : (S.map (·.1)).Nodup) :
    ((vwLoop big eps2 fuel S).map (·.1)).head? = (S.map (·.1)).head? ↔ AllHit big eps2 fuel S := by
  fun_induction vwLoop big eps2 fuel S with
  | case1 S => exact ⟨fun _ => trivial, fun _ => rfl⟩
  | case2 fuel S hs => simp only [AllHit, hs]
  | case3 fuel S S' hs ih =>
    simp only [AllHit, hs]
    by_cases hh : Hit big S
    · obtain ⟨f', e, sub⟩ := vwStep_hit big eps2 S S' hf hh hs
      rw [← e, ih f' (hn.sublist sub)]
      exact ⟨fun h => ⟨hh, h⟩, fun h => h.2⟩
    · refine ⟨fun heq => ?_, fun h => absurd h.1 hh⟩
      have em : S'.map (·.1) = (S.map (·.1)).eraseIdx 0 := by
        rw [(vwStep_some hs).2.2, argmin_of_not_hit hh]; exact vwBody_map_fst S 0
      have sub := (vwLoop_reach big eps2 fuel S').sublist
      obtain ⟨p, hp⟩ := hf
      obtain ⟨tl, hS⟩ := List.head?_eq_some_iff.mp
        (show (S.map (·.1)).head? = some p by rw [List.head?_eq_getElem?, List.getElem?_map, hp]; rfl)
      rw [em, hS, List.eraseIdx_zero, List.tail_cons] at sub
      rw [hS] at hn heq
      exact absurd (sub.subset (List.mem_of_mem_head? heq)) (List.nodup_cons.mp hn).1

end TV.Simplify
