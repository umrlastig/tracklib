import TracklibVerif.Lemmas.Expr
/-! Externals (`Track.operate(expression, {'name': value})`): with an empty dictionary the machine that reads
externals is the machine of the theorems. -/
namespace TV.Expr
variable {α : Type} [Scalar α]

theorem evalRPNx_nil (toks : List Str) (tr : Tr α) (st : List (Item α)) (k : Nat) :
    evalRPNx [] tr toks st k = evalRPN tr toks st k := by
  fun_induction evalRPN tr toks st k <;> simp_all [evalRPNx, lookupExt]

theorem evalTokensX_nil (tr : Tr α) (rpn : List Str) (void : Bool) : evalTokensX [] tr rpn void = evalTokens tr rpn void := by
  unfold evalTokensX evalTokens
  rw [evalRPNx_nil]

theorem evaluateRewrittenX_nil (tr : Tr α) (s : Str) (void : Bool) :
    evaluateRewrittenX [] tr s void = evaluateRewritten tr s void := by
  unfold evaluateRewrittenX evaluateRewritten
  simp only [evalTokensX_nil]

theorem evaluateX_nil (tr : Tr α) (expr : Str) : evaluateX [] tr expr = evaluate tr expr := by
  unfold evaluateX evaluate
  simp only [evaluateRewrittenX_nil]

end TV.Expr
