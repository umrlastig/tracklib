import TracklibVerif.Lemmas.CinTabHoare
import TracklibVerif.Lemmas.FeaturesRel
import TracklibVerif.Model.CinematicsTabK
/-! The C17 programs proved from the laws of a feature table (`Laws`), once for every representation:
`addAnalyticalFeature`, the integrator, and `computeAbsCurv` / `estimate_speed` for an ARBITRARY algorithm that only
reads (`computeAbsCurvG`, `estimateSpeedG`; the ENU programs `computeAbsCurvT`, `estimateSpeedT` are the instances at
`dsAlgT`, `speedAlgT`, the class-dispatching ones those at `dsAlgK`, `speedAlgK`: `Lemmas/CinTabK.lean`). -/
namespace TV.CinTab
open TV.Features TV.CinTabK

variable {σ V : Type} [Tbl σ V]
variable {I : σ → Prop} {n : σ → Nat} {rd : σ → String → Option (List V)} {co : σ → Coord → List V}

theorem forEach_raises (f : Nat → M σ Unit) {e : Err} {s s₁ s₂ : σ} {k n : Nat} (hk : k < n)
    (hpre : M.forEach (List.range k) f s = (.ok (), s₁)) (herr : f k s₁ = (.error e, s₂)) :
    M.forEach (List.range n) f s = (.error e, s₂) := by
  obtain ⟨m, rfl⟩ : ∃ m, n = k + (m + 1) := ⟨n - k - 1, by omega⟩
  rw [List.range_add, List.range_succ_eq_map, List.map_cons, forEach_append, bind_of_ok hpre]
  exact bind_of_error herr

theorem foldL_read_range' {β : Type} (f : β → Nat → M σ β) (G : Nat → β) (s : σ) (a n : Nat)
    (h : ∀ i, i < n → f (G i) (a + i) s = (.ok (G (i + 1)), s)) : M.foldL (List.range' a n) (G 0) f s = (.ok (G n), s) := by
  obtain ⟨_, _, e, rfl, rfl⟩ := triple_foldL_range' f (fun j b s' => b = G (j - a) ∧ s' = s) n a (G 0)
    (fun i hi _ _ ⟨hb, hs⟩ => by
      subst hb hs
      rw [Nat.add_assoc, Nat.add_sub_cancel_left, Nat.add_sub_cancel_left]
      exact ⟨_, _, h i hi, rfl, rfl⟩) s ⟨by rw [Nat.sub_self], rfl⟩
  rw [e, Nat.add_sub_cancel_left]

theorem foldL_read_range {β : Type} (f : β → Nat → M σ β) (G : Nat → β) (s : σ) (n : Nat)
    (h : ∀ i, i < n → f (G i) i s = (.ok (G (i + 1)), s)) : M.foldL (List.range n) (G 0) f s = (.ok (G n), s) := by
  rw [List.range_eq_range']
  exact foldL_read_range' f G s 0 n (by simpa only [Nat.zero_add] using h)

omit [Tbl σ V] in
theorem eq_map_range {l : List V} {N : Nat} {F : Nat → V} (hlen : l.length = N) (h : ∀ i, i < N → l[i]? = some (F i)) :
    l = (List.range N).map F := by
  apply List.ext_getElem?
  intro i
  by_cases hi : i < N
  · rw [h i hi]; simp [hi]
  · simp [hi, hlen]

/-- what a loop over the values of one name leaves alone: the invariant, the size, the coordinates, every other name -/
def Ctx (I : σ → Prop) (n : σ → Nat) (rd : σ → String → Option (List V)) (co : σ → Coord → List V)
    (N : Nat) (C : Coord → List V) (R : String → Option (List V)) (name : String) (s : σ) : Prop :=
  I s ∧ n s = N ∧ co s = C ∧ ∀ m, m ≠ name → rd s m = R m

omit [Tbl σ V] in
theorem Ctx.refl {s : σ} (hI : I s) (name : String) : Ctx I n rd co (n s) (co s) (rd s) name s := ⟨hI, rfl, rfl, fun _ _ => rfl⟩

theorem write_prefix (L : Laws I n rd co) (name : String) (hr : reserved name = false) (N : Nat) (C : Coord → List V)
    (R : String → Option (List V)) (f : Nat → M σ Unit) (F : Nat → V) (k : Nat) (hk : k ≤ N)
    (hf : ∀ i, i < k → ∀ s, Ctx I n rd co N C R name s → (∃ col, rd s name = some col) →
      f i s = (Tbl.setObs name i (F i) : M σ Unit) s) :
    Triple (fun s => Ctx I n rd co N C R name s ∧ ∃ col, rd s name = some col)
      (M.forEach (List.range k) f)
      (fun _ s => Ctx I n rd co N C R name s ∧ ∃ col, rd s name = some col ∧ ∀ i, i < k → col[i]? = some (F i)) := by
  refine triple_conseq (triple_forEach_range f
    (fun k s => Ctx I n rd co N C R name s ∧ ∃ col, rd s name = some col ∧ ∀ i, i < k → col[i]? = some (F i)) k ?_)
    (fun s ⟨hc, col, hcol⟩ => ⟨hc, col, hcol, fun i hi => by omega⟩) (fun _ _ h => h)
  intro i hi s ⟨hc, col, hcol, hpre⟩
  obtain ⟨hI, hn, hco, hoth⟩ := hc
  have hlen : col.length = N := by rw [L.rd_len s name col hI hcol, hn]
  obtain ⟨s', e, hI', hrd', hn', hoth', hco'⟩ := L.setObs s name col i (F i) hI hr hcol (by omega)
  refine ⟨(), s', ?_, ⟨hI', by rw [hn', hn], by rw [hco', hco], fun m hm => by rw [hoth' m hm, hoth m hm]⟩,
    col.set i (F i), hrd', ?_⟩
  · rw [hf i hi s ⟨hI, hn, hco, hoth⟩ ⟨col, hcol⟩]; exact e
  · intro j hj
    by_cases hji : j = i
    · subst hji; simp [show j < col.length by omega]
    · rw [List.getElem?_set_ne (by omega)]
      exact hpre j (by omega)

theorem write_loop (L : Laws I n rd co) (name : String) (hr : reserved name = false) (N : Nat) (C : Coord → List V)
    (R : String → Option (List V)) (f : Nat → M σ Unit) (F : Nat → V)
    (hf : ∀ i, i < N → ∀ s, Ctx I n rd co N C R name s → (∃ col, rd s name = some col) →
      f i s = (Tbl.setObs name i (F i) : M σ Unit) s) :
    Triple (fun s => Ctx I n rd co N C R name s ∧ ∃ col, rd s name = some col)
      (M.forEach (List.range N) f)
      (fun _ s => Ctx I n rd co N C R name s ∧ rd s name = some ((List.range N).map F)) :=
  triple_conseq (write_prefix L name hr N C R f F N (Nat.le_refl N) hf) (fun _ h => h) fun _ s ⟨hc, col, hcol, hall⟩ =>
    ⟨hc, hcol.trans (congrArg some (eq_map_range (by rw [L.rd_len s name col hc.1 hcol, hc.2.1]) hall))⟩

theorem create_ctx (L : Laws I n rd co) (name : String) (hr : reserved name = false) (v : V) (s : σ) (hI : I s) (hN : 0 < n s) :
    ∃ s', (Tbl.create name (.scalar v) : M σ Unit) s = (.ok (), s') ∧ Ctx I n rd co (n s) (co s) (rd s) name s'
      ∧ ∃ col, rd s' name = some col := by
  cases hrd : rd s name with
  | none =>
    obtain ⟨s', col, e, hI', hrd', hn', hoth', hco'⟩ := L.create_new s name v hI hr hrd hN
    exact ⟨s', e, ⟨hI', hn', hco', hoth'⟩, col, hrd'⟩
  | some col => exact ⟨s, L.create_old s name v col hI hr hrd hN, .refl hI name, col, hrd⟩

/-- `addAnalyticalFeature(alg, name)` for an algorithm that only reads (what it reads is not `name`): whether the name
was listed or not, afterwards it reads `[F 0, …, F (N-1)]`, which is also what is returned -/
theorem addAFfn_spec (L : Laws I n rd co) (o : Ops V) (name : String) (hr : reserved name = false) (alg : Nat → M σ V)
    (F : Nat → V) (s : σ) (hI : I s) (hN : 0 < n s)
    (halg : ∀ i, i < n s → ∀ s', I s' → n s' = n s → co s' = co s → alg i s' = (.ok (F i), s')) :
    ∃ s', (addAFfn o alg name : M σ (List V)) s = (.ok ((List.range (n s)).map F), s')
      ∧ Ctx I n rd co (n s) (co s) (rd s) name s' ∧ rd s' name = some ((List.range (n s)).map F) := by
  obtain ⟨_, s1, e1, hc1, hcol⟩ : ∃ u s1, (if !(rd s name).isSome then Tbl.create name (.scalar o.zero) else pure () : M σ Unit) s = (.ok u, s1)
      ∧ Ctx I n rd co (n s) (co s) (rd s) name s1 ∧ ∃ col, rd s1 name = some col := by
    cases hrd : rd s name with
    | none => exact ⟨(), create_ctx L name hr o.zero s hI hN⟩
    | some c => exact ⟨(), s, rfl, .refl hI name, c, hrd⟩
  obtain ⟨_, s2, e2, hc2, hrd2⟩ := write_loop L name hr (n s) (co s) (rd s) _ F
    (fun i hi s' hc _ => bind_of_ok (catchIndex_ok (halg i hi s' hc.1 hc.2.1 hc.2.2.1))) s1 ⟨hc1, hcol⟩
  refine ⟨s2, ?_, hc2, hrd2⟩
  unfold addAFfn
  simp only [hr, Bool.false_eq_true, if_false]
  rw [bind_of_ok (L.has s name hI hr), bind_of_ok e1, bind_of_ok (L.size s1), hc1.2.1, bind_of_ok (show afLoop o alg name (n s) s1 = _ from e2)]
  exact L.get_feat o s2 name _ hc2.1 hr hrd2

/-- **The exception path of `addAnalyticalFeature`.** On a name that is not listed, for an algorithm that only reads and
returns `F i` at the fixes `i < k` and raises `e` — not an `IndexError`, which the loop would turn into NaN — at fix `k`: the
call ends in `e`; the column created before the loop stays listed and holds `F i` at the fixes `i < k`; nothing else changed. -/
theorem addAFfn_raises (L : Laws I n rd co) (o : Ops V) (name : String) (hr : reserved name = false) (alg : Nat → M σ V)
    (F : Nat → V) (k : Nat) (e : Err) (hne : e ≠ .index) (s : σ) (hI : I s) (hk : k < n s) (hnew : rd s name = none)
    (hok : ∀ i, i < k → ∀ s', I s' → n s' = n s → co s' = co s → alg i s' = (.ok (F i), s'))
    (herr : ∀ s', I s' → n s' = n s → co s' = co s → alg k s' = (.error e, s')) :
    ∃ s' col, (addAFfn o alg name : M σ (List V)) s = (.error e, s') ∧ I s' ∧ n s' = n s ∧ co s' = co s
      ∧ rd s' name = some col ∧ (∀ i, i < k → col[i]? = some (F i)) ∧ ∀ m, m ≠ name → rd s' m = rd s m := by
  obtain ⟨s1, e1, hc1, hcol⟩ := create_ctx L name hr o.zero s hI (by omega)
  obtain ⟨_, s2, e2, hc2, col, hrd2, hall⟩ :=
    write_prefix L name hr (n s) (co s) (rd s) (fun i => M.catchIndex (alg i) o.nan >>= fun v => Tbl.setObs name i v) F k
      (Nat.le_of_lt hk)
      (fun i hi s' hc _ => bind_of_ok (catchIndex_ok (hok i hi s' hc.1 hc.2.1 hc.2.2.1)))
      s1 ⟨hc1, hcol⟩
  refine ⟨s2, col, ?_, hc2.1, hc2.2.1, hc2.2.2.1, hrd2, hall, hc2.2.2.2⟩
  unfold addAFfn
  simp only [hr, Bool.false_eq_true, if_false]
  rw [bind_of_ok (L.has s name hI hr), hnew]
  simp only [Option.isSome_none, Bool.not_false, if_true]
  rw [bind_of_ok e1, bind_of_ok (L.size s1), hc1.2.1]
  apply bind_of_error
  exact forEach_raises _ hk e2 (bind_of_error (catchIndex_err (herr s2 hc2.1 hc2.2.1 hc2.2.2.1) hne))

/-- `temp[i] = temp[i-1] + in[i]` from a running value -/
def integLoopG (o : Ops V) : V → List V → List V
  | _, [] => []
  | acc, d :: rest => o.add acc d :: integLoopG o (o.add acc d) rest

/-- `Integrator.execute` on a column: first value 0, the input at index 0 is never read -/
def integG (o : Ops V) : List V → List V
  | [] => []
  | _ :: rest => o.zero :: integLoopG o o.zero rest

theorem integLoopG_length (o : Ops V) : ∀ (acc : V) (l : List V), (integLoopG o acc l).length = l.length
  | _, [] => rfl
  | acc, d :: rest => by simp [integLoopG, integLoopG_length o (o.add acc d) rest]

theorem integG_length (o : Ops V) (l : List V) : (integG o l).length = l.length := by
  cases l with
  | nil => rfl
  | cons d rest => simp [integG, integLoopG_length]

theorem unaryTemp_integ (L : Laws I n rd co) (o : Ops V) (inp : String) (hr : reserved inp = false) (D : List V) (s : σ)
    (hI : I s) (hN : 0 < n s) (hD : rd s inp = some D) :
    (unaryTemp o .integrator inp (n s) : M σ (List V)) s = (.ok (integG o D), s) := by
  have hlen : D.length = n s := L.rd_len s inp D hI hD
  -- at index `i`: what is written so far, followed by the loop on the rest of the input, is the whole result
  obtain ⟨r, _, e, hacc, rfl⟩ := triple_foldL_range'
    (fun (acc : V × List V) i => (Tbl.getObs o inp i : M σ V) >>= fun v => pure (o.add acc.1 v, o.add acc.1 v :: acc.2))
    (fun i (acc : V × List V) s' => acc.2.reverse ++ integLoopG o acc.1 (D.drop i) = integLoopG o o.zero (D.drop 1) ∧ s = s')
    (n s - 1) 1 (o.zero, [])
    (by
      rintro i hi acc _ ⟨hacc, rfl⟩
      have hlt : 1 + i < D.length := by omega
      refine ⟨_, s, bind_of_ok (L.getObs_feat o s inp D (1 + i) _ hI hr hD (List.getElem?_eq_getElem hlt)), ?_, rfl⟩
      rw [← hacc, List.drop_eq_getElem_cons hlt]
      simp [integLoopG])
    s ⟨by simp, rfl⟩
  refine (bind_of_ok e).trans ?_
  cases D with
  | nil => exact absurd hlen (Nat.ne_of_lt hN)
  | cons d rest =>
    rw [List.drop_eq_nil_of_le (by omega), List.drop_one, List.tail_cons] at hacc
    show (Except.ok (if (n s == 0) = true then [] else o.zero :: r.2.reverse), s) = _
    rw [if_neg (by simpa using Nat.ne_of_gt hN), integG, ← hacc, integLoopG, List.append_nil]

theorem addListToAF_full (L : Laws I n rd co) (name : String) (hr : reserved name = false) (N : Nat) (C : Coord → List V)
    (R : String → Option (List V)) (arr : List V) (harr : arr.length = N) (d : V) :
    Triple (fun s => Ctx I n rd co N C R name s ∧ ∃ col, rd s name = some col)
      (addListToAF name arr : M σ Unit)
      (fun _ s => Ctx I n rd co N C R name s ∧ rd s name = some arr) := by
  intro s hs
  obtain ⟨x, s', e, hc, hrd⟩ := write_loop L name hr N C R
    (fun i => match arr[i]? with | some v => Tbl.setObs name i v | none => M.throw .index) (fun i => arr.getD i d)
    (fun i hi s _ _ => by simp [List.getElem?_eq_getElem (harr ▸ hi)]) s hs
  refine ⟨x, s', ?_, hc, hrd.trans (congrArg some (eq_map_range harr fun i hi => ?_).symm)⟩
  · unfold addListToAF
    rw [bind_of_ok (L.size s), hs.1.2.1]
    exact e
  · simp [List.getElem?_eq_getElem (harr ▸ hi)]

theorem unaryVoid_integ_spec (L : Laws I n rd co) (o : Ops V) (inp out : String) (hri : reserved inp = false)
    (hro : reserved out = false) (hne : inp ≠ out) (D : List V) (s : σ) (hI : I s) (hN : 0 < n s) (hD : rd s inp = some D) :
    ∃ s', (unaryVoid o .integrator inp out : M σ (List V)) s = (.ok (integG o D), s')
      ∧ Ctx I n rd co (n s) (co s) (rd s) out s' ∧ rd s' out = some (integG o D) := by
  obtain ⟨s1, e1, hc1, hcol⟩ := create_ctx L out hro o.zero s hI hN
  have e2 := unaryTemp_integ L o inp hri D s1 hc1.1 (hc1.2.1 ▸ hN) ((hc1.2.2.2 inp hne).trans hD)
  obtain ⟨_, s2, e3, hc2, hrd2⟩ := addListToAF_full L out hro (n s) (co s) (rd s) (integG o D)
    (by rw [integG_length, L.rd_len s inp D hI hD]) o.zero s1 ⟨hc1, hcol⟩
  refine ⟨s2, ?_, hc2, hrd2⟩
  unfold unaryVoid
  rw [bind_of_ok e1, bind_of_ok (L.size s1), bind_of_ok e2, bind_of_ok e3]
  rfl

/-! ### the algorithms read only

`ds`, `speed` and `computeCurvAbsBetweenTwoPoints` are the same Python whatever distance the positions define: they are
proved once for a distance program `dist` that only reads and returns the leg `ℓ i j` (`ReadsLeg`). The `ENUCoords`
distance built into `dist2DT` (below), the class kernels (`Lemmas/CinTabK.lean`) and the 3D distance of `Track.length`
(`Lemmas/CinTabMore.lean`) are the instances. Each lemma is stated for a state of `N` fixes with coordinate columns `C`,
in the shape `addAFfn_spec` asks for. -/

/-- `ds(track, i)` for the leg `ℓ i j` between fixes `i` and `j` -/
def dsL (g : GOps V) (ℓ : Nat → Nat → V) (i : Nat) : V := if i = 0 then g.zero else ℓ i (i - 1)

/-- the value a coordinate column holds at fix `i`. Outside the column it is never taken: there `getObs` raises, and every
lemma below is about fixes `< N` (`getObs_co_bind`) -/
def atFix (g : GOps V) (X : List V) (i : Nat) : V := (X[i]?).getD g.nan

/-- the speed between a later fix `a` and an earlier fix `b`, from the leg and the time column -/
def betweenL (g : GOps V) (ℓ : Nat → Nat → V) (T : List V) (a b : Nat) : V :=
  if g.isZero (g.sub (atFix g T a) (atFix g T b)) then g.nan else g.div (ℓ a b) (g.sub (atFix g T a) (atFix g T b))

/-- `speed(track, i)` on a track of `N` fixes -/
def speedL (g : GOps V) (ℓ : Nat → Nat → V) (T : List V) (N i : Nat) : V :=
  if i = 0 then betweenL g ℓ T 1 0
  else if i = N - 1 then betweenL g ℓ T (N - 1) (N - 2)
  else betweenL g ℓ T (i + 1) (i - 1)

/-- the first `k` legs `ℓ 0 1, ℓ 1 2, …` accumulated from `0` in Python's order -/
def sumL (g : GOps V) (ℓ : Nat → Nat → V) : Nat → V
  | 0 => g.zero
  | k + 1 => g.add (sumL g ℓ k) (ℓ k (k + 1))

def ReadsLeg (dist : Nat → Nat → M σ V) (ℓ : Nat → Nat → V) (N : Nat) (s : σ) : Prop :=
  ∀ i j, i < N → j < N → dist i j s = (.ok (ℓ i j), s)

variable {N : Nat} {C : Coord → List V} {dist : Nat → Nat → M σ V} {ℓ : Nat → Nat → V} {s : σ}

omit [Tbl σ V] in
theorem dsAlg_read (g : GOps V) (hd : ReadsLeg dist ℓ N s) (i : Nat) (hi : i < N) :
    (if i = 0 then pure g.zero else dist i (i - 1) : M σ V) s = (.ok (dsL g ℓ i), s) := by
  unfold dsL
  split
  · rfl
  · exact hd i (i - 1) hi (by omega)

theorem getObs_co_bind (L : Laws I n rd co) (g : GOps V) (c : Coord) {i : Nat} (hi : i < N) (hI : I s) (hn : n s = N)
    (hco : co s = C) {β : Type} (f : V → M σ β) :
    ((Tbl.getObs g.toOps (cnm c) i : M σ V) >>= f) s = f (atFix g (C c) i) s := by
  subst hn hco
  have hlt : i < (co s c).length := by rw [L.co_len s c hI]; exact hi
  rw [bind_of_ok (L.getObs_coord g.toOps s c i _ hI (List.getElem?_eq_getElem hlt)), atFix, List.getElem?_eq_getElem hlt]
  rfl

theorem speedBetween_read (L : Laws I n rd co) (g : GOps V) (hd : ReadsLeg dist ℓ N s) (hI : I s) (hn : n s = N)
    (hco : co s = C) (a b : Nat) (ha : a < N) (hb : b < N) :
    (dist a b >>= fun d => (Tbl.getObs g.toOps "t" a : M σ V) >>= fun ta => (Tbl.getObs g.toOps "t" b : M σ V) >>= fun tb =>
      pure (if g.isZero (g.sub ta tb) then g.nan else g.div d (g.sub ta tb))) s
      = (.ok (betweenL g ℓ (C .t) a b), s) :=
  (bind_of_ok (hd a b ha hb)).trans <| (getObs_co_bind L g .t ha hI hn hco _).trans <|
    (getObs_co_bind L g .t hb hI hn hco _).trans rfl

/-- `speed(track, i)` for any way `between a b` of taking the speed between two fixes that only reads and returns `B a b` -/
theorem speedAlg_read (L : Laws I n rd co) (between : Nat → Nat → M σ V) (B : Nat → Nat → V) (s : σ) (hn : n s = N)
    (h : ∀ a b, a < N → b < N → between a b s = (.ok (B a b), s)) (hN : 2 ≤ N) (i : Nat) (hi : i < N) :
    (if i = 0 then between 1 0
      else (Tbl.size : M σ Nat) >>= fun n => if i = n - 1 then between (n - 1) (n - 2) else between (i + 1) (i - 1)) s
      = (.ok (if i = 0 then B 1 0 else if i = N - 1 then B (N - 1) (N - 2) else B (i + 1) (i - 1)), s) := by
  split
  · exact h 1 0 (by omega) (by omega)
  · rw [bind_of_ok (L.size s), hn]
    split
    · exact h _ _ (by omega) (by omega)
    · exact h _ _ (by omega) (by omega)

/-- `computeCurvAbsBetweenTwoPoints(track)`: `size`, then the legs `dist i (i+1)` added up -/
theorem sumLegs_read (L : Laws I n rd co) (g : GOps V) (hd : ReadsLeg dist ℓ (n s) s) :
    ((Tbl.size : M σ Nat) >>= fun n => M.foldL (List.range (n - 1)) g.zero fun acc i =>
      dist i (i + 1) >>= fun d => pure (g.add acc d)) s = (.ok (sumL g ℓ (n s - 1)), s) := by
  rw [bind_of_ok (L.size s)]
  exact foldL_read_range _ (sumL g ℓ) s _ (fun i hi => by
    rw [bind_of_ok (hd i (i + 1) (by omega) (by omega))]
    rfl)

/-- the planimetric `ENUCoords` distance between fixes `i` and `j` of the coordinate columns -/
def leg2 (g : GOps V) (X Y : List V) (i j : Nat) : V :=
  norm2D g (g.sub (atFix g X j) (atFix g X i)) (g.sub (atFix g Y j) (atFix g Y i))

theorem dist2DT_read (L : Laws I n rd co) (g : GOps V) (s : σ) (hI : I s) (hn : n s = N) (hco : co s = C) :
    ReadsLeg (dist2DT g : Nat → Nat → M σ V) (leg2 g (C .x) (C .y)) N s := fun _ _ hi hj =>
  (getObs_co_bind L g .x hi hI hn hco _).trans <| (getObs_co_bind L g .y hi hI hn hco _).trans <|
    (getObs_co_bind L g .x hj hI hn hco _).trans <| (getObs_co_bind L g .y hj hI hn hco _).trans rfl

theorem dsAlgT_read (L : Laws I n rd co) (g : GOps V) (i : Nat) (hi : i < N) (s : σ) (hI : I s) (hn : n s = N)
    (hco : co s = C) : (dsAlgT g i : M σ V) s = (.ok (dsL g (leg2 g (C .x) (C .y)) i), s) :=
  dsAlg_read g (dist2DT_read L g s hI hn hco) i hi

theorem speedAlgT_read (L : Laws I n rd co) (g : GOps V) (hN : 2 ≤ N) (i : Nat) (hi : i < N) (s : σ) (hI : I s)
    (hn : n s = N) (hco : co s = C) :
    (speedAlgT g i : M σ V) s = (.ok (speedL g (leg2 g (C .x) (C .y)) (C .t) N i), s) :=
  speedAlg_read L _ _ s hn (speedBetween_read L g (dist2DT_read L g s hI hn hco) hI hn hco) hN i hi

theorem curvAbsT_read (L : Laws I n rd co) (g : GOps V) (s : σ) (hI : I s) :
    (curvAbsT g : M σ V) s = (.ok (sumL g (leg2 g (co s .x) (co s .y)) (n s - 1)), s) :=
  sumLegs_read L g (dist2DT_read L g s hI rfl rfl)

theorem ensureDsG_spec (L : Laws I n rd co) (g : GOps V) (alg : Nat → M σ V) (F : Nat → V) (s : σ) (hI : I s) (hN : 0 < n s)
    (hds : rd s "ds" = none)
    (halg : ∀ i, i < n s → ∀ s', I s' → n s' = n s → co s' = co s → alg i s' = (.ok (F i), s')) :
    ∃ s', (ensureDsG g alg : M σ Unit) s = (.ok (), s') ∧ Ctx I n rd co (n s) (co s) (rd s) "ds" s'
      ∧ rd s' "ds" = some ((List.range (n s)).map F) := by
  have rds : reserved "ds" = false := by decide
  obtain ⟨s', e, h⟩ := addAFfn_spec L g.toOps "ds" rds alg F s hI hN halg
  refine ⟨s', ?_, h⟩
  unfold ensureDsG
  rw [bind_of_ok (L.has s "ds" hI rds), hds]
  exact bind_of_ok e

theorem ensureAbsCurvT_spec (L : Laws I n rd co) (g : GOps V) (D : List V) (s : σ) (hI : I s) (hN : 0 < n s)
    (hD : rd s "ds" = some D) :
    ∃ s', (ensureAbsCurvT g : M σ Unit) s = (.ok (), s') ∧ Ctx I n rd co (n s) (co s) (rd s) "abs_curv" s'
      ∧ rd s' "abs_curv" = some ((rd s "abs_curv").getD (integG g.toOps D)) := by
  have rac : reserved "abs_curv" = false := by decide
  unfold ensureAbsCurvT
  rw [bind_of_ok (L.has s "abs_curv" hI rac)]
  cases hac : rd s "abs_curv" with
  | none =>
    obtain ⟨s', e, h⟩ := unaryVoid_integ_spec L g.toOps "ds" "abs_curv" (by decide) rac (by decide) D s hI hN hD
    exact ⟨s', bind_of_ok e, h⟩
  | some col => exact ⟨s, rfl, .refl hI _, hac⟩

/-- `computeAbsCurv` (with `alg` in the place of `analytics.ds`) on a table that does not list `ds`, when `alg i` only reads
and returns `F i`: the value returned is the listed column `abs_curv` or, if there is none, the integral of the column
`[F 0, …, F (n s - 1)]`; it is what `abs_curv` reads afterwards, `ds` is gone again, every other name, the coordinates and
the times are as before -/
theorem computeAbsCurvG_spec (L : Laws I n rd co) (g : GOps V) (alg : Nat → M σ V) (F : Nat → V) (s : σ) (hI : I s)
    (hN : 0 < n s) (hds : rd s "ds" = none)
    (halg : ∀ i, i < n s → ∀ s', I s' → n s' = n s → co s' = co s → alg i s' = (.ok (F i), s'))
    {col : List V} (hcol : (rd s "abs_curv").getD (integG g.toOps ((List.range (n s)).map F)) = col) :
    ∃ s', (computeAbsCurvG g alg : M σ (List V)) s = (.ok col, s') ∧ I s' ∧ n s' = n s ∧ co s' = co s
      ∧ rd s' "abs_curv" = some col ∧ ∀ m, m ≠ "abs_curv" → rd s' m = rd s m := by
  have rds : reserved "ds" = false := by decide
  obtain ⟨s1, e1, ⟨hI1, hn1, hco1, hoth1⟩, hds1⟩ := ensureDsG_spec L g alg F s hI hN hds halg
  obtain ⟨s2, e2, ⟨hI2, hn2, hco2, hoth2⟩, hac2⟩ := ensureAbsCurvT_spec L g _ s1 hI1 (hn1 ▸ hN) hds1
  obtain ⟨s3, e3, hI3, hds3, hn3, hoth3, hco3⟩ := L.remove s2 "ds" _ hI2 rds ((hoth2 "ds" (by decide)).trans hds1)
  have hac3 : rd s3 "abs_curv" = some col := by
    rw [hoth3 "abs_curv" (by decide), hac2, hoth1 "abs_curv" (by decide), hcol]
  refine ⟨s3, ?_, hI3, by rw [hn3, hn2, hn1], by rw [hco3, hco2, hco1], hac3, fun m hm => ?_⟩
  · unfold computeAbsCurvG
    rw [bind_of_ok e1, bind_of_ok e2, bind_of_ok e3]
    exact L.get_feat g.toOps s3 "abs_curv" col hI3 (by decide) hac3
  · by_cases hmd : m = "ds"
    · rw [hmd, hds3, hds]
    · rw [hoth3 m hmd, hoth2 m hm, hoth1 m hmd]

/-- … on a table that already lists `abs_curv`: the listed column is returned as it is, every name reads what it read
before (the temporary `ds` is created from `alg` and removed again) -/
theorem computeAbsCurvG_again (L : Laws I n rd co) (g : GOps V) (alg : Nat → M σ V) (F : Nat → V) (s : σ) (hI : I s)
    (hN : 0 < n s) (hds : rd s "ds" = none) (col : List V) (hac : rd s "abs_curv" = some col)
    (halg : ∀ i, i < n s → ∀ s', I s' → n s' = n s → co s' = co s → alg i s' = (.ok (F i), s')) :
    ∃ s', (computeAbsCurvG g alg : M σ (List V)) s = (.ok col, s') ∧ I s' ∧ n s' = n s ∧ co s' = co s
      ∧ ∀ m, rd s' m = rd s m := by
  obtain ⟨s', e, hI', hn', hco', hac', hoth⟩ := computeAbsCurvG_spec L g alg F s hI hN hds halg (col := col) (by rw [hac]; rfl)
  refine ⟨s', e, hI', hn', hco', fun m => ?_⟩
  by_cases hm : m = "abs_curv"
  · rw [hm, hac', hac]
  · exact hoth m hm

/-- `estimate_speed` (with `alg` in the place of `analytics.speed`) on a table that does not list `speed`: the column
`[F 0, …, F (n s - 1)]` is returned, it is what `speed` reads afterwards, nothing else changes -/
theorem estimateSpeedG_fresh (L : Laws I n rd co) (g : GOps V) (alg : Nat → M σ V) (F : Nat → V) (s : σ) (hI : I s)
    (hN : 0 < n s) (hsp : rd s "speed" = none)
    (halg : ∀ i, i < n s → ∀ s', I s' → n s' = n s → co s' = co s → alg i s' = (.ok (F i), s'))
    {col : List V} (hcol : (List.range (n s)).map F = col) :
    ∃ s', (estimateSpeedG g alg : M σ (List V)) s = (.ok col, s') ∧ I s' ∧ n s' = n s ∧ co s' = co s
      ∧ rd s' "speed" = some col ∧ ∀ m, m ≠ "speed" → rd s' m = rd s m := by
  have rsp : reserved "speed" = false := by decide
  obtain ⟨s', e, ⟨hI', hn', hco', hoth'⟩, hrd'⟩ := addAFfn_spec L g.toOps "speed" rsp alg F s hI hN halg
  rw [hcol] at e hrd'
  refine ⟨s', ?_, hI', hn', hco', hrd', hoth'⟩
  unfold estimateSpeedG
  rw [bind_of_ok (L.has s "speed" hI rsp), hsp]
  exact e

theorem estimateSpeedG_again (L : Laws I n rd co) (g : GOps V) (alg : Nat → M σ V) (s : σ) (hI : I s) (col : List V)
    (hsp : rd s "speed" = some col) : (estimateSpeedG g alg : M σ (List V)) s = (.ok col, s) := by
  have rsp : reserved "speed" = false := by decide
  unfold estimateSpeedG
  rw [bind_of_ok (L.has s "speed" hI rsp), hsp]
  exact L.get_feat g.toOps s "speed" col hI rsp hsp

end TV.CinTab
