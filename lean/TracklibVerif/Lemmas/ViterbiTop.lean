import TracklibVerif.Lemmas.ViterbiSentinel
import Mathlib.Algebra.Order.Monoid.WithTop
/-! Costs with a top element (`WithTop β`: `⊤` = the cost of an IMPOSSIBLE transition / emission, `-log 0`, what a user
who supplies logarithms returns for a zero probability): a sequence of finite cost uses no impossible entry. -/
namespace TV.Viterbi
variable {β : Type} [AddCommMonoid β]

theorem cost_ne_top (t : Tables (WithTop β)) (hadd : t.add = (· + ·)) (σ : Nat → Nat) (k : Nat)
    (h : cost t σ k ≠ ⊤) :
    (∀ j, j ≤ k → t.obs j (σ j) ≠ ⊤) ∧ (∀ j, j < k → t.trans j (σ j) (σ (j+1)) ≠ ⊤) := by
  revert h
  fun_induction cost t σ k
  case case1 => exact fun h => ⟨fun j hj => Nat.le_zero.mp hj ▸ h, nofun⟩
  case case2 k ih =>
    rw [hadd]
    intro h
    obtain ⟨h1, h2⟩ := WithTop.add_ne_top.mp h
    obtain ⟨h3, h4⟩ := WithTop.add_ne_top.mp h1
    obtain ⟨i1, i2⟩ := ih h4
    refine ⟨fun j hj => ?_, fun j hj => ?_⟩
    · by_cases e : j = k + 1
      · subst e; exact h2
      · exact i1 j (by omega)
    · by_cases e : j = k
      · subst e; exact h3
      · exact i2 j (by omega)
end TV.Viterbi
