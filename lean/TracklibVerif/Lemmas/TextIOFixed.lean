import TracklibVerif.Lemmas.TextIODigits
/-! `float()` / `int()` of what the writers print (core only): the common core of T1 (`fixed_roundtrip`) and of the
`repr` round trip used by WKT; `str(int)` read back. -/
namespace TV.TextIO

theorem strip_between (a m b : Str) (ha : a ≠ []) (hb : b ≠ []) (hna : ∀ c ∈ a, isWs c = false) (hnb : ∀ c ∈ b, isWs c = false) :
    strip (a ++ (m ++ b)) = a ++ (m ++ b) := by
  apply strip_eq_self
  · intro c hc
    obtain ⟨x, xs, rfl⟩ := List.exists_cons_of_ne_nil ha
    simp only [List.cons_append, List.head?_cons, Option.some.injEq] at hc
    exact hc ▸ hna x (by simp)
  · intro c hc
    rw [← List.append_assoc, List.getLast?_append] at hc
    cases hl : b.getLast? with
    | none => exact absurd (List.getLast?_eq_none_iff.1 hl) hb
    | some y =>
      rw [hl] at hc
      simp only [Option.some_or, Option.some.injEq] at hc
      exact hc ▸ hnb y (List.mem_of_getLast? hl)

theorem mem_strip {s : Str} {c : Char} (h : c ∈ strip s) : c ∈ s := by
  unfold strip rstrip lstrip at h
  have h1 := List.mem_reverse.1 h
  have h2 := (List.dropWhile_sublist _).subset h1
  have h3 := List.mem_reverse.1 h2
  exact (List.dropWhile_sublist _).subset h3

theorem numChar_of_digit {c : Char} (h : (digitVal? c).isSome = true) : numChar c = true := by
  simp [numChar, h]

theorem strip_numStr (s : Str) (h : Over numChar s) : strip s = s :=
  strip_eq_self s (fun c hc => (numChar_props (h c (List.mem_of_mem_head? hc))).1)
    (fun c hc => (numChar_props (h c (List.mem_of_getLast? hc))).1)

theorem lit_numChar (neg : Bool) (a k b : Nat) :
    Over numChar ((if neg then ['-'] else []) ++ natStr a ++ ['.'] ++ padDigits k b) := by
  intro c hc
  simp only [List.mem_append, List.mem_singleton] at hc
  rcases hc with ((hc | hc) | rfl) | hc
  · cases neg <;> simp at hc
    subst hc; rfl
  · exact numChar_of_digit (natStr_digits a c hc)
  · rfl
  · exact numChar_of_digit (padDigits_digits k b c hc)

theorem takeWhile_until (p : Char → Bool) (s tail : Str) (h : ∀ c ∈ s, p c = true)
    (ht : ∀ c, tail.head? = some c → p c = false) :
    (s ++ tail).takeWhile p = s ∧ (s ++ tail).dropWhile p = tail := by
  rw [List.takeWhile_append_of_pos h, List.dropWhile_append_of_pos h]
  cases tail with
  | nil => simp
  | cons b r => simp [ht b rfl]

theorem parseDec_noexp (s0 : Str) (h : ∀ c ∈ s0, isExpChar c = false) : parseDec? s0 = parseMant? (strip s0) := by
  unfold parseDec?
  have := (takeWhile_until (fun c => !isExpChar c) (strip s0) [] (fun c hc => by simp [h c (mem_strip hc)])
    (fun _ hc => by simp at hc)).2
  rw [List.append_nil] at this
  simp only [this]

/-- `[-]digits`, followed by nothing or by `.digits`, as a mantissa -/
theorem parseMant_lit (neg : Bool) (a : Nat) (tail : Str) (b : Nat)
    (ht : ∀ c, tail.head? = some c → c = '.') (pb : parseNatAux (tail.drop 1) 0 = some b) :
    parseMant? ((if neg then ['-'] else []) ++ (natStr a ++ tail))
      = some (if neg then -((a * 10 ^ (tail.drop 1).length + b : Nat) : Int)
              else ((a * 10 ^ (tail.drop 1).length + b : Nat) : Int), (tail.drop 1).length) := by
  have hip := natStr_digits a
  have pa : parseNatAux (natStr a) 0 = some a := by rw [parseNatAux_natStr]; simp
  obtain ⟨i0, irest, hn⟩ := List.exists_cons_of_ne_nil (natStr_ne_nil a)
  rw [hn] at hip pa ⊢
  have hi0 := digit_of_digitVal (hip i0 (by simp))
  have htw := takeWhile_until (fun c => decide (c ≠ '.')) (i0 :: irest) tail
    (fun c hc => by simp [(digit_of_digitVal (hip c hc)).2.1]) (fun c hc => by simp [ht c hc])
  unfold parseMant?
  cases neg with
  | false =>
    have e1 : (some i0 == some '-') = false := by simp [hi0.2.2.1]
    have e2 : (some i0 == some '+') = false := by simp [hi0.2.2.2]
    simp only [Bool.false_eq_true, ↓reduceIte, List.nil_append, List.cons_append, List.head?_cons, e1, e2, Bool.or_self]
    rw [← List.cons_append, htw.1, htw.2]
    simp only [pa, pb, List.isEmpty_cons, Bool.false_and, Bool.false_eq_true, ↓reduceIte]
  | true =>
    have hd : (['-'] ++ (i0 :: irest ++ tail)).drop 1 = i0 :: irest ++ tail := rfl
    have hh : (['-'] ++ (i0 :: irest ++ tail)).head? = some '-' := rfl
    simp only [↓reduceIte, hh, hd, beq_self_eq_true, Bool.true_or]
    rw [htw.1, htw.2]
    simp only [pa, pb, List.isEmpty_cons, Bool.false_and, Bool.false_eq_true, ↓reduceIte]

theorem parseDec_core (neg : Bool) (a k b : Nat) (hb : b < 10 ^ k) :
    parseDec? ((if neg then ['-'] else []) ++ natStr a ++ ['.'] ++ padDigits k b)
      = some (if neg then -((a * 10 ^ k + b : Nat) : Int) else ((a * 10 ^ k + b : Nat) : Int), k) := by
  have hnum := lit_numChar neg a k b
  rw [parseDec_noexp _ (fun c hc => (numChar_props (hnum c hc)).2.2.2.1), strip_numStr _ hnum]
  have := parseMant_lit neg a ('.' :: padDigits k b) b (fun c hc => by simpa using hc.symm)
    (by rw [List.drop_one, List.tail_cons, parseNatAux_padDigits, Nat.mod_eq_of_lt hb]; simp)
  simpa only [List.append_assoc, List.singleton_append, List.drop_one, List.tail_cons, padDigits_length] using this

theorem fixedCoreS_numChar (d : Nat) (v : SNum) : Over numChar (fixedCoreS d v) := lit_numChar _ _ _ _

theorem fixedCoreS_ne_nil (d : Nat) (v : SNum) : fixedCoreS d v ≠ [] := by
  unfold fixedCoreS
  simp

/-- T1 core: `float()` of the fixed-point body gives back the scaled integer and the number of decimals -/
theorem parseDec_fixedCoreS (d : Nat) (v : SNum) : parseDec? (fixedCoreS d v) = some (v.toInt, d) := by
  unfold fixedCoreS
  rw [parseDec_core _ _ _ _ (Nat.mod_lt _ (Nat.pow_pos (by decide)))]
  have e : v.mag / 10 ^ d * 10 ^ d + v.mag % 10 ^ d = v.mag := by
    rw [Nat.mul_comm]
    exact Nat.div_add_mod _ _
  rw [e]
  unfold SNum.toInt
  cases v.neg <;> simp

theorem strip_fixedCoreS (d : Nat) (v : SNum) : strip (fixedCoreS d v) = fixedCoreS d v :=
  strip_numStr _ (fixedCoreS_numChar d v)

theorem intStr_eq (i : Int) : intStr i = (if i < 0 then ['-'] else []) ++ natStr i.natAbs := by
  unfold intStr; split <;> rfl

theorem intStr_numChar (i : Int) : Over numChar (intStr i) := by
  rw [intStr_eq]
  exact Over.append (by split <;> decide) (fun c hc => numChar_of_digit (natStr_digits _ c hc))

theorem intStr_ne_nil (i : Int) : intStr i ≠ [] := by
  rw [intStr_eq]; simp [natStr_ne_nil]

theorem parseInt_intStr (i : Int) : parseInt? (intStr i) = some i := by
  unfold parseInt? intStr
  by_cases h : i < 0
  · have e : -((i.natAbs : Nat) : Int) = i := by omega
    simp [h, parseNat_natStr, e]
  · have hx : ((natStr i.natAbs).head? == some '-') = false := by
      cases hh : (natStr i.natAbs).head? with
      | none => rfl
      | some x => simpa using (digit_of_digitVal (natStr_digits _ x (List.mem_of_mem_head? hh))).2.2.1
    have e : ((i.natAbs : Nat) : Int) = i := by omega
    simp [h, hx, parseNat_natStr, e]

theorem parseDec_intStr (i : Int) : parseDec? (intStr i) = some (i, 0) := by
  rw [parseDec_noexp _ (fun c hc => (numChar_props (intStr_numChar i c hc)).2.2.2.1), strip_numStr _ (intStr_numChar i), intStr_eq]
  have h := parseMant_lit (decide (i < 0)) i.natAbs [] 0 (fun _ hc => by simp at hc) rfl
  simp only [decide_eq_true_eq, List.append_nil] at h
  rw [h]
  simp
  split <;> omega

theorem strip_fixedWS (w d : Nat) (v : SNum) : strip (fixedWS w d v) = fixedCoreS d v :=
  (strip_lpad w _).trans (strip_fixedCoreS d v)

theorem renderFixedS_eq (w d : Nat) (v : SNum) : renderFixedS w d v = fixedCoreS d v := strip_fixedWS w d v

/-- `float()` ignores the padding of `"{:w.df}"` -/
theorem parseDec_fixedWS (w d : Nat) (v : SNum) : parseDec? (fixedWS w d v) = some (v.toInt, d) := by
  have h : strip (fixedWS w d v) = strip (fixedCoreS d v) := strip_lpad w _
  have := parseDec_fixedCoreS d v
  unfold parseDec? at this ⊢
  rwa [h]

end TV.TextIO
