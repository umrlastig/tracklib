import TracklibVerif.Model.Split
import TracklibVerif.Lemmas.Common.MapM
/-! Helper lemmas for C11: `Ext`, the feature table of `segmentation()`, the threshold lookup of
its numeric loop. -/
namespace TV.Split
theorem Ext.not_le (a b : Ext) : ¬ a ≤ b ↔ b < a := by
  show ¬ Ext.le a b = true ↔ Ext.lt b a = true
  cases a <;> cases b <;> simp [Ext.le, Ext.lt, Rat.not_le]

theorem Ext.fin_le (x y : Rat) : (Ext.fin x ≤ Ext.fin y) ↔ x ≤ y :=
  decide_eq_true_iff

theorem Ext.fin_lt (x y : Rat) : (Ext.fin x < Ext.fin y) ↔ x < y := by
  show Ext.lt _ _ = true ↔ _
  simp [Ext.lt]

theorem Ext.decide_le (a b : Ext) : decide (a ≤ b) = !decide (b < a) := by
  simp only [← Ext.not_le, decide_not, Bool.not_not]

variable {α : Type}

theorem lookup_append_skip {γ : Type} (k : String) (l r : List (String × γ)) (h : ∀ p ∈ l, p.1 ≠ k) :
    (l ++ r).lookup k = r.lookup k := by
  rw [List.lookup_append, List.lookup_eq_none_iff.mpr (fun p hp => by simpa using (h p hp).symm), Option.none_or]

/-- the map used by `setCol` -/
def setF (name : String) (col : Col α) (p : String × Col α) : String × Col α := if p.1 == name then (p.1, col) else p

theorem setCol_feats (t : FTrack α) (name : String) (col : Col α) :
    (t.setCol name col).feats = t.feats.map (setF name col) := rfl

theorem setF_fst (name : String) (col : Col α) (p : String × Col α) : (setF name col p).1 = p.1 := by
  unfold setF; split <;> rfl

theorem lookup_map_setF (feats : List (String × Col α)) (name k : String) (col : Col α) :
    (feats.map (setF name col)).lookup k = if k = name then (feats.lookup k).map (fun _ => col) else feats.lookup k := by
  induction feats with
  | nil => simp
  | cons p ps ih =>
    obtain ⟨a, c⟩ := p
    by_cases hk : k = a
    · subst hk; by_cases hn : k = name <;> simp [setF, hn]
    · have : (k == a) = false := by simpa using hk
      rw [List.map_cons, List.lookup_cons, List.lookup_cons, ih]
      simp only [setF_fst, this]

theorem names_setF (feats : List (String × Col α)) (name : String) (col : Col α) :
    (feats.map (setF name col)).map Prod.fst = feats.map Prod.fst := by
  rw [List.map_map]
  exact List.map_congr_left fun p _ => setF_fst name col p

theorem any_append_self (feats : List (String × Col α)) (name : String) (col : Col α) :
    (feats ++ [(name, col)]).any (fun p => p.1 == name) = true := by simp

section create
variable [OfNat α 0]

theorem create_has (t : FTrack α) (name : String) : (t.create name).has name = true := by
  unfold FTrack.create
  cases h : t.has name with
  | true => simpa using h
  | false => simp [FTrack.has]

theorem create_size (t : FTrack α) (name : String) : (t.create name).size = t.size := by
  unfold FTrack.create; split <;> rfl

theorem create_virt (t : FTrack α) (name : String) : (t.create name).virt = t.virt := by
  unfold FTrack.create; split <;> rfl

theorem create_get_ne (t : FTrack α) (name other : String) (h : other ≠ name) :
    (t.create name).get other = t.get other := by
  unfold FTrack.create
  split
  · rfl
  · have hb : (other == name) = false := by simpa using h
    simp only [FTrack.get, List.lookup_append, List.lookup_cons, hb, List.lookup_nil, Option.or_none]

theorem create_of_has (t : FTrack α) (name : String) (h : t.has name = true) : t.create name = t := by
  unfold FTrack.create; simp [h]
end create

theorem setCol_get_ne (t : FTrack α) (name other : String) (col : Col α) (h : other ≠ name) :
    (t.setCol name col).get other = t.get other := by
  simp only [FTrack.get, setCol_feats, lookup_map_setF, if_neg h]
  rfl

theorem setCol_get_eq (t : FTrack α) (name : String) (col : Col α) (h : t.has name = true)
    (hv : t.virt.lookup name = none) : (t.setCol name col).get name = some col := by
  obtain ⟨p, hp, hpn⟩ := List.any_eq_true.mp h
  obtain ⟨c, hc⟩ := Option.isSome_iff_exists.mp
    ((List.lookup_isSome_iff (k := name)).mpr ⟨p, hp, by rw [beq_iff_eq] at hpn ⊢; exact hpn.symm⟩)
  rw [FTrack.get, show (t.setCol name col).virt = t.virt from rfl, hv, setCol_feats, lookup_map_setF, if_pos rfl, hc]
  rfl

theorem setCol_setCol (t : FTrack α) (name : String) (c c' : Col α) :
    (t.setCol name c).setCol name c' = t.setCol name c' := by
  simp only [FTrack.setCol, List.map_map]
  congr 1
  apply List.map_congr_left
  intro p _
  simp only [Function.comp]
  by_cases hp : (p.1 == name) = true <;> simp [hp]

theorem setCol_has (t : FTrack α) (name other : String) (c : Col α) :
    (t.setCol name c).has other = t.has other := by
  simp only [FTrack.has, setCol_feats, List.any_map, Function.comp_def, setF_fst]

theorem rows_congr (t t' : FTrack α) (afs : List String) (hs : t.size = t'.size)
    (h : ∀ a ∈ afs, t.get a = t'.get a) : t.rows afs = t'.rows afs := by
  have hm : afs.mapM t.get = afs.mapM t'.get :=
    Option.ext fun _ => by rw [Common.mapM_eq_some_iff, Common.mapM_eq_some_iff, List.map_congr_left h]
  simp only [FTrack.rows, hm, hs]

theorem rows_length (t : FTrack α) (afs : List String) (rows : List (List (Option α))) (h : t.rows afs = some rows) :
    rows.length = t.size ∧ ∀ r ∈ rows, r.length = afs.length := by
  unfold FTrack.rows at h
  cases hm : afs.mapM t.get with
  | none => simp [hm] at h
  | some cols =>
    simp only [hm, Option.some.injEq] at h
    subst h
    have hl : cols.length = afs.length := by simpa using (congrArg List.length ((Common.mapM_eq_some_iff _ _ _).mp hm)).symm
    refine ⟨by simp, ?_⟩
    intro r hr
    simp only [List.mem_map] at hr
    obtain ⟨i, _, rfl⟩ := hr
    simp [hl]

theorem rows_of_known (t : FTrack α) (afs : List String) (h : ∀ a ∈ afs, (t.get a).isSome = true) :
    ∃ rows, t.rows afs = some rows ∧ rows.length = t.size ∧ ∀ r ∈ rows, r.length = afs.length := by
  obtain ⟨cols, hcols⟩ := Option.isSome_iff_exists.mp ((Common.mapM_isSome_iff _ _).mpr h)
  have hrows : t.rows afs = some ((List.range t.size).map (fun i => cols.map (fun c => (c[i]?).getD none))) := by
    simp only [FTrack.rows, hcols]
  exact ⟨_, hrows, rows_length _ _ _ hrows⟩

/-- what `segmentation()` leaves behind: the output feature created if need be, then overwritten by the marker column;
everything else as before -/
theorem create_setCol [OfNat α 0] (t : FTrack α) (out : String) (col : Col α) (hvirt : t.virt.lookup out = none) :
    ((t.create out).setCol out col).get out = some col ∧
    (∀ name, name ≠ out → ((t.create out).setCol out col).get name = t.get name) ∧
    ((t.create out).setCol out col).feats.map Prod.fst = (t.create out).feats.map Prod.fst ∧
    ((t.create out).setCol out col).size = t.size ∧ ((t.create out).setCol out col).virt = t.virt :=
  ⟨setCol_get_eq _ _ _ (create_has t out) (by rw [create_virt]; exact hvirt),
   fun name hne => by rw [setCol_get_ne _ _ _ _ hne, create_get_ne _ _ _ hne],
   by rw [setCol_feats, names_setF], create_size t out, create_virt t out⟩

/-- an output feature that exists and is not tested: `segmentation()` sees the same track whatever that feature holds -/
theorem setCol_unseen [OfNat α 0] (t : FTrack α) (afs : List String) (out : String) (c : Col α) (hhas : t.has out = true)
    (hout : out ∉ afs) :
    (t.setCol out c).create out = t.setCol out c ∧ t.create out = t ∧ (t.setCol out c).rows afs = t.rows afs :=
  ⟨create_of_has _ _ (by rw [setCol_has]; exact hhas), create_of_has _ _ hhas,
   rows_congr _ _ _ rfl (fun a ha => setCol_get_ne _ _ _ _ (fun e => hout (e ▸ ha)))⟩

theorem threshold_lt (fmax : α) (ths : List α) (i : Nat) (h : i < ths.length) :
    threshold fmax ths i = some ths[i] := by
  rw [threshold, if_pos (Nat.le_of_lt h), List.getElem?_eq_getElem h]

variable [LE α] [DecidableLE α]

theorem foldCmp_extra (fmax : α) (andMode : Bool) (ths extra : List α) : ∀ (vals : List (Option α)) (idx : Nat) (acc : Bool),
    idx + vals.length ≤ ths.length →
    foldCmp fmax andMode (ths ++ extra) idx vals acc = foldCmp fmax andMode ths idx vals acc := by
  intro vals
  induction vals with
  | nil => intro idx acc _; rfl
  | cons x vs ih =>
    intro idx acc hlen
    have hlen' : idx + 1 + vs.length ≤ ths.length := by rw [Nat.add_right_comm]; exact hlen
    cases x with
    | none => exact ih (idx + 1) acc hlen'
    | some v =>
      have hidx : idx < ths.length := Nat.lt_of_lt_of_le (Nat.lt_add_of_pos_right (Nat.succ_pos _)) hlen
      have hidx' : idx < (ths ++ extra).length := by rw [List.length_append]; exact Nat.lt_add_right _ hidx
      simp only [foldCmp, threshold_lt fmax ths idx hidx, threshold_lt fmax (ths ++ extra) idx hidx',
        List.getElem_append_left hidx]
      exact ih (idx + 1) _ hlen'

/-- fewer thresholds than tested features: the loop raises `IndexError` as soon as the feature at position
`len(thresholds_max)` has a non-NaN value (the guard is `len(thresholds_max) >= index`) -/
theorem foldCmp_index_error (fmax : α) (andMode : Bool) (ths : List α) (v : α) (vals : List (Option α)) (k idx : Nat)
    (acc : Bool) (hk : idx + k = ths.length) (h : vals[k]? = some (some v)) :
    foldCmp fmax andMode ths idx vals acc = none := by
  induction vals generalizing k idx acc with
  | nil => cases h
  | cons x vs ih =>
    cases k with
    | zero =>
      cases h; cases hk
      rw [foldCmp, threshold, if_pos (Nat.le_refl _), List.getElem?_eq_none (Nat.le_refl _)]
    | succ k =>
      have hk' : idx + 1 + k = ths.length := (Nat.add_right_comm idx 1 k).trans hk
      cases x with
      | none => exact ih k (idx + 1) acc hk' h
      | some w =>
        simp only [foldCmp, threshold_lt fmax ths idx (hk ▸ Nat.lt_add_of_pos_right (Nat.succ_pos k))]
        exact ih k (idx + 1) _ hk' h
end TV.Split
