import TracklibVerif.Lemmas.GraphPath
/-! Lemmas for C07: `run_routing_backward` on a state satisfying the invariants returns a route:
a walk from the source along the recorded edges, with the edges' polylines chained along the travel. -/
namespace TV.Graph
section
variable {W : Type}

/-- edge ids are unique (`EDGES` is a dict keyed by edge id) -/
def UniqueIds (net : Net W) : Prop := ∀ e ∈ net.edges, ∀ e' ∈ net.edges, e.id = e'.id → e = e'

theorem uniqueIds_of_nodup (net : Net W) (h : (net.edges.map (·.id)).Nodup) : UniqueIds net := by
  unfold UniqueIds
  generalize net.edges = l at h
  induction l with
  | nil => intro e he; cases he
  | cons a l ih =>
    rw [List.map_cons, List.nodup_cons] at h
    intro e he e' he' hid
    rcases List.mem_cons.1 he with rfl | h1 <;> rcases List.mem_cons.1 he' with rfl | h2
    · rfl
    · exact absurd (List.mem_map.2 ⟨e', h2, hid.symm⟩) h.1
    · exact absurd (List.mem_map.2 ⟨e, h1, hid⟩) h.1
    · exact ih h.2 e h1 e' h2 hid

theorem findEdge_of_mem (net : Net W) (hu : UniqueIds net) (e : Edge W) (he : e ∈ net.edges) :
    findEdge net e.id = some e := by
  unfold findEdge
  cases h : net.edges.find? (fun e' => e'.id == e.id) with
  | none =>
    have := List.find?_eq_none.mp h e he
    simp at this
  | some e' =>
    have hm := List.mem_of_find?_eq_some h
    have hp := List.find?_some h
    simp only [beq_iff_eq] at hp
    rw [hu e' hm e he hp]

end

section
variable {W : Type} [LinearOrder W] [Add W] [Zero W] [WalkAdd W] {P : Type}

/-- `Route net geo s l g g' v y`: `l ++ [v]` are the nodes of a walk from `s` to `v` whose consecutive nodes are joined
by an existing edge travelled in a direction its orientation permits; `y` is the sum of the weights of those edges;
`g` is the concatenation of those edges' polylines, each oriented along the direction of travel and each without its
last vertex (which is the first vertex of the next one, or the position of `v` for the last one); `g'` is the same
concatenation with each polyline deprived of its first vertex instead (the form of the property's statement:
`pos s` followed by `g'`). `g` is what the code builds; `Route.geom_eq` shows the two coincide. -/
inductive Route (net : Net W) (geo : Geo P) (s : Nat) : List Nat → List P → List P → Nat → W → Prop
  | nil : Route net geo s [] [] [] s 0
  | snoc {l : List Nat} {g g' : List P} {a : Nat} {x : W} {v : Nat} (e : Edge W) (line : List P) :
      Route net geo s l g g' a x → e ∈ net.edges →
      ((0 ≤ e.ori ∧ e.src = a ∧ e.tgt = v ∧ line = geo.line e.id) ∨
       (e.ori ≤ 0 ∧ e.tgt = a ∧ e.src = v ∧ line = (geo.line e.id).reverse)) →
      Route net geo s (l ++ [a]) (g ++ line.dropLast) (g' ++ line.drop 1) v (x + e.w)

end

section
variable {W : Type} [Add W] [Zero W] {P : Type}

theorem Route.walk {net : Net W} {geo : Geo P} {s : Nat} {l : List Nat} {g g' : List P} {v : Nat} {y : W}
    (h : Route net geo s l g g' v y) : Walk net s v y := by
  induction h with
  | nil => exact Walk.nil
  | snoc e line _ he hdir ih =>
    refine Walk.snoc ih ⟨e, he, rfl, ?_⟩
    rcases hdir with ⟨a, b, c, _⟩ | ⟨a, b, c, _⟩
    · exact Or.inl ⟨a, b, c⟩
    · exact Or.inr ⟨a, b, c⟩

theorem Route.nodes_head {net : Net W} {geo : Geo P} {s : Nat} {l : List Nat} {g g' : List P} {v : Nat} {y : W}
    (h : Route net geo s l g g' v y) : (l ++ [v]).head? = some s := by
  induction h with
  | nil => rfl
  | @snoc l g g' a x v e line _ he hdir ih =>
    cases l with
    | nil => simpa using ih
    | cons b l => simpa using ih

def GeoOK (net : Net W) (geo : Geo P) : Prop :=
  ∀ e ∈ net.edges, (geo.line e.id).head? = some (geo.pos e.src) ∧ (geo.line e.id).getLast? = some (geo.pos e.tgt)

theorem dropLast_append_of_getLast? (l : List P) (q : P) (h : l.getLast? = some q) : l.dropLast ++ [q] = l := by
  have hne : l ≠ [] := by intro h'; rw [h'] at h; cases h
  have h1 := List.dropLast_concat_getLast hne
  rw [List.getLast?_eq_some_getLast hne] at h
  cases h
  exact h1

theorem Route.geom_eq {net : Net W} {geo : Geo P} (hgeo : GeoOK net geo) {s : Nat} {l : List Nat} {g g' : List P}
    {v : Nat} {y : W} (h : Route net geo s l g g' v y) : g ++ [geo.pos v] = geo.pos s :: g' := by
  induction h with
  | nil => rfl
  | @snoc l g g' a x v e line _ he hdir ih =>
    obtain ⟨h1, h2⟩ := hgeo e he
    have hl : line.head? = some (geo.pos a) ∧ line.getLast? = some (geo.pos v) := by
      rcases hdir with ⟨_, b, c, d⟩ | ⟨_, b, c, d⟩
      · rw [d, ← b, ← c]; exact ⟨h1, h2⟩
      · rw [d, ← b, ← c, List.head?_reverse, List.getLast?_reverse]; exact ⟨h2, h1⟩
    have e1 : line.dropLast ++ [geo.pos v] = line := dropLast_append_of_getLast? _ _ hl.2
    have e2 : line = geo.pos a :: line.drop 1 := by
      cases line with
      | nil => simp at hl
      | cons p r => simp only [List.head?_cons, Option.some.injEq] at hl; rw [hl.1]; rfl
    calc (g ++ line.dropLast) ++ [geo.pos v] = g ++ (line.dropLast ++ [geo.pos v]) := by rw [List.append_assoc]
      _ = g ++ line := by rw [e1]
      _ = g ++ (geo.pos a :: line.drop 1) := by rw [← e2]
      _ = (g ++ [geo.pos a]) ++ line.drop 1 := by simp
      _ = geo.pos s :: (g' ++ line.drop 1) := by rw [ih]; rfl

theorem Route.chained {net : Net W} {geo : Geo P} (hgeo : GeoOK net geo) {s : Nat} {l : List Nat} {g g' : List P}
    {v : Nat} {y : W} (h : Route net geo s l g g' v y) {geom : List P} (e : geom = g ++ [geo.pos v]) :
    geom = geo.pos s :: g' ∧ geom.head? = some (geo.pos s) ∧ geom.getLast? = some (geo.pos v) :=
  ⟨e.trans (h.geom_eq hgeo), by rw [e, h.geom_eq hgeo]; rfl, by rw [e]; simp⟩

theorem reverse_drop_one (l : List P) : (l.drop 1).reverse = l.reverse.dropLast := by
  cases l with
  | nil => rfl
  | cons x xs => simp

end

section
variable {W : Type} [LinearOrder W] [Add W] [Zero W] {P : Type}

theorem backAux_spec (net : Net W) (hu : UniqueIds net) (geo : Geo P) (s : Nat) (st : St W) (rk : Nat → Nat) (K : Nat)
    (hinv : InvB s st) (hp : PInv net s st rk K) (f v : Nat) (nodes : List Nat) (track : List P)
    (hf : 1 ≤ f) (hb : ∀ a i, st.pred v = some (a, i) → rk a + 2 ≤ f) (y : W) (hd : st.d v = some y) :
    ∃ l g g', Route net geo s l g g' v y ∧
      backAux net geo st f v nodes track = .path (l ++ nodes.reverse) (g ++ track.reverse) := by
  fun_induction backAux net geo st f v nodes track generalizing y with
  | case1 => omega
  | case2 f v nodes track hpv =>
    have hvs : v = s := by
      by_contra hne
      have := hp.p3 v y hne hd
      rw [hpv] at this; cases this
    subst hvs
    obtain rfl : y = 0 := Option.some.inj (hd.symm.trans hinv.b1)
    exact ⟨[], [], [], Route.nil, by simp⟩
  | case3 f v nodes track a i hpv hfe =>
    obtain ⟨_, _, e, he, hid, _⟩ := hp.p2 v a i hpv
    rw [← hid, findEdge_of_mem net hu e (mem_nextEdges.1 he).1] at hfe; cases hfe
  | case4 f v nodes track a i hpv e hfe g g1 ih =>
    obtain ⟨hav, hva, e', he, hid, hoth, x, hda, hdv⟩ := hp.p2 v a i hpv
    have hmem : e' ∈ net.edges := (mem_nextEdges.1 he).1
    obtain rfl : e' = e := Option.some.inj ((findEdge_of_mem net hu e' hmem).symm.trans (hid ▸ hfe))
    obtain rfl : y = x + e'.w := Option.some.inj (hd.symm.trans hdv)
    have hfa := hb a i hpv
    obtain ⟨l, g0, g0', hroute, hback⟩ := ih (by omega) (fun b j hpa => by have := hp.p5 a b j hpa hva; omega) x hda
    have hdir : (0 ≤ e'.ori ∧ e'.src = a ∧ e'.tgt = v ∧ g1.reverse = geo.line e'.id) ∨
        (e'.ori ≤ 0 ∧ e'.tgt = a ∧ e'.src = v ∧ g1.reverse = (geo.line e'.id).reverse) := by
      rcases next_dir he hoth with ⟨h1, h2, h3⟩ | ⟨h1, h2, h3⟩
      · have hsv : e'.src ≠ v := by rw [h2]; exact hav
        exact Or.inl ⟨h1, h2, h3, by simp only [g1, g, hsv, ne_eq, not_false_eq_true, if_true, List.reverse_reverse, hid]⟩
      · exact Or.inr ⟨h1, h2, h3, by simp only [g1, g, h3, ne_eq, not_true_eq_false, if_false, hid]⟩
    refine ⟨l ++ [a], g0 ++ g1.reverse.dropLast, g0' ++ g1.reverse.drop 1, Route.snoc e' g1.reverse hroute hmem hdir, ?_⟩
    rw [hback]
    simp

theorem runBackward_core (net : Net W) (hu : UniqueIds net) (geo : Geo P) (s : Nat) (st : St W) (rk : Nat → Nat) (K : Nat)
    (hinv : InvB s st) (hp : PInv net s st rk K) (t : Nat) :
    (st.pred t = none → runBackward net geo st t = .none) ∧
    (∀ p, st.pred t = some p → ∃ l g g' y, st.d t = some y ∧ Route net geo s l g g' t y ∧
        runBackward net geo st t = .path (l ++ [t]) (g ++ [geo.pos t])) := by
  constructor
  · intro h; unfold runBackward; rw [h]
  · intro p hpt
    obtain ⟨_, _, e, _, _, _, x, _, hd⟩ := hp.p2 t p.1 p.2 hpt
    obtain ⟨l, g, g', h2, h3⟩ := backAux_spec net hu geo s st rk K hinv hp (net.n + 1) t [t] [geo.pos t] (by omega)
      (fun a i hpa => by
        have := hp.p4 a (hp.p2 t a i hpa).2.1
        have := hp.p6
        omega) _ hd
    refine ⟨l, g, g', _, hd, h2, ?_⟩
    unfold runBackward
    rw [hpt]
    simpa using h3

theorem GoodH.answer {net : Net W} (hu : UniqueIds net) (geo : Geo P) {s : Nat} {st : St W} (h : GoodH net s st) (t : Nat) :
    runBackward net geo st t ≠ .diverge ∧
    (runBackward net geo st t = .none ↔ (st.d t = none ∨ t = s)) ∧
    (∀ nodes geom, runBackward net geo st t = .path nodes geom → ∃ l g g' y, nodes = l ++ [t] ∧ geom = g ++ [geo.pos t] ∧
      Route net geo s l g g' t y ∧ st.d t = some y) := by
  obtain ⟨hb, _, rk, K, hp⟩ := h
  obtain ⟨h1, h2⟩ := runBackward_core net hu geo s st rk K hb hp t
  cases hpt : st.pred t with
  | none =>
    rw [h1 hpt]
    refine ⟨fun e => (nomatch e), ⟨fun _ => ?_, fun _ => rfl⟩, fun _ _ e => (nomatch e)⟩
    by_cases hts : t = s
    · exact Or.inr hts
    · cases hd : st.d t with
      | none => exact Or.inl rfl
      | some y => have := hp.p3 t y hts hd; rw [hpt] at this; cases this
  | some p =>
    obtain ⟨l, g, g', y, hd, hr, hbk⟩ := h2 p hpt
    rw [hbk]
    refine ⟨fun e => (nomatch e), ⟨fun e => (nomatch e), fun hn => ?_⟩, fun nodes geom e => ?_⟩
    · rcases hn with hn | rfl
      · rw [hd] at hn; cases hn
      · rw [hp.p1] at hpt; cases hpt
    · obtain ⟨rfl, rfl⟩ := Back.path.inj e
      exact ⟨l, g, g', y, rfl, rfl, hr, hd⟩

theorem GoodH.some {net : Net W} (hu : UniqueIds net) (geo : Geo P) {s : Nat} {st : St W} (h : GoodH net s st) {t : Nat} {y : W}
    (hd : st.d t = some y) (hts : t ≠ s) :
    ∃ l g g' y, runBackward net geo st t = .path (l ++ [t]) (g ++ [geo.pos t]) ∧ Route net geo s l g g' t y ∧ st.d t = some y := by
  obtain ⟨a, b, c⟩ := h.answer hu geo t
  cases hb : runBackward net geo st t with
  | diverge => exact absurd hb a
  | none => exact ((b.1 hb).elim (fun e => by rw [hd] at e; cases e) hts).elim
  | path nodes geom =>
    obtain ⟨l, g, g', y', rfl, rfl, hr, hd'⟩ := c nodes geom hb
    exact ⟨l, g, g', y', rfl, hr, hd'⟩
end
end TV.Graph
