import TracklibVerif.Lemmas.Geo
/-! Helper lemmas for C14, whole-track conversions (`Track.toENU/toGeo/toECEF` of the model), one leg at a time: which base
the forward leg uses and records, and what the return legs compute from the base they read. -/
namespace TV.Geo
open Real

theorem mapPts_ok {α : Type} [Add α] [Sub α] [Mul α] [Div α] [Neg α] [OfScientific α] (f : V3 α → V3 α) (l : List (V3 α)) :
    mapPts (fun p => Except.ok (f p)) l = .ok (l.map f) := by
  induction l with
  | nil => rfl
  | cons p ps ih => simp only [mapPts, ih, List.map_cons]; rfl

variable (T : Trig ℝ)

/-- `Track.toENUCoords(base)` on a Geo track: every position goes through `geoToEnu · base`, and the base recorded is the
base used, as `GeoCoords` -/
theorem toENU_geo_pt (t : Track ℝ) (hk : t.kind = .geo) (hne : t.pts ≠ []) (b : Base ℝ) :
    t.toENU T (some (.pt b)) = .ok ⟨.enu, t.pts.map (fun g => geoToEnu T g b), some (.pt (.geo (b.toGeo T)))⟩ := by
  obtain ⟨k, pts, base⟩ := t
  cases hk
  cases pts with
  | nil => exact absurd rfl hne
  | cons p ps =>
    simp only [Track.toENU, geoToEnuArg]
    rw [mapPts_ok]
    rfl

theorem toENU_ecef_pt (t : Track ℝ) (hk : t.kind = .ecef) (hne : t.pts ≠ []) (b : Base ℝ) :
    t.toENU T (some (.pt b)) = .ok ⟨.enu, t.pts.map (fun p => ecefToEnu T p b), some (.pt (.geo (b.toGeo T)))⟩ := by
  obtain ⟨k, pts, base⟩ := t
  cases hk
  cases pts with
  | nil => exact absurd rfl hne
  | cons p ps =>
    simp only [Track.toENU, ecefToEnuArg]
    rw [mapPts_ok]
    rfl

theorem toENU_geo_none (t : Track ℝ) (hk : t.kind = .geo) (p : V3 ℝ) (ps : List (V3 ℝ)) (hp : t.pts = p :: ps) :
    t.toENU T none = t.toENU T (some (.pt (.geo p))) := by
  obtain ⟨k, pts, base⟩ := t
  cases hk
  cases hp
  rfl

theorem toENU_ecef_none (t : Track ℝ) (hk : t.kind = .ecef) (p : V3 ℝ) (ps : List (V3 ℝ)) (hp : t.pts = p :: ps) :
    t.toENU T none = t.toENU T (some (.pt (.ecef p))) := by
  obtain ⟨k, pts, base⟩ := t
  cases hk
  cases hp
  rfl

theorem map_map_eq {f h F : V3 ℝ → V3 ℝ} (hfh : ∀ g, F (f g) = h g) (l : List (V3 ℝ)) : (l.map f).map F = l.map h := by
  rw [List.map_map]
  exact List.map_congr_left fun g _ => hfh g

/-- `Track.toGeoCoords(arg)` of an ENU track whose positions are the images `f g` and whose recorded base is the point `rb`,
`arg` a point base or nothing: the base read is the argument, else the record; if `enuToGeo` with that base takes `f g` to
`h g`, the positions become the `h g` -/
theorem toGeo_map {pts : List (V3 ℝ)} (hne : pts ≠ []) (f h : V3 ℝ → V3 ℝ) (rb : Base ℝ) (arg : Option (Base ℝ))
    (hfh : ∀ g, enuToGeo T (f g) (arg.getD rb) = h g) :
    (⟨.enu, pts.map f, some (.pt rb)⟩ : Track ℝ).toGeo T (arg.map .pt) = .ok ⟨.geo, pts.map h, some (.pt rb)⟩ := by
  cases pts with
  | nil => exact absurd rfl hne
  | cons p ps =>
    cases arg <;>
    · simp only [Track.toGeo, List.map_cons, enuToGeoArg, Option.map]
      rw [mapPts_ok, ← List.map_cons, map_map_eq hfh]
      rfl

/-- the same for `Track.toECEFCoords(arg)` -/
theorem toECEF_map {pts : List (V3 ℝ)} (hne : pts ≠ []) (f h : V3 ℝ → V3 ℝ) (rb : Base ℝ) (arg : Option (Base ℝ))
    (hfh : ∀ g, enuToEcef T (f g) (arg.getD rb) = h g) :
    (⟨.enu, pts.map f, some (.pt rb)⟩ : Track ℝ).toECEF T (arg.map .pt) = .ok ⟨.ecef, pts.map h, some (.pt rb)⟩ := by
  cases pts with
  | nil => exact absurd rfl hne
  | cons p ps =>
    cases arg <;>
    · simp only [Track.toECEF, List.map_cons, enuToEcefArg, Option.map]
      rw [mapPts_ok, ← List.map_cons, map_map_eq hfh]
      rfl

end TV.Geo
