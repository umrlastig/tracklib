import TracklibVerif.Lemmas.GridCells
/-! The cells of `Model/Grid.lean` and what registration keeps: reading and appending to `grid[i][j]` (`Holds`, `Shape`), the parts of
an index registration never touches (`Same`), well-formedness (`WF`), "`ix'` is `ix` after some registrations" (`Ext`), the loop
of `__addSegment` over cells of the grid (`registerCells_total`), and `__getCell` as executed in terms of its value `getCell`. -/
namespace TV.Grid

/-- feature `d` is listed in `grid[i][j]` (Python indexing) -/
def Holds (g : Cells) (i j : Int) (d : Nat) : Prop := ∃ c, cellGet g i j = .ok c ∧ d ∈ c

theorem pyIdx_inrange {n : Nat} {i : Int} (h0 : 0 ≤ i) (h : i < n) : pyIdx n i = some i.toNat := by
  rw [pyIdx, if_pos h0, if_pos h]

theorem pyIdx_of_le {n : Nat} {i : Int} (h : (n : Int) ≤ i) : pyIdx n i = none := by
  rw [pyIdx, if_pos (by omega), if_neg (by omega)]

theorem cellGet_ok_iff (g : Cells) (i j : Int) (c : List Nat) :
    cellGet g i j = .ok c ↔
      ∃ a row b, pyIdx g.length i = some a ∧ g[a]? = some row ∧ pyIdx row.length j = some b ∧ row[b]? = some c := by
  constructor
  · fun_cases cellGet g i j
    case case5 a h1 row h2 b h3 c' h4 => rintro ⟨⟩; exact ⟨a, row, b, h1, h2, h3, h4⟩
    all_goals nofun
  · rintro ⟨a, row, b, h1, h2, h3, h4⟩
    simp only [cellGet, h1, h2, h3, h4]

theorem cellAppend_ok_iff (g g' : Cells) (i j : Int) (d : Nat) :
    cellAppend g i j d = .ok g' ↔
      ∃ a row b c, pyIdx g.length i = some a ∧ g[a]? = some row ∧ pyIdx row.length j = some b ∧ row[b]? = some c
        ∧ g' = g.set a (row.set b (c ++ [d])) := by
  constructor
  · fun_cases cellAppend g i j d
    case case5 a h1 row h2 b h3 c h4 => rintro ⟨⟩; exact ⟨a, row, b, c, h1, h2, h3, h4, rfl⟩
    all_goals nofun
  · rintro ⟨a, row, b, c, h1, h2, h3, h4, rfl⟩
    simp only [cellAppend, h1, h2, h3, h4]

def Shape (g : Cells) (cs ls : Nat) : Prop := g.length = cs ∧ ∀ row ∈ g, row.length = ls

theorem cellAppend_spec (g g' : Cells) (i j : Int) (d : Nat) (h : cellAppend g i j d = .ok g') :
    Holds g' i j d ∧ (∀ i' j' d', Holds g i' j' d' → Holds g' i' j' d') ∧
    (∀ cs ls, Shape g cs ls → Shape g' cs ls) := by
  obtain ⟨a, row, b, c, h1, h2, h3, h4, rfl⟩ := (cellAppend_ok_iff g g' i j d).mp h
  have ha : a < g.length := (List.getElem?_eq_some_iff.mp h2).1
  have hb : b < row.length := (List.getElem?_eq_some_iff.mp h4).1
  refine ⟨?_, ?_, ?_⟩
  · refine ⟨c ++ [d], ?_, by simp⟩
    rw [cellGet_ok_iff]
    refine ⟨a, row.set b (c ++ [d]), b, by simpa using h1, by simp [ha], by simpa using h3, by simp [hb]⟩
  · rintro i' j' d' ⟨c', hc', hd'⟩
    obtain ⟨a', row', b', k1, k2, k3, k4⟩ := (cellGet_ok_iff g i' j' c').mp hc'
    by_cases haa : a = a'
    · subst haa
      rw [h2] at k2; cases k2
      by_cases hbb : b = b'
      · subst hbb
        rw [h4] at k4; cases k4
        refine ⟨c ++ [d], ?_, by simp [hd']⟩
        rw [cellGet_ok_iff]
        exact ⟨a, row.set b (c ++ [d]), b, by simpa using k1, by simp [ha], by simpa using k3, by simp [hb]⟩
      · refine ⟨c', ?_, hd'⟩
        rw [cellGet_ok_iff]
        refine ⟨a, row.set b (c ++ [d]), b', by simpa using k1, by simp [ha], by simpa using k3, ?_⟩
        rw [List.getElem?_set_ne hbb]; exact k4
    · refine ⟨c', ?_, hd'⟩
      rw [cellGet_ok_iff]
      refine ⟨a', row', b', by simpa using k1, ?_, k3, k4⟩
      rw [List.getElem?_set_ne haa]; exact k2
  · rintro cs ls ⟨s1, s2⟩
    refine ⟨by simpa using s1, ?_⟩
    intro r hr
    rcases List.mem_or_eq_of_mem_set hr with h' | h'
    · exact s2 r h'
    · subst h'
      have : row ∈ g := List.mem_of_getElem? h2
      simpa using s2 row this

theorem cellGet_ok_of_shape (g : Cells) (cs ls : Nat) (hs : Shape g cs ls) (i j : Int)
    (hi : 0 ≤ i ∧ i < (cs : Int)) (hj : 0 ≤ j ∧ j < (ls : Int)) : ∃ c, cellGet g i j = .ok c := by
  obtain ⟨s1, s2⟩ := hs
  have ha : i.toNat < g.length := by rw [s1]; omega
  have hrow : (g[i.toNat]'ha).length = ls := s2 _ (List.getElem_mem ha)
  have hb : j.toNat < (g[i.toNat]'ha).length := by rw [hrow]; omega
  exact ⟨_, (cellGet_ok_iff ..).mpr ⟨_, _, _, pyIdx_inrange hi.1 (s1 ▸ hi.2), List.getElem?_eq_getElem ha,
    pyIdx_inrange hj.1 (hrow ▸ hj.2), List.getElem?_eq_getElem hb⟩⟩

section index
variable {α : Type}

def Same (ix ix' : Index α) : Prop :=
  ix'.xmin = ix.xmin ∧ ix'.xmax = ix.xmax ∧ ix'.ymin = ix.ymin ∧ ix'.ymax = ix.ymax ∧
  ix'.csize = ix.csize ∧ ix'.lsize = ix.lsize ∧ ix'.dX = ix.dX ∧ ix'.dY = ix.dY

/-- `inventaire` only lists what the grid lists -/
def Inv (ix : Index α) : Prop := ∀ i j d, (i, j, d) ∈ ix.inv → Holds ix.grid i j d

def WF (ix : Index α) : Prop := Inv ix ∧ Shape ix.grid ix.csize.toNat ix.lsize.toNat

def Ext (ix ix' : Index α) : Prop :=
  Same ix ix' ∧ ∀ i j d, Holds ix.grid i j d → Holds ix'.grid i j d

theorem Ext.refl (ix : Index α) : Ext ix ix := ⟨⟨rfl, rfl, rfl, rfl, rfl, rfl, rfl, rfl⟩, fun _ _ _ h => h⟩

theorem Ext.trans {a b c : Index α} (h1 : Ext a b) (h2 : Ext b c) : Ext a c := by
  obtain ⟨⟨a1, a2, a3, a4, a5, a6, a7, a8⟩, m1⟩ := h1
  obtain ⟨⟨b1, b2, b3, b4, b5, b6, b7, b8⟩, m2⟩ := h2
  exact ⟨⟨b1.trans a1, b2.trans a2, b3.trans a3, b4.trans a4, b5.trans a5, b6.trans a6, b7.trans a7, b8.trans a8⟩,
    fun i j d h => m2 i j d (m1 i j d h)⟩

theorem Same.csize {ix ix' : Index α} (h : Same ix ix') : ix'.csize = ix.csize := h.2.2.2.2.1

theorem Same.lsize {ix ix' : Index α} (h : Same ix ix') : ix'.lsize = ix.lsize := h.2.2.2.2.2.1

def InGrid (ix : Index α) (cell : Int × Int) : Prop :=
  (0 ≤ cell.1 ∧ cell.1 < ix.csize) ∧ (0 ≤ cell.2 ∧ cell.2 < ix.lsize)

theorem InGrid.same {ix ix' : Index α} {cell : Int × Int} (h : InGrid ix cell) (hs : Same ix ix') : InGrid ix' cell := by
  unfold InGrid
  rw [hs.csize, hs.lsize]
  exact h

theorem cellOf_same {fl : α → Int} {ix ix' : Index α} (h : Same ix ix') (c : α × α) : cellOf fl ix' c = cellOf fl ix c := by
  unfold cellOf
  rw [h.csize, h.lsize]

theorem InGrid.cellGet_ok {ix : Index α} {cell : Int × Int} (hc : InGrid ix cell)
    (hs : Shape ix.grid ix.csize.toNat ix.lsize.toNat) : ∃ c, cellGet ix.grid cell.1 cell.2 = .ok c := by
  obtain ⟨⟨a1, a2⟩, b1, b2⟩ := hc
  exact cellGet_ok_of_shape ix.grid _ _ hs cell.1 cell.2 ⟨a1, by omega⟩ ⟨b1, by omega⟩

theorem registerCell_total (ix : Index α) (d : Nat) (cell : Int × Int) (hw : WF ix) (hc : InGrid ix cell) :
    ∃ ix', registerCell ix d cell = .ok ix' ∧ Ext ix ix' ∧ WF ix' ∧ Holds ix'.grid cell.1 cell.2 d := by
  obtain ⟨c, hcg⟩ := hc.cellGet_ok hw.2
  unfold registerCell
  simp only [hcg]
  rw [if_neg (not_lt.mpr (le_of_lt hc.1.2)), if_neg (not_lt.mpr (le_of_lt hc.2.2))]
  split
  · rename_i k1
    exact ⟨ix, rfl, Ext.refl _, hw, c, hcg, List.contains_iff_mem.mp k1⟩
  split
  · rename_i k2
    exact ⟨ix, rfl, Ext.refl _, hw, hw.1 _ _ _ (List.contains_iff_mem.mp k2)⟩
  obtain ⟨a, row, b, h1, h2, h3, h4⟩ := (cellGet_ok_iff _ _ _ c).mp hcg
  have hg' := (cellAppend_ok_iff ix.grid _ cell.1 cell.2 d).mpr ⟨a, row, b, c, h1, h2, h3, h4, rfl⟩
  obtain ⟨p1, p2, p3⟩ := cellAppend_spec _ _ _ _ _ hg'
  simp only [hg']
  refine ⟨_, rfl, ⟨⟨rfl, rfl, rfl, rfl, rfl, rfl, rfl, rfl⟩, p2⟩, ⟨?_, p3 _ _ hw.2⟩, p1⟩
  intro i j d' hm
  rcases List.mem_append.mp hm with hm | hm
  · exact p2 _ _ _ (hw.1 _ _ _ hm)
  · cases List.mem_singleton.mp hm
    exact p1

theorem registerCells_total (d : Nat) (cells : List (Int × Int)) (ix : Index α) (hw : WF ix)
    (hc : ∀ cell ∈ cells, InGrid ix cell) :
    ∃ ix', registerCells ix d cells = .ok ix' ∧ Ext ix ix' ∧ WF ix' ∧ ∀ cell ∈ cells, Holds ix'.grid cell.1 cell.2 d := by
  induction cells generalizing ix with
  | nil => exact ⟨ix, rfl, Ext.refl _, hw, by simp⟩
  | cons cell rest ih =>
    obtain ⟨ix1, h1, e1, w1, r1⟩ := registerCell_total ix d cell hw (hc cell (List.mem_cons_self ..))
    obtain ⟨ix2, h2, e2, w2, r2⟩ := ih ix1 w1 (fun c hcm => (hc c (List.mem_cons_of_mem _ hcm)).same e1.1)
    refine ⟨ix2, by simp only [registerCells, h1, h2], e1.trans e2, w2, ?_⟩
    intro c hcm
    rcases List.mem_cons.mp hcm with rfl | hcm
    · exact e2.2 _ _ _ r1
    · exact r2 c hcm

end index

section order
variable {α : Type} [LinearOrder α]

theorem pyMin_eq (a b : α) : pyMin a b = min a b := by
  unfold pyMin
  split_ifs with h
  · exact (min_eq_right (le_of_lt h)).symm
  · exact (min_eq_left (le_of_not_gt h)).symm

theorem pyMax_eq (a b : α) : pyMax a b = max a b := by
  unfold pyMax
  split_ifs with h
  · exact (max_eq_right (le_of_lt h)).symm
  · exact (max_eq_left (le_of_not_gt h)).symm

end order

section scalar
variable {α : Type} [Field α] [LinearOrder α]

theorem getCell_same {ix ix' : Index α} (h : Same ix ix') (p : α × α) : getCell ix' p = getCell ix p := by
  obtain ⟨a1, a2, a3, a4, _, _, a7, a8⟩ := h
  unfold getCell
  rw [a1, a2, a3, a4, a7, a8]

theorem getCell_some_iff (ix : Index α) (p c : α × α) :
    getCell ix p = some c ↔ (ix.xmin ≤ p.1 ∧ p.1 ≤ ix.xmax) ∧ (ix.ymin ≤ p.2 ∧ p.2 ≤ ix.ymax) ∧
      c = ((p.1 - ix.xmin) / ix.dX, (p.2 - ix.ymin) / ix.dY) := by
  unfold getCell
  split_ifs with h1 h2
  · exact ⟨nofun, fun h => absurd h1 (by simpa only [not_or, not_lt] using h.1)⟩
  · exact ⟨nofun, fun h => absurd h2 (by simpa only [not_or, not_lt] using h.2.1)⟩
  · rw [not_or, not_lt, not_lt] at h1 h2
    exact ⟨fun h => ⟨h1, h2, (Option.some.inj h).symm⟩, fun h => h.2.2 ▸ rfl⟩

/-- both cell sides pass Python's `!= 0` (no ZeroDivisionError in `__getCell`) -/
def NZ (ix : Index α) : Prop := isZero ix.dX = false ∧ isZero ix.dY = false

/-- the fractional indices of every point of the extent are at most the number of columns / rows (true of every
built index in exact arithmetic: the cells tile the extent) -/
def Bounded (ix : Index α) : Prop :=
  ∀ p c, getCell ix p = some c → c.1 ≤ ((ix.csize : Int) : α) ∧ c.2 ≤ ((ix.lsize : Int) : α)

theorem Bounded.same {ix ix' : Index α} (h : Bounded ix) (hs : Same ix ix') : Bounded ix' := by
  intro p c hp
  rw [getCell_same hs] at hp
  obtain ⟨_, _, _, _, e5, e6, _, _⟩ := hs
  rw [e5, e6]
  exact h p c hp

theorem getCellR_eq (ix : Index α) (p : α × α) :
    getCellR ix p = match getCell ix p with
      | none => .ok none
      | some c => if isZero ix.dX then .error .zerodiv else if isZero ix.dY then .error .zerodiv
          else .ok (some (pyMin c.1 ((ix.csize : Int) : α), pyMin c.2 ((ix.lsize : Int) : α))) := by
  fun_cases getCell ix p <;> simp only [getCellR, *, ↓reduceIte]

theorem getCellR_of_nz (ix : Index α) (hz : NZ ix) (hb : Bounded ix) (p : α × α) : getCellR ix p = .ok (getCell ix p) := by
  rw [getCellR_eq]
  cases hg : getCell ix p with
  | none => rfl
  | some c =>
    obtain ⟨b1, b2⟩ := hb p c hg
    simp only [hz.1, hz.2, Bool.false_eq_true, if_false, pyMin_eq, min_eq_left b1, min_eq_left b2]

theorem nz_of_getCellR_some (ix : Index α) (p c : α × α) (h : getCellR ix p = .ok (some c)) : NZ ix := by
  revert h
  fun_cases getCellR ix p
  case case5 _ _ h3 h4 => exact fun _ => ⟨Bool.eq_false_iff.mpr h3, Bool.eq_false_iff.mpr h4⟩
  all_goals nofun

end scalar
end TV.Grid
