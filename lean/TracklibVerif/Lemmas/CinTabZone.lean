import TracklibVerif.Lemmas.CinTabRespected
import TracklibVerif.Lemmas.CinTabHeap
/-! No program of the feature table READS the `zone` field of a stamp: running any of them on a world whose zone fields
were rewritten (by any function `f` of the old zone) gives the same result — value or exception — and the same final world
with its zones rewritten the same way. With `f = fun _ => 0`: everything the programs compute (abs_curv, speed, the
elapsed times speed divides by, …) is what it would be if every stamp were in zone 0; the elapsed time between two stamps
is a function of their seven calendar fields. -/
namespace TV.CinTab
open TV.Features TV.ObsTime TV.CinTabK

variable {V α β : Type}

def WObs.zmap (f : Int → Int) (ob : WObs V) : WObs V := { ob with zone := f ob.zone }

def World.zmap (f : Int → Int) (w : World V) : World V := { w with heap := w.heap.map (WObs.zmap f) }

/-- `m` does not read a zone: it commutes with every rewriting of the zones -/
def Blind (m : M (World V) α) : Prop := ∀ (f : Int → Int) (w : World V), m (w.zmap f) = ((m w).1, (m w).2.zmap f)

def Rewritten (f : Int → Int) (w w' : World V) : Prop := w' = w.zmap f

theorem blind_iff {m : M (World V) α} : Blind m ↔ ∀ f, RelP (Rewritten f) Any m := by
  constructor
  · intro h f w w' e
    subst e
    rw [h f w]
    exact ⟨rfl, rfl, trivial, fun _ _ => trivial⟩
  · intro h f w
    obtain ⟨e1, e2, _⟩ := h f w _ rfl
    exact Prod.ext e1 e2

section heap
variable (f : Int → Int)

theorem zmap_getElem? (h : List (WObs V)) (id : Nat) : (h.map (WObs.zmap f))[id]? = (h[id]?).map (WObs.zmap f) :=
  List.getElem?_map ..

theorem pushSlot_zmap (h : List (WObs V)) (id : Nat) (v : V) :
    pushSlot (h.map (WObs.zmap f)) id v = (pushSlot h id v).map (WObs.zmap f) :=
  (map_modify_comm (WObs.zmap f) (fun ob => { ob with feats := ob.feats ++ [v] }) _ (fun _ => rfl) h id).symm

theorem appendScalar_zmap (v : V) : ∀ (ids : List Nat) (h : List (WObs V)),
    appendScalar v ids (h.map (WObs.zmap f)) = (appendScalar v ids h).map (WObs.zmap f)
  | [], _ => rfl
  | id :: ids, h => by
    show appendScalar v ids (pushSlot (h.map (WObs.zmap f)) id v) = (appendScalar v ids (pushSlot h id v)).map _
    rw [pushSlot_zmap, appendScalar_zmap v ids]

theorem appendVals_zmap (ids : List Nat) (l : List V) (h : List (WObs V)) :
    appendVals ids l (h.map (WObs.zmap f)) = ((appendVals ids l h).1, (appendVals ids l h).2.map (WObs.zmap f)) := by
  fun_induction appendVals ids l h with
  | case3 _ _ _ _ _ ih => rw [appendVals, pushSlot_zmap]; exact ih
  | _ => rfl

theorem writeSlot_zmap (h : List (WObs V)) (id idx : Nat) (v : V) :
    writeSlot (h.map (WObs.zmap f)) id idx v = (writeSlot h id idx v).map (List.map (WObs.zmap f)) := by
  fun_cases writeSlot h id idx v
  all_goals simp only [writeSlot, zmap_getElem?, *, Option.map_some, Option.map_none]
  · simp only [List.map_set]; exact if_pos ‹_›
  · exact if_neg ‹_›

theorem writeVals_zmap (idx : Nat) (ids : List Nat) (l : List V) (h : List (WObs V)) :
    writeVals idx ids l (h.map (WObs.zmap f)) = ((writeVals idx ids l h).1, (writeVals idx ids l h).2.map (WObs.zmap f)) := by
  fun_induction writeVals idx ids l h with
  | case3 _ _ _ _ _ hw => rw [writeVals, writeSlot_zmap, hw]; rfl
  | case4 _ _ _ _ _ _ hw ih => rw [writeVals, writeSlot_zmap, hw]; exact ih
  | _ => rfl

theorem writeScalar_zmap (idx : Nat) (v : V) (ids : List Nat) (h : List (WObs V)) :
    writeScalar idx v ids (h.map (WObs.zmap f)) = ((writeScalar idx v ids h).1, (writeScalar idx v ids h).2.map (WObs.zmap f)) := by
  fun_induction writeScalar idx v ids h with
  | case2 _ _ _ hw => rw [writeScalar, writeSlot_zmap, hw]; rfl
  | case3 _ _ _ _ hw ih => rw [writeScalar, writeSlot_zmap, hw]; exact ih
  | _ => rfl

theorem delSlots_zmap (idx : Nat) (ids : List Nat) (h : List (WObs V)) :
    delSlots idx ids (h.map (WObs.zmap f)) = ((delSlots idx ids h).1, (delSlots idx ids h).2.map (WObs.zmap f)) := by
  fun_induction delSlots idx ids h with
  | case2 _ _ _ hob => rw [delSlots, zmap_getElem?, hob]; rfl
  | case3 _ _ _ ob hob hlt ih => rw [List.map_set] at ih; rw [delSlots, zmap_getElem?, hob]; exact (if_pos hlt).trans ih
  | case4 _ _ _ ob hob hlt => rw [delSlots, zmap_getElem?, hob]; exact if_neg hlt
  | _ => rfl

theorem setCoord_zmap (h : List (WObs V)) (id : Nat) (c : Coord) (v : V) :
    (h.map (WObs.zmap f)).modify id (·.setCoord c v) = (h.modify id (·.setCoord c v)).map (WObs.zmap f) :=
  (map_modify_comm (WObs.zmap f) _ _ (fun ob => by cases c <;> rfl) h id).symm

end heap

theorem zmap_trk (f : Int → Int) (w : World V) : (w.zmap f).trk = w.trk := rfl

theorem zmap_heap (f : Int → Int) (w : World V) : (w.zmap f).heap = w.heap.map (WObs.zmap f) := rfl

theorem zmap_feats (f : Int → Int) (ob : WObs V) : (ob.zmap f).feats = ob.feats := rfl

theorem hasW_zmap (f : Int → Int) (w : World V) (name : String) : hasW (w.zmap f) name = hasW w name := rfl

theorem zmap_setDico (f : Int → Int) (w : World V) (d : List (String × Nat)) : (w.zmap f).setDico d = (w.setDico d).zmap f := rfl

variable [AbsTime V]

theorem zmap_coord (f : Int → Int) (ob : WObs V) (c : Coord) : (ob.zmap f).coord c = ob.coord c := by cases c <;> rfl

theorem blind_size : Blind (Tbl.size : M (World V) Nat) := fun _ _ => rfl
theorem blind_has (name : String) : Blind (Tbl.has name : M (World V) Bool) := fun _ _ => rfl
theorem blind_names : Blind (Tbl.names : M (World V) (List String)) := fun _ _ => rfl

omit [AbsTime V] in
theorem zmap_obs? (f : Int → Int) (w : World V) (i : Nat) : (w.zmap f).obs? i = (w.obs? i).map (WObs.zmap f) := by
  unfold World.obs?
  rw [zmap_trk]
  cases w.trk.ids[i]? with
  | none => rfl
  | some id => exact zmap_getElem? f w.heap id

theorem blind_get (o : Ops V) (name : String) : Blind (Tbl.get o name : M (World V) (List V)) := by
  intro f w
  show getW o name (w.zmap f) = ((getW o name w).1, (getW o name w).2.zmap f)
  fun_cases getW o name w
  all_goals rw [getW]; simp only [zmap_trk, zmap_heap, List.getElem?_map, Option.map_map, Option.bind_map, Function.comp_def, zmap_coord, zmap_feats, *,
    ↓reduceIte, Bool.false_eq_true]

theorem blind_getObs (o : Ops V) (name : String) (i : Nat) : Blind (Tbl.getObs o name i : M (World V) V) := by
  intro f w
  show getObsW o name i (w.zmap f) = ((getObsW o name i w).1, (getObsW o name i w).2.zmap f)
  fun_cases getObsW o name i w
  all_goals rw [getObsW]; simp only [zmap_trk, zmap_obs?, zmap_coord, zmap_feats, *, Option.map_some, Option.map_none, ↓reduceIte, Bool.false_eq_true]

theorem blind_create (name : String) (init : Init V) : Blind (Tbl.create name init : M (World V) Unit) := by
  intro f w
  show createW name init (w.zmap f) = ((createW name init w).1, (createW name init w).2.zmap f)
  fun_cases createW name init w
  all_goals rw [createW]; simp only [hasW_zmap, zmap_trk, zmap_heap, appendScalar_zmap, appendVals_zmap, *, ↓reduceIte, Bool.false_eq_true]
  all_goals rfl

theorem blind_update (name : String) (init : Init V) : Blind (Tbl.update name init : M (World V) Unit) := by
  intro f w
  show updateW name init (w.zmap f) = ((updateW name init w).1, (updateW name init w).2.zmap f)
  fun_cases updateW name init w
  all_goals rw [updateW]; simp only [hasW_zmap, zmap_trk, zmap_heap, *, ↓reduceIte, Bool.false_eq_true]
  cases init <;> simp only [writeScalar_zmap, writeVals_zmap] <;> rfl

theorem blind_remove (name : String) : Blind (Tbl.remove name : M (World V) Unit) := by
  intro f w
  show removeW name (w.zmap f) = ((removeW name w).1, (removeW name w).2.zmap f)
  fun_cases removeW name w
  all_goals rw [removeW]; simp only [hasW_zmap, zmap_trk, zmap_heap, delSlots_zmap, *, ↓reduceIte, Bool.false_eq_true]
  all_goals rfl

/-- writing a value through `setObsAnalyticalFeature` — a feature or a coordinate -/
theorem blind_setObs (name : String) (i : Nat) (v : V) : Blind (Tbl.setObs name i v : M (World V) Unit) := by
  intro f w
  show setObsW name i v (w.zmap f) = ((setObsW name i v w).1, (setObsW name i v w).2.zmap f)
  fun_cases setObsW name i v w
  all_goals rw [setObsW]; simp only [zmap_trk, zmap_heap, List.length_map, setCoord_zmap, writeSlot_zmap, *, ↓reduceIte, Bool.false_eq_true,
    Option.map_some, Option.map_none]
  all_goals rfl

theorem blind (f : Int → Int) : Respected (V := V) (Rewritten f) Any :=
  .of_nine (blind_iff.1 blind_size f) (fun nm => blind_iff.1 (blind_has nm) f) (blind_iff.1 blind_names f)
    (fun o nm => blind_iff.1 (blind_get o nm) f) (fun o nm i => blind_iff.1 (blind_getObs o nm i) f)
    (fun nm i v _ => blind_iff.1 (blind_setObs nm i v) f) (fun nm init => blind_iff.1 (blind_create nm init) f)
    (fun nm init => blind_iff.1 (blind_update nm init) f) (fun nm => blind_iff.1 (blind_remove nm) f)

omit [AbsTime V] in
theorem runOn_blind {m : M (World V) α} (hm : Blind m) (k : Nat) (F : Except Err α → Except Err (WRet V)) (f : Int → Int)
    (w : World V) : runOn k m F (w.zmap f) = ((runOn k m F w).1, (runOn k m F w).2.zmap f) := by
  unfold runOn
  -- the two worlds have the same tracks
  show (if k ≥ w.trks.length then _ else _) = _
  split
  · rfl
  · show (match m (World.zmap f { w with cur := k }) with | (r, w') => (F r, w')) = _
    rw [hm f { w with cur := k }]

/-- **No feature operation reads a zone.** For every operation of a history that computes, reads, removes or writes
features (`WOp.onFeatures`: `computeAbsCurv`, `estimate_speed` function and method, `addAnalyticalFeature(speed | ds)`,
`operate`, `length`, `computeCurvAbsBetweenTwoPoints`, reads, `isSorted`, `duration`, `getT`, …), every world and every
rewriting `f` of the zone fields: the operation on the rewritten world returns what it returns on the original one —
the same value or the same exception — and ends in the rewritten final world. -/
theorem stepW_blind (g : GOps V) (op : WOp V) (hop : op.onFeatures = true) (f : Int → Int) (w : World V) :
    stepW g op (w.zmap f) = ((stepW g op w).1, (stepW g op w).2.zmap f) := by
  obtain ⟨_, m, F, hm, e⟩ := stepW_onFeatures g op hop
  rw [e]
  exact runOn_blind (blind_iff.2 fun f => hm (blind f)) _ F f w

/-- … for the kernel of every coordinate class -/
theorem _root_.TV.CinTabK.stepK_blind (g : GOps V) (K : Kernel V) (op : WOp V) (hop : op.onFeatures = true) (f : Int → Int)
    (w : World V) : stepK g K op (w.zmap f) = ((stepK g K op w).1, (stepK g K op w).2.zmap f) := by
  rcases stepK_onFeatures g K op hop with ⟨_, m, F, hm, e⟩ | e
  · rw [e]
    exact runOn_blind (blind_iff.2 fun f => hm (blind f)) _ F f w
  · rw [e]
    rfl

end TV.CinTab
