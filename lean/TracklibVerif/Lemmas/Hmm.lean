import TracklibVerif.Model.Hmm
import TracklibVerif.Lemmas.ViterbiTable
import TracklibVerif.Lemmas.Common.Assoc
/-! Lemmas about the front end of `HMM.estimate` (`Model/Hmm.lean`): the feature-table primitives, the backward
loop with its writes, and the reading of the two result columns after a call. -/
namespace TV.Hmm
open TV.Viterbi
variable {α : Type}

def Trk.WF (tr : Trk α) : Prop := ∀ c ∈ tr.cols, c.2.length = tr.size

theorem col?_eq (tr : Trk α) (n : String) : tr.col? n = Common.assoc tr.cols n := rfl

theorem has_iff_col? (tr : Trk α) (name : String) : tr.has name = (tr.col? name).isSome := by
  unfold Trk.has Trk.col?
  rw [Option.isSome_map, Bool.eq_iff_iff, List.any_eq_true, List.find?_isSome]

theorem col?_length (tr : Trk α) (h : tr.WF) (name : String) (c : List (Cell α)) (hc : tr.col? name = some c) :
    c.length = tr.size := by
  unfold Trk.col? at hc
  cases hf : tr.cols.find? (fun c => c.1 == name) with
  | none => simp [hf] at hc
  | some p =>
    simp [hf] at hc
    subst hc
    exact h p (List.mem_of_find?_eq_some hf)

theorem setObs_spec (tr : Trk α) (h : tr.WF) (name : String) (i : Nat) (v : Cell α)
    (hn : name ∉ ["x", "y", "z"]) (hhas : tr.has name = true) (hi : i < tr.size) :
    ∃ tr', tr.setObs name i v = .ok tr' ∧ tr'.WF ∧ tr'.size = tr.size ∧ tr'.pos = tr.pos ∧
      (∀ n, tr'.has n = tr.has n) ∧ tr'.get? name i = some v ∧
      (∀ n j, (n ≠ name ∨ j ≠ i) → tr'.get? n j = tr.get? n j) := by
  -- the update keeps every key and edits the value under `name`: `Common.assoc_map`
  have e : (fun c : String × List (Cell α) => if c.1 == name then (c.1, c.2.set i v) else c)
      = fun c => (c.1, if c.1 == name then c.2.set i v else c.2) := funext fun c => by split <;> rfl
  have key : ∀ n, Trk.col? { tr with cols := tr.cols.map (fun c => if c.1 == name then (c.1, c.2.set i v) else c) } n
      = (tr.col? n).map (fun c => if n = name then c.set i v else c) := fun n => by
    rw [col?_eq, col?_eq, e, Common.assoc_map tr.cols (fun k c => if k == name then c.set i v else c) n]
    simp only [beq_iff_eq]
  refine ⟨{ tr with cols := tr.cols.map (fun c => if c.1 == name then (c.1, c.2.set i v) else c) }, ?_, ?_, rfl, rfl, ?_, ?_, ?_⟩
  · simp [Trk.setObs, hn, hhas, hi]
  · intro c hc
    simp only [List.mem_map] at hc
    obtain ⟨d, hd, rfl⟩ := hc
    split
    · simpa using h d hd
    · exact h d hd
  · intro n
    rw [has_iff_col?, has_iff_col?, key]
    cases tr.col? n <;> simp
  · have hc := hhas
    rw [has_iff_col?] at hc
    obtain ⟨c, hc⟩ := Option.isSome_iff_exists.mp hc
    have hl := col?_length tr h name c hc
    unfold Trk.get?
    rw [key, hc]
    simp [hl, hi]
  · intro n j hnj
    unfold Trk.get?
    rw [key]
    cases hc : tr.col? n with
    | none => rfl
    | some c =>
      by_cases hnn : n = name
      · have hj : i ≠ j := by
          rcases hnj with h' | h'
          · exact absurd hnn h'
          · exact Ne.symm h'
        simp [hnn, List.getElem?_set_ne hj]
      · simp [hnn]

theorem create_spec (tr : Trk α) (h : tr.WF) (name : String) (init : Cell α) (hn : name ∉ reserved)
    (hs : tr.size ≠ 0) :
    ∃ tr', tr.create name init = .ok tr' ∧ tr'.WF ∧ tr'.size = tr.size ∧ tr'.pos = tr.pos ∧
      tr'.has name = true ∧ (∀ n, tr.has n = true → tr'.has n = true) ∧
      (tr.has name = true → tr' = tr) ∧
      (∀ n j, n ≠ name → tr'.get? n j = tr.get? n j) := by
  by_cases hh : tr.has name = true
  · refine ⟨tr, by simp [Trk.create, hn, hs, hh], h, rfl, rfl, hh, fun _ x => x, fun _ => rfl, fun _ _ _ => rfl⟩
  · refine ⟨{ tr with cols := tr.cols ++ [(name, List.replicate tr.size init)] }, by simp [Trk.create, hn, hs, hh],
      ?_, rfl, rfl, ?_, ?_, fun x => absurd x hh, ?_⟩
    · intro c hc
      rcases List.mem_append.mp hc with hc | hc
      · exact h c hc
      · simp at hc; subst hc; simp
    · simp [Trk.has]
    · intro n hn'
      simp only [Trk.has, List.any_append] at hn' ⊢
      simp [hn']
    · intro n j hne
      unfold Trk.get?
      rw [col?_eq, col?_eq]
      show (Common.assoc (tr.cols ++ [(name, List.replicate tr.size init)]) n).bind _ = _
      rw [Common.assoc_append]
      cases Common.assoc tr.cols n with
      | some d => rfl
      | none => simp [Common.assoc, Ne.symm hne]

theorem setObs_frame (tr tr' : Trk α) (name : String) (i : Nat) (v : Cell α) (h : tr.setObs name i v = .ok tr') :
    tr'.pos = tr.pos ∧ tr'.xyz = tr.xyz := by
  revert h
  fun_cases Trk.setObs tr name i v
  case case3 => rintro ⟨⟩; exact ⟨rfl, rfl⟩
  all_goals nofun

theorem create_frame (tr tr' : Trk α) (name : String) (init : Cell α) (h : tr.create name init = .ok tr') :
    tr'.pos = tr.pos ∧ tr'.xyz = tr.xyz := by
  revert h
  fun_cases Trk.create tr name init
  case case3 => rintro ⟨⟩; exact ⟨rfl, rfl⟩
  case case4 => rintro ⟨⟩; exact ⟨rfl, rfl⟩
  all_goals nofun

/-- the position-writing modes: MODE_OBS_AND_STATES_AS_2D_POSITIONS, …_3D_POSITIONS, MODE_STATES_AS_2D_POSITIONS -/
def PosMode (mode : Nat) : Prop := mode = 3 ∨ mode = 4 ∨ mode = 5

theorem posStep_eq (tr : Trk α) (mode k s : Nat) :
    tr.posStep mode k s
      = { tr with pos := if mode = 3 ∨ mode = 4 ∨ mode = 5 then tr.pos.set k (some s) else tr.pos } := by
  unfold Trk.posStep Trk.setPos
  split <;> rfl

theorem getElem?_getD_nat (xs : List Nat) (l : Nat) (h : l < xs.length) : xs[l]? = some (xs.getD l 0) := by
  simp [List.getD_eq_getElem?_getD, List.getElem?_eq_getElem h]

/-- `tr'` is `tr` but for the two result features and the positions at the epochs `≤ k` (positions: modes 3, 4, 5 only) -/
structure Upto (mode k : Nat) (tr tr' : Trk α) : Prop where
  wf : tr'.WF
  size : tr'.size = tr.size
  has : ∀ n, tr'.has n = tr.has n
  get : ∀ n j, ((n ≠ "hmm_inference" ∧ n ≠ "hmm_cost") ∨ k < j) → tr'.get? n j = tr.get? n j
  xyz : tr'.xyz = tr.xyz
  posLen : tr'.pos.length = tr.pos.length
  pos : ∀ j, k < j → tr'.pos[j]? = tr.pos[j]?
  posN : ¬ PosMode mode → tr'.pos = tr.pos

theorem Upto.trans {mode k k' : Nat} {tr tr1 tr2 : Trk α} (h1 : Upto mode k tr tr1) (h2 : Upto mode k' tr1 tr2)
    (hk : k' ≤ k) : Upto mode k tr tr2 :=
  ⟨h2.wf, h2.size.trans h1.size, fun n => (h2.has n).trans (h1.has n),
    fun n j h => (h2.get n j (h.imp id (fun h => by omega))).trans (h1.get n j h), h2.xyz.trans h1.xyz,
    h2.posLen.trans h1.posLen, fun j hj => (h2.pos j (by omega)).trans (h1.pos j hj),
    fun hm => (h2.posN hm).trans (h1.posN hm)⟩

theorem writeBack_cons (mode : Nat) (STATES : List (List Nat)) (c : List α × List Nat) (rest : List (List α × List Nat))
    (idk : Nat) (tr : Trk α) (hwf : tr.WF) (hinf : tr.has "hmm_inference" = true) (hcost : tr.has "hmm_cost" = true)
    (k : Nat) (hlen : rest.length = k) (hk : k < tr.size) {v : α} {m s : Nat} (hv : c.1[idk]? = some v)
    (hm : c.2[idk]? = some m) (hs : (STATES.getD k [])[idk]? = some s) :
    ∃ tr', writeBack mode STATES (c :: rest) idk tr = writeBack mode STATES rest m tr' ∧ Upto mode k tr tr' ∧
      tr'.get? "hmm_inference" k = some (.st s) ∧ tr'.get? "hmm_cost" k = some (.num v) ∧
      (PosMode mode → tr'.pos = tr.pos.set k (some s)) := by
  subst hlen
  obtain ⟨tr1, e1, w1, s1, p1, hh1, g1, f1⟩ := setObs_spec tr hwf "hmm_inference" rest.length (.st s) (by decide) hinf hk
  obtain ⟨tr2, e2, w2, s2, p2, hh2, g2, f2⟩ := setObs_spec tr1 w1 "hmm_cost" rest.length (.num v) (by decide)
    (by rw [hh1]; exact hcost) (by omega)
  -- `posStep` changes `pos` only: everything about the feature table is what it is for `tr2`
  refine ⟨{ tr2 with pos := if mode = 3 ∨ mode = 4 ∨ mode = 5 then tr2.pos.set rest.length (some s) else tr2.pos },
    by simp only [writeBack, hv, hm, hs, e1, e2, posStep_eq],
    ⟨w2, s2.trans s1, fun n => (hh2 n).trans (hh1 n), ?_,
      ((setObs_frame _ _ _ _ _ e2).2).trans (setObs_frame _ _ _ _ _ e1).2, ?_, fun j hj => ?_, fun hm => ?_⟩,
    (f2 _ _ (Or.inl (by decide))).trans g1, g2, fun hm => ?_⟩
  · intro n j hnj
    rcases hnj with ⟨a, b⟩ | hj
    · exact (f2 n j (Or.inl b)).trans (f1 n j (Or.inl a))
    · exact (f2 n j (Or.inr (by omega))).trans (f1 n j (Or.inr (by omega)))
  · dsimp only
    split <;> simp [p2, p1]
  · dsimp only
    split
    · rw [List.getElem?_set_ne (by omega), p2, p1]
    · rw [p2, p1]
  · exact (if_neg hm).trans (p2.trans p1)
  · exact (if_pos hm).trans (by rw [p2, p1])

theorem states_getD (f : Nat → List Nat) (N k : Nat) (hk : k < N) : ((List.range N).map f).getD k [] = f k := by
  simp [List.getD_eq_getElem?_getD, hk]

theorem tablesOf_n [Add α] [Neg α] (nm : Num α) (h : Obj α) (tr : Trk α) (f : Nat → List Nat) (M : Nat)
    (OBS : List (List (ObsItem α))) (k : Nat) (hk : k < M) :
    (tablesOf nm h tr ((List.range M).map f) OBS).n k = (f k).length :=
  congrArg List.length (states_getD f M k hk)

theorem tablesOf_counts [Add α] [Neg α] (nm : Num α) (h : Obj α) (tr : Trk α) (N : Nat) (hsize : tr.size = N + 1)
    (OBS : List (List (ObsItem α))) (hS : ∀ k, k ≤ N → h.S tr k ≠ []) (k : Nat) (hk : k ≤ N) :
    (tablesOf nm h tr ((List.range tr.size).map (h.S tr)) OBS).n k = (h.S tr k).length ∧
    0 < (tablesOf nm h tr ((List.range tr.size).map (h.S tr)) OBS).n k := by
  have e := tablesOf_n nm h tr (h.S tr) tr.size OBS k (by omega)
  exact ⟨e, e ▸ List.length_pos_iff.mpr (hS k hk)⟩

section
variable [LinearOrder α]

/-- one round is `writeBack_cons`; the later rounds leave its epoch alone -/
theorem writeBack_forward_all (mode : Nat) (STATES : List (List Nat)) (t : Tables α) (k : Nat) :
    ∀ (l : Nat) (tr : Trk α), (∀ j, j ≤ k → 0 < t.n j) → l < t.n k →
      (∀ j, j ≤ k → (STATES.getD j []).length = t.n j) →
      tr.WF → tr.has "hmm_inference" = true → tr.has "hmm_cost" = true → k < tr.size →
      ∃ tr', writeBack mode STATES (forward t k) l tr = (tr', none) ∧ Upto mode k tr tr' ∧
        (∀ j, j ≤ k → tr'.get? "hmm_inference" j = some (.st ((STATES.getD j []).getD (back t k l j) 0)) ∧
                       tr'.get? "hmm_cost" j = some (.num (val t j (back t k l j)))) ∧
        (PosMode mode → k < tr.pos.length →
          ∀ j, j ≤ k → tr'.pos[j]? = some (some ((STATES.getD j []).getD (back t k l j) 0))) := by
  induction k with
  | zero =>
    intro l tr hpos hl hS hwf hinf hcost hk
    obtain ⟨h1, h2⟩ := firstCol_getElem? t l hl
    have h3 := getElem?_getD_nat (STATES.getD 0 []) l (by rw [hS 0 (Nat.le_refl _)]; exact hl)
    obtain ⟨trA, e, U, g1, g2, pp⟩ := writeBack_cons mode STATES (firstCol t) [] l tr hwf hinf hcost 0 rfl hk h1 h2 h3
    refine ⟨trA, e, U, ?_, ?_⟩
    · intro j hj
      obtain rfl : j = 0 := by omega
      exact ⟨g1, g2⟩
    · intro hm hp j hj
      obtain rfl : j = 0 := by omega
      rw [pp hm]
      simp [hp, back]
  | succ k ih =>
    intro l tr hpos hl hS hwf hinf hcost hk
    rw [forward_succ]
    obtain ⟨h1, h2⟩ := colOf_succ_getElem? t k l hl
    have h3 := getElem?_getD_nat (STATES.getD (k+1) []) l (by rw [hS (k+1) (Nat.le_refl _)]; exact hl)
    obtain ⟨trA, e, U, g1, g2, pp⟩ := writeBack_cons mode STATES (colOf t (k+1)) (forward t k) l tr hwf hinf hcost
      (k+1) (forward_length t k) hk h1 h2 h3
    obtain ⟨tr', e', U', g', pp'⟩ := ih (mrk t k l) trA
      (fun j hj => hpos j (by omega)) (mrk_lt t k l (hpos k (by omega))) (fun j hj => hS j (by omega)) U.wf
      (by rw [U.has]; exact hinf) (by rw [U.has]; exact hcost) (by rw [U.size]; omega)
    refine ⟨tr', e.trans e', U.trans U' (Nat.le_succ k), ?_, ?_⟩
    · intro j hj
      by_cases hjk : j = k + 1
      · subst hjk
        rw [U'.get _ _ (Or.inr (Nat.lt_succ_self k)), U'.get _ _ (Or.inr (Nat.lt_succ_self k)), back_self]
        exact ⟨g1, g2⟩
      · rw [back_lt t k l j (by omega)]
        exact g' j (by omega)
    · intro hm hp j hj
      by_cases hjk : j = k + 1
      · subst hjk
        rw [U'.pos _ (Nat.lt_succ_self k), pp hm, back_self]
        simp [hp]
      · rw [back_lt t k l j (by omega)]
        exact pp' hm (by rw [U.posLen]; omega) j (by omega)

theorem writeBack_forward (mode : Nat) (STATES : List (List Nat)) (t : Tables α) (k : Nat) :
    ∀ (l : Nat) (tr : Trk α), (∀ j, j ≤ k → 0 < t.n j) → l < t.n k →
      (∀ j, j ≤ k → (STATES.getD j []).length = t.n j) →
      tr.WF → tr.has "hmm_inference" = true → tr.has "hmm_cost" = true → k < tr.size →
      ∃ tr', writeBack mode STATES (forward t k) l tr = (tr', none) ∧ tr'.WF ∧ tr'.size = tr.size ∧
        (∀ n, tr'.has n = tr.has n) ∧
        (∀ j, j ≤ k → tr'.get? "hmm_inference" j = some (.st ((STATES.getD j []).getD (back t k l j) 0)) ∧
                       tr'.get? "hmm_cost" j = some (.num (val t j (back t k l j)))) ∧
        (∀ n j, ((n ≠ "hmm_inference" ∧ n ≠ "hmm_cost") ∨ k < j) → tr'.get? n j = tr.get? n j) := by
  intro l tr hpos hl hS hwf hinf hcost hk
  obtain ⟨tr', e, U, g, _⟩ := writeBack_forward_all mode STATES t k l tr hpos hl hS hwf hinf hcost hk
  exact ⟨tr', e, U.wf, U.size, U.has, g, U.get⟩

/-- **One call of `estimate`, whatever the track carried before.** On a well-formed track of `N+1` epochs whose
observation features can be read and where `S` proposes at least one state per epoch, the call raises nothing,
or-s its `log` argument into the object, and leaves in `hmm_inference` / `hmm_cost` exactly what `decode` returns
on the cost tables of THIS call (`tablesOf`: the object's functions evaluated on the states and observations
compiled from the track as it was when the call was made, converted with the flag of this call): the state OBJECT
`S(track, k)[idx_k]` and the recorded cost, at every epoch — also when the two features existed before (an
earlier decoding, a copy of a decoded track, user features of those names). Every other feature is unchanged.
Positions: the coordinates of the track's own position objects are untouched; in the modes 3, 4, 5 (and one position per
epoch) the position of EVERY epoch is rebound to the decoded state object, the one recorded in `hmm_inference`; in
every other mode the positions are exactly what they were. -/
theorem estimate_ok [Add α] [Neg α] (nm : Num α) (h : Obj α) (tr : Trk α) (obs : List String) (log : Bool)
    (mode N : Nat) (hwf : tr.WF) (hsize : tr.size = N + 1) (OBS : List (List (ObsItem α)))
    (hobs : (List.range tr.size).mapM (fun k => getObsK nm tr obs k mode) = .ok OBS)
    (hS : ∀ k, k ≤ N → h.S tr k ≠ []) :
    ∃ r tr', decode (tablesOf nm { h with log := h.log || log } tr ((List.range tr.size).map (h.S tr)) OBS) (N+1) = .ok r ∧
      estimate nm h tr obs log mode = ({ h with log := h.log || log }, tr', none) ∧
      tr'.WF ∧ tr'.size = tr.size ∧ (∀ n, tr.has n = true → tr'.has n = true) ∧
      (∀ k, k ≤ N → tr'.get? "hmm_inference" k = some (.st ((h.S tr k).getD (seqOf r k) 0)) ∧
        ∃ v, costAt r k = some v ∧ tr'.get? "hmm_cost" k = some (.num v)) ∧
      (∀ n j, n ≠ "hmm_inference" → n ≠ "hmm_cost" → tr'.get? n j = tr.get? n j) ∧
      tr'.xyz = tr.xyz ∧ (¬ PosMode mode → tr'.pos = tr.pos) ∧
      (PosMode mode → tr.pos.length = tr.size →
        ∀ k, k ≤ N → tr'.pos[k]? = some (some ((h.S tr k).getD (seqOf r k) 0))) ∧
      tr'.has "hmm_inference" = true ∧ tr'.has "hmm_cost" = true := by
  have hc := tablesOf_counts nm { h with log := h.log || log } tr N hsize OBS hS
  generalize ht : tablesOf nm { h with log := h.log || log } tr ((List.range tr.size).map (h.S tr)) OBS = t at hc
  have hpos : ∀ k, k ≤ N → 0 < t.n k := fun k hk => (hc k hk).2
  have hSt : ∀ j, j ≤ N → (((List.range tr.size).map (h.S tr)).getD j []).length = t.n j := fun j hj => by
    rw [(hc j hj).1, states_getD _ _ _ (by omega)]
  obtain ⟨rest, hf⟩ := forward_head t N
  obtain ⟨idk, hidk, _, hr, hd⟩ := decode_run t N hpos
  obtain ⟨tr1, e1, w1, s1, p1, hi1, hk1, _, f1⟩ := create_spec tr hwf "hmm_inference" (.num nm.zero) (by decide) (by omega)
  obtain ⟨tr2, e2, w2, s2, p2, hc2, hk2, _, f2⟩ := create_spec tr1 w1 "hmm_cost" (.num nm.zero) (by decide) (by omega)
  obtain ⟨tr', e', U, g', pp'⟩ :=
    writeBack_forward_all mode ((List.range tr.size).map (h.S tr)) t N idk tr2 hpos hidk hSt w2 (hk2 _ hi1) hc2 (by omega)
  have hseq := seqOf_range_map (back t N idk) (fun j => val t j (back t N idk j)) N
  refine ⟨_, tr', hd, ?_, U.wf, by have := U.size; omega, fun n hn' => by rw [U.has n]; exact hk2 n (hk1 n hn'), fun k hk => ?_,
    fun n j h1 h2 => by rw [U.get n j (Or.inl ⟨h1, h2⟩), f2 n j h2, f1 n j h1],
    by rw [U.xyz, (create_frame _ _ _ _ e2).2, (create_frame _ _ _ _ e1).2],
    fun hm => by rw [U.posN hm, p2, p1], fun hm hp k hk => ?_, (U.has _).trans (hk2 _ hi1), (U.has _).trans hc2⟩
  · rw [hf] at e'
    unfold estimate
    simp only [hsize] at ht e' hobs
    simp only [hsize, hobs, ht, hf, e1, e2, hr, e']
  · rw [hseq k hk, ← states_getD (h.S tr) tr.size k (by omega)]
    exact ⟨(g' k hk).1, _, costAt_range_map _ _ N k hk, (g' k hk).2⟩
  · rw [hseq k hk, ← states_getD (h.S tr) tr.size k (by omega)]
    exact pp' hm (by rw [p2, p1, hp]; omega) k hk

/-- **An epoch without candidates at the end of the track.** When `S` returns an empty list for the last epoch the
call raises `ValueError` (`numpy.argmin` of an empty sequence) AFTER the two result features have been created:
the track has them (zero-initialised when they were new, otherwise as they were), every other feature is unchanged,
nothing is decoded. (An empty list at an earlier epoch raises `IndexError` in the backward loop, after the later
epochs have been written: `writeBack`.) -/
theorem estimate_last_empty [Add α] [Neg α] (nm : Num α) (h : Obj α) (tr : Trk α) (obs : List String) (log : Bool)
    (mode N : Nat) (hwf : tr.WF) (hsize : tr.size = N + 1) (OBS : List (List (ObsItem α)))
    (hobs : (List.range tr.size).mapM (fun k => getObsK nm tr obs k mode) = .ok OBS)
    (hS : h.S tr N = []) :
    ∃ tr', estimate nm h tr obs log mode = ({ h with log := h.log || log }, tr', some .value) ∧
      tr'.has "hmm_inference" = true ∧ tr'.has "hmm_cost" = true ∧
      (∀ n j, n ≠ "hmm_inference" → n ≠ "hmm_cost" → tr'.get? n j = tr.get? n j) ∧
      (tr.has "hmm_inference" = true → tr.has "hmm_cost" = true → tr' = tr) := by
  generalize ht : tablesOf nm { h with log := h.log || log } tr ((List.range tr.size).map (h.S tr)) OBS = t
  have hn : t.n N = 0 := by
    rw [← ht, tablesOf_n _ _ _ _ _ _ N (by omega), hS]; rfl
  obtain ⟨rest, hf⟩ := forward_head t N
  have hcol : (colOf t N).1 = [] := by rw [colOf_fst, hn]; rfl
  obtain ⟨tr1, e1, w1, s1, _, hi1, hk1, q1, f1⟩ := create_spec tr hwf "hmm_inference" (.num nm.zero) (by decide) (by omega)
  obtain ⟨tr2, e2, w2, s2, _, hc2, hk2, q2, f2⟩ := create_spec tr1 w1 "hmm_cost" (.num nm.zero) (by decide) (by omega)
  refine ⟨tr2, ?_, hk2 _ hi1, hc2, ?_, ?_⟩
  · unfold estimate
    simp only [hsize] at ht hobs
    simp only [hsize, hobs, ht, hf, e1, e2, hcol, argmin?]
  · intro n j h1 h2
    rw [f2 n j h2, f1 n j h1]
  · intro a b
    have := q1 a
    subst this
    exact q2 b
end
end TV.Hmm
