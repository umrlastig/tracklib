import TracklibVerif.Model.Expr
import Std.Data.String.ToNat
/-! Helper lemmas for C02: the stack machine `evalRPN` on the postfix form of a tree simulates the
tree semantics `denoteM` — it pushes an item for its value, or raises its error —, creating only temporaries among
`#k … #(k+ops-1)`: one relation (`Sim`) for what an operation does against `nodeBin` / `nodeCall`, one induction
(`evalRPN_sim`) for the machine. -/
namespace TV.Expr
open Scalar
variable {α : Type}

theorem isTemp_tmpName (k : Nat) : isTemp (tmpName k) = true := by simp [isTemp, tmpName]

theorem parseLit_of_isTemp {s : Str} (h : isTemp s = true) : parseLit s = none := by
  cases s with
  | nil => rfl
  | cons c cs =>
    simp only [isTemp, List.head?_cons, beq_iff_eq, Option.some.injEq] at h
    subst h
    have h1 : ('#' : Char).toLower = '#' := by decide
    simp [parseLit, wordLit, h1]

theorem parseLit_tmpName (k : Nat) : parseLit (tmpName k) = none := parseLit_of_isTemp (isTemp_tmpName k)

theorem tmpName_inj {a b : Nat} (h : tmpName a = tmpName b) : a = b := by
  simp only [tmpName, List.cons.injEq, true_and] at h
  have h2 : toString a = toString b := String.toList_inj.mp h
  rw [Nat.toString_eq_repr, Nat.toString_eq_repr] at h2
  exact Nat.repr_inj.mp h2

theorem tmpName_ne_output (k : Nat) : tmpName k ≠ outputName := by
  intro h
  simp only [tmpName, outputName, List.cons.injEq, true_and] at h
  have hm : 'o' ∈ (toString k).toList := by rw [h]; simp
  rw [Nat.toString_eq_repr, Nat.toList_repr] at hm
  have := Nat.isDigit_of_mem_toDigits (by decide) (by decide) hm
  exact absurd this (by decide)

theorem isReserved_of_isTemp {s : Str} (h : isTemp s = true) : isReserved s = false := by
  cases s with
  | nil => simp [isTemp] at h
  | cons c cs =>
    simp only [isTemp, List.head?_cons, beq_iff_eq, Option.some.injEq] at h
    subst h
    simp [isReserved, reservedNames]

theorem isReserved_tmpName (k : Nat) : isReserved (tmpName k) = false := isReserved_of_isTemp (isTemp_tmpName k)


theorem lookup_append (s : Str) (l1 l2 : List (Str × List α)) :
    lookup s (l1 ++ l2) = match lookup s l1 with | some v => some v | none => lookup s l2 := by
  induction l1 with
  | nil => simp [lookup]
  | cons p l ih =>
    obtain ⟨k, v⟩ := p
    simp only [List.cons_append, lookup]
    split <;> simp_all

theorem lookup_none_of_keys (s : Str) (l : List (Str × List α)) (h : ∀ p ∈ l, p.1 ≠ s) : lookup s l = none := by
  induction l with
  | nil => rfl
  | cons p l ih =>
    obtain ⟨k, v⟩ := p
    have hk : k ≠ s := h (k, v) (by simp)
    simp only [lookup, hk, if_false]
    exact ih (fun p hp => h p (by simp [hp]))

theorem setKey_append (s : Str) (c : List α) (l1 l2 : List (Str × List α)) :
    setKey s c (l1 ++ l2) = if (lookup s l1).isSome then setKey s c l1 ++ l2 else l1 ++ setKey s c l2 := by
  induction l1 with
  | nil => rfl
  | cons p l ih =>
    obtain ⟨k, v⟩ := p
    by_cases hk : k = s
    · simp [setKey, lookup, hk]
    · simp only [List.cons_append, setKey, lookup, hk, if_false, ih]
      split <;> rfl

theorem eraseKey_append (s : Str) (l1 l2 : List (Str × List α)) :
    eraseKey s (l1 ++ l2) = if (lookup s l1).isSome then eraseKey s l1 ++ l2 else l1 ++ eraseKey s l2 := by
  induction l1 with
  | nil => rfl
  | cons p l ih =>
    obtain ⟨k, v⟩ := p
    by_cases hk : k = s
    · simp [eraseKey, lookup, hk]
    · simp only [List.cons_append, eraseKey, lookup, hk, if_false, ih]
      split <;> rfl

theorem mem_eraseKey {s : Str} {l : List (Str × List α)} {p : Str × List α} (h : p ∈ eraseKey s l) : p ∈ l := by
  induction l with
  | nil => simp [eraseKey] at h
  | cons q l ih =>
    obtain ⟨k, v⟩ := q
    simp only [eraseKey] at h
    split at h
    · exact List.mem_cons_of_mem _ h
    · rcases List.mem_cons.mp h with h | h
      · rw [h]; exact List.mem_cons_self
      · exact List.mem_cons_of_mem _ (ih h)

theorem keys_setKey (s : Str) (c : List α) (l : List (Str × List α)) : (setKey s c l).map Prod.fst = l.map Prod.fst := by
  induction l with
  | nil => rfl
  | cons q l ih =>
    obtain ⟨k, v⟩ := q
    simp only [setKey]
    split <;> simp [ih]

theorem filter_nontemp_self {l : List (Str × List α)} (h : ∀ p ∈ l, isTemp p.1 = false) :
    l.filter (fun p => !isTemp p.1) = l := by
  apply List.filter_eq_self.mpr
  intro p hp
  simp [h p hp]

theorem filter_temp_nil {l : List (Str × List α)} (h : ∀ p ∈ l, isTemp p.1 = true) :
    l.filter (fun p => !isTemp p.1) = [] := by
  apply List.filter_eq_nil_iff.mpr
  intro p hp
  simp [h p hp]

theorem temp_of_added {ad : List (Str × List α)} (h : ∀ p ∈ ad, ∃ j, p.1 = tmpName j) : ∀ p ∈ ad, isTemp p.1 = true := by
  intro p hp
  obtain ⟨j, hj⟩ := h p hp
  rw [hj]
  exact isTemp_tmpName j

theorem added_ne {ad : List (Str × List α)} (had : ∀ p ∈ ad, ∃ j, p.1 = tmpName j) {s : Str} (ht : isTemp s = false) :
    ∀ p ∈ ad, p.1 ≠ s := by
  intro p hp heq
  have := temp_of_added had p hp
  rw [heq, ht] at this
  cases this

theorem lookup_append_isSome {s : Str} {l1 : List (Str × List α)} (l2) (h : (lookup s l1).isSome) :
    (lookup s (l1 ++ l2)).isSome := by
  rw [lookup_append]
  cases hl : lookup s l1 with
  | none => rw [hl] at h; cases h
  | some x => rfl

theorem filter_eraseKey_temp {s : Str} (hs : isTemp s = true) : ∀ (l : List (Str × List α)),
    (eraseKey s l).filter (fun p => !isTemp p.1) = l.filter (fun p => !isTemp p.1)
  | [] => rfl
  | (k, v) :: l => by
    by_cases hk : k = s
    · subst hk; simp [eraseKey, hs]
    · simp only [eraseKey, hk, if_false, List.filter_cons, filter_eraseKey_temp hs l]

theorem filter_eraseKey {s : Str} (hs : isTemp s = false) : ∀ (l : List (Str × List α)),
    (eraseKey s l).filter (fun p => !isTemp p.1) = eraseKey s (l.filter (fun p => !isTemp p.1))
  | [] => rfl
  | (k, v) :: l => by
    by_cases hk : k = s
    · subst hk; simp [eraseKey, hs]
    · cases ht : isTemp k <;> simp [eraseKey, hk, ht, filter_eraseKey hs l]

theorem filter_setKey {s : Str} (hs : isTemp s = false) (c : List α) : ∀ (l : List (Str × List α)),
    (setKey s c l).filter (fun p => !isTemp p.1) = setKey s c (l.filter (fun p => !isTemp p.1))
  | [] => rfl
  | (k, v) :: l => by
    by_cases hk : k = s
    · subst hk; simp [setKey, hs]
    · cases ht : isTemp k <;> simp [setKey, hk, ht, filter_setKey hs c l]

theorem setCoord_feats (t : Tr α) (l : Str) (c : List α) : (setCoord t l c).feats = t.feats := by
  unfold setCoord; split <;> (try split) <;> rfl

theorem setCoord_with_feats (t : Tr α) (l : Str) (c : List α) (f : List (Str × List α)) :
    ({ setCoord t l c with feats := f } : Tr α) = setCoord { t with feats := f } l c := by
  unfold setCoord; split <;> (try split) <;> rfl

theorem purge_setCoord (t : Tr α) (l : Str) (c : List α) : purge (setCoord t l c) = setCoord (purge t) l c := by
  rw [purge, setCoord_feats, setCoord_with_feats]; rfl

theorem purge_replace {lhs : Str} (ht : isTemp lhs = false) (T : Tr α) (c : List α) :
    purge { T with feats := eraseKey lhs T.feats ++ [(lhs, c)] }
      = { purge T with feats := eraseKey lhs (purge T).feats ++ [(lhs, c)] } := by
  simp [purge, List.filter_append, filter_eraseKey ht, ht]

theorem purge_overwrite {lhs : Str} (ht : isTemp lhs = false) (T : Tr α) (w : List α) :
    purge { T with feats := setKey lhs w T.feats } = { purge T with feats := setKey lhs w (purge T).feats } := by
  simp [purge, filter_setKey ht]

theorem not_xyz_of_not_reserved {out : Str} (hr : isReserved out = false) : out ≠ ['x'] ∧ out ≠ ['y'] ∧ out ≠ ['z'] := by
  refine ⟨?_, ?_, ?_⟩ <;> (intro h; subst h; revert hr; decide)

variable [Scalar α]

def ext (tr : Tr α) (added : List (Str × List α)) : Tr α := { tr with feats := tr.feats ++ added }

@[simp] theorem ext_n (tr : Tr α) (a) : (ext tr a).n = tr.n := rfl
@[simp] theorem ext_feats (tr : Tr α) (a) : (ext tr a).feats = tr.feats ++ a := rfl

section
omit [Scalar α]

@[simp] theorem ext_nil (tr : Tr α) : ext tr [] = tr := by cases tr; simp [ext]
theorem ext_ext (tr : Tr α) (a b) : ext (ext tr a) b = ext tr (a ++ b) := by simp [ext, List.append_assoc]

theorem createAF_new (tr : Tr α) (out : Str) (c : List α) (hn : tr.n ≠ 0) (hr : isReserved out = false)
    (hlk : lookup out tr.feats = none) : createAF tr out c = .ok (ext tr [(out, c)]) := by
  simp [createAF, hr, hn, hlk, ext]

theorem writeAF_new (tr : Tr α) (out : Str) (c0 c : List α) (hn : tr.n ≠ 0) (hr : isReserved out = false)
    (hlk : lookup out tr.feats = none) : writeAF (ext tr [(out, c0)]) out c = .ok (ext tr [(out, c)]) := by
  obtain ⟨hx, hy, hz⟩ := not_xyz_of_not_reserved hr
  have h1 : lookup out (tr.feats ++ [(out, c0)]) = some c0 := by simp [lookup_append, hlk, lookup]
  have h2 : setKey out c (tr.feats ++ [(out, c0)]) = tr.feats ++ [(out, c)] := by
    rw [setKey_append, hlk]; simp [setKey]
  simp only [writeAF, ext_n, hn, hx, hy, hz, if_false, ext_feats, h1, Option.isSome_some, if_true, h2]
  rfl

theorem lookup_ext_none {tr : Tr α} {ad : List (Str × List α)} {s : Str} (h1 : lookup s tr.feats = none)
    (h2 : ∀ p ∈ ad, p.1 ≠ s) : lookup s (ext tr ad).feats = none := by
  simp only [ext_feats, lookup_append, h1]
  exact lookup_none_of_keys s ad h2

theorem removeAF_output_new (T : Tr α) (c : List α) (h : lookup outputName T.feats = none) :
    removeAF (ext T [(outputName, c)]) outputName = .ok T := by
  have h1 : lookup outputName (T.feats ++ [(outputName, c)]) = some c := by simp [lookup_append, h, lookup]
  have h2 : eraseKey outputName (T.feats ++ [(outputName, c)]) = T.feats := by
    rw [eraseKey_append, h]; simp [eraseKey]
  cases T
  simp only [removeAF, hasAF, ext] at h1 h2 ⊢
  simp [h1, h2]

end

theorem isReserved_cases {s : Str} (h : isReserved s = true) :
    s = ['x'] ∨ s = ['y'] ∨ s = ['z'] ∨ s = ['t'] ∨ s = ['t', 'i', 'm', 'e', 's', 't', 'a', 'm', 'p'] ∨ s = ['i', 'd', 'x'] := by
  simpa [isReserved, reservedNames] using h

theorem getAF_reserved {tr : Tr α} {s : Str} (h : isReserved s = true) (f : List (Str × List α)) :
    getAF { tr with feats := f } s = getAF tr s := by
  rcases isReserved_cases h with rfl | rfl | rfl | rfl | rfl | rfl <;> rfl

theorem getAF_feat {tr : Tr α} {s : Str} {c : List α} (h : isReserved s = false) :
    getAF tr s = .ok c ↔ lookup s tr.feats = some c := by
  simp only [isReserved, reservedNames, List.contains_cons, List.contains_nil, Bool.or_false, Bool.or_eq_false_iff,
    beq_eq_false_iff_ne, ne_eq] at h
  simp only [getAF, h, if_false]
  cases lookup s tr.feats <;> simp

theorem getAF_ext {tr : Tr α} {s : Str} {c : List α} (added) (h : getAF tr s = .ok c) :
    getAF (ext tr added) s = .ok c := by
  cases hr : isReserved s with
  | true => rw [ext, getAF_reserved hr]; exact h
  | false =>
    rw [getAF_feat hr] at h ⊢
    rw [ext_feats, lookup_append, h]

theorem hasAF_of_getAF {tr : Tr α} {s : Str} {c : List α} (h : getAF tr s = .ok c) : hasAF tr s = true := by
  cases hr : isReserved s with
  | true => simp [hasAF, hr]
  | false => simp [hasAF, (getAF_feat hr).mp h]

theorem getAF_new (T : Tr α) (s : Str) (c : List α) (hr : isReserved s = false) (h : lookup s T.feats = none) :
    getAF (ext T [(s, c)]) s = .ok c := by
  rw [getAF_feat hr, ext_feats, lookup_append, h]
  simp [lookup]

def Step (tr tr' : Tr α) (k k' : Nat) : Prop :=
  ∃ added, tr' = ext tr added ∧ ∀ p ∈ added, ∃ j, k ≤ j ∧ j < k' ∧ p.1 = tmpName j

section
omit [Scalar α]

theorem Step.refl (tr : Tr α) (k : Nat) : Step tr tr k k := ⟨[], by simp, by simp⟩

theorem Step.mono {tr tr' : Tr α} {k k' k'' : Nat} (h : Step tr tr' k k') (hk : k' ≤ k'') : Step tr tr' k k'' := by
  obtain ⟨ad, e, p⟩ := h
  exact ⟨ad, e, fun q hq => by obtain ⟨j, a, b, c⟩ := p q hq; exact ⟨j, a, by omega, c⟩⟩

theorem Step.trans {a b c : Tr α} {k k' k'' : Nat} (h1 : Step a b k k') (h2 : Step b c k' k'')
    (hk : k ≤ k') (hk' : k' ≤ k'') : Step a c k k'' := by
  obtain ⟨ad1, rfl, p1⟩ := h1
  obtain ⟨ad2, rfl, p2⟩ := h2
  refine ⟨ad1 ++ ad2, ext_ext _ _ _, ?_⟩
  intro p hp
  rcases List.mem_append.mp hp with hp | hp
  · obtain ⟨j, h1, h2, h3⟩ := p1 p hp; exact ⟨j, h1, by omega, h3⟩
  · obtain ⟨j, h1, h2, h3⟩ := p2 p hp; exact ⟨j, by omega, h2, h3⟩

theorem Step.added {tr tr' : Tr α} {k k' : Nat} (h : Step tr tr' k k') :
    ∃ ad, tr' = ext tr ad ∧ ∀ p ∈ ad, ∃ j, p.1 = tmpName j := by
  obtain ⟨ad, e, p⟩ := h
  exact ⟨ad, e, fun q hq => by obtain ⟨j, _, _, c⟩ := p q hq; exact ⟨j, c⟩⟩

theorem step_one (tr : Tr α) (k : Nat) (c : List α) : Step tr (ext tr [(tmpName k, c)]) k (k + 1) :=
  ⟨_, rfl, by intro p hp; simp at hp; exact ⟨k, by omega, by omega, by simp [hp]⟩⟩

end

def Fresh (tr : Tr α) (k : Nat) : Prop := ∀ j, k ≤ j → lookup (tmpName j) tr.feats = none

/-- no column is named like a number (Python would then treat the literal as a feature) -/
def NoLitNames (tr : Tr α) : Prop := ∀ s, (parseLit s).isSome → lookup s tr.feats = none

section
omit [Scalar α]

theorem NoLitNames.of_keys {tr : Tr α} (h : ∀ p ∈ tr.feats, (parseLit p.1).isSome = false) : NoLitNames tr := by
  intro s hs
  apply lookup_none_of_keys
  intro p hp heq
  have := h p hp
  rw [heq, hs] at this
  cases this

theorem Fresh.step {tr tr' : Tr α} {k k' : Nat} (hf : Fresh tr k) (hs : Step tr tr' k k') (hk : k ≤ k') :
    Fresh tr' k' := by
  obtain ⟨ad, rfl, p⟩ := hs
  intro j hj
  simp only [ext_feats, lookup_append, hf j (by omega)]
  apply lookup_none_of_keys
  intro q hq heq
  obtain ⟨j', _, h2, h3⟩ := p q hq
  have := tmpName_inj (h3.symm.trans heq)
  omega

theorem NoLitNames.ext {tr : Tr α} (h : NoLitNames tr) {ad : List (Str × List α)} (had : ∀ p ∈ ad, ∃ j, p.1 = tmpName j) :
    NoLitNames (ext tr ad) := by
  intro s hs
  simp only [ext_feats, lookup_append, h s hs]
  apply lookup_none_of_keys
  intro q hq heq
  obtain ⟨j, hj⟩ := had q hq
  rw [← heq, hj, parseLit_tmpName] at hs
  simp at hs

theorem NoLitNames.step {tr tr' : Tr α} {k k' : Nat} (hf : NoLitNames tr) (hs : Step tr tr' k k') :
    NoLitNames tr' := by
  obtain ⟨ad, rfl, had⟩ := hs.added
  exact hf.ext had

end

def itemVal (tr : Tr α) : Item α → Option (Val α)
  | .tok s => match litOf s with
    | some v => some (.lit v)
    | none => match getAF tr s with
      | .ok c => some (.vec c)
      | .error _ => none
  | .num v => some (.lit v)
  | .unit => none

theorem itemVal_ext {tr : Tr α} {it : Item α} {v : Val α} (added) (h : itemVal tr it = some v) :
    itemVal (ext tr added) it = some v := by
  revert h
  fun_cases itemVal tr it
  case case1 s _ hl => simp [itemVal, hl]
  case case2 s hl c hg => simp [itemVal, hl, getAF_ext added hg]
  case case4 => exact id
  all_goals nofun

theorem itemVal_lit {tr : Tr α} {it : Item α} {a : α} (h : itemVal tr it = some (.lit a)) :
    isFloat it = .ok (some a) ∧ toFloat it = .ok a ∧ (∀ s, it = .tok s → (parseLit s).isSome) := by
  revert h
  fun_cases itemVal tr it
  case case1 s _ hl =>
    rintro ⟨⟩
    refine ⟨by simp [isFloat, hl], by simp [toFloat, hl], ?_⟩
    rintro _ ⟨⟩
    simp only [litOf, Option.map_eq_some_iff] at hl
    obtain ⟨p, hp, _⟩ := hl
    simp [hp]
  case case4 => rintro ⟨⟩; exact ⟨rfl, rfl, nofun⟩
  all_goals nofun

theorem itemVal_vec {tr : Tr α} {it : Item α} {c : List α} (h : itemVal tr it = some (.vec c)) :
    ∃ s, it = .tok s ∧ litOf (α := α) s = none ∧ getAF tr s = .ok c := by
  revert h
  fun_cases itemVal tr it
  case case2 s hl _ hg => rintro ⟨⟩; exact ⟨s, rfl, hl, hg⟩
  all_goals nofun

theorem itemVal_tmp_new (tr : Tr α) (k : Nat) (c : List α) (hf : lookup (tmpName k) tr.feats = none) :
    itemVal (ext tr [(tmpName k, c)]) (.tok (tmpName k)) = some (.vec c) := by
  simp [itemVal, litOf, parseLit_tmpName, getAF_new tr _ c (isReserved_tmpName k) hf]

theorem ok_bind {β γ : Type} (a : β) (f : β → Except Err γ) : ((Except.ok a : Except Err β) >>= f) = f a := rfl

theorem map_ok {β γ : Type} {x : Except Err β} {f : β → γ} {v : γ} (h : x.map f = .ok v) : ∃ a, x = .ok a ∧ f a = v := by
  cases x with
  | error e => cases h
  | ok a => exact ⟨a, rfl, Except.ok.inj h⟩

/-- a void operator writing to a new name `out` (a fresh temporary `#k`, or the user's output name): the column is created
    (zeros) BEFORE the computation; the computed column replaces the zeros, an error leaves them behind -/
theorem runVoid_new (tr : Tr α) (out : Str) (compute : Tr α → Except Err (List α))
    (hn : tr.n ≠ 0) (hr : isReserved out = false) (hlk : lookup out tr.feats = none) :
    runVoid tr out compute =
      match compute (ext tr [(out, konst tr zero)]) with
      | .ok c => (.ok c, ext tr [(out, c)])
      | .error e => (.error e, ext tr [(out, konst tr zero)]) := by
  simp only [runVoid, createAF_new tr out _ hn hr hlk]
  cases compute (ext tr [(out, konst tr zero)]) with
  | ok c => simp only [writeAF_new tr out _ c hn hr hlk]
  | error e => rfl

def tmpRes (tr : Tr α) (k : Nat) : Except Err (List α) → Res α (Item α)
  | .ok c => (.ok (.tok (tmpName k)), ext tr [(tmpName k, c)])
  | .error e => (.error e, ext tr [(tmpName k, konst tr zero)])

theorem voidCompute_ext (tr : Tr α) (f s : Str) (x : List α) (ad : List (Str × List α)) (gs : getAF tr s = .ok x) :
    voidCompute f s (ext tr ad) = voidFn f tr.n x := by
  simp only [voidCompute, voidInput, getAF_ext _ gs, ext_n]
  split <;> rfl

theorem voidCompute_self (tr : Tr α) (f s : Str) (x : List α) (gs : getAF tr s = .ok x) :
    voidCompute f s tr = voidFn f tr.n x := by
  simpa using voidCompute_ext tr f s x [] gs

theorem opLog_new (tr : Tr α) (inp out : Str) (hn : tr.n ≠ 0) (hr : isReserved out = false) (hlk : lookup out tr.feats = none) :
    opLog tr inp out = match voidCompute logName inp tr with
      | .ok c => (.ok c, ext tr [(out, c)])
      | .error e => (.error e, tr) := by
  have hh : hasAF tr out = false := by simp [hasAF, hlk, hr]
  unfold opLog
  cases voidCompute logName inp tr with
  | error e => rfl
  | ok c =>
    simp only [hh, createAF_new tr out c hn hr hlk, Bool.false_eq_true, if_false]

theorem opVoidFn_new (tr : Tr α) (f inp out : Str) (x : List α) (gs : getAF tr inp = .ok x)
    (hn : tr.n ≠ 0) (hr : isReserved out = false) (hlk : lookup out tr.feats = none) :
    opVoidFn tr f inp out = match voidFn f tr.n x with
      | .ok c => (.ok c, ext tr [(out, c)])
      | .error e => (.error e, if f = logName then tr else ext tr [(out, konst tr zero)]) := by
  unfold opVoidFn
  by_cases hlog : f = logName
  · subst hlog
    rw [if_pos rfl, opLog_new tr inp out hn hr hlk, voidCompute_self tr _ inp x gs]
    cases voidFn logName tr.n x <;> simp
  · rw [if_neg hlog, runVoid_new tr out _ hn hr hlk, voidCompute_ext tr f inp x _ gs]
    cases voidFn f tr.n x <;> simp [hlog]

theorem binOps_ne {o : Char} (ho : binOps.contains o = true) : o ≠ '=' ∧ o ≠ '@' := by
  constructor <;> (intro h; subst h; revert ho; decide)

theorem not_reserved_of_lit {s : Str} (h : (parseLit s).isSome) : isReserved s = false := by
  cases hr : isReserved s with
  | false => rfl
  | true =>
    exfalso
    have hm : s ∈ reservedNames := by simpa [isReserved] using hr
    have htab : ∀ r ∈ reservedNames, parseLit r = none := by decide +kernel
    rw [htab s hm] at h
    cases h

theorem applyOp_litlit (tr : Tr α) (i1 i2 : Item α) (o : Char) (k : Nat) (a b : α)
    (ho : binOps.contains o = true)
    (h1 : itemVal tr i1 = some (.lit a)) (h2 : itemVal tr i2 = some (.lit b)) :
    applyOperation tr i1 i2 o k = match litOp o a b with | .ok w => (.ok (.num w), tr) | .error e => (.error e, tr) := by
  obtain ⟨f1, _, _⟩ := itemVal_lit h1
  obtain ⟨f2, _, _⟩ := itemVal_lit h2
  unfold applyOperation
  simp only [(binOps_ne ho).1, if_false, f1, f2, ho, if_true]
  cases litOp o a b <;> rfl

theorem applyOp_vecvec (tr : Tr α) (i1 i2 : Item α) (o : Char) (k : Nat) (a b : List α)
    (ho : binOps.contains o = true) (hn : tr.n ≠ 0) (hf : Fresh tr k)
    (h1 : itemVal tr i1 = some (.vec a)) (h2 : itemVal tr i2 = some (.vec b)) :
    applyOperation tr i1 i2 o k = tmpRes tr k (vvOp o a b) := by
  obtain ⟨s1, rfl, l1, g1⟩ := itemVal_vec h1
  obtain ⟨s2, rfl, l2, g2⟩ := itemVal_vec h2
  have hr := runVoid_new tr (tmpName k) (fun t => do let a ← getAF t s1; let b ← getAF t s2; vvOp o a b) hn (isReserved_tmpName k) (hf k (Nat.le_refl k))
  simp only [getAF_ext _ g1, getAF_ext _ g2, ok_bind] at hr
  unfold applyOperation
  simp only [(binOps_ne ho).1, (binOps_ne ho).2, if_false, isFloat, l1, ho, itemHasAF, hasAF_of_getAF g1, hasAF_of_getAF g2,
    opBin, hr, Bool.not_true, Bool.false_eq_true]
  cases vvOp o a b <;> rfl

theorem itemHasAF_lit {tr : Tr α} (hl : NoLitNames tr) {it : Item α} {b : α} (h : itemVal tr it = some (.lit b)) :
    itemHasAF tr it = false := by
  cases it with
  | tok s =>
    have hp := (itemVal_lit h).2.2 s rfl
    simp [itemHasAF, hasAF, hl s hp, not_reserved_of_lit hp]
  | num v => rfl
  | unit => rfl

/-- feature ∘ number (`s+`, `s-`, …) -/
theorem applyOp_veclit (tr : Tr α) (i1 i2 : Item α) (o : Char) (k : Nat) (a : List α) (b : α)
    (ho : binOps.contains o = true) (hn : tr.n ≠ 0) (hf : Fresh tr k) (hl : NoLitNames tr)
    (h1 : itemVal tr i1 = some (.vec a)) (h2 : itemVal tr i2 = some (.lit b)) :
    applyOperation tr i1 i2 o k = tmpRes tr k (vsOp o a b) := by
  obtain ⟨s1, rfl, l1, g1⟩ := itemVal_vec h1
  obtain ⟨_, t2, _⟩ := itemVal_lit h2
  have hA2 := itemHasAF_lit hl h2
  have hr := runVoid_new tr (tmpName k) (fun t => do let a ← getAF t s1; vsOp o a b) hn (isReserved_tmpName k) (hf k (Nat.le_refl k))
  simp only [getAF_ext _ g1, ok_bind] at hr
  unfold applyOperation
  cases i2 with
  | tok s2 =>
    have hA2' : hasAF tr s2 = false := by simpa [itemHasAF] using hA2
    simp only [(binOps_ne ho).1, (binOps_ne ho).2, if_false, isFloat, l1, ho, itemHasAF, hasAF_of_getAF g1, hA2',
      opScal, hr, Bool.not_true, Bool.false_eq_true, t2]
    cases vsOp o a b <;> rfl
  | num v =>
    simp only [(binOps_ne ho).1, (binOps_ne ho).2, if_false, isFloat, l1, ho, itemHasAF, hasAF_of_getAF g1,
      opScal, hr, Bool.not_true, Bool.false_eq_true, t2]
    cases vsOp o a b <;> rfl
  | unit => simp [itemVal] at h2

/-- number ∘ feature (`sr+`, `sr-`, …) -/
theorem applyOp_litvec (tr : Tr α) (i1 i2 : Item α) (o : Char) (k : Nat) (a : List α) (b : α)
    (ho : binOps.contains o = true) (hn : tr.n ≠ 0) (hf : Fresh tr k) (hl : NoLitNames tr)
    (h1 : itemVal tr i1 = some (.lit b)) (h2 : itemVal tr i2 = some (.vec a)) :
    applyOperation tr i1 i2 o k = tmpRes tr k (svOp o b a) := by
  obtain ⟨s2, rfl, l2, g2⟩ := itemVal_vec h2
  obtain ⟨f1, t1, _⟩ := itemVal_lit h1
  have hA1 := itemHasAF_lit hl h1
  have hr := runVoid_new tr (tmpName k) (fun t => do let a ← getAF t s2; svOp o b a) hn (isReserved_tmpName k) (hf k (Nat.le_refl k))
  simp only [getAF_ext _ g2, ok_bind] at hr
  unfold applyOperation
  cases i1 with
  | tok s1 =>
    have hA1' : hasAF tr s1 = false := by simpa [itemHasAF] using hA1
    have l1 : litOf (α := α) s1 = some b := by simpa [isFloat] using f1
    simp only [(binOps_ne ho).1, (binOps_ne ho).2, if_false, isFloat, l1, l2, ho, itemHasAF, hasAF_of_getAF g2, hA1',
      opScalRev, hr, Bool.not_true, Bool.false_eq_true, t1]
    cases svOp o b a <;> rfl
  | num v =>
    simp only [(binOps_ne ho).1, (binOps_ne ho).2, if_false, isFloat, l2, ho, itemHasAF, hasAF_of_getAF g2,
      opScalRev, hr, Bool.not_true, Bool.false_eq_true, t1]
    cases svOp o b a <;> rfl
  | unit => simp [itemVal] at h1


theorem applyOperation_call (tr : Tr α) {f : Str} (hfl : litOf (α := α) f = none) (i : Item α) (k : Nat) :
    applyOperation tr (.tok f) i '@' k = applyCall tr (.tok f) i k := by
  unfold applyOperation
  simp only [show ('@' : Char) ≠ '=' by decide, if_false, isFloat, hfl, if_true]

/-- what one operation of the machine does against a result `r` of the tree semantics: on a value it returns an item that
    stands for it on the new track (a number is folded: the track is untouched and the item is the number itself); on an error
    it raises that error -/
def Sim (tr tr' : Tr α) (run : Res α (Item α)) : Except Err (Val α) → Prop
  | .ok v => ∃ it, run = (.ok it, tr') ∧ itemVal tr' it = some v ∧ ∀ x, v = .lit x → tr' = tr ∧ it = .num x
  | .error err => run = (.error err, tr')

/-- function call `f@(…)` of a known function on a feature: the machine does what `nodeCall` says. On success the value
    is under the new temporary `#k`; on failure a void function other than `LOG` leaves `#k` (zeros) behind, `LOG` and the
    aggregates compute before creating anything -/
theorem applyOp_call (tr : Tr α) (f : Str) (i : Item α) (k : Nat) (a : List α)
    (hfl : litOf (α := α) f = none) (hkn : isVoidFn f = true ∨ isAggFn f = true) (hn : tr.n ≠ 0) (hf : Fresh tr k)
    (h : itemVal tr i = some (.vec a)) :
    ∃ tr', Step tr tr' k (k + 1) ∧ Sim tr tr' (applyOperation tr (.tok f) i '@' k) (nodeCall tr.n f (.vec a)) := by
  obtain ⟨s, rfl, ls, gs⟩ := itemVal_vec h
  have hfr := hf k (Nat.le_refl k)
  have hnone : Step tr tr k (k + 1) := (Step.refl tr k).mono (by omega)
  rw [applyOperation_call tr hfl]
  unfold applyCall
  simp only [nodeCall]
  by_cases hvf : isVoidFn f = true
  · simp only [hvf, if_true, opVoidFn_new tr f s (tmpName k) a gs hn (isReserved_tmpName k) hfr]
    cases voidFn f tr.n a with
    | ok c => exact ⟨_, step_one tr k c, _, rfl, itemVal_tmp_new tr k c hfr, fun x hx => by cases hx⟩
    | error e =>
      refine ⟨_, ?_, rfl⟩
      split
      · exact hnone
      · exact step_one tr k _
  · have haf : isAggFn f = true := hkn.resolve_left hvf
    simp only [hvf, if_false, Bool.false_eq_true, haf, if_true, opAgg, gs, ok_bind]
    cases aggFn f a with
    | ok w =>
      simp only [createAF_new tr _ (konst tr w) hn (isReserved_tmpName k) hfr]
      exact ⟨_, step_one tr k _, _, rfl, itemVal_tmp_new tr k _ hfr, fun x hx => by cases hx⟩
    | error e => exact ⟨tr, hnone, rfl⟩

theorem nodeCall_known {n : Nat} {f : Str} {a v : Val α} (h : nodeCall n f a = .ok v) :
    isVoidFn f = true ∨ isAggFn f = true := by
  revert h
  fun_cases nodeCall n f a
  · exact fun _ => Or.inl ‹_›
  · exact fun _ => Or.inr ‹_›
  all_goals nofun

theorem applyOp_node (tr : Tr α) (i1 i2 : Item α) (o : Char) (k : Nat) (a b : Val α)
    (ho : binOps.contains o = true) (hn : tr.n ≠ 0) (hf : Fresh tr k) (hl : NoLitNames tr)
    (h1 : itemVal tr i1 = some a) (h2 : itemVal tr i2 = some b) :
    ∃ tr', Step tr tr' k (k + 1) ∧ Sim tr tr' (applyOperation tr i1 i2 o k) (nodeBin o a b) := by
  have hfr := hf k (Nat.le_refl k)
  -- the three cases with a feature operand: a void operator writing to the temporary `#k`
  have vec : ∀ (r : Except Err (List α)), applyOperation tr i1 i2 o k = tmpRes tr k r →
      ∃ tr', Step tr tr' k (k + 1) ∧ Sim tr tr' (applyOperation tr i1 i2 o k) (r.map .vec) := by
    intro r hr
    rw [hr]
    cases r with
    | ok c => exact ⟨_, step_one tr k c, _, rfl, itemVal_tmp_new tr k c hfr, fun x hx => by cases hx⟩
    | error e => exact ⟨_, step_one tr k _, rfl⟩
  cases a with
  | lit x =>
    cases b with
    | lit y =>
      refine ⟨tr, (Step.refl tr k).mono (by omega), ?_⟩
      rw [applyOp_litlit tr i1 i2 o k x y ho h1 h2]
      simp only [nodeBin]
      cases litOp o x y with
      | ok w => exact ⟨_, rfl, rfl, fun x hx => by cases hx; exact ⟨rfl, rfl⟩⟩
      | error e => rfl
    | vec y => exact vec _ (applyOp_litvec tr i1 i2 o k y x ho hn hf hl h1 h2)
  | vec x =>
    cases b with
    | lit y => exact vec _ (applyOp_veclit tr i1 i2 o k x y ho hn hf hl h1 h2)
    | vec y => exact vec _ (applyOp_vecvec tr i1 i2 o k x y ho hn hf h1 h2)

theorem nodeBin_lit {o : Char} {a b : Val α} {x : α} (h : nodeBin o a b = .ok (.lit x)) :
    ∃ xa xb, a = .lit xa ∧ b = .lit xb := by
  cases a <;> cases b <;> first | exact ⟨_, _, rfl, rfl⟩ | (obtain ⟨c, _, hc⟩ := map_ok h; cases hc)

theorem nodeCall_not_lit {n : Nat} {f : Str} {a : Val α} {x : α} : nodeCall n f a ≠ .ok (.lit x) := by
  fun_cases nodeCall n f a
  · intro hv; obtain ⟨_, _, hcc⟩ := map_ok hv; cases hcc
  · intro hv; obtain ⟨_, _, hcc⟩ := map_ok hv; cases hcc
  all_goals nofun

/-- number of operations (= of machine steps that bump the temporaries' counter) -/
def nops : Ex → Nat
  | .num _ => 0
  | .var _ => 0
  | .bin _ l r => nops l + nops r + 1
  | .call _ e => nops e + 1

/-- trees of the supported grammar: numbers are decimal literals, names and function names are not
    (and none of them is a one-character operator), operators are `+ - * / ^ < >` -/
def WFx : Ex → Prop
  | .num s => (parseLit s).isSome ∧ isOperatorTok s = none
  | .var s => parseLit s = none ∧ isOperatorTok s = none
  | .bin o l r => binOps.contains o = true ∧ WFx l ∧ WFx r
  | .call f e => parseLit f = none ∧ isOperatorTok f = none ∧ WFx e

theorem bind_ok {β γ : Type} {x : Except Err β} {f : β → Except Err γ} {v : γ} (h : (x >>= f) = .ok v) :
    ∃ a, x = .ok a ∧ f a = .ok v := by
  cases x with
  | error e => simp [bind, Except.bind] at h
  | ok a => exact ⟨a, rfl, h⟩

def Bound (tr : Tr α) : Ex → Prop
  | .num _ => True
  | .var s => ∃ c, getAF tr s = .ok c
  | .bin _ l r => Bound tr l ∧ Bound tr r
  | .call _ e => Bound tr e

def isNumLeaf : Ex → Bool
  | .num _ => true
  | _ => false

/-- every call node applies a function the machine knows (one of the void functions `I D D2 ABS SQRT LOG
    DIODE SIGN EXP COS SIN TAN` or one of the aggregates `SUM AVG … ARGMAX`) to something that is not a
    bare number token (`SQRT{2}` is excluded, `SQRT{1+1}` is not) -/
def CallsOK : Ex → Prop
  | .num _ => True
  | .var _ => True
  | .bin _ l r => CallsOK l ∧ CallsOK r
  | .call f e => (isVoidFn f = true ∨ isAggFn f = true) ∧ isNumLeaf e = false ∧ CallsOK e

theorem Bound.ext {tr : Tr α} (ad : List (Str × List α)) {e : Ex} (h : Bound tr e) : Bound (ext tr ad) e := by
  induction e with
  | num s => trivial
  | var s => obtain ⟨c, hc⟩ := h; exact ⟨c, getAF_ext ad hc⟩
  | bin o l r ihl ihr => exact ⟨ihl h.1, ihr h.2⟩
  | call f e ih => exact ih h

theorem denoteM_ext_eq {tr : Tr α} (ad : List (Str × List α)) (e : Ex) (hb : Bound tr e) :
    denoteM (ext tr ad) e = denoteM tr e := by
  induction e with
  | num s => simp only [denoteM]
  | var s =>
    obtain ⟨c, hc⟩ := hb
    simp only [denoteM, getAF_ext ad hc, hc]
  | bin o l r ihl ihr =>
    simp only [denoteM, ihl hb.1, ihr hb.2]
  | call f e ih =>
    simp only [denoteM, ih hb, ext_n]

theorem Bound.of_ok {tr : Tr α} {e : Ex} : ∀ {v : Val α}, denoteM tr e = .ok v → Bound tr e := by
  induction e with
  | num s => intro _ _; trivial
  | var s => intro v h; obtain ⟨c, hc, _⟩ := map_ok h; exact ⟨c, hc⟩
  | bin o l r ihl ihr =>
    intro v h
    obtain ⟨a, ha, h⟩ := bind_ok h
    obtain ⟨b, hb, _⟩ := bind_ok h
    exact ⟨ihl ha, ihr hb⟩
  | call f e ih =>
    intro v h
    obtain ⟨a, ha, _⟩ := bind_ok h
    exact ih ha

theorem applyOp_call_num (tr : Tr α) (f : Str) (x : α) (k : Nat)
    (hfl : litOf (α := α) f = none) (hkn : isVoidFn f = true ∨ isAggFn f = true) :
    applyOperation tr (.tok f) (.num x) '@' k = (.error "err:type", tr) := by
  rw [applyOperation_call tr hfl]
  unfold applyCall
  by_cases hvf : isVoidFn f = true
  · simp only [hvf, if_true]
  · have haf : isAggFn f = true := by
      rcases hkn with h | h
      · exact absurd h hvf
      · exact h
    simp only [hvf, if_false, Bool.false_eq_true, haf, if_true]

theorem isOperatorTok_bin {o : Char} (ho : binOps.contains o = true) : isOperatorTok [o] = some o := by
  simp only [binOps, List.contains_cons, List.contains_nil, Bool.or_false, Bool.or_eq_true, beq_iff_eq] at ho
  rcases ho with h | h | h | h | h | h | h <;> (subst h; rfl)

theorem evalRPN_tok (tr : Tr α) {e : Str} (h : isOperatorTok e = none) (rest : List Str) (st : List (Item α)) (k : Nat) :
    evalRPN tr (e :: rest) st k = evalRPN tr rest (.tok e :: st) k := by
  simp only [evalRPN, h]

theorem evalRPN_op (tr : Tr α) {o : Char} (ho : isOperatorTok [o] = some o) (rest : List Str) (i1 i2 : Item α)
    (st : List (Item α)) (k : Nat) :
    evalRPN tr ([o] :: rest) (i2 :: i1 :: st) k =
      match applyOperation tr i1 i2 o k with
      | (.ok r, tr1) => evalRPN tr1 rest (r :: st) (k + 1)
      | (.error err, tr1) => (.error err, tr1) := by
  simp only [evalRPN, ho]
  rcases applyOperation tr i1 i2 o k with ⟨_ | _, _⟩ <;> rfl

/-- The machine on `post e ++ rest` against a result of the tree semantics. On a value it goes on with one more item that
    stands for it (a number: the track is untouched and, unless `e` is a bare token — `leaf` —, the item is the folded number);
    on an error it stops with that error, provided `C` (every call applies a known function, every variable is bound:
    otherwise the machine fails in its own way). -/
def SimT (tr tr' : Tr α) (st : List (Item α)) (rest : List Str) (k' : Nat) (leaf : Bool) (C : Prop)
    (run : Res α (List (Item α))) : Except Err (Val α) → Prop
  | .ok v => ∃ it, run = evalRPN tr' rest (it :: st) k' ∧ itemVal tr' it = some v ∧
      ∀ x, v = .lit x → tr' = tr ∧ (leaf = false → it = .num x)
  | .error err => C → run = (.error err, tr')

/-- the simulation at one tree: stated for any stack `st` and continuation `rest`, since the operands run in the middle of a
    longer program -/
def SimsAt (α : Type) [Scalar α] (e : Ex) : Prop :=
  ∀ (tr : Tr α) (st : List (Item α)) (k : Nat) (rest : List Str), WFx e → tr.n ≠ 0 → Fresh tr k → NoLitNames tr →
    ∃ tr', Step tr tr' k (k + nops e) ∧
      SimT tr tr' st rest (k + nops e) (isNumLeaf e) (CallsOK e ∧ Bound tr e) (evalRPN tr (post e ++ rest) st k) (denoteM tr e)

/-- `tr0` is the track the tree started from: when the node's value is a number nothing has been touched since. -/
theorem SimT.of_sim {tr0 tr tr' : Tr α} {i1 i2 : Item α} {o : Char} {k k' : Nat} {st : List (Item α)} {rest : List Str}
    {run : Res α (List (Item α))} {r : Except Err (Val α)} (C : Prop)
    (hrun : run = evalRPN tr ([o] :: rest) (i2 :: i1 :: st) k) (ho : isOperatorTok [o] = some o) (hk : k' = k + 1)
    (h0 : ∀ x, r = .ok (.lit x) → tr = tr0) (h : Sim tr tr' (applyOperation tr i1 i2 o k) r) :
    SimT tr0 tr' st rest k' false C run r := by
  subst hk hrun
  cases r with
  | error err =>
    have h' : applyOperation _ _ _ _ _ = _ := h
    intro _; rw [evalRPN_op _ ho, h']
  | ok v =>
    obtain ⟨it, e, hv, lit⟩ := h
    exact ⟨it, by rw [evalRPN_op _ ho, e], hv, fun x hx => ⟨(lit x hx).1.trans (h0 x (hx ▸ rfl)), fun _ => (lit x hx).2⟩⟩

theorem simsAt_num (s : Str) : SimsAt α (.num s) := by
  intro tr st k rest hw hn hf hl
  obtain ⟨hp, hop⟩ := hw
  refine ⟨tr, Step.refl tr k, ?_⟩
  obtain ⟨x, hx⟩ : ∃ x, litOf (α := α) s = some x := by
    cases hps : parseLit s with
    | none => simp [hps] at hp
    | some p => exact ⟨litVal p, by simp [litOf, hps]⟩
  simp only [denoteM, hx]
  exact ⟨.tok s, by simp [post, nops, evalRPN_tok tr hop], by simp [itemVal, hx], fun y hy => ⟨rfl, by simp [isNumLeaf]⟩⟩

theorem simsAt_var (s : Str) : SimsAt α (.var s) := by
  intro tr st k rest hw hn hf hl
  obtain ⟨hp, hop⟩ := hw
  refine ⟨tr, Step.refl tr k, ?_⟩
  simp only [denoteM]
  cases hg : getAF tr s with
  | error err => intro hc; obtain ⟨c, hc⟩ := hc.2; rw [hc] at hg; cases hg
  | ok c => exact ⟨.tok s, by simp [post, nops, evalRPN_tok tr hop], by simp [itemVal, litOf, hp, hg], fun y hy => by cases hy⟩

theorem simsAt_bin (o : Char) {l r : Ex} (ihl : SimsAt α l) (ihr : SimsAt α r) : SimsAt α (.bin o l r) := by
  intro tr st k rest hw hn hf hl
  obtain ⟨ho, hwl, hwr⟩ := hw
  obtain ⟨tr1, s1, h1⟩ := ihl tr st k (post r ++ [o] :: rest) hwl hn hf hl
  rw [show post (.bin o l r) ++ rest = post l ++ (post r ++ [o] :: rest) by simp [post]]
  simp only [denoteM]
  cases ha : denoteM tr l with
  | error err =>
    rw [ha] at h1
    exact ⟨tr1, s1.mono (by simp only [nops]; omega), fun hc => h1 ⟨hc.1.1, hc.2.1⟩⟩
  | ok a =>
    rw [ha] at h1
    obtain ⟨it1, e1, v1, lit1⟩ := h1
    obtain ⟨ad1, rfl, p1⟩ := id s1
    have hf1 := hf.step s1 (by omega)
    have hl1 := hl.step s1
    obtain ⟨tr2, s2, h2⟩ := ihr (ext tr ad1) (it1 :: st) (k + nops l) ([o] :: rest) hwr hn hf1 hl1
    have s12 := s1.trans s2 (by omega) (by omega)
    cases hb : denoteM tr r with
    | error err =>
      refine ⟨tr2, s12.mono (by simp only [nops]; omega), fun hc => ?_⟩
      rw [denoteM_ext_eq ad1 r hc.2.2, hb] at h2
      rw [e1]; exact h2 ⟨hc.1.2, hc.2.2.ext ad1⟩
    | ok b =>
      rw [denoteM_ext_eq ad1 r (Bound.of_ok hb), hb] at h2
      obtain ⟨it2, e2, v2, lit2⟩ := h2
      obtain ⟨ad2, rfl, p2⟩ := id s2
      have hf2 := hf1.step s2 (by omega)
      have hl2 := hl1.step s2
      obtain ⟨tr3, s3, h3⟩ := applyOp_node (ext (ext tr ad1) ad2) it1 it2 o (k + nops l + nops r) a b ho hn hf2 hl2
        (itemVal_ext ad2 v1) v2
      have s123 : Step tr tr3 k (k + nops (.bin o l r)) := by
        have := s12.trans s3 (by omega) (by omega)
        simpa only [nops, Nat.add_assoc] using this
      refine ⟨tr3, s123, SimT.of_sim _ (e1.trans e2) (isOperatorTok_bin ho) (by simp only [nops, Nat.add_assoc])
        (fun x hx => ?_) h3⟩
      -- a number comes from two numbers: neither operand touched the track
      obtain ⟨xa, xb, rfl, rfl⟩ := nodeBin_lit hx
      rw [(lit2 xb rfl).1, (lit1 xa rfl).1]

theorem simsAt_call (f : Str) {e : Ex} (ih : SimsAt α e) : SimsAt α (.call f e) := by
  intro tr st k rest hw hn hf hl
  obtain ⟨hpf, hopf, hwe⟩ := hw
  have hfl : litOf (α := α) f = none := by simp [litOf, hpf]
  obtain ⟨tr1, s1, h1⟩ := ih tr (.tok f :: st) k (['@'] :: rest) hwe hn hf hl
  rw [show post (.call f e) ++ rest = f :: (post e ++ ['@'] :: rest) by simp [post]]
  rw [evalRPN_tok tr hopf]
  simp only [denoteM]
  cases ha : denoteM tr e with
  | error err =>
    rw [ha] at h1
    exact ⟨tr1, s1.mono (by simp only [nops]; omega), fun hc => h1 ⟨hc.1.2.2, hc.2⟩⟩
  | ok a =>
    rw [ha] at h1
    obtain ⟨it1, e1, v1, lit1⟩ := h1
    cases a with
    | lit x =>
      obtain ⟨rfl, hit⟩ := lit1 x rfl
      refine ⟨tr1, (Step.refl tr1 k).mono (by omega), fun hc => ?_⟩
      obtain rfl := hit hc.1.2.1
      rw [e1, evalRPN_op _ rfl, applyOp_call_num tr1 f x (k + nops e) hfl hc.1.1]
    | vec x =>
      obtain ⟨ad1, rfl, p1⟩ := id s1
      have hf1 := hf.step s1 (by omega)
      show ∃ tr', _ ∧ SimT _ _ _ _ _ _ _ _ (nodeCall tr.n f (.vec x))
      by_cases hkn : isVoidFn f = true ∨ isAggFn f = true
      · obtain ⟨tr2, s2, h2⟩ := applyOp_call (ext tr ad1) f it1 (k + nops e) x hfl hkn hn hf1 v1
        rw [ext_n] at h2
        have s12 : Step tr tr2 k (k + nops (.call f e)) := by
          have := s1.trans s2 (by omega) (by omega)
          simpa only [nops, Nat.add_assoc] using this
        exact ⟨tr2, s12, SimT.of_sim _ e1 rfl (by simp only [nops, Nat.add_assoc]) (fun y hy => absurd hy nodeCall_not_lit) h2⟩
      · refine ⟨ext tr ad1, s1.mono (by simp only [nops]; omega), ?_⟩
        cases hv : nodeCall tr.n f (.vec x) with
        | error err => exact fun hc => absurd hc.1.1 hkn
        | ok v => exact absurd (nodeCall_known hv) hkn

theorem evalRPN_sim (e : Ex) : SimsAt α e := by
  induction e with
  | num s => exact simsAt_num s
  | var s => exact simsAt_var s
  | bin o l r ihl ihr => exact simsAt_bin o ihl ihr
  | call f e ih => exact simsAt_call f ih

theorem evalRPN_post (e : Ex) : ∀ (tr : Tr α) (st : List (Item α)) (k : Nat) (rest : List Str) (v : Val α),
    WFx e → tr.n ≠ 0 → Fresh tr k → NoLitNames tr → denoteM tr e = .ok v →
    ∃ tr' it, evalRPN tr (post e ++ rest) st k = evalRPN tr' rest (it :: st) (k + nops e)
      ∧ Step tr tr' k (k + nops e) ∧ itemVal tr' it = some v := by
  intro tr st k rest v hw hn hf hl hd
  obtain ⟨tr', s, h⟩ := evalRPN_sim e tr st k rest hw hn hf hl
  rw [hd] at h
  obtain ⟨it, e1, v1, _⟩ := h
  exact ⟨tr', it, e1, s, v1⟩


def NoTemps (tr : Tr α) : Prop := ∀ p ∈ tr.feats, isTemp p.1 = false

section
omit [Scalar α]

theorem lookup_temp_none {tr : Tr α} (h : NoTemps tr) {s : Str} (hs : isTemp s = true) : lookup s tr.feats = none := by
  apply lookup_none_of_keys
  intro p hp heq
  have := h p hp
  rw [heq, hs] at this
  cases this

theorem NoTemps.fresh {tr : Tr α} (h : NoTemps tr) (k : Nat) : Fresh tr k :=
  fun j _ => lookup_temp_none h (isTemp_tmpName j)

theorem purge_ext {tr : Tr α} (hnt : NoTemps tr) (ad extra : List (Str × List α))
    (had : ∀ p ∈ ad, isTemp p.1 = true) (hex : ∀ p ∈ extra, isTemp p.1 = false) :
    purge (ext (ext tr ad) extra) = ext tr extra := by
  simp only [purge, ext, List.filter_append, filter_nontemp_self hnt, filter_temp_nil had, filter_nontemp_self hex,
    List.append_nil]

theorem purge_ext_temps {tr : Tr α} (hnt : NoTemps tr) {ad : List (Str × List α)} (had : ∀ p ∈ ad, ∃ j, p.1 = tmpName j) :
    purge (ext tr ad) = tr := by
  have := purge_ext hnt ad [] (temp_of_added had) (by simp)
  simpa using this

end

theorem applyOperation_assign (tr : Tr α) (op1 op2 : Item α) (k : Nat) :
    applyOperation tr op1 op2 '=' k =
      ((assign tr op1 op2).1.map (fun _ => Item.unit), (assign tr op1 op2).2) := by
  unfold applyOperation
  simp only [if_true]
  rcases assign tr op1 op2 with ⟨r, t⟩
  cases r <;> rfl

theorem evalRPN_before_assign (tr : Tr α) (lhs : Str) (e : Ex) (v : Val α)
    (hop : isOperatorTok lhs = none) (hw : WFx e) (hn : tr.n ≠ 0) (hnt : NoTemps tr) (hl : NoLitNames tr)
    (hd : denoteM tr e = .ok v) :
    ∃ ad it, (∀ p ∈ ad, ∃ j, p.1 = tmpName j) ∧ itemVal (ext tr ad) it = some v ∧
      evalRPN tr (lhs :: (post e ++ [['=']])) [] 0 =
        ((assign (ext tr ad) (.tok lhs) it).1.map (fun _ => [Item.unit]), (assign (ext tr ad) (.tok lhs) it).2) := by
  obtain ⟨tr1, it, e1, s1, v1⟩ := evalRPN_post e tr [.tok lhs] 0 [['=']] v hw hn (hnt.fresh 0) hl hd
  obtain ⟨ad, rfl, had⟩ := s1.added
  refine ⟨ad, it, had, v1, ?_⟩
  rw [evalRPN_tok tr hop, e1, evalRPN_op _ (o := '=') rfl, applyOperation_assign]
  rcases assign (ext tr ad) (.tok lhs) it with ⟨r, t⟩
  cases r <;> rfl

theorem operateTokens_of_assign {tr T : Tr α} {lhs : Str} {e : Ex} {ad : List (Str × List α)} {it : Item α}
    (he : evalRPN tr (lhs :: (post e ++ [['=']])) [] 0 =
      ((assign (ext tr ad) (.tok lhs) it).1.map (fun _ => [Item.unit]), (assign (ext tr ad) (.tok lhs) it).2))
    (ha : assign (ext tr ad) (.tok lhs) it = (.ok (), T)) :
    operateTokens tr (lhs :: (post e ++ [['=']])) true = (.ok none, purge T) := by
  simp only [operateTokens, evalTokens, he, ha, Except.map, if_true]

theorem assign_new (tr : Tr α) (lhs : Str) (it : Item α) (v : Val α) (hn : tr.n ≠ 0) (hl : NoLitNames tr)
    (hr : isReserved lhs = false) (hlk : lookup lhs tr.feats = none) (hv : itemVal tr it = some v) :
    assign tr (.tok lhs) it = (.ok (), ext tr [(lhs, v.toVec tr.n)]) := by
  have hh : hasAF tr lhs = false := by simp [hasAF, hlk, hr]
  obtain ⟨hx, hy, hz⟩ := not_xyz_of_not_reserved hr
  cases v with
  | lit x =>
    obtain ⟨_, tf, _⟩ := itemVal_lit hv
    have hA := itemHasAF_lit hl hv
    simp [assign, hA, tf, hh, createAF, hr, hn, hlk, konst, ext, Val.toVec, hx, hy, hz]
  | vec c =>
    obtain ⟨s, rfl, _, g⟩ := itemVal_vec hv
    simp [assign, itemHasAF, hasAF_of_getAF g, hh, g, createAF, hr, hn, hlk, ext, Val.toVec]


theorem assign_replace (T : Tr α) (lhs : Str) (it : Item α) (c : List α) (hn : T.n ≠ 0) (hr : isReserved lhs = false)
    (hlk : (lookup lhs T.feats).isSome) (hone : lookup lhs (eraseKey lhs T.feats) = none)
    (hv : itemVal T it = some (.vec c)) :
    assign T (.tok lhs) it = (.ok (), { T with feats := eraseKey lhs T.feats ++ [(lhs, c)] }) := by
  obtain ⟨s, rfl, _, g⟩ := itemVal_vec hv
  obtain ⟨hx, hy, hz⟩ := not_xyz_of_not_reserved hr
  have htt : lhs ≠ ['t'] := by intro h; subst h; revert hr; decide
  simp only [assign, itemHasAF, hasAF_of_getAF g, if_true, g]
  simp only [hasAF, hlk, Bool.true_or, if_true, Bool.or_eq_true, decide_eq_true_eq, hx, hy, hz, htt, or_self,
    if_false, removeAF, Bool.not_true, Bool.false_eq_true, createAF, hr, hn, hone, Option.isSome_none]

theorem assign_overwrite (T : Tr α) (lhs : Str) (it : Item α) (x : α) (hn : T.n ≠ 0) (hl : NoLitNames T)
    (hr : isReserved lhs = false) (hlk : (lookup lhs T.feats).isSome) (hv : itemVal T it = some (.lit x)) :
    assign T (.tok lhs) it = (.ok (), { T with feats := setKey lhs (List.replicate T.n x) T.feats }) := by
  obtain ⟨_, tf, _⟩ := itemVal_lit hv
  have hA := itemHasAF_lit hl hv
  obtain ⟨hx, hy, hz⟩ := not_xyz_of_not_reserved hr
  simp only [assign, hA, Bool.false_eq_true, if_false, tf, hx, hy, hz, decide_false, Bool.or_self]
  simp only [hasAF, hlk, Bool.true_or, if_true, updateAF, Bool.not_true, Bool.false_eq_true, if_false, hn, konst]

/-- `x = #k`: a temporary that a coordinate was set from is removed at once (`setXFromAnalyticalFeature` … `removeAnalyticalFeature`) -/
def dropTemp (T : Tr α) : Item α → Tr α
  | .tok s => if isTemp s then { T with feats := eraseKey s T.feats } else T
  | _ => T

theorem assign_coord (T : Tr α) (lhs : Str) (it : Item α) (v : Val α) (hc : lhs = ['x'] ∨ lhs = ['y'] ∨ lhs = ['z'])
    (hn : T.n ≠ 0) (hl : NoLitNames T) (hv : itemVal T it = some v) :
    assign T (.tok lhs) it = (.ok (), setCoord (dropTemp T it) lhs (v.toVec T.n)) := by
  have hcb : (decide (lhs = ['x']) || decide (lhs = ['y']) || decide (lhs = ['z'])) = true := by
    rcases hc with rfl | rfl | rfl <;> rfl
  have hhl : hasAF T lhs = true := by
    have : isReserved lhs = true := by rcases hc with rfl | rfl | rfl <;> rfl
    simp [hasAF, this]
  cases v with
  | lit x =>
    obtain ⟨_, tf, hp⟩ := itemVal_lit hv
    have hA := itemHasAF_lit hl hv
    have hd : dropTemp T it = T := by
      cases it with
      | tok s =>
        have : isTemp s = false := by
          cases ht : isTemp s with
          | false => rfl
          | true => have := hp s rfl; rw [parseLit_of_isTemp ht] at this; cases this
        simp only [dropTemp, this, Bool.false_eq_true, if_false]
      | _ => rfl
    simp only [assign, hA, Bool.false_eq_true, if_false, hcb, if_true, hn, tf, konst, hd, Val.toVec]
  | vec c =>
    obtain ⟨s, rfl, _, g⟩ := itemVal_vec hv
    by_cases hts : isTemp s = true
    · have hlks : lookup s T.feats = some c := (getAF_feat (isReserved_of_isTemp hts)).mp g
      have hrm : removeAF (setCoord T lhs c) s = .ok (setCoord { T with feats := eraseKey s T.feats } lhs c) := by
        simp only [removeAF, hasAF, setCoord_feats, hlks, Option.isSome_some, Bool.true_or, Bool.not_true, Bool.false_eq_true,
          if_false, if_true]
        exact congrArg _ (setCoord_with_feats T lhs c _)
      simp only [assign, itemHasAF, hasAF_of_getAF g, hhl, if_true, g, hcb, hts, hrm, dropTemp, Val.toVec]
    · simp only [assign, itemHasAF, hasAF_of_getAF g, hhl, if_true, g, hcb, hts, if_false, Bool.false_eq_true, dropTemp, Val.toVec]

omit [Scalar α] in
theorem purge_dropTemp (T : Tr α) (it : Item α) : purge (dropTemp T it) = purge T := by
  cases it with
  | tok s =>
    by_cases hs : isTemp s = true
    · simp [dropTemp, hs, purge, filter_eraseKey_temp hs]
    · simp [dropTemp, hs]
  | _ => rfl

/-- **no `=`**: `operate` on `#output = e` returns the tree semantics of `e`, one value per
    observation, and leaves the track exactly as it was. -/
theorem operateTokens_value (tr : Tr α) (e : Ex) (v : Val α)
    (hw : WFx e) (hn : tr.n ≠ 0) (hnt : NoTemps tr) (hl : NoLitNames tr) (hd : denoteM tr e = .ok v) :
    operateTokens tr (outputName :: (post e ++ [['=']])) false = (.ok (some (v.toVec tr.n)), tr) := by
  obtain ⟨ad, it, had, hv, he⟩ := evalRPN_before_assign tr outputName e v rfl hw hn hnt hl hd
  have hlk : lookup outputName (ext tr ad).feats = none :=
    lookup_ext_none (lookup_temp_none hnt rfl) (fun p hp heq => by
      obtain ⟨j, hj⟩ := had p hp
      exact tmpName_ne_output j (hj.symm.trans heq))
  have ha := assign_new (ext tr ad) outputName it v hn (hl.ext had) rfl hlk hv
  have hg := getAF_new (ext tr ad) outputName (v.toVec tr.n) rfl hlk
  have hrm := removeAF_output_new (ext tr ad) (v.toVec tr.n) hlk
  simp only [operateTokens, evalTokens, he, ha, ext_n, Except.map, hg, hrm, Bool.false_eq_true, if_false,
    purge_ext_temps hnt had]

theorem operateTokens_assign_new (tr : Tr α) (lhs : Str) (e : Ex) (v : Val α)
    (hop : isOperatorTok lhs = none) (hr : isReserved lhs = false) (ht : isTemp lhs = false)
    (hlk : lookup lhs tr.feats = none)
    (hw : WFx e) (hn : tr.n ≠ 0) (hnt : NoTemps tr) (hl : NoLitNames tr) (hd : denoteM tr e = .ok v) :
    operateTokens tr (lhs :: (post e ++ [['=']])) true = (.ok none, ext tr [(lhs, v.toVec tr.n)]) := by
  obtain ⟨ad, it, had, hv, he⟩ := evalRPN_before_assign tr lhs e v hop hw hn hnt hl hd
  have ha := assign_new (ext tr ad) lhs it v hn (hl.ext had) hr (lookup_ext_none hlk (added_ne had ht)) hv
  rw [operateTokens_of_assign he ha]
  exact congrArg _ (purge_ext hnt ad [(lhs, v.toVec tr.n)] (temp_of_added had) (by simp [ht]))


/-! ### operator objects applied directly (`Track.operate(Operator.X, …)`) -/

theorem runVoid_new_fst (tr : Tr α) (out : Str) (compute : Tr α → Except Err (List α))
    (hn : tr.n ≠ 0) (hr : isReserved out = false) (hlk : lookup out tr.feats = none) :
    (runVoid tr out compute).1 = compute (ext tr [(out, konst tr zero)]) := by
  rw [runVoid_new tr out compute hn hr hlk]
  cases compute (ext tr [(out, konst tr zero)]) <;> rfl

theorem opBin_denote (tr : Tr α) (o : Char) (a b out : Str) (ca cb : List α)
    (ga : getAF tr a = .ok ca) (gb : getAF tr b = .ok cb)
    (hn : tr.n ≠ 0) (hr : isReserved out = false) (hlk : lookup out tr.feats = none) :
    (opBin tr o a b out).1.map Val.vec = denoteM tr (.bin o (.var a) (.var b)) := by
  rw [opBin, runVoid_new_fst tr out _ hn hr hlk]
  simp only [getAF_ext _ ga, getAF_ext _ gb, denoteM, ga, gb, Except.map, ok_bind, nodeBin]

theorem opScal_denote (tr : Tr α) (o : Char) (a lit out : Str) (ca : List α) (s : α)
    (ga : getAF tr a = .ok ca) (hs : litOf lit = some s)
    (hn : tr.n ≠ 0) (hr : isReserved out = false) (hlk : lookup out tr.feats = none) :
    (opScal tr o a s out).1.map Val.vec = denoteM tr (.bin o (.var a) (.num lit)) := by
  simp only [denoteM, ga, hs, Except.map, ok_bind, nodeBin]
  rw [opScal, runVoid_new_fst tr out _ hn hr hlk]
  simp only [getAF_ext _ ga, ok_bind]

theorem opScalRev_denote (tr : Tr α) (o : Char) (a lit out : Str) (ca : List α) (s : α)
    (ga : getAF tr a = .ok ca) (hs : litOf lit = some s)
    (hn : tr.n ≠ 0) (hr : isReserved out = false) (hlk : lookup out tr.feats = none) :
    (opScalRev tr o a s out).1.map Val.vec = denoteM tr (.bin o (.num lit) (.var a)) := by
  simp only [denoteM, ga, hs, Except.map, ok_bind, nodeBin]
  rw [opScalRev, runVoid_new_fst tr out _ hn hr hlk]
  simp only [getAF_ext _ ga, ok_bind]

theorem opVoidFn_denote (tr : Tr α) (f a out : Str) (ca : List α)
    (ga : getAF tr a = .ok ca) (hf : isVoidFn f = true)
    (hn : tr.n ≠ 0) (hr : isReserved out = false) (hlk : lookup out tr.feats = none) :
    (opVoidFn tr f a out).1.map Val.vec = denoteM tr (.call f (.var a)) := by
  simp only [denoteM, ga, Except.map, ok_bind, nodeCall, hf, if_true]
  rw [opVoidFn_new tr f a out ca ga hn hr hlk]
  cases voidFn f tr.n ca <;> rfl

theorem opAgg_denote (tr : Tr α) (f a : Str) (ca : List α)
    (ga : getAF tr a = .ok ca) (hf : isVoidFn f = false) (hg : isAggFn f = true) :
    (opAgg tr f a).map (fun v => Val.vec (List.replicate tr.n v)) = denoteM tr (.call f (.var a)) := by
  simp only [denoteM, ga, Except.map, ok_bind, nodeCall, hf, hg, if_true, if_false, Bool.false_eq_true, opAgg]

end TV.Expr
