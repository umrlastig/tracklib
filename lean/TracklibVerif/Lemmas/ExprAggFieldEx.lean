import TracklibVerif.Lemmas.ExprAggField
import TracklibVerif.Lemmas.ExprExact
import Mathlib.Algebra.Order.Field.Rat
import Mathlib.Data.Rat.Floor
import Mathlib.Tactic.NormNum
import Mathlib.Tactic.FieldSimp
/-! `Option Rat` (`Lemmas/ExprExact.lean`) is a `FieldModel` over `ℚ`: the hypotheses of the closed forms of
`Lemmas/ExprAggField.lean` are those of exact arithmetic with a NaN element. And `pyInt`, the truncation in the index
arithmetic of `Median` (`(int)(N / 2 - 1)`, `(int)(N / 2)` with Python's true division; compared with the integer ranks `N/2 - 1`,
`N/2` of the model in `Props/C02Agg.lean`). -/
namespace TV.Expr
open Scalar

def exactQ_model : FieldModel (Option Rat) Rat where
  val := id
  nan_iff := fun _ => rfl
  val_add := by intro a b x y ha hb; simp only [id] at ha hb; subst ha hb; rfl
  val_sub := by intro a b x y ha hb; simp only [id] at ha hb; subst ha hb; rfl
  val_mul := by intro a b x y ha hb; simp only [id] at ha hb; subst ha hb; rfl
  val_div := by
    intro a b x y ha hb hy; simp only [id] at ha hb; subst ha hb
    simp [Scalar.div, hy]
  val_sq := by
    intro a x ha; simp only [id] at ha; subst ha
    refine ⟨some (x * x), ?_, rfl⟩
    have h2 : (Scalar.two : Option Rat) = some 2 := by simp [Scalar.two, Scalar.ofDec]
    rw [h2]
    have hc : ((2 : Rat).den = 1 ∧ 0 ≤ (2 : Rat).num) := by decide
    simp only [Scalar.pow, hc, and_self, if_true]
    congr 2
    have : (2 : Rat).num.toNat = 2 := by decide
    rw [this, pow_two]
  val_abs := by
    intro a x ha; simp only [id] at ha; subst ha
    simp only [Scalar.abs, Option.map, id]
    congr 1
    by_cases h : x < 0
    · simp [h, abs_of_neg h]
    · simp [h, abs_of_nonneg (not_lt.mp h)]
  val_lt := by intro a b x y ha hb; simp only [id] at ha hb; subst ha hb; rfl
  val_ofNat := by intro n; simp [Scalar.ofNat, Scalar.ofDec]
  val_half := by
    simp only [Scalar.half, Scalar.ofDec, id]
    norm_num

example : nums exactQ_model [some 3, none, some (-1), some 4] = [3, -1, 4] := by rfl
example : sumL ([some 3, none, some (-1), some 4] : List (Option Rat)) = some 6 := by decide +kernel
example : IsOS ([3, -1, 4] : List Rat) 1 3 := by unfold IsOS; decide +kernel

/-- Python `int(q)`: truncation toward zero -/
def pyInt (q : Rat) : Int := if 0 ≤ q then ⌊q⌋ else ⌈q⌉

/-- *rounding* the quotients `N / 2 - 1`, `N / 2` instead (Python's `round`: half to even) does not give one central rank for an odd
`N`: for `N = 3`, `round(0.5) = 0` and `round(1.5) = 2` are the two outer ranks (what the seeded change C02-11 did) -/
example : ((3 : Rat) / 2 - 1 = 1 / 2) ∧ ((3 : Rat) / 2 = 3 / 2) ∧ 3 / 2 = 1 := by
  refine ⟨by norm_num, by norm_num, by decide⟩

end TV.Expr
