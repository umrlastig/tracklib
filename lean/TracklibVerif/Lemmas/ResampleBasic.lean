import TracklibVerif.Model.Resample
/-! Facts about the resampling model that need no law of arithmetic or order (core Lean only): lengths and entries of the tables, one turn of each scan,
where the bounded scan stops, how `__resampleTemporal` and the front end `Track.resample` reach the loop. Used by the proofs over
an ordered field (`Lemmas/Resample.lean`) and by the ties with the translated source. -/
namespace TV.Resample

theorem cumFrom_eq_scanl {α : Type} [Add α] (s : α) (l : List α) : cumFrom s l = l.scanl (· + ·) s := by
  induction l generalizing s with
  | nil => rfl
  | cons a l ih => rw [cumFrom, ih, List.scanl_cons]

theorem cumFrom_length {α : Type} [Add α] (s : α) (l : List α) : (cumFrom s l).length = l.length + 1 := by
  rw [cumFrom_eq_scanl, List.length_scanl]

theorem cumFrom_head {α : Type} [Add α] (s : α) (l : List α) : (cumFrom s l)[0]'(by rw [cumFrom_length]; omega) = s := by
  simp only [cumFrom_eq_scanl, List.getElem_scanl_zero]

theorem cumFrom_succ {α : Type} [Add α] (s : α) (l : List α) (i : Nat) (hi : i < l.length) :
    (cumFrom s l)[i + 1]'(by rw [cumFrom_length]; omega)
      = (cumFrom s l)[i]'(by rw [cumFrom_length]; omega) + l[i] := by
  simp only [cumFrom_eq_scanl, List.getElem_succ_scanl]

theorem legs2D_eq_zipWith {α : Type} [Add α] [Sub α] [Mul α] (sqrt : α → α) (P : List (Fix α)) :
    legs2D sqrt P = List.zipWith (fun a b => sqrt ((b.x - a.x) * (b.x - a.x) + (b.y - a.y) * (b.y - a.y))) P P.tail := by
  induction P with
  | nil => rfl
  | cons a l ih =>
    cases l with
    | nil => rfl
    | cons b l => rw [legs2D, ih]; rfl

theorem legs2D_length {α : Type} [Add α] [Sub α] [Mul α] (sqrt : α → α) (P : List (Fix α)) : (legs2D sqrt P).length = P.length - 1 := by
  rw [legs2D_eq_zipWith, List.length_zipWith, List.length_tail]; omega

/-- leg `i` joins fixes `i` and `i + 1`; height is ignored -/
theorem legs2D_getElem {α : Type} [Add α] [Sub α] [Mul α] (sqrt : α → α) (P : List (Fix α)) (i : Nat)
    (hi : i < (legs2D sqrt P).length) (hi' : i + 1 < P.length) :
    (legs2D sqrt P)[i]
      = sqrt ((P[i + 1].x - P[i].x) * (P[i + 1].x - P[i].x) + (P[i + 1].y - P[i].y) * (P[i + 1].y - P[i].y)) := by
  simp only [legs2D_eq_zipWith, List.getElem_zipWith, List.getElem_tail]

section
variable {α : Type} [LT α] [DecidableLT α]

theorem advance_step (V : List α) (v : α) (r : Nat) :
    advance V v r = match V[r]? with
      | none => none
      | some w => if w < v then advance V v (r + 1) else some r := by
  unfold advance
  by_cases hr : r < V.length
  · rw [List.drop_eq_getElem_cons hr, List.getElem?_eq_getElem hr, scan]
  · rw [List.drop_eq_nil_iff.mpr (by omega), List.getElem?_eq_none (by omega)]
    rfl

theorem advanceB_step (S : List α) (s : α) (r : Nat) (hr : r < S.length) :
    advanceB S s r = if r + 1 < S.length ∧ S[r] < s then advanceB S s (r + 1) else some r := by
  unfold advanceB
  rw [List.drop_eq_getElem_cons hr]
  by_cases h1 : r + 1 < S.length
  · rw [List.drop_eq_getElem_cons h1, scanB]
    by_cases hc : S[r] < s
    · rw [if_pos hc, if_pos ⟨h1, hc⟩]
    · rw [if_neg hc, if_neg fun h => hc h.2]
  · rw [List.drop_eq_nil_iff.mpr (by omega), if_neg fun h => h1 h.1]
    rfl

theorem scanB_of_scan (v : α) : ∀ (l : List α) (i r : Nat), scan v l i = some r → scanB v l i = some r
  | [], _, _, h => nomatch h
  | [w], i, r, h => by
    unfold scan at h
    split at h
    · exact nomatch h
    · exact h
  | w :: w' :: ws, i, r, h => by
    unfold scan at h
    unfold scanB
    split
    · rename_i hw; rw [if_pos hw] at h; exact scanB_of_scan v _ _ _ h
    · rename_i hw; rw [if_neg hw] at h; exact h

theorem scanB_bounds (v : α) (l : List α) (i r : Nat) (h : scanB v l i = some r) : i ≤ r ∧ r < i + l.length := by
  revert h
  fun_induction scanB v l i
  case case1 => nofun
  case case3 ih => intro h; have := ih h; simp only [List.length_cons] at this ⊢; omega
  all_goals rintro ⟨⟩; simp only [List.length_cons]; omega

theorem advanceB_bounds (S : List α) (v : α) (rid r : Nat) (h : advanceB S v rid = some r) :
    rid ≤ r ∧ r < S.length := by
  have := scanB_bounds v _ _ _ h
  rw [List.length_drop] at this
  omega

end

theorem head?_of_pos {β : Type} (l : List β) (hn : 0 < l.length) : l.head? = some l[0] := by
  rw [List.head?_eq_getElem?, List.getElem?_eq_getElem hn]

theorem getLast?_of_pos {β : Type} (l : List β) (hn : 0 < l.length) :
    l.getLast? = some (l[l.length - 1]'(Nat.sub_one_lt_of_lt hn)) := by
  rw [List.getLast?_eq_getElem?, List.getElem?_eq_getElem]

theorem isEmpty_of_pos {β : Type} (l : List β) (hn : 0 < l.length) : l.isEmpty = false := by
  cases l with
  | nil => exact absurd hn (Nat.lt_irrefl 0)
  | cons a l => rfl

theorem head?_times {α : Type} (P : List (Fix α)) (hn : 0 < P.length) : (P.map (·.t)).head? = some (P[0]).t := by
  rw [List.head?_map, head?_of_pos P hn]
  rfl

theorem getLast?_times {α : Type} (P : List (Fix α)) (hn : 0 < P.length) :
    (P.map (·.t)).getLast? = some (P[P.length - 1]'(Nat.sub_one_lt_of_lt hn)).t := by
  rw [List.getLast?_map, getLast?_of_pos P hn]
  rfl

section
variable {α : Type} [Add α] [Sub α] [Mul α] [Div α] [LT α] [LE α] [DecidableLT α] [DecidableLE α]
  [OfNat α 0]

theorem resampleTemporal_via (trunc : α → Int) (P : List (Fix α)) (hn : 0 < P.length) (step : Step α) (ref : List α)
    (h : prepareTimes trunc step (P[0]).t (P[P.length - 1]'(Nat.sub_one_lt_of_lt hn)).t = .ok ref) :
    resampleTemporal trunc P step = resampleTemporal trunc P (.instants ref) := by
  unfold resampleTemporal
  simp only [head?_times P hn, getLast?_times P hn, h]
  rfl

theorem resampleTemporal_instants_eq (trunc : α → Int) (P : List (Fix α)) (hn : 0 < P.length) (ref : List α) :
    resampleTemporal trunc P (.instants ref)
      = temporalLoop P (P.map (·.t)) (P[0]).t (P[P.length - 1]'(Nat.sub_one_lt_of_lt hn)).t ref 0 := by
  unfold resampleTemporal
  simp only [head?_times P hn, getLast?_times P hn, prepareTimes]

theorem resampleTemporal_track (trunc : α → Int) (P Q : List (Fix α)) :
    resampleTemporal trunc P (.track Q) = resampleTemporal trunc P (.instants (Q.map (·.t))) := rfl

theorem resampleTemporal_other (trunc : α → Int) (P : List (Fix α)) :
    resampleTemporal trunc P .other = resampleTemporal trunc P (.instants []) := rfl

variable [NatCast α]

theorem resample_temporal (sqrt : α → α) (trunc : α → Int) (g : α) (P : List (Fix α)) (feat : List String)
    (hn : 0 < P.length) (d : Step α) (npts : Option Nat) (factor : Nat) :
    resample sqrt trunc g P feat ⟨2, some d, npts, factor⟩
      = match resampleTemporal trunc P d with | .ok out => .ok (out, []) | .error e => .error e := by
  simp only [resample, interpResample, isEmpty_of_pos P hn, Bool.false_eq_true, if_false,
    show ((2 : Nat) = 1) = False from eq_false (by decide), if_true]
  cases resampleTemporal trunc P d <;> rfl

theorem resample_spatial (sqrt : α → α) (trunc : α → Int) (g : α) (P : List (Fix α)) (feat : List String)
    (hn : 0 < P.length) (ds : α) (npts : Option Nat) (factor : Nat) :
    resample sqrt trunc g P feat ⟨1, some (.number ds), npts, factor⟩
      = match resampleSpatial sqrt trunc P ds with | .ok out => .ok (out, []) | .error e => .error e := by
  simp only [resample, interpResample, isEmpty_of_pos P hn, Bool.false_eq_true, if_false, if_true]
  cases resampleSpatial sqrt trunc P ds <;> rfl

theorem resample_spatial_type (sqrt : α → α) (trunc : α → Int) (g : α) (P : List (Fix α)) (feat : List String)
    (hn : 0 < P.length) (d : Step α) (hd : ∀ ds, d ≠ .number ds) (npts : Option Nat) (factor : Nat) :
    resample sqrt trunc g P feat ⟨1, some d, npts, factor⟩ = .error .type := by
  cases d with
  | number ds => exact absurd rfl (hd ds)
  | _ => simp only [resample, interpResample, isEmpty_of_pos P hn, Bool.false_eq_true, if_false, if_true]

theorem resample_npts (sqrt : α → α) (trunc : α → Int) (g : α) (P : List (Fix α)) (feat : List String)
    (hn : 0 < P.length) (npts : Option Nat) (factor : Nat) (hnp : npts.getD (P.length * factor) ≠ 0) :
    resample sqrt trunc g P feat ⟨2, none, npts, factor⟩
      = resample sqrt trunc g P feat ⟨2, some (.number (g * ((P[P.length - 1]'(Nat.sub_one_lt_of_lt hn)).t - (P[0]).t)
          / ((npts.getD (P.length * factor) : Nat) : α))), npts, factor⟩ ∧
    resample sqrt trunc g P feat ⟨1, none, npts, factor⟩
      = resample sqrt trunc g P feat ⟨1, some (.number
          (g * total (legs3D sqrt P) / ((npts.getD (P.length * factor) : Nat) : α))), npts, factor⟩ := by
  have hne := isEmpty_of_pos P hn
  have h21 : ((2 : Nat) = 1) = False := eq_false (by decide)
  cases npts with
  | none =>
    simp only [Option.getD_none] at hnp ⊢
    constructor
    · simp only [resample, hne, head?_times P hn, getLast?_times P hn, h21, if_false, if_neg hnp]
    · simp only [resample, hne, if_true, if_neg hnp]
  | some n =>
    simp only [Option.getD_some] at hnp ⊢
    constructor
    · simp only [resample, hne, head?_times P hn, getLast?_times P hn, h21, if_false, if_neg hnp]
    · simp only [resample, hne, if_true, if_neg hnp]

end

end TV.Resample
