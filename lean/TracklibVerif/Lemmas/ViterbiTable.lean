import TracklibVerif.Lemmas.Viterbi
/-! Refinement: the table-building executable form of `Model/Viterbi.lean` (`forward`, `argmin?`, `walk`,
`decode` — what the driver runs) equals the function-style form (`val`, `mrk`, `back`) the optimality
lemmas of `Lemmas/Viterbi.lean` are about; the sentinel hypothesis in its two forms (`Sentinel`, `PathsBelow`); and what a
successful `decode` returned, read epoch by epoch (`seqOf`, `costAt`, `decode_ok`). -/
namespace TV.Viterbi
variable {α : Type} [LinearOrder α]

/-- the scan after the first element: either nothing beats `best` and its index is returned, or the returned index
points (`i` counting the elements before `xs`) at an element of `xs` that is at most `best` and every element -/
theorem argminFrom_spec (xs : List α) (best : α) (bi i : Nat) :
    (argminFrom best bi i xs = bi ∧ ∀ x ∈ xs, best ≤ x) ∨
    ∃ j, ∃ h : j < xs.length, argminFrom best bi i xs = i + j ∧ xs[j] ≤ best ∧ ∀ x ∈ xs, xs[j] ≤ x := by
  fun_induction argminFrom best bi i xs
  case case1 => exact Or.inl ⟨rfl, nofun⟩
  case case2 hx => simp [isNaN] at hx
  case case3 x _ _ hlt ih =>
    rcases ih with ⟨h1, h2⟩ | ⟨j, hj, h1, h2, h3⟩
    · exact Or.inr ⟨0, Nat.succ_pos _, h1, hlt.le, List.forall_mem_cons.mpr ⟨le_refl x, h2⟩⟩
    · exact Or.inr ⟨j+1, Nat.succ_lt_succ hj, by omega, h2.trans hlt.le, List.forall_mem_cons.mpr ⟨h2, h3⟩⟩
  case case4 hlt ih =>
    rcases ih with ⟨h1, h2⟩ | ⟨j, hj, h1, h2, h3⟩
    · exact Or.inl ⟨h1, List.forall_mem_cons.mpr ⟨not_lt.mp hlt, h2⟩⟩
    · exact Or.inr ⟨j+1, Nat.succ_lt_succ hj, by omega, h2,
        List.forall_mem_cons.mpr ⟨h2.trans (not_lt.mp hlt), h3⟩⟩

/-- `numpy.argmin` of a non-empty list returns a valid index of a minimal element (in a linear order nothing is a NaN) -/
theorem argmin?_spec (xs : List α) (hne : xs ≠ []) :
    ∃ r, ∃ h : r < xs.length, argmin? xs = some r ∧ ∀ x ∈ xs, xs[r] ≤ x := by
  fun_cases argmin? xs
  case case1 => exact absurd rfl hne
  case case2 hx => simp [isNaN] at hx
  case case3 x xs _ =>
    rcases argminFrom_spec xs x 0 1 with ⟨h1, h2⟩ | ⟨j, hj, h1, h2, h3⟩
    · exact ⟨0, Nat.succ_pos _, by rw [h1], List.forall_mem_cons.mpr ⟨le_refl x, h2⟩⟩
    · exact ⟨j+1, Nat.succ_lt_succ hj, by rw [h1, Nat.add_comm], List.forall_mem_cons.mpr ⟨h2, h3⟩⟩

section nan
variable {β : Type} [LT β] [DecidableLT β] [BEq β]

theorem argminFrom_nan (xs : List β) (best : β) (bi i : Nat) (h : xs.any isNaN = true) :
    argminFrom best bi i xs = i + xs.findIdx isNaN := by
  fun_induction argminFrom best bi i xs
  case case1 => simp at h
  case case2 hx => simp [List.findIdx_cons, hx]
  -- no NaN at the head, smaller than `best` or not: the first NaN is in the tail
  all_goals
    next hx _ ih =>
    simp only [List.any_cons, hx, Bool.false_or] at h
    simp only [ih h, List.findIdx_cons, hx, cond_false]
    omega

theorem argmin?_nan (xs : List β) (h : xs.any isNaN = true) : argmin? xs = some (xs.findIdx isNaN) := by
  fun_cases argmin? xs
  case case1 => simp at h
  case case2 hx => simp [List.findIdx_cons, hx]
  case case3 x xs hx =>
    simp only [List.any_cons, hx, Bool.false_or] at h
    simp only [argminFrom_nan xs x 0 1 h, List.findIdx_cons, hx, cond_false, Nat.add_comm]

end nan

/-- the columns `(TAB_VAL[k], TAB_MRK[k])` in function style -/
def colOf (t : Tables α) : Nat → List α × List Nat
  | 0 => firstCol t
  | k+1 => ((List.range (t.n (k+1))).map (val t (k+1)), (List.range (t.n (k+1))).map (mrk t k))

theorem colOf_fst (t : Tables α) (k : Nat) : (colOf t k).1 = (List.range (t.n k)).map (val t k) := by
  cases k with
  | zero => simp [colOf, firstCol, val]
  | succ k => rfl

theorem colOf_snd_length (t : Tables α) (k : Nat) : (colOf t k).2.length = t.n k := by
  cases k <;> simp [colOf, firstCol]

omit [LinearOrder α] in
theorem firstCol_getElem? (t : Tables α) (l : Nat) (hl : l < t.n 0) :
    (firstCol t).1[l]? = some (t.obs 0 l) ∧ (firstCol t).2[l]? = some 0 := by
  simp [firstCol, hl]

theorem colOf_succ_getElem? (t : Tables α) (k l : Nat) (hl : l < t.n (k+1)) :
    (colOf t (k+1)).1[l]? = some (val t (k+1) l) ∧ (colOf t (k+1)).2[l]? = some (mrk t k l) := by
  simp [colOf, hl]

theorem nextCol_colOf (t : Tables α) (k : Nat) : nextCol t k (colOf t k).1 = colOf t (k+1) := by
  rw [colOf_fst]
  have key : ∀ l, scanMin t.big (fun m => t.add (t.trans k m l)
        (((List.range (t.n k)).map (val t k)).getD m t.big)) ((List.range (t.n k)).map (val t k)).length
      = scanMin t.big (fun m => t.add (t.trans k m l) (val t k m)) (t.n k) := by
    intro l
    rw [List.length_map, List.length_range]
    apply scanMin_congr
    intro m hm
    simp [List.getD_eq_getElem?_getD, hm]
  simp only [nextCol, colOf, List.map_map, key]
  refine Prod.ext ?_ ?_
  · exact List.map_congr_left (fun l _ => by simp [Function.comp, val])
  · exact List.map_congr_left (fun l _ => by simp [Function.comp, mrk])

theorem forward_head (t : Tables α) (k : Nat) : ∃ rest, forward t k = colOf t k :: rest := by
  induction k with
  | zero => exact ⟨[], rfl⟩
  | succ k ih =>
    obtain ⟨rest, h⟩ := ih
    refine ⟨colOf t k :: rest, ?_⟩
    simp only [forward, h, nextCol_colOf]

theorem forward_succ (t : Tables α) (k : Nat) : forward t (k+1) = colOf t (k+1) :: forward t k := by
  obtain ⟨rest, h⟩ := forward_head t k
  simp only [forward, h, nextCol_colOf]

theorem forward_length (t : Tables α) (k : Nat) : (forward t k).length = k + 1 := by
  induction k with
  | zero => rfl
  | succ k ih => rw [forward_succ, List.length_cons, ih]

theorem walk_forward (t : Tables α) (k l : Nat) (hpos : ∀ j, j ≤ k → 0 < t.n j) (hl : l < t.n k) :
    walk (forward t k) l =
      some ((List.range (k+1)).reverse.map (fun j => (back t k l j, val t j (back t k l j)))) := by
  induction k generalizing l with
  | zero =>
    obtain ⟨h1, h2⟩ := firstCol_getElem? t l hl
    simp [forward, walk, h1, h2, back, val]
  | succ k ih =>
    rw [forward_succ]
    obtain ⟨h1, h2⟩ := colOf_succ_getElem? t k l hl
    simp only [walk, h1, h2]
    rw [ih (mrk t k l) (fun i hi => hpos i (by omega)) (mrk_lt t k l (hpos k (by omega)))]
    rw [List.range_succ (n := k+1), List.reverse_append]
    simp only [List.reverse_cons, List.reverse_nil, List.nil_append, List.cons_append, List.map_cons,
      Option.map_some, back_self]
    congr 2
    apply List.map_congr_left
    intro j hj
    have hj' : j < k + 1 := by simpa using hj
    rw [back_lt t k l j hj']

theorem decode_run (t : Tables α) (N : Nat) (hpos : ∀ k, k ≤ N → 0 < t.n k) :
    ∃ idk, idk < t.n N ∧ (∀ l', l' < t.n N → val t N idk ≤ val t N l') ∧ argmin? (colOf t N).1 = some idk ∧
      decode t (N+1) = .ok ((List.range (N+1)).map (fun j => (back t N idk j, val t j (back t N idk j)))) := by
  obtain ⟨rest, hf⟩ := forward_head t N
  have hlen : (colOf t N).1.length = t.n N := by rw [colOf_fst, List.length_map, List.length_range]
  obtain ⟨r, hr, har, hmin⟩ := argmin?_spec (colOf t N).1
    (List.ne_nil_of_length_pos (hlen ▸ hpos N (Nat.le_refl _)))
  have hrn : r < t.n N := hlen ▸ hr
  have hv : (colOf t N).1[r] = val t N r := by simp [colOf_fst]
  refine ⟨r, hrn, fun l' hl' => ?_, har, ?_⟩
  · rw [← hv]
    exact hmin _ (by rw [colOf_fst]; exact List.mem_map.mpr ⟨l', List.mem_range.mpr hl', rfl⟩)
  · have hw := walk_forward t N r hpos hrn
    rw [hf] at hw
    simp only [decode, hf, har, hw]
    rw [← List.map_reverse, List.reverse_reverse]

theorem decode_eq (t : Tables α) (N : Nat) (hpos : ∀ k, k ≤ N → 0 < t.n k) :
    ∃ idk, idk < t.n N ∧ (∀ l', l' < t.n N → val t N idk ≤ val t N l') ∧
      decode t (N+1) = .ok ((List.range (N+1)).map (fun j => (back t N idk j, val t j (back t N idk j)))) := by
  obtain ⟨idk, h1, h2, _, h3⟩ := decode_run t N hpos
  exact ⟨idk, h1, h2, h3⟩

/-- every candidate value compared with `best_val` while decoding epochs `0..N` is below the sentinel -/
def Sentinel (t : Tables α) (N : Nat) : Prop :=
  ∀ k m l, k < N → m < t.n k → l < t.n (k+1) → t.add (t.trans k m l) (val t k m) < t.big

/-- the running cost of every candidate sequence of epochs `0..N`, at the moment it is compared with
`best_val` (`q + TAB_VAL[k-1][m]`), stays below the sentinel -/
def PathsBelow (t : Tables α) (N : Nat) : Prop :=
  ∀ σ : Nat → Nat, (∀ k, k ≤ N → σ k < t.n k) →
    ∀ k, k < N → t.add (t.trans k (σ k) (σ (k+1))) (cost t σ k) < t.big

theorem found_of_sentinel (t : Tables α) (N : Nat) (hpos : ∀ k, k ≤ N → 0 < t.n k) (hbig : Sentinel t N)
    (l : Nat) (hl : l < t.n N) : Found t N l :=
  fun j hj => ⟨0, hpos j (by omega), hbig j 0 _ hj (hpos j (by omega))
    (back_lt_n t N l (fun i hi => hpos i (by omega)) hl (j+1) hj)⟩

theorem sentinel_of_paths (t : Tables α) (N : Nat) (hpos : ∀ k, k ≤ N → 0 < t.n k)
    (hp : PathsBelow t N) : Sentinel t N := by
  -- by strong induction on the epoch: below `k` the hypothesis holds, so `val k m` is the cost of the back-pointer path to
  -- `(k, m)`; that path continued by `l` (and anything after) is a candidate sequence
  intro k
  induction k using Nat.strongRecOn with
  | _ k ih =>
    intro m l hk hm hl
    have hv := cost_back_of_found t k m (found_of_sentinel t k (fun j hj => hpos j (by omega))
      (fun j m l hj => ih j hj m l (Nat.lt_trans hj hk)) m hm)
    let σ : Nat → Nat := fun j => if j ≤ k then back t k m j else if j = k + 1 then l else 0
    have hσ : ∀ j, j ≤ N → σ j < t.n j := by
      intro j hjN
      by_cases h1 : j ≤ k
      · simp only [σ, h1, ↓reduceIte]
        exact back_lt_n t k m (fun i hi => hpos i (by omega)) hm j h1
      · by_cases h2 : j = k + 1
        · subst h2; simp only [σ, h1, ↓reduceIte]; exact hl
        · simp only [σ, h1, h2, ↓reduceIte]; exact hpos j hjN
    have e0 : σ k = m := by simp [σ, back_self]
    have e1 : σ (k+1) = l := by simp [σ, Nat.not_succ_le_self]
    have e2 : cost t σ k = cost t (back t k m) k := cost_congr t _ _ k (fun j hj => by simp [σ, hj])
    have := hp σ hσ k hk
    rwa [e0, e1, e2, hv] at this

/-- index of the state inferred at epoch `j` (`hmm_inference`); `0` beyond the last epoch -/
def seqOf (r : List (Nat × α)) (j : Nat) : Nat := (r[j]?.map Prod.fst).getD 0
/-- cost recorded at epoch `j` (`hmm_cost`) -/
def costAt (r : List (Nat × α)) (j : Nat) : Option α := r[j]?.map Prod.snd

theorem seqOf_range_map {β : Type} (f : Nat → Nat) (g : Nat → β) (N j : Nat) (hj : j ≤ N) :
    seqOf ((List.range (N+1)).map fun j => (f j, g j)) j = f j := by
  simp [seqOf, Nat.lt_succ_of_le hj]

theorem costAt_range_map {β : Type} (f : Nat → Nat) (g : Nat → β) (N j : Nat) (hj : j ≤ N) :
    costAt ((List.range (N+1)).map fun j => (f j, g j)) j = some (g j) := by
  simp [costAt, Nat.lt_succ_of_le hj]

theorem decode_ok (t : Tables α) (N : Nat) (hpos : ∀ k, k ≤ N → 0 < t.n k) (r : List (Nat × α))
    (h : decode t (N+1) = .ok r) :
    r.length = N + 1 ∧ seqOf r N < t.n N ∧ (∀ l', l' < t.n N → val t N (seqOf r N) ≤ val t N l') ∧
      ∀ j, j ≤ N → seqOf r j = back t N (seqOf r N) j ∧ costAt r j = some (val t j (seqOf r j)) := by
  obtain ⟨idk, h1, h2, h3⟩ := decode_eq t N hpos
  obtain rfl := Res.ok.inj (h3.symm.trans h)
  have hs := seqOf_range_map (back t N idk) (fun j => val t j (back t N idk j)) N
  rw [hs N (Nat.le_refl _), back_self]
  exact ⟨by simp, h1, h2, fun j hj => ⟨hs j hj, by rw [costAt_range_map _ _ N j hj, hs j hj]⟩⟩

theorem decoded_of_found (t : Tables α) (N : Nat) (hpos : ∀ k, k ≤ N → 0 < t.n k) (r : List (Nat × α))
    (h : decode t (N+1) = .ok r) (hf : Found t N (seqOf r N)) :
    (∀ k, k ≤ N → costAt r k = some (cost t (seqOf r) k)) ∧ cost t (seqOf r) N = val t N (seqOf r N) := by
  obtain ⟨_, _, _, hseq⟩ := decode_ok t N hpos r h
  have e : ∀ k, k ≤ N → cost t (seqOf r) k = cost t (back t N (seqOf r N)) k :=
    fun k hk => cost_congr t _ _ k (fun j hj => (hseq j (by omega)).1)
  refine ⟨fun k hk => ?_, ?_⟩
  · rw [(hseq k hk).2, (hseq k hk).1, val_back_eq_cost t N _ k hf hk, e k hk]
  · rw [e N (Nat.le_refl _), cost_back_of_found t N _ hf]
end TV.Viterbi
