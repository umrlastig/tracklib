import TracklibVerif.Lemmas.DTWTable
import Mathlib.Algebra.Order.Field.Basic
import Mathlib.Tactic.Ring
/-! Change of unit: what `_dtw` returns when every accumulated cost is transported by a strictly increasing map `φ`
(`T_pred_hom`, `dtw_hom`) — same predecessors, hence same coupling, score transported — and its instance "all coordinates
multiplied by `c > 0`" (`distance_scale`, `weight_unit`): metres, kilometres or degrees give the same matching.
Also the model's `npow` as a power and `distance` as the root of `sqDist` (`npow_pow`, `distance_eq`). -/
namespace TV.DTW

section hom
variable {α : Type} [LinearOrder α]

theorem min3_hom (φ : α → α) (hφ : ∀ a b, φ a ≤ φ b ↔ a ≤ b) (a b c : α) :
    min3 (φ a) (φ b) (φ c) = φ (min3 a b c) := by
  have hm : Monotone φ := fun a b h => (hφ a b).mpr h
  rw [min3_eq_min, min3_eq_min, hm.map_min, hm.map_min]

theorem T_pred_hom (w w' : α → α → α) (z z' : α) (D D' : Nat → Nat → α) (φ : α → α)
    (hφ : ∀ a b, φ a ≤ φ b ↔ a ≤ b)
    (hz : z' = φ z)
    (hstep : ∀ a i j, w' (φ a) (D' i j) = φ (w a (D i j))) (i j : Nat) :
    T w' z' D' i j = φ (T w z D i j) ∧ pred w' z' D' i j = pred w z D i j := by
  have hlt : ∀ a b, φ a < φ b ↔ a < b := fun a b => by rw [lt_iff_not_ge, lt_iff_not_ge, hφ]
  induction i, j using T.induct with
  | case1 => exact ⟨by simp only [T, hz, hstep], by simp [pred]⟩
  | case2 i ih => exact ⟨by simp only [T, ih.1, hstep], by simp [pred]⟩
  | case3 j ih => exact ⟨by simp only [T, ih.1, hstep], by simp [pred]⟩
  | case4 i j ih1 ih2 ih3 =>
    exact ⟨by simp only [T, ih1.1, ih2.1, ih3.1, min3_hom φ hφ, hstep],
      by simp only [pred, ih1.1, ih2.1, ih3.1, hφ, hlt]⟩

end hom

section whole
variable {α : Type} [Sub α] [LinearOrder α] [OfNat α 0]

theorem dtw_hom (dist dist' : Pt α → Pt α → α) (w w' : α → α → α) (φ : α → α) (hφ : ∀ a b, φ a ≤ φ b ↔ a ≤ b)
    (t1 t2 t1' t2' : List (Pt α)) (hl1 : t1'.length = t1.length) (hl2 : t2'.length = t2.length)
    (h1 : 0 < t1.length) (h2 : 0 < t2.length)
    (h0 : φ 0 = 0)
    (hstep : ∀ a i j, w' (φ a) (Dmat dist' t1' t2' i j) = φ (w a (Dmat dist t1 t2 i j))) :
    ∃ o o', dtw dist w t1 t2 = some o ∧ dtw dist' w' t1' t2' = some o' ∧
      o'.S = o.S ∧ o'.score = φ o.score ∧ o'.nbLinks = o.nbLinks ∧
      ∀ j : Nat, (o'.rows[j]?).map (fun r : Row α => r.pair) = (o.rows[j]?).map (fun r : Row α => r.pair) := by
  have hT := T_pred_hom w w' 0 0 _ _ φ hφ h0.symm hstep
  have hP : pred w' 0 (Dmat dist' t1' t2') = pred w 0 (Dmat dist t1 t2) := by
    funext i j
    exact (hT i j).2
  have hSS : walkF w' 0 (Dmat dist' t1' t2') (t1'.length + t2'.length) (t2'.length - 1, t1'.length - 1)
      = walkF w 0 (Dmat dist t1 t2) (t1.length + t2.length) (t2.length - 1, t1.length - 1) := by
    rw [hl1, hl2]
    unfold walkF
    rw [hP]
  refine ⟨_, _, dtw_spec dist w t1 t2 h1 h2 _ (List.length_map _),
    dtw_spec dist' w' t1' t2' (by omega) (by omega) _ (List.length_map _), hSS, ?_, congrArg List.length hSS, fun j => ?_⟩
  · simp only [hl1, hl2]
    exact (hT _ _).1
  · by_cases hj : j < t1.length
    · rw [outOf_pair _ _ _ _ _ j (by omega), outOf_pair _ _ _ _ _ j hj, hSS]
    · rw [List.getElem?_eq_none (by rw [outOf_length]; omega), List.getElem?_eq_none (by rw [outOf_length]; omega)]

end whole

section field
variable {α : Type} [Field α]

def Pt.scale (c : α) (p : Pt α) : Pt α := ⟨c * p.x, c * p.y, c * p.z⟩

/-- the factor by which a change of unit `c` multiplies the accumulated costs: `c**k` for `p = k`, `c` for `p = inf` -/
def unitFactor (c : α) : PNorm → α
  | .nat k => npow c k
  | .inf => c

theorem npow_pow {M : Type} [Monoid M] (b : M) : ∀ k : Nat, npow b k = b ^ k
  | 0 => (pow_zero b).symm
  | 1 => (pow_one b).symm
  | k+2 => by rw [npow, npow_pow b (k+1), ← pow_succ]

theorem npow_mul (c d : α) (k : Nat) : npow (c * d) (k+1) = npow c (k+1) * npow d (k+1) := by
  rw [npow_pow, npow_pow, npow_pow, mul_pow]

/-- what `_distance` on `ENUCoords` takes the square root of for `dim = 2` and `dim = 3` -/
def sqDist (d : Nat) (p q : Pt α) : α :=
  (q.x - p.x) * (q.x - p.x) + (q.y - p.y) * (q.y - p.y) + (if d = 2 then 0 else 1) * ((q.z - p.z) * (q.z - p.z))

theorem sqDist_symm (d : Nat) (p q : Pt α) : sqDist d p q = sqDist d q p := by
  unfold sqDist; ring

theorem sqDist_scale (c : α) (d : Nat) (p q : Pt α) : sqDist d (Pt.scale c p) (Pt.scale c q) = c * c * sqDist d p q := by
  unfold sqDist Pt.scale; ring

variable [LinearOrder α] [IsStrictOrderedRing α]

theorem npow_pos (c : α) (hc : 0 < c) (k : Nat) : 0 < npow c k :=
  npow_pow c k ▸ pow_pos hc k

theorem unitFactor_pos (c : α) (hc : 0 < c) (p : PNorm) : 0 < unitFactor c p := by
  cases p with
  | nat k => exact npow_pos c hc k
  | inf => exact hc

/-- `_distance` on `ENUCoords`: `abs(p1.U - p2.U)` for `dim = 1`, the square root of `sqDist` otherwise -/
theorem distance_eq (sqrt : α → α) (d : Nat) (p q : Pt α) :
    distance sqrt d p q = if d = 1 then |p.z - q.z| else sqrt (sqDist d p q) := by
  unfold distance sqDist
  by_cases h1 : d = 1
  · simp only [h1, if_true]
    by_cases h : p.z - q.z < 0
    · rw [if_pos h, abs_of_neg h, zero_sub]
    · rw [if_neg h, abs_of_nonneg (not_lt.mp h)]
  · rw [if_neg h1, if_neg h1]
    by_cases h2 : d = 2 <;> simp only [h2, if_false, if_true, zero_mul, one_mul, add_zero]

theorem sqDist_nonneg (d : Nat) (p q : Pt α) : 0 ≤ sqDist d p q :=
  add_nonneg (add_nonneg (mul_self_nonneg _) (mul_self_nonneg _))
    (mul_nonneg (by split_ifs; exacts [le_rfl, zero_le_one]) (mul_self_nonneg _))

/-- `_distance` on `ENUCoords` is homogeneous: coordinates multiplied by `c > 0` give distances multiplied by `c`, provided
`sqrt` is (`sqrt(c²x) = c·sqrt(x)` on non-negative `x`: true of the real square root) -/
theorem distance_scale (sqrt : α → α) (c : α) (hc : 0 < c) (hs : ∀ x, 0 ≤ x → sqrt (c * c * x) = c * sqrt x) (d : Nat)
    (p q : Pt α) : distance sqrt d (Pt.scale c p) (Pt.scale c q) = c * distance sqrt d p q := by
  rw [distance_eq, distance_eq, sqDist_scale, hs _ (sqDist_nonneg d p q)]
  split_ifs
  · show |c * p.z - c * q.z| = c * |p.z - q.z|
    rw [← mul_sub, abs_mul, abs_of_pos hc]
  · rfl

theorem weight_unit (c : α) (hc : 0 < c) (p : PNorm) (a d : α) :
    weight p (unitFactor c p * a) (c * d) = unitFactor c p * weight p a d := by
  cases p with
  | nat k =>
    cases k with
    | zero =>
      simp only [weight, unitFactor, npow, one_mul]
      rcases lt_trichotomy d 0 with h | h | h
      · have h' : c * d < 0 := mul_neg_of_pos_of_neg hc h
        simp [h, h']
      · subst h
        simp
      · have h' : 0 < c * d := mul_pos hc h
        simp [h, h']
    | succ k =>
      simp only [weight, unitFactor]
      rw [npow_mul c d k]
      ring
  | inf =>
    simp only [weight, unitFactor, pmax_eq_max]
    exact (mul_max_of_nonneg a d (le_of_lt hc)).symm

theorem Dmat_scale (sqrt : α → α) (c : α) (hc : 0 < c) (hs : ∀ x, 0 ≤ x → sqrt (c * c * x) = c * sqrt x) (d : Nat)
    (t1 t2 : List (Pt α)) (i j : Nat) :
    Dmat (distance sqrt d) (t1.map (Pt.scale c)) (t2.map (Pt.scale c)) i j = c * Dmat (distance sqrt d) t1 t2 i j := by
  have h0 : Pt.scale c (⟨0, 0, 0⟩ : Pt α) = ⟨0, 0, 0⟩ := by simp [Pt.scale]
  have hg : ∀ (t : List (Pt α)) (k : Nat), ((t.map (Pt.scale c))[k]?).getD ⟨0, 0, 0⟩ = Pt.scale c ((t[k]?).getD ⟨0, 0, 0⟩) := by
    intro t k
    rw [List.getElem?_map]
    cases t[k]? with
    | none => simp [h0]
    | some v => simp
  unfold Dmat
  rw [hg, hg, distance_scale sqrt c hc hs]

end field
end TV.DTW
