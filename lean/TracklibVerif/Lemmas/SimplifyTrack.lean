import TracklibVerif.Model.SimplifyTrack
import TracklibVerif.Lemmas.SimplifyVwTie
import TracklibVerif.Lemmas.Seq
/-! Lemmas relating the `Track`-level model of simplification (`Model/SimplifyTrack.lean`) to the list-level
model (`Model/Simplify.lean`): the positions computed are the same, the feature rows travel with their
observations, the temporary `'@aire'` column leaves no trace. No property of the scalar type is used. -/
namespace TV.Simplify
variable {α : Type} [Add α] [Sub α] [Mul α] [Div α] [Neg α] [LT α] [DecidableLT α] [BEq α]
  [OfNat α 0] [OfNat α 1] [OfNat α 2]

section
omit [Neg α] [OfNat α 1] [OfNat α 2]

theorem dpTrkFuel_short (sqrt : α → α) (eps : α) (fuel : Nat) (T : Trk α) (hl : T.pts.length ≤ 2) :
    dpTrkFuel sqrt eps fuel T = some ⟨T.pts, Info.default, []⟩ := by
  cases fuel <;> rw [dpTrkFuel, if_pos hl]

end

section
omit [Add α] [Sub α] [Mul α] [Div α] [Neg α] [LT α] [DecidableLT α] [BEq α] [OfNat α 0] [OfNat α 1] [OfNat α 2]

theorem fixes_ends {P : List (Ob α)} {a b : Ob α} (ha : P.head? = some a) (hb : P.getLast? = some b) :
    (fixes P).head? = some a.fix ∧ (fixes P).getLast? = some b.fix :=
  ⟨by rw [List.head?_map, ha]; rfl, by rw [List.getLast?_map, hb]; rfl⟩

end

section
omit [Neg α] [OfNat α 1] [OfNat α 2]

/-- the `Track`-level Douglas–Peucker is the list-level one on the observations: the positions of the result are those of `dpFuel`
on the positions (and the call recurses for ever exactly when `dpFuel` does) — hence every theorem about `douglasPeucker` is about
the `Track` returned -/
theorem dpTrkFuel_fixes (sqrt : α → α) (eps : α) (fuel : Nat) (T : Trk α) :
    (dpTrkFuel sqrt eps fuel T).map (fun O => fixes O.pts) = dpFuel sqrt eps fuel (fixes T.pts) := by
  fun_induction dpTrkFuel sqrt eps fuel T with
  | case1 T hl | case3 fuel T hl => rw [dpFuel_short _ _ _ _ (by rwa [List.length_map])]; rfl
  | case2 T hl =>
    obtain ⟨x, p, q, rest, e⟩ := three_of_len (fixes T.pts) (by rwa [List.length_map])
    rw [e]; rfl
  | case4 fuel T hl a b hb ha r hlt =>
    rw [dpFuel_long sqrt eps fuel (fixes_ends ha hb).1 (fixes_ends ha hb).2 (by rwa [List.length_map]), if_pos hlt]; rfl
  | case5 fuel T hl a b hb ha r hlt o1 o2 hd ht ih1 ih2 =>
    rw [dpFuel_long sqrt eps fuel (fixes_ends ha hb).1 (fixes_ends ha hb).2 (by rwa [List.length_map]), if_neg hlt]
    rw [ht] at ih1; rw [hd] at ih2
    simp only [fixes, r, ← List.map_take, ← List.map_drop] at ih1 ih2 ⊢
    rw [← ih1, ← ih2]
    exact congrArg some List.map_append
  | case6 fuel T hl a b hb ha r hlt hno ih1 ih2 =>
    rw [dpFuel_long sqrt eps fuel (fixes_ends ha hb).1 (fixes_ends ha hb).2 (by rwa [List.length_map]), if_neg hlt]
    simp only [fixes, r, ← List.map_take, ← List.map_drop] at ih1 ih2 hno ⊢
    rw [← ih1, ← ih2]
    split
    · rename_i e1 e2
      obtain ⟨O1, h1, _⟩ := Option.map_eq_some_iff.mp e1
      obtain ⟨O2, h2, _⟩ := Option.map_eq_some_iff.mp e2
      exact absurd h2 (hno _ _ h1)
    · rfl
  | case7 fuel T hl hno =>
    obtain ⟨a, p, q, rest, e⟩ := three_of_len T.pts hl
    exact absurd (e ▸ getLast?_cons_cons_cons a p q rest) (hno a _ (e ▸ rfl))

/-- input and output observation lists form a run (`DpTree`), so the **observations** returned (position, tag and feature row) are a
sub-sequence of the input's, first and last included; the feature dict of the result is empty; `uid`, `tid`, `base` are the input's
or the constructor's defaults -/
theorem dpTrkFuel_tree (sqrt : α → α) (eps : α) (fuel : Nat) (T O : Trk α) (h : dpTrkFuel sqrt eps fuel T = some O) :
    DpTree (fun _ _ _ => True) T.pts O.pts ∧ O.dico = [] ∧ (O.info = T.info ∨ O.info = Info.default) := by
  fun_induction dpTrkFuel sqrt eps fuel T generalizing O with
  | case1 T hl | case3 fuel T hl => cases h; exact ⟨.leaf _, rfl, Or.inr rfl⟩
  | case2 | case6 | case7 => cases h
  | case4 fuel T hl a b hb ha r hlt => cases h; exact ⟨.chord _ a b ha hb (Nat.lt_of_not_le hl) trivial, rfl, Or.inl rfl⟩
  | case5 fuel T hl a b hb ha r hlt o1 o2 hd ht ih1 ih2 =>
    cases h
    obtain ⟨t1, d1, i1⟩ := ih1 _ ht
    obtain ⟨t2, d2, _⟩ := ih2 _ hd
    refine ⟨.split _ _ t1 t2, ?_, i1⟩
    simp only [trkAdd, Trk.names, d1, d2, List.map_nil, TV.Seq.sameNames, ↓reduceIte]

end

/-- `removeObs(id)` (C04's `removeObsList([id])`, `TV.Seq.removeObs`) is `del L[id]` — the `eraseIdx` of the
list-level model — for every natural index (past the end: `IndexError` in Python, the list unchanged here) -/
theorem removeObs_eq_eraseIdx {β : Type} (S : List β) (id : Nat) :
    (TV.Seq.removeObs S (id : Int)).1 = S.eraseIdx id := by
  rw [TV.Seq.removeObs_eq]
  by_cases h : id < S.length
  · rw [TV.Seq.bucketOf_of h (Or.inl rfl)]
  · rw [(TV.Seq.bucketOf_eq_none_iff _ _).mpr (Or.inl (by omega)), List.eraseIdx_of_length_le (by omega)]

/-- the list-level state seen in the feature rows: position and column `k` -/
def absK (k : Nat) (S : List (Ob α)) : VState α := S.map (fun o => (o.fix, colAt k o))

/-- the observations without column `k` (what `removeAnalyticalFeature` leaves) -/
def restK (k : Nat) (S : List (Ob α)) : List (Ob α) := S.map (fun o => { o with feats := o.feats.eraseIdx k })

def HasK (k : Nat) (S : List (Ob α)) : Prop := ∀ o ∈ S, k < o.feats.length

section
omit [Add α] [Sub α] [Mul α] [Div α] [Neg α] [LT α] [DecidableLT α] [BEq α] [OfNat α 0] [OfNat α 1] [OfNat α 2]

theorem absK_map_fst (k : Nat) (S : List (Ob α)) : (absK k S).map (·.1) = fixes S := by
  simp [absK, fixes]

theorem absK_map_snd (k : Nat) (S : List (Ob α)) : (absK k S).map (·.2) = S.map (colAt k) := by
  simp [absK]

theorem absK_length (k : Nat) (S : List (Ob α)) : (absK k S).length = S.length := by simp [absK]

theorem colAt_setFeat (k : Nat) (o : Ob α) (v : Option α) (h : k < o.feats.length) :
    colAt k (o.setFeat k v) = v := by
  simp [colAt, Ob.setFeat, h]

end

theorem set_self_of_getElem? {β : Type} (l : List β) (i : Nat) (a : β) (h : l[i]? = some a) : l.set i a = l := by
  obtain ⟨hi, rfl⟩ := List.getElem?_eq_some_iff.mp h
  exact List.set_getElem_self hi

section
omit [Add α] [Neg α] [BEq α]

theorem absK_setAireT (k : Nat) (S : List (Ob α)) (i : Nat) (hk : HasK k S) :
    absK k (setAireT k S i) = setAire (absK k S) i := by
  unfold setAireT setAire
  have e : (absK k S)[i]? = (S[i]?).map (fun o => (o.fix, colAt k o)) := by simp [absK]
  rw [e]
  cases hi : S[i]? with
  | none => rfl
  | some o =>
    have ho : o ∈ S := List.mem_of_getElem? hi
    simp only [Option.map_some, absK_map_fst]
    simp only [absK, List.map_set, colAt_setFeat k o _ (hk o ho)]
    rfl

theorem restK_setAireT (k : Nat) (S : List (Ob α)) (i : Nat) : restK k (setAireT k S i) = restK k S := by
  unfold setAireT
  cases hi : S[i]? with
  | none => rfl
  | some o =>
    simp only [restK, List.map_set, Ob.setFeat, List.eraseIdx_set_eq]
    apply set_self_of_getElem?
    simp [hi]

end

theorem setAireT_length (k : Nat) (S : List (Ob α)) (i : Nat) : (setAireT k S i).length = S.length := by
  unfold setAireT
  cases S[i]? <;> simp

section
omit [Add α] [Neg α] [BEq α]

theorem HasK_setAireT (k : Nat) (S : List (Ob α)) (i : Nat) (hk : HasK k S) : HasK k (setAireT k S i) := by
  unfold setAireT
  cases hi : S[i]? with
  | none => exact hk
  | some o =>
    intro o' ho'
    rcases List.mem_or_eq_of_mem_set ho' with h | h
    · exact hk o' h
    · subst h
      simp only [Ob.setFeat, List.length_set]
      exact hk o (List.mem_of_getElem? hi)

end

/-- the part of the loop body after the `break` test, on the feature rows (`vwBody` is the same on the list-level state) -/
def bodyT (k : Nat) (S : List (Ob α)) (id : Nat) : List (Ob α) :=
  if id < (if id > 1 then setAireT k (S.eraseIdx id) (id - 1) else S.eraseIdx id).length - 1 then
    setAireT k (if id > 1 then setAireT k (S.eraseIdx id) (id - 1) else S.eraseIdx id) id
  else if id > 1 then setAireT k (S.eraseIdx id) (id - 1) else S.eraseIdx id

section
omit [Add α] [Neg α] [BEq α]

theorem bodyT_spec (k : Nat) (S : List (Ob α)) (id : Nat) (hk : HasK k S) :
    absK k (bodyT k S id) = vwBody (absK k S) id ∧ HasK k (bodyT k S id) ∧
    restK k (bodyT k S id) = (restK k S).eraseIdx id := by
  unfold bodyT vwBody
  have h1 : HasK k (S.eraseIdx id) := fun o ho => hk o (List.mem_of_mem_eraseIdx ho)
  have a1 : absK k (S.eraseIdx id) = (absK k S).eraseIdx id := map_eraseIdx' _ _ _
  have r1 : restK k (S.eraseIdx id) = (restK k S).eraseIdx id := map_eraseIdx' _ _ _
  have h2 : HasK k (if id > 1 then setAireT k (S.eraseIdx id) (id - 1) else S.eraseIdx id) ∧
      absK k (if id > 1 then setAireT k (S.eraseIdx id) (id - 1) else S.eraseIdx id) =
        (if id > 1 then setAire ((absK k S).eraseIdx id) (id - 1) else (absK k S).eraseIdx id) ∧
      restK k (if id > 1 then setAireT k (S.eraseIdx id) (id - 1) else S.eraseIdx id) = (restK k S).eraseIdx id := by
    split
    · exact ⟨HasK_setAireT k _ _ h1, by rw [absK_setAireT k _ _ h1, a1], by rw [restK_setAireT, r1]⟩
    · exact ⟨h1, a1, r1⟩
  have l2 := congrArg List.length h2.2.1
  rw [absK_length] at l2
  simp only
  generalize (if id > 1 then setAireT k (S.eraseIdx id) (id - 1) else S.eraseIdx id) = S2 at h2 l2 ⊢
  generalize (if id > 1 then setAire ((absK k S).eraseIdx id) (id - 1) else (absK k S).eraseIdx id) = A2 at h2 l2 ⊢
  rw [l2]
  split
  · exact ⟨by rw [absK_setAireT k _ _ h2.1, h2.2.1], HasK_setAireT k _ _ h2.1, by rw [restK_setAireT, h2.2.2]⟩
  · exact ⟨h2.2.1, h2.1, h2.2.2⟩

end

section
omit [Add α] [Sub α] [Mul α] [Div α] [Neg α] [BEq α] [OfNat α 0] [OfNat α 1] [OfNat α 2]

theorem vwStop_absK (eps2 : α) (k : Nat) (S : List (Ob α)) (id : Nat) :
    vwStop eps2 (absK k S) id = stopOf eps2 ((S[id]?).map (colAt k)) := by
  unfold vwStop absK
  rw [List.getElem?_map]
  cases S[id]? with
  | none => rfl
  | some o =>
    rw [Option.map_some, Option.map_some]
    cases colAt k o <;> rfl

end

section
omit [Add α] [Neg α]

/-- one pass of the loop on the feature rows is one pass of the list-level loop on column `k`; the other columns
are only affected by the removal of the designated observation -/
theorem vwStepT_spec (big eps2 : α) (k : Nat) (S : List (Ob α)) (hk : HasK k S) :
    (vwStepT big eps2 k S).map (absK k) = vwStep big eps2 (absK k S) ∧
    ∀ S', vwStepT big eps2 k S = some S' →
      HasK k S' ∧ restK k S' = (restK k S).eraseIdx (argmin big ((absK k S).map (·.2))) := by
  rw [vwStep_eq, vwStop_absK]
  unfold vwStepT
  rw [absK_length, absK_map_snd]
  by_cases hl : S.length > 2
  · simp only [hl, ↓reduceIte, removeObs_eq_eraseIdx]
    obtain ⟨b1, b2, b3⟩ := bodyT_spec k S (argmin big (S.map (colAt k))) hk
    cases stopOf eps2 ((S[argmin big (S.map (colAt k))]?).map (colAt k)) with
    | true => exact ⟨rfl, fun S' h => by cases h⟩
    | false => exact ⟨congrArg some b1, fun S' h => Option.some.inj h ▸ ⟨b2, b3⟩⟩
  · simp [hl]

/-- the loop on the rows is the list-level loop on column `k`, the rows losing at each pass the observation the list-level pass
removes. So a relation `R` between row lists (reflexive, transitive) that holds between a list and the list without the index
ARGMIN designates — in every state satisfying an invariant `I` of the list-level pass — holds between the rows after and before
the loop. (`vwTrk_any`: `R` = sub-sequence with the same last observation, two staying two, `I` = `LastNaN`; `vwTrk_ends_no_nan`: `R` = same first
observation, `I` = the initial column of a track without NaN area.) -/
theorem vwLoopT_rows (big eps2 : α) (k : Nat) (I : VState α → Prop) (R : List (Ob α) → List (Ob α) → Prop)
    (hr : ∀ l, R l l) (ht : ∀ {a b c}, R a b → R b c → R a c)
    (hstep : ∀ A, I A → 2 < A.length → I (vwBody A (argmin big (A.map (·.2)))) ∧
      ∀ l : List (Ob α), l.length = A.length → R (l.eraseIdx (argmin big (A.map (·.2)))) l) (fuel : Nat) :
    ∀ S : List (Ob α), HasK k S → I (absK k S) →
      absK k (vwLoopT big eps2 k fuel S) = vwLoop big eps2 fuel (absK k S) ∧
      R (restK k (vwLoopT big eps2 k fuel S)) (restK k S) := by
  induction fuel with
  | zero => intro S _ _; exact ⟨rfl, hr _⟩
  | succ fuel ih =>
    intro S hk hI
    obtain ⟨hc, hrest⟩ := vwStepT_spec big eps2 k S hk
    rw [vwLoopT, vwLoop, ← hc]
    cases hs : vwStepT big eps2 k S with
    | none => exact ⟨rfl, hr _⟩
    | some S' =>
      rw [hs] at hc
      obtain ⟨h2, _, ea⟩ := vwStep_some hc.symm
      obtain ⟨hk', er⟩ := hrest S' hs
      obtain ⟨hI', hR⟩ := hstep _ hI h2
      obtain ⟨i1, i2⟩ := ih S' hk' (ea ▸ hI')
      exact ⟨i1, ht i2 (er ▸ hR _ (by simp [restK, absK]))⟩

end

/-- a well-formed feature table (the invariant of C01) that does not yet contain `'@aire'`: every row has as many
entries as the dict has names, the column indices are below that number -/
structure FreshTable (T : Trk α) : Prop where
  fresh : findAF T.dico aireName = none
  rows : ∀ o ∈ T.pts, o.feats.length = T.dico.length
  idx : ∀ p ∈ T.dico, p.2 < T.dico.length

/-- the rows with a new last column holding `c i` for observation `i` -/
def colRows (c : Nat → Option α) (P : List (Ob α)) : List (Ob α) :=
  P.zipIdx.map (fun oi => ⟨oi.1.fix, oi.1.feats ++ [c oi.2]⟩)

/-- the rows when the loop starts: the new last column holds NaN for the first fix, `aire_visval` for the others -/
def initRows (P : List (Ob α)) : List (Ob α) := colRows (colOf (fixes P)) P

section
omit [Add α] [Sub α] [Mul α] [Div α] [Neg α] [LT α] [DecidableLT α] [BEq α] [OfNat α 0] [OfNat α 1] [OfNat α 2]

theorem colRows_getElem? (c : Nat → Option α) (P : List (Ob α)) (i : Nat) :
    (colRows c P)[i]? = (P[i]?).map (fun o => ⟨o.fix, o.feats ++ [c i]⟩) := by
  unfold colRows
  rw [List.getElem?_map, List.getElem?_zipIdx]
  cases P[i]? with
  | none => rfl
  | some o => simp

end

theorem findAF_eq_none {dico : List (String × Nat)} {name : String} :
    findAF dico name = none ↔ ∀ p ∈ dico, ¬ (p.1 == name) = true := by
  unfold findAF
  rw [Option.map_eq_none_iff, List.find?_eq_none]

theorem findAF_append_new (dico : List (String × Nat)) (name : String) (k : Nat) (h : findAF dico name = none) :
    findAF (dico ++ [(name, k)]) name = some k := by
  unfold findAF
  rw [List.find?_append, List.find?_eq_none.mpr (findAF_eq_none.mp h)]
  simp

theorem set_last {β : Type} (l : List β) (a b : β) (k : Nat) (h : l.length = k) : (l ++ [a]).set k b = l ++ [b] := by
  rw [List.set_append_right k b (by omega)]
  have : k - l.length = 0 := by omega
  rw [this]; rfl

theorem eraseIdx_last {β : Type} (l : List β) (a : β) (k : Nat) (h : l.length = k) : (l ++ [a]).eraseIdx k = l := by
  rw [List.eraseIdx_append_of_length_le (by omega)]
  have : k - l.length = 0 := by omega
  rw [this]; simp

section
omit [Add α] [Neg α] [BEq α]

/-- `addAnalyticalFeature(aire_visval, "@aire")` on a table that does not have the column: new last column -/
theorem addAire_fresh (T : Trk α) (hf : FreshTable T) (hne : T.pts ≠ []) :
    addAire T = .ok (colRows (aireVisval (fixes T.pts)) T.pts, T.dico ++ [(aireName, T.dico.length)], T.dico.length) := by
  unfold addAire colRows
  have hemp : T.pts.isEmpty = false := by
    cases hp : T.pts with
    | nil => exact absurd hp hne
    | cons _ _ => rfl
  simp only [hf.fresh, hemp, Bool.false_eq_true, ↓reduceIte, findAF_append_new _ _ _ hf.fresh]
  congr 2
  have hfx : fixes (T.pts.map (fun o => ({ o with feats := o.feats ++ [some 0] } : Ob α))) = fixes T.pts := by
    simp [fixes]
  rw [hfx]
  apply List.ext_getElem?
  intro i
  simp only [List.getElem?_map, List.getElem?_zipIdx]
  cases hi : T.pts[i]? with
  | none => rfl
  | some o =>
    have ho := hf.rows o (List.mem_of_getElem? hi)
    simp only [Option.map_some, Nat.zero_add, Ob.setFeat, set_last _ _ _ _ ho]

end

section
omit [Add α] [Sub α] [Mul α] [Div α] [Neg α] [LT α] [DecidableLT α] [BEq α] [OfNat α 0] [OfNat α 1] [OfNat α 2]

theorem removeCol_append_new (name : String) (k : Nat) (rows : List (Ob α)) (dico : List (String × Nat))
    (hf : findAF dico name = none) (hi : ∀ p ∈ dico, p.2 < k) :
    removeCol name k rows (dico ++ [(name, k)]) = (restK k rows, dico) := by
  unfold removeCol restK
  congr 1
  rw [List.filter_append, List.filter_eq_self.mpr fun p hp => by simpa using findAF_eq_none.mp hf p hp]
  simp only [List.filter_cons, List.filter_nil, BEq.rfl, Bool.not_true, Bool.false_eq_true, ↓reduceIte, List.append_nil]
  conv => rhs; rw [← List.map_id dico]
  exact List.map_congr_left fun p hp => by rw [if_neg (Nat.lt_asymm (hi p hp))]; rfl

theorem colRows_set_zero (c : Nat → Option α) (P : List (Ob α)) (k : Nat) (h : ∀ o ∈ P, o.feats.length = k) (v : Option α)
    (o : Ob α) (h0 : (colRows c P)[0]? = some o) :
    (colRows c P).set 0 (o.setFeat k v) = colRows (fun m => if m = 0 then v else c m) P := by
  apply List.ext_getElem?
  intro i
  have hl := (List.getElem?_eq_some_iff.mp h0).1
  rw [colRows_getElem?] at h0
  rw [List.getElem?_set, colRows_getElem?, colRows_getElem?]
  by_cases hi : 0 = i
  · subst hi
    rw [if_pos rfl, if_pos hl]
    cases hp : P[0]? with
    | none => rw [hp] at h0; cases h0
    | some o' =>
      rw [hp] at h0
      cases h0
      simp only [Option.map_some, Ob.setFeat, set_last _ _ _ _ (h o' (List.mem_of_getElem? hp)), if_true]
  · rw [if_neg hi, if_neg fun e => hi e.symm]

end

section
omit [Add α] [Neg α]

theorem vwTrk_fresh (big eps : α) (T : Trk α) (hf : FreshTable T) (hne : T.pts ≠ []) :
    vwTrk big eps T = .ok ⟨restK T.dico.length (vwLoopT big (eps * eps) T.dico.length T.pts.length (initRows T.pts)),
      T.info, T.dico⟩ := by
  unfold vwTrk
  rw [addAire_fresh T hf hne]
  simp only
  obtain ⟨o, h0⟩ : ∃ o, (colRows (aireVisval (fixes T.pts)) T.pts)[0]? = some o := by
    rw [colRows_getElem?]
    cases hp : (T.pts[0]?) with
    | none => exact absurd (List.length_eq_zero_iff.mp (Nat.le_zero.mp (List.getElem?_eq_none_iff.mp hp))) hne
    | some o => exact Exists.intro _ rfl
  rw [h0]
  simp only
  have e : colRows (fun m => if m = 0 then none else aireVisval (fixes T.pts) m) T.pts = initRows T.pts := rfl
  have hlen : (initRows T.pts).length = T.pts.length := by simp [initRows, colRows]
  rw [colRows_set_zero _ _ _ hf.rows none o h0, e, hlen, removeCol_append_new _ _ _ _ hf.fresh hf.idx]

end

section
omit [Add α] [Sub α] [Mul α] [Div α] [Neg α] [LT α] [DecidableLT α] [BEq α] [OfNat α 0] [OfNat α 1] [OfNat α 2]

theorem colAt_last (k : Nat) (f : Fix α) (feats : List (Option α)) (v : Option α) (h : feats.length = k) :
    colAt k (⟨f, feats ++ [v]⟩ : Ob α) = v := by
  unfold colAt
  simp only
  rw [List.getElem?_append_right (by omega)]
  have : k - feats.length = 0 := by omega
  rw [this]; rfl

end

section
omit [Add α] [Neg α] [BEq α]

theorem initRows_abs (k : Nat) (P : List (Ob α)) (h : ∀ o ∈ P, o.feats.length = k) :
    absK k (initRows P) = vwInit (fixes P) := by
  apply List.ext_getElem?
  intro i
  unfold absK
  rw [List.getElem?_map, initRows, colRows_getElem?, vwInit_getElem?_col, List.getElem?_map]
  cases hi : P[i]? with
  | none => rfl
  | some o =>
    simp only [Option.map_some, colAt_last k _ _ _ (h o (List.mem_of_getElem? hi))]

theorem initRows_rest (k : Nat) (P : List (Ob α)) (h : ∀ o ∈ P, o.feats.length = k) :
    restK k (initRows P) = P := by
  apply List.ext_getElem?
  intro i
  unfold restK
  rw [List.getElem?_map, initRows, colRows_getElem?]
  cases hi : P[i]? with
  | none => rfl
  | some o =>
    simp only [Option.map_some, eraseIdx_last _ _ _ (h o (List.mem_of_getElem? hi))]

theorem initRows_has (k : Nat) (P : List (Ob α)) (h : ∀ o ∈ P, o.feats.length = k) : HasK k (initRows P) := by
  intro o ho
  obtain ⟨i, hi⟩ := List.mem_iff_getElem?.mp ho
  rw [initRows, colRows_getElem?] at hi
  cases hp : P[i]? with
  | none => rw [hp] at hi; cases hi
  | some o' =>
    rw [hp] at hi
    simp only [Option.map_some, Option.some.injEq] at hi
    subst hi
    have := h o' (List.mem_of_getElem? hp)
    simp only [List.length_append, List.length_singleton]
    omega

end

section
omit [Add α] [Sub α] [Mul α] [Div α] [Neg α] [LT α] [DecidableLT α] [BEq α] [OfNat α 0] [OfNat α 1] [OfNat α 2]

theorem fixes_restK (k : Nat) (S : List (Ob α)) : fixes (restK k S) = fixes S := by
  simp [fixes, restK]

end

section
omit [Add α] [Neg α]

/-- Visvalingam on a `Track`, **no hypothesis on the areas**: the rows are followed through the loop (`vwLoopT_rows`) with the list-level
invariant `LastNaN` — ARGMIN never designates the last observation, so the last **observation** (feature row included) is kept -/
theorem vwTrk_any (big eps : α) (T : Trk α) (hf : FreshTable T) (hne : T.pts ≠ []) :
    ∃ O, vwTrk big eps T = .ok O ∧ fixes O.pts = visvalingam big eps (fixes T.pts) ∧ O.pts.Sublist T.pts ∧
      O.pts.getLast? = T.pts.getLast? ∧ (2 ≤ T.pts.length → 2 ≤ O.pts.length) ∧ O.dico = T.dico ∧ O.info = T.info := by
  have hv : LastNaN (absK T.dico.length (initRows T.pts)) := by
    rw [initRows_abs _ _ hf.rows]
    exact vwInit_lastNaN (fixes T.pts) (by rw [List.length_map]; exact List.length_pos_iff.mpr hne)
  obtain ⟨a, c, g, l⟩ := vwLoopT_rows big (eps * eps) T.dico.length LastNaN
    (fun a b => a.Sublist b ∧ a.getLast? = b.getLast? ∧ (2 ≤ b.length → 2 ≤ a.length))
    (fun _ => ⟨List.Sublist.refl _, rfl, id⟩)
    (fun h1 h2 => ⟨h1.1.trans h2.1, h1.2.1.trans h2.2.1, fun h => h1.2.2 (h2.2.2 h)⟩)
    (fun A h h2 => have h1 := argmin_not_last big A (by omega) h
      ⟨h.body h1, fun l hl => ⟨List.eraseIdx_sublist _ _, getLast?_eraseIdx_interior _ _ (by omega), fun _ =>
        Nat.le_trans (Nat.le_sub_one_of_lt (hl ▸ h2)) (List.le_length_eraseIdx _ _)⟩⟩)
    T.pts.length (initRows T.pts) (initRows_has _ _ hf.rows) hv
  rw [initRows_rest _ _ hf.rows] at c g l
  refine ⟨_, vwTrk_fresh big eps T hf hne, ?_, c, g, l, rfl, rfl⟩
  rw [fixes_restK, ← absK_map_fst T.dico.length, a, initRows_abs _ _ hf.rows, visvalingam, List.length_map]

/-- … and when no triangle area of the track is NaN the first **observation** is kept too -/
theorem vwTrk_ends_no_nan (big eps : α) (T O : Trk α) (hf : FreshTable T) (h2 : 2 ≤ T.pts.length)
    (hnum : ∀ a b c, a ∈ fixes T.pts → b ∈ fixes T.pts → c ∈ fixes T.pts →
      areaFix a b c < big ∨ (areaFix a b c == big) = true)
    (h : vwTrk big eps T = .ok O) :
    O.pts.head? = T.pts.head? ∧ O.pts.getLast? = T.pts.getLast? := by
  have hne : T.pts ≠ [] := by intro e; rw [e] at h2; cases h2
  refine ⟨?_, by obtain ⟨O', h', _, _, l, _⟩ := vwTrk_any big eps T hf hne; cases h.symm.trans h'; exact l⟩
  rw [vwTrk_fresh big eps T hf hne] at h
  cases h
  -- the list-level state stays the initial column of the positions left (`vwInit_pass`): ARGMIN's answer is interior
  have := (vwLoopT_rows big (eps * eps) T.dico.length
    (fun A => ∃ K, A = vwInit K ∧ NumAreas big K) (fun a b => a.head? = b.head?) (fun _ => rfl) Eq.trans
    (fun A h hl => by
      obtain ⟨K, rfl, hn⟩ := h
      obtain ⟨h0, _, e, _, hn'⟩ := vwInit_pass hn (by rwa [vwInit_length] at hl) (argmin_mem_tieIds big _)
      exact ⟨⟨_, e, hn'⟩, fun l _ => head?_eraseIdx_pos _ _ h0⟩)
    T.pts.length (initRows T.pts) (initRows_has _ _ hf.rows) ⟨_, initRows_abs _ _ hf.rows, hnum⟩).2
  rwa [initRows_rest _ _ hf.rows] at this

end

section
omit [Neg α]

/-- `simplifyN` returns exactly when `simplify` does on the same track without the attribute, with the same observations; the
attribute of the result is the input's after Visvalingam and `None` otherwise -/
theorem simplifyN_ok (sqrt : α → α) (big : α) (T : TrkN α) (tol : α) (mode : Int) (O : TrkN α) :
    simplifyN sqrt big T tol mode = .ok O ↔
      simplify sqrt big T.trk tol mode = .ok O.trk ∧
        O.nodata = if dispatch mode = .visvalingam then T.nodata else none := by
  unfold simplifyN
  cases simplify sqrt big T.trk tol mode with
  | error e => exact ⟨fun h => (by cases h), fun h => (by cases h.1)⟩
  | ok O1 =>
    obtain ⟨t, n⟩ := O
    exact ⟨fun h => (by cases h; exact ⟨rfl, rfl⟩), fun ⟨h1, h2⟩ => (by cases h1; cases h2; rfl)⟩

theorem simplifyN_error (sqrt : α → α) (big : α) (T : TrkN α) (tol : α) (mode : Int) (e : String) :
    simplifyN sqrt big T tol mode = .error e ↔ simplify sqrt big T.trk tol mode = .error e := by
  unfold simplifyN
  cases simplify sqrt big T.trk tol mode <;> simp

end

end TV.Simplify
