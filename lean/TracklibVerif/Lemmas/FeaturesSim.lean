import TracklibVerif.Lemmas.FeaturesGSim
/-! Simulation relation between the concrete table (`St`: dict + rows) and the specification table
(`ATab`: name ↦ column): the instance `I = Inv n`, `ab = abs` of `GSim`. -/
namespace TV.Features
variable {V : Type} [Inhabited V]

def names (st : St V) : List String := st.dico.map Prod.fst

/-- The table is aligned: the dict is the enumeration of its names, names are distinct, every
observation carries exactly one value per listed name; the track has `n` observations. -/
structure Inv (n : Nat) (st : St V) : Prop where
  enum : st.dico = (names st).zipIdx 0
  nodup : (names st).Nodup
  rows : ∀ r ∈ st.rows, r.length = st.dico.length
  size : st.rows.length = n
  xs : st.xs.length = n
  ys : st.ys.length = n
  zs : st.zs.length = n
  ts : st.ts.length = n

def colAt (rows : List (List V)) (i : Nat) : List V := rows.map (fun r => r.getD i default)

/-- abstraction: forget the indices -/
def abs (st : St V) : ATab V :=
  { cols := st.dico.map (fun p => (p.1, colAt st.rows p.2)), xs := st.xs, ys := st.ys, zs := st.zs, ts := st.ts }

abbrev Sim {α : Type} (n : Nat) (P : α → Prop) (m : M (St V) α) (ma : M (ATab V) α) : Prop :=
  GSim (Inv n) abs P m ma

theorem sim_forEach {α : Type} {n : Nat} (l : List α) {f : α → M (St V) Unit} {fa : α → M (ATab V) Unit}
    (h : ∀ a, a ∈ l → Sim n (fun _ => True) (f a) (fa a)) :
    Sim n (fun _ => True) (M.forEach l f) (M.forEach l fa) :=
  gsim_iff.2 (rel_forEach l (fun a ha => gsim_iff.1 (h a ha)))

end TV.Features
