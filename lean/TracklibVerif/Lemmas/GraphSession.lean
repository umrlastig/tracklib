import TracklibVerif.Lemmas.GraphPath
import TracklibVerif.Model.GraphSession
import TracklibVerif.Model.GraphShared
/-! Lemmas for C06 about one `Network` object used for a sequence of calls (`Model/GraphSession.lean`):
`__resetFlags` makes every search start from the clean labelling whatever the earlier calls left, so every call
answers with the pure functions of `Model/Graph.lean` applied to the graph as it is at that moment. -/
namespace TV.Graph
section flags
variable {W : Type}

/-- the flags of the `Node` objects as one network sees them: `a` on the nodes of its `NODES`, `b` on all others -/
def overlay (order : List Nat) (a b : St W) : St W :=
  { d := fun v => if v ∈ order then a.d v else b.d v,
    vis := fun v => if v ∈ order then a.vis v else b.vis v,
    pred := fun v => if v ∈ order then a.pred v else b.pred v }

theorem ite_mem_cons {α : Type} (r : List Nat) (v z : Nat) (c x : α) :
    (if z ∈ r then c else if z = v then c else x) = if z ∈ v :: r then c else x := by
  by_cases hr : z ∈ r
  · rw [if_pos hr, if_pos (List.mem_cons_of_mem _ hr)]
  · by_cases hv : z = v
    · rw [if_neg hr, if_pos hv, if_pos (hv ▸ List.mem_cons_self)]
    · rw [if_neg hr, if_neg hv, if_neg (fun h => (List.mem_cons.1 h).elim hv hr)]

theorem resetFlags_eq (order : List Nat) (st : St W) : resetFlags order st = overlay order St.clean st := by
  induction order generalizing st with
  | nil => rfl
  | cons v r ih =>
    refine (ih (resetOne st v)).trans ?_
    simp only [overlay, resetOne, St.clean, ite_mem_cons]

/-- the flags of ids that are not (yet) nodes of the network: no such `Node` object has been labelled -/
def CleanOutside (order : List Nat) (st : St W) : Prop :=
  ∀ v, v ∉ order → st.d v = none ∧ st.vis v = false ∧ st.pred v = none

theorem overlay_clean {order : List Nat} {st : St W} (h : CleanOutside order st) : overlay order St.clean st = St.clean := by
  have e : ∀ {α : Type} (f : Nat → α) (c : α), (∀ v, v ∉ order → f v = c) →
      (fun v => if v ∈ order then c else f v) = fun _ => c :=
    fun f c hf => funext fun v => by
      by_cases hv : v ∈ order
      · exact if_pos hv
      · exact (if_neg hv).trans (hf v hv)
  unfold overlay St.clean
  rw [e st.d none fun v hv => (h v hv).1, e st.vis false fun v hv => (h v hv).2.1, e st.pred none fun v hv => (h v hv).2.2]

theorem mem_addNodeTo (o : List Nat) (v z : Nat) : z ∈ addNodeTo o v ↔ (z ∈ o ∨ z = v) := by
  unfold addNodeTo
  split
  · rename_i h
    have hv : v ∈ o := by simpa using h
    constructor
    · intro hz; exact Or.inl hz
    · rintro (hz | hz)
      · exact hz
      · rw [hz]; exact hv
  · simp

theorem other_mem_of_next {net : Net W} {order : List Nat} (hends : ∀ e ∈ net.edges, e.src ∈ order ∧ e.tgt ∈ order)
    {u : Nat} {e : Edge W} (he : e ∈ nextEdges net u) : other e u ∈ order := by
  have hm := hends e (mem_nextEdges.1 he).1
  unfold other
  split
  · exact hm.1
  · exact hm.2

variable [Zero W]

theorem start_clean (order : List Nat) (st : St W) (s : Nat) (h : CleanOutside order st) :
    startFlags order st s = St.init s := by
  unfold startFlags
  rw [resetFlags_eq, overlay_clean h]
  rfl

theorem init_clean {order : List Nat} {s : Nat} (hs : s ∈ order) : CleanOutside order (St.init s : St W) :=
  fun v hv => ⟨if_neg (fun e : v = s => hv (e ▸ hs)), rfl, rfl⟩

end flags

section
variable {W : Type} [LinearOrder W] [Add W] [Zero W] [WalkAdd W]

structure SessOK (σ : Sess W) : Prop where
  wf : WFNet σ.net
  nodes : ∀ v ∈ σ.order, v < σ.net.n
  ends : ∀ e ∈ σ.net.edges, e.src ∈ σ.order ∧ e.tgt ∈ σ.order
  clean : CleanOutside σ.order σ.flags

end

section
variable {W : Type} [LinearOrder W] [Zero W]

theorem execG_cases (R : Router W) (σ : Sess W) (op : Op W) :
    (execG R σ op).1 = σ ∨
    (∃ v, v < σ.net.n ∧ (execG R σ op).1 = { σ with order := addNodeTo σ.order v }) ∨
    (∃ e, (e.src < σ.net.n ∧ e.tgt < σ.net.n ∧ ¬ e.w < 0) ∧
      (execG R σ op).1 = { σ with net := { σ.net with edges := σ.net.edges ++ [e] },
                                  order := addNodeTo (addNodeTo σ.order e.src) e.tgt }) ∨
    (∃ s t cut, ∃ ud : Bool, s ∈ σ.order ∧
      (execG R σ op).1 = { σ with flags := (R σ.net σ.order σ.flags s t cut).1,
                                  udict := if ud then record σ.udict s (R σ.net σ.order σ.flags s t cut).2 else σ.udict }) ∨
    (∃ cut, ∃ ud : Bool, (execG R σ op).1 =
      { σ with flags := (allOnG R σ.net σ.order cut (σ.flags, if ud then σ.udict else Table.empty)).1,
               udict := if ud then (allOnG R σ.net σ.order cut (σ.flags, if ud then σ.udict else Table.empty)).2
                        else σ.udict }) ∨
    (∃ cut, (execG R σ op).1 =
      { σ with flags := (allOnG R σ.net σ.order cut (σ.flags, σ.prep.getD Table.empty)).1,
               prep := some (allOnG R σ.net σ.order cut (σ.flags, σ.prep.getD Table.empty)).2 }) := by
  have mem : ∀ {s : Nat} {b : Bool}, (σ.order.contains s && b) = true → s ∈ σ.order :=
    fun h => List.contains_iff_mem.1 (Bool.and_eq_true_iff.1 h).1
  fun_cases execG R σ op
  case case1 v hv => exact Or.inr (Or.inl ⟨v, hv, rfl⟩)
  case case3 e hg =>
    simp only [Bool.and_eq_true, decide_eq_true_eq, Bool.not_eq_true', decide_eq_false_iff_not] at hg
    exact Or.inr (Or.inr (Or.inl ⟨e, ⟨hg.1.1.1, hg.1.1.2, hg.1.2⟩, rfl⟩))
  case case5 s t cut ud hc _ => exact Or.inr (Or.inr (Or.inr (Or.inl ⟨s, t, cut, ud, mem hc, rfl⟩)))
  case case7 s t cut ud hc _ => exact Or.inr (Or.inr (Or.inr (Or.inl ⟨s, some t, cut, ud, mem hc, rfl⟩)))
  case case9 s cut ud hc _ => exact Or.inr (Or.inr (Or.inr (Or.inl ⟨s, none, cut, ud, List.contains_iff_mem.1 hc, rfl⟩)))
  case case11 cut ud _ => exact Or.inr (Or.inr (Or.inr (Or.inr (Or.inl ⟨cut, ud, rfl⟩))))
  case case12 cut _ => exact Or.inr (Or.inr (Or.inr (Or.inr (Or.inr ⟨cut, rfl⟩))))
  case case17 s cut hc _ _ => exact Or.inr (Or.inr (Or.inr (Or.inl ⟨s, none, cut, false, List.contains_iff_mem.1 hc, rfl⟩)))
  -- a refused call, and the calls that only read `DISTANCES`
  all_goals exact Or.inl rfl

theorem new_ok (n : Nat) : SessOK (Sess.new n : Sess W) := by
  refine ⟨?_, ?_, ?_, ?_⟩
  · intro e he; simp [Sess.new] at he
  · intro v hv; simp [Sess.new] at hv
  · intro e he; simp [Sess.new] at he
  · intro v _; simp [Sess.new, St.clean]

end

variable {W : Type} [LinearOrder W] [Add W]

theorem settle_clean {net : Net W} {order : List Nat} (hends : ∀ e ∈ net.edges, e.src ∈ order ∧ e.tgt ∈ order)
    {st : St W} (h : CleanOutside order st) {u : Nat} {du : W} (hud : st.d u = some du) :
    CleanOutside order (settle net st u du) := by
  intro v hv
  have hvu : v ≠ u := fun e => by rw [← e, (h v hv).1] at hud; cases hud
  rcases settle_at net st u du v with ⟨hd, hp⟩ | ⟨_, _, e, he, ho, _⟩
  · exact ⟨hd.trans (h v hv).1, by rw [(settle_spec net st u du).1 v, if_neg hvu]; exact (h v hv).2.1, hp.trans (h v hv).2.2⟩
  · exact absurd (ho ▸ other_mem_of_next hends he) hv

variable [Zero W]

theorem loopG_clean {net : Net W} {order : List Nat} (hends : ∀ e ∈ net.edges, e.src ∈ order ∧ e.tgt ∈ order)
    (pop : St W → Option (Nat × W)) (hpop : ∀ st u du, pop st = some (u, du) → st.d u = some du) (tg : Option Nat)
    (cut : Option W) (f : Nat) {s : Nat} (hs : s ∈ order) :
    CleanOutside order (loopG pop (settle net) tg cut f (St.init s) []).1 :=
  loopG_preserves _ _ (CleanOutside order) (fun st u du hc hp => settle_clean hends hc (hpop st u du hp)) tg cut f _ _
    (init_clean hs)

theorem routeOn_eq (net : Net W) (order : List Nat) (hends : ∀ e ∈ net.edges, e.src ∈ order ∧ e.tgt ∈ order) (st : St W)
    (hclean : CleanOutside order st) (s : Nat) (hs : s ∈ order) (tgt : Option Nat) (cut : Option W) :
    routeOn net order st s tgt cut = runForward net s tgt cut ∧
    CleanOutside order (runForward net s tgt cut).1 := by
  refine ⟨by unfold routeOn runForward; rw [start_clean order st s hclean], ?_⟩
  unfold runForward
  rw [forward_eq_loopG]
  exact loopG_clean hends _ (fun st u du hp => (popMin_facts hp).2.2.1) tgt cut net.n hs

theorem allOn_eq (net : Net W) (order : List Nat) (hends : ∀ e ∈ net.edges, e.src ∈ order ∧ e.tgt ∈ order) (cut : Option W)
    (st : St W) (tb : Table W) (hclean : CleanOutside order st) :
    (allOn net order cut (st, tb)).2 = allShortestDistances net order cut tb ∧
    CleanOutside order (allOn net order cut (st, tb)).1 := by
  unfold allOn allShortestDistances
  have key : ∀ (l : List Nat), (∀ s ∈ l, s ∈ order) → ∀ (st : St W) (tb : Table W), CleanOutside order st →
      (l.foldl (fun x s => let r := routeOn net order x.1 s none cut; (r.1, record x.2 s r.2)) (st, tb)).2 =
        l.foldl (fun tb s => record tb s (runForward net s none cut).2) tb ∧
      CleanOutside order
        (l.foldl (fun x s => let r := routeOn net order x.1 s none cut; (r.1, record x.2 s r.2)) (st, tb)).1 := by
    intro l
    induction l with
    | nil => intro _ st tb h; exact ⟨rfl, h⟩
    | cons s0 r ih =>
      intro hl st tb h
      simp only [List.foldl_cons]
      obtain ⟨e1, e2⟩ := routeOn_eq net order hends st h s0 (hl s0 List.mem_cons_self) none cut
      rw [e1]
      exact ih (fun s hs => hl s (List.mem_cons_of_mem _ hs)) _ _ e2
  exact key order (fun s hs => hs) st tb hclean

theorem exec_eq_execG (σ : Sess W) (op : Op W) : exec σ op = execG routeOn σ op := by
  cases op <;> rfl

theorem exec_ok (σ : Sess W) (h : SessOK σ) (op : Op W) : SessOK (exec σ op).1 := by
  rw [exec_eq_execG]
  rcases execG_cases routeOn σ op with e | ⟨v, hv, e⟩ | ⟨e', ⟨h1, h2, h3⟩, e⟩ | ⟨s, t, cut, ud, hs, e⟩ | ⟨cut, ud, e⟩ | ⟨cut, e⟩
  · rw [e]; exact h
  · rw [e]
    refine ⟨h.wf, fun z hz => ?_, fun e he => ?_, fun z hz => ?_⟩
    · rcases (mem_addNodeTo _ _ _).1 hz with hz | rfl
      · exact h.nodes z hz
      · exact hv
    · exact ⟨(mem_addNodeTo _ _ _).2 (Or.inl (h.ends e he).1), (mem_addNodeTo _ _ _).2 (Or.inl (h.ends e he).2)⟩
    · exact h.clean z (fun hz' => hz ((mem_addNodeTo _ _ _).2 (Or.inl hz')))
  · rw [e]
    refine ⟨fun a ha => ?_, fun z hz => ?_, fun a ha => ?_, fun z hz => ?_⟩
    · rcases List.mem_append.1 ha with ha | ha
      · exact h.wf a ha
      · rw [List.mem_singleton.1 ha]; exact ⟨h1, h2, not_lt.mp h3⟩
    · simp only [mem_addNodeTo] at hz
      rcases hz with (hz | rfl) | rfl
      · exact h.nodes z hz
      · exact h1
      · exact h2
    · simp only [mem_addNodeTo]
      rcases List.mem_append.1 ha with ha | ha
      · exact ⟨Or.inl (Or.inl (h.ends a ha).1), Or.inl (Or.inl (h.ends a ha).2)⟩
      · rw [List.mem_singleton.1 ha]; exact ⟨Or.inl (Or.inr rfl), Or.inr rfl⟩
    · simp only [mem_addNodeTo, not_or] at hz
      exact h.clean z hz.1.1
  · rw [e]
    obtain ⟨e1, e2⟩ := routeOn_eq σ.net σ.order h.ends σ.flags h.clean s hs t cut
    exact ⟨h.wf, h.nodes, h.ends, by rw [e1]; exact e2⟩
  · rw [e]; exact ⟨h.wf, h.nodes, h.ends, (allOn_eq σ.net σ.order h.ends cut σ.flags _ h.clean).2⟩
  · rw [e]; exact ⟨h.wf, h.nodes, h.ends, (allOn_eq σ.net σ.order h.ends cut σ.flags _ h.clean).2⟩

theorem stateAfter_ok (σ : Sess W) (h : SessOK σ) (ops : List (Op W)) : SessOK (stateAfter σ ops) := by
  induction ops generalizing σ with
  | nil => exact h
  | cons op rest ih => exact ih _ (exec_ok σ h op)
end TV.Graph
