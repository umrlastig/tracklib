import TracklibVerif.Lemmas.ExprStr
import TracklibVerif.Lemmas.ExprRpn
/-! # What the user types: surface syntax, its printed strings, and which character may follow which

`Sx` (calls `f{…}`, unary minus `(-…)`, explicit parentheses), `desugar`, the parser tree `toE'`, the printer `pr` (parametrised
by the call brackets and the unary-minus prefix, so that the source string, the intermediate strings of the rewriting chain and
the rewritten string are instances); the adjacency invariant `okp` / `Inv` of printed strings, and the hypotheses `SrcOK` under
which every printed string has it (`pr_inv`). -/
namespace TV.Expr
open TV.Rpn

inductive Sx where
  | num (s : Str)
  | var (s : Str)
  | bin (o : Char) (l r : Sx)
  | call (f : Str) (e : Sx)
  | neg (e : Sx)
  | par (e : Sx)

def desugar : Sx → Ex
  | .num s => .num s
  | .var s => .var s
  | .bin o l r => .bin o (desugar l) (desugar r)
  | .call f e => .call f (desugar e)
  | .neg e => .bin '-' (.num ['0']) (desugar e)
  | .par e => desugar e

def toE' : Sx → E
  | .num s => .atom (String.ofList s)
  | .var s => .atom (String.ofList s)
  | .bin o l r => .bin o (toE' l) (toE' r)
  | .call f e => .bin '@' (.atom (String.ofList f)) (.par (toE' e))
  | .neg e => .par (.bin '-' (.atom (String.ofList ['0'])) (toE' e))
  | .par e => .par (toE' e)

/-- precedence level of the root, as `Rpn.lv pyLvl 9 (toE' e)` -/
def slv : Sx → Nat
  | .num _ => 9
  | .var _ => 9
  | .bin o _ _ => pyLvl o
  | .call _ _ => 7
  | .neg _ => 9
  | .par _ => 9

def wrapS (b : Bool) (s : Str) : Str := if b then '(' :: (s ++ [')']) else s

/-- the printer: minimal parentheses; a call is `f lb … rb`, a unary minus is `ng … )` -/
def pr (lb rb ng : Str) : Sx → Str
  | .num s => s
  | .var s => s
  | .bin o l r => wrapS (decide (slv l < pyLvl o)) (pr lb rb ng l) ++ o :: wrapS (decide (slv r ≤ pyLvl o)) (pr lb rb ng r)
  | .call f e => f ++ (lb ++ (pr lb rb ng e ++ rb))
  | .neg e => ng ++ (wrapS (decide (slv e ≤ 2)) (pr lb rb ng e) ++ [')'])
  | .par e => '(' :: (pr lb rb ng e ++ [')'])

/-- the SOURCE string: calls `f{…}`, unary minus `(-…)` -/
def src (e : Sx) : Str := pr ['{'] ['}'] ['(', '-'] e
/-- the REWRITTEN string: calls `f@(…)`, unary minus `(0-…)` -/
def tgt (e : Sx) : Str := pr ['@', '('] [')'] ['(', '0', '-'] e

theorem lv_toE' (e : Sx) : lv pyLvl 9 (toE' e) = slv e := by
  cases e <;> simp [toE', lv, slv] <;> decide

theorem flat_wrap (b : Bool) (ts : List Tok) : flat (wrap b ts) = wrapS b (flat ts) := by
  cases b <;> simp [wrap, wrapS, flat, flat_append]

theorem tgt_eq (e : Sx) : tgt e = flat (shw pyLvl 9 (toE' e)) := by
  unfold tgt
  induction e with
  | num s => simp [pr, toE', shw, flat]
  | var s => simp [pr, toE', shw, flat]
  | bin o l r ihl ihr => simp only [pr, toE', shw, flat_append, flat, flat_wrap, lv_toE', ihl, ihr]
  | call f e ih =>
    simp only [pr, toE', shw, ih]
    simp only [lv, show pyLvl '@' = 7 by decide, wrap, flat_append, flat]
    simp [flat, flat_append]
  | neg e ih =>
    simp only [pr, toE', shw, lv_toE', ih]
    simp only [lv, show pyLvl '-' = 2 by decide, flat_wrap, flat_append, flat]
    simp [wrapS]
  | par e ih => simp only [pr, toE', shw, flat_append, flat, ih]

theorem post_toE' (e : Sx) : (Rpn.post (toE' e)).map String.toList = Expr.post (desugar e) := by
  induction e with
  | num s => simp [toE', desugar, Rpn.post, Expr.post]
  | var s => simp [toE', desugar, Rpn.post, Expr.post]
  | bin o l r ihl ihr => simp [toE', desugar, Rpn.post, Expr.post, ihl, ihr]
  | call f e ih => simp [toE', desugar, Rpn.post, Expr.post, ih]
  | neg e ih => simp [toE', desugar, Rpn.post, Expr.post, ih]
  | par e ih => simp [toE', desugar, Rpn.post, ih]

inductive Cls where
  | A | O | L | R | LB | RB
  deriving DecidableEq

def cls (c : Char) : Cls :=
  if c = '(' then .L else if c = ')' then .R else if c = '{' then .LB else if c = '}' then .RB
  else if pyLvl c < 9 then .O else .A

def okp (a b : Char) : Bool :=
  match cls a, cls b with
  | .A, .A => true
  | .A, .O => !(a == '.' && b == '*')
  | .A, .R => true
  | .A, .RB => true
  | .A, .LB => true
  | .O, .A => true
  | .O, .L => true
  | .L, .A => true
  | .L, .L => true
  | .L, .O => b == '-'
  | .R, .O => true
  | .R, .R => true
  | .R, .RB => true
  | .LB, .A => true
  | .LB, .L => true
  | .RB, .O => true
  | .RB, .R => true
  | .RB, .RB => true
  | _, _ => false

def startC (c : Char) : Prop := cls c = .A ∨ cls c = .L
def endC (c : Char) : Prop := (cls c = .A ∧ c ≠ '.') ∨ cls c = .R ∨ cls c = .RB

theorem cls_op {o : Char} (h : pyLvl o < 9) : cls o = .O := by
  have h1 : o ≠ '(' := by intro e; subst e; revert h; decide
  have h2 : o ≠ ')' := by intro e; subst e; revert h; decide
  have h3 : o ≠ '{' := by intro e; subst e; revert h; decide
  have h4 : o ≠ '}' := by intro e; subst e; revert h; decide
  simp [cls, h1, h2, h3, h4, h]

theorem okp_op_start {o y : Char} (ho : cls o = .O) (hy : startC y) : okp o y = true := by
  rcases hy with hy | hy <;> simp [okp, ho, hy]

theorem okp_end_op {x o : Char} (hx : endC x) (ho : cls o = .O) : okp x o = true := by
  rcases hx with ⟨hx, hd⟩ | hx | hx
  · simp [okp, ho, hx, hd]
  · simp [okp, ho, hx]
  · simp [okp, ho, hx]

theorem okp_lp_start {y : Char} (hy : startC y) : okp '(' y = true := by
  have : cls '(' = .L := by decide
  rcases hy with hy | hy <;> simp [okp, this, hy]

theorem okp_end_rp {x : Char} (hx : endC x) : okp x ')' = true := by
  have : cls ')' = .R := by decide
  rcases hx with ⟨hx, _⟩ | hx | hx <;> simp [okp, this, hx]

theorem okp_end_rb {x : Char} (hx : endC x) : okp x '}' = true := by
  have : cls '}' = .RB := by decide
  rcases hx with ⟨hx, _⟩ | hx | hx <;> simp [okp, this, hx]

theorem okp_A_lb {x : Char} (hx : cls x = .A) : okp x '{' = true := by
  have : cls '{' = .LB := by decide
  simp [okp, this, hx]

/-- `.*` is a pattern of `__specialOpChar` -/
theorem okp_A_op {x o : Char} (hx : cls x = .A) (ho : cls o = .O) (hs : o ≠ '*') : okp x o = true := by
  simp [okp, ho, hx, hs]

theorem okp_lb_start {y : Char} (hy : startC y) : okp '{' y = true := by
  have : cls '{' = .LB := by decide
  rcases hy with hy | hy <;> simp [okp, this, hy]

theorem okp_A_A {x y : Char} (hx : cls x = .A) (hy : cls y = .A) : okp x y = true := by
  simp [okp, hx, hy]

theorem startC_ne {c : Char} (h : startC c) : c ≠ '-' ∧ c ≠ '+' := by
  constructor <;> (intro e; subst e; rcases h with h | h <;> revert h <;> decide)

theorem endC_ne {c : Char} (h : endC c) : c ≠ '(' := by
  intro e; subst e
  rcases h with ⟨h, _⟩ | h | h <;> revert h <;> decide

def Seg (s : Str) (a z : Char) : Prop := chn okp s = true ∧ s.head? = some a ∧ s.getLast? = some z

theorem Seg.one (c : Char) : Seg [c] c c := ⟨rfl, rfl, rfl⟩

theorem Seg.append {s t : Str} {a z a' z' : Char} (hs : Seg s a z) (ht : Seg t a' z') (h : okp z a' = true) :
    Seg (s ++ t) a z' := by
  obtain ⟨h1, h2, h3⟩ := hs
  obtain ⟨k1, k2, k3⟩ := ht
  refine ⟨?_, ?_, ?_⟩
  · rw [chn_append, h1, k1]; simp [junc, h3, k2, h]
  · simp [List.head?_append, h2]
  · simp [List.getLast?_append, k3]

theorem Seg.cons {t : Str} {c a' z' : Char} (ht : Seg t a' z') (h : okp c a' = true) : Seg (c :: t) c z' :=
  Seg.append (Seg.one c) ht h

theorem Seg.snoc {s : Str} {a z c : Char} (hs : Seg s a z) (h : okp z c = true) : Seg (s ++ [c]) a c :=
  Seg.append hs (Seg.one c) h

theorem seg_atom : ∀ (s : Str), s ≠ [] → (∀ c ∈ s, cls c = .A) → ∃ a z, Seg s a z ∧ cls a = .A ∧ cls z = .A
  | [], h, _ => absurd rfl h
  | [c], _, h => ⟨c, c, Seg.one c, h c (by simp), h c (by simp)⟩
  | c :: d :: r, _, h => by
    obtain ⟨a, z, hseg, ha, hz⟩ := seg_atom (d :: r) (by simp) (fun x hx => h x (List.mem_cons_of_mem _ hx))
    have had : a = d := by have := hseg.2.1; simpa using this.symm
    subst had
    exact ⟨c, z, Seg.cons hseg (okp_A_A (h c (by simp)) ha), h c (by simp), hz⟩

def Inv (s : Str) : Prop := ∃ a z, Seg s a z ∧ startC a ∧ endC z

theorem Inv.chn {s : Str} (h : Inv s) : chn okp s = true := by
  obtain ⟨_, _, h, _, _⟩ := h; exact h.1

theorem Inv.head {s : Str} (h : Inv s) : ∃ c, s.head? = some c ∧ c ≠ '-' ∧ c ≠ '+' := by
  obtain ⟨a, _, h, ha, _⟩ := h; exact ⟨a, h.2.1, startC_ne ha⟩

theorem Inv.head_ne {s : Str} (h : Inv s) : s.head? ≠ some '-' := by
  obtain ⟨c, hc, h1, _⟩ := h.head
  rw [hc]; intro e; exact h1 (Option.some.inj e)

theorem Inv.last_ne {s : Str} (h : Inv s) : s.getLast? ≠ some '(' := by
  obtain ⟨_, z, h, _, hz⟩ := h
  rw [h.2.2]; intro e; exact endC_ne hz (Option.some.inj e)

theorem Inv.paren {s : Str} (h : Inv s) : Inv ('(' :: (s ++ [')'])) := by
  obtain ⟨a, z, hs, ha, hz⟩ := h
  exact ⟨'(', ')', Seg.cons (Seg.snoc hs (okp_end_rp hz)) (okp_lp_start ha), Or.inr (by decide), Or.inr (Or.inl (by decide))⟩

theorem Inv.wrap {s : Str} (b : Bool) (h : Inv s) : Inv (wrapS b s) := by
  cases b with
  | false => exact h
  | true => exact h.paren

theorem Inv.bin {s t : Str} {o : Char} (hs : Inv s) (ht : Inv t) (ho : pyLvl o < 9) : Inv (s ++ o :: t) := by
  obtain ⟨a, z, hs, ha, hz⟩ := hs
  obtain ⟨a', z', ht, ha', hz'⟩ := ht
  exact ⟨a, z', Seg.append hs (Seg.cons ht (okp_op_start (cls_op ho) ha')) (okp_end_op hz (cls_op ho)), ha, hz'⟩

end TV.Expr

namespace TV.Expr
open TV.Rpn

/-- a character of a name or number: no parenthesis, no operator character of `makeRPN`'s table, no white
    space (`special`), and no brace -/
def achar (c : Char) : Bool := !special c && c != '{' && c != '}'

def NameOK (s : Str) : Prop := s ≠ [] ∧ ∀ c ∈ s, achar c = true

theorem achar_special {c : Char} (h : achar c = true) : special c = false := by
  simp only [achar, Bool.and_eq_true, Bool.not_eq_true', bne_iff_ne] at h
  exact h.1.1

theorem achar_ne_braces {c : Char} (h : achar c = true) : c ≠ '{' ∧ c ≠ '}' := by
  simp only [achar, Bool.and_eq_true, Bool.not_eq_true', bne_iff_ne] at h
  exact ⟨h.1.2, h.2⟩

theorem achar_facts {c : Char} (h : achar c = true) : c ≠ '(' ∧ c ≠ ')' ∧ ¬ pyLvl c < 9 ∧ isWs c = false := by
  have := achar_special h
  simp only [special, Bool.or_eq_false_iff, beq_eq_false_iff_ne, ne_eq, decide_eq_false_iff_not] at this
  exact ⟨this.1.1.1, this.1.1.2, this.1.2, this.2⟩

theorem cls_achar {c : Char} (h : achar c = true) : cls c = .A := by
  obtain ⟨h1, h2, h3, _⟩ := achar_facts h
  obtain ⟨h4, h5⟩ := achar_ne_braces h
  simp [cls, h1, h2, h3, h4, h5]

theorem NameOK.atomOK {s : Str} (h : NameOK s) : AtomOK (String.ofList s) := by
  refine ⟨by simpa using h.1, ?_⟩
  intro c hc
  exact achar_special (h.2 c (by simpa using hc))

/-- the hypotheses on a surface tree: names, numbers and function names are non-empty and made of plain
    characters; no name or number ends with `.`; operators are characters of `makeRPN`'s table other than `=` -/
def SrcOK : Sx → Prop
  | .num s => NameOK s ∧ s.getLast? ≠ some '.'
  | .var s => NameOK s ∧ s.getLast? ≠ some '.'
  | .bin o l r => (pyLvl o < 9 ∧ o ≠ '=') ∧ SrcOK l ∧ SrcOK r
  | .call f e => NameOK f ∧ SrcOK e
  | .neg e => SrcOK e
  | .par e => SrcOK e

theorem wf_toE' (e : Sx) (h : SrcOK e) : Rpn.WF pyLvl 9 (toE' e) := by
  induction e with
  | num s => trivial
  | var s => trivial
  | bin o l r ihl ihr => exact ⟨h.1.1, ihl h.2.1, ihr h.2.2⟩
  | call f e ih => exact ⟨by decide, trivial, ih h.2⟩
  | neg e ih => exact ⟨by decide, trivial, ih h⟩
  | par e ih => exact ih h

theorem wf_desugar (e : Sx) (h : SrcOK e) : Rpn.WF pyLvl 9 (toE (desugar e)) := by
  induction e with
  | num s => trivial
  | var s => trivial
  | bin o l r ihl ihr => exact ⟨h.1.1, ihl h.2.1, ihr h.2.2⟩
  | call f e ih => exact ⟨by decide, trivial, ih h.2⟩
  | neg e ih => exact ⟨by decide, trivial, ih h⟩
  | par e ih => exact ih h

theorem atomsOK_toE' (e : Sx) (h : SrcOK e) : AtomsOK (toE' e) := by
  induction e with
  | num s => exact h.1.atomOK
  | var s => exact h.1.atomOK
  | bin o l r ihl ihr => exact ⟨ihl h.2.1, ihr h.2.2⟩
  | call f e ih => exact ⟨h.1.atomOK, ih h.2⟩
  | neg e ih =>
    refine ⟨?_, ih h⟩
    refine ⟨by simp, ?_⟩
    intro c hc
    simp only [String.toList_ofList, List.mem_singleton] at hc
    subst hc; decide
  | par e ih => exact ih h

def LbOK (lb : Str) : Prop := lb = ['{'] ∨ lb = ['@', '(']
def RbOK (rb : Str) : Prop := rb = ['}'] ∨ rb = [')']
def NgOK (ng : Str) : Prop := ng = ['(', '-'] ∨ ng = ['(', '0', '-']

theorem lb_seg {lb : Str} (h : LbOK lb) :
    ∃ a z, Seg lb a z ∧ (∀ x, cls x = .A → okp x a = true) ∧ (∀ y, startC y → okp z y = true) := by
  rcases h with rfl | rfl
  · exact ⟨'{', '{', Seg.one _, fun x hx => okp_A_lb hx, fun y hy => okp_lb_start hy⟩
  · exact ⟨'@', '(', ⟨by decide, rfl, rfl⟩, fun x hx => okp_A_op hx (by decide) (by decide), fun y hy => okp_lp_start hy⟩

theorem rb_seg {rb : Str} (h : RbOK rb) : ∃ a, rb = [a] ∧ (∀ x, endC x → okp x a = true) ∧ endC a := by
  rcases h with rfl | rfl
  · exact ⟨'}', rfl, fun x hx => okp_end_rb hx, Or.inr (Or.inr (by decide))⟩
  · exact ⟨')', rfl, fun x hx => okp_end_rp hx, Or.inr (Or.inl (by decide))⟩

theorem ng_seg {ng : Str} (h : NgOK ng) : Seg ng '(' '-' := by
  rcases h with rfl | rfl
  · exact ⟨by decide, rfl, rfl⟩
  · exact ⟨by decide, rfl, rfl⟩

theorem inv_name {s : Str} (h : NameOK s) (hd : s.getLast? ≠ some '.') : Inv s := by
  obtain ⟨a, z, hseg, ha, hz⟩ := seg_atom s h.1 (fun c hc => cls_achar (h.2 c hc))
  refine ⟨a, z, hseg, Or.inl ha, Or.inl ⟨hz, ?_⟩⟩
  intro e; subst e; exact hd hseg.2.2

theorem pr_inv {lb rb ng : Str} (hlb : LbOK lb) (hrb : RbOK rb) (hng : NgOK ng) (e : Sx) (h : SrcOK e) :
    Inv (pr lb rb ng e) := by
  induction e with
  | num s => exact inv_name h.1 h.2
  | var s => exact inv_name h.1 h.2
  | bin o l r ihl ihr => exact Inv.bin (Inv.wrap _ (ihl h.2.1)) (Inv.wrap _ (ihr h.2.2)) h.1.1
  | call f e ih =>
    obtain ⟨af, zf, hf, haf, hzf⟩ := seg_atom f h.1.1 (fun c hc => cls_achar (h.1.2 c hc))
    obtain ⟨al, zl, hl, hl1, hl2⟩ := lb_seg hlb
    obtain ⟨c, rfl, hr1, hr2⟩ := rb_seg hrb
    obtain ⟨ax, zx, hx, hax, hzx⟩ := ih h.2
    exact ⟨af, c, Seg.append hf (Seg.append hl (Seg.snoc hx (hr1 zx hzx)) (hl2 ax hax)) (hl1 zf hzf), Or.inl haf, hr2⟩
  | neg e ih =>
    obtain ⟨ax, zx, hx, hax, hzx⟩ := Inv.wrap (decide (slv e ≤ 2)) (ih h)
    exact ⟨'(', ')', Seg.append (ng_seg hng) (Seg.snoc hx (okp_end_rp hzx)) (okp_op_start (by decide) hax),
      Or.inr (by decide), Or.inr (Or.inl (by decide))⟩
  | par e ih => exact (ih h).paren

theorem src_inv (e : Sx) (h : SrcOK e) : Inv (src e) := pr_inv (Or.inl rfl) (Or.inl rfl) (Or.inl rfl) e h

theorem tgt_inv (e : Sx) (h : SrcOK e) : Inv (tgt e) := pr_inv (Or.inr rfl) (Or.inr rfl) (Or.inr rfl) e h

theorem pr_all (Q : Char → Prop) {lb rb ng : Str} (hp : Q '(' ∧ Q ')') (hlb : ∀ c ∈ lb, Q c) (hrb : ∀ c ∈ rb, Q c)
    (hng : ∀ c ∈ ng, Q c) (ha : ∀ c, achar c = true → Q c) (ho : ∀ o, pyLvl o < 9 → o ≠ '=' → Q o)
    (e : Sx) (h : SrcOK e) : ∀ c ∈ pr lb rb ng e, Q c := by
  have hw : ∀ (b : Bool) (s : Str), (∀ c ∈ s, Q c) → ∀ c ∈ wrapS b s, Q c := by
    intro b s hs c hc
    cases b with
    | false => exact hs c hc
    | true =>
      simp only [wrapS, if_true, List.mem_cons, List.mem_append, List.mem_nil_iff, or_false] at hc
      rcases hc with rfl | hc | rfl
      · exact hp.1
      · exact hs c hc
      · exact hp.2
  induction e with
  | num s => intro c hc; exact ha c (h.1.2 c hc)
  | var s => intro c hc; exact ha c (h.1.2 c hc)
  | bin o l r ihl ihr =>
    intro c hc
    simp only [pr, List.mem_append, List.mem_cons] at hc
    rcases hc with hc | rfl | hc
    · exact hw _ _ (ihl h.2.1) c hc
    · exact ho c h.1.1 h.1.2
    · exact hw _ _ (ihr h.2.2) c hc
  | call f e ih =>
    intro c hc
    simp only [pr, List.mem_append] at hc
    rcases hc with hc | hc | hc | hc
    · exact ha c (h.1.2 c hc)
    · exact hlb c hc
    · exact ih h.2 c hc
    · exact hrb c hc
  | neg e ih =>
    intro c hc
    simp only [pr, List.mem_append, List.mem_singleton] at hc
    rcases hc with hc | hc | rfl
    · exact hng c hc
    · exact hw _ _ (ih h) c hc
    · exact hp.2
  | par e ih =>
    intro c hc
    simp only [pr, List.mem_cons, List.mem_append, List.mem_nil_iff, or_false] at hc
    rcases hc with rfl | hc | rfl
    · exact hp.1
    · exact ih h c hc
    · exact hp.2

end TV.Expr
