import TracklibVerif.Lemmas.ExprRpn
/-! `Track.__prime` on postfix token lists: it works token by token (`prime_append`), and leaves a token that does not end with a
quote as it is, so `__double_prime` is the identity on the postfix form of a tree without quotes (`doublePrime_id`, `goodTok_post`). -/
namespace TV.Expr
open TV.Rpn

def GoodTok (t : Str) : Prop := ∃ c, t.getLast? = some c ∧ c ≠ '\''

theorem prime_append : ∀ {a b a' b' : List Str}, prime a = .ok a' → prime b = .ok b' → prime (a ++ b) = .ok (a' ++ b')
  | [], _, _, _, ha, hb => by cases ha; exact hb
  | t :: a, b, a', b', ha, hb => by
    simp only [prime, List.cons_append] at ha ⊢
    cases hl : t.getLast? with
    | none => simp [hl] at ha
    | some c =>
      simp only [hl] at ha ⊢
      obtain ⟨r, hr, ha⟩ := bind_ok ha
      cases ha
      rw [prime_append hr hb]
      exact congrArg Except.ok (List.append_assoc _ _ _).symm

theorem prime_good {t : Str} (h : GoodTok t) : prime [t] = .ok [t] := by
  obtain ⟨c, hc, hq⟩ := h
  have hb : (c == '\'') = false := by simpa using hq
  simp only [prime, hc, hb]
  rfl

theorem prime_id (toks : List Str) (h : ∀ t ∈ toks, GoodTok t) : prime toks = .ok toks := by
  induction toks with
  | nil => rfl
  | cons t ts ih => exact prime_append (prime_good (h t (by simp))) (ih (fun u hu => h u (by simp [hu])))

theorem doublePrime_id (toks : List Str) (h : ∀ t ∈ toks, GoodTok t) : doublePrime toks = .ok toks := by
  simp only [doublePrime, prime_id toks h]
  exact prime_id toks h

theorem goodTok_output : GoodTok outputName := ⟨'t', rfl, by decide⟩

theorem goodTok_stmt {lhs : Str} {toks : List Str} (hg : GoodTok lhs) (h : ∀ t ∈ toks, GoodTok t) :
    ∀ t ∈ lhs :: (toks ++ [['=']]), GoodTok t := by
  intro t ht
  simp only [List.mem_cons, List.mem_append, List.mem_nil_iff, or_false] at ht
  rcases ht with rfl | ht | rfl
  · exact hg
  · exact h t ht
  · exact ⟨'=', rfl, by decide⟩

def NoQuote : Ex → Prop
  | .num s => GoodTok s
  | .var s => GoodTok s
  | .bin _ l r => NoQuote l ∧ NoQuote r
  | .call f e => GoodTok f ∧ NoQuote e

theorem goodTok_op {o : Char} (h : pyLvl o < 9) : GoodTok [o] :=
  ⟨o, rfl, by intro e; subst e; exact absurd h (by decide)⟩

theorem goodTok_post (e : Ex) (h : NoQuote e) (hw : Rpn.WF pyLvl 9 (toE e)) : ∀ t ∈ Expr.post e, GoodTok t := by
  induction e with
  | num s => intro t ht; simp only [Expr.post, List.mem_singleton] at ht; subst ht; exact h
  | var s => intro t ht; simp only [Expr.post, List.mem_singleton] at ht; subst ht; exact h
  | bin o l r ihl ihr =>
    intro t ht
    simp only [Expr.post, List.mem_append, List.mem_singleton] at ht
    rcases ht with (ht | ht) | rfl
    · exact ihl h.1 hw.2.1 t ht
    · exact ihr h.2 hw.2.2 t ht
    · exact goodTok_op hw.1
  | call f e ih =>
    intro t ht
    simp only [Expr.post, List.mem_append, List.mem_cons, List.mem_nil_iff, or_false] at ht
    rcases ht with (rfl | ht) | rfl
    · exact h.1
    · exact ih h.2 hw.2.2 t ht
    · exact goodTok_op hw.1

end TV.Expr
