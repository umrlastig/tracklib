import TracklibVerif.Model.SplitVal
import TracklibVerif.Lemmas.SplitSeg
/-! Helper lemmas for C11: `segmentation()` with `isnan` / `<=` as operator calls (`foldCmpG` … `segTrackG`), the numeric
loops (`foldCmp` … `markers`) as the case "nothing but NaN is NaN, `<=` always answers", values that are numbers or
timestamps (`Val`). -/
namespace TV.Split
variable {α : Type}

/-- `IndexError` for the `none` of the numeric model -/
def liftIdx {γ : Type} : Option γ → Except String γ
  | none => .error "index"
  | some r => .ok r

theorem liftIdx_eq_ok {γ : Type} {o : Option γ} {r : γ} : liftIdx o = .ok r ↔ o = some r := by
  cases o <;> simp [liftIdx]

/-- a row is *typed* for (`isnan`, `le?`, `gt`) against the thresholds from position `idx` on: wherever Python
gets to compare a non-NaN value with its threshold, `<=` answers, and answers the negation of "exceeds" -/
def Typed (isnan : α → Bool) (le? : α → α → Except String Bool) (gt : α → α → Bool) (ths : List α) (idx : Nat)
    (vals : List (Option α)) : Prop :=
  ∀ i w, vals[i]? = some w → ∀ v th, w = some v → isnan v = false → ths[idx + i]? = some th → le? v th = .ok (!gt v th)

theorem Typed.tail {isnan : α → Bool} {le? : α → α → Except String Bool} {gt : α → α → Bool} {ths : List α} {idx : Nat}
    {x : Option α} {vs : List (Option α)} (h : Typed isnan le? gt ths idx (x :: vs)) :
    Typed isnan le? gt ths (idx + 1) vs := by
  intro i w hw v th hv hn hth
  rw [Nat.add_right_comm] at hth
  exact h (i + 1) w hw v th hv hn hth

theorem Typed.head {isnan : α → Bool} {le? : α → α → Except String Bool} {gt : α → α → Bool} {ths : List α} {idx : Nat}
    {v : α} {vs : List (Option α)} (h : Typed isnan le? gt ths idx (some v :: vs)) (hn : isnan v = false)
    (hidx : idx < ths.length) : le? v ths[idx] = .ok (!gt v ths[idx]) :=
  h 0 (some v) rfl v ths[idx] rfl hn (List.getElem?_eq_getElem hidx)

section loop
variable (isnan : α → Bool) (le? : α → α → Except String Bool) (fmax : α) (m : Bool) (ths : List α)

theorem skipped_or_compared (x : Option α) : (∀ v, x = some v → isnan v = true) ∨ ∃ v, x = some v ∧ isnan v = false := by
  cases x with
  | none => exact .inl nofun
  | some v => cases h : isnan v with
    | false => exact .inr ⟨v, rfl, h⟩
    | true => exact .inl fun _ e => Option.some.inj e ▸ h

theorem foldCmpG_skip (idx : Nat) (x : Option α) (vs : List (Option α)) (acc : Bool) (h : ∀ v, x = some v → isnan v = true) :
    foldCmpG isnan le? fmax m ths idx (x :: vs) acc = foldCmpG isnan le? fmax m ths (idx + 1) vs acc := by
  cases x with
  | none => rfl
  | some v => rw [foldCmpG, if_pos (h v rfl)]

/-- a compared value: when `<=` answers `c` the step is `acc and c` / `acc or c` (the short-circuit of Python's `and` /
`or` only matters when `<=` raises) -/
theorem foldCmpG_cmp {idx : Nat} {v th : α} {c : Bool} (vs : List (Option α)) (acc : Bool) (hn : isnan v = false)
    (ht : threshold fmax ths idx = some th) (hle : le? v th = .ok c) :
    foldCmpG isnan le? fmax m ths idx (some v :: vs) acc =
      foldCmpG isnan le? fmax m ths (idx + 1) vs (if m then acc && c else acc || c) := by
  rw [foldCmpG, if_neg (by rw [hn]; exact Bool.false_ne_true), ht]
  simp only [hle]
  cases m <;> cases acc <;> rfl

/-- the fold takes its decided value `!m` (`False` in AND mode, `True` in OR mode) when it had it already or `c` brings it -/
theorem step_decided (m acc g : Bool) : (if m then acc && !g else acc || !g) = !m ↔ acc = !m ∨ g = m := by
  cases m <;> cases acc <;> cases g <;> decide

theorem foldCmpG_typed (gt : α → α → Bool) : ∀ (vals : List (Option α)) (idx : Nat) (acc : Bool),
    idx + vals.length ≤ ths.length → Typed isnan le? gt ths idx vals →
    ∃ r, foldCmpG isnan le? fmax m ths idx vals acc = .ok r ∧
      (r = !m ↔ acc = !m ∨
        ∃ i v th, vals[i]? = some (some v) ∧ isnan v = false ∧ ths[idx + i]? = some th ∧ gt v th = m) := by
  intro vals
  induction vals with
  | nil => intro idx acc _ _; exact ⟨acc, rfl, by simp⟩
  | cons x vs ih =>
    intro idx acc hlen hty
    have hlen' : idx + 1 + vs.length ≤ ths.length := by rw [Nat.add_right_comm]; exact hlen
    have hidx : idx < ths.length := Nat.lt_of_lt_of_le (Nat.lt_add_of_pos_right (Nat.succ_pos _)) hlen
    have e : ∀ i, idx + 1 + i = idx + (i + 1) := fun i => Nat.add_right_comm idx 1 i
    rw [← Nat.or_exists_add_one]
    simp only [List.getElem?_cons_zero, List.getElem?_cons_succ, Option.some.injEq]
    rcases skipped_or_compared isnan x with hs | ⟨v, rfl, hn⟩
    · obtain ⟨r, hr, hiff⟩ := ih (idx + 1) acc hlen' hty.tail
      refine ⟨r, by rw [foldCmpG_skip _ _ _ _ _ _ _ _ _ hs, hr], ?_⟩
      have : ¬ ∃ v th, x = some v ∧ isnan v = false ∧ ths[idx + 0]? = some th ∧ gt v th = m :=
        fun ⟨v, _, hv, hn, _⟩ => Bool.false_ne_true (hn.symm.trans (hs v hv))
      simp only [hiff, e, this, false_or]
    · obtain ⟨r, hr, hiff⟩ := ih (idx + 1) (if m then acc && !gt v ths[idx] else acc || !gt v ths[idx]) hlen' hty.tail
      refine ⟨r, by rw [foldCmpG_cmp isnan le? fmax m ths vs acc hn (threshold_lt fmax ths idx hidx) (hty.head hn hidx), hr], ?_⟩
      have : (∃ v' th, some v = some v' ∧ isnan v' = false ∧ ths[idx + 0]? = some th ∧ gt v' th = m) ↔ gt v ths[idx] = m := by
        simp [hn, List.getElem?_eq_getElem hidx]
      simp only [hiff, e, this, step_decided, or_assoc]

/-- the marker of a typed row, both modes at once: it equals the mode flag exactly when some compared value decides the
fold. AND mode: marker 1 ↔ some value exceeds; OR mode: marker 0 ↔ some value does not exceed. -/
theorem markerG_typed (gt : α → α → Bool) (vals : List (Option α)) (h : vals.length ≤ ths.length)
    (hty : Typed isnan le? gt ths 0 vals) :
    ∃ b, markerG isnan le? fmax m ths vals = .ok b ∧
      (b = m ↔ ∃ (i : Nat) (v th : α), vals[i]? = some (some v) ∧ isnan v = false ∧ ths[i]? = some th ∧ gt v th = m) := by
  obtain ⟨r, hr, hiff⟩ := foldCmpG_typed isnan le? fmax m ths gt vals 0 m (by rw [Nat.zero_add]; exact h) hty
  refine ⟨!r, by simp only [markerG, hr], ?_⟩
  rw [Bool.not_eq_eq_eq_not, hiff]
  simp only [Bool.eq_not_self, false_or, Nat.zero_add]

theorem foldCmpG_decided : ∀ (vals : List (Option α)) (idx : Nat), idx + vals.length ≤ ths.length →
    foldCmpG isnan le? fmax m ths idx vals (!m) = .ok (!m) := by
  intro vals
  induction vals with
  | nil => intro idx _; rfl
  | cons x vs ih =>
    intro idx hlen
    have hlen' : idx + 1 + vs.length ≤ ths.length := by rw [Nat.add_right_comm]; exact hlen
    cases x with
    | none => exact ih (idx + 1) hlen'
    | some v =>
      rw [foldCmpG, threshold_lt fmax ths idx (Nat.lt_of_lt_of_le (Nat.lt_add_of_pos_right (Nat.succ_pos _)) hlen)]
      cases m <;> simp only [Bool.not_true, Bool.not_false, Bool.and_self, Bool.false_eq_true, if_true, if_false, ite_self] <;>
        exact ih (idx + 1) hlen'
end loop

theorem map_clean_id (r : List (Option α)) :
    r.map (fun o => o.bind fun v => if (fun _ => false) v then none else some v) = r := by
  simp

section num
variable [LE α] [DecidableLE α] (isnan : α → Bool) (fmax : α) (m : Bool) (ths : List α)

theorem foldCmpG_num (vs : List (Option α)) (k : Nat) (acc : Bool) :
    foldCmpG isnan (fun a b => .ok (decide (a ≤ b))) fmax m ths k vs acc =
      liftIdx (foldCmp fmax m ths k (vs.map (fun o => o.bind fun v => if isnan v then none else some v)) acc) := by
  induction vs generalizing k acc with
  | nil => rfl
  | cons o vs ih =>
    rcases skipped_or_compared isnan o with hs | ⟨v, rfl, hn⟩
    · rw [foldCmpG_skip _ _ _ _ _ _ _ _ _ hs, ih, List.map_cons]
      have : (o.bind fun v => if isnan v then none else some v) = none := by
        cases o with
        | none => rfl
        | some v => simp [hs v rfl]
      rw [this, foldCmp]
    · rw [List.map_cons, Option.bind_some, hn, if_neg Bool.false_ne_true, foldCmp]
      cases ht : threshold fmax ths k with
      | none => rw [foldCmpG, hn, if_neg Bool.false_ne_true, ht]; rfl
      | some th => rw [foldCmpG_cmp isnan _ fmax m ths vs acc hn ht rfl, ih]

theorem markerG_num (r : List (Option α)) :
    markerG isnan (fun a b => .ok (decide (a ≤ b))) fmax m ths r =
      liftIdx (marker fmax m ths (r.map (fun o => o.bind fun v => if isnan v then none else some v))) := by
  rw [markerG, marker, foldCmpG_num]
  cases foldCmp fmax m ths 0 _ m <;> rfl

theorem markersG_num (rs : List (List (Option α))) :
    markersG isnan (fun a b => .ok (decide (a ≤ b))) fmax m ths rs =
      liftIdx (markers fmax m ths (rs.map (fun r => r.map (fun o => o.bind fun v => if isnan v then none else some v)))) := by
  induction rs with
  | nil => rfl
  | cons r rs ih =>
    rw [markersG, markerG_num, ih, List.map_cons, markers]
    cases marker fmax m ths _ with
    | none => rfl
    | some b => cases markers fmax m ths _ <;> rfl

theorem markersG_total (rows : List (List (Option α))) :
    markersG (fun _ => false) (fun a b => .ok (decide (a ≤ b))) fmax m ths rows = liftIdx (markers fmax m ths rows) := by
  rw [markersG_num]; simp only [map_clean_id, List.map_id']

/-- the marker of a row of numbers, both modes at once (`markerG_typed` with "exceeds" = `not (v <= th)`) -/
theorem marker_eq_mode_iff (vals : List (Option α)) (h : vals.length ≤ ths.length) :
    ∃ b, marker fmax m ths vals = some b ∧
      (b = m ↔ ∃ (i : Nat) (v th : α), vals[i]? = some (some v) ∧ ths[i]? = some th ∧ decide (v ≤ th) = !m) := by
  obtain ⟨b, hb, hiff⟩ := markerG_typed (fun _ => false) (fun a b => .ok (decide (a ≤ b))) fmax m ths
    (fun v th => !decide (v ≤ th)) vals h (fun _ _ _ _ _ _ _ _ => by rw [Bool.not_not])
  rw [markerG_num, map_clean_id, liftIdx_eq_ok] at hb
  exact ⟨b, hb, by simpa only [true_and, Bool.not_eq_eq_eq_not] using hiff⟩
end num

theorem Val.le?_sameKind (v th : Val) (h : Val.sameKind v th = true) : Val.le? v th = .ok (!Val.gt v th) := by
  cases v <;> cases th <;> first | rfl | exact congrArg Except.ok (Ext.decide_le _ _) | cases h

theorem Val.typed (ths : List Val) (vals : List (Option Val))
    (h : ∀ (i : Nat) (v th : Val), vals[i]? = some (some v) → ths[i]? = some th → Val.sameKind v th = true) :
    Typed Val.isnan Val.le? Val.gt ths 0 vals := by
  intro i w hw v th hv _ hth
  subst hv
  rw [Nat.zero_add] at hth
  exact Val.le?_sameKind v th (h i v th hw hth)
end TV.Split
