import TracklibVerif.Lemmas.PartitionTable
import Mathlib.Algebra.Order.Monoid.Defs
/-! Optimality of the interval recursion `opt` WITHOUT associativity or commutativity of the addition (IEEE doubles), for both
directions at once (`Dir`): the table value `D[i,j]` is at least as good as every *bracketing* (`Br`) of every chain from `i` to
`j`, for any addition that is monotone for the order (`opt_bound_br`); and the split table records a bracketing of the returned
list whose value is exactly `D[i,j]` (`btTree_spec`). Only `[Add α]` is assumed for these. Then chains of break points as lists
and their summed cost: with an associative addition the value of a bracketing is the summed cost of its chain, and every chain
is the chain of its right-nested bracketing — which is how the statements about chains follow. -/
namespace TV.Partition

/-! ### a direction: `better` is the strict test, `R a b` reads "a is at least as good as b" -/

structure Dir {α : Type} [Add α] (better : α → α → Bool) (R : α → α → Prop) : Prop where
  refl : ∀ a, R a a
  trans : ∀ {a b c}, R a b → R b c → R a c
  of_better : ∀ {a b}, better a b = true → R a b
  of_not_better : ∀ {a b}, better a b = false → R b a
  add : ∀ {a b c d}, R a b → R c d → R (a + c) (b + d)

section mono
variable {α : Type} [Add α] [LinearOrder α]

theorem dir_min_of_mono (hmono : ∀ a b c d : α, a ≤ b → c ≤ d → a + c ≤ b + d) : Dir (better (α := α) 0) (· ≤ ·) where
  refl := le_refl
  trans := le_trans
  of_better := fun h => le_of_lt (by simpa [better] using h)
  of_not_better := fun h => by simpa [better] using h
  add := fun h1 h2 => hmono _ _ _ _ h1 h2

theorem dir_max_of_mono (hmono : ∀ a b c d : α, a ≤ b → c ≤ d → a + c ≤ b + d) : Dir (better (α := α) 1) (· ≥ ·) where
  refl := le_refl
  trans := fun h1 h2 => le_trans h2 h1
  of_better := fun h => le_of_lt (by simpa [better] using h)
  of_not_better := fun h => by simpa [better] using h
  add := fun h1 h2 => hmono _ _ _ _ h1 h2
end mono

section inst
variable {α : Type} [AddCommMonoid α] [LinearOrder α] [IsOrderedAddMonoid α]

theorem dir_min : Dir (better (α := α) 0) (· ≤ ·) := dir_min_of_mono fun _ _ _ _ => add_le_add
theorem dir_max : Dir (better (α := α) 1) (· ≥ ·) := dir_max_of_mono fun _ _ _ _ => add_le_add
end inst

section dirAdd
variable {α : Type} [Add α] {better : α → α → Bool} {R : α → α → Prop}

theorem scan_best (hd : Dir better R) (f : Nat → α) (lo n : Nat) (acc : α × Option Nat) :
    R (scan better f lo n acc).1 acc.1 ∧ (∀ k, lo ≤ k → k < lo + n → R (scan better f lo n acc).1 (f k)) := by
  fun_induction scan better f lo n acc with
  | case1 => exact ⟨hd.refl _, fun k h1 h2 => by omega⟩
  | case2 lo n acc acc' k hb ih =>
    have hR := hd.of_better hb
    refine ⟨hd.trans hR ih.1, fun k' hk1 hk2 => ?_⟩
    by_cases hk : k' = lo + n
    · rw [hk]; exact hd.refl _
    · exact hd.trans hR (ih.2 k' hk1 (by omega))
  | case3 lo n acc acc' k hb ih =>
    refine ⟨ih.1, fun k' hk1 hk2 => ?_⟩
    by_cases hk : k' = lo + n
    · rw [hk]; exact hd.of_not_better (Bool.eq_false_iff.mpr hb)
    · exact ih.2 k' hk1 (by omega)

theorem opt_le_cost (hd : Dir better R) (C : Nat → Nat → α) (f i j : Nat) :
    R (opt better (· + ·) C f i j).1 (C i j) := by
  cases f with
  | zero => exact hd.refl _
  | succ f => exact (scan_best hd _ _ _ _).1

end dirAdd

/-- a bracketed sum of segment costs: one segment `(a, b)`, or the sum of a left part and a right part -/
inductive Br where
  | seg (a b : Nat)
  | node (l r : Br)

namespace Br
def lo : Br → Nat
  | seg a _ => a
  | node l _ => l.lo
def hi : Br → Nat
  | seg _ b => b
  | node _ r => r.hi
def WF : Br → Prop
  | seg a b => a < b
  | node l r => l.WF ∧ r.WF ∧ l.hi = r.lo
def chain : Br → List Nat
  | seg a b => [a, b]
  | node l r => l.chain ++ r.chain.tail
def val {α : Type} [Add α] (C : Nat → Nat → α) : Br → α
  | seg a b => C a b
  | node l r => l.val C + r.val C

theorem lo_lt_hi : ∀ t : Br, t.WF → t.lo < t.hi
  | seg _ _, h => h
  | node l r, h => by
    have h1 := lo_lt_hi l h.1
    have h2 := lo_lt_hi r h.2.1
    have h3 := h.2.2
    simp only [lo, hi]; omega

theorem val_congr {α : Type} [Add α] {C C' : Nat → Nat → α} {n : Nat} (h : ∀ a b, a < b → b ≤ n → C a b = C' a b) :
    ∀ t : Br, t.WF → t.hi ≤ n → t.val C = t.val C'
  | seg a b, wf, hn => h a b wf hn
  | node l r, wf, hn => by
    have := lo_lt_hi r wf.2.1
    simp only [val]
    rw [val_congr h l wf.1 (by rw [wf.2.2]; exact Nat.le_of_lt (Nat.lt_of_lt_of_le this hn)), val_congr h r wf.2.1 hn]
end Br

section bound
variable {α : Type} [Add α] {better : α → α → Bool} {R : α → α → Prop}

theorem opt_bound_br (hd : Dir better R) (C : Nat → Nat → α) (f : Nat) :
    ∀ t : Br, t.WF → t.hi - t.lo ≤ f + 1 → R (opt better (· + ·) C f t.lo t.hi).1 (t.val C)
  | .seg a b, _, _ => opt_le_cost hd C f a b
  | .node l r, hwf, hf => by
    have h1 := Br.lo_lt_hi l hwf.1
    have h2 := Br.lo_lt_hi r hwf.2.1
    have h3 := hwf.2.2
    have ihl := opt_bound_br hd C f l hwf.1 (by simp only [Br.lo, Br.hi] at hf; omega)
    have ihr := opt_bound_br hd C f r hwf.2.1 (by simp only [Br.lo, Br.hi] at hf; omega)
    simp only [Br.lo, Br.hi, Br.val] at hf ⊢
    rw [opt_unfold better (· + ·) C f l.lo r.hi hf]
    have hs := (scan_best hd (fun k => (opt better (· + ·) C f l.lo k).1 + (opt better (· + ·) C f k r.hi).1)
      (l.lo + 1) (r.hi - l.lo - 1) (C l.lo r.hi, none)).2 l.hi (by omega) (by omega)
    rw [h3] at ihl hs
    exact hd.trans hs (hd.add ihl ihr)
end bound

/-- `backtracking(B, i, j)` seen as the bracketing it follows -/
def btTree (B : Nat → Nat → Int) : Nat → Nat → Nat → Br
  | 0, i, j => .seg i j
  | f+1, i, j =>
    if B i j < 0 ∨ (if i ≤ j then j - i else i - j) ≤ 1 then .seg i j
    else .node (btTree B f i (B i j).toNat) (btTree B f (B i j).toNat j)

theorem backtracking_head (B : Nat → Nat → Int) (f i j : Nat) : ∃ m, backtracking B f i j = i :: m := by
  fun_induction backtracking B f i j with
  | case1 | case2 => exact ⟨[], rfl⟩
  | case3 f i j h id ih1 ih2 => obtain ⟨m, e⟩ := ih1; exact ⟨_, by rw [e]; rfl⟩

section tree
variable {α : Type} [Add α]

theorem btTree_spec (C : Nat → Nat → α) (bt : α → α → Bool) (N : Nat) (M : Nat → Nat → Int)
    (hM : ∀ a b, a < b → b < N → M a b = enc (-1) (opt bt (· + ·) C N a b).2) :
    ∀ fuel i j, i < j → j < N → j - i ≤ fuel →
      (btTree M fuel i j).WF ∧ (btTree M fuel i j).lo = i ∧ (btTree M fuel i j).hi = j ∧
      (btTree M fuel i j).chain = backtracking M fuel i j ++ [j] ∧
      (btTree M fuel i j).val C = (opt bt (· + ·) C N i j).1 := by
  intro fuel
  induction fuel with
  | zero => intro i j h1 _ h3; omega
  | succ fuel ih =>
    intro i j hij hjN hfuel
    simp only [btTree, backtracking]
    -- the test of the code follows the shape of the cell: `M[i,j] = -1` when it kept its own cost, the split point otherwise
    rcases opt_cases bt (· + ·) C N i j (by omega) with h | ⟨k, hk1, hk2, h⟩
    · have hstop : M i j < 0 ∨ (if i ≤ j then j - i else i - j) ≤ 1 := .inl (by rw [hM i j hij hjN, h]; exact (enc_neg none).mpr rfl)
      rw [if_pos hstop, if_pos hstop, h]
      exact ⟨hij, rfl, rfl, rfl, rfl⟩
    · have hid : M i j = (k : Int) := by rw [hM i j hij hjN, h]; rfl
      have hstop : ¬ (M i j < 0 ∨ (if i ≤ j then j - i else i - j) ≤ 1) := by rw [hid, if_pos (Nat.le_of_lt hij)]; omega
      rw [if_neg hstop, if_neg hstop, hid, Int.toNat_natCast, h]
      obtain ⟨w1, lo1, hi1, c1, v1⟩ := ih i k hk1 (by omega) (by omega)
      obtain ⟨w2, lo2, hi2, c2, v2⟩ := ih k j hk2 hjN (by omega)
      obtain ⟨m, e⟩ := backtracking_head M fuel k j
      refine ⟨⟨w1, w2, by rw [hi1, lo2]⟩, lo1, hi2, ?_, by simp only [Br.val, v1, v2]⟩
      simp only [Br.chain, c1, c2, e, List.tail_cons, List.append_assoc, List.cons_append, List.nil_append]
end tree

theorem le_getLast_of_pairwise {l : List Nat} {n x : Nat} (hN : l.getLast? = some n) (hinc : l.Pairwise (· < ·)) (hx : x ∈ l) :
    x ≤ n := by
  obtain ⟨l', rfl⟩ := List.getLast?_eq_some_iff.mp hN
  rcases List.mem_append.mp hx with h | h
  · exact Nat.le_of_lt ((List.pairwise_append.mp hinc).2.2 x h n (List.mem_singleton.mpr rfl))
  · exact Nat.le_of_eq (List.mem_singleton.mp h)

theorem length_filterMap_getElem? {ω : Type} (obs : List ω) : ∀ l : List Nat, (∀ x ∈ l, x < obs.length) →
    (l.filterMap (fun i => obs[i]?)).length = l.length
  | [], _ => rfl
  | a :: t, h => by
    simp only [List.filterMap_cons, List.getElem?_eq_getElem (h a List.mem_cons_self), List.length_cons]
    rw [length_filterMap_getElem? obs t fun x hx => h x (List.mem_cons_of_mem _ hx)]

theorem getLast?_append_overlap {l1 l2 : List Nat} {i m : Nat} (hm : (i :: l1).getLast? = some m) :
    (i :: (l1 ++ l2)).getLast? = (m :: l2).getLast? := by
  rw [← List.cons_append, List.getLast?_append, hm]
  exact (List.getLast?_append (l := [m])).symm

theorem pairwise_append_overlap {l1 l2 : List Nat} {i m : Nat} (hm : (i :: l1).getLast? = some m)
    (h1 : (i :: l1).Pairwise (· < ·)) (h2 : (m :: l2).Pairwise (· < ·)) : (i :: (l1 ++ l2)).Pairwise (· < ·) := by
  rw [← List.cons_append, List.pairwise_append]
  exact ⟨h1, h2.of_cons, fun a ha b hb =>
    Nat.lt_of_le_of_lt (le_getLast_of_pairwise hm h1 ha) (List.rel_of_pairwise_cons h2 hb)⟩

section cost
variable {α : Type} [AddCommMonoid α]

theorem pathCost_append_overlap (C : Nat → Nat → α) : ∀ (l1 l2 : List Nat) (i m : Nat), (i :: l1).getLast? = some m →
    pathCost 0 C (i :: (l1 ++ l2)) = pathCost 0 C (i :: l1) + pathCost 0 C (m :: l2) := by
  intro l1
  induction l1 with
  | nil => intro l2 i m hm; cases hm; simp [pathCost]
  | cons p ps ih =>
    intro l2 i m hm
    rw [List.getLast?_cons_cons] at hm
    simp only [List.cons_append, pathCost]
    rw [ih l2 p m hm, add_assoc]
end cost

section exact
variable {α : Type} [AddCommMonoid α]

theorem br_chain_cost (c : Nat → Nat → α) : ∀ t : Br, t.WF →
    ∃ rest, t.chain = t.lo :: rest ∧ (t.lo :: rest).getLast? = some t.hi ∧ (t.lo :: rest).Pairwise (· < ·) ∧
      t.val c = pathCost 0 c (t.lo :: rest)
  | .seg a b, h => ⟨[b], rfl, rfl, List.pairwise_pair.mpr h, by simp [Br.val, Br.lo, pathCost]⟩
  | .node l r, h => by
    obtain ⟨r1, e1, l1, i1, v1⟩ := br_chain_cost c l h.1
    obtain ⟨r2, e2, l2, i2, v2⟩ := br_chain_cost c r h.2.1
    rw [← h.2.2] at l2 i2 v2
    refine ⟨r1 ++ r2, ?_, ?_, ?_, ?_⟩
    · simp only [Br.chain, Br.lo, e1, e2, List.tail_cons, List.cons_append]
    · exact (getLast?_append_overlap l1).trans l2
    · exact pairwise_append_overlap l1 i1 i2
    · simp only [Br.val, Br.lo]
      rw [pathCost_append_overlap c r1 r2 _ _ l1, v1, v2]

theorem Br.val_eq_pathCost (c : Nat → Nat → α) (t : Br) (h : t.WF) : t.val c = pathCost 0 c t.chain := by
  obtain ⟨_, e, _, _, v⟩ := br_chain_cost c t h
  rw [e, v]
end exact

/-- the right-nested bracketing of a chain `i :: l` -/
def combBr : Nat → List Nat → Br
  | i, [] => .seg i i
  | i, [p] => .seg i p
  | i, p :: q :: rest => .node (.seg i p) (combBr p (q :: rest))

theorem combBr_spec (l : List Nat) (i : Nat) : l ≠ [] → (i :: l).Pairwise (· < ·) →
    (combBr i l).WF ∧ (combBr i l).lo = i ∧ (i :: l).getLast? = some (combBr i l).hi ∧ (combBr i l).chain = i :: l := by
  fun_induction combBr i l with
  | case1 => exact fun h => absurd rfl h
  | case2 i p => exact fun _ hinc => ⟨List.pairwise_pair.mp hinc, rfl, rfl, rfl⟩
  | case3 i p q rest ih =>
    intro _ hinc
    obtain ⟨w, lo, hi, ch⟩ := ih (by simp) hinc.of_cons
    exact ⟨⟨List.rel_of_pairwise_cons hinc List.mem_cons_self, w, lo.symm⟩, rfl, by rw [List.getLast?_cons_cons]; exact hi,
      by simp only [Br.chain]; rw [ch]; rfl⟩

theorem chain_bracketing {π : List Nat} {n : Nat} (h0 : π.head? = some 0) (hN : π.getLast? = some n)
    (hinc : π.Pairwise (· < ·)) (hn : 0 < n) : ∃ t : Br, t.WF ∧ t.lo = 0 ∧ t.hi = n ∧ t.chain = π := by
  obtain ⟨l, rfl⟩ := List.head?_eq_some_iff.mp h0
  have hne : l ≠ [] := by rintro rfl; exact absurd (Option.some.inj hN) (Nat.ne_of_lt hn)
  obtain ⟨w, lo, hi, ch⟩ := combBr_spec l 0 hne hinc
  exact ⟨_, w, lo, Option.some.inj (hi.symm.trans hN), ch⟩
end TV.Partition
