import TracklibVerif.Model.Graph
import Mathlib.Algebra.Order.Monoid.Defs
/-! Dijkstra's loop of `run_routing_forward` without its stop conditions (`run`): every label is the weight of a permitted walk
(`Walk`, over `Arc`), and once nothing is left to pop the labels are the least such weights (`labels_are_distances`), which
happens within `net.n` turns (`run_done`, `forward_correct`). The invariant stands twice, as `Inv` and with the queue order
abstracted (`InvP pr`, `PrioOK`; the queue's choice is `popKey key`), the form `Lemmas/GraphStop.lean` takes up for the coded
loop under either queue. Of `+` only `WalkAdd` is used. -/
namespace TV.Graph
/-- All that the proofs about `run_routing_forward` use of `+` and `0` (on top of `≤` being a linear order): adding a
non-negative weight does not decrease a label, and addition on the right is monotone. Neither associativity,
commutativity, cancellation nor `a + 0 = a` is needed, because the code and `Walk` both add the weights of a walk from the
source outwards, `((0 + w₁) + w₂) + …`. Every linearly ordered additive commutative monoid (`ℕ ℤ ℚ ℝ`, …) is an instance;
so is IEEE-754 round-to-nearest addition on the non-NaN doubles (rounding is monotone), which is *not* associative. -/
class WalkAdd (W : Type) [LinearOrder W] [Add W] [Zero W] : Prop where
  le_add_right : ∀ (a w : W), 0 ≤ w → a ≤ a + w
  add_le_add : ∀ (a b w : W), a ≤ b → a + w ≤ b + w

instance instWalkAddOfMonoid {W : Type} [AddCommMonoid W] [LinearOrder W] [IsOrderedAddMonoid W] : WalkAdd W where
  le_add_right := fun _ _ h => le_add_of_nonneg_right h
  add_le_add := fun _ _ w h => add_le_add_left h w

section
variable {W : Type} [LinearOrder W] [Add W] [Zero W] [WalkAdd W]

/-- a permitted arc u → v of weight w -/
def Arc (net : Net W) (u v : Nat) (w : W) : Prop :=
  ∃ e ∈ net.edges, e.w = w ∧ ((0 ≤ e.ori ∧ e.src = u ∧ e.tgt = v) ∨ (e.ori ≤ 0 ∧ e.tgt = u ∧ e.src = v))

inductive Walk (net : Net W) (s : Nat) : Nat → W → Prop
  | nil : Walk net s s 0
  | snoc {v t : Nat} {c w : W} : Walk net s v c → Arc net v t w → Walk net s t (c + w)

/-- the invariant of Dijkstra's loop; the clauses are read one by one at `TV.C06.forward_invariant` -/
structure Inv (net : Net W) (s : Nat) (st : St W) : Prop where
  j1 : st.d s = some 0
  j2 : ∀ u, st.vis u = true → ∀ v w, Arc net u v w → ∃ x y, st.d u = some x ∧ st.d v = some y ∧ y ≤ x + w
  j3 : ∀ v y, st.d v = some y → Walk net s v y
  j4 : ∀ u x, st.vis u = true → st.d u = some x → ∀ v y, st.vis v = false → st.d v = some y → x ≤ y
  j5 : ∀ u, st.vis u = true → ∃ x, st.d u = some x
  j6 : ∀ v y, st.d v = some y → v < net.n
  j7 : ∀ v y, st.d v = some y → 0 ≤ y

/-- the invariants of the loop that do not depend on the order in which the queue is emptied -/
structure InvA (net : Net W) (s : Nat) (st : St W) : Prop where
  a1 : ∃ y, st.d s = some y
  a2 : ∀ u, st.vis u = true → ∀ v w, Arc net u v w → ∃ y, st.d v = some y
  a3 : ∀ v y, st.d v = some y → Walk net s v y
  a5 : ∀ u, st.vis u = true → ∃ x, st.d u = some x
  a6 : ∀ v y, st.d v = some y → v < net.n

/-- the part of them that speaks of the labels alone, not of the network: the source is at 0, a settled node is labelled,
no label is negative -/
structure InvB (s : Nat) (st : St W) : Prop where
  b1 : st.d s = some 0
  b5 : ∀ u, st.vis u = true → ∃ x, st.d u = some x
  b7 : ∀ v y, st.d v = some y → 0 ≤ y

/-- the loop invariant with the queue order abstracted: what holds whichever node the queue hands out (`InvA`, `InvB`), and the
two clauses that need it to hand out a node of minimal priority — `pr v y` is the priority under which a node `v` labelled
`y` waits in the queue (`y` itself in Dijkstra mode, `y + h v` in A* mode) -/
structure InvP (pr : Nat → W → W) (net : Net W) (s : Nat) (st : St W) : Prop where
  a : InvA net s st
  b : InvB s st
  j2 : ∀ u, st.vis u = true → ∀ v w, Arc net u v w → ∃ x y, st.d u = some x ∧ st.d v = some y ∧ y ≤ x + w
  j4 : ∀ u x, st.vis u = true → st.d u = some x → ∀ v y, st.vis v = false → st.d v = some y → pr u x ≤ pr v y

/-- what the proofs use of a queue priority: it orders the labels of one node as `≤` does, and it does not decrease along
a permitted arc (Dijkstra: weights are non-negative; A*: the heuristic is consistent) -/
structure PrioOK (pr : Nat → W → W) (net : Net W) : Prop where
  mono : ∀ v a b, pr v a ≤ pr v b ↔ a ≤ b
  arc : ∀ u v w x, Arc net u v w → pr u x ≤ pr v (x + w)

end

variable {W : Type}

theorem mem_nextEdges {net : Net W} {u : Nat} {e : Edge W} :
    e ∈ nextEdges net u ↔ e ∈ net.edges ∧ ((0 ≤ e.ori ∧ e.src = u) ∨ (e.ori ≤ 0 ∧ e.tgt = u)) := by
  simp only [nextEdges, List.mem_filter, Bool.or_eq_true, Bool.and_eq_true, decide_eq_true_eq]

theorem next_dir {net : Net W} {u v : Nat} {e : Edge W} (he : e ∈ nextEdges net u) (ho : other e u = v) :
    (0 ≤ e.ori ∧ e.src = u ∧ e.tgt = v) ∨ (e.ori ≤ 0 ∧ e.tgt = u ∧ e.src = v) := by
  unfold other at ho
  rcases (mem_nextEdges.1 he).2 with ⟨h1, h2⟩ | ⟨h1, h2⟩
  · by_cases ht : e.tgt = u
    · rw [if_pos ht] at ho; exact Or.inl ⟨h1, h2, ht.trans (h2.symm.trans ho)⟩
    · rw [if_neg ht] at ho; exact Or.inl ⟨h1, h2, ho⟩
  · rw [if_pos h2] at ho; exact Or.inr ⟨h1, h2, ho⟩

theorem arc_iff_next (net : Net W) (u v : Nat) (w : W) :
    Arc net u v w ↔ ∃ e ∈ nextEdges net u, other e u = v ∧ e.w = w := by
  constructor
  · rintro ⟨e, he, hw, h⟩
    refine ⟨e, mem_nextEdges.2 ⟨he, h.imp (fun h => ⟨h.1, h.2.1⟩) (fun h => ⟨h.1, h.2.1⟩)⟩, ?_, hw⟩
    · rcases h with ⟨_, h2, h3⟩ | ⟨_, h2, h3⟩
      · unfold other; split
        · rename_i h; rw [h2]; rw [← h3]; exact h.symm
        · exact h3
      · unfold other; simp [h2, h3]
  · rintro ⟨e, he, ho, hw⟩
    exact ⟨e, (mem_nextEdges.1 he).1, hw, next_dir he ho⟩

section
variable [LinearOrder W]

/-- the scan of `popMinAux` (and of `popMinKey`, `Model/GraphAStar.lean`) with the compared quantity abstracted: the first
strict minimum of `key v (label v)` over the unsettled labelled nodes `v < k` -/
def popKey (key : Nat → W → W) (st : St W) : Nat → Option (Nat × W)
  | 0 => none
  | k+1 =>
    let best := popKey key st k
    if st.vis k then best else
    match st.d k with
    | none => best
    | some x => match best with
      | none => some (k, x)
      | some (u, y) => if key k x < key u y then some (k, x) else some (u, y)

theorem popMinAux_eq_popKey (st : St W) (k : Nat) : popMinAux st k = popKey (fun _ x => x) st k := by
  induction k with
  | zero => rfl
  | succ k ih => simp only [popMinAux, popKey, ih]; rfl

/-- `r` is the first minimum of `key` over the unsettled labelled nodes below `k` (`none`: there is no such node) -/
def FirstMin (key : Nat → W → W) (st : St W) (k : Nat) : Option (Nat × W) → Prop
  | none => ∀ v, v < k → st.vis v = false → st.d v = none
  | some (u, x) => u < k ∧ st.vis u = false ∧ st.d u = some x ∧
      ∀ v y, v < k → st.vis v = false → st.d v = some y → key u x ≤ key v y ∧ (key v y ≤ key u x → u ≤ v)

theorem FirstMin.skip {key : Nat → W → W} {st : St W} {k : Nat} {r : Option (Nat × W)} (h : FirstMin key st k r)
    (hk : ∀ y, st.vis k = false → st.d k ≠ some y) : FirstMin key st (k + 1) r := by
  have below : ∀ {v}, v < k + 1 → st.vis v = false → (∀ y, st.d v ≠ some y) ∨ v < k := fun {v} hv hvis => by
    rcases Nat.lt_succ_iff_lt_or_eq.1 hv with h | rfl
    · exact Or.inr h
    · exact Or.inl fun y => hk y hvis
  match r, h with
  | none, h => exact fun v hv hvis => (below hv hvis).elim (fun hn => Option.eq_none_iff_forall_ne_some.2 hn) (h v · hvis)
  | some (u, x), ⟨a, b, c, d⟩ =>
    exact ⟨Nat.lt_succ_of_lt a, b, c, fun v y hv hvis hd => (below hv hvis).elim (fun hn => absurd hd (hn y)) (d v y · hvis hd)⟩

theorem popKey_firstMin {key : Nat → W → W} {st : St W} {k : Nat} {r : Option (Nat × W)} (h : popKey key st k = r) :
    FirstMin key st k r := by
  subst h
  fun_induction popKey key st k with
  | case1 => exact fun v hv => absurd hv (Nat.not_lt_zero v)
  | case2 k best hv ih => exact ih.skip fun y h => by rw [hv] at h; cases h
  | case3 k best hv hd ih => exact ih.skip fun y _ h => by rw [hd] at h; cases h
  | case4 k best hv xk hd hb ih =>
    rw [show popKey key st k = _ from hb] at ih
    refine ⟨Nat.lt_succ_self _, Bool.eq_false_iff.2 hv, hd, fun v y hvk hvis hdv => ?_⟩
    rcases Nat.lt_succ_iff_lt_or_eq.1 hvk with h' | rfl
    · rw [ih v h' hvis] at hdv; cases hdv
    · cases hd.symm.trans hdv; exact ⟨le_refl _, fun _ => le_refl _⟩
  | case5 k best hv xk hd ub yb hb hlt ih =>
    rw [show popKey key st k = _ from hb] at ih
    refine ⟨Nat.lt_succ_self _, Bool.eq_false_iff.2 hv, hd, fun v y hvk hvis hdv => ?_⟩
    rcases Nat.lt_succ_iff_lt_or_eq.1 hvk with h' | rfl
    · have := (ih.2.2.2 v y h' hvis hdv).1
      exact ⟨le_trans (le_of_lt hlt) this, fun h2 => absurd (lt_of_lt_of_le hlt this) (not_lt.2 h2)⟩
    · cases hd.symm.trans hdv; exact ⟨le_refl _, fun _ => le_refl _⟩
  | case6 k best hv xk hd ub yb hb hlt ih =>
    rw [show popKey key st k = _ from hb] at ih
    obtain ⟨a, b, c, d⟩ := ih
    refine ⟨Nat.lt_succ_of_lt a, b, c, fun v y hvk hvis hdv => ?_⟩
    rcases Nat.lt_succ_iff_lt_or_eq.1 hvk with h' | rfl
    · exact d v y h' hvis hdv
    · cases hd.symm.trans hdv; exact ⟨not_lt.1 hlt, fun _ => Nat.le_of_lt a⟩

theorem popMinAux_spec (st : St W) (k : Nat) :
    (popMinAux st k = none → ∀ v, v < k → st.vis v = false → st.d v = none) ∧
    (∀ u x, popMinAux st k = some (u, x) → u < k ∧ st.vis u = false ∧ st.d u = some x ∧
        ∀ v y, v < k → st.vis v = false → st.d v = some y → x ≤ y) := by
  rw [popMinAux_eq_popKey]
  refine ⟨fun e => popKey_firstMin e, fun u x e => ?_⟩
  obtain ⟨a, b, c, d⟩ := popKey_firstMin e
  exact ⟨a, b, c, fun v y hv hvis hd => (d v y hv hvis hd).1⟩

theorem popMin_facts {net : Net W} {st : St W} {u : Nat} {du : W} (hp : popMinAux st net.n = some (u, du)) :
    u < net.n ∧ st.vis u = false ∧ st.d u = some du ∧
      ∀ v y, v < net.n → st.vis v = false → st.d v = some y → du ≤ y :=
  (popMinAux_spec st net.n).2 u du hp

/-- `visite[z] = True` on top of earlier marks -/
theorem mark_true {vis : Nat → Bool} {u z : Nat} : (if z = u then true else vis z) = true ↔ z = u ∨ vis z = true := by
  split
  · rename_i h; exact ⟨fun _ => Or.inl h, fun _ => rfl⟩
  · rename_i h; exact ⟨Or.inr, fun h' => h'.resolve_left h⟩

theorem mark_false {vis : Nat → Bool} {u z : Nat} : (if z = u then true else vis z) = false ↔ z ≠ u ∧ vis z = false := by
  split
  · rename_i h; exact ⟨fun h' => (nomatch h'), fun h' => absurd h h'.1⟩
  · rename_i h; exact ⟨fun h' => ⟨h, h'⟩, fun h' => h'.2⟩

end

def cnt (st : St W) : Nat → Nat
  | 0 => 0
  | k+1 => cnt st k + (if st.vis k then 0 else 1)

theorem cnt_le (st : St W) (k : Nat) : cnt st k ≤ k := by
  induction k with
  | zero => simp [cnt]
  | succ k ih => simp only [cnt]; split <;> omega

theorem cnt_zero_all (st : St W) (k : Nat) (h : cnt st k = 0) : ∀ v, v < k → st.vis v = true := by
  induction k with
  | zero => intro v hv; omega
  | succ k ih =>
    simp only [cnt] at h
    intro v hv
    by_cases hk : st.vis k = true
    · simp only [hk, if_true] at h
      rcases Nat.lt_succ_iff_lt_or_eq.mp hv with h' | h'
      · exact ih (by omega) v h'
      · subst h'; exact hk
    · simp [hk] at h

theorem cnt_mark (st st' : St W) (u : Nat) (hu : st.vis u = false)
    (hv : ∀ z, st'.vis z = if z = u then true else st.vis z) (k : Nat) :
    cnt st' k + (if u < k then 1 else 0) = cnt st k := by
  induction k with
  | zero => simp [cnt]
  | succ k ih =>
    simp only [cnt, hv k]
    by_cases hku : k = u
    · subst hku; simp [hu]; have : ¬ (k < k) := by omega
      simp at ih; omega
    · have h1 : (u < k + 1) = (u < k) := by apply propext; constructor <;> intro h <;> omega
      simp only [hku, if_false, h1]; omega

variable [LinearOrder W] [Add W]

theorem relaxOne_cases (u : Nat) (du : W) (st : St W) (e : Edge W) :
    (st.vis (other e u) = true ∧ relaxOne u du st e = st) ∨
    (st.vis (other e u) = false ∧ (∃ y0, st.d (other e u) = some y0 ∧ y0 ≤ du + e.w) ∧ relaxOne u du st e = st) ∨
    (st.vis (other e u) = false ∧ (∀ y0, st.d (other e u) = some y0 → du + e.w < y0) ∧
      relaxOne u du st e = { st with d := fun z => if z = other e u then some (du + e.w) else st.d z,
                                     pred := fun z => if z = other e u then some (u, e.id) else st.pred z }) := by
  fun_cases relaxOne u du st e
  case case1 v hv => exact Or.inl ⟨hv, rfl⟩
  case case2 v hv upd hd => exact Or.inr (Or.inr ⟨Bool.eq_false_iff.2 hv, fun _ h => (nomatch hd.symm.trans h), rfl⟩)
  case case3 v hv upd y hd hlt =>
    exact Or.inr (Or.inr ⟨Bool.eq_false_iff.2 hv, fun _ h => Option.some.inj (hd.symm.trans h) ▸ hlt, rfl⟩)
  case case4 v hv y hd hlt => exact Or.inr (Or.inl ⟨Bool.eq_false_iff.2 hv, ⟨y, hd, not_lt.1 hlt⟩, rfl⟩)

theorem relaxOne_spec (u : Nat) (du : W) (st : St W) (e : Edge W) :
    (relaxOne u du st e).vis = st.vis ∧
    (∀ z, ((relaxOne u du st e).d z = st.d z ∧ (relaxOne u du st e).pred z = st.pred z) ∨
      (z = other e u ∧ st.vis z = false ∧ (∀ y0, st.d z = some y0 → du + e.w < y0) ∧
        (relaxOne u du st e).d z = some (du + e.w) ∧ (relaxOne u du st e).pred z = some (u, e.id))) ∧
    (st.vis (other e u) = false → ∃ y, (relaxOne u du st e).d (other e u) = some y ∧ y ≤ du + e.w) := by
  rcases relaxOne_cases u du st e with ⟨hv, h⟩ | ⟨_, ⟨y0, hd, hle⟩, h⟩ | ⟨hv, hlt, h⟩
  · rw [h]; exact ⟨rfl, fun _ => Or.inl ⟨rfl, rfl⟩, fun h' => absurd (hv.symm.trans h') nofun⟩
  · rw [h]; exact ⟨rfl, fun _ => Or.inl ⟨rfl, rfl⟩, fun _ => ⟨y0, hd, hle⟩⟩
  · rw [h]
    refine ⟨rfl, fun z => ?_, fun _ => ⟨_, if_pos rfl, le_refl _⟩⟩
    by_cases hz : z = other e u
    · exact Or.inr ⟨hz, hz ▸ hv, hz ▸ hlt, if_pos hz, if_pos hz⟩
    · exact Or.inl ⟨if_neg hz, if_neg hz⟩

theorem relaxAll_spec (u : Nat) (du : W) (es : List (Edge W)) (st : St W) :
    (es.foldl (relaxOne u du) st).vis = st.vis ∧
    (∀ z, ((es.foldl (relaxOne u du) st).d z = st.d z ∧ (es.foldl (relaxOne u du) st).pred z = st.pred z) ∨
      ∃ e ∈ es, z = other e u ∧ st.vis z = false ∧ (∀ y0, st.d z = some y0 → du + e.w < y0) ∧
        (es.foldl (relaxOne u du) st).d z = some (du + e.w) ∧ (es.foldl (relaxOne u du) st).pred z = some (u, e.id)) ∧
    (∀ e ∈ es, st.vis (other e u) = false → ∃ y, (es.foldl (relaxOne u du) st).d (other e u) = some y ∧ y ≤ du + e.w) := by
  induction es generalizing st with
  | nil => exact ⟨rfl, fun _ => Or.inl ⟨rfl, rfl⟩, nofun⟩
  | cons e es ih =>
    obtain ⟨a1, a2, a3⟩ := relaxOne_spec u du st e
    obtain ⟨b1, b2, b3⟩ := ih (relaxOne u du st e)
    simp only [List.foldl_cons]
    refine ⟨b1.trans a1, fun z => ?_, fun e' he' hv => ?_⟩
    · rcases b2 z with ⟨hd, hp⟩ | ⟨e', he', hz, hv, hlt, hd, hp⟩
      · rcases a2 z with ⟨gd, gp⟩ | ⟨hz, hv, hlt, gd, gp⟩
        · exact Or.inl ⟨hd.trans gd, hp.trans gp⟩
        · exact Or.inr ⟨e, List.mem_cons_self, hz, hv, hlt, hd.trans gd, hp.trans gp⟩
      · refine Or.inr ⟨e', List.mem_cons_of_mem _ he', hz, a1 ▸ hv, fun y0 h0 => ?_, hd, hp⟩
        rcases a2 z with ⟨gd, _⟩ | ⟨_, _, hlt0, gd, _⟩
        · exact hlt y0 (gd.trans h0)
        · exact lt_trans (hlt _ gd) (hlt0 y0 h0)
    · rcases List.mem_cons.1 he' with rfl | he'
      · obtain ⟨y, hy, hle⟩ := a3 hv
        rcases b2 (other e' u) with ⟨hd, _⟩ | ⟨e'', _, _, _, hlt, hd, _⟩
        · exact ⟨y, hd.trans hy, hle⟩
        · exact ⟨_, hd, le_trans (le_of_lt (hlt y hy)) hle⟩
      · exact b3 e' he' (a1 ▸ hv)

theorem step_eq (net : Net W) (st : St W) :
    step net st = (popMinAux st net.n).map (fun p => settle net st p.1 p.2) := by
  unfold step settle
  cases popMinAux st net.n with
  | none => rfl
  | some p => rfl

theorem settle_at (net : Net W) (st : St W) (u : Nat) (du : W) (z : Nat) :
    ((settle net st u du).d z = st.d z ∧ (settle net st u du).pred z = st.pred z) ∨
    (z ≠ u ∧ st.vis z = false ∧ ∃ e ∈ nextEdges net u, other e u = z ∧ (∀ y0, st.d z = some y0 → du + e.w < y0) ∧
      (settle net st u du).d z = some (du + e.w) ∧ (settle net st u du).pred z = some (u, e.id)) :=
  ((relaxAll_spec u du (nextEdges net u) { st with vis := fun z => if z = u then true else st.vis z }).2.1 z).imp_right
    fun ⟨e, he, hz, hv, h⟩ => ⟨(mark_false.1 hv).1, (mark_false.1 hv).2, e, he, hz.symm, h⟩

theorem settle_spec (net : Net W) (st : St W) (u : Nat) (du : W) :
    (∀ z, (settle net st u du).vis z = if z = u then true else st.vis z) ∧
    (∀ z, (z = u ∨ st.vis z = true) → (settle net st u du).d z = st.d z) ∧
    (∀ z y, st.d z = some y → ∃ y', (settle net st u du).d z = some y' ∧ y' ≤ y) ∧
    (∀ z y', (settle net st u du).d z = some y' → st.d z = some y' ∨
        ∃ w, Arc net u z w ∧ y' = du + w) ∧
    (∀ v w, Arc net u v w → (settle net st u du).vis v = false →
        ∃ y, (settle net st u du).d v = some y ∧ y ≤ du + w) := by
  obtain ⟨r1, _, r3⟩ := relaxAll_spec u du (nextEdges net u) { st with vis := fun z => if z = u then true else st.vis z }
  have hvis : ∀ z, (settle net st u du).vis z = if z = u then true else st.vis z := fun z => congrFun r1 z
  refine ⟨hvis, fun z hz => ?_, fun z y hy => ?_, fun z y' h => ?_, fun v w ha hv => ?_⟩
  · rcases settle_at net st u du z with h | ⟨hzu, hv, _⟩
    · exact h.1
    · exact absurd (hz.resolve_left hzu) (by rw [hv]; nofun)
  · rcases settle_at net st u du z with h | ⟨_, _, e, _, _, hlt, hd, _⟩
    · exact ⟨y, h.1.trans hy, le_refl _⟩
    · exact ⟨_, hd, le_of_lt (hlt y hy)⟩
  · rcases settle_at net st u du z with h' | ⟨_, _, e, he, hz, _, hd, _⟩
    · exact Or.inl (h'.1.symm.trans h)
    · exact Or.inr ⟨e.w, (arc_iff_next net u z e.w).2 ⟨e, he, hz, rfl⟩, (Option.some.inj (hd.symm.trans h)).symm⟩
  · obtain ⟨e, he, rfl, rfl⟩ := (arc_iff_next net u v w).1 ha
    exact r3 e he ((hvis _).symm.trans hv)

theorem settled_of_done (net : Net W) (st : St W) (hdone : step net st = none)
    (v : Nat) (hv : v < net.n) (y : W) (hd : st.d v = some y) : st.vis v = true := by
  rw [step_eq, Option.map_eq_none_iff] at hdone
  cases hvis : st.vis v with
  | true => rfl
  | false => rw [(popMinAux_spec st net.n).1 hdone v hv hvis] at hd; cases hd

theorem step_vis (net : Net W) (st st' : St W) (h : step net st = some st') :
    ∃ u, u < net.n ∧ st.vis u = false ∧ ∀ z, st'.vis z = if z = u then true else st.vis z := by
  rw [step_eq, Option.map_eq_some_iff] at h
  obtain ⟨p, hp, rfl⟩ := h
  exact ⟨p.1, (popMin_facts hp).1, (popMin_facts hp).2.1, (settle_spec net st p.1 p.2).1⟩

variable [Zero W]

def WFNet (net : Net W) : Prop := ∀ e ∈ net.edges, e.src < net.n ∧ e.tgt < net.n ∧ 0 ≤ e.w

omit [Add W] in
theorem arc_wf {net : Net W} (h : WFNet net) {u v : Nat} {w : W} (ha : Arc net u v w) : v < net.n ∧ 0 ≤ w := by
  obtain ⟨e, he, rfl, hh⟩ := ha
  obtain ⟨a, b, c⟩ := h e he
  rcases hh with ⟨_, _, rfl⟩ | ⟨_, _, rfl⟩
  · exact ⟨b, c⟩
  · exact ⟨a, c⟩

omit [LinearOrder W] [Add W] in
theorem St.init_d {s v : Nat} {y : W} (h : (St.init s : St W).d v = some y) : v = s ∧ y = 0 := by
  simp only [St.init] at h
  split at h
  · exact ⟨‹_›, (Option.some.inj h).symm⟩
  · cases h

omit [LinearOrder W] in
theorem invA_init (net : Net W) (s : Nat) (hs : s < net.n) : InvA net s (St.init s) := by
  refine ⟨⟨0, if_pos rfl⟩, fun u hu => (nomatch hu), fun v y hv => ?_, fun u hu => (nomatch hu), fun v y hv => ?_⟩
  · obtain ⟨rfl, rfl⟩ := St.init_d hv; exact Walk.nil
  · rw [(St.init_d hv).1]; exact hs

theorem settle_invA (net : Net W) (hnet : WFNet net) (s : Nat) (st : St W)
    (hinv : InvA net s st) (u : Nat) (du : W) (hud : st.d u = some du) :
    InvA net s (settle net st u du) := by
  obtain ⟨s1, s2, s3, s4, s5⟩ := settle_spec net st u du
  have visT : ∀ z, (settle net st u du).vis z = true → z = u ∨ st.vis z = true :=
    fun z h => mark_true.mp ((s1 z).symm.trans h)
  have a5' : ∀ x, (settle net st u du).vis x = true → ∃ a, (settle net st u du).d x = some a := by
    intro x hx
    rcases visT x hx with rfl | hx_old
    · exact ⟨du, (s2 x (Or.inl rfl)).trans hud⟩
    · obtain ⟨a, ha⟩ := hinv.a5 x hx_old
      exact ⟨a, (s2 x (Or.inr hx_old)).trans ha⟩
  refine ⟨?_, ?_, ?_, a5', ?_⟩
  · obtain ⟨y, hy⟩ := hinv.a1
    obtain ⟨y', hy', _⟩ := s3 s y hy
    exact ⟨y', hy'⟩
  · intro x hx v w ha
    rcases visT x hx with rfl | hx_old
    · cases hvv : (settle net st x du).vis v with
      | true => exact a5' v hvv
      | false => obtain ⟨y, hy, _⟩ := s5 v w ha hvv; exact ⟨y, hy⟩
    · obtain ⟨y, hy⟩ := hinv.a2 x hx_old v w ha
      obtain ⟨y', hy', _⟩ := s3 v y hy
      exact ⟨y', hy'⟩
  · intro v y hv
    rcases s4 v y hv with h' | ⟨w, ha, rfl⟩
    · exact hinv.a3 v y h'
    · exact Walk.snoc (hinv.a3 u du hud) ha
  · intro v y hv
    rcases s4 v y hv with h' | ⟨w, ha, _⟩
    · exact hinv.a6 v y h'
    · exact (arc_wf hnet ha).1

omit [Add W] in
theorem invB_init (s : Nat) : InvB s (St.init s : St W) :=
  ⟨if_pos rfl, fun _ h => (nomatch h), fun v y h => le_of_eq (St.init_d h).2.symm⟩

theorem inv_iff_invP {net : Net W} {s : Nat} {st : St W} : Inv net s st ↔ InvP (fun _ y => y) net s st :=
  ⟨fun h => ⟨⟨⟨0, h.j1⟩, fun u hu v w ha => (h.j2 u hu v w ha).elim fun _ ⟨y, _, hy, _⟩ => ⟨y, hy⟩, h.j3, h.j5, h.j6⟩,
      ⟨h.j1, h.j5, h.j7⟩, h.j2, h.j4⟩,
    fun h => ⟨h.b.b1, h.j2, h.a.a3, h.j4, h.a.a5, h.a.a6, h.b.b7⟩⟩

theorem invP_init (pr : Nat → W → W) (net : Net W) (s : Nat) (hs : s < net.n) : InvP pr net s (St.init s) :=
  ⟨invA_init net s hs, invB_init s, fun _ h => (nomatch h), fun _ _ h => (nomatch h)⟩

variable [WalkAdd W]

theorem settle_invB (net : Net W) (hnet : WFNet net) (s : Nat) (st : St W) (hinv : InvB s st) (u : Nat) (du : W)
    (hud : st.d u = some du) : InvB s (settle net st u du) := by
  obtain ⟨s1, s2, s3, s4, _⟩ := settle_spec net st u du
  have b7' : ∀ v y, (settle net st u du).d v = some y → 0 ≤ y := by
    intro v y hv
    rcases s4 v y hv with h' | ⟨w, ha, rfl⟩
    · exact hinv.b7 v y h'
    · exact le_trans (hinv.b7 u du hud) (WalkAdd.le_add_right _ _ (arc_wf hnet ha).2)
  refine ⟨?_, fun x hx => ?_, b7'⟩
  · obtain ⟨y', h1, h2⟩ := s3 s 0 hinv.b1
    rw [h1, le_antisymm h2 (b7' s y' h1)]
  · rcases mark_true.mp ((s1 x).symm.trans hx) with rfl | hx_old
    · exact ⟨du, (s2 x (Or.inl rfl)).trans hud⟩
    · obtain ⟨a, ha⟩ := hinv.b5 x hx_old
      exact ⟨a, (s2 x (Or.inr hx_old)).trans ha⟩

theorem prioOK_label {net : Net W} (hnet : WFNet net) : PrioOK (fun _ y => y) net :=
  ⟨fun _ _ _ => Iff.rfl, fun _ _ w x ha => WalkAdd.le_add_right x w (arc_wf hnet ha).2⟩

theorem inv_init (net : Net W) (s : Nat) (hs : s < net.n) : Inv net s (St.init s) :=
  inv_iff_invP.2 (invP_init _ net s hs)

theorem settle_invP {pr : Nat → W → W} {net : Net W} (hnet : WFNet net) (hpr : PrioOK pr net) {s : Nat} {st : St W}
    (hinv : InvP pr net s st) {u : Nat} {du : W} (huv : st.vis u = false) (hud : st.d u = some du)
    (hmin : ∀ v y, v < net.n → st.vis v = false → st.d v = some y → pr u du ≤ pr v y) :
    InvP pr net s (settle net st u du) := by
  refine ⟨settle_invA net hnet s st hinv.a u du hud, settle_invB net hnet s st hinv.b u du hud, ?_, ?_⟩
  all_goals
    obtain ⟨s1, s2, s3, s4, s5⟩ := settle_spec net st u du
    generalize settle net st u du = st' at s1 s2 s3 s4 s5 ⊢
    have hu' : st'.d u = some du := (s2 u (Or.inl rfl)).trans hud
    have old : ∀ z, st.vis z = true → st'.d z = st.d z := fun z h => s2 z (Or.inr h)
    have visT : ∀ z, st'.vis z = true → z = u ∨ st.vis z = true := fun z h => mark_true.mp ((s1 z).symm.trans h)
  · intro x hx v w ha
    rcases visT x hx with rfl | hx_old
    · cases hvv : st'.vis v with
      | false =>
        obtain ⟨y, hy, ly⟩ := s5 v w ha hvv
        exact ⟨du, y, hu', hy, ly⟩
      | true =>
        -- `v` was settled no later than `x`: its priority is at most that of `x`, which is at most that of `du + w` at `v`
        obtain ⟨yv, hyv, hle⟩ : ∃ yv, st'.d v = some yv ∧ pr v yv ≤ pr x du := by
          rcases visT v hvv with rfl | hv_old
          · exact ⟨du, hu', le_refl _⟩
          · obtain ⟨yv, hyv⟩ := hinv.a.a5 v hv_old
            exact ⟨yv, (old v hv_old).trans hyv, hinv.j4 v yv hv_old hyv x du huv hud⟩
        exact ⟨du, yv, hu', hyv, (hpr.mono v yv (du + w)).1 (le_trans hle (hpr.arc x v w du ha))⟩
    · obtain ⟨a, b, ha1, hb1, hab⟩ := hinv.j2 x hx_old v w ha
      obtain ⟨b', hb', lb'⟩ := s3 v b hb1
      exact ⟨a, b', (old x hx_old).trans ha1, hb', le_trans lb' hab⟩
  · intro x a hx hxa v y hv hvy
    have hge : pr u du ≤ pr v y := by
      rcases s4 v y hvy with h | ⟨w, ha, rfl⟩
      · exact hmin v y (hinv.a.a6 v y h) (mark_false.mp ((s1 v).symm.trans hv)).2 h
      · exact hpr.arc u v w du ha
    rcases visT x hx with rfl | hx_old
    · rw [hu'] at hxa; exact (Option.some.inj hxa) ▸ hge
    · rw [old x hx_old] at hxa
      exact le_trans (hinv.j4 x a hx_old hxa u du huv hud) hge

theorem invP_cover {pr : Nat → W → W} {net : Net W} (hpr : PrioOK pr net) {s : Nat} {st : St W}
    (hinv : InvP pr net s st) (v : Nat) (c : W) (hw : Walk net s v c) :
    ∃ z y, st.d z = some y ∧ pr z y ≤ pr v c ∧ (st.vis z = false ∨ z = v) := by
  induction hw with
  | nil => exact ⟨s, 0, hinv.b.b1, le_refl _, Or.inr rfl⟩
  | @snoc v t c w _ ha ih =>
    obtain ⟨z, y, hz, hle, hcase⟩ := ih
    cases hzv : st.vis z with
    | false => exact ⟨z, y, hz, le_trans hle (hpr.arc v t w c ha), Or.inl hzv⟩
    | true =>
      obtain rfl : z = v := hcase.resolve_left (by rw [hzv]; exact Bool.noConfusion)
      obtain ⟨x, y', hx, hy', hxy⟩ := hinv.j2 z hzv t w ha
      obtain rfl : y = x := Option.some.inj (hz.symm.trans hx)
      exact ⟨t, y', hy', (hpr.mono t _ _).2 (le_trans hxy (WalkAdd.add_le_add _ _ w ((hpr.mono z _ _).1 hle))), Or.inr rfl⟩

theorem invP_settled_min {pr : Nat → W → W} {net : Net W} (hpr : PrioOK pr net) {s : Nat} {st : St W}
    (hinv : InvP pr net s st) {u : Nat} {x : W} (hv : st.vis u = true) (hd : st.d u = some x) :
    Walk net s u x ∧ ∀ c, Walk net s u c → x ≤ c := by
  refine ⟨hinv.a.a3 u x hd, fun c hw => ?_⟩
  obtain ⟨z, y, hz, hle, hcase⟩ := invP_cover hpr hinv u c hw
  rcases hcase with hzv | rfl
  · exact (hpr.mono u x c).1 (le_trans (hinv.j4 u x hv hd z y hzv hz) hle)
  · rw [hd] at hz; exact (hpr.mono z x c).1 ((Option.some.inj hz) ▸ hle)

theorem settle_inv (net : Net W) (hnet : WFNet net) (s : Nat) (st : St W) (hinv : Inv net s st)
    (u : Nat) (du : W) (hp : popMinAux st net.n = some (u, du)) : Inv net s (settle net st u du) :=
  inv_iff_invP.2 (settle_invP hnet (prioOK_label hnet) (inv_iff_invP.1 hinv) (popMin_facts hp).2.1 (popMin_facts hp).2.2.1
    (popMin_facts hp).2.2.2)

theorem inv_step (net : Net W) (hnet : WFNet net) (s : Nat) (st st' : St W)
    (hinv : Inv net s st) (hstep : step net st = some st') : Inv net s st' := by
  rw [step_eq] at hstep
  cases hp : popMinAux st net.n with
  | none => rw [hp] at hstep; cases hstep
  | some p =>
    rw [hp] at hstep
    exact (Option.some.inj hstep) ▸ settle_inv net hnet s st hinv p.1 p.2 hp

theorem run_inv (net : Net W) (hnet : WFNet net) (s : Nat) (f : Nat) (st : St W)
    (hinv : Inv net s st) : Inv net s (run net f st) := by
  induction f generalizing st with
  | zero => exact hinv
  | succ f ih =>
    unfold run
    cases h : step net st with
    | none => exact hinv
    | some st' => exact ih st' (inv_step net hnet s st st' hinv h)

theorem labels_are_distances (net : Net W) (s : Nat) (st : St W)
    (hinv : Inv net s st) (hdone : step net st = none) :
    (∀ v c, Walk net s v c → ∃ y, st.d v = some y ∧ y ≤ c) ∧
    (∀ v y, st.d v = some y → Walk net s v y) := by
  refine ⟨?_, hinv.j3⟩
  intro v c hw
  induction hw with
  | nil => exact ⟨0, hinv.j1, le_refl _⟩
  | snoc hw' ha ih =>
    rename_i v t c w
    obtain ⟨y, hy, hyc⟩ := ih
    have hvis := settled_of_done net st hdone v (hinv.j6 v y hy) y hy
    obtain ⟨x, y', hx, hy', hle⟩ := hinv.j2 v hvis t w ha
    rw [hy] at hx; cases hx
    exact ⟨y', hy', le_trans hle (WalkAdd.add_le_add _ _ w hyc)⟩

theorem unlabelled_iff_unreachable (net : Net W) (s : Nat) (st : St W)
    (hinv : Inv net s st) (hdone : step net st = none) (v : Nat) :
    st.d v = none ↔ ¬ ∃ c, Walk net s v c := by
  obtain ⟨h1, h2⟩ := labels_are_distances net s st hinv hdone
  constructor
  · intro hn ⟨c, hc⟩
    obtain ⟨y, hy, _⟩ := h1 v c hc
    rw [hn] at hy; cases hy
  · intro hn
    cases hd : st.d v with
    | none => rfl
    | some y => exact absurd ⟨y, h2 v y hd⟩ hn

/-- `n` iterations always suffice: the Python `while len(fil) != 0` loop terminates -/
theorem run_done (net : Net W) (f : Nat) (st : St W) (hf : cnt st net.n ≤ f) :
    step net (run net f st) = none := by
  induction f generalizing st with
  | zero =>
    show step net st = none
    cases h : step net st with
    | none => rfl
    | some st' =>
      obtain ⟨u, hu, hvu, _⟩ := step_vis net st st' h
      rw [cnt_zero_all st net.n (Nat.le_zero.mp hf) u hu] at hvu; cases hvu
  | succ f ih =>
    unfold run
    cases h : step net st with
    | none => exact h
    | some st' =>
      obtain ⟨u, hu, hvu, hvis⟩ := step_vis net st st' h
      have := cnt_mark st st' u hvu hvis net.n
      simp only [hu, if_true] at this
      exact ih st' (by omega)

/-- the stop-free loop `run` from `s` computes exactly the shortest distances; the registered C06-T3 is
`TV.C06.forward_correct`, the same about `runForward` -/
theorem forward_correct (net : Net W) (hnet : WFNet net) (s : Nat) (hs : s < net.n) :
    let st := run net net.n (St.init s)
    (∀ v c, Walk net s v c → ∃ y, st.d v = some y ∧ y ≤ c) ∧
    (∀ v y, st.d v = some y → Walk net s v y) ∧
    (∀ v, st.d v = none ↔ ¬ ∃ c, Walk net s v c) := by
  intro st
  have hinv : Inv net s st := run_inv net hnet s net.n _ (inv_init net s hs)
  have hdone : step net st = none := run_done net net.n _ (cnt_le _ _)
  obtain ⟨h1, h2⟩ := labels_are_distances net s st hinv hdone
  exact ⟨h1, h2, unlabelled_iff_unreachable net s st hinv hdone⟩
end TV.Graph
