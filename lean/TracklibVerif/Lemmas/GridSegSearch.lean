import TracklibVerif.Lemmas.GridAround
/-! The `unit = -1` search of `neighborhood([c1, c2], None, unit)` of `Model/Grid.lean` (`searchSegLoop`): the first radius
`u` at which the squares around the crossed cells list something, then the radius `u + 1`. -/
namespace TV.Grid

section index
variable {α : Type}

/-- the `while` loop of `neighborhood([c1, c2], None, -1)` from radius `u`, nothing being listed within `u - 1` units of a
crossed cell: `None` when nothing is listed up to the last radius `max(csize, lsize)`; otherwise the list of everything within
`U` units of a crossed cell, where `U - 1 ≥ u` is the first radius that lists something -/
theorem searchSegLoop_spec (ix : Index α) (hs : Shape ix.grid ix.csize.toNat ix.lsize.toNat) (cells : List (Int × Int)) :
    ∀ (fuel : Nat) (u : Int), max ix.csize ix.lsize + 1 - u < (fuel : Int) → (∀ d, ¬ AroundHolds ix cells (u - 1) d) →
      ∃ r, searchSegLoop ix cells fuel u = .ok r ∧
        (r = none → ∀ d, ¬ AroundHolds ix cells (max ix.csize ix.lsize) d) ∧
        (∀ l, r = some l → ∃ U, u + 1 ≤ U ∧ (∀ d, d ∈ l ↔ AroundHolds ix cells U d) ∧
          l ≠ [] ∧ (∃ d, AroundHolds ix cells (U - 1) d) ∧ ∀ d, ¬ AroundHolds ix cells (U - 2) d) := by
  intro fuel
  induction fuel with
  | zero =>
    intro u h hprev
    exact ⟨none, rfl, fun _ d hd => hprev d (hd.mono (by omega)), fun l h => by cases h⟩
  | succ fuel ih =>
    intro u h hprev
    unfold searchSegLoop
    by_cases hu : u ≤ max ix.csize ix.lsize
    · rw [if_pos hu]
      obtain ⟨tab, h1, e1⟩ := collectAround_exact ix hs u cells []
      simp only [h1]
      have e1' : ∀ d, d ∈ tab ↔ AroundHolds ix cells u d := fun d => (e1 d).trans (or_iff_right List.not_mem_nil)
      by_cases ht : tab = []
      · -- nothing within `u` units: next radius
        subst ht
        simp only [List.length_nil, le_refl, if_true]
        obtain ⟨r, hr, r1, r2⟩ := ih (u + 1) (by push_cast at h ⊢; omega)
          (by rw [add_sub_cancel_right]; exact fun d hd => List.not_mem_nil ((e1' d).mpr hd))
        refine ⟨r, hr, r1, fun l hl => ?_⟩
        obtain ⟨U, a, rest⟩ := r2 l hl
        exact ⟨U, by omega, rest⟩
      · -- `u` is the first radius that lists something: the answer is what lies within `u + 1`
        rw [if_neg fun hle => ht (List.length_eq_zero_iff.mp (Nat.le_zero.mp hle))]
        obtain ⟨tab', h2, e2⟩ := collectAround_exact ix hs (u + 1) cells tab
        simp only [h2]
        obtain ⟨d0, hd0⟩ := List.exists_mem_of_ne_nil tab ht
        refine ⟨some tab', rfl, (fun h => by cases h), ?_⟩
        intro l hl
        cases hl
        refine ⟨u + 1, le_refl _, fun d => ?_, ?_, ⟨d0, by rw [add_sub_cancel_right]; exact (e1' d0).mp hd0⟩,
          by rw [show u + 1 - 2 = u - 1 by omega]; exact hprev⟩
        · rw [e2 d, e1' d]
          exact or_iff_right_of_imp fun h => h.mono (by omega)
        · intro hn
          have : d0 ∈ tab' := (e2 d0).mpr (Or.inl hd0)
          rw [hn] at this; cases this
    · rw [if_neg hu]
      exact ⟨none, rfl, fun _ d hd => hprev d (hd.mono (by omega)), fun l h => by cases h⟩

end index
end TV.Grid
