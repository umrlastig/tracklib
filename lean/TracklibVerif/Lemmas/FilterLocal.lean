import TracklibVerif.Model.Filter
/-! The loops of `Filter.execute` (property C15) without any law of arithmetic: the window of an output index (`window`: the pairs
weight / sample of the kernel positions that read a sample), the cells `(temp[i], norm)` as the two left-to-right sums over it
(`inner_eq_foldl`), the program after the loops (`runCells`: what a run returns or raises), and locality — the value computed at index `i` is a
function of the kernel and of the samples at distance at most `D` of `i` only. Nothing but the structure of the loops is used, so the
statements hold for every scalar type the model is instantiated at: a field (`Lemmas/Filter.lean`, where the sums are `wsum`, `wtot`),
`Float` (IEEE doubles, the arithmetic of the Python), where the equality is bit for bit, and `Ext α` (`Model/FilterExt.lean`), whose
`filterWindowX` runs the same `cells`. -/
namespace TV.Filter

theorem normalise_length {β : Type} [Add β] [Div β] [OfNat β 0] (k : List β) : (normalise k).length = k.length := by
  simp [normalise]

section cells
variable {β : Type} [Add β] [Mul β] [OfNat β 0]

theorem cells_length (s : List (Option β)) (k : List β) (D : Nat) : (cells s k D).length = s.length := by
  simp [cells]

theorem cells_getElem? (s : List (Option β)) (k : List β) (D i : Nat) :
    (cells s k D)[i]? = if i < s.length then some (inner s D i k 0 (0, 0)) else none := by
  unfold cells
  by_cases h : i < s.length <;> simp [h]

theorem cells_getElem (s : List (Option β)) (k : List β) (D i : Nat) (h : i < (cells s k D).length) :
    (cells s k D)[i] = inner s D i k 0 (0, 0) := by
  simp only [cells, List.getElem_map, List.getElem_range]

theorem mem_cells_zipIdx (s : List (Option β)) (k : List β) (D : Nat) (c : (β × β) × Nat) :
    c ∈ (cells s k D).zipIdx ↔ c.2 < s.length ∧ c.1 = inner s D c.2 k 0 (0, 0) := by
  rw [List.mem_zipIdx_iff_getElem?, cells_getElem?]
  by_cases h : c.2 < s.length <;> simp [h, eq_comm]

theorem cells_any (s : List (Option β)) (k : List β) (D : Nat) (p : (β × β) × Nat → Bool) :
    (cells s k D).zipIdx.any p = true ↔ ∃ i, i < s.length ∧ p (inner s D i k 0 (0, 0), i) = true := by
  rw [List.any_eq_true]
  constructor
  · rintro ⟨c, hc, hp⟩
    obtain ⟨h1, h2⟩ := (mem_cells_zipIdx s k D c).1 hc
    exact ⟨c.2, h1, by rw [← h2]; exact hp⟩
  · rintro ⟨i, hi, hp⟩
    exact ⟨_, (mem_cells_zipIdx s k D (_, i)).2 ⟨hi, rfl⟩, hp⟩
end cells

/-! ### `Filter.execute` after the double loop

`filterWindowG` (NaN as `none`) and `filterWindowX` (`Model/FilterExt.lean`, Python's numbers) are the same program once the cells are
computed: the test on the window length, the test under which a division raises, the divisions, the boundary copy. `runCells` is that
program for any representation of the values; both models are instances by `rfl`, and `runCells_eq` is its normal form, with one
successful branch. -/
section run
variable {C γ : Type}

def runCells (n N : Nat) (cs : List C) (bad : C × Nat → Bool) (quot : C → γ) (inp : Nat → γ) (get : Option γ → γ) (boundary : Bool) :
    Except Err (List γ) :=
  if N % 2 == 0 then .error .evenKernel
  else if cs.zipIdx.any bad then .error .zeroDiv
  else if boundary then .ok (cs.map quot)
  else if n < N / 2 then .error .index
  else .ok ((List.range n).map (fun i => if i < N / 2 ∨ n - N / 2 ≤ i then inp i else get ((cs.map quot)[i]?)))

/-- what a run that succeeds returns: the input in the copied boundaries, the quotient of the cell elsewhere -/
def runOut (n N : Nat) (cs : List C) (quot : C → γ) (inp : Nat → γ) (get : Option γ → γ) (boundary : Bool) : List γ :=
  (List.range n).map (fun i => if boundary = false ∧ (i < N / 2 ∨ n - N / 2 ≤ i) then inp i else get ((cs.map quot)[i]?))

theorem not_copied_iff {boundary : Bool} {D n i : Nat} :
    ¬ (boundary = false ∧ (i < D ∨ n - D ≤ i)) ↔ boundary = true ∨ (D ≤ i ∧ i < n - D) := by
  constructor
  · intro h
    cases boundary with
    | true => exact Or.inl rfl
    | false =>
      have : ¬ (i < D ∨ n - D ≤ i) := fun hc => h ⟨rfl, hc⟩
      exact Or.inr (by omega)
  · rintro (hf | hf) ⟨hb, hc⟩
    · rw [hb] at hf; cases hf
    · omega

theorem not_short {boundary : Bool} {D n : Nat} (h : boundary = false → D ≤ n) : ¬ (boundary = false ∧ n < D) :=
  fun hc => Nat.not_lt.mpr (h hc.1) hc.2

theorem runOut_length {n N : Nat} {cs : List C} {quot : C → γ} {inp : Nat → γ} {get : Option γ → γ} {boundary : Bool} :
    (runOut n N cs quot inp get boundary).length = n := by
  rw [runOut, List.length_map, List.length_range]

theorem runOut_getElem? {n N : Nat} {cs : List C} {quot : C → γ} {inp : Nat → γ} {get : Option γ → γ} {boundary : Bool}
    (hget : ∀ x, get (some x) = x) (i : Nat) (hi : i < n) (hc : i < cs.length) :
    (runOut n N cs quot inp get boundary)[i]? =
      some (if boundary = false ∧ (i < N / 2 ∨ n - N / 2 ≤ i) then inp i else quot cs[i]) := by
  rw [runOut, List.getElem?_map, List.getElem?_range hi, Option.map_some, List.getElem?_map, List.getElem?_eq_getElem hc,
    Option.map_some, hget]

theorem runCells_eq {n N : Nat} {cs : List C} {bad : C × Nat → Bool} {quot : C → γ} {inp : Nat → γ} {get : Option γ → γ}
    {boundary : Bool} (hn : cs.length = n) (hget : ∀ x, get (some x) = x) :
    runCells n N cs bad quot inp get boundary =
      if N % 2 = 0 then .error .evenKernel
      else if cs.zipIdx.any bad = true then .error .zeroDiv
      else if boundary = false ∧ n < N / 2 then .error .index
      else .ok (runOut n N cs quot inp get boundary) := by
  unfold runCells
  by_cases h1 : N % 2 = 0
  · rw [if_pos (by simp [h1]), if_pos h1]
  rw [if_neg (by simpa using h1), if_neg h1]
  by_cases h2 : cs.zipIdx.any bad = true
  · rw [if_pos h2, if_pos h2]
  rw [if_neg h2, if_neg h2]
  cases boundary with
  | true =>
    rw [if_pos rfl, if_neg (fun h => Bool.noConfusion h.1)]
    congr 1
    apply List.ext_getElem?
    intro i
    by_cases hi : i < n
    · rw [runOut_getElem? hget i hi (hn ▸ hi), if_neg (fun h => Bool.noConfusion h.1), List.getElem?_map,
        List.getElem?_eq_getElem (hn ▸ hi), Option.map_some]
    · rw [List.getElem?_eq_none (by rw [List.length_map]; omega), List.getElem?_eq_none (by rw [runOut_length]; omega)]
  | false =>
    rw [if_neg Bool.false_ne_true]
    by_cases h3 : n < N / 2
    · rw [if_pos h3, if_pos ⟨rfl, h3⟩]
    · rw [if_neg h3, if_neg (fun h => h3 h.2)]
      congr 1
      apply List.map_congr_left
      intro i _
      by_cases hb : i < N / 2 ∨ n - N / 2 ≤ i
      · rw [if_pos hb, if_pos ⟨rfl, hb⟩]
      · rw [if_neg hb, if_neg (fun h => hb h.2)]

theorem runCells_ok {n N : Nat} {cs : List C} {bad : C × Nat → Bool} {quot : C → γ} {inp : Nat → γ} {get : Option γ → γ}
    {boundary : Bool} (hn : cs.length = n) (hget : ∀ x, get (some x) = x) (out : List γ)
    (h : runCells n N cs bad quot inp get boundary = .ok out) : out = runOut n N cs quot inp get boundary := by
  rw [runCells_eq hn hget] at h
  split at h; · cases h
  split at h; · cases h
  split at h; · cases h
  exact (Except.ok.inj h).symm
end run

section window
variable {α : Type}

/-- the sample `v[i - j + D]` when that index is inside the signal and the value is not NaN
(indices are natural numbers: `j ≤ i + D` says `i - j + D ≥ 0`) -/
def val? (v : List (Option α)) (D i j : Nat) : Option α :=
  if j ≤ i + D ∧ i + D - j < v.length then (v[i + D - j]?).join else none

/-- the window of output index `i`: the pairs `(k[j], v[i - j + D])` for the kernel positions `j`
(counted from `j0` for the head of `k`) whose sample is inside the signal and not NaN -/
def windowFrom (v : List (Option α)) (D i : Nat) (k : List α) (j0 : Nat) : List (α × α) :=
  (k.zipIdx j0).filterMap (fun p => (val? v D i p.2).map (fun x => (p.1, x)))

def window (v : List (Option α)) (k : List α) (D i : Nat) : List (α × α) := windowFrom v D i k 0

theorem windowFrom_nil (v : List (Option α)) (D i j : Nat) : windowFrom v D i [] j = [] := rfl

theorem windowFrom_cons (v : List (Option α)) (D i j : Nat) (kj : α) (ks : List α) :
    windowFrom v D i (kj :: ks) j =
      match val? v D i j with
      | none => windowFrom v D i ks (j + 1)
      | some x => (kj, x) :: windowFrom v D i ks (j + 1) := by
  unfold windowFrom
  rw [List.zipIdx_cons, List.filterMap_cons]
  cases h : val? v D i j <;> simp

theorem val?_eq_some (v : List (Option α)) (D i j : Nat) (x : α) :
    val? v D i j = some x ↔ j ≤ i + D ∧ v[i + D - j]? = some (some x) := by
  unfold val?
  constructor
  · intro h
    split at h
    · rename_i hc
      refine ⟨hc.1, ?_⟩
      rcases hx : v[i + D - j]? with _ | _ | y <;> simp [hx, Option.join] at h ⊢
      exact h
    · cases h
  · rintro ⟨h1, h2⟩
    rw [if_pos ⟨h1, (List.getElem?_eq_some_iff.mp h2).1⟩, h2]
    rfl

theorem mem_window (v : List (Option α)) (k : List α) (D i : Nat) (p : α × α) :
    p ∈ window v k D i ↔ ∃ j, k[j]? = some p.1 ∧ j ≤ i + D ∧ v[i + D - j]? = some (some p.2) := by
  unfold window windowFrom
  rw [List.mem_filterMap]
  constructor
  · rintro ⟨⟨w, j⟩, hm, h⟩
    rw [List.mem_zipIdx_iff_getElem?] at hm
    cases hv : val? v D i j with
    | none => simp [hv] at h
    | some x =>
      simp only [hv, Option.map_some, Option.some.injEq] at h
      subst h
      exact ⟨j, hm, (val?_eq_some v D i j x).mp hv⟩
  · rintro ⟨j, hk, hv⟩
    refine ⟨(p.1, j), ?_, ?_⟩
    · rw [List.mem_zipIdx_iff_getElem?]; exact hk
    · simp [(val?_eq_some v D i j p.2).mpr hv]

theorem window_weight_mem {v : List (Option α)} {k : List α} {D i : Nat} {p : α × α}
    (h : p ∈ window v k D i) : p.1 ∈ k := by
  obtain ⟨j, hk, _⟩ := (mem_window v k D i p).mp h
  exact List.mem_of_getElem? hk

theorem windowFrom_congr (v v' : List (Option α)) (D i : Nat) (k : List α) (j0 : Nat)
    (h : ∀ j, j0 ≤ j → j < j0 + k.length → val? v D i j = val? v' D i j) :
    windowFrom v D i k j0 = windowFrom v' D i k j0 := by
  induction k generalizing j0 with
  | nil => rfl
  | cons a k ih =>
    rw [windowFrom_cons, windowFrom_cons, h j0 (Nat.le_refl _) (by rw [List.length_cons]; omega),
      ih (j0 + 1) (fun j h1 h2 => h j (by omega) (by rw [List.length_cons]; omega))]

theorem val?_map {β : Type} (f : α → β) (v : List (Option α)) (D i j : Nat) :
    val? (v.map (Option.map f)) D i j = (val? v D i j).map f := by
  unfold val?
  rw [List.length_map, List.getElem?_map]
  split
  · rcases v[i + D - j]? with _ | _ | x <;> rfl
  · rfl

theorem windowFrom_map₂ {β : Type} (f g : α → β) (v : List (Option α)) (D i : Nat) (k : List α) (j : Nat) :
    windowFrom (v.map (Option.map f)) D i (k.map g) j = (windowFrom v D i k j).map (fun p => (g p.1, f p.2)) := by
  induction k generalizing j with
  | nil => rfl
  | cons a k ih =>
    rw [List.map_cons, windowFrom_cons, windowFrom_cons, val?_map]
    cases val? v D i j with
    | none => exact ih _
    | some x => exact congrArg _ (ih _)

theorem windowFrom_map (v : List (Option α)) (D i : Nat) (g : α → α) (k : List α) (j : Nat) :
    windowFrom v D i (k.map g) j = (windowFrom v D i k j).map (fun p => (g p.1, p.2)) := by
  have h := windowFrom_map₂ id g v D i k j
  rwa [Option.map_id, List.map_id] at h
end window

section fold
variable {β : Type}

theorem sample_eq (v : List (Option β)) (D i j : Nat) : sample v D i j = val? v D i j := by
  unfold sample val?
  simp only
  by_cases h1 : j ≤ i + D
  · have e : ((i : Int) - (j : Int) + (D : Int)) = ((i + D - j : Nat) : Int) := by omega
    have n1 : ¬ (((i + D - j : Nat) : Int) < 0) := by omega
    rw [e, if_neg n1, Int.toNat_natCast]
    by_cases h2 : i + D - j < v.length
    · have n2 : ¬ (((i + D - j : Nat) : Int) ≥ (v.length : Int)) := by omega
      rw [if_neg n2, if_pos ⟨h1, h2⟩]
      rcases v[i + D - j]? with _ | _ | x <;> rfl
    · have n2 : (((i + D - j : Nat) : Int) ≥ (v.length : Int)) := by omega
      rw [if_pos n2, if_neg (fun h => h2 h.2)]
  · have n1 : ((i : Int) - (j : Int) + (D : Int)) < 0 := by omega
    rw [if_pos n1, if_neg (fun h => h1 h.1)]

theorem anySample_eq (v : List (Option β)) (D i : Nat) (ks : List β) (j : Nat) :
    anySample v D i ks j = !(windowFrom v D i ks j).isEmpty := by
  induction ks generalizing j with
  | nil => rfl
  | cons kj ks ih =>
    rw [anySample, sample_eq, windowFrom_cons, ih]
    cases val? v D i j <;> rfl

theorem anySample_iff_exists_mem (v : List (Option β)) (k : List β) (D i : Nat) :
    anySample v D i k 0 = true ↔ ∃ p, p ∈ window v k D i := by
  rw [anySample_eq]
  unfold window
  cases windowFrom v D i k 0 with
  | nil => exact ⟨(fun h => nomatch h), (fun ⟨_, h⟩ => nomatch h)⟩
  | cons p W => exact ⟨fun _ => ⟨p, List.mem_cons_self⟩, fun _ => rfl⟩

theorem anySample_map (g : β → β) (v : List (Option β)) (D i : Nat) (k : List β) (j : Nat) :
    anySample v D i (k.map g) j = anySample v D i k j := by
  rw [anySample_eq, anySample_eq, windowFrom_map, List.isEmpty_map]

theorem mem_window_iff_sample (v : List (Option β)) (k : List β) (D i : Nat) (p : β × β) :
    p ∈ window v k D i ↔ ∃ j, k[j]? = some p.1 ∧ sample v D i j = some p.2 := by
  rw [mem_window]
  exact exists_congr fun j => and_congr_right fun _ => by rw [sample_eq, val?_eq_some]

variable [Add β] [Mul β]

theorem inner_eq_foldl (v : List (Option β)) (D i : Nat) (ks : List β) (j : Nat) (t n : β) :
    inner v D i ks j (t, n) = (((windowFrom v D i ks j).map (fun p => p.2 * p.1)).foldl (· + ·) t,
      ((windowFrom v D i ks j).map (·.1)).foldl (· + ·) n) := by
  induction ks generalizing j t n with
  | nil => rfl
  | cons kj ks ih =>
    rw [inner, sample_eq, windowFrom_cons]
    cases val? v D i j with
    | none => exact ih _ _ _
    | some x => exact ih _ _ _
end fold

section localdefs
variable {α : Type}

def AgreeNear (v v' : List (Option α)) (D i : Nat) : Prop :=
  v.length = v'.length ∧ ∀ m, i ≤ m + D → m ≤ i + D → v[m]? = v'[m]?

theorem val?_local {α : Type} (v v' : List (Option α)) (D i j : Nat) (hj : j ≤ 2 * D) (h : AgreeNear v v' D i) :
    val? v D i j = val? v' D i j := by
  unfold val?
  rw [h.1]
  split
  · rw [h.2 (i + D - j) (by omega) (by omega)]
  · rfl

theorem windowFrom_local (v v' : List (Option α)) (D i : Nat) (h : AgreeNear v v' D i) (ks : List α) (j : Nat)
    (hl : j + ks.length ≤ 2 * D + 1) : windowFrom v D i ks j = windowFrom v' D i ks j :=
  windowFrom_congr v v' D i ks j (fun m _ hm => val?_local v v' D i m (by omega) h)

variable [Add α] [Mul α]

theorem inner_local (v v' : List (Option α)) (D i : Nat) (h : AgreeNear v v' D i) :
    ∀ (ks : List α) (j : Nat) (s : α × α), j + ks.length ≤ 2 * D + 1 →
      inner v D i ks j s = inner v' D i ks j s := by
  intro ks j s hl
  rw [inner_eq_foldl, inner_eq_foldl, windowFrom_local v v' D i h ks j hl]
end localdefs

section locality
variable {α : Type} [Add α] [Mul α] [Div α] [OfNat α 0]

theorem filterWindowG_eq_run [BEq α] (v : List (Option α)) (k : List α) (boundary np : Bool) :
    filterWindowG v k boundary np = runCells v.length k.length (cells v k (k.length / 2))
      (fun c => c.1.2 == 0 && (!np || !anySample v (k.length / 2) c.2 k 0))
      (fun c => if c.2 == 0 then none else some (c.1 / c.2)) (fun i => (v[i]?).join) Option.join boundary := rfl

/-- what a successful run returns at index `i`: the input in the copied boundaries, else the quotient of the cell of `i`
(NaN when the collected norm is 0) -/
theorem filterWindowG_ok_getElem? [BEq α] (v : List (Option α)) (k : List α) (boundary np : Bool) (out : List (Option α))
    (h : filterWindowG v k boundary np = .ok out) (i : Nat) (hi : i < v.length) :
    out[i]? = some (if boundary = false ∧ (i < k.length / 2 ∨ v.length - k.length / 2 ≤ i) then (v[i]?).join
      else if (inner v (k.length / 2) i k 0 (0, 0)).2 == 0 then none
      else some ((inner v (k.length / 2) i k 0 (0, 0)).1 / (inner v (k.length / 2) i k 0 (0, 0)).2)) := by
  have hc : i < (cells v k (k.length / 2)).length := by rw [cells_length]; exact hi
  rw [filterWindowG_eq_run] at h
  rw [runCells_ok (cells_length v k _) (fun _ => rfl) out h, runOut_getElem? (fun _ => rfl) i hi hc,
    cells_getElem]

theorem filterWindowG_ok_length [BEq α] (v : List (Option α)) (k : List α) (boundary np : Bool) (out : List (Option α))
    (h : filterWindowG v k boundary np = .ok out) : out.length = v.length := by
  rw [filterWindowG_eq_run] at h
  rw [runCells_ok (cells_length v k _) (fun _ => rfl) out h, runOut_length]

theorem anySample_local (v v' : List (Option α)) (D i : Nat) (h : AgreeNear v v' D i) :
    ∀ (ks : List α) (j : Nat), j + ks.length ≤ 2 * D + 1 →
      anySample v D i ks j = anySample v' D i ks j := by
  intro ks j hl
  rw [anySample_eq, anySample_eq, windowFrom_local v v' D i h ks j hl]

/-- **Locality.** Two signals of the same length that agree at every index at distance at most `D` of `i`
get the same value at `i` (when both calls succeed), whatever they hold elsewhere. -/
theorem filterWindowG_local [BEq α] (v v' : List (Option α)) (k : List α) (boundary np : Bool) (i : Nat)
    (h : AgreeNear v v' (k.length / 2) i) (out out' : List (Option α))
    (ho : filterWindowG v k boundary np = .ok out) (ho' : filterWindowG v' k boundary np = .ok out') :
    out[i]? = out'[i]? := by
  by_cases hi : i < v.length
  · rw [filterWindowG_ok_getElem? v k boundary np out ho i hi,
      filterWindowG_ok_getElem? v' k boundary np out' ho' i (h.1 ▸ hi),
      inner_local v v' _ i h k 0 (0, 0) (by omega), h.2 i (by omega) (by omega), h.1]
  · rw [List.getElem?_eq_none (by rw [filterWindowG_ok_length v k boundary np out ho]; omega),
      List.getElem?_eq_none (by rw [filterWindowG_ok_length v' k boundary np out' ho', ← h.1]; omega)]
end locality

end TV.Filter
