import TracklibVerif.Model.MapMatchZ
import TracklibVerif.Lemmas.MapMatchCompose
/-! Helper lemmas for C10, fourth part: map-matching on data WITH ALTITUDES (`Model/MapMatchZ`) is map-matching on the
planimetric parts. `flatE` / `flatS` / `flatO` / `flatNet` forget the third coordinate; every function of the 3D model commutes
with them (exceptions included); the candidate loop on 3D data IS the planimetric one with its points put at altitude 0
(`liftS`, `candLoop3_lift`), the flag state carries the observation's own position, the network stores geometries and node
coordinates with their altitudes as given. -/
namespace TV.MapMatch
open TV.Proj

section
variable {α : Type} [Field α] [LinearOrder α] [IsStrictOrderedRing α]

def flatE (e : Edge3 α) : Edge α := ⟨e.geom.map xy, e.curv⟩
def flatS (s : State3 α) : State α := ⟨xy s.p, s.edge, s.d0, s.d1⟩
def flatO (o : Obs3 α) : Obs α := ⟨xy o.pos, o.t⟩

theorem dist2D3_eq (sqrt : α → α) (a c : P3 α) : dist2D3 sqrt a c = dist2D sqrt (xy a) (xy c) := rfl

theorem curvFrom3_eq (sqrt : α → α) (l : List (P3 α)) :
    ∀ (acc : α) (prev : P3 α), curvFrom3 sqrt acc prev l = curvFrom sqrt acc (xy prev) (l.map xy) := by
  induction l with
  | nil => intro acc prev; rfl
  | cons q rest ih =>
    intro acc prev
    simp only [curvFrom3, curvFrom, List.map_cons, dist2D3_eq, ih]

theorem absCurv3_eq (sqrt : α → α) (g : List (P3 α)) : absCurv3 sqrt g = absCurv sqrt (g.map xy) := by
  cases g with
  | nil => rfl
  | cons p rest => simp only [absCurv3, absCurv, List.map_cons, curvFrom3_eq]

theorem distToNode3_eq (sqrt : α → α) (e : Edge3 α) (c : P3 α) (i k : Nat) :
    distToNode3 sqrt e c i k = distToNode sqrt (flatE e) (xy c) i k := by
  unfold distToNode3 distToNode flatE
  simp only [List.getElem?_map, List.length_map]
  cases e.curv[i]? <;> cases e.curv[i + 1]? <;> simp only
  split
  · cases e.geom[i]? <;> simp [dist2D3_eq]
  · cases e.curv[e.geom.length - 1]? <;> cases e.geom[i + 1]? <;> simp [dist2D3_eq]

theorem projOnTrack3_eq (sqrt : α → α) (eps : α) (pts : List (P3 α)) (q : P3 α) :
    projOnTrack3 sqrt eps pts q =
      (match projOnTrack sqrt eps (pts.map xy) q.1 q.2.1 with
       | .error e => .error (.base e)
       | .ok r => .ok ((r.1.1, r.1.2, 0), r.2.1, r.2.2)) := by
  have hl : (getXs pts).length ≤ (getYs pts).length := by simp [getXs, getYs]
  have hzip : (getXs pts).zip (getYs pts) = pts.map xy := by
    simp [getXs, getYs, xy, List.zip_map']
  unfold projOnTrack3 projOnTrack
  rw [TV.C20.projPolyligneXY_spec false sqrt eps _ _ _ _ hl (Or.inl rfl), hzip]
  cases projPolyligne sqrt eps (pts.map xy) q.1 q.2.1 with
  | error e => rfl
  | ok r => rfl

theorem flatS_flag3 (pos : P3 α) : flatS (flag3 pos) = flag (xy pos) := rfl

/-- a planimetric state as the code returns it on 3D data: the matched point is `ENUCoords(x, y, 0)` -/
def liftS (s : State α) : State3 α := ⟨(s.p.1, s.p.2, 0), s.edge, s.d0, s.d1⟩

omit [LinearOrder α] [IsStrictOrderedRing α] in
theorem map_flatS_liftS (l : List (State α)) : (l.map liftS).map flatS = l :=
  (List.map_map ..).trans (List.map_id l)

theorem flatE_curv {sqrt : α → α} {edges : List (Edge3 α)} (hcurv : ∀ eg ∈ edges, eg.curv = absCurv3 sqrt eg.geom) :
    ∀ eg ∈ edges.map flatE, eg.curv = absCurv sqrt eg.geom := by
  intro eg heg
  obtain ⟨e3, he3, rfl⟩ := List.mem_map.mp heg
  exact (hcurv e3 he3).trans (absCurv3_eq sqrt e3.geom)

theorem candLoop3_lift (sqrt : α → α) (eps radius : α) (edges : List (Edge3 α)) (pos : P3 α) (E : List Nat) :
    ∀ (acc : List (State α)),
      candLoop3 sqrt eps radius edges pos E (acc.map liftS) =
        (candLoop sqrt eps radius (edges.map flatE) (xy pos) E acc).map (List.map liftS) := by
  induction E with
  | nil => intro acc; rfl
  | cons elem rest ih =>
    intro acc
    rw [candLoop3, candLoop, List.getElem?_map]
    cases edges[elem]? with
    | none => rfl
    | some eg =>
      dsimp only [Option.map_some]
      rw [projOnTrack3_eq, show (flatE eg).geom = eg.geom.map xy from rfl, show (xy pos).1 = pos.1 from rfl,
        show (xy pos).2 = pos.2.1 from rfl]
      cases projOnTrack sqrt eps (eg.geom.map xy) pos.1 pos.2.1 with
      | error e => rfl
      | ok r =>
        obtain ⟨⟨px, py⟩, d, i⟩ := r
        dsimp only
        by_cases hlt : d < radius
        · simp only [hlt, ↓reduceIte, distToNode3_eq, show xy ((px, py, (0 : α)) : P3 α) = (px, py) from rfl]
          cases distToNode sqrt (flatE eg) (px, py) i 0 with
          | none => rfl
          | some a =>
            cases distToNode sqrt (flatE eg) (px, py) i 1 with
            | none => rfl
            | some b => dsimp only; rw [← ih, List.map_append]; rfl
        · simp only [hlt, ↓reduceIte]
          exact ih acc

theorem obsStates3_eq (sqrt : α → α) (eps radius : α) (edges : List (Edge3 α)) (pos : P3 α) (cand : Option (List Nat)) :
    obsStates3 sqrt eps radius edges pos cand =
      (travE (candStep sqrt eps radius (edges.map flatE) (xy pos)) (cand.getD [])).map
        fun os => orDefault (flag3 pos) ((os.filterMap id).map liftS) := by
  unfold obsStates3
  cases cand with
  | none => rfl
  | some E =>
    dsimp only [Option.getD_some]
    rw [show candLoop3 sqrt eps radius edges pos E [] = _ from candLoop3_lift sqrt eps radius edges pos E [], candLoop_eq]
    cases travE (candStep sqrt eps radius (edges.map flatE) (xy pos)) E with
    | error e => rfl
    | ok os =>
      simp only [Except.map, List.nil_append]
      cases os.filterMap id <;> rfl

theorem obsStates3_flat (sqrt : α → α) (eps radius : α) (edges : List (Edge3 α)) (pos : P3 α) (cand : Option (List Nat)) :
    (obsStates3 sqrt eps radius edges pos cand).map (List.map flatS) =
      obsStates sqrt eps radius (edges.map flatE) (xy pos) cand := by
  rw [obsStates3_eq, obsStates_eq]
  cases travE (candStep sqrt eps radius (edges.map flatE) (xy pos)) (cand.getD []) with
  | error e => rfl
  | ok os => exact congrArg Except.ok ((orDefault_map flatS _ _).trans (by rw [map_flatS_liftS]; rfl))

/-- what the property says of a matched observation on data with altitudes: the assigned point has `U = 0` and, in the plane,
is `Matched` on the planimetric geometries: on a segment of the geometry of an existing edge, strictly within the radius of
the planimetric observed position, with the PLANIMETRIC along-edge distances to the two ends, adding up to the planimetric
length of the edge -/
def Matched3 (sqrt : α → α) (radius : α) (edges : List (Edge3 α)) (pos : P3 α) (s : State3 α) : Prop :=
  s.p.2.2 = 0 ∧ Matched sqrt radius (edges.map flatE) (xy pos) (flatS s)

theorem obsStates3_matched {sqrt : α → α} (hs : SqrtSpec sqrt) (eps radius : α) (edges : List (Edge3 α))
    (hcurv : ∀ eg ∈ edges, eg.curv = absCurv3 sqrt eg.geom) (pos : P3 α)
    (cand : Option (List Nat)) (l : List (State3 α)) (h : obsStates3 sqrt eps radius edges pos cand = .ok l) :
    l = [flag3 pos] ∨ (l ≠ [] ∧ ∀ s ∈ l, Matched3 sqrt radius edges pos s) := by
  rw [obsStates3_eq] at h
  obtain ⟨os, ht, rfl⟩ := ok_of_map_ok h
  show orDefault (flag3 pos) ((os.filterMap id).map liftS) = _ ∨
    orDefault (flag3 pos) ((os.filterMap id).map liftS) ≠ _ ∧ ∀ s ∈ orDefault (flag3 pos) ((os.filterMap id).map liftS), _
  cases hk : os.filterMap id with
  | nil => exact Or.inl rfl
  | cons s0 ss =>
    refine Or.inr ⟨List.cons_ne_nil _ _, fun s hm => ?_⟩
    obtain ⟨s2, hs2, rfl⟩ := (List.mem_map (f := liftS) (l := s0 :: ss)).mp hm
    obtain ⟨n, _, hn⟩ := ((travE_kept ht).1 s2).mp (hk ▸ hs2)
    exact ⟨rfl, candStep_matched hs eps radius _ (flatE_curv hcurv) (xy pos) n s2 hn⟩

end

section
variable {α : Type}

theorem inferAll3_eq : ∀ (ss : List (List (State3 α))) (idx : List Nat),
    inferAll3 ss idx = travE (fun p => getE Err.index p.1 p.2) (padZip 0 ss idx) :=
  eq_travE_padZip (fun _ => rfl) fun s ss idx => by
    rw [inferAll3]
    dsimp only
    unfold getE
    cases s[idx.head?.getD 0]? <;> [rfl; (dsimp only; cases inferAll3 ss idx.tail <;> rfl)]

theorem inferAll3_mem (ss : List (List (State3 α))) (idx : List Nat) (inf : List (State3 α))
    (h : inferAll3 ss idx = .ok inf) :
    inf.length = ss.length ∧ ∀ (k : Nat) (st : State3 α), inf[k]? = some st → ∃ l, ss[k]? = some l ∧ st ∈ l :=
  travE_getE_mem (inferAll3_eq ss idx ▸ h)

theorem newPositions3_id (mode : Nat) (hm : writesPositions mode = false) (track : List (Obs3 α)) (inf : List (State3 α)) :
    newPositions3 mode track inf = track := by
  fun_induction newPositions3 mode track inf with
  | case1 o os s ss ih => rw [ih, hm]; rfl
  | case2 => rfl

end

section
variable {α : Type} [Field α]

/-- the planimetric length of a geometry with altitudes (what `abs_curv` measures) -/
def polyLength3 (sqrt : α → α) (g : List (P3 α)) : α := polyLength sqrt (g.map xy)

theorem sub_mul_self_comm (u v : α) : (u - v) * (u - v) = (v - u) * (v - u) := by
  rw [← neg_sub v u, neg_mul_neg]

theorem dist2D_eq_dist3D (sqrt : α → α) (a c : P3 α) (h : a.2.2 = c.2.2) :
    dist3D sqrt a c = dist2D sqrt (xy c) (xy a) := by
  show sqrt (_ + _ + (c.2.2 - a.2.2) * (c.2.2 - a.2.2)) = sqrt ((a.1 - c.1) * (a.1 - c.1) + (a.2.1 - c.2.1) * (a.2.1 - c.2.1))
  rw [h, sub_self, mul_zero, add_zero, sub_mul_self_comm a.1, sub_mul_self_comm a.2.1]

theorem polyLengthFrom_eq_trackLengthFrom (sqrt : α → α) (c : α) (l : List (P3 α)) :
    ∀ (a : α) (prev : P3 α), prev.2.2 = c → (∀ p ∈ l, p.2.2 = c) →
      trackLengthFrom sqrt a prev l = polyLengthFrom sqrt a (xy prev) (l.map xy) := by
  induction l with
  | nil => intro a prev _ _; rfl
  | cons q rest ih =>
    intro a prev hp hl
    simp only [List.map_cons, polyLengthFrom, trackLengthFrom]
    rw [dist2D_eq_dist3D sqrt prev q (by rw [hp, hl q (by simp)])]
    exact ih _ q (hl q (by simp)) (fun p hpm => hl p (List.mem_cons_of_mem _ hpm))

variable [LinearOrder α] [IsStrictOrderedRing α]

theorem sqrt_mono {sqrt : α → α} (hs : SqrtSpec sqrt) (u v : α) (hu : 0 ≤ u) (huv : u ≤ v) : sqrt u ≤ sqrt v := by
  obtain ⟨a0, aa⟩ := hs u hu
  obtain ⟨b0, bb⟩ := hs v (le_trans hu huv)
  refine le_of_not_gt fun hlt => absurd huv (not_le.mpr ?_)
  rw [← aa, ← bb]
  exact mul_self_lt_mul_self b0 hlt

theorem dist2D_le_dist3D {sqrt : α → α} (hs : SqrtSpec sqrt) (a c : P3 α) :
    dist2D sqrt (xy c) (xy a) ≤ dist3D sqrt a c := by
  show sqrt ((a.1 - c.1) * (a.1 - c.1) + (a.2.1 - c.2.1) * (a.2.1 - c.2.1)) ≤ _
  rw [sub_mul_self_comm a.1, sub_mul_self_comm a.2.1]
  exact sqrt_mono hs _ _ (add_nonneg (mul_self_nonneg _) (mul_self_nonneg _))
    (le_add_of_nonneg_right (mul_self_nonneg _))

theorem polyLengthFrom_le_trackLengthFrom {sqrt : α → α} (hs : SqrtSpec sqrt) (l : List (P3 α)) :
    ∀ (a b : α) (prev : P3 α), a ≤ b → polyLengthFrom sqrt a (xy prev) (l.map xy) ≤ trackLengthFrom sqrt b prev l := by
  induction l with
  | nil => intro a b prev h; exact h
  | cons q rest ih =>
    intro a b prev h
    simp only [List.map_cons, polyLengthFrom, trackLengthFrom]
    exact ih _ _ q (add_le_add h (dist2D_le_dist3D hs prev q))

end

section
variable {α : Type} [Add α] [Sub α] [Mul α] [Div α] [Neg α] [LT α] [LE α]
  [DecidableLT α] [DecidableLE α] [OfNat α 0] [OfNat α 1]

theorem allStates3_eq (sqrt : α → α) (eps radius : α) (edges : List (Edge3 α)) :
    ∀ (track : List (Obs3 α)) (cands : List (Option (List Nat))), allStates3 sqrt eps radius edges track cands =
      travE (fun p => obsStates3 sqrt eps radius edges p.1.pos p.2) (padZip none track cands) :=
  eq_travE_padZip (fun _ => rfl) fun o os cs => by
    rw [allStates3]
    dsimp only
    cases obsStates3 sqrt eps radius edges o.pos (cs.head?.getD none) <;>
      [rfl; (cases allStates3 sqrt eps radius edges os cs.tail <;> rfl)]

variable [IntCast α]

theorem allStatesNet3_eq (sqrt : α → α) (fl : α → Int) (eps radius : α) (net : Net3 α) :
    ∀ track, allStatesNet3 sqrt fl eps radius net track =
      travE (fun o => obsStatesNet3 sqrt fl eps radius net o.pos) track :=
  Common.eq_mapM rfl fun o os => by
    rw [allStatesNet3]
    cases obsStatesNet3 sqrt fl eps radius net o.pos <;> [rfl; (cases allStatesNet3 sqrt fl eps radius net os <;> rfl)]

theorem mapOnNetworkFront3_eq (sqrt : α → α) (fl : α → Int) (eps : α) (net : Net3 α) (dec : Decoder3 α) (a : Args α)
    (tracks : TracksArg3 α) :
    mapOnNetworkFront3 sqrt fl eps net dec a tracks = loopE (matchOne3 sqrt fl eps net dec a) tracks.toList :=
  eq_loopE rfl (fun t ts => by rw [matchLoop3]; cases matchOne3 sqrt fl eps net dec a t <;> rfl) _

end

/-! ### network construction on data with altitudes

The statements of `Lemmas/MapMatchNet.lean` (network construction) on the 3D structures (suffix `3`): what is stored is what was
handed over, ALTITUDES INCLUDED (this cannot be read off the planimetric image). -/

section
variable {α : Type}

theorem addNode_frame3 (net : Net3 α) (n : Node3 α) :
    (addNode3 net n).edges = net.edges ∧ (addNode3 net n).idx = net.idx ∧ (addNode3 net n).index = net.index := by
  unfold addNode3; split <;> exact ⟨rfl, rfl, rfl⟩

theorem addNode_keeps3 (net : Net3 α) (n : Node3 α) (i : Nat) (m : Node3 α) (h : lookupNode3 net i = some m) :
    lookupNode3 (addNode3 net n) i = some m := by
  unfold addNode3; split
  · exact h
  · exact (find?_append_single (fun x : Node3 α => x.id) net.nodes n i).trans (by rw [show List.find? _ net.nodes = _ from h]; rfl)

end

section
variable {α : Type} [Add α] [Sub α] [Mul α] [Div α] [Neg α] [LT α] [LE α]
  [DecidableLT α] [DecidableLE α] [OfNat α 0] [IntCast α]

theorem addEdge_spec3 (fl : α → Int) (net net' : Net3 α) (e : EdgeIn3 α) (s t : Node3 α)
    (h : addEdge3 fl net e s t = .ok net') :
    net'.edges = setEdge3 net.edges ⟨e, s.id, t.id⟩ ∧ net'.idx = net.idx ++ [e.id] ∧
    net'.nodes = (addNode3 (addNode3 net s) t).nodes := by
  unfold addEdge3 at h
  obtain ⟨e1, i1, _⟩ := addNode_frame3 net s
  obtain ⟨e2, i2, _⟩ := addNode_frame3 (addNode3 net s) t
  simp only at h
  split at h
  · cases h; exact ⟨by rw [e2, e1], by rw [i2, i1], rfl⟩
  · split at h
    · cases h
    · cases h; exact ⟨by rw [e2, e1], by rw [i2, i1], rfl⟩

def stored3 (x : EdgeIn3 α × Node3 α × Node3 α) : NEdge3 α := ⟨x.1, x.2.1.id, x.2.2.id⟩

theorem addEdges_edges3 (fl : α → Int) (es : List (EdgeIn3 α × Node3 α × Node3 α)) (net net' : Net3 α)
    (h : addEdges3 fl net es = .ok net') :
    net'.edges = (es.map stored3).foldl setEdge3 net.edges ∧ net'.idx = net.idx ++ es.map (fun x => x.1.id) := by
  revert h
  fun_induction addEdges3 fl net es with
  | case1 net => rintro ⟨⟩; exact ⟨rfl, (List.append_nil _).symm⟩
  | case2 => nofun
  | case3 net e s t rest net1 h1 ih =>
    intro h
    obtain ⟨he, hi, _⟩ := addEdge_spec3 fl net net1 e s t h1
    obtain ⟨r1, r2⟩ := ih h
    exact ⟨by rw [r1, he]; rfl, by rw [r2, hi, List.append_assoc]; rfl⟩

theorem attachIndex_frame3 (fl : α → Int) (net net' : Net3 α) (res : Option (α × α)) (margin : α)
    (h : attachIndex3 fl net res margin = .ok net') :
    net'.edges = net.edges ∧ net'.idx = net.idx ∧ net'.nodes = net.nodes := by
  revert h
  fun_cases attachIndex3 fl net res margin
  · nofun
  · rintro ⟨⟩; exact ⟨rfl, rfl, rfl⟩

theorem buildNet_spec3 (fl : α → Int) (es : List (EdgeIn3 α × Node3 α × Node3 α)) (late : Nat) (res : Option (α × α))
    (margin : α) (net : Net3 α) (h : buildNet3 fl es late res margin = .ok net) :
    net.edges = (es.map stored3).foldl setEdge3 [] ∧ net.idx = es.map (fun x => x.1.id) := by
  revert h
  fun_cases buildNet3 fl es late res margin
  case case3 m net1 h1 net2 h2 =>
    intro h
    obtain ⟨a1, a2⟩ := addEdges_edges3 fl _ _ _ h1
    obtain ⟨b1, b2, _⟩ := attachIndex_frame3 fl net1 net2 res margin h2
    obtain ⟨c1, c2⟩ := addEdges_edges3 fl _ _ _ h
    constructor
    · rw [c1, b1, a1, ← List.foldl_append, ← List.map_append, List.take_append_drop]; rfl
    · rw [c2, b2, a2, List.append_assoc, ← List.map_append, List.take_append_drop]; rfl
  all_goals nofun

/-- the whole construction (`buildNet3`: `addEdge3` for every edge, the index attached before the last `late` ones) with
pairwise different edge ids: edge number `n` of the network carries the geometry — WITH ITS ALTITUDES — and the `abs_curv`
column of the `n`-th edge handed to `addEdge3`, unchanged -/
theorem buildNet_edges3 (fl : α → Int) (es : List (EdgeIn3 α × Node3 α × Node3 α)) (late : Nat) (res : Option (α × α))
    (margin : α) (net : Net3 α) (hnd : (es.map (fun x => x.1.id)).Nodup) (h : buildNet3 fl es late res margin = .ok net) :
    netEdges3 net = es.map (fun x => (⟨x.1.geom, x.1.curv⟩ : Edge3 α)) := by
  obtain ⟨he, hi⟩ := buildNet_spec3 fl es late res margin net h
  have := readout_foldl_dictSet (fun x : NEdge3 α => x.e.id) (fun ne => (⟨ne.e.geom, ne.e.curv⟩ : Edge3 α)) (es.map stored3)
    (by rw [List.map_map]; exact hnd)
  rw [List.map_map, List.map_map] at this
  unfold netEdges3
  rw [hi, he]
  exact this

end

section
variable {α : Type}

def flatNode (n : Node3 α) : Node α := ⟨n.id, xy n.coord⟩
def flatEI (e : EdgeIn3 α) : EdgeIn α := ⟨e.id, e.geom.map xy, e.curv, e.orientation, e.weight⟩
def flatNE (ne : NEdge3 α) : NEdge α := ⟨flatEI ne.e, ne.source, ne.target⟩
def flatNet (n : Net3 α) : Net α := ⟨n.nodes.map flatNode, n.edges.map flatNE, n.idx, n.index⟩

theorem lookupEdge3_flat (l : List (NEdge3 α)) (i : Nat) :
    lookupEdge (l.map flatNE) i = (lookupEdge3 l i).map flatNE :=
  Common.find?_map_key (fun x : NEdge3 α => x.e.id) (fun x : NEdge α => x.e.id) flatNE (fun _ => rfl) l i

theorem edgeNo3_flat (net : Net3 α) (n : Nat) : edgeNo (flatNet net) n = (edgeNo3 net n).map flatNE := by
  unfold edgeNo edgeNo3 flatNet
  simp only
  cases net.idx[n]? with
  | none => rfl
  | some i => exact lookupEdge3_flat net.edges i

theorem netEdges3_flat (net : Net3 α) : netEdges (flatNet net) = (netEdges3 net).map flatE := by
  unfold netEdges netEdges3 flatNet
  simp only
  rw [List.map_filterMap]
  apply List.filterMap_congr
  intro i _
  rw [lookupEdge3_flat]
  cases lookupEdge3 net.edges i <;> rfl

theorem netFeatures3_flat (net : Net3 α) : netFeatures (flatNet net) = netFeatures3 net := by
  unfold netFeatures netFeatures3
  have hl : (flatNet net).edges.length = net.edges.length := by simp [flatNet]
  rw [hl]
  apply List.filterMap_congr
  intro n _
  rw [edgeNo3_flat]
  cases edgeNo3 net n <;> rfl

section
variable [Sub α] [Div α] [Neg α] [LT α] [DecidableLT α] [OfNat α 0] [IntCast α]

theorem candidatesOf3_flat (fl : α → Int) (radius : α) (net : Net3 α) (pos : P3 α) :
    candidatesOf3 fl radius net pos = candidatesOf fl radius (flatNet net) (xy pos) := rfl

end

theorem addNode3_flat (net : Net3 α) (n : Node3 α) : flatNet (addNode3 net n) = addNode (flatNet net) (flatNode n) := by
  unfold addNode3 addNode flatNet
  have hany : (net.nodes.map flatNode).any (fun x => x.id == (flatNode n).id) = net.nodes.any (fun x => x.id == n.id) := by
    rw [List.any_map]; rfl
  simp only [hany]
  split <;> simp

theorem setEdge3_flat (l : List (NEdge3 α)) (ne : NEdge3 α) :
    (setEdge3 l ne).map flatNE = setEdge (l.map flatNE) (flatNE ne) :=
  dictSet_map (fun x : NEdge3 α => x.e.id) (fun x : NEdge α => x.e.id) flatNE (fun _ => rfl) l ne

variable [Add α] [Sub α] [Mul α] [Div α] [Neg α] [LT α] [LE α]
  [DecidableLT α] [DecidableLE α] [OfNat α 0] [IntCast α]

theorem addEdge3_flat (fl : α → Int) (net : Net3 α) (e : EdgeIn3 α) (s t : Node3 α) :
    (addEdge3 fl net e s t).map flatNet = addEdge fl (flatNet net) (flatEI e) (flatNode s) (flatNode t) := by
  unfold addEdge3 addEdge
  simp only
  rw [← addNode3_flat, ← addNode3_flat]
  generalize addNode3 (addNode3 net s) t = n1
  have hidx : (flatNet n1).index = n1.index := rfl
  have hedges : (flatNet n1).edges = n1.edges.map flatNE := rfl
  have hne : (⟨flatEI e, (flatNode s).id, (flatNode t).id⟩ : NEdge α) = flatNE ⟨e, s.id, t.id⟩ := rfl
  simp only [hidx, hedges, hne, ← setEdge3_flat, List.length_map]
  cases n1.index with
  | none => rfl
  | some ix =>
    simp only
    have hg : (flatEI e).geom = e.geom.map xy := rfl
    rw [hg]
    cases Grid.addFeature fl ix (e.geom.map xy) ((setEdge3 n1.edges ⟨e, s.id, t.id⟩).length - 1) <;> rfl

theorem addEdges3_flat (fl : α → Int) (es : List (EdgeIn3 α × Node3 α × Node3 α)) :
    ∀ (net : Net3 α), (addEdges3 fl net es).map flatNet =
      addEdges fl (flatNet net) (es.map (fun x => (flatEI x.1, flatNode x.2.1, flatNode x.2.2))) := by
  induction es with
  | nil => intro net; rfl
  | cons x rest ih =>
    intro net
    obtain ⟨e, s, t⟩ := x
    simp only [addEdges3, List.map_cons, addEdges]
    rw [← addEdge3_flat]
    cases addEdge3 fl net e s t with
    | error er => rfl
    | ok net' => exact ih net'

theorem attachIndex3_flat (fl : α → Int) (net : Net3 α) (res : Option (α × α)) (margin : α) :
    (attachIndex3 fl net res margin).map flatNet = attachIndex fl (flatNet net) res margin := by
  unfold attachIndex3 attachIndex
  rw [netFeatures3_flat]
  cases Grid.build fl (netFeatures3 net) res margin <;> rfl

theorem buildNet3_flat (fl : α → Int) (es : List (EdgeIn3 α × Node3 α × Node3 α)) (late : Nat) (res : Option (α × α))
    (margin : α) :
    (buildNet3 fl es late res margin).map flatNet =
      buildNet fl (es.map (fun x => (flatEI x.1, flatNode x.2.1, flatNode x.2.2))) late res margin := by
  unfold buildNet3 buildNet
  simp only [List.length_map, ← List.map_take, ← List.map_drop]
  have h0 : flatNet (Net3.empty : Net3 α) = Net.empty := rfl
  rw [← h0, ← addEdges3_flat]
  cases addEdges3 fl Net3.empty (es.take (es.length - late)) with
  | error er => rfl
  | ok net =>
    simp only [Except.map]
    rw [← attachIndex3_flat]
    cases attachIndex3 fl net res margin with
    | error er => rfl
    | ok net' => exact addEdges3_flat fl _ net'

end

section
variable {α : Type} [Field α] [LinearOrder α] [IsStrictOrderedRing α]

theorem addNode_new3 (net : Net3 α) (n : Node3 α) (h : lookupNode3 net n.id = none) :
    lookupNode3 (addNode3 net n) n.id = some n := by
  unfold addNode3
  rw [if_neg (Bool.eq_false_iff.mp ((Common.find?_key_eq_none (fun x : Node3 α => x.id)).mp h))]
  exact (find?_append_single (fun x : Node3 α => x.id) net.nodes n n.id).trans
    (by rw [show List.find? _ net.nodes = _ from h, beq_self_eq_true]; rfl)

theorem addEdge_frame3 (fl : α → Int) (net net' : Net3 α) (e : EdgeIn3 α) (s t : Node3 α)
    (h : addEdge3 fl net e s t = .ok net') :
    lookupEdge3 net'.edges e.id = some ⟨e, s.id, t.id⟩ ∧
    (∀ i, i ≠ e.id → lookupEdge3 net'.edges i = lookupEdge3 net.edges i) ∧
    (∀ i m, lookupNode3 net i = some m → lookupNode3 net' i = some m) := by
  obtain ⟨he, _, hn⟩ := addEdge_spec3 fl net net' e s t h
  refine ⟨?_, fun i hi => ?_, fun i m hm => ?_⟩
  · rw [he]; exact find?_dictSet_same (fun x : NEdge3 α => x.e.id) net.edges ⟨e, s.id, t.id⟩
  · rw [he]; exact find?_dictSet_other (fun x : NEdge3 α => x.e.id) net.edges ⟨e, s.id, t.id⟩ i hi
  · have := addNode_keeps3 (addNode3 net s) t i m (addNode_keeps3 net s i m hm)
    unfold lookupNode3 at this ⊢
    rwa [hn]

theorem allStates3_flat (sqrt : α → α) (eps radius : α) (edges : List (Edge3 α)) :
    ∀ (track : List (Obs3 α)) (cands : List (Option (List Nat))),
      (allStates3 sqrt eps radius edges track cands).map (List.map (List.map flatS)) =
        allStates sqrt eps radius (edges.map flatE) (track.map flatO) cands := by
  intro track cands
  rw [allStates3_eq, allStates_eq, padZip_map]
  exact travE_map (List.map flatS) (fun p : Obs3 α × Option (List Nat) => (flatO p.1, p.2))
    (fun p => obsStates3_flat sqrt eps radius edges p.1.pos p.2) _

theorem obsStatesNet3_flat (sqrt : α → α) (fl : α → Int) (eps radius : α) (net : Net3 α) (pos : P3 α) :
    (obsStatesNet3 sqrt fl eps radius net pos).map (List.map flatS) =
      obsStatesNet sqrt fl eps radius (flatNet net) (xy pos) := by
  unfold obsStatesNet3 obsStatesNet
  rw [candidatesOf3_flat, netEdges3_flat]
  cases candidatesOf fl radius (flatNet net) (xy pos) with
  | error e => rfl
  | ok cand =>
    simp only
    rw [← obsStates3_flat]
    cases obsStates3 sqrt eps radius (netEdges3 net) pos cand <;> rfl

theorem allStatesNet3_flat (sqrt : α → α) (fl : α → Int) (eps radius : α) (net : Net3 α) (track : List (Obs3 α)) :
    (allStatesNet3 sqrt fl eps radius net track).map (List.map (List.map flatS)) =
      allStatesNet sqrt fl eps radius (flatNet net) (track.map flatO) := by
  rw [allStatesNet3_eq, allStatesNet_eq]
  exact travE_map (List.map flatS) flatO (fun o => obsStatesNet3_flat sqrt fl eps radius net o.pos) track

theorem allStatesNet_matched3 {sqrt : α → α} (hs : SqrtSpec sqrt) (fl : α → Int) (eps radius : α) (net : Net3 α)
    (hcurv : ∀ eg ∈ netEdges3 net, eg.curv = absCurv3 sqrt eg.geom)
    (track : List (Obs3 α)) (ss : List (List (State3 α))) (h : allStatesNet3 sqrt fl eps radius net track = .ok ss) :
    ss.length = track.length ∧
    ∀ (k : Nat) (o : Obs3 α) (l : List (State3 α)), track[k]? = some o → ss[k]? = some l →
      l = [flag3 o.pos] ∨ (l ≠ [] ∧ ∀ s ∈ l, Matched3 sqrt radius (netEdges3 net) o.pos s) := by
  rw [allStatesNet3_eq] at h
  obtain ⟨len, pt⟩ := travE_ok h
  refine ⟨len, fun k o l hk hl => ?_⟩
  have h1 := pt k o l hk hl
  revert h1
  fun_cases obsStatesNet3 sqrt fl eps radius net o.pos
  case case3 cand _ l' ho => rintro ⟨⟩; exact obsStates3_matched hs eps radius (netEdges3 net) hcurv o.pos cand _ ho
  all_goals nofun

end

end TV.MapMatch
