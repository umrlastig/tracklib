import TracklibVerif.Model.ProjTrack
import TracklibVerif.Lemmas.Common.MapM
/-! Helper lemmas about `Model/ProjTrack.lean` (the Track branch of `mapOnTrack` on track objects): the closed form of
the output track built by `Track()`, `addObs(Obs(p))`, `createAnalyticalFeature("dist", …)`,
`createAnalyticalFeature("edge", …)`, and its readings. Core Lean only. -/
namespace TV.ProjTrack
open TV.Proj TV.Features

theorem appendCol_map {α β : Type} (l : List β) (row : β → List α) (g : β → α) :
    appendCol (l.map row) (l.map g) = l.map (fun b => row b ++ [g b]) := by
  induction l with
  | nil => rfl
  | cons a t ih => simp only [List.map_cons, appendCol, ih]

section
variable {α : Type}

theorem createC_writes (name : String) (l : List α) (st : St α) (hres : reserved name = false)
    (hrows : st.rows.isEmpty = false) (hfind : find st.dico name = none) (hlen : l.length = st.rows.length) :
    createC name (.list l) st =
      (.ok (), { st with dico := st.dico ++ [(name, st.dico.length)], rows := appendCol st.rows l }) := by
  simp [createC, hasC, hres, hrows, hfind, hlen]

end

section
variable {α : Type} [OfNat α 0]

/-- the output track in closed form: features `dist` (column 0) and `edge` (column 1), one observation per row -/
def outputOf (ofNat : Nat → α) (rs : List ((α × α × α) × α × Nat)) : St α :=
  { dico := [("dist", 0), ("edge", 1)], rows := rs.map (fun r => [r.2.1, ofNat r.2.2]),
    xs := rs.map (fun r => r.1.1), ys := rs.map (fun r => r.1.2.1), zs := rs.map (fun r => r.1.2.2),
    ts := rs.map (fun _ => (0 : α)) }

theorem outputTrack_cons (ofNat : Nat → α) (r : (α × α × α) × α × Nat) (rs : List ((α × α × α) × α × Nat)) :
    outputTrack ofNat (r :: rs) = .ok (outputOf ofNat (r :: rs)) := by
  generalize hL : r :: rs = L
  have hne : L.isEmpty = false := by subst hL; rfl
  have h1 : reserved "dist" = false := by decide
  have h2 : reserved "edge" = false := by decide
  have h3 : find ([("dist", 0)] : List (String × Nat)) "edge" = none := by decide
  have e1 : createC "dist" (.list (L.map (fun r => r.2.1))) (freshTrack (L.map (fun r => r.1))) =
      (.ok (), { freshTrack (L.map (fun r => r.1)) with dico := [("dist", 0)], rows := L.map (fun r => [r.2.1]) }) := by
    rw [createC_writes _ _ _ h1 (by simp [freshTrack, hne]) (by simp [freshTrack, find]) (by simp [freshTrack])]
    simp only [freshTrack, List.map_map, Function.comp_def, List.nil_append, List.length_nil, appendCol_map]
  have e2 : createC "edge" (.list (L.map (fun r => ofNat r.2.2)))
        { freshTrack (L.map (fun r => r.1)) with dico := [("dist", 0)], rows := L.map (fun r => [r.2.1]) } =
      (.ok (), outputOf ofNat L) := by
    rw [createC_writes _ _ _ h2 (by simp [hne]) h3 (by simp)]
    simp only [freshTrack, List.map_map, Function.comp_def, outputOf, List.cons_append, List.nil_append, List.length_cons,
      List.length_nil, appendCol_map]
  simp only [outputTrack, e1, e2]

/-- a track of queries without observation: `createAnalyticalFeature("dist", [])` raises `AnalyticalFeatureError` -/
theorem outputTrack_nil (ofNat : Nat → α) : outputTrack ofNat ([] : List ((α × α × α) × α × Nat)) = .error (.feat .empty) := by
  have h1 : reserved "dist" = false := by decide
  simp [outputTrack, createC, freshTrack, h1]

theorem column_dist (ofNat : Nat → α) (rs : List ((α × α × α) × α × Nat)) :
    column (outputOf ofNat rs) "dist" = some (rs.map (fun r => r.2.1)) := by
  have h : find ([("dist", 0), ("edge", 1)] : List (String × Nat)) "dist" = some 0 := by decide
  simp only [column, outputOf, h]
  exact Common.mapM_map_some_of_forall fun _ _ => rfl

theorem column_edge (ofNat : Nat → α) (rs : List ((α × α × α) × α × Nat)) :
    column (outputOf ofNat rs) "edge" = some (rs.map (fun r => ofNat r.2.2)) := by
  have h : find ([("dist", 0), ("edge", 1)] : List (String × Nat)) "edge" = some 1 := by decide
  simp only [column, outputOf, h]
  exact Common.mapM_map_some_of_forall fun _ _ => rfl

theorem positions_outputOf (ofNat : Nat → α) (rs : List ((α × α × α) × α × Nat)) :
    positions (outputOf ofNat rs) = rs.map (fun r => r.1) := by
  simp only [positions, outputOf, List.zip_map']

end

section
variable {α : Type} [Add α] [Sub α] [Mul α] [Div α] [Neg α] [LT α] [LE α]
  [DecidableLT α] [DecidableLE α] [OfNat α 0]

theorem mapOnTrackAll_eq_mapM (sqrt : α → α) (eps : α) (pts : List (α × α)) :
    ∀ qs, mapOnTrackAll sqrt eps pts qs = qs.mapM fun q => projOnTrack sqrt eps pts q.1 q.2 :=
  Common.eq_mapM rfl fun q qs => by
    rw [mapOnTrackAll]
    cases projOnTrack sqrt eps pts q.1 q.2 with
    | error e => rfl
    | ok r => cases mapOnTrackAll sqrt eps pts qs <;> rfl

theorem mapOnTrack3All_eq_mapM (sqrt : α → α) (eps : α) (pts : List (α × α × α)) :
    ∀ qs, mapOnTrack3All sqrt eps pts qs = qs.mapM (projOnTrack3 sqrt eps pts) :=
  Common.eq_mapM rfl fun q qs => by
    rw [mapOnTrack3All]
    cases projOnTrack3 sqrt eps pts q with
    | error e => rfl
    | ok r => cases mapOnTrack3All sqrt eps pts qs <;> rfl

theorem mapOnTrack3All_rows (sqrt : α → α) (eps : α) (pts qs : List (α × α × α)) (rows : List ((α × α × α) × α × Nat))
    (h : mapOnTrack3All sqrt eps pts qs = .ok rows) :
    rows.length = qs.length ∧
      ∀ (j : Nat) (q : α × α × α), qs[j]? = some q → ∃ row, rows[j]? = some row ∧ projOnTrack3 sqrt eps pts q = .ok row :=
  Common.mapM_ok_getElem? (mapOnTrack3All_eq_mapM sqrt eps pts qs ▸ h)

theorem mapOnTrackT_eq (sqrt : α → α) (eps : α) (ofNat : Nat → α) (ref q : St α) :
    mapOnTrackT sqrt eps ofNat ref q =
      match mapOnTrack3All sqrt eps (positions ref) (positions q) with
      | .error e => .error (.proj e)
      | .ok [] => .error (.feat .empty)
      | .ok (r :: rs) => .ok (outputOf ofNat (r :: rs)) := by
  unfold mapOnTrackT
  cases mapOnTrack3All sqrt eps (positions ref) (positions q) with
  | error e => rfl
  | ok rs =>
    cases rs with
    | nil => exact outputTrack_nil ofNat
    | cons r rs => exact outputTrack_cons ofNat r rs

end
end TV.ProjTrack
