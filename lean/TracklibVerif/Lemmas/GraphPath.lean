import TracklibVerif.Lemmas.GraphTable
/-! Lemmas for C07: the predecessor structure (`antecedent`, `antecedent_edge`) left by the forward pass is
tight and well-founded (`PInv`), whichever node the queue hands out (`GoodH`: all that the backward walk of
`Lemmas/GraphBack.lean` needs; `Good` adds the clauses of `Inv` that hold for the Dijkstra queue). Also for any queue, and for
C06: without a cut-off the target ends unlabelled exactly when it is unreachable (`loopG_none_iff`). -/
namespace TV.Graph
section
variable {W : Type} [LinearOrder W] [Add W] [Zero W] [WalkAdd W]

/-- `rk` = settle order of the settled nodes, `K` = how many have been settled -/
structure PInv (net : Net W) (s : Nat) (st : St W) (rk : Nat → Nat) (K : Nat) : Prop where
  p1 : st.pred s = none
  /-- a predecessor is a settled node, joined to `v` by the recorded edge in a permitted direction, and tight -/
  p2 : ∀ v a i, st.pred v = some (a, i) → a ≠ v ∧ st.vis a = true ∧ ∃ e ∈ nextEdges net a, e.id = i ∧ other e a = v ∧
        ∃ x, st.d a = some x ∧ st.d v = some (x + e.w)
  p3 : ∀ v y, v ≠ s → st.d v = some y → (st.pred v).isSome = true
  p4 : ∀ a, st.vis a = true → rk a < K
  p5 : ∀ v a i, st.pred v = some (a, i) → st.vis v = true → rk a < rk v
  p6 : K + cnt st net.n = net.n

end

variable {W : Type} [LinearOrder W] [Add W]

theorem settle_pred (net : Net W) (st : St W) (u : Nat) (du : W) :
    (∀ z a i, (settle net st u du).pred z = some (a, i) →
        (st.pred z = some (a, i) ∧ (settle net st u du).d z = st.d z) ∨
        (a = u ∧ z ≠ u ∧ ∃ e ∈ nextEdges net u, e.id = i ∧ other e u = z ∧
          (settle net st u du).d z = some (du + e.w) ∧ ∀ y0, st.d z = some y0 → du + e.w < y0)) ∧
    (∀ z, ((settle net st u du).pred z).isSome = true ∨
        ((settle net st u du).d z = st.d z ∧ (settle net st u du).pred z = st.pred z)) ∧
    (∀ z, (z = u ∨ st.vis z = true) → (settle net st u du).pred z = st.pred z) := by
  refine ⟨fun z a i hp => ?_, fun z => ?_, fun z hz => ?_⟩
  · rcases settle_at net st u du z with h | ⟨hzu, _, e, he, hz, hlt, hd, hp'⟩
    · exact Or.inl ⟨h.2.symm.trans hp, h.1⟩
    · obtain ⟨rfl, rfl⟩ := Prod.mk.inj (Option.some.inj (hp'.symm.trans hp))
      exact Or.inr ⟨rfl, hzu, e, he, rfl, hz, hd, hlt⟩
  · rcases settle_at net st u du z with h | ⟨_, _, _, _, _, _, _, hp⟩
    · exact Or.inr h
    · exact Or.inl (by rw [hp]; rfl)
  · rcases settle_at net st u du z with h | ⟨hzu, hv, _⟩
    · exact h.2
    · exact absurd (hz.resolve_left hzu) (by rw [hv]; nofun)

variable [Zero W]

omit [LinearOrder W] [Add W] in
theorem cnt_init (s : Nat) (k : Nat) : cnt (St.init s : St W) k = k := by
  induction k with
  | zero => rfl
  | succ k ih =>
    show cnt (St.init s : St W) k + (if (St.init s : St W).vis k then 0 else 1) = k + 1
    rw [ih]; simp [St.init]

omit [LinearOrder W] in
theorem pinv_init (net : Net W) (s : Nat) : PInv net s (St.init s) (fun _ => 0) 0 := by
  refine ⟨rfl, fun v a i h => (nomatch h), fun v y hv h => absurd (St.init_d h).1 hv, fun a h => (nomatch h),
    fun v a i h => (nomatch h), ?_⟩
  rw [cnt_init]; omega

def Good (net : Net W) (s : Nat) (st : St W) : Prop := Inv net s st ∧ ∃ rk K, PInv net s st rk K

def GoodH (net : Net W) (s : Nat) (st : St W) : Prop :=
  InvB s st ∧ InvA net s st ∧ ∃ rk K, PInv net s st rk K

theorem goodH_init (net : Net W) (s : Nat) (hs : s < net.n) : GoodH net s (St.init s) :=
  ⟨invB_init s, invA_init net s hs, _, _, pinv_init net s⟩

theorem Good.toGoodH {net : Net W} {s : Nat} {st : St W} (h : Good net s st) : GoodH net s st :=
  ⟨(inv_iff_invP.1 h.1).b, (inv_iff_invP.1 h.1).a, h.2⟩

omit [LinearOrder W] in
theorem invA_closed (net : Net W) (s : Nat) (st : St W) (hinv : InvA net s st)
    (hdone : ∀ v y, st.d v = some y → st.vis v = true) (v : Nat) (c : W) (hw : Walk net s v c) :
    ∃ y, st.d v = some y := by
  induction hw with
  | nil => exact hinv.a1
  | snoc _ ha ih =>
    obtain ⟨y, hy⟩ := ih
    exact hinv.a2 _ (hdone _ y hy) _ _ ha

variable [WalkAdd W]

theorem settle_pinv (net : Net W) (hnet : WFNet net) (s : Nat) (st : St W) (rk : Nat → Nat) (K : Nat)
    (hinv : InvB s st) (hp : PInv net s st rk K) (u : Nat) (du : W)
    (hu : u < net.n) (huv : st.vis u = false) (hud : st.d u = some du) :
    PInv net s (settle net st u du) (fun z => if z = u then K else rk z) (K + 1) := by
  obtain ⟨s1, s2, _, _, _⟩ := settle_spec net st u du
  obtain ⟨q2, q3, q4⟩ := settle_pred net st u du
  have visT : ∀ z, (settle net st u du).vis z = true → z = u ∨ st.vis z = true :=
    fun z h => mark_true.mp ((s1 z).symm.trans h)
  refine ⟨?_, ?_, ?_, ?_, ?_, ?_⟩
  · -- p1: a predecessor of the source would come with a label below 0
    cases hps : (settle net st u du).pred s with
    | none => rfl
    | some p =>
      rcases q2 s p.1 p.2 hps with ⟨h, _⟩ | ⟨_, _, e, he, _, _, _, h5⟩
      · rw [hp.p1] at h; cases h
      · have hw : 0 ≤ e.w := (hnet e (mem_nextEdges.1 he).1).2.2
        exact absurd (lt_of_le_of_lt (le_trans (hinv.b7 u du hud) (WalkAdd.le_add_right _ _ hw)) (h5 0 hinv.b1))
          (lt_irrefl _)
  · intro v a i hpv
    rcases q2 v a i hpv with ⟨h, hd⟩ | ⟨rfl, hva, e, he, h1, h2, h4, _⟩
    · obtain ⟨g0, g1, e, he, g2, g3, x, g4, g5⟩ := hp.p2 v a i h
      exact ⟨g0, (s1 a).trans (mark_true.mpr (Or.inr g1)), e, he, g2, g3, x, (s2 a (Or.inr g1)).trans g4, hd.trans g5⟩
    · exact ⟨fun h => hva h.symm, (s1 a).trans (if_pos rfl), e, he, h1, h2, du, (s2 a (Or.inl rfl)).trans hud, h4⟩
  · intro v y hvs hd
    rcases q3 v with h | ⟨h1, h2⟩
    · exact h
    · rw [h2]; exact hp.p3 v y hvs (h1.symm.trans hd)
  · intro a ha
    show (if a = u then K else rk a) < K + 1
    split
    · exact Nat.lt_succ_self K
    · rename_i hau; exact Nat.lt_succ_of_lt (hp.p4 a ((visT a ha).resolve_left hau))
  · intro v a i hpv hvv
    -- the predecessor of a settled node was settled before the node, hence before `u`
    have hold : st.pred v = some (a, i) := (q4 v (visT v hvv)).symm.trans hpv
    obtain ⟨g0, g1, _⟩ := hp.p2 v a i hold
    have hau : a ≠ u := fun h => by rw [h, huv] at g1; cases g1
    rw [if_neg hau]
    rcases visT v hvv with rfl | hv
    · rw [if_pos rfl]; exact hp.p4 a g1
    · have hvu : v ≠ u := fun h => by rw [h, huv] at hv; cases hv
      rw [if_neg hvu]; exact hp.p5 v a i hold hv
  · have hc := cnt_mark st (settle net st u du) u huv s1 net.n
    rw [if_pos hu] at hc
    have := hp.p6
    omega

theorem loopG_goodH {net : Net W} (hnet : WFNet net) {pr : Nat → W → W} {pop : St W → Option (Nat × W)}
    (hpop : PopOK pr net.n pop) (s : Nat) (hs : s < net.n) (tg : Option Nat) (cut : Option W) (f : Nat) :
    GoodH net s (loopG pop (settle net) tg cut f (St.init s) []).1 := by
  refine loopG_preserves _ _ (GoodH net s) ?_ tg cut f (St.init s) [] (goodH_init net s hs)
  intro st u du ⟨hb, ha, rk, K, hpi⟩ hp
  obtain ⟨hu, huv, hud, _⟩ := hpop.some st u du hp
  exact ⟨settle_invB net hnet s st hb u du hud, settle_invA net hnet s st ha u du hud, _, _,
    settle_pinv net hnet s st rk K hb hpi u du hu huv hud⟩

/-- whatever node the queue hands out (no condition on the priority): without a cut-off the loop leaves the target unlabelled
exactly when no walk reaches it -/
theorem loopG_none_iff {net : Net W} (hnet : WFNet net) {pr : Nat → W → W} {pop : St W → Option (Nat × W)}
    (hpop : PopOK pr net.n pop) (s : Nat) (hs : s < net.n) (t : Nat) :
    (loopG pop (settle net) (some t) none net.n (St.init s) []).1.d t = none ↔ ¬ Reachable net s t := by
  have hinv := (loopG_goodH hnet hpop s hs (some t) none net.n).2.1
  have hend := loopG_stop hpop (settle net) (fun st u du z => (settle_spec net st u du).1 z)
    (some t) none net.n (St.init s) [] (cnt_le _ _)
  generalize (loopG pop (settle net) (some t) none net.n (St.init s) []).1 = r at hinv hend
  refine ⟨fun hn ⟨c, hc⟩ => ?_, hinv.unreachable⟩
  -- the loop did not stop at `t` (which would be labelled), so every labelled node is settled
  have hdone : ∀ v y, r.d v = some y → r.vis v = true := by
    rcases hend with ⟨u, du, hp, hstop⟩ | hdone
    · rcases stops_true hstop with ⟨_, hcc, _⟩ | htu
      · cases hcc
      · rw [Option.some.inj htu, (hpop.some r u du hp).2.2.1] at hn; cases hn
    · exact fun v y hv => hdone v (hinv.a6 v y hv) y hv
  obtain ⟨y, hy⟩ := invA_closed net s r hinv hdone t c hc
  rw [hn] at hy; cases hy

theorem runForward_good (net : Net W) (hnet : WFNet net) (s : Nat) (hs : s < net.n) (tgt : Option Nat) (cut : Option W) :
    Good net s (runForward net s tgt cut).1 := by
  refine ⟨inv_iff_invP.2 (runForward_ended net hnet s hs tgt cut).inv, ?_⟩
  unfold runForward
  rw [forward_eq_loopG]
  exact (loopG_goodH hnet (popOK_aux net.n) s hs tgt cut net.n).2.2
end TV.Graph
