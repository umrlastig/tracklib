import TracklibVerif.Lemmas.SimplifyOrd
import Mathlib.Algebra.Order.Field.Basic
import Mathlib.Tactic.LinearCombination
/-! Geometry of `distance_to_segment` and the tolerance of Douglas–Peucker over a linearly ordered field,
with `math.sqrt` replaced by any function satisfying `SqrtOK` (e.g. `Real.sqrt`). -/
namespace TV.Simplify
section order
variable {α : Type} [LinearOrder α]

/-- a monotone map commutes with clamping: the value clamped to the interval between the images of `a` and `b` is the image of the
argument clamped to `[a, b]` -/
theorem clamp_mono {f : α → α} (hf : Monotone f) {a b : α} (hab : a ≤ b) (s : α) :
    min (max (f s) (min (f a) (f b))) (max (f a) (f b)) = f (max a (min s b)) := by
  have h01 : f a ≤ f b := hf hab
  rw [hf.map_max, hf.map_min, min_eq_left h01, max_eq_right h01, max_min_distrib_left, max_eq_right h01, max_comm]

theorem clamp_anti {f : α → α} (hf : Antitone f) {a b : α} (hab : a ≤ b) (s : α) :
    min (max (f s) (min (f a) (f b))) (max (f a) (f b)) = f (max a (min s b)) := by
  have h10 : f b ≤ f a := hf hab
  rw [hf.map_max, hf.map_min, min_eq_right h10, max_eq_left h10, min_comm]

theorem clamp_mem {a b : α} (hab : a ≤ b) (s : α) : a ≤ max a (min s b) ∧ max a (min s b) ≤ b :=
  ⟨le_max_left _ _, max_le hab (min_le_right _ _)⟩

end order

section orderedRing
variable {α : Type} [Ring α] [LinearOrder α] [IsStrictOrderedRing α]

/-- clamping one coordinate of the projected point to the segment's box is clamping the parameter to `[0, 1]`: the coordinate is a
monotone or an antitone function of the parameter -/
theorem clamp_seg (x1 x2 s : α) :
    min (max (x1 + s * (x2 - x1)) (min x1 x2)) (max x1 x2) = x1 + max 0 (min s 1) * (x2 - x1) := by
  have e0 : x1 + 0 * (x2 - x1) = x1 := by rw [zero_mul, add_zero]
  have e1 : x1 + 1 * (x2 - x1) = x2 := by rw [one_mul, add_sub_cancel]
  rcases le_total 0 (x2 - x1) with h | h
  · have := clamp_mono (f := fun t => x1 + t * (x2 - x1))
      (fun a b hab => add_le_add_right (mul_le_mul_of_nonneg_right hab h) x1) zero_le_one s
    simp only [e0, e1] at this
    exact this
  · have := clamp_anti (f := fun t => x1 + t * (x2 - x1))
      (fun a b hab => add_le_add_right (mul_le_mul_of_nonpos_right hab h) x1) zero_le_one s
    simp only [e0, e1] at this
    exact this

/-- a parabola with vertex `t0` is, on `[0, 1]`, smallest at `t0` clamped to `[0, 1]` -/
theorem clamp_vertex (t t0 : α) (ht0 : 0 ≤ t) (ht1 : t ≤ 1) :
    0 ≤ (t - max 0 (min t0 1)) * (t + max 0 (min t0 1) - 2 * t0) := by
  rcases le_total t0 0 with h0 | h0
  · rw [min_eq_left (h0.trans zero_le_one), max_eq_left h0, sub_zero, add_zero]
    exact mul_nonneg ht0 (sub_nonneg.mpr ((mul_nonpos_of_nonneg_of_nonpos zero_le_two h0).trans ht0))
  · rcases le_total t0 1 with h1 | h1
    · rw [min_eq_left h1, max_eq_right h0, two_mul, add_sub_add_right_eq_sub]
      exact mul_self_nonneg _
    · rw [min_eq_right h1, max_eq_right zero_le_one]
      exact mul_nonneg_of_nonpos_of_nonpos (sub_nonpos.mpr ht1)
        (sub_nonpos.mpr ((add_le_add (ht1.trans h1) h1).trans_eq (two_mul t0).symm))

theorem mul_self_add_mul_self_nonneg (a b : α) : 0 ≤ a * a + b * b :=
  add_nonneg (mul_self_nonneg a) (mul_self_nonneg b)

end orderedRing

variable {α : Type} [Field α] [LinearOrder α] [IsStrictOrderedRing α]

/-- contract of the square root used by the code -/
def SqrtOK (sqrt : α → α) : Prop := ∀ x, 0 ≤ x → 0 ≤ sqrt x ∧ sqrt x * sqrt x = x

/-- squared distance from `(x0, y0)` to the point of parameter `t` of the segment `(x1, y1) – (x2, y2)` -/
def q2 (x0 y0 x1 y1 x2 y2 t : α) : α :=
  (x0 - (x1 + t * (x2 - x1))) * (x0 - (x1 + t * (x2 - x1))) + (y0 - (y1 + t * (y2 - y1))) * (y0 - (y1 + t * (y2 - y1)))

theorem q2_nonneg (x0 y0 x1 y1 x2 y2 t : α) : 0 ≤ q2 x0 y0 x1 y1 x2 y2 t :=
  mul_self_add_mul_self_nonneg _ _

theorem q2_diff (x0 y0 x1 y1 x2 y2 t s : α)
    (hl : (x2 - x1) * (x2 - x1) + (y2 - y1) * (y2 - y1) ≠ 0) :
    q2 x0 y0 x1 y1 x2 y2 t - q2 x0 y0 x1 y1 x2 y2 s =
      ((x2 - x1) * (x2 - x1) + (y2 - y1) * (y2 - y1)) * ((t - s) * (t + s - 2 *
        (((x0 - x1) * (x2 - x1) + (y0 - y1) * (y2 - y1)) / ((x2 - x1) * (x2 - x1) + (y2 - y1) * (y2 - y1))))) := by
  have hD := div_mul_cancel₀ ((x0 - x1) * (x2 - x1) + (y0 - y1) * (y2 - y1)) hl
  generalize ((x0 - x1) * (x2 - x1) + (y0 - y1) * (y2 - y1)) / ((x2 - x1) * (x2 - x1) + (y2 - y1) * (y2 - y1)) = t0 at hD ⊢
  unfold q2
  linear_combination (2 * (t - s)) * hD

/-- the closed form `distSegSq` is the squared distance to the point of parameter `t` of the segment for a `t ∈ [0, 1]` that
minimises it over `[0, 1]` (`A = B`: every `t` gives `|P − A|²`) -/
theorem distSegSq_spec (x0 y0 x1 y1 x2 y2 : α) :
    (∃ t, 0 ≤ t ∧ t ≤ 1 ∧ distSegSq x0 y0 x1 y1 x2 y2 = q2 x0 y0 x1 y1 x2 y2 t) ∧
    ∀ t, 0 ≤ t → t ≤ 1 → distSegSq x0 y0 x1 y1 x2 y2 ≤ q2 x0 y0 x1 y1 x2 y2 t := by
  simp only [distSegSq, pmax_eq, pmin_eq, beq_iff_eq]
  split
  · rename_i hz
    obtain ⟨hdx, hdy⟩ := mul_self_add_mul_self_eq_zero.mp hz
    have hq : ∀ t, q2 x0 y0 x1 y1 x2 y2 t = (x0 - x1) * (x0 - x1) + (y0 - y1) * (y0 - y1) := by
      intro t; unfold q2; rw [hdx, hdy, mul_zero, add_zero, add_zero]
    exact ⟨⟨0, le_refl _, zero_le_one, (hq 0).symm⟩, fun t _ _ => (hq t).ge⟩
  · rename_i hnz
    exact ⟨⟨_, (clamp_mem zero_le_one _).1, (clamp_mem zero_le_one _).2, rfl⟩, fun t h0 h1 => by
      -- the difference to the value at the clamped vertex: a non-negative factor times `clamp_vertex`'s product
      show q2 x0 y0 x1 y1 x2 y2 (max 0 (min _ 1)) ≤ _
      rw [← sub_nonneg, q2_diff x0 y0 x1 y1 x2 y2 t _ hnz]
      exact mul_nonneg (mul_self_add_mul_self_nonneg _ _) (clamp_vertex t _ h0 h1)⟩

/-- what the code computes — normalised scalar product, projection, clamp of the projected point to the segment's bounding box,
`l == 0` branch — is the square root of the closed form -/
theorem dist_eq_sqrt (sqrt : α → α) (hs : SqrtOK sqrt) (x0 y0 x1 y1 x2 y2 : α) :
    distanceToSegment sqrt x0 y0 x1 y1 x2 y2 = sqrt (distSegSq x0 y0 x1 y1 x2 y2) := by
  obtain ⟨_, hll⟩ := hs _ (mul_self_add_mul_self_nonneg (x2 - x1) (y2 - y1))
  have hz : sqrt ((x2 - x1) * (x2 - x1) + (y2 - y1) * (y2 - y1)) = 0 ↔
      (x2 - x1) * (x2 - x1) + (y2 - y1) * (y2 - y1) = 0 :=
    ⟨fun h => by rw [← hll, h, mul_zero], fun h => mul_self_eq_zero.mp (hll.trans h)⟩
  simp only [distanceToSegment, distSegSq, pmax_eq, pmin_eq, beq_iff_eq, hz]
  split
  · rfl
  · rw [div_div, hll, clamp_seg, clamp_seg]

/-- **`distance_to_segment` is the distance to the closed segment** (squared form): its value `d` is
non-negative, `d²` is the squared distance from `P` to *some* point `A + t(B−A)`, `0 ≤ t ≤ 1`, and no point
of the segment is closer. Degenerate segments (`A = B`) included. -/
theorem dist_seg_spec (sqrt : α → α) (hs : SqrtOK sqrt) (x0 y0 x1 y1 x2 y2 : α) :
    0 ≤ distanceToSegment sqrt x0 y0 x1 y1 x2 y2 ∧
    (∃ t, 0 ≤ t ∧ t ≤ 1 ∧ distanceToSegment sqrt x0 y0 x1 y1 x2 y2 * distanceToSegment sqrt x0 y0 x1 y1 x2 y2 =
        q2 x0 y0 x1 y1 x2 y2 t) ∧
    (∀ t, 0 ≤ t → t ≤ 1 → distanceToSegment sqrt x0 y0 x1 y1 x2 y2 * distanceToSegment sqrt x0 y0 x1 y1 x2 y2 ≤
        q2 x0 y0 x1 y1 x2 y2 t) := by
  obtain ⟨⟨t, h0, h1, e⟩, hmin⟩ := distSegSq_spec x0 y0 x1 y1 x2 y2
  obtain ⟨hd0, hdd⟩ := hs _ (e ▸ q2_nonneg x0 y0 x1 y1 x2 y2 t)
  rw [dist_eq_sqrt sqrt hs, hdd]
  exact ⟨hd0, ⟨t, h0, h1, e⟩, hmin⟩

theorem dist_sq_eq (sqrt : α → α) (hs : SqrtOK sqrt) (x0 y0 x1 y1 x2 y2 : α) :
    distanceToSegment sqrt x0 y0 x1 y1 x2 y2 * distanceToSegment sqrt x0 y0 x1 y1 x2 y2 =
      distSegSq x0 y0 x1 y1 x2 y2 := by
  obtain ⟨⟨t, _, _, e⟩, _⟩ := distSegSq_spec x0 y0 x1 y1 x2 y2
  rw [dist_eq_sqrt sqrt hs]
  exact (hs _ (e ▸ q2_nonneg x0 y0 x1 y1 x2 y2 t)).2

section
omit [LinearOrder α] [IsStrictOrderedRing α]

theorem q2_start (x0 y0 x2 y2 : α) : q2 x0 y0 x0 y0 x2 y2 0 = 0 := by
  unfold q2; simp only [zero_mul, add_zero, sub_self, mul_zero]

theorem q2_end (x0 y0 x1 y1 : α) : q2 x0 y0 x1 y1 x0 y0 1 = 0 := by
  unfold q2; simp only [one_mul, add_sub_cancel, sub_self, mul_zero, add_zero]

end

theorem SqrtOK.zeroLaws {sqrt : α → α} (hs : SqrtOK sqrt) : ZeroLaws sqrt :=
  ⟨sub_self, zero_mul, add_zero 0, zero_div, add_zero, mul_self_eq_zero.mp (hs 0 le_rfl).2⟩

/-- `p` is within `√e2` of the closed segment `[a, b]` (true point–segment distance, squared) -/
def Near (e2 : α) (p a b : Fix α) : Prop :=
  ∃ t, 0 ≤ t ∧ t ≤ 1 ∧ q2 p.x p.y a.x a.y b.x b.y t ≤ e2

theorem near_of_dist_lt (sqrt : α → α) (hs : SqrtOK sqrt) (eps : α) (a b p : Fix α) (h : distFix sqrt a b p < eps) :
    Near (eps * eps) p a b := by
  obtain ⟨h0, ⟨t, ht0, ht1, hq⟩, _⟩ := dist_seg_spec sqrt hs p.x p.y a.x a.y b.x b.y
  exact ⟨t, ht0, ht1, hq ▸ mul_self_le_mul_self h0 (le_of_lt h)⟩

theorem near_self (e2 : α) (he : 0 ≤ e2) (p q : Fix α) : Near e2 p p q ∧ Near e2 p q p :=
  ⟨⟨0, le_refl _, zero_le_one, by rw [q2_start]; exact he⟩, ⟨1, zero_le_one, le_refl _, by rw [q2_end]; exact he⟩⟩

end TV.Simplify
