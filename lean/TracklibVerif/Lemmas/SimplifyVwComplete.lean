import TracklibVerif.Lemmas.SimplifyVwTie
/-! **Completeness** of the level-by-level enumeration `vwAllLevels` (`Model/SimplifyTie.lean`) on columns without NaN
(`vwAllLevels_complete`); `Props/C16b.lean` states it of `visvalingamAll`.

The enumeration merges the states of a level that hold the same observations (`dedupTags`: same tags). That loses nothing when a
state is a *function of its observations*: on a column without NaN every state a run reaches is the initial column of its
observations (`VReach.canon`), so two states with the same observations are **equal**, and observations of one track are identified by
their tags (`map_tag_inj`, `good_eq_of_tags`). Hence a run from a state of one level goes on from a state that the merged next level holds, and
when the enumeration does not give up its result holds every final state of every run.
No property of the scalar type is used. -/
namespace TV.Simplify
variable {α : Type} [Add α] [Sub α] [Mul α] [Div α] [Neg α] [LT α] [DecidableLT α] [BEq α]
  [OfNat α 0] [OfNat α 1] [OfNat α 2]

/-- what a run from the initial column of `L` reaches when no area is NaN: the initial column of a sub-sequence of `L` (two or more
observations) -/
def GoodP (L : List (Fix α)) (S : VState α) : Prop := ∃ K, S = vwInit K ∧ K.Sublist L ∧ 2 ≤ K.length

section
omit [Add α] [Neg α]

theorem VReach.goodP {big eps2 : α} (L : List (Fix α)) (hnum : NumAreas big L)
    {S S' : VState α} (r : VReach big eps2 S S') (h : GoodP L S) : GoodP L S' := by
  obtain ⟨K, e, s, h2⟩ := h
  obtain ⟨K', e', s', _, _, h2'⟩ := r.canon K e h2 (hnum.sublist s)
  exact ⟨K', e', s'.trans s, h2'⟩

end

section
omit [Add α] [Sub α] [Mul α] [Div α] [Neg α] [LT α] [DecidableLT α] [BEq α] [OfNat α 0] [OfNat α 1] [OfNat α 2]

theorem map_tag_inj (L : List (Fix α)) (htag : ∀ x ∈ L, ∀ y ∈ L, x.tag = y.tag → x = y) :
    ∀ (A B : List (Fix α)), (∀ x ∈ A, x ∈ L) → (∀ x ∈ B, x ∈ L) → A.map (·.tag) = B.map (·.tag) → A = B := by
  intro A
  induction A with
  | nil =>
    intro B _ _ h
    cases B with
    | nil => rfl
    | cons b B => simp at h
  | cons a A ih =>
    intro B hA hB h
    cases B with
    | nil => simp at h
    | cons b B =>
      simp only [List.map_cons, List.cons.injEq] at h
      have := htag a (hA a List.mem_cons_self) b (hB b List.mem_cons_self) h.1
      subst this
      rw [ih B (fun x hx => hA x (List.mem_cons_of_mem _ hx)) (fun x hx => hB x (List.mem_cons_of_mem _ hx)) h.2]

end

section
omit [Add α] [Neg α] [BEq α]

theorem tagsOf_vwInit (K : List (Fix α)) : tagsOf (vwInit K) = K.map (·.tag) :=
  List.map_map.symm.trans (congrArg (List.map (·.tag)) (vwInit_map_fst K))

theorem good_eq_of_tags (L : List (Fix α)) (htag : ∀ x ∈ L, ∀ y ∈ L, x.tag = y.tag → x = y)
    (S T : VState α) (hS : GoodP L S) (hT : GoodP L T) (e : tagsOf S = tagsOf T) : S = T := by
  obtain ⟨K, rfl, sK, _⟩ := hS
  obtain ⟨K', rfl, sK', _⟩ := hT
  rw [tagsOf_vwInit, tagsOf_vwInit] at e
  rw [map_tag_inj L htag K K' (fun x hx => sK.subset hx) (fun x hx => sK'.subset hx) e]

end

section
omit [Add α] [Sub α] [Mul α] [Div α] [Neg α] [LT α] [DecidableLT α] [BEq α] [OfNat α 0] [OfNat α 1] [OfNat α 2]

theorem subset_dedupFrom {x : VState α} : ∀ (l acc : List (VState α)), x ∈ acc → x ∈ dedupFrom acc l
  | [], _, h => h
  | s :: l, acc, h => by
    rw [dedupFrom_cons]
    refine subset_dedupFrom l _ ?_
    split
    · exact h
    · exact List.mem_append_left _ h

theorem dedupFrom_repr {x : VState α} : ∀ (l acc : List (VState α)), x ∈ l → ∃ y ∈ dedupFrom acc l, tagsOf y = tagsOf x
  | s :: l, acc, h => by
    rw [dedupFrom_cons]
    rcases List.mem_cons.mp h with rfl | h
    · by_cases hany : acc.any (fun T => tagsOf T == tagsOf x) = true
      · obtain ⟨T, hT, hTe⟩ := List.any_eq_true.mp hany
        exact ⟨T, subset_dedupFrom l _ (by rw [if_pos hany]; exact hT), beq_iff_eq.mp hTe⟩
      · exact ⟨x, subset_dedupFrom l _ (by rw [if_neg hany]; exact List.mem_append_right _ List.mem_cons_self), rfl⟩
    · exact dedupFrom_repr l _ h

theorem dedupTags_repr (l : List (VState α)) : ∀ x ∈ l, ∃ y ∈ dedupTags l, tagsOf y = tagsOf x :=
  fun _ h => dedupFrom_repr l [] h

end

section
omit [Add α] [Neg α]

/-- the enumeration is complete on columns without NaN: when it does not give up, its result holds every state in which a run from a state
of the frontier stops. (A run from `T` either stops in `T`, which then joins `finals`, or goes on from a state of the next level, which the
merged level holds itself: the state found there with the same observations is that very state.) -/
theorem vwAllLevels_complete (big eps2 : α) (cap : Nat) (L : List (Fix α)) (hnum : NumAreas big L)
    (htag : ∀ x ∈ L, ∀ y ∈ L, x.tag = y.tag → x = y) (fuel : Nat) (frontier finals R : List (VState α))
    (hg : ∀ T ∈ frontier, GoodP L T) (h : vwAllLevels big eps2 cap fuel frontier finals = some R) :
    (∀ S ∈ finals, S ∈ R) ∧
      ∀ T ∈ frontier, ∀ S', VReach big eps2 T S' → vwNext big eps2 S' = [] → S' ∈ R := by
  fun_induction vwAllLevels big eps2 cap fuel frontier finals with
  | case1 frontier finals hem | case3 fuel frontier finals hem =>
    cases h
    exact ⟨fun S hS => hS, fun T hT => by rw [List.isEmpty_iff.mp hem] at hT; cases hT⟩
  | case2 frontier finals hem | case4 fuel frontier finals hem hcap => cases h
  | case5 fuel frontier finals hem hcap ih =>
    have next : ∀ {T S1}, T ∈ frontier → S1 ∈ vwNext big eps2 T → GoodP L S1 :=
      fun hT hm => (VReach.step hm (VReach.refl _)).goodP L hnum (hg _ hT)
    obtain ⟨g1, g2⟩ := ih (fun S hS => by
      obtain ⟨T, hT, hm⟩ := List.mem_flatMap.mp (mem_dedupTags _ S hS)
      exact next hT hm) h
    refine ⟨fun S hS => g1 S (List.mem_append_left _ hS), fun T hT S' r hn => ?_⟩
    cases r with
    | refl => exact g1 T (List.mem_append_right _ (List.mem_filter.mpr ⟨hT, by rw [hn]; rfl⟩))
    | @step _ S1 _ hm r' =>
      obtain ⟨U, hU, hUe⟩ := dedupTags_repr _ S1 (List.mem_flatMap.mpr ⟨T, hT, hm⟩)
      obtain ⟨T1, hT1, hm1⟩ := List.mem_flatMap.mp (mem_dedupTags _ U hU)
      rw [good_eq_of_tags L htag U S1 (next hT1 hm1) (next hT hm) hUe] at hU
      exact g2 S1 hU S' r' hn

end

end TV.Simplify
