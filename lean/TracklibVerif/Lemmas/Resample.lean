import TracklibVerif.Lemmas.ResampleBasic
import Mathlib.Algebra.Order.Field.Basic
import Mathlib.Tactic.Ring
import Mathlib.Tactic.Linarith
import Mathlib.Tactic.FieldSimp
/-! Helper lemmas for C05 (linear resampling): the `running_id` scan and the leg `firstGE` it designates, the clamp and the
request list of `synchronize` (a linear order is enough for these), the spatial loop in any arithmetic, then over an ordered field
the temporal and spatial loops in function form (`sampleT`, `sampleS`) and the arithmetic progression of `prepareTimeSampling`. -/
namespace TV.Resample

/-! ### the scan `while V[running_id] < v: running_id += 1` (this section: a linear order only) -/
section Order
variable {α : Type} [LinearOrder α]

/-- specification of the scan: number of leading elements `< v`, i.e. the first index whose element is `≥ v` -/
def firstGE (v : α) : List α → Nat
  | [] => 0
  | w :: ws => if w < v then firstGE v ws + 1 else 0

theorem firstGE_eq_findIdx (v : α) (l : List α) : firstGE v l = l.findIdx (fun w => decide (v ≤ w)) := by
  fun_induction firstGE v l with
  | case1 => rfl
  | case2 w ws h ih => rw [List.findIdx_cons, ← ih, decide_eq_false (not_le_of_gt h)]; rfl
  | case3 w ws h => rw [List.findIdx_cons, decide_eq_true (le_of_not_gt h)]; rfl

theorem firstGE_le_length (v : α) (l : List α) : firstGE v l ≤ l.length :=
  firstGE_eq_findIdx v l ▸ List.findIdx_le_length

theorem lt_of_lt_firstGE (v : α) (l : List α) (j : Nat) (hj : j < firstGE v l)
    (hjl : j < l.length) : l[j] < v :=
  lt_of_not_ge (of_decide_eq_false
    (List.not_of_lt_findIdx (p := fun w => decide (v ≤ w)) (firstGE_eq_findIdx v l ▸ hj)))

theorem firstGE_spec (v : α) (l : List α) (h : firstGE v l < l.length) : v ≤ l[firstGE v l] := by
  simp only [firstGE_eq_findIdx] at h ⊢
  exact of_decide_eq_true (List.findIdx_getElem (w := h))

theorem le_firstGE (v : α) (l : List α) (k : Nat) (hk : k ≤ l.length)
    (h : ∀ j (hj : j < l.length), j < k → l[j] < v) : k ≤ firstGE v l := by
  rw [firstGE_eq_findIdx]
  cases k with
  | zero => exact Nat.zero_le _
  | succ k => exact List.lt_findIdx_of_not hk fun j hj => by simpa using h j (by omega) (by omega)

theorem firstGE_mono (l : List α) {v v' : α} (h : v ≤ v') : firstGE v l ≤ firstGE v' l := by
  rw [firstGE_eq_findIdx, firstGE_eq_findIdx]
  exact List.findIdx_le_findIdx fun x _ hx => by simpa using le_trans h (of_decide_eq_true hx)

theorem firstGE_eq (v : α) (l : List α) (k : Nat) (hk : k < l.length)
    (h : ∀ j (hj : j < l.length), j < k → l[j] < v) (hge : v ≤ l[k]) : firstGE v l = k := by
  rw [firstGE_eq_findIdx, List.findIdx_eq hk]
  exact ⟨decide_eq_true hge, fun j hj => decide_eq_false (not_le_of_gt (h j (by omega) hj))⟩

theorem firstGE_drop (v : α) (l : List α) (rid : Nat) (h : rid ≤ firstGE v l) :
    firstGE v (l.drop rid) + rid = firstGE v l := by
  have hl := firstGE_le_length v l
  simp only [firstGE_eq_findIdx] at h hl ⊢
  conv => rhs; rw [← List.take_append_drop rid l, List.findIdx_append, List.findIdx_take, List.length_take]
  rw [if_neg (by omega)]
  omega

theorem scan_eq (v : α) (l : List α) (i : Nat) :
    scan v l i = if firstGE v l < l.length then some (i + firstGE v l) else none := by
  fun_induction scan v l i with
  | case1 => rfl
  | case2 w ws i hw ih =>
    rw [ih, firstGE, if_pos hw]
    simp only [List.length_cons, Nat.add_lt_add_iff_right, Nat.add_assoc, Nat.add_comm 1]
  | case3 w ws i hw => rw [firstGE, if_neg hw]; rfl

theorem advance_of_le (V : List α) (v : α) (rid : Nat) (h : rid ≤ firstGE v V) :
    advance V v rid = if firstGE v V < V.length then some (firstGE v V) else none := by
  unfold advance
  rw [scan_eq, List.length_drop, ← firstGE_drop v V rid h, Nat.add_comm rid]
  simp only [Nat.lt_sub_iff_add_lt]

theorem advance_eq (V : List α) (v : α) (rid : Nat) (h1 : rid ≤ firstGE v V)
    (h2 : firstGE v V < V.length) : advance V v rid = some (firstGE v V) :=
  (advance_of_le V v rid h1).trans (if_pos h2)

/-- …and past the last element it is an IndexError -/
theorem advance_none (V : List α) (v : α) (rid : Nat) (h1 : rid ≤ firstGE v V)
    (h2 : firstGE v V = V.length) : advance V v rid = none :=
  (advance_of_le V v rid h1).trans (if_neg (Nat.not_lt.mpr h2.ge))

theorem advanceB_eq (V : List α) (v : α) (rid : Nat) (h1 : rid ≤ firstGE v V)
    (h2 : firstGE v V < V.length) : advanceB V v rid = some (firstGE v V) :=
  scanB_of_scan v _ _ _ (advance_eq V v rid h1 h2)

theorem getElem_mono {V : List α} (hV : V.Pairwise (· ≤ ·)) {i j : Nat} (hij : i ≤ j) (hj : j < V.length) :
    V[i] ≤ V[j] := by
  rcases Nat.eq_or_lt_of_le hij with rfl | h
  · exact le_refl _
  · exact List.pairwise_iff_getElem.mp hV i j (by omega) hj h

theorem firstGE_unique (V : List α) (hV : V.Pairwise (· ≤ ·)) (v : α) (k : Nat)
    (hk : k < V.length) (hlo : V[k - 1]'(by omega) < v) (hhi : v ≤ V[k]) : firstGE v V = k :=
  firstGE_eq v V k hk (fun j _ hjk => lt_of_le_of_lt (getElem_mono hV (by omega) (by omega)) hlo) hhi

theorem firstGE_bracket (V : List α) (v : α) (hn : 0 < V.length) (h0 : V[0] < v)
    (hl : v ≤ V[V.length - 1]'(Nat.sub_one_lt_of_lt hn)) :
    1 ≤ firstGE v V ∧ ∃ h : firstGE v V < V.length,
      V[firstGE v V - 1]'(by omega) < v ∧ v ≤ V[firstGE v V] := by
  have h1 : 1 ≤ firstGE v V := le_firstGE v V 1 hn (fun j _ hj1 => by
    obtain rfl : j = 0 := by omega
    exact h0)
  have h2 : firstGE v V < V.length := by
    by_contra h
    exact absurd (lt_of_lt_firstGE v V (V.length - 1) (by omega) (by omega)) (not_lt_of_ge hl)
  exact ⟨h1, h2, lt_of_lt_firstGE v V _ (by omega) (by omega), firstGE_spec v V h2⟩

/-- `rewind` returns, and not beyond the leg the scan is to find: what the scan needs of the `running_id` it starts from -/
def Rewinds (T : List α) (t : α) (rid : Nat) : Prop :=
  ∃ r0, rewind T t rid = some r0 ∧ r0 ≤ firstGE t T

/-- `rewind` answers `0` unless `T[rid − 1] < t`, and then `rid` -/
theorem rewinds_of (T : List α) (t : α) (rid : Nat) (hl : rid ≤ T.length)
    (h : ∀ _ : 0 < rid, T[rid - 1]'(by omega) < t → rid ≤ firstGE t T) : Rewinds T t rid := by
  unfold Rewinds rewind
  by_cases h0 : rid = 0
  · exact ⟨0, if_pos h0, Nat.zero_le _⟩
  · rw [if_neg h0, List.getElem?_eq_getElem (show rid - 1 < T.length by omega)]
    by_cases hv : t ≤ T[rid - 1]
    · exact ⟨0, if_pos hv, Nat.zero_le _⟩
    · exact ⟨rid, if_neg hv, h (by omega) (lt_of_not_ge hv)⟩

/-- the rewind keeps the scan's precondition when it held before (requests in chronological order) -/
theorem rewinds_of_le (T : List α) (t : α) (rid : Nat) (h : rid ≤ firstGE t T) : Rewinds T t rid :=
  rewinds_of T t rid (le_trans h (firstGE_le_length t T)) (fun _ _ => h)

/-- …and establishes it from any position when the table is non-decreasing (requests in any order) -/
theorem rewinds_of_sorted (T : List α) (hT : T.Pairwise (· ≤ ·)) (t : α) (rid : Nat) (h : rid ≤ T.length) :
    Rewinds T t rid :=
  rewinds_of T t rid h (fun _ hv => le_firstGE t T rid h
    (fun j _ hjr => lt_of_le_of_lt (getElem_mono hT (by omega) (by omega)) hv))

theorem times_mono (P : List (Fix α)) (hT : (P.map (·.t)).Pairwise (· ≤ ·)) (i j : Nat) (hij : i ≤ j)
    (hj : j < P.length) : (P[i]'(by omega)).t ≤ P[j].t := by
  have := getElem_mono hT hij (show j < (P.map (·.t)).length by simpa using hj)
  simpa only [List.getElem_map] using this

theorem times_le (P : List (Fix α)) (hT : (P.map (·.t)).Pairwise (· ≤ ·)) {i j : Nat} {a b : Fix α}
    (ha : P[i]? = some a) (hb : P[j]? = some b) (hij : i ≤ j) : a.t ≤ b.t := by
  obtain ⟨_, rfl⟩ := List.getElem?_eq_some_iff.mp ha
  obtain ⟨hj, rfl⟩ := List.getElem?_eq_some_iff.mp hb
  exact times_mono P hT i j hij hj

/-! ### Python's `min`, `max` and the clamp of the interpolated time (fix commit 20ed89f): order only -/

theorem pmax_eq (a b : α) : pmax a b = max a b := (max_def_lt a b).symm

theorem pmin_eq (a b : α) : pmin a b = min a b := ((min_comm a b).trans (min_def_lt b a)).symm

theorem clampT_eq (T tb tf : α) : clampT T tb tf = min (max T tb) tf := by
  unfold clampT
  rw [pmin_eq, pmax_eq]

theorem clampT_mem (T tb tf : α) (h : tb ≤ tf) : tb ≤ clampT T tb tf ∧ clampT T tb tf ≤ tf := by
  rw [clampT_eq]
  exact ⟨le_min (le_max_right _ _) h, min_le_right _ _⟩

/-- … and is `tf` when `tf ≤ tb` (in particular `t` on a leg travelled in no time, `tb = tf = t`) -/
theorem clampT_rev (T tb tf : α) (h : tf ≤ tb) : clampT T tb tf = tf := by
  rw [clampT_eq]
  exact min_eq_right (le_trans h (le_max_right _ _))

theorem clampT_noop (T tb tf : α) (h1 : tb ≤ T) (h2 : T ≤ tf) : clampT T tb tf = T := by
  rw [clampT_eq, max_eq_left h1, min_eq_left h2]

def inRange (tini tfin t : α) : Bool := decide (tini < t) && decide (t ≤ tfin)

theorem inRange_iff (tini tfin t : α) : inRange tini tfin t = true ↔ tini < t ∧ t ≤ tfin := by
  simp only [inRange, Bool.and_eq_true, decide_eq_true_eq]

theorem mem_insertAsc (v x : α) (l : List α) : x ∈ insertAsc v l ↔ x = v ∨ x ∈ l := by
  fun_induction insertAsc v l with
  | case1 => simp only [List.mem_singleton, List.not_mem_nil, or_false]
  | case2 => exact List.mem_cons
  | case3 w ws _ ih => rw [List.mem_cons, ih, List.mem_cons, or_left_comm]

theorem mem_sortAsc (x : α) (l : List α) : x ∈ sortAsc l ↔ x ∈ l := by
  induction l with
  | nil => rfl
  | cons w ws ih =>
    show x ∈ insertAsc w (sortAsc ws) ↔ _
    rw [mem_insertAsc, ih, List.mem_cons]

theorem insertAsc_sorted (v : α) (l : List α) (h : l.Pairwise (· ≤ ·)) : (insertAsc v l).Pairwise (· ≤ ·) := by
  fun_induction insertAsc v l with
  | case1 => exact List.pairwise_singleton _ _
  | case2 w ws hv =>
    refine List.pairwise_cons.mpr ⟨fun y hy => ?_, h⟩
    rcases List.mem_cons.mp hy with rfl | hy
    · exact hv.le
    · exact hv.le.trans (List.rel_of_pairwise_cons h hy)
  | case3 w ws hv ih =>
    rw [List.pairwise_cons] at h
    refine List.pairwise_cons.mpr ⟨fun y hy => ?_, ih h.2⟩
    rcases (mem_insertAsc v y ws).mp hy with rfl | hy
    · exact le_of_not_gt hv
    · exact h.1 y hy

theorem sortAsc_sorted (l : List α) : (sortAsc l).Pairwise (· ≤ ·) := by
  induction l with
  | nil => exact List.Pairwise.nil
  | cons w ws ih => exact insertAsc_sorted w _ ih

theorem dedupFrom_sublist (p : α) (l : List α) : (dedupFrom p l).Sublist l := by
  fun_induction dedupFrom p l with
  | case1 => exact .slnil
  | case2 _ w ws _ ih => exact ih.cons_cons w
  | case3 _ w ws _ ih => exact ih.cons w

theorem mem_dedupFrom (p x : α) (l : List α) : x = p ∨ x ∈ dedupFrom p l ↔ x = p ∨ x ∈ l := by
  fun_induction dedupFrom p l with
  | case1 => rfl
  | case2 p w ws hc ih => rw [List.mem_cons, List.mem_cons, ih]
  | case3 p w ws hc ih =>
    obtain rfl : w = p := le_antisymm (le_of_not_gt (not_or.mp hc).2) (le_of_not_gt (not_or.mp hc).1)
    rw [ih, List.mem_cons, or_self_left]

theorem syncDedup_sublist (l : List α) : (syncDedup l).Sublist l := by
  match l with
  | [] => exact List.Sublist.refl _
  | [a] => exact List.Sublist.refl _
  | a :: b :: rest => exact ((dedupFrom_sublist b rest).cons_cons b).cons_cons a

theorem mem_syncDedup (x : α) (l : List α) : x ∈ syncDedup l ↔ x ∈ l := by
  fun_cases syncDedup l with
  | case1 a b rest => simp only [List.mem_cons, mem_dedupFrom]
  | case2 => rfl

theorem syncRequest_sorted (T1 T2 : List α) (tini tfin : α) : (syncRequest T1 T2 tini tfin).Pairwise (· ≤ ·) :=
  ((sortAsc_sorted (T1 ++ T2)).sublist List.filter_sublist).sublist (syncDedup_sublist _)

theorem mem_syncRequest (T1 T2 : List α) (tini tfin x : α) :
    x ∈ syncRequest T1 T2 tini tfin ↔ (x ∈ T1 ∨ x ∈ T2) ∧ tini < x ∧ x < tfin := by
  unfold syncRequest
  rw [mem_syncDedup, List.mem_filter, mem_sortAsc, List.mem_append, Bool.and_eq_true, decide_eq_true_eq,
    decide_eq_true_eq]

theorem inRange_of_mem_syncRequest {T1 T2 : List α} {a1 a2 b1 b2 x : α}
    (h : x ∈ syncRequest T1 T2 (pmax a1 a2) (pmin b1 b2)) : inRange a1 b1 x = true ∧ inRange a2 b2 x = true := by
  obtain ⟨_, h1, h2⟩ := (mem_syncRequest _ _ _ _ _).mp h
  rw [pmax_eq] at h1
  rw [pmin_eq] at h2
  exact ⟨(inRange_iff _ _ _).mpr ⟨lt_of_le_of_lt (le_max_left _ _) h1, (lt_of_lt_of_le h2 (min_le_left _ _)).le⟩,
    (inRange_iff _ _ _).mpr ⟨lt_of_le_of_lt (le_max_right _ _) h1, (lt_of_lt_of_le h2 (min_le_right _ _)).le⟩⟩

theorem firstGE_bracket_times (P : List (Fix α)) (hn : 0 < P.length) (t : α) (h1 : (P[0]).t < t)
    (h2 : t ≤ (P[P.length - 1]'(Nat.sub_one_lt_of_lt hn)).t) :
    1 ≤ firstGE t (P.map (·.t)) ∧ ∃ h : firstGE t (P.map (·.t)) < P.length,
      (P[firstGE t (P.map (·.t)) - 1]'(by omega)).t < t ∧ t ≤ P[firstGE t (P.map (·.t))].t := by
  obtain ⟨hr1, hrlt, hb1, hb2⟩ := firstGE_bracket (P.map (·.t)) t (by simpa using hn) (by simpa using h1)
    (by simpa using h2)
  exact ⟨hr1, by simpa using hrlt, by simpa using hb1, by simpa using hb2⟩

end Order

/-! ### the spatial loop WITHOUT exact arithmetic

`β` carries a linear order and four arbitrary binary operations: nothing is assumed of `+ − × ÷` (they may round, as
IEEE doubles do — the doubles without NaN are linearly ordered). What the clamp guarantees holds for every value the
weighted mean may take. -/
section AnyArith
variable {β : Type} [LinearOrder β]

/-- the time of the output `o` lies between the stamps of the two fixes of the leg `r` (for `r = 0`, which Python reads
as the pair (last fix, first fix), the clamp returns the first stamp: both bounds are `P[0]`) -/
def OnLeg (P : List (Fix β)) (r : Nat) (o : Fix β) : Prop :=
  ∃ pb pf, P[r - 1]? = some pb ∧ P[r]? = some pf ∧ pb.t ≤ o.t ∧ o.t ≤ pf.t

theorem onLeg_clampT (P : List (Fix β)) (hT : (P.map (·.t)).Pairwise (· ≤ ·)) {r : Nat} {pb pf : Fix β}
    (e1 : P[bwdIdx r P.length]? = some pb) (e2 : P[r]? = some pf) (x y z T : β) :
    OnLeg P r ⟨x, y, z, clampT T pb.t pf.t⟩ := by
  by_cases hr0 : r = 0
  · subst hr0
    have hlen : 0 < P.length := (List.getElem?_eq_some_iff.mp e2).1
    rw [show bwdIdx 0 P.length = P.length - 1 from if_pos rfl] at e1
    have hle : pf.t ≤ pb.t := times_le P hT e2 e1 (Nat.zero_le _)
    exact ⟨pf, pf, e2, e2, (clampT_rev _ _ _ hle).ge, (clampT_rev _ _ _ hle).le⟩
  · rw [show bwdIdx r P.length = r - 1 from if_neg hr0] at e1
    obtain ⟨c1, c2⟩ := clampT_mem T pb.t pf.t (times_le P hT e1 e2 (Nat.sub_le _ _))
    exact ⟨pb, pf, e1, e2, c1, c2⟩

theorem onLeg_le (P : List (Fix β)) (hT : (P.map (·.t)).Pairwise (· ≤ ·)) {r r' : Nat} {o o' : Fix β}
    (h : OnLeg P r o) (h' : OnLeg P r' o') (hrr : r < r') : o.t ≤ o'.t := by
  obtain ⟨_, pf, _, e2, _, c2⟩ := h
  obtain ⟨pb', _, e1', _, c1', _⟩ := h'
  exact le_trans c2 (le_trans (times_le P hT e2 e1' (by omega)) c1')

variable [Sub β] [Div β] [OfNat β 0]

theorem bracket_inv {P : List (Fix β)} {V : List β} {v : β} {r : Nat} {pb pf : Fix β} {wb wf : β}
    (h : bracket P V v r = .ok (pb, pf, wb, wf)) : P[bwdIdx r P.length]? = some pb ∧ P[r]? = some pf := by
  revert h
  fun_cases bracket P V v r
  · rintro ⟨⟩; exact ⟨by assumption, by assumption⟩
  all_goals nofun

variable [Add β] [Mul β] [NatCast β]

/-- the spatial loop, any arithmetic: with stamps that never decrease, every output's time lies between the two stamps of
its leg, and the legs used never go backwards (`running_id` only advances) -/
theorem spatialLoop_any (P : List (Fix β)) (hT : (P.map (·.t)).Pairwise (· ≤ ·)) (S : List β) (sini sfin ds : β)
    (n k rid : Nat) (out : List (Fix β)) (h : spatialLoop P S sini sfin ds n k rid = .ok out) :
    ∃ legs : List Nat, List.Forall₂ (OnLeg P) legs out ∧ (rid :: legs).IsChain (· ≤ ·) := by
  revert out
  fun_induction spatialLoop P S sini sfin ds n k rid
  case case1 => rintro _ ⟨⟩; exact ⟨[], .nil, .singleton _⟩
  case case5 r hadv _ _ _ _ hbr out' hrec ih =>
    rintro _ ⟨⟩
    obtain ⟨legs, hF, hch⟩ := ih out' hrec
    obtain ⟨e1, e2⟩ := bracket_inv hbr
    exact ⟨r :: legs, .cons (onLeg_clampT P hT e1 e2 ..) hF, hch.cons_cons (advanceB_bounds S _ _ _ hadv).1⟩
  all_goals nofun

end AnyArith

section Field
variable {α : Type} [Field α]

def zeroFix : Fix α := ⟨0, 0, 0, 0⟩
/-- total indexing (the default is never reached in the theorems) -/
def fixAt (P : List (Fix α)) (i : Nat) : Fix α := P.getD i zeroFix

def lerpFix (a b : Fix α) (f t : α) : Fix α :=
  ⟨a.x + f * (b.x - a.x), a.y + f * (b.y - a.y), a.z + f * (b.z - a.z), t⟩

theorem fixAt_eq (P : List (Fix α)) (i : Nat) (h : i < P.length) : fixAt P i = P[i] := by
  simp [fixAt, h]

theorem getD0_eq (S : List α) (i : Nat) (h : i < S.length) : S.getD i 0 = S[i] := by
  simp [h]

theorem lerpFix_one (a b : Fix α) (t : α) : lerpFix a b 1 t = ⟨b.x, b.y, b.z, t⟩ := by
  simp only [lerpFix, one_mul, add_sub_cancel]

theorem cum_length (legs : List α) : (cum legs).length = legs.length + 1 := cumFrom_length 0 legs

theorem cum_zero (legs : List α) : (cum legs)[0]'(by rw [cum_length]; omega) = 0 := cumFrom_head 0 legs

theorem cum_succ (legs : List α) (i : Nat) (hi : i < legs.length) :
    (cum legs)[i + 1]'(by rw [cum_length]; omega) = (cum legs)[i]'(by rw [cum_length]; omega) + legs[i] :=
  cumFrom_succ 0 legs i hi

theorem cum_leg (legs : List α) (r : Nat) (hr1 : 1 ≤ r) (hr : r ≤ legs.length) :
    (cum legs)[r]'(by rw [cum_length]; omega) - (cum legs)[r - 1]'(by rw [cum_length]; omega) = legs[r - 1] := by
  obtain ⟨i, rfl⟩ : ∃ i, r = i + 1 := ⟨r - 1, by omega⟩
  simp only [Nat.add_sub_cancel]
  rw [cum_succ legs i hr, add_sub_cancel_left]

section
variable [LinearOrder α] [IsStrictOrderedRing α]

/-- the sample the property demands at instant `t`: on the leg `r = firstGE t T` (so `T[r−1] < t ≤ T[r]`),
at fraction `(t − T[r−1])/(T[r] − T[r−1])`, stamped `t` -/
def sampleT (P : List (Fix α)) (t : α) : Fix α :=
  let r := firstGE t (P.map (·.t))
  let pb := fixAt P (r - 1)
  let pf := fixAt P r
  lerpFix pb pf ((t - pb.t) / (pf.t - pb.t)) t

end

variable [LinearOrder α]

theorem sampleT_eq (P : List (Fix α)) (t : α) (hr : firstGE t (P.map (·.t)) < P.length) :
    sampleT P t = lerpFix (P[firstGE t (P.map (·.t)) - 1]'(by omega)) P[firstGE t (P.map (·.t))]
      ((t - (P[firstGE t (P.map (·.t)) - 1]'(by omega)).t)
        / (P[firstGE t (P.map (·.t))].t - (P[firstGE t (P.map (·.t)) - 1]'(by omega)).t)) t := by
  simp only [sampleT, fixAt_eq P _ hr, fixAt_eq P (firstGE t (P.map (·.t)) - 1) (by omega)]

theorem map_t_sampleT (P : List (Fix α)) (l : List α) : (l.map (sampleT P)).map (·.t) = l := by
  rw [List.map_map]
  exact List.map_id'' (fun _ => rfl) l

variable [IsStrictOrderedRing α]

theorem weights_ok (vb vf v : α) (h : vb < vf) :
    weights vb vf v = .ok ((vf - v) / (vf - vb), (v - vb) / (vf - vb)) :=
  if_pos (Or.inr (sub_pos.mpr h))

theorem bracket_ok (P : List (Fix α)) (V : List α) (v : α) (r : Nat) (hr : 1 ≤ r)
    (hrP : r < P.length) (hrV : r < V.length) (hlt : V[r - 1]'(by omega) < V[r]) :
    bracket P V v r = .ok (P[r - 1]'(by omega), P[r], (V[r] - v) / (V[r] - V[r - 1]'(by omega)),
      (v - V[r - 1]'(by omega)) / (V[r] - V[r - 1]'(by omega))) := by
  have hb : ∀ n, bwdIdx r n = r - 1 := fun n => if_neg (by omega)
  unfold bracket
  rw [hb, hb, List.getElem?_eq_getElem (show r - 1 < P.length by omega), List.getElem?_eq_getElem hrP,
    List.getElem?_eq_getElem (show r - 1 < V.length by omega), List.getElem?_eq_getElem hrV]
  simp only [weights_ok _ _ v hlt]

theorem combine_eq (vb vf v a b : α) (h : vb < vf) :
    (vf - v) / (vf - vb) * a + (v - vb) / (vf - vb) * b = a + (v - vb) / (vf - vb) * (b - a) := by
  have : vf - vb ≠ 0 := ne_of_gt (sub_pos.mpr h)
  field_simp
  ring

theorem weighted_eq_lerp (vb vf v : α) (h : vb < vf) (a b : Fix α) (t : α) :
    (⟨(vf - v) / (vf - vb) * a.x + (v - vb) / (vf - vb) * b.x, (vf - v) / (vf - vb) * a.y + (v - vb) / (vf - vb) * b.y,
      (vf - v) / (vf - vb) * a.z + (v - vb) / (vf - vb) * b.z, t⟩ : Fix α) = lerpFix a b ((v - vb) / (vf - vb)) t := by
  unfold lerpFix
  rw [combine_eq _ _ _ _ _ h, combine_eq _ _ _ _ _ h, combine_eq _ _ _ _ _ h]

/-- `__resampleTemporal`'s loop returns one specification sample per requested instant of `(tini, tfin]` — the list `req` —, in the order
of the request, provided every `rewind` lands at or before the leg of its instant: from the initial `running_id` (`h0`) and from the
leg of any earlier instant (`hp`). Instants outside the range are skipped before anything is read, so nothing is asked of them.
Requests in chronological order, tracks whose stamps never decrease and requests entirely outside the range are the three
instances of its form from `running_id = 0`, `resampleTemporal_rewinding` (`resampleTemporal_instants`, `resampleTemporal_instants_any`,
D1 `TV.C05.temporal_outside`). -/
theorem temporalLoop_eq (P : List (Fix α)) (hn : 0 < P.length) (ref req : List α) (rid : Nat)
    (hreq : ref.filter (inRange (P[0]).t (P[P.length - 1]'(Nat.sub_one_lt_of_lt hn)).t) = req)
    (h0 : ∀ t ∈ req, Rewinds (P.map (·.t)) t rid)
    (hp : req.Pairwise (fun t' t => Rewinds (P.map (·.t)) t (firstGE t' (P.map (·.t))))) :
    temporalLoop P (P.map (·.t)) (P[0]).t (P[P.length - 1]'(Nat.sub_one_lt_of_lt hn)).t ref rid
      = .ok (req.map (sampleT P)) := by
  induction ref generalizing req rid with
  | nil => subst hreq; rfl
  | cons t rest ih =>
    unfold temporalLoop
    by_cases h1 : t ≤ (P[0]).t
    · rw [List.filter_cons_of_neg (by rw [inRange_iff]; exact fun h => absurd h1 (not_le_of_gt h.1))] at hreq
      rw [if_pos h1, ih req rid hreq h0 hp]
    · rw [if_neg h1]
      by_cases h2 : (P[P.length - 1]'(Nat.sub_one_lt_of_lt hn)).t < t
      · rw [List.filter_cons_of_neg (by rw [inRange_iff]; exact fun h => absurd h2 (not_lt_of_ge h.2))] at hreq
        rw [if_pos h2, ih req rid hreq h0 hp]
      · rw [List.filter_cons_of_pos ((inRange_iff _ _ _).mpr ⟨lt_of_not_ge h1, le_of_not_gt h2⟩)] at hreq
        subst hreq
        rw [List.pairwise_cons] at hp
        obtain ⟨hr1, hrP, hlo, hhi⟩ := firstGE_bracket_times P hn t (lt_of_not_ge h1) (le_of_not_gt h2)
        have hrT : firstGE t (P.map (·.t)) < (P.map (·.t)).length := by simpa using hrP
        obtain ⟨r0, hrw, hr0⟩ := h0 t List.mem_cons_self
        have hbr := bracket_ok P (P.map (·.t)) t _ hr1 hrP hrT (by simpa using lt_of_lt_of_le hlo hhi)
        simp only [if_neg h2, hrw, advance_eq _ t r0 hr0 hrT, hbr, ih _ _ rfl hp.1 hp.2, List.map_cons, sampleT_eq P t hrP,
          List.getElem_map]
        rw [weighted_eq_lerp _ _ _ (lt_of_lt_of_le hlo hhi)]

theorem resampleTemporal_rewinding (trunc : α → Int) (P : List (Fix α)) (hn : 0 < P.length) (ref : List α)
    (hp : (ref.filter (inRange (P[0]).t (P[P.length - 1]'(Nat.sub_one_lt_of_lt hn)).t)).Pairwise
      (fun t' t => Rewinds (P.map (·.t)) t (firstGE t' (P.map (·.t))))) :
    resampleTemporal trunc P (.instants ref)
      = .ok ((ref.filter (inRange (P[0]).t (P[P.length - 1]'(Nat.sub_one_lt_of_lt hn)).t)).map (sampleT P)) := by
  rw [resampleTemporal_instants_eq trunc P hn]
  exact temporalLoop_eq P hn ref _ 0 rfl (fun t _ => rewinds_of_le _ t 0 (Nat.zero_le _)) hp

theorem resampleTemporal_instants (trunc : α → Int) (P : List (Fix α)) (hn : 0 < P.length) (ref : List α)
    (href : ref.Pairwise (· ≤ ·)) :
    resampleTemporal trunc P (.instants ref)
      = .ok ((ref.filter (inRange (P[0]).t (P[P.length - 1]'(Nat.sub_one_lt_of_lt hn)).t)).map (sampleT P)) :=
  resampleTemporal_rewinding trunc P hn ref ((href.filter _).imp fun h => rewinds_of_le _ _ _ (firstGE_mono _ h))

theorem resampleTemporal_instants_any (trunc : α → Int) (P : List (Fix α)) (hn : 0 < P.length)
    (hT : (P.map (·.t)).Pairwise (· ≤ ·)) (ref : List α) :
    resampleTemporal trunc P (.instants ref)
      = .ok ((ref.filter (inRange (P[0]).t (P[P.length - 1]'(Nat.sub_one_lt_of_lt hn)).t)).map (sampleT P)) :=
  resampleTemporal_rewinding trunc P hn ref
    (List.pairwise_of_forall fun t' t => rewinds_of_sorted _ hT t _ (firstGE_le_length t' _))

theorem resample_instants_any (sqrt : α → α) (trunc : α → Int) (g : α) (P : List (Fix α)) (feat : List String)
    (hn : 0 < P.length) (hT : (P.map (·.t)).Pairwise (· ≤ ·)) (ref : List α) (npts : Option Nat) (factor : Nat) :
    resample sqrt trunc g P feat ⟨2, some (.instants ref), npts, factor⟩
      = .ok ((ref.filter (inRange (P[0]).t (P[P.length - 1]'(Nat.sub_one_lt_of_lt hn)).t)).map (sampleT P), []) := by
  rw [resample_temporal sqrt trunc g P feat hn, resampleTemporal_instants_any trunc P hn hT]

/-- contract of Python's `int()` on non-negative reals, as the model uses it (`(trunc x).toNat`) -/
def TruncSpec (trunc : α → Int) : Prop :=
  ∀ x : α, 0 ≤ x → (((trunc x).toNat : Nat) : α) ≤ x ∧ x < (((trunc x).toNat : Nat) : α) + 1

/-- contract of `math.sqrt` on non-negative reals -/
def SqrtSpec (sqrt : α → α) : Prop := ∀ x : α, 0 ≤ x → 0 ≤ sqrt x ∧ sqrt x * sqrt x = x

theorem SqrtSpec.scale {sqrt : α → α} (hs : SqrtSpec sqrt) {k u : α} (hk : 0 ≤ k) (hu : 0 ≤ u) :
    sqrt (k * k * u) = k * sqrt u := by
  obtain ⟨h1, h2⟩ := hs _ (mul_nonneg (mul_self_nonneg k) hu)
  obtain ⟨h3, h4⟩ := hs u hu
  exact (mul_self_inj h1 (mul_nonneg hk h3)).mp (by rw [h2, mul_mul_mul_comm, h4])

theorem TruncSpec.bounds {trunc : α → Int} (htr : TruncSpec trunc) {D δ : α} (hD : 0 ≤ D) (hδ : 0 < δ) :
    (((trunc (D / δ)).toNat : Nat) : α) * δ ≤ D ∧ D < ((((trunc (D / δ)).toNat : Nat) : α) + 1) * δ := by
  obtain ⟨h1, h2⟩ := htr (D / δ) (div_nonneg hD hδ.le)
  exact ⟨(le_div_iff₀ hδ).mp h1, (div_lt_iff₀ hδ).mp h2⟩

theorem TruncSpec.bounds_sub {trunc : α → Int} (htr : TruncSpec trunc) {a b δ : α} (hab : a ≤ b) (hδ : 0 < δ) :
    a + (((trunc ((b - a) / δ)).toNat : Nat) : α) * δ ≤ b ∧ b < a + ((((trunc ((b - a) / δ)).toNat : Nat) : α) + 1) * δ :=
  have h := htr.bounds (sub_nonneg.mpr hab) hδ
  ⟨le_sub_iff_add_le'.mp h.1, sub_lt_iff_lt_add'.mp h.2⟩

theorem prepareNumber_eq (δ tfin : α) (hδ : 0 < δ) (m fuel : Nat) (time : α) (hf : m + 1 ≤ fuel)
    (h1 : time + (m : α) * δ ≤ tfin) (h2 : tfin < time + ((m : α) + 1) * δ) :
    prepareNumber δ tfin fuel time
      = some (time :: (List.range m).map (fun (k : Nat) => time + ((k + 1 : Nat) : α) * δ)) := by
  obtain ⟨f, rfl⟩ : ∃ f, fuel = f + 1 := ⟨fuel - 1, by omega⟩
  induction m generalizing f time with
  | zero =>
    rw [prepareNumber, if_pos (by simpa using h2)]
    rfl
  | succ m ih =>
    obtain ⟨f, rfl⟩ : ∃ f', f = f' + 1 := ⟨f - 1, by omega⟩
    push_cast at h1 h2
    have hm := mul_nonneg (Nat.cast_nonneg (α := α) m) hδ.le
    rw [prepareNumber, if_neg (not_lt_of_ge (by linarith)),
      ih (time + δ) (by linarith) (by linarith) f (by omega), List.range_succ_eq_map, List.map_cons, List.map_map]
    simp only [Nat.zero_add, Nat.cast_one, one_mul, Option.some.injEq, List.cons.injEq, true_and]
    refine List.map_congr_left fun k _ => ?_
    simp only [Function.comp, Nat.succ_eq_add_one]
    push_cast; ring

theorem filter_progression (tini tfin δ : α) (hδ : 0 < δ) (K : Nat) (hK : tini + (K : α) * δ ≤ tfin) :
    (tini :: (List.range K).map (fun (k : Nat) => tini + ((k + 1 : Nat) : α) * δ)).filter (inRange tini tfin)
      = (List.range K).map (fun (k : Nat) => tini + ((k + 1 : Nat) : α) * δ) := by
  rw [List.filter_cons_of_neg (by rw [inRange_iff]; exact fun h => lt_irrefl _ h.1), List.filter_eq_self]
  intro a ha
  obtain ⟨k, hk, rfl⟩ := List.mem_map.mp ha
  have h2 : ((k + 1 : Nat) : α) ≤ (K : α) := Nat.cast_le.mpr (List.mem_range.mp hk)
  exact (inRange_iff _ _ _).mpr ⟨lt_add_of_pos_right _ (mul_pos (Nat.cast_pos.mpr k.succ_pos) hδ),
    le_trans (add_le_add le_rfl (mul_le_mul_of_nonneg_right h2 hδ.le)) hK⟩

theorem progression_sorted (tini δ : α) (hδ : 0 < δ) (K : Nat) :
    (tini :: (List.range K).map (fun (k : Nat) => tini + ((k + 1 : Nat) : α) * δ)).Pairwise (· ≤ ·) := by
  refine List.pairwise_cons.mpr ⟨fun a ha => ?_, List.pairwise_map.mpr (List.pairwise_lt_range.imp fun hab => ?_)⟩
  · obtain ⟨k, _, rfl⟩ := List.mem_map.mp ha
    exact le_add_of_nonneg_right (mul_nonneg (Nat.cast_nonneg _) hδ.le)
  · exact add_le_add le_rfl (mul_le_mul_of_nonneg_right (Nat.cast_le.mpr (Nat.succ_le_succ hab.le)) hδ.le)

theorem resampleTemporal_number (trunc : α → Int) (htr : TruncSpec trunc) (P : List (Fix α))
    (hn : 0 < P.length) (hdur : (P[0]).t ≤ (P[P.length - 1]'(Nat.sub_one_lt_of_lt hn)).t) (δ : α) (hδ : 0 < δ) :
    resampleTemporal trunc P (.number δ)
      = .ok ((List.range (trunc (((P[P.length - 1]'(Nat.sub_one_lt_of_lt hn)).t - (P[0]).t) / δ)).toNat).map
          (fun (k : Nat) => sampleT P ((P[0]).t + ((k + 1 : Nat) : α) * δ))) := by
  obtain ⟨h1, h2⟩ := htr.bounds_sub hdur hδ
  generalize hK : (trunc (((P[P.length - 1]'(Nat.sub_one_lt_of_lt hn)).t - (P[0]).t) / δ)).toNat = K at h1 h2 ⊢
  have hprep : prepareTimes trunc (.number δ) (P[0]).t (P[P.length - 1]'(Nat.sub_one_lt_of_lt hn)).t
      = .ok ((P[0]).t :: (List.range K).map (fun (k : Nat) => (P[0]).t + ((k + 1 : Nat) : α) * δ)) := by
    unfold prepareTimes
    simp only [if_pos hδ, hK, prepareNumber_eq δ _ hδ K _ _ (Nat.le_succ _) h1 h2]
  rw [resampleTemporal_via trunc P hn _ _ hprep, resampleTemporal_instants trunc P hn _ (progression_sorted _ δ hδ _),
    filter_progression _ _ δ hδ _ h1, List.map_map]
  rfl

theorem cumFrom_pairwise (s : α) (l : List α) (h : ∀ x ∈ l, 0 ≤ x) : (cumFrom s l).Pairwise (· ≤ ·) :=
  List.isChain_iff_pairwise.mp (List.isChain_iff_getElem.mpr fun i hi => by
    have hi' : i < l.length := by rw [cumFrom_length] at hi; omega
    rw [cumFrom_succ s l i hi']
    exact le_add_of_nonneg_right (h _ (List.getElem_mem hi')))

def polyLen (legs : List α) : α := (cum legs).getD legs.length 0

theorem cum_sorted (legs : List α) (h : ∀ x ∈ legs, 0 ≤ x) : (cum legs).Pairwise (· ≤ ·) := cumFrom_pairwise 0 legs h

omit [LinearOrder α] [IsStrictOrderedRing α] in
theorem polyLen_eq (legs : List α) :
    polyLen legs = (cum legs)[(cum legs).length - 1]'(by rw [cum_length]; omega) := by
  unfold polyLen
  rw [getD0_eq _ _ (by rw [cum_length]; omega)]
  congr 1
  rw [cum_length]; omega

theorem polyLen_nonneg (legs : List α) (h : ∀ x ∈ legs, 0 ≤ x) : 0 ≤ polyLen legs := by
  rw [polyLen_eq, ← cum_zero legs]
  exact getElem_mono (cum_sorted legs h) (Nat.zero_le _) _

theorem frac_bounds (sb sf s : α) (h1 : sb < s) (h2 : s ≤ sf) :
    0 < (s - sb) / (sf - sb) ∧ (s - sb) / (sf - sb) ≤ 1 :=
  have hd : 0 < sf - sb := sub_pos.mpr (lt_of_lt_of_le h1 h2)
  ⟨div_pos (sub_pos.mpr h1) hd, (div_le_one hd).mpr (sub_le_sub_right h2 sb)⟩

theorem lerp_mono (tb tf : α) (h : tb ≤ tf) {f f' : α} (hf : f ≤ f') : tb + f * (tf - tb) ≤ tb + f' * (tf - tb) :=
  add_le_add le_rfl (mul_le_mul_of_nonneg_right hf (sub_nonneg.mpr h))

theorem lerp_bounds (tb tf f : α) (h : tb ≤ tf) (h0 : 0 ≤ f) (h1 : f ≤ 1) :
    tb ≤ tb + f * (tf - tb) ∧ tb + f * (tf - tb) ≤ tf := by
  have l0 := lerp_mono tb tf h h0
  have l1 := lerp_mono tb tf h h1
  rw [zero_mul, add_zero] at l0
  rw [one_mul, add_sub_cancel] at l1
  exact ⟨l0, l1⟩

/-- in exact arithmetic the weighted mean of two stamps `tb ≤ tf` lies between them: the clamp is a no-op -/
theorem clampT_combine (vb vf v tb tf : α) (h1 : vb < v) (h2 : v ≤ vf) (ht : tb ≤ tf) :
    clampT ((vf - v) / (vf - vb) * tb + (v - vb) / (vf - vb) * tf) tb tf
      = tb + (v - vb) / (vf - vb) * (tf - tb) := by
  rw [combine_eq _ _ _ _ _ (lt_of_lt_of_le h1 h2)]
  obtain ⟨f0, f1⟩ := frac_bounds vb vf v h1 h2
  obtain ⟨l0, l1⟩ := lerp_bounds tb tf _ ht (le_of_lt f0) f1
  exact clampT_noop _ _ _ l0 l1

/-- the sample the property demands at curvilinear abscissa `s`: on the leg `r = firstGE s S`
(`S[r−1] < s ≤ S[r]`) at fraction `(s − S[r−1])/(S[r] − S[r−1])`, height and time interpolated likewise -/
def sampleS (P : List (Fix α)) (S : List α) (s : α) : Fix α :=
  let r := firstGE s S
  let pb := fixAt P (r - 1)
  let pf := fixAt P r
  let f := (s - S.getD (r - 1) 0) / (S.getD r 0 - S.getD (r - 1) 0)
  lerpFix pb pf f (pb.t + f * (pf.t - pb.t))

omit [IsStrictOrderedRing α] in
theorem sampleS_eq (P : List (Fix α)) (S : List α) (s : α) {r : Nat} (hr : firstGE s S = r) (hrS : r < S.length)
    (hrP : r < P.length) :
    sampleS P S s = lerpFix (P[r - 1]'(by omega)) P[r] ((s - S[r - 1]'(by omega)) / (S[r] - S[r - 1]'(by omega)))
      ((P[r - 1]'(by omega)).t
        + (s - S[r - 1]'(by omega)) / (S[r] - S[r - 1]'(by omega)) * (P[r].t - (P[r - 1]'(by omega)).t)) := by
  subst hr
  simp only [sampleS, fixAt_eq P _ hrP, fixAt_eq P (firstGE s S - 1) (by omega), getD0_eq S _ hrS,
    getD0_eq S (firstGE s S - 1) (by omega)]

theorem spatialLoop_eq (P : List (Fix α)) (S : List α) (sini sfin ds : α) (hlen : S.length = P.length)
    (hn : 0 < S.length) (hfin : sfin ≤ S[S.length - 1]'(Nat.sub_one_lt_of_lt hn)) (hT : (P.map (·.t)).Pairwise (· ≤ ·)) (hds : 0 ≤ ds)
    (n k rid : Nat) (hlo : ∀ j, k ≤ j → S[0] < (j : α) * ds + sini)
    (hhi : ∀ j, j < k + n → (j : α) * ds + sini ≤ sfin)
    (inv : rid ≤ firstGE ((k : α) * ds + sini) S) :
    spatialLoop P S sini sfin ds n k rid
      = .ok ((List.range' k n).map (fun (j : Nat) => sampleS P S ((j : α) * ds + sini))) := by
  induction n generalizing k rid with
  | zero => rfl
  | succ n ih =>
    obtain ⟨hr1, hrlt, hb1, hb2⟩ := firstGE_bracket S _ hn (hlo k (le_refl _)) (le_trans (hhi k (by omega)) hfin)
    have hrP : firstGE ((k : α) * ds + sini) S < P.length := by omega
    have hlt := lt_of_lt_of_le hb1 hb2
    have hmono : (k : α) * ds + sini ≤ ((k + 1 : Nat) : α) * ds + sini :=
      add_le_add (mul_le_mul_of_nonneg_right (Nat.cast_le.mpr k.le_succ) hds) le_rfl
    unfold spatialLoop
    simp only [pmin_eq, min_eq_left (hhi k (by omega)), advanceB_eq S _ rid inv hrlt,
      bracket_ok P S _ _ hr1 hrP hrlt hlt,
      ih (k + 1) _ (fun j hj => hlo j (by omega)) (fun j hj => hhi j (by omega)) (firstGE_mono S hmono),
      List.range'_succ, List.map_cons]
    rw [sampleS_eq P S _ rfl hrlt hrP, clampT_combine _ _ _ _ _ hb1 hb2 (times_mono P hT _ _ (Nat.sub_le _ _) hrP),
      weighted_eq_lerp _ _ _ hlt]

theorem resampleSpatialLegs_eq (trunc : α → Int) (htr : TruncSpec trunc) (P : List (Fix α))
    (legs : List α) (hlen : legs.length + 1 = P.length) (hlegs : ∀ x ∈ legs, 0 ≤ x)
    (hT : (P.map (·.t)).Pairwise (· ≤ ·)) (ds : α) (hds : 0 < ds) :
    resampleSpatialLegs trunc P legs ds
      = .ok (P[0]'(by omega) :: (List.range (trunc (polyLen legs / ds)).toNat).map
          (fun (j : Nat) => sampleS P (cum legs) (((j + 1 : Nat) : α) * ds))) := by
  have hSlen := cum_length legs
  obtain ⟨hN, _⟩ := htr.bounds (polyLen_nonneg legs hlegs) hds
  have hhead : (cum legs).head? = some 0 := by cases legs <;> rfl
  have hlast : (cum legs).getLast? = some (polyLen legs) := by
    rw [List.getLast?_eq_getElem?, List.getElem?_eq_getElem (by omega), polyLen_eq]
  unfold resampleSpatialLegs
  simp only [hhead, hlast, head?_of_pos P (by omega), sub_zero, if_pos (Or.inr hds)]
  rw [spatialLoop_eq P (cum legs) 0 _ ds (by omega) (by omega) (polyLen_eq legs).le hT hds.le _ 1 0 ?_ ?_ (Nat.zero_le _)]
  · simp only [add_zero, List.range'_eq_map_range, List.map_map]
    congr 2
    exact List.map_congr_left fun j _ => by simp only [Function.comp, Nat.add_comm 1 j]
  · intro j hj
    rw [cum_zero, add_zero]
    exact mul_pos (Nat.cast_pos.mpr hj) hds
  · intro j hj
    rw [add_zero]
    exact le_trans (mul_le_mul_of_nonneg_right (Nat.cast_le.mpr (by omega)) hds.le) hN

theorem sampleS_onLeg (P : List (Fix α)) (S : List α) (hlen : S.length = P.length) (hn : 0 < S.length)
    (hT : (P.map (·.t)).Pairwise (· ≤ ·)) (s : α) (h0 : S[0] < s) (h1 : s ≤ S[S.length - 1]'(Nat.sub_one_lt_of_lt hn)) :
    OnLeg P (firstGE s S) (sampleS P S s) := by
  obtain ⟨hr1, hrlt, hb1, hb2⟩ := firstGE_bracket S s hn h0 h1
  have hrP : firstGE s S < P.length := by omega
  obtain ⟨f0, f1⟩ := frac_bounds _ _ s hb1 hb2
  refine ⟨_, _, List.getElem?_eq_getElem (by omega), List.getElem?_eq_getElem hrP, ?_⟩
  rw [sampleS_eq P S s rfl hrlt hrP]
  exact lerp_bounds _ _ _ (times_mono P hT _ _ (Nat.sub_le _ _) hrP) f0.le f1

theorem sampleS_t_mono (P : List (Fix α)) (S : List α) (hlen : S.length = P.length) (hn : 0 < S.length)
    (hT : (P.map (·.t)).Pairwise (· ≤ ·)) (s s' : α) (h0 : S[0] < s) (hss : s ≤ s')
    (h1 : s' ≤ S[S.length - 1]'(Nat.sub_one_lt_of_lt hn)) : (sampleS P S s).t ≤ (sampleS P S s').t := by
  rcases Nat.eq_or_lt_of_le (firstGE_mono S hss) with heq | hlt
  · -- same leg: the fraction grows with the abscissa
    obtain ⟨hr1, hrlt, hb1, hb2⟩ := firstGE_bracket S s hn h0 (le_trans hss h1)
    have hrP : firstGE s S < P.length := by omega
    rw [sampleS_eq P S s rfl hrlt hrP, sampleS_eq P S s' heq.symm hrlt hrP]
    exact lerp_mono _ _ (times_mono P hT _ _ (Nat.sub_le _ _) hrP)
      (div_le_div_of_nonneg_right (sub_le_sub_right hss _) (sub_pos.mpr (lt_of_lt_of_le hb1 hb2)).le)
  · -- different legs: the whole of the first leg is before the whole of the second
    exact onLeg_le P hT (sampleS_onLeg P S hlen hn hT s h0 (le_trans hss h1))
      (sampleS_onLeg P S hlen hn hT s' (lt_of_lt_of_le h0 hss) h1) hlt

end Field

end TV.Resample
