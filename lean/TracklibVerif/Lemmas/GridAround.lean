import TracklibVerif.Lemmas.GridSearch
/-! Given-unit segment / track neighbourhoods (`neighborhood([c1, c2], None, unit)`, `neighborhood(track, None, unit)`)
and `addFeature` with vertices OUTSIDE the extent (the `continue` that keeps a stale `coord1`) of `Model/Grid.lean`. -/
namespace TV.Grid

section index
variable {α : Type}

def AroundHolds (ix : Index α) (cells : List (Int × Int)) (u : Int) (d : Nat) : Prop :=
  ∃ cell ∈ cells, ∃ c' ∈ neighboringCells ix cell.1 cell.2 u false, Holds ix.grid c'.1 c'.2 d

theorem AroundHolds.mono {ix : Index α} {cells : List (Int × Int)} {u v : Int} {d : Nat}
    (h : AroundHolds ix cells u d) (huv : u ≤ v) : AroundHolds ix cells v d :=
  let ⟨cell, hc, h'⟩ := h
  ⟨cell, hc, SqHolds.mono h' huv⟩

theorem not_AroundHolds_neg (ix : Index α) (cells : List (Int × Int)) (u : Int) (hu : u < 0) (d : Nat) :
    ¬ AroundHolds ix cells u d :=
  fun ⟨cell, _, h'⟩ => not_SqHolds_neg ix cell.1 cell.2 u hu d h'

theorem collectAround_exact (ix : Index α) (hs : Shape ix.grid ix.csize.toNat ix.lsize.toNat) (u : Int)
    (cells : List (Int × Int)) (tab : List Nat) :
    ∃ out, collectAround ix u tab cells = .ok out ∧ ∀ d, d ∈ out ↔ d ∈ tab ∨ AroundHolds ix cells u d := by
  induction cells generalizing tab with
  | nil => exact ⟨tab, rfl, fun d => ⟨Or.inl, fun h => h.elim id fun ⟨_, hc, _⟩ => absurd hc List.not_mem_nil⟩⟩
  | cons cell rest ih =>
    obtain ⟨tab', h1⟩ := collectCells_ok ix (neighboringCells ix cell.1 cell.2 u false) tab hs
      (neighboringCells_inGrid ix cell.1 cell.2 u)
    obtain ⟨out, h2, r⟩ := ih tab'
    refine ⟨out, by simp only [collectAround, h1, h2], fun d => ?_⟩
    rw [r d, collectCells_mem ix _ tab tab' h1, or_assoc]
    unfold AroundHolds
    simp only [List.mem_cons, exists_eq_or_imp]

end index

section scalar
variable {α : Type} [Field α] [LinearOrder α]

theorem neighborhoodSeg_unit_spec (fl : α → Int) (ix : Index α) (hg : Good ix) (a b p1 p2 : α × α) (unit : Int) (hu : 0 ≤ unit)
    (ha : getCell ix a = some p1) (hb : getCell ix b = some p2) :
    ∃ l, neighborhoodSeg fl ix a b unit = .ok (some l) ∧
      ∀ d, d ∈ l ↔ AroundHolds ix (cellsCross fl ix.csize ix.lsize p1 p2) unit d := by
  obtain ⟨l, h, r⟩ := collectAround_exact ix hg.1.2 unit (cellsCross fl ix.csize ix.lsize p1 p2) []
  refine ⟨l, ?_, fun d => (r d).trans (or_iff_right List.not_mem_nil)⟩
  unfold neighborhoodSeg
  simp only [hg.getCellR, ha, hb]
  rw [if_pos (by omega)]
  simp only [h]

/-- the loop of `neighborhood(track, None, unit)`, for any postcondition `R` of the segment form: the answer contains, for every segment,
a list satisfying `R`. (`hseg` asks for `some l`: a `None` from the segment form is a TypeError.) -/
theorem neighborhoodTrackLoop_total (fl : α → Int) (ix : Index α) (unit : Int) {R : α × α → α × α → List Nat → Prop}
    (track : List (α × α)) (prev : Option (α × α)) (tab : List Nat)
    (hseg : ∀ A B, (A, B) ∈ Consec (prev.toList ++ track) → ∃ l, neighborhoodSeg fl ix A B unit = .ok (some l) ∧ R A B l) :
    ∃ l, neighborhoodTrackLoop fl ix unit tab prev track = .ok l ∧ (∀ x ∈ tab, x ∈ l) ∧
      ∀ A B, (A, B) ∈ Consec (prev.toList ++ track) → ∃ lseg, R A B lseg ∧ ∀ x ∈ lseg, x ∈ l := by
  induction track generalizing prev tab with
  | nil => cases prev <;> exact ⟨tab, rfl, fun _ h => h, fun _ _ hAB => absurd hAB List.not_mem_nil⟩
  | cons p2 rest ih =>
    cases prev with
    | none => exact ih (some p2) tab hseg
    | some p1 =>
      obtain ⟨lseg, hs, hR⟩ := hseg p1 p2 (List.mem_cons_self ..)
      obtain ⟨l, h, r1, r2⟩ := ih (some p2) (addAll tab lseg) (fun A B hAB => hseg A B (List.mem_cons_of_mem _ hAB))
      refine ⟨l, by simp only [neighborhoodTrackLoop, hs, h], fun x hx => r1 x ((mem_addAll _ _ _).mpr (Or.inl hx)), ?_⟩
      intro A B hAB
      rcases List.mem_cons.mp hAB with h' | h'
      · cases h'
        exact ⟨lseg, hR, fun x hx => r1 x ((mem_addAll _ _ _).mpr (Or.inr hx))⟩
      · exact r2 A B h'

def insideB (ix : Index α) (p : α × α) : Bool := (getCell ix p).isSome

theorem insideB_iff (ix : Index α) (p : α × α) : insideB ix p = true ↔ getCell ix p ≠ none := Option.isSome_iff_ne_none

theorem insideB_same {ix ix' : Index α} (h : Same ix ix') : insideB ix' = insideB ix := by
  funext p
  unfold insideB
  rw [getCell_same h]

/-- once `coord1` is a vertex outside the extent it stays there: `p1 is None` at every later vertex, every later
segment is skipped and the index is left as it is -/
theorem addFeatureLoop_stuck (fl : α → Int) (num : Nat) (ix : Index α) (hg : Good ix) (c1 : α × α)
    (hc1 : getCell ix c1 = none) (rest : List (α × α)) :
    addFeatureLoop fl num ix (some c1) rest = .ok ix := by
  induction rest with
  | nil => rfl
  | cons c2 rest ih =>
    unfold addFeatureLoop
    simp only [hg.getCellR, hc1]
    exact ih

variable [IsStrictOrderedRing α]

/-- with `coord1` inside the extent, the loop of `addFeature` does what it would do on the list of the later vertices
that are inside the extent: an outside vertex is skipped and `coord1` keeps the last inside vertex, so the next segment
registered is the CHORD from that vertex to the next inside one -/
theorem addFeatureLoop_filter {fl : α → Int} (hf : IsFloor fl) (num : Nat) (rest : List (α × α)) (ix : Index α) (hg : Good ix)
    (c1 : α × α) (hc1 : getCell ix c1 ≠ none) :
    addFeatureLoop fl num ix (some c1) rest = addFeatureLoop fl num ix (some c1) (rest.filter (insideB ix)) := by
  induction rest generalizing ix c1 with
  | nil => rfl
  | cons c2 rest ih =>
    obtain ⟨p1, hp1⟩ := Option.ne_none_iff_exists'.mp hc1
    cases hc2 : getCell ix c2 with
    | none =>
      rw [List.filter_cons, if_neg (fun h => (insideB_iff ix c2).mp h hc2), ← ih ix hg c1 hc1]
      conv => lhs; unfold addFeatureLoop
      simp only [hg.getCellR, hp1, hc2]
    | some p2 =>
      have hf' := (insideB_iff ix c2).mpr (hc2 ▸ Option.some_ne_none p2)
      obtain ⟨ix1, hs, hg1, e1, _⟩ := addSegment_total hf ix hg c1 c2 p1 p2 hp1 hc2 num
      rw [List.filter_cons, if_pos hf']
      conv => lhs; unfold addFeatureLoop
      conv => rhs; unfold addFeatureLoop
      simp only [hg.getCellR, hp1, hc2, hs]
      rw [ih ix1 hg1 c2 (by rw [getCell_same e1.1, hc2]; exact Option.some_ne_none _), insideB_same e1.1]

end scalar
end TV.Grid
