import TracklibVerif.Lemmas.TextIODigits
/-! Timestamp print/read lemmas for C13 (core only): `readTimestamp f (printTime f t)` for a format of
distinct full-width codes. -/
namespace TV.TextIO
open TV.ObsTime

/-- the codes whose printed width is fixed and whose value is read back exactly -/
def fullCodes : List (Nat × Char) := [(2,'D'),(2,'M'),(4,'Y'),(2,'h'),(2,'m'),(2,'s'),(3,'z')]

def codeList : List Tok → List (Nat × Char)
  | [] => []
  | Tok.code w l :: r => (w, l) :: codeList r
  | Tok.lit _ :: r => codeList r

/-- a format made of distinct full-width codes and arbitrary literal characters -/
def Lossless (f : List Tok) : Prop := (∀ c ∈ codeList f, c ∈ fullCodes) ∧ (codeList f).Nodup

instance (f : List Tok) : Decidable (Lossless f) := by unfold Lossless; exact inferInstance

/-- positions of the codes in the format string -/
def codePositions : List Tok → Nat → List ((Nat × Char) × Nat)
  | [], _ => []
  | Tok.code w l :: r, p => ((w, l), p) :: codePositions r (p + 2)
  | Tok.lit _ :: r, p => codePositions r (p + 1)

/-- positions of the codes in the printed string -/
def outPositions : List Tok → Nat → List ((Nat × Char) × Nat)
  | [], _ => []
  | Tok.code w l :: r, o => ((w, l), o) :: outPositions r (o + w)
  | Tok.lit _ :: r, o => outPositions r (o + 1)

theorem insertByIdx_perm (x) (l : List ((Nat × Char) × Nat)) : (insertByIdx x l).Perm (x :: l) := by
  induction l with
  | nil => exact List.Perm.refl _
  | cons y ys ih =>
    unfold insertByIdx
    split
    · exact List.Perm.refl _
    · exact (List.Perm.cons y ih).trans (List.Perm.swap x y ys)

theorem foldl_insert_perm (l acc : List ((Nat × Char) × Nat)) :
    (l.foldl (fun acc x => insertByIdx x acc) acc).Perm (l ++ acc) := by
  induction l generalizing acc with
  | nil => exact List.Perm.refl _
  | cons x xs ih =>
    simp only [List.foldl_cons, List.cons_append]
    exact (ih _).trans ((List.Perm.append_left xs (insertByIdx_perm x acc)).trans List.perm_middle)

theorem sortByIdx_perm (l : List ((Nat × Char) × Nat)) : (sortByIdx l).Perm l := by
  have := foldl_insert_perm l []
  simpa [sortByIdx] using this

theorem insertByIdx_sorted (x) (l : List ((Nat × Char) × Nat)) (h : l.Pairwise (fun a b => a.2 ≤ b.2)) :
    (insertByIdx x l).Pairwise (fun a b => a.2 ≤ b.2) := by
  induction l with
  | nil => simp [insertByIdx]
  | cons y ys ih =>
    rw [List.pairwise_cons] at h
    unfold insertByIdx
    split
    · rename_i hlt
      rw [List.pairwise_cons]
      refine ⟨?_, List.pairwise_cons.2 h⟩
      intro z hz
      rcases List.mem_cons.1 hz with rfl | hz
      · omega
      · have := h.1 z hz; omega
    · rename_i hge
      rw [List.pairwise_cons]
      refine ⟨?_, ih h.2⟩
      intro z hz
      have := (insertByIdx_perm x ys).subset hz
      rcases List.mem_cons.1 this with rfl | hz
      · omega
      · exact h.1 z hz

theorem sortByIdx_sorted (l : List ((Nat × Char) × Nat)) : (sortByIdx l).Pairwise (fun a b => a.2 ≤ b.2) :=
  List.foldlRecOn l _ List.Pairwise.nil fun acc h x _ => insertByIdx_sorted x acc h

theorem sortByIdx_eq (l l' : List ((Nat × Char) × Nat)) (hp : l.Perm l')
    (hs : l'.Pairwise (fun a b => a.2 < b.2)) : sortByIdx l = l' := by
  have hperm : (sortByIdx l).Perm l' := (sortByIdx_perm l).trans hp
  have hne : (sortByIdx l).Pairwise (fun a b => a.2 ≠ b.2) := by
    refine (hperm.symm.pairwise_iff (R := fun a b => a.2 ≠ b.2) (fun h => Ne.symm h)).1 ?_
    exact hs.imp (fun h => Nat.ne_of_lt h)
  have hlt : (sortByIdx l).Pairwise (fun a b => a.2 < b.2) := by
    have := (sortByIdx_sorted l).and hne
    exact this.imp (fun h => Nat.lt_of_le_of_ne h.1 h.2)
  exact List.Perm.eq_of_pairwise (le := fun a b => a.2 < b.2)
    (fun a b _ _ h1 h2 => absurd h1 (Nat.lt_asymm h2)) hlt hs hperm

theorem codePositions_ge (f : List Tok) (p : Nat) : ∀ x ∈ codePositions f p, p ≤ x.2 := by
  induction f generalizing p with
  | nil => simp [codePositions]
  | cons tk r ih =>
    intro x hx
    cases tk with
    | code w l =>
      simp only [codePositions, List.mem_cons] at hx
      rcases hx with rfl | hx
      · exact Nat.le_refl _
      · have := ih _ x hx; omega
    | lit c =>
      simp only [codePositions] at hx
      have := ih _ x hx; omega

theorem codePositions_sorted (f : List Tok) (p : Nat) : (codePositions f p).Pairwise (fun a b => a.2 < b.2) := by
  induction f generalizing p with
  | nil => simp [codePositions]
  | cons tk r ih =>
    cases tk with
    | code w l =>
      simp only [codePositions, List.pairwise_cons]
      refine ⟨fun x hx => ?_, ih _⟩
      have := codePositions_ge r _ x hx
      omega
    | lit c => exact ih _

theorem codePositions_key (f : List Tok) (p : Nat) : ∀ x ∈ codePositions f p, x.1 ∈ codeList f := by
  induction f generalizing p with
  | nil => simp [codePositions]
  | cons tk r ih =>
    intro x hx
    cases tk with
    | code w l =>
      simp only [codePositions, List.mem_cons] at hx
      rcases hx with rfl | hx
      · simp [codeList]
      · simp [codeList, ih _ x hx]
    | lit c => exact ih _ x hx

theorem mem_codePositions_iff (f : List Tok) (hn : (codeList f).Nodup) (p : Nat) (w : Nat) (l : Char) (i : Nat) :
    ((w, l), i) ∈ codePositions f p ↔ findCode w l f p = some i := by
  induction f generalizing p with
  | nil => simp [codePositions, findCode]
  | cons tk r ih =>
    cases tk with
    | code w' l' =>
      simp only [codeList, List.nodup_cons] at hn
      simp only [codePositions, findCode, List.mem_cons]
      by_cases hc : w = w' ∧ l = l'
      · obtain ⟨rfl, rfl⟩ := hc
        simp only [and_self, ↓reduceIte, Option.some.injEq]
        constructor
        · rintro (h | h)
          · simp at h; exact h.symm
          · exact absurd (codePositions_key r _ _ h) hn.1
        · intro h; left; simp [h]
      · simp only [hc, ↓reduceIte]
        rw [← ih hn.2]
        constructor
        · rintro (h | h)
          · simp at h; exact absurd ⟨h.1.1, h.1.2⟩ hc
          · exact h
        · intro h; right; exact h
    | lit c =>
      simp only [codeList] at hn
      simp only [codePositions, findCode]
      exact ih hn _

theorem fullCodes_sub_codes : ∀ c ∈ fullCodes, c ∈ codes := by decide

/-- the list built by `__precompileReadFmt` before sorting -/
def foundCodes (f : List Tok) : List ((Nat × Char) × Nat) :=
  codes.filterMap (fun c => (findCode c.1 c.2 f 0).map (fun i => (c, i)))

theorem foundCodes_perm (f : List Tok) (h : Lossless f) : (foundCodes f).Perm (codePositions f 0) := by
  have hnd1 : (foundCodes f).Nodup := by
    unfold foundCodes
    have hc : codes.Pairwise (· ≠ ·) := by decide
    refine List.Pairwise.filterMap _ ?_ hc
    intro a a' hne b hb b' hb'
    simp only [Option.map_eq_some_iff] at hb hb'
    obtain ⟨i, _, rfl⟩ := hb
    obtain ⟨i', _, rfl⟩ := hb'
    intro e
    exact hne (Prod.mk.inj e).1
  have hnd2 : (codePositions f 0).Nodup :=
    (codePositions_sorted f 0).imp (fun h => fun e => by rw [e] at h; exact Nat.lt_irrefl _ h)
  rw [List.perm_ext_iff_of_nodup hnd1 hnd2]
  rintro ⟨⟨w, l⟩, i⟩
  rw [mem_codePositions_iff f h.2]
  unfold foundCodes
  simp only [List.mem_filterMap, Option.map_eq_some_iff]
  constructor
  · rintro ⟨c, _, j, hj, he⟩
    obtain ⟨rfl, rfl⟩ := Prod.mk.inj he
    exact hj
  · intro hf
    refine ⟨(w, l), ?_, i, hf, rfl⟩
    have := (mem_codePositions_iff f h.2 0 w l i).2 hf
    exact fullCodes_sub_codes _ (h.1 _ (codePositions_key f 0 _ this))

theorem applyShift_codePositions (f : List Tok) (p : Nat) (sh : Int) (h : 0 ≤ (p : Int) + sh) :
    applyShift (codePositions f p) sh = outPositions f ((p : Int) + sh).toNat := by
  induction f generalizing p sh with
  | nil => rfl
  | cons tk r ih =>
    cases tk with
    | code w l =>
      simp only [codePositions, applyShift, outPositions]
      rw [ih (p + 2) (sh + w - 2) (by omega)]
      congr 2
      omega
    | lit c =>
      simp only [codePositions, outPositions]
      rw [ih (p + 1) sh (by omega)]
      congr 1
      omega

theorem precompile_eq (f : List Tok) (h : Lossless f) : precompile f = outPositions f 0 := by
  unfold precompile
  have : sortByIdx (foundCodes f) = codePositions f 0 :=
    sortByIdx_eq _ _ (foundCodes_perm f h) (codePositions_sorted f 0)
  unfold foundCodes at this
  simp only [this]
  have := applyShift_codePositions f 0 0 (by omega)
  simpa using this

/-- the stamp fits the fixed widths: what this adds to `WFs` is only that the year has four digits -/
def Fits (t : Stamp) : Prop :=
  t.d.year < 10000 ∧ t.d.month < 100 ∧ t.d.day < 100 ∧ t.d.hour < 100 ∧ t.d.min < 100 ∧ t.d.sec < 100 ∧ t.ms < 1000

def setField (st t : Stamp) (l : Char) : Stamp :=
  ⟨⟨if l = 'Y' then t.d.year else st.d.year, if l = 'M' then t.d.month else st.d.month,
    if l = 'D' then t.d.day else st.d.day, if l = 'h' then t.d.hour else st.d.hour,
    if l = 'm' then t.d.min else st.d.min, if l = 's' then t.d.sec else st.d.sec⟩,
   if l = 'z' then t.ms else st.ms⟩

theorem fieldVal_lt (t : Stamp) (ht : Fits t) (w : Nat) (l : Char) (h : (w, l) ∈ fullCodes) :
    fieldVal t w l < 10 ^ w ∧ 1 ≤ w := by
  obtain ⟨h1, h2, h3, h4, h5, h6, h7⟩ := ht
  simp only [fullCodes, List.mem_cons, Prod.mk.injEq, List.not_mem_nil, or_false] at h
  rcases h with ⟨rfl, rfl⟩ | ⟨rfl, rfl⟩ | ⟨rfl, rfl⟩ | ⟨rfl, rfl⟩ | ⟨rfl, rfl⟩ | ⟨rfl, rfl⟩ | ⟨rfl, rfl⟩ <;>
    simp [fieldVal] <;> omega

theorem fillMember_zpad (st t : Stamp) (w : Nat) (l : Char) (h : (w, l) ∈ fullCodes) :
    fillMember st w l (zpad w (fieldVal t w l)) = some (setField st t l) := by
  simp only [fullCodes, List.mem_cons, Prod.mk.injEq, List.not_mem_nil, or_false] at h
  have hz : ∀ w v, (zpad w v).isEmpty = false := fun w v => by simpa using zpad_ne_nil w v
  rcases h with ⟨rfl, rfl⟩ | ⟨rfl, rfl⟩ | ⟨rfl, rfl⟩ | ⟨rfl, rfl⟩ | ⟨rfl, rfl⟩ | ⟨rfl, rfl⟩ | ⟨rfl, rfl⟩ <;>
    simp [fillMember, parseNat_zpad, fieldVal, setField, hz]

def applyCodes : List Tok → Stamp → Stamp → Stamp
  | [], _, st => st
  | Tok.code _ l :: r, t, st => applyCodes r t (setField st t l)
  | Tok.lit _ :: r, t, st => applyCodes r t st

theorem readLoop_printTime (f : List Tok) (t : Stamp) (ht : Fits t) (hf : ∀ c ∈ codeList f, c ∈ fullCodes)
    (pre suf : Str) (st : Stamp) :
    readLoop (outPositions f pre.length) (pre ++ (printTime f t ++ suf)) st = some (applyCodes f t st) := by
  induction f generalizing pre st with
  | nil => rfl
  | cons tk r ih =>
    cases tk with
    | code w l =>
      have hmem : (w, l) ∈ fullCodes := hf _ (by simp [codeList])
      have hlen := zpad_length w (fieldVal t w l) (fieldVal_lt t ht w l hmem).1 (fieldVal_lt t ht w l hmem).2
      simp only [outPositions, printTime, readLoop, applyCodes]
      have hslice : ((pre ++ ((zpad w (fieldVal t w l) ++ printTime r t) ++ suf)).drop pre.length).take w
          = zpad w (fieldVal t w l) := by
        rw [List.drop_left, List.append_assoc, List.take_left' hlen]
      rw [hslice, fillMember_zpad st t w l hmem]
      have := ih (fun c hc => hf c (by simp [codeList, hc])) (pre ++ zpad w (fieldVal t w l)) (setField st t l)
      simp only [List.length_append, hlen, List.append_assoc] at this ⊢
      exact this
    | lit c =>
      simp only [outPositions, printTime, applyCodes]
      have := ih (fun c hc => hf c (by simpa [codeList] using hc)) (pre ++ [c]) st
      simp only [List.length_append, List.length_singleton, List.append_assoc, List.cons_append] at this ⊢
      exact this

def hasL (f : List Tok) (l : Char) : Bool := (codeList f).any (fun c => c.2 == l)

/-- the stamp reduced to the fields a format mentions (the others keep the values of `ObsTime()`) -/
def project (f : List Tok) (t : Stamp) : Stamp :=
  ⟨⟨if hasL f 'Y' then t.d.year else 1970, if hasL f 'M' then t.d.month else 1, if hasL f 'D' then t.d.day else 1,
    if hasL f 'h' then t.d.hour else 0, if hasL f 'm' then t.d.min else 0, if hasL f 's' then t.d.sec else 0⟩,
   if hasL f 'z' then t.ms else 0⟩

theorem hasL_lit (c : Char) (r : List Tok) (X : Char) : hasL (Tok.lit c :: r) X = hasL r X := rfl
theorem hasL_code (w : Nat) (l : Char) (r : List Tok) (X : Char) :
    hasL (Tok.code w l :: r) X = (l == X || hasL r X) := by simp [hasL, codeList]
theorem hasL_nil (X : Char) : hasL [] X = false := rfl

theorem applyCodes_eq (f : List Tok) (t st : Stamp) :
    applyCodes f t st =
      ⟨⟨if hasL f 'Y' then t.d.year else st.d.year, if hasL f 'M' then t.d.month else st.d.month,
        if hasL f 'D' then t.d.day else st.d.day, if hasL f 'h' then t.d.hour else st.d.hour,
        if hasL f 'm' then t.d.min else st.d.min, if hasL f 's' then t.d.sec else st.d.sec⟩,
       if hasL f 'z' then t.ms else st.ms⟩ := by
  have e : ∀ (l X : Char) (b : Bool) (x y : Nat),
      (if (l == X || b) = true then x else y) = if b = true then x else if l = X then x else y := by
    intro l X b x y
    cases b <;> simp
  induction f generalizing st with
  | nil => simp [applyCodes, hasL_nil]
  | cons tk r ih =>
    cases tk with
    | lit c => exact ih st
    | code w l => simp only [applyCodes, ih, hasL_code, setField, e]

theorem applyCodes_epoch (f : List Tok) (t : Stamp) : applyCodes f t epoch = project f t := by
  rw [applyCodes_eq f t epoch]; rfl

/-- `readTimestamp f (str(t) + suffix)` for a lossless format: the fields named by the format; what follows
the printed stamp (the `Z` of a GPX time) is ignored -/
theorem readTimestamp_printTime_suffix (f : List Tok) (h : Lossless f) (t : Stamp) (ht : Fits t) (suf : Str) :
    readTimestamp f (printTime f t ++ suf) = some (project f t) := by
  unfold readTimestamp
  rw [precompile_eq f h, ← applyCodes_epoch f t]
  exact readLoop_printTime f t ht h.1 [] suf epoch

theorem readTimestamp_printTime (f : List Tok) (h : Lossless f) (t : Stamp) (ht : Fits t) :
    readTimestamp f (printTime f t) = some (project f t) := by
  have := readTimestamp_printTime_suffix f h t ht []
  simpa using this

def FullDate (f : List Tok) : Prop :=
  hasL f 'Y' = true ∧ hasL f 'M' = true ∧ hasL f 'D' = true ∧ hasL f 'h' = true ∧ hasL f 'm' = true ∧ hasL f 's' = true

theorem project_full (f : List Tok) (t : Stamp) (h : FullDate f) : (project f t).d = t.d := by
  obtain ⟨h1, h2, h3, h4, h5, h6⟩ := h
  simp [project, h1, h2, h3, h4, h5, h6]

end TV.TextIO
