import TracklibVerif.Model.GraphPrepFile
/-! `save_prep` / `load_prep`: the two methods agree on the path; a file keeps the table it was written with; the round trip. -/
namespace TV.Graph
variable {W : Type}

theorem lastFour_append_npy (f : List Char) : lastFour (f ++ npy) = npy := by
  unfold lastFour
  have h : (f ++ npy).length - 4 = f.length := by simp [npy]
  rw [h]
  exact List.drop_left' rfl

theorem lastFour_short (f : List Char) (h : f.length < 4) : lastFour f ≠ npy := by
  intro e
  have hl := congrArg List.length e
  simp only [lastFour, List.length_drop, npy, List.length_cons, List.length_nil] at hl
  omega

/-- `load_prep` reads the very path `np.save` wrote, for every file name (with or without the extension, shorter than four
characters, `".npy"` itself, …) -/
theorem loadName_eq_saveName (f : List Char) : loadName f = saveName f := by
  unfold loadName saveName
  by_cases h : f.length < 4
  · simp only [h, if_true, lastFour_append_npy, ne_eq, not_true_eq_false, if_false, lastFour_short f h]
  · simp only [h, if_false]
    by_cases e : lastFour f = npy
    · simp [e]
    · simp [e]

theorem saveName_idem (f : List Char) : saveName (saveName f) = saveName f := by
  unfold saveName
  by_cases e : lastFour f = npy
  · simp [e]
  · simp [e, lastFour_append_npy]

variable [LT W] [DecidableLT W] [Add W] [OfNat W 0]

def keepsFile (name : List Char) : FOp W → Prop
  | .save g => saveName g ≠ name
  | _ => True

theorem execF_findFile (x : SessF W) (op : FOp W) (name : List Char) (h : keepsFile name op) :
    findFile (execF x op).1.files name = findFile x.files name := by
  cases op with
  | call op => rfl
  | save g =>
    simp only [execF]
    cases x.sess.prep with
    | none => rfl
    | some tb =>
      simp only [findFile]
      rw [if_neg h]
  | load g =>
    simp only [execF]
    cases findFile x.files (loadName g) <;> rfl

theorem afterF_findFile (x : SessF W) (ops : List (FOp W)) (name : List Char) (h : ∀ op ∈ ops, keepsFile name op) :
    findFile (afterF x ops).files name = findFile x.files name := by
  induction ops generalizing x with
  | nil => rfl
  | cons op rest ih =>
    simp only [afterF]
    rw [ih (execF x op).1 (fun o ho => h o (List.mem_cons_of_mem _ ho))]
    exact execF_findFile x op name (h op List.mem_cons_self)

theorem execF_save (x : SessF W) (f : List Char) (tb : Table W) (h : x.sess.prep = some tb) :
    execF x (.save f) = ({ x with files := (saveName f, tb) :: x.files }, .unit) := by
  simp only [execF, h]

/-- **round trip.** `save_prep(f)` in a state with `DISTANCES = tb`, then any calls (searches, `prepare` with other cut-offs, new
edges, `load_prep` of other files, `save_prep` to other paths), then `load_prep(f')` with a name that designates the same path
(`f' = f`, or one of them without the `.npy`): `DISTANCES` is `tb` again, whatever it was in between. -/
theorem load_restores (x : SessF W) (f f' : List Char) (tb : Table W) (h : x.sess.prep = some tb) (ops : List (FOp W))
    (hk : ∀ op ∈ ops, keepsFile (saveName f) op) (hf : saveName f' = saveName f) :
    let y := afterF (execF x (.save f)).1 ops
    execF y (.load f') = ({ y with sess := { y.sess with prep := some tb } }, .unit) := by
  intro y
  have hfind : findFile y.files (loadName f') = some tb := by
    rw [loadName_eq_saveName, hf]
    show findFile (afterF (execF x (.save f)).1 ops).files (saveName f) = some tb
    rw [afterF_findFile _ ops _ hk, execF_save x f tb h]
    simp [findFile]
  simp only [execF, hfind]

end TV.Graph
