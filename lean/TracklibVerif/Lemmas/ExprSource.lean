import TracklibVerif.Lemmas.ExprRewrite
import TracklibVerif.Lemmas.ExprQuote
/-! # `makeRPN` on `#output = …` (with its two spaces) and `operate` on source strings, end to end -/
namespace TV.Expr
open TV.Rpn

theorem firstSplitC_space : ∀ (grps : List Str), (∀ g ∈ grps, g.contains ' ' = false) → ∀ s,
    firstSplitC grps (' ' :: s) = (firstSplitC grps s).map (fun x => (' ' :: x.1, x.2.1, x.2.2))
  | [], _, _ => rfl
  | g :: gs, h, s => by
    have hs : splitRC g (' ' :: s) = (splitRC g s).map (fun x => (' ' :: x.1, x.2.1, x.2.2)) :=
      splitRC_skip g [' '] s (by simpa using h g (by simp))
    simp only [firstSplitC, hs]
    cases splitRC g s with
    | some x => rfl
    | none => exact firstSplitC_space gs (fun g' hg' => h g' (by simp [hg'])) s

theorem strip_space (s : Str) : strip (' ' :: s) = strip s := by
  simp [strip, List.dropWhile, isWs]

theorem makeRPNg_space (grps : List Str) (h : ∀ g ∈ grps, g.contains ' ' = false) :
    ∀ (f : Nat) (s : Str), makeRPNg grps f (' ' :: s) = makeRPNg grps f s
  | 0, _ => rfl
  | f+1, s => by
    simp only [makeRPNg, firstSplitC_space grps h s, strip_space]
    cases firstSplitC grps s with
    | some x =>
      obtain ⟨l, c, r⟩ := x
      simp only [Option.map_some, makeRPNg_space grps h f l]
    | none => rfl

theorem splitRC_hit (g : Str) (c : Char) (r : Str) (hr : splitRC g r = none) (hb : balC r = 0)
    (hc : g.contains c = true) (h1 : c ≠ '(') (h2 : c ≠ ')') :
    ∀ (p : Str), splitRC g (p ++ c :: r) = some (p, c, r)
  | [] => by
    simp only [List.nil_append, splitRC, hr, balC_plain c r h2 h1, hb, hc]
    rfl
  | x :: p => by
    simp only [List.cons_append, splitRC, splitRC_hit g c r hr hb hc h1 h2 p]

theorem makeRPN_output_spaces (t : E) (hwf : Rpn.WF pyLvl 9 t) (hok : AtomsOK t)
    (hne : '=' ∉ flat (shw pyLvl 9 t)) :
    makeRPN ("#output = ".toList ++ flat (shw pyLvl 9 t))
      = .ok (outputName :: ((Rpn.post t).map String.toList ++ [['=']])) := by
  have hP : "#output = ".toList ++ flat (shw pyLvl 9 t)
      = ['#', 'o', 'u', 't', 'p', 'u', 't', ' '] ++ '=' :: (' ' :: flat (shw pyLvl 9 t)) := rfl
  have hlen : ("#output = ".toList ++ flat (shw pyLvl 9 t)).length + 1 = ((flat (shw pyLvl 9 t)).length + 9) + 1 + 1 := by
    rw [hP]; simp only [List.length_append, List.length_cons, List.length_nil]; omega
  have hbal : balC (' ' :: flat (shw pyLvl 9 t)) = 0 := by
    rw [balC_plain _ _ (by decide) (by decide), balC_flat _ (tokOK_shw t hwf hok)]
    exact (shw_bal_SN pyLvl 9 t).1
  have hnone : splitRC ['='] (' ' :: flat (shw pyLvl 9 t)) = none := by
    have := splitRC_skip ['='] (' ' :: flat (shw pyLvl 9 t)) [] (by
      intro c hc
      simp only [List.mem_cons] at hc
      rcases hc with rfl | hc
      · decide
      · simpa using fun e : c = '=' => hne (e ▸ hc))
    simpa [splitRC] using this
  have hsplit : firstSplitC groups (['#', 'o', 'u', 't', 'p', 'u', 't', ' '] ++ '=' :: (' ' :: flat (shw pyLvl 9 t)))
      = some (['#', 'o', 'u', 't', 'p', 'u', 't', ' '], '=', ' ' :: flat (shw pyLvl 9 t)) := by
    simp only [groups, firstSplitC, splitRC_hit ['='] '=' _ hnone hbal (by decide) (by decide) (by decide)]
  have hbody := makeRPNg_shw t hwf hok ((flat (shw pyLvl 9 t)).length + 9 + 1)
    (by have := size_le_length t hok; omega)
  unfold makeRPN
  rw [hlen, hP]
  have hname : makeRPNg groups ((flat (shw pyLvl 9 t)).length + 9 + 1) ['#', 'o', 'u', 't', 'p', 'u', 't', ' ']
      = .ok [outputName] := rfl
  rw [makeRPNg_split _ _ _ _ _ _ hsplit, hname, makeRPNg_space groups (by decide), hbody]
  simp [bind, Except.bind, pure, Except.pure]

variable {α : Type} [Scalar α]

theorem operate_congr (tr : Tr α) {s1 s2 : Str} (h : preprocess s1 = preprocess s2) : operate tr s1 = operate tr s2 := by
  unfold operate evaluate
  rw [h]

theorem operate_of (tr : Tr α) (s s' : Str) (void : Bool) (rpn0 rpn : List Str)
    (h1 : preprocess s = .ok (s', void)) (h2 : makeRPN s' = .ok rpn0) (h3 : doublePrime rpn0 = .ok rpn) :
    operate tr s = operateTokens tr rpn void := by
  unfold operate evaluate
  rw [h1]
  dsimp only
  unfold evaluateRewritten
  rw [h2]
  dsimp only
  rw [h3]
  rfl

theorem makeRPN_assign (lhs : Str) (e : Sx) (hl : NameOK lhs) (h : SrcOK e) :
    makeRPN (flat (shw pyLvl 9 (.bin '=' (.atom (String.ofList lhs)) (toE' e))))
      = .ok (lhs :: (Expr.post (desugar e) ++ [['=']])) := by
  rw [makeRPN_flat_shw (.bin '=' (.atom (String.ofList lhs)) (toE' e)) ⟨by decide, trivial, wf_toE' e h⟩
    ⟨hl.atomOK, atomsOK_toE' e h⟩]
  simp [Rpn.post, post_toE']

theorem makeRPN_value (e : Sx) (h : SrcOK e) :
    makeRPN ("#output = ".toList ++ flat (shw pyLvl 9 (toE' e)))
      = .ok (outputName :: (Expr.post (desugar e) ++ [['=']])) := by
  rw [makeRPN_output_spaces (toE' e) (wf_toE' e h) (atomsOK_toE' e h) (by rw [← tgt_eq]; exact tgt_no_eq e h), post_toE']

/-- **source string → tokens, `lhs=e`**: on the string the user types, `operate` (the whole rewriting chain,
    character-level `makeRPN`, `__double_prime`, stack machine, purge) does what it does on the postfix token
    list `lhs, postfix(desugar e), =` -/
theorem operate_source_tokens (tr : Tr α) (lhs : Str) (e : Sx)
    (hl : NameOK lhs) (hg : GoodTok lhs) (h : SrcOK e) (hq : NoQuote (desugar e)) :
    operate tr (lhs ++ '=' :: src e) = operateTokens tr (lhs :: (Expr.post (desugar e) ++ [['=']])) true :=
  operate_of tr _ _ true _ _ (preprocess_assign lhs e hl h) (makeRPN_assign lhs e hl h)
    (doublePrime_id _ (goodTok_stmt hg (goodTok_post (desugar e) hq (wf_desugar e h))))

theorem operate_source_value_tokens (tr : Tr α) (e : Sx) (h : SrcOK e) (hq : NoQuote (desugar e)) :
    operate tr (src e) = operateTokens tr (outputName :: (Expr.post (desugar e) ++ [['=']])) false :=
  operate_of tr _ _ false _ _ (preprocess_value e h) (makeRPN_value e h)
    (doublePrime_id _ (goodTok_stmt goodTok_output (goodTok_post (desugar e) hq (wf_desugar e h))))

theorem operate_source_value (tr : Tr α) (e : Sx) (v : Val α) (h : SrcOK e) (hq : NoQuote (desugar e))
    (hw : WFx (desugar e)) (hn : tr.n ≠ 0) (hnt : NoTemps tr) (hl : NoLitNames tr)
    (hd : denoteM tr (desugar e) = .ok v) :
    operate tr (src e) = (.ok (some (v.toVec tr.n)), tr) := by
  rw [operate_source_value_tokens tr e h hq]
  exact operateTokens_value tr (desugar e) v hw hn hnt hl hd

theorem operate_source_assign_new (tr : Tr α) (lhs : Str) (e : Sx) (v : Val α)
    (hl : NameOK lhs) (hg : GoodTok lhs) (h : SrcOK e) (hq : NoQuote (desugar e))
    (hop : isOperatorTok lhs = none) (hr : isReserved lhs = false) (ht : isTemp lhs = false)
    (hlk : lookup lhs tr.feats = none)
    (hw : WFx (desugar e)) (hn : tr.n ≠ 0) (hnt : NoTemps tr) (hlit : NoLitNames tr)
    (hd : denoteM tr (desugar e) = .ok v) :
    operate tr (lhs ++ '=' :: src e) = (.ok none, ext tr [(lhs, v.toVec tr.n)]) := by
  rw [operate_source_tokens tr lhs e hl hg h hq]
  exact operateTokens_assign_new tr lhs (desugar e) v hop hr ht hlk hw hn hnt hlit hd

end TV.Expr
