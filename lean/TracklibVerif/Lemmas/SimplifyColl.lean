import TracklibVerif.Lemmas.SimplifyTrack
import TracklibVerif.Lemmas.Common.MapMForall
/-! The entry points that call `simplify` on every track of a list (`Network.simplify`: `netSimplify`; `TrackCollection.simplify`:
`collSimplify`) are `mapM` in `Except` (`Lemmas/Common/MapM*`): here the one fact stated with a property of the results. -/
namespace TV.Simplify

/-- when every call returns a result with the property `P`, the loop returns as many results, each with `P` -/
theorem mapM_ok_forall₂ {β γ : Type} (f : β → Except String γ) (P : β → γ → Prop) (l : List β)
    (h : ∀ b ∈ l, ∃ c, f b = .ok c ∧ P b c) :
    ∃ cs, l.mapM f = .ok cs ∧ cs.length = l.length ∧ List.Forall₂ P l cs := by
  have : ∃ cs, List.Forall₂ (fun b c => f b = .ok c ∧ P b c) l cs := by
    induction l with
    | nil => exact ⟨[], .nil⟩
    | cons g G ih =>
      obtain ⟨o, ho⟩ := h g List.mem_cons_self
      obtain ⟨os, hf⟩ := ih fun b hb => h b (List.mem_cons_of_mem _ hb)
      exact ⟨o :: os, .cons ho hf⟩
  obtain ⟨cs, hf⟩ := this
  exact ⟨cs, (Common.mapM_ok_iff_forall₂ f l cs).mpr (hf.imp fun _ _ h => h.1), hf.length_eq.symm, hf.imp fun _ _ h => h.2⟩

end TV.Simplify
