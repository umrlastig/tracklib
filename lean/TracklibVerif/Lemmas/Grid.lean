import Mathlib.Algebra.Order.Field.Basic
import Mathlib.Tactic.Ring
import Mathlib.Tactic.Linarith
import Mathlib.Tactic.LinearCombination
/-! Ordered-field geometry behind C08, no model: two segments with a common point pass the straddle test of
`isSegmentIntersects` (`inter_of_common`); from a point of a closed cell towards an end point that is not strictly inside it, a
segment meets a side of the cell (`exit1`, `hit_side`); hence `cell_core`: the test `__cellsCrossSegment` performs on a cell
succeeds whenever the segment has a point in the closed cell. -/
namespace TV.Grid
variable {α : Type} [Field α] [LinearOrder α] [IsStrictOrderedRing α]

theorem straddle (u v t : α) (h0 : 0 ≤ t) (h1 : t ≤ 1) (h : (1 - t) * u + t * v = 0) : u * v ≤ 0 := by
  -- `u v = (u + v) ((1 - t) u + t v) - ((1 - t) u² + t v²)`, and the first term vanishes
  have e : u * v = (u + v) * ((1 - t) * u + t * v) - ((1 - t) * (u * u) + t * (v * v)) := by ring
  rw [e, h, mul_zero, zero_sub, neg_nonpos]
  exact add_nonneg (mul_nonneg (sub_nonneg.mpr h1) (mul_self_nonneg u)) (mul_nonneg h0 (mul_self_nonneg v))

/-- cartesienne/__eval of the code -/
def ev (x1 y1 x2 y2 x y : α) : α := (y2 - y1) * x + (-(x2 - x1)) * y + (-((y2 - y1) * x1 + (-(x2 - x1)) * y1))

/-- straddle test of `isSegmentIntersects` -/
def inter (s1x1 s1y1 s1x2 s1y2 s2x1 s2y1 s2x2 s2y2 : α) : Prop :=
  ev s1x1 s1y1 s1x2 s1y2 s2x1 s2y1 * ev s1x1 s1y1 s1x2 s1y2 s2x2 s2y2 ≤ 0 ∧
  ev s2x1 s2y1 s2x2 s2y2 s1x1 s1y1 * ev s2x1 s2y1 s2x2 s2y2 s1x2 s1y2 ≤ 0

theorem inter_of_common (cx cy dx dy ax ay bx b_y : α) (r q : α)
    (hr0 : 0 ≤ r) (hr1 : r ≤ 1) (hq0 : 0 ≤ q) (hq1 : q ≤ 1)
    (hx : cx + r * (dx - cx) = ax + q * (bx - ax)) (hy : cy + r * (dy - cy) = ay + q * (b_y - ay)) :
    inter cx cy dx dy ax ay bx b_y := by
  constructor
  · apply straddle _ _ q hq0 hq1
    unfold ev
    linear_combination (dy - cy) * (-hx) + (dx - cx) * hy
  · apply straddle _ _ r hr0 hr1
    unfold ev
    linear_combination (b_y - ay) * hx - (bx - ax) * hy

theorem exit_lo (p e lo : α) (hp : lo ≤ p) (he : e < lo) :
    ∃ t, 0 ≤ t ∧ t < 1 ∧ p + t * (e - p) = lo ∧ ∀ t', 0 ≤ t' → t' ≤ t → lo ≤ p + t' * (e - p) := by
  have hpe : 0 < p - e := sub_pos.mpr (lt_of_lt_of_le he hp)
  have hc : (p - lo) / (p - e) * (p - e) = p - lo := div_mul_cancel₀ _ (ne_of_gt hpe)
  refine ⟨(p - lo) / (p - e), div_nonneg (sub_nonneg.mpr hp) (le_of_lt hpe), ?_, ?_, ?_⟩
  · rw [div_lt_one hpe]; exact sub_lt_sub_left he p
  · rw [← neg_sub p e, mul_neg, hc, ← sub_eq_add_neg, sub_sub_cancel]
  · intro t' _ ht
    have := mul_le_mul_of_nonneg_right ht (le_of_lt hpe)
    rw [hc] at this
    rw [← neg_sub p e, mul_neg, ← sub_eq_add_neg]
    exact le_sub_comm.mpr this

theorem exit_hi (p e hi : α) (hp : p ≤ hi) (he : hi < e) :
    ∃ t, 0 ≤ t ∧ t < 1 ∧ p + t * (e - p) = hi ∧ ∀ t', 0 ≤ t' → t' ≤ t → p + t' * (e - p) ≤ hi := by
  obtain ⟨t, h0, h1, h2, h3⟩ := exit_lo (-p) (-e) (-hi) (neg_le_neg hp) (neg_lt_neg he)
  have e1 : ∀ s : α, -p + s * (-e - -p) = -(p + s * (e - p)) := fun s => by ring
  rw [e1, neg_inj] at h2
  refine ⟨t, h0, h1, h2, fun t' a b => ?_⟩
  have := h3 t' a b
  rwa [e1, neg_le_neg_iff] at this

theorem between (p e lo hi t : α) (h0 : 0 ≤ t) (h1 : t ≤ 1) (hp : lo ≤ p ∧ p ≤ hi) (he : lo ≤ e ∧ e ≤ hi) :
    lo ≤ p + t * (e - p) ∧ p + t * (e - p) ≤ hi := by
  have a : 0 ≤ 1 - t := sub_nonneg.mpr h1
  have l := add_le_add (mul_le_mul_of_nonneg_left hp.1 a) (mul_le_mul_of_nonneg_left he.1 h0)
  have u := add_le_add (mul_le_mul_of_nonneg_left hp.2 a) (mul_le_mul_of_nonneg_left he.2 h0)
  constructor <;> linarith

theorem exit1 (p e lo hi : α) (hp : lo ≤ p ∧ p ≤ hi) :
    ∃ t, 0 ≤ t ∧ t ≤ 1 ∧ (t < 1 → p + t * (e - p) = lo ∨ p + t * (e - p) = hi) ∧
      ∀ t', 0 ≤ t' → t' ≤ t → lo ≤ p + t' * (e - p) ∧ p + t' * (e - p) ≤ hi := by
  rcases lt_or_ge e lo with h1 | h1
  · obtain ⟨t, a, b, c, d⟩ := exit_lo p e lo hp.1 h1
    refine ⟨t, a, le_of_lt b, fun _ => Or.inl c, fun t' x y => ⟨d t' x y, le_trans ?_ hp.2⟩⟩
    exact add_le_of_nonpos_right (mul_nonpos_of_nonneg_of_nonpos x (sub_nonpos.mpr (le_trans (le_of_lt h1) hp.1)))
  · rcases lt_or_ge hi e with h2 | h2
    · obtain ⟨t, a, b, c, d⟩ := exit_hi p e hi hp.2 h2
      refine ⟨t, a, le_of_lt b, fun _ => Or.inr c, fun t' x y => ⟨le_trans hp.1 ?_, d t' x y⟩⟩
      exact le_add_of_nonneg_right (mul_nonneg x (sub_nonneg.mpr (le_trans hp.2 (le_of_lt h2))))
    · exact ⟨1, zero_le_one, le_refl _, fun h => absurd h (lt_irrefl _), fun t' x y => between p e lo hi t' x y hp ⟨h1, h2⟩⟩

theorem hit_side (px py ex ey i j : α)
    (hpx : i ≤ px ∧ px ≤ i + 1) (hpy : j ≤ py ∧ py ≤ j + 1)
    (hE : ¬ (i < ex ∧ ex < i + 1 ∧ j < ey ∧ ey < j + 1)) :
    ∃ t, 0 ≤ t ∧ t ≤ 1 ∧
      let qx := px + t * (ex - px); let qy := py + t * (ey - py)
      (i ≤ qx ∧ qx ≤ i + 1 ∧ j ≤ qy ∧ qy ≤ j + 1) ∧ (qx = i ∨ qx = i + 1 ∨ qy = j ∨ qy = j + 1) := by
  obtain ⟨tx, tx0, tx1, txe, txm⟩ := exit1 px ex i (i + 1) hpx
  obtain ⟨ty, ty0, ty1, tye, tym⟩ := exit1 py ey j (j + 1) hpy
  -- up to the smaller of the two times both coordinates stay in the cell
  have bx := txm (min tx ty) (le_min tx0 ty0) (min_le_left _ _)
  have by' := tym (min tx ty) (le_min tx0 ty0) (min_le_right _ _)
  refine ⟨min tx ty, le_min tx0 ty0, le_trans (min_le_left _ _) tx1, ⟨bx.1, bx.2, by'.1, by'.2⟩, ?_⟩
  by_cases hlt : min tx ty < 1
  · rcases le_total tx ty with h | h
    · rw [min_eq_left h] at hlt ⊢
      exact (txe hlt).elim Or.inl fun h => Or.inr (Or.inl h)
    · rw [min_eq_right h] at hlt ⊢
      exact (tye hlt).elim (fun h => Or.inr (Or.inr (Or.inl h))) fun h => Or.inr (Or.inr (Or.inr h))
  · -- both times are 1: the point is E, in the closed cell and not strictly inside
    have e1 : min tx ty = 1 := le_antisymm (le_trans (min_le_left _ _) tx1) (le_of_not_gt hlt)
    simp only [e1, one_mul, add_sub_cancel] at bx by' ⊢
    by_contra hc
    simp only [not_or] at hc
    exact hE ⟨lt_of_le_of_ne bx.1 (Ne.symm hc.1), lt_of_le_of_ne bx.2 hc.2.1,
      lt_of_le_of_ne by'.1 (Ne.symm hc.2.2.1), lt_of_le_of_ne by'.2 hc.2.2.2⟩

theorem inter_hside (ax ay bx b_y r i y : α) (hr0 : 0 ≤ r) (hr1 : r ≤ 1)
    (hx : i ≤ ax + r * (bx - ax) ∧ ax + r * (bx - ax) ≤ i + 1) (hy : ay + r * (b_y - ay) = y) :
    inter i y (i + 1) y ax ay bx b_y :=
  inter_of_common i y (i + 1) y ax ay bx b_y (ax + r * (bx - ax) - i) r (sub_nonneg.mpr hx.1)
    (sub_le_iff_le_add'.mpr hx.2) hr0 hr1 (by ring) (by rw [hy]; ring)

theorem inter_vside (ax ay bx b_y r x j : α) (hr0 : 0 ≤ r) (hr1 : r ≤ 1)
    (hx : ax + r * (bx - ax) = x) (hy : j ≤ ay + r * (b_y - ay) ∧ ay + r * (b_y - ay) ≤ j + 1) :
    inter x j x (j + 1) ax ay bx b_y :=
  inter_of_common x j x (j + 1) ax ay bx b_y (ay + r * (b_y - ay) - j) r (sub_nonneg.mpr hy.1)
    (sub_le_iff_le_add'.mpr hy.2) hr0 hr1 (by rw [hx]; ring) (by ring)

/-- core of `cells_complete`: the test performed by `__cellsCrossSegment` for cell (i,j) succeeds whenever the
    segment [A,B] has a point in the closed cell. -/
theorem cell_core (ax ay bx b_y s i j : α) (hs0 : 0 ≤ s) (hs1 : s ≤ 1)
    (hpx : i ≤ ax + s * (bx - ax) ∧ ax + s * (bx - ax) ≤ i + 1)
    (hpy : j ≤ ay + s * (b_y - ay) ∧ ay + s * (b_y - ay) ≤ j + 1) :
    ((i < ax ∧ ax < i + 1 ∧ j < ay ∧ ay < j + 1) ∧ (i < bx ∧ bx < i + 1 ∧ j < b_y ∧ b_y < j + 1))
    ∨ inter i j (i+1) j ax ay bx b_y          -- bottom
    ∨ inter i j i (j+1) ax ay bx b_y          -- left
    ∨ inter i (j+1) (i+1) (j+1) ax ay bx b_y  -- top
    ∨ inter (i+1) j (i+1) (j+1) ax ay bx b_y  -- right
    := by
  by_cases hin : (i < ax ∧ ax < i + 1 ∧ j < ay ∧ ay < j + 1) ∧ (i < bx ∧ bx < i + 1 ∧ j < b_y ∧ b_y < j + 1)
  · exact Or.inl hin
  · right
    -- an end that is not strictly inside the cell, as the parameter `e ∈ {0, 1}` of `A + e (B − A)`
    obtain ⟨e, he0, he1, hEn⟩ : ∃ e : α, 0 ≤ e ∧ e ≤ 1 ∧
        ¬ (i < ax + e * (bx - ax) ∧ ax + e * (bx - ax) < i + 1 ∧ j < ay + e * (b_y - ay) ∧ ay + e * (b_y - ay) < j + 1) := by
      by_cases hA : i < ax ∧ ax < i + 1 ∧ j < ay ∧ ay < j + 1
      · refine ⟨1, zero_le_one, le_refl _, fun h => hin ⟨hA, ?_⟩⟩
        simpa only [one_mul, add_sub_cancel] using h
      · refine ⟨0, le_refl _, zero_le_one, fun h => hA ?_⟩
        simpa only [zero_mul, add_zero] using h
    -- the point `Q` where the way from `P` (parameter `s`) to that end meets the boundary is a point of `[A, B]`
    obtain ⟨t, t0, t1, hbox, hside⟩ :=
      hit_side (ax + s * (bx - ax)) (ay + s * (b_y - ay)) (ax + e * (bx - ax)) (ay + e * (b_y - ay)) i j hpx hpy hEn
    have hq := between s e 0 1 t t0 t1 ⟨hs0, hs1⟩ ⟨he0, he1⟩
    have hqx : (ax + s * (bx - ax)) + t * ((ax + e * (bx - ax)) - (ax + s * (bx - ax))) = ax + (s + t * (e - s)) * (bx - ax) := by ring
    have hqy : (ay + s * (b_y - ay)) + t * ((ay + e * (b_y - ay)) - (ay + s * (b_y - ay))) = ay + (s + t * (e - s)) * (b_y - ay) := by ring
    simp only [hqx, hqy] at hbox hside
    obtain ⟨bx1, bx2, by1, by2⟩ := hbox
    rcases hside with h | h | h | h
    · exact Or.inr (Or.inl (inter_vside ax ay bx b_y _ i j hq.1 hq.2 h ⟨by1, by2⟩))
    · exact Or.inr (Or.inr (Or.inr (inter_vside ax ay bx b_y _ (i + 1) j hq.1 hq.2 h ⟨by1, by2⟩)))
    · exact Or.inl (inter_hside ax ay bx b_y _ i j hq.1 hq.2 ⟨bx1, bx2⟩ h)
    · exact Or.inr (Or.inr (Or.inl (inter_hside ax ay bx b_y _ i (j + 1) hq.1 hq.2 ⟨bx1, bx2⟩ h)))
end TV.Grid
