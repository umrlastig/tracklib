import TracklibVerif.Lemmas.SimplifyGeom
import TracklibVerif.Lemmas.SimplifyDepth
/-! The witness of the finding `dp-recursion-depth`, as a family of tracks over a linearly ordered field with an exact square root:
`n` fixes on the y-axis, `y_j = (−1)^j · (n − j)` (a collinear oscillation around the origin with linearly decreasing amplitude).
At every level of `douglas_peucker` the farthest fix from the chord is `L[1]` (all later fixes lie inside the chord or nearer to its
second end), it is at least `1` away, and the split `L[0:1] / L[1:n]` peels one fix: `PeelOne`, hence the recursion is exactly
`n − 2` levels deep for every tolerance `0 < eps <= 1`.

The geometry is one-dimensional: `LineDist d u ua ub` says that `d` is the distance from the point `u` of a line to the segment
`[ua, ub]` of that line, in the form `dist_seg_spec` gives it; on the y-axis, with `u = s·y` for a sign `s` (`s² = 1`), the computed
distance is one (`axis_lineDist`). The sign lets one statement serve both orientations of the alternating chord. -/
namespace TV.Simplify
variable {α : Type} [Field α] [LinearOrder α] [IsStrictOrderedRing α]

/-- the oscillation: `m` fixes on the y-axis, tags `k, k+1, …`, ordinates `s·m, −s·(m−1), s·(m−2), …, ±s·1` -/
def osc (s : α) : Nat → Nat → List (Fix α)
  | 0, _ => []
  | m + 1, k => ⟨k, 0, s * ((m + 1 : Nat) : α)⟩ :: osc (-s) m (k + 1)

section
omit [LinearOrder α] [IsStrictOrderedRing α]

theorem osc_length (s : α) (m k : Nat) : (osc s m k).length = m := by
  induction m generalizing s k with
  | zero => rfl
  | succ m ih => simp only [osc, List.length_cons, ih]

theorem mul_mul_self_cancel {s : α} (hs : s * s = 1) (c : α) : s * (s * c) = c := by
  rw [← mul_assoc, hs, one_mul]

end

theorem osc_bound (s : α) (hs : s * s = 1) (m k : Nat) :
    ∀ x ∈ osc s m k, x.x = 0 ∧ -(m : α) ≤ s * x.y ∧ s * x.y ≤ (m : α) := by
  induction m generalizing s k with
  | zero => intro x hx; cases hx
  | succ m ih =>
    intro x hx
    have hle : (m : α) ≤ ((m + 1 : Nat) : α) := Nat.cast_le.mpr (Nat.le_succ m)
    rcases List.mem_cons.mp hx with rfl | hx
    · exact ⟨rfl, by rw [mul_mul_self_cancel hs]; exact neg_le_self (Nat.cast_nonneg _), by rw [mul_mul_self_cancel hs]⟩
    · obtain ⟨a, b, c⟩ := ih (-s) (by rw [neg_mul_neg]; exact hs) (k + 1) x hx
      rw [neg_mul] at b c
      exact ⟨a, (neg_le_neg hle).trans (neg_le.mp c), (neg_le_neg_iff.mp b).trans hle⟩

/-- `d` is the distance from the point `u` of a line to the segment `[ua, ub]` of the line -/
def LineDist (d u ua ub : α) : Prop :=
  0 ≤ d ∧ (∃ t, 0 ≤ t ∧ t ≤ 1 ∧ d * d = (u - (ua + t * (ub - ua))) * (u - (ua + t * (ub - ua)))) ∧
    ∀ t, 0 ≤ t → t ≤ 1 → d * d ≤ (u - (ua + t * (ub - ua))) * (u - (ua + t * (ub - ua)))

section
omit [LinearOrder α] [IsStrictOrderedRing α]

theorem q2_axis (s : α) (hs : s * s = 1) (y0 y1 y2 t : α) :
    q2 0 y0 0 y1 0 y2 t = (s * y0 - (s * y1 + t * (s * y2 - s * y1))) * (s * y0 - (s * y1 + t * (s * y2 - s * y1))) := by
  unfold q2
  rw [← mul_sub, mul_left_comm t s, ← mul_add, ← mul_sub, mul_mul_mul_comm, hs, one_mul]
  simp only [sub_self, mul_zero, add_zero, zero_add]

end

theorem axis_lineDist (sqrt : α → α) (hq : SqrtOK sqrt) (s : α) (hs : s * s = 1) (y ya yb : α) :
    LineDist (distanceToSegment sqrt 0 y 0 ya 0 yb) (s * y) (s * ya) (s * yb) := by
  obtain ⟨h0, ⟨t, ht0, ht1, he⟩, hmin⟩ := dist_seg_spec sqrt hq 0 y 0 ya 0 yb
  exact ⟨h0, ⟨t, ht0, ht1, by rw [he, q2_axis s hs]⟩, fun t h0 h1 => by rw [← q2_axis s hs]; exact hmin t h0 h1⟩

/-- a point beyond the segment's second end is at least that far from the segment: every point of the segment lies on the far side
of that end -/
theorem LineDist.ge {d u ua ub : α} (h : LineDist d u ua ub) (h1 : u ≤ ub) (h2 : ub ≤ ua) : ub - u ≤ d := by
  obtain ⟨h0, ⟨t, ht0, ht1, he⟩, _⟩ := h
  have hc : ub ≤ ua + t * (ub - ua) := by
    rw [← neg_sub ua ub, mul_neg, ← sub_eq_add_neg, le_sub_comm]
    exact (mul_le_mul_of_nonneg_right ht1 (sub_nonneg.mpr h2)).trans_eq (one_mul _)
  refine (mul_self_le_mul_self_iff (sub_nonneg.mpr h1) h0).mpr ?_
  rw [he, ← neg_sub (ua + t * (ub - ua)) u, neg_mul_neg]
  exact mul_self_le_mul_self (sub_nonneg.mpr h1) (sub_le_sub_right hc u)

/-- … and no point between it and the segment's first end is farther: such a point is on the segment, or nearer to the second end -/
theorem LineDist.le_of_between {dx d1 ux u1 ua ub : α} (hx : LineDist dx ux ua ub) (h1 : LineDist d1 u1 ua ub)
    (h1b : u1 ≤ ub) (hba : ub < ua) (h1x : u1 ≤ ux) (hxa : ux ≤ ua) : dx ≤ d1 := by
  have hge := h1.ge h1b hba.le
  by_cases hin : ub ≤ ux
  · -- on the segment: parameter (ua − ux)/(ua − ub)
    have hd : 0 < ua - ub := sub_pos.mpr hba
    have hm := hx.2.2 ((ua - ux) / (ua - ub)) (div_nonneg (sub_nonneg.mpr hxa) hd.le)
      ((div_le_one hd).mpr (sub_le_sub_left hin ua))
    have hz : ux - (ua + (ua - ux) / (ua - ub) * (ub - ua)) = 0 := by
      rw [← neg_sub ua ub, mul_neg, div_mul_cancel₀ _ hd.ne', ← sub_eq_add_neg, sub_sub_cancel, sub_self]
    rw [hz, mul_zero] at hm
    rw [mul_self_eq_zero.mp (le_antisymm hm (mul_self_nonneg _))]
    exact h1.1
  · have hm := hx.2.2 1 zero_le_one le_rfl
    rw [one_mul, add_sub_cancel, ← neg_sub ub ux, neg_mul_neg] at hm
    have hxb : 0 ≤ ub - ux := sub_nonneg.mpr (not_le.mp hin).le
    exact (mul_self_le_mul_self_iff hx.1 h1.1).mpr
      (hm.trans (mul_self_le_mul_self hxb ((sub_le_sub_left h1x ub).trans hge)))

/-- one level of the oscillation in the coordinate `s·y`: every later fix (the chord's second end among them) lies at least `1` above
the fix after the chord's start and below the chord's start. The fix after the chord's start is the farthest, and at least `1` away. -/
theorem axis_peel (sqrt : α → α) (hq : SqrtOK sqrt) (eps : α) (heps1 : eps ≤ 1) (s : α) (hs : s * s = 1)
    (ka kp : Nat) (ya yp : α) (T : List (Fix α))
    (hT : ∀ x ∈ T, x.x = 0 ∧ s * yp + 1 ≤ s * x.y ∧ s * x.y < s * ya) (b : Fix α) (hb : b ∈ T) :
    ¬ (farthest sqrt ⟨ka, 0, ya⟩ b (⟨ka, 0, ya⟩ :: ⟨kp, 0, yp⟩ :: T) 0 0 0).1 < eps ∧
      (farthest sqrt ⟨ka, 0, ya⟩ b (⟨ka, 0, ya⟩ :: ⟨kp, 0, yp⟩ :: T) 0 0 0).2 = 1 := by
  obtain ⟨bx, bl, bu⟩ := hT b hb
  have below : ∀ {v : α}, s * yp + 1 ≤ v → s * yp ≤ v := (le_add_of_nonneg_right zero_le_one).trans
  have dist_eq : ∀ x : Fix α, x.x = 0 → distFix sqrt ⟨ka, 0, ya⟩ b x = distanceToSegment sqrt 0 x.y 0 ya 0 b.y :=
    fun x hx => by unfold distFix; rw [hx, bx]
  have hp := axis_lineDist sqrt hq s hs yp ya b.y
  have hfar : 1 ≤ distanceToSegment sqrt 0 yp 0 ya 0 b.y :=
    (le_sub_iff_add_le'.mpr bl).trans (hp.ge (below bl) bu.le)
  rw [farthest_second sqrt ⟨ka, 0, ya⟩ b ⟨kp, 0, yp⟩ T (hq.zeroLaws.self_distance _ _)
    (by rw [dist_eq _ rfl]; exact lt_of_lt_of_le zero_lt_one hfar)
    (fun x hx => by
      obtain ⟨xx, xl, xu⟩ := hT x hx
      rw [dist_eq x xx, dist_eq _ rfl]
      exact not_lt.mpr ((axis_lineDist sqrt hq s hs x.y ya b.y).le_of_between hp (below bl) bu (below xl) xu.le))]
  exact ⟨by rw [dist_eq _ rfl]; exact not_lt.mpr (heps1.trans hfar), rfl⟩

theorem osc_peel (sqrt : α → α) (hq : SqrtOK sqrt) (eps : α) (heps1 : eps ≤ 1) (m : Nat) :
    ∀ (s : α) (k : Nat), s * s = 1 → PeelOne sqrt eps (osc s m k) := by
  induction m with
  | zero => intro s k _; simp [osc, PeelOne]
  | succ m ih =>
    intro s k hs
    cases m with
    | zero => simp [osc, PeelOne]
    | succ m =>
      cases m with
      | zero => simp [osc, PeelOne]
      | succ m =>
        have hP := ih (-s) (k + 1) (by rw [neg_mul_neg]; exact hs)
        have hT := osc_bound s hs (m + 1) (k + 1 + 1)
        rw [osc, neg_neg] at hP
        rw [osc, osc, neg_neg]
        obtain ⟨q, rest, hqr⟩ : ∃ q rest, osc s (m + 1) (k + 1 + 1) = q :: rest := ⟨_, _, rfl⟩
        rw [hqr] at hP hT ⊢
        rw [PeelOne]
        refine ⟨axis_peel sqrt hq eps heps1 s hs k (k + 1) _ _ (q :: rest) (fun x hx => ?_) _ (chordEnd_mem q rest), hP⟩
        obtain ⟨xx, xl, xu⟩ := hT x hx
        rw [neg_mul, mul_neg, mul_mul_self_cancel hs, mul_mul_self_cancel hs, Nat.cast_succ (m + 1), neg_add, neg_add_cancel_right]
        exact ⟨xx, xl, xu.trans_lt (Nat.cast_lt.mpr (Nat.lt_add_of_pos_right two_pos))⟩

end TV.Simplify
