import TracklibVerif.Lemmas.MapMatchLists
import TracklibVerif.Lemmas.MapMatchSound
/-! Helper lemmas for C10, second part: matched states (`__distToNode` as along-edge distances), the network construction
(`addNode` / `addEdge` store geometries as given), the candidate loop on a network, the front end. -/
namespace TV.MapMatch
open TV.Proj

section
variable {α : Type} [Field α] [LinearOrder α]

/-- what the property says of a matched observation, on the geometry `geom` of the edge its state names: the assigned point
lies on a segment of `geom`, at a distance `d < radius` of the observed position, and the two distances of the state are the
lengths of the two parts of `geom` on either side of the point (measured along the edge), which add up to the length of
`geom` -/
def SoundOn (sqrt : α → α) (radius : α) (geom : List (α × α)) (pos : α × α) (s : State α) : Prop :=
  ∃ (i : Nat) (p1 p2 : α × α) (d : α),
    geom[i]? = some p1 ∧ geom[i + 1]? = some p2 ∧ OnSeg p1.1 p1.2 p2.1 p2.2 s.p.1 s.p.2 ∧
    0 ≤ d ∧ d * d = d2 pos.1 pos.2 s.p.1 s.p.2 ∧ d < radius ∧
    s.d0 = polyLength sqrt (geom.take (i + 1)) + dist2D sqrt p1 s.p ∧
    s.d1 = polyLength sqrt (geom.drop (i + 1)) + dist2D sqrt p2 s.p ∧
    s.d0 + s.d1 = polyLength sqrt geom

def Matched (sqrt : α → α) (radius : α) (edges : List (Edge α)) (pos : α × α) (s : State α) : Prop :=
  ∃ (elem : Nat) (eg : Edge α), s.edge = (elem : Int) ∧ edges[elem]? = some eg ∧ SoundOn sqrt radius eg.geom pos s

theorem SoundOn.sum {sqrt : α → α} {radius : α} {geom : List (α × α)} {pos : α × α} {s : State α}
    (h : SoundOn sqrt radius geom pos s) : s.d0 + s.d1 = polyLength sqrt geom := by
  obtain ⟨_, _, _, _, _, _, _, _, _, _, _, _, hsum⟩ := h
  exact hsum

theorem Matched.of_map {ι : Type} {sqrt : α → α} {radius : α} {l : List ι} {f : ι → Edge α} {pos : α × α} {s : State α}
    (h : Matched sqrt radius (l.map f) pos s) :
    ∃ (n : Nat) (x : ι), s.edge = (n : Int) ∧ l[n]? = some x ∧ SoundOn sqrt radius (f x).geom pos s := by
  obtain ⟨n, eg, hn, heg, hso⟩ := h
  rw [List.getElem?_map] at heg
  obtain ⟨x, hx, rfl⟩ := Option.map_eq_some_iff.mp heg
  exact ⟨n, x, hn, hx, hso⟩

variable [IsStrictOrderedRing α]

theorem candStep_matched {sqrt : α → α} (hs : SqrtSpec sqrt) (eps radius : α) (edges : List (Edge α))
    (hcurv : ∀ eg ∈ edges, eg.curv = absCurv sqrt eg.geom) (pos : α × α) (elem : Nat) (s : State α)
    (h : candStep sqrt eps radius edges pos elem = .ok (some s)) : Matched sqrt radius edges pos s := by
  obtain ⟨eg, i, p1, p2, d, hn, he, g1, g2, hon, d0, dd, hlt, ha, hb⟩ := candStep_geom hs eps radius edges pos elem s h
  obtain ⟨va, vb, hsum⟩ :=
    distToNode_along hs eg s.p i s.d0 s.d1 p1 p2 g1 g2 hon ha hb (hcurv eg (List.mem_of_getElem? he))
  exact ⟨elem, eg, hn, he, i, p1, p2, d, g1, g2, hon, d0, dd, hlt, va, vb, hsum⟩

theorem obsStates_matched {sqrt : α → α} (hs : SqrtSpec sqrt) (eps radius : α) (edges : List (Edge α))
    (hcurv : ∀ eg ∈ edges, eg.curv = absCurv sqrt eg.geom) (pos : α × α)
    (cand : Option (List Nat)) (l : List (State α)) (h : obsStates sqrt eps radius edges pos cand = .ok l) :
    l = [flag pos] ∨ (l ≠ [] ∧ ∀ s ∈ l, Matched sqrt radius edges pos s) :=
  (obsStates_spec h).imp And.left fun ⟨hne, mem⟩ =>
    ⟨hne, fun s hm => ((mem s).mp hm).elim fun n hn => candStep_matched hs eps radius edges hcurv pos n s hn.2⟩

end

section
variable {α : Type}

theorem addNode_frame (net : Net α) (n : Node α) :
    (addNode net n).edges = net.edges ∧ (addNode net n).idx = net.idx ∧ (addNode net n).index = net.index := by
  unfold addNode; split <;> exact ⟨rfl, rfl, rfl⟩

theorem addNode_keeps (net : Net α) (n : Node α) (i : Nat) (m : Node α) (h : lookupNode net i = some m) :
    lookupNode (addNode net n) i = some m := by
  unfold addNode; split
  · exact h
  · exact (find?_append_single (fun x : Node α => x.id) net.nodes n i).trans (by rw [show List.find? _ net.nodes = _ from h]; rfl)

variable [Add α] [Sub α] [Mul α] [Div α] [Neg α] [LT α] [LE α]
  [DecidableLT α] [DecidableLE α] [OfNat α 0] [IntCast α]

theorem addEdge_spec (fl : α → Int) (net net' : Net α) (e : EdgeIn α) (s t : Node α)
    (h : addEdge fl net e s t = .ok net') :
    net'.edges = setEdge net.edges ⟨e, s.id, t.id⟩ ∧ net'.idx = net.idx ++ [e.id] ∧
    net'.nodes = (addNode (addNode net s) t).nodes := by
  unfold addEdge at h
  obtain ⟨e1, i1, _⟩ := addNode_frame net s
  obtain ⟨e2, i2, _⟩ := addNode_frame (addNode net s) t
  simp only at h
  split at h
  · cases h; exact ⟨by rw [e2, e1], by rw [i2, i1], rfl⟩
  · split at h
    · cases h
    · cases h; exact ⟨by rw [e2, e1], by rw [i2, i1], rfl⟩

def stored (x : EdgeIn α × Node α × Node α) : NEdge α := ⟨x.1, x.2.1.id, x.2.2.id⟩

/-- a sequence of `addEdge` calls is the sequence of dict assignments `EDGES[id] = edge`, and appends the ids to `__idx_edges` -/
theorem addEdges_edges (fl : α → Int) (es : List (EdgeIn α × Node α × Node α)) (net net' : Net α)
    (h : addEdges fl net es = .ok net') :
    net'.edges = (es.map stored).foldl setEdge net.edges ∧ net'.idx = net.idx ++ es.map (fun x => x.1.id) := by
  revert h
  fun_induction addEdges fl net es with
  | case1 net => rintro ⟨⟩; exact ⟨rfl, (List.append_nil _).symm⟩
  | case2 => nofun
  | case3 net e s t rest net1 h1 ih =>
    intro h
    obtain ⟨he, hi, _⟩ := addEdge_spec fl net net1 e s t h1
    obtain ⟨r1, r2⟩ := ih h
    exact ⟨by rw [r1, he]; rfl, by rw [r2, hi, List.append_assoc]; rfl⟩

theorem attachIndex_frame (fl : α → Int) (net net' : Net α) (res : Option (α × α)) (margin : α)
    (h : attachIndex fl net res margin = .ok net') :
    net'.edges = net.edges ∧ net'.idx = net.idx ∧ net'.nodes = net.nodes := by
  revert h
  fun_cases attachIndex fl net res margin
  · nofun
  · rintro ⟨⟩; exact ⟨rfl, rfl, rfl⟩

/-- what `buildNet` leaves in `EDGES` and `__idx_edges` (`addEdge` for every edge, the index attached before the last `late`
ones), whatever the ids -/
theorem buildNet_spec (fl : α → Int) (es : List (EdgeIn α × Node α × Node α)) (late : Nat) (res : Option (α × α))
    (margin : α) (net : Net α) (h : buildNet fl es late res margin = .ok net) :
    net.edges = (es.map stored).foldl setEdge [] ∧ net.idx = es.map (fun x => x.1.id) := by
  revert h
  fun_cases buildNet fl es late res margin
  case case3 m net1 h1 net2 h2 =>
    intro h
    obtain ⟨a1, a2⟩ := addEdges_edges fl _ _ _ h1
    obtain ⟨b1, b2, _⟩ := attachIndex_frame fl net1 net2 res margin h2
    obtain ⟨c1, c2⟩ := addEdges_edges fl _ _ _ h
    constructor
    · rw [c1, b1, a1, ← List.foldl_append, ← List.map_append, List.take_append_drop]; rfl
    · rw [c2, b2, a2, List.append_assoc, ← List.map_append, List.take_append_drop]; rfl
  all_goals nofun

theorem buildNet_edges (fl : α → Int) (es : List (EdgeIn α × Node α × Node α)) (late : Nat) (res : Option (α × α))
    (margin : α) (net : Net α) (hnd : (es.map (fun x => x.1.id)).Nodup) (h : buildNet fl es late res margin = .ok net) :
    netEdges net = es.map (fun x => (⟨x.1.geom, x.1.curv⟩ : Edge α)) := by
  obtain ⟨he, hi⟩ := buildNet_spec fl es late res margin net h
  have := readout_foldl_dictSet (fun x : NEdge α => x.e.id) (fun ne => (⟨ne.e.geom, ne.e.curv⟩ : Edge α)) (es.map stored)
    (by rw [List.map_map]; exact hnd)
  rw [List.map_map, List.map_map] at this
  unfold netEdges
  rw [hi, he]
  exact this

end

section
variable {α : Type} [Add α] [Sub α] [Mul α] [Div α] [Neg α] [LT α] [LE α]
  [DecidableLT α] [DecidableLE α] [OfNat α 0] [OfNat α 1] [IntCast α]

theorem allStatesNet_eq (sqrt : α → α) (fl : α → Int) (eps radius : α) (net : Net α) :
    ∀ track, allStatesNet sqrt fl eps radius net track =
      travE (fun o => obsStatesNet sqrt fl eps radius net o.pos) track :=
  Common.eq_mapM rfl fun o os => by
    rw [allStatesNet]
    cases obsStatesNet sqrt fl eps radius net o.pos <;> [rfl; (cases allStatesNet sqrt fl eps radius net os <;> rfl)]

theorem obsStatesNet_ok {sqrt : α → α} {fl : α → Int} {eps radius : α} {net : Net α} {pos : α × α} {l : List (State α)}
    (h : obsStatesNet sqrt fl eps radius net pos = .ok l) :
    ∃ cand, candidatesOf fl radius net pos = .ok cand ∧ obsStates sqrt eps radius (netEdges net) pos cand = .ok l := by
  revert h
  fun_cases obsStatesNet sqrt fl eps radius net pos
  case case3 cand hc l' ho => rintro ⟨⟩; exact ⟨cand, hc, ho⟩
  all_goals nofun

/-- the loop of the front end is `loopE`: the result at position `j` is the result of `__mapOnNetwork` on the `j`-th track ALONE
(nothing is carried from one track to the next: `STATES` is rebuilt for each), and with no exception every track has its
result (`loopE_get`, `loopE_complete`) -/
theorem mapOnNetworkFront_eq (sqrt : α → α) (fl : α → Int) (eps : α) (net : Net α) (dec : Decoder α) (a : Args α)
    (tracks : TracksArg α) :
    mapOnNetworkFront sqrt fl eps net dec a tracks = loopE (matchOne sqrt fl eps net dec a) tracks.toList :=
  eq_loopE rfl (fun t ts => by rw [matchLoop]; cases matchOne sqrt fl eps net dec a t <;> rfl) _

end

section
variable {α : Type} [Field α] [LinearOrder α] [IsStrictOrderedRing α]

theorem addNode_new (net : Net α) (n : Node α) (h : lookupNode net n.id = none) :
    lookupNode (addNode net n) n.id = some n := by
  unfold addNode
  rw [if_neg (Bool.eq_false_iff.mp ((Common.find?_key_eq_none (fun x : Node α => x.id)).mp h))]
  exact (find?_append_single (fun x : Node α => x.id) net.nodes n n.id).trans
    (by rw [show List.find? _ net.nodes = _ from h, beq_self_eq_true]; rfl)

theorem allStatesNet_matched {sqrt : α → α} (hs : SqrtSpec sqrt) (fl : α → Int) (eps radius : α) (net : Net α)
    (hcurv : ∀ eg ∈ netEdges net, eg.curv = absCurv sqrt eg.geom)
    (track : List (Obs α)) (ss : List (List (State α))) (h : allStatesNet sqrt fl eps radius net track = .ok ss) :
    ss.length = track.length ∧
    ∀ (k : Nat) (o : Obs α) (l : List (State α)), track[k]? = some o → ss[k]? = some l →
      l = [flag o.pos] ∨ (l ≠ [] ∧ ∀ s ∈ l, Matched sqrt radius (netEdges net) o.pos s) := by
  rw [allStatesNet_eq] at h
  obtain ⟨len, pt⟩ := travE_ok h
  refine ⟨len, fun k o l hk hl => ?_⟩
  obtain ⟨cand, _, ho⟩ := obsStatesNet_ok (pt k o l hk hl)
  exact obsStates_matched hs eps radius (netEdges net) hcurv o.pos cand l ho

end

section
variable {α : Type}

/-- the track `__mapOnNetwork` works on: the `obs_noise` column is created, filled with `gps_noise`, when it is absent -/
def withNoise (a : Args α) (t : TrackS α) : TrackS α :=
  if t.names.contains "obs_noise" then t
  else { t with names := t.names ++ ["obs_noise"], noise := t.obs.map (fun _ => a.gpsNoise) }

theorem withNoise_fields (a : Args α) (t : TrackS α) :
    (withNoise a t).obs = t.obs ∧ (withNoise a t).names = addName t.names "obs_noise" ∧
    (withNoise a t).noise = (if t.names.contains "obs_noise" then t.noise else t.obs.map (fun _ => a.gpsNoise)) := by
  unfold withNoise addName; split <;> exact ⟨rfl, rfl, rfl⟩

variable [Field α] [LinearOrder α]

/-- `__mapOnNetwork` with its local definitions named and the position write of mode 1 (there is none) removed -/
theorem matchOne_eq (sqrt : α → α) (fl : α → Int) (eps : α) (net : Net α) (dec : Decoder α) (a : Args α) (t : TrackS α) :
    matchOne sqrt fl eps net dec a t =
      if t.obs.isEmpty then .error .emptyTrack else
      match allStatesNet sqrt fl eps a.searchRadius net t.obs with
      | .error e => .error e
      | .ok states =>
        match inferAll states (dec net (withNoise a t) states) with
        | .error e => .error (.mm e)
        | .ok inf =>
          .ok ⟨states, inf, { withNoise a t with obs := t.obs,
                                                 names := addName (addName (withNoise a t).names "hmm_inference") "hmm_cost" }⟩ := by
  unfold matchOne
  simp only [← withNoise.eq_1, (withNoise_fields a t).1, newPositions_id 1 rfl]
  split
  · rfl
  · cases allStatesNet sqrt fl eps a.searchRadius net t.obs with
    | error e => rfl
    | ok states => dsimp only; cases inferAll states (dec net (withNoise a t) states) <;> rfl

theorem matchOne_ok {sqrt : α → α} {fl : α → Int} {eps : α} {net : Net α} {dec : Decoder α} {a : Args α} {t : TrackS α}
    {r : ResultN α} (h : matchOne sqrt fl eps net dec a t = .ok r) :
    ∃ states inf, allStatesNet sqrt fl eps a.searchRadius net t.obs = .ok states ∧
      inferAll states (dec net (withNoise a t) states) = .ok inf ∧
      r = ⟨states, inf, { withNoise a t with obs := t.obs,
                                             names := addName (addName (withNoise a t).names "hmm_inference") "hmm_cost" }⟩ := by
  rw [matchOne_eq] at h
  split at h
  · cases h
  · cases hst : allStatesNet sqrt fl eps a.searchRadius net t.obs with
    | error e => rw [hst] at h; cases h
    | ok states =>
      rw [hst] at h; dsimp only at h
      cases hinf : inferAll states (dec net (withNoise a t) states) with
      | error e => rw [hinf] at h; cases h
      | ok inf => rw [hinf] at h; cases h; exact ⟨states, inf, rfl, hinf, rfl⟩

variable [IsStrictOrderedRing α]

theorem matchOne_spec {sqrt : α → α} (hs : SqrtSpec sqrt) (fl : α → Int) (eps : α) (net : Net α)
    (hcurv : ∀ eg ∈ netEdges net, eg.curv = absCurv sqrt eg.geom) (dec : Decoder α) (a : Args α) (t : TrackS α)
    (r : ResultN α) (h : matchOne sqrt fl eps net dec a t = .ok r) :
    r.track.obs = t.obs ∧ r.inference.length = t.obs.length ∧
    (∀ (k : Nat) (o : Obs α) (st : State α), t.obs[k]? = some o → r.inference[k]? = some st →
      (∃ l, r.states[k]? = some l ∧ st ∈ l) ∧
      (st = flag o.pos ∨ Matched sqrt a.searchRadius (netEdges net) o.pos st)) := by
  obtain ⟨states, inf, hst, hinf, rfl⟩ := matchOne_ok h
  obtain ⟨len, f⟩ := allStatesNet_matched hs fl eps a.searchRadius net hcurv t.obs states hst
  obtain ⟨len2, g⟩ := inferAll_mem states _ _ hinf
  refine ⟨rfl, len2.trans len, fun k o st hk hst' => ?_⟩
  obtain ⟨l, hl, hm⟩ := g k st hst'
  refine ⟨⟨l, hl, hm⟩, ?_⟩
  rcases f k o l hk hl with hfl | ⟨_, hall⟩
  · rw [hfl] at hm; exact Or.inl (List.mem_singleton.mp hm)
  · exact Or.inr (hall st hm)

end

end TV.MapMatch
