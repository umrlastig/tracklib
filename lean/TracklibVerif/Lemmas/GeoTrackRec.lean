import TracklibVerif.Lemmas.GeoTrack
/-! Helper lemmas for C14: whole-track round trips, the return leg reading any base that denotes the point the forward leg
used — the same base passed again, or the base the track recorded.

`Track.toENUCoords(base)` converts with `base` and records `base.toGeoCoords()`. The return conversions without argument
read the record. The point conversions read a base only through `base.toECEFCoords()` (`ecefToEnu_congr`, …), so the
return through a base `b'` is the return through `base` itself exactly when `b'.toEcef = base.toEcef`. For the record that
is `Recorded T b : geoToEcef T (b.toGeo T) = b.toEcef T`: it holds for every `GeoCoords` base, and for an `ECEFCoords` base
whose closed-form inverse is exact (on the ellipsoid, `recorded_on_ellipsoid`). Valid for every `Trig ℝ` with
`sin² + cos² = 1`. -/
namespace TV.Geo
open Real

variable (T : Trig ℝ)

/-- the point conversions read their base only through `base.toECEFCoords()` -/
theorem ecefToEnu_congr (p : V3 ℝ) (b1 b2 : Base ℝ) (h : b1.toEcef T = b2.toEcef T) :
    ecefToEnu T p b1 = ecefToEnu T p b2 := by
  simp only [ecefToEnu, h]

theorem enuToEcef_congr (q : V3 ℝ) (b1 b2 : Base ℝ) (h : b1.toEcef T = b2.toEcef T) :
    enuToEcef T q b1 = enuToEcef T q b2 := by
  simp only [enuToEcef, h]

theorem geoToEnu_congr (g : V3 ℝ) (b1 b2 : Base ℝ) (h : b1.toEcef T = b2.toEcef T) :
    geoToEnu T g b1 = geoToEnu T g b2 := by
  simp only [geoToEnu, h]

theorem enuToGeo_congr (q : V3 ℝ) (b1 b2 : Base ℝ) (h : b1.toEcef T = b2.toEcef T) :
    enuToGeo T q b1 = enuToGeo T q b2 := by
  simp only [enuToGeo, h]

theorem enuToEcef_ecefToEnu_of (hT : Pyth T) (p : V3 ℝ) (b b' : Base ℝ) (h : b'.toEcef T = b.toEcef T) :
    enuToEcef T (ecefToEnu T p b) b' = p := by
  rw [enuToEcef_congr T _ b' b h, enuToEcef_ecefToEnu' T hT]

theorem enuToGeo_ecefToEnu_of (hT : Pyth T) (p : V3 ℝ) (b b' : Base ℝ) (h : b'.toEcef T = b.toEcef T) :
    enuToGeo T (ecefToEnu T p b) b' = ecefToGeo T p :=
  congrArg (ecefToGeo T) (enuToEcef_ecefToEnu_of T hT p b (.ecef (b'.toEcef T)) h)

/-- the base a whole-track conversion records (`base.toGeoCoords()`) denotes the point that was used -/
def Recorded (b : Base ℝ) : Prop := geoToEcef T (b.toGeo T) = b.toEcef T

/-- an `ECEFCoords` base on the ellipsoid: the closed-form inverse is exact there, so the record is the point used -/
theorem recorded_on_ellipsoid (c : V3 ℝ) (hlon1 : -180 < c.x) (hlon2 : c.x ≤ 180) (hlat1 : -90 < c.y) (hlat2 : c.y < 90)
    (h0 : c.z = 0) : Recorded realTrig (.ecef (geoToEcef realTrig c)) :=
  congrArg (geoToEcef realTrig) (ecefToGeo_geoToEcef_h0' c hlon1 hlon2 hlat1 hlat2 h0)

/-! The four round trips. `arg` is the point base the return leg is given, if any; the base it then reads is `arg`, else the
record `b.toGeoCoords()`, and `h` says that this base denotes the point `b` does: `rfl` when `b` is passed again or `b` is a
`GeoCoords`, `Recorded T b` for the record in general. -/

theorem track_ecef_enu_ecef (hT : Pyth T) (t : Track ℝ) (hk : t.kind = .ecef) (hne : t.pts ≠ []) (b : Base ℝ)
    (arg : Option (Base ℝ)) (h : (arg.getD (.geo (b.toGeo T))).toEcef T = b.toEcef T) :
    (t.toENU T (some (.pt b))).bind (fun u => u.toECEF T (arg.map .pt)) = .ok ⟨.ecef, t.pts, some (.pt (.geo (b.toGeo T)))⟩ := by
  rw [toENU_ecef_pt T t hk hne b]
  exact (toECEF_map T hne _ _ _ arg (fun p => enuToEcef_ecefToEnu_of T hT p b _ h)).trans (by rw [List.map_id'])

theorem track_ecef_enu_geo (hT : Pyth T) (t : Track ℝ) (hk : t.kind = .ecef) (hne : t.pts ≠ []) (b : Base ℝ)
    (arg : Option (Base ℝ)) (h : (arg.getD (.geo (b.toGeo T))).toEcef T = b.toEcef T) :
    (t.toENU T (some (.pt b))).bind (fun u => u.toGeo T (arg.map .pt))
      = .ok ⟨.geo, t.pts.map (ecefToGeo T), some (.pt (.geo (b.toGeo T)))⟩ := by
  rw [toENU_ecef_pt T t hk hne b]
  exact toGeo_map T hne _ _ _ arg (fun p => enuToGeo_ecefToEnu_of T hT p b _ h)

theorem track_geo_enu_ecef (hT : Pyth T) (t : Track ℝ) (hk : t.kind = .geo) (hne : t.pts ≠ []) (b : Base ℝ)
    (arg : Option (Base ℝ)) (h : (arg.getD (.geo (b.toGeo T))).toEcef T = b.toEcef T) :
    (t.toENU T (some (.pt b))).bind (fun u => u.toECEF T (arg.map .pt))
      = .ok ⟨.ecef, t.pts.map (geoToEcef T), some (.pt (.geo (b.toGeo T)))⟩ := by
  rw [toENU_geo_pt T t hk hne b]
  exact toECEF_map T hne _ _ _ arg (fun g => enuToEcef_ecefToEnu_of T hT _ (.ecef (b.toEcef T)) _ h)

theorem track_geo_enu_geo (hT : Pyth T) (t : Track ℝ) (hk : t.kind = .geo) (hne : t.pts ≠ []) (b : Base ℝ)
    (arg : Option (Base ℝ)) (h : (arg.getD (.geo (b.toGeo T))).toEcef T = b.toEcef T) :
    (t.toENU T (some (.pt b))).bind (fun u => u.toGeo T (arg.map .pt))
      = .ok ⟨.geo, t.pts.map (fun g => ecefToGeo T (geoToEcef T g)), some (.pt (.geo (b.toGeo T)))⟩ := by
  rw [toENU_geo_pt T t hk hne b]
  exact toGeo_map T hne _ _ _ arg (fun g => enuToGeo_ecefToEnu_of T hT _ (.ecef (b.toEcef T)) _ h)

/-- ECEF track → ENU (any point base) → ECEF *without* argument, as the code does it: every position goes forth with the
base and back with the record -/
theorem track_ecef_enu_ecef_rec (t : Track ℝ) (hk : t.kind = .ecef) (hne : t.pts ≠ []) (b : Base ℝ) :
    (t.toENU T (some (.pt b))).bind (fun u => u.toECEF T none)
      = .ok ⟨.ecef, t.pts.map (fun p => enuToEcef T (ecefToEnu T p b) (.geo (b.toGeo T))), some (.pt (.geo (b.toGeo T)))⟩ := by
  rw [toENU_ecef_pt T t hk hne b]
  exact toECEF_map T hne _ _ _ none (fun _ => rfl)

end TV.Geo
