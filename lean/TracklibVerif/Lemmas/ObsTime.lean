import TracklibVerif.Model.ObsTime
/-! The integer model. The year and month loops of `readUnixSec` keep the instant (`yearLoop_spec`, `monthLoop_spec`), hence
`readUnix_spec`; the field-wise `lt` is total and monotone into `toAbsSec` (`lt_trichotomy`, `lt_imp`), hence injectivity,
`readUnix_toAbs` and `lt_iff`, and the same on millisecond stamps. Last, `dayNo` in closed form (`dayNo_civil`). -/
namespace TV.ObsTime

theorem yearDays_ge (y : Nat) : 365 ≤ yearDays y := by unfold yearDays; split <;> omega
theorem yearDays_le (y : Nat) : yearDays y ≤ 366 := by unfold yearDays; split <;> omega
theorem dby_succ (k : Nat) : daysBeforeYear (k+1) = daysBeforeYear k + yearDays (1970 + k) := rfl
theorem dbm_succ (y m : Nat) : daysBeforeMonth y (m+1) = daysBeforeMonth y m + monthDays y m := rfl
theorem monthDays_pos (y m : Nat) : 28 ≤ monthDays y m := by
  unfold monthDays; split <;> try omega
  split <;> omega
theorem monthDays_le (y m : Nat) : monthDays y m ≤ 31 := by
  unfold monthDays; split <;> try omega
  split <;> omega
theorem monthDays_congr {y y' : Nat} (h : isLeap y = isLeap y') (m : Nat) : monthDays y m = monthDays y' m := by
  unfold monthDays; rw [h]

theorem dbm_congr {y y' : Nat} (h : isLeap y = isLeap y') (k : Nat) : daysBeforeMonth y k = daysBeforeMonth y' k := by
  induction k with
  | zero => rfl
  | succ k ih => rw [dbm_succ, dbm_succ, ih, monthDays_congr h]

theorem dbm_twelve (y : Nat) : daysBeforeMonth y 12 = yearDays y := by
  unfold yearDays
  cases hl : isLeap y
  · exact dbm_congr (y' := 1970) hl 12
  · exact dbm_congr (y' := 1972) hl 12

/-- the year loop keeps the instant: the remainder plus the seconds before the year reached -/
theorem yearLoop_spec (fuel k rem : Nat) (hf : rem / (365 * 86400) < fuel) :
    ∃ j r, yearLoop fuel (1970 + k) rem = (1970 + (k + j), r)
      ∧ rem + daysBeforeYear k * 86400 = daysBeforeYear (k + j) * 86400 + r
      ∧ r < yearDays (1970 + (k + j)) * 86400 := by
  induction fuel generalizing k rem with
  | zero => omega
  | succ f ih =>
    rw [yearLoop]
    by_cases h : rem < yearDays (1970 + k) * 86400
    · rw [if_pos h]; exact ⟨0, rem, rfl, Nat.add_comm _ _, h⟩
    · rw [if_neg h]
      have h365 := yearDays_ge (1970 + k)
      obtain ⟨j, r, h1, h2, h3⟩ := ih (k + 1) (rem - yearDays (1970 + k) * 86400) (by omega)
      rw [Nat.add_right_comm k 1 j] at h1 h2 h3
      rw [dby_succ] at h2
      exact ⟨j + 1, r, h1, show _ = daysBeforeYear (k + j + 1) * 86400 + r by omega, h3⟩

theorem monthLoop_spec (y f m rem : Nat) (hfm : m + f = 12)
    (hr : rem + daysBeforeMonth y m * 86400 < daysBeforeMonth y 12 * 86400) :
    ∃ j r, monthLoop y f m rem = (m + j, r) ∧ m + j < 12
      ∧ rem + daysBeforeMonth y m * 86400 = daysBeforeMonth y (m + j) * 86400 + r
      ∧ r < monthDays y (m + j) * 86400 := by
  induction f generalizing m rem with
  | zero => subst hfm; omega
  | succ f ih =>
    rw [monthLoop]
    by_cases h : rem < monthDays y m * 86400
    · rw [if_pos h]; exact ⟨0, rem, rfl, by omega, Nat.add_comm _ _, h⟩
    · rw [if_neg h]
      obtain ⟨j, r, h1, h2, h3, h4⟩ := ih (m + 1) (rem - monthDays y m * 86400) (by omega) (by rw [dbm_succ]; omega)
      rw [Nat.add_right_comm m 1 j] at h1 h2 h3 h4
      rw [dbm_succ] at h3
      exact ⟨j + 1, r, h1, h2, show _ = daysBeforeMonth y (m + j + 1) * 86400 + r by omega, h4⟩

theorem readUnixSec_proj (s : Nat) :
    readUnixSec s =
      let Y := yearLoop (s / (365 * 86400) + 1) 1970 s
      let M := monthLoop Y.1 12 0 Y.2
      ⟨Y.1, M.1 + 1, M.2 / 86400 + 1, M.2 % 86400 / 3600, M.2 % 3600 / 60, M.2 % 60⟩ := by
  simp only [readUnixSec, Nat.add_sub_cancel, ← Nat.mod_eq_sub_div_mul, Nat.mod_mod_of_dvd _ (by decide : 3600 ∣ 86400),
    Nat.mod_mod_of_dvd _ (by decide : 60 ∣ 3600)]

/-- C03-T1/T2: every instant reads back as a well-formed date denoting the same instant -/
theorem readUnix_spec (s : Nat) : WF (readUnixSec s) ∧ toAbsSec (readUnixSec s) = s := by
  obtain ⟨j, r, hy1, hy2, hy3⟩ := yearLoop_spec (s / (365 * 86400) + 1) 0 s (by omega)
  simp only [Nat.add_zero, daysBeforeYear, Nat.zero_mul, Nat.zero_add] at hy1 hy2 hy3
  have hr12 : r + daysBeforeMonth (1970 + j) 0 * 86400 < daysBeforeMonth (1970 + j) 12 * 86400 := by
    rw [dbm_twelve, daysBeforeMonth]; omega
  obtain ⟨m, r2, hm1, hm2, hm3, hm4⟩ := monthLoop_spec (1970 + j) 12 0 r (by omega) hr12
  simp only [Nat.zero_add, daysBeforeMonth, Nat.zero_mul, Nat.add_zero] at hm1 hm2 hm3 hm4
  have hmd := monthDays_le (1970 + j) m
  rw [readUnixSec_proj]
  simp only [hy1, hm1, WF, toAbsSec, Nat.add_sub_cancel_left, Nat.add_sub_cancel]
  omega

theorem dby_strict {a b : Nat} (h : a < b) : daysBeforeYear a + yearDays (1970 + a) ≤ daysBeforeYear b := by
  induction h with
  | refl => exact Nat.le_refl _
  | step _ ih => rw [dby_succ]; omega
theorem dbm_strict (y : Nat) {a b : Nat} (h : a < b) : daysBeforeMonth y a + monthDays y a ≤ daysBeforeMonth y b := by
  induction h with
  | refl => exact Nat.le_refl _
  | step _ ih => rw [dbm_succ]; omega

theorem doy_lt (d : Date) (h : WF d) :
    daysBeforeMonth d.year (d.month - 1) + (d.day - 1) < yearDays d.year := by
  obtain ⟨_, h2, h3, h4, h5, _⟩ := h
  have := dbm_strict d.year (show d.month - 1 < 12 by omega)
  rw [dbm_twelve] at this; omega

def dayNo (d : Date) : Nat := daysBeforeYear (d.year - 1970) + (daysBeforeMonth d.year (d.month - 1) + (d.day - 1))

theorem toAbs_split (d : Date) : toAbsSec d = dayNo d * 86400 + (d.hour * 3600 + d.min * 60 + d.sec) := by
  unfold toAbsSec dayNo; simp [Nat.add_assoc]

/-- one rung of a field-by-field comparison: the first field that differs decides -/
theorem rung {β : Type} [DecidableEq β] (x y : β) (p r : Bool) :
    (if x != y then p else r) = true ↔ (x ≠ y ∧ p = true) ∨ (x = y ∧ r = true) := by
  by_cases h : x = y <;> simp [h]

/-- trichotomy passes through a rung -/
theorem rung_tri {x y : Nat} {r r' : Bool} {P : Prop} (h : r = true ∨ P ∨ r' = true) :
    (if x != y then decide (x < y) else r) = true ∨ (x = y ∧ P)
      ∨ (if y != x then decide (y < x) else r') = true := by
  rcases Nat.lt_trichotomy x y with hxy | rfl | hxy
  · left; simp [Nat.ne_of_lt hxy, hxy]
  · simpa using h
  · right; right; simp [Nat.ne_of_lt hxy, hxy]

/-- a rung put under the last one: the longer cascade is the shorter one, or equality so far and `Q` -/
theorem rung_ext {β : Type} [DecidableEq β] {x y : β} {p r r' : Bool} {Q : Prop} (h : r' = true ↔ r = true ∨ Q) :
    (if x != y then p else r') = true ↔ (if x != y then p else r) = true ∨ (x = y ∧ Q) := by
  by_cases hxy : x = y <;> simp [hxy, h]

theorem lt_trichotomy (d1 d2 : Date) : lt d1 d2 = true ∨ d1 = d2 ∨ lt d2 d1 = true := by
  cases d1; cases d2
  simp only [Date.mk.injEq]
  exact rung_tri (rung_tri (rung_tri (rung_tri (rung_tri (by simpa using Nat.lt_trichotomy _ _)))))

theorem lt_imp (d1 d2 : Date) (h1 : WF d1) (h2 : WF d2) (h : lt d1 d2 = true) : toAbsSec d1 < toAbsSec d2 := by
  have l1 := doy_lt d1 h1
  obtain ⟨a1, a2, a3, a4, a5, a6, a7, a8⟩ := h1
  obtain ⟨b1, b2, b3, b4, b5, b6, b7, b8⟩ := h2
  simp only [lt, rung, decide_eq_true_eq] at h
  rw [toAbs_split, toAbs_split]
  unfold dayNo
  rcases h with ⟨-, hy⟩ | ⟨hy, ⟨-, hm⟩ | ⟨hm, h⟩⟩
  · -- an earlier year: the whole of it lies in between
    have := dby_strict (show d1.year - 1970 < d2.year - 1970 by omega)
    rw [Nat.add_sub_cancel' a1] at this
    omega
  · -- the same year, an earlier month
    have := dbm_strict d2.year (show d1.month - 1 < d2.month - 1 by omega)
    rw [hy] at a5 ⊢
    omega
  · -- the same month: day, hour, minute, second are the digits of a mixed-radix number
    rw [hy, hm]
    omega

theorem toAbs_inj (d1 d2 : Date) (h1 : WF d1) (h2 : WF d2) (h : toAbsSec d1 = toAbsSec d2) : d1 = d2 := by
  rcases lt_trichotomy d1 d2 with hl | he | hg
  · have := lt_imp d1 d2 h1 h2 hl; omega
  · exact he
  · have := lt_imp d2 d1 h2 h1 hg; omega

/-- C03-T3: calendar → seconds → calendar is the identity on well-formed dates -/
theorem readUnix_toAbs (d : Date) (h : WF d) : readUnixSec (toAbsSec d) = d := by
  obtain ⟨hw, he⟩ := readUnix_spec (toAbsSec d)
  exact toAbs_inj _ _ hw h he

/-- C03-T5: `t1 < t2` on well-formed timestamps is `<` on their seconds since 1970 -/
theorem lt_iff (d1 d2 : Date) (h1 : WF d1) (h2 : WF d2) : lt d1 d2 = true ↔ toAbsSec d1 < toAbsSec d2 := by
  refine ⟨lt_imp d1 d2 h1 h2, fun h => ?_⟩
  rcases lt_trichotomy d1 d2 with hl | he | hg
  · exact hl
  · subst he; omega
  · have := lt_imp d2 d1 h2 h1 hg; omega

theorem ltS_iff_lt (a b : Stamp) : ltS a b = true ↔ lt a.d b.d = true ∨ (a.d = b.d ∧ a.ms < b.ms) := by
  obtain ⟨⟨⟩, _⟩ := a
  obtain ⟨⟨⟩, _⟩ := b
  simp only [Date.mk.injEq, and_assoc]
  exact rung_ext (rung_ext (rung_ext (rung_ext (rung_ext (by simp only [rung, decide_eq_true_eq]; omega)))))

theorem gtS_eq_ltS (a b : Stamp) : gtS a b = ltS b a := by
  unfold gtS ltS
  rw [bne_comm (a := a.d.year), bne_comm (a := a.d.month), bne_comm (a := a.d.day), bne_comm (a := a.d.hour),
    bne_comm (a := a.d.min), bne_comm (a := a.d.sec)]

theorem eqS_iff (a b : Stamp) : eqS a b = true ↔ a = b := by
  obtain ⟨⟨⟩, _⟩ := a
  obtain ⟨⟨⟩, _⟩ := b
  simp only [eqS, rung, Bool.false_eq_true, and_false, false_or, and_true, Stamp.mk.injEq, Date.mk.injEq]
  omega

theorem toAbsMs_inj (a b : Stamp) (ha : WFs a) (hb : WFs b) (h : toAbsMs a = toAbsMs b) : a = b := by
  cases a with | mk da ma =>
  cases b with | mk db mb =>
  obtain ⟨ha1, ha2⟩ := ha
  obtain ⟨hb1, hb2⟩ := hb
  unfold toAbsMs at h
  simp only at ha1 ha2 hb1 hb2 h
  have e1 : toAbsSec da = toAbsSec db := by omega
  have e2 : ma = mb := by omega
  rw [toAbs_inj da db ha1 hb1 e1, e2]

theorem ltS_iff_lex (a b : Stamp) : ltS a b = true ↔
    a.d.year < b.d.year ∨ (a.d.year = b.d.year ∧ (a.d.month < b.d.month ∨ (a.d.month = b.d.month ∧
    (a.d.day < b.d.day ∨ (a.d.day = b.d.day ∧ (a.d.hour < b.d.hour ∨ (a.d.hour = b.d.hour ∧
    (a.d.min < b.d.min ∨ (a.d.min = b.d.min ∧ (a.d.sec < b.d.sec ∨ (a.d.sec = b.d.sec ∧ a.ms < b.ms))))))))))) := by
  simp only [ltS, rung, decide_eq_true_eq, and_iff_right_of_imp Nat.ne_of_lt]

theorem ltS_iff (a b : Stamp) (ha : WFs a) (hb : WFs b) : ltS a b = true ↔ toAbsMs a < toAbsMs b := by
  obtain ⟨ha1, ha2⟩ := ha
  obtain ⟨hb1, hb2⟩ := hb
  rw [ltS_iff_lt, lt_iff a.d b.d ha1 hb1]
  unfold toAbsMs
  constructor
  · rintro (h | ⟨h1, h2⟩)
    · omega
    · rw [h1]; omega
  · intro h
    by_cases hlt : toAbsSec a.d < toAbsSec b.d
    · exact Or.inl hlt
    · exact Or.inr ⟨toAbs_inj _ _ ha1 hb1 (by omega), by omega⟩

theorem WFs_readUnixMs (t : Nat) : WFs (readUnixMs t) :=
  ⟨(readUnix_spec (t / 1000)).1, Nat.mod_lt _ (by omega)⟩

theorem toAbsMs_readUnixMs (t : Nat) : toAbsMs (readUnixMs t) = t := by
  have h := (readUnix_spec (t / 1000)).2
  unfold toAbsMs readUnixMs
  simp only [h]
  omega

theorem readUnixMs_toAbsMs (s : Stamp) (h : WFs s) : readUnixMs (toAbsMs s) = s :=
  toAbsMs_inj _ _ (WFs_readUnixMs _) h (toAbsMs_readUnixMs _)

theorem isLeap_iff (y : Nat) : isLeap y = true ↔ (y % 4 = 0 ∧ (y % 100 ≠ 0 ∨ y % 400 = 0)) := by
  unfold isLeap; simp

/-- the days of the proleptic Gregorian years `1 … Y`: 365 each and the leap days -/
def gregDays (Y : Nat) : Int := 365 * Y + (Y : Int) / 4 - (Y : Int) / 100 + (Y : Int) / 400

/-- the one place where the leap rule meets the three divisions -/
theorem gregDays_succ (Y : Nat) : gregDays (Y + 1) = gregDays Y + yearDays (Y + 1) := by
  unfold gregDays yearDays
  by_cases hl : isLeap (Y + 1) = true
  · have := (isLeap_iff _).1 hl
    rw [if_pos hl]; omega
  · have := mt (isLeap_iff _).2 hl
    rw [if_neg hl]; omega

theorem dby_closed (k : Nat) : (daysBeforeYear k : Int) + gregDays 1969 = gregDays (1969 + k) := by
  induction k with
  | zero => exact Int.zero_add _
  | succ k ih =>
    rw [dby_succ, ← Nat.add_assoc, gregDays_succ (1969 + k), ← ih, show 1970 + k = 1969 + k + 1 by omega]
    omega

/-- the month offsets in the March-based form of the closed formula: January and February are counted from 1 March
of the year before (306 days earlier); the other months have this year's January and February behind them -/
theorem dbm_closed (y m : Nat) (h1 : 1 ≤ m) (h12 : m ≤ 12) :
    daysBeforeMonth y (m - 1) + 306
      = (153 * (if m ≤ 2 then m + 9 else m - 3) + 2) / 5 + (if m ≤ 2 then 0 else yearDays y) := by
  -- the offsets depend on the year only through its being leap or not: a common year and a leap year are evaluated
  have key : ∀ y' ∈ [1970, 1972], ∀ m ∈ List.range 13, 1 ≤ m → daysBeforeMonth y' (m - 1) + 306
      = (153 * (if m ≤ 2 then m + 9 else m - 3) + 2) / 5 + (if m ≤ 2 then 0 else yearDays y') := by decide +kernel
  obtain ⟨y', hy', hl⟩ : ∃ y' ∈ [1970, 1972], isLeap y = isLeap y' := by
    cases hl : isLeap y
    · exact ⟨1970, List.mem_cons_self .., rfl⟩
    · exact ⟨1972, List.mem_cons_of_mem _ (List.mem_cons_self ..), rfl⟩
  rw [dbm_congr hl, show yearDays y = yearDays y' by unfold yearDays; rw [hl]]
  exact key y' hy' m (List.mem_range.2 (by omega)) h1

/-- `civilDays` with the era / year-of-era decomposition undone -/
theorem civilDays_eq (y m d : Nat) (hy : 1 ≤ y) :
    civilDays y m d = gregDays (if m ≤ 2 then y - 1 else y)
      + ((153 * (if m ≤ 2 then m + 9 else m - 3) + 2) / 5 : Nat) + d - 719469 := by
  unfold gregDays
  by_cases hm : m ≤ 2
  · simp only [civilDays, hm, if_true]; omega
  · simp only [civilDays, hm, if_false]; omega

theorem dayNo_civil (d : Date) (h : WF d) : (dayNo d : Int) = civilDays d.year d.month d.day := by
  obtain ⟨h1, h2, h3, h4, -⟩ := h
  obtain ⟨k, hk⟩ : ∃ k, d.year = 1970 + k := ⟨d.year - 1970, by omega⟩
  have hy := dby_closed k
  have hm := dbm_closed d.year d.month h2 h3
  have hs := gregDays_succ (1969 + k)
  have h69 : gregDays 1969 = 719162 := rfl
  rw [civilDays_eq _ _ _ (by omega), dayNo, hk] at *
  rw [show 1970 + k - 1970 = k by omega]
  by_cases hm2 : d.month ≤ 2
  · simp only [hm2, if_true] at hm ⊢
    rw [show 1970 + k - 1 = 1969 + k by omega]; omega
  · simp only [hm2, if_false] at hm ⊢
    rw [show 1970 + k = 1969 + k + 1 by omega] at hm ⊢; omega
end TV.ObsTime
