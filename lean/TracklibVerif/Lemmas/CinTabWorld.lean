import TracklibVerif.Lemmas.CinTabHeap
import TracklibVerif.Lemmas.Features
import TracklibVerif.Lemmas.FeaturesSpec
/-! The `World` of observation objects shared between tracks satisfies the laws of a feature table, for the track
in focus, under the invariant `WInv`: the references of the track are distinct and valid, its dict enumerates
distinct names with distinct indices below its length, and every observation object of the track carries AT LEAST
as many feature slots as the dict lists (it may carry more: slots appended by other tracks that share the object). -/
namespace TV.CinTab
open TV.Features

section
variable {V : Type} [Inhabited V] [AbsTime V]

theorem find_mem {d : List (String × Nat)} {name : String} {idx : Nat} (h : find d name = some idx) : (name, idx) ∈ d := by
  obtain ⟨p, hp, rfl⟩ := Option.map_eq_some_iff.mp h
  rw [← Common.find?_key_some Prod.fst hp]
  exact List.mem_of_find?_eq_some hp

theorem find_none_not_mem {d : List (String × Nat)} {name : String} (h : find d name = none) : name ∉ d.map Prod.fst := by
  intro hm
  have := find_isSome_of_mem d name hm
  rw [h] at this; cases this

theorem find_append_new (d : List (String × Nat)) (name m : String) (k : Nat) (hnew : find d name = none) :
    find (d ++ [(name, k)]) m = if m = name then some k else find d m :=
  Common.assoc_append_new d name k m hnew

structure DInv (d : List (String × Nat)) : Prop where
  names : (d.map Prod.fst).Nodup
  idxs : (d.map Prod.snd).Nodup
  lt : ∀ p ∈ d, p.2 < d.length

theorem snd_inj (d : List (String × Nat)) (hnd : (d.map Prod.snd).Nodup) {a b : String} {i : Nat}
    (ha : (a, i) ∈ d) (hb : (b, i) ∈ d) : a = b :=
  (Prod.mk.inj (Option.some.inj ((Common.find?_of_nodup Prod.snd d hnd (a, i) ha).symm.trans
    (Common.find?_of_nodup Prod.snd d hnd (b, i) hb)))).1

def slot (w : World V) (idx id : Nat) : V := ((w.heap[id]?).bind (·.feats[idx]?)).getD default

/-- what the track in focus reads under a name: the slots its dict designates -/
def wRd (w : World V) (name : String) : Option (List V) :=
  (find w.trk.dico name).map (fun idx => w.trk.ids.map (slot w idx))

/-- coordinates / absolute times of the track in focus -/
def wCo (w : World V) (c : Coord) : List V := w.trk.ids.map (fun id => ((w.heap[id]?).map (·.coord c)).getD default)

def wN (w : World V) : Nat := w.trk.ids.length

structure WInv (w : World V) : Prop where
  cur : w.cur < w.trks.length
  valid : ∀ id ∈ w.trk.ids, id < w.heap.length
  nodup : w.trk.ids.Nodup
  dico : DInv w.trk.dico
  wide : ∀ id ∈ w.trk.ids, ∀ ob, w.heap[id]? = some ob → w.trk.dico.length ≤ ob.feats.length

end

section
variable {V : Type}

theorem trk_setDico (w : World V) (d : List (String × Nat)) (hc : w.cur < w.trks.length) :
    (w.setDico d).trk = { w.trk with dico := d } := by
  unfold World.trk World.setDico
  simp only [List.getD_eq_getElem?_getD, List.getElem?_modify_eq]
  rw [List.getElem?_eq_getElem hc]
  rfl

theorem WInv.obs {w : World V} (h : WInv w) {id : Nat} (hid : id ∈ w.trk.ids) : ∃ ob, w.heap[id]? = some ob :=
  ⟨_, List.getElem?_eq_getElem (h.valid id hid)⟩

theorem WInv.idx_lt {w : World V} (h : WInv w) {name : String} {idx : Nat} (hf : find w.trk.dico name = some idx)
    {id : Nat} (hid : id ∈ w.trk.ids) {ob : WObs V} (hob : w.heap[id]? = some ob) : idx < ob.feats.length :=
  Nat.lt_of_lt_of_le (h.dico.lt _ (find_mem hf)) (h.wide id hid ob hob)

theorem isEmpty_of_wN {w : World V} (hn : 0 < wN w) : w.trk.ids.isEmpty = false := by
  cases hi : w.trk.ids with
  | nil => simp [wN, hi] at hn
  | cons a t => rfl

variable [Inhabited V]

theorem slot_of_obs {w : World V} {idx id : Nat} {ob : WObs V} {v : V} (hob : w.heap[id]? = some ob) (hv : ob.feats[idx]? = some v) :
    slot w idx id = v := by simp [slot, hob, hv]

theorem wRd_eq_some {w : World V} {name : String} {col : List V} (h : wRd w name = some col) :
    ∃ idx, find w.trk.dico name = some idx ∧ w.trk.ids.map (slot w idx) = col :=
  Option.map_eq_some_iff.mp h

theorem wRd_eq_none {w : World V} {name : String} (h : wRd w name = none) : find w.trk.dico name = none :=
  Option.map_eq_none_iff.mp h

variable [AbsTime V]

theorem w_has (w : World V) (name : String) (_h : WInv w) (hr : reserved name = false) :
    (Tbl.has name : M (World V) Bool) w = (.ok (wRd w name).isSome, w) := by
  show (Except.ok (hasW w name), w) = _
  simp [hasW, hr, wRd]

theorem w_getObs_coord (o : Ops V) (w : World V) (c : Coord) (i : Nat) (v : V) (h : WInv w) (hv : (wCo w c)[i]? = some v) :
    (Tbl.getObs o (cnm c) i : M (World V) V) w = (.ok v, w) := by
  show getObsW o (cnm c) i w = _
  unfold getObsW
  simp only [coord?_cnm]
  simp only [wCo, List.getElem?_map] at hv
  cases hid : w.trk.ids[i]? with
  | none => rw [hid] at hv; cases hv
  | some id =>
    rw [hid] at hv
    obtain ⟨ob, hob⟩ := h.obs (List.mem_of_getElem? hid)
    have : w.obs? i = some ob := by simp [World.obs?, hid, hob]
    rw [this]
    simp only [Option.map_some, hob, Option.getD_some] at hv
    rw [← Option.some.inj hv]

theorem w_getObs_feat (o : Ops V) (w : World V) (name : String) (col : List V) (i : Nat) (v : V) (h : WInv w)
    (hr : reserved name = false) (hrd : wRd w name = some col) (hv : col[i]? = some v) :
    (Tbl.getObs o name i : M (World V) V) w = (.ok v, w) := by
  obtain ⟨h1, h2, h3⟩ := coord?_of_not_reserved hr
  show getObsW o name i w = _
  unfold getObsW
  simp only [h1, h2, h3, Bool.false_eq_true, if_false]
  obtain ⟨idx, hf, hrd⟩ := wRd_eq_some hrd
  simp only [hf]
  rw [← hrd, List.getElem?_map] at hv
  cases hid : w.trk.ids[i]? with
  | none => rw [hid] at hv; cases hv
  | some id =>
    rw [hid] at hv
    have hmem := List.mem_of_getElem? hid
    obtain ⟨ob, hob⟩ := h.obs hmem
    have hlt := h.idx_lt hf hmem hob
    have : w.obs? i = some ob := by simp [World.obs?, hid, hob]
    simp only [this, List.getElem?_eq_getElem hlt]
    rw [← Option.some.inj hv, slot_of_obs (w := w) hob (List.getElem?_eq_getElem hlt)]

theorem w_get_feat (o : Ops V) (w : World V) (name : String) (col : List V) (h : WInv w)
    (hr : reserved name = false) (hrd : wRd w name = some col) :
    (Tbl.get o name : M (World V) (List V)) w = (.ok col, w) := by
  obtain ⟨h1, h2, h3⟩ := coord?_of_not_reserved hr
  obtain ⟨idx, hf, hrd⟩ := wRd_eq_some hrd
  show getW o name w = _
  unfold getW
  simp only [h1, h2, h3, Bool.false_eq_true, if_false, hf]
  have hm := Common.mapM_some_of_forall (f := fun id => (w.heap[id]?).bind (fun x => x.feats[idx]?)) (g := slot w idx) (l := w.trk.ids) (fun id hid => by
    obtain ⟨ob, hob⟩ := h.obs hid
    have hlt := h.idx_lt hf hid hob
    rw [slot_of_obs (w := w) hob (List.getElem?_eq_getElem hlt)]
    simp [hob, List.getElem?_eq_getElem hlt])
  simp only [hm, hrd]

/-! ### writes

A write through the Track API changes the `features` lists of the objects of the track in focus and, for
`createAnalyticalFeature` / `removeAnalyticalFeature`, installs a new dict: `Edits`. What the track reads afterwards
(`Edits.wRd`, `Edits.wCo`) and that the invariant holds again (`Edits.winv`) is proved once; `create` and `remove` make the same
change `φ` to every object (`World.upd`), `setObsAnalyticalFeature` changes one. -/

omit [Inhabited V] in
theorem coord_feats (ob : WObs V) (fs : List V) (c : Coord) : ({ ob with feats := fs } : WObs V).coord c = ob.coord c := by
  cases c <;> rfl

/-- `w'` is `w` after a write through the track in focus: its dict is now `d`, the `features` list of its object `id` went
through `ψ id`; its references are what they were -/
structure Edits (w w' : World V) (ψ : Nat → List V → List V) (d : List (String × Nat)) : Prop where
  cur : w'.cur < w'.trks.length
  trk : w'.trk = { w.trk with dico := d }
  heap : ∀ {id : Nat}, id ∈ w.trk.ids → ∀ {ob : WObs V}, w.heap[id]? = some ob →
    w'.heap[id]? = some { ob with feats := ψ id ob.feats }

end

namespace Edits
variable {V : Type} {w w' : World V} {ψ : Nat → List V → List V} {d : List (String × Nat)} (h : WInv w) (E : Edits w w' ψ d)
include E

section
include h

theorem winv (hd : DInv d)
    (hlen : ∀ id ∈ w.trk.ids, ∀ fs : List V, w.trk.dico.length ≤ fs.length → d.length ≤ (ψ id fs).length) : WInv w' := by
  refine ⟨E.cur, ?_, ?_, ?_, ?_⟩
  · rw [E.trk]
    intro id hid
    obtain ⟨ob, hob⟩ := h.obs hid
    exact (List.getElem?_eq_some_iff.mp (E.heap hid hob)).1
  · rw [E.trk]; exact h.nodup
  · rw [E.trk]; exact hd
  · rw [E.trk]
    intro id hid ob' hob'
    obtain ⟨ob, hob⟩ := h.obs hid
    rw [E.heap hid hob] at hob'
    rw [← Option.some.inj hob']
    exact hlen id hid ob.feats (h.wide id hid ob hob)

end

variable [Inhabited V]

theorem slot {id : Nat} (hid : id ∈ w.trk.ids) {ob : WObs V} (hob : w.heap[id]? = some ob) (k : Nat) :
    CinTab.slot w' k id = ((ψ id ob.feats)[k]?).getD default := by
  unfold CinTab.slot
  rw [E.heap hid hob]
  rfl

theorem wRd_find (m : String) : wRd w' m = (find d m).map (fun k => w.trk.ids.map (CinTab.slot w' k)) := by
  unfold CinTab.wRd
  rw [E.trk]

include h

theorem wRd {m : String} (σ : Nat → Nat) (hfd : find d m = (find w.trk.dico m).map σ)
    (hψ : ∀ idx, find w.trk.dico m = some idx → ∀ id ∈ w.trk.ids, ∀ fs : List V, idx < fs.length → (ψ id fs)[σ idx]? = fs[idx]?) :
    CinTab.wRd w' m = CinTab.wRd w m := by
  rw [E.wRd_find, hfd]
  unfold CinTab.wRd
  cases hf : find w.trk.dico m with
  | none => rfl
  | some idx =>
    refine congrArg some (List.map_congr_left (fun id hid => ?_))
    obtain ⟨ob, hob⟩ := h.obs hid
    have hlt := h.idx_lt hf hid hob
    rw [E.slot hid hob, hψ idx hf id hid ob.feats hlt, slot_of_obs (w := w) hob (List.getElem?_eq_getElem hlt),
      List.getElem?_eq_getElem hlt]
    rfl

variable [AbsTime V]

theorem wCo : wCo w' = wCo w := by
  funext c
  unfold CinTab.wCo
  rw [E.trk]
  apply List.map_congr_left
  intro id hid
  obtain ⟨ob, hob⟩ := h.obs hid
  rw [E.heap hid hob, hob]
  simp [coord_feats]

end Edits

section
variable {V : Type} [Inhabited V] [AbsTime V]

def World.upd (w : World V) (φ : List V → List V) (d : List (String × Nat)) : World V :=
  { (w.setDico d) with heap := updAll (fun ob => { ob with feats := φ ob.feats }) w.trk.ids w.heap }

end

section
variable {V : Type}

theorem upd_edits {w : World V} (h : WInv w) (φ : List V → List V) (d : List (String × Nat)) :
    Edits w (w.upd φ d) (fun _ => φ) d where
  cur := by
    show w.cur < (w.trks.modify w.cur _).length
    rw [List.length_modify]; exact h.cur
  trk := trk_setDico w d h.cur
  heap := fun {id} hid {ob} hob => by
    show (updAll _ w.trk.ids w.heap)[id]? = _
    rw [updAll_getElem?_mem _ _ _ _ h.nodup hid, hob]
    rfl

variable [Inhabited V] [AbsTime V]

theorem DInv.append_new {d : List (String × Nat)} (h : DInv d) {name : String} (hf : find d name = none) :
    DInv (d ++ [(name, d.length)]) := by
  refine ⟨?_, ?_, ?_⟩
  · rw [List.map_append, List.nodup_append]
    refine ⟨h.names, by simp, ?_⟩
    intro a ha b hb
    simp only [List.map_cons, List.map_nil, List.mem_cons, List.not_mem_nil, or_false] at hb
    subst hb
    intro e; subst e
    exact find_none_not_mem hf ha
  · rw [List.map_append, List.nodup_append]
    refine ⟨h.idxs, by simp, ?_⟩
    intro a ha b hb
    simp only [List.map_cons, List.map_nil, List.mem_cons, List.not_mem_nil, or_false] at hb
    subst hb
    obtain ⟨p, hp, rfl⟩ := List.mem_map.mp ha
    have := h.lt p hp
    omega
  · intro p hp
    simp only [List.mem_append, List.mem_cons, List.not_mem_nil, or_false, List.length_append, List.length_cons, List.length_nil] at hp ⊢
    rcases hp with hp | rfl
    · have := h.lt p hp; omega
    · simp

theorem w_create_new (w : World V) (name : String) (v : V) (h : WInv w) (hr : reserved name = false)
    (hrd : wRd w name = none) (hn : 0 < wN w) :
    ∃ w' col, (Tbl.create name (.scalar v) : M (World V) Unit) w = (.ok (), w') ∧ WInv w' ∧ wRd w' name = some col
      ∧ wN w' = wN w ∧ (∀ m, m ≠ name → wRd w' m = wRd w m) ∧ wCo w' = wCo w := by
  have hf := wRd_eq_none hrd
  let d' := w.trk.dico ++ [(name, w.trk.dico.length)]
  let φ : List V → List V := fun fs => fs ++ [v]
  have hfind' : ∀ m, find d' m = if m = name then some w.trk.dico.length else find w.trk.dico m :=
    fun m => find_append_new _ _ _ _ hf
  have E := upd_edits h φ d'
  refine ⟨w.upd φ d', w.trk.ids.map (slot (w.upd φ d') w.trk.dico.length), ?_,
    E.winv h (h.dico.append_new hf) (fun _ _ fs hfs => by simp [d', φ]; exact hfs), ?_, congrArg (·.ids.length) E.trk,
    fun m hm => ?_, E.wCo h⟩
  · show createW name (.scalar v) w = _
    unfold createW
    simp only [hr, isEmpty_of_wN hn, hasW, hf, Option.isSome_none, Bool.or_false, Bool.false_eq_true, if_false]
    rfl
  · rw [E.wRd_find, hfind' name, if_pos rfl]
    rfl
  · exact E.wRd h (fun k => k) (by rw [hfind' m, if_neg hm, Option.map_id']) (fun _ _ _ _ _ hlt => List.getElem?_append_left hlt)

theorem w_create_old (w : World V) (name : String) (v : V) (col : List V) (_h : WInv w) (hr : reserved name = false)
    (hrd : wRd w name = some col) (hn : 0 < wN w) :
    (Tbl.create name (.scalar v) : M (World V) Unit) w = (.ok (), w) := by
  obtain ⟨idx, hf, _⟩ := wRd_eq_some hrd
  show createW name (.scalar v) w = _
  unfold createW
  simp only [hr, isEmpty_of_wN hn, hasW, hf, Option.isSome_some, Bool.or_false, Bool.false_eq_true, if_false, if_true]

theorem w_setObs (w : World V) (name : String) (col : List V) (i : Nat) (v : V) (h : WInv w) (hr : reserved name = false)
    (hrd : wRd w name = some col) (hi : i < wN w) :
    ∃ w', (Tbl.setObs name i v : M (World V) Unit) w = (.ok (), w') ∧ WInv w' ∧ wRd w' name = some (col.set i v)
      ∧ wN w' = wN w ∧ (∀ m, m ≠ name → wRd w' m = wRd w m) ∧ wCo w' = wCo w := by
  obtain ⟨idx, hf, hrd⟩ := wRd_eq_some hrd
  have hi' : i < w.trk.ids.length := hi
  have hid : w.trk.ids[i]? = some w.trk.ids[i] := List.getElem?_eq_getElem hi'
  have hmem : w.trk.ids[i] ∈ w.trk.ids := List.mem_of_getElem? hid
  obtain ⟨ob, hob⟩ := h.obs hmem
  have hlt := h.idx_lt hf hmem hob
  let id := w.trk.ids[i]
  let ψ : Nat → List V → List V := fun j fs => if j = id then fs.set idx v else fs
  let w' : World V := { w with heap := w.heap.set id { ob with feats := ob.feats.set idx v } }
  have E : Edits w w' ψ w.trk.dico := ⟨h.cur, rfl, fun {j} _ {o} ho => by
    show (w.heap.set id _)[j]? = _
    rw [List.getElem?_set]
    by_cases hji : id = j
    · subst hji
      rw [if_pos rfl, if_pos (h.valid _ hmem), Option.some.inj (ho.symm.trans hob)]
      exact congrArg some (by simp [ψ])
    · rw [if_neg hji, ho]
      exact congrArg some (by simp [ψ, Ne.symm hji])⟩
  have hxyz : reserved name = false := hr
  unfold reserved at hxyz
  simp only [Bool.or_eq_false_iff] at hxyz
  obtain ⟨⟨⟨⟨⟨hx, hy⟩, hz⟩, _⟩, _⟩, _⟩ := hxyz
  refine ⟨w', ?_, E.winv h h.dico (fun j _ fs hfs => ?_), ?_, rfl, fun m hm => ?_, E.wCo h⟩
  · show setObsW name i v w = _
    unfold setObsW writeSlot
    simp only [hx, hy, hz, Bool.or_false, Bool.false_eq_true, if_false, hf, hid, hob, hlt, if_true]
    rfl
  · show _ ≤ (if j = id then fs.set idx v else fs).length
    split
    · rw [List.length_set]; exact hfs
    · exact hfs
  · -- the column of `name`: the slot of fix `i` is the new value, the other fixes are other objects
    rw [E.wRd_find, hf, ← hrd]
    refine congrArg some (List.ext_getElem? fun j => ?_)
    rw [List.getElem?_map, List.getElem?_set, List.getElem?_map]
    by_cases hj : i = j
    · subst hj
      rw [if_pos rfl, List.length_map, if_pos hi', hid, Option.map_some, E.slot hmem hob]
      show some (((if id = id then ob.feats.set idx v else ob.feats)[idx]?).getD default) = some v
      rw [if_pos rfl, List.getElem?_set_self hlt]
      rfl
    · rw [if_neg hj]
      cases hjd : w.trk.ids[j]? with
      | none => rfl
      | some idj =>
        have hne : idj ≠ id := fun e => hj ((List.getElem?_inj hi' h.nodup (j := j)).mp (by rw [hid, hjd, e]))
        obtain ⟨o, ho⟩ := h.obs (List.mem_of_getElem? hjd)
        rw [Option.map_some, Option.map_some, E.slot (List.mem_of_getElem? hjd) ho]
        simp [ψ, hne, CinTab.slot, ho]
  · -- another name sits in another slot
    refine E.wRd h (fun k => k) Option.map_id'.symm (fun idx' hfm j _ fs _ => ?_)
    have hne : idx' ≠ idx := fun e => hm (snd_inj _ h.dico.idxs (find_mem (e ▸ hfm)) (find_mem hf))
    show (if j = id then fs.set idx v else fs)[idx']? = _
    split
    · exact List.getElem?_set_ne (Ne.symm hne)
    · rfl

theorem filter_length_of_mem (d : List (String × Nat)) (name : String) (hnd : (d.map Prod.fst).Nodup) (hm : name ∈ d.map Prod.fst) :
    (d.filter (fun p => !(p.1 == name))).length + 1 = d.length := by
  have h1 : d.countP (fun p => p.1 == name) = 1 := by
    have := hnd.count (a := name)
    rwa [if_pos hm, List.count, List.countP_map] at this
  rw [List.length_eq_countP_add_countP (fun p => p.1 == name) (l := d), h1, ← List.countP_eq_length_filter, Nat.add_comm 1]
  exact congrArg (· + 1) (List.countP_congr fun p _ => by simp)

theorem nodup_map_shift (idx : Nat) (l : List Nat) (hnd : l.Nodup) (hne : ∀ x ∈ l, x ≠ idx) :
    (l.map (fun x => if x > idx then x - 1 else x)).Nodup :=
  List.pairwise_map.mpr (hnd.imp_of_mem fun {a b} ha hb hab => by
    have := hne a ha
    have := hne b hb
    show (if a > idx then a - 1 else a) ≠ (if b > idx then b - 1 else b)
    split <;> split <;> omega)

theorem DInv.remove {d : List (String × Nat)} (h : DInv d) {name : String} {idx : Nat} (hf : find d name = some idx) :
    DInv ((d.filter (fun p => !(p.1 == name))).map (fun p => (p.1, if p.2 > idx then p.2 - 1 else p.2)))
    ∧ ((d.filter (fun p => !(p.1 == name))).map (fun p => (p.1, if p.2 > idx then p.2 - 1 else p.2))).length + 1 = d.length := by
  have hmem := find_mem hf
  have hcount := filter_length_of_mem d name h.names (List.mem_map.mpr ⟨(name, idx), hmem, rfl⟩)
  have hidx : ∀ p ∈ d.filter (fun p => !(p.1 == name)), p.2 ≠ idx := by
    intro p hp e
    obtain ⟨hpd, hpn⟩ := List.mem_filter.mp hp
    have hpn' : p.1 ≠ name := by simpa using hpn
    apply hpn'
    exact snd_inj d h.idxs (by rw [← e]; exact hpd) hmem
  refine ⟨⟨?_, ?_, ?_⟩, by rw [List.length_map]; exact hcount⟩
  · rw [List.map_map]
    show ((d.filter _).map Prod.fst).Nodup
    exact List.Nodup.sublist (List.Sublist.map _ List.filter_sublist) h.names
  · rw [List.map_map]
    have : ((d.filter (fun p => !(p.1 == name))).map (Prod.snd ∘ fun p => (p.1, if p.2 > idx then p.2 - 1 else p.2)))
        = ((d.filter (fun p => !(p.1 == name))).map Prod.snd).map (fun x => if x > idx then x - 1 else x) := by
      rw [List.map_map]; rfl
    rw [this]
    apply nodup_map_shift idx
    · exact List.Nodup.sublist (List.Sublist.map _ List.filter_sublist) h.idxs
    · intro x hx
      obtain ⟨p, hp, rfl⟩ := List.mem_map.mp hx
      exact hidx p hp
  · intro q hq
    obtain ⟨p, hp, rfl⟩ := List.mem_map.mp hq
    rw [List.length_map]
    have hlt := h.lt p (List.mem_filter.mp hp).1
    have hne := hidx p hp
    have hil := h.lt _ hmem
    show (if p.2 > idx then p.2 - 1 else p.2) < _
    split <;> omega

theorem find_remap_self (d : List (String × Nat)) (name : String) (g : Nat → Nat) :
    find ((d.filter (fun p => !(p.1 == name))).map (fun p => (p.1, g p.2))) name = none := by
  show Common.assoc _ name = none
  rw [Common.assoc_map _ (fun _ => g), Common.assoc_filter, if_pos rfl]
  rfl

theorem w_remove (w : World V) (name : String) (col : List V) (h : WInv w) (_hr : reserved name = false)
    (hrd : wRd w name = some col) :
    ∃ w', (Tbl.remove name : M (World V) Unit) w = (.ok (), w') ∧ WInv w' ∧ wRd w' name = none
      ∧ wN w' = wN w ∧ (∀ m, m ≠ name → wRd w' m = wRd w m) ∧ wCo w' = wCo w := by
  obtain ⟨idx, hf, _⟩ := wRd_eq_some hrd
  let shift : Nat → Nat := fun x => if x > idx then x - 1 else x
  let d' := (w.trk.dico.filter (fun p => !(p.1 == name))).map (fun p => (p.1, shift p.2))
  let φ : List V → List V := fun fs => fs.eraseIdx idx
  obtain ⟨hD', hlen'⟩ := h.dico.remove hf
  have hdel := delSlots_ok idx w.trk.ids w.heap h.nodup (fun id hid => by
    obtain ⟨ob, hob⟩ := h.obs hid
    exact ⟨ob, hob, h.idx_lt hf hid hob⟩)
  have E := upd_edits h φ d'
  refine ⟨w.upd φ d', ?_, E.winv h hD' (fun _ _ fs hfs => ?_), ?_, congrArg (·.ids.length) E.trk, fun m hm => ?_, E.wCo h⟩
  · show removeW name w = _
    unfold removeW
    simp only [hasW, hf, Option.isSome_some, Bool.true_or, Bool.not_true, Bool.false_eq_true, if_false, hdel]
    rfl
  · show d'.length ≤ (fs.eraseIdx idx).length
    have : d'.length + 1 = w.trk.dico.length := hlen'
    rw [List.length_eraseIdx]
    split <;> omega
  · rw [E.wRd_find, find_remap_self]
    rfl
  · -- the slot of `m` moves down by one exactly when it sat above the deleted one
    refine E.wRd h shift (find_remap w.trk.dico name m hm shift) (fun idx' hfm _ _ fs _ => ?_)
    have hne : idx' ≠ idx := fun e => hm (snd_inj _ h.dico.idxs (find_mem (e ▸ hfm)) (find_mem hf))
    show (fs.eraseIdx idx)[shift idx']? = _
    rw [List.getElem?_eraseIdx]
    by_cases hgt : idx' > idx
    · rw [show shift idx' = idx' - 1 by simp [shift, hgt], if_neg (by omega), show idx' - 1 + 1 = idx' by omega]
    · rw [show shift idx' = idx' by simp [shift, hgt], if_pos (by omega)]

/-- **The world of shared observations is a lawful feature table** for the track in focus. -/
theorem laws_World : Laws (σ := World V) (V := V) WInv wN wRd wCo where
  size := fun _ => rfl
  has := w_has
  co_len := fun w c _ => by simp [wCo, wN]
  rd_len := by
    intro w name col _ hrd
    obtain ⟨idx, _, hrd⟩ := wRd_eq_some hrd
    rw [← hrd]; simp [wN]
  getObs_coord := w_getObs_coord
  getObs_feat := w_getObs_feat
  get_feat := w_get_feat
  create_new := w_create_new
  create_old := w_create_old
  setObs := w_setObs
  remove := w_remove

end
end TV.CinTab
