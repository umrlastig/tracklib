import TracklibVerif.Lemmas.Expr
import Mathlib.Algebra.Order.Field.Basic
import Mathlib.Tactic.Ring
import Mathlib.Tactic.Linarith
/-! The aggregates `SUM AVG VAR STD MSE RMSE MEDIAN MAD` as coded (`Model/Expr.lean`: the loops of `Sum`, `Averager`,
`Variance`, `Mse`, the `math.sqrt` of `StdDev` / `Rmse`, the two central ranks of `Median` / `Mad` in the order of
`np.argsort`) against their documented closed forms, over an ordered field.

The scalar type `α` stays abstract. A `FieldModel α K` reads a scalar as an element of an ordered field `K` or as NaN
(`val : α → Option K`, `none` = NaN) and says that the operations the loops use (`+ - * /` by a non-zero number, `x ** 2`,
`abs`, `<`, the integer `count`, the literal `0.5`) are those of `K` on the numbers: exact arithmetic. `Option Rat`
(`Lemmas/ExprExact.lean`) is such a model (`Lemmas/ExprAggFieldEx.lean`); IEEE doubles are one up to rounding only — how far
the computed doubles are from these formulas is what the Python oracle's running error bound decides.

`nums M c` is the list of the numbers of the vector `c` (NaN skipped, order kept). -/
namespace TV.Expr
open Scalar

structure FieldModel (α : Type) [Scalar α] (K : Type) [Field K] [LinearOrder K] [IsStrictOrderedRing K] where
  val : α → Option K
  nan_iff : ∀ a : α, Scalar.isNaN a = (val a).isNone
  val_add : ∀ (a b : α) (x y : K), val a = some x → val b = some y → val (Scalar.add a b) = some (x + y)
  val_sub : ∀ (a b : α) (x y : K), val a = some x → val b = some y → val (Scalar.sub a b) = some (x - y)
  val_mul : ∀ (a b : α) (x y : K), val a = some x → val b = some y → val (Scalar.mul a b) = some (x * y)
  val_div : ∀ (a b : α) (x y : K), val a = some x → val b = some y → y ≠ 0 → val (Scalar.div a b) = some (x / y)
  /-- Python `x ** 2` -/
  val_sq : ∀ (a : α) (x : K), val a = some x → ∃ r, Scalar.pow a Scalar.two = .ok r ∧ val r = some (x * x)
  val_abs : ∀ (a : α) (x : K), val a = some x → val (Scalar.abs a) = some |x|
  val_lt : ∀ (a b : α) (x y : K), val a = some x → val b = some y → Scalar.lt a b = decide (x < y)
  /-- `count`, `float(n)` -/
  val_ofNat : ∀ n : Nat, val (Scalar.ofNat n) = some (n : K)
  /-- the literal `0.5` -/
  val_half : val Scalar.half = some (1 / 2)

section
variable {K : Type} [LinearOrder K]

/-- `m` is the value of rank `k` (0-based, ties counted) of the list `v`: at most `k` values are below it and more than `k`
values are below or equal to it. This does not mention any sorting. -/
def IsOS (v : List K) (k : Nat) (m : K) : Prop :=
  v.countP (fun y => decide (y < m)) ≤ k ∧ k < v.countP (fun y => decide (y ≤ m))

theorem IsOS.le {v : List K} {k : Nat} {m m' : K} (h : IsOS v k m) (h' : IsOS v k m') : m ≤ m' := by
  by_contra hlt
  -- everything up to `m'` is below `m`: more than `k` values, and at most `k`
  have : v.countP (fun y => decide (y ≤ m')) ≤ v.countP (fun y => decide (y < m)) :=
    List.countP_mono_left (fun y _ hy => by
      simp only [decide_eq_true_eq] at hy ⊢
      exact lt_of_le_of_lt hy (not_le.mp hlt))
  have h1 := h'.2; have h2 := h.1
  omega

theorem IsOS.unique {v : List K} {k : Nat} {m m' : K} (h : IsOS v k m) (h' : IsOS v k m') : m = m' :=
  le_antisymm (h.le h') (h'.le h)

theorem IsOS.perm {v w : List K} (hp : v.Perm w) {k : Nat} {m : K} (h : IsOS v k m) : IsOS w k m := by
  unfold IsOS at h ⊢
  rw [← hp.countP_eq, ← hp.countP_eq]; exact h

theorem IsOS.of_split {v1 v2 : List K} {x : K} (h1 : ∀ y ∈ v1, y ≤ x) (h2 : ∀ y ∈ v2, x ≤ y) :
    IsOS (v1 ++ x :: v2) v1.length x := by
  unfold IsOS
  rw [List.countP_append, List.countP_append, List.countP_cons, List.countP_cons]
  have c1 : v1.countP (fun y => decide (y < x)) ≤ v1.length := List.countP_le_length
  have c2 : v2.countP (fun y => decide (y < x)) = 0 := by
    rw [List.countP_eq_zero]
    intro y hy
    simp only [decide_eq_true_eq, not_lt]
    exact h2 y hy
  have c3 : v1.countP (fun y => decide (y ≤ x)) = v1.length := by
    rw [List.countP_eq_length]
    intro y hy
    simp only [decide_eq_true_eq]
    exact h1 y hy
  simp only [lt_self_iff_false, decide_false, le_refl, decide_true, Bool.false_eq_true, if_false, if_true]
  omega

end

section
variable {α : Type} [Scalar α] {K : Type} [Field K] [LinearOrder K] [IsStrictOrderedRing K] (M : FieldModel α K)

def nums (c : List α) : List K := c.filterMap M.val

def Reads (l : List α) (v : List K) : Prop := List.Forall₂ (fun a x => M.val a = some x) l v

theorem FieldModel.val_zero : M.val (Scalar.zero : α) = some 0 := by
  have := M.val_ofNat 0
  simpa [Scalar.zero, Scalar.ofNat] using this

theorem isNaN_of_none {a : α} (h : M.val a = none) : isNaN a = true := by rw [M.nan_iff, h]; rfl
theorem isNaN_of_some {a : α} {x : K} (h : M.val a = some x) : isNaN a = false := by rw [M.nan_iff, h]; rfl

theorem nums_cons_none {a : α} (c : List α) (h : M.val a = none) : nums M (a :: c) = nums M c := by
  simp [nums, h]
theorem nums_cons_some {a : α} {x : K} (c : List α) (h : M.val a = some x) : nums M (a :: c) = x :: nums M c := by
  simp [nums, h]
theorem nums_append (l1 l2 : List α) : nums M (l1 ++ l2) = nums M l1 ++ nums M l2 := by
  simp [nums, List.filterMap_append]

/-- what the loops keep (`if isnan(val): continue`) reads as the numbers of the vector -/
theorem reads_skipNaN (c : List α) : Reads M (skipNaN c) (nums M c) := by
  induction c with
  | nil => exact List.Forall₂.nil
  | cons a c ih =>
    cases h : M.val a with
    | none =>
      have e : skipNaN (a :: c) = skipNaN c := by simp [skipNaN, isNaN_of_none M h]
      rw [e, nums_cons_none M c h]; exact ih
    | some x =>
      have e : skipNaN (a :: c) = a :: skipNaN c := by simp [skipNaN, isNaN_of_some M h]
      rw [e, nums_cons_some M c h]; exact List.Forall₂.cons h ih

theorem Reads.length_eq {l : List α} {v : List K} (h : Reads M l v) : l.length = v.length := by
  induction h with
  | nil => rfl
  | cons _ _ ih => simp [ih]

theorem Reads.nums_eq {l : List α} {v : List K} (h : Reads M l v) : nums M l = v := by
  induction h with
  | nil => rfl
  | cons hax _ ih => rw [nums_cons_some M _ hax, ih]

theorem reads_foldl_add {l : List α} {v : List K} (h : Reads M l v) : ∀ (acc : α) (s : K), M.val acc = some s →
    M.val (l.foldl Scalar.add acc) = some (s + v.sum) := by
  induction h with
  | nil => intro acc s hs; simpa using hs
  | cons hax _ ih =>
    intro acc s hs
    simp only [List.foldl_cons, List.sum_cons]
    rw [ih _ _ (M.val_add _ _ _ _ hs hax), add_assoc]

theorem reads_mapM (f : α → Except Err α) (g : K → K)
    (hf : ∀ a x, M.val a = some x → ∃ r, f a = .ok r ∧ M.val r = some (g x))
    {l : List α} {v : List K} (h : Reads M l v) : ∃ l', mapM' f l = .ok l' ∧ Reads M l' (v.map g) := by
  induction h with
  | nil => exact ⟨[], rfl, List.Forall₂.nil⟩
  | cons hax _ ih =>
    obtain ⟨r, h1, h2⟩ := hf _ _ hax
    obtain ⟨l', h3, h4⟩ := ih
    refine ⟨r :: l', ?_, List.Forall₂.cons h2 h4⟩
    simp only [mapM', h1, h3, bind, Except.bind, pure, Except.pure]

theorem sumL_formula (c : List α) : M.val (sumL c) = some (nums M c).sum := by
  have := reads_foldl_add M (reads_skipNaN M c) Scalar.zero 0 M.val_zero
  simpa [sumL] using this

theorem reads_mean {l : List α} {v : List K} (h : Reads M l v) {n : Nat} (hn : n ≠ 0) :
    M.val (div (l.foldl add zero) (ofNat n)) = some (v.sum / (n : K)) := by
  have hsum := reads_foldl_add M h Scalar.zero 0 M.val_zero
  rw [zero_add] at hsum
  exact M.val_div _ _ _ _ hsum (M.val_ofNat n) (Nat.cast_ne_zero.mpr hn)

theorem skipNaN_ne_nil {c : List α} (h : nums M c ≠ []) : (skipNaN c).length ≠ 0 ∧ (skipNaN c).isEmpty = false := by
  have hl := (reads_skipNaN M c).length_eq
  cases hs : skipNaN c with
  | nil => rw [hs] at hl; exact absurd (List.eq_nil_of_length_eq_zero hl.symm) h
  | cons _ _ => exact ⟨by simp, rfl⟩

theorem avgL_formula (c : List α) (h : nums M c ≠ []) :
    ∃ r, avgL c = .ok r ∧ M.val r = some ((nums M c).sum / ((nums M c).length : K)) := by
  have hr := reads_skipNaN M c
  obtain ⟨hn, hne⟩ := skipNaN_ne_nil M h
  refine ⟨div ((skipNaN c).foldl add zero) (ofNat (skipNaN c).length), by simp only [avgL, hne, Bool.false_eq_true, if_false], ?_⟩
  rw [reads_mean M hr hn, hr.length_eq]

/-- no number at all: `mean / count` is `0 / 0` on integers -/
theorem avgL_none (c : List α) (h : nums M c = []) : avgL c = .error "err:zerodiv" := by
  have hl := (reads_skipNaN M c).length_eq
  rw [h] at hl
  have : skipNaN c = [] := List.eq_nil_of_length_eq_zero hl
  simp [avgL, this]

theorem varL_formula (c : List α) (h : nums M c ≠ []) :
    ∃ r, varL c = .ok r ∧ M.val r = some (((nums M c).map
      (fun x => (x - (nums M c).sum / ((nums M c).length : K)) ^ 2)).sum / ((nums M c).length : K)) := by
  obtain ⟨m, hm, hmv⟩ := avgL_formula M c h
  have hr := reads_skipNaN M c
  obtain ⟨sq, hsq, hsqr⟩ := reads_mapM M (fun x => pow (sub x m) two)
    (fun x => (x - (nums M c).sum / ((nums M c).length : K)) ^ 2)
    (by
      intro a x hax
      obtain ⟨r, h1, h2⟩ := M.val_sq _ _ (M.val_sub _ _ _ _ hax hmv)
      exact ⟨r, h1, by rw [h2, pow_two]⟩) hr
  refine ⟨div (sq.foldl add zero) (ofNat (skipNaN c).length), by simp only [varL, hm, hsq, bind, Except.bind, pure, Except.pure], ?_⟩
  rw [reads_mean M hsqr (skipNaN_ne_nil M h).1, hr.length_eq]

theorem mseL_formula (c : List α) (h : nums M c ≠ []) :
    ∃ r, mseL c = .ok r ∧ M.val r = some (((nums M c).map (fun x => x ^ 2)).sum / ((nums M c).length : K)) := by
  have hr := reads_skipNaN M c
  obtain ⟨hn, hne⟩ := skipNaN_ne_nil M h
  obtain ⟨sq, hsq, hsqr⟩ := reads_mapM M (fun x => pow x two) (fun x => x ^ 2)
    (by
      intro a x hax
      obtain ⟨r, h1, h2⟩ := M.val_sq _ _ hax
      exact ⟨r, h1, by rw [h2, pow_two]⟩) hr
  refine ⟨div (sq.foldl add zero) (ofNat (skipNaN c).length), by simp only [mseL, hsq, hne, bind, Except.bind, pure, Except.pure, Bool.false_eq_true, if_false], ?_⟩
  rw [reads_mean M hsqr hn, hr.length_eq]

/-- `STD{x}` is `math.sqrt` of `VAR{x}`, `RMSE{x}` is `math.sqrt` of `MSE{x}` (`math.sqrt` itself is a parameter) -/
theorem stdL_eq (c : List α) (r : α) (h : varL c = .ok r) : stdL c = Scalar.sqrt r := by
  simp only [stdL, h, bind, Except.bind]
theorem rmseL_eq (c : List α) (r : α) (h : mseL c = .ok r) : rmseL c = Scalar.sqrt r := by
  simp only [rmseL, h, bind, Except.bind]

theorem leNaNLast_some {a b : α} {x y : K} (ha : M.val a = some x) (hb : M.val b = some y) :
    leNaNLast a b = decide (x ≤ y) := by
  simp only [leNaNLast, isNaN_of_some M ha, isNaN_of_some M hb, M.val_lt b a y x hb ha, Bool.false_eq_true, if_false]
  by_cases h : y < x
  · simp [h, not_le.mpr h]
  · simp [h, not_lt.mp h]

theorem leNaNLast_none_right {a b : α} (hb : M.val b = none) : leNaNLast a b = true := by
  simp [leNaNLast, isNaN_of_none M hb]

theorem leNaNLast_none_left {a b : α} {y : K} (ha : M.val a = none) (hb : M.val b = some y) : leNaNLast a b = false := by
  simp [leNaNLast, isNaN_of_none M ha, isNaN_of_some M hb]

include M in
theorem leNaNLast_total (a b : α) : (leNaNLast a b || leNaNLast b a) = true := by
  cases ha : M.val a with
  | none => simp [leNaNLast_none_right M ha]
  | some x =>
    cases hb : M.val b with
    | none => simp [leNaNLast_none_right M hb]
    | some y =>
      rw [leNaNLast_some M ha hb, leNaNLast_some M hb ha]
      rcases le_total x y with h | h <;> simp [h]

include M in
theorem leNaNLast_trans (a b c : α) (h1 : leNaNLast a b = true) (h2 : leNaNLast b c = true) : leNaNLast a c = true := by
  cases hc : M.val c with
  | none => exact leNaNLast_none_right M hc
  | some z =>
    cases hb : M.val b with
    | none => rw [leNaNLast_none_left M hb hc] at h2; cases h2
    | some y =>
      cases ha : M.val a with
      | none => rw [leNaNLast_none_left M ha hb] at h1; cases h1
      | some x =>
        rw [leNaNLast_some M ha hb, decide_eq_true_eq] at h1
        rw [leNaNLast_some M hb hc, decide_eq_true_eq] at h2
        rw [leNaNLast_some M ha hc, decide_eq_true_eq]
        exact le_trans h1 h2

theorem rank_of_split (l1 l2 : List α) (a : α) (pw : (l1 ++ a :: l2).Pairwise (fun p q => leNaNLast p q = true)) :
    (∀ x, M.val a = some x → IsOS (nums M (l1 ++ a :: l2)) l1.length x) ∧
    (M.val a = none → (nums M (l1 ++ a :: l2)).length ≤ l1.length) := by
  rw [List.pairwise_append] at pw
  obtain ⟨_, pw2, cross⟩ := pw
  rw [List.pairwise_cons] at pw2
  obtain ⟨ha2, _⟩ := pw2
  refine ⟨fun x ha => ?_, fun ha => ?_⟩
  · -- before a number only numbers, none larger
    have n1 : (nums M l1).length = l1.length := List.filterMap_length_eq_length.mpr fun p hp => by
      cases hpv : M.val p with
      | none => have := cross p hp a List.mem_cons_self; rw [leNaNLast_none_left M hpv ha] at this; cases this
      | some y => rfl
    have h1 : ∀ y ∈ nums M l1, y ≤ x := by
      intro y hy
      obtain ⟨p, hp, hpv⟩ := List.mem_filterMap.mp hy
      have := cross p hp a List.mem_cons_self
      rw [leNaNLast_some M hpv ha, decide_eq_true_eq] at this
      exact this
    have h2 : ∀ y ∈ nums M l2, x ≤ y := by
      intro y hy
      obtain ⟨q, hq, hqv⟩ := List.mem_filterMap.mp hy
      have := ha2 q hq
      rw [leNaNLast_some M ha hqv, decide_eq_true_eq] at this
      exact this
    rw [nums_append, nums_cons_some M l2 ha, ← n1]
    exact IsOS.of_split h1 h2
  · have hl2 : nums M l2 = [] := by
      unfold nums
      rw [List.filterMap_eq_nil_iff]
      intro q hq
      cases hqv : M.val q with
      | none => rfl
      | some y => have := ha2 q hq; rw [leNaNLast_none_left M ha hqv] at this; cases this
    rw [nums_append, nums_cons_none M l2 ha, hl2, List.append_nil]
    exact List.length_filterMap_le _ _

/-- position `k` of `sortL c` (the order of `np.argsort`: ascending, NaN last), read as `middle` reads it: a number there is the
number of rank `k` among the numbers of `c`; a NaN there means that `c` holds at most `k` numbers -/
theorem sortL_at (c : List α) (k : Nat) (hkc : k < c.length) :
    (∀ x, M.val ((sortL c).getD k nan) = some x → IsOS (nums M c) k x) ∧
      (M.val ((sortL c).getD k nan) = none → (nums M c).length ≤ k) := by
  have perm : (sortL c).Perm c := List.mergeSort_perm c leNaNLast
  have pw : (sortL c).Pairwise (fun p q => leNaNLast p q = true) :=
    List.pairwise_mergeSort (leNaNLast_trans M) (leNaNLast_total M) c
  have hnp : (nums M (sortL c)).Perm (nums M c) := perm.filterMap M.val
  have hks : k < (sortL c).length := by rw [perm.length_eq]; exact hkc
  have hg : (sortL c).getD k nan = (sortL c)[k] := by rw [List.getD_eq_getElem?_getD, List.getElem?_eq_getElem hks]; rfl
  have hsplit : sortL c = (sortL c).take k ++ (sortL c)[k] :: (sortL c).drop (k + 1) := by
    rw [List.getElem_cons_drop, List.take_append_drop]
  have hlen : ((sortL c).take k).length = k := by rw [List.length_take]; omega
  rw [hsplit] at pw hnp
  obtain ⟨h1, h2⟩ := rank_of_split M _ _ _ pw
  rw [hlen] at h1 h2
  rw [hg]
  exact ⟨fun x hx => (h1 x hx).perm hnp, fun ha => hnp.length_eq ▸ h2 ha⟩

theorem sortL_rank (c : List α) (k : Nat) (hk : k < (nums M c).length) :
    ∃ x, M.val ((sortL c).getD k nan) = some x ∧ IsOS (nums M c) k x := by
  obtain ⟨h1, h2⟩ := sortL_at M c k (Nat.lt_of_lt_of_le hk (List.length_filterMap_le _ _))
  cases hv : M.val ((sortL c).getD k nan) with
  | none => have := h2 hv; omega
  | some x => exact ⟨x, rfl, h1 x hv⟩

theorem sortL_rank_nan (c : List α) (k : Nat) (hk : (nums M c).length ≤ k) (hkc : k < c.length) :
    isNaN ((sortL c).getD k nan) = true := by
  obtain ⟨h1, _⟩ := sortL_at M c k hkc
  cases hv : M.val ((sortL c).getD k nan) with
  | none => exact isNaN_of_none M hv
  | some x =>
    have := (h1 x hv).2
    have := List.countP_le_length (p := fun y => decide (y ≤ x)) (l := nums M c)
    omega

theorem sortL_length (c : List α) : (sortL c).length = c.length := (List.mergeSort_perm c leNaNLast).length_eq

/-- **MEDIAN as coded** (`vals[sort_index[N//2]]` for an odd number `N` of observations, `0.5 * (vals[sort_index[N/2-1]] +
vals[sort_index[N/2]])` for an even one, `sort_index = np.argsort(vals)`, NaN sorted last and NOT skipped: `N` counts them)
is the documented median: the value of rank `N/2` among the numbers of the vector for odd `N`, the mean of the values of
ranks `N/2 - 1` and `N/2` for even `N` — whenever rank `N/2` falls on a number (always, when the vector is not empty and holds no NaN). -/
theorem middle_formula (c : List α) (hnum : c.length / 2 < (nums M c).length) :
    (c.length % 2 = 1 → ∃ r x, middle c = .ok r ∧ M.val r = some x ∧ IsOS (nums M c) (c.length / 2) x) ∧
    (c.length % 2 = 0 → ∃ r lo hi, middle c = .ok r ∧ M.val r = some ((lo + hi) / 2)
        ∧ IsOS (nums M c) (c.length / 2 - 1) lo ∧ IsOS (nums M c) (c.length / 2) hi) := by
  have hN := sortL_length c
  have hpos : c.length ≠ 0 := by
    intro h0
    have : (nums M c).length ≤ c.length := List.length_filterMap_le _ _
    omega
  obtain ⟨x, hax, hos⟩ := sortL_rank M c (c.length / 2) hnum
  refine ⟨?_, ?_⟩
  · intro hodd
    refine ⟨_, x, ?_, hax, hos⟩
    have h2 : ¬ (c.length % 2 = 0) := by omega
    simp only [middle, hN, hpos, h2, if_false]
  · intro hev
    obtain ⟨y, hby, hosb⟩ := sortL_rank M c (c.length / 2 - 1) (by omega)
    refine ⟨_, y, x, ?_, M.val_mul _ _ _ _ M.val_half (M.val_add _ _ _ _ hby hax) |>.trans ?_, hosb, hos⟩
    · simp only [middle, hN, hpos, hev, if_false, if_true]
    · congr 1; ring

theorem middle_nan (c : List α) (hodd : c.length % 2 = 1) (hnum : (nums M c).length ≤ c.length / 2) :
    ∃ r, middle c = .ok r ∧ isNaN r = true := by
  have hN := sortL_length c
  have hpos : c.length ≠ 0 := by omega
  have h2 : ¬ (c.length % 2 = 0) := by omega
  exact ⟨_, by simp only [middle, hN, hpos, h2, if_false], sortL_rank_nan M c (c.length / 2) hnum (by omega)⟩

theorem nums_length_of_noNaN (c : List α) (h : ∀ a ∈ c, isNaN a = false) : (nums M c).length = c.length :=
  List.filterMap_length_eq_length.mpr fun p hp => by simpa [M.nan_iff] using h p hp

theorem Reads.map_abs {l : List α} {v : List K} (h : Reads M l v) :
    Reads M (l.map Scalar.abs) (v.map (fun x => |x|)) := by
  induction h with
  | nil => exact List.Forall₂.nil
  | cons hax _ ih => exact List.Forall₂.cons (M.val_abs _ _ hax) ih

/-- **MAD as coded** (NaN skipped, then the central rank(s) of the absolute values, `N // 2` since fix 56ef03e) is the median
of `|x|` over the numbers of the vector. -/
theorem madL_formula (c : List α) (h : nums M c ≠ []) :
    (((nums M c).length % 2 = 1 → ∃ r x, madL c = .ok r ∧ M.val r = some x
        ∧ IsOS ((nums M c).map (fun x => |x|)) ((nums M c).length / 2) x) ∧
     ((nums M c).length % 2 = 0 → ∃ r lo hi, madL c = .ok r ∧ M.val r = some ((lo + hi) / 2)
        ∧ IsOS ((nums M c).map (fun x => |x|)) ((nums M c).length / 2 - 1) lo
        ∧ IsOS ((nums M c).map (fun x => |x|)) ((nums M c).length / 2) hi)) := by
  have hr := reads_skipNaN M c
  have hr' : Reads M ((skipNaN c).map Scalar.abs) ((nums M c).map (fun x => |x|)) := hr.map_abs
  have hn := hr'.nums_eq
  have hl : ((skipNaN c).map Scalar.abs).length = (nums M c).length := by rw [hr'.length_eq, List.length_map]
  have hpos : (nums M c).length ≠ 0 := fun h0 => h (List.eq_nil_of_length_eq_zero h0)
  have := middle_formula M ((skipNaN c).map Scalar.abs) (by rw [hn, hl, List.length_map]; omega)
  rw [hn, hl] at this
  exact this

end

end TV.Expr
