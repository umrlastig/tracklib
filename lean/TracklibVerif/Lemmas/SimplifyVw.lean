import TracklibVerif.Lemmas.Simplify
import TracklibVerif.Model.SimplifyTie
/-! Visvalingam, **one pass of the loop**: the `break` test, the body (`vwBody`: removal of the designated observation and the two
guarded neighbour updates) and what it preserves whatever the column holds — the NaN entries of the two end observations (`FirstNaN`,
`LastNaN`); `vwBody_ind` reduces "the body keeps X" to "the removal keeps X" and "a neighbour update keeps X". The initial column
`vwInit K` is described by `vwInit_num` (an entry that holds a number holds the area of the triangle with the neighbours in `K`) and
`vwInit_area` (so what holds of every area of `K` holds of every number in the column; `NumAreas`: no area is NaN) — the proofs rest on
these two with `FirstNaN` / `LastNaN`; `VInvP` is the bundled form (NaN at both ends, numbers in between; `VInv` the case "below
ARGMIN's start value"). It is **a function of the observations that
the body respects**: on an interior index `vwBody (vwInit K) id = vwInit (K.eraseIdx id)`, read off entry by entry from what the body leaves
at each index of any state (`vwBody_getElem?`). No property of the scalar type is used. -/
namespace TV.Simplify
variable {α : Type} [Add α] [Sub α] [Mul α] [Div α] [Neg α] [LT α] [DecidableLT α] [BEq α]
  [OfNat α 0] [OfNat α 1] [OfNat α 2]

/-- `output.getObsAnalyticalFeature("@aire", id) > eps` (`NaN > eps` is `False`) -/
def vwStop (eps2 : α) (S : VState α) (id : Nat) : Bool :=
  match S[id]? with
  | some (_, some v) => decide (v > eps2)
  | _ => false

section
omit [Add α] [Sub α] [Mul α] [Div α] [Neg α] [BEq α] [OfNat α 0] [OfNat α 1] [OfNat α 2]

theorem vwStop_true {eps2 : α} {S : VState α} {id : Nat} :
    vwStop eps2 S id = true ↔ ∃ p w, S[id]? = some (p, some w) ∧ w > eps2 := by
  unfold vwStop
  split
  · rename_i p v h
    rw [decide_eq_true_iff]
    exact ⟨fun hv => ⟨p, v, h, hv⟩, fun ⟨_, _, e, hv⟩ => by rw [h] at e; cases e; exact hv⟩
  · rename_i h
    exact ⟨fun hf => Bool.noConfusion hf, fun ⟨p, w, e, _⟩ => absurd e (h p w)⟩

end

section
omit [Add α] [Neg α]

theorem vwStep_eq (big eps2 : α) (S : VState α) :
    vwStep big eps2 S =
      if S.length > 2 then
        (if vwStop eps2 S (argmin big (S.map (·.2))) = true then none else some (vwBody S (argmin big (S.map (·.2)))))
      else none := rfl

theorem vwNext_eq (big eps2 : α) (S : VState α) :
    vwNext big eps2 S =
      if S.length > 2 then
        (if vwStop eps2 S (argmin big (S.map (·.2))) = true then [] else (tieIds big (S.map (·.2))).map (vwBody S))
      else [] := rfl

theorem vwStep_some {big eps2 : α} {S S' : VState α} (h : vwStep big eps2 S = some S') :
    2 < S.length ∧ ¬ vwStop eps2 S (argmin big (S.map (·.2))) = true ∧ S' = vwBody S (argmin big (S.map (·.2))) := by
  rw [vwStep_eq] at h
  split at h
  · rename_i hl
    split at h
    · cases h
    · rename_i hs; exact ⟨hl, hs, (Option.some.inj h).symm⟩
  · cases h

/-- with more than two observations the loop only stops by `break`: ARGMIN's entry is a number above the threshold -/
theorem vwStep_none {big eps2 : α} {S : VState α} (h : vwStep big eps2 S = none) (hl : 2 < S.length) :
    ∃ p w, S[argmin big (S.map (·.2))]? = some (p, some w) ∧ w > eps2 := by
  rw [vwStep_eq, if_pos hl] at h
  split at h
  · rename_i hs; exact vwStop_true.mp hs
  · cases h

theorem vwStep_short (big eps2 : α) {S : VState α} (hl : ¬ 2 < S.length) : vwStep big eps2 S = none := by
  rw [vwStep_eq, if_neg hl]

theorem vwStep_go (big : α) {eps2 : α} {S : VState α} (hl : 2 < S.length)
    (hs : vwStop eps2 S (argmin big (S.map (·.2))) = false) :
    vwStep big eps2 S = some (vwBody S (argmin big (S.map (·.2)))) := by
  rw [vwStep_eq, if_pos hl, hs]; rfl

end

section
omit [Add α] [Neg α] [BEq α]

/-- what survives the removal of the designated observation and a neighbour update — at `id − 1` when `id > 1`, at `id` when
`id` is not the last index left — survives the body of the loop -/
theorem vwBody_ind {I : VState α → Prop} (S : VState α) (id : Nat) (he : I (S.eraseIdx id))
    (hs : ∀ T j, I T → T.length = (S.eraseIdx id).length → (1 < id ∧ j + 1 = id) ∨ (j = id ∧ id + 1 < T.length) →
      I (setAire T j)) : I (vwBody S id) := by
  have h2 : I (if id > 1 then setAire (S.eraseIdx id) (id - 1) else S.eraseIdx id) ∧
      (if id > 1 then setAire (S.eraseIdx id) (id - 1) else S.eraseIdx id).length = (S.eraseIdx id).length := by
    split
    · rename_i h; exact ⟨hs _ _ he rfl (Or.inl ⟨h, by omega⟩), setAire_length _ _⟩
    · exact ⟨he, rfl⟩
  unfold vwBody
  simp only
  generalize (if id > 1 then setAire (S.eraseIdx id) (id - 1) else S.eraseIdx id) = S2 at h2 ⊢
  split
  · rename_i h; exact hs _ _ h2.1 h2.2 (Or.inr ⟨rfl, by omega⟩)
  · exact h2.1

theorem vwBody_map_fst (S : VState α) (id : Nat) : (vwBody S id).map (·.1) = (S.map (·.1)).eraseIdx id :=
  vwBody_ind (I := fun T => T.map (·.1) = (S.map (·.1)).eraseIdx id) S id (map_eraseIdx' _ _ _)
    fun T j h _ _ => (setAire_map_fst T j).trans h

theorem vwBody_length (S : VState α) (id : Nat) (h : id < S.length) : (vwBody S id).length = S.length - 1 := by
  have := congrArg List.length (vwBody_map_fst S id)
  rwa [List.length_map, List.length_eraseIdx_of_lt (by rwa [List.length_map]), List.length_map] at this

end

section
omit [Add α] [Sub α] [Mul α] [Div α] [Neg α] [LT α] [DecidableLT α] [BEq α] [OfNat α 0] [OfNat α 1] [OfNat α 2]

theorem map_snd_num (S : VState α) (j : Nat) (w : α) (h : (S.map (·.2))[j]? = some (some w)) :
    ∃ p, S[j]? = some (p, some w) := by
  rw [List.getElem?_map] at h
  cases hx : S[j]? with
  | none => rw [hx] at h; cases h
  | some e =>
    obtain ⟨p, c⟩ := e
    rw [hx] at h
    cases h
    exact ⟨p, rfl⟩

end

def FirstNaN (S : VState α) : Prop := ∃ p, S[0]? = some (p, none)

def LastNaN (S : VState α) : Prop := ∃ p, S[S.length - 1]? = some (p, none)

/-- ARGMIN finds a minimum: some entry of the column is a number below its initial minimum or — since b728412 — equal to it
(`+inf`: an infinite area is found; only NaN is not) -/
def Hit (big : α) (S : VState α) : Prop :=
  ∃ (j : Nat) (v : α), (S.map (·.2))[j]? = some (some v) ∧ (v < big ∨ (v == big) = true)

section
omit [Add α] [Sub α] [Mul α] [Div α] [Neg α] [LT α] [DecidableLT α] [BEq α] [OfNat α 0] [OfNat α 1] [OfNat α 2]

theorem FirstNaN.pos {S : VState α} (h : FirstNaN S) {j : Nat} {p : Fix α} {v : α} (hj : S[j]? = some (p, some v)) : 0 < j := by
  cases j with
  | zero => obtain ⟨q, hq⟩ := h; rw [hq] at hj; cases hj
  | succ j => exact Nat.succ_pos j

theorem LastNaN.lt {S : VState α} (h : LastNaN S) {j : Nat} {p : Fix α} {v : α} (hj : S[j]? = some (p, some v)) :
    j + 1 < S.length := by
  have hjlt : j < S.length := (List.getElem?_eq_some_iff.mp hj).1
  by_cases hc : j = S.length - 1
  · obtain ⟨q, hq⟩ := h; rw [← hc, hj] at hq; cases hq
  · omega

end

section
omit [Add α] [Sub α] [Mul α] [Div α] [Neg α] [OfNat α 0] [OfNat α 1] [OfNat α 2]

theorem argmin_not_last (big : α) (S : VState α) (hl : 1 < S.length) (h : LastNaN S) :
    argmin big (S.map (·.2)) + 1 < S.length := by
  rcases argmin_cases big (S.map (·.2)) with e | ⟨v, e⟩
  · rw [e]; omega
  · obtain ⟨p, hp⟩ := map_snd_num S _ v e
    exact h.lt hp

theorem Hit.argmin_num {big : α} {S : VState α} (hh : Hit big S) : ∃ p v, S[argmin big (S.map (·.2))]? = some (p, some v) := by
  obtain ⟨j, v0, a, b⟩ := hh
  obtain ⟨v, e⟩ := argmin_hit big (S.map (·.2)) ⟨v0, List.mem_of_getElem? a, b⟩
  obtain ⟨p, hp⟩ := map_snd_num S _ v e
  exact ⟨p, v, hp⟩

theorem hit_argmin_pos (big : α) (S : VState α) (hf : FirstNaN S) (hh : Hit big S) : 0 < argmin big (S.map (·.2)) := by
  obtain ⟨p, v, e⟩ := hh.argmin_num
  exact hf.pos e

theorem argmin_of_not_hit {big : α} {S : VState α} (hh : ¬ Hit big S) : argmin big (S.map (·.2)) = 0 :=
  argmin_miss big _ fun v hv => by
    obtain ⟨j, hj⟩ := List.getElem?_of_mem hv
    exact ⟨fun x => hh ⟨j, v, hj, Or.inl x⟩, fun x => hh ⟨j, v, hj, Or.inr x⟩⟩

end

section
omit [Add α] [Sub α] [Mul α] [Div α] [Neg α] [LT α] [DecidableLT α] [BEq α] [OfNat α 0] [OfNat α 1] [OfNat α 2]

theorem LastNaN.eraseIdx {S : VState α} (h : LastNaN S) {id : Nat} (h1 : id + 1 < S.length) : LastNaN (S.eraseIdx id) := by
  obtain ⟨p, hp⟩ := h
  refine ⟨p, ?_⟩
  rw [List.length_eraseIdx_of_lt (by omega), List.getElem?_eraseIdx, if_neg (by omega), ← hp]
  congr 1; omega

end

section
omit [Add α] [Neg α] [BEq α]

theorem LastNaN.setAire {S : VState α} (h : LastNaN S) {j : Nat} (h1 : j + 1 < S.length) : LastNaN (setAire S j) := by
  obtain ⟨p, hp⟩ := h
  exact ⟨p, by rw [setAire_length, setAire_ne _ _ _ (by omega)]; exact hp⟩

theorem LastNaN.body {S : VState α} (h : LastNaN S) {id : Nat} (h1 : id + 1 < S.length) : LastNaN (vwBody S id) :=
  vwBody_ind S id (h.eraseIdx h1) fun T j hT hl hj =>
    hT.setAire (by rw [List.length_eraseIdx_of_lt (by omega)] at hl; omega)

theorem FirstNaN.body {S : VState α} (h : FirstNaN S) {id : Nat} (h0 : 0 < id) : FirstNaN (vwBody S id) := by
  obtain ⟨p, hp⟩ := h
  refine ⟨p, vwBody_ind (I := fun T => T[0]? = some (p, none)) S id ?_ fun T j hT _ hj => ?_⟩
  · rw [List.getElem?_eraseIdx, if_pos h0]; exact hp
  · rw [setAire_ne _ _ _ (by omega)]; exact hT

end

/-- invariant of the Visvalingam loop: at least two fixes, NaN area at both ends, a number below ARGMIN's
sentinel everywhere in between, and only fixes of the input track `L` -/
structure VInv (big : α) (L : List (Fix α)) (S : VState α) : Prop where
  len : 2 ≤ S.length
  first : ∃ p, S[0]? = some (p, none)
  last : ∃ p, S[S.length - 1]? = some (p, none)
  mid : ∀ i, 0 < i → i + 1 < S.length → ∃ p v, S[i]? = some (p, some v) ∧ v < big
  mem : ∀ e ∈ S, e.1 ∈ L

/-- `VInv` with an arbitrary predicate on the interior entries of the `'@aire'` column -/
structure VInvP (P : α → Prop) (L : List (Fix α)) (S : VState α) : Prop where
  len : 2 ≤ S.length
  first : ∃ p, S[0]? = some (p, none)
  last : ∃ p, S[S.length - 1]? = some (p, none)
  mid : ∀ i, 0 < i → i + 1 < S.length → ∃ p v, S[i]? = some (p, some v) ∧ P v
  mem : ∀ e ∈ S, e.1 ∈ L

section
omit [Add α] [Sub α] [Mul α] [Div α] [Neg α] [DecidableLT α] [BEq α] [OfNat α 0] [OfNat α 1] [OfNat α 2]

theorem vInv_iff {big : α} {L : List (Fix α)} {S : VState α} : VInv big L S ↔ VInvP (· < big) L S :=
  ⟨fun h => ⟨h.len, h.first, h.last, h.mid, h.mem⟩, fun h => ⟨h.len, h.first, h.last, h.mid, h.mem⟩⟩

end

namespace VInvP
variable {P : α → Prop} {L : List (Fix α)} {S : VState α}

section
omit [Add α] [Sub α] [Mul α] [Div α] [Neg α] [LT α] [DecidableLT α] [BEq α] [OfNat α 0] [OfNat α 1] [OfNat α 2]

theorem num (h : VInvP P L S) {j : Nat} {p : Fix α} {v : α} (hj : S[j]? = some (p, some v)) : P v := by
  obtain ⟨p', v', e, hv⟩ := h.mid j (FirstNaN.pos h.first hj) (LastNaN.lt h.last hj)
  rw [hj] at e
  cases e
  exact hv

end

end VInvP

section
omit [Add α] [Neg α] [BEq α]

theorem vwInit_lastNaN (L : List (Fix α)) (h1 : 1 ≤ L.length) : LastNaN (vwInit L) := by
  obtain ⟨p, hp⟩ := getElem?_of_lt L (L.length - 1) (by omega)
  exact ⟨p, by rw [vwInit_getElem?, vwInit_length, hp, Option.map_some, aireVisval_last L _ (by omega), ite_self]⟩

theorem vwInit_firstNaN (L : List (Fix α)) (h1 : 1 ≤ L.length) : FirstNaN (vwInit L) := by
  obtain ⟨p, hp⟩ := getElem?_of_lt L 0 h1
  exact ⟨p, by rw [vwInit_getElem?, hp]; rfl⟩

theorem vwInit_invP (P : α → Prop) (L : List (Fix α))
    (hP : ∀ a b c, a ∈ L → b ∈ L → c ∈ L → P (areaFix a b c)) (h2 : 2 ≤ L.length) :
    VInvP P L (vwInit L) := by
  refine ⟨by rw [vwInit_length]; exact h2, vwInit_firstNaN L (by omega), vwInit_lastNaN L (by omega), ?_, ?_⟩
  · intro i h0 h1
    rw [vwInit_length] at h1
    obtain ⟨p0, p1, p2, e0, e1, e2, hm⟩ := vwInit_mid L i h0 h1
    exact ⟨p1, _, hm, hP _ _ _ (List.mem_of_getElem? e0) (List.mem_of_getElem? e1) (List.mem_of_getElem? e2)⟩
  · exact fun _ he => vwInit_fst_mem L he

end

/-- no triangle area of `K` is NaN: each is a number below ARGMIN's initial minimum or equal to it -/
def NumAreas (big : α) (K : List (Fix α)) : Prop :=
  ∀ a b c, a ∈ K → b ∈ K → c ∈ K → areaFix a b c < big ∨ (areaFix a b c == big) = true

section
omit [Add α] [Neg α]

theorem NumAreas.sublist {big : α} {K K' : List (Fix α)} (h : NumAreas big K) (s : K'.Sublist K) : NumAreas big K' :=
  fun a b c ha hb hc => h a b c (s.subset ha) (s.subset hb) (s.subset hc)

theorem hit_vwInit {big : α} {K : List (Fix α)} (hnum : NumAreas big K) (hl : 2 < K.length) : Hit big (vwInit K) := by
  obtain ⟨p0, p1, p2, e0, e1, e2, hm⟩ := vwInit_mid K 1 Nat.one_pos hl
  exact ⟨1, _, by rw [List.getElem?_map, hm]; rfl,
    hnum _ _ _ (List.mem_of_getElem? e0) (List.mem_of_getElem? e1) (List.mem_of_getElem? e2)⟩

end

/-! `vwInit K` holds NaN for the first observation and `aire_visval(K, i)` for the others: the NaN of the `IndexError` for the last one, the area
of the triangle with the two neighbours **in `K`** in between. The two guarded updates of the body recompute exactly the two entries
whose triangle the removal changes, so as long as the loop removes interior observations its state is the initial column of the
observations left (`vwBody_vwInit`): there Visvalingam is a function on lists of observations. (A pass at index 0 — a column of NaN —
leaves the wrapped-around area `aire_visval(K, 0)` in the first entry: that state is not of this form.) -/

omit [Add α] [Neg α] [BEq α] in
theorem aireVisval_congr {L M : List (Fix α)} {i j : Nat} (hi : 0 < i) (hj : 0 < j)
    (e0 : L[i - 1]? = M[j - 1]?) (e1 : L[i]? = M[j]?) (e2 : L[i + 1]? = M[j + 1]?) :
    aireVisval L i = aireVisval M j := by
  unfold aireVisval
  rw [if_neg (Nat.ne_of_gt hi), if_neg (Nat.ne_of_gt hj), e0, e1, e2]

/-- entry `m` of the initial column of `K` -/
def colOf (K : List (Fix α)) (m : Nat) : Option α := if m = 0 then none else aireVisval K m

section
omit [Add α] [Neg α] [BEq α]

theorem colOf_pos (K : List (Fix α)) {m : Nat} (h : 0 < m) : colOf K m = aireVisval K m := if_neg (Nat.ne_of_gt h)

theorem colOf_last (K : List (Fix α)) (m : Nat) (h : K.length ≤ m + 1) : colOf K m = none := by
  unfold colOf
  split
  · rfl
  · exact aireVisval_last K m h

theorem colOf_eraseIdx_lt (K : List (Fix α)) {id m : Nat} (h : m + 1 < id) : colOf (K.eraseIdx id) m = colOf K m := by
  cases m with
  | zero => rfl
  | succ m =>
    rw [colOf_pos _ (Nat.succ_pos m), colOf_pos _ (Nat.succ_pos m)]
    exact aireVisval_congr (Nat.succ_pos m) (Nat.succ_pos m)
      (by rw [List.getElem?_eraseIdx, if_pos (Nat.lt_of_le_of_lt (Nat.sub_le _ _) (Nat.lt_of_succ_lt h))])
      (by rw [List.getElem?_eraseIdx, if_pos (Nat.lt_of_succ_lt h)]) (by rw [List.getElem?_eraseIdx, if_pos h])

theorem colOf_eraseIdx_gt (K : List (Fix α)) {id m : Nat} (h : id < m) : colOf (K.eraseIdx id) m = colOf K (m + 1) := by
  rw [colOf_pos _ (Nat.zero_lt_of_lt h), colOf_pos _ (Nat.succ_pos m)]
  refine aireVisval_congr (Nat.zero_lt_of_lt h) (Nat.succ_pos m) ?_ ?_ ?_
  · rw [List.getElem?_eraseIdx, if_neg (Nat.not_lt.mpr (Nat.le_sub_one_of_lt h)), Nat.sub_add_cancel (Nat.zero_lt_of_lt h)]; rfl
  · rw [List.getElem?_eraseIdx, if_neg (Nat.lt_asymm h)]
  · rw [List.getElem?_eraseIdx, if_neg (Nat.lt_asymm (Nat.lt_succ_of_lt h))]

theorem vwInit_getElem?_col (K : List (Fix α)) (m : Nat) : (vwInit K)[m]? = (K[m]?).map fun p => (p, colOf K m) :=
  vwInit_getElem? K m

theorem setAire_if_getElem? (g : Prop) [Decidable g] (T : VState α) (j m : Nat) :
    (if g then setAire T j else T)[m]? =
      (T[m]?).map fun e => (e.1, if g ∧ m = j then aireVisval (T.map (·.1)) m else e.2) := by
  by_cases hg : g ∧ m = j
  · obtain ⟨hg, rfl⟩ := hg
    rw [if_pos hg, setAire_getElem?, if_pos rfl]; simp only [hg, and_self, if_true]
  · have : (if g then setAire T j else T)[m]? = T[m]? := by
      split
      · rename_i h; exact setAire_ne T j m fun e => hg ⟨h, e.symm⟩
      · rfl
    rw [this]; simp only [hg, if_false]; cases T[m]? <;> rfl

theorem vwBody_getElem? (S : VState α) (id m : Nat) :
    (vwBody S id)[m]? = ((S.eraseIdx id)[m]?).map fun e =>
      (e.1, if (1 < id ∧ m + 1 = id) ∨ (m = id ∧ id + 1 < (S.eraseIdx id).length) then
              aireVisval ((S.map (·.1)).eraseIdx id) m else e.2) := by
  unfold vwBody
  simp only
  rw [← map_eraseIdx']
  generalize S.eraseIdx id = S1
  have l2 : (if id > 1 then setAire S1 (id - 1) else S1).length = S1.length := by split; exact setAire_length _ _; rfl
  have m2 : (if id > 1 then setAire S1 (id - 1) else S1).map (·.1) = S1.map (·.1) := by split; exact setAire_map_fst _ _; rfl
  rw [setAire_if_getElem?, m2, l2, setAire_if_getElem?, Option.map_map]
  congr 1
  funext e
  show (e.1, _) = (e.1, _)
  congr 1
  by_cases a : id < S1.length - 1 ∧ m = id
  · rw [if_pos a, if_pos (Or.inr ⟨a.2, Nat.add_lt_of_lt_sub a.1⟩)]
  · rw [if_neg a]
    show (if _ then _ else _) = _
    by_cases b : id > 1 ∧ m = id - 1
    · rw [if_pos b, if_pos (Or.inl ⟨b.1, b.2 ▸ Nat.sub_add_cancel (Nat.le_of_lt b.1)⟩)]
    · rw [if_neg b, if_neg fun h => h.elim (fun h => b ⟨h.1, Nat.eq_sub_of_add_eq h.2⟩) (fun h => a ⟨Nat.lt_sub_of_add_lt h.2, h.1⟩)]

theorem vwBody_vwInit (K : List (Fix α)) (id : Nat) (h0 : 0 < id) (h1 : id + 1 < K.length) :
    vwBody (vwInit K) id = vwInit (K.eraseIdx id) := by
  have hl : (K.eraseIdx id).length = K.length - 1 := List.length_eraseIdx_of_lt (Nat.lt_of_succ_lt h1)
  apply List.ext_getElem?
  intro m
  rw [vwBody_getElem?, vwInit_getElem?_col, vwInit_map_fst, List.getElem?_eraseIdx, List.getElem?_eraseIdx,
    List.length_eraseIdx_of_lt (by rw [vwInit_length]; exact Nat.lt_of_succ_lt h1), vwInit_length]
  -- entry `m` of the column: recomputed next to the hole, elsewhere the entry of `K` at `m` (before the hole) or at `m + 1` (after it)
  have col : (if (1 < id ∧ m + 1 = id) ∨ (m = id ∧ id + 1 < K.length - 1) then aireVisval (K.eraseIdx id) m
      else if m < id then colOf K m else colOf K (m + 1)) = colOf (K.eraseIdx id) m := by
    split
    · rename_i hc
      exact (colOf_pos _ (hc.elim (fun h => Nat.lt_of_succ_lt_succ (show 0 + 1 < m + 1 from h.2 ▸ h.1)) (fun h => h.1 ▸ h0))).symm
    · rename_i hc
      by_cases hlt : m < id
      · rw [if_pos hlt]
        by_cases e : m + 1 = id
        · -- `id = 1` (no update at `id − 1`): the first entry, NaN before and after
          have : id ≤ 1 := Nat.le_of_not_lt fun h => hc (Or.inl ⟨h, e⟩)
          cases Nat.le_zero.mp (Nat.le_of_succ_le_succ (e ▸ this)); rfl
        · exact (colOf_eraseIdx_lt K (Nat.lt_of_le_of_ne hlt e)).symm
      · rw [if_neg hlt]
        by_cases e : m = id
        · -- `id` is the last index left (no update at `id`): its entry was the last entry of `K`, NaN then and now
          subst e
          have hk : K.length - 1 ≤ m + 1 := Nat.le_of_not_lt fun h => hc (Or.inr ⟨rfl, h⟩)
          rw [colOf_last K _ (Nat.sub_le_iff_le_add.mp hk), colOf_last _ _ (hl ▸ hk)]
        · exact (colOf_eraseIdx_gt K (Nat.lt_of_le_of_ne (Nat.le_of_not_lt hlt) (Ne.symm e))).symm
  rw [← col]
  by_cases hlt : m < id
  · simp only [if_pos hlt, vwInit_getElem?_col, Option.map_map]; rfl
  · simp only [if_neg hlt, vwInit_getElem?_col, Option.map_map]; rfl

theorem vwInit_num (K : List (Fix α)) (j : Nat) (p : Fix α) (v : α) (h : (vwInit K)[j]? = some (p, some v)) :
    ∃ p0 p2, K[j - 1]? = some p0 ∧ K[j]? = some p ∧ K[j + 1]? = some p2 ∧ v = areaFix p0 p p2 := by
  have h1 : 1 ≤ K.length := by
    have := (List.getElem?_eq_some_iff.mp h).1
    rw [vwInit_length] at this
    exact Nat.one_le_of_lt this
  have hf := (vwInit_firstNaN K h1).pos h
  have hl := (vwInit_lastNaN K h1).lt h
  rw [vwInit_length] at hl
  obtain ⟨p0, p1, p2, e0, e1, e2, hm⟩ := vwInit_mid K j hf hl
  rw [h] at hm
  cases hm
  exact ⟨p0, p2, e0, e1, e2, rfl⟩

theorem vwInit_area {P : α → Prop} (K : List (Fix α)) (hP : ∀ a b c, a ∈ K → b ∈ K → c ∈ K → P (areaFix a b c))
    {e : Fix α × Option α} (he : e ∈ vwInit K) {v : α} (hv : e.2 = some v) : P v := by
  obtain ⟨j, hj⟩ := List.getElem?_of_mem he
  obtain ⟨p0, p2, e0, e1, e2, rfl⟩ := vwInit_num K j e.1 v (by rw [hj, ← hv])
  exact hP _ _ _ (List.mem_of_getElem? e0) (List.mem_of_getElem? e1) (List.mem_of_getElem? e2)

end

end TV.Simplify
