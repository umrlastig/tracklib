import TracklibVerif.Model.TextIOSession
import TracklibVerif.Lemmas.TextIOFile
/-! Sessions: the class-level state of `ObsTime` (`Model/TextIOSession.lean`). The memo table always belongs to the read
format (`Inv`); no library call leaves the state changed; a write / read pair round-trips in every reachable state in
which the two formats are equal (core only). -/
namespace TV.TextIO
open TV.ObsTime

/-- the memo table is the one of the read format -/
def Inv (st : TState) : Prop := st.pre = precompile (tokenize st.readFmt)

/-- the literal list of the class body IS the precompiled default format -/
theorem inv_init : Inv TState.init := by unfold Inv; decide +kernel

theorem inv_setRead (st : TState) (f : Str) : Inv (setReadFormat st f) := rfl
theorem inv_setPrint (st : TState) (f : Str) (h : Inv st) : Inv (setPrintFormat st f) := h

theorem readTimestampS_eq (st : TState) (h : Inv st) (s : Str) :
    readTimestampS st s = readTimestamp (tokenize st.readFmt) s := by
  unfold readTimestampS readTimestamp
  rw [h]

theorem setRead_self (st : TState) (h : Inv st) : setReadFormat st st.readFmt = st := by
  obtain ⟨r, p, pre⟩ := st
  unfold Inv at h
  simp only at h
  simp [setReadFormat, h]

theorem setPrint_back (st : TState) (f : Str) : setPrintFormat (setPrintFormat st f) st.printFmt = st := by
  obtain ⟨r, p, pre⟩ := st
  rfl

-- `by rfl`: as a term, `rfl` is unified once more when the header is elaborated (inference of `@[defeq]`), and the two bodies are long
theorem readRowG_eq (rf : List Tok) (f : CsvFmt) (line : Str) : readRowG (readTimestamp rf) f line = readRow f rf line := by
  rfl

theorem readLinesG_eq (rf : List Tok) (f : CsvFmt) (cmt : Char) (ls : List Str) :
    readLinesG (readTimestamp rf) f cmt ls = readLines f rf cmt ls := by
  induction ls with
  | nil => rfl
  | cons l r ih =>
    unfold readLinesG readLines
    cases strip l with
    | nil => rfl
    | cons c cs =>
      simp only
      rw [ih, readRowG_eq]

theorem readCsvG_eq (rf : List Tok) (f : CsvFmt) (header : Nat) (text : Str) :
    readCsvG (readTimestamp rf) f header text = readCsv f rf header text := by
  unfold readCsvG readCsv
  simp only [readLinesG_eq]

theorem readCsvG_state (st : TState) (h : Inv st) (f : CsvFmt) (header : Nat) (text : Str) :
    readCsvG (readTimestampS st) f header text = readCsv f (tokenize st.readFmt) header text := by
  have : readTimestampS st = readTimestamp (tokenize st.readFmt) := funext (readTimestampS_eq st h)
  rw [this, readCsvG_eq]

/-- the operations by which the USER changes the formats -/
def isUser : SOp → Bool
  | .setRead _ => true
  | .setPrint _ => true
  | _ => false

/-- **no library call leaves the class-level state changed**: `str`, `readTimestamp`, `timeWithZone`, `writeToGpx`,
`writeToFile` + `readFromCsv` (also when the reader raises: the format it had set is the one that was in force) return with
the read format, the print format and the memo table they found -/
theorem library_call_leaves_no_state (st : TState) (last : Str) (op : SOp) (h : Inv st) (hop : isUser op = false) :
    (step st last op).1 = st := by
  cases op with
  | setRead f => simp [isUser] at hop
  | setPrint f => simp [isUser] at hop
  | print t => rfl
  | read s => rfl
  | readLast => rfl
  | tz t => exact setPrint_back st _
  | gpxw name rows => exact setPrint_back st _
  | csv f geo hh hr srid rows =>
    simp only [step]
    split
    · rfl
    · split
      · exact setRead_self st h
      · simp only [setRead_self st h]

theorem inv_step (st : TState) (last : Str) (op : SOp) (h : Inv st) : Inv (step st last op).1 := by
  cases op with
  | setRead f => exact inv_setRead st f
  | setPrint f => exact h
  | _ => rw [library_call_leaves_no_state st last _ h rfl]; exact h

theorem inv_run (st : TState) (last : Str) (ops : List SOp) (h : Inv st) : Inv (run st last ops) := by
  induction ops generalizing st last with
  | nil => exact h
  | cons op r ih => exact ih _ _ (inv_step st last op h)

theorem run_library_calls (st : TState) (last : Str) (ops : List SOp) (h : Inv st) (hops : ∀ op ∈ ops, isUser op = false) :
    run st last ops = st := by
  induction ops generalizing last with
  | nil => rfl
  | cons op r ih =>
    simp only [run]
    rw [library_call_leaves_no_state st last op h (hops op (by simp))]
    exact ih _ (fun o ho => hops o (by simp [ho]))

/-- every state a session reaches from the class body, whatever the history of format changes and library calls -/
def Reachable (st : TState) : Prop := ∃ hist last, st = run TState.init last hist

theorem reachable_inv (st : TState) (h : Reachable st) : Inv st := by
  obtain ⟨hist, last, rfl⟩ := h
  exact inv_run _ _ _ inv_init

/-- `str(t)` then `readTimestamp` of that text, with any library calls in between -/
theorem session_time_roundtrip (st : TState) (hst : Reachable st) (heq : st.readFmt = st.printFmt)
    (hl : Lossless (tokenize st.readFmt)) (t : Stamp) (ht : Fits t)
    (mid : List SOp) (hmid : ∀ op ∈ mid, isUser op = false) (last : Str) :
    (step st last (.print t)).2 = .text (printTime (tokenize st.readFmt) t) ∧
    (step (run st (printTime (tokenize st.readFmt) t) mid) last (.read (printTime (tokenize st.readFmt) t))).2
      = .stamp (some (project (tokenize st.readFmt) t)) := by
  have hinv := reachable_inv st hst
  refine ⟨by simp [step, strS, heq], ?_⟩
  rw [run_library_calls st _ mid hinv hmid]
  simp only [step]
  rw [readTimestampS_eq st hinv, readTimestamp_printTime _ hl t ht]

/-- the same as two consecutive operations of `runOuts`: `print`, `readLast` -/
theorem session_pair_roundtrip (st : TState) (hst : Reachable st) (heq : st.readFmt = st.printFmt)
    (hl : Lossless (tokenize st.readFmt)) (t : Stamp) (ht : Fits t) (last : Str) :
    runOuts st last [.print t, .readLast]
      = [(.text (printTime (tokenize st.readFmt) t), st), (.stamp (some (project (tokenize st.readFmt) t)), st)] := by
  have hinv := reachable_inv st hst
  simp only [runOuts, step, lastOf, strS, heq]
  rw [readTimestampS_eq st hinv, heq, readTimestamp_printTime _ (heq ▸ hl) t ht]

/-- `writeToFile` then `readFromCsv` as ONE operation of a session: in every reachable state whose two formats are equal,
under the hypotheses of `csv_file_roundtrip` for that format, every observation comes back and the state is left as found -/
theorem session_csv_roundtrip (st : TState) (hst : Reachable st) (heq : st.readFmt = st.printFmt)
    (f : CsvFmt) (geo : Bool) (h hr : Nat) (srid : Str) (rows : List Row)
    (hv : ValidIds f) (hsep : numChar f.sep = false) (hnl : f.sep ≠ '\n')
    (htime : f.idT ≠ -1 → TimeOK (tokenize st.printFmt) f.sep)
    (hrows : ∀ r ∈ rows, RowOK f geo (tokenize st.printFmt) r) (hsrid : '\n' ∉ srid)
    (hhr : hr ≤ (if h = 0 then 0 else 3)) (last : Str) :
    ∃ text, step st last (.csv f geo h hr srid rows)
      = (st, .csv (.ok text) (.ok (rows.map (expRow f geo (tokenize st.printFmt))))) := by
  have hinv := reachable_inv st hst
  obtain ⟨text, hw, hr'⟩ := writeToCsv_roundtrip f geo (tokenize st.printFmt) h rows srid hv hsep hnl htime hrows hsrid
  unfold writeToCsv at hw
  refine ⟨text, ?_⟩
  simp only [step, hw, setRead_self st hinv]
  rw [readCsvG_state st hinv, heq, hr' hr hhr]

end TV.TextIO
