import TracklibVerif.Model.CinematicsTabK
import TracklibVerif.Lemmas.CinTabProg
/-! The class-dispatching programs of `Model/CinematicsTabK.lean` proved from the laws of a feature table
(`CinTab.Laws`), once for every representation: what a kernel answers at two fixes for every kernel, the programs for
every kernel that defines a planimetric distance (`Defines`). -/
namespace TV.CinTabK
open TV.Features TV.CinTab

section laws
variable {σ V : Type} [Tbl σ V]
variable {I : σ → Prop} {n : σ → Nat} {rd : σ → String → Option (List V)} {co : σ → Coord → List V}
variable {N : Nat} {C : Coord → List V}

def ptsF (g : GOps V) (X Y Z : List V) (i j : Nat) : V × V × V × V × V × V :=
  (atFix g X i, atFix g Y i, atFix g Z i, atFix g X j, atFix g Y j, atFix g Z j)

theorem fetch2_read (L : Laws I n rd co) (g : GOps V) (i j : Nat) (hi : i < N) (hj : j < N) (s : σ) (hI : I s)
    (hn : n s = N) (hco : co s = C) : (fetch2 g i j : M σ _) s = (.ok (ptsF g (C .x) (C .y) (C .z) i j), s) :=
  (getObs_co_bind L g .x hi hI hn hco _).trans <| (getObs_co_bind L g .y hi hI hn hco _).trans <|
    (getObs_co_bind L g .z hi hI hn hco _).trans <| (getObs_co_bind L g .x hj hI hn hco _).trans <|
    (getObs_co_bind L g .y hj hI hn hco _).trans <| (getObs_co_bind L g .z hj hI hn hco _).trans rfl

/-- the outcome of the class method at fixes `(i, j)` of the coordinate columns -/
def posF (g : GOps V) (K : Kernel V) (X Y Z : List V) (i j : Nat) : Except Err V :=
  let p := ptsF g X Y Z i j
  K.pos p.1 p.2.1 p.2.2.1 p.2.2.2.1 p.2.2.2.2.1 p.2.2.2.2.2

/-- the outcome of `Obs.distance2DTo` at fixes `(i, j)` of the coordinate columns -/
def obsF (g : GOps V) (K : Kernel V) (X Y Z : List V) (i j : Nat) : Except Err V :=
  let p := ptsF g X Y Z i j
  K.obs p.1 p.2.1 p.2.2.1 p.2.2.2.1 p.2.2.2.2.1 p.2.2.2.2.2

theorem posDistT_read (L : Laws I n rd co) (g : GOps V) (K : Kernel V) (i j : Nat) (hi : i < N) (hj : j < N) (s : σ)
    (hI : I s) (hn : n s = N) (hco : co s = C) :
    (posDistT g K i j : M σ V) s = (posF g K (C .x) (C .y) (C .z) i j, s) :=
  bind_of_ok (fetch2_read L g i j hi hj s hI hn hco)

theorem obsDistT_read (L : Laws I n rd co) (g : GOps V) (K : Kernel V) (i j : Nat) (hi : i < N) (hj : j < N) (s : σ)
    (hI : I s) (hn : n s = N) (hco : co s = C) :
    (obsDistT g K i j : M σ V) s = (obsF g K (C .x) (C .y) (C .z) i j, s) :=
  bind_of_ok (fetch2_read L g i j hi hj s hI hn hco)

/-- the class of the positions DEFINES a planimetric distance `D` (ENU, Geo): no refusal, the method never raises -/
structure Defines (K : Kernel V) (D : V → V → V → V → V → V → V) : Prop where
  refuse : K.refuse = none
  pos : ∀ a b c d e f, K.pos a b c d e f = .ok (D a b c d e f)

def distF (g : GOps V) (D : V → V → V → V → V → V → V) (X Y Z : List V) (i j : Nat) : V :=
  let p := ptsF g X Y Z i j
  D p.1 p.2.1 p.2.2.1 p.2.2.2.1 p.2.2.2.2.1 p.2.2.2.2.2

variable {K : Kernel V} {D : V → V → V → V → V → V → V}

theorem distT_defines (L : Laws I n rd co) (g : GOps V) (hK : Defines K D) (s : σ) (hI : I s) (hn : n s = N)
    (hco : co s = C) :
    ReadsLeg (posDistT g K : Nat → Nat → M σ V) (distF g D (C .x) (C .y) (C .z)) N s
    ∧ ReadsLeg (obsDistT g K : Nat → Nat → M σ V) (distF g D (C .x) (C .y) (C .z)) N s := by
  refine ⟨fun i j hi hj => ?_, fun i j hi hj => ?_⟩
  · rw [posDistT_read L g K i j hi hj s hI hn hco]
    exact congrArg (·, s) (hK.pos ..)
  · rw [obsDistT_read L g K i j hi hj s hI hn hco]
    unfold obsF Kernel.obs
    rw [hK.refuse]
    exact congrArg (·, s) (hK.pos ..)

theorem dsAlgK_read (L : Laws I n rd co) (g : GOps V) (hK : Defines K D) (i : Nat) (hi : i < N) (s : σ) (hI : I s)
    (hn : n s = N) (hco : co s = C) :
    (dsAlgK g K i : M σ V) s = (.ok (dsL g (distF g D (C .x) (C .y) (C .z)) i), s) :=
  dsAlg_read g (distT_defines L g hK s hI hn hco).2 i hi

theorem speedAlgK_read (L : Laws I n rd co) (g : GOps V) (hK : Defines K D) (hN : 2 ≤ N) (i : Nat) (hi : i < N) (s : σ)
    (hI : I s) (hn : n s = N) (hco : co s = C) :
    (speedAlgK g K i : M σ V) s = (.ok (speedL g (distF g D (C .x) (C .y) (C .z)) (C .t) N i), s) :=
  speedAlg_read L _ _ s hn (speedBetween_read L g (distT_defines L g hK s hI hn hco).1 hI hn hco) hN i hi

theorem curvAbsK_read (L : Laws I n rd co) (g : GOps V) (hK : Defines K D) (s : σ) (hI : I s) :
    (curvAbsK g K : M σ V) s = (.ok (sumL g (distF g D (co s .x) (co s .y) (co s .z)) (n s - 1)), s) :=
  sumLegs_read L g (distT_defines L g hK s hI rfl rfl).1

end laws
end TV.CinTabK
