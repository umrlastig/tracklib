import TracklibVerif.Lemmas.ViterbiSentinel
import Mathlib.Algebra.Order.Monoid.Defs
import Mathlib.Algebra.Order.Monoid.Unbundled.Pow
/-! The sentinel hypothesis `PathsBelow` from a bound on the table entries (C09): when no entry of the cost tables
exceeds `B ≥ 0`, the running cost of a candidate sequence at the moment it is compared with `best_val` at epoch
`k+1` is at most `(2k+2)·B`; so `(2N)·B < 1e300` suffices. For likelihood tables of non-negative likelihoods
`B = -log eps` (690.78 for the code's guard): the hypothesis holds for every track of fewer than `7·10^296` epochs
(`TV.C09.likelihood_form_nonneg`). Also: `+` is a monotone accumulation, and with non-negative costs it never decreases a
value. Imports no analysis on purpose: next to the reals, instance search on these ordered-monoid statements is much
slower. -/
namespace TV.Viterbi
variable {α : Type} [LinearOrder α] [AddCommMonoid α] [IsOrderedAddMonoid α]

theorem mono_of_add (t : Tables α) (hadd : t.add = (· + ·)) : Mono t := by
  constructor
  · intro a b c hab; rw [hadd]; exact add_le_add_left hab c
  · intro a b c hab; rw [hadd]; exact add_le_add_right hab c

/-- `+` with non-negative costs never decreases a running value (in `WithTop β`, `ℝ≥0∞`, … `⊤` is a non-negative cost). -/
theorem infl_of_add (t : Tables α) (hadd : t.add = (· + ·)) (N : Nat)
    (hobs : ∀ k l, k ≤ N → l < t.n k → 0 ≤ t.obs k l)
    (htr : ∀ k m l, k < N → m < t.n k → l < t.n (k+1) → 0 ≤ t.trans k m l) : Infl t N := by
  constructor
  · intro k m l a hk hm hl; rw [hadd]; exact le_add_of_nonneg_left (htr k m l hk hm hl)
  · intro k l a hk hl; rw [hadd]; exact le_add_of_nonneg_right (hobs k l hk hl)

theorem cost_le_nsmul (t : Tables α) (hadd : t.add = (· + ·)) (B : α) (N : Nat)
    (hobs : ∀ k l, k ≤ N → l < t.n k → t.obs k l ≤ B)
    (htr : ∀ k m l, k < N → m < t.n k → l < t.n (k+1) → t.trans k m l ≤ B)
    (σ : Nat → Nat) (hσ : ∀ k, k ≤ N → σ k < t.n k) :
    ∀ k, k ≤ N → cost t σ k ≤ (2 * k + 1) • B := by
  intro k
  induction k with
  | zero =>
    intro hk
    show t.obs 0 (σ 0) ≤ 1 • B
    rw [one_nsmul]
    exact hobs 0 (σ 0) hk (hσ 0 hk)
  | succ k ih =>
    intro hk
    -- (2k+3)·B = (B + (2k+1)·B) + B, one summand for each of the three terms of the cost
    rw [show 2 * (k + 1) + 1 = (2 * k + 1) + 1 + 1 from rfl, succ_nsmul, succ_nsmul, add_comm (_ • B) B]
    simp only [cost, hadd]
    exact add_le_add (add_le_add (htr k (σ k) (σ (k+1)) (by omega) (hσ k (by omega)) (hσ (k+1) hk)) (ih (by omega)))
      (hobs (k+1) (σ (k+1)) hk (hσ (k+1) hk))

theorem pathsBelow_of_bounded (t : Tables α) (hadd : t.add = (· + ·)) (B : α) (hB : 0 ≤ B) (N : Nat)
    (hobs : ∀ k l, k ≤ N → l < t.n k → t.obs k l ≤ B)
    (htr : ∀ k m l, k < N → m < t.n k → l < t.n (k+1) → t.trans k m l ≤ B)
    (hbig : (2 * N) • B < t.big) : PathsBelow t N := by
  intro σ hσ k hk
  rw [hadd]
  refine lt_of_le_of_lt (le_trans (add_le_add (htr k (σ k) (σ (k+1)) hk (hσ k (by omega)) (hσ (k+1) (by omega)))
    (cost_le_nsmul t hadd B N hobs htr σ hσ k (by omega))) ?_) hbig
  rw [add_comm, ← succ_nsmul]
  exact nsmul_le_nsmul_left hB (by omega)
end TV.Viterbi
