import TracklibVerif.Model.RasterLayout
import TracklibVerif.Lemmas.Features
/-! Helper lemmas for C19 about the feature table of a track (`Model/RasterLayout.lean`):

* the loops of `addColl` (the missing-feature test, `addTracks`) depend on the tracks only through their positions and the view
  "feature name ↦ values" (`featVals`, `SameColl`); `add_collection_by_name` (`Props/C19Layout.lean`) states it of `addColl`;
* the script that builds the features of a track, run on the concrete table (dictionary of ranks + `Obs.features`),
  is simulated by the same script on the table by name (the refinement proved for C01, `Lemmas/Features.lean`), so
  the view by name of the track the driver builds does not depend on the ranks. -/
namespace TV.Raster
open TV.Features

section congr

section
variable {α : Type} [Add α] [Sub α] [Mul α] [Div α] [OfNat α 0] [OfNat α 1] [OfNat α 2] [IntCast α] [NatCast α]
  [LT α] [DecidableLT α] [LE α] [DecidableLE α] [BEq α]

def SameByName (afs : List String) (t t' : Trk α) : Prop :=
  t.pts = t'.pts ∧ ∀ af ∈ afs, featVals t af = featVals t' af

inductive SameColl (afs : List String) : List (Trk α) → List (Trk α) → Prop
  | nil : SameColl afs [] []
  | cons {t t' : Trk α} {ts ts' : List (Trk α)} : SameByName afs t t' → SameColl afs ts ts' → SameColl afs (t :: ts) (t' :: ts')

end

section
variable {α : Type} [NatCast α]

theorem featVals_congr {t t' : Trk α} (af : String) (hu : t.uid = t'.uid) (hp : t.pts = t'.pts)
    (hf : t.feats.lookup af = t'.feats.lookup af) : featVals t af = featVals t' af := by
  unfold featVals
  rw [hu, hp, hf]

theorem any_missing_congr (afs : List String) : ∀ (ts ts' : List (Trk α)), SameColl afs ts ts' →
    ts.any (fun t => afs.any (fun af => (featVals t af).isNone)) = ts'.any (fun t => afs.any (fun af => (featVals t af).isNone)) := by
  intro ts ts' h
  induction h with
  | nil => rfl
  | @cons t t' ts ts' hd _ ih =>
    have : afs.any (fun af => (featVals t af).isNone) = afs.any (fun af => (featVals t' af).isNone) :=
      (List.any_map (p := Option.isNone)).symm.trans
        ((congrArg (·.any Option.isNone) (List.map_congr_left hd.2)).trans List.any_map)
    simp only [List.any_cons, this, ih]

end

section
variable {α : Type} [Sub α] [Div α] [IntCast α] [NatCast α] [LT α] [DecidableLT α] [BEq α]

theorem growE_congr (floor : α → Int) (g : Grid α) (t t' : Trk α) (e : String × Cells (Option α))
    (hp : t.pts = t'.pts) (hf : featVals t e.1 = featVals t' e.1) : growE floor g t e = growE floor g t' e := by
  unfold growE obsOf
  rw [hf, hp]

theorem addTrack_keys (floor : α → Int) (g : Grid α) (t : Trk α) (V : Vals α) :
    (addTrack floor g t V).1.map Prod.fst = V.map Prod.fst := by
  have key : ∀ {e e' : String × Cells (Option α)} {x}, growE floor g t e = (e', x) → e'.1 = e.1 := fun {e _ _} he =>
    (congrArg (·.1.1) he).symm.trans (by unfold growE; cases featVals t e.1 <;> rfl)
  fun_induction addTrack floor g t V with
  | case1 => rfl
  | case2 e rest e' x he => exact congrArg (· :: _) (key he)
  | case3 e rest e' he r ih => exact (congrArg (· :: _) (key he)).trans (congrArg (e.1 :: ·) ih)

theorem addTrack_congr (floor : α → Int) (g : Grid α) (t t' : Trk α) (hp : t.pts = t'.pts) : ∀ V : Vals α,
    (∀ e ∈ V, featVals t e.1 = featVals t' e.1) → addTrack floor g t V = addTrack floor g t' V := by
  intro V
  induction V with
  | nil => intro _; rfl
  | cons e rest ih =>
    intro h
    unfold addTrack
    rw [growE_congr floor g t t' e hp (h e (by simp)), ih (fun e' he' => h e' (by simp [he']))]

theorem addTracks_congr (floor : α → Int) (g : Grid α) (afs : List String) : ∀ (ts ts' : List (Trk α)) (V : Vals α),
    SameColl afs ts ts' → (∀ k ∈ V.map Prod.fst, k ∈ afs) →
    addTracks floor g ts V = addTracks floor g ts' V := by
  intro ts ts' V h
  induction h generalizing V with
  | nil => intro _; rfl
  | @cons t t' ts ts' hd _ ih =>
    intro hV
    unfold addTracks
    have h1 : addTrack floor g t V = addTrack floor g t' V :=
      addTrack_congr floor g t t' hd.1 V (fun e he => hd.2 e.1 (hV e.1 (List.mem_map_of_mem he)))
    rw [← h1]
    cases hr : addTrack floor g t V with
    | mk V' r =>
      cases r with
      | some x => rfl
      | none =>
        have hk := addTrack_keys floor g t V
        rw [hr] at hk
        exact ih V' (by rw [hk]; exact hV)

end

end congr

section table
variable {α : Type}

/-- the script on the table by name (the specification table of C01): no rank anywhere -/
def LStep.runA : LStep α → M (ATab (Option α)) Unit
  | .create n vs => createA n (.list vs)
  | .remove n => removeA n
  | .write n vs => M.forEach vs.zipIdx (fun p => setObsA n p.2 p.1)

def runScriptA (steps : List (LStep α)) : M (ATab (Option α)) Unit := M.forEach steps LStep.runA

theorem sim_lstep (n : Nat) (s : LStep α) : Sim n (fun _ => True) s.run s.runA := by
  cases s with
  | create nm vs => exact sim_create nm (.list vs)
  | remove nm => exact sim_remove nm
  | write nm vs => exact sim_forEach _ (fun p _ => sim_setObs nm p.2 p.1)

theorem sim_script (n : Nat) (steps : List (LStep α)) : Sim n (fun _ => True) (runScript steps) (runScriptA steps) :=
  sim_forEach _ (fun s _ => sim_lstep n s)

theorem inv_tab0 (pts : List (α × α)) : Inv pts.length (tab0 pts) where
  enum := rfl
  nodup := List.nodup_nil
  rows := by intro r hr; simp [tab0] at hr; simp [tab0, hr]
  size := by simp [tab0]
  xs := by simp [tab0]
  ys := by simp [tab0]
  zs := by simp [tab0]
  ts := by simp [tab0]

theorem featsOfTab_abs (st : St (Option α)) : featsOfTab st = (abs st).cols := rfl

theorem list_lookup_eq (cols : List (String × List (Option α))) (af : String) :
    cols.lookup af = Features.lookup cols af := by
  induction cols with
  | nil => rfl
  | cons p rest ih =>
    obtain ⟨k, v⟩ := p
    unfold Features.lookup at ih ⊢
    by_cases h : af = k
    · subst h; simp [List.lookup, List.find?]
    · have h' : (k == af) = false := by simpa using fun hh => h hh.symm
      have h'' : (af == k) = false := by simpa using h
      simp [List.lookup, List.find?, h', h'', ih]

end table
end TV.Raster
