import TracklibVerif.Model.PDict
import TracklibVerif.Lemmas.Heapq
import Mathlib.Order.Defs.LinearOrder
import Mathlib.Order.Basic
/-! `priority_dict.pop_smallest` returns the key with the smallest `(priority, key)` among the current dict
entries, whatever stale entries the heap holds, provided every dict entry has its heap entry and `_heap` is a
binary heap (`HInv`), which `priority_dict(d)` (`heapify`), `__setitem__` (`heappush` / rebuild) and `pop_smallest`
(`heappop`) maintain. The `heapq` facts come from `Lemmas/Heapq.lean`. -/
namespace TV.PDict
open TV.Heapq
variable {W : Type}

theorem lookup_filter_ne (l : List (Nat × W)) (k k' : Nat) :
    lookup (l.filter (fun p => p.1 ≠ k)) k' = if k' = k then none else lookup l k' := by
  induction l with
  | nil => simp [lookup]
  | cons p r ih =>
    obtain ⟨a, v⟩ := p
    by_cases ha : a = k
    · subst ha
      simp only [List.filter, ne_eq, not_true_eq_false, decide_false, ih, lookup]
      by_cases hk : k' = a
      · simp [hk]
      · have : ¬ a = k' := fun h => hk h.symm
        simp [hk, this]
    · simp only [List.filter, ne_eq, ha, not_false_eq_true, decide_true, lookup, ih]
      by_cases hk : a = k'
      · have : ¬ k' = k := by rw [← hk]; exact ha
        simp [hk, this]
      · simp [hk]

theorem lookup_mem (l : List (Nat × W)) (k : Nat) (v : W) (h : lookup l k = some v) : (k, v) ∈ l := by
  fun_induction lookup l k with
  | case1 => cases h
  | case2 => cases h; exact List.mem_cons_self
  | case3 _ _ _ _ _ ih => exact List.mem_cons_of_mem _ (ih h)

theorem lookup_dictSet (l : List (Nat × W)) (k k' : Nat) (v : W) :
    lookup (dictSet l k v) k' = if k' = k then some v else lookup l k' := by
  fun_induction dictSet l k v with
  | case1 k v => simp only [lookup, eq_comm]
  | case2 w r k v =>
    simp only [lookup, eq_comm (a := k')]
    split <;> rfl
  | case3 a w r k v ha ih =>
    simp only [lookup, ih]
    split
    next h => rw [if_neg (h ▸ ha)]
    next h => rfl

theorem mem_dictSet (l : List (Nat × W)) (k : Nat) (v : W) (p : Nat × W) (h : p ∈ dictSet l k v) :
    p.1 = k ∨ p ∈ l := by
  fun_induction dictSet l k v with
  | case1 k v => exact Or.inl (List.mem_singleton.1 h ▸ rfl)
  | case2 v' r k v =>
    exact (List.mem_cons.1 h).elim (fun e => Or.inl (e ▸ rfl)) fun h => Or.inr (List.mem_cons_of_mem _ h)
  | case3 k' v' r k v hk ih =>
    rcases List.mem_cons.1 h with rfl | h
    · exact Or.inr List.mem_cons_self
    · exact (ih h).imp_right (List.mem_cons_of_mem _)

variable [LinearOrder W]

def tle (a b : W × Nat) : Prop := a.1 < b.1 ∨ (a.1 = b.1 ∧ a.2 ≤ b.2)

theorem tle_refl (a : W × Nat) : tle a a := Or.inr ⟨rfl, Nat.le_refl _⟩

theorem tle_trans {a b c : W × Nat} (h1 : tle a b) (h2 : tle b c) : tle a c := by
  rcases h1 with h1 | ⟨h1, h1'⟩ <;> rcases h2 with h2 | ⟨h2, h2'⟩
  · exact Or.inl (lt_trans h1 h2)
  · exact Or.inl (by rw [← h2]; exact h1)
  · exact Or.inl (by rw [h1]; exact h2)
  · exact Or.inr ⟨h1.trans h2, Nat.le_trans h1' h2'⟩

theorem tle_antisymm {a b : W × Nat} (h1 : tle a b) (h2 : tle b a) : a = b := by
  rcases h1 with h1 | ⟨h1, h1'⟩ <;> rcases h2 with h2 | ⟨h2, h2'⟩
  · exact absurd (lt_trans h1 h2) (lt_irrefl _)
  · rw [h2] at h1; exact absurd h1 (lt_irrefl _)
  · rw [h1] at h2; exact absurd h2 (lt_irrefl _)
  · exact Prod.ext h1 (Nat.le_antisymm h1' h2')

theorem tlt_true {a b : W × Nat} (h : tlt b a = true) : tle b a := by
  simp only [tlt, Bool.or_eq_true, decide_eq_true_eq, Bool.and_eq_true, Bool.not_eq_true', decide_eq_false_iff_not] at h
  rcases h with h | ⟨h1, h2⟩
  · exact Or.inl h
  · rcases lt_or_eq_of_le (not_lt.mp h1) with h' | h'
    · exact Or.inl h'
    · exact Or.inr ⟨h', Nat.le_of_lt h2⟩

theorem tlt_false {a b : W × Nat} (h : tlt b a = false) : tle a b := by
  simp only [tlt, Bool.or_eq_false_iff, decide_eq_false_iff_not, Bool.and_eq_false_iff, Bool.not_eq_false',
    decide_eq_true_eq] at h
  obtain ⟨h1, h2⟩ := h
  rcases lt_or_eq_of_le (not_lt.mp h1) with h' | h'
  · exact Or.inl h'
  · rcases h2 with h2 | h2
    · rw [h'] at h2; exact absurd h2 (lt_irrefl _)
    · exact Or.inr ⟨h', Nat.le_of_not_lt h2⟩

theorem tlt_of_tle {a b : W × Nat} (h : tle a b) : tlt b a = false := by
  simp only [tlt, Bool.or_eq_false_iff, decide_eq_false_iff_not, Bool.and_eq_false_iff, Bool.not_eq_false',
    decide_eq_true_eq]
  rcases h with h | ⟨h1, h2⟩
  · exact ⟨not_lt.mpr (le_of_lt h), Or.inl h⟩
  · exact ⟨by rw [h1]; exact lt_irrefl _, Or.inr (by omega)⟩

/-- Python's tuple order on `(priority, key)` is a strict weak (indeed total) order: what `heapq` needs -/
theorem tlt_ord : Ord (tlt (W := W)) := by
  constructor
  · intro a b h
    have h1 := tlt_true h
    cases h2 : tlt b a with
    | false => rfl
    | true =>
      have := tle_antisymm h1 (tlt_true h2)
      subst this
      simp [tlt] at h
  · intro a b c h1 h2
    exact tlt_of_tle (tle_trans (tlt_false h1) (tlt_false h2))

theorem current_iff (dict : List (Nat × W)) (k : Nat) (v : W) : current dict k v = true ↔ lookup dict k = some v := by
  unfold current
  cases lookup dict k with
  | none => simp
  | some v' =>
    simp only [Bool.and_eq_true, Bool.not_eq_true', decide_eq_false_iff_not, Option.some.injEq]
    constructor
    · rintro ⟨h1, h2⟩; exact le_antisymm (not_lt.mp h2) (not_lt.mp h1)
    · intro h; rw [h]; exact ⟨lt_irrefl _, lt_irrefl _⟩

def HInv (pd : PD W) : Prop := (∀ k v, lookup pd.dict k = some v → (v, k) ∈ pd.heap) ∧ IsHeap tlt pd.heap

theorem popLoop_spec (dict : List (Nat × W)) (f : Nat) (heap : List (W × Nat)) (hf : heap.length < f)
    (hinv : ∀ k v, lookup dict k = some v → (v, k) ∈ heap) (hheap : IsHeap tlt heap)
    (k0 : Nat) (v0 : W) (h0 : lookup dict k0 = some v0) :
    ∃ k v rest, popLoop dict f heap = some (k, rest) ∧ lookup dict k = some v ∧
      (∀ k' v', lookup dict k' = some v' → tle (v, k) (v', k')) ∧
      (∀ k' v', k' ≠ k → lookup dict k' = some v' → (v', k') ∈ rest) ∧ IsHeap tlt rest := by
  fun_induction popLoop dict f heap with
  | case1 heap => omega
  | case2 f heap hm => exact absurd (hinv k0 v0 h0) ((heappop_none tlt heap).1 hm ▸ List.not_mem_nil)
  | case3 f heap m rest hm hc =>
    obtain ⟨e1, e2, e3, _⟩ := heappop_spec tlt_ord heap hheap m rest hm
    refine ⟨m.2, m.1, rest, rfl, (current_iff dict m.2 m.1).1 hc, fun k' v' h => tlt_false (e3 _ (hinv k' v' h)),
      fun k' v' hne h => ?_, e2⟩
    exact (List.mem_cons.1 (e1.mem_iff.1 (hinv k' v' h))).resolve_left fun h' => hne (congrArg Prod.snd h')
  | case4 f heap m rest hm hc ih =>
    obtain ⟨e1, e2, _⟩ := heappop_spec tlt_ord heap hheap m rest hm
    refine ih (by have := e1.length_eq; simp at this; omega) (fun k v h => ?_) e2
    exact (List.mem_cons.1 (e1.mem_iff.1 (hinv k v h))).resolve_left fun h' => hc ((current_iff ..).2 (h' ▸ h))

theorem popLoop_key (dict : List (Nat × W)) (f : Nat) (heap : List (W × Nat)) (k : Nat) (rest : List (W × Nat))
    (h : popLoop dict f heap = some (k, rest)) : ∃ v, lookup dict k = some v := by
  fun_induction popLoop dict f heap with
  | case3 f heap m r hm hc => cases h; exact ⟨m.1, (current_iff dict m.2 m.1).1 hc⟩
  | case4 f heap m r hm hc ih => exact ih h
  | _ => cases h

theorem popSmallest_spec (pd : PD W) (hinv : HInv pd) (k0 : Nat) (v0 : W) (h0 : lookup pd.dict k0 = some v0) :
    ∃ k v pd', popSmallest pd = some (k, pd') ∧ lookup pd.dict k = some v ∧
      (∀ k' v', lookup pd.dict k' = some v' → tle (v, k) (v', k')) ∧
      (∀ k', lookup pd'.dict k' = if k' = k then none else lookup pd.dict k') ∧ HInv pd' := by
  obtain ⟨k, v, rest, h1, h2, h3, h4, h5⟩ :=
    popLoop_spec pd.dict (pd.heap.length + 1) pd.heap (by omega) hinv.1 hinv.2 k0 v0 h0
  refine ⟨k, v, _, by unfold popSmallest; rw [h1], h2, h3, fun k' => lookup_filter_ne _ _ _, ?_, h5⟩
  intro k' v' h
  simp only [lookup_filter_ne] at h
  split at h
  · cases h
  · rename_i hne; exact h4 k' v' hne h

/-- `pop_smallest` fails (IndexError) only on an empty dict — the forward loop tests `len(fil) != 0` first -/
theorem popSmallest_none (pd : PD W) (hinv : HInv pd) (h : popSmallest pd = none) : pd.dict = [] := by
  cases hd : pd.dict with
  | nil => rfl
  | cons p r =>
    obtain ⟨a, w⟩ := p
    obtain ⟨k, v, pd', h1, _⟩ := popSmallest_spec pd hinv a w (by rw [hd]; simp [lookup])
    rw [h] at h1; cases h1

theorem rebuild_spec (dict : List (Nat × W)) :
    (∀ k v, lookup dict k = some v → (v, k) ∈ rebuild dict) ∧ IsHeap tlt (rebuild dict) := by
  obtain ⟨a, b⟩ := heapify_spec tlt_ord (dict.map (fun p => (p.2, p.1)))
  refine ⟨?_, a⟩
  intro k v h
  unfold rebuild
  rw [b.mem_iff]
  simp only [List.mem_map]
  exact ⟨(k, v), lookup_mem _ _ _ h, rfl⟩

theorem ofDict_inv (dict : List (Nat × W)) : HInv (ofDict dict) := rebuild_spec dict

theorem setitem_spec (pd : PD W) (hinv : HInv pd) (k : Nat) (v : W) :
    (∀ k', lookup (setitem pd k v).dict k' = if k' = k then some v else lookup pd.dict k') ∧ HInv (setitem pd k v) := by
  have hl := lookup_dictSet pd.dict k (v := v)
  unfold setitem
  simp only []
  split
  · obtain ⟨p1, p2⟩ := heappush_spec tlt_ord pd.heap (v, k) hinv.2
    refine ⟨fun k' => hl k', ?_, p1⟩
    intro k' v' h
    simp only [] at h ⊢
    rw [hl k'] at h
    rw [p2.mem_iff]
    split at h
    · rename_i hk; cases h; rw [hk]; exact List.mem_cons_self
    · exact List.mem_cons_of_mem _ (hinv.1 k' v' h)
  · exact ⟨fun k' => hl k', rebuild_spec _⟩
end TV.PDict
