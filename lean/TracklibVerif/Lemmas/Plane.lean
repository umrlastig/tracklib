import Mathlib.Algebra.Order.Ring.Defs
import Mathlib.Tactic.LinearCombination
/-! Plane geometry in coordinates over an ordered commutative ring, stated about variables: the two polynomial facts behind
`minCircle`'s leaf circles and `findStopsGlobal`'s early exit. -/
namespace TV.Plane
variable {K : Type} [CommRing K] [LinearOrder K] [IsStrictOrderedRing K]

/-- two points of a disc are at most one diameter apart (squared: `4 r`); `u`, `v` are the points relative to the centre -/
theorem sq_dist_le_of_disc {u1 u2 v1 v2 r : K} (hu : u1 * u1 + u2 * u2 ≤ r) (hv : v1 * v1 + v2 * v2 ≤ r) :
    (v1 - u1) * (v1 - u1) + (v2 - u2) * (v2 - u2) ≤ 4 * r := by
  linear_combination 2 * hu + 2 * hv + mul_self_nonneg (u1 + v1) + mul_self_nonneg (u2 + v2)

/-- A triangle `0, b, c` with no obtuse angle (`a1`, `a2`, `a3`: the three dot products) and a disc of centre `w`, squared radius
`s`, containing its vertices: the circumradius is at most `s`. The circumcentre `u` is given by its equations `2 b·u = |b|²`,
`2 c·u = |c|²`; with `D = bx cy − by cx ≠ 0` they say `2 D u = N`, `N` the pair of cubic expressions below. The weights of
`e1`, `e2`, `e3` are the barycentric coordinates of the circumcentre, non-negative exactly because no angle is obtuse; they
sum to `2 D²`. -/
theorem circumradius_le_of_acute {bx by' cx cy ux uy wx wy s : K} (hD : bx * cy - by' * cx ≠ 0)
    (hb : bx * bx + by' * by' = 2 * (bx * ux + by' * uy)) (hc : cx * cx + cy * cy = 2 * (cx * ux + cy * uy))
    (a1 : 0 ≤ bx * cx + by' * cy) (a2 : 0 ≤ bx * bx + by' * by' - (bx * cx + by' * cy))
    (a3 : 0 ≤ cx * cx + cy * cy - (bx * cx + by' * cy))
    (e1 : wx * wx + wy * wy ≤ s) (e2 : (bx - wx) * (bx - wx) + (by' - wy) * (by' - wy) ≤ s)
    (e3 : (cx - wx) * (cx - wx) + (cy - wy) * (cy - wy) ≤ s) : ux * ux + uy * uy ≤ s := by
  have hB : 0 ≤ bx * bx + by' * by' := add_nonneg (mul_self_nonneg _) (mul_self_nonneg _)
  have hC : 0 ≤ cx * cx + cy * cy := add_nonneg (mul_self_nonneg _) (mul_self_nonneg _)
  have hBC : 0 ≤ (bx - cx) * (bx - cx) + (by' - cy) * (by' - cy) := add_nonneg (mul_self_nonneg _) (mul_self_nonneg _)
  have l1 := mul_le_mul_of_nonneg_left e1 (mul_nonneg a1 hBC)
  have l2 := mul_le_mul_of_nonneg_left e2 (mul_nonneg hC a2)
  have l3 := mul_le_mul_of_nonneg_left e3 (mul_nonneg hB a3)
  have sq := add_nonneg
    (mul_self_nonneg (2 * (bx * cy - by' * cx) * wx - (cy * (bx * bx + by' * by') - by' * (cx * cx + cy * cy))))
    (mul_self_nonneg (2 * (bx * cy - by' * cx) * wy - (bx * (cx * cx + cy * cy) - cx * (bx * bx + by' * by'))))
  have poly : (cy * (bx * bx + by' * by') - by' * (cx * cx + cy * cy)) * (cy * (bx * bx + by' * by') - by' * (cx * cx + cy * cy))
      + (bx * (cx * cx + cy * cy) - cx * (bx * bx + by' * by')) * (bx * (cx * cx + cy * cy) - cx * (bx * bx + by' * by'))
      ≤ 4 * ((bx * cy - by' * cx) * (bx * cy - by' * cx)) * s := by
    linear_combination 2 * l1 + 2 * l2 + 2 * l3 + sq
  have n1 : cy * (bx * bx + by' * by') - by' * (cx * cx + cy * cy) = 2 * (bx * cy - by' * cx) * ux := by
    linear_combination cy * hb - by' * hc
  have n2 : bx * (cx * cx + cy * cy) - cx * (bx * bx + by' * by') = 2 * (bx * cy - by' * cx) * uy := by
    linear_combination bx * hc - cx * hb
  rw [n1, n2] at poly
  refine le_of_mul_le_mul_left ?_ (mul_pos four_pos (mul_self_pos.mpr hD))
  linear_combination poly
end TV.Plane
