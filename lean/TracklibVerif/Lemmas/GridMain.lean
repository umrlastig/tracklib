import TracklibVerif.Lemmas.GridQuery
/-! Registration as a whole: the consecutive vertex pairs of a track (`Consec`), the indices on which nothing raises (`Good`),
what it means that a segment is registered (`Registered`), `__getCell` as an affine map, the loops `__addSegment` /
`addFeature` / the registration loop of `__init__` and of `Network.addEdge` on them (each returns, keeps the index `Good`,
keeps what was registered and registers every point of every segment), and the constructor `build`. -/
namespace TV.Grid
variable {α : Type} [Field α] [LinearOrder α]

def Consec {β : Type} : List β → List (β × β)
  | [] => []
  | [_] => []
  | a :: b :: rest => (a, b) :: Consec (b :: rest)

theorem mem_consec_iff {β : Type} {A B : β} : ∀ {t : List β}, (A, B) ∈ Consec t ↔ [A, B] <:+: t
  | [] => by simp [Consec]
  | [a] => by
    simp only [Consec, List.not_mem_nil, false_iff]
    exact fun h => absurd h.length_le (by simp)
  | a :: b :: rest => by
    rw [List.infix_cons_iff, ← mem_consec_iff (t := b :: rest), List.cons_prefix_cons, List.cons_prefix_cons]
    simp only [Consec, List.mem_cons, Prod.mk.injEq, List.nil_prefix, and_true]

theorem mem_of_consec {β : Type} (t : List β) (A B : β) (hAB : (A, B) ∈ Consec t) : A ∈ t ∧ B ∈ t :=
  have s := (mem_consec_iff.mp hAB).subset
  ⟨s (List.mem_cons_self ..), s (List.mem_cons_of_mem _ (List.mem_cons_self ..))⟩

theorem consec_filter {β : Type} (p : β → Bool) (t : List β) (A B : β) (hAB : (A, B) ∈ Consec t)
    (hA : p A = true) (hB : p B = true) : (A, B) ∈ Consec (t.filter p) := by
  have := (mem_consec_iff.mp hAB).filter p
  rw [List.filter_cons_of_pos hA, List.filter_cons_of_pos hB] at this
  exact mem_consec_iff.mpr this

def lerp (A B : α × α) (s : α) : α × α := (A.1 + s * (B.1 - A.1), A.2 + s * (B.2 - A.2))

def Good (ix : Index α) : Prop := WF ix ∧ 1 ≤ ix.csize ∧ 1 ≤ ix.lsize ∧ 0 < ix.dX ∧ 0 < ix.dY ∧ Bounded ix

theorem Good.bounded {ix : Index α} (h : Good ix) : Bounded ix := h.2.2.2.2.2

theorem Good.same {ix ix' : Index α} (h : Good ix) (hs : Same ix ix') (hw : WF ix') : Good ix' := by
  have hb := h.bounded.same hs
  obtain ⟨_, _, _, _, e5, e6, e7, e8⟩ := hs
  obtain ⟨_, a, b, c, d, _⟩ := h
  exact ⟨hw, by rw [e5]; exact a, by rw [e6]; exact b, by rw [e7]; exact c, by rw [e8]; exact d, hb⟩

theorem Good.nz {ix : Index α} (h : Good ix) : NZ ix :=
  ⟨(isZero_false_iff _).mpr (ne_of_gt h.2.2.2.1), (isZero_false_iff _).mpr (ne_of_gt h.2.2.2.2.1)⟩

theorem Good.side_pos {ix : Index α} (h : Good ix) : 0 < min ix.dX ix.dY := lt_min h.2.2.2.1 h.2.2.2.2.1

theorem Good.getCellR {ix : Index α} (h : Good ix) (p : α × α) : getCellR ix p = .ok (getCell ix p) :=
  getCellR_of_nz ix h.nz h.bounded p

def Registered (fl : α → Int) (ix : Index α) (A B : α × α) (k : Nat) : Prop :=
  ∀ s : α, 0 ≤ s → s ≤ 1 → ∃ c, getCell ix (lerp A B s) = some c ∧ Holds ix.grid (cellOf fl ix c).1 (cellOf fl ix c).2 k

theorem Registered.ext {fl : α → Int} {ix ix' : Index α} {A B : α × α} {k : Nat} (h : Registered fl ix A B k)
    (e : Ext ix ix') : Registered fl ix' A B k := by
  intro s hs0 hs1
  obtain ⟨c, hc, hH⟩ := h s hs0 hs1
  exact ⟨c, by rw [getCell_same e.1]; exact hc, by rw [cellOf_same e.1]; exact e.2 _ _ _ hH⟩

theorem build_ok_iff (fl : α → Int) (feats : List (List (α × α))) (res : Option (α × α)) (margin : α) (ix : Index α) :
    build fl feats res margin = .ok ix ↔ ∃ bb ix0, bboxOf feats.flatten = some bb ∧
      mkIndex fl bb res margin = .ok ix0 ∧ addFeatures fl ix0 0 feats = .ok ix := by
  constructor
  · fun_cases build fl feats res margin
    case case3 bb h1 ix0 h2 => exact fun h => ⟨bb, ix0, h1, h2, h⟩
    all_goals nofun
  · rintro ⟨bb, ix0, h1, h2, h3⟩
    simp only [build, h1, h2, h3]

variable [IsStrictOrderedRing α]

theorem getCell_lerp (ix : Index α) (A B pA pB : α × α) (s : α) (hs0 : 0 ≤ s) (hs1 : s ≤ 1)
    (hA : getCell ix A = some pA) (hB : getCell ix B = some pB) :
    getCell ix (lerp A B s) = some (lerp pA pB s) := by
  obtain ⟨a1, a2, rfl⟩ := (getCell_some_iff ix A pA).mp hA
  obtain ⟨b1, b2, rfl⟩ := (getCell_some_iff ix B pB).mp hB
  rw [getCell_some_iff]
  refine ⟨between A.1 B.1 ix.xmin ix.xmax s hs0 hs1 a1 b1, between A.2 B.2 ix.ymin ix.ymax s hs0 hs1 a2 b2, ?_⟩
  unfold lerp
  simp only [Prod.mk.injEq]
  constructor <;> ring

theorem frac_index_range (o hi dC x : α) (n : Int) (hdC : 0 < dC) (hn : 1 ≤ n)
    (htile : o < hi → dC * ((n : Int) : α) = hi - o) (h1 : o ≤ x) (h2 : x ≤ hi) :
    0 ≤ (x - o) / dC ∧ (x - o) / dC ≤ ((n : Int) : α) := by
  refine ⟨div_nonneg (sub_nonneg.mpr h1) (le_of_lt hdC), ?_⟩
  rw [div_le_iff₀ hdC, mul_comm]
  rcases lt_or_eq_of_le (le_trans h1 h2) with hlt | heq
  · rw [htile hlt]
    exact sub_le_sub_right h2 o
  · rw [le_antisymm (heq ▸ h2) h1, sub_self]
    exact mul_nonneg (le_of_lt hdC) (Int.cast_nonneg (le_trans zero_le_one hn))

theorem floor_index_range {fl : α → Int} (hf : IsFloor fl) (o hi dC x : α) (n : Int) (hdC : 0 < dC)
    (hext : dC * ((n : Int) : α) = hi - o) (h1 : o ≤ x) (h2 : x < hi) :
    0 ≤ fl ((x - o) / dC) ∧ fl ((x - o) / dC) < n := by
  refine ⟨hf.le_iff.mpr (by rw [Int.cast_zero]; exact div_nonneg (sub_nonneg.mpr h1) (le_of_lt hdC)), ?_⟩
  have h3 : (x - o) / dC < ((n : Int) : α) := by
    rw [div_lt_iff₀ hdC, mul_comm, hext]
    exact sub_lt_sub_right h2 o
  exact Int.cast_lt.mp (lt_of_le_of_lt (hf _).1 h3)

theorem getCell_range_of_good (ix : Index α) (hg : Good ix) (p c : α × α)
    (hp : getCell ix p = some c) :
    (0 ≤ c.1 ∧ c.1 ≤ ((ix.csize : Int) : α)) ∧ (0 ≤ c.2 ∧ c.2 ≤ ((ix.lsize : Int) : α)) := by
  obtain ⟨b1, b2⟩ := hg.bounded p c hp
  obtain ⟨_, _, _, hdX, hdY, _⟩ := hg
  obtain ⟨a1, a2, rfl⟩ := (getCell_some_iff ix p c).mp hp
  exact ⟨⟨div_nonneg (sub_nonneg.mpr a1.1) (le_of_lt hdX), b1⟩, ⟨div_nonneg (sub_nonneg.mpr a2.1) (le_of_lt hdY), b2⟩⟩

theorem floor_nonneg_of_getCell {fl : α → Int} (hf : IsFloor fl) (ix : Index α) (hg : Good ix) (p c : α × α)
    (hp : getCell ix p = some c) : 0 ≤ fl c.1 ∧ 0 ≤ fl c.2 := by
  obtain ⟨⟨a1, _⟩, a2, _⟩ := getCell_range_of_good ix hg p c hp
  exact ⟨hf.le_iff.mpr (by rwa [Int.cast_zero]), hf.le_iff.mpr (by rwa [Int.cast_zero])⟩

theorem cellsCross_inGrid {fl : α → Int} (hf : IsFloor fl) (ix : Index α) (hg : Good ix) (A B pA pB : α × α)
    (hA : getCell ix A = some pA) (hB : getCell ix B = some pB) :
    ∀ cell ∈ cellsCross fl ix.csize ix.lsize pA pB, InGrid ix cell := by
  rintro ⟨i, j⟩ hcell
  obtain ⟨a1, a2⟩ := floor_nonneg_of_getCell hf ix hg A pA hA
  obtain ⟨b1, b2⟩ := floor_nonneg_of_getCell hf ix hg B pB hB
  obtain ⟨_, hcs, hls, _⟩ := hg
  obtain ⟨⟨c1, c2⟩, ⟨c3, c4⟩, _⟩ := (mem_cellsCross ..).mp hcell
  have d2 := le_trans c2 (min_le_right _ _)
  have d4 := le_trans c4 (min_le_right _ _)
  exact ⟨⟨le_trans (le_min (le_min a1 b1) (by omega)) c1, by omega⟩,
    le_trans (le_min (le_min a2 b2) (by omega)) c3, by omega⟩

theorem cellOf_inGrid {fl : α → Int} (hf : IsFloor fl) (ix : Index α) (hg : Good ix) (p c : α × α)
    (hp : getCell ix p = some c) : InGrid ix (cellOf fl ix c) := by
  obtain ⟨a1, a2⟩ := floor_nonneg_of_getCell hf ix hg p c hp
  obtain ⟨_, hcs, hls, _⟩ := hg
  unfold cellOf InGrid
  exact ⟨⟨by omega, by omega⟩, by omega, by omega⟩

theorem cellOf_mem_cellsCross {fl : α → Int} (hf : IsFloor fl) (ix : Index α) (hg : Good ix) (A B pA pB : α × α)
    (hA : getCell ix A = some pA) (hB : getCell ix B = some pB) (s : α) (hs0 : 0 ≤ s) (hs1 : s ≤ 1) :
    cellOf fl ix (lerp pA pB s) ∈ cellsCross fl ix.csize ix.lsize pA pB := by
  obtain ⟨r1, r2⟩ := getCell_range_of_good ix hg _ _ (getCell_lerp ix A B pA pB s hs0 hs1 hA hB)
  obtain ⟨x1, x2⟩ := clamp_spec hf _ ix.csize r1.2
  obtain ⟨y1, y2⟩ := clamp_spec hf _ ix.lsize r2.2
  exact cellsCross_complete hf ix.csize ix.lsize pA pB s hs0 hs1 _ _ (min_le_right _ _) (min_le_right _ _)
    ⟨x1, x2.imp_right fun h => ⟨h.1, le_of_eq h.2⟩⟩ ⟨y1, y2.imp_right fun h => ⟨h.1, le_of_eq h.2⟩⟩

theorem addSegment_total {fl : α → Int} (hf : IsFloor fl) (ix : Index α) (hg : Good ix) (A B pA pB : α × α)
    (hA : getCell ix A = some pA) (hB : getCell ix B = some pB) (num : Nat) :
    ∃ ix', addSegment fl ix pA pB num = .ok ix' ∧ Good ix' ∧ Ext ix ix' ∧ Registered fl ix' A B num := by
  obtain ⟨ix', h, e, w, r⟩ := registerCells_total num _ ix hg.1 (cellsCross_inGrid hf ix hg A B pA pB hA hB)
  refine ⟨ix', h, hg.same e.1 w, e, fun s hs0 hs1 => ⟨lerp pA pB s, ?_, ?_⟩⟩
  · rw [getCell_same e.1]; exact getCell_lerp ix A B pA pB s hs0 hs1 hA hB
  · rw [cellOf_same e.1]; exact r _ (cellOf_mem_cellsCross hf ix hg A B pA pB hA hB s hs0 hs1)

theorem addFeatureLoop_total {fl : α → Int} (hf : IsFloor fl) (num : Nat) (track : List (α × α)) (ix : Index α)
    (prev : Option (α × α)) (hg : Good ix) (hin : ∀ p ∈ prev.toList ++ track, getCell ix p ≠ none) :
    ∃ ix', addFeatureLoop fl num ix prev track = .ok ix' ∧ Good ix' ∧ Ext ix ix' ∧
      ∀ A B, (A, B) ∈ Consec (prev.toList ++ track) → Registered fl ix' A B num := by
  induction track generalizing ix prev with
  | nil => cases prev <;> exact ⟨ix, rfl, hg, Ext.refl _, fun _ _ hAB => absurd hAB List.not_mem_nil⟩
  | cons c2 rest ih =>
    cases prev with
    | none => exact ih ix (some c2) hg hin
    | some c1 =>
      obtain ⟨p1, hp1⟩ := Option.ne_none_iff_exists'.mp (hin c1 (List.mem_cons_self ..))
      obtain ⟨p2, hp2⟩ := Option.ne_none_iff_exists'.mp (hin c2 (List.mem_cons_of_mem _ (List.mem_cons_self ..)))
      obtain ⟨ix1, hs, hg1, e1, r1⟩ := addSegment_total hf ix hg c1 c2 p1 p2 hp1 hp2 num
      obtain ⟨ix2, h2, hg2, e2, r2⟩ := ih ix1 (some c2) hg1 (fun p hp => by
        rw [getCell_same e1.1]; exact hin p (List.mem_cons_of_mem _ hp))
      refine ⟨ix2, ?_, hg2, e1.trans e2, fun A B hAB => ?_⟩
      · simp only [addFeatureLoop, hg.getCellR, hp1, hp2, hs, h2]
      · rcases List.mem_cons.mp hAB with h | h
        · cases h; exact r1.ext e2
        · exact r2 A B h

/-- `addFeature(track, num)` on an existing index (a later addition, `Network.addEdge` on an indexed network) whose
vertices are all inside the extent: it returns, nothing registered before is lost, the index stays good,
and every point of every segment of the track lies in a cell that lists `num` -/
theorem addFeature_complete {fl : α → Int} (hf : IsFloor fl) (ix : Index α) (hg : Good ix)
    (track : List (α × α)) (num : Nat) (hin : ∀ p ∈ track, getCell ix p ≠ none) :
    ∃ ix', addFeature fl ix track num = .ok ix' ∧ Good ix' ∧ Ext ix ix' ∧
      ∀ A B, (A, B) ∈ Consec track → Registered fl ix' A B num :=
  addFeatureLoop_total hf num track ix none hg hin

/-- the registration loop started at number `n` on a `Good` index (the constructor: `n = 0`; `Network.addEdge` on an
indexed network of `n` edges), every vertex of every track inside the extent: it returns a `Good` extension of the index
in which the `k`-th track is registered under `n + k` -/
theorem addFeatures_inside_complete {fl : α → Int} (hf : IsFloor fl) (tracks : List (List (α × α))) :
    ∀ (ix : Index α) (n : Nat), Good ix → (∀ t ∈ tracks, ∀ p ∈ t, getCell ix p ≠ none) →
      ∃ ix', addFeatures fl ix n tracks = .ok ix' ∧ Good ix' ∧ Ext ix ix' ∧
        ∀ (k : Nat) (t : List (α × α)), tracks[k]? = some t → ∀ A B, (A, B) ∈ Consec t → Registered fl ix' A B (n + k) := by
  induction tracks with
  | nil =>
    intro ix n hg _
    exact ⟨ix, rfl, hg, Ext.refl ix, by intro k t hk; simp at hk⟩
  | cons t rest ih =>
    intro ix n hg hin
    obtain ⟨ix1, h1, hg1, e1, hreg⟩ := addFeature_complete hf ix hg t n (hin t (List.mem_cons_self ..))
    obtain ⟨ix', h2, hg', e2, hrest⟩ := ih ix1 (n + 1) hg1 (fun t' ht' p hp => by
      rw [getCell_same e1.1 p]; exact hin t' (List.mem_cons_of_mem _ ht') p hp)
    refine ⟨ix', by simp only [addFeatures, h1, h2], hg', e1.trans e2, ?_⟩
    intro k t' hk A B hAB
    cases k with
    | zero =>
      cases hk
      exact (hreg A B hAB).ext e2
    | succ k =>
      rw [show n + (k + 1) = n + 1 + k by omega]
      exact hrest k t' hk A B hAB

/-- the index returned by `mkIndex` (default or positive cell size) is good: in particular its fractional indices are
bounded (the cells tile the extent), so the `min` of `__getCell` is the identity on it -/
theorem mkIndex_good {fl : α → Int} (hf : IsFloor fl) (bb : α × α × α × α) (res : Option (α × α)) (m : α) (ix : Index α)
    (hres : ∀ r, res = some r → 0 < r.1 ∧ 0 < r.2) (h : mkIndex fl bb res m = .ok ix) : Good ix := by
  obtain ⟨ix1, h1, hcs, hls, hdX, hdY, tX, tY, _, _⟩ := mkIndex_builds hf bb res m hres
  rw [h] at h1
  cases h1
  refine ⟨mkIndex_wf fl bb res m ix h, hcs, hls, hdX, hdY, fun p c hp => ?_⟩
  obtain ⟨a1, a2, rfl⟩ := (getCell_some_iff ix p c).mp hp
  exact ⟨(frac_index_range ix.xmin ix.xmax ix.dX p.1 ix.csize hdX hcs tX a1.1 a1.2).2,
    (frac_index_range ix.ymin ix.ymax ix.dY p.2 ix.lsize hdY hls tY a2.1 a2.2).2⟩

theorem inside_of_bbox (fl : α → Int) (feats : List (List (α × α))) (bb : α × α × α × α) (res : Option (α × α)) (m : α)
    (ix : Index α) (hbb : bboxOf feats.flatten = some bb) (h : mkIndex fl bb res m = .ok ix) (hm : 0 ≤ m) :
    ∀ t ∈ feats, ∀ p ∈ t, getCell ix p ≠ none :=
  fun t ht p hp => getCell_of_bbox fl bb res m ix h hm p (bboxOf_bounds _ bb hbb p (List.mem_flatten.mpr ⟨t, ht, hp⟩))

/-- a built index (margin ≥ 0, positive or default cell size) is good, its cells tile every axis of positive length
exactly (`csize · dX = xmax − xmin`), an axis of zero length (all vertices on one vertical / horizontal line) has a single
column / row, and every segment of feature `k` is registered under `k` -/
theorem build_spec {fl : α → Int} (hf : IsFloor fl) (feats : List (List (α × α))) (res : Option (α × α)) (margin : α)
    (ix : Index α) (hm : 0 ≤ margin) (hres : ∀ r, res = some r → 0 < r.1 ∧ 0 < r.2)
    (hb : build fl feats res margin = .ok ix) :
    Good ix ∧
    ((ix.xmin < ix.xmax → ix.dX * ((ix.csize : Int) : α) = ix.xmax - ix.xmin) ∧
     (ix.ymin < ix.ymax → ix.dY * ((ix.lsize : Int) : α) = ix.ymax - ix.ymin) ∧
     (ix.xmin = ix.xmax → ix.csize = 1) ∧ (ix.ymin = ix.ymax → ix.lsize = 1)) ∧
    ∀ k t, feats[k]? = some t → ∀ A B, (A, B) ∈ Consec t → Registered fl ix A B k := by
  obtain ⟨bb, ix0, hbb, hmk, hadd⟩ := (build_ok_iff ..).mp hb
  obtain ⟨ix', h, hg, e, r⟩ := addFeatures_inside_complete hf feats ix0 0 (mkIndex_good hf bb res margin ix0 hres hmk)
    (inside_of_bbox fl feats bb res margin ix0 hbb hmk hm)
  rw [hadd] at h
  cases h
  obtain ⟨ix1, h1, _, _, _, _, facts⟩ := mkIndex_builds hf bb res margin hres
  rw [hmk] at h1
  cases h1
  obtain ⟨e1, e2, e3, e4, e5, e6, e7, e8⟩ := e.1
  refine ⟨hg, ?_, fun k t hk A B hAB => by simpa only [Nat.zero_add] using r k t hk A B hAB⟩
  rw [e1, e2, e3, e4, e5, e6, e7, e8]
  exact facts

theorem build_good {fl : α → Int} (hf : IsFloor fl) (feats : List (List (α × α))) (res : Option (α × α)) (margin : α)
    (ix : Index α) (hm : 0 ≤ margin) (hres : ∀ r, res = some r → 0 < r.1 ∧ 0 < r.2)
    (hb : build fl feats res margin = .ok ix) : Good ix :=
  (build_spec hf feats res margin ix hm hres hb).1

theorem build_nz {fl : α → Int} (hf : IsFloor fl) (feats : List (List (α × α))) (res : Option (α × α)) (margin : α)
    (ix : Index α) (hm : 0 ≤ margin) (hres : ∀ r, res = some r → 0 < r.1 ∧ 0 < r.2)
    (hb : build fl feats res margin = .ok ix) : NZ ix :=
  (build_good hf feats res margin ix hm hres hb).nz

end TV.Grid
