import TracklibVerif.Lemmas.GraphAStarFix
import Mathlib.Algebra.Order.Field.Basic
import Mathlib.Tactic.Ring
/-! Where the consistency of the A* heuristic of `run_routing_forward` comes from: `Node.distanceTo` is the Euclidean
distance (`sqrt(E**2 + N**2 + U**2)` of the coordinate differences), which is non-negative, 0 from a point to itself and
satisfies the triangle inequality (Cauchy–Schwarz in three dimensions) — for any `sqrt` that is a square root on the
non-negative elements of a linearly ordered field. Hence `astar_wgt × distance to the target` is consistent as soon as
`0 ≤ astar_wgt` and every edge weighs at least `astar_wgt` × the distance between its ends. -/
namespace TV.Graph
variable {V : Type} [Field V] [LinearOrder V] [IsStrictOrderedRing V]

/-- `sqrt` is a square root on the non-negative elements (what `math.sqrt` is on the reals; `sqrtRat` on rational squares) -/
def IsSqrt (sqrt : V → V) : Prop := ∀ x, 0 ≤ x → 0 ≤ sqrt x ∧ sqrt x * sqrt x = x

theorem sumsq_nonneg (a b c : V) : 0 ≤ a * a + b * b + c * c :=
  add_nonneg (add_nonneg (mul_self_nonneg a) (mul_self_nonneg b)) (mul_self_nonneg c)

theorem le_of_mul_self_le {a b : V} (hb : 0 ≤ b) (h : a * a ≤ b * b) : a ≤ b :=
  le_of_not_gt fun hlt => absurd h (not_le.mpr (mul_self_lt_mul_self hb hlt))

/-- Minkowski's inequality in three dimensions, through Cauchy–Schwarz (Lagrange's identity) -/
theorem sqrt_triangle {sqrt : V → V} (hsq : IsSqrt sqrt) (p1 p2 p3 q1 q2 q3 : V) :
    sqrt ((p1 + q1) * (p1 + q1) + (p2 + q2) * (p2 + q2) + (p3 + q3) * (p3 + q3)) ≤
      sqrt (p1 * p1 + p2 * p2 + p3 * p3) + sqrt (q1 * q1 + q2 * q2 + q3 * q3) := by
  obtain ⟨hx0, hx⟩ := hsq _ (sumsq_nonneg p1 p2 p3)
  obtain ⟨hy0, hy⟩ := hsq _ (sumsq_nonneg q1 q2 q3)
  obtain ⟨-, hz⟩ := hsq _ (sumsq_nonneg (p1 + q1) (p2 + q2) (p3 + q3))
  generalize sqrt (p1 * p1 + p2 * p2 + p3 * p3) = x at hx0 hx ⊢
  generalize sqrt (q1 * q1 + q2 * q2 + q3 * q3) = y at hy0 hy ⊢
  generalize sqrt ((p1 + q1) * (p1 + q1) + (p2 + q2) * (p2 + q2) + (p3 + q3) * (p3 + q3)) = z at hz ⊢
  -- `p·q ≤ |p||q|`: `(|p||q|)² − (p·q)²` is a sum of three squares
  have cs : p1 * q1 + p2 * q2 + p3 * q3 ≤ x * y := by
    refine le_of_mul_self_le (mul_nonneg hx0 hy0) ?_
    have e : x * y * (x * y) = (p1 * q1 + p2 * q2 + p3 * q3) * (p1 * q1 + p2 * q2 + p3 * q3) +
        ((p1 * q2 - p2 * q1) * (p1 * q2 - p2 * q1) + (p1 * q3 - p3 * q1) * (p1 * q3 - p3 * q1) +
          (p2 * q3 - p3 * q2) * (p2 * q3 - p3 * q2)) := by
      rw [mul_mul_mul_comm, hx, hy]; ring
    rw [e]
    exact le_add_of_nonneg_right (sumsq_nonneg _ _ _)
  -- `|p + q|² = |p|² + |q|² + 2 p·q ≤ (|p| + |q|)²`
  refine le_of_mul_self_le (add_nonneg hx0 hy0) ?_
  have e : (x + y) * (x + y) = z * z + 2 * (x * y - (p1 * q1 + p2 * q2 + p3 * q3)) := by
    rw [hz, add_mul_self_eq, hx, hy]; ring
  rw [e]
  exact le_add_of_nonneg_right (mul_nonneg zero_le_two (sub_nonneg.mpr cs))

theorem distanceTo_nonneg {sqrt : V → V} (hsq : IsSqrt sqrt) (a b : Pos V) : 0 ≤ distanceTo sqrt a b :=
  (hsq _ (sumsq_nonneg _ _ _)).1

theorem distanceTo_self {sqrt : V → V} (hsq : IsSqrt sqrt) (a : Pos V) : distanceTo sqrt a a = 0 := by
  unfold distanceTo
  simp only [sub_self, mul_zero, add_zero]
  obtain ⟨_, h⟩ := hsq 0 (le_refl 0)
  exact mul_self_eq_zero.mp h

theorem distanceTo_triangle {sqrt : V → V} (hsq : IsSqrt sqrt) (a b c : Pos V) :
    distanceTo sqrt a c ≤ distanceTo sqrt a b + distanceTo sqrt b c := by
  unfold distanceTo
  have e1 : c.e - a.e = (b.e - a.e) + (c.e - b.e) := by ring
  have e2 : c.n - a.n = (b.n - a.n) + (c.n - b.n) := by ring
  have e3 : c.u - a.u = (b.u - a.u) + (c.u - b.u) := by ring
  simp only []
  rw [e1, e2, e3]
  exact sqrt_triangle hsq _ _ _ _ _ _

/-- the heuristic the code computes in A* mode for the target `t`, `h v = astar_wgt × |v − t|`, is consistent on `net` and
smallest (0) at the target, as soon as `0 ≤ astar_wgt` and every permitted arc weighs at least `astar_wgt` × the
straight-line distance between its ends -/
theorem heuristicOf_consistent {sqrt : V → V} (hsq : IsSqrt sqrt) (net : Net V) (pos : Nat → Pos V) (wgt : V)
    (hw : 0 ≤ wgt) (t : Nat) (hedge : ∀ u v w, Arc net u v w → wgt * distanceTo sqrt (pos u) (pos v) ≤ w) :
    Consistent net (heuristicOf sqrt pos 1 wgt (some t)) ∧
    (∀ v, heuristicOf sqrt pos 1 wgt (some t) t ≤ heuristicOf sqrt pos 1 wgt (some t) v) := by
  have hh : ∀ v, heuristicOf sqrt pos 1 wgt (some t) v = wgt * distanceTo sqrt (pos v) (pos t) := by
    intro v; simp [heuristicOf]
  constructor
  · intro u v w ha
    rw [hh, hh]
    have h1 := mul_le_mul_of_nonneg_left (distanceTo_triangle hsq (pos u) (pos v) (pos t)) hw
    rw [mul_add] at h1
    exact le_trans h1 (add_le_add_left (hedge u v w ha) _)
  · intro v
    rw [hh, hh, distanceTo_self hsq, mul_zero]
    exact mul_nonneg hw (distanceTo_nonneg hsq _ _)
end TV.Graph
