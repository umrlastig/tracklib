import TracklibVerif.Model.Partition
/-! The table form of `optimalPartition` (in-place `D`/`M` tables filled by increasing diagonals) computes
the function form `opt` (core Lean only, no order or algebra needed: both forms perform the same
comparisons and additions). One invariant, `Visited`: the cells visited so far hold `opt`, the others their initial content;
a visit preserves it whenever the cell's candidates were visited before (`Visited.visit`), and the order by diagonals is one
such order (`fill_visited`). -/
namespace TV.Partition
variable {α : Type}

/-- for `Lemmas/PartitionFront.lean` and `Tie/C12.lean`: the closed forms of the matrix loops are `if`s on index conditions; two such
conditions are compared by `omega` -/
theorem ite_iff_congr {β : Type} {c d : Prop} [Decidable c] [Decidable d] (h : c ↔ d) (x y : β) :
    (if c then x else y) = if d then x else y := by
  by_cases hd : d
  · rw [if_pos hd, if_pos (h.mpr hd)]
  · rw [if_neg hd, if_neg (mt h.mp hd)]

theorem upd_self {β : Type} (T : Nat → Nat → β) (i j : Nat) : upd T i j (T i j) = T := by
  funext a b
  unfold upd
  split
  · next h => rw [h.1, h.2]
  · rfl

theorem upd_upd {β : Type} (T : Nat → Nat → β) (i j : Nat) (v w : β) : upd (upd T i j v) i j w = upd T i j w := by
  funext a b; unfold upd; split <;> rfl

theorem upd_same {β : Type} (T : Nat → Nat → β) (i j : Nat) (v : β) : upd T i j v i j = v := if_pos ⟨rfl, rfl⟩

theorem upd_other {β : Type} (T : Nat → Nat → β) (i j : Nat) (v : β) {a b : Nat} (h : ¬ (a = i ∧ b = j)) :
    upd T i j v a b = T a b := if_neg h

theorem scan_congr (b : α → α → Bool) (f g : Nat → α) (lo n : Nat) (acc : α × Option Nat)
    (h : ∀ k, lo ≤ k → k < lo + n → f k = g k) : scan b f lo n acc = scan b g lo n acc := by
  induction n with
  | zero => rfl
  | succ n ih =>
    simp only [scan]
    rw [ih (fun k h1 h2 => h k h1 (by omega)), h (lo + n) (by omega) (by omega)]

theorem scan_arg (b : α → α → Bool) (f : Nat → α) (lo n : Nat) (acc : α × Option Nat) :
    (scan b f lo n acc = acc) ∨
    ∃ k, lo ≤ k ∧ k < lo + n ∧ scan b f lo n acc = (f k, some k) := by
  fun_induction scan b f lo n acc with
  | case1 => exact .inl rfl
  | case2 lo n => exact .inr ⟨lo + n, by omega, by omega, rfl⟩
  | case3 lo n acc acc' k hb ih => exact ih.imp_right fun ⟨k, h1, h2, h3⟩ => ⟨k, h1, by omega, h3⟩

theorem opt_succ (b : α → α → Bool) (add : α → α → α) (C : Nat → Nat → α) :
    ∀ f i j, j - i ≤ f + 1 → opt b add C (f + 1) i j = opt b add C f i j
  | 0, i, j, h => by simp only [opt, show j - i - 1 = 0 by omega, scan]
  | f + 1, i, j, h =>
    scan_congr b _ _ _ _ _ fun k h1 h2 => by
      rw [opt_succ b add C f i k (by omega), opt_succ b add C f k j (by omega)]

theorem opt_unfold (b : α → α → Bool) (add : α → α → α) (C : Nat → Nat → α) (f i j : Nat) (h : j - i ≤ f + 1) :
    opt b add C f i j =
      scan b (fun k => add (opt b add C f i k).1 (opt b add C f k j).1) (i + 1) (j - i - 1) (C i j, none) :=
  (opt_succ b add C f i j h).symm

theorem opt_cases (b : α → α → Bool) (add : α → α → α) (C : Nat → Nat → α) (f i j : Nat) (h : j - i ≤ f + 1) :
    opt b add C f i j = (C i j, none) ∨
    ∃ k, i < k ∧ k < j ∧ opt b add C f i j = (add (opt b add C f i k).1 (opt b add C f k j).1, some k) := by
  rw [opt_unfold b add C f i j h]
  rcases scan_arg b (fun k => add (opt b add C f i k).1 (opt b add C f k j).1) (i + 1) (j - i - 1) (C i j, none) with e | ⟨k, h1, h2, e⟩
  · exact .inl e
  · exact .inr ⟨k, by omega, by omega, e⟩

theorem opt_adjacent (b : α → α → Bool) (add : α → α → α) (C : Nat → Nat → α) (f i j : Nat) (h : j - i ≤ 1) :
    opt b add C f i j = (C i j, none) := by
  cases f with
  | zero => rfl
  | succ f => simp only [opt, show j - i - 1 = 0 by omega, scan]

/-- encoding of the split point in `M`: the previous content when no candidate was better, else `k` -/
def enc (m0 : Int) : Option Nat → Int
  | none => m0
  | some k => (k : Int)

theorem enc_neg (o : Option Nat) : enc (-1) o < 0 ↔ o = none := by
  cases o <;> simp [enc]

/-- for `mode` 0/1/other the two tests of the loop body amount to the single strict test `better mode`: `read` is `D[i,j]`,
`write` the pair of assignments; the second test reads the state left by the first, but at most one of them can pass -/
theorem two_tests_eq [LT α] [DecidableLT α] {σ : Type} (mode : Nat) (val : α) (read : σ → α) (write : σ → σ) (t : σ) :
    (if val > read (if val < read t ∧ mode = 0 then write t else t) ∧ mode = 1
      then write (if val < read t ∧ mode = 0 then write t else t) else (if val < read t ∧ mode = 0 then write t else t)) =
      if better mode val (read t) = true then write t else t := by
  unfold better
  by_cases h0 : mode = 0
  · subst h0
    by_cases hlt : val < read t <;> simp [hlt]
  · by_cases h1 : mode = 1
    · subst h1
      by_cases hgt : val > read t <;> simp [hgt]
    · simp [h0, h1]

variable [Add α] [LT α] [DecidableLT α]

theorem stepK_eq (mode i j k : Nat) (t : Tabs α) :
    stepK mode i j k t =
      if better mode (t.D i k + t.D k j) (t.D i j) = true
      then ⟨upd t.D i j (t.D i k + t.D k j), upd t.M i j (k : Int)⟩ else t :=
  two_tests_eq (σ := Tabs α) mode (t.D i k + t.D k j) (fun t => t.D i j)
    (fun s => ⟨upd s.D i j (t.D i k + t.D k j), upd s.M i j (k : Int)⟩) t

def cellScan (mode : Nat) (t : Tabs α) (i j n : Nat) : α × Option Nat :=
  scan (better mode) (fun k => t.D i k + t.D k j) (i + 1) n (t.D i j, none)

/-- the `k` loop of cell `(i, j)` touches that cell only: it holds the scan over the candidates met so far, computed from
the table as it was before the loop (the cells read lie in row `i` left of `j` and in column `j` below `i`) -/
theorem cell_steps (mode i j : Nat) (t : Tabs α) : ∀ n, n ≤ j - (i + 1) →
    loop (i + 1) n (stepK mode i j) t =
      ⟨upd t.D i j (cellScan mode t i j n).1, upd t.M i j (enc (t.M i j) (cellScan mode t i j n).2)⟩
  | 0, _ => by simp only [loop, cellScan, scan, enc, upd_self]
  | n + 1, hn => by
    simp only [loop]
    rw [cell_steps mode i j t n (by omega), stepK_eq]
    simp only [upd_same, upd_other _ _ _ _ (show ¬ (i = i ∧ i + 1 + n = j) by omega),
      upd_other _ _ _ _ (show ¬ (i + 1 + n = i ∧ j = j) by omega), upd_upd]
    by_cases hb : better mode (t.D i (i + 1 + n) + t.D (i + 1 + n) j) (cellScan mode t i j n).1 = true
    · have : cellScan mode t i j (n + 1) = (t.D i (i + 1 + n) + t.D (i + 1 + n) j, some (i + 1 + n)) := if_pos hb
      rw [if_pos hb, this]; rfl
    · have : cellScan mode t i j (n + 1) = cellScan mode t i j n := if_neg hb
      rw [if_neg hb, this]

/-- the tables at some moment of the dynamic programme: the cells of the strict upper triangle visited so far (`done`) hold the
function form's value and split point, the others their initial content -/
def Visited (C : Nat → Nat → α) (mode N : Nat) (done : Nat → Nat → Prop) (t : Tabs α) : Prop :=
  ∀ a b, a < b → b < N →
    (done a b → t.D a b = (opt (better mode) (· + ·) C N a b).1 ∧ t.M a b = enc (-1) (opt (better mode) (· + ·) C N a b).2) ∧
    (¬ done a b → t.D a b = C a b ∧ t.M a b = -1)

variable {C : Nat → Nat → α} {mode N : Nat} {done done' : Nat → Nat → Prop} {t : Tabs α}

theorem Visited.congr (h : Visited C mode N done t) (hd : ∀ a b, a < b → b < N → (done' a b ↔ done a b)) :
    Visited C mode N done' t :=
  fun a b hab hb => by rw [hd a b hab hb]; exact h a b hab hb

theorem Visited.visit (h : Visited C mode N done t) {i j : Nat} (hij : i < j) (hj : j < N) (hn : ¬ done i j)
    (hdep : ∀ k, i < k → k < j → done i k ∧ done k j) :
    Visited C mode N (fun a b => (a = i ∧ b = j) ∨ done a b) (cellLoop mode i j t) := by
  obtain ⟨iD, iM⟩ := (h i j hij hj).2 hn
  have hscan : cellScan mode t i j (j - (i + 1)) = opt (better mode) (· + ·) C N i j := by
    rw [opt_unfold _ _ _ N i j (by omega), cellScan, iD, show j - i - 1 = j - (i + 1) by omega]
    exact scan_congr _ _ _ _ _ _ fun k h1 h2 => by
      rw [((h i k (by omega) (by omega)).1 (hdep k (by omega) (by omega)).1).1,
        ((h k j (by omega) hj).1 (hdep k (by omega) (by omega)).2).1]
  unfold cellLoop
  rw [cell_steps mode i j t _ (Nat.le_refl _), hscan, iM]
  intro a b hab hb
  by_cases hc : a = i ∧ b = j
  · obtain ⟨rfl, rfl⟩ := hc
    exact ⟨fun _ => ⟨upd_same .., upd_same ..⟩, fun hnot => absurd (Or.inl ⟨rfl, rfl⟩) hnot⟩
  · simp only [upd_other _ _ _ _ hc, hc, false_or]
    exact h a b hab hb

/-- one diagonal: its cells read shorter spans only -/
theorem Visited.diag {d : Nat} (hd : 1 ≤ d) (h : Visited C mode N (fun a b => b - a < d) t) :
    ∀ m, m ≤ N - d →
      Visited C mode N (fun a b => b - a < d ∨ (b - a = d ∧ a < m)) (loop 0 m (fun i t => cellLoop mode i (i + d) t) t)
  | 0, _ => h.congr fun a b _ _ => by omega
  | m + 1, hm => by
    have := (Visited.diag hd h m (by omega)).visit (i := m) (j := m + d) (by omega) (by omega) (by omega)
      (fun k h1 h2 => by omega)
    simp only [loop, Nat.zero_add]
    exact this.congr fun a b _ _ => by omega

theorem fill_visited (zero : α) (mode N : Nat) (C : Nat → Nat → α) : ∀ n, n ≤ N - 2 →
    Visited C mode N (fun a b => b - a < 2 + n) (loop 2 n (fun diag t => diagLoop mode N diag t) (init zero N C))
  | 0, _ => fun a b hab hbN => by
    have hD : (init zero N C).D a b = C a b := by simp [init, Nat.le_of_lt hab, hbN]
    have hM : (init zero N C).M a b = -1 := by simp [init, Nat.le_of_lt hab, hbN]
    exact ⟨fun hs => by rw [opt_adjacent _ _ _ _ _ _ (by omega)]; exact ⟨hD, hM⟩, fun _ => ⟨hD, hM⟩⟩
  | n + 1, hn =>
    ((fill_visited zero mode N C n (by omega)).diag (by omega) (N - (2 + n)) (Nat.le_refl _)).congr fun a b _ _ => by omega

theorem fill_spec (zero : α) (mode N : Nat) (C : Nat → Nat → α) (a b : Nat) (hab : a < b) (hbN : b < N) :
    (fill mode N (init zero N C)).D a b = (opt (better mode) (· + ·) C N a b).1 ∧
    (fill mode N (init zero N C)).M a b = enc (-1) (opt (better mode) (· + ·) C N a b).2 :=
  (fill_visited zero mode N C (N - 2) (Nat.le_refl _) a b hab hbN).1 (by omega)
end TV.Partition
