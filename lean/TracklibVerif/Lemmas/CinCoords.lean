import TracklibVerif.Model.CinematicsCoords
import TracklibVerif.Lemmas.Cinematics
import TracklibVerif.Lemmas.CinTabKOpt
namespace TV.CinCoords
open TV.Cinematics TV.CinTabK
open TV.Geo (Trig V3 geoToEnu geoToEcef ecefToEnu)
variable {α : Type}

theorem afVals_ok (alg : Nat → Except GErr (Option α)) (f : Nat → Option α) :
    ∀ l : List Nat, (∀ i ∈ l, alg i = .ok (f i)) → afVals alg l = (.ok (), l.map f)
  | [], _ => rfl
  | i :: is, h => by
    have hi := h i (List.mem_cons_self)
    have ih := afVals_ok alg f is (fun j hj => h j (List.mem_cons_of_mem _ hj))
    simp [afVals, hi, ih]

theorem addAFC_fresh_ok [OfNat α 0] (alg : Nat → Except GErr (Option α)) (f : Nat → Option α) (name : String) (t : Track α)
    (hn : t.has name = false) (h : ∀ i, i < t.xy.length → alg i = .ok (f i)) :
    addAFC alg name t = (.ok ((List.range t.xy.length).map f), t.set name ((List.range t.xy.length).map f)) := by
  have hv := afVals_ok alg f (List.range t.xy.length) (fun i hi => h i (List.mem_range.1 hi))
  unfold addAFC
  simp only [hn, Bool.false_eq_true, if_false, hv, get_set_self, Option.getD_some, List.length_map, List.length_range,
    List.drop_replicate, Nat.sub_self, List.replicate_zero, List.append_nil, set_set_new t name _ _ hn]
  rfl

theorem addAFC_only [OfNat α 0] (alg : Nat → Except GErr (Option α)) {name : String} {S : List String} (hn : name ∈ S) (t : Track α) :
    Only S t (addAFC alg name t).2 :=
  (Only.ite _ (.refl _ _) (.set _ hn _)).trans (.set _ hn _)

theorem pt_of_lt (t : CTrack α) (hz : t.zs.length = t.tr.xy.length) (i : Nat) (hi : i < t.tr.xy.length) :
    t.pt i = some ⟨(t.tr.xy[i]).1, (t.tr.xy[i]).2, t.zs[i]'(hz ▸ hi)⟩ := by
  unfold CTrack.pt
  rw [List.getElem?_eq_getElem hi, List.getElem?_eq_getElem (hz ▸ hi)]

theorem pt_xy (t : CTrack α) (hz : t.zs.length = t.tr.xy.length) (i : Nat) :
    (t.pt i).map (fun p => (p.x, p.y)) = t.tr.xy[i]? := by
  unfold CTrack.pt
  by_cases hi : i < t.tr.xy.length
  · rw [List.getElem?_eq_getElem hi, List.getElem?_eq_getElem (hz ▸ hi)]; rfl
  · rw [List.getElem?_eq_none (Nat.le_of_not_lt hi)]; rfl

/-- the positions of a track of one class. The columns the class programs compute are those of `Lemmas/CinTabKOpt.lean`
(`dsAtD`, `abscD`, `speedColD`: for ANY distance) at the distance of the class and these positions -/
def CTrack.pts (t : CTrack α) : List (V3 α) := List.zipWith (fun p z => ⟨p.1, p.2, z⟩) t.tr.xy t.zs

theorem pt_eq_pts (t : CTrack α) (i : Nat) : t.pt i = t.pts[i]? := by
  unfold CTrack.pt CTrack.pts
  rw [List.getElem?_zipWith]
  cases t.tr.xy[i]? <;> cases t.zs[i]? <;> rfl

theorem pts_length (t : CTrack α) (hz : t.zs.length = t.tr.xy.length) : t.pts.length = t.tr.xy.length := by
  unfold CTrack.pts
  rw [List.length_zipWith, hz, Nat.min_self]

section progs
variable [Add α] [Sub α] [Mul α] [Div α] [Neg α] [OfScientific α] [OfNat α 0] (T : Trig α)

theorem posDist2D_ok {c : Cls} (hc : c ≠ .ecef) (p q : V3 α) : posDist2D T c p q = .ok (dist2C T c p q) := by
  cases c with
  | ecef => exact absurd rfl hc
  | _ => rfl

theorem obsDist2D_ok {c : Cls} (hc : c ≠ .ecef) (p q : V3 α) : obsDist2D T c p q = .ok (dist2C T c p q) := by
  cases c with
  | ecef => exact absurd rfl hc
  | _ => rfl

theorem abscC_eq (t : CTrack α) : abscC T t = abscD (dist2C T t.cls) t.pts := by
  funext i
  induction i with
  | zero => rfl
  | succ i ih =>
    simp only [abscC, abscD, ih, pt_eq_pts]
    cases t.pts[i + 1]? <;> cases t.pts[i]? <;> rfl

theorem dsAlgC_ok (t : CTrack α) (hc : t.cls ≠ .ecef) (i : Nat) :
    dsAlgC T t i = .ok (dsAtD (dist2C T t.cls) t.pts i) := by
  unfold dsAlgC dsAtD
  simp only [pt_eq_pts]
  split
  · rfl
  · cases t.pts[i]? <;> cases t.pts[i - 1]? <;> try rfl
    exact congrArg (Except.map some) (obsDist2D_ok T hc _ _)

theorem computeAbsCurvC_fresh (t : CTrack α) (hc : t.cls ≠ .ecef) (hz : t.zs.length = t.tr.xy.length)
    (hds : t.tr.has "ds" = false) (hac : t.tr.has "abs_curv" = false) :
    computeAbsCurvC T t
      = (.ok (some ((List.range t.tr.xy.length).map (fun i => some (abscC T t i)))),
         { t with tr := t.tr.set "abs_curv" ((List.range t.tr.xy.length).map (fun i => some (abscC T t i))) }) := by
  have hne : ("ds" : String) ≠ "abs_curv" := by decide
  have hadd := addAFC_fresh_ok (dsAlgC T t) (dsAtD (dist2C T t.cls) t.pts) "ds" t.tr hds (fun i _ => dsAlgC_ok T t hc i)
  have h1 : (t.tr.set "ds" ((List.range t.tr.xy.length).map (dsAtD (dist2C T t.cls) t.pts))).has "abs_curv" = false := by
    rw [has_set_other _ _ _ _ hne]; exact hac
  have hint := integrator_dsD (dist2C T t.cls) t.pts
  rw [pts_length t hz, ← abscC_eq] at hint
  unfold computeAbsCurvC
  simp only [hds, Bool.false_eq_true, if_false, hadd, Except.map, h1, get_set_self, Option.getD_some, hint]
  rw [remove_set_set_new t.tr "ds" "abs_curv" _ _ hds hac hne, get_set_self]

theorem dsAlgC_enu (zs : List α) (tr : Track α) (hz : zs.length = tr.xy.length) (i : Nat) :
    dsAlgC T ⟨.enu, zs, tr⟩ i = .ok (dsAt T.sqrt tr.xy i) := by
  rw [dsAlgC_ok T _ (fun h => Cls.noConfusion h)]
  unfold dsAtD dsAt
  rw [← pt_eq_pts, ← pt_eq_pts, ← pt_xy ⟨.enu, zs, tr⟩ hz i, ← pt_xy ⟨.enu, zs, tr⟩ hz (i - 1)]
  cases CTrack.pt ⟨.enu, zs, tr⟩ i <;> cases CTrack.pt ⟨.enu, zs, tr⟩ (i - 1) <;> rfl

theorem computeAbsCurvC_enu (zs : List α) (tr : Track α) (hz : zs.length = tr.xy.length) :
    computeAbsCurvC T ⟨.enu, zs, tr⟩ = (.ok (computeAbsCurv T.sqrt tr).2, ⟨.enu, zs, (computeAbsCurv T.sqrt tr).1⟩) := by
  unfold computeAbsCurvC computeAbsCurv
  by_cases hds : tr.has "ds" = true
  · simp [hds]
  · have hds' : tr.has "ds" = false := by simpa using hds
    have hadd := addAFC_fresh_ok (dsAlgC T ⟨.enu, zs, tr⟩) (dsAt T.sqrt tr.xy) "ds" tr hds'
      (fun i _ => dsAlgC_enu T zs tr hz i)
    simp only [hds', Bool.false_eq_true, if_false, hadd, Except.map, dsCol]

/-! ### ECEF tracks: the computation is refused, a column of zeros stays behind (`estimateSpeedC_ecef` below) -/

theorem computeAbsCurvC_ecef (t : CTrack α) (hc : t.cls = .ecef) (hz : t.zs.length = t.tr.xy.length)
    (h2 : 2 ≤ t.tr.xy.length) (hds : t.tr.has "ds" = false) :
    computeAbsCurvC T t
      = (.error .refused, { t with tr := t.tr.set "ds" (List.replicate t.tr.xy.length (some 0)) }) := by
  obtain ⟨k, hk⟩ : ∃ k, t.tr.xy.length = k + 2 := ⟨t.tr.xy.length - 2, by omega⟩
  have a0 : dsAlgC T t 0 = .ok (some 0) := by simp [dsAlgC]
  have a1 : dsAlgC T t 1 = .error .refused := by
    unfold dsAlgC
    simp only [Nat.one_ne_zero, if_false, Nat.sub_self, pt_of_lt t hz 1 (by omega), pt_of_lt t hz 0 (by omega), hc]
    rfl
  have hv : afVals (dsAlgC T t) (List.range (k + 2)) = (.error .refused, [some 0]) := by
    rw [List.range_eq_range', List.range'_succ, List.range'_succ]; simp [afVals, a0, a1]
  unfold computeAbsCurvC addAFC
  simp only [hds, Bool.false_eq_true, if_false, hk, hv, get_set_self, Option.getD_some, Except.map]
  rw [← hk, set_set_new _ _ _ _ hds]
  congr 3
  rw [hk]
  simp [List.replicate_succ]

theorem curvAbsC_ecef (t : CTrack α) (hc : t.cls = .ecef) (hz : t.zs.length = t.tr.xy.length)
    (h2 : 2 ≤ t.tr.xy.length) : curvAbsC T t = .error .attr := by
  obtain ⟨k, hk⟩ : ∃ k, t.tr.xy.length = k + 2 := ⟨t.tr.xy.length - 2, by omega⟩
  unfold curvAbsC
  rw [hk, show k + 2 - 1 = k + 1 by omega, List.range_succ_eq_map]
  simp only [curvLoopC, pt_of_lt t hz 0 (by omega), pt_of_lt t hz 1 (by omega), hc]
  rfl

theorem computeAbsCurvC_only (t : CTrack α) :
    (computeAbsCurvC T t).2.cls = t.cls ∧ (computeAbsCurvC T t).2.zs = t.zs
      ∧ Only ["ds", "abs_curv"] t.tr (computeAbsCurvC T t).2.tr := by
  have tail : ∀ u : Track α, Only ["ds", "abs_curv"] t.tr u → Only ["ds", "abs_curv"] t.tr
      (Track.remove (if u.has "abs_curv" = true then u else u.set "abs_curv" (integrator ((u.get "ds").getD []))) "ds") :=
    fun u hu => (hu.trans (.ite _ (.refl _ _) (.set _ (by simp) _))).trans (.remove _ (by simp))
  have hds := addAFC_only (dsAlgC T t) (name := "ds") (S := ["ds", "abs_curv"]) (by simp) t.tr
  unfold computeAbsCurvC
  by_cases h : t.tr.has "ds" = true
  · rw [if_pos h]
    exact ⟨rfl, rfl, tail _ (.refl _ _)⟩
  · rw [if_neg h]
    generalize addAFC (dsAlgC T t) "ds" t.tr = r at hds ⊢
    obtain ⟨o, u⟩ := r
    cases o with
    | error e => exact ⟨rfl, rfl, hds⟩
    | ok _ => exact ⟨rfl, rfl, tail _ hds⟩

variable [BEq α]

theorem speedBetweenC_ok (t : CTrack α) (hc : t.cls ≠ .ecef) (a b : Nat) :
    speedBetweenC T t a b = .ok (speedBetweenD (dist2C T t.cls) t.pts t.tr.ts a b) := by
  unfold speedBetweenC speedBetweenD
  simp only [pt_eq_pts]
  cases t.pts[a]? <;> cases t.pts[b]? <;> try rfl
  simp only [posDist2D_ok T hc]
  cases t.tr.ts[a]? <;> cases t.tr.ts[b]? <;> rfl

theorem speedAlgC_ok (t : CTrack α) (hc : t.cls ≠ .ecef) (hz : t.zs.length = t.tr.xy.length) (i : Nat) :
    speedAlgC T t i = .ok (speedAtD (dist2C T t.cls) t.pts t.tr.ts i) := by
  unfold speedAlgC speedAtD
  simp only [speedBetweenC_ok T t hc, pts_length t hz]
  split
  · rfl
  · split <;> rfl

theorem estimateSpeedC_fresh (t : CTrack α) (hc : t.cls ≠ .ecef) (hz : t.zs.length = t.tr.xy.length)
    (hsp : t.tr.has "speed" = false) :
    estimateSpeedC T t
      = (.ok (some (speedColD (dist2C T t.cls) t.pts t.tr.ts)),
         { t with tr := t.tr.set "speed" (speedColD (dist2C T t.cls) t.pts t.tr.ts) }) := by
  have hadd := addAFC_fresh_ok (speedAlgC T t) (speedAtD (dist2C T t.cls) t.pts t.tr.ts) "speed" t.tr hsp
    (fun i _ => speedAlgC_ok T t hc hz i)
  unfold estimateSpeedC speedColD
  simp only [hsp, Bool.false_eq_true, if_false, hadd, Except.map, pts_length t hz]

theorem speedBetweenD_enu (t : CTrack α) (hc : t.cls = .enu) (hz : t.zs.length = t.tr.xy.length) (a b : Nat) :
    speedBetweenD (dist2C T t.cls) t.pts t.tr.ts a b = speedBetween T.sqrt t.tr.xy t.tr.ts a b := by
  unfold speedBetweenD speedBetween
  rw [← pt_eq_pts, ← pt_eq_pts, ← pt_xy t hz a, ← pt_xy t hz b, hc]
  cases t.pt a <;> cases t.pt b <;> cases t.tr.ts[a]? <;> cases t.tr.ts[b]? <;> rfl

theorem speedAlgC_enu (zs : List α) (tr : Track α) (hz : zs.length = tr.xy.length) (i : Nat) :
    speedAlgC T ⟨.enu, zs, tr⟩ i = .ok (speedAt T.sqrt tr.xy tr.ts i) := by
  rw [speedAlgC_ok T _ (fun h => Cls.noConfusion h) hz]
  unfold speedAtD speedAt
  simp only [speedBetweenD_enu T ⟨.enu, zs, tr⟩ rfl hz, pts_length ⟨.enu, zs, tr⟩ hz]

theorem estimateSpeedC_enu (zs : List α) (tr : Track α) (hz : zs.length = tr.xy.length) :
    estimateSpeedC T ⟨.enu, zs, tr⟩ = (.ok (estimateSpeed T.sqrt tr).2, ⟨.enu, zs, (estimateSpeed T.sqrt tr).1⟩) := by
  unfold estimateSpeedC estimateSpeed
  by_cases hsp : tr.has "speed" = true
  · simp [hsp]
  · have hsp' : tr.has "speed" = false := by simpa using hsp
    have hadd := addAFC_fresh_ok (speedAlgC T ⟨.enu, zs, tr⟩) (speedAt T.sqrt tr.xy tr.ts) "speed" tr hsp'
      (fun i _ => speedAlgC_enu T zs tr hz i)
    simp only [hsp', Bool.false_eq_true, if_false, hadd, Except.map, speedCol, get_set_self]

theorem estimateSpeedC_ecef (t : CTrack α) (hc : t.cls = .ecef) (hz : t.zs.length = t.tr.xy.length)
    (h2 : 2 ≤ t.tr.xy.length) (hsp : t.tr.has "speed" = false) :
    estimateSpeedC T t
      = (.error .attr, { t with tr := t.tr.set "speed" (List.replicate t.tr.xy.length (some 0)) }) := by
  obtain ⟨k, hk⟩ : ∃ k, t.tr.xy.length = k + 2 := ⟨t.tr.xy.length - 2, by omega⟩
  have a0 : speedAlgC T t 0 = .error .attr := by
    unfold speedAlgC speedBetweenC
    simp only [if_true, pt_of_lt t hz 1 (by omega), pt_of_lt t hz 0 (by omega), hc]
    rfl
  have hv : afVals (speedAlgC T t) (List.range (k + 2)) = (.error .attr, []) := by
    rw [List.range_eq_range', List.range'_succ, List.range'_succ]; simp [afVals, a0]
  unfold estimateSpeedC addAFC
  simp only [hsp, Bool.false_eq_true, if_false, hk, hv, get_set_self, Option.getD_some, Except.map]
  rw [← hk, set_set_new _ _ _ _ hsp]
  simp

theorem estimateSpeedC_only (t : CTrack α) :
    (estimateSpeedC T t).2.cls = t.cls ∧ (estimateSpeedC T t).2.zs = t.zs ∧ Only ["speed"] t.tr (estimateSpeedC T t).2.tr := by
  unfold estimateSpeedC
  split
  · exact ⟨rfl, rfl, .refl _ _⟩
  · exact ⟨rfl, rfl, addAFC_only _ (by simp) _⟩

end progs

theorem dist2C_nonneg [Add α] [Sub α] [Mul α] [Div α] [Neg α] [OfScientific α] [OfNat α 0] [Preorder α] (T : Trig α)
    (hsqrt : ∀ x, 0 ≤ T.sqrt x) (c : Cls) (p q : V3 α) : 0 ≤ dist2C T c p q := by
  cases c with
  | enu => exact hsqrt _
  | geo => exact hsqrt _
  | ecef => exact le_refl _

end TV.CinCoords
