import TracklibVerif.Lemmas.FeaturesResult
/-! Two more facts about the tables: a track that is handed a table (`mkSt`: what `copy`, `extract`, a slice, `+`
build) is aligned and abstracts to that table; and the per-observation read path agrees with the column read. -/
namespace TV.Features
variable {V : Type}

theorem acell_agrees (o : Ops V) (a : ATab V) (m : String) (col : List V) (hc : (getA o m a).1 = .ok col)
    (i : Nat) (hi : i < col.length) : getObsA o m i a = (.ok (col[i]'hi), a) := by
  revert hc
  fun_cases getA o m a <;> intro hc <;> cases hc
  case case1 c hco => simp [getObsA, hco, hi]
  case case3 hco h1 h2 => simp [getObsA, hco, h1, h2]
  case case5 hco h1 h2 hl => simp [getObsA, hco, h1, h2, hl, hi]

theorem getObsC_state (o : Ops V) (m : String) (i : Nat) (st : St V) : (getObsC o m i st).2 = st := by
  fun_cases getObsC o m i st <;> rfl

theorem getC_state (o : Ops V) (name : String) (st : St V) : (getC o name st).2 = st := by
  fun_cases getC o name st <;> rfl

variable [Inhabited V]

theorem colAt_mkRows (cols : List (String × List V)) (k : Nat) (hlen : ∀ p ∈ cols, p.2.length = k)
    (j : Nat) (hj : j < cols.length) :
    colAt ((List.range k).map (fun i => cols.map (fun p => p.2.getD i default))) j = (cols[j]).2 := by
  have hl := hlen cols[j] (List.getElem_mem hj)
  apply List.ext_getElem
  · simp [colAt, hl]
  · intro i h1 h2
    simp only [colAt, List.getElem_map, List.getElem_range]
    have hi : i < k := by simpa [colAt] using h1
    simp [List.getD_eq_getElem?_getD, hj, hl, hi]

theorem abs_mkSt (cols : List (String × List V)) (xs ys zs ts : List V)
    (hlen : ∀ p ∈ cols, p.2.length = xs.length) :
    abs (mkSt cols xs ys zs ts) = { cols := cols, xs := xs, ys := ys, zs := zs, ts := ts } := by
  unfold abs mkSt
  simp only
  congr 1
  apply List.ext_getElem?
  intro j
  simp only [List.getElem?_map, List.getElem?_zipIdx, Nat.zero_add]
  cases hj : cols[j]? with
  | none => simp
  | some p =>
    have hlt : j < cols.length := (List.getElem?_eq_some_iff.mp hj).1
    have hp : cols[j] = p := (List.getElem?_eq_some_iff.mp hj).2
    simp only [Option.map_some]
    rw [colAt_mkRows cols xs.length hlen j hlt, hp]

theorem inv_mkSt (cols : List (String × List V)) (xs ys zs ts : List V)
    (hnd : (cols.map Prod.fst).Nodup) (hy : ys.length = xs.length) (hz : zs.length = xs.length)
    (ht : ts.length = xs.length) : Inv xs.length (mkSt cols xs ys zs ts) := by
  have hn : names (mkSt cols xs ys zs ts) = cols.map Prod.fst := by
    simp [names, mkSt, List.zipIdx_map_fst]
  refine ⟨by rw [hn]; rfl, by rw [hn]; exact hnd, ?_, by simp [mkSt], rfl, hy, hz, ht⟩
  intro r hr
  simp only [mkSt, List.mem_map, List.mem_range] at hr
  obtain ⟨i, _, rfl⟩ := hr
  simp [mkSt]

end TV.Features
