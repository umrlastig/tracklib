import TracklibVerif.Model.DTW
import Mathlib.Order.Basic
import Mathlib.Order.Defs.LinearOrder
namespace TV.DTW
variable {α : Type} [LinearOrder α]

/-- monotone couplings from (0,0) to (i,j) with their folded cost -/
inductive Coupling (w : α → α → α) (z : α) (D : Nat → Nat → α) : Nat → Nat → α → Prop
  | base : Coupling w z D 0 0 (w z (D 0 0))
  | down {i j c} : Coupling w z D i j c → Coupling w z D (i+1) j (w c (D (i+1) j))
  | right {i j c} : Coupling w z D i j c → Coupling w z D i (j+1) (w c (D i (j+1)))
  | diag {i j c} : Coupling w z D i j c → Coupling w z D (i+1) (j+1) (w c (D (i+1) (j+1)))

theorem min3_eq_min (a b c : α) : min3 a b c = min a (min b c) := by
  unfold min3
  by_cases h1 : a ≤ b
  · rw [if_pos h1]
    by_cases h2 : a ≤ c
    · rw [if_pos h2, min_eq_left (le_min h1 h2)]
    · rw [if_neg h2, min_eq_right (le_trans (le_of_lt (not_le.mp h2)) h1), min_eq_right (le_of_lt (not_le.mp h2))]
  · rw [if_neg h1]
    by_cases h3 : b ≤ c
    · rw [if_pos h3, min_eq_left h3, min_eq_right (le_of_lt (not_le.mp h1))]
    · rw [if_neg h3, min_eq_right (le_of_lt (not_le.mp h3)),
        min_eq_right (le_trans (le_of_lt (not_le.mp h3)) (le_of_lt (not_le.mp h1)))]

theorem min3_le (a b c : α) : min3 a b c ≤ a ∧ min3 a b c ≤ b ∧ min3 a b c ≤ c := by
  rw [min3_eq_min]
  exact ⟨min_le_left _ _, le_trans (min_le_right _ _) (min_le_left _ _), le_trans (min_le_right _ _) (min_le_right _ _)⟩

theorem min3_mem (a b c : α) : min3 a b c = a ∨ min3 a b c = b ∨ min3 a b c = c := by
  rw [min3_eq_min]
  rcases le_total a (min b c) with h | h
  · exact Or.inl (min_eq_left h)
  · rw [min_eq_right h]; exact Or.inr ((le_total b c).imp min_eq_left min_eq_right)

/-- T1 (lower bound): the table value is below the cost of every coupling -/
theorem T_le (w : α → α → α) (z : α) (D : Nat → Nat → α)
    (hw : ∀ a b d, a ≤ b → w a d ≤ w b d) :
    ∀ i j c, Coupling w z D i j c → T w z D i j ≤ c := by
  intro i j c h
  induction h with
  | base => simp [T]
  | @down i j c h ih =>
    cases j with
    | zero => simp only [T]; exact hw _ _ _ ih
    | succ j => simp only [T]; exact hw _ _ _ (le_trans (min3_le _ _ _).2.1 ih)
  | @right i j c h ih =>
    cases i with
    | zero => simp only [T]; exact hw _ _ _ ih
    | succ i => simp only [T]; exact hw _ _ _ (le_trans (min3_le _ _ _).2.2 ih)
  | @diag i j c h ih => simp only [T]; exact hw _ _ _ (le_trans (min3_le _ _ _).1 ih)

/-- T1 (achievability): some coupling realises the table value -/
theorem T_coupling (w : α → α → α) (z : α) (D : Nat → Nat → α) :
    ∀ n i j, i + j = n → Coupling w z D i j (T w z D i j) := by
  rintro _ i j -
  induction i, j using T.induct with
  | case1 => simp only [T]; exact Coupling.base
  | case2 i ih => simp only [T]; exact Coupling.down ih
  | case3 j ih => simp only [T]; exact Coupling.right ih
  | case4 i j ih1 ih2 ih3 =>
    simp only [T]
    rcases min3_mem (T w z D i j) (T w z D i (j+1)) (T w z D (i+1) j) with h | h | h
    · rw [h]; exact Coupling.diag ih1
    · rw [h]; exact Coupling.down ih2
    · rw [h]; exact Coupling.right ih3

/-- the (repaired) predecessor is a minimal one: the value at a cell is `w (T pred) D` -/
theorem T_pred (w : α → α → α) (z : α) (D : Nat → Nat → α) (i j : Nat) :
    T w z D (i+1) (j+1) = w (T w z D (pred w z D (i+1) (j+1)).1 (pred w z D (i+1) (j+1)).2) (D (i+1) (j+1)) := by
  simp only [T, pred]
  congr 1
  rw [min3_eq_min]
  split_ifs with h1 h2
  · exact min_eq_left (le_min h1.1 h1.2)
  · -- up: `u < l`, and the diagonal is not below both, so it is above `u`
    rw [min_eq_left (le_of_lt h2),
      min_eq_right (le_of_lt (lt_of_not_ge fun h => h1 ⟨h, le_trans h (le_of_lt h2)⟩))]
  · -- left: `l ≤ u`, and the diagonal is above `l`
    rw [min_eq_right (not_lt.mp h2),
      min_eq_right (le_of_lt (lt_of_not_ge fun h => h1 ⟨le_trans h (not_lt.mp h2), h⟩))]
end TV.DTW
