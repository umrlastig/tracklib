import TracklibVerif.Lemmas.FeaturesRel
/-! For any relation `Rel J S` that the primitives respect (`PrimRel`), everything that goes through the Track API
(addListToAF, operator objects, bracket assignment, addAnalyticalFeature, the helpers) respects it too, under the
permission to write the names it writes. Each proof follows the program: one combinator of `Lemmas/FeaturesRel.lean` per
control structure, one field of `PrimRel` or an earlier lemma per call. -/
namespace TV.Features
variable {V : Type} {σ τ : Type} [Tbl σ V] [Tbl τ V] {J : σ → τ → Prop} {S : τ → τ → Prop} [Step S]
  {W D : String → Prop} {R : Prop} (p : PrimRel (V := V) J S W D R)
include p
open Tbl

theorem rel_addListToAF (name : String) (arr : List V) (h : W name) :
    Rel J S (fun _ => True) (addListToAF (σ := σ) name arr) (addListToAF (σ := τ) name arr) := by
  unfold addListToAF
  refine rel_bind p.size (fun k _ => rel_forEach _ (fun i _ => ?_))
  cases arr[i]? with
  | none => exact rel_throw _
  | some v => exact p.setObs name i v h

theorem rel_setItem (name : String) (init : Init V) (h : W name) :
    Rel J S (fun _ => True) (setItem (σ := σ) name init) (setItem (σ := τ) name init) := by
  unfold setItem
  exact rel_bind (p.has name) (fun b _ => rel_ite _ (fun _ => p.update name init h) (fun _ => p.create name init h))

theorem rel_setCoordFromAF (o : Ops V) (c name : String) (h : W c) :
    Rel J S (fun _ => True) (setCoordFromAF (σ := σ) o c name) (setCoordFromAF (σ := τ) o c name) := by
  unfold setCoordFromAF
  exact rel_ite _ (fun _ => rel_throw _) (fun _ => rel_bind p.size (fun k _ => rel_forEach _ (fun i _ =>
    rel_bind (p.getObs o name i) (fun v _ => p.setObs c i v h))))

theorem rel_dist2D (o : Ops V) (i j : Nat) :
    Rel J S (fun _ => True) (dist2DOp (σ := σ) o i j) (dist2DOp (σ := τ) o i j) := by
  unfold dist2DOp
  exact rel_bind (p.getObs o "x" i) (fun _ _ => rel_bind (p.getObs o "y" i) (fun _ _ =>
    rel_bind (p.getObs o "x" j) (fun _ _ => rel_bind (p.getObs o "y" j) (fun _ _ => rel_ofExcept _))))

theorem rel_speedBetween (o : Ops V) (i j : Nat) :
    Rel J S (fun _ => True) (speedBetweenOp (σ := σ) o i j) (speedBetweenOp (σ := τ) o i j) := by
  unfold speedBetweenOp
  exact rel_bind (rel_dist2D p o i j) (fun _ _ => rel_bind (p.getObs o "t" i) (fun _ _ =>
    rel_bind (p.getObs o "t" j) (fun _ _ => rel_pure _ trivial)))

theorem rel_evalAlgo (o : Ops V) (alg : Algo V) (i : Nat) :
    Rel J S (fun _ => True) (evalAlgo (σ := σ) o alg i) (evalAlgo (σ := τ) o alg i) := by
  cases alg with
  | const v => exact rel_pure _ trivial
  | affine k c => exact rel_pure _ trivial
  | nextX =>
    exact rel_bind (p.getObs o "x" (i + 1)) (fun _ _ => rel_bind (p.getObs o "x" i) (fun _ _ => rel_pure _ trivial))
  | feat src k => exact rel_bind (p.getObs o src i) (fun _ _ => rel_pure _ trivial)
  | ds => exact rel_ite _ (fun _ => rel_pure _ trivial) (fun _ => rel_dist2D p o i (i - 1))
  | speed =>
    exact rel_ite _ (fun _ => rel_speedBetween p o 1 0) (fun _ => rel_bind p.size (fun n _ =>
      rel_ite _ (fun _ => rel_speedBetween p o _ _) (fun _ => rel_speedBetween p o _ _)))

theorem rel_addAF (o : Ops V) (alg : Algo V) (name : String) (h : W name) :
    Rel J S (fun _ => True) (addAF (σ := σ) o alg name) (addAF (σ := τ) o alg name) := by
  unfold addAF
  refine rel_ite _ (fun _ => rel_throw _) (fun _ => rel_bind (p.has name) (fun b _ => ?_))
  -- `if not has(name): create(name)`, then, on both branches, the loop and the final read
  refine rel_ite _ (fun _ => rel_bind (p.create name _ h) (fun _ _ => ?_)) (fun _ => ?_)
  all_goals
    exact rel_bind p.size (fun n _ => rel_bind (rel_forEach _ (fun i _ =>
      rel_bind (rel_catchIndex _ (rel_evalAlgo p o alg i) trivial) (fun v _ => p.setObs name i v h)))
      (fun _ _ => p.get o name))

/-- the list `temp` of Integrator / Differentiator has one value per observation -/
theorem rel_unaryTemp (o : Ops V) (k : UOp) (inp : String) (m : Nat) :
    Rel J S (fun t => m ≠ 0 → t.length = m) (unaryTemp (σ := σ) o k inp m) (unaryTemp (σ := τ) o k inp m) := by
  cases k with
  | integrator =>
    refine rel_bind (rel_foldL _ (fun acc k => acc.2.length = k) _ 0 rfl (fun acc i k _ hacc =>
      rel_bind (p.getObs o inp i) (fun _ _ => rel_pure _ (by simp [hacc])))) (fun r hr => rel_pure _ (fun hm => ?_))
    have : (m == 0) = false := by simpa using hm
    simp only [this, Bool.false_eq_true, if_false, List.length_cons, List.length_reverse, hr, List.length_range']
    omega
  | differentiator =>
    refine rel_bind (rel_mapL _ (fun i _ => rel_bind (p.getObs o inp i) (fun _ _ =>
      rel_bind (p.getObs o inp (i - 1)) (fun _ _ => rel_pure (P := fun _ => True) _ trivial))))
      (fun vals hv => rel_ite _ (fun _ => rel_throw _) (fun _ => rel_pure _ (fun hm => ?_)))
    simp only [List.length_cons, hv, List.length_range']
    omega

/-- the common shape of the void operators: create the output, compute `temp` by reading, write it back, return it -/
theorem rel_void (out : String) (z : V) (h : W out) {Q : Nat → List V → Prop} {c : Nat → M σ (List V)}
    {ca : Nat → M τ (List V)} (hc : ∀ n, Rel J S (Q n) (c n) (ca n)) :
    Rel J S (fun _ => True)
      (create out (.scalar z) >>= fun _ => size >>= fun n => c n >>= fun t => addListToAF out t >>= fun _ => pure t)
      (create out (.scalar z) >>= fun _ => size >>= fun n => ca n >>= fun t => addListToAF out t >>= fun _ => pure t) :=
  rel_bind (p.create out _ h) (fun _ _ => rel_bind p.size (fun n _ => rel_bind (hc n) (fun t _ =>
    rel_bind (rel_addListToAF p out t h) (fun _ _ => rel_pure _ trivial))))

theorem rel_unaryVoid (o : Ops V) (k : UOp) (inp out : String) (h : W out) :
    Rel J S (fun _ => True) (unaryVoid (σ := σ) o k inp out) (unaryVoid (σ := τ) o k inp out) :=
  rel_void p out _ h (fun n => rel_unaryTemp p o k inp n)

theorem rel_binaryVoid (o : Ops V) (k : BOp) (in1 in2 out : String) (h : W out) :
    Rel J S (fun _ => True) (binaryVoid (σ := σ) o k in1 in2 out) (binaryVoid (σ := τ) o k in1 in2 out) :=
  rel_void p out _ h (fun _ => rel_mapL _ (fun i _ =>
    rel_bind (p.getObs o in1 i) (fun _ _ => rel_bind (p.getObs o in2 i) (fun _ _ => rel_ofExcept _))))

/-- Apply.execute, hence ScalarDivider and ScalarRevDivider: the cell function may raise mid-way (`sqrt` of a negative,
`1/0`), the output column is then already created -/
theorem rel_applyVoid (o : Ops V) (f : V → Except Err V) (inp out : String) (h : W out) :
    Rel J S (fun _ => True) (applyVoid (σ := σ) o f inp out) (applyVoid (σ := τ) o f inp out) :=
  rel_void p out _ h (fun _ => rel_mapL _ (fun i _ => rel_bind (p.getObs o inp i) (fun _ _ => rel_ofExcept _)))

theorem rel_scalarVoid (o : Ops V) (k : SOp) (inp : String) (arg : V) (out : String) (h : W out) :
    Rel J S (fun _ => True) (scalarVoid (σ := σ) o k inp arg out) (scalarVoid (σ := τ) o k inp arg out) :=
  rel_applyVoid p o (fun x => k.f o x arg) inp out h

theorem rel_shiftCircular (o : Ops V) (inp : String) (arg : V) (out : String) (h : W out) :
    Rel J S (fun _ => True) (shiftCircular (σ := σ) o inp arg out) (shiftCircular (σ := τ) o inp arg out) :=
  rel_void p out _ h (fun _ => rel_mapL _ (fun _ _ => rel_bind (rel_ofExcept _) (fun j _ => p.getObs o inp j)))

theorem rel_scalarKind (o : Ops V) (k : SKind) (inp : String) (arg : V) (out : String) (h : W out) :
    Rel J S (fun _ => True) (scalarKind (σ := σ) o k inp arg out) (scalarKind (σ := τ) o k inp arg out) := by
  cases k with
  | plain s => exact rel_scalarVoid p o s inp arg out h
  | divider => exact rel_applyVoid p o _ inp out h
  | revDivider => exact rel_applyVoid p o _ inp out h
  | shift => exact rel_shiftCircular p o inp arg out h
  | shiftRev => exact rel_shiftCircular p o inp _ out h

theorem rel_aggOp (o : Ops V) (f inp : String) :
    Rel J S (fun _ => True) (aggOp (σ := σ) o f inp) (aggOp (σ := τ) o f inp) := by
  unfold aggOp
  exact rel_bind p.size (fun n _ => rel_bind (rel_mapL _ (fun i _ => p.getObs o inp i)) (fun _ _ => rel_ofExcept _))

theorem rel_sumOp (o : Ops V) (inp : String) :
    Rel J S (fun _ => True) (sumOp (σ := σ) o inp) (sumOp (σ := τ) o inp) := by
  unfold sumOp
  exact rel_bind p.size (fun n _ => rel_foldL_true _ _ (fun _ i _ => rel_bind (p.getObs o inp i) (fun _ _ =>
    rel_ite _ (fun _ => rel_pure _ trivial) (fun _ => rel_bind (p.getObs o inp i) (fun _ _ => rel_pure _ trivial)))))

theorem rel_readAll (o : Ops V) (cols cells : List String) :
    Rel J S (fun _ => True) (readAll (σ := σ) o cols cells) (readAll (σ := τ) o cols cells) := by
  unfold readAll
  exact rel_bind (rel_forEach _ (fun c _ => rel_bind (p.get o c) (fun _ _ => rel_pure _ trivial))) (fun _ _ =>
    rel_bind p.size (fun n _ => rel_forEach _ (fun c _ => rel_forEach _ (fun i _ =>
      rel_bind (p.getObs o c i) (fun _ _ => rel_pure _ trivial)))))

theorem rel_opaqueVoid (o : Ops V) (cols cells : List String) (out : String) (vals : List V) (h : W out) :
    Rel J S (fun _ => True) (opaqueVoid (σ := σ) o cols cells out vals) (opaqueVoid (σ := τ) o cols cells out vals) := by
  unfold opaqueVoid
  exact rel_bind (p.create out _ h) (fun _ _ => rel_bind (rel_readAll p o cols cells) (fun _ _ =>
    rel_bind (rel_addListToAF p out vals h) (fun _ _ => rel_pure _ trivial)))

theorem rel_reverser (o : Ops V) (inp out : String) (h : W out) :
    Rel J S (fun _ => True) (reverser (σ := σ) o inp out) (reverser (σ := τ) o inp out) := by
  unfold reverser
  exact rel_bind p.size (fun n _ => rel_bind (rel_mapL _ (fun i _ => p.getObs o inp _))
    (fun temp _ => rel_setItem p out (.list temp) h))

theorem rel_logVoid (o : Ops V) (inp out : String) (h : W out) :
    Rel J S (fun _ => True) (logVoid (σ := σ) o inp out) (logVoid (σ := τ) o inp out) := by
  unfold logVoid
  exact rel_bind p.size (fun n _ => rel_bind (rel_mapL _ (fun i _ =>
    rel_bind (p.getObs o inp i) (fun _ _ => rel_ofExcept _))) (fun temp _ => rel_setItem p out (.list temp) h))

theorem rel_runVFn (o : Ops V) (f : VFn) (inp out : String) (h : W out) :
    Rel J S (fun _ => True) (runVFn (σ := σ) o f inp out) (runVFn (σ := τ) o f inp out) := by
  cases f with
  | integrator => exact rel_bind (rel_unaryVoid p o _ inp out h) (fun _ _ => rel_pure _ trivial)
  | differentiator => exact rel_bind (rel_unaryVoid p o _ inp out h) (fun _ _ => rel_pure _ trivial)
  | log => exact rel_bind (rel_logVoid p o inp out h) (fun _ _ => rel_pure _ trivial)
  | apply name => exact rel_bind (rel_applyVoid p o _ inp out h) (fun _ _ => rel_pure _ trivial)

theorem rel_absCurvOp (o : Ops V) (h1 : W "ds") (h2 : W "abs_curv") (hd : D "ds") :
    Rel J S (fun _ => True) (absCurvOp (σ := σ) o) (absCurvOp (σ := τ) o) := by
  unfold absCurvOp
  exact rel_bind (p.has _) (fun _ _ =>
    rel_bind (P := fun _ => True) (rel_ite _ (fun _ => rel_pure _ trivial)
      (fun _ => rel_bind (rel_addAF p o .ds "ds" h1) (fun _ _ => rel_pure _ trivial))) (fun _ _ =>
    rel_bind (p.has _) (fun _ _ =>
    rel_bind (P := fun _ => True) (rel_ite _ (fun _ => rel_pure _ trivial)
      (fun _ => rel_bind (rel_unaryVoid p o .integrator "ds" "abs_curv" h2) (fun _ _ => rel_pure _ trivial))) (fun _ _ =>
    rel_bind (p.remove "ds" h1 hd) (fun _ _ => p.get o _)))))

theorem rel_estSpeedOp (o : Ops V) (h : W "speed") :
    Rel J S (fun _ => True) (estSpeedOp (σ := σ) o) (estSpeedOp (σ := τ) o) := by
  unfold estSpeedOp
  exact rel_bind (p.has _) (fun _ _ => rel_ite _ (fun _ => p.get o _) (fun _ => rel_addAF p o .speed "speed" h))

theorem rel_segmentOp (o : Ops V) (inp out : String) (thr : V) (h : W out) :
    Rel J S (fun _ => True) (segmentOp (σ := σ) o inp out thr) (segmentOp (σ := τ) o inp out thr) := by
  unfold segmentOp
  exact rel_bind (p.create out _ h) (fun _ _ => rel_bind p.size (fun n _ => rel_forEach _ (fun i _ =>
    rel_bind (p.getObs o inp i) (fun _ _ => p.setObs out i _ h))))

theorem rel_hasSV (sv : SV V) :
    Rel J S (fun b => b = true → ∃ s, sv = .tok s) (hasSV (σ := σ) sv) (hasSV (σ := τ) sv) := by
  cases sv with
  | tok s => exact rel_weaken (p.has s) (fun _ _ _ => ⟨s, rfl⟩)
  | num v => exact rel_pure _ nofun
  | none => exact rel_pure _ nofun

omit p [Tbl σ V] [Tbl τ V] in
theorem rel_toFloat (o : Ops V) (sv : SV V) :
    Rel J S (fun _ => True) (toFloat (σ := σ) o sv) (toFloat (σ := τ) o sv) := by
  cases sv with
  | tok s =>
    unfold toFloat
    simp only
    cases o.parse s with
    | none => exact rel_throw _
    | some v => exact rel_pure _ trivial
  | num v => exact rel_pure _ trivial
  | none => exact rel_throw _

omit p [Tbl σ V] [Tbl τ V] in
theorem rel_isFloat (o : Ops V) (sv : SV V) :
    Rel J S (fun _ => True) (isFloat (σ := σ) o sv) (isFloat (σ := τ) o sv) := by
  cases sv with
  | tok s => exact rel_pure _ trivial
  | num v => exact rel_pure _ trivial
  | none => exact rel_throw _

end TV.Features
