import TracklibVerif.Lemmas.Expr
/-! `Min` / `Max` as coded (a fold from `+inf` / `-inf` with a strict comparison; fix 68863c7, the start values used to
be `±1e300`) against the documented `min(x)` / `max(x)`: under the order laws of `lt` that the folds need — strict,
transitive, `+inf` above and `-inf` below every number, NaN comparing false — the result is the extremum of the
non-NaN values at every magnitude: a non-NaN value of the vector with nothing beyond it. On an empty or all-NaN
vector the start value comes back. -/
namespace TV.Expr
open Scalar
variable {α : Type} [Scalar α]

/-- what the folds of `Min` / `Max` use of the comparison: irreflexive and transitive -/
structure OrdLaws (α : Type) [Scalar α] : Prop where
  irrefl : ∀ a : α, lt a a = false
  trans : ∀ a b c : α, lt a b = true → lt b c = true → lt a c = true

/-- what the loops use of "`v` is better than the current extremum `m`": irreflexive and transitive -/
structure Better (better : α → α → Bool) : Prop where
  irrefl : ∀ a, better a a = false
  trans : ∀ a b c, better a b = true → better b c = true → better a c = true

/-- `+inf` is above and `-inf` below every number; NaN compares false (IEEE), the infinities are numbers -/
structure TopLaws (α : Type) [Scalar α] : Prop where
  top : ∀ a : α, isNaN a = false → lt a inf = true ∨ a = inf
  bot : ∀ a : α, isNaN a = false → lt (neg inf) a = true ∨ a = neg inf
  nan_lt : ∀ a b : α, isNaN a = true → lt a b = false
  lt_nan : ∀ a b : α, isNaN b = true → lt a b = false
  inf_num : isNaN (inf : α) = false
  ninf_num : isNaN (neg inf : α) = false

/-- one direction of comparison with the start value of its loop: `MIN` / `ARGMIN` (`v < m`, from `+inf`) or
    `MAX` / `ARGMAX` (`m < v`, from `-inf`) -/
structure Extremum (better : α → α → Bool) (start : α) : Prop extends Better better where
  beyond : ∀ a : α, isNaN a = false → better a start = true ∨ a = start
  nan_never : ∀ a b : α, isNaN a = true → better a b = false
  start_num : isNaN start = false

theorem extremum_min (L : OrdLaws α) (T : TopLaws α) : Extremum (fun (v m : α) => lt v m) inf :=
  { irrefl := L.irrefl, trans := L.trans, beyond := T.top, nan_never := T.nan_lt, start_num := T.inf_num }

theorem extremum_max (L : OrdLaws α) (T : TopLaws α) : Extremum (fun (v m : α) => lt m v) (neg inf) :=
  { irrefl := L.irrefl, trans := fun a b c h1 h2 => L.trans c b a h2 h1, beyond := T.bot,
    nan_never := fun a b h => T.lt_nan b a h, start_num := T.ninf_num }

/-- the loop of `Min` / `Max` from `m0`: `if better(val, m): m = val` (`minL`, `maxL` are its two instances, by definition) -/
def foldBest (better : α → α → Bool) (c : List α) (m0 : α) : α := c.foldl (fun m v => if better v m then v else m) m0

omit [Scalar α] in
theorem foldBest_cons (better : α → α → Bool) (w : α) (ws : List α) (m0 : α) :
    foldBest better (w :: ws) m0 = foldBest better ws (if better w m0 then w else m0) := rfl

omit [Scalar α] in
theorem foldBest_spec {better : α → α → Bool} (B : Better better) (c : List α) : ∀ (m0 : α),
    (∀ v ∈ c, better v (foldBest better c m0) = false) ∧
    (foldBest better c m0 = m0 ∨ (foldBest better c m0 ∈ c ∧ better (foldBest better c m0) m0 = true)) := by
  induction c with
  | nil => intro m0; exact ⟨by simp, Or.inl rfl⟩
  | cons w ws ih =>
    intro m0
    simp only [foldBest_cons]
    obtain ⟨m1, hm1, hw1, h01⟩ : ∃ m1, (if better w m0 = true then w else m0) = m1 ∧ better w m1 = false ∧
        (m1 = m0 ∨ (m1 = w ∧ better w m0 = true)) := by
      by_cases hw : better w m0 = true
      · exact ⟨w, by simp [hw], B.irrefl w, Or.inr ⟨rfl, hw⟩⟩
      · exact ⟨m0, by simp [hw], by simpa using hw, Or.inl rfl⟩
    rw [hm1]
    obtain ⟨h2, h3⟩ := ih m1
    generalize foldBest better ws m1 = m at h2 h3
    refine ⟨?_, ?_⟩
    · intro v hv
      rcases List.mem_cons.mp hv with rfl | hv
      · rcases h3 with h3 | ⟨_, h3⟩
        · rw [h3]; exact hw1
        · cases hvm : better v m with
          | false => rfl
          | true => rw [B.trans v m m1 hvm h3] at hw1; cases hw1
      · exact h2 v hv
    · rcases h3 with h3 | ⟨h3, h4⟩
      · rcases h01 with h | ⟨h, hw⟩
        · exact Or.inl (h3.trans h)
        · exact Or.inr ⟨by rw [h3, h]; simp, by rw [h3, h]; exact hw⟩
      · refine Or.inr ⟨List.mem_cons_of_mem _ h3, ?_⟩
        rcases h01 with h | ⟨h, hw⟩
        · rw [← h]; exact h4
        · exact B.trans m w m0 (h ▸ h4) hw

theorem foldBest_extremum {better : α → α → Bool} {start : α} (X : Extremum better start) (c : List α) (w : α) (hw : w ∈ c)
    (hn : isNaN w = false) :
    foldBest better c start ∈ c
      ∧ isNaN (foldBest better c start) = false
      ∧ ∀ v ∈ c, better v (foldBest better c start) = false := by
  obtain ⟨h1, h2⟩ := foldBest_spec X.toBetter c start
  rcases h2 with h2 | ⟨h2, h3⟩
  · rcases X.beyond w hn with ht | ht
    · have := h1 w hw; rw [h2, ht] at this; cases this
    · refine ⟨by rw [h2, ← ht]; exact hw, by rw [h2]; exact X.start_num, h1⟩
  · refine ⟨h2, ?_, h1⟩
    cases hnan : isNaN (foldBest better c start) with
    | false => rfl
    | true => rw [X.nan_never _ _ hnan] at h3; cases h3

theorem foldBest_no_number {better : α → α → Bool} {start : α} (X : Extremum better start) (c : List α)
    (h : ∀ v ∈ c, isNaN v = true) : foldBest better c start = start := by
  rcases (foldBest_spec X.toBetter c start).2 with h2 | ⟨h2, h3⟩
  · exact h2
  · rw [X.nan_never _ _ (h _ h2)] at h3; cases h3

theorem minL_is_minimum (L : OrdLaws α) (T : TopLaws α) (c : List α) (w : α) (hw : w ∈ c) (hn : isNaN w = false) :
    minL c ∈ c ∧ isNaN (minL c) = false ∧ ∀ v ∈ c, lt v (minL c) = false :=
  foldBest_extremum (extremum_min L T) c w hw hn

theorem maxL_is_maximum (L : OrdLaws α) (T : TopLaws α) (c : List α) (w : α) (hw : w ∈ c) (hn : isNaN w = false) :
    maxL c ∈ c ∧ isNaN (maxL c) = false ∧ ∀ v ∈ c, lt (maxL c) v = false :=
  foldBest_extremum (extremum_max L T) c w hw hn

theorem minmax_of_no_number (L : OrdLaws α) (T : TopLaws α) (c : List α) (h : ∀ v ∈ c, isNaN v = true) :
    minL c = inf ∧ maxL c = neg inf :=
  ⟨foldBest_no_number (extremum_min L T) c h, foldBest_no_number (extremum_max L T) c h⟩

end TV.Expr
