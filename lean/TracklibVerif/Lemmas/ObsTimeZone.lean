import TracklibVerif.Model.ObsTimeZone
import TracklibVerif.Lemmas.ObsTimeNeg
/-! Helper lemmas for the zone part of C03 (`Model/ObsTimeZone.lean`): integer-millisecond facts about
`convertToZoneMs`, `convertToZone` on the millisecond line of `Lemmas/ObsTimeNeg.lean`, and the frame facts of the program interpreter. -/
namespace TV.ObsTime

theorem toAbsMs_convertToZoneMs (t : Stamp) (z0 z : Int) (hk : 0 ≤ (toAbsMs t : Int) + 3600000 * (z - z0)) :
    (toAbsMs (convertToZoneMs t z0 z) : Int) = (toAbsMs t : Int) + 3600000 * (z - z0) := by
  unfold convertToZoneMs
  rw [toAbsMs_readUnixMs]
  omega

theorem convertToZoneG_msZ {α : Type} [Field α] [LinearOrder α] [IsStrictOrderedRing α] (trunc : α → Int) (t : StampZ)
    (K z0 z : Int) (hK : (toAbsG t : α) = (K : α) / 1000) (ht : TruncAt trunc (K + 3600000 * (z - z0))) :
    convertToZoneG trunc (⟨t, z0⟩ : ObsZ) z = some ⟨msStampZ (K + 3600000 * (z - z0)), z⟩ := by
  have e : K + 3600 * (z - z0) * 1000 = K + 3600000 * (z - z0) := by ring
  have := addSecG_msZ trunc t K (3600 * (z - z0)) hK (e ▸ ht)
  rw [addSecG, e] at this
  rw [convertToZoneG, this, Option.map_some]

theorem zone_of_map {o : Option StampZ} {z : Int} {r : ObsZ} (h : o.map (⟨·, z⟩) = some r) : r.zone = z := by
  cases o <;> simp at h; rw [← h]

section
variable {α : Type}

theorem withObj_ind (σ : State) (i : Nat) (kf : ObsZ → State × Out α) (P : State × Out α → Prop)
    (hnone : P (σ, .err "slot")) (hsome : ∀ o, σ.store[i]? = some o → P (kf o)) : P (withObj σ i kf) := by
  unfold withObj
  split
  · exact hsome _ ‹_›
  · exact hnone

def Op.writes : Op α → State → Nat → Prop
  | .set i _ _, _, k => k = i
  | .tset _, σ, k => k ∈ σ.track
  | _, _, _ => False

def assigns : Op α → Bool
  | .set _ _ _ => true
  | .tset _ => true
  | _ => false

theorem assigns_of_writes {op : Op α} {σ : State} {k : Nat} (h : op.writes σ k) : assigns op = true := by
  cases op <;> first | rfl | exact h.elim

theorem foldl_set_zone (z : Int) (tr : List Nat) (s : List ObsZ) :
    let s' := tr.foldl (fun s i => match s[i]? with
                                   | some o => s.set i { o with zone := z }
                                   | none => s) s
    s'.length = s.length ∧ ∀ k ∉ tr, s'[k]? = s[k]? := by
  refine List.foldlRecOn (motive := fun s' => s'.length = s.length ∧ ∀ k ∉ tr, s'[k]? = s[k]?) tr _
    ⟨rfl, fun _ _ => rfl⟩ fun s' ih i hi => ?_
  split
  · exact ⟨by rw [List.length_set, ih.1], fun k hk => by
      rw [List.getElem?_set_ne (fun (e : i = k) => hk (e ▸ hi)), ih.2 k hk]⟩
  · exact ih

end

section
variable {α : Type} [Add α] [Sub α] [Mul α] [Div α] [LT α] [DecidableLT α] [IntCast α]

/-- what one statement can do: leave the state alone and return something that is not a new object, append one
object and return it (`push`, or the round trip with its seconds), assign to an attribute, choose the track, relabel
the objects of the track, or append new objects and make them the track (`pushTrack`). A property of all seven holds of
`step`. (`push`, `pushTrack` on `none`, a loop out of fuel, are the first kind.) -/
theorem step_cases (trunc : α → Int) (σ : State) (op : Op α) (P : State × Out α → Prop)
    (hkeep : ∀ out : Out α, (∀ o, out ≠ .obj o) → P (σ, out))
    (hpush : ∀ o, P ({ σ with store := σ.store ++ [o] }, .obj o))
    (hrt : ∀ a r, P ({ σ with store := σ.store ++ [r] }, .absobj a r))
    (hset : ∀ i f v o, op = .set i f v → P ({ σ with store := σ.store.set i (setField o f v) }, .unit))
    (htrk : ∀ is, P ({ σ with track := is }, .unit))
    (htset : ∀ z, op = .tset z → P (step trunc σ (.tset z)))
    (hpt : ∀ l, P (⟨σ.store ++ l, (List.range l.length).map (· + σ.store.length)⟩, .objs l)) : P (step trunc σ op) := by
  have hn : P (σ, .err "slot") := hkeep _ (fun _ => nofun)
  have hpush : ∀ r, P (push σ r) := fun r => by cases r; exacts [hkeep _ (fun _ => nofun), hpush _]
  have hpt : ∀ rs, P (pushTrack σ rs) := fun rs => by cases rs; exacts [hkeep _ (fun _ => nofun), hpt _]
  cases op with
  | new t z => exact hpush (some ⟨t, z⟩)
  | read x => exact hpush (readUnixZ trunc x)
  | add i u nb => exact withObj_ind σ i _ P hn (fun _ _ => hpush _)
  | conv i z => exact withObj_ind σ i _ P hn (fun _ _ => hpush _)
  | copy i => exact withObj_ind σ i _ P hn (fun _ _ => hpush _)
  | rt i =>
    refine withObj_ind σ i _ P hn (fun o _ => ?_)
    cases h : rtZ (α := α) trunc o with
    | none => exact hkeep _ (fun _ => nofun)
    | some r => exact hrt _ _
  | set i f v => exact withObj_ind σ i _ P hn (fun o _ => hset i f v o rfl)
  | abs i => exact withObj_ind σ i _ P hn (fun _ _ => hkeep _ (fun _ => nofun))
  | cmp i j => exact withObj_ind σ i _ P hn (fun _ _ => withObj_ind σ j _ P hn (fun _ _ => hkeep _ (fun _ => nofun)))
  | sub i j => exact withObj_ind σ i _ P hn (fun _ _ => withObj_ind σ j _ P hn (fun _ _ => hkeep _ (fun _ => nofun)))
  | pz i => exact withObj_ind σ i _ P hn (fun _ _ => hkeep _ (fun _ => nofun))
  | tz i => exact withObj_ind σ i _ P hn (fun _ _ => hkeep _ (fun _ => nofun))
  | dow i => exact withObj_ind σ i _ P hn (fun _ _ => hkeep _ (fun _ => nofun))
  | trk is => simp only [step]; split; exacts [htrk _, hn]
  | tget => simp only [step]; split <;> exact hkeep _ (fun _ => nofun)
  | tset z => exact htset z rfl
  | tconv z => exact hpt _
  | tadd nb => exact hpt _

theorem step_length (trunc : α → Int) (σ : State) (op : Op α) :
    σ.store.length ≤ (step trunc σ op).1.store.length := by
  refine step_cases trunc σ op (fun r => σ.store.length ≤ r.1.store.length) (fun _ _ => Nat.le_refl _) (fun _ => by simp)
    (fun _ _ => by simp) (fun _ _ _ _ _ => by simp) (fun _ => Nat.le_refl _)
    (fun z _ => Nat.le_of_eq (foldl_set_zone z σ.track σ.store).1.symm) (fun _ => by simp)

end

end TV.ObsTime
