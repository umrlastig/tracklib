import TracklibVerif.Lemmas.GraphWorld
import TracklibVerif.Lemmas.GraphSessionQ
/-! The session invariant (`SessOK`, `Lemmas/GraphSession.lean`) through the routing-method API: an A* search leaves
flags on nodes of `NODES` only, so every object of a `World` satisfies the invariant after any program. -/
namespace TV.Graph
variable {W : Type} [LinearOrder W] [Add W] [Zero W]

theorem routeOnH_clean (net : Net W) (order : List Nat) (hends : ∀ e ∈ net.edges, e.src ∈ order ∧ e.tgt ∈ order)
    (st : St W) (hclean : CleanOutside order st) (h : Nat → W) (s : Nat) (hs : s ∈ order) (tgt : Option Nat)
    (cut : Option W) : CleanOutside order (routeOnH net order st h s tgt cut).1 := by
  unfold routeOnH
  rw [start_clean order st s hclean, forwardH_eq_loopG]
  exact loopG_clean hends _ (fun st u du hp => ((popOK_key h net.n).some st u du hp).2.2.1) tgt cut net.n hs

variable [Sub W] [Mul W]

/-- a search with a target on an object whose own `routing_mode` is 1, in any state a program can reach (`SessOK`): the
flags earlier searches left are reset, so the call answers with the pure A* search (`runForwardH`, heuristic
`astar_wgt × distance to the target`) on the object's graph as it is at that moment; a caller's dictionary receives that
search's entries -/
theorem execObj_astar_eq (sqrt : W → W) (o : NetObj W) (hok : SessOK o.sess) (hm : o.mode = 1) (s t : Nat)
    (hs : s ∈ o.sess.order) (ht : t ∈ o.sess.order) (cut : Option W) (ud : Bool) :
    (execObj sqrt o (.call (.dist s t cut ud))).2 = .val (shortestDistanceH o.sess.net (o.h sqrt (some t)) s t cut) ∧
    (execObj sqrt o (.call (.dist s t cut ud))).1.sess.udict =
      (if ud then record o.sess.udict s (runForwardH o.sess.net (o.h sqrt (some t)) s (some t) cut).2 else o.sess.udict) ∧
    (execObj sqrt o (.call (.route s (some t) cut ud))).2 =
      .flags (o.sess.order.map (runForwardH o.sess.net (o.h sqrt (some t)) s (some t) cut).1.d)
             (o.sess.order.map (runForwardH o.sess.net (o.h sqrt (some t)) s (some t) cut).1.vis) ∧
    (execObj sqrt o (.call (.route s (some t) cut ud))).1.sess.udict =
      (if ud then record o.sess.udict s (runForwardH o.sess.net (o.h sqrt (some t)) s (some t) cut).2 else o.sess.udict) := by
  have hcs : (o.sess.order.contains s && o.sess.order.contains t) = true := by
    simp only [Bool.and_eq_true, List.contains_iff_mem]; exact ⟨hs, ht⟩
  have hst : routeOnH o.sess.net o.sess.order o.sess.flags (o.h sqrt (some t)) s (some t) cut =
      runForwardH o.sess.net (o.h sqrt (some t)) s (some t) cut := by
    unfold routeOnH runForwardH
    rw [start_clean o.sess.order o.sess.flags s hok.clean]
  refine ⟨?_, ?_, ?_, ?_⟩ <;> simp only [execObj, hm, if_true, hcs, hst] <;> rfl

theorem execObj_ok (sqrt : W → W) (o : NetObj W) (hok : SessOK o.sess) (op : WOp W) :
    SessOK (execObj sqrt o op).1.sess := by
  have astar : ∀ {s t : Nat} (h : Nat → W) (cut : Option W) (ud : Bool),
      (o.sess.order.contains s && o.sess.order.contains t) = true →
      SessOK { o.sess with
        flags := (routeOnH o.sess.net o.sess.order o.sess.flags h s (some t) cut).1,
        udict := if ud then record o.sess.udict s (routeOnH o.sess.net o.sess.order o.sess.flags h s (some t) cut).2
                 else o.sess.udict } :=
    fun h cut ud hc => ⟨hok.wf, hok.nodes, hok.ends, routeOnH_clean _ _ hok.ends _ hok.clean _ _
      (List.contains_iff_mem.1 (Bool.and_eq_true_iff.1 hc).1) _ _⟩
  fun_cases execObj sqrt o op
  case case3 s t cut ud _ _ hc _ => exact astar _ cut ud hc
  case case6 s t cut ud _ _ hc _ => exact astar _ cut ud hc
  -- the setters, `sub_network(…, "GEOMETRIC")` and a refused call leave the session as it is; every other call is `exec`
  all_goals first | exact hok | exact exec_ok o.sess hok _

variable [OfNat W 1]

theorem worldAfter_ok (sqrt : W → W) (w : World W) (hw : ∀ o ∈ w, SessOK o.sess) (ops : List (WorldOp W)) :
    ∀ o ∈ worldAfter sqrt w ops, SessOK o.sess := by
  induction ops generalizing w with
  | nil => exact hw
  | cons op rest ih =>
    apply ih
    intro o ho
    cases op with
    | create n pos =>
      rcases List.mem_append.1 ho with h | h
      · exact hw o h
      · rw [List.mem_singleton.1 h]; exact new_ok n
    | on j wop =>
      cases hj : w[j]? with
      | none => simp only [execWorld, hj] at ho; exact hw o ho
      | some oj =>
        rw [execWorld_on sqrt w hj] at ho
        rcases List.mem_or_eq_of_mem_set ho with h | rfl
        · exact hw o h
        · exact execObj_ok sqrt oj (hw oj (List.mem_of_getElem? hj)) wop

theorem world_ok (sqrt : W → W) (ops : List (WorldOp W)) (k : Nat) (o : NetObj W)
    (hk : (worldAfter sqrt [] ops)[k]? = some o) : SessOK o.sess :=
  worldAfter_ok sqrt [] (fun _ h => nomatch h) ops o (List.mem_of_getElem? hk)
end TV.Graph
