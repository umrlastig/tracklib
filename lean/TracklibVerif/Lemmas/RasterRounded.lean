import TracklibVerif.Lemmas.Raster
import Mathlib.Data.Rat.Floor
import Mathlib.Tactic.NormNum
/-! Rounded arithmetic for the grid geometry of C19.

`RQ rnd` is the type of rationals on which every arithmetic operation (`+ - * /`, the conversion of an integer) is
followed by a rounding `rnd : ℚ → ℚ`; comparisons are exact. The polymorphic model (`mkGrid`, `getCell`, `scatter` of
`Model/Raster.lean`) instantiated at `RQ rnd` is the computation Python performs in floating point as soon as `rnd` is
the rounding of the float format. What is assumed of `rnd` is stated explicitly: `Rounding` (monotone, the integers up
to the grid size are representable: IEEE binary64 in any rounding mode, below 2^53) and `RoundingErr` (relative error
at most `u`: `u = 2^-53` for round-to-nearest, barring underflow). Proved here: on a grid built at `RQ rnd` (`WFR`), `getCell`
stays in range (`getCell_rounded_range`) and its footprint is the cell up to the rounding error (`InCellUpTo`,
`getCell_rounded_footprint`); the scatter at `RQ rnd` is in `Props/C19.lean` (`rounded_conservation`). -/

namespace TV.Raster

structure RQ (rnd : ℚ → ℚ) where
  v : ℚ

namespace RQ
variable {rnd : ℚ → ℚ}
instance : Add (RQ rnd) := ⟨fun a b => ⟨rnd (a.v + b.v)⟩⟩
instance : Sub (RQ rnd) := ⟨fun a b => ⟨rnd (a.v - b.v)⟩⟩
instance : Mul (RQ rnd) := ⟨fun a b => ⟨rnd (a.v * b.v)⟩⟩
instance : Div (RQ rnd) := ⟨fun a b => ⟨rnd (a.v / b.v)⟩⟩
instance : OfNat (RQ rnd) 0 := ⟨⟨0⟩⟩
instance : OfNat (RQ rnd) 1 := ⟨⟨1⟩⟩
instance : OfNat (RQ rnd) 2 := ⟨⟨2⟩⟩
instance : IntCast (RQ rnd) := ⟨fun n => ⟨rnd n⟩⟩
instance : NatCast (RQ rnd) := ⟨fun n => ⟨rnd n⟩⟩
instance : LT (RQ rnd) := ⟨fun a b => a.v < b.v⟩
instance : LE (RQ rnd) := ⟨fun a b => a.v ≤ b.v⟩
instance : DecidableLT (RQ rnd) := fun a b => inferInstanceAs (Decidable (a.v < b.v))
instance : DecidableLE (RQ rnd) := fun a b => inferInstanceAs (Decidable (a.v ≤ b.v))
instance : BEq (RQ rnd) := ⟨fun a b => decide (a.v = b.v)⟩
def floor (a : RQ rnd) : Int := ⌊a.v⌋
def ceil (a : RQ rnd) : Int := ⌈a.v⌉

@[simp] theorem sub_v (a b : RQ rnd) : (a - b).v = rnd (a.v - b.v) := rfl
@[simp] theorem div_v (a b : RQ rnd) : (a / b).v = rnd (a.v / b.v) := rfl
@[simp] theorem add_v (a b : RQ rnd) : (a + b).v = rnd (a.v + b.v) := rfl
@[simp] theorem mul_v (a b : RQ rnd) : (a * b).v = rnd (a.v * b.v) := rfl
@[simp] theorem intCast_v (n : ℤ) : ((n : RQ rnd)).v = rnd n := rfl
theorem lt_def (a b : RQ rnd) : a < b ↔ a.v < b.v := Iff.rfl
theorem beq_def (a b : RQ rnd) : (a == b) = decide (a.v = b.v) := rfl
end RQ

structure Rounding (rnd : ℚ → ℚ) (N : ℤ) : Prop where
  mono : Monotone rnd
  int : ∀ n : ℤ, |n| ≤ N → rnd n = n

variable {rnd : ℚ → ℚ}

/-- the grid as `Raster.__init__` computes it in rounded arithmetic -/
structure WFR (g : Grid (RQ rnd)) : Prop where
  rx : 0 < g.rx.v
  ry : 0 < g.ry.v
  ncol : g.ncol = max 1 (RQ.ceil ((g.xmax - g.xmin) / g.rx))
  nrow : g.nrow = max 1 (RQ.ceil ((g.ymax - g.ymin) / g.ry))

theorem Rounding.zero {N : ℤ} (hr : Rounding rnd N) (hN : 0 ≤ N) : rnd 0 = 0 := by
  have := hr.int 0 (by simpa using hN); simpa using this

/-- `getCell` in rounded arithmetic inside the extent, in terms of the two rules, once the three integers converted on the
    way (`ncol`, `nrow - 1`, `⌊idy⌋`) are known to be representable -/
theorem getCell_RQ_inside (g : Grid (RQ rnd)) (x y : RQ rnd)
    (hx : g.xmin.v ≤ x.v ∧ x.v ≤ g.xmax.v) (hy : g.ymin.v ≤ y.v ∧ y.v ≤ g.ymax.v)
    (hc : rnd (g.ncol : ℚ) = g.ncol) (hn : rnd ((g.nrow - 1 : ℤ) : ℚ) = ((g.nrow - 1 : ℤ) : ℚ))
    (hf : rnd (⌊rnd (((g.nrow - 1 : ℤ) : ℚ) - ((y - g.ymin) / g.ry).v)⌋ : ℚ)
      = ⌊rnd (((g.nrow - 1 : ℤ) : ℚ) - ((y - g.ymin) / g.ry).v)⌋) :
    getCell RQ.floor g x y = some (colOf g.ncol ((x - g.xmin) / g.rx).v,
      lineOf (rnd (((g.nrow - 1 : ℤ) : ℚ) - ((y - g.ymin) / g.ry).v))) := by
  unfold getCell colOf lineOf
  have h1 : ¬ (x < g.xmin ∨ g.xmax < x) := by
    simp only [RQ.lt_def]; push Not; exact ⟨hx.1, hx.2⟩
  have h2 : ¬ (y < g.ymin ∨ g.ymax < y) := by
    simp only [RQ.lt_def]; push Not; exact ⟨hy.1, hy.2⟩
  simp only [h1, h2, ↓reduceIte, RQ.beq_def, RQ.floor, RQ.sub_v (_ : RQ rnd) (_ / _), RQ.intCast_v, hc, hn, hf,
    Bool.and_eq_true, decide_eq_true_eq, beq_iff_eq]

theorem Rounding.norm_range {N : ℤ} (hr : Rounding rnd N) (hN : 0 ≤ N) (lo hi r x : ℚ) (hrp : 0 < r)
    (h0 : lo ≤ x) (h1 : x ≤ hi) {n : ℤ} (hn : n = max 1 ⌈rnd (rnd (hi - lo) / r)⌉) :
    0 ≤ rnd (rnd (x - lo) / r) ∧ rnd (rnd (x - lo) / r) ≤ (n : ℚ) := by
  have z := hr.zero hN
  have a : 0 ≤ rnd (x - lo) := z ▸ hr.mono (sub_nonneg.2 h0)
  exact ⟨z ▸ hr.mono (div_nonneg a hrp.le),
    (hr.mono (div_le_div_of_nonneg_right (hr.mono (sub_le_sub_right h1 _)) hrp.le)).trans (hn ▸ (max_one_ceil _).2)⟩

theorem WFR.norm_y {N : ℤ} {g : Grid (RQ rnd)} (hg : WFR g) (hr : Rounding rnd N) (hN : 0 ≤ N) (y : RQ rnd)
    (hy : g.ymin.v ≤ y.v ∧ y.v ≤ g.ymax.v) :
    0 ≤ ((y - g.ymin) / g.ry).v ∧ ((y - g.ymin) / g.ry).v ≤ (g.nrow : ℚ) :=
  hr.norm_range hN g.ymin.v g.ymax.v g.ry.v y.v hg.ry hy.1 hy.2 hg.nrow

theorem WFR.ncol_pos {g : Grid (RQ rnd)} (hg : WFR g) : 0 < g.ncol := hg.ncol ▸ (max_one_ceil _).1
theorem WFR.nrow_pos {g : Grid (RQ rnd)} (hg : WFR g) : 0 < g.nrow := hg.nrow ▸ (max_one_ceil _).1

/-- `getCell` in rounded arithmetic on a point of the extent: the cell is in the grid; the column brackets the rounded
    normalised abscissa, the line brackets `(nrow-1) - idy` for the rounded `idy` -/
theorem getCell_rounded_core {N : ℤ} (hr : Rounding rnd N) (g : Grid (RQ rnd)) (hg : WFR g)
    (hN : g.ncol ≤ N ∧ g.nrow ≤ N) (x y : RQ rnd)
    (hx : g.xmin.v ≤ x.v ∧ x.v ≤ g.xmax.v) (hy : g.ymin.v ≤ y.v ∧ y.v ≤ g.ymax.v) :
    ∃ c l : ℤ, getCell RQ.floor g x y = some (c, l) ∧ 0 ≤ c ∧ c < g.ncol ∧ 0 ≤ l ∧ l < g.nrow
      ∧ (c : ℚ) ≤ ((x - g.xmin) / g.rx).v ∧ ((x - g.xmin) / g.rx).v ≤ (c : ℚ) + 1
      ∧ ((g.nrow - 1 - l : ℤ) : ℚ) ≤ ((g.nrow - 1 : ℤ) : ℚ) - rnd (((g.nrow - 1 : ℤ) : ℚ) - ((y - g.ymin) / g.ry).v)
      ∧ ((g.nrow - 1 : ℤ) : ℚ) - rnd (((g.nrow - 1 : ℤ) : ℚ) - ((y - g.ymin) / g.ry).v) ≤ ((g.nrow - l : ℤ) : ℚ) := by
  have hncol_pos := hg.ncol_pos
  have hnrow_pos := hg.nrow_pos
  have hN0 : 0 ≤ N := by omega
  obtain ⟨hu0, hun⟩ := hr.norm_range hN0 g.xmin.v g.xmax.v g.rx.v x.v hg.rx hx.1 hx.2 hg.ncol
  obtain ⟨c0, c1, c2, c3⟩ := col_spec (u := ((x - g.xmin) / g.rx).v) hu0 hun hncol_pos
  -- line: `idy` is within `[-1, nrow - 1]` because the two ends are representable and `rnd` is monotone
  obtain ⟨hv0, hvn⟩ := hg.norm_y hr hN0 y hy
  have hn1 : rnd ((g.nrow - 1 : ℤ) : ℚ) = ((g.nrow - 1 : ℤ) : ℚ) :=
    hr.int _ (by rw [abs_of_nonneg (by omega)]; omega)
  have hm1 : rnd ((-1 : ℤ) : ℚ) = ((-1 : ℤ) : ℚ) := hr.int _ (by simp; omega)
  set v : ℚ := ((y - g.ymin) / g.ry).v
  set idy : ℚ := rnd (((g.nrow - 1 : ℤ) : ℚ) - v)
  have hidy_ge : ((-1 : ℤ) : ℚ) ≤ idy := by
    rw [← hm1]; apply hr.mono; push_cast; linarith only [hvn]
  have hidy_le : idy ≤ ((g.nrow - 1 : ℤ) : ℚ) := by
    rw [← hn1]; exact hr.mono (sub_le_self _ hv0)
  have hf_ge : -1 ≤ ⌊idy⌋ := Int.le_floor.2 hidy_ge
  have hf_le : ⌊idy⌋ ≤ g.nrow - 1 := Int.cast_le.1 ((Int.floor_le idy).trans hidy_le)
  have hfl : rnd (⌊idy⌋ : ℚ) = (⌊idy⌋ : ℚ) := hr.int _ (by rw [abs_le]; constructor <;> omega)
  obtain ⟨l0, l1, l2, l3⟩ := line_spec (v := ((g.nrow - 1 : ℤ) : ℚ) - idy)
    (sub_nonneg.2 hidy_le) (by push_cast at hidy_ge ⊢; linarith only [hidy_ge]) hnrow_pos idy (sub_sub_cancel _ _).symm
  refine ⟨_, _, getCell_RQ_inside g x y hx hy (hr.int _ (by rw [abs_of_pos hncol_pos]; exact hN.1)) hn1 hfl,
    c0, c1, l0, l1, c2, ?_, l2, ?_⟩
  -- on the closed outer border the bracket holds with equality
  · exact c3.elim le_of_lt (fun ⟨h1, h2⟩ => by rw [h1, h2, Int.cast_sub, Int.cast_one, sub_add_cancel])
  · exact l3.elim le_of_lt (fun ⟨h1, h2⟩ => by rw [h1, h2, sub_zero])

/-- **No index outside the grid under rounding.** With every operation of `Raster.__init__` and `Raster.getCell`
rounded by a monotone rounding that leaves the integers up to the grid size unchanged (IEEE double precision, any
rounding mode, grids of fewer than 2^53 lines and columns), every point of the extent gets a column `0 ≤ c < ncol`
and a line `0 ≤ l < nrow`. -/
theorem getCell_rounded_range {N : ℤ} (hr : Rounding rnd N) (g : Grid (RQ rnd)) (hg : WFR g)
    (hN : g.ncol ≤ N ∧ g.nrow ≤ N) (x y : RQ rnd)
    (hx : g.xmin.v ≤ x.v ∧ x.v ≤ g.xmax.v) (hy : g.ymin.v ≤ y.v ∧ y.v ≤ g.ymax.v) :
    ∃ c l : ℤ, getCell RQ.floor g x y = some (c, l) ∧ 0 ≤ c ∧ c < g.ncol ∧ 0 ≤ l ∧ l < g.nrow := by
  obtain ⟨c, l, h, h1, h2, h3, h4, _⟩ := getCell_rounded_core hr g hg hN x y hx hy
  exact ⟨c, l, h, h1, h2, h3, h4⟩

/-- a rounding with relative error at most `u` (IEEE double precision, round to nearest: `u = 2^-53`) -/
structure RoundingErr (rnd : ℚ → ℚ) (N : ℤ) (u : ℚ) : Prop extends Rounding rnd N where
  u0 : 0 ≤ u
  u1 : u ≤ 1
  err : ∀ t : ℚ, |rnd t - t| ≤ u * |t|

theorem RoundingErr.bounds {N : ℤ} {u : ℚ} (hr : RoundingErr rnd N u) {t : ℚ} (ht : 0 ≤ t) :
    t * (1 - u) ≤ rnd t ∧ rnd t ≤ t * (1 + u) := by
  have e := abs_le.1 (hr.err t)
  rw [abs_of_nonneg ht] at e
  constructor <;> linarith only [e.1, e.2]

/-- the normalised coordinate `q = rnd (rnd d / r)` of an offset `d ≥ 0`, back in ground units: `q r` is `d` up to the
    factor `(1 ± u)²` -/
theorem RoundingErr.norm_err {N : ℤ} {u : ℚ} (hr : RoundingErr rnd N u) (d r : ℚ) (hd : 0 ≤ d) (hrp : 0 < r) :
    rnd (rnd d / r) * r ≤ d * (1 + u) ^ 2 ∧ d * (1 - u) ^ 2 ≤ rnd (rnd d / r) * r := by
  obtain ⟨d0, d1⟩ := hr.bounds hd
  have hu : 0 ≤ 1 - u := sub_nonneg.2 hr.u1
  have hu' : 0 ≤ 1 + u := add_nonneg zero_le_one hr.u0
  obtain ⟨t0, t1⟩ := hr.bounds (div_nonneg ((mul_nonneg hd hu).trans d0) hrp.le)
  -- each of the two roundings costs one factor
  have hmul : ∀ k : ℚ, rnd d / r * k * r = rnd d * k := fun k => by rw [mul_right_comm, div_mul_cancel₀ _ hrp.ne']
  constructor
  · calc rnd (rnd d / r) * r ≤ rnd d / r * (1 + u) * r := mul_le_mul_of_nonneg_right t1 hrp.le
      _ = rnd d * (1 + u) := hmul _
      _ ≤ d * (1 + u) * (1 + u) := mul_le_mul_of_nonneg_right d1 hu'
      _ = d * (1 + u) ^ 2 := by rw [pow_two, mul_assoc]
  · calc d * (1 - u) ^ 2 = d * (1 - u) * (1 - u) := by rw [pow_two, mul_assoc]
      _ ≤ rnd d * (1 - u) := mul_le_mul_of_nonneg_right d0 hu
      _ = rnd d / r * (1 - u) * r := (hmul _).symm
      _ ≤ rnd (rnd d / r) * r := mul_le_mul_of_nonneg_right t0 hrp.le

/-- footprint of the cell (column `c`, line `l` from the top) up to the rounding allowance: the offset of the point
    from the grid origin, scaled by `(1 ± u)²`, lies between the cell's two edges; for the lines the subtraction from
    `nrow - 1` adds `u · nrow · ry` (`u` of the grid height) -/
def InCellUpTo (g : Grid (RQ rnd)) (u : ℚ) (c l : ℤ) (x y : ℚ) : Prop :=
  (c : ℚ) * g.rx.v ≤ (x - g.xmin.v) * (1 + u) ^ 2 ∧ (x - g.xmin.v) * (1 - u) ^ 2 ≤ ((c : ℚ) + 1) * g.rx.v ∧
  ((g.nrow - 1 - l : ℤ) : ℚ) * g.ry.v ≤ (y - g.ymin.v) * (1 + u) ^ 2 + u * g.nrow * g.ry.v ∧
  (y - g.ymin.v) * (1 - u) ^ 2 ≤ ((g.nrow - l : ℤ) : ℚ) * g.ry.v + u * g.nrow * g.ry.v

theorem getCell_rounded_footprint {N : ℤ} {u : ℚ} (hr : RoundingErr rnd N u) (g : Grid (RQ rnd)) (hg : WFR g)
    (hN : g.ncol ≤ N ∧ g.nrow ≤ N) (x y : RQ rnd)
    (hx : g.xmin.v ≤ x.v ∧ x.v ≤ g.xmax.v) (hy : g.ymin.v ≤ y.v ∧ y.v ≤ g.ymax.v) :
    ∃ c l : ℤ, getCell RQ.floor g x y = some (c, l) ∧ 0 ≤ c ∧ c < g.ncol ∧ 0 ≤ l ∧ l < g.nrow
      ∧ InCellUpTo g u c l x.v y.v := by
  obtain ⟨c, l, h, h1, h2, h3, h4, cx0, cx1, ly0, ly1⟩ := getCell_rounded_core hr.toRounding g hg hN x y hx hy
  refine ⟨c, l, h, h1, h2, h3, h4, ?_⟩
  have hrx := hg.rx
  have hry := hg.ry
  obtain ⟨ex1, ex0⟩ := hr.norm_err (x.v - g.xmin.v) g.rx.v (sub_nonneg.2 hx.1) hrx
  obtain ⟨ey1, ey0⟩ := hr.norm_err (y.v - g.ymin.v) g.ry.v (sub_nonneg.2 hy.1) hry
  obtain ⟨hv0, hvn⟩ := hg.norm_y hr.toRounding (by have := hg.nrow_pos; omega) y hy
  set qx : ℚ := ((x - g.xmin) / g.rx).v
  set v : ℚ := ((y - g.ymin) / g.ry).v
  -- the rounded subtraction from `nrow - 1` is off by at most `u · nrow`
  have es := abs_le.1 (hr.err (((g.nrow - 1 : ℤ) : ℚ) - v))
  have hn1q : (1 : ℚ) ≤ g.nrow := by exact_mod_cast hg.nrow_pos
  have hub : u * |((g.nrow - 1 : ℤ) : ℚ) - v| ≤ u * g.nrow :=
    mul_le_mul_of_nonneg_left (by rw [abs_le]; push_cast; constructor <;> linarith only [hv0, hvn, hn1q]) hr.u0
  have a0 : ((g.nrow - 1 - l : ℤ) : ℚ) ≤ v + u * g.nrow := by linarith only [ly0, es.1, hub]
  have a1 : v ≤ ((g.nrow - l : ℤ) : ℚ) + u * g.nrow := by linarith only [ly1, es.2, hub]
  refine ⟨(mul_le_mul_of_nonneg_right cx0 hrx.le).trans ex1, ex0.trans (mul_le_mul_of_nonneg_right cx1 hrx.le), ?_, ?_⟩
  · calc ((g.nrow - 1 - l : ℤ) : ℚ) * g.ry.v ≤ (v + u * g.nrow) * g.ry.v := mul_le_mul_of_nonneg_right a0 hry.le
      _ = v * g.ry.v + u * g.nrow * g.ry.v := add_mul _ _ _
      _ ≤ _ := add_le_add ey1 le_rfl
  · calc _ ≤ v * g.ry.v := ey0
      _ ≤ (((g.nrow - l : ℤ) : ℚ) + u * g.nrow) * g.ry.v := mul_le_mul_of_nonneg_right a1 hry.le
      _ = _ := add_mul _ _ _

/-! ### a concrete rounding, for the non-vacuity examples: exact below 1 in magnitude, rounded down to a multiple of
    1/8 above (relative error at most 1/8) -/
def rnd8 (t : ℚ) : ℚ := if |t| < 1 then t else (⌊8 * t⌋ : ℚ) / 8

theorem rnd8_le (t : ℚ) : rnd8 t ≤ t := by
  unfold rnd8; split
  · exact le_rfl
  · rw [div_le_iff₀ (by norm_num)]; linarith only [Int.floor_le (8 * t)]

theorem rnd8_gt (t : ℚ) : t - 1 / 8 < rnd8 t := by
  unfold rnd8; split
  · exact sub_lt_self _ (by norm_num)
  · rw [lt_div_iff₀ (by norm_num)]; linarith only [Int.lt_floor_add_one (8 * t)]

theorem rnd8_mono : Monotone rnd8 := by
  intro a b hab
  by_cases hb : |b| < 1
  · -- `b` is kept, and `rnd8` never rounds up
    rw [show rnd8 b = b by simp [rnd8, hb]]; exact (rnd8_le a).trans hab
  by_cases ha : |a| < 1
  · -- `a` is kept and lies below 1; `b ≥ 1` is rounded down to a multiple of 1/8 that is still at least 1
    have hb1 : 1 ≤ b := (le_abs'.1 (not_lt.1 hb)).resolve_left (fun h => by linarith only [(abs_lt.1 ha).1, h, hab])
    have : (8 : ℤ) ≤ ⌊8 * b⌋ := Int.le_floor.2 (by push_cast; linarith only [hb1])
    have : (8 : ℚ) ≤ (⌊8 * b⌋ : ℚ) := by exact_mod_cast this
    have hr : 1 ≤ rnd8 b := by
      simp only [rnd8, hb, if_false]; rw [le_div_iff₀ (by norm_num)]; linarith only [this]
    rw [show rnd8 a = a by simp [rnd8, ha]]; linarith only [(abs_lt.1 ha).2, hr]
  · simp only [rnd8, ha, hb, if_false]
    apply div_le_div_of_nonneg_right _ (by norm_num : (0 : ℚ) ≤ 8)
    have : ⌊8 * a⌋ ≤ ⌊8 * b⌋ := Int.floor_le_floor (by linarith only [hab])
    exact_mod_cast this

theorem rnd8_int (n : ℤ) : rnd8 n = n := by
  unfold rnd8; split
  · rfl
  · have : (8 : ℚ) * (n : ℚ) = ((8 * n : ℤ) : ℚ) := by push_cast; ring
    rw [this, Int.floor_intCast]; push_cast; ring

theorem rnd8_rounding (N : ℤ) : RoundingErr rnd8 N (1 / 8) where
  mono := rnd8_mono
  int := fun n _ => rnd8_int n
  u0 := by norm_num
  u1 := by norm_num
  err := fun t => by
    by_cases h : |t| < 1
    · have : rnd8 t = t := by simp [rnd8, h]
      rw [this]; simp
    · have h1 : 1 ≤ |t| := not_lt.1 h
      rw [abs_le]; constructor <;> linarith only [rnd8_le t, rnd8_gt t, h1]

theorem mkGrid_wfr (bx0 bx1 by0 by1 rx ry margin : RQ rnd) (hrx : 0 < rx.v) (hry : 0 < ry.v) :
    WFR (mkGrid RQ.ceil bx0 bx1 by0 by1 rx ry margin) :=
  ⟨hrx, hry, rfl, rfl⟩

end TV.Raster
