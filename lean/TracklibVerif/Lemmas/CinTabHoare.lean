import TracklibVerif.Lemmas.FeaturesRel
/-! Total-correctness triples for the state-and-exception monad `Features.M`, and the **laws of a feature table**:
what a program written against the Track API (`class Tbl`) may rely on, whatever the representation —
the specification table `ATab`, C01's dict-and-rows table `St`, or a `World` of observation objects shared between tracks
whose slots are addressed through the dict of the track in focus. The C17 programs are proved once from the laws
(`Lemmas/CinTabProg.lean`); each representation then only has to satisfy the laws. Also the coordinate names `cnm`,
the inverse of `coord?`. -/
namespace TV.CinTab
open TV.Features

variable {σ V α β : Type}

def Triple (P : σ → Prop) (m : M σ α) (Q : α → σ → Prop) : Prop :=
  ∀ s, P s → ∃ x s', m s = (.ok x, s') ∧ Q x s'

theorem triple_pure {P : σ → Prop} {Q : α → σ → Prop} (x : α) (h : ∀ s, P s → Q x s) : Triple P (pure x : M σ α) Q :=
  fun s hs => ⟨x, s, rfl, h s hs⟩

theorem triple_bind {P : σ → Prop} {Q : α → σ → Prop} {R : β → σ → Prop} {m : M σ α} {f : α → M σ β}
    (h1 : Triple P m Q) (h2 : ∀ x, Triple (Q x) (f x) R) : Triple P (m >>= f) R := by
  intro s hs
  obtain ⟨x, s1, e1, q1⟩ := h1 s hs
  obtain ⟨y, s2, e2, q2⟩ := h2 x s1 q1
  exact ⟨y, s2, (bind_of_ok e1).trans e2, q2⟩

theorem triple_conseq {P P' : σ → Prop} {Q Q' : α → σ → Prop} {m : M σ α} (h : Triple P m Q)
    (hp : ∀ s, P' s → P s) (hq : ∀ x s, Q x s → Q' x s) : Triple P' m Q' := by
  intro s hs
  obtain ⟨x, s', e, q⟩ := h s (hp s hs)
  exact ⟨x, s', e, hq x s' q⟩

theorem triple_read {P : σ → Prop} {m : M σ α} {v : α} (h : ∀ s, P s → m s = (.ok v, s)) :
    Triple P m (fun x s => x = v ∧ P s) :=
  fun s hs => ⟨v, s, h s hs, rfl, hs⟩

theorem triple_catchIndex {P : σ → Prop} {Q : α → σ → Prop} {m : M σ α} (d : α) (h : Triple P m Q) :
    Triple P (M.catchIndex m d) Q := fun s hs =>
  have ⟨x, s', e, q⟩ := h s hs
  ⟨x, s', catchIndex_ok e, q⟩

theorem triple_foldL_range' (f : β → Nat → M σ β) (J : Nat → β → σ → Prop) : ∀ (n a : Nat) (b : β),
    (∀ i, i < n → ∀ b', Triple (J (a + i) b') (f b' (a + i)) (fun b'' => J (a + i + 1) b'')) →
      Triple (J a b) (M.foldL (List.range' a n) b f) (fun b' => J (a + n) b')
  | 0, _, b, _ => triple_pure b (fun _ h => h)
  | n + 1, a, b, h => by
    rw [List.range'_succ]
    unfold M.foldL
    refine triple_bind (h 0 (Nat.succ_pos n) b) (fun b' => ?_)
    have ih := triple_foldL_range' f J n (a + 1) b' (fun i hi b'' => by
      have := h (i + 1) (Nat.succ_lt_succ hi) b''
      rwa [show a + (i + 1) = a + 1 + i by omega] at this)
    rwa [show a + 1 + n = a + (n + 1) by omega] at ih

theorem triple_forEach_range (f : Nat → M σ Unit) (J : Nat → σ → Prop) (n : Nat)
    (h : ∀ i, i < n → Triple (J i) (f i) (fun _ => J (i + 1))) :
    Triple (J 0) (M.forEach (List.range n) f) (fun _ => J n) := by
  have := triple_foldL_range' (fun _ i => f i) (fun i _ => J i) n 0 () fun i hi _ => by
    simpa only [Nat.zero_add] using h i hi
  rwa [Nat.zero_add, ← List.range_eq_range', ← forEach_eq_foldL] at this

def cnm : Coord → String
  | .x => "x" | .y => "y" | .z => "z" | .t => "t"

theorem coord?_cnm (c : Coord) : coord? (cnm c) = some c := by cases c <;> rfl

theorem cnm_of_coord? {m : String} {c : Coord} (h : coord? m = some c) : m = cnm c := by
  revert h
  fun_cases coord? m
  case case5 => nofun
  all_goals rintro ⟨⟩; exact eq_of_beq ‹_›

/-- The laws of a feature table. `I` is the representation invariant, `n` the number of observations of the track,
`rd s name` the column read under a feature name (`none` = not listed), `co s c` the coordinate / time column.
Reads do not change the state; `create` of a new name yields SOME full column (its initial values are not
specified: a slot inherited from another track may show through) and leaves every other name and the
coordinates alone; `setObs` replaces exactly one value; `remove` unlists exactly one name. -/
structure Laws [Tbl σ V] (I : σ → Prop) (n : σ → Nat) (rd : σ → String → Option (List V)) (co : σ → Coord → List V) : Prop where
  size : ∀ s, (Tbl.size : M σ Nat) s = (.ok (n s), s)
  has : ∀ s name, I s → reserved name = false → (Tbl.has name : M σ Bool) s = (.ok (rd s name).isSome, s)
  co_len : ∀ s c, I s → (co s c).length = n s
  rd_len : ∀ s name col, I s → rd s name = some col → col.length = n s
  getObs_coord : ∀ (o : Ops V) s c i v, I s → (co s c)[i]? = some v → (Tbl.getObs o (cnm c) i : M σ V) s = (.ok v, s)
  getObs_feat : ∀ (o : Ops V) s name col i v, I s → reserved name = false → rd s name = some col → col[i]? = some v →
      (Tbl.getObs o name i : M σ V) s = (.ok v, s)
  get_feat : ∀ (o : Ops V) s name col, I s → reserved name = false → rd s name = some col →
      (Tbl.get o name : M σ (List V)) s = (.ok col, s)
  create_new : ∀ s name v, I s → reserved name = false → rd s name = none → 0 < n s →
      ∃ s' col, (Tbl.create name (.scalar v) : M σ Unit) s = (.ok (), s') ∧ I s' ∧ rd s' name = some col ∧ n s' = n s
        ∧ (∀ m, m ≠ name → rd s' m = rd s m) ∧ co s' = co s
  create_old : ∀ s name v col, I s → reserved name = false → rd s name = some col → 0 < n s →
      (Tbl.create name (.scalar v) : M σ Unit) s = (.ok (), s)
  setObs : ∀ s name col i v, I s → reserved name = false → rd s name = some col → i < n s →
      ∃ s', (Tbl.setObs name i v : M σ Unit) s = (.ok (), s') ∧ I s' ∧ rd s' name = some (col.set i v) ∧ n s' = n s
        ∧ (∀ m, m ≠ name → rd s' m = rd s m) ∧ co s' = co s
  remove : ∀ s name col, I s → reserved name = false → rd s name = some col →
      ∃ s', (Tbl.remove name : M σ Unit) s = (.ok (), s') ∧ I s' ∧ rd s' name = none ∧ n s' = n s
        ∧ (∀ m, m ≠ name → rd s' m = rd s m) ∧ co s' = co s

end TV.CinTab
