import TracklibVerif.Model.Viterbi
import Mathlib.Order.Basic
import Mathlib.Order.Defs.LinearOrder
/-! The function-style table of `Model/Viterbi.lean` (`val`, `mrk`, `back`, `cost`): what the scan over the predecessors
returns, the back-pointer path, and the two facts every optimality statement rests on — a value is a lower bound of the
cost of every sequence ending in its cell (`val_le_cost`), and it is the cost of the back-pointer path as soon as no
scan on that path ended with its start values (`Found`, `cost_back_of_found`). -/
namespace TV.Viterbi
variable {α : Type} [LinearOrder α]

theorem scanMin_congr (big : α) (f g : Nat → α) (n : Nat) (h : ∀ m, m < n → f m = g m) :
    scanMin big f n = scanMin big g n := by
  induction n with
  | zero => rfl
  | succ n ih =>
    simp only [scanMin]
    rw [ih (fun m hm => h m (by omega)), h n (by omega)]

theorem scanMin_spec (big : α) (f : Nat → α) (n : Nat) :
    (∀ m, m < n → (scanMin big f n).1 ≤ f m) ∧
    (scanMin big f n = (big, 0) ∨
      ((scanMin big f n).1 < big ∧ (scanMin big f n).2 < n ∧ (scanMin big f n).1 = f (scanMin big f n).2)) := by
  induction n with
  | zero => exact ⟨nofun, Or.inl rfl⟩
  | succ n ih =>
    obtain ⟨lo, at_⟩ := ih
    simp only [scanMin]
    split
    · next hlt =>
      refine ⟨fun m hm => ?_, Or.inr ⟨?_, Nat.lt_succ_self n, rfl⟩⟩
      · rcases Nat.lt_succ_iff_lt_or_eq.mp hm with h | rfl
        · exact hlt.le.trans (lo m h)
        · exact le_refl _
      · rcases at_ with e | h
        · rwa [e] at hlt
        · exact hlt.trans h.1
    · next hlt =>
      refine ⟨fun m hm => ?_, at_.imp id (fun h => ⟨h.1, Nat.lt_succ_of_lt h.2.1, h.2.2⟩)⟩
      rcases Nat.lt_succ_iff_lt_or_eq.mp hm with h | rfl
      · exact lo m h
      · exact not_lt.mp hlt

theorem exists_of_scanMin_lt (big : α) (f : Nat → α) (n : Nat) (h : (scanMin big f n).1 < big) :
    ∃ m, m < n ∧ f m < big := by
  rcases (scanMin_spec big f n).2 with h1 | ⟨h1, h2, h3⟩
  · rw [h1] at h; exact absurd h (lt_irrefl _)
  · exact ⟨_, h2, h3 ▸ h1⟩

/-- a back-pointer is in range as soon as the previous epoch has one candidate (no sentinel hypothesis): the scan returns
the index of something it scanned, or its start value `0` -/
theorem mrk_lt (t : Tables α) (k l : Nat) (hk : 0 < t.n k) : mrk t k l < t.n k := by
  rcases (scanMin_spec t.big (fun m => t.add (t.trans k m l) (val t k m)) (t.n k)).2 with h | ⟨_, h, _⟩
  · unfold mrk; rw [h]; exact hk
  · exact h

theorem scan_found (t : Tables α) (k l : Nat)
    (h : ∃ m, m < t.n k ∧ t.add (t.trans k m l) (val t k m) < t.big) :
    mrk t k l < t.n k ∧ t.add (t.trans k (mrk t k l) l) (val t k (mrk t k l)) < t.big ∧
    val t (k+1) l = t.add (t.add (t.trans k (mrk t k l) l) (val t k (mrk t k l))) (t.obs (k+1) l) := by
  obtain ⟨m, hm, hlt⟩ := h
  obtain ⟨lo, e | ⟨h1, h2, h3⟩⟩ := scanMin_spec t.big (fun m => t.add (t.trans k m l) (val t k m)) (t.n k)
  · rw [e] at lo; exact absurd hlt (not_lt.mpr (lo m hm))
  · exact ⟨h2, h3 ▸ h1, congrArg (t.add · (t.obs (k+1) l)) h3⟩

theorem back_self (t : Tables α) (k l : Nat) : back t k l k = l := by
  cases k with
  | zero => rfl
  | succ k => simp [back]

theorem back_lt (t : Tables α) (k l j : Nat) (hj : j < k + 1) :
    back t (k+1) l j = back t k (mrk t k l) j := by
  have : j ≠ k + 1 := by omega
  simp [back, this]

theorem back_lt_n (t : Tables α) (k l : Nat) (hpos : ∀ j, j < k → 0 < t.n j) (hl : l < t.n k) (j : Nat) (hj : j ≤ k) :
    back t k l j < t.n j := by
  fun_induction back t k l j
  case case1 => exact Nat.le_zero.mp hj ▸ hl
  case case2 => exact hl
  case case3 k l j h ih => exact ih (fun i hi => hpos i (by omega)) (mrk_lt t k l (hpos k (by omega))) (by omega)

theorem back_back (t : Tables α) (N l j i : Nat) (hj : j ≤ N) (hi : i ≤ j) :
    back t j (back t N l j) i = back t N l i := by
  fun_induction back t N l j
  case case1 => obtain rfl := Nat.le_zero.mp hj; obtain rfl := Nat.le_zero.mp hi; rfl
  case case2 => rfl
  case case3 N l j h ih => rw [back_lt t N l i (by omega)]; exact ih (by omega) hi

theorem back_step (t : Tables α) (k l j : Nat) (hj : j < k) : back t k l j = mrk t j (back t k l (j+1)) := by
  rw [← back_back t k l (j+1) j hj (Nat.le_succ j), back_lt t j _ j (Nat.lt_succ_self j), back_self]

omit [LinearOrder α] in
theorem cost_congr (t : Tables α) (σ τ : Nat → Nat) (k : Nat) (h : ∀ j, j ≤ k → σ j = τ j) :
    cost t σ k = cost t τ k := by
  induction k with
  | zero => simp [cost, h 0 (Nat.le_refl _)]
  | succ k ih =>
    simp only [cost]
    rw [ih (fun j hj => h j (by omega)), h k (by omega), h (k+1) (Nat.le_refl _)]

structure Mono (t : Tables α) : Prop where
  left : ∀ a b c, a ≤ b → t.add a c ≤ t.add b c
  right : ∀ a b c, a ≤ b → t.add c a ≤ t.add c b

/-- every sequence ending in `σ k` at epoch `k` costs at least `TAB_VAL[k][σ k]` — with NO hypothesis on the sentinel
(the scan returns at most every scanned value) -/
theorem val_le_cost (t : Tables α) (hm : Mono t) (σ : Nat → Nat) (k : Nat) (hσ : ∀ j, j < k → σ j < t.n j) :
    val t k (σ k) ≤ cost t σ k := by
  induction k with
  | zero => exact le_refl _
  | succ k ih =>
    exact hm.left _ _ _ (((scanMin_spec t.big _ (t.n k)).1 (σ k) (hσ k (by omega))).trans
      (hm.right _ _ _ (ih (fun j hj => hσ j (by omega)))))

theorem minVal_le_cost (t : Tables α) (hm : Mono t) (N l : Nat) (hmin : ∀ l', l' < t.n N → val t N l ≤ val t N l')
    (σ : Nat → Nat) (hσ : ∀ k, k ≤ N → σ k < t.n k) : val t N l ≤ cost t σ N :=
  (hmin _ (hσ N (Nat.le_refl _))).trans (val_le_cost t hm σ N (fun j hj => hσ j (Nat.le_of_lt hj)))

/-- on the back-pointer path from `(k, l)` no scan ended with its start values: every cell of the path, from epoch 1 on,
has a predecessor that offers a value below the sentinel -/
def Found (t : Tables α) (k l : Nat) : Prop :=
  ∀ j, j < k → ∃ m, m < t.n j ∧ t.add (t.trans j m (back t k l (j+1))) (val t j m) < t.big

/-- along a `Found` path every value is the scanned sum at its back-pointer (`scan_found`), which is how `cost` accumulates -/
theorem val_back_eq_cost (t : Tables α) (N l j : Nat) (h : Found t N l) (hj : j ≤ N) :
    val t j (back t N l j) = cost t (back t N l) j := by
  induction j with
  | zero => rfl
  | succ j ih =>
    rw [(scan_found t j _ (h j hj)).2.2, ← back_step t N l j hj, ih (Nat.le_of_succ_le hj)]
    rfl

theorem cost_back_of_found (t : Tables α) (k : Nat) : ∀ l, Found t k l → cost t (back t k l) k = val t k l :=
  fun l h => by rw [← val_back_eq_cost t k l k h (Nat.le_refl k), back_self]

theorem cost_back (t : Tables α) (hpos : ∀ k, 0 < t.n k)
    (hbig : ∀ k m l, m < t.n k → t.add (t.trans k m l) (val t k m) < t.big)
    (k l : Nat) : cost t (back t k l) k = val t k l :=
  cost_back_of_found t k l (fun j _ => ⟨0, hpos j, hbig j 0 _ (hpos j)⟩)

theorem back_valid (t : Tables α) (hpos : ∀ k, 0 < t.n k)
    (hbig : ∀ k m l, m < t.n k → t.add (t.trans k m l) (val t k m) < t.big)
    (k l : Nat) (hl : l < t.n k) : ∀ j, j ≤ k → back t k l j < t.n j :=
  back_lt_n t k l (fun j _ => hpos j) hl

/-- C09-T3: the decoded sequence (back-pointers from a minimal last state) is optimal -/
theorem decoded_optimal (t : Tables α) (hm : Mono t) (hpos : ∀ k, 0 < t.n k)
    (hbig : ∀ k m l, m < t.n k → t.add (t.trans k m l) (val t k m) < t.big)
    (N l : Nat) (hl : l < t.n N) (hmin : ∀ l', l' < t.n N → val t N l ≤ val t N l')
    (σ : Nat → Nat) (hσ : ∀ k, σ k < t.n k) :
    cost t (back t N l) N ≤ cost t σ N := by
  rw [cost_back t hpos hbig]
  exact minVal_le_cost t hm N l hmin σ (fun k _ => hσ k)
end TV.Viterbi
