import TracklibVerif.Lemmas.Split
/-! Helper lemmas for C11: `split` with a limit as a filter of the plain `split`; `Track.extract` on in-range bounds. -/
namespace TV.Split
variable {β : Type}

theorem goL_go (short : List β → Bool) (obs : List (β × Bool)) (cur : List β) (acc : List (List β)) (st : Bool) :
    goL short obs cur (acc.filter (fun p => !short p)) st =
      (((go obs cur acc st).1).filter (fun p => !short p), (go obs cur acc st).2.1, (go obs cur acc st).2.2) := by
  fun_induction go obs cur acc st with
  | case1 => rfl
  | case2 o rest cur acc st ih =>
    rw [← ih, List.filter_append, goL, if_pos rfl]
    cases hs : short (cur ++ [o]) <;> simp [hs]
  | case3 o m rest cur acc st hm ih => rw [← ih, goL, if_neg hm]

theorem dropLast_append_getLast? (l : List β) : l.dropLast ++ l.getLast?.toList = l := by
  induction l with
  | nil => rfl
  | cons a t ih =>
    cases t with
    | nil => rfl
    | cons b t => rw [List.dropLast_cons_cons, List.getLast?_cons_cons, List.cons_append, ih]

theorem splitL_eq_filter (short keepTail : List β → Bool) (obs : List (β × Bool)) :
    splitL short keepTail obs =
      (split obs).dropLast.filter (fun p => !short p) ++ ((split obs).getLast?.toList).filter keepTail := by
  have h := goL_go short obs [] [] false
  have hany : obs.any Prod.snd = (go obs [] [] false).2.2 := (go_spec obs [] [] false).2.symm
  simp only [List.filter_nil] at h
  rw [split_eq_go, splitL, h]
  cases hst : obs.any Prod.snd with
  | true =>
    simp only [← hany, hst, if_true, List.dropLast_concat, List.getLast?_concat, Option.toList_some, List.filter_cons,
      List.filter_nil]
    cases keepTail (go obs [] [] false).2.1 <;> simp
  | false => simp [go_none obs [] [] false hst]

theorem splitL_eq_filter_same (short keepTail keep : List β → Bool) (hs : ∀ p, (!short p) = keep p)
    (hk : ∀ p, keepTail p = keep p) (obs : List (β × Bool)) : splitL short keepTail obs = (split obs).filter keep := by
  rw [splitL_eq_filter, funext hs, funext hk, ← List.filter_append, dropLast_append_getLast?]

theorem sublist_flatten {l₁ l₂ : List (List β)} (h : l₁.Sublist l₂) : l₁.flatten.Sublist l₂.flatten := by
  induction h with
  | slnil => exact List.Sublist.refl _
  | cons a _ ih =>
    rw [List.flatten_cons]
    exact ih.trans (List.sublist_append_right _ _)
  | cons_cons a _ ih =>
    rw [List.flatten_cons, List.flatten_cons]
    exact List.Sublist.append_left ih a

theorem pyIndex_nat (l : List β) (k : Nat) : pyIndex l (k : Int) = l[k]? := by
  simp [pyIndex]

theorem pyRange_nat (a b : Nat) : pyRange (a : Int) (b : Int) = (List.range' a (b - a)).map (fun (k : Nat) => (k : Int)) := by
  unfold pyRange
  rw [Int.toNat_sub]
  apply List.ext_getElem
  · simp
  · intro i h1 h2
    simp [List.getElem_range']

theorem mapM_getElem?_range' (l : List β) (a n : Nat) (h : a + n ≤ l.length) :
    (List.range' a n).mapM (fun k => l[k]?) = some ((l.drop a).take n) := by
  induction n generalizing a with
  | zero => simp
  | succ n ih =>
    have ha : a < l.length := Nat.lt_of_lt_of_le (Nat.lt_add_of_pos_right (Nat.succ_pos n)) h
    rw [List.range'_succ, List.mapM_cons, List.getElem?_eq_getElem ha]
    have := ih (a + 1) (by rw [Nat.add_right_comm]; exact h)
    simp only [Option.pure_def, Option.bind_eq_bind, Option.bind_some]
    rw [this]
    simp only [Option.bind_some]
    congr 1
    rw [List.drop_eq_getElem_cons ha, List.take_succ_cons]

/-- also for `a > b`, where both sides are empty -/
theorem extract_range (l : List β) (a b : Nat) (ha : a ≤ l.length) (hb : b < l.length) :
    extract l (a : Int) (b : Int) = some ((l.drop a).take (b + 1 - a)) := by
  unfold extract
  rw [show (b : Int) + 1 = ((b + 1 : Nat) : Int) from rfl, pyRange_nat, List.mapM_map]
  simp only [Function.comp_def, pyIndex_nat]
  exact mapM_getElem?_range' l a (b + 1 - a) (by rw [Nat.add_comm, Nat.sub_add_eq_max]; exact Nat.max_le.mpr ⟨hb, ha⟩)
end TV.Split
