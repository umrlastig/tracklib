import TracklibVerif.Model.MapMatchNet
import TracklibVerif.Lemmas.Proj
/-! Helper lemmas for C10: additivity of distances along a segment, lengths of polylines, the `abs_curv` column as lengths of
prefixes of the geometry, `__distToNode` as along-edge distances to the two ends. -/
namespace TV.MapMatch
open TV.Proj
variable {α : Type} [Field α]

section
variable [LinearOrder α] [IsStrictOrderedRing α]

theorem sqrt_eq {sqrt : α → α} (hs : SqrtSpec sqrt) (v a : α) (ha : 0 ≤ a) (h : a * a = v) : sqrt v = a := by
  obtain ⟨s0, ss⟩ := hs v (h ▸ mul_self_nonneg a)
  exact (mul_self_inj_of_nonneg s0 ha).mp (ss.trans h.symm)

theorem sqrt_scale {sqrt : α → α} (hs : SqrtSpec sqrt) (k u : α) (hk : 0 ≤ k) (hu : 0 ≤ u) :
    sqrt (k * k * u) = k * sqrt u := by
  obtain ⟨s0, ss⟩ := hs u hu
  exact sqrt_eq hs _ _ (mul_nonneg hk s0) (by rw [mul_mul_mul_comm, ss])

theorem dist2D_eq (sqrt : α → α) (a c : α × α) :
    dist2D sqrt a c = sqrt (d2 c.1 c.2 a.1 a.2) := rfl

theorem dist_on_seg {sqrt : α → α} (hs : SqrtSpec sqrt) (p1 p2 p : α × α)
    (h : OnSeg p1.1 p1.2 p2.1 p2.2 p.1 p.2) :
    dist2D sqrt p1 p + dist2D sqrt p2 p = dist2D sqrt p2 p1 := by
  obtain ⟨t, t0, t1, e1, e2⟩ := h
  have hN : 0 ≤ (p1.1 - p2.1) * (p1.1 - p2.1) + (p1.2 - p2.2) * (p1.2 - p2.2) :=
    add_nonneg (mul_self_nonneg _) (mul_self_nonneg _)
  have near : ∀ u v : α, (u + t * (v - u) - u) * (u + t * (v - u) - u) = t * t * ((u - v) * (u - v)) := fun u v => by ring
  have far : ∀ u v : α, (u + t * (v - u) - v) * (u + t * (v - u) - v) = (1 - t) * (1 - t) * ((u - v) * (u - v)) :=
    fun u v => by ring
  unfold dist2D
  rw [e1, e2, near p1.1 p2.1, near p1.2 p2.2, far p1.1 p2.1, far p1.2 p2.2,
    ← mul_add, ← mul_add, sqrt_scale hs t _ t0 hN, sqrt_scale hs (1 - t) _ (sub_nonneg.mpr t1) hN, ← add_mul,
    add_sub_cancel, one_mul]

end

theorem polyLengthFrom_acc (sqrt : α → α) (l : List (α × α)) :
    ∀ (acc : α) (prev : α × α), polyLengthFrom sqrt acc prev l = acc + polyLengthFrom sqrt 0 prev l := by
  induction l with
  | nil => intro acc prev; exact (add_zero acc).symm
  | cons q rest ih =>
    intro acc prev
    simp only [polyLengthFrom]
    rw [ih (acc + dist2D sqrt q prev) q, ih (0 + dist2D sqrt q prev) q, zero_add, add_assoc]

theorem polyLength_cons_cons (sqrt : α → α) (p q : α × α) (r : List (α × α)) :
    polyLength sqrt (p :: q :: r) = dist2D sqrt q p + polyLength sqrt (q :: r) :=
  (polyLengthFrom_acc sqrt r _ q).trans (by rw [zero_add]; rfl)

theorem curvFrom_take (sqrt : α → α) (l : List (α × α)) :
    ∀ (acc : α) (prev : α × α) (i : Nat), i ≤ l.length →
      (acc :: curvFrom sqrt acc prev l)[i]? = some (polyLengthFrom sqrt acc prev (l.take i)) := by
  induction l with
  | nil => intro acc prev i hi; cases Nat.le_zero.mp hi; rfl
  | cons q rest ih =>
    intro acc prev i hi
    cases i with
    | zero => rfl
    | succ i => exact ih _ q i (Nat.le_of_succ_le_succ hi)

theorem absCurv_take (sqrt : α → α) (g : List (α × α)) (i : Nat) (hi : i < g.length) :
    (absCurv sqrt g)[i]? = some (polyLength sqrt (g.take (i + 1))) := by
  cases g with
  | nil => cases hi
  | cons p rest => exact curvFrom_take sqrt rest 0 p i (Nat.le_of_lt_succ hi)

theorem absCurv_last (sqrt : α → α) (g : List (α × α)) (hg : g ≠ []) :
    (absCurv sqrt g)[g.length - 1]? = some (polyLength sqrt g) := by
  cases g with
  | nil => exact absurd rfl hg
  | cons p rest =>
    have h := absCurv_take sqrt (p :: rest) rest.length (Nat.lt_succ_self _)
    rwa [show rest.length + 1 = (p :: rest).length from rfl, List.take_length] at h

theorem polyLength_split (sqrt : α → α) (g : List (α × α)) (k : Nat) (hk : k < g.length) :
    polyLength sqrt g = polyLength sqrt (g.take (k + 1)) + polyLength sqrt (g.drop k) := by
  induction k generalizing g with
  | zero =>
    cases g with
    | nil => cases hk
    | cons p rest => exact (zero_add _).symm
  | succ k ih =>
    match g, hk with
    | p :: q :: r, hk =>
      rw [polyLength_cons_cons, ih (q :: r) (Nat.lt_of_succ_lt_succ hk), ← add_assoc]
      exact congrArg (· + _) (polyLength_cons_cons sqrt p q (r.take k)).symm

theorem polyLength_drop_succ (sqrt : α → α) (g : List (α × α)) (i : Nat) (p q : α × α)
    (h1 : g[i]? = some p) (h2 : g[i + 1]? = some q) :
    polyLength sqrt (g.drop i) = dist2D sqrt q p + polyLength sqrt (g.drop (i + 1)) := by
  obtain ⟨hi, rfl⟩ := List.getElem?_eq_some_iff.mp h1
  obtain ⟨hj, rfl⟩ := List.getElem?_eq_some_iff.mp h2
  rw [List.drop_eq_getElem_cons hi, List.drop_eq_getElem_cons hj]
  exact polyLength_cons_cons sqrt _ _ _

/-- `__distToNode` where it is meant to be called: on segment `i` of a geometry whose `abs_curv` column is the one `computeAbsCurv`
makes. Towards the source: length of the geometry up to vertex `i` + `|V_i p|`; towards the target (`abs_curv[-1] - abs_curv[i+1]`):
length of the geometry from vertex `i+1` on + `|V_{i+1} p|` -/
theorem distToNode_eq (sqrt : α → α) (e : Edge α) (p : α × α) (i : Nat) (p1 p2 : α × α)
    (g1 : e.geom[i]? = some p1) (g2 : e.geom[i + 1]? = some p2) (hc : e.curv = absCurv sqrt e.geom) :
    distToNode sqrt e p i 0 = some (polyLength sqrt (e.geom.take (i + 1)) + dist2D sqrt p1 p) ∧
    distToNode sqrt e p i 1 = some (polyLength sqrt (e.geom.drop (i + 1)) + dist2D sqrt p2 p) := by
  have hi1 : i + 1 < e.geom.length := (List.getElem?_eq_some_iff.mp g2).1
  unfold distToNode
  rw [hc, absCurv_take sqrt e.geom i (Nat.lt_of_succ_lt hi1), absCurv_take sqrt e.geom (i + 1) hi1,
    absCurv_last sqrt e.geom (List.ne_nil_of_length_pos (Nat.zero_lt_of_lt hi1)), g1, g2]
  refine ⟨rfl, congrArg (fun x => some (x + dist2D sqrt p2 p)) ?_⟩
  rw [polyLength_split sqrt e.geom (i + 1) hi1, add_sub_cancel_left]

variable [LinearOrder α] [IsStrictOrderedRing α]

/-- for a point `p` of segment `i` the two values are distances to the two end nodes measured ALONG the edge: they add up to the
length of the edge -/
theorem distToNode_along {sqrt : α → α} (hs : SqrtSpec sqrt) (e : Edge α) (p : α × α) (i : Nat) (a b : α)
    (p1 p2 : α × α) (g1 : e.geom[i]? = some p1) (g2 : e.geom[i + 1]? = some p2)
    (hon : OnSeg p1.1 p1.2 p2.1 p2.2 p.1 p.2)
    (ha : distToNode sqrt e p i 0 = some a) (hb : distToNode sqrt e p i 1 = some b)
    (hc : e.curv = absCurv sqrt e.geom) :
    a = polyLength sqrt (e.geom.take (i + 1)) + dist2D sqrt p1 p ∧
    b = polyLength sqrt (e.geom.drop (i + 1)) + dist2D sqrt p2 p ∧
    a + b = polyLength sqrt e.geom := by
  obtain ⟨ea, eb⟩ := distToNode_eq sqrt e p i p1 p2 g1 g2 hc
  cases ea.symm.trans ha; cases eb.symm.trans hb
  refine ⟨rfl, rfl, ?_⟩
  rw [polyLength_split sqrt e.geom i (List.getElem?_eq_some_iff.mp g1).1, polyLength_drop_succ sqrt e.geom i p1 p2 g1 g2]
  linear_combination dist_on_seg hs p1 p2 p hon

end TV.MapMatch
