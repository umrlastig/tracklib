import TracklibVerif.Lemmas.GraphPath
import TracklibVerif.Model.GraphAStar
/-! Lemmas for C06 and C07 about the A* branch of `run_routing_forward` (`forwardH`, `Model/GraphAStar.lean`: label `g`, queue
priority `g + h`), valid for ANY heuristic: what the queue pops, the loop as an instance of `loopG`
(`Lemmas/GraphStop.lean`), the invariants that do not depend on the order in which the queue is emptied (`forwardH_goodH`:
labels are weights of walks, the predecessor structure `antecedent` / `antecedent_edge` is tight and well-founded — all that
`run_routing_backward` needs, `Lemmas/GraphBack.lean`), what `shortest_distance` reports whatever the heuristic
(`shortestDistanceH_any`), and the case `heuristic = 0`, in which the loop is the Dijkstra loop. (Exactness for a consistent heuristic: `Lemmas/GraphAStarFix.lean`.) -/
namespace TV.Graph
variable {W : Type} [LinearOrder W] [Add W]

theorem popMinKey_eq_popKey (h : Nat → W) (st : St W) (k : Nat) :
    popMinKey h st k = popKey (fun v x => x + h v) st k := by
  induction k with
  | zero => rfl
  | succ k ih => simp only [popMinKey, popKey, ih]; rfl

theorem forwardH_eq_loopG (net : Net W) (h : Nat → W) (tg : Option Nat) (cut : Option W) (f : Nat) (st : St W)
    (out : List (Nat × W)) :
    forwardH net h tg cut f st out = loopG (fun st => popMinKey h st net.n) (settle net) tg cut f st out := by
  induction f generalizing st out with
  | zero => rfl
  | succ f ih =>
    unfold forwardH loopG
    cases popMinKey h st net.n with
    | none => rfl
    | some p => obtain ⟨u, du⟩ := p; simp only [ih]

theorem popOK_key (h : Nat → W) (n : Nat) : PopOK (fun v y => y + h v) n (fun st : St W => popMinKey h st n) := by
  refine ⟨fun st hp => ?_, fun st u x hp => ?_⟩ <;> rw [popMinKey_eq_popKey] at hp
  · exact popKey_firstMin hp
  · obtain ⟨a, b, c, d⟩ := popKey_firstMin hp
    exact ⟨a, b, c, fun v y hv hvis hd => (d v y hv hvis hd).1⟩

variable [Zero W]

theorem popMinKey_zero (hadd : ∀ a : W, a + 0 = a) (h : Nat → W) (hz : ∀ v, h v = 0) (st : St W) (k : Nat) :
    popMinKey h st k = popMinAux st k := by
  rw [popMinKey_eq_popKey, popMinAux_eq_popKey]
  congr 1
  funext v x
  rw [hz, hadd]

theorem forwardH_zero (hadd : ∀ a : W, a + 0 = a) (net : Net W) (h : Nat → W) (hz : ∀ v, h v = 0) (tg : Option Nat)
    (cut : Option W) (f : Nat) (st : St W) (out : List (Nat × W)) :
    forwardH net h tg cut f st out = forward net tg cut f st out := by
  rw [forwardH_eq_loopG, forward_eq_loopG]
  congr 1
  funext st
  exact popMinKey_zero hadd h hz st net.n

variable [WalkAdd W]

theorem forwardH_goodH (net : Net W) (hnet : WFNet net) (h : Nat → W) (s : Nat) (hs : s < net.n) (tgt : Option Nat)
    (cut : Option W) : GoodH net s (runForwardH net h s tgt cut).1 := by
  unfold runForwardH
  rw [forwardH_eq_loopG]
  exact loopG_goodH hnet (popOK_key h net.n) s hs tgt cut net.n

/-- `shortest_distance(s, t)` in A* mode, ANY heuristic (consistent or not, of any sign): a reported value is the weight
of a permitted walk (hence never below the minimum), with any cut-off; and without a cut-off the sentinel is reported
exactly when no walk exists. -/
theorem shortestDistanceH_any (net : Net W) (hnet : WFNet net) (h : Nat → W) (s t : Nat) (hs : s < net.n) :
    (∀ cut y, shortestDistanceH net h s t cut = some y → Walk net s t y) ∧
    (shortestDistanceH net h s t none = none ↔ ¬ Reachable net s t) := by
  refine ⟨fun cut y hy => (forwardH_goodH net hnet h s hs (some t) cut).2.1.a3 t y hy, ?_⟩
  unfold shortestDistanceH runForwardH
  rw [forwardH_eq_loopG]
  exact loopG_none_iff hnet (popOK_key h net.n) s hs t
end TV.Graph
