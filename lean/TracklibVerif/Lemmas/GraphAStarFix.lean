import TracklibVerif.Lemmas.GraphAStar
/-! The A* branch of `run_routing_forward` as it is after fix c78e3ab (`forwardH`, `Model/GraphAStar.lean`: the label is
`g`, the queue priority `g + h`) is exact for a consistent heuristic — `h u ≤ w + h v` along every permitted arc —: without
and with a cut-off, for the value returned and for every `output_dict` entry. Weights in a linearly ordered cancellative
commutative monoid (`ℕ ℤ ℚ ℝ`). All of it is `Lemmas/GraphStop.lean` at the queue priority `g + h`, which a consistent
heuristic makes admissible (`prioOK_consistent`). -/
namespace TV.Graph
variable {W : Type} [AddCommMonoid W] [LinearOrder W]

def Consistent (net : Net W) (h : Nat → W) : Prop := ∀ u v w, Arc net u v w → h u ≤ w + h v

theorem consistent_of_edges (net : Net W) (h : Nat → W)
    (hE : ∀ e ∈ net.edges, (0 ≤ e.ori → h e.src ≤ e.w + h e.tgt) ∧ (e.ori ≤ 0 → h e.tgt ≤ e.w + h e.src)) :
    Consistent net h := by
  rintro u v w ⟨e, he, rfl, ⟨ho, rfl, rfl⟩ | ⟨ho, rfl, rfl⟩⟩
  · exact (hE e he).1 ho
  · exact (hE e he).2 ho

variable [IsOrderedCancelAddMonoid W]

theorem prioOK_consistent {net : Net W} {h : Nat → W} (hc : Consistent net h) : PrioOK (fun v y => y + h v) net :=
  ⟨fun v _ _ => add_le_add_iff_right (h v), fun u v w x ha => by rw [add_assoc]; exact add_le_add_right (hc u v w ha) x⟩

theorem runForwardH_ended (net : Net W) (hnet : WFNet net) (h : Nat → W) (hc : Consistent net h) (s : Nat) (hs : s < net.n)
    (tg : Option Nat) (cut : Option W) :
    Ended (fun v y => y + h v) net s (fun st => popMinKey h st net.n) tg cut (runForwardH net h s tg cut).1 := by
  unfold runForwardH
  rw [forwardH_eq_loopG]
  exact loopG_ended hnet (prioOK_consistent hc) (popOK_key h net.n) s hs tg cut

/-- the textbook A* with a consistent heuristic is exact: `shortest_distance(s, t)` is the minimum weight over the
permitted walks, the sentinel iff there is none -/
theorem shortestDistanceH_spec (net : Net W) (hnet : WFNet net) (h : Nat → W) (hc : Consistent net h) (s t : Nat)
    (hs : s < net.n) :
    (∀ y, shortestDistanceH net h s t none = some y ↔ IsDist net s t y) ∧
    (shortestDistanceH net h s t none = none ↔ ¬ Reachable net s t) :=
  (runForwardH_ended net hnet h hc s hs (some t) none).dist (prioOK_consistent hc) (popOK_key h net.n)
    (fun _ e => (Option.some.inj e).symm)

/-- every entry an A* search with a consistent heuristic writes to `output_dict` — whatever the target and the cut-off —
is the true distance of its key and does not exceed the cut-off; the entries are exactly the nodes the search marked
`visite` (whose labels are therefore true distances) -/
theorem runForwardH_entries (net : Net W) (hnet : WFNet net) (h : Nat → W) (hc : Consistent net h) (s : Nat)
    (hs : s < net.n) (tgt : Option Nat) (cut : Option W) :
    (∀ u y, (u, y) ∈ (runForwardH net h s tgt cut).2 → IsDist net s u y ∧ Within cut y) ∧
    (∀ u, (runForwardH net h s tgt cut).1.vis u = true ↔ ∃ y, (u, y) ∈ (runForwardH net h s tgt cut).2) ∧
    (∀ u y, (runForwardH net h s tgt cut).1.vis u = true → (runForwardH net h s tgt cut).1.d u = some y → IsDist net s u y) := by
  unfold runForwardH
  rw [forwardH_eq_loopG]
  exact loopG_entries hnet (prioOK_consistent hc) (popOK_key h net.n) s hs tgt cut

/-- `shortest_distance(s, t, cut)` in A* mode with a consistent heuristic that is smallest at the target (`h t ≤ h v`:
`h t = 0 ≤ h v` for the code's `astar_wgt × distance to t`): the true distance whenever it does not exceed the cut-off, the
sentinel whenever `t` is unreachable. The stop test `pere.poids > cut` fires on a node `u` of minimal priority with
`g u > cut`; every unsettled node `z` on a shortest walk to `t` has `g z + h z ≤ dist + h t ≤ cut + h u < g u + h u`, so no such
node is left: `t` already carries its true distance. -/
theorem shortestDistanceH_cut (net : Net W) (hnet : WFNet net) (h : Nat → W) (hc : Consistent net h) (s t : Nat)
    (hs : s < net.n) (hmin : ∀ v, h t ≤ h v) (cut : Option W) :
    (∀ y, IsDist net s t y → Within cut y → shortestDistanceH net h s t cut = some y) ∧
    (¬ Reachable net s t → shortestDistanceH net h s t cut = none) :=
  have hend := runForwardH_ended net hnet h hc s hs (some t) cut
  ⟨fun y hy hw => (hend.label (prioOK_consistent hc) (popOK_key h net.n) hy hw (fun _ e => (Option.some.inj e).symm)
      (fun _ _ u a hle => le_of_add_le_add_right (le_trans hle (add_le_add_right (hmin u) y)))).1,
    hend.unreachable⟩
end TV.Graph
