import TracklibVerif.Lemmas.MapMatchTotal
/-! Helper lemmas for C10, sixth part: the spatial index of a network built by `addEdge` calls only ever answers NUMBERS OF
REGISTERED EDGES (every value stored in a cell of the grid is a feature number handed to `addFeature`, all of them smaller than
the number of edges), so that the `EDGES[getEdgeId(elem)]` of the candidate loop never raises `KeyError` / `IndexError`. -/
namespace TV.MapMatch
open TV.Proj

section
variable {α : Type}

def CellsBelow (g : Grid.Cells) (N : Nat) : Prop := ∀ row ∈ g, ∀ c ∈ row, ∀ v ∈ c, v < N

theorem CellsBelow.mono {g : Grid.Cells} {N M : Nat} (h : CellsBelow g N) (hnm : N ≤ M) : CellsBelow g M :=
  fun row hr c hc v hv => Nat.lt_of_lt_of_le (h row hr c hc v hv) hnm

theorem cellGet_below (g : Grid.Cells) (N : Nat) (h : CellsBelow g N) (i j : Int) (c : List Nat)
    (hc : Grid.cellGet g i j = .ok c) : ∀ v ∈ c, v < N := by
  obtain ⟨_, row, _, _, hrow, _, hc'⟩ := (Grid.cellGet_ok_iff g i j c).mp hc
  exact h row (List.mem_of_getElem? hrow) c (List.mem_of_getElem? hc')

theorem cellAppend_below (g g' : Grid.Cells) (N : Nat) (h : CellsBelow g N) (i j : Int) (d : Nat) (hd : d < N)
    (hg : Grid.cellAppend g i j d = .ok g') : CellsBelow g' N := by
  obtain ⟨a, row, b, c, _, hrow, _, hc, rfl⟩ := (Grid.cellAppend_ok_iff g g' i j d).mp hg
  intro row' hr' c' hc' v hv
  rcases List.mem_or_eq_of_mem_set hr' with hin | rfl
  · exact h row' hin c' hc' v hv
  rcases List.mem_or_eq_of_mem_set hc' with hin | rfl
  · exact h row (List.mem_of_getElem? hrow) c' hin v hv
  rcases List.mem_append.mp hv with hv | hv
  · exact h row (List.mem_of_getElem? hrow) c (List.mem_of_getElem? hc) v hv
  · rw [List.mem_singleton.mp hv]; exact hd

theorem registerCell_below (ix ix' : Grid.Index α) (N : Nat) (h : CellsBelow ix.grid N) (d : Nat) (hd : d < N)
    (cell : Int × Int) (hr : Grid.registerCell ix d cell = .ok ix') : CellsBelow ix'.grid N := by
  revert hr
  fun_cases Grid.registerCell ix d cell
  -- the branches that return: `d` already in the cell, `d` already in the inverse table (index unchanged), `d` appended
  case case4 => rintro ⟨⟩; exact h
  case case5 => rintro ⟨⟩; exact h
  case case7 g ha => rintro ⟨⟩; exact cellAppend_below ix.grid g N h _ _ d hd ha
  all_goals nofun

theorem registerCells_below (d : Nat) (N : Nat) (hd : d < N) (cells : List (Int × Int)) (ix ix' : Grid.Index α)
    (h : CellsBelow ix.grid N) (hr : Grid.registerCells ix d cells = .ok ix') : CellsBelow ix'.grid N := by
  revert h hr
  fun_induction Grid.registerCells ix d cells with
  | case1 ix => rintro h ⟨⟩; exact h
  | case2 => nofun
  | case3 ix cell rest ix1 h1 ih => exact fun h hr => ih (registerCell_below ix ix1 N h d hd cell h1) hr

theorem collectCells_below (ix : Grid.Index α) (N : Nat) (h : CellsBelow ix.grid N) (cells : List (Int × Int))
    (tab res : List Nat) (ht : ∀ v ∈ tab, v < N) (hr : Grid.collectCells ix tab cells = .ok res) : ∀ v ∈ res, v < N := by
  intro v hv
  rcases (Grid.collectCells_mem ix cells tab res hr v).mp hv with hv | ⟨cell, _, c, hc, hv⟩
  · exact ht v hv
  · exact cellGet_below ix.grid N h cell.1 cell.2 c hc v hv

theorem searchCellLoop_below (ix : Grid.Index α) (N : Nat) (h : CellsBelow ix.grid N) (i j : Int) (fuel : Nat)
    (u : Int) (tab : List Nat) (found : Bool) (res : List Nat) (ht : ∀ v ∈ tab, v < N)
    (hr : Grid.searchCellLoop ix i j fuel u tab found = .ok res) : ∀ v ∈ res, v < N := by
  revert ht hr
  fun_induction Grid.searchCellLoop ix i j fuel u tab found with
  | case1 => rintro ht ⟨⟩; exact ht
  | case2 => nofun
  | case3 _ _ tab _ _ h1 => rintro ht ⟨⟩; exact collectCells_below ix N h _ tab _ ht h1
  | case4 _ _ tab _ _ tab' h1 _ ih => exact fun ht hr => ih (collectCells_below ix N h _ tab tab' ht h1) hr
  | case5 => rintro ht ⟨⟩; exact ht

theorem setEdge_length (l : List (NEdge α)) (ne : NEdge α) :
    0 < (setEdge l ne).length ∧ l.length ≤ (setEdge l ne).length :=
  length_dictSet (fun x : NEdge α => x.e.id) l ne

theorem netFeatures_length (net : Net α) : (netFeatures net).length ≤ net.edges.length := by
  unfold netFeatures
  exact le_trans (List.length_filterMap_le _ _) (by simp)

variable [Add α] [Sub α] [Mul α] [Div α] [Neg α] [LT α] [LE α]
  [DecidableLT α] [DecidableLE α] [OfNat α 0] [IntCast α]

theorem addFeatureLoop_below (fl : α → Int) (num N : Nat) (hd : num < N) (track : List (α × α)) (ix ix' : Grid.Index α)
    (c1 : Option (α × α)) (h : CellsBelow ix.grid N) (hr : Grid.addFeatureLoop fl num ix c1 track = .ok ix') :
    CellsBelow ix'.grid N := by
  revert h hr
  fun_induction Grid.addFeatureLoop fl num ix c1 track with
  -- only the turn on two vertices of the extent (`case6`) touches the index: it registers the segment's cells
  | case1 => rintro h ⟨⟩; exact h
  | case2 _ _ _ ih => exact ih
  | case6 ix _ _ _ _ _ ix1 h1 _ _ ih => exact fun h hr => ih (registerCells_below num N hd _ ix ix1 h h1) hr
  | case7 _ _ _ _ _ _ _ _ _ ih => exact ih
  | case3 | case4 | case5 => nofun

theorem addFeature_below (fl : α → Int) (ix ix' : Grid.Index α) (track : List (α × α)) (num N : Nat) (hd : num < N)
    (h : CellsBelow ix.grid N) (hr : Grid.addFeature fl ix track num = .ok ix') : CellsBelow ix'.grid N :=
  addFeatureLoop_below fl num N hd track ix ix' none h hr

theorem addFeatures_below (fl : α → Int) (feats : List (List (α × α))) (ix ix' : Grid.Index α) (num : Nat)
    (h : CellsBelow ix.grid num) (hr : Grid.addFeatures fl ix num feats = .ok ix') :
    CellsBelow ix'.grid (num + feats.length) := by
  revert h hr
  fun_induction Grid.addFeatures fl ix num feats with
  | case1 => rintro h ⟨⟩; exact h
  | case2 => nofun
  | case3 ix num t rest ix1 h1 ih =>
    intro h hr
    rw [List.length_cons, ← Nat.add_assoc, Nat.add_right_comm]
    exact ih (addFeature_below fl ix ix1 t num (num + 1) (Nat.lt_succ_self _) (h.mono (Nat.le_succ _)) h1) hr

theorem build_below (fl : α → Int) (feats : List (List (α × α))) (res : Option (α × α)) (margin : α) (ix : Grid.Index α)
    (hb : Grid.build fl feats res margin = .ok ix) : CellsBelow ix.grid feats.length := by
  revert hb
  fun_cases Grid.build fl feats res margin
  case case3 bb _ ix0 hmk =>
    intro hb
    rw [← Nat.zero_add feats.length]
    refine addFeatures_below fl feats ix0 ix 0 ?_ hb
    -- the constructor starts from a grid of empty cells
    revert hmk
    fun_cases Grid.mkIndex fl bb res margin
    case case3 =>
      rintro ⟨⟩ row hr c hc v hv
      rw [(List.mem_replicate.mp hr).2] at hc
      rw [(List.mem_replicate.mp hc).2] at hv
      cases hv
    all_goals nofun
  all_goals nofun

omit [Add α] [Mul α] [Neg α] [LE α] [DecidableLE α] in
theorem neighborhoodPoint_below (fl : α → Int) (ix : Grid.Index α) (N : Nat) (h : CellsBelow ix.grid N) (p : α × α)
    (u : Int) (l : List Nat) (hr : Grid.neighborhoodPoint fl ix p u = .ok (some l)) : ∀ v ∈ l, v < N := by
  revert hr
  fun_cases Grid.neighborhoodPoint fl ix p u
  case case4 c _ l' h1 =>
    rintro ⟨⟩
    revert h1
    fun_cases Grid.neighborhoodCell ix (Grid.cellOf fl ix c).1 (Grid.cellOf fl ix c).2 u
    · exact collectCells_below ix N h _ [] l (fun v hv => by simp at hv)
    · exact searchCellLoop_below ix N h _ _ _ _ [] false l (fun v hv => by simp at hv)
  all_goals nofun

/-- the invariant of a network with its index: every number stored in the grid is below `getNumberOfEdges()`. The constructor of
the index establishes it whatever came before (it registers `0 … size - 1`), `addEdge` keeps it (it registers
`getNumberOfEdges() - 1` after the assignment to `EDGES`, which never shrinks the dict). -/
def IndexBelow (net : Net α) : Prop := ∀ ix, net.index = some ix → CellsBelow ix.grid net.edges.length

theorem addEdge_below (fl : α → Int) (net net' : Net α) (e : EdgeIn α) (s t : Node α)
    (h : addEdge fl net e s t = .ok net') (hinv : IndexBelow net) : IndexBelow net' := by
  intro ix hix
  rw [(addEdge_spec fl net net' e s t h).1]
  obtain ⟨hpos, hle⟩ := setEdge_length net.edges ⟨e, s.id, t.id⟩
  obtain ⟨e1, _, x1⟩ := addNode_frame net s
  obtain ⟨e2, _, x2⟩ := addNode_frame (addNode net s) t
  revert h
  fun_cases addEdge fl net e s t
  case case1 net1 net2 hnone => intro h; rw [← Except.ok.inj h] at hix; cases hnone.symm.trans hix
  case case2 => nofun
  case case3 net1 net2 ix0 hsome ix1 hadd =>
    rintro ⟨⟩
    cases hix
    exact addFeature_below fl ix0 ix e.geom _ _ (Nat.sub_lt hpos Nat.one_pos)
      ((hinv ix0 ((x2.trans x1).symm.trans hsome)).mono hle) (e1 ▸ e2 ▸ hadd)

theorem addEdges_below (fl : α → Int) (es : List (EdgeIn α × Node α × Node α)) (net net' : Net α)
    (h : addEdges fl net es = .ok net') (hinv : IndexBelow net) : IndexBelow net' := by
  revert h hinv
  fun_induction addEdges fl net es with
  | case1 => rintro ⟨⟩ hinv; exact hinv
  | case2 => nofun
  | case3 net e s t rest net1 h1 ih => exact fun h hinv => ih h (addEdge_below fl net net1 e s t h1 hinv)

theorem attachIndex_below (fl : α → Int) (net net' : Net α) (res : Option (α × α)) (margin : α)
    (h : attachIndex fl net res margin = .ok net') : IndexBelow net' := by
  revert h
  fun_cases attachIndex fl net res margin
  · nofun
  · rename_i ix0 hb
    rintro ⟨⟩ ix ⟨⟩
    exact (build_below fl _ res margin ix0 hb).mono (netFeatures_length net)

theorem buildNet_index_below (fl : α → Int) (es : List (EdgeIn α × Node α × Node α)) (late : Nat) (res : Option (α × α))
    (margin : α) (net : Net α) (h : buildNet fl es late res margin = .ok net) : IndexBelow net := by
  revert h
  fun_cases buildNet fl es late res margin
  case case3 m net1 _ net2 h2 =>
    exact fun h => addEdges_below fl _ net2 net h (attachIndex_below fl net1 net2 res margin h2)
  all_goals nofun

theorem candidates_exist (fl : α → Int) (es : List (EdgeIn α × Node α × Node α)) (late : Nat) (res : Option (α × α))
    (margin : α) (net : Net α) (hnd : (es.map (fun x => x.1.id)).Nodup) (h : buildNet fl es late res margin = .ok net)
    (radius : α) (pos : α × α) (E : List Nat) (hc : candidatesOf fl radius net pos = .ok (some E)) :
    ∀ n ∈ E, n < (netEdges net).length := by
  rw [buildNet_edges fl es late res margin net hnd h, List.length_map]
  have hlen : net.edges.length = es.length := by
    rw [(buildNet_spec fl es late res margin net h).1]
    exact (congrArg List.length (foldl_dictSet_fresh (fun x : NEdge α => x.e.id) (es.map stored) []
      (by rw [List.map_nil, List.nil_append, List.map_map]; exact hnd))).trans (by rw [List.nil_append, List.length_map])
  revert hc
  fun_cases candidatesOf fl radius net pos
  case case4 ix hix _ _ c hnb =>
    rintro ⟨⟩
    exact neighborhoodPoint_below fl ix es.length (hlen ▸ buildNet_index_below fl es late res margin net h ix hix) pos _ E hnb
  all_goals nofun

end

end TV.MapMatch
