import TracklibVerif.Lemmas.TextIOGpx
/-! GPX written with `af=True` (core only): the `<extensions>` block of every point is stepped over by the `trk` scanner. -/
namespace TV.TextIO
open TV.ObsTime

/-- an extension line `<name>value</name>` that is one line and does not close the `<extensions>` block it stands in -/
def ExtOK (n : Str) (v : AFVal) : Prop := isInfix "</extensions>".toList (lAf n v) = false ∧ '\n' ∉ lAf n v

theorem lAf_elem (n : Str) (v : AFVal) : lAf n v = elemLine 20 n (afText v) := by
  unfold lAf elemLine
  simp

theorem gpxLine_openExt (rf : List Tok) (geo : Bool) (st : GState) (line : Str)
    (h : isInfix "<extensions>".toList line = true ∧ isInfix "</extensions>".toList line = false) :
    gpxLine rf geo st line = .ok { st with inExt := true } := by
  unfold gpxLine
  simp only [h.1, h.2, ↓reduceIte, Bool.false_eq_true, pure, Except.pure]

theorem gpxLine_inExt (rf : List Tok) (geo : Bool) (st : GState) (hs : st.inExt = true) (line : Str)
    (h : isInfix "</extensions>".toList line = false) : gpxLine rf geo st line = .ok st := by
  unfold gpxLine
  by_cases ho : isInfix "<extensions>".toList line = true
  · have : ({ st with inExt := true } : GState) = st := by cases st; simp_all
    simp only [ho, h, this, hs, ↓reduceIte, Bool.false_eq_true, pure, Except.pure]
  · simp only [ho, h, hs, ↓reduceIte, Bool.false_eq_true, pure, Except.pure]

theorem gpxLine_closeExt (rf : List Tok) (geo : Bool) (st : GState) (hs : st.inExt = true) (line : Str)
    (h : isInfix "<extensions>".toList line = false ∧ isInfix "</extensions>".toList line = true) :
    gpxLine rf geo st line = .ok { st with inExt := false } := by
  unfold gpxLine
  simp only [h.1, h.2, hs, ↓reduceIte, Bool.false_eq_true, pure, Except.pure]

theorem fold_inExt (rf : List Tok) (geo : Bool) (ls : List Str)
    (h : ∀ l ∈ ls, isInfix "</extensions>".toList l = false) (st : GState) (hs : st.inExt = true) :
    ls.foldlM (gpxLine rf geo) st = .ok st := by
  induction ls with
  | nil => rfl
  | cons a r ih =>
    exact foldlM_ok_cons (gpxLine_inExt rf geo st hs a (h a (by simp))) (ih fun l hl => h l (by simp [hl]))

theorem lExt_eq : lExt = List.replicate 16 ' ' ++ '<' :: ['e', 'x', 't', 'e', 'n', 's', 'i', 'o', 'n', 's', '>'] :=
  String.toList_ofList
theorem lEndExt_eq : lEndExt = List.replicate 16 ' ' ++ '<' :: ['/', 'e', 'x', 't', 'e', 'n', 's', 'i', 'o', 'n', 's', '>'] :=
  String.toList_ofList

theorem ext_lExt : isInfix "<extensions>".toList lExt = true ∧ isInfix "</extensions>".toList lExt = false := by
  rw [lExt_eq, pat_ext, pat_eext, isInfix_tag _ _ _ (by decide), isInfix_tag _ _ _ (by decide)]
  exact ⟨rfl, rfl⟩

theorem ext_lEndExt : isInfix "<extensions>".toList lEndExt = false ∧ isInfix "</extensions>".toList lEndExt = true := by
  rw [lEndExt_eq, pat_ext, pat_eext, isInfix_tag _ _ _ (by decide), isInfix_tag _ _ _ (by decide)]
  exact ⟨rfl, rfl⟩

theorem skipped_extLines (rf : List Tok) (geo : Bool) (afs : List (Str × AFVal)) (hafs : ∀ a ∈ afs, ExtOK a.1 a.2) :
    Skipped rf geo (extLines afs) := by
  refine ⟨fun l hl => ?_, fun st hs => ?_⟩
  · unfold extLines at hl
    simp only [List.mem_append, List.mem_cons, List.mem_map, List.not_mem_nil, or_false] at hl
    rcases hl with (h | ⟨a, ha, rfl⟩) | h
    · rw [h, lExt_eq]; decide
    · exact (hafs a ha).2
    · rw [h, lEndExt_eq]; decide
  · have hin := fold_inExt rf geo (afs.map (fun a => lAf a.1 a.2)) (by
      intro l hl
      obtain ⟨a, ha, rfl⟩ := List.mem_map.1 hl
      exact (hafs a ha).1) { st with inExt := true } rfl
    have hst : ({ ({ st with inExt := true } : GState) with inExt := false } : GState) = st := by
      cases st
      simp_all
    exact foldlM_ok_append (foldlM_ok_cons (gpxLine_openExt rf geo st _ ext_lExt) hin)
      (foldlM_ok_cons (gpxLine_closeExt rf geo _ rfl _ ext_lEndExt) (congrArg Except.ok hst))

theorem isPrefix_snoc_eq (c : Char) (p n : Str) (hn : c ∉ n) (h : isPrefix (p ++ [c]) (n ++ [c]) = true) : n = p := by
  rw [isPrefix_eq, List.isPrefixOf_iff_prefix, List.prefix_concat_iff] at h
  rcases h with h | h
  · exact (List.append_cancel_right h).symm
  · exact absurd (h.mem (by simp)) hn

/-- **GPX file with extensions**: the body `writeToGpx(track, path, af=True)` writes, read by the `trk` scanner with a read
format that reads ISO stamps, gives one track with the points written, in order: the `<extensions>` blocks are stepped over -/
theorem gpx_af_file_roundtrip (rf : List Tok) (hrf : ReadsIso rf) (geo : Bool) (name : Str)
    (hname : '<' ∉ name ∧ '\n' ∉ name) (rows : List (GRow × List (Str × AFVal)))
    (hrows : ∀ ra ∈ rows, Fits ra.1.t ∧ ∀ a ∈ ra.2, ExtOK a.1 a.2) :
    readGpx rf geo (gpxBodyAF name rows) = .ok [rows.map (fun ra => expG rf geo ra.1)] := by
  have := readGpx_tracks rf hrf geo [(name, rows.map (fun ra => (ra.1, extLines ra.2)))]
    (by
      intro t ht
      rw [List.mem_singleton.1 ht]
      refine ⟨hname, fun rm hrm => ?_⟩
      obtain ⟨ra, hra, rfl⟩ := List.mem_map.1 hrm
      exact ⟨(hrows ra hra).1, skipped_extLines rf geo ra.2 (hrows ra hra).2⟩)
  simpa [gpxBodyAF, gpxLinesAF, trkLinesM, ptLinesM, ptLinesAF, List.map_map, Function.comp_def] using this

end TV.TextIO
