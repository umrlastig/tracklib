import TracklibVerif.Lemmas.MinCircle
import TracklibVerif.Lemmas.PartitionStops
/-! `findStopsGlobal`'s size test fed by the MODEL of `minCircle`: `circOfMinCircle` is the table `circ2` of
`findStopsGlobalPy` computed by `minCircleOfPoints` on the fixes of each segment, each call with its own draw sequence. -/
namespace TV.MinCircle
open TV.Partition
variable {K : Type}

/-- the positions of `track.extract(i, e)` -/
def segPts (tr : Nat → Fix K) (i e : Nat) : List (Pt K) :=
  (List.range (e + 1 - i)).map (fun d => ⟨(tr (i + d)).x, (tr (i + d)).y, (tr (i + d)).z⟩)

theorem mem_segPts_iff (tr : Nat → Fix K) {i e : Nat} {p : Pt K} :
    p ∈ segPts tr i e ↔ ∃ k, i ≤ k ∧ k ≤ e ∧ p = ⟨(tr k).x, (tr k).y, (tr k).z⟩ := by
  unfold segPts
  rw [List.mem_map]
  constructor
  · rintro ⟨d, hd, rfl⟩
    have := List.mem_range.mp hd
    exact ⟨i + d, by omega, by omega, rfl⟩
  · rintro ⟨k, h1, h2, rfl⟩
    refine ⟨k - i, List.mem_range.mpr (by omega), ?_⟩
    rw [show i + (k - i) = k by omega]

variable [Field K] [LinearOrder K]

/-- `C = minCircle(track.extract(i, e))`, kept as the squared `2 * C.radius` (`None` stays `None`); `draw i e` is the draw
sequence of that call -/
def circOfMinCircle (eps : K) (draw : Nat → Nat → Nat → Nat) (tr : Nat → Fix K) (size i e : Nat) : Option K :=
  if i ≤ e ∧ e < size then
    match (minCircleOfPoints eps (draw i e) (segPts tr i e)).1 with
    | .circ c => some (4 * c.r2)
    | _ => none
  else none

theorem circOfMinCircle_some {eps : K} {draw : Nat → Nat → Nat → Nat} {tr : Nat → Fix K} {size i e : Nat} {c : K}
    (h : circOfMinCircle eps draw tr size i e = some c) : i ≤ e ∧ e < size ∧
      ∃ c0, (minCircleOfPoints eps (draw i e) (segPts tr i e)).1 = .circ c0 ∧ c = 4 * c0.r2 := by
  revert h
  fun_cases circOfMinCircle eps draw tr size i e with
  | case1 hie c0 hm => exact fun h => ⟨hie.1, hie.2, c0, hm, (Option.some.inj h).symm⟩
  | case2 | case3 => nofun

/-- `Enclosed` (stated on the track) and `Enc` (stated on the points handed to `minCircle`) say the same -/
theorem enclosed_iff_enc (tr : Nat → Fix K) (c : Circ K) (i e : Nat) :
    Enclosed tr c.cx c.cy c.r2 i e ↔ ∀ p ∈ segPts tr i e, Enc c p := by
  have key : ∀ k, Enc c ⟨(tr k).x, (tr k).y, (tr k).z⟩ ↔
      ((tr k).x - c.cx) * ((tr k).x - c.cx) + ((tr k).y - c.cy) * ((tr k).y - c.cy) ≤ c.r2 := fun k => by
    simp only [Enc, d2]
    rw [show (c.cx - (tr k).x) * (c.cx - (tr k).x) + (c.cy - (tr k).y) * (c.cy - (tr k).y)
      = ((tr k).x - c.cx) * ((tr k).x - c.cx) + ((tr k).y - c.cy) * ((tr k).y - c.cy) by ring]
  constructor
  · intro h p hp
    obtain ⟨k, h1, h2, rfl⟩ := (mem_segPts_iff tr).mp hp
    exact (key k).mpr (h k h1 h2)
  · intro h k h1 h2
    exact (key k).mp (h _ ((mem_segPts_iff tr).mpr ⟨k, h1, h2, rfl⟩))

end TV.MinCircle
