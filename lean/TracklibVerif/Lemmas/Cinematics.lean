import TracklibVerif.Model.Cinematics
import TracklibVerif.Lemmas.Common.Assoc
import Mathlib.Algebra.Order.Field.Basic
import Mathlib.Tactic.Ring
import Mathlib.Algebra.BigOperators.Group.List.Basic
namespace TV.Cinematics
variable {α : Type}

section table

theorem has_eq_false_iff (t : Track α) (n : String) : t.has n = false ↔ ∀ p ∈ t.feats, p.1 ≠ n := by
  unfold Track.has
  rw [List.any_eq_false]
  constructor
  · intro h p hp; have := h p hp; simpa using this
  · intro h p hp; have := h p hp; simpa using this

theorem has_eq_isSome (t : Track α) (n : String) : t.has n = (t.get n).isSome := by
  unfold Track.has Track.get
  rw [Option.isSome_map]
  cases h : t.feats.find? (fun p => p.1 == n) with
  | none => exact (Common.find?_key_eq_none Prod.fst).mp h
  | some p => have hp := List.find?_some h; exact List.any_eq_true.mpr ⟨p, List.mem_of_find?_eq_some h, hp⟩

theorem set_feats (t : Track α) (n : String) (c : Col α) : (t.set n c).feats = Common.dictSet Prod.fst t.feats (n, c) := by
  unfold Track.set Common.dictSet Track.has
  split
  · exact List.map_congr_left fun p _ => by
      dsimp only; split
      · next h => rw [eq_of_beq h]
      · rfl
  · rfl

theorem get_set (t : Track α) (n m : String) (c : Col α) :
    (t.set n c).get m = if m = n then some c else t.get m := by
  unfold Track.get; rw [set_feats]; exact Common.assoc_dictSet t.feats n c m

theorem get_remove (t : Track α) (n m : String) : (t.remove n).get m = if m = n then none else t.get m :=
  Common.assoc_filter t.feats n m

theorem get_set_self (t : Track α) (n : String) (c : Col α) : (t.set n c).get n = some c := by
  rw [get_set, if_pos rfl]

theorem get_set_other (t : Track α) (n m : String) (c : Col α) (h : n ≠ m) : (t.set n c).get m = t.get m := by
  rw [get_set, if_neg h.symm]

theorem get_remove_other (t : Track α) (n m : String) (h : n ≠ m) : (t.remove n).get m = t.get m := by
  rw [get_remove, if_neg h.symm]

theorem has_set_self (t : Track α) (n : String) (c : Col α) : (t.set n c).has n = true := by
  rw [has_eq_isSome, get_set_self]; rfl

theorem has_set_other (t : Track α) (n m : String) (c : Col α) (h : n ≠ m) : (t.set n c).has m = t.has m := by
  rw [has_eq_isSome, has_eq_isSome, get_set_other t n m c h]

theorem has_remove_self (t : Track α) (n : String) : (t.remove n).has n = false := by
  rw [has_eq_isSome, get_remove, if_pos rfl]; rfl

theorem has_remove_other (t : Track α) (n m : String) (h : n ≠ m) : (t.remove n).has m = t.has m := by
  rw [has_eq_isSome, has_eq_isSome, get_remove_other t n m h]

theorem set_new (t : Track α) (n : String) (c : Col α) (h : t.has n = false) :
    t.set n c = { t with feats := t.feats ++ [(n, c)] } := by
  unfold Track.set; simp [h]

theorem filter_ne_self (t : Track α) (n : String) (h : t.has n = false) :
    t.feats.filter (fun p => !(p.1 == n)) = t.feats := by
  rw [List.filter_eq_self]; intro p hp; simpa using (has_eq_false_iff t n).1 h p hp

theorem set_set_new (t : Track α) (n : String) (a b : Col α) (h : t.has n = false) : (t.set n a).set n b = t.set n b := by
  have hs : ({ t with feats := t.feats ++ [(n, a)] } : Track α).has n = true := by unfold Track.has; simp
  have hm : t.feats.map (fun p => if (p.1 == n) = true then (p.1, b) else p) = t.feats := by
    conv_rhs => rw [← List.map_id t.feats]
    refine List.map_congr_left (fun p hp => ?_)
    have : (p.1 == n) = false := by simpa using (has_eq_false_iff t n).1 h p hp
    simp [this]
  rw [set_new t n a h, set_new t n b h]
  unfold Track.set
  simp only [hs, if_true, List.map_append, List.map_cons, List.map_nil, beq_self_eq_true, hm]

theorem remove_set_set_new (t : Track α) (n m : String) (a b : Col α) (hn : t.has n = false) (hm : t.has m = false)
    (hne : n ≠ m) : ((t.set n a).set m b).remove n = t.set m b := by
  have h1 : (t.set n a).has m = false := by rw [has_set_other _ _ _ _ hne]; exact hm
  rw [set_new _ _ _ h1, set_new _ _ _ hn, set_new _ _ _ hm]
  unfold Track.remove
  simp [List.filter_append, filter_ne_self t n hn, hne.symm]

theorem remove_set_new (t : Track α) (n : String) (c : Col α) (h : t.has n = false) : (t.set n c).remove n = t := by
  rw [set_new _ _ _ h]
  unfold Track.remove
  simp [List.filter_append, filter_ne_self t n h]

theorem set_xy (t : Track α) (n : String) (c : Col α) : (t.set n c).xy = t.xy ∧ (t.set n c).ts = t.ts := by
  unfold Track.set; split <;> simp

/-- `t'` is `t` but for the columns under the names in `S`: positions, times and every other name read the same. What a
computation of features does to a track, step by step (`refl`, `trans`) -/
structure Only (S : List String) (t t' : Track α) : Prop where
  xy : t'.xy = t.xy
  ts : t'.ts = t.ts
  get : ∀ m, m ∉ S → t'.get m = t.get m

namespace Only
variable {S : List String} {t t' t'' : Track α} {n : String}

theorem refl (S : List String) (t : Track α) : Only S t t := ⟨rfl, rfl, fun _ _ => rfl⟩

theorem trans (h : Only S t t') (h' : Only S t' t'') : Only S t t'' :=
  ⟨h'.xy.trans h.xy, h'.ts.trans h.ts, fun m hm => (h'.get m hm).trans (h.get m hm)⟩

theorem set (t : Track α) (hn : n ∈ S) (c : Col α) : Only S t (t.set n c) :=
  ⟨(set_xy t n c).1, (set_xy t n c).2, fun m hm => get_set_other t n m c fun e => hm (e ▸ hn)⟩

theorem remove (t : Track α) (hn : n ∈ S) : Only S t (t.remove n) :=
  ⟨rfl, rfl, fun m hm => get_remove_other t n m fun e => hm (e ▸ hn)⟩

theorem ite (c : Prop) [Decidable c] {a b : Track α} (ha : Only S t a) (hb : Only S t b) : Only S t (if c then a else b) := by
  split <;> assumption

end Only

end table

/-- which two fixes `speed(track, i)` takes on a track of `n ≥ 2` fixes: (1,0) at the start, (n-1,n-2) at the end,
(i+1,i-1) inside -/
theorem ends_or_centre {β : Type} (B : Nat → Nat → β) {n i a b : Nat}
    (h : (i = 0 ∧ a = 1 ∧ b = 0) ∨ (i = n - 1 ∧ a = n - 1 ∧ b = n - 2) ∨ (0 < i ∧ i < n - 1 ∧ a = i + 1 ∧ b = i - 1))
    (hn : 2 ≤ n) :
    (if i = 0 then B 1 0 else if i = n - 1 then B (n - 1) (n - 2) else B (i + 1) (i - 1)) = B a b := by
  rcases h with ⟨h0, h1, h2⟩ | ⟨h0, h1, h2⟩ | ⟨h0, h1, h2, h3⟩
  · rw [if_pos h0, h1, h2]
  · rw [if_neg (by omega), if_pos h0, h1, h2]
  · rw [if_neg (by omega), if_neg (by omega), h2, h3]

section quot
variable [Div α] [OfNat α 0] [BEq α] [LawfulBEq α]

theorem quot_zero (d dt : α) (h : dt = 0) : quot d dt = none := by
  unfold quot; simp [h]

theorem quot_ne (d dt : α) (h : dt ≠ 0) : quot d dt = some (d / dt) := by
  unfold quot; simp [h]

theorem quot_entry {col : Col α} {i : Nat} {d dt : α} (h : col[i]? = some (quot d dt)) :
    (dt = 0 → col[i]? = some none) ∧ (dt ≠ 0 → col[i]? = some (some (d / dt))) :=
  ⟨fun hz => by rw [h, quot_zero _ _ hz], fun hz => by rw [h, quot_ne _ _ hz]⟩

end quot

section arith
variable [Add α]

theorem integLoop_legs (leg S : Nat → α) (hS : ∀ i, S (i + 1) = S i + leg (i + 1)) :
    ∀ m s, integLoop (some (S s)) ((List.range' (s + 1) m).map (fun i => some (leg i)))
        = (List.range' (s + 1) m).map (fun i => some (S i)) := by
  intro m
  induction m with
  | zero => intro s; simp [integLoop]
  | succ m ih =>
    intro s
    simp only [List.range'_succ, List.map_cons, integLoop, oadd]
    rw [← hS s]
    congr 1
    exact ih (s + 1)

variable [OfNat α 0]

theorem integrator_legs (leg S : Nat → α) (h0 : S 0 = 0) (hS : ∀ i, S (i + 1) = S i + leg (i + 1)) (n : Nat)
    (col : Nat → Option α) (hcol : ∀ i, 0 < i → i < n → col i = some (leg i)) :
    integrator ((List.range n).map col) = (List.range n).map (fun i => some (S i)) := by
  cases n with
  | zero => rfl
  | succ k =>
    rw [List.range_eq_range', List.range'_succ]
    simp only [List.map_cons, integrator, h0]
    congr 1
    have e : (List.range' (0 + 1) k).map col = (List.range' (0 + 1) k).map (fun i => some (leg i)) :=
      List.map_congr_left (fun i hi => by
        have := List.mem_range'_1.1 hi
        exact hcol i (by omega) (by omega))
    rw [e, ← h0]
    exact integLoop_legs leg S hS k 0

variable [Sub α] [Mul α]

theorem absc_succ (sqrt : α → α) (xy : List (α × α)) (i : Nat) (h : i + 1 < xy.length) :
    absc sqrt xy (i + 1) = absc sqrt xy i + dist2D sqrt (xy[i + 1]'h) (xy[i]'(Nat.lt_of_succ_lt h)) := by
  have h1 : xy[i + 1]? = some (xy[i + 1]'h) := List.getElem?_eq_getElem h
  have h0 : xy[i]? = some (xy[i]'(Nat.lt_of_succ_lt h)) := List.getElem?_eq_getElem (Nat.lt_of_succ_lt h)
  simp only [absc, h1, h0]

theorem integrator_dsCol (sqrt : α → α) (xy : List (α × α)) :
    integrator (dsCol sqrt xy) = (List.range xy.length).map (fun i => some (absc sqrt xy i)) := by
  refine integrator_legs (fun i => match xy[i]?, xy[i - 1]? with | some p, some q => dist2D sqrt p q | _, _ => 0)
    (absc sqrt xy) rfl (fun _ => rfl) xy.length (dsAt sqrt xy) (fun i h0 hi => ?_)
  unfold dsAt
  rw [if_neg (by omega), List.getElem?_eq_getElem hi, List.getElem?_eq_getElem (show i - 1 < xy.length by omega)]

theorem computeAbsCurv_fresh (sqrt : α → α) (t : Track α) (hds : t.has "ds" = false) (hac : t.has "abs_curv" = false) :
    computeAbsCurv sqrt t
      = (t.set "abs_curv" (integrator (dsCol sqrt t.xy)), some (integrator (dsCol sqrt t.xy))) := by
  have hne : ("ds" : String) ≠ "abs_curv" := by decide
  unfold computeAbsCurv
  simp only [hds, Bool.false_eq_true, ↓reduceIte]
  have h1 : (t.set "ds" (dsCol sqrt t.xy)).has "abs_curv" = false := by rw [has_set_other _ _ _ _ hne]; exact hac
  simp only [h1, Bool.false_eq_true, ↓reduceIte, get_set_self, Option.getD_some]
  rw [remove_set_set_new t "ds" "abs_curv" _ _ hds hac hne]
  simp [get_set_self]

theorem computeAbsCurv_of_has (sqrt : α → α) (u : Track α) (h1 : u.has "ds" = false) (h2 : u.has "abs_curv" = true) :
    computeAbsCurv sqrt u = (u, u.get "abs_curv") := by
  have hne : ("ds" : String) ≠ "abs_curv" := by decide
  unfold computeAbsCurv
  simp only [h1, Bool.false_eq_true, ↓reduceIte]
  have h3 : (u.set "ds" (dsCol sqrt u.xy)).has "abs_curv" = true := by rw [has_set_other _ _ _ _ hne]; exact h2
  simp only [h3, ↓reduceIte, remove_set_new u "ds" _ h1]

theorem computeAbsCurv_has (sqrt : α → α) (t : Track α) :
    (computeAbsCurv sqrt t).1.has "ds" = false ∧ (computeAbsCurv sqrt t).1.has "abs_curv" = true := by
  have hne : ("ds" : String) ≠ "abs_curv" := by decide
  unfold computeAbsCurv
  refine ⟨has_remove_self _ _, ?_⟩
  simp only
  rw [has_remove_other _ _ _ hne]
  generalize (if t.has "ds" = true then t else t.set "ds" (dsCol sqrt t.xy)) = t1
  by_cases h : t1.has "abs_curv" = true
  · simp [h]
  · simp only [h]; exact has_set_self _ _ _

theorem computeAbsCurv_idem (sqrt : α → α) (t : Track α) :
    computeAbsCurv sqrt (computeAbsCurv sqrt t).1 = computeAbsCurv sqrt t := by
  obtain ⟨h1, h2⟩ := computeAbsCurv_has sqrt t
  rw [computeAbsCurv_of_has sqrt _ h1 h2]
  rfl

theorem computeAbsCurv_only (sqrt : α → α) (t : Track α) : Only ["ds", "abs_curv"] t (computeAbsCurv sqrt t).1 :=
  ((Only.ite _ (.refl _ _) (.set _ (by simp) _)).trans (.ite _ (.refl _ _) (.set _ (by simp) _))).trans (.remove _ (by simp))

variable [Div α] [BEq α]

theorem estimateSpeed_fresh (sqrt : α → α) (t : Track α) (h : t.has "speed" = false) :
    estimateSpeed sqrt t = (t.set "speed" (speedCol sqrt t.xy t.ts), some (speedCol sqrt t.xy t.ts)) := by
  unfold estimateSpeed
  simp [h, get_set_self]

theorem estimateSpeed_has (sqrt : α → α) (t : Track α) : (estimateSpeed sqrt t).1.has "speed" = true := by
  unfold estimateSpeed
  split
  · assumption
  · exact has_set_self _ _ _

theorem estimateSpeed_of_has (sqrt : α → α) (u : Track α) (h : u.has "speed" = true) :
    estimateSpeed sqrt u = (u, u.get "speed") := by
  unfold estimateSpeed
  simp [h]

theorem estimateSpeed_idem (sqrt : α → α) (t : Track α) :
    estimateSpeed sqrt (estimateSpeed sqrt t).1 = estimateSpeed sqrt t := by
  rw [estimateSpeed_of_has sqrt _ (estimateSpeed_has sqrt t)]
  unfold estimateSpeed
  split <;> rfl

theorem estimateSpeed_only (sqrt : α → α) (t : Track α) : Only ["speed"] t (estimateSpeed sqrt t).1 := by
  unfold estimateSpeed
  split
  · exact .refl _ _
  · exact .set _ (by simp) _

theorem speedBetween_eq (sqrt : α → α) (xy : List (α × α)) (ts : List α) (a b : Nat)
    (ha : a < xy.length) (hb : b < xy.length) (ha' : a < ts.length) (hb' : b < ts.length) :
    speedBetween sqrt xy ts a b = quot (dist2D sqrt xy[a] xy[b]) (ts[a] - ts[b]) := by
  unfold speedBetween
  simp only [List.getElem?_eq_getElem ha, List.getElem?_eq_getElem hb, List.getElem?_eq_getElem ha',
    List.getElem?_eq_getElem hb']

theorem speedCol_getElem? (sqrt : α → α) (xy : List (α × α)) (ts : List α) (i : Nat) (h : i < xy.length) :
    (speedCol sqrt xy ts)[i]? = some (speedAt sqrt xy ts i) := by
  unfold speedCol
  simp [h]

/-- the entries of the speed column of `n ≥ 2` fixes: `v[0]` from fixes (1,0), `v[n-1]` from fixes (n-1,n-2), `v[i]` from
fixes (i+1,i-1) otherwise; NaN exactly when the elapsed time is zero, else planimetric distance over elapsed time -/
theorem speedCol_entries [LawfulBEq α] (sqrt : α → α) (xy : List (α × α)) (ts : List α) (hn : 2 ≤ xy.length)
    (hts : ts.length = xy.length) :
    (speedCol sqrt xy ts).length = xy.length ∧
    ∀ (i a b : Nat) (_hi : i < xy.length),
      ((i = 0 ∧ a = 1 ∧ b = 0) ∨ (i = xy.length - 1 ∧ a = xy.length - 1 ∧ b = xy.length - 2)
        ∨ (0 < i ∧ i < xy.length - 1 ∧ a = i + 1 ∧ b = i - 1)) →
      ∀ (ha : a < xy.length) (hb : b < xy.length),
        (ts[a]'(hts ▸ ha) - ts[b]'(hts ▸ hb) = 0 → (speedCol sqrt xy ts)[i]? = some none) ∧
        (ts[a]'(hts ▸ ha) - ts[b]'(hts ▸ hb) ≠ 0 →
          (speedCol sqrt xy ts)[i]? = some (some (dist2D sqrt xy[a] xy[b] / (ts[a]'(hts ▸ ha) - ts[b]'(hts ▸ hb))))) := by
  refine ⟨by simp [speedCol], fun i a b hi hcase ha hb => quot_entry ?_⟩
  rw [speedCol_getElem? sqrt xy ts i hi, ← speedBetween_eq sqrt xy ts a b ha hb (hts ▸ ha) (hts ▸ hb)]
  exact congrArg some (ends_or_centre (speedBetween sqrt xy ts) hcase hn)

end arith

/-- Prefix sums of non-negative legs never decrease, for any addition that does not decrease when a non-negative number is
added: no other law of `+` is used, so this holds of correctly rounded floating-point sums. With `integrator_legs` this is
what every abscissa of C17 rests on (`absc_mono` below, `CinTabK.abscD_mono`); the defining equation `hS` is `rfl` for each. (Here the step
from `i` is `leg i`; `integLoop_legs` counts it as `leg (i + 1)`.) -/
theorem prefix_mono [Add α] [OfNat α 0] [Preorder α] (hadd : ∀ a d : α, 0 ≤ d → a ≤ a + d) (S leg : Nat → α)
    (hS : ∀ i, S (i + 1) = S i + leg i) (hleg : ∀ i, 0 ≤ leg i) : ∀ i j, i ≤ j → S i ≤ S j :=
  fun _ _ h => monotone_nat_of_le_succ (f := S) (fun i => by rw [hS]; exact hadd _ _ (hleg i)) h

theorem absc_mono [Add α] [Sub α] [Mul α] [OfNat α 0] [Preorder α] (hadd : ∀ a d : α, 0 ≤ d → a ≤ a + d) (sqrt : α → α)
    (hd : ∀ p q, 0 ≤ dist2D sqrt p q) (xy : List (α × α)) : ∀ i j, i ≤ j → absc sqrt xy i ≤ absc sqrt xy j :=
  prefix_mono hadd (absc sqrt xy) _ (fun _ => rfl) (fun i => by
    split
    · exact hd _ _
    · exact le_refl _)

section field
variable [Field α]

theorem dist2D_symm (sqrt : α → α) (p q : α × α) : dist2D sqrt p q = dist2D sqrt q p := by
  show sqrt ((q.1 - p.1) * (q.1 - p.1) + (q.2 - p.2) * (q.2 - p.2))
    = sqrt ((p.1 - q.1) * (p.1 - q.1) + (p.2 - q.2) * (p.2 - q.2))
  congr 1
  ring

def legs (sqrt : α → α) : List (α × α) → List α
  | p :: q :: r => dist2D sqrt q p :: legs sqrt (q :: r)
  | [_] => []
  | [] => []

theorem legs_eq_zipWith (sqrt : α → α) : ∀ xy : List (α × α), legs sqrt xy = List.zipWith (fun p q => dist2D sqrt q p) xy xy.tail
  | [] => rfl
  | [_] => rfl
  | p :: q :: r => by rw [legs, legs_eq_zipWith sqrt (q :: r)]; rfl

theorem legs_getElem? (sqrt : α → α) (xy : List (α × α)) (i : Nat) (h : i + 1 < xy.length) :
    (legs sqrt xy)[i]? = some (dist2D sqrt (xy[i + 1]'h) (xy[i]'(Nat.lt_of_succ_lt h))) := by
  rw [legs_eq_zipWith, List.getElem?_zipWith, List.getElem?_tail, List.getElem?_eq_getElem h,
    List.getElem?_eq_getElem (Nat.lt_of_succ_lt h)]

theorem legs_length (sqrt : α → α) (xy : List (α × α)) : (legs sqrt xy).length = xy.length - 1 := by
  rw [legs_eq_zipWith, List.length_zipWith, List.length_tail]
  omega

theorem absc_eq_sum_take (sqrt : α → α) (xy : List (α × α)) :
    ∀ i, i < xy.length → absc sqrt xy i = ((legs sqrt xy).take i).sum := by
  intro i
  induction i with
  | zero => intro _; simp [absc]
  | succ i ih =>
    intro h
    have hl : i < (legs sqrt xy).length := by rw [legs_length]; omega
    rw [absc_succ sqrt xy i h, ih (by omega), List.sum_take_succ _ _ hl]
    congr 1
    have := legs_getElem? sqrt xy i h
    rw [List.getElem?_eq_getElem hl] at this
    exact (Option.some.inj this).symm

theorem absc_last (sqrt : α → α) (xy : List (α × α)) (h : 0 < xy.length) :
    absc sqrt xy (xy.length - 1) = (legs sqrt xy).sum := by
  rw [absc_eq_sum_take sqrt xy _ (by omega), ← legs_length sqrt xy, List.take_length]

variable [LinearOrder α] [IsStrictOrderedRing α]

/-- the contract of a genuine square root (`Real.sqrt` satisfies it) -/
def SqrtSpec (sqrt : α → α) : Prop := ∀ x, 0 ≤ x → 0 ≤ sqrt x ∧ sqrt x * sqrt x = x

theorem dist2D_spec (sqrt : α → α) (hs : SqrtSpec sqrt) (p q : α × α) :
    0 ≤ dist2D sqrt p q ∧ dist2D sqrt p q * dist2D sqrt p q = (q.1 - p.1) ^ 2 + (q.2 - p.2) ^ 2 := by
  unfold dist2D
  have h0 : 0 ≤ (q.1 - p.1) * (q.1 - p.1) + (q.2 - p.2) * (q.2 - p.2) :=
    add_nonneg (mul_self_nonneg _) (mul_self_nonneg _)
  obtain ⟨a, b⟩ := hs _ h0
  refine ⟨a, ?_⟩
  simp only
  rw [b]; ring

end field
end TV.Cinematics
