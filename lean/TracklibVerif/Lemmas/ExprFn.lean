import TracklibVerif.Lemmas.ExprAgg
/-! The definitions of `ARGMIN` / `ARGMAX`, `D`, `I`, `D2` as coded against their documented formulas.

* `Argmin` / `Argmax` (since fix b728412: `minimum = +inf`, `idmin = None`,
  `if val < minimum or (idmin is None and val == minimum): minimum = val; idmin = i`, `return 0 if idmin is None else idmin`):
  under the order laws of the comparison and the two facts about `==` at the start value (`inf == inf`, nothing else is
  `== inf`) the loop returns the *first* index at which the vector takes the value `MIN` (`MAX`) returns, as soon as the
  vector holds one number — the infinities included: `ARGMIN{[nan, inf, inf]} = 1` —; on an empty or all-NaN vector
  (no documented index) it returns `0`. (The pre-fix loop started from index 0 and moved on a strict improvement only: it
  returned 0, possibly the index of a NaN, whenever the least number was `+inf` itself.)
* `Differentiator`, `Integrator`, `SecondOrderFiniteDiff`: the index-wise recurrences
  `y(0) = NaN, y(t) = x(t) - x(t-1)`; `y(0) = 0, y(t) = y(t-1) + x(t)`; `y(t) = x(t+1) - 2 x(t) + x(t-1)`, NaN at both ends.
No law of arithmetic is used for the second group. -/
namespace TV.Expr
open Scalar
variable {α : Type} [Scalar α]

/-- what the loops use of Python's `==` against their start value: an infinity is equal to itself and to nothing else -/
structure EqLaws (α : Type) [Scalar α] : Prop where
  inf_self : eq (inf : α) inf = true
  eq_inf : ∀ v : α, eq v inf = true → v = inf
  ninf_self : eq (neg inf : α) (neg inf) = true
  eq_ninf : ∀ v : α, eq v (neg inf) = true → v = neg inf

omit [Scalar α] in
theorem first_cons {w F : α} {ws : List α} {k : Nat} (hne : w ≠ F) (h2 : ws[k]? = some F) (h4 : ∀ j, j < k → ws[j]? ≠ some F) :
    (w :: ws)[k + 1]? = some F ∧ ∀ j, j < k + 1 → (w :: ws)[j]? ≠ some F := by
  refine ⟨by simpa using h2, fun j hj => ?_⟩
  cases j with
  | zero => simpa using hne
  | succ j => simpa using h4 j (by omega)

/-- once an index has been taken the loop moves on a strict improvement only, like the fold -/
theorem argLoop_some {better : α → α → Bool} (B : Better better) : ∀ (vs : List α) (i : Nat) (cur : α) (b : Nat),
    (foldBest better vs cur = cur ∧ argLoop better vs i cur (some b) = some b) ∨
    (∃ k, argLoop better vs i cur (some b) = some (i + k) ∧ better (foldBest better vs cur) cur = true
      ∧ vs[k]? = some (foldBest better vs cur) ∧ ∀ j, j < k → vs[j]? ≠ some (foldBest better vs cur))
  | [], _, _, _ => Or.inl ⟨rfl, rfl⟩
  | w :: ws, i, cur, b => by
    simp only [foldBest_cons, argLoop, Option.isNone_some, Bool.false_and, Bool.or_false]
    cases hw : better w cur with
    | true =>
      simp only [if_true]
      rcases argLoop_some B ws (i + 1) w i with ⟨h1, h2⟩ | ⟨k, h1, h3, h2, h4⟩
      · exact Or.inr ⟨0, by rw [h2]; rfl, by rw [h1]; exact hw, by rw [h1]; rfl, fun j hj => absurd hj (Nat.not_lt_zero j)⟩
      · exact Or.inr ⟨k + 1, by rw [h1, Nat.add_right_comm, Nat.add_assoc], B.trans _ _ _ h3 hw,
          first_cons (fun e => by rw [← e, B.irrefl] at h3; cases h3) h2 h4⟩
    | false =>
      simp only [Bool.false_eq_true, if_false]
      rcases argLoop_some B ws (i + 1) cur b with h | ⟨k, h1, h3, h2, h4⟩
      · exact Or.inl h
      · exact Or.inr ⟨k + 1, by rw [h1, Nat.add_right_comm, Nat.add_assoc], h3,
          first_cons (fun e => by rw [← e, hw] at h3; cases h3) h2 h4⟩

/-- until an index is taken `cur` is the start value, which `==` recognises exactly (`he`) -/
theorem argLoop_none {better : α → α → Bool} (B : Better better) {start : α}
    (he : eq start start = true ∧ ∀ v : α, eq v start = true → v = start) : ∀ (vs : List α) (i : Nat),
    (argLoop better vs i start none = none ∧ ∀ v ∈ vs, better v start = false ∧ eq v start = false) ∨
    (∃ k, argLoop better vs i start none = some (i + k) ∧ vs[k]? = some (foldBest better vs start)
      ∧ ∀ j, j < k → vs[j]? ≠ some (foldBest better vs start))
  | [], _ => Or.inl ⟨rfl, fun _ hv => by simp at hv⟩
  | w :: ws, i => by
    simp only [foldBest_cons, argLoop, Option.isNone_none, Bool.true_and]
    by_cases hit : (better w start || eq w start) = true
    · -- the first index is taken here, on an improvement or on equality; in both cases the fold goes on from `w` as well
      have hF : (if better w start = true then w else start) = w := by
        cases hb : better w start with
        | true => rfl
        | false => rw [hb] at hit; exact (he.2 w hit).symm
      rw [if_pos hit, hF]
      rcases argLoop_some B ws (i + 1) w i with ⟨h1, h2⟩ | ⟨k, h1, h3, h2, h4⟩
      · exact Or.inr ⟨0, by rw [h2]; rfl, by rw [h1]; rfl, fun j hj => absurd hj (Nat.not_lt_zero j)⟩
      · exact Or.inr ⟨k + 1, by rw [h1, Nat.add_right_comm, Nat.add_assoc],
          first_cons (fun e => by rw [← e, B.irrefl] at h3; cases h3) h2 h4⟩
    · obtain ⟨hb, hq⟩ := Bool.or_eq_false_iff.mp (by simpa using hit)
      rw [if_neg hit]
      simp only [hb, Bool.false_eq_true, if_false]
      rcases argLoop_none B he ws (i + 1) with ⟨h1, h2⟩ | ⟨k, h1, h2, h4⟩
      · refine Or.inl ⟨h1, fun v hv => ?_⟩
        rcases List.mem_cons.mp hv with rfl | hv
        · exact ⟨hb, hq⟩
        · exact h2 v hv
      · -- `w` is not the fold's value, which is the start value (that `==` recognises) or better than it
        refine Or.inr ⟨k + 1, by rw [h1, Nat.add_right_comm, Nat.add_assoc], first_cons (fun e => ?_) h2 h4⟩
        rcases (foldBest_spec B ws start).2 with hs | ⟨_, hs⟩
        · rw [e, hs, he.1] at hq; cases hq
        · rw [← e, hb] at hs; cases hs

theorem argBest_first {better : α → α → Bool} {start : α} (X : Extremum better start)
    (he : eq start start = true ∧ ∀ v : α, eq v start = true → v = start) (c : List α) (w : α) (hw : w ∈ c) (hn : isNaN w = false) :
    ∃ k, argLoop better c 0 start none = some k ∧ c[k]? = some (foldBest better c start)
      ∧ ∀ j, j < k → c[j]? ≠ some (foldBest better c start) := by
  rcases argLoop_none X.toBetter he c 0 with ⟨_, h3⟩ | ⟨k, h1, h2, h4⟩
  · obtain ⟨hb, hq⟩ := h3 w hw
    rcases X.beyond w hn with ht | ht
    · rw [ht] at hb; cases hb
    · rw [ht, he.1] at hq; cases hq
  · exact ⟨k, by simpa using h1, h2, h4⟩

theorem argBest_none {better : α → α → Bool} {start : α} (X : Extremum better start)
    (he : eq start start = true ∧ ∀ v : α, eq v start = true → v = start) (c : List α) (h : ∀ v ∈ c, isNaN v = true) :
    argLoop better c 0 start none = none := by
  rcases argLoop_none X.toBetter he c 0 with ⟨h1, _⟩ | ⟨k, _, h2, _⟩
  · exact h1
  · -- the fold's value would be a NaN of the vector; it is the start value
    have hnan := h _ (List.mem_of_getElem? h2)
    rw [foldBest_no_number X c h, X.start_num] at hnan
    cases hnan
/-- **`ARGMIN` as coded (fix b728412)**: as soon as the vector holds one number (a non-NaN value, `+inf` included),
    `ARGMIN` is the first index at which the vector takes the value `MIN` returns (documented: `min {t | x(t) = min(x)}`) -/
theorem argminL_first (L : OrdLaws α) (T : TopLaws α) (E : EqLaws α) (c : List α) (w : α) (hw : w ∈ c) (hn : isNaN w = false) :
    ∃ k, argminL c = ofNat k ∧ c[k]? = some (minL c) ∧ ∀ j, j < k → c[j]? ≠ some (minL c) := by
  obtain ⟨k, h1, h2, h3⟩ := argBest_first (extremum_min L T) ⟨E.inf_self, E.eq_inf⟩ c w hw hn
  exact ⟨k, by simp only [argminL, h1, Option.getD_some], h2, h3⟩

/-- … and on an empty or all-NaN vector (no documented index) no index is ever taken: `ARGMIN` is `0` -/
theorem argminL_none (L : OrdLaws α) (T : TopLaws α) (E : EqLaws α) (c : List α) (h : ∀ v ∈ c, isNaN v = true) :
    argminL c = ofNat 0 := by
  simp only [argminL, argBest_none (extremum_min L T) ⟨E.inf_self, E.eq_inf⟩ c h, Option.getD_none]

/-- **`ARGMAX` as coded (fix b728412)**: the first index at which the vector takes the value `MAX` returns, as soon as the
    vector holds one number (`-inf` included) -/
theorem argmaxL_first (L : OrdLaws α) (T : TopLaws α) (E : EqLaws α) (c : List α) (w : α) (hw : w ∈ c) (hn : isNaN w = false) :
    ∃ k, argmaxL c = ofNat k ∧ c[k]? = some (maxL c) ∧ ∀ j, j < k → c[j]? ≠ some (maxL c) := by
  obtain ⟨k, h1, h2, h3⟩ := argBest_first (extremum_max L T) ⟨E.ninf_self, E.eq_ninf⟩ c w hw hn
  exact ⟨k, by simp only [argmaxL, h1, Option.getD_some], h2, h3⟩

theorem argmaxL_none (L : OrdLaws α) (T : TopLaws α) (E : EqLaws α) (c : List α) (h : ∀ v ∈ c, isNaN v = true) :
    argmaxL c = ofNat 0 := by
  simp only [argmaxL, argBest_none (extremum_max L T) ⟨E.ninf_self, E.eq_ninf⟩ c h, Option.getD_none]

theorem diff_zero (c : List α) : (diff c)[0]? = some nan := rfl

theorem diff_succ (c : List α) (i : Nat) (a b : α) (ha : c[i]? = some a) (hb : c[i + 1]? = some b) :
    (diff c)[i + 1]? = some (sub b a) := by
  simp only [diff, List.getElem?_cons_succ, List.getElem?_zipWith, List.getElem?_drop]
  rw [show 1 + i = i + 1 by omega, hb, ha]

theorem diff_length (c : List α) (h : c ≠ []) : (diff c).length = c.length := by
  cases c with
  | nil => exact absurd rfl h
  | cons x xs => simp [diff, List.length_zipWith]

theorem integ_eq_scanl (c : List α) : integ c = (c.drop 1).scanl add zero := by
  have h : ∀ (l : List α) (acc : α), acc :: integAux acc l = l.scanl add acc := by
    intro l
    induction l with
    | nil => intro acc; rfl
    | cons x xs ih => intro acc; rw [List.scanl_cons, ← ih]; rfl
  exact h _ _

theorem integ_zero (c : List α) : (integ c)[0]? = some zero := rfl

theorem integ_succ (c : List α) (i : Nat) (x : α) (hx : c[i + 1]? = some x) :
    (integ c)[i + 1]? = some (add ((integ c).getD i nan) x) := by
  have hx' : (c.drop 1)[i]? = some x := by rw [List.getElem?_drop, Nat.add_comm]; exact hx
  have hi : i < ((c.drop 1).scanl add zero).length := by
    rw [List.length_scanl]; exact Nat.lt_succ_of_lt (List.getElem?_eq_some_iff.mp hx').1
  rw [integ_eq_scanl, List.getElem?_succ_scanl, hx', List.getD_eq_getElem?_getD, List.getElem?_eq_getElem hi]
  rfl

theorem diff2Mid_get : ∀ (c : List α) (i : Nat) (a b d : α), c[i]? = some a → c[i + 1]? = some b → c[i + 2]? = some d →
    (diff2Mid c)[i]? = some (add (sub d (mul two b)) a)
  | [], i, a, _, _, h, _, _ => by simp at h
  | [_], i, _, b, _, _, h, _ => by simp at h
  | [_, _], i, _, _, d, _, _, h => by simp at h
  | x :: y :: z :: rest, 0, a, b, d, ha, hb, hd => by
    simp only [List.getElem?_cons_zero, List.getElem?_cons_succ, Option.some.injEq] at ha hb hd
    subst ha hb hd; rfl
  | x :: y :: z :: rest, i + 1, a, b, d, ha, hb, hd => by
    simp only [List.getElem?_cons_succ] at ha hb hd
    simp only [diff2Mid, List.getElem?_cons_succ]
    exact diff2Mid_get (y :: z :: rest) i a b d ha hb hd

theorem diff2Mid_length : ∀ (c : List α), (diff2Mid c).length = c.length - 2
  | [] => rfl
  | [_] => rfl
  | [_, _] => rfl
  | x :: y :: z :: rest => by
    simp only [diff2Mid, List.length_cons, diff2Mid_length (y :: z :: rest)]
    omega

theorem diff2_mid (n : Nat) (c : List α) (hn : 2 ≤ n) (i : Nat) (a b d : α)
    (ha : c[i]? = some a) (hb : c[i + 1]? = some b) (hd : c[i + 2]? = some d) :
    (diff2 n c)[i + 1]? = some (add (sub d (mul two b)) a) := by
  have h := diff2Mid_get c i a b d ha hb hd
  have hlt : i < (diff2Mid c).length := (List.getElem?_eq_some_iff.mp h).1
  simp only [diff2, show ¬ n ≤ 1 by omega, if_false, List.getElem?_cons_succ, List.getElem?_append_left hlt, h]

theorem diff2_ends (n : Nat) (c : List α) (hn : 2 ≤ n) (hl : c.length = n) :
    (diff2 n c)[0]? = some nan ∧ (diff2 n c)[n - 1]? = some nan ∧ (diff2 n c).length = n := by
  have hlen := diff2Mid_length c
  refine ⟨by simp [diff2, show ¬ n ≤ 1 by omega], ?_, ?_⟩
  · simp only [diff2, show ¬ n ≤ 1 by omega, if_false]
    rw [show n - 1 = (n - 2) + 1 by omega, List.getElem?_cons_succ,
      List.getElem?_append_right (by rw [hlen, hl]; exact Nat.le_refl _)]
    simp [hlen, hl]
  · simp only [diff2, show ¬ n ≤ 1 by omega, if_false, List.length_cons, List.length_append, hlen, hl, List.length_nil]
    omega

end TV.Expr
