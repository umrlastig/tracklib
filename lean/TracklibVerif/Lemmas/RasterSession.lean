import TracklibVerif.Model.RasterSession
import TracklibVerif.Lemmas.Raster
/-! Helper lemmas for the state machine of the `Raster` object (C19; model: `Model/RasterSession.lean`).
The first part (what each call returns, runs of calls, the loops without exception) holds for any scalar type; the bounding
box needs a linear order; the last part, over an ordered field with its floor, is about collections on a well-formed grid, inside
its extent or leaving it (the loops stop at the first observation outside). -/
namespace TV.Raster

section scatterP
variable {α V : Type} [Sub α] [Div α] [IntCast α] [LT α] [DecidableLT α] [BEq α]

theorem scatterP_append_of_scatter (floor : α → Int) (g : Grid α) (rest pre : List (α × α × V)) (c c' : Cells V)
    (h : scatter floor g c pre = some c') : scatterP floor g c (pre ++ rest) = scatterP floor g c' rest := by
  fun_induction scatter floor g c pre with
  | case1 c => rw [Option.some.inj h]; rfl
  | case2 => exact nomatch h
  | case3 => exact nomatch h
  | case4 c x y v pre column line hc c1 hp ih => simp only [List.cons_append, scatterP, hc, hp]; exact ih h

theorem scatterP_of_scatter (floor : α → Int) (g : Grid α) (obs : List (α × α × V)) (c c' : Cells V)
    (h : scatter floor g c obs = some c') : scatterP floor g c obs = (c', none) := by
  have := scatterP_append_of_scatter floor g [] obs c c' h
  rwa [List.append_nil] at this

end scatterP

section calls

section
variable {α : Type}

theorem addBand_cases (s : RState α) (name : List String) (init : Option (List (List (Option α)))) :
    (∃ e, addBand s name init = (s, some e)) ∨
    (s.bands.any (fun b => b.name == name) = false
      ∧ addBand s name init = ({ s with bands := s.bands ++ [⟨name, init⟩] }, none)) := by
  fun_cases addBand s name init
  -- the two accepting branches: no grid given, a grid of the raster's size
  case case3 _ h => exact .inr ⟨Bool.eq_false_iff.2 h, rfl⟩
  case case6 _ h _ _ _ => exact .inr ⟨Bool.eq_false_iff.2 h, rfl⟩
  all_goals exact .inl ⟨_, rfl⟩

theorem getBand_append (s s' : RState α) (extra : List (Band α)) (h : s'.bands = s.bands ++ extra) (name : List String) (b : Band α)
    (hb : getBand s name = some b) : getBand s' name = some b := by
  unfold getBand at *
  rw [h, List.find?_append, hb]; rfl

end

section
variable {α : Type} [NatCast α]

theorem obsOf_mem (t : Trk α) (af : String) : ∀ o ∈ obsOf t af, (o.1, o.2.1) ∈ t.pts := by
  intro o ho
  unfold obsOf at ho
  cases h : featVals t af with
  | none => rw [h] at ho; exact nomatch ho
  | some vs =>
    rw [h] at ho
    obtain ⟨pv, hpv, rfl⟩ := List.mem_map.1 ho
    exact (List.of_mem_zip hpv).1

theorem obsOf_points (t : Trk α) (af : String) (vs : List (Option α)) (h : featVals t af = some vs) (hl : vs.length = t.pts.length) :
    (obsOf t af).map (fun o => (o.1, o.2.1)) = t.pts := by
  rw [obsOf, h, List.map_map]
  exact List.map_fst_zip (by omega)

end

section
variable {α : Type} [Sub α] [Div α] [IntCast α] [NatCast α] [LT α] [DecidableLT α] [BEq α]

theorem addColl_g (floor : α → Int) (s : RState α) (afo : List String) (T : List (Trk α)) :
    (addColl floor s afo T).1.g = s.g ∧ (addColl floor s afo T).1.bands = s.bands := by
  fun_cases addColl floor s afo T <;> exact ⟨rfl, rfl⟩

theorem growE_eq (floor : α → Int) (g : Grid α) (t : Trk α) (af : String) (c : Cells (Option α))
    (h : (featVals t af).isSome = true) :
    growE floor g t (af, c) = ((af, (scatterP floor g c (obsOf t af)).1), (scatterP floor g c (obsOf t af)).2) := by
  obtain ⟨vs, hvs⟩ := Option.isSome_iff_exists.1 h
  simp only [growE, hvs]

theorem addTrack_ok (floor : α → Int) (g : Grid α) (t : Trk α) (V : Vals α)
    (h : ∀ e ∈ V, (growE floor g t e).2 = none) : addTrack floor g t V = (V.map (fun e => (growE floor g t e).1), none) := by
  fun_induction addTrack floor g t V with
  | case1 => rfl
  | case2 e rest e' x he => exact nomatch ((congrArg Prod.snd he).symm.trans (h e List.mem_cons_self))
  | case3 e rest e' he r ih => rw [show r = _ from ih fun p hp => h p (List.mem_cons_of_mem _ hp), List.map_cons, he]

theorem lookup_map_key {C : Type} (h : String → C) (l : List String) (a : String) :
    (l.map (fun k => (k, h k))).lookup a = if a ∈ l then some (h a) else none := by
  induction l with
  | nil => rfl
  | cons k rest ih =>
    rw [List.map_cons, List.lookup_cons, ih]
    by_cases e : a = k
    · subst e; simp
    · simp [beq_false_of_ne e, e]

theorem addColl_eq (floor : α → Int) (s : RState α) (afo : List String) (T : List (Trk α))
    (hperm : afo.isPerm (afsOf s.bands) = true)
    (hfeat : ∀ t ∈ T, ∀ af ∈ afo, (featVals t af).isSome = true) :
    addColl floor s afo T
      = ({ s with values := some (addTracks floor s.g T (afo.map (fun af => (af, emptyCells s.g.nrow.toNat s.g.ncol.toNat)))).1 },
         (addTracks floor s.g T (afo.map (fun af => (af, emptyCells s.g.nrow.toNat s.g.ncol.toNat)))).2) := by
  have h2 : (T.any (fun t => afo.any (fun af => (featVals t af).isNone))) = false := by
    rw [List.any_eq_false]
    intro t ht
    rw [Bool.not_eq_true, List.any_eq_false]
    intro af haf
    rw [Option.isSome_iff_exists.1 (hfeat t ht af haf) |>.choose_spec]; exact Bool.false_ne_true
  rw [addColl, hperm, h2]; rfl

theorem addTracks_append (floor : α → Int) (g : Grid α) (B A : List (Trk α)) (V V' : Vals α)
    (h : addTracks floor g A V = (V', none)) : addTracks floor g (A ++ B) V = addTracks floor g B V' := by
  fun_induction addTracks floor g A V with
  | case1 V => rw [show V = V' from congrArg Prod.fst h]; rfl
  | case2 => exact nomatch h
  | case3 t ts V V1 hx ih => rw [List.cons_append, addTracks, hx]; exact ih h

end

section
variable {α : Type} [Add α] [Mul α] [Div α] [OfNat α 0] [OfNat α 1] [OfNat α 2] [NatCast α]
  [LT α] [DecidableLT α] [LE α] [DecidableLE α] [BEq α]

theorem computeBand_name (wr : Option α) (V : Option (Vals α)) (b : Band α) : (computeBand wr V b).1.name = b.name := by
  fun_cases computeBand wr V b <;> rfl

theorem computeBand_raises {wr : Option α} {V : Option (Vals α)} {b b' : Band α} {e : Err}
    (h : computeBand wr V b = (b', some e)) : b' = b := by
  revert h
  fun_cases computeBand wr V b <;> rintro ⟨⟩ <;> rfl

theorem computeBand_ok (wr : Option α) (V : Vals α) (b : Band α) (af opn : String) (rest : List String) (op : Op)
    (c : Cells (Option α)) (hn : b.name = af :: opn :: rest) (hl : V.lookup af = some c) (ho : opOf opn = some op) :
    computeBand wr (some V) b = ({ b with grid := some (aggregatesN wr op c) }, none) := by
  unfold computeBand
  rw [hn]
  simp only [hl, ho]

theorem computeAll_ok (wr : Option α) (V : Option (Vals α)) (bands : List (Band α))
    (h : ∀ b ∈ bands, (computeBand wr V b).2 = none) :
    computeAll wr V bands = (bands.map (fun b => (computeBand wr V b).1), none) := by
  fun_induction computeAll wr V bands with
  | case1 => rfl
  | case2 b rest b' x hb => exact nomatch ((congrArg Prod.snd hb).symm.trans (h b List.mem_cons_self))
  | case3 b rest b' hb r ih => rw [show r = _ from ih fun p hp => h p (List.mem_cons_of_mem _ hp), List.map_cons, hb]

theorem computeAll_fail (wr : Option α) (V : Option (Vals α)) (bands : List (Band α)) (e : Err)
    (h : (computeAll wr V bands).2 = some e) :
    ∃ (pre : List (Band α)) (b : Band α) (post : List (Band α)), bands = pre ++ b :: post
      ∧ (∀ p ∈ pre, (computeBand wr V p).2 = none) ∧ computeBand wr V b = (b, some e)
      ∧ (computeAll wr V bands).1 = pre.map (fun p => (computeBand wr V p).1) ++ b :: post := by
  fun_induction computeAll wr V bands with
  | case1 => exact nomatch h
  | case2 b rest b' x hb =>
    cases h
    cases computeBand_raises hb
    exact ⟨[], b, rest, rfl, nofun, hb, rfl⟩
  | case3 b rest b' hb r ih =>
    obtain ⟨pre, b0, post, e1, e2, e3, e4⟩ := ih h
    exact ⟨b :: pre, b0, post, congrArg (b :: ·) e1, List.forall_mem_cons.2 ⟨by rw [hb], e2⟩, e3,
      by rw [List.map_cons, hb, List.cons_append, ← e4]⟩

/-- `computeAggregates` on bands that all name a feature of the values `V` and one of the six operators: no band raises, and
    the band `<af>#<op>` is rewritten with `op` over the cells `c` that `V` holds for `af` (`R af c`: what is known of them) -/
theorem computed_bands (nd : Option α) (V : Vals α) (afo : List String) (R : String → Cells (Option α) → Prop)
    (hV : ∀ af ∈ afo, ∃ c, V.lookup af = some c ∧ R af c) (bands : List (Band α))
    (hbands : ∀ b ∈ bands, ∃ af opn rest, b.name = af :: opn :: rest ∧ af ∈ afo ∧ (opOf opn).isSome = true) :
    (∀ b ∈ bands, (computeBand nd (some V) b).2 = none)
    ∧ ∀ b ∈ bands.map (fun b => (computeBand nd (some V) b).1), ∀ af opn rest op, b.name = af :: opn :: rest →
        opOf opn = some op → ∃ c, R af c ∧ b.grid = some (aggregatesN nd op c) := by
  have key : ∀ b ∈ bands, ∀ af opn rest op, b.name = af :: opn :: rest → opOf opn = some op →
      ∃ c, R af c ∧ computeBand nd (some V) b = ({ b with grid := some (aggregatesN nd op c) }, none) := by
    intro b hb af opn rest op hn hop
    obtain ⟨af', opn', rest', hn', haf', _⟩ := hbands b hb
    obtain ⟨rfl, -⟩ := List.cons.inj (hn'.symm.trans hn)
    obtain ⟨c, hl, hR⟩ := hV af' haf'
    exact ⟨c, hR, computeBand_ok nd V b af' opn rest op c hn hl hop⟩
  refine ⟨fun b hb => ?_, fun b hb af opn rest op hn hop => ?_⟩
  · obtain ⟨af, opn, rest, hn, _, hop⟩ := hbands b hb
    obtain ⟨op, hop⟩ := Option.isSome_iff_exists.1 hop
    obtain ⟨c, _, h⟩ := key b hb af opn rest op hn hop
    rw [h]
  · obtain ⟨b0, hb0, rfl⟩ := List.mem_map.1 hb
    rw [computeBand_name] at hn
    obtain ⟨c, hR, h⟩ := key b0 hb0 af opn rest op hn hop
    exact ⟨c, hR, by rw [h]⟩

end

variable {α : Type} [Add α] [Sub α] [Mul α] [Div α] [OfNat α 0] [OfNat α 1] [OfNat α 2] [IntCast α] [NatCast α]
  [LT α] [DecidableLT α] [LE α] [DecidableLE α] [BEq α]

theorem step_g (floor : α → Int) (s : RState α) (c : Cmd α) : (step floor s c).1.g = s.g := by
  cases c with
  | band name init => rcases addBand_cases s name init with ⟨e, h⟩ | ⟨_, h⟩ <;> rw [step, h]
  | add afo T => exact (addColl_g floor s afo T).1
  | compute => rfl
  | setNoData v => rfl

theorem step_values (floor : α → Int) (s : RState α) (c : Cmd α) (h : c.isAdd = false) :
    (step floor s c).1.values = s.values := by
  cases c with
  | band name init => rcases addBand_cases s name init with ⟨e, h⟩ | ⟨_, h⟩ <;> rw [step, h]
  | add afo T => exact nomatch h
  | compute => rfl
  | setNoData v => rfl

theorem run_nil (floor : α → Int) (s : RState α) : run floor s [] = (s, []) := rfl

theorem run_cons (floor : α → Int) (s : RState α) (c : Cmd α) (rest : List (Cmd α)) :
    run floor s (c :: rest)
      = ((run floor (step floor s c).1 rest).1, (step floor s c).2 :: (run floor (step floor s c).1 rest).2) := rfl

theorem run_append (floor : α → Int) : ∀ (a b : List (Cmd α)) (s : RState α),
    run floor s (a ++ b)
      = ((run floor (run floor s a).1 b).1, (run floor s a).2 ++ (run floor (run floor s a).1 b).2) := by
  intro a
  induction a with
  | nil => intro b s; rfl
  | cons c rest ih => intro b s; simp only [List.cons_append, run_cons, ih]

theorem run_g (floor : α → Int) : ∀ (cmds : List (Cmd α)) (s : RState α), (run floor s cmds).1.g = s.g := by
  intro cmds
  induction cmds with
  | nil => intro s; rfl
  | cons c rest ih => intro s; exact (ih _).trans (step_g floor s c)

theorem run_values (floor : α → Int) : ∀ (cmds : List (Cmd α)) (s : RState α),
    (∀ c ∈ cmds, c.isAdd = false) → (run floor s cmds).1.values = s.values := by
  intro cmds
  induction cmds with
  | nil => intro s _; rfl
  | cons c rest ih =>
    intro s h
    exact (ih _ (fun c' hc' => h c' (List.mem_cons_of_mem _ hc'))).trans (step_values _ _ _ (h c List.mem_cons_self))

theorem run_length (floor : α → Int) : ∀ (cmds : List (Cmd α)) (s : RState α),
    (run floor s cmds).2.length = cmds.length := by
  intro cmds
  induction cmds with
  | nil => intro s; rfl
  | cons c rest ih => intro s; exact congrArg (· + 1) (ih _)

theorem firstErr_none : ∀ outs : List (Option Err), (∀ o ∈ outs, o = none) → firstErr outs = none
  | [], _ => rfl
  | none :: rest, h => firstErr_none rest (fun o ho => h o (List.mem_cons_of_mem _ ho))
  | some _ :: _, h => nomatch h _ List.mem_cons_self

theorem run_post_compute (floor : α → Int) (s : RState α) (V : Vals α) (hV : s.values = some V) (post : List (Cmd α))
    (hpost : ∀ c ∈ post, c.isAdd = false)
    (hall : ∀ b ∈ (run floor s post).1.bands, (computeBand (run floor s post).1.noData (some V) b).2 = none) :
    run floor s (post ++ [.compute])
      = ({ (run floor s post).1 with
            bands := (run floor s post).1.bands.map (fun b => (computeBand (run floor s post).1.noData (some V) b).1) },
         (run floor s post).2 ++ [none]) := by
  rw [run_append]
  simp only [run_cons, run_nil, step, (run_values floor post s hpost).trans hV, computeAll_ok _ _ _ hall]

theorem run_then_compute (floor : α → Int) (s : RState α) (V : Vals α) (hV : s.values = some V) (afo : List String)
    (R : String → Cells (Option α) → Prop) (hR : ∀ af ∈ afo, ∃ c, V.lookup af = some c ∧ R af c)
    (post : List (Cmd α)) (hpost : ∀ c ∈ post, c.isAdd = false)
    (hbands : ∀ b ∈ (run floor s post).1.bands,
        ∃ af opn rest, b.name = af :: opn :: rest ∧ af ∈ afo ∧ (opOf opn).isSome = true) :
    ∃ s3 : RState α, run floor s (post ++ [.compute]) = (s3, (run floor s post).2 ++ [none])
      ∧ s3.g = s.g ∧ s3.noData = (run floor s post).1.noData
      ∧ s3.bands.map (·.name) = (run floor s post).1.bands.map (·.name)
      ∧ ∀ b ∈ s3.bands, ∀ af opn rest op, b.name = af :: opn :: rest → opOf opn = some op →
          ∃ c, R af c ∧ b.grid = some (aggregatesN s3.noData op c) := by
  obtain ⟨hall, hcomp⟩ := computed_bands (run floor s post).1.noData V afo R hR _ hbands
  exact ⟨_, run_post_compute floor s V hV post hpost hall, run_g floor post s, rfl,
    by simp [computeBand_name], hcomp⟩

theorem add_then_compute (floor : α → Int) (s : RState α) (afo : List String) (T : List (Trk α)) (V : Vals α) (e : Option Err)
    (hadd : addColl floor s afo T = ({ s with values := some V }, e))
    (R : String → Cells (Option α) → Prop) (hR : ∀ af ∈ afo, ∃ c, V.lookup af = some c ∧ R af c)
    (post : List (Cmd α)) (hpost : ∀ c ∈ post, c.isAdd = false)
    (hbands : ∀ b ∈ (run floor s ([.add afo T] ++ post)).1.bands,
        ∃ af opn rest, b.name = af :: opn :: rest ∧ af ∈ afo ∧ (opOf opn).isSome = true) :
    ∃ (s3 : RState α) (outs : List (Option Err)),
      run floor s ([.add afo T] ++ post ++ [.compute]) = (s3, e :: outs ++ [none])
      ∧ s3.g = s.g ∧ s3.noData = (run floor s ([.add afo T] ++ post)).1.noData
      ∧ s3.bands.map (·.name) = (run floor s ([.add afo T] ++ post)).1.bands.map (·.name)
      ∧ ∀ b ∈ s3.bands, ∀ af opn rest op, b.name = af :: opn :: rest → opOf opn = some op →
          ∃ c, R af c ∧ b.grid = some (aggregatesN s3.noData op c) := by
  have hstep : run floor s [.add afo T] = ({ s with values := some V }, [e]) := by rw [run_cons, run_nil, step, hadd]
  have hmid : (run floor s ([.add afo T] ++ post)).1 = (run floor { s with values := some V } post).1 := by
    rw [run_append, hstep]
  rw [hmid] at hbands ⊢
  obtain ⟨s3, hrun, h⟩ := run_then_compute floor { s with values := some V } V rfl afo R hR post hpost hbands
  exact ⟨s3, _, by rw [List.append_assoc, run_append, hstep, hrun]; rfl, h⟩

theorem run_bands {X : Type} (floor : α → Int) (f : X → List String) : ∀ (L : List X) (s : RState α),
    (L.map f).Nodup → (∀ x ∈ L, f x ≠ [""] ∧ ∀ b ∈ s.bands, b.name ≠ f x) →
    run floor s (L.map (fun x => Cmd.band (f x) none))
      = ({ s with bands := s.bands ++ L.map (fun x => (⟨f x, none⟩ : Band α)) }, L.map (fun _ => none)) := by
  intro L
  induction L with
  | nil => intro s _ _; simp [run_nil]
  | cons x rest ih =>
    intro s hnd h
    obtain ⟨hn1, hn2⟩ := h x List.mem_cons_self
    have hany : (s.bands.any (fun b => b.name == f x)) = false := by
      rw [List.any_eq_false]
      intro b hb
      simpa using hn2 b hb
    have hstep : addBand s (f x) none = ({ s with bands := s.bands ++ [⟨f x, none⟩] }, none) := by
      unfold addBand
      simp [hn1, hany]
    rw [List.map_cons] at hnd
    rw [List.map_cons, run_cons]
    simp only [step, hstep]
    rw [ih _ (List.nodup_cons.1 hnd).2 ?_]
    · simp
    · intro m hm
      refine ⟨(h m (List.mem_cons_of_mem _ hm)).1, fun b hb => ?_⟩
      rcases List.mem_append.1 hb with hb | hb
      · exact (h m (List.mem_cons_of_mem _ hm)).2 b hb
      · rw [List.mem_singleton.1 hb]
        exact fun e => (List.nodup_cons.1 hnd).1 ((show f x = f m from e) ▸ List.mem_map_of_mem hm)

theorem step_keeps_bands (floor : α → Int) (s : RState α) (c : Cmd α) (h : c.isCompute = false) :
    ∃ extra, (step floor s c).1.bands = s.bands ++ extra ∧ ∀ b ∈ extra, ∀ b' ∈ s.bands, b.name ≠ b'.name := by
  cases c with
  | band name init =>
    rcases addBand_cases s name init with ⟨e, hb⟩ | ⟨hany, hb⟩
    · exact ⟨[], by rw [step, hb, List.append_nil], nofun⟩
    · refine ⟨[⟨name, init⟩], by rw [step, hb], fun b hb b' hb' e => ?_⟩
      rw [List.mem_singleton.1 hb] at e
      exact List.any_eq_false.1 hany b' hb' (by simp [← e])
  | add afo T => exact ⟨[], by rw [step, (addColl_g floor s afo T).2, List.append_nil], nofun⟩
  | compute => exact nomatch h
  | setNoData v => exact ⟨[], (List.append_nil _).symm, nofun⟩

theorem run_keeps_bands (floor : α → Int) : ∀ (cmds : List (Cmd α)) (s : RState α), (∀ c ∈ cmds, c.isCompute = false) →
    ∃ extra, (run floor s cmds).1.bands = s.bands ++ extra ∧ ∀ b ∈ extra, ∀ b' ∈ s.bands, b.name ≠ b'.name := by
  intro cmds
  induction cmds with
  | nil => intro s _; exact ⟨[], (List.append_nil _).symm, nofun⟩
  | cons c rest ih =>
    intro s h
    obtain ⟨e1, h1, n1⟩ := step_keeps_bands floor s c (h c List.mem_cons_self)
    obtain ⟨e2, h2, n2⟩ := ih (step floor s c).1 (fun c' hc' => h c' (List.mem_cons_of_mem _ hc'))
    refine ⟨e1 ++ e2, ?_, ?_⟩
    · rw [run_cons]; simp only; rw [h2, h1, List.append_assoc]
    · intro b hb b' hb'
      rcases List.mem_append.1 hb with hb | hb
      · exact n1 b hb b' hb'
      · exact n2 b hb b' (by rw [h1]; exact List.mem_append_left _ hb')

theorem summarizeS_run (floor ceil : α → Int) (wr : α) (tracks : List (Trk α)) (afs ops : List String) (rx ry margin : α)
    (afo : List String) (hafs : afs ≠ []) (hlen : afs.length = ops.length) (hne : tracks ≠ [])
    (hpts : ∀ t ∈ tracks, t.pts ≠ []) {bx0 bx1 by0 by1 : α}
    (e1 : minOf (tracks.flatMap (fun t => t.pts.map (·.1))) = some bx0)
    (e2 : maxOf (tracks.flatMap (fun t => t.pts.map (·.1))) = some bx1)
    (e3 : minOf (tracks.flatMap (fun t => t.pts.map (·.2))) = some by0)
    (e4 : maxOf (tracks.flatMap (fun t => t.pts.map (·.2))) = some by1) :
    summarizeS floor ceil wr tracks afs ops rx ry margin afo
      = match firstErr (run floor (initState (mkGrid ceil bx0 bx1 by0 by1 rx ry margin) (some wr))
            ((afs.zip ops).map (fun p => Cmd.band [p.1, p.2] none) ++ [Cmd.add afo tracks, Cmd.compute])).2 with
        | some e => .raised e
        | none => .ok (run floor (initState (mkGrid ceil bx0 bx1 by0 by1 rx ry margin) (some wr))
            ((afs.zip ops).map (fun p => Cmd.band [p.1, p.2] none) ++ [Cmd.add afo tracks, Cmd.compute])).1 := by
  have h2 : (tracks.isEmpty || tracks.any (fun t => t.pts.isEmpty)) = false := by
    rw [Bool.or_eq_false_iff, List.isEmpty_eq_false_iff, List.any_eq_false]
    exact ⟨hne, fun t ht => by rw [Bool.not_eq_true, List.isEmpty_eq_false_iff]; exact hpts t ht⟩
  have h0 : ¬ afs.length = 0 := fun h => hafs (List.eq_nil_of_length_eq_zero h)
  have h1 : ¬ afs.length ≠ ops.length := fun h => h hlen
  simp only [summarizeS, h0, h1, h2, e1, e2, e3, e4, ↓reduceIte, Bool.false_eq_true]
  rfl

theorem split_first_outside {O : Type} (q : O → Bool) (l : List O) (h : ∃ o ∈ l, q o = false) :
    ∃ o post, l = l.takeWhile q ++ o :: post ∧ q o = false := by
  obtain ⟨o, ho⟩ := Option.isSome_iff_exists.1
    (List.find?_isSome.2 (h.imp fun o ho => ⟨ho.1, congrArg (!·) ho.2⟩) : (l.find? (!q ·)).isSome = true)
  obtain ⟨hq, pre, post, rfl, hpre⟩ := List.find?_eq_some_iff_append.1 ho
  have hq : q o = false := Eq.mp (Bool.not_eq_true' _) hq
  refine ⟨o, post, ?_, hq⟩
  rw [List.takeWhile_append_of_pos fun a ha => (Bool.not_not _).symm.trans (hpre a ha),
    List.takeWhile_cons_of_neg (ne_true_of_eq_false hq), List.append_nil]

theorem takeWhile_all {O : Type} (q : O → Bool) (l : List O) : ∀ o ∈ l.takeWhile q, q o = true :=
  List.all_eq_true.1 List.all_takeWhile

end calls

section bbox
variable {α : Type} [LinearOrder α]

/-- `collection.bbox()` as `summarize` reads it, one coordinate `f` at a time -/
theorem coord_range (f : α × α → α) (tracks : List (Trk α)) (hne : tracks ≠ []) (hpts : ∀ t ∈ tracks, t.pts ≠ []) :
    ∃ lo hi, minOf (tracks.flatMap (fun t => t.pts.map f)) = some lo ∧ maxOf (tracks.flatMap (fun t => t.pts.map f)) = some hi
      ∧ lo ≤ hi ∧ ∀ t ∈ tracks, ∀ p ∈ t.pts, lo ≤ f p ∧ f p ≤ hi := by
  have mem : ∀ t ∈ tracks, ∀ p ∈ t.pts, f p ∈ tracks.flatMap (fun t => t.pts.map f) := fun t ht p hp =>
    List.mem_flatMap.2 ⟨t, ht, List.mem_map_of_mem hp⟩
  obtain ⟨t0, ht0⟩ := List.exists_mem_of_ne_nil tracks hne
  obtain ⟨p0, hp0⟩ := List.exists_mem_of_ne_nil t0.pts (hpts t0 ht0)
  obtain ⟨lo, e1, mlo, hlo⟩ := minOf_spec _ (List.ne_nil_of_mem (mem t0 ht0 p0 hp0))
  obtain ⟨hi, e2, _, hhi⟩ := maxOf_spec _ (List.ne_nil_of_mem (mem t0 ht0 p0 hp0))
  exact ⟨lo, hi, e1, e2, hhi _ mlo, fun t ht p hp => ⟨hlo _ (mem t ht p hp), hhi _ (mem t ht p hp)⟩⟩

end bbox

section field
variable {α : Type} [Field α] [LinearOrder α] [IsStrictOrderedRing α] [FloorRing α]

def InExtent (g : Grid α) (t : Trk α) : Prop :=
  ∀ p ∈ t.pts, (g.xmin ≤ p.1 ∧ p.1 ≤ g.xmax) ∧ (g.ymin ≤ p.2 ∧ p.2 ≤ g.ymax)

theorem obsOf_inGrid {g : Grid α} (hg : WF g) {t : Trk α} (hin : InExtent g t) (af : String) :
    ∀ o ∈ obsOf t af, InGrid (fun o : α × α × Option α => getCell Int.floor g o.1 o.2.1) g.nrow.toNat g.ncol.toNat o :=
  fun o ho => getCell_inGrid hg o (hin _ (obsOf_mem t af o ho)).1 (hin _ (obsOf_mem t af o ho)).2

theorem scatterP_track (g : Grid α) (hg : WF g) (t : Trk α) (hin : InExtent g t) (af : String) (c : Cells (Option α))
    (hR : Rect c g.nrow.toNat g.ncol.toNat) :
    (scatterP Int.floor g c (obsOf t af)).2 = none ∧ Rect (scatterP Int.floor g c (obsOf t af)).1 g.nrow.toNat g.ncol.toNat
    ∧ ∀ i j, cellAt (scatterP Int.floor g c (obsOf t af)).1 i j
        = cellAt c i j ++ located (fun o : α × α × Option α => getCell Int.floor g o.1 o.2.1) (fun o => o.2.2) j i (obsOf t af) := by
  obtain ⟨c', hsc, h⟩ := scatter_spec Int.floor g _ _ (obsOf t af) c hR (obsOf_inGrid hg hin af)
  rw [scatterP_of_scatter Int.floor g _ c c' hsc]
  exact ⟨rfl, h⟩

/-- the cells of feature `af` after the passes of all the tracks of a collection -/
def growCells (floor : α → Int) (g : Grid α) (af : String) (ts : List (Trk α)) (c : Cells (Option α)) : Cells (Option α) :=
  ts.foldl (fun c t => (scatterP floor g c (obsOf t af)).1) c

theorem growCells_spec (g : Grid α) (hg : WF g) (af : String) : ∀ (ts : List (Trk α)) (c : Cells (Option α)),
    Rect c g.nrow.toNat g.ncol.toNat → (∀ t ∈ ts, InExtent g t) →
    Rect (growCells Int.floor g af ts c) g.nrow.toNat g.ncol.toNat
    ∧ ∀ i j, cellAt (growCells Int.floor g af ts c) i j
        = cellAt c i j ++ located (fun o : α × α × Option α => getCell Int.floor g o.1 o.2.1) (fun o => o.2.2) j i
            (ts.flatMap (fun t => obsOf t af)) := by
  intro ts
  induction ts with
  | nil => intro c hR _; exact ⟨hR, fun i j => (List.append_nil _).symm⟩
  | cons t rest ih =>
    intro c hR h
    obtain ⟨_, hR1, hc1⟩ := scatterP_track g hg t (h t List.mem_cons_self) af c hR
    obtain ⟨hR2, hc2⟩ := ih _ hR1 (fun t' ht' => h t' (List.mem_cons_of_mem _ ht'))
    exact ⟨hR2, fun i j => by
      rw [show growCells Int.floor g af (t :: rest) c = growCells Int.floor g af rest (scatterP Int.floor g c (obsOf t af)).1 from rfl,
        hc2 i j, hc1 i j, List.flatMap_cons, located_append, List.append_assoc]⟩

theorem addTracks_ok (g : Grid α) (hg : WF g) : ∀ (ts : List (Trk α)) (V : Vals α),
    (∀ e ∈ V, Rect e.2 g.nrow.toNat g.ncol.toNat ∧ ∀ t ∈ ts, (featVals t e.1).isSome = true) →
    (∀ t ∈ ts, InExtent g t) →
    addTracks Int.floor g ts V = (V.map (fun e => (e.1, growCells Int.floor g e.1 ts e.2)), none) := by
  intro ts
  induction ts with
  | nil => intro V _ _; exact congrArg (·, none) (List.map_id' V).symm
  | cons t rest ih =>
    intro V hV hin
    have hs := fun e he => scatterP_track g hg t (hin t List.mem_cons_self) e.1 e.2 (hV e he).1
    have hE : ∀ e ∈ V, growE Int.floor g t e = ((e.1, (scatterP Int.floor g e.2 (obsOf t e.1)).1), none) := fun e he => by
      rw [growE_eq _ _ _ e.1 e.2 ((hV e he).2 t List.mem_cons_self), (hs e he).1]
    rw [addTracks, addTrack_ok Int.floor g t V (fun e he => by rw [hE e he]),
      List.map_congr_left (fun e he => congrArg Prod.fst (hE e he))]
    simp only
    rw [ih _ ?_ (fun t' ht' => hin t' (List.mem_cons_of_mem _ ht')), List.map_map]; rfl
    intro e' he'
    obtain ⟨e, he, rfl⟩ := List.mem_map.1 he'
    exact ⟨(hs e he).2.1, fun t' ht' => (hV e he).2 t' (List.mem_cons_of_mem _ ht')⟩

/-- the entry of a feature after all the tracks of a collection -/
def growAll (floor : α → Int) (g : Grid α) (ts : List (Trk α)) (e : String × Cells (Option α)) : String × Cells (Option α) :=
  ts.foldl (fun e t => (growE floor g t e).1) e

omit [IsStrictOrderedRing α] [FloorRing α] in
/-- the key of the entry never moves; a track without the feature leaves the cells as the empty scatter does -/
theorem growAll_eq (floor : α → Int) (g : Grid α) (af : String) : ∀ (ts : List (Trk α)) (c : Cells (Option α)),
    growAll floor g ts (af, c) = (af, growCells floor g af ts c)
  | [], _ => rfl
  | t :: ts, c => by
    have h : (growE floor g t (af, c)).1 = (af, (scatterP floor g c (obsOf t af)).1) := by
      unfold growE obsOf; cases featVals t af <;> rfl
    rw [show growAll floor g (t :: ts) (af, c) = growAll floor g ts (growE floor g t (af, c)).1 from rfl, h, growAll_eq floor g af ts]
    rfl

/-- the values a collection leaves on the raster: per feature, the grid obtained from EMPTY cells — nothing of what
    the raster held before enters -/
def valsOf (g : Grid α) (afo : List String) (T : List (Trk α)) : Vals α :=
  afo.map (fun af => growAll Int.floor g T (af, emptyCells g.nrow.toNat g.ncol.toNat))

omit [IsStrictOrderedRing α] in
theorem valsOf_eq (g : Grid α) (afo : List String) (T : List (Trk α)) :
    valsOf g afo T = afo.map (fun af => (af, growCells Int.floor g af T (emptyCells g.nrow.toNat g.ncol.toNat))) :=
  List.map_congr_left fun af _ => growAll_eq Int.floor g af T _

theorem addTracks_valsOf (g : Grid α) (hg : WF g) (afo : List String) (T : List (Trk α))
    (hfeat : ∀ t ∈ T, ∀ af ∈ afo, (featVals t af).isSome = true) (hin : ∀ t ∈ T, InExtent g t) :
    addTracks Int.floor g T (afo.map (fun af => (af, emptyCells g.nrow.toNat g.ncol.toNat))) = (valsOf g afo T, none) := by
  rw [addTracks_ok g hg T _ ?_ hin]
  · rw [valsOf_eq, List.map_map]; rfl
  · intro e he
    obtain ⟨af, haf, rfl⟩ := List.mem_map.1 he
    exact ⟨rect_empty _ _, fun t ht => hfeat t ht af haf⟩

theorem addColl_ok (s : RState α) (hg : WF s.g) (afo : List String) (T : List (Trk α))
    (hperm : afo.isPerm (afsOf s.bands) = true)
    (hfeat : ∀ t ∈ T, ∀ af ∈ afo, (featVals t af).isSome = true) (hin : ∀ t ∈ T, InExtent s.g t) :
    addColl Int.floor s afo T = ({ s with values := some (valsOf s.g afo T) }, none) := by
  rw [addColl_eq Int.floor s afo T hperm hfeat, addTracks_valsOf s.g hg afo T hfeat hin]

theorem valsOf_spec (g : Grid α) (hg : WF g) (afo : List String) (T : List (Trk α)) (hin : ∀ t ∈ T, InExtent g t) (af : String) :
    (af ∉ afo → (valsOf g afo T).lookup af = none) ∧
    (af ∈ afo → ∃ c, (valsOf g afo T).lookup af = some c ∧ Rect c g.nrow.toNat g.ncol.toNat
      ∧ ∀ i j, cellAt c i j = located (fun o : α × α × Option α => getCell Int.floor g o.1 o.2.1) (fun o => o.2.2) j i
          (T.flatMap (fun t => obsOf t af))) := by
  rw [valsOf_eq]
  have hl := lookup_map_key (fun a => growCells Int.floor g a T (emptyCells g.nrow.toNat g.ncol.toNat)) afo af
  refine ⟨fun h => hl.trans (if_neg h), fun h => ⟨_, hl.trans (if_pos h), ?_⟩⟩
  obtain ⟨hR, hc⟩ := growCells_spec g hg af T _ (rect_empty _ _) hin
  exact ⟨hR, fun i j => by rw [hc i j, cellAt_empty, List.nil_append]⟩

def HasFeat (t : Trk α) (af : String) : Prop := ∃ vs, featVals t af = some vs ∧ vs.length = t.pts.length

omit [LinearOrder α] [IsStrictOrderedRing α] [FloorRing α] in
theorem HasFeat.isSome {t : Trk α} {af : String} (h : HasFeat t af) : (featVals t af).isSome = true := by
  obtain ⟨vs, hvs, _⟩ := h
  rw [hvs]; rfl

def _root_.TV.C19.insideB (g : Grid α) (o : α × α × Option α) : Bool :=
  decide ((g.xmin ≤ o.1 ∧ o.1 ≤ g.xmax) ∧ (g.ymin ≤ o.2.1 ∧ o.2.1 ≤ g.ymax))

section
omit [Field α] [IsStrictOrderedRing α] [FloorRing α]

theorem _root_.TV.C19.insideB_iff (g : Grid α) (o : α × α × Option α) : TV.C19.insideB g o = true ↔ Inside g o.1 o.2.1 := by
  unfold TV.C19.insideB Inside; exact decide_eq_true_iff

theorem first_outside_track (g : Grid α) (T : List (Trk α)) (hout : ∃ t ∈ T, ∃ p ∈ t.pts, ¬ Inside g p.1 p.2) :
    ∃ (Tpre : List (Trk α)) (t : Trk α) (Tpost : List (Trk α)), T = Tpre ++ t :: Tpost
      ∧ (∀ t' ∈ Tpre, InExtent g t') ∧ ∃ p ∈ t.pts, ¬ Inside g p.1 p.2 := by
  let q : Trk α → Bool := fun t => t.pts.all (fun p => decide ((g.xmin ≤ p.1 ∧ p.1 ≤ g.xmax) ∧ (g.ymin ≤ p.2 ∧ p.2 ≤ g.ymax)))
  have hq : ∀ t, q t = true ↔ InExtent g t := fun t => by
    simp only [q, List.all_eq_true, decide_eq_true_eq, InExtent]
  have hqf : ∀ t, q t = false ↔ ∃ p ∈ t.pts, ¬ Inside g p.1 p.2 := fun t => by
    simp only [q, List.all_eq_false, decide_eq_true_eq, Inside]
  obtain ⟨t, Tpost, hsplit, hfalse⟩ := split_first_outside q T (hout.imp fun t h => ⟨h.1, (hqf t).2 h.2⟩)
  exact ⟨T.takeWhile q, t, Tpost, hsplit, fun t' ht' => (hq t').1 (takeWhile_all q T t' ht'), (hqf t).1 hfalse⟩

end

theorem scatterP_stops {W : Type} (g : Grid α) (hg : WF g) (pre post : List (α × α × W)) (o : α × α × W)
    (c : Cells W) (hR : Rect c g.nrow.toNat g.ncol.toNat)
    (hpre : ∀ p ∈ pre, Inside g p.1 p.2.1) (ho : ¬ Inside g o.1 o.2.1) :
    ∃ c' : Cells W, scatterP Int.floor g c (pre ++ o :: post) = (c', some .type)
      ∧ scatter Int.floor g c pre = some c' ∧ Rect c' g.nrow.toNat g.ncol.toNat
      ∧ ∀ i j, cellAt c' i j = cellAt c i j
          ++ located (fun p : α × α × W => getCell Int.floor g p.1 p.2.1) (fun p => p.2.2) j i pre := by
  obtain ⟨c', hsc, hR', hcells⟩ := scatter_spec Int.floor g _ _ pre c hR
    (fun p hp => getCell_inGrid hg p (hpre p hp).1 (hpre p hp).2)
  refine ⟨c', ?_, hsc, hR', hcells⟩
  rw [scatterP_append_of_scatter Int.floor g (o :: post) pre c c' hsc]
  obtain ⟨x, y, v⟩ := o
  simp only [scatterP, getCell_outside g x y ho]

omit [IsStrictOrderedRing α] in
theorem valsOf_keys (g : Grid α) (afo : List String) (T : List (Trk α)) : (valsOf g afo T).map (·.1) = afo := by
  rw [valsOf_eq, List.map_map]
  exact List.map_id' afo

theorem growE_stops (g : Grid α) (hg : WF g) (t : Trk α) (af : String) (c : Cells (Option α))
    (hR : Rect c g.nrow.toNat g.ncol.toNat) (hf : HasFeat t af) (hout : ∃ p ∈ t.pts, ¬ Inside g p.1 p.2) :
    ∃ c', growE Int.floor g t (af, c) = ((af, c'), some .type) ∧ Rect c' g.nrow.toNat g.ncol.toNat
      ∧ ∀ i j, cellAt c' i j = cellAt c i j
          ++ located (fun o : α × α × Option α => getCell Int.floor g o.1 o.2.1) (fun o => o.2.2) j i
              ((obsOf t af).takeWhile (TV.C19.insideB g)) := by
  obtain ⟨vs, hvs, hl⟩ := hf
  obtain ⟨o, post, hsplit, hofalse⟩ := split_first_outside (TV.C19.insideB g) (obsOf t af) (by
    obtain ⟨p, hp, hpo⟩ := hout
    rw [← obsOf_points t af vs hvs hl] at hp
    obtain ⟨o, ho, rfl⟩ := List.mem_map.1 hp
    exact ⟨o, ho, by rw [← Bool.not_eq_true, TV.C19.insideB_iff]; exact hpo⟩)
  obtain ⟨c', hstop, _, hR', hc'⟩ := scatterP_stops g hg ((obsOf t af).takeWhile (TV.C19.insideB g)) post o c hR
    (fun p hp => (TV.C19.insideB_iff g p).1 (takeWhile_all _ _ p hp))
    (fun h => Bool.false_ne_true (hofalse.symm.trans ((TV.C19.insideB_iff g o).2 h)))
  rw [← hsplit] at hstop
  exact ⟨c', by rw [growE_eq _ _ _ _ _ (hvs ▸ rfl), hstop], hR', hc'⟩

/-- The loop over the tracks when `t` is the first track with an observation outside the extent (`Tpre` inside it, every
    track having every feature, `a0` the first feature of the dictionary). It raises `TypeError` in the pass of `a0` on `t`: the
    grid of `a0` has received all of `Tpre` and the observations of `t` before its first one outside, the other grids `Tpre` only;
    nothing of `Tpost` is reached. -/
theorem addTracks_partial (g : Grid α) (hg : WF g) (a0 : String) (arest : List String) (Tpre Tpost : List (Trk α)) (t : Trk α)
    (hfeat : ∀ t' ∈ Tpre ++ t :: Tpost, ∀ af ∈ a0 :: arest, HasFeat t' af)
    (hpre : ∀ t' ∈ Tpre, InExtent g t') (hout : ∃ p ∈ t.pts, ¬ Inside g p.1 p.2) :
    ∃ c' : Cells (Option α), Rect c' g.nrow.toNat g.ncol.toNat
      ∧ (∀ i j, cellAt c' i j = located (fun o : α × α × Option α => getCell Int.floor g o.1 o.2.1) (fun o => o.2.2) j i
          (Tpre.flatMap (fun t' => obsOf t' a0) ++ (obsOf t a0).takeWhile (TV.C19.insideB g)))
      ∧ addTracks Int.floor g (Tpre ++ t :: Tpost) ((a0 :: arest).map (fun af => (af, emptyCells g.nrow.toNat g.ncol.toNat)))
          = ((a0, c') :: valsOf g arest Tpre, some .type) := by
  have hsome : ∀ t' ∈ Tpre, ∀ af ∈ a0 :: arest, (featVals t' af).isSome = true := fun t' ht' af haf =>
    (hfeat t' (List.mem_append_left _ ht') af haf).isSome
  obtain ⟨hR0, hc0⟩ := growCells_spec g hg a0 Tpre _ (rect_empty _ _) hpre
  obtain ⟨c', hgrow, hR', hc'⟩ := growE_stops g hg t a0 _ hR0
    (hfeat t (List.mem_append_right _ List.mem_cons_self) a0 List.mem_cons_self) hout
  refine ⟨c', hR', fun i j => ?_, ?_⟩
  · rw [hc' i j, hc0 i j, cellAt_empty, List.nil_append, located_append]
  · rw [addTracks_append Int.floor g (t :: Tpost) Tpre _ _ (addTracks_valsOf g hg (a0 :: arest) Tpre hsome hpre)]
    simp only [valsOf_eq, List.map_cons, addTracks, addTrack, hgrow]

/-- the state reached by any sequence of calls `pre` on a new raster, then a well-formed `addCollectionToRaster` -/
def afterAdd (g : Grid α) (nd : Option α) (pre : List (Cmd α)) (afo : List String) (T : List (Trk α)) : RState α :=
  { (run Int.floor (initState g nd) pre).1 with values := some (valsOf g afo T) }

theorem session_core (g : Grid α) (hg : WF g) (nd : Option α) (pre post : List (Cmd α)) (afo : List String) (T : List (Trk α))
    (hpost : ∀ c ∈ post, c.isAdd = false)
    (hperm : afo.isPerm (afsOf (run Int.floor (initState g nd) pre).1.bands) = true)
    (hfeat : ∀ t ∈ T, ∀ af ∈ afo, (featVals t af).isSome = true) (hin : ∀ t ∈ T, InExtent g t)
    (hbands : ∀ b ∈ (run Int.floor (afterAdd g nd pre afo T) post).1.bands,
        ∃ af opn rest, b.name = af :: opn :: rest ∧ af ∈ afo ∧ (opOf opn).isSome = true) :
    run Int.floor (initState g nd) (pre ++ [.add afo T] ++ post ++ [.compute])
      = ({ (run Int.floor (afterAdd g nd pre afo T) post).1 with
            bands := (run Int.floor (afterAdd g nd pre afo T) post).1.bands.map
              (fun b => (computeBand (run Int.floor (afterAdd g nd pre afo T) post).1.noData (some (valsOf g afo T)) b).1) },
         (run Int.floor (initState g nd) pre).2 ++ [none] ++ (run Int.floor (afterAdd g nd pre afo T) post).2 ++ [none]) := by
  have hg1 : (run Int.floor (initState g nd) pre).1.g = g := run_g _ _ _
  have hadd : run Int.floor (initState g nd) (pre ++ [.add afo T])
      = (afterAdd g nd pre afo T, (run Int.floor (initState g nd) pre).2 ++ [none]) := by
    rw [run_append, run_cons, run_nil, step, addColl_ok _ (hg1.symm ▸ hg) afo T hperm hfeat (hg1.symm ▸ hin)]
    simp only [afterAdd, hg1]
  rw [List.append_assoc (pre ++ _), run_append, hadd,
    run_post_compute Int.floor (afterAdd g nd pre afo T) (valsOf g afo T) rfl post hpost
      (computed_bands _ _ afo _ (fun af haf => (valsOf_spec g hg afo T hin af).2 haf) _ hbands).1]
  simp only [List.append_assoc]

end field

section keep
variable {α : Type} [Field α] [LinearOrder α] [IsStrictOrderedRing α] [FloorRing α]

theorem run_setNoData_last (floor : α → Int) (cmds : List (Cmd α)) (s : RState α) (v : Option α) :
    (run floor s (cmds ++ [.setNoData v])).1.noData = v := by
  rw [run_append]; rfl

end keep
end TV.Raster
