import TracklibVerif.Lemmas.GraphAStar
/-! Several `Network` objects alive at the same time (`World`, `Model/GraphAStar.lean`): the routing settings are
attributes of the instance, so what an object answers depends on the calls addressed to *it* only. -/
namespace TV.Graph
section
variable {W : Type} [LT W] [DecidableLT W] [Add W] [Sub W] [Mul W] [OfNat W 0]

/-- an object whose own `routing_mode` is not 1 (never set, or set to Dijkstra) answers every call as the session
model of `Model/GraphSession.lean` does — whatever its `astar_wgt` and whatever other objects were told -/
theorem execObj_dijkstra (sqrt : W → W) (o : NetObj W) (hm : o.mode ≠ 1) (op : Op W) :
    execObj sqrt o (.call op) = ({ o with sess := (exec o.sess op).1 }, (exec o.sess op).2) := by
  cases op with
  | route s t cut ud => cases t <;> simp [execObj, hm]
  | dist s t cut ud => simp [execObj, hm]
  | _ => rfl

/-- in any routing mode, a call that is not a search with a target never computes the heuristic -/
theorem execObj_no_target (sqrt : W → W) (o : NetObj W) (op : Op W)
    (h1 : ∀ s t cut ud, op ≠ .route s (some t) cut ud) (h2 : ∀ s t cut ud, op ≠ .dist s t cut ud) :
    execObj sqrt o (.call op) = ({ o with sess := (exec o.sess op).1 }, (exec o.sess op).2) := by
  cases op with
  | route s t cut ud =>
    cases t with
    | none => rfl
    | some t => exact absurd rfl (h1 s t cut ud)
  | dist s t cut ud => exact absurd rfl (h2 s t cut ud)
  | _ => rfl
end

section
variable {W : Type} [LT W] [DecidableLT W] [Add W] [Sub W] [Mul W] [OfNat W 0] [OfNat W 1]

theorem execWorld_on (sqrt : W → W) (w : World W) {k : Nat} {o : NetObj W} (hk : w[k]? = some o) (op : WOp W) :
    execWorld sqrt w (.on k op) = (w.set k (execObj sqrt o op).1, (execObj sqrt o op).2) := by
  simp only [execWorld, hk]

/-- projection: in any program over any number of `Network` objects, object `k` ends in the state, and has given the
answers, of the calls addressed to it run on it alone -/
theorem world_projection (sqrt : W → W) (w : World W) (ops : List (WorldOp W)) (k : Nat) (o : NetObj W)
    (hk : w[k]? = some o) :
    (worldAfter sqrt w ops)[k]? = some (objAfter sqrt o (opsOn k ops)) ∧
    answersOn k ops (runWorld sqrt w ops) = runObj sqrt o (opsOn k ops) := by
  induction ops generalizing w o with
  | nil => exact ⟨hk, rfl⟩
  | cons op rest ih =>
    have hlen : k < w.length := (List.getElem?_eq_some_iff.mp hk).1
    show (worldAfter sqrt (execWorld sqrt w op).1 rest)[k]? = _ ∧
      answersOn k (op :: rest) ((execWorld sqrt w op).2 :: runWorld sqrt (execWorld sqrt w op).1 rest) = _
    cases op with
    | create n pos => exact ih (w ++ [NetObj.new n pos]) o (by rw [List.getElem?_append_left hlen]; exact hk)
    | on j wop =>
      by_cases hjk : j = k
      · subst hjk
        obtain ⟨h1, h2⟩ := ih (w.set j (execObj sqrt o wop).1) (execObj sqrt o wop).1 (List.getElem?_set_self hlen)
        rw [execWorld_on sqrt w hk]
        simp only [opsOn, answersOn, if_true]
        exact ⟨h1, congrArg _ h2⟩
      · obtain ⟨w', a, e, hk'⟩ : ∃ w' a, execWorld sqrt w (.on j wop) = (w', a) ∧ w'[k]? = some o := by
          cases hj : w[j]? with
          | none => exact ⟨w, .err, by simp only [execWorld, hj], hk⟩
          | some oj =>
            exact ⟨_, _, execWorld_on sqrt w hj wop, by rw [List.getElem?_set_ne hjk]; exact hk⟩
        rw [e]
        simp only [opsOn, answersOn, hjk, if_false]
        exact ih w' o hk'

theorem execObj_setters (sqrt : W → W) (o : NetObj W) (m : Nat) (x : W) :
    execObj sqrt o (.setMethod m) = ({ o with mode := m }, .unit) ∧
    execObj sqrt o (.setWeight x) = ({ o with wgt := x }, .unit) := ⟨rfl, rfl⟩
end

section
variable {W : Type} [LinearOrder W] [Add W] [Zero W] [WalkAdd W] [Sub W] [Mul W] [OfNat W 1]

/-- A* mode with a heuristic that is 0 everywhere (`astar_wgt = 0`, or all nodes at the target's position): the search
with a target is the Dijkstra search of the session model -/
theorem execObj_astar_zero (hadd : ∀ a : W, a + 0 = a) (sqrt : W → W) (o : NetObj W) (s t : Nat) (cut : Option W) (ud : Bool)
    (hz : ∀ v, o.h sqrt (some t) v = 0) :
    execObj sqrt o (.call (.dist s t cut ud)) =
      ({ o with sess := (exec o.sess (.dist s t cut ud)).1 }, (exec o.sess (.dist s t cut ud)).2) := by
  by_cases hm : o.mode = 1
  · obtain ⟨σ, ps, md, wg⟩ := o
    simp only at hm
    subst hm
    simp only [execObj, if_true, exec, routeOnH, routeOn, forwardH_zero hadd _ _ hz]
    split <;> rfl
  · exact execObj_dijkstra sqrt o hm _

theorem heuristicOf_zero_weight (sqrt : W → W) (pos : Nat → Pos W) (mode : Nat) (wgt : W) (hw : ∀ x : W, wgt * x = 0)
    (t : Option Nat) (v : Nat) : heuristicOf sqrt pos mode wgt t v = 0 := by
  unfold heuristicOf
  cases t with
  | none => rfl
  | some t =>
    simp only []
    split
    · exact hw _
    · rfl
end
end TV.Graph
