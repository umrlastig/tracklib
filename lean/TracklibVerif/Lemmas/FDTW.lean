import TracklibVerif.Lemmas.DTWTable
import TracklibVerif.Lemmas.Common.Assoc
import Mathlib.Data.List.Nodup
import Mathlib.Data.List.ProdSigma
/-! `_fdtw` (best-first search on the coupling lattice). One invariant of the search (`FInv`), with a parameter `P v c` that says what
the cost cell `c` of a visited node `v` is, serves two results. **For any accumulation** — no monotonicity, no inflation, nothing asked
of the point distances, only `big` (the 1e300 placeholder priority of `_update_node`) above the accumulated cost of every partial coupling,
so that the first candidate cost of a node is always recorded together with its antecedent — `_fdtw` returns a coupling whose accumulated
cost is the reported score (`fdtw_struct`: `P v c` = "`c` is the cost of a coupling ending at `v`"). For an accumulation that is monotone
and inflationary the score is the table value of `_dtw` (`fdtw_spec`: `P v c` = "`c` is the table value at `v`", kept at each pop by
Dijkstra's argument). -/
namespace TV.DTW

section maps
variable {β : Type}

theorem get?_put (m : NodeMap β) (k k' : Nat × Nat) (v : β) :
    (m.put k v).get? k' = if k' = k then some v else m.get? k' := by
  unfold NodeMap.put NodeMap.get?
  by_cases h : k' = k
  · subst h; simp
  · have : (k == k') = false := by simp [Ne.symm h]
    simp only [List.find?_cons, this, h, if_false]
    rw [Common.find?_key_filter_ne Prod.fst m k k', if_neg h]

theorem get?_erase (m : NodeMap β) (k k' : Nat × Nat) :
    (NodeMap.get? (m.filter (fun e => !(e.1 == k))) k') = if k' = k then none else m.get? k' :=
  Common.assoc_filter m k k'

theorem get?_of_mem (m : NodeMap β) (hn : (m.map (·.1)).Nodup) (k : Nat × Nat) (v : β) (h : (k, v) ∈ m) :
    m.get? k = some v :=
  congrArg (Option.map Prod.snd) (Common.find?_of_nodup Prod.fst m hn (k, v) h)

theorem mem_of_get? (m : NodeMap β) (k : Nat × Nat) (v : β) (h : m.get? k = some v) : (k, v) ∈ m :=
  Common.assoc_mem h

theorem keys_put (m : NodeMap β) (hn : (m.map (·.1)).Nodup) (k : Nat × Nat) (v : β) :
    ((m.put k v).map (·.1)).Nodup := by
  unfold NodeMap.put
  simp only [List.map_cons, List.nodup_cons, List.mem_map, List.mem_filter]
  constructor
  · rintro ⟨e, ⟨_, he⟩, hk⟩; simp [hk] at he
  · exact (hn.sublist (List.Sublist.map _ List.filter_sublist))

theorem keys_erase (m : NodeMap β) (hn : (m.map (·.1)).Nodup) (k : Nat × Nat) :
    ((m.filter (fun e => !(e.1 == k))).map (·.1)).Nodup :=
  hn.sublist (List.Sublist.map _ List.filter_sublist)

end maps

section pop
variable {α : Type} [LinearOrder α]

theorem popSmallest_none (m : NodeMap α) : popSmallest m = none ↔ m = [] := by
  fun_cases popSmallest m <;> simp

theorem popSmallest_spec (m : NodeMap α) : ∀ e, popSmallest m = some e → e ∈ m ∧ ∀ e' ∈ m, e.2 ≤ e'.2 := by
  fun_induction popSmallest m with
  | case1 => nofun
  | case2 x xs hb =>
    rintro _ ⟨⟩
    cases (popSmallest_none xs).mp hb
    simp
  | case3 x xs b hb better hbetter ih =>
    rintro _ ⟨⟩
    have hle : x.2 ≤ b.2 := hbetter.elim le_of_lt fun h => not_lt.mp h.1
    exact ⟨List.mem_cons_self, List.forall_mem_cons.mpr ⟨le_rfl, fun e' he' => hle.trans ((ih b hb).2 e' he')⟩⟩
  | case4 x xs b hb better hbetter ih =>
    rintro _ ⟨⟩
    have hle : b.2 ≤ x.2 := not_lt.mp fun h => hbetter (Or.inl h)
    exact ⟨List.mem_cons_of_mem _ (ih b hb).1, List.forall_mem_cons.mpr ⟨hle, (ih b hb).2⟩⟩

end pop
section lattice
variable {α : Type} [LinearOrder α]

/-- a node `(i, j)` of the lattice of `_fdtw`: `i` runs over `track2` (`n2`), `j` over `track1` (`n1`), as in the code -/
def Inb (n1 n2 : Nat) (x : Nat × Nat) : Prop := x.1 < n2 ∧ x.2 < n1

theorem T_le_step (w : α → α → α) (z : α) (D : Nat → Nat → α) (hw : ∀ a b d, a ≤ b → w a d ≤ w b d)
    (y v : Nat × Nat) (h : IsStep y v) : T w z D y.1 y.2 ≤ w (T w z D v.1 v.2) (D y.1 y.2) :=
  T_le w z D hw _ _ _ (coupling_step h (T_coupling w z D (v.1 + v.2) v.1 v.2 rfl))

/-- from an unvisited cell, walking back along the designated predecessors reaches the frontier: an unvisited cell whose
predecessor is visited; a property `Q` that the walk preserves holds there -/
theorem exists_frontier (w : α → α → α) (z : α) (D : Nat → Nat → α) (n1 n2 : Nat) (V : List (Nat × Nat)) (h0 : (0, 0) ∈ V)
    (Q : Nat × Nat → Prop) (hQ : ∀ y, Inb n1 n2 y → (0 < y.1 ∨ 0 < y.2) → Q y → Q (pred w z D y.1 y.2)) :
    ∀ x : Nat × Nat, Inb n1 n2 x → x ∉ V → Q x →
      ∃ y, y ∉ V ∧ Inb n1 n2 y ∧ (0 < y.1 ∨ 0 < y.2) ∧ pred w z D y.1 y.2 ∈ V ∧ Q y := by
  intro x
  induction hn : x.1 + x.2 using Nat.strongRecOn generalizing x with
  | _ n ih =>
    intro hx hxV hqx
    obtain ⟨i, j⟩ := x
    have hpos : 0 < i ∨ 0 < j := by
      by_cases h : 0 < i ∨ 0 < j
      · exact h
      · have hi : i = 0 := by omega
        have hj : j = 0 := by omega
        subst hi; subst hj; exact absurd h0 hxV
    by_cases hp : pred w z D i j ∈ V
    · exact ⟨(i, j), hxV, hx, hpos, hp, hqx⟩
    · have hle := pred_le w z D i j
      have hpin : Inb n1 n2 (pred w z D i j) := by
        unfold Inb at hx ⊢; simp only at hx; omega
      exact ih _ (by have := hle.2.2 hpos; simp only at hn; omega) (pred w z D i j) rfl hpin hp (hQ (i, j) hx hpos hqx)

end lattice

section inv
variable {α : Type} [OfNat α 0]

/-- `T[v]` as `_fdtw` reads it: `T = np.zeros(...)`, so a cell nothing was written to is 0 -/
def NodeMap.cell (m : NodeMap α) (v : Nat × Nat) : α := (m.get? v).getD 0

theorem cell_put (m : NodeMap α) (k v : Nat × Nat) (c : α) : (m.put k c).cell v = if v = k then c else m.cell v := by
  unfold NodeMap.cell
  rw [get?_put]
  split <;> rfl

variable [LinearOrder α]

/-- the invariant of `_fdtw`. `P v c`: what is known of the cost cell `c` of a visited node `v`. `R v y`: the edge `v → y` out of a
visited node has not been relaxed yet. A frontier node holds in `F` and `T` the candidate cost through its antecedent `A`, and that is
not above the candidate cost through any visited neighbour whose edge has been relaxed (`edge`: this is `_update_node`'s test, it needs
nothing of `w`). -/
structure FInv (w : α → α → α) (z : α) (D : Nat → Nat → α) (n1 n2 : Nat) (P : Nat × Nat → α → Prop)
    (R : Nat × Nat → Nat × Nat → Prop) (st : FState α) : Prop where
  origin : (0, 0) ∈ st.V
  vis : ∀ v ∈ st.V, Inb n1 n2 v ∧ P v (st.T.cell v)
  fr : ∀ y c, st.F.get? y = some c → Inb n1 n2 y ∧ y ∉ st.V ∧ st.T.cell y = c ∧
        ∃ v ∈ st.V, IsStep y v ∧ st.A.get? y = some v ∧ c = w (st.T.cell v) (D y.1 y.2)
  edge : ∀ v ∈ st.V, ∀ y, Inb n1 n2 y → IsStep y v →
        R v y ∨ y ∈ st.V ∨ ∃ c, st.F.get? y = some c ∧ c ≤ w (st.T.cell v) (D y.1 y.2)
  back : ∀ y ∈ st.V, y ≠ (0, 0) → ∃ v ∈ st.V, IsStep y v ∧ st.A.get? y = some v ∧
        st.T.cell y = w (st.T.cell v) (D y.1 y.2)
  t00 : st.T.cell (0, 0) = w z (D 0 0)
  nodupV : st.V.Nodup
  nodupF : (st.F.map (·.1)).Nodup

variable {w : α → α → α} {z : α} {D : Nat → Nat → α} {n1 n2 : Nat} {P : Nat × Nat → α → Prop}

theorem FInv.weaken {R R' : Nat × Nat → Nat × Nat → Prop} {st : FState α} (h : FInv w z D n1 n2 P R st)
    (hR : ∀ v ∈ st.V, ∀ y, Inb n1 n2 y → IsStep y v → R v y → R' v y) : FInv w z D n1 n2 P R' st :=
  { h with edge := fun v hv y hy hs => (h.edge v hv y hy hs).imp_left (hR v hv y hy hs) }

theorem FInv.mark {R : Nat × Nat → Nat × Nat → Prop} {st : FState α} (h : FInv w z D n1 n2 P R st) (x y : Nat × Nat)
    (hy : y ∈ st.V ∨ ∃ c, st.F.get? y = some c ∧ c ≤ w (st.T.cell x) (D y.1 y.2)) :
    FInv w z D n1 n2 P (fun v' y' => R v' y' ∧ ¬ (v' = x ∧ y' = y)) st := by
  refine { h with edge := fun v' hv' y' hy' hs' => ?_ }
  rcases h.edge v' hv' y' hy' hs' with h1 | h1
  · by_cases he : v' = x ∧ y' = y
    · exact Or.inr (he.1 ▸ he.2 ▸ hy)
    · exact Or.inl ⟨h1, he⟩
  · exact Or.inr h1

/-- the state after `F[y] = c; A[y] = x; T[y] = c` for an unvisited `y`, `c = w(T[x], D[y])` not above the old priority; `F1` is `F`, or `F`
with the placeholder priority entered for `y` -/
theorem FInv.put {R : Nat × Nat → Nat × Nat → Prop} {st : FState α} (h : FInv w z D n1 n2 P R st)
    (x y : Nat × Nat) (hx : x ∈ st.V) (hy : Inb n1 n2 y) (hs : IsStep y x) (hyV : y ∉ st.V)
    (F1 : NodeMap α) (hn : (F1.map (·.1)).Nodup) (hF1 : ∀ k, k ≠ y → F1.get? k = st.F.get? k)
    (hle : ∀ c0, st.F.get? y = some c0 → w (st.T.cell x) (D y.1 y.2) ≤ c0) :
    FInv w z D n1 n2 P (fun v' y' => R v' y' ∧ ¬ (v' = x ∧ y' = y))
      { st with F := F1.put y (w (st.T.cell x) (D y.1 y.2)), A := st.A.put y x,
                T := st.T.put y (w (st.T.cell x) (D y.1 y.2)) } := by
  have hTv : ∀ v ∈ st.V, (st.T.put y (w (st.T.cell x) (D y.1 y.2))).cell v = st.T.cell v := fun v hv => by
    rw [cell_put, if_neg fun e : v = y => hyV (e ▸ hv)]
  have hAv : ∀ v ∈ st.V, (st.A.put y x).get? v = st.A.get? v := fun v hv => by
    rw [get?_put, if_neg fun e : v = y => hyV (e ▸ hv)]
  have hF : ∀ k, (F1.put y (w (st.T.cell x) (D y.1 y.2))).get? k
      = if k = y then some (w (st.T.cell x) (D y.1 y.2)) else st.F.get? k := fun k => by
    rw [get?_put]
    split
    · rfl
    · next hk => exact hF1 k hk
  have hFy := (hF y).trans (if_pos rfl)
  refine { origin := h.origin, vis := ?_, fr := ?_, edge := ?_, back := ?_, t00 := ?_,
           nodupV := h.nodupV, nodupF := keys_put _ hn _ _ }
  all_goals dsimp only
  · intro v' hv'
    rw [hTv v' hv']
    exact h.vis v' hv'
  · intro y' c' hc'
    rw [hF] at hc'
    by_cases hyy : y' = y
    · subst hyy
      simp only [if_true, Option.some.injEq] at hc'
      subst hc'
      refine ⟨hy, hyV, ?_, x, hx, hs, ?_, ?_⟩
      · rw [cell_put, if_pos rfl]
      · rw [get?_put]; simp
      · rw [hTv x hx]
    · simp only [hyy, if_false] at hc'
      obtain ⟨a1, a2, a3, v0, a4, a5, a6, a7⟩ := h.fr y' c' hc'
      refine ⟨a1, a2, ?_, v0, a4, a5, ?_, ?_⟩
      · rw [cell_put, if_neg hyy]; exact a3
      · rw [get?_put]; simp only [hyy, if_false]; exact a6
      · rw [hTv v0 a4]; exact a7
  · intro v' hv' y' hy' hs'
    rw [hTv v' hv']
    rcases h.edge v' hv' y' hy' hs' with h1 | h1 | ⟨c0, h1, h3⟩
    · by_cases he : v' = x ∧ y' = y
      · obtain ⟨e1, e2⟩ := he
        subst e1; subst e2
        exact Or.inr (Or.inr ⟨_, hFy, le_rfl⟩)
      · exact Or.inl ⟨h1, he⟩
    · exact Or.inr (Or.inl h1)
    · by_cases hyy : y' = y
      · subst hyy
        exact Or.inr (Or.inr ⟨_, hFy, le_trans (hle c0 h1) h3⟩)
      · refine Or.inr (Or.inr ⟨c0, ?_, h3⟩)
        rw [hF]; simp only [hyy, if_false]; exact h1
  · intro y' hy' hne0
    obtain ⟨v0, a1, a2, a3, a4⟩ := h.back y' hy' hne0
    exact ⟨v0, a1, a2, (hAv y' hy').trans a3, by rw [hTv y' hy', hTv v0 a1]; exact a4⟩
  · rw [hTv (0, 0) h.origin]; exact h.t00

theorem updateNode_inv {R : Nat × Nat → Nat × Nat → Prop} {st : FState α} (big : α) (h : FInv w z D n1 n2 P R st)
    (x y : Nat × Nat) (hx : x ∈ st.V) (hy : Inb n1 n2 y) (hs : IsStep y x)
    (hbig : w (st.T.cell x) (D y.1 y.2) < big) :
    FInv w z D n1 n2 P (fun v' y' => R v' y' ∧ ¬ (v' = x ∧ y' = y)) (updateNode big st y (w (st.T.cell x) (D y.1 y.2)) x) ∧
    (updateNode big st y (w (st.T.cell x) (D y.1 y.2)) x).V = st.V ∧
    (updateNode big st y (w (st.T.cell x) (D y.1 y.2)) x).T.cell x = st.T.cell x := by
  unfold updateNode
  by_cases hyV : y ∈ st.V
  · have : st.V.contains y = true := by simpa using hyV
    simp only [this, if_true]
    exact ⟨h.mark x y (Or.inl hyV), trivial, trivial⟩
  · have hc : st.V.contains y = false := by simpa using hyV
    have hxy : x ≠ y := fun e => hyV (e ▸ hx)
    simp only [hc, Bool.false_eq_true, if_false]
    cases hF : st.F.get? y with
    | none =>
      simp only [Option.getD_none, Option.isSome_none, Bool.false_eq_true, if_false, hbig, if_true]
      refine ⟨h.put x y hx hy hs hyV _ (keys_put _ h.nodupF _ _) (fun k hk => by rw [get?_put, if_neg hk]) ?_, trivial, ?_⟩
      · intro c0 h0; rw [hF] at h0; cases h0
      · rw [cell_put, if_neg hxy]
    | some cur =>
      simp only [Option.getD_some, Option.isSome_some, if_true]
      by_cases hlt : w (st.T.cell x) (D y.1 y.2) < cur
      · simp only [hlt, if_true]
        refine ⟨h.put x y hx hy hs hyV _ h.nodupF (fun _ _ => rfl) ?_, trivial, ?_⟩
        · intro c0 h0; rw [hF] at h0; cases h0; exact le_of_lt hlt
        · rw [cell_put, if_neg hxy]
      · simp only [hlt, if_false]
        exact ⟨h.mark x y (Or.inr ⟨cur, hF, not_lt.mp hlt⟩), trivial, trivial⟩

theorem pop_inv {st : FState α} (h : FInv w z D n1 n2 P (fun _ _ => False) st) (x : Nat × Nat) (c : α)
    (hget : st.F.get? x = some c) (hP : P x c) :
    x ∉ st.V ∧ FInv w z D n1 n2 P (fun v _ => v = x) { st with F := st.F.filter (fun e => !(e.1 == x)), V := x :: st.V } := by
  obtain ⟨hxin, hxV, hxT, v, hvV, hvs, hvA, hvc⟩ := h.fr x c hget
  refine ⟨hxV, ?_⟩
  refine { origin := List.mem_cons_of_mem _ h.origin, vis := ?_, fr := ?_, edge := ?_, back := ?_, t00 := h.t00,
           nodupV := List.nodup_cons.mpr ⟨hxV, h.nodupV⟩, nodupF := keys_erase _ h.nodupF _ }
  · intro v' hv'
    rcases List.mem_cons.mp hv' with e | hv'
    · subst e; exact ⟨hxin, hxT ▸ hP⟩
    · exact h.vis v' hv'
  · intro y' c' hc'
    simp only [get?_erase] at hc'
    by_cases hyx : y' = x
    · simp [hyx] at hc'
    · simp only [hyx, if_false] at hc'
      obtain ⟨b1, b2, b3, v0, b4, b5, b6, b7⟩ := h.fr y' c' hc'
      refine ⟨b1, ?_, b3, v0, List.mem_cons_of_mem _ b4, b5, b6, b7⟩
      intro hm
      rcases List.mem_cons.mp hm with e | hm
      · exact hyx e
      · exact b2 hm
  · intro v' hv' y' hy' hs'
    rcases List.mem_cons.mp hv' with e | hv'
    · exact Or.inl e
    · rcases h.edge v' hv' y' hy' hs' with h1 | h1 | ⟨c0, h1, h2⟩
      · exact absurd h1 id
      · exact Or.inr (Or.inl (List.mem_cons_of_mem _ h1))
      · by_cases hyx : y' = x
        · exact Or.inr (Or.inl (hyx ▸ List.mem_cons_self))
        · refine Or.inr (Or.inr ⟨c0, ?_, h2⟩)
          simp only [get?_erase, hyx, if_false]; exact h1
  · intro y' hy' hne0
    rcases List.mem_cons.mp hy' with e | hy'
    · subst e
      exact ⟨v, List.mem_cons_of_mem _ hvV, hvs, hvA, hxT.trans hvc⟩
    · obtain ⟨v0, b1, b2, b3, b4⟩ := h.back y' hy' hne0
      exact ⟨v0, List.mem_cons_of_mem _ b1, b2, b3, b4⟩

theorem relax_inv {R : Nat × Nat → Nat × Nat → Prop} {st : FState α} (big : α) (Dopt : Nat → Nat → Option α)
    (hD : ∀ i j, i < n2 → j < n1 → Dopt i j = some (D i j))
    (hbig : ∀ v y tv, Inb n1 n2 y → IsStep y v → P v tv → w tv (D y.1 y.2) < big)
    (h : FInv w z D n1 n2 P R st) (x y : Nat × Nat) (tx : α) (hx : x ∈ st.V) (htx : st.T.cell x = tx) (cond : Bool)
    (hc : cond = true → Inb n1 n2 y ∧ IsStep y x) :
    ∃ st', relax big w Dopt x tx cond y st = some st' ∧ st'.V = st.V ∧ st'.T.cell x = tx ∧
      FInv w z D n1 n2 P (fun v' y' => R v' y' ∧ ¬ (cond = true ∧ v' = x ∧ y' = y)) st' := by
  subst htx
  unfold relax
  cases cond with
  | false =>
    refine ⟨st, by simp, rfl, rfl, h.weaken ?_⟩
    intro v _ y' _ _ hr
    exact ⟨hr, by simp⟩
  | true =>
    obtain ⟨hy, hs⟩ := hc rfl
    simp only [if_true, hD y.1 y.2 hy.1 hy.2, Option.map_some]
    obtain ⟨hi, hv, ht⟩ := updateNode_inv big h x y hx hy hs (hbig x y _ hy hs (h.vis x hx).2)
    refine ⟨_, rfl, hv, ht, hi.weaken ?_⟩
    intro v _ y' _ _ hr
    exact ⟨hr.1, fun hh => hr.2 ⟨hh.2.1, hh.2.2⟩⟩

end inv
section loop
variable {α : Type} [LinearOrder α] [OfNat α 0]

theorem length_le_of_inb (n1 n2 : Nat) (V : List (Nat × Nat)) (hn : V.Nodup) (hb : ∀ v ∈ V, Inb n1 n2 v) :
    V.length ≤ n1 * n2 := by
  have hsub : V ⊆ (List.range n2 ×ˢ List.range n1) := by
    intro v hv
    obtain ⟨a, b⟩ := v
    have := hb _ hv
    unfold Inb at this
    simp only [List.mem_product, List.mem_range]
    exact this
  have := hn.length_le_of_subset hsub
  rw [List.length_product, List.length_range, List.length_range, Nat.mul_comm] at this
  exact this

/-- the part of the loop body that follows `pop_smallest` -/
def afterPop (big : α) (w : α → α → α) (Dopt : Nat → Nat → Option α) (n1 n2 fuel : Nat) (x : Nat × Nat)
    (st : FState α) : Option (FState α) :=
  if x.1 = n2 - 1 ∧ x.2 = n1 - 1 then some st else
  let tij := st.T.cell x
  (relax big w Dopt x tij (decide (x.1 < n2 - 1 ∧ x.2 < n1 - 1)) (x.1+1, x.2+1) st).bind fun st =>
  (relax big w Dopt x tij (decide (x.2 < n1 - 1)) (x.1, x.2+1) st).bind fun st =>
  (relax big w Dopt x tij (decide (x.1 < n2 - 1)) (x.1+1, x.2) st).bind fun st =>
  fdtwLoop big w Dopt n1 n2 fuel st

theorem fdtwLoop_succ (big : α) (w : α → α → α) (Dopt : Nat → Nat → Option α) (n1 n2 fuel : Nat) (st : FState α) :
    fdtwLoop big w Dopt n1 n2 (fuel+1) st =
      match popSmallest st.F with
      | none => none
      | some (x, _) => afterPop big w Dopt n1 n2 fuel x
          { st with F := st.F.filter (fun e => !(e.1 == x)), V := x :: st.V } := by
  rw [fdtwLoop]
  cases popSmallest st.F with
  | none => rfl
  | some e =>
    obtain ⟨x, c⟩ := e
    simp only [afterPop, NodeMap.cell]

def Final (w : α → α → α) (z : α) (D : Nat → Nat → α) (n1 n2 : Nat) (P : Nat × Nat → α → Prop) (st : FState α) : Prop :=
  (n2 - 1, n1 - 1) ∈ st.V ∧ ∃ R, FInv w z D n1 n2 P R st

variable {w : α → α → α} {z : α} {D : Nat → Nat → α} {n1 n2 : Nat} {P : Nat × Nat → α → Prop}

theorem afterPop_spec (big : α)
    (Dopt : Nat → Nat → Option α) (hD : ∀ i j, i < n2 → j < n1 → Dopt i j = some (D i j))
    (hbig : ∀ v y tv, Inb n1 n2 y → IsStep y v → P v tv → w tv (D y.1 y.2) < big)
    (fuel : Nat) (x : Nat × Nat) (st : FState α)
    (h : FInv w z D n1 n2 P (fun v _ => v = x) st) (hx : x ∈ st.V)
    (hlast : x ≠ (n2 - 1, n1 - 1) → (n2 - 1, n1 - 1) ∉ st.V)
    (IH : ∀ st', FInv w z D n1 n2 P (fun _ _ => False) st' → (n2 - 1, n1 - 1) ∉ st'.V → st'.V = st.V →
      ∃ st'', fdtwLoop big w Dopt n1 n2 fuel st' = some st'' ∧ Final w z D n1 n2 P st'') :
    ∃ st'', afterPop big w Dopt n1 n2 fuel x st = some st'' ∧ Final w z D n1 n2 P st'' := by
  unfold afterPop
  by_cases hl : x.1 = n2 - 1 ∧ x.2 = n1 - 1
  · simp only [hl, and_self, if_true]
    refine ⟨st, rfl, ?_, _, h⟩
    have : x = (n2 - 1, n1 - 1) := Prod.ext hl.1 hl.2
    exact this ▸ hx
  · simp only [hl, if_false]
    have hxne : x ≠ (n2 - 1, n1 - 1) := fun e => hl (by rw [e]; exact ⟨rfl, rfl⟩)
    obtain ⟨hxin, _⟩ := h.vis x hx
    unfold Inb at hxin
    obtain ⟨s1, e1, v1, t1, i1⟩ := relax_inv big Dopt hD hbig h x (x.1+1, x.2+1) _ hx rfl
      (decide (x.1 < n2 - 1 ∧ x.2 < n1 - 1))
      (fun hc => by
        have hc' := of_decide_eq_true hc
        exact ⟨by unfold Inb; simp only; omega, Or.inr (Or.inr ⟨rfl, rfl⟩)⟩)
    obtain ⟨s2, e2, v2, t2, i2⟩ := relax_inv big Dopt hD hbig i1 x (x.1, x.2+1) _ (v1 ▸ hx) t1
      (decide (x.2 < n1 - 1))
      (fun hc => by
        have hc' := of_decide_eq_true hc
        exact ⟨by unfold Inb; simp only; omega, Or.inr (Or.inl ⟨rfl, rfl⟩)⟩)
    obtain ⟨s3, e3, v3, _, i3⟩ := relax_inv big Dopt hD hbig i2 x (x.1+1, x.2) _ (v2 ▸ v1 ▸ hx) t2
      (decide (x.1 < n2 - 1))
      (fun hc => by
        have hc' := of_decide_eq_true hc
        exact ⟨by unfold Inb; simp only; omega, Or.inl ⟨rfl, rfl⟩⟩)
    rw [e1]; simp only [Option.bind_some]
    rw [e2]; simp only [Option.bind_some]
    rw [e3]; simp only [Option.bind_some]
    have hV3 : s3.V = st.V := by rw [v3, v2, v1]
    apply IH s3 _ (hV3 ▸ hlast hxne) hV3
    -- every edge out of `x` inside the lattice is one of the three just relaxed
    apply i3.weaken
    intro v _ y hy hs hr
    obtain ⟨⟨⟨hvx, r1⟩, r2⟩, r3⟩ := hr
    subst hvx
    obtain ⟨y1, y2⟩ := y
    unfold Inb at hy
    unfold IsStep at hs
    simp only at hy hs
    rcases hs with ⟨a, b⟩ | ⟨a, b⟩ | ⟨a, b⟩
    · apply r3
      refine ⟨decide_eq_true (by omega), rfl, ?_⟩
      rw [a, b]
    · apply r2
      refine ⟨decide_eq_true (by omega), rfl, ?_⟩
      rw [a, b]
    · apply r1
      refine ⟨decide_eq_true (by omega), rfl, ?_⟩
      rw [a, b]

theorem loop_spec (big : α)
    (Dopt : Nat → Nat → Option α) (hD : ∀ i j, i < n2 → j < n1 → Dopt i j = some (D i j))
    (hbig : ∀ v y tv, Inb n1 n2 y → IsStep y v → P v tv → w tv (D y.1 y.2) < big)
    (hpop : ∀ st x c, FInv w z D n1 n2 P (fun _ _ => False) st → st.F.get? x = some c →
      (∀ y c', st.F.get? y = some c' → c ≤ c') → P x c)
    (h1 : 0 < n1) (h2 : 0 < n2) :
    ∀ fuel (st : FState α), FInv w z D n1 n2 P (fun _ _ => False) st → (n2 - 1, n1 - 1) ∉ st.V →
      n1 * n2 < st.V.length + fuel →
      ∃ st', fdtwLoop big w Dopt n1 n2 fuel st = some st' ∧ Final w z D n1 n2 P st' := by
  intro fuel
  induction fuel with
  | zero =>
    intro st h _ hc
    have := length_le_of_inb n1 n2 st.V h.nodupV (fun v hv => (h.vis v hv).1)
    omega
  | succ fuel ih =>
    intro st h hl hc
    rw [fdtwLoop_succ]
    cases hp : popSmallest st.F with
    | none =>
      exfalso
      have hF : st.F = [] := (popSmallest_none st.F).mp hp
      have hin : Inb n1 n2 (n2 - 1, n1 - 1) := by unfold Inb; simp only; omega
      obtain ⟨y, a1, a2, a3, a4, _⟩ := exists_frontier w z D n1 n2 st.V h.origin (fun _ => True) (fun _ _ _ _ => trivial)
        (n2 - 1, n1 - 1) hin hl trivial
      rcases h.edge _ a4 y a2 (pred_isStep w z D y.1 y.2 a3) with e | e | ⟨c, e, _⟩
      · exact e
      · exact a1 e
      · rw [hF] at e; simp [NodeMap.get?] at e
    | some e =>
      obtain ⟨x, c⟩ := e
      simp only
      obtain ⟨hmem, hmin⟩ := popSmallest_spec st.F (x, c) hp
      have hget := get?_of_mem st.F h.nodupF x c hmem
      obtain ⟨hxV, hi⟩ := pop_inv h x c hget (hpop st x c h hget fun y c' hy => hmin (y, c') (mem_of_get? _ _ _ hy))
      apply afterPop_spec big Dopt hD hbig fuel x _ hi List.mem_cons_self
      · intro hne hm
        rcases List.mem_cons.mp hm with e | hm
        · exact hne e.symm
        · exact hl hm
      · intro st' hi' hl' hV'
        apply ih st' hi' hl'
        rw [hV']
        simp only [List.length_cons]
        omega

theorem walkA_spec {R : Nat × Nat → Nat × Nat → Prop} {st : FState α} (h : FInv w z D n1 n2 P R st)
    (fuel : Nat) (y : Nat × Nat) (hy : y ∈ st.V) (hf : y.1 + y.2 ≤ fuel) :
    BackPath (walk (fun i j => st.A.get? (i, j)) fuel y) ∧
    (walk (fun i j => st.A.get? (i, j)) fuel y).head? = some y ∧
    costBack w z D (walk (fun i j => st.A.get? (i, j)) fuel y) = st.T.cell y :=
  walk_spec w z D (fun i j => st.A.get? (i, j)) (· ∈ st.V) st.T.cell h.t00
    (fun u hu hpos => h.back u hu (fun e => by subst e; omega)) fuel y hy hf

end loop

section whole
variable {α : Type} [Sub α] [LinearOrder α] [OfNat α 0]

/-- `_fdtw` on two non-empty tracks, whatever feature rows track1 carries (one per observation), whenever the invariant can be kept with `P` (`hpop`) and `big` is above every candidate cost out of
a visited node (`hbig`): the search succeeds, `S` is a monotone unit-step coupling from the last pair to `(0,0)`, the reported score is
the accumulated cost of `S` and is as `P` says, and what is returned is `outOf` of `S` and that score -/
theorem fdtw_run (dist : Pt α → Pt α → α) (big : α) (w : α → α → α) (t1 t2 : List (Pt α))
    (h1 : 0 < t1.length) (h2 : 0 < t2.length) (P : Nat × Nat → α → Prop)
    (hP0 : P (0, 0) (w 0 (Dmat dist t1 t2 0 0)))
    (hbig : ∀ v y tv, Inb t1.length t2.length y → IsStep y v → P v tv → w tv (Dmat dist t1 t2 y.1 y.2) < big)
    (hpop : ∀ st x c, FInv w 0 (Dmat dist t1 t2) t1.length t2.length P (fun _ _ => False) st → st.F.get? x = some c →
      (∀ y c', st.F.get? y = some c' → c ≤ c') → P x c) :
    ∃ S, (BackPath S ∧ S.head? = some (t2.length - 1, t1.length - 1)) ∧
      P (t2.length - 1, t1.length - 1) (costBack w 0 (Dmat dist t1 t2) S) ∧
      ∀ rows0 : List (Row α), rows0.length = t1.length →
        fdtwOn dist big w rows0 t1 t2 = some (outOf dist t1 t2 S (costBack w 0 (Dmat dist t1 t2) S)) := by
  let D := Dmat dist t1 t2
  let n1 := t1.length
  let n2 := t2.length
  have hD : ∀ i j, i < n2 → j < n1 → cellAt (dcols D n1 n2) i j = some (D i j) := cellAt_dcols D n1 n2
  -- the state after the first `pop_smallest`
  let stp : FState α := { T := [((0, 0), w 0 (D 0 0))], F := [], V := [(0, 0)], A := [((0, 0), (0, 0))] }
  have hstp : FInv w 0 D n1 n2 P (fun v _ => v = (0, 0)) stp := by
    refine { origin := List.mem_singleton.mpr rfl, vis := ?_, fr := ?_, edge := ?_, back := ?_, t00 := ?_,
             nodupV := List.nodup_singleton _, nodupF := List.nodup_nil }
    · intro v hv
      have := List.mem_singleton.mp hv
      subst this
      exact ⟨⟨h2, h1⟩, hP0⟩
    · intro y c hc; simp [stp, NodeMap.get?] at hc
    · intro v hv y _ _
      exact Or.inl (List.mem_singleton.mp hv)
    · intro y hy hne
      exact absurd (List.mem_singleton.mp hy) hne
    · simp [stp, NodeMap.cell, NodeMap.get?]
  have hloop : ∃ st', fdtwLoop big w (cellAt (dcols D n1 n2)) n1 n2 (n1 * n2 + 1)
      { T := [((0, 0), w 0 (D 0 0))], F := [((0, 0), 0)], V := [], A := [((0, 0), (0, 0))] } = some st' ∧
      Final w 0 D n1 n2 P st' := by
    rw [fdtwLoop_succ]
    have hp : popSmallest ([((0, 0), 0)] : NodeMap α) = some ((0, 0), 0) := by simp [popSmallest]
    simp only [hp]
    have hf : ([((0, 0), 0)] : NodeMap α).filter (fun e => !(e.1 == ((0, 0) : Nat × Nat))) = [] := by simp
    rw [hf]
    apply afterPop_spec big _ hD hbig (n1 * n2) (0, 0) stp hstp (List.mem_singleton.mpr rfl)
    · intro hne hm
      exact hne (List.mem_singleton.mp hm).symm
    · intro st' hi hl hV
      apply loop_spec big _ hD hbig hpop h1 h2 (n1 * n2) st' hi hl
      rw [hV]; simp only [stp, List.length_singleton, n1, n2]; omega
  obtain ⟨st', hrun, hlast, R, hinv⟩ := hloop
  obtain ⟨bp, hd, hcost⟩ := walkA_spec hinv (n1 + n2) (n2 - 1, n1 - 1) hlast (by simp only; omega)
  obtain ⟨hb, hc⟩ := backPath_in_tracks _ _ _ h1 h2 bp hd
  refine ⟨_, ⟨bp, hd⟩, hcost ▸ (hinv.vis _ hlast).2, fun rows0 hl0 => ?_⟩
  · unfold fdtwOn
    rw [distCols_eq]
    simp only [Option.bind_eq_bind]
    rw [hD 0 0 h2 h1]
    simp only [Option.bind_some]
    rw [hrun]
    simp only [Option.bind_some]
    exact hcost ▸ fillAFOn_spec dist t1 t2 _ _ hb hc rows0 hl0

/-- **`_fdtw` for any accumulation**: on two non-empty tracks, when `big` (1e300) is above the accumulated cost of every partial
coupling, the search succeeds, `S` is a monotone unit-step coupling from the last pair to `(0,0)`, **the reported score is the accumulated
cost of `S`**, and what is returned is `outOf` of `S` and that score — whatever `w` and the point distance are (a callable `p`, negative
distances, `B**p` wrapped in int64, …). That the score is the optimum needs monotonicity and inflation (`fdtw_spec`). -/
theorem fdtw_struct (dist : Pt α → Pt α → α) (big : α) (w : α → α → α) (t1 t2 : List (Pt α))
    (h1 : 0 < t1.length) (h2 : 0 < t2.length)
    (hbig : ∀ i j c, i < t2.length → j < t1.length → Coupling w 0 (Dmat dist t1 t2) i j c → c < big) :
    ∃ S, (BackPath S ∧ S.head? = some (t2.length - 1, t1.length - 1)) ∧
      ∀ rows0 : List (Row α), rows0.length = t1.length →
        fdtwOn dist big w rows0 t1 t2 = some (outOf dist t1 t2 S (costBack w 0 (Dmat dist t1 t2) S)) := by
  obtain ⟨S, hS, _, he⟩ := fdtw_run dist big w t1 t2 h1 h2
    (fun v c => Coupling w 0 (Dmat dist t1 t2) v.1 v.2 c) Coupling.base
    (fun v y tv hy hs hc => hbig y.1 y.2 _ hy.1 hy.2 (coupling_step hs hc))
    (fun st x c h hget _ => by
      -- the popped cost is the candidate cost through a visited node, whose cell is the cost of a coupling
      obtain ⟨_, _, _, v, hvV, hvs, _, hvc⟩ := h.fr x c hget
      exact hvc ▸ coupling_step hvs (h.vis v hvV).2)
  exact ⟨S, hS, he⟩

/-- `_fdtw` on two non-empty tracks, for an accumulation that is monotone and inflationary on the distances at hand,
and a placeholder priority `big` (1e300) above every candidate cost: it succeeds, the score is the table value of
`_dtw` at the last pair, `S` is a monotone unit-step coupling from the last pair to `(0,0)` whose accumulated cost is
the score, and what is returned is `outOf` of `S` and that score -/
theorem fdtw_spec (dist : Pt α → Pt α → α) (big : α) (w : α → α → α) (t1 t2 : List (Pt α))
    (h1 : 0 < t1.length) (h2 : 0 < t2.length)
    (hw : ∀ a b d, a ≤ b → w a d ≤ w b d)
    (hinf : ∀ a i j, i < t2.length → j < t1.length → a ≤ w a (Dmat dist t1 t2 i j))
    (hbig : ∀ i j i' j', i < t2.length → j < t1.length → i' < t2.length → j' < t1.length →
      w (T w 0 (Dmat dist t1 t2) i j) (Dmat dist t1 t2 i' j') < big) :
    ∃ S, (BackPath S ∧ S.head? = some (t2.length - 1, t1.length - 1)) ∧
      costBack w 0 (Dmat dist t1 t2) S = T w 0 (Dmat dist t1 t2) (t2.length - 1) (t1.length - 1) ∧
      ∀ rows0 : List (Row α), rows0.length = t1.length →
        fdtwOn dist big w rows0 t1 t2 = some (outOf dist t1 t2 S (costBack w 0 (Dmat dist t1 t2) S)) := by
  obtain ⟨S, hS, hc, he⟩ := fdtw_run dist big w t1 t2 h1 h2
    (fun v c => c = T w 0 (Dmat dist t1 t2) v.1 v.2) (by simp only [T])
    (fun v y tv hy hs hc => by
      have hv : Inb t1.length t2.length v := by
        unfold Inb IsStep at *; omega
      exact hc ▸ hbig v.1 v.2 y.1 y.2 hv.1 hv.2 hy.1 hy.2)
    (fun st x c h hget hmin => by
      -- Dijkstra's argument: `c` is above the table value (a candidate cost through a visited node), and not above the priority of a
      -- frontier node on the optimal path to `x`, which is its table value, itself not above that of `x` (inflation)
      obtain ⟨hxin, hxV, _, v, hvV, hvs, _, hvc⟩ := h.fr x c hget
      have hlow : T w 0 (Dmat dist t1 t2) x.1 x.2 ≤ c := by
        rw [hvc, (h.vis v hvV).2]
        exact T_le_step w 0 _ hw x v hvs
      obtain ⟨y, a1, a2, a3, a4, a5⟩ :=
        exists_frontier w 0 (Dmat dist t1 t2) t1.length t2.length st.V h.origin
          (fun y => T w 0 (Dmat dist t1 t2) y.1 y.2 ≤ T w 0 (Dmat dist t1 t2) x.1 x.2)
          (fun y hy hpos hq => le_trans (by rw [T_pred_all w 0 _ y.1 y.2 hpos]; exact hinf _ _ _ hy.1 hy.2) hq)
          x hxin hxV le_rfl
      rcases h.edge _ a4 y a2 (pred_isStep w 0 _ y.1 y.2 a3) with h1 | h1 | ⟨c', h1, h3⟩
      · exact absurd h1 id
      · exact absurd h1 a1
      · have hm := hmin y c' h1
        rw [(h.vis _ a4).2, ← T_pred_all w 0 _ y.1 y.2 a3] at h3
        exact le_antisymm (le_trans hm (le_trans h3 a5)) hlow)
  exact ⟨S, hS, hc, he⟩

end whole
end TV.DTW
