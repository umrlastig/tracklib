import TracklibVerif.Lemmas.Rpn
import TracklibVerif.Model.Expr
/-! The character-level `makeRPN` of `Model/Expr.lean` (what the driver runs and what is compared with
`utils.makeRPN` on every run) refines the token-level parser of `Model/Rpn.lean` on printed trees. -/
namespace TV.Expr
open TV.Rpn

/-- characters that may not occur inside a name or a number: parentheses, the operator characters of
    `makeRPN`'s table, white space -/
def special (c : Char) : Bool := c == '(' || c == ')' || decide (pyLvl c < 9) || isWs c

def AtomOK (s : String) : Prop := s.toList ≠ [] ∧ ∀ c ∈ s.toList, special c = false

def TokOK : Tok → Prop
  | .atom s => AtomOK s
  | .op c => pyLvl c < 9
  | _ => True

def flat : List Tok → Str
  | [] => []
  | .atom s :: ts => s.toList ++ flat ts
  | .op c :: ts => c :: flat ts
  | .lp :: ts => '(' :: flat ts
  | .rp :: ts => ')' :: flat ts

theorem flat_append (xs ys : List Tok) : flat (xs ++ ys) = flat xs ++ flat ys := by
  induction xs with
  | nil => rfl
  | cons t ts ih => cases t <;> simp [flat, ih]

theorem special_op {c : Char} (h : pyLvl c < 9) : c ≠ '(' ∧ c ≠ ')' ∧ isWs c = false := by
  refine ⟨?_, ?_, ?_⟩
  · intro hc; subst hc; revert h; decide
  · intro hc; subst hc; revert h; decide
  · cases hw : isWs c with
    | false => rfl
    | true =>
      exfalso
      simp only [isWs, Bool.or_eq_true, beq_iff_eq] at hw
      rcases hw with ((hw | hw) | hw) | hw <;> (subst hw; revert h; decide)

theorem special_noWs {s : Str} (h : ∀ c ∈ s, special c = false) : ∀ c ∈ s, isWs c = false := by
  intro c hc
  have := h c hc
  simp only [special, Bool.or_eq_false_iff] at this
  exact this.2

theorem balC_plain (c : Char) (cs : Str) (h1 : c ≠ ')') (h2 : c ≠ '(') : balC (c :: cs) = balC cs := by
  simp [balC]

theorem balC_append_plain (cs rest : Str) (h : ∀ c ∈ cs, special c = false) : balC (cs ++ rest) = balC rest := by
  induction cs with
  | nil => rfl
  | cons c cs ih =>
    have hc := h c (by simp)
    simp only [special, Bool.or_eq_false_iff, beq_eq_false_iff_ne, ne_eq] at hc
    rw [List.cons_append, balC_plain _ _ hc.1.1.2 hc.1.1.1]
    exact ih (fun d hd => h d (by simp [hd]))

theorem balC_flat (ts : List Tok) (h : ∀ t ∈ ts, TokOK t) : balC (flat ts) = bal ts := by
  induction ts with
  | nil => rfl
  | cons t ts ih =>
    have ih' := ih (fun u hu => h u (by simp [hu]))
    have ht := h t (by simp)
    cases t with
    | atom s => simp only [flat, bal]; rw [balC_append_plain _ _ ht.2, ih']
    | op c =>
      obtain ⟨h1, h2, _⟩ := special_op ht
      simp only [flat, bal]; rw [balC_plain _ _ h2 h1, ih']
    | lp => simp [flat, bal, balC, ih']
    | rp => simp [flat, bal, balC, ih']

def grp (g : Nat) : Str := groups.getD g []

def opsList : List Char := ['=', '<', '>', '+', '-', '!', '*', '/', '%', '^', '@', '&', '$']

theorem pyLvl_of_not_mem {c : Char} (h : c ∉ opsList) : pyLvl c = 9 := by
  simp only [opsList, List.mem_cons, List.mem_nil_iff, or_false, not_or] at h
  simp only [pyLvl, h, or_self, if_false]

theorem grp_subset : ∀ g, g < 9 → ∀ c ∈ grp g, c ∈ opsList := by decide

theorem grp_table : ∀ c ∈ opsList, ∀ g, g < 9 → (c ∈ grp g ↔ pyLvl c = g) := by decide

theorem grp_mem {g : Nat} (hg : g < 9) (c : Char) : c ∈ grp g ↔ pyLvl c = g := by
  refine ⟨fun h => (grp_table c (grp_subset g hg c h) g hg).mp h, fun h => (grp_table c ?_ g hg).mpr h⟩
  exact Decidable.byContradiction fun hn => by rw [pyLvl_of_not_mem hn] at h; omega

theorem grp_not_special {g : Nat} (hg : g < 9) {c : Char} (h : special c = false) : ¬ c ∈ grp g := by
  intro hm
  have := (grp_mem hg c).mp hm
  simp only [special, Bool.or_eq_false_iff, decide_eq_false_iff_not] at h
  omega

def flat3 (x : List Tok × Char × List Tok) : Str × Char × Str := (flat x.1, x.2.1, flat x.2.2)

theorem splitRC_skip (g : Str) (cs rest : Str) (h : ∀ c ∈ cs, c ∉ g) :
    splitRC g (cs ++ rest) = (splitRC g rest).map (fun x => (cs ++ x.1, x.2.1, x.2.2)) := by
  induction cs with
  | nil => cases h' : splitRC g rest <;> simp [h']
  | cons c cs ih =>
    simp only [List.cons_append, splitRC, ih (fun d hd => h d (by simp [hd]))]
    cases hr : splitRC g rest with
    | some x => simp
    | none => simp [h c (by simp)]

theorem splitRC_flat (g : Nat) (hg : g < 9) (ts : List Tok) (h : ∀ t ∈ ts, TokOK t) :
    splitRC (grp g) (flat ts) = (splitR pyLvl g ts).map flat3 := by
  induction ts with
  | nil => rfl
  | cons t ts ih =>
    have hts : ∀ u ∈ ts, TokOK u := fun u hu => h u (by simp [hu])
    have ih' := ih hts
    have ht := h t (by simp)
    cases t with
    | atom s =>
      simp only [flat, splitR]
      rw [splitRC_skip _ _ _ (fun c hc => grp_not_special hg (ht.2 c hc)), ih']
      cases splitR pyLvl g ts with
      | none => rfl
      | some x => obtain ⟨l, c, r⟩ := x; simp [flat3, flat]
    | op c =>
      obtain ⟨h1, h2, _⟩ := special_op ht
      simp only [flat, splitR, splitRC, ih']
      cases hs : splitR pyLvl g ts with
      | some x => obtain ⟨l, c', r⟩ := x; simp [flat3, flat]
      | none =>
        simp only [Option.map_none, balC_plain _ _ h2 h1, balC_flat ts hts]
        by_cases hc : pyLvl c = g ∧ bal ts = 0
        · have := (grp_mem hg c).mpr hc.1
          simp [hc, this, flat3, flat]
        · simp only [hc, if_false]
          by_cases hb : bal ts = 0
          · have : ¬ c ∈ grp g := fun hm => hc ⟨(grp_mem hg c).mp hm, hb⟩
            simp [this]
          · simp [hb]
    | lp =>
      have : ¬ '(' ∈ grp g := fun hm => absurd ((grp_mem hg _).mp hm ▸ hg) (by decide)
      simp only [flat, splitR, splitRC, ih']
      cases hs : splitR pyLvl g ts with
      | some x => obtain ⟨l, c', r⟩ := x; simp [flat3, flat]
      | none => simp [this]
    | rp =>
      have : ¬ ')' ∈ grp g := fun hm => absurd ((grp_mem hg _).mp hm ▸ hg) (by decide)
      simp only [flat, splitR, splitRC, ih']
      cases hs : splitR pyLvl g ts with
      | some x => obtain ⟨l, c', r⟩ := x; simp [flat3, flat]
      | none => simp [this]

theorem firstSplitC_drop (ts : List Tok) (h : ∀ t ∈ ts, TokOK t) :
    ∀ k g, g + k = 9 → firstSplitC (groups.drop g) (flat ts) = (firstSplit pyLvl k g ts).map flat3 := by
  intro k
  induction k with
  | zero => intro g hg; have : g = 9 := by omega
            subst this; rfl
  | succ k ih =>
    intro g hg
    have hg9 : g < 9 := by omega
    have hd : groups.drop g = grp g :: groups.drop (g + 1) := by
      have hl : g < groups.length := hg9
      rw [grp, List.getD_eq_getElem?_getD, List.getElem?_eq_getElem hl]
      exact List.drop_eq_getElem_cons hl
    rw [hd]
    simp only [firstSplitC, firstSplit, splitRC_flat g hg9 ts h]
    cases hs : splitR pyLvl g ts with
    | some x => simp
    | none => simpa using ih (g + 1) (by omega)

theorem firstSplitC_flat (ts : List Tok) (h : ∀ t ∈ ts, TokOK t) :
    firstSplitC groups (flat ts) = (firstSplit pyLvl 9 0 ts).map flat3 :=
  firstSplitC_drop ts h 9 0 rfl


theorem dropWhile_noWs (s : Str) (h : ∀ c ∈ s, isWs c = false) : s.dropWhile isWs = s := by
  cases s with
  | nil => rfl
  | cons c cs => simp [List.dropWhile, h c (by simp)]

theorem strip_noWs (s : Str) (h : ∀ c ∈ s, isWs c = false) : strip s = s := by
  unfold strip
  rw [dropWhile_noWs s h, dropWhile_noWs s.reverse (fun c hc => h c (by simpa using hc))]
  simp

def AtomsOK : E → Prop
  | .atom s => AtomOK s
  | .par e => AtomsOK e
  | .bin _ l r => AtomsOK l ∧ AtomsOK r

theorem tokOK_wrap (b : Bool) (ts : List Tok) (h : ∀ t ∈ ts, TokOK t) : ∀ t ∈ wrap b ts, TokOK t := by
  intro t ht
  unfold wrap at ht
  split at ht
  · simp only [List.mem_cons, List.mem_append, List.mem_nil_iff, or_false] at ht
    rcases ht with rfl | ht | rfl
    · trivial
    · exact h t ht
    · trivial
  · exact h t ht

theorem tokOK_shw (e : E) (hwf : Rpn.WF pyLvl 9 e) (hok : AtomsOK e) : ∀ t ∈ shw pyLvl 9 e, TokOK t := by
  induction e with
  | atom s => intro t ht; simp only [shw, List.mem_singleton] at ht; subst ht; exact hok
  | par e ih => exact tokOK_wrap true _ (ih hwf hok)
  | bin c l r ihl ihr =>
    intro t ht
    simp only [shw, List.mem_append, List.mem_cons] at ht
    rcases ht with ht | rfl | ht
    · exact tokOK_wrap _ _ (ihl hwf.2.1 hok.1) t ht
    · exact hwf.1
    · exact tokOK_wrap _ _ (ihr hwf.2.2 hok.2) t ht

theorem makeRPNg_split (grps : List Str) (f : Nat) (s l r : Str) (c : Char) (h : firstSplitC grps s = some (l, c, r)) :
    makeRPNg grps (f + 1) s = (do
      let a ← makeRPNg grps f l
      let b ← makeRPNg grps f r
      pure (a ++ b ++ [[c]])) := by
  simp only [makeRPNg, h]

theorem makeRPNg_atom (f : Nat) (s : Str) (hns : firstSplitC groups s = none) (hne : s ≠ []) (hs : ∀ c ∈ s, special c = false) :
    makeRPNg groups (f + 1) s = .ok [s] := by
  simp only [makeRPNg, hns, strip_noWs s (special_noWs hs)]
  cases s with
  | nil => exact absurd rfl hne
  | cons c cs =>
    have hc : c ≠ '(' := fun e => by have := hs c (by simp); rw [e] at this; revert this; decide
    split
    · rename_i heq; cases heq
    · rename_i heq; simp only [List.cons.injEq] at heq; exact absurd heq.1 hc
    · rfl

theorem strip_paren (body : Str) : strip ('(' :: (body ++ [')'])) = '(' :: (body ++ [')']) := by
  simp [strip, isWs]

theorem makeRPNg_paren (f : Nat) (body : Str) (hns : firstSplitC groups ('(' :: (body ++ [')'])) = none) :
    makeRPNg groups (f + 1) ('(' :: (body ++ [')'])) = makeRPNg groups f body := by
  simp only [makeRPNg, hns, strip_paren, List.dropLast_concat]

theorem makeRPNg_wrap (b : Bool) (e : E) (hwf : Rpn.WF pyLvl 9 e) (hok : AtomsOK e)
    (h : ∀ f, Rpn.size e ≤ f → makeRPNg groups f (flat (shw pyLvl 9 e)) = .ok ((Rpn.post e).map String.toList)) :
    ∀ f', Rpn.size e + 1 ≤ f' →
      makeRPNg groups f' (flat (wrap b (shw pyLvl 9 e))) = .ok ((Rpn.post e).map String.toList) := by
  intro f' hf
  cases b with
  | false => simpa [wrap] using h f' (by omega)
  | true =>
    obtain ⟨f'', rfl⟩ : ∃ f'', f' = f'' + 1 := ⟨f' - 1, by omega⟩
    have hns := firstSplitC_flat (Tok.lp :: (shw pyLvl 9 e ++ [Tok.rp])) (tokOK_wrap true _ (tokOK_shw e hwf hok))
    rw [firstSplit_paren] at hns
    simp only [wrap, if_true, flat, flat_append, Option.map_none] at hns ⊢
    rw [makeRPNg_paren f'' _ hns]
    exact h f'' (by omega)

theorem makeRPNg_shw (e : E) (hwf : Rpn.WF pyLvl 9 e) (hok : AtomsOK e) :
    ∀ f, Rpn.size e ≤ f → makeRPNg groups f (flat (shw pyLvl 9 e)) = .ok ((Rpn.post e).map String.toList) := by
  induction e with
  | atom s =>
    intro f hf
    obtain ⟨f', rfl⟩ : ∃ f', f = f' + 1 := ⟨f - 1, by simp [Rpn.size] at hf; omega⟩
    have hns := firstSplitC_flat [Tok.atom s] (by intro t ht; simp at ht; subst ht; exact hok)
    rw [firstSplit_atom] at hns
    simp only [shw, flat, List.append_nil, Option.map_none] at hns ⊢
    rw [makeRPNg_atom f' _ hns hok.1 hok.2]
    rfl
  | par e ih =>
    intro f hf
    have := makeRPNg_wrap true e hwf hok (ih hwf hok) f (by simp [Rpn.size] at hf; omega)
    simpa [wrap, shw, Rpn.post] using this
  | bin c l r ihl ihr =>
    intro f hf
    obtain ⟨hc, hwl, hwr⟩ := hwf
    obtain ⟨hol, hor⟩ := hok
    obtain ⟨f', rfl⟩ : ∃ f', f = f' + 1 := ⟨f - 1, by simp [Rpn.size] at hf; omega⟩
    have hsl := size_pos l
    have hsr := size_pos r
    simp only [Rpn.size] at hf
    have hns := firstSplitC_flat _ (tokOK_shw (E.bin c l r) ⟨hc, hwl, hwr⟩ ⟨hol, hor⟩)
    rw [firstSplit_bin pyLvl 9 c l r hc] at hns
    simp only [Option.map_some, flat3] at hns
    rw [makeRPNg_split _ _ _ _ _ _ hns]
    rw [makeRPNg_wrap _ l hwl hol (ihl hwl hol) f' (by omega),
        makeRPNg_wrap _ r hwr hor (ihr hwr hor) f' (by omega)]
    simp [Rpn.post, bind, Except.bind, pure, Except.pure]


theorem length_flat_wrap (b : Bool) (ts : List Tok) : (flat ts).length ≤ (flat (wrap b ts)).length := by
  cases b with
  | false => simp [wrap]
  | true => simp [wrap, flat, flat_append]; omega

theorem size_le_length (e : E) (hok : AtomsOK e) : Rpn.size e ≤ (flat (shw pyLvl 9 e)).length := by
  induction e with
  | atom s =>
    have : s.toList.length ≠ 0 := fun h => hok.1 (List.length_eq_zero_iff.mp h)
    simp [Rpn.size, shw, flat]; omega
  | par e ih =>
    have := ih hok
    simp [Rpn.size, shw, flat, flat_append]; omega
  | bin c l r ihl ihr =>
    have h1 := ihl hok.1
    have h2 := ihr hok.2
    have w1 := length_flat_wrap (decide (lv pyLvl 9 l < pyLvl c)) (shw pyLvl 9 l)
    have w2 := length_flat_wrap (decide (lv pyLvl 9 r ≤ pyLvl c)) (shw pyLvl 9 r)
    simp only [Rpn.size, shw, flat_append, flat, List.length_append, List.length_cons]
    omega

/-- `utils.makeRPN(s)` with its own fuel (the length of the string) -/
theorem makeRPN_flat_shw (e : E) (hwf : Rpn.WF pyLvl 9 e) (hok : AtomsOK e) :
    makeRPN (flat (shw pyLvl 9 e)) = .ok ((Rpn.post e).map String.toList) :=
  makeRPNg_shw e hwf hok _ (by have := size_le_length e hok; omega)

end TV.Expr
