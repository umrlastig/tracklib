import TracklibVerif.Lemmas.Filter
import Mathlib.Tactic.Positivity
/-! Helper lemmas for C15: the kernel functions of `CubicKernel`, `SphericKernel` (polynomials in
`u = |x|/sigma`), `GaussianKernel` and `ExponentialKernel` (`math.exp` a parameter). -/
namespace TV.Filter
section kernels2
variable {α : Type} [Field α] [LinearOrder α] [IsStrictOrderedRing α]

/-- the cubic kernel as a product: `1 - (7u² - 35/4·u³ + 7/2·u⁵ - 3/4·u⁷) = (1-u)⁴·(3u³+12u²+16u+4)/4` with `u = |x|/sigma` -/
theorem cubicF_eq (sigma x : α) :
    cubicF sigma x = ((1 - absv x / sigma) ^ 2) ^ 2 *
      (3 * (absv x / sigma) ^ 3 + 12 * (absv x / sigma) ^ 2 + 16 * (absv x / sigma) + 4) / 4 := by
  simp only [cubicF, powN, Nat.cast_ofNat]
  ring

/-- the spheric kernel as a product: `1 - (3/2·u - 1/2·u³) = (1-u)²·(2+u)/2` with `u = |x|/sigma` -/
theorem sphericF_eq (sigma x : α) : sphericF sigma x = (1 - absv x / sigma) ^ 2 * (2 + absv x / sigma) / 2 := by
  simp only [sphericF, powN, Nat.cast_ofNat]
  ring

theorem cubicF_even (sigma y : α) : cubicF sigma (-y) = cubicF sigma y := by
  unfold cubicF; rw [absv_neg]

theorem sphericF_even (sigma y : α) : sphericF sigma (-y) = sphericF sigma y := by
  unfold sphericF; rw [absv_neg]

theorem cubicF_zero (sigma : α) : cubicF sigma 0 = 1 := by
  rw [cubicF_eq, absv_zero, zero_div]; norm_num

theorem sphericF_zero (sigma : α) : sphericF sigma 0 = 1 := by
  rw [sphericF_eq, absv_zero, zero_div]; norm_num

/-- non-negative for every `x`: a square times a factor that is positive for `u ≥ 0` -/
theorem cubicF_nonneg (sigma x : α) (h : 0 < sigma) : 0 ≤ cubicF sigma x := by
  rw [cubicF_eq]
  have hu : 0 ≤ absv x / sigma := div_nonneg (absv_nonneg x) (le_of_lt h)
  positivity

theorem sphericF_nonneg (sigma x : α) (h : 0 < sigma) : 0 ≤ sphericF sigma x := by
  rw [sphericF_eq]
  have hu : 0 ≤ absv x / sigma := div_nonneg (absv_nonneg x) (le_of_lt h)
  positivity

theorem pos_of_gaussianSupport (sigma : α) (hs : ¬ gaussianSupport sigma < 1) : 0 < sigma := by
  by_contra hn
  exact hs (lt_of_le_of_lt (mul_nonpos_iff.mpr (Or.inl ⟨Nat.cast_nonneg 3, le_of_not_gt hn⟩)) one_pos)

theorem gaussianF_even (expF : α → α) (c sigma y : α) : gaussianF expF c sigma (-y) = gaussianF expF c sigma y := by
  unfold gaussianF
  have e : (-y / sigma) * (-y / sigma) = (y / sigma) * (y / sigma) := by ring
  rw [e]

theorem gaussianF_pos (expF : α → α) (hexp : ∀ y, 0 < expF y) (c sigma x : α) (hc : 0 < c) (h : 0 < sigma) :
    0 < gaussianF expF c sigma x := by
  unfold gaussianF
  exact div_pos (hexp _) (mul_pos h hc)

theorem exponentialF_even (expF : α → α) (sigma y : α) : exponentialF expF sigma (-y) = exponentialF expF sigma y := by
  unfold exponentialF; rw [absv_neg]

theorem exponentialF_pos (expF : α → α) (hexp : ∀ y, 0 < expF y) (sigma x : α) (h : 0 < sigma) :
    0 < exponentialF expF sigma x := by
  unfold exponentialF
  exact div_pos (hexp _) (mul_pos (Nat.cast_pos.mpr two_pos) h)
end kernels2
end TV.Filter
