import TracklibVerif.Lemmas.PartitionFront
import TracklibVerif.Lemmas.Plane
/-! Stop detection read from a track (`stopPredTrack`, `stopKeepTrack`, `findStopsGlobalPy`): planimetric geometry of the
`break` shortcut — two points of a disc are at most a diameter apart — and independence of the altitude. -/
namespace TV.Partition

section flat
variable {α : Type}

theorem Fix.flat_eq_iff (p q : Fix α) : p.flat = q.flat ↔ p.x = q.x ∧ p.y = q.y ∧ p.t = q.t := by
  simp only [Fix.flat, Prod.mk.injEq]

theorem getFix_flat (zero : α) (l l' : List (Fix α)) (h : l.map Fix.flat = l'.map Fix.flat) (i : Nat) :
    (getFix zero l i).flat = (getFix zero l' i).flat := by
  have e : ∀ l : List (Fix α), (getFix zero l i).flat = ((l.map Fix.flat)[i]?).getD (zero, zero, zero) := fun l => by
    rw [List.getElem?_map, getFix, List.getD_eq_getElem?_getD]
    exact (Option.getD_map Fix.flat _ _).symm
  rw [e, e, h]

variable [Add α] [LT α] [DecidableLT α] [Sub α] [Mul α]

omit [LT α] [DecidableLT α] in
theorem dist2D2_flat (p q p' q' : Fix α) (hp : p.flat = p'.flat) (hq : q.flat = q'.flat) : dist2D2 p q = dist2D2 p' q' := by
  obtain ⟨px, py, _⟩ := (Fix.flat_eq_iff p p').mp hp
  obtain ⟨qx, qy, _⟩ := (Fix.flat_eq_iff q q').mp hq
  simp only [dist2D2, px, py, qx, qy]

theorem stopPredTrack_flat (zero : α) (tr tr' : Nat → Fix α) (h : ∀ i, (tr i).flat = (tr' i).flat)
    (circ2 : Nat → Nat → Option α) (diameter duration : α) :
    stopPredTrack zero tr circ2 diameter duration = stopPredTrack zero tr' circ2 diameter duration := by
  have ht : ∀ i, (tr i).t = (tr' i).t := fun i => ((Fix.flat_eq_iff _ _).mp (h i)).2.2
  have hd : ∀ i e, dist2D2 (tr i) (tr e) = dist2D2 (tr' i) (tr' e) := fun i e => dist2D2_flat _ _ _ _ (h i) (h e)
  unfold stopPredTrack stopPredGlobal
  simp only [ht, hd]

omit [Add α] in
theorem stopKeepTrack_flat (zero : α) (tr tr' : Nat → Fix α) (h : ∀ i, (tr i).flat = (tr' i).flat)
    (circA : Nat → Nat → Option α) (diameter duration : α) :
    stopKeepTrack zero tr circA diameter duration = stopKeepTrack zero tr' circA diameter duration := by
  have ht : ∀ i, (tr i).t = (tr' i).t := fun i => ((Fix.flat_eq_iff _ _).mp (h i)).2.2
  funext a e
  unfold stopKeepTrack
  simp only [ht]
end flat

section ring
variable {K : Type} [CommRing K] [LinearOrder K] [IsStrictOrderedRing K]

def Enclosed (tr : Nat → Fix K) (cx cy r2 : K) (i e : Nat) : Prop :=
  ∀ k, i ≤ k → k ≤ e → ((tr k).x - cx) * ((tr k).x - cx) + ((tr k).y - cy) * ((tr k).y - cy) ≤ r2

theorem dist2D2_le_of_disc (p q : Fix K) (cx cy r2 : K)
    (hp : (p.x - cx) * (p.x - cx) + (p.y - cy) * (p.y - cy) ≤ r2)
    (hq : (q.x - cx) * (q.x - cx) + (q.y - cy) * (q.y - cy) ≤ r2) : dist2D2 p q ≤ 4 * r2 := by
  unfold dist2D2
  linear_combination Plane.sq_dist_le_of_disc hp hq

theorem enclosed_mono (tr : Nat → Fix K) (cx cy r2 : K) (i e i' e' : Nat) (h : Enclosed tr cx cy r2 i e) (hi : i ≤ i') (he : e' ≤ e) :
    Enclosed tr cx cy r2 i' e' := fun k h1 h2 => h k (by omega) (by omega)
end ring
end TV.Partition
