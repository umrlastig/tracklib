import TracklibVerif.Lemmas.FeaturesFrame
/-! Read-back of operator results on the specification table: after a void operator returns `temp`, the
output name reads `temp` ("reading a name returns what was last written under it" for operator outputs). -/
namespace TV.Features
variable {V : Type}
open Tbl

section
variable [Inhabited V] {n : Nat}

structure AInv (n : Nat) (a : ATab V) : Prop where
  cols : ∀ p ∈ a.cols, p.2.length = n
  size : a.size = n

theorem ainv_abs {st : St V} (h : Inv n st) : AInv n (abs st) := by
  refine ⟨?_, abs_size h⟩
  intro p hp
  simp only [abs, List.mem_map] at hp
  obtain ⟨q, _, rfl⟩ := hp
  simp [colAt_length, h.size]

end

theorem addListToAF_spec (nm : String) (arr : List V) (hr : reserved nm = false) (a : ATab V) (col : List V)
    (hl : lookup a.cols nm = some col) (hc : col.length = a.size) (ha : arr.length = a.size) :
    ∃ a', addListToAF (σ := ATab V) nm arr a = (.ok (), a') ∧ lookup a'.cols nm = some arr := by
  obtain ⟨_, a', e, col', hl', hc', hpre⟩ := CinTab.triple_forEach_range
    (fun i => match arr[i]? with
      | some v => setObsA nm i v
      | none => (M.throw .index : M (ATab V) Unit))
    (fun i a => ∃ col, lookup a.cols nm = some col ∧ col.length = arr.length ∧ ∀ j, j < i → col[j]? = arr[j]?)
    a.size (fun i hi a ⟨col, hl, hc, hpre⟩ => by
      have hia : i < arr.length := by omega
      refine ⟨(), _, by rw [List.getElem?_eq_getElem hia]; exact setObsA_ok a nm i arr[i] col hr hl (by omega),
        col.set i arr[i], by rw [lookup_replaceCol]; simp [hl], by rw [List.length_set]; exact hc, fun j hj => ?_⟩
      by_cases hji : j = i
      · subst hji; rw [List.getElem?_set_self (by omega), List.getElem?_eq_getElem hia]
      · rw [List.getElem?_set_ne (Ne.symm hji)]; exact hpre j (by omega))
    a ⟨col, hl, by omega, fun j hj => by omega⟩
  refine ⟨a', ?_, ?_⟩
  · unfold addListToAF
    rw [bind_of_ok (show Tbl.size a = (.ok a.size, a) from rfl)]
    exact e
  · rw [hl', List.ext_getElem? (l₁ := col') (l₂ := arr) fun j => ?_]
    by_cases hj : j < a.size
    · exact hpre j hj
    · rw [List.getElem?_eq_none (by omega), List.getElem?_eq_none (by omega)]

section
variable [Inhabited V] {n : Nat}

instance : Step (Eq : ATab V → ATab V → Prop) := ⟨fun _ => rfl, fun h1 h2 => h1.trans h2⟩

end

section
variable {n : Nat}

theorem roPrim : PrimRel (V := V) (Eq : ATab V → ATab V → Prop) Eq (fun _ => False) (fun _ => False) False :=
  ⟨rel_eq fun _ => rfl, fun _ => rel_eq fun _ => rfl, rel_eq fun _ => rfl,
   fun o nm => rel_eq fun a => (getA_snd o nm a).symm, fun o nm i => rel_eq fun a => (getObsA_snd o nm i a).symm,
   fun _ _ _ h => h.elim, fun _ _ h => h.elim, fun _ _ h => h.elim, fun _ h => h.elim, fun _ _ _ h => h.elim⟩

theorem createA_ok_inv (out : String) (z : V) (a a1 : ATab V) (u : Unit) (hA : AInv n a)
    (h : createA out (.scalar z) a = (.ok u, a1)) :
    reserved out = false ∧ n ≠ 0 ∧ AInv n a1 ∧ ∃ col, lookup a1.cols out = some col ∧ col.length = n := by
  generalize hi : Init.scalar z = init at h
  revert h
  fun_cases createA out init a <;> intro h <;> cases h <;> cases hi
  all_goals
    rename_i hr hs hh
    have hr : reserved out = false := by simpa using hr
    have hn : n ≠ 0 := by rw [← hA.size]; simpa using hs
  · obtain ⟨col, hc⟩ := Option.isSome_iff_exists.mp (show (lookup a.cols out).isSome = true by simpa [hasA, hr] using hh)
    obtain ⟨p, hp, rfl⟩ := lookup_mem _ _ _ hc
    exact ⟨hr, hn, hA, _, hc, hA.cols p hp⟩
  · have hl : lookup a.cols out = none := by simpa [hasA, hr] using hh
    refine ⟨hr, hn, ⟨fun p hp => ?_, hA.size⟩, List.replicate a.size z, ?_, by simp [hA.size]⟩
    · rcases List.mem_append.mp hp with hp | hp
      · exact hA.cols p hp
      · cases List.mem_singleton.mp hp; simp [hA.size]
    · rw [lookup_append_new _ _ _ _ hl]; simp

/-- the common shape of the void operators: create the output, compute `temp` by reading, write it back -/
theorem void_pattern (out : String) (z : V) (compute : Nat → M (ATab V) (List V))
    (hcomp : ∀ k, Rel Eq Eq (fun t => k ≠ 0 → t.length = k) (compute k) (compute k))
    (a a' : ATab V) (temp : List V) (hA : AInv n a)
    (h : (tblATab.create out (.scalar z) >>= fun _ => tblATab.size >>= fun k => compute k >>= fun t =>
            addListToAF (σ := ATab V) out t >>= fun _ => pure t) a = (.ok temp, a')) :
    reserved out = false ∧ lookup a'.cols out = some temp := by
  obtain ⟨u, a1, hc, h1⟩ := bind_ok h
  obtain ⟨hr, hn, hA1, col, hl, hcl⟩ := createA_ok_inv out z a a1 u hA hc
  obtain ⟨k, a2, hs, h2⟩ := bind_ok h1
  have hk : k = n ∧ a2 = a1 := by
    have : (Except.ok a1.size, a1) = (Except.ok k, a2) := hs
    cases this; exact ⟨hA1.size, rfl⟩
  obtain ⟨hk1, hk2⟩ := hk
  rw [hk1, hk2] at h2
  obtain ⟨t, a3, hm, h3⟩ := bind_ok h2
  obtain ⟨_, _, e3, hlen⟩ := hcomp n a1 a1 rfl
  rw [hm] at e3 hlen
  have e3 : a3 = a1 := e3.symm
  rw [e3] at h3
  have ht : t.length = n := hlen t rfl hn
  obtain ⟨u2, a4, hadd, h4⟩ := bind_ok h3
  obtain ⟨a5, e1, e2⟩ := addListToAF_spec out t hr a1 col hl (by rw [hcl, hA1.size]) (by rw [ht, hA1.size])
  rw [e1] at hadd
  have h5 : ((Except.ok t : Except Err (List V)), a4) = (Except.ok temp, a') := h4
  cases h5
  cases hadd
  exact ⟨hr, e2⟩

theorem binaryVoid_result (o : Ops V) (k : BOp) (in1 in2 out : String) (a a' : ATab V) (temp : List V)
    (hA : AInv n a) (h : binaryVoid (σ := ATab V) o k in1 in2 out a = (.ok temp, a')) :
    reserved out = false ∧ lookup a'.cols out = some temp :=
  void_pattern out o.zero _ (fun k => rel_mapL_range k fun i => rel_bind (roPrim.getObs o in1 i) (fun _ _ =>
    rel_bind (roPrim.getObs o in2 i) (fun _ _ => rel_ofExcept _))) a a' temp hA h

theorem applyVoid_result (o : Ops V) (f : V → Except Err V) (inp out : String) (a a' : ATab V)
    (temp : List V) (hA : AInv n a) (h : applyVoid (σ := ATab V) o f inp out a = (.ok temp, a')) :
    reserved out = false ∧ lookup a'.cols out = some temp :=
  void_pattern out o.zero _ (fun k => rel_mapL_range k fun i => rel_bind (roPrim.getObs o inp i) (fun _ _ =>
    rel_ofExcept _)) a a' temp hA h

theorem scalarVoid_result (o : Ops V) (k : SOp) (inp : String) (arg : V) (out : String) (a a' : ATab V)
    (temp : List V) (hA : AInv n a) (h : scalarVoid (σ := ATab V) o k inp arg out a = (.ok temp, a')) :
    reserved out = false ∧ lookup a'.cols out = some temp :=
  applyVoid_result o (fun x => k.f o x arg) inp out a a' temp hA h

theorem shiftCircular_result (o : Ops V) (inp : String) (arg : V) (out : String) (a a' : ATab V)
    (temp : List V) (hA : AInv n a) (h : shiftCircular (σ := ATab V) o inp arg out a = (.ok temp, a')) :
    reserved out = false ∧ lookup a'.cols out = some temp :=
  void_pattern out o.zero _ (fun k => rel_mapL_range k fun _ => rel_bind (rel_ofExcept _) (fun j _ =>
    roPrim.getObs o inp j)) a a' temp hA h

theorem unaryVoid_result (o : Ops V) (k : UOp) (inp out : String) (a a' : ATab V) (temp : List V)
    (hA : AInv n a) (h : unaryVoid (σ := ATab V) o k inp out a = (.ok temp, a')) :
    reserved out = false ∧ lookup a'.cols out = some temp :=
  void_pattern out o.zero _ (fun m => rel_unaryTemp roPrim o k inp m) a a' temp hA h

end

variable [Inhabited V] {n : Nat}

omit [Inhabited V] in
theorem bind_col_ok {σ : Type} {m : M σ (List V)} {s s' : σ} {temp : List V}
    (h : (m >>= fun l => pure (Ret.col l)) s = (.ok (.col temp), s')) : m s = (.ok temp, s') := by
  obtain ⟨l, s1, h1, h2⟩ := bind_ok h
  cases (h2 : ((Except.ok (Ret.col l) : Except Err (Ret V)), s1) = _)
  exact h1

theorem read_back (o : Ops V) {α : Type} {m : M (St V) α} {ma : M (ATab V) α} (hs : Sim n (fun _ => True) m ma)
    {out : String} {x : α} {temp : List V}
    (hA : ∀ a a', AInv n a → ma a = (.ok x, a') → reserved out = false ∧ lookup a'.cols out = some temp)
    (st : St V) (h : Inv n st) (hres : (m st).1 = .ok x) : read o (m st).2 out = .ok temp := by
  obtain ⟨hi, href, _⟩ := hs st h
  rw [hres] at href
  obtain ⟨hr, hl⟩ := hA _ _ (ainv_abs h) href
  rw [read_abs o hi, aread_feature o _ hr, hl]

end TV.Features
