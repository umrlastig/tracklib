import TracklibVerif.Lemmas.SeqFeat
/-! Helper lemmas for C04: the invariant of a session (operators applied in sequence): every
observation of every track of the pool reads, under every name its track lists, its own value. Core Lean only. -/
namespace TV.Seq

/-- `own tag nm` = the value the observation `tag` holds for the feature `nm`. A track is good when its
table is well-formed and every one of its observations reads its own value under every listed name. -/
def Good (own : Nat → String → Int) (tr : Track) : Prop :=
  WF tr.table ∧ ∀ o ∈ tr.pts, ∀ nm ∈ tr.names, o.read tr.table nm = .val (own o.tag nm)

variable {own : Nat → String → Int}

theorem good_intro {r s : Track} (hs : Good own s) (ht : r.table = s.table)
    (hm : ∀ o ∈ r.pts, o ∈ s.pts ∨ ∀ nm ∈ s.names, o.read s.table nm = .val (own o.tag nm)) : Good own r := by
  refine ⟨ht ▸ hs.1, fun o ho nm hnm => ?_⟩
  rw [Track.names, ht] at hnm
  rw [ht]
  exact (hm o ho).elim (fun h => hs.2 o h nm hnm) (fun h => h nm hnm)

theorem good_of_sub {r s : Track} (hs : Good own s) (ht : r.table = s.table) (hm : ∀ o ∈ r.pts, o ∈ s.pts) :
    Good own r :=
  good_intro hs ht (fun o ho => .inl (hm o ho))

theorem good_insert {tr r : Track} {o : Obs} (hg : Good own tr)
    (ho : ∀ nm ∈ tr.names, o.read tr.table nm = .val (own o.tag nm))
    (ht : r.table = tr.table) (hm : ∀ x ∈ r.pts, x = o ∨ x ∈ tr.pts) : Good own r :=
  good_intro hg ht (fun x hx => (hm x hx).elim (fun e => .inr (e ▸ ho)) .inl)

theorem good_concat {t1 t2 : Track} (h1 : Good own t1) (h2 : Good own t2) : Good own (concat t1 t2) := by
  have ht := concat_table t1 t2
  by_cases hn : t1.names = t2.names
  · rw [if_pos hn] at ht
    have h12 : t1.table = t2.table := wf_eq_of_names h1.1 h2.1 hn
    refine good_intro h1 ht (fun o ho => (List.mem_append.mp ho).imp id (fun ho nm hnm => ?_))
    rw [Track.names, h12] at hnm
    rw [h12]
    exact h2.2 o ho nm hnm
  · rw [if_neg hn] at ht
    refine ⟨ht ▸ wf_nil, fun o _ nm hnm => ?_⟩
    rw [Track.names, ht] at hnm
    cases hnm

theorem mkObs_reads (tr : Track) (hwf : WF tr.table) (tag : Nat) (time : Int) (vals : List (String × Int)) (o : Obs)
    (h : mkObs tr tag time vals = some o) (hv : ∀ nm v, lookVal vals nm = some v → v = own tag nm) :
    o.tag = tag ∧ ∀ nm ∈ tr.names, o.read tr.table nm = .val (own o.tag nm) := by
  unfold mkObs at h
  split at h
  · rename_i hall
    cases h
    refine ⟨rfl, ?_⟩
    intro nm hnm
    obtain ⟨k, hk⟩ := List.mem_iff_getElem?.mp hnm
    have hcol := hwf.colOf_of_getElem? hk
    have hsome : (lookVal vals nm).isSome = true := (List.all_eq_true.mp hall) nm hnm
    obtain ⟨v, hvv⟩ := Option.isSome_iff_exists.mp hsome
    have hfeat : (tr.names.map (fun nm => (lookVal vals nm).getD 0))[k]? = some v := by
      rw [List.getElem?_map]
      have : tr.names[k]? = some nm := hk
      rw [this]; simp [hvv]
    simp only [Obs.read, hcol, hfeat]
    rw [hv nm v hvv]
  · cases h

theorem newTrack_good (G : Track → Prop) (pool : List Track) (r : Option Track) (err : String)
    (hg : ∀ t ∈ pool, G t) (hr : ∀ r', r = some r' → G r') : ∀ t ∈ (newTrack pool r err).1, G t := by
  intro t ht
  unfold newTrack at ht
  split at ht
  · rename_i r'
    rcases List.mem_append.mp ht with h | h
    · exact hg t h
    · have : t = r' := by simpa using h
      subst this; exact hr t rfl
  · exact hg t ht

theorem inPlace_good (G : Track → Prop) (pool : List Track) (k : Nat) (r : Track) (out : Out)
    (hg : ∀ t ∈ pool, G t) (hr : G r) : ∀ t ∈ (inPlace pool k r out).1, G t := by
  intro t ht
  rcases List.mem_or_eq_of_mem_set (show t ∈ pool.set k r from ht) with h | h
  · exact hg t h
  · subst h; exact hr

/-- an in-place operation that may raise (`sort`, `insertObs(obs)`): the operand is replaced only when it returned -/
theorem tryInPlace_good (G : Track → Prop) (pool : List Track) (k : Nat) (r : Option Track) (err : String)
    (hg : ∀ t ∈ pool, G t) (hr : ∀ r', r = some r' → G r') :
    ∀ t ∈ (match r with | some r' => inPlace pool k r' Out.done | none => (pool, Out.error err)).1, G t := by
  cases r with
  | none => exact hg
  | some r' => exact inPlace_good G pool k r' _ hg (hr r' rfl)

/-- the shape of every unary case of `applyOp`: the operand is looked up in the pool, a missing one changes nothing -/
theorem withTrack_mem {G : Track → Prop} (pool : List Track) (k : Nat) (f : Track → List Track × Out)
    (hg : ∀ t ∈ pool, G t) (hf : ∀ tr, pool[k]? = some tr → ∀ t ∈ (f tr).1, G t) :
    ∀ t ∈ (match pool[k]? with | none => (pool, Out.noTrack) | some tr => f tr).1, G t := by
  cases h : pool[k]? with
  | none =>
    exact hg
  | some tr =>
    exact hf tr h

/-- the same for the two operands of `+` and `extractSpanTime(track)` -/
theorem withTracks_mem {G : Track → Prop} (pool : List Track) (k m : Nat) (f : Track → Track → List Track × Out)
    (hg : ∀ t ∈ pool, G t) (hf : ∀ t1 t2, pool[k]? = some t1 → pool[m]? = some t2 → ∀ t ∈ (f t1 t2).1, G t) :
    ∀ t ∈ (match pool[k]?, pool[m]? with | some t1, some t2 => f t1 t2 | _, _ => (pool, Out.noTrack)).1, G t := by
  cases h1 : pool[k]? with
  | none =>
    exact hg
  | some t1 =>
    cases h2 : pool[m]? with
    | none => exact hg
    | some t2 => exact hf t1 t2 h1 h2

end TV.Seq
