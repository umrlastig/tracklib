import TracklibVerif.Lemmas.DTWTable
/-! The arguments of `match` / `compare` as the code tests them: `_p2weight` case by case, `_exponent` on type names (three evaluated
facts about the two Python names, `pyNames_spec`; no numpy name contains `function`), the error of the first `_distance` call; and what a user
reads back from the `pair` lists of the returned track (`readBack_eq`). -/
namespace TV.DTW

section front
variable {α : Type} [Add α] [Mul α] [LT α] [DecidableLT α] [OfNat α 0] [OfNat α 1]

/-- `_p2weight(p)` for a number whose type name contains `int` or `float` (Python `int` / `float`, every
`numpy.int*`, `numpy.uint*`, `numpy.float*`): the accumulation for the value of `p` -/
theorem p2weight_numeric (p : PArg) (v : PNorm) (hn : p.isNum = true) (hv : p.val = some v) :
    p2weight (α := α) p = .ok (weight v) := by
  unfold p2weight
  simp only [hn, hv]
  cases v with
  | nat k => cases k <;> simp
  | inf => simp

/-- an infinite `p` gives `max(A, B)` whatever its type -/
theorem p2weight_inf (p : PArg) (hv : p.val = some .inf) : p2weight (α := α) p = .ok (weight .inf) := by
  unfold p2weight
  simp [hv]

/-- a `p` equal to 0 gives `A + (B != 0)*1` whatever its type -/
theorem p2weight_zero (p : PArg) (hv : p.val = some (.nat 0)) : p2weight (α := α) p = .ok (weight (.nat 0)) := by
  unfold p2weight
  simp [hv]

/-- a callable `p` (type name contains `function`) is used as the accumulation -/
theorem p2weight_callable (p : PArg) (v : PNorm) (hf : p.isFn = true) (hn : p.isNum = false) (hw : p.fnw = some v)
    (hv : p.val = none) : p2weight (α := α) p = .ok (weight v) := by
  unfold p2weight
  simp [hf, hn, hw, hv]

/-! `_exponent` (1f009f6): the first line of `match` and of `compare` -/

/-- what is evaluated about the two type names `_exponent` produces: they are not numpy names (so `_exponent` keeps them), `_p2weight`
takes them for numbers and not for callables -/
theorem pyNames_spec : ∀ ty ∈ ["<class'float'>", "<class'int'>"], exponentTy ty = ty ∧
    hasSub "function".toList ty.toList = false ∧
    (hasSub "int".toList ty.toList || hasSub "float".toList ty.toList) = true := by
  -- a literal is `String.ofList` of its characters: evaluating `toList` through the UTF-8 encoding is what would cost
  simp only [List.forall_mem_cons, List.not_mem_nil, false_imp_iff, implies_true]
  repeat rw [String.toList_ofList]
  decide +kernel

theorem exponentTy_mem (ty : String) (h : (isNpFloating ty || isNpInteger ty) = true) :
    exponentTy ty ∈ ["<class'float'>", "<class'int'>"] := by
  unfold exponentTy
  cases hf : isNpFloating ty with
  | false =>
    have hi : isNpInteger ty = true := by simpa [hf] using h
    simp [hi]
  | true => simp

/-- the type name of `_exponent(p)` for a numpy floating / integer scalar is that of a Python `float` / `int`: `_p2weight` takes it
for a number and not for a callable -/
theorem exponentTy_numpy (ty : String) (h : (isNpFloating ty || isNpInteger ty) = true) :
    hasSub "function".toList (exponentTy ty).toList = false ∧
    (hasSub "int".toList (exponentTy ty).toList || hasSub "float".toList (exponentTy ty).toList) = true :=
  (pyNames_spec _ (exponentTy_mem ty h)).2

theorem exponentTy_other (ty : String) (h : (isNpFloating ty || isNpInteger ty) = false) : exponentTy ty = ty := by
  rw [Bool.or_eq_false_iff] at h
  simp [exponentTy, h.1, h.2]

theorem exponentTy_idem (ty : String) : exponentTy (exponentTy ty) = exponentTy ty := by
  cases h : isNpFloating ty || isNpInteger ty with
  | false => rw [exponentTy_other ty h, exponentTy_other ty h]
  | true => exact (pyNames_spec _ (exponentTy_mem ty h)).1

/-- no numpy scalar type has `function` in its name: a callable is not touched by `_exponent` -/
theorem isNumpy_not_fn (ty : String) (h : (isNpFloating ty || isNpInteger ty) = true) :
    hasSub "function".toList ty.toList = false := by
  simp only [isNpFloating, isNpInteger, List.contains_cons, List.contains_nil, Bool.or_eq_true, beq_iff_eq, Bool.or_false] at h
  rcases h with (h | h | h | h | h | h) | (h | h | h | h | h | h | h | h | h | h | h | h | h | h) <;>
    (subst h; rw [String.toList_ofList, String.toList_ofList]; decide +kernel)

theorem PArg.isNumpy_of_isFn (p : PArg) (h : p.isFn = true) : p.isNumpy = false :=
  Bool.eq_false_iff.mpr fun hn => Bool.false_ne_true ((isNumpy_not_fn p.tyname hn).symm.trans h)

theorem PArg.exponent_numpy (p : PArg) (h : p.isNumpy = true) :
    p.exponent.isFn = false ∧ p.exponent.isNum = true ∧ p.exponent.val = p.val ∧ p.exponent.fnw = p.fnw :=
  ⟨(exponentTy_numpy p.tyname h).1, (exponentTy_numpy p.tyname h).2, rfl, rfl⟩

theorem PArg.exponent_other (p : PArg) (h : p.isNumpy = false) : p.exponent = p := by
  simp only [PArg.exponent, exponentTy_other p.tyname h]

theorem PArg.exponent_ofNorm (p : PNorm) : (PArg.ofNorm p).exponent = PArg.ofNorm p := by
  cases p <;> simp only [PArg.exponent, PArg.ofNorm] <;> rw [(pyNames_spec _ (by simp)).1]

theorem PArg.exponent_pyInf : PArg.pyInf.exponent = PArg.pyInf := PArg.exponent_ofNorm .inf

theorem PArg.exponent_exponent (p : PArg) : p.exponent.exponent = p.exponent := by
  simp only [PArg.exponent, exponentTy_idem]

theorem PArg.ofNorm_isNum (p : PNorm) : (PArg.ofNorm p).isFn = false ∧ (PArg.ofNorm p).isNum = true := by
  cases p
  · exact (pyNames_spec "<class'int'>" (by simp)).2
  · exact (pyNames_spec "<class'float'>" (by simp)).2

theorem p2weight_ofNorm (p : PNorm) : p2weight (α := α) (PArg.ofNorm p) = .ok (weight p) :=
  p2weight_numeric _ p (PArg.ofNorm_isNum p).2 rfl

theorem p2weight_exponent_ofNorm (p : PNorm) : p2weight (α := α) (PArg.ofNorm p).exponent = .ok (weight p) :=
  (PArg.exponent_ofNorm p).symm ▸ p2weight_ofNorm p

variable [Sub α] [Div α] [LE α] [DecidableLE α] [Neg α] [OfScientific α]

/-- when `_distance` is not defined for this class of positions and this `dim` (`GeoCoords` / `ECEFCoords` have no `U`,
`ECEFCoords` no `distance2DTo`), `match` on two non-empty tracks raises what the first call of `_distance` raises -/
theorem matchBody_distance_error (G : Geom α) (big : α) (mode : Nat) (hm : mode = 2 ∨ mode = 3 ∨ mode = 4) (p : PArg)
    (w : α → α → α) (hp : p2weight (α := α) p = .ok w) (dim : DimArg α) (e : String) (hd : distanceOf G dim = .error e)
    (a : TrackObj α) (t2 : List (Pt α)) (h1 : a.pts.isEmpty = false) (h2 : t2.isEmpty = false) :
    matchBody G big mode p dim a t2 = .error e := by
  have hinf : p2weight (α := α) PArg.pyInf = .ok (weight .inf) := p2weight_inf _ rfl
  unfold matchBody warpOn
  rcases hm with h | h | h <;> subst h <;> simp [hp, hinf, bind, Except.bind, h1, h2, hd]

end front

/-- the links as a user reads them from the returned track: for observation `j = 0, 1, …` of track1 in turn, the pairs
`(i, j)` for the `i` of its `pair` list in order (`[(i, j) for j, l in enumerate(pairs) for i in l]`) -/
def readBack {α : Type} (rows : List (Row α)) : List (Nat × Nat) :=
  (List.range rows.length).flatMap (fun j => (((rows[j]?).map (·.pair)).getD []).map (fun i => (i, j)))

theorem filter_lt_succ (n : Nat) : ∀ (L : List (Nat × Nat)), L.Pairwise (fun a b => a.2 ≤ b.2) →
    L.filter (fun s => decide (s.2 < n + 1)) = L.filter (fun s => decide (s.2 < n)) ++ L.filter (fun s => s.2 == n)
  | [], _ => rfl
  | a :: L, hp => by
    obtain ⟨ha, hL⟩ := List.pairwise_cons.mp hp
    have ih := filter_lt_succ n L hL
    by_cases h : a.2 < n
    · simp [h, Nat.lt_succ_of_lt h, Nat.ne_of_lt h, ih]
    · have h0 : L.filter (fun s => decide (s.2 < n)) = [] :=
        List.filter_eq_nil_iff.mpr fun s hs => by have := ha s hs; simp; omega
      rw [h0] at ih
      by_cases h' : a.2 = n
      · simp [h', h0, ih]
      · simp [h, h', h0, ih, show ¬ a.2 < n + 1 by omega]

theorem flatMap_filter_lt (L : List (Nat × Nat)) (hp : L.Pairwise (fun a b => a.2 ≤ b.2)) :
    ∀ n : Nat, (List.range n).flatMap (fun j => L.filter (fun s => s.2 == j)) = L.filter (fun s => decide (s.2 < n))
  | 0 => by simp
  | n+1 => by
    rw [List.range_succ, List.flatMap_append, flatMap_filter_lt L hp n, filter_lt_succ n L hp]
    simp

theorem flatMap_filter_sorted (n : Nat) (L : List (Nat × Nat)) (hp : L.Pairwise (fun a b => a.2 ≤ b.2)) (hb : ∀ s ∈ L, s.2 < n) :
    (List.range n).flatMap (fun j => L.filter (fun s => s.2 == j)) = L :=
  (flatMap_filter_lt L hp n).trans (List.filter_eq_self.mpr fun s hs => decide_eq_true (hb s hs))

/-- **what a user reads back**: the `pair` list of every observation `j` of `outOf` holds the partners that the coupling `S` gives it,
in coupling order, so that reading the links observation by observation gives exactly the coupling, first pair first; in particular the
number of stored links is `S.length` -/
theorem readBack_eq {α : Type} [Sub α] [OfNat α 0]
    (dist : Pt α → Pt α → α) (t1 t2 : List (Pt α)) (S : List (Nat × Nat)) (score : α)
    (hS : BackPath S ∧ S.head? = some (t2.length - 1, t1.length - 1)) (h1 : 0 < t1.length) :
    readBack (outOf dist t1 t2 S score).rows = S.reverse := by
  obtain ⟨hbp, hhd⟩ := hS
  have hl := outOf_length dist t1 t2 S score
  have hp := outOf_pair dist t1 t2 S score
  generalize (outOf dist t1 t2 S score).rows = rows at hl hp
  have hb := backPath_bounds _ _ _ hbp hhd
  have hsorted : S.reverse.Pairwise (fun a b => a.2 ≤ b.2) := List.pairwise_reverse.mpr (backPath_sorted S _ _ hbp hhd)
  have hlt : ∀ s ∈ S.reverse, s.2 < t1.length := fun s hs => by have := (hb s (List.mem_reverse.mp hs)).2; omega
  rw [← flatMap_filter_sorted t1.length S.reverse hsorted hlt]
  unfold readBack
  rw [hl]
  refine congrArg List.flatten (List.map_congr_left fun j hj => ?_)
  rw [hp j (List.mem_range.mp hj)]
  exact partners_map_pair S.reverse j

end TV.DTW
