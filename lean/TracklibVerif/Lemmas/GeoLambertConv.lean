import TracklibVerif.Lemmas.GeoLambert
import Mathlib.Analysis.Calculus.MeanValue
import Mathlib.Analysis.SpecialFunctions.Trigonometric.ArctanDeriv
import Mathlib.Analysis.SpecialFunctions.Log.Deriv
import Mathlib.Analysis.SpecialFunctions.Trigonometric.Deriv
/-! Helper lemmas for C14, convergence of the fixed-point loop of `__projFromLambert93`: the loop body is
`φ ↦ gd (lambU φ + L)` with `gd` 1-Lipschitz and `lambU` Lipschitz with constant `E²/(1 − E²)` (mean value theorem), hence
a contraction; the true latitude is its fixed point and the start value is one pass of the loop body from 0, so the result
of the 10 passes is the 11-fold iterate from 0. -/
namespace TV.Geo
open Real

/-- mean value theorem on the whole line: a bound on the derivative is a Lipschitz constant -/
theorem lipschitz_of_deriv_le {f f' : ℝ → ℝ} {C : ℝ} (hd : ∀ x, HasDerivAt f (f' x) x) (hb : ∀ x, |f' x| ≤ C)
    (x y : ℝ) : |f y - f x| ≤ C * |y - x| := by
  simpa [Real.norm_eq_abs] using Convex.norm_image_sub_le_of_norm_deriv_le (s := Set.univ)
    (fun z _ => (hd z).differentiableAt) (fun z _ => by rw [(hd z).deriv]; exact hb z)
    convex_univ (Set.mem_univ x) (Set.mem_univ y)

theorem gd_hasDeriv (x : ℝ) : HasDerivAt gd (2 * (1 / (1 + Real.exp x ^ 2) * Real.exp x)) x :=
  (((Real.hasDerivAt_exp x).arctan).const_mul 2).sub_const _

theorem gd_lipschitz (x y : ℝ) : |gd y - gd x| ≤ |y - x| := by
  rw [← one_mul |y - x|]
  refine lipschitz_of_deriv_le gd_hasDeriv (fun z => ?_) x y
  have ht := Real.exp_pos z
  -- `2 t / (1 + t²) ≤ 1` is `(t − 1)² ≥ 0`
  rw [abs_of_nonneg (by positivity), show 2 * (1 / (1 + Real.exp z ^ 2) * Real.exp z) = 2 * Real.exp z / (1 + Real.exp z ^ 2) by ring,
    div_le_one (by positivity)]
  linarith [sq_nonneg (Real.exp z - 1)]

theorem lambE_sq_lt : 0 < 1 - (lambE : ℝ) ^ 2 := by rw [lambE_val]; norm_num

/-- contraction factor `E² / (1 − E²)` -/
noncomputable def lambK : ℝ := (lambE : ℝ) ^ 2 / (1 - (lambE : ℝ) ^ 2)

theorem lambK_nonneg : 0 ≤ lambK := div_nonneg (sq_nonneg _) lambE_sq_lt.le

theorem lambK_le : lambK ≤ 7 / 1000 := by
  unfold lambK
  rw [lambE_val, div_le_iff₀ (by norm_num)]
  norm_num

theorem lambU_hasDeriv (φ : ℝ) :
    HasDerivAt lambU ((lambE : ℝ) ^ 2 * Real.cos φ / ((1 + lambE * Real.sin φ) * (1 - lambE * Real.sin φ))) φ := by
  have hp := (one_add_Es_pos φ).ne'
  have hm := (one_sub_Es_pos φ).ne'
  have h1 : HasDerivAt (fun φ => 1 + (lambE : ℝ) * Real.sin φ) (lambE * Real.cos φ) φ :=
    ((Real.hasDerivAt_sin φ).const_mul _).const_add 1
  have h2 : HasDerivAt (fun φ => 1 - (lambE : ℝ) * Real.sin φ) (-(lambE * Real.cos φ)) φ :=
    ((Real.hasDerivAt_sin φ).const_mul _).const_sub 1
  refine (((h1.log hp).sub (h2.log hm)).const_mul ((lambE : ℝ) / 2)).congr_deriv ?_
  field_simp
  ring

theorem lambU_lipschitz (x y : ℝ) : |lambU y - lambU x| ≤ lambK * |y - x| := by
  refine lipschitz_of_deriv_le lambU_hasDeriv (fun z => ?_) x y
  have hpm := mul_pos (one_add_Es_pos z) (one_sub_Es_pos z)
  -- numerator at most `E²`, denominator `1 − E² sin² z` at least `1 − E²`
  have hden : 1 - (lambE : ℝ) ^ 2 ≤ (1 + lambE * Real.sin z) * (1 - lambE * Real.sin z) := by
    linarith [mul_le_mul_of_nonneg_left (Real.sin_sq_le_one z) (sq_nonneg (lambE : ℝ))]
  rw [abs_div, abs_mul, abs_of_nonneg (sq_nonneg _), abs_of_pos hpm]
  exact div_le_div₀ (sq_nonneg _) (mul_le_of_le_one_right (sq_nonneg _) (Real.abs_cos_le_one z)) lambE_sq_lt hden

theorem lambStep_contraction (L x y : ℝ) :
    |lambStep realTrig L y - lambStep realTrig L x| ≤ lambK * |y - x| := by
  rw [lambStep_eq, lambStep_eq]
  calc |gd (lambU y + L) - gd (lambU x + L)| ≤ |(lambU y + L) - (lambU x + L)| := gd_lipschitz _ _
    _ = |lambU y - lambU x| := by rw [add_sub_add_right_eq_sub]
    _ ≤ lambK * |y - x| := lambU_lipschitz x y

theorem iter_contraction {f : ℝ → ℝ} {K : ℝ} (hK : 0 ≤ K) (hf : ∀ x y, |f y - f x| ≤ K * |y - x|) {fix : ℝ}
    (hfix : f fix = fix) (k : Nat) (x : ℝ) : |iter f k x - fix| ≤ K ^ k * |x - fix| := by
  induction k generalizing x with
  | zero => simp [iter]
  | succ k ih =>
    calc |iter f k (f x) - fix| ≤ K ^ k * |f x - fix| := ih _
      _ = K ^ k * |f x - f fix| := by rw [hfix]
      _ ≤ K ^ k * (K * |x - fix|) := mul_le_mul_of_nonneg_left (hf fix x) (pow_nonneg hK k)
      _ = K ^ (k + 1) * |x - fix| := by rw [pow_succ, mul_assoc]

theorem gd_eq_lambStep_zero (L : ℝ) : gd L = lambStep realTrig L 0 := by
  rw [lambStep_eq, lambU, Real.sin_zero, mul_zero, add_zero, sub_zero, sub_self, mul_zero, zero_add]

theorem lambert_iter_close {φ : ℝ} (hφ : φ ∈ Set.Ioo (-(π / 2)) (π / 2)) (k : Nat) :
    |iter (lambStep realTrig (lambLatIso φ)) k (gd (lambLatIso φ)) - φ| ≤ lambK ^ (k + 1) * |φ| := by
  have h := iter_contraction lambK_nonneg (lambStep_contraction _) (lambert_fixed_point' hφ) (k + 1) 0
  rwa [zero_sub, abs_neg, iter, ← gd_eq_lambStep_zero] at h

theorem lambert_lat_converges' (g : V3 ℝ) (h1 : -90 < g.y) (h2 : g.y < 90) :
    |(fromLambert93 realTrig (toLambert93 realTrig g)).y - g.y| ≤ lambK ^ 11 * |g.y| := by
  rw [lambert_round_real g]
  exact abs_deg_le (lambert_iter_close (rad_mem h1 h2) 10)

theorem lambert_lat_bound' (g : V3 ℝ) (h1 : -90 < g.y) (h2 : g.y < 90) :
    |(fromLambert93 realTrig (toLambert93 realTrig g)).y - g.y| ≤ 1 / 10 ^ 20 :=
  calc _ ≤ lambK ^ 11 * |g.y| := lambert_lat_converges' g h1 h2
    _ ≤ (7 / 1000) ^ 11 * 90 :=
        mul_le_mul (pow_le_pow_left₀ lambK_nonneg lambK_le 11) (abs_le.mpr ⟨h1.le, h2.le⟩) (abs_nonneg _) (by norm_num)
    _ ≤ 1 / 10 ^ 20 := by norm_num
end TV.Geo
