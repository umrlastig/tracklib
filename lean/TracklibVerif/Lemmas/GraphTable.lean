import TracklibVerif.Lemmas.GraphStop
/-! Lemmas for C06: `Lemmas/GraphStop.lean` at the Dijkstra queue (priority = label) — the label of the target under
target stop + cut-off, the recorded entries — and the `{(source, node): distance}` table built by
`all_shortest_distances` / `prepare`, read as a function of its key (`record_apply`, `fold_record_apply`). -/
namespace TV.Graph
section look
variable {W : Type}

/-- the value the last entry for the key `v` carries, if any -/
def look (out : List (Nat × W)) (v : Nat) : Option W := (out.reverse.find? (·.1 = v)).map (·.2)

theorem look_cons (p : Nat × W) (out : List (Nat × W)) (v : Nat) :
    look (p :: out) v = (look out v).or (if p.1 = v then some p.2 else none) := by
  unfold look
  rw [List.reverse_cons, List.find?_append, List.find?_singleton]
  cases out.reverse.find? (·.1 = v) with
  | some a => rfl
  | none => by_cases h : p.1 = v <;> simp [h]

theorem record_apply (tb : Table W) (s : Nat) (out : List (Nat × W)) (s' v : Nat) :
    record tb s out (s', v) = if s' = s then (look out v).or (tb (s', v)) else tb (s', v) := by
  induction out generalizing tb with
  | nil => exact (ite_self _).symm
  | cons p out ih =>
    rw [show record tb s (p :: out) = record (tb.set (s, p.1) p.2) s out from rfl, ih, look_cons]
    by_cases hs : s' = s
    · simp only [hs, if_true, Table.set, Prod.mk.injEq, true_and, eq_comm (a := v)]
      cases look out v with
      | some z => rfl
      | none => split <;> rfl
    · simp only [hs, if_false, Table.set, Prod.mk.injEq, false_and]

theorem look_mem {out : List (Nat × W)} {v : Nat} {y : W} (h : look out v = some y) : (v, y) ∈ out := by
  obtain ⟨⟨a, b⟩, hp, rfl⟩ := Option.map_eq_some_iff.1 h
  obtain rfl : a = v := of_decide_eq_true (List.find?_some (p := fun q : Nat × W => decide (q.1 = v)) hp)
  exact List.mem_reverse.1 (List.mem_of_find?_eq_some hp)

theorem look_of_mem {out : List (Nat × W)} {v : Nat} {y : W} (h : (v, y) ∈ out) : ∃ y', look out v = some y' := by
  obtain ⟨p, hp⟩ := Option.isSome_iff_exists.1 (List.find?_isSome (p := fun q : Nat × W => decide (q.1 = v)) |>.2
    ⟨(v, y), List.mem_reverse.2 h, decide_eq_true rfl⟩)
  exact ⟨p.2, congrArg (Option.map Prod.snd) hp⟩

theorem fold_record_apply (F : Nat → List (Nat × W)) (order : List Nat) (tb : Table W) (s v : Nat) :
    (order.foldl (fun tb s => record tb s (F s)) tb) (s, v) =
      if s ∈ order then (look (F s) v).or (tb (s, v)) else tb (s, v) := by
  induction order generalizing tb with
  | nil => rfl
  | cons s0 rest ih =>
    rw [List.foldl_cons, ih, record_apply]
    by_cases h0 : s = s0
    · subst h0
      simp only [List.mem_cons, true_or, if_true]
      split
      · cases look (F s) v <;> rfl
      · rfl
    · simp only [List.mem_cons, h0, false_or, if_false]
end look

variable {W : Type} [LinearOrder W] [Add W] [Zero W] [WalkAdd W]

theorem IsDist.unique {net : Net W} {s v : Nat} {y y' : W} (h : IsDist net s v y) (h' : IsDist net s v y') : y = y' :=
  le_antisymm (h.2 y' h'.1) (h'.2 y h.1)

theorem run_isDist (net : Net W) (hnet : WFNet net) (s : Nat) (hs : s < net.n) (v : Nat) (y : W) :
    (run net net.n (St.init s)).d v = some y ↔ IsDist net s v y :=
  isDist_iff_label (forward_correct net hnet s hs).1 (forward_correct net hnet s hs).2.1 v y

theorem exists_dist (net : Net W) (hnet : WFNet net) (s : Nat) (hs : s < net.n) {v : Nat} {c : W} (hw : Walk net s v c) :
    ∃ y, IsDist net s v y ∧ y ≤ c := by
  obtain ⟨y, hy, hle⟩ := (forward_correct net hnet s hs).1 v c hw
  exact ⟨y, (run_isDist net hnet s hs v y).1 hy, hle⟩

theorem cut_sound_of_walk (net : Net W) (hnet : WFNet net) (s : Nat) (hs : s < net.n) {t : Nat} {cut : Option W}
    {r : Option W} (hcut : ∀ d, IsDist net s t d → Within cut d → r = some d) {y : W} (e : r = some y) (hw : Walk net s t y) :
    ∃ d, IsDist net s t d ∧ d ≤ y ∧ (Within cut y → y = d) := by
  obtain ⟨d, hd, hle⟩ := exists_dist net hnet s hs hw
  refine ⟨d, hd, hle, fun hwi => ?_⟩
  rw [hcut d hd (fun c hc => le_trans hle (hwi c hc))] at e
  exact (Option.some.inj e).symm

theorem settled_isDist (net : Net W) (hnet : WFNet net) (s : Nat) (st : St W) (hinv : Inv net s st) (u : Nat) (y : W)
    (hv : st.vis u = true) (hd : st.d u = some y) : IsDist net s u y :=
  invP_settled_min (prioOK_label hnet) (inv_iff_invP.1 hinv) hv hd

theorem runForward_ended (net : Net W) (hnet : WFNet net) (s : Nat) (hs : s < net.n) (tg : Option Nat) (cut : Option W) :
    Ended (fun _ y => y) net s (fun st => popMinAux st net.n) tg cut (runForward net s tg cut).1 := by
  unfold runForward
  rw [forward_eq_loopG]
  exact loopG_ended hnet (prioOK_label hnet) (popOK_aux net.n) s hs tg cut

theorem runForward_label (net : Net W) (hnet : WFNet net) (s : Nat) (hs : s < net.n) (tg : Option Nat) (cut : Option W)
    (t : Nat) (htg : ∀ t', tg = some t' → t' = t) (y : W) (hy : IsDist net s t y) (hw : Within cut y) :
    (runForward net s tg cut).1.d t = some y ∧ ((runForward net s tg cut).1.vis t = true ∨ tg = some t) :=
  (runForward_ended net hnet s hs tg cut).label (prioOK_label hnet) (popOK_aux net.n) hy hw htg (fun _ _ _ _ h => h)

theorem runForward_dist (net : Net W) (hnet : WFNet net) (s : Nat) (hs : s < net.n) (tg : Option Nat) (t : Nat)
    (htg : ∀ t', tg = some t' → t' = t) :
    (∀ y, (runForward net s tg none).1.d t = some y ↔ IsDist net s t y) ∧
    ((runForward net s tg none).1.d t = none ↔ ¬ Reachable net s t) :=
  (runForward_ended net hnet s hs tg none).dist (prioOK_label hnet) (popOK_aux net.n) htg

/-- every entry a search writes to `output_dict` — whatever the target and the cut-off — is a true distance that does
not exceed the cut-off, and the entries are exactly the nodes the search visited -/
theorem runForward_entries (net : Net W) (hnet : WFNet net) (s : Nat) (hs : s < net.n) (tgt : Option Nat) (cut : Option W) :
    (∀ u y, (u, y) ∈ (runForward net s tgt cut).2 → IsDist net s u y ∧ Within cut y) ∧
    (∀ u, (runForward net s tgt cut).1.vis u = true ↔ ∃ y, (u, y) ∈ (runForward net s tgt cut).2) := by
  unfold runForward
  rw [forward_eq_loopG]
  exact ⟨(loopG_entries hnet (prioOK_label hnet) (popOK_aux net.n) s hs tgt cut).1,
    (loopG_entries hnet (prioOK_label hnet) (popOK_aux net.n) s hs tgt cut).2.1⟩

/-- T5, one source: without a target the entries are exactly the nodes within the cut-off, each with its distance -/
theorem runForward_out (net : Net W) (hnet : WFNet net) (s : Nat) (hs : s < net.n) (cut : Option W) (v : Nat) (y : W) :
    (v, y) ∈ (runForward net s none cut).2 ↔ (IsDist net s v y ∧ Within cut y) := by
  refine ⟨(runForward_entries net hnet s hs none cut).1 v y, fun ⟨hy, hw⟩ => ?_⟩
  -- `v` is settled, so it has an entry, whose value is a distance too
  obtain ⟨_, h2⟩ := runForward_label net hnet s hs none cut v (fun _ e => nomatch e) y hy hw
  obtain ⟨y', hm⟩ := ((runForward_entries net hnet s hs none cut).2 v).1 (h2.resolve_right (fun e => nomatch e))
  rwa [hy.unique ((runForward_entries net hnet s hs none cut).1 v y' hm).1]

/-- the nodes `visite` after `run_routing_forward(s, cut=cut)` are exactly those within the cut-off -/
theorem visited_iff (net : Net W) (hnet : WFNet net) (s : Nat) (hs : s < net.n) (cut : Option W) (u : Nat) :
    (runForward net s none cut).1.vis u = true ↔ ∃ y, IsDist net s u y ∧ Within cut y := by
  rw [(runForward_entries net hnet s hs none cut).2 u]
  exact exists_congr fun y => runForward_out net hnet s hs cut u y

theorem shortestDistance_spec (net : Net W) (hnet : WFNet net) (s t : Nat) (hs : s < net.n) :
    (∀ y, shortestDistance net s t none = some y ↔ IsDist net s t y) ∧
    (shortestDistance net s t none = none ↔ ¬ Reachable net s t) :=
  runForward_dist net hnet s hs (some t) t (fun _ h => (Option.some.inj h).symm)

theorem shortestDistance_cut (net : Net W) (hnet : WFNet net) (s t : Nat) (hs : s < net.n) (cut : Option W) :
    (∀ y, IsDist net s t y → Within cut y → shortestDistance net s t cut = some y) ∧
    (¬ Reachable net s t → shortestDistance net s t cut = none) :=
  ⟨fun y hy hw => (runForward_label net hnet s hs (some t) cut t (fun _ e => (Option.some.inj e).symm) y hy hw).1,
    (runForward_ended net hnet s hs (some t) cut).unreachable⟩

/-- `shortestDistance_cut` and `shortestDistance_spec` in the form the statements about sessions, families and programs take -/
theorem shortestDistance_props (net : Net W) (hnet : WFNet net) (s t : Nat) (hs : s < net.n) (cut : Option W) :
    (∀ y, IsDist net s t y → Within cut y → shortestDistance net s t cut = some y) ∧
    (¬ Reachable net s t → shortestDistance net s t cut = none) ∧
    (cut = none → ∀ y, shortestDistance net s t cut = some y ↔ IsDist net s t y) ∧
    (cut = none → (shortestDistance net s t cut = none ↔ ¬ Reachable net s t)) :=
  ⟨(shortestDistance_cut net hnet s t hs cut).1, (shortestDistance_cut net hnet s t hs cut).2,
    fun hc => hc ▸ (shortestDistance_spec net hnet s t hs).1, fun hc => hc ▸ (shortestDistance_spec net hnet s t hs).2⟩

theorem look_runForward (net : Net W) (hnet : WFNet net) (s : Nat) (hs : s < net.n) (cut : Option W) (v : Nat) (y : W) :
    look (runForward net s none cut).2 v = some y ↔ (IsDist net s v y ∧ Within cut y) := by
  rw [← runForward_out net hnet s hs cut v y]
  refine ⟨look_mem, fun h => ?_⟩
  obtain ⟨y', hy'⟩ := look_of_mem h
  rw [hy', ((runForward_out net hnet s hs cut v y').1 (look_mem hy')).1.unique ((runForward_out net hnet s hs cut v y).1 h).1]
end TV.Graph
