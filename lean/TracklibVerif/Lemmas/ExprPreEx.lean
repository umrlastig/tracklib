import TracklibVerif.Lemmas.ExprSource
/-! # Non-vacuity of the hypotheses of `Lemmas/ExprSyntax.lean` … `Lemmas/ExprSource.lean`, on `(a+b)*2-SUM{(-a)}` -/
namespace TV.ExprPreEx
open TV.Expr TV.Rpn

def exS : Sx :=
  .bin '-' (.bin '*' (.bin '+' (.var ['a']) (.var ['b'])) (.num ['2'])) (.call ['S', 'U', 'M'] (.neg (.var ['a'])))
/-- `((-(a-b)))-(-x1.5)*c` : explicit parentheses, a parenthesised operand of the unary minus, nested minus -/
def exS2 : Sx :=
  .bin '-' (.par (.neg (.bin '-' (.var ['a']) (.var ['b'])))) (.bin '*' (.neg (.num ['1', '.', '5'])) (.var ['c']))

example : src exS = "(a+b)*2-SUM{(-a)}".toList := by
  simp only [String.reduceToList]
  decide +kernel
example : tgt exS = "(a+b)*2-SUM@((0-a))".toList := by
  simp only [String.reduceToList]
  decide +kernel
example : src exS2 = "((-(a-b)))-(-1.5)*c".toList := by
  simp only [String.reduceToList]
  decide +kernel
example : tgt exS2 = "((0-(a-b)))-(0-1.5)*c".toList := by
  simp only [String.reduceToList]
  decide +kernel

theorem srcOK_exS : SrcOK exS := by
  simp only [exS, SrcOK, NameOK]
  decide

example : SrcOK exS2 := by
  simp only [exS2, SrcOK, NameOK]
  decide

theorem nameOK_y : NameOK ['y'] ∧ GoodTok ['y'] := ⟨⟨by decide, by decide⟩, ⟨'y', rfl, by decide⟩⟩

theorem noQuote_exS : NoQuote (desugar exS) := by
  simp only [exS, desugar, NoQuote, GoodTok]
  decide

theorem wfx_exS : WFx (desugar exS) := by
  simp only [exS, desugar, WFx]
  decide

example : (preprocess "y=(a+b)*2-SUM{(-a)}".toList).toOption = some ("y=(a+b)*2-SUM@((0-a))".toList, true) := by
  simp only [String.reduceToList]
  decide +kernel
example : (preprocess "(a+b)*2-SUM{(-a)}".toList).toOption = some ("#output = (a+b)*2-SUM@((0-a))".toList, false) := by
  simp only [String.reduceToList]
  decide +kernel
example : (preprocess "((-(a-b)))-(-1.5)*c".toList).toOption
    = some ("#output = ((0-(a-b)))-(0-1.5)*c".toList, false) := by
  simp only [String.reduceToList]
  decide +kernel
example : flat (shw pyLvl 9 (.bin '=' (.atom (String.ofList ['y'])) (toE' exS))) = "y=(a+b)*2-SUM@((0-a))".toList := by
  simp only [String.reduceToList]
  decide +kernel
example : (makeRPN "#output = (a+b)*2-SUM@((0-a))".toList).toOption
    = some (outputName :: (Expr.post (desugar exS) ++ [['=']])) := by
  simp only [String.reduceToList]
  decide +kernel

example : preprocess ("y".toList ++ '=' :: src exS)
    = .ok (flat (shw pyLvl 9 (.bin '=' (.atom (String.ofList ['y'])) (toE' exS))), true) :=
  preprocess_assign ['y'] exS nameOK_y.1 srcOK_exS
example : preprocess (src exS) = .ok ("#output = ".toList ++ flat (shw pyLvl 9 (toE' exS)), false) :=
  preprocess_value exS srcOK_exS

instance toy : Scalar Int where
  add := (· + ·)
  sub := (· - ·)
  mul := (· * ·)
  div := (· / ·)
  neg := fun x => -x
  pow := fun x y => .ok (x ^ y.toNat)
  sqrt := fun x => .ok x
  abs := fun x => x.natAbs
  lt := fun a b => decide (a < b)
  isZero := fun x => x == 0
  isNaN := fun _ => false
  nan := 0
  ofDec := fun m k => (m : Int) / (10 ^ k : Nat)
  inf := 10 ^ 300

def trEx : Tr Int := ⟨3, [1, 2, 3], [0, 0, 0], [0, 0, 0], [0, 10, 20], [(['a'], [1, -2, 4]), (['b'], [2, 2, 5])]⟩

theorem noTemps_trEx : NoTemps trEx := by
  show ∀ p ∈ trEx.feats, isTemp p.1 = false
  decide
theorem noLit_trEx : NoLitNames trEx := NoLitNames.of_keys (by decide)
theorem denote_exS : denoteM trEx (desugar exS) = .ok (.vec [9, 3, 21]) := by rfl

/-- every hypothesis of `operate_source_value` holds: `operate` on the string `(a+b)*2-SUM{(-a)}` -/
example : operate trEx "(a+b)*2-SUM{(-a)}".toList = (.ok (some [9, 3, 21]), trEx) := by
  have h := operate_source_value trEx exS _ srcOK_exS noQuote_exS wfx_exS (by decide) noTemps_trEx noLit_trEx denote_exS
  have hs : src exS = "(a+b)*2-SUM{(-a)}".toList := by
    simp only [String.reduceToList]
    decide +kernel
  rw [hs] at h
  exact h

end TV.ExprPreEx
