import TracklibVerif.Lemmas.TextIORow
/-! GPX (core only): the `trk` scanner of `__readFromGpx` on a file of `<trk>` elements (`readGpx_tracks`); the bodies
`writeToGpx` writes for a track and for a collection are such files. -/
namespace TV.TextIO
open TV.ObsTime

theorem isInfix_skip (p : Char) (ps X S : Str) (h : p ∉ X) : isInfix (p :: ps) (X ++ S) = isInfix (p :: ps) S := by
  induction X with
  | nil => rfl
  | cons x xs ih =>
    have hx : p ≠ x := fun e => h (by simp [e])
    simp only [List.cons_append, isInfix, isPrefix, hx, decide_false, Bool.false_and, Bool.false_or]
    exact ih (fun hm => h (by simp [hm]))

theorem fixedWS_3_8 (v : SNum) : fixedWS 3 8 v = fixedCoreS 8 v := by
  unfold fixedWS lpad
  have : 3 - (fixedCoreS 8 v).length = 0 := by
    unfold fixedCoreS
    simp only [List.length_append, padDigits_length]
    omega
  rw [this]; rfl

theorem fixedWS_3_8_num (v : SNum) : Over numChar (fixedWS 3 8 v) := by
  rw [fixedWS_3_8]; exact fixedCoreS_numChar 8 v

theorem isoFmt_eq : isoFmt = [.code 4 'Y', .lit '-', .code 2 'M', .lit '-', .code 2 'D', .lit 'T', .code 2 'h', .lit ':',
    .code 2 'm', .lit ':', .code 2 's'] := by
  unfold isoFmt
  rw [String.toList_ofList]
  decide

/-- the characters of a GPX `<time>` text: digits, the literals of the ISO format, the zone letter -/
def isoChar (c : Char) : Bool := (digitVal? c).isSome || c == '-' || c == 'T' || c == ':' || c == 'Z'

theorem isoTime_over (t : Stamp) : Over isoChar (printTime isoFmt t) :=
  (printTime_over isoFmt t).mono (fun c hc => by
    simp only [timeChar, Bool.or_eq_true, decide_eq_true_eq] at hc
    rcases hc with h | h
    · simp [isoChar, h]
    · rw [isoFmt_eq] at h
      simp only [List.mem_cons, Tok.lit.injEq, reduceCtorEq, false_or, List.not_mem_nil, or_false] at h
      rcases h with h | h | h | h | h <;> simp [isoChar, h])

theorem isoTimeZ_over (t : Stamp) : Over isoChar (printTime isoFmt t ++ ['Z']) := (isoTime_over t).append (by decide)

theorem isInfix_of_not_mem (p : Char) (ps B : Str) (h : p ∉ B) : isInfix (p :: ps) B = false := by
  have := isInfix_skip p ps B [] h
  simpa [isInfix] using this

theorem isInfix_one_lt (ps A B : Str) (hA : '<' ∉ A) (hB : '<' ∉ B) :
    isInfix ('<' :: ps) (A ++ '<' :: B) = isPrefix ps B := by
  rw [isInfix_skip _ _ _ _ hA]
  simp [isInfix, isPrefix, isInfix_of_not_mem _ _ _ hB]

theorem isInfix_two_lt (ps A B C : Str) (hA : '<' ∉ A) (hB : '<' ∉ B) (hC : '<' ∉ C) :
    isInfix ('<' :: ps) (A ++ '<' :: (B ++ '<' :: C)) = (isPrefix ps (B ++ '<' :: C) || isPrefix ps C) := by
  rw [isInfix_skip _ _ _ _ hA]
  simp only [isInfix, isPrefix, decide_true, Bool.true_and]
  rw [isInfix_one_lt ps B C hB hC]

/-- `line.split('>')[1].split('<')[0]` on a line `…>text<…>…`: the text between the first `>` and the next `<` -/
theorem tagText_between (A B C D : Str) (hA : '>' ∉ A) (hB : '>' ∉ B ∧ '<' ∉ B) (hC : '>' ∉ C) :
    tagText (A ++ '>' :: (B ++ '<' :: (C ++ '>' :: D))) = .ok B := by
  have hBC : '>' ∉ B ++ '<' :: C := by
    intro h
    rcases List.mem_append.1 h with h | h
    · exact hB.1 h
    · rcases List.mem_cons.1 h with h | h
      · exact absurd h (by decide)
      · exact hC h
  unfold tagText
  rw [splitOnChar_append _ _ _ hA, show B ++ '<' :: (C ++ '>' :: D) = (B ++ '<' :: C) ++ '>' :: D by simp,
    splitOnChar_append _ _ _ hBC]
  simp only [nth, List.getElem?_cons_succ, List.getElem?_cons_zero, bind, Except.bind, pure, Except.pure]
  rw [splitOnChar_append _ _ _ hB.2]
  rfl

theorem pat_trk : "<trk>".toList = '<' :: ['t', 'r', 'k', '>'] := String.toList_ofList
theorem pat_etrk : "</trk>".toList = '<' :: ['/', 't', 'r', 'k', '>'] := String.toList_ofList
theorem pat_pt : "<trkpt ".toList = '<' :: ['t', 'r', 'k', 'p', 't', ' '] := String.toList_ofList
theorem pat_ept : "</trkpt>".toList = '<' :: ['/', 't', 'r', 'k', 'p', 't', '>'] := String.toList_ofList
theorem pat_ele : "<ele>".toList = '<' :: ['e', 'l', 'e', '>'] := String.toList_ofList
theorem pat_time : "<time>".toList = '<' :: ['t', 'i', 'm', 'e', '>'] := String.toList_ofList
theorem pat_ext : "<extensions>".toList = '<' :: ['e', 'x', 't', 'e', 'n', 's', 'i', 'o', 'n', 's', '>'] := String.toList_ofList
theorem pat_eext : "</extensions>".toList = '<' :: ['/', 'e', 'x', 't', 'e', 'n', 's', 'i', 'o', 'n', 's', '>'] := String.toList_ofList

/-- the tag tests of the scanner on a line that opens no `<extensions>` block (the test for the end of a block is made inside
a block only) -/
structure Tags (line : Str) (trk etrk pt ept ele time : Bool) : Prop where
  trk : isInfix "<trk>".toList line = trk
  etrk : isInfix "</trk>".toList line = etrk
  pt : isInfix "<trkpt ".toList line = pt
  ept : isInfix "</trkpt>".toList line = ept
  ele : isInfix "<ele>".toList line = ele
  time : isInfix "<time>".toList line = time
  ext : isInfix "<extensions>".toList line = false

theorem isInfix_tag (ps : Str) (k : Nat) (body : Str) (h : '<' ∉ body) :
    isInfix ('<' :: ps) (List.replicate k ' ' ++ '<' :: body) = isPrefix ps body :=
  isInfix_one_lt ps _ _ (by simp) h

theorem Tags.of {line : Str} (test : Str → Bool) (h : ∀ ps, isInfix ('<' :: ps) line = test ps)
    (hext : test ['e', 'x', 't', 'e', 'n', 's', 'i', 'o', 'n', 's', '>'] = false) :
    Tags line (test ['t', 'r', 'k', '>']) (test ['/', 't', 'r', 'k', '>']) (test ['t', 'r', 'k', 'p', 't', ' '])
      (test ['/', 't', 'r', 'k', 'p', 't', '>']) (test ['e', 'l', 'e', '>']) (test ['t', 'i', 'm', 'e', '>']) := by
  constructor <;> simp only [pat_trk, pat_etrk, pat_pt, pat_ept, pat_ele, pat_time, pat_ext, h, hext]

theorem lTrk_eq : lTrk = List.replicate 4 ' ' ++ '<' :: ['t', 'r', 'k', '>'] := String.toList_ofList
theorem lSeg_eq : lSeg = List.replicate 8 ' ' ++ '<' :: ['t', 'r', 'k', 's', 'e', 'g', '>'] := String.toList_ofList
theorem lEndPt_eq : lEndPt = List.replicate 12 ' ' ++ '<' :: ['/', 't', 'r', 'k', 'p', 't', '>'] := String.toList_ofList
theorem lEndSeg_eq : lEndSeg = List.replicate 8 ' ' ++ '<' :: ['/', 't', 'r', 'k', 's', 'e', 'g', '>'] := String.toList_ofList
theorem lEndTrk_eq : lEndTrk = List.replicate 4 ' ' ++ '<' :: ['/', 't', 'r', 'k', '>'] := String.toList_ofList
theorem lEndGpx_eq : lEndGpx = List.replicate 0 ' ' ++ '<' :: ['/', 'g', 'p', 'x', '>'] := String.toList_ofList

theorem tags_lTrk : Tags lTrk true false false false false false :=
  lTrk_eq ▸ Tags.of _ (fun ps => isInfix_tag ps 4 _ (by decide)) rfl
theorem tags_lSeg : Tags lSeg false false false false false false :=
  lSeg_eq ▸ Tags.of _ (fun ps => isInfix_tag ps 8 _ (by decide)) rfl
theorem tags_lEndPt : Tags lEndPt false false false true false false :=
  lEndPt_eq ▸ Tags.of _ (fun ps => isInfix_tag ps 12 _ (by decide)) rfl
theorem tags_lEndSeg : Tags lEndSeg false false false false false false :=
  lEndSeg_eq ▸ Tags.of _ (fun ps => isInfix_tag ps 8 _ (by decide)) rfl
theorem tags_lEndTrk : Tags lEndTrk false true false false false false :=
  lEndTrk_eq ▸ Tags.of _ (fun ps => isInfix_tag ps 4 _ (by decide)) rfl
theorem tags_lEndGpx : Tags lEndGpx false false false false false false :=
  lEndGpx_eq ▸ Tags.of _ (fun ps => isInfix_tag ps 0 _ (by decide)) rfl

theorem constLines_nl :
    '\n' ∉ lTrk ∧ '\n' ∉ lSeg ∧ '\n' ∉ lEndPt ∧ '\n' ∉ lEndSeg ∧ '\n' ∉ lEndTrk ∧ '\n' ∉ lEndGpx := by
  rw [lTrk_eq, lSeg_eq, lEndPt_eq, lEndSeg_eq, lEndTrk_eq, lEndGpx_eq]
  decide

theorem lName_decomp (name : Str) :
    lName name = [' ', ' ', ' ', ' '] ++ '<' :: (('n' :: 'a' :: 'm' :: 'e' :: '>' :: name) ++ '<' :: ['/', 'n', 'a', 'm', 'e', '>']) := by
  unfold lName
  rw [String.toList_ofList, String.toList_ofList]
  rfl

theorem lPt_decomp (r : GRow) :
    lPt r = List.replicate 12 ' ' ++ '<' :: ('t' :: 'r' :: 'k' :: 'p' :: 't' :: ' ' :: 'l' :: 'a' :: 't' :: '=' :: '"' ::
      (fixedWS 3 8 r.y ++ '"' :: ' ' :: 'l' :: 'o' :: 'n' :: '=' :: '"' :: (fixedWS 3 8 r.x ++ ['"', '>']))) := by
  unfold lPt
  rw [String.toList_ofList, String.toList_ofList, String.toList_ofList]
  rfl

theorem lEle_decomp (r : GRow) :
    lEle r = List.replicate 16 ' ' ++ '<' :: (('e' :: 'l' :: 'e' :: '>' :: fixedWS 3 8 r.z) ++ '<' :: ['/', 'e', 'l', 'e', '>']) := by
  unfold lEle
  rw [String.toList_ofList, String.toList_ofList]
  rfl

/-- an XML element on a line of its own, as `writeToGpx` writes `<name>`, `<ele>`, `<time>` and the feature lines of an
`<extensions>` block: indentation, `<tag>`, text, `</tag>` -/
def elemLine (k : Nat) (tag text : Str) : Str :=
  List.replicate k ' ' ++ '<' :: ((tag ++ '>' :: text) ++ '<' :: '/' :: (tag ++ ['>']))

theorem lName_elem (name : Str) : lName name = elemLine 4 ['n', 'a', 'm', 'e'] name := lName_decomp name
theorem lEle_elem (r : GRow) : lEle r = elemLine 16 ['e', 'l', 'e'] (fixedWS 3 8 r.z) := lEle_decomp r
theorem lTime_elem (r : GRow) : lTime r = elemLine 16 ['t', 'i', 'm', 'e'] (printTime isoFmt r.t ++ ['Z']) := by
  unfold lTime elemLine
  rw [String.toList_ofList, String.toList_ofList]
  simp

theorem isInfix_elem (ps : Str) (k : Nat) (tag text : Str) (ht : '<' ∉ tag) (hx : '<' ∉ text) :
    isInfix ('<' :: ps) (elemLine k tag text)
      = (isPrefix ps ((tag ++ '>' :: text) ++ '<' :: '/' :: (tag ++ ['>'])) || isPrefix ps ('/' :: (tag ++ ['>']))) :=
  isInfix_two_lt ps _ _ _ (by simp) (by simp [ht, hx]) (by simp [ht])

theorem tagText_elem (k : Nat) (tag text : Str) (ht : '>' ∉ tag) (hx : '>' ∉ text ∧ '<' ∉ text) :
    tagText (elemLine k tag text) = .ok text := by
  have := tagText_between (List.replicate k ' ' ++ '<' :: tag) text ('/' :: tag) [] (by simp [ht]) hx (by simp [ht])
  simpa [elemLine] using this

theorem not_mem_elemLine (k : Nat) (tag text : Str) (ht : '\n' ∉ tag) (hx : '\n' ∉ text) : '\n' ∉ elemLine k tag text := by
  simp [elemLine, ht, hx]

theorem tags_lName (name : Str) (h : '<' ∉ name) : Tags (lName name) false false false false false false :=
  lName_elem name ▸ Tags.of _ (fun ps => isInfix_elem ps 4 ['n', 'a', 'm', 'e'] name (by decide) h) rfl

theorem tags_lPt (r : GRow) : Tags (lPt r) false false true false false false :=
  lPt_decomp r ▸ Tags.of _ (fun ps => isInfix_tag ps 12 _
    (by simp [(fixedWS_3_8_num r.y).not_mem (x := '<') (by decide), (fixedWS_3_8_num r.x).not_mem (x := '<') (by decide)])) rfl

theorem tags_lEle (r : GRow) : Tags (lEle r) false false false false true false :=
  lEle_elem r ▸ Tags.of _
    (fun ps => isInfix_elem ps 16 ['e', 'l', 'e'] _ (by decide) ((fixedWS_3_8_num r.z).not_mem (by decide))) rfl

theorem tags_lTime (r : GRow) : Tags (lTime r) false false false false false true :=
  lTime_elem r ▸ Tags.of _
    (fun ps => isInfix_elem ps 16 ['t', 'i', 'm', 'e'] _ (by decide) ((isoTimeZ_over r.t).not_mem (by decide))) rfl

theorem split_lPt (r : GRow) :
    nth (splitOnChar '"' (lPt r)) 3 = .ok (fixedWS 3 8 r.x) ∧ nth (splitOnChar '"' (lPt r)) 1 = .ok (fixedWS 3 8 r.y) := by
  unfold lPt
  rw [String.toList_ofList, String.toList_ofList, String.toList_ofList,
    splitOnChar_append _ _ _ (by decide), splitOnChar_append _ _ _ ((fixedWS_3_8_num r.y).not_mem (by decide)),
    splitOnChar_append _ _ _ (by decide), splitOnChar_append _ _ _ ((fixedWS_3_8_num r.x).not_mem (by decide))]
  exact ⟨rfl, rfl⟩

theorem gpxLine_notags (rf : List Tok) (geo : Bool) (st : GState) (line : Str)
    (T : Tags line false false false false false false) (hs : st.inExt = false) :
    gpxLine rf geo st line = .ok st := by
  unfold gpxLine gpxPt gpxEndPt gpxEle gpxTime
  simp only [T.ext, hs, T.trk, T.etrk, T.pt, T.ept, T.ele, T.time, Bool.false_eq_true, ↓reduceIte, bind, Except.bind, pure, Except.pure]
  cases st.inTrk <;> cases st.inPt <;> simp

theorem gpxLine_trk (rf : List Tok) (geo : Bool) (st : GState) (line : Str)
    (T : Tags line true false false false false false) (hs : st.inExt = false) :
    gpxLine rf geo st line = .ok ⟨true, false, st.pos, st.tps, st.tracks ++ [[]], false⟩ := by
  unfold gpxLine gpxPt gpxEndPt gpxEle gpxTime
  simp only [T.ext, hs, T.trk, T.etrk, T.pt, T.ept, Bool.false_eq_true, ↓reduceIte, bind, Except.bind, pure, Except.pure]

theorem gpxLine_endTrk (rf : List Tok) (geo : Bool) (st : GState) (line : Str)
    (T : Tags line false true false false false false) (hs : st.inExt = false) :
    gpxLine rf geo st line = .ok ⟨false, st.inPt, st.pos, st.tps, st.tracks, false⟩ := by
  unfold gpxLine gpxPt gpxEndPt gpxEle gpxTime
  simp only [T.ext, hs, T.trk, T.etrk, Bool.false_eq_true, ↓reduceIte, pure, Except.pure]

theorem gpxLine_pt (rf : List Tok) (geo : Bool) (pos : Option (Dec × Dec × Dec)) (tps : Option Stamp)
    (tracks : List (List RRow)) (inPt : Bool) (line : Str) (T : Tags line false false true false false false)
    (lon lat : Str) (hsp : nth (splitOnChar '"' line) 3 = .ok lon ∧ nth (splitOnChar '"' line) 1 = .ok lat)
    (x y : Dec) (hx : parseDec? lon = some x) (hy : parseDec? lat = some y) :
    gpxLine rf geo ⟨true, inPt, pos, tps, tracks, false⟩ line = .ok ⟨true, true, some (x, y, (0, 0)), tps, tracks, false⟩ := by
  unfold gpxLine gpxPt gpxEndPt gpxEle gpxTime
  simp only [T.ext, T.trk, T.etrk, T.pt, T.ept, T.ele, T.time, Bool.false_eq_true, ↓reduceIte, hsp.1, hsp.2, hx, hy, bind, Except.bind, pure, Except.pure]

theorem gpxLine_ele (rf : List Tok) (geo : Bool) (p : Dec × Dec × Dec) (tps : Option Stamp)
    (tracks : List (List RRow)) (line : Str) (T : Tags line false false false false true false)
    (s : Str) (hs : tagText line = .ok s) (v : Dec) (hv : parseDec? s = some v) :
    gpxLine rf geo ⟨true, true, some p, tps, tracks, false⟩ line
      = .ok ⟨true, true, some (p.1, p.2.1, if geo then v else p.2.2), tps, tracks, false⟩ := by
  obtain ⟨x, y, z⟩ := p
  unfold gpxLine gpxPt gpxEndPt gpxEle gpxTime
  simp only [T.ext, T.trk, T.etrk, T.pt, T.ept, T.ele, T.time, Bool.false_eq_true, ↓reduceIte, hs, hv, bind, Except.bind, pure, Except.pure]

theorem gpxLine_time (rf : List Tok) (geo : Bool) (p : Option (Dec × Dec × Dec)) (tps : Option Stamp)
    (tracks : List (List RRow)) (line : Str) (T : Tags line false false false false false true)
    (s : Str) (hs : tagText line = .ok s) (t : Stamp) (ht : readTimestamp rf s = some t) :
    gpxLine rf geo ⟨true, true, p, tps, tracks, false⟩ line = .ok ⟨true, true, p, some t, tracks, false⟩ := by
  unfold gpxLine gpxPt gpxEndPt gpxEle gpxTime
  simp only [T.ext, T.trk, T.etrk, T.pt, T.ept, T.ele, T.time, Bool.false_eq_true, ↓reduceIte, hs, ht, bind, Except.bind, pure, Except.pure]

theorem appendLast_concat (ts : List (List RRow)) (cur : List RRow) (r : RRow) :
    appendLast (ts ++ [cur]) r = .ok (ts ++ [cur ++ [r]]) := by
  unfold appendLast
  simp [pure, Except.pure]

theorem gpxLine_endPt (rf : List Tok) (geo : Bool) (p : Dec × Dec × Dec) (t : Stamp)
    (ts : List (List RRow)) (cur : List RRow) (inPt : Bool) (line : Str) (T : Tags line false false false true false false) :
    gpxLine rf geo ⟨true, inPt, some p, some t, ts ++ [cur], false⟩ line
      = .ok ⟨true, false, some p, some t, ts ++ [cur ++ [⟨p.1, p.2.1, p.2.2, t⟩]], false⟩ := by
  obtain ⟨x, y, z⟩ := p
  unfold gpxLine gpxPt gpxEndPt gpxEle gpxTime
  simp only [T.ext, T.trk, T.etrk, T.pt, T.ept, Bool.false_eq_true, ↓reduceIte, appendLast_concat, bind, Except.bind, pure, Except.pure]

theorem tagText_lEle (r : GRow) : tagText (lEle r) = .ok (fixedWS 3 8 r.z) :=
  lEle_elem r ▸ tagText_elem 16 ['e', 'l', 'e'] _ (by decide) ⟨(fixedWS_3_8_num r.z).not_mem (by decide), (fixedWS_3_8_num r.z).not_mem (by decide)⟩

theorem tagText_lTime (r : GRow) : tagText (lTime r) = .ok (printTime isoFmt r.t ++ ['Z']) :=
  lTime_elem r ▸ tagText_elem 16 ['t', 'i', 'm', 'e'] _ (by decide) ⟨(isoTimeZ_over r.t).not_mem (by decide), (isoTimeZ_over r.t).not_mem (by decide)⟩

/-! ### the whole body

The three writers (one track, a collection, one track with `af=True`) write the same lines but for what stands between `<time>`
and `</trkpt>`: nothing, or the `<extensions>` block. The scanner is followed once, over tracks whose points carry any lines
`mid` there that it steps over. -/

theorem foldlM_ok_cons {σ α ε : Type} {f : σ → α → Except ε σ} {s s' : σ} {a : α} {l : List α} {r : Except ε σ}
    (h : f s a = .ok s') (hr : l.foldlM f s' = r) : (a :: l).foldlM f s = r := by
  rw [List.foldlM_cons, h]; exact hr

theorem foldlM_ok_append {σ α ε : Type} {f : σ → α → Except ε σ} {s s' : σ} {l₁ l₂ : List α} {r : Except ε σ}
    (h : l₁.foldlM f s = .ok s') (hr : l₂.foldlM f s' = r) : (l₁ ++ l₂).foldlM f s = r := by
  rw [List.foldlM_append, h]; exact hr

/-- a track point as the scanner returns it -/
def expG (rf : List Tok) (geo : Bool) (r : GRow) : RRow :=
  ⟨(r.x.toInt, 8), (r.y.toInt, 8), if geo then (r.z.toInt, 8) else (0, 0), project rf r.t⟩

/-- lines the scanner steps over: none holds an end of line, and together they leave the state as found -/
def Skipped (rf : List Tok) (geo : Bool) (mid : List Str) : Prop :=
  (∀ l ∈ mid, '\n' ∉ l) ∧ ∀ st : GState, st.inExt = false → mid.foldlM (gpxLine rf geo) st = .ok st

theorem skipped_nil (rf : List Tok) (geo : Bool) : Skipped rf geo [] := ⟨by simp, fun _ _ => rfl⟩

def ptLinesM (rm : GRow × List Str) : List Str := [lPt rm.1, lEle rm.1, lTime rm.1] ++ rm.2 ++ [lEndPt]

def trkLinesM (t : Str × List (GRow × List Str)) : List Str :=
  [lTrk, lName t.1, lSeg] ++ (t.2.map ptLinesM).flatten ++ [lEndSeg, lEndTrk]

/-- the read format reads what the GPX writer prints: the ISO format itself, or the ISO format followed by `Z` -/
def ReadsIso (rf : List Tok) : Prop :=
  Lossless rf ∧ ∀ t, ∃ suf, printTime isoFmt t ++ ['Z'] = printTime rf t ++ suf

theorem fold_pt (rf : List Tok) (hrf : ReadsIso rf) (geo : Bool) (pos : Option (Dec × Dec × Dec)) (tps : Option Stamp)
    (ts : List (List RRow)) (cur : List RRow) (rm : GRow × List Str) (ht : Fits rm.1.t) (hm : Skipped rf geo rm.2) :
    ∃ pos' tps', (ptLinesM rm).foldlM (gpxLine rf geo) ⟨true, false, pos, tps, ts ++ [cur], false⟩
      = .ok ⟨true, false, pos', tps', ts ++ [cur ++ [expG rf geo rm.1]], false⟩ := by
  obtain ⟨suf, hs⟩ := hrf.2 rm.1.t
  have hread : readTimestamp rf (printTime isoFmt rm.1.t ++ ['Z']) = some (project rf rm.1.t) := by
    rw [hs, readTimestamp_printTime_suffix rf hrf.1 _ ht suf]
  exact ⟨_, _,
    foldlM_ok_cons (gpxLine_pt rf geo _ _ _ _ _ (tags_lPt _) _ _ (split_lPt _) _ _ (parseDec_fixedWS ..) (parseDec_fixedWS ..)) <|
    foldlM_ok_cons (gpxLine_ele rf geo _ _ _ _ (tags_lEle _) _ (tagText_lEle _) _ (parseDec_fixedWS ..)) <|
    foldlM_ok_cons (gpxLine_time rf geo _ _ _ _ (tags_lTime _) _ (tagText_lTime _) _ hread) <|
    foldlM_ok_append (hm.2 _ rfl) <|
    foldlM_ok_cons (gpxLine_endPt rf geo _ _ _ _ _ _ tags_lEndPt) rfl⟩

theorem fold_pts (rf : List Tok) (hrf : ReadsIso rf) (geo : Bool) (rows : List (GRow × List Str))
    (hrows : ∀ rm ∈ rows, Fits rm.1.t ∧ Skipped rf geo rm.2)
    (pos : Option (Dec × Dec × Dec)) (tps : Option Stamp) (ts : List (List RRow)) (cur : List RRow) :
    ∃ pos' tps', ((rows.map ptLinesM).flatten).foldlM (gpxLine rf geo) ⟨true, false, pos, tps, ts ++ [cur], false⟩
      = .ok ⟨true, false, pos', tps', ts ++ [cur ++ rows.map (fun rm => expG rf geo rm.1)], false⟩ := by
  induction rows generalizing pos tps cur with
  | nil => exact ⟨pos, tps, by simp [pure, Except.pure]⟩
  | cons r rs ih =>
    obtain ⟨p1, t1, h1⟩ := fold_pt rf hrf geo pos tps ts cur r (hrows r (by simp)).1 (hrows r (by simp)).2
    obtain ⟨p2, t2, h2⟩ := ih (fun x hx => hrows x (by simp [hx])) p1 t1 (cur ++ [expG rf geo r.1])
    exact ⟨p2, t2, by simpa using foldlM_ok_append h1 h2⟩

/-- what is required of a track: a name without `<` and end of line, stamps that fit, lines between `<time>` and `</trkpt>`
that the scanner steps over -/
def TrkOK (rf : List Tok) (geo : Bool) (t : Str × List (GRow × List Str)) : Prop :=
  ('<' ∉ t.1 ∧ '\n' ∉ t.1) ∧ ∀ rm ∈ t.2, Fits rm.1.t ∧ Skipped rf geo rm.2

/-- one `<trk>` element met outside a track: a new track with its points is appended -/
theorem fold_trk (rf : List Tok) (hrf : ReadsIso rf) (geo : Bool) (t : Str × List (GRow × List Str)) (ht : TrkOK rf geo t)
    (pos : Option (Dec × Dec × Dec)) (tps : Option Stamp) (ts : List (List RRow)) :
    ∃ pos' tps', (trkLinesM t).foldlM (gpxLine rf geo) ⟨false, false, pos, tps, ts, false⟩
      = .ok ⟨false, false, pos', tps', ts ++ [t.2.map (fun rm => expG rf geo rm.1)], false⟩ := by
  obtain ⟨p, tp, hp⟩ := fold_pts rf hrf geo t.2 ht.2 pos tps ts []
  exact ⟨p, tp,
    foldlM_ok_append
      (foldlM_ok_append
        (foldlM_ok_cons (gpxLine_trk rf geo _ _ tags_lTrk rfl) <|
          foldlM_ok_cons (gpxLine_notags rf geo _ _ (tags_lName t.1 ht.1.1) rfl) <|
          foldlM_ok_cons (gpxLine_notags rf geo _ _ tags_lSeg rfl) rfl)
        hp) <|
    foldlM_ok_cons (gpxLine_notags rf geo _ _ tags_lEndSeg rfl) <|
    foldlM_ok_cons (gpxLine_endTrk rf geo _ _ tags_lEndTrk rfl) rfl⟩

theorem fold_trks (rf : List Tok) (hrf : ReadsIso rf) (geo : Bool) (tracks : List (Str × List (GRow × List Str)))
    (hok : ∀ t ∈ tracks, TrkOK rf geo t) (pos : Option (Dec × Dec × Dec)) (tps : Option Stamp) (ts : List (List RRow)) :
    ∃ pos' tps', ((tracks.map trkLinesM).flatten).foldlM (gpxLine rf geo) ⟨false, false, pos, tps, ts, false⟩
      = .ok ⟨false, false, pos', tps', ts ++ tracks.map (fun t => t.2.map (fun rm => expG rf geo rm.1)), false⟩ := by
  induction tracks generalizing pos tps ts with
  | nil => exact ⟨pos, tps, by simp [pure, Except.pure]⟩
  | cons t rest ih =>
    obtain ⟨p1, t1, h1⟩ := fold_trk rf hrf geo t (hok t (by simp)) pos tps ts
    obtain ⟨p2, t2, h2⟩ := ih (fun x hx => hok x (by simp [hx])) p1 t1 (ts ++ [t.2.map (fun rm => expG rf geo rm.1)])
    exact ⟨p2, t2, by simpa using foldlM_ok_append h1 h2⟩

theorem trkLinesM_nl (rf : List Tok) (geo : Bool) (t : Str × List (GRow × List Str)) (ht : TrkOK rf geo t) :
    ∀ l ∈ trkLinesM t, '\n' ∉ l := by
  obtain ⟨hTrk, hSeg, hEndPt, hEndSeg, hEndTrk, _⟩ := constLines_nl
  have hnum : ∀ v : SNum, '\n' ∉ fixedWS 3 8 v := fun v => (fixedWS_3_8_num v).not_mem (by decide)
  intro l hl
  unfold trkLinesM at hl
  simp only [List.mem_append, List.mem_cons, List.mem_flatten, List.mem_map, List.not_mem_nil, or_false] at hl
  -- the lines are named and rewritten, not substituted: `subst` would evaluate a constant line to find a variable
  rcases hl with ((h | h | h) | ⟨ls, ⟨rm, hrm, rfl⟩, hl⟩) | (h | h)
  · exact h ▸ hTrk
  · rw [h, lName_elem]; exact not_mem_elemLine _ _ _ (by decide) ht.1.2
  · exact h ▸ hSeg
  · unfold ptLinesM at hl
    simp only [List.cons_append, List.nil_append, List.mem_cons, List.mem_append, List.not_mem_nil, or_false] at hl
    rcases hl with h | h | h | hl | h
    · rw [h, lPt_decomp]; simp [hnum]
    · rw [h, lEle_elem]; exact not_mem_elemLine _ _ _ (by decide) (hnum _)
    · rw [h, lTime_elem]; exact not_mem_elemLine _ _ _ (by decide) ((isoTimeZ_over _).not_mem (by decide))
    · exact (ht.2 rm hrm).2.1 l hl
    · exact h ▸ hEndPt
  · exact h ▸ hEndSeg
  · exact h ▸ hEndTrk

/-- **GPX, in general**: a file of `<trk>` elements — one per track, in order, every point followed before its `</trkpt>` by
lines the scanner steps over — then `</gpx>`, read by the `trk` scanner with a read format that reads ISO stamps, gives the
tracks in order, each with its points in order -/
theorem readGpx_tracks (rf : List Tok) (hrf : ReadsIso rf) (geo : Bool) (tracks : List (Str × List (GRow × List Str)))
    (hok : ∀ t ∈ tracks, TrkOK rf geo t) :
    readGpx rf geo ((((tracks.map trkLinesM).flatten ++ [lEndGpx]).map (· ++ ['\n'])).flatten)
      = .ok (tracks.map (fun t => t.2.map (fun rm => expG rf geo rm.1))) := by
  unfold readGpx
  have hnl : ∀ l ∈ (tracks.map trkLinesM).flatten ++ [lEndGpx], '\n' ∉ l := by
    intro l hl
    rcases List.mem_append.1 hl with hl | hl
    · obtain ⟨ls, hls, hl⟩ := List.mem_flatten.1 hl
      obtain ⟨t, ht, rfl⟩ := List.mem_map.1 hls
      exact trkLinesM_nl rf geo t (hok t ht) l hl
    · exact List.mem_singleton.1 hl ▸ constLines_nl.2.2.2.2.2
  obtain ⟨p, t, hp⟩ := fold_trks rf hrf geo tracks hok none none []
  rw [fileLines_flatten _ hnl, foldlM_ok_append hp (foldlM_ok_cons (gpxLine_notags rf geo _ _ tags_lEndGpx rfl) rfl)]
  rfl

theorem trkLines_eq (name : Str) (rows : List GRow) : trkLines name rows = trkLinesM (name, rows.map (fun r => (r, []))) := by
  unfold trkLines trkLinesM
  rw [List.map_map]
  rfl

/-- **GPX collection**: the body `writeToGpx` writes for a collection in one file is read as the tracks, in order -/
theorem gpx_collection_roundtrip (rf : List Tok) (hrf : ReadsIso rf) (geo : Bool) (tracks : List (Str × List GRow))
    (hok : ∀ t ∈ tracks, ('<' ∉ t.1 ∧ '\n' ∉ t.1) ∧ ∀ r ∈ t.2, Fits r.t) :
    readGpx rf geo (gpxBodyColl tracks) = .ok (tracks.map (fun t => t.2.map (expG rf geo))) := by
  have := readGpx_tracks rf hrf geo (tracks.map (fun t => (t.1, t.2.map (fun r => (r, [])))))
    (by
      intro t ht
      obtain ⟨t0, ht0, rfl⟩ := List.mem_map.1 ht
      refine ⟨(hok t0 ht0).1, fun rm hrm => ?_⟩
      obtain ⟨r, hr, rfl⟩ := List.mem_map.1 hrm
      exact ⟨(hok t0 ht0).2 r hr, skipped_nil rf geo⟩)
  simp only [List.map_map, Function.comp_def, ← trkLines_eq] at this
  exact this

/-- **GPX file**: the body `writeToGpx` writes for a track, read by the `trk` scanner with a read format that
reads ISO stamps, gives one track with the points written, in order -/
theorem gpx_file_roundtrip (rf : List Tok) (hrf : ReadsIso rf) (geo : Bool) (name : Str)
    (hname : '<' ∉ name ∧ '\n' ∉ name) (rows : List GRow) (hrows : ∀ r ∈ rows, Fits r.t) :
    readGpx rf geo (gpxBody name rows) = .ok [rows.map (expG rf geo)] := by
  have := gpx_collection_roundtrip rf hrf geo [(name, rows)] (by simpa using ⟨hname, hrows⟩)
  simpa [gpxBodyColl, gpxBody, gpxLines, trkLines] using this

theorem readsIso_iso : ReadsIso isoFmt :=
  ⟨by rw [isoFmt_eq]; decide, fun _ => ⟨['Z'], rfl⟩⟩

theorem isoFmtZ_eq : tokenize "4Y-2M-2DT2h:2m:2sZ".toList = isoFmt ++ [Tok.lit 'Z'] := by
  rw [isoFmt_eq, String.toList_ofList]
  decide

theorem readsIso_isoZ : ReadsIso (tokenize "4Y-2M-2DT2h:2m:2sZ".toList) := by
  rw [isoFmtZ_eq]
  refine ⟨by rw [isoFmt_eq]; decide, fun t => ⟨[], ?_⟩⟩
  rw [printTime_append]
  simp [printTime]

end TV.TextIO
