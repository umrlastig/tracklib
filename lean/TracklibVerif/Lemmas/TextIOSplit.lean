import TracklibVerif.Model.TextIO
/-! `str.split(c)` / `c.join(...)` / the lines of a text, and texts written over an alphabet (`Over`), for C13 (core only). -/
namespace TV.TextIO

theorem splitOnChar_ne_nil (c : Char) (s : Str) : splitOnChar c s ≠ [] := by
  induction s with
  | nil => simp [splitOnChar]
  | cons x xs ih =>
    unfold splitOnChar
    split
    · simp
    · split <;> simp

theorem splitOnChar_of_not_mem (c : Char) (s : Str) (h : c ∉ s) : splitOnChar c s = [s] := by
  induction s with
  | nil => rfl
  | cons x xs ih =>
    have hx : x ≠ c := fun e => h (by simp [e])
    have := ih (fun e => h (by simp [e]))
    simp [splitOnChar, hx, this]

theorem splitOnChar_append (c : Char) (a b : Str) (h : c ∉ a) :
    splitOnChar c (a ++ c :: b) = a :: splitOnChar c b := by
  induction a with
  | nil => simp [splitOnChar]
  | cons x xs ih =>
    have hx : x ≠ c := fun e => h (by simp [e])
    have := ih (fun e => h (by simp [e]))
    simp [splitOnChar, hx, this]

theorem splitOnChar_joinChar (c : Char) (vs : List Str) (hne : vs ≠ []) (h : ∀ v ∈ vs, c ∉ v) :
    splitOnChar c (joinChar c vs) = vs := by
  induction vs with
  | nil => exact absurd rfl hne
  | cons a r ih =>
    cases r with
    | nil => simpa [joinChar] using splitOnChar_of_not_mem c a (h a (by simp))
    | cons b r' =>
      simp only [joinChar]
      rw [splitOnChar_append c a _ (h a (by simp)), ih (by simp) (fun v hv => h v (by simp [hv]))]

theorem joinChar_cons_cons (c : Char) (a b : Str) (r : List Str) :
    joinChar c (a :: b :: r) = a ++ c :: joinChar c (b :: r) := rfl

theorem joinChar_cons (c : Char) (a : Str) {r : List Str} (hr : r ≠ []) : joinChar c (a :: r) = a ++ c :: joinChar c r := by
  cases r with
  | nil => exact absurd rfl hr
  | cons _ _ => rfl

theorem joinChar_eq (c : Char) (a : Str) (r : List Str) : joinChar c (a :: r) = a ++ (r.map (c :: ·)).flatten := by
  induction r generalizing a with
  | nil => simp [joinChar]
  | cons b r ih => rw [joinChar, ih]; simp

theorem joinChar_concat_append (c : Char) (vs : List Str) (last s : Str) :
    joinChar c (vs ++ [last]) ++ s = joinChar c (vs ++ [last ++ s]) := by
  cases vs with
  | nil => rfl
  | cons a r => simp [joinChar_eq]

theorem mem_joinChar {c x : Char} {vs : List Str} (hx : x ∈ joinChar c vs) : x = c ∨ ∃ v ∈ vs, x ∈ v := by
  cases vs with
  | nil => simp [joinChar] at hx
  | cons a r =>
    simp only [joinChar_eq, List.mem_append, List.mem_flatten, List.mem_map] at hx
    rcases hx with hx | ⟨_, ⟨v, hv, rfl⟩, hx⟩
    · exact Or.inr ⟨a, by simp, hx⟩
    · exact (List.mem_cons.1 hx).imp_right fun h => ⟨v, by simp [hv], h⟩

theorem not_mem_joinChar {c x : Char} {vs : List Str} (hx : x ≠ c) (h : ∀ v ∈ vs, x ∉ v) : x ∉ joinChar c vs :=
  fun hm => (mem_joinChar hm).elim hx (fun ⟨v, hv, hxv⟩ => h v hv hxv)

theorem nth_eq {α : Type} {l : List α} {i : Nat} (h : i < l.length) : nth l i = .ok l[i] := by
  simp [nth, h, pure, Except.pure]

theorem nth_append_right {α : Type} (a b : List α) {j : Nat} (hj : j < b.length) : nth (a ++ b) (a.length + j) = .ok b[j] := by
  rw [nth_eq (by simp [hj])]
  simp

theorem isPrefix_eq (p s : Str) : isPrefix p s = p.isPrefixOf s := by
  induction p generalizing s with
  | nil => cases s <;> rfl
  | cons a as ih =>
    cases s with
    | nil => rfl
    | cons b bs => rw [isPrefix, List.isPrefixOf_cons_cons, ih, Bool.beq_eq_decide_eq]

theorem filter_ne_of_not_mem {x : Char} {s : Str} (h : x ∉ s) : s.filter (· ≠ x) = s :=
  List.filter_eq_self.2 (fun c hc => by
    simp only [ne_eq, decide_not, Bool.not_eq_eq_eq_not, Bool.not_true, decide_eq_false_iff_not]
    exact fun e => h (e ▸ hc))

/-- `s` is written over the alphabet `P`. Every printer of the model has its alphabet; a reader's delimiter outside it does not
occur in the text (`Over.not_mem`, the side condition usually closed by `decide`). -/
abbrev Over (P : Char → Bool) (s : Str) : Prop := ∀ c ∈ s, P c = true

theorem Over.not_mem {P : Char → Bool} {s : Str} (h : Over P s) {x : Char} (hx : P x = false) : x ∉ s :=
  fun hm => by rw [h x hm] at hx; exact absurd hx (by decide)

theorem Over.mono {P Q : Char → Bool} {s : Str} (h : Over P s) (hPQ : ∀ c, P c = true → Q c = true) : Over Q s :=
  fun c hc => hPQ c (h c hc)

theorem Over.append {P : Char → Bool} {s t : Str} (hs : Over P s) (ht : Over P t) : Over P (s ++ t) :=
  fun c hc => (List.mem_append.1 hc).elim (hs c) (ht c)

theorem Over.joinChar {P : Char → Bool} {sep : Char} {vs : List Str} (hsep : P sep = true) (h : ∀ v ∈ vs, Over P v) :
    Over P (joinChar sep vs) :=
  fun c hc => (mem_joinChar hc).elim (fun e => e ▸ hsep) (fun ⟨v, hv, hcv⟩ => h v hv c hcv)

theorem fileLines_flatten (ls : List Str) (h : ∀ l ∈ ls, '\n' ∉ l) :
    fileLines (ls.map (· ++ ['\n'])).flatten = ls := by
  have key : ∀ ls : List Str, (∀ l ∈ ls, '\n' ∉ l) →
      splitOnChar '\n' (ls.map (· ++ ['\n'])).flatten = ls ++ [[]] := by
    intro ls
    induction ls with
    | nil => intro _; rfl
    | cons a r ih =>
      intro h
      simp only [List.map_cons, List.flatten_cons, List.append_assoc, List.singleton_append]
      rw [splitOnChar_append _ _ _ (h a (by simp)), ih (fun l hl => h l (by simp [hl]))]
      rfl
  unfold fileLines
  rw [key ls h]
  simp

end TV.TextIO
