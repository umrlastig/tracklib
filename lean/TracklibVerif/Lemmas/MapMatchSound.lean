import TracklibVerif.Lemmas.MapMatch
import TracklibVerif.Lemmas.MapMatchLists
import TracklibVerif.Props.C20
/-! Helper lemmas for C10 on the core `__mapOnNetwork`: one turn of the candidate loop (`candStep`) and the loop as the
sequence of its turns (`candLoop_cons`, `candLoop_eq`), hence `STATES[i]` as a value (`obsStates_eq`, `obsStates_spec`: the states
the candidate edge numbers contribute, or the flag state), so that what is said of `STATES[i]` is said of ONE candidate edge number;
the preparation loop and the backward step as traversals (`Lemmas/MapMatchLists`); the positions and time stamps written back.
What a kept state is geometrically (`candStep_geom`) rests on the C20 theorems. -/
namespace TV.MapMatch
open TV.Proj

section
variable {α : Type} [Add α] [Sub α] [Mul α]

/-- `__distToNode(track, coord, i, 1)` reads `track[i + 1]`: when it returns, the geometry has at least two vertices
(so that the segment the projection reports exists — also when every segment of the geometry is skipped and the
projection answers with the first vertex, index 0) -/
theorem distToNode_one_geom (sqrt : α → α) (e : Edge α) (coord : α × α) (i : Nat) (b : α)
    (h : distToNode sqrt e coord i 1 = some b) : 2 ≤ e.geom.length := by
  revert h
  fun_cases distToNode sqrt e coord i 1
  case case1 => omega
  case case3 v hg _ =>
    exact fun _ => Nat.succ_le_of_lt (Nat.lt_of_le_of_lt (Nat.succ_le_succ (Nat.zero_le i)) (List.getElem?_eq_some_iff.mp hg).1)
  all_goals nofun

variable [Div α] [Neg α] [LT α] [LE α] [DecidableLT α] [DecidableLE α] [OfNat α 0]

/-- what the candidate edge number `elem` contributes to `STATES[i]`: an exception, nothing (its projection is not strictly within
the radius) or one state -/
def candStep (sqrt : α → α) (eps radius : α) (edges : List (Edge α)) (pos : α × α) (elem : Nat) :
    Except Err (Option (State α)) :=
  match edges[elem]? with
  | none => .error .index
  | some eg =>
    match projOnTrack sqrt eps eg.geom pos.1 pos.2 with
    | .error e => .error (.proj e)
    | .ok r =>
      if r.2.1 < radius then
        match distToNode sqrt eg r.1 r.2.2 0, distToNode sqrt eg r.1 r.2.2 1 with
        | some a, some b => .ok (some ⟨r.1, (elem : Int), a, b⟩)
        | _, _ => .error .index
      else .ok none

theorem candLoop_cons (sqrt : α → α) (eps radius : α) (edges : List (Edge α)) (pos : α × α) (elem : Nat) (rest : List Nat)
    (acc : List (State α)) :
    candLoop sqrt eps radius edges pos (elem :: rest) acc =
      match candStep sqrt eps radius edges pos elem with
      | .error e => .error e
      | .ok o => candLoop sqrt eps radius edges pos rest (acc ++ o.toList) := by
  rw [candLoop]
  fun_cases candStep sqrt eps radius edges pos elem
  all_goals simp only [*, ↓reduceIte, Option.toList_none, Option.toList_some, List.append_nil]

theorem candStep_some (sqrt : α → α) (eps radius : α) (edges : List (Edge α)) (pos : α × α)
    (elem : Nat) (s : State α) (h : candStep sqrt eps radius edges pos elem = .ok (some s)) :
    ∃ (eg : Edge α) (r : (α × α) × α × Nat) (a b : α), edges[elem]? = some eg ∧
      projOnTrack sqrt eps eg.geom pos.1 pos.2 = .ok r ∧ r.2.1 < radius ∧
      distToNode sqrt eg r.1 r.2.2 0 = some a ∧ distToNode sqrt eg r.1 r.2.2 1 = some b ∧ s = ⟨r.1, (elem : Int), a, b⟩ := by
  revert h
  fun_cases candStep sqrt eps radius edges pos elem
  case case3 eg he r hp hlt a b hb ha => rintro ⟨⟩; exact ⟨eg, r, a, b, he, hp, hlt, ha, hb, rfl⟩
  all_goals nofun

theorem candStep_none {sqrt : α → α} {eps radius : α} {edges : List (Edge α)} {pos : α × α} {elem : Nat}
    (h : candStep sqrt eps radius edges pos elem = .ok none) :
    ∃ (eg : Edge α) (r : (α × α) × α × Nat), edges[elem]? = some eg ∧
      projOnTrack sqrt eps eg.geom pos.1 pos.2 = .ok r ∧ ¬ r.2.1 < radius := by
  revert h
  fun_cases candStep sqrt eps radius edges pos elem
  case case5 eg he r hp hlt => exact fun _ => ⟨eg, r, he, hp, hlt⟩
  all_goals nofun

theorem candLoop_eq (sqrt : α → α) (eps radius : α) (edges : List (Edge α)) (pos : α × α) (E : List Nat) :
    ∀ (acc : List (State α)), candLoop sqrt eps radius edges pos E acc =
      (travE (candStep sqrt eps radius edges pos) E).map fun os => acc ++ os.filterMap id := by
  induction E with
  | nil => intro acc; exact congrArg Except.ok (List.append_nil acc).symm
  | cons n E ih =>
    intro acc
    unfold travE at ih ⊢
    rw [candLoop_cons, List.mapM_cons]
    cases candStep sqrt eps radius edges pos n with
    | error e => rfl
    | ok o =>
      dsimp only
      rw [ih]
      cases E.mapM (candStep sqrt eps radius edges pos) with
      | error e => rfl
      | ok os => cases o <;> simp [Except.map, bind, Except.bind, pure, Except.pure]

variable [OfNat α 1]

theorem obsStates_eq (sqrt : α → α) (eps radius : α) (edges : List (Edge α)) (pos : α × α) (cand : Option (List Nat)) :
    obsStates sqrt eps radius edges pos cand =
      (travE (candStep sqrt eps radius edges pos) (cand.getD [])).map fun os => orDefault (flag pos) (os.filterMap id) := by
  unfold obsStates
  cases cand with
  | none => rfl
  | some E =>
    dsimp only [Option.getD_some]
    rw [candLoop_eq]
    cases travE (candStep sqrt eps radius edges pos) E with
    | error e => rfl
    | ok os =>
      simp only [Except.map, List.nil_append]
      cases os.filterMap id <;> rfl

theorem obsStates_spec {sqrt : α → α} {eps radius : α} {edges : List (Edge α)} {pos : α × α} {cand : Option (List Nat)}
    {l : List (State α)} (h : obsStates sqrt eps radius edges pos cand = .ok l) :
    (l = [flag pos] ∧ ∀ n ∈ cand.getD [], candStep sqrt eps radius edges pos n = .ok none) ∨
    (l ≠ [] ∧ ∀ s, s ∈ l ↔ ∃ n ∈ cand.getD [], candStep sqrt eps radius edges pos n = .ok (some s)) := by
  rw [obsStates_eq] at h
  obtain ⟨os, ht, rfl⟩ := ok_of_map_ok h
  obtain ⟨kept, hnone⟩ := travE_kept ht
  show orDefault (flag pos) (os.filterMap id) = _ ∧ _ ∨
    orDefault (flag pos) (os.filterMap id) ≠ _ ∧ ∀ s, s ∈ orDefault (flag pos) (os.filterMap id) ↔ _
  cases hk : os.filterMap id with
  | nil => exact Or.inl ⟨rfl, hnone hk⟩
  | cons s ss => exact Or.inr ⟨List.cons_ne_nil _ _, fun s' => by rw [orDefault, ← hk]; exact kept s'⟩

theorem allStates_eq (sqrt : α → α) (eps radius : α) (edges : List (Edge α)) :
    ∀ (track : List (Obs α)) (cands : List (Option (List Nat))), allStates sqrt eps radius edges track cands =
      travE (fun p => obsStates sqrt eps radius edges p.1.pos p.2) (padZip none track cands) :=
  eq_travE_padZip (fun _ => rfl) fun o os cs => by
    rw [allStates]
    dsimp only
    cases obsStates sqrt eps radius edges o.pos (cs.head?.getD none) <;>
      [rfl; (cases allStates sqrt eps radius edges os cs.tail <;> rfl)]

theorem mapOnNetwork_ok {sqrt : α → α} {eps radius : α} {edges : List (Edge α)} {mode : Nat}
    {decode : List (List (State α)) → List Nat} {track : List (Obs α)} {names : List String}
    {cands : List (Option (List Nat))} {res : Result α}
    (h : mapOnNetwork sqrt eps radius edges mode decode track names cands = .ok res) :
    ∃ states inf, allStates sqrt eps radius edges track cands = .ok states ∧ inferAll states (decode states) = .ok inf ∧
      res = ⟨states, inf, newPositions mode track inf,
        addName (addName (addName names "obs_noise") "hmm_inference") "hmm_cost"⟩ := by
  revert h
  fun_cases mapOnNetwork sqrt eps radius edges mode decode track names cands
  case case3 states h1 inf h2 => rintro ⟨⟩; exact ⟨states, inf, h1, h2, rfl⟩
  all_goals nofun

end

section
variable {α : Type}

/-- `createAnalyticalFeature` keeps every existing feature name -/
theorem mem_addName (ns : List String) (m n : String) (hn : n ∈ ns) : n ∈ addName ns m := by
  unfold addName; split
  · exact hn
  · exact List.mem_append_left _ hn

theorem inferAll_eq : ∀ (ss : List (List (State α))) (idx : List Nat),
    inferAll ss idx = travE (fun p => getE Err.index p.1 p.2) (padZip 0 ss idx) :=
  eq_travE_padZip (fun _ => rfl) fun s ss idx => by
    rw [inferAll]
    dsimp only
    unfold getE
    cases s[idx.head?.getD 0]? <;> [rfl; (dsimp only; cases inferAll ss idx.tail <;> rfl)]

theorem inferAll_mem (ss : List (List (State α))) (idx : List Nat) (inf : List (State α)) (h : inferAll ss idx = .ok inf) :
    inf.length = ss.length ∧ ∀ (k : Nat) (st : State α), inf[k]? = some st → ∃ l, ss[k]? = some l ∧ st ∈ l :=
  travE_getE_mem (inferAll_eq ss idx ▸ h)

theorem inferAll_total (ss : List (List (State α))) (idx : List Nat)
    (h : ∀ (k : Nat) (l : List (State α)), ss[k]? = some l → idx[k]?.getD 0 < l.length) :
    ∃ inf, inferAll ss idx = .ok inf :=
  inferAll_eq ss idx ▸ travE_getE_total h

theorem newPositions_id (mode : Nat) (hm : writesPositions mode = false) (track : List (Obs α)) (inf : List (State α)) :
    newPositions mode track inf = track := by
  fun_induction newPositions mode track inf with
  | case1 o os s ss ih => rw [ih, hm]; rfl
  | case2 => rfl

theorem newPositions_times (mode : Nat) (track : List (Obs α)) (inf : List (State α)) :
    (newPositions mode track inf).map (·.t) = track.map (·.t) := by
  fun_induction newPositions mode track inf with
  | case1 o os s ss ih => simp only [List.map_cons, ih]; split <;> rfl
  | case2 => rfl

end

variable {α : Type} [Field α] [LinearOrder α] [IsStrictOrderedRing α]

/-- the flag state `(position, -1, -1, -1)` -/
def IsFlag (pos : α × α) (s : State α) : Prop := s.p = pos ∧ s.edge = -1 ∧ s.d0 = -1 ∧ s.d1 = -1

/-- a sound candidate for an observation at `pos`: an existing edge number, a point on a segment of that edge's
geometry, strictly within the radius, and — when the edge's `abs_curv` column is the one `computeAbsCurv`
makes — distances to the two end nodes that add up to the edge length (last `abs_curv` value) -/
def Sound (sqrt : α → α) (radius : α) (edges : List (Edge α)) (pos : α × α) (s : State α) : Prop :=
  ∃ (elem : Nat) (eg : Edge α) (i : Nat) (p1 p2 : α × α) (d : α),
    s.edge = (elem : Int) ∧ edges[elem]? = some eg ∧ eg.geom[i]? = some p1 ∧ eg.geom[i + 1]? = some p2 ∧
    OnSeg p1.1 p1.2 p2.1 p2.2 s.p.1 s.p.2 ∧ 0 ≤ d ∧ d * d = d2 pos.1 pos.2 s.p.1 s.p.2 ∧ d < radius ∧
    (eg.curv = absCurv sqrt eg.geom → ∃ len, eg.curv[eg.geom.length - 1]? = some len ∧ s.d0 + s.d1 = len)

theorem candStep_geom {sqrt : α → α} (hs : SqrtSpec sqrt) (eps radius : α) (edges : List (Edge α)) (pos : α × α)
    (elem : Nat) (s : State α) (h : candStep sqrt eps radius edges pos elem = .ok (some s)) :
    ∃ (eg : Edge α) (i : Nat) (p1 p2 : α × α) (d : α),
      s.edge = (elem : Int) ∧ edges[elem]? = some eg ∧
      eg.geom[i]? = some p1 ∧ eg.geom[i + 1]? = some p2 ∧ OnSeg p1.1 p1.2 p2.1 p2.2 s.p.1 s.p.2 ∧
      0 ≤ d ∧ d * d = d2 pos.1 pos.2 s.p.1 s.p.2 ∧ d < radius ∧
      distToNode sqrt eg s.p i 0 = some s.d0 ∧ distToNode sqrt eg s.p i 1 = some s.d1 := by
  obtain ⟨eg, ⟨⟨px, py⟩, d, i⟩, a, b, he, hp, hlt, ha, hb, rfl⟩ := candStep_some sqrt eps radius edges pos elem s h
  obtain ⟨d0, dd, p1, g1, hseg, _⟩ := TV.C20.proj_polyline_on hs eps eg.geom pos.1 pos.2 d px py i
    ((TV.C20.projOnTrack_spec sqrt eps eg.geom pos.1 pos.2 d px py i).mp hp)
  obtain ⟨p2, g2, hon⟩ := hseg (distToNode_one_geom sqrt eg (px, py) i b hb)
  exact ⟨eg, i, p1, p2, d, rfl, he, g1, g2, hon, d0, dd, hlt, ha, hb⟩

end TV.MapMatch
