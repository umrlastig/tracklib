import TracklibVerif.Lemmas.ViterbiLik
import Mathlib.Tactic.Ring
import Mathlib.Tactic.Linarith
import Mathlib.Tactic.Positivity
/-! Likelihood 0 and the `1e-300` guard (C09), over the reals.

`HMM.Plog` / `HMM.Qlog` add a guard `eps > 0` to every likelihood before taking the logarithm, so a likelihood 0
costs `-log eps` (690.78 for `eps = 1e-300`) instead of `+∞`. What is maximised is `Π (v + eps)` over the
`2N+1` factors of a sequence. When the non-zero likelihoods lie in `[a, b]` and `eps` is small against them
(`eps · (b+eps)^(2N) < a^(2N+1)`), a sequence with fewer zero factors always has the larger guarded product:
the decoder first minimises the number of zero factors. -/
namespace TV.Viterbi
open Classical

variable (p : Nat → Nat → ℝ) (q : Nat → Nat → Nat → ℝ)

/-- number of factors equal to 0 among the `2k+1` likelihoods of `σ` up to epoch `k` -/
noncomputable def nzero (σ : Nat → Nat) : Nat → Nat
  | 0 => if p 0 (σ 0) = 0 then 1 else 0
  | k+1 => (if q k (σ k) (σ (k+1)) = 0 then 1 else 0) + nzero σ k + (if p (k+1) (σ (k+1)) = 0 then 1 else 0)

noncomputable def npos (σ : Nat → Nat) : Nat → Nat
  | 0 => if p 0 (σ 0) = 0 then 0 else 1
  | k+1 => (if q k (σ k) (σ (k+1)) = 0 then 0 else 1) + npos σ k + (if p (k+1) (σ (k+1)) = 0 then 0 else 1)

theorem nzero_add_npos (σ : Nat → Nat) (k : Nat) : nzero p q σ k + npos p q σ k = 2 * k + 1 := by
  have one : ∀ c : Prop, (if c then 1 else 0) + (if c then 0 else 1) = 1 := fun c => by split <;> rfl
  induction k with
  | zero => exact one _
  | succ k ih =>
    have h1 := one (q k (σ k) (σ (k+1)) = 0)
    have h2 := one (p (k+1) (σ (k+1)) = 0)
    simp only [nzero, npos]
    omega

/-- `x` lies between the products of `z` guards with `m` factors at the lower bound `a` / at the upper bound `B`.
Closed under multiplication, which is all the induction over the factors of a sequence needs. -/
def Bnd (eps a B : ℝ) (z m : Nat) (x : ℝ) : Prop := eps ^ z * a ^ m ≤ x ∧ x ≤ eps ^ z * B ^ m

theorem Bnd.mul {eps a B x y : ℝ} {z m z' m' : Nat} (he : 0 < eps) (ha : 0 < a)
    (h1 : Bnd eps a B z m x) (h2 : Bnd eps a B z' m' y) : Bnd eps a B (z + z') (m + m') (x * y) := by
  have p1 : 0 ≤ eps ^ z * a ^ m := by positivity
  have p2 : 0 ≤ eps ^ z' * a ^ m' := by positivity
  constructor
  · calc eps ^ (z + z') * a ^ (m + m') = (eps ^ z * a ^ m) * (eps ^ z' * a ^ m') := by ring
      _ ≤ x * y := mul_le_mul h1.1 h2.1 p2 (p1.trans h1.1)
  · calc x * y ≤ (eps ^ z * B ^ m) * (eps ^ z' * B ^ m') :=
          mul_le_mul h1.2 h2.2 (p2.trans h2.1) ((p1.trans h1.1).trans h1.2)
      _ = eps ^ (z + z') * B ^ (m + m') := by ring

theorem Bnd.factor {eps a b v : ℝ} (he : 0 < eps) (ha : 0 < a) (hv : v = 0 ∨ (a ≤ v ∧ v ≤ b)) :
    Bnd eps a (b + eps) (if v = 0 then 1 else 0) (if v = 0 then 0 else 1) (v + eps) := by
  rcases hv with rfl | ⟨h1, h2⟩
  · simp [Bnd]
  · rw [if_neg (ha.trans_le h1).ne', if_neg (ha.trans_le h1).ne']
    simp only [Bnd, pow_zero, pow_one, one_mul]
    constructor <;> linarith

variable (n : Nat → Nat) (eps a b : ℝ) (N : Nat)

theorem lik_bounds (he : 0 < eps) (ha : 0 < a)
    (hp : ∀ k l, k ≤ N → l < n k → p k l = 0 ∨ (a ≤ p k l ∧ p k l ≤ b))
    (hq : ∀ k m l, k < N → m < n k → l < n (k+1) → q k m l = 0 ∨ (a ≤ q k m l ∧ q k m l ≤ b))
    (σ : Nat → Nat) (hσ : ∀ k, k ≤ N → σ k < n k) (k : Nat) (hk : k ≤ N) :
    Bnd eps a (b + eps) (nzero p q σ k) (npos p q σ k) (lik p q eps σ k) := by
  induction k with
  | zero => exact Bnd.factor he ha (hp 0 (σ 0) hk (hσ 0 hk))
  | succ k ih =>
    exact ((Bnd.factor he ha (hq k (σ k) (σ (k+1)) (by omega) (hσ k (by omega)) (hσ (k+1) hk))).mul he ha
      (ih (by omega))).mul he ha (Bnd.factor he ha (hp (k+1) (σ (k+1)) hk (hσ (k+1) hk)))

/-- the separation hypothesis for `M + 1` factors orders the two bounds: with fewer guards (`z < z'`) the lower bound
is above the upper bound of the other side. One guard is traded against `a` (`eps ≤ a`) for each of the `d` further
zeros and one against `B^m'` by the hypothesis, which only gets easier for fewer than `M` remaining factors. -/
theorem sep_lt {eps a B : ℝ} (he : 0 < eps) (hea : eps ≤ a) (haB : a ≤ B) (M : Nat)
    (hsep : eps * B ^ M < a ^ (M + 1)) {z m z' m' : Nat} (hz : z + m = M + 1) (hz' : z' + m' = M + 1)
    (hlt : z < z') : eps ^ z' * B ^ m' < eps ^ z * a ^ m := by
  have ha : 0 < a := he.trans_le hea
  have hB : 0 < B := ha.trans_le haB
  obtain ⟨d, rfl⟩ : ∃ d, z' = z + d + 1 := ⟨z' - z - 1, by omega⟩
  obtain ⟨e, rfl⟩ : ∃ e, M = m' + e := ⟨M - m', by omega⟩
  obtain rfl : m = m' + d + 1 := by omega
  have key : eps * B ^ m' < a ^ (m' + 1) := by
    have : eps * B ^ m' * B ^ e < a ^ (m' + 1) * B ^ e :=
      calc eps * B ^ m' * B ^ e = eps * B ^ (m' + e) := by ring
        _ < a ^ (m' + e + 1) := hsep
        _ = a ^ (m' + 1) * a ^ e := by ring
        _ ≤ a ^ (m' + 1) * B ^ e := mul_le_mul_of_nonneg_left (pow_le_pow_left₀ ha.le haB e) (pow_pos ha _).le
    exact lt_of_mul_lt_mul_right this (pow_pos hB e).le
  calc eps ^ (z + d + 1) * B ^ m' = eps ^ z * (eps ^ d * (eps * B ^ m')) := by ring
    _ ≤ eps ^ z * (a ^ d * (eps * B ^ m')) :=
        mul_le_mul_of_nonneg_left (mul_le_mul_of_nonneg_right (pow_le_pow_left₀ he.le hea d)
          (mul_pos he (pow_pos hB _)).le) (pow_pos he z).le
    _ < eps ^ z * (a ^ d * a ^ (m' + 1)) :=
        mul_lt_mul_of_pos_left (mul_lt_mul_of_pos_left key (pow_pos ha d)) (pow_pos he z)
    _ = eps ^ z * a ^ (m' + d + 1) := by ring

theorem lik_lt_of_nzero_lt (he : 0 < eps) (hea : eps ≤ a) (hab : a ≤ b)
    (hsep : eps * (b + eps) ^ (2 * N) < a ^ (2 * N + 1))
    (hp : ∀ k l, k ≤ N → l < n k → p k l = 0 ∨ (a ≤ p k l ∧ p k l ≤ b))
    (hq : ∀ k m l, k < N → m < n k → l < n (k+1) → q k m l = 0 ∨ (a ≤ q k m l ∧ q k m l ≤ b))
    (σ τ : Nat → Nat) (hσ : ∀ k, k ≤ N → σ k < n k) (hτ : ∀ k, k ≤ N → τ k < n k)
    (hlt : nzero p q σ N < nzero p q τ N) : lik p q eps τ N < lik p q eps σ N :=
  have ha := he.trans_le hea
  ((lik_bounds p q n eps a b N he ha hp hq τ hτ N (Nat.le_refl _)).2.trans_lt
    (sep_lt he hea (by linarith) (2 * N) hsep (nzero_add_npos p q σ N) (nzero_add_npos p q τ N) hlt)).trans_le
    (lik_bounds p q n eps a b N he ha hp hq σ hσ N (Nat.le_refl _)).1
end TV.Viterbi
