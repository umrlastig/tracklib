import TracklibVerif.Lemmas.GridBuild
/-! Query side of `Model/Grid.lean`: reading cells, `__addCellValuesInTAB` loops, `__neighboringcells`, and the relation
between a ground distance and a number of cells (`groundDistanceToUnits`). -/
namespace TV.Grid

section index
variable {α : Type}

theorem cellGet_err_col (g : Cells) (i j : Int) (hi : (g.length : Int) ≤ i) : cellGet g i j = .error .index := by
  simp only [cellGet, pyIdx_of_le hi]

theorem cellGet_err_row (g : Cells) (cs ls : Nat) (hs : Shape g cs ls) (i j : Int) (hj : (ls : Int) ≤ j) :
    cellGet g i j = .error .index := by
  fun_cases cellGet g i j
  case case5 a _ row h2 b h3 c _ =>
    rw [pyIdx_of_le (by rw [hs.2 row (List.mem_of_getElem? h2)]; exact hj)] at h3
    cases h3
  all_goals rfl

theorem lt_of_cellGet_ok (g : Cells) (cs ls : Nat) (hs : Shape g cs ls) (i j : Int) (c : List Nat)
    (h : cellGet g i j = .ok c) (hi : 0 ≤ i) (hj : 0 ≤ j) : i < (cs : Int) ∧ j < (ls : Int) := by
  constructor <;> by_contra hc
  · rw [cellGet_err_col g i j (by rw [hs.1]; omega)] at h; cases h
  · rw [cellGet_err_row g cs ls hs i j (by omega)] at h; cases h

theorem collectCells_mem (ix : Index α) (cells : List (Int × Int)) (tab out : List Nat)
    (h : collectCells ix tab cells = .ok out) (d : Nat) :
    d ∈ out ↔ d ∈ tab ∨ ∃ cell ∈ cells, Holds ix.grid cell.1 cell.2 d := by
  revert h
  fun_induction collectCells ix tab cells with
  | case1 => rintro ⟨⟩; simp
  | case2 => nofun
  | case3 tab cell rest values hr ih =>
    intro h
    rw [ih h, mem_addAll, or_assoc]
    simp only [List.mem_cons, exists_eq_or_imp]
    exact or_congr_right (or_congr_left ⟨fun hd => ⟨values, hr, hd⟩, fun ⟨v, hv, hd⟩ => by cases hr.symm.trans hv; exact hd⟩)

theorem collectCells_ok (ix : Index α) (cells : List (Int × Int)) (tab : List Nat)
    (hs : Shape ix.grid ix.csize.toNat ix.lsize.toNat) (hc : ∀ cell ∈ cells, InGrid ix cell) :
    ∃ out, collectCells ix tab cells = .ok out := by
  induction cells generalizing tab with
  | nil => exact ⟨tab, rfl⟩
  | cons cell rest ih =>
    obtain ⟨c, hcg⟩ := (hc cell (List.mem_cons_self ..)).cellGet_ok hs
    unfold collectCells requestCell
    simp only [hcg]
    exact ih _ (fun c' hc' => hc c' (List.mem_cons_of_mem _ hc'))

/-- one axis of `__neighboringcells`: `range(max(i - u, 0), min(i + u + 1, n))` -/
theorem clip_iff (i u n a : Int) :
    max (i - u) 0 ≤ a ∧ a < min (i + u + 1) n ↔ i - u ≤ a ∧ a ≤ i + u ∧ 0 ≤ a ∧ a < n := by omega

/-- one axis of the ring test: being the first or the last index of the clipped range -/
theorem edge_iff (i u n a : Int) (h : max (i - u) 0 ≤ a ∧ a < min (i + u + 1) n) :
    (a = max (i - u) 0 ∨ a = min (i + u + 1) n - 1) ↔ (a ≤ i - u ∨ a ≤ 0 ∨ i + u ≤ a ∨ n - 1 ≤ a) := by omega

/-- `__neighboringcells(i, j, u, incremental)`: the clipped square of radius `u`; with `incremental` only its cells on the
first / last column or row OF THE CLIPPED square (a ring cut by the border of the grid keeps the border cells) -/
theorem mem_neighboringCells_inc (ix : Index α) (i j u : Int) (inc : Bool) (i' j' : Int) :
    (i', j') ∈ neighboringCells ix i j u inc ↔
      ((i - u ≤ i' ∧ i' ≤ i + u ∧ 0 ≤ i' ∧ i' < ix.csize) ∧ (j - u ≤ j' ∧ j' ≤ j + u ∧ 0 ≤ j' ∧ j' < ix.lsize)) ∧
      (inc = true → (i' ≤ i - u ∨ i' ≤ 0 ∨ i + u ≤ i' ∨ ix.csize - 1 ≤ i') ∨
        (j' ≤ j - u ∨ j' ≤ 0 ∨ j + u ≤ j' ∨ ix.lsize - 1 ≤ j')) := by
  unfold neighboringCells
  simp only [List.mem_flatMap, List.mem_filterMap, mem_rangeI, Option.ite_none_left_eq_some, Option.some.injEq,
    Prod.mk.injEq, Bool.and_eq_true, bne_iff_ne, ne_eq, not_and, not_not]
  constructor
  · rintro ⟨a, ha, b, hb, hc, rfl, rfl⟩
    refine ⟨⟨(clip_iff ..).mp ha, (clip_iff ..).mp hb⟩, fun hinc => ?_⟩
    rw [← edge_iff i u ix.csize a ha, ← edge_iff j u ix.lsize b hb]
    by_contra hn
    simp only [not_or] at hn
    exact hn.2.2 (hc ⟨hinc, hn.1⟩ hn.2.1)
  · rintro ⟨⟨ha, hb⟩, hc⟩
    have ha' := (clip_iff i u ix.csize i').mpr ha
    have hb' := (clip_iff j u ix.lsize j').mpr hb
    refine ⟨i', ha', j', hb', fun ⟨hinc, h1, h2⟩ h3 => ?_, rfl, rfl⟩
    have := hc hinc
    rw [← edge_iff _ _ _ _ ha', ← edge_iff _ _ _ _ hb'] at this
    exact this.elim (fun h => h.elim (absurd · h1) (absurd · h2)) fun h => h.elim (absurd · h3) id

theorem mem_neighboringCells (ix : Index α) (i j u i' j' : Int) :
    (i', j') ∈ neighboringCells ix i j u false ↔
      (i - u ≤ i' ∧ i' ≤ i + u ∧ 0 ≤ i' ∧ i' < ix.csize) ∧ (j - u ≤ j' ∧ j' ≤ j + u ∧ 0 ≤ j' ∧ j' < ix.lsize) :=
  (mem_neighboringCells_inc ix i j u false i' j').trans (and_iff_left nofun)

theorem neighboringCells_inGrid (ix : Index α) (i j u : Int) :
    ∀ cell ∈ neighboringCells ix i j u false, InGrid ix cell := by
  rintro ⟨i', j'⟩ hc
  rw [mem_neighboringCells] at hc
  exact ⟨⟨hc.1.2.2.1, hc.1.2.2.2⟩, hc.2.2.2.1, hc.2.2.2.2⟩

end index

section scalar
variable {α : Type} [Field α] [LinearOrder α]

theorem groundDistanceToUnits_eq (fl : α → Int) (ix : Index α) (hmn : 0 < min ix.dX ix.dY) (d : α) :
    groundDistanceToUnits fl ix d = .ok (fl (d / min ix.dX ix.dY + 1)) := by
  have hz : isZero (min ix.dX ix.dY) = false := (isZero_false_iff _).mpr (ne_of_gt hmn)
  simp only [groundDistanceToUnits, pyMin_eq, Int.cast_one, hz, Bool.false_eq_true, if_false]

variable [IsStrictOrderedRing α]

theorem IsFloor.sub_le {fl : α → Int} (hf : IsFloor fl) {x y : α} {U : Int} (h : x - y ≤ ((U : Int) : α)) :
    fl x - fl y ≤ U := by
  have h1 : ((fl x - U : Int) : α) ≤ y := by push_cast; linarith [(hf x).1]
  have := hf.le_iff.mpr h1
  omega

theorem units_axis_int {fl : α → Int} (hf : IsFloor fl) (p q o dC mn : α) (U : Int) (hU : 0 ≤ U) (hmn : 0 < mn) (hle : mn ≤ dC)
    (h1 : -(((U : Int) : α) * mn) ≤ q - p) (h2 : q - p ≤ ((U : Int) : α) * mn) :
    fl ((q - o) / dC) - fl ((p - o) / dC) ≤ U ∧ fl ((p - o) / dC) - fl ((q - o) / dC) ≤ U := by
  have hdC : 0 < dC := lt_of_lt_of_le hmn hle
  have hUm : ((U : Int) : α) * mn ≤ ((U : Int) : α) * dC := mul_le_mul_of_nonneg_left hle (Int.cast_nonneg hU)
  constructor <;> apply hf.sub_le <;> rw [← sub_div, div_le_iff₀ hdC] <;> linarith

theorem units_pos {fl : α → Int} (hf : IsFloor fl) (d mn : α) (hd : 0 ≤ d) (hmn : 0 < mn) : 1 ≤ fl (d / mn + 1) :=
  hf.le_iff.mpr (by rw [Int.cast_one]; exact le_add_of_nonneg_left (div_nonneg hd (le_of_lt hmn)))

theorem lt_units_mul {fl : α → Int} (hf : IsFloor fl) (d mn : α) (hmn : 0 < mn) :
    d < ((fl (d / mn + 1) : Int) : α) * mn := by
  have hlt := (hf (d / mn + 1)).2
  rwa [add_lt_add_iff_right, div_lt_iff₀ hmn] at hlt

/-- one axis of `units_sound`: two abscissas at most `d` apart fall in columns at most
`floor(d / mn + 1)` apart, for cells of width `dC ≥ mn > 0`: `d` is less than that many times `mn` -/
theorem units_axis {fl : α → Int} (hf : IsFloor fl) (p q o dC d mn : α) (hmn : 0 < mn) (hle : mn ≤ dC)
    (h1 : -d ≤ q - p) (h2 : q - p ≤ d) :
    fl ((q - o) / dC) - fl ((p - o) / dC) ≤ fl (d / mn + 1) ∧ fl ((p - o) / dC) - fl ((q - o) / dC) ≤ fl (d / mn + 1) := by
  have hd : 0 ≤ d := neg_le_self_iff.mp (le_trans h1 h2)
  have hlt := lt_units_mul hf d mn hmn
  exact units_axis_int hf p q o dC mn _ (le_trans zero_le_one (units_pos hf d mn hd hmn)) hmn hle
    (le_trans (neg_le_neg (le_of_lt hlt)) h1) (le_trans h2 (le_of_lt hlt))

theorem coord_le_of_dist {q P : α × α} {R : α} (hR : 0 ≤ R) (h : (q.1 - P.1) ^ 2 + (q.2 - P.2) ^ 2 ≤ R ^ 2) :
    (-R ≤ q.1 - P.1 ∧ q.1 - P.1 ≤ R) ∧ (-R ≤ q.2 - P.2 ∧ q.2 - P.2 ≤ R) :=
  ⟨abs_le.mp (abs_le_of_sq_le_sq (le_trans (le_add_of_nonneg_right (sq_nonneg _)) h) hR),
    abs_le.mp (abs_le_of_sq_le_sq (le_trans (le_add_of_nonneg_left (sq_nonneg _)) h) hR)⟩

end scalar
end TV.Grid
