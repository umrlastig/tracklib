import TracklibVerif.Model.Features
/-! First the equations of the monad `M` (one step of `>>=`, `forEach`, `catchIndex` on a run whose outcome is known), which
C17's triples (`Lemmas/CinTabHoare.lean`) import this file for; then one relation for every structural fact about programs
written against the Track API (`Tbl`).

`Rel J S P m ma`: the two runs `m` (on `σ`) and `ma` (on `τ`), started in states related by `J`, raise or return the
same, end in states related by `J`; the step relation `S` holds between the `τ`-state before and after; a returned value
satisfies `P`. `S` is reflexive and transitive (`Step S`), so `Rel J S` is closed under the control structures of `M`.
The instances used:
* simulation (`GSim I ab`): `J s t := I s ∧ t = ab s`, `S = Any`;
* frame on the specification table: `J = Eq`, `S = Same W` ("names outside `W` read the same");
* "only names of `X` leave the listing": `J s t := Inv n s ∧ t = abs s`, `S = Unl X`.

`PrimRel J S W D R` states the relation for the nine primitives, a writing primitive under the permission to write its
name (`W`), `removeAnalyticalFeature` also under the permission to unlist it (`D`); `R` permits the re-assignment block of
`__applyOperation` (get / remove / create). `Lemmas/FeaturesRelOps.lean` and `Lemmas/FeaturesRelEval.lean` lift `PrimRel`
to every program of the model, once. -/
namespace TV.Features
variable {V : Type} {σ τ : Type}

theorem bind_of_ok {α β : Type} {m : M σ α} {f : α → M σ β} {s s' : σ} {x : α} (h : m s = (.ok x, s')) :
    (m >>= f) s = f x s' := by
  show M.bind m f s = _
  unfold M.bind
  rw [h]

theorem bind_of_error {α β : Type} {m : M σ α} {f : α → M σ β} {s s' : σ} {e : Err} (h : m s = (.error e, s')) :
    (m >>= f) s = (.error e, s') := by
  show M.bind m f s = _
  unfold M.bind
  rw [h]

theorem bind_ok {σ α β : Type} {m : M σ α} {f : α → M σ β} {s s' : σ} {x : β}
    (h : (m >>= f) s = (.ok x, s')) : ∃ y s1, m s = (.ok y, s1) ∧ f y s1 = (.ok x, s') := by
  cases hm : m s with
  | mk r s1 =>
    cases r with
    | error e => rw [bind_of_error hm] at h; cases h
    | ok y => exact ⟨y, s1, rfl, (bind_of_ok hm).symm.trans h⟩

theorem bind_assoc {α β γ : Type} (m : M σ α) (f : α → M σ β) (g : β → M σ γ) :
    (m >>= f) >>= g = m >>= fun x => f x >>= g := by
  funext s
  show M.bind (M.bind m f) g s = M.bind m (fun x => M.bind (f x) g) s
  unfold M.bind
  cases m s with
  | mk r s' => cases r <;> rfl

theorem forEach_append {α : Type} (f : α → M σ Unit) :
    ∀ l l' : List α, M.forEach (l ++ l') f = M.forEach l f >>= fun _ => M.forEach l' f
  | [], _ => rfl
  | a :: t, l' => by
    show (f a >>= fun _ => M.forEach (t ++ l') f) = (f a >>= fun _ => M.forEach t f) >>= fun _ => M.forEach l' f
    rw [forEach_append f t l', bind_assoc]

theorem forEach_eq_foldL {α : Type} (f : α → M σ Unit) : ∀ l : List α, M.forEach l f = M.foldL l () fun _ a => f a
  | [] => rfl
  | a :: t => by unfold M.forEach M.foldL; rw [forEach_eq_foldL f t]

theorem catchIndex_ok {α : Type} {m : M σ α} {d x : α} {s s' : σ} (h : m s = (.ok x, s')) :
    (M.catchIndex m d) s = (.ok x, s') := by
  unfold M.catchIndex
  rw [h]

theorem catchIndex_err {α : Type} {m : M σ α} {d : α} {s s' : σ} {e : Err} (h : m s = (.error e, s')) (hne : e ≠ .index) :
    (M.catchIndex m d) s = (.error e, s') := by
  unfold M.catchIndex
  rw [h]
  cases e <;> first | rfl | exact absurd rfl hne

class Step (S : τ → τ → Prop) : Prop where
  refl : ∀ t, S t t
  trans : ∀ {a b c}, S a b → S b c → S a c

def Any : τ → τ → Prop := fun _ _ => True

instance : Step (Any : τ → τ → Prop) := ⟨fun _ => trivial, fun _ _ => trivial⟩

def Rel {α : Type} (J : σ → τ → Prop) (S : τ → τ → Prop) (P : α → Prop) (m : M σ α) (ma : M τ α) : Prop :=
  ∀ s t, J s t → (ma t).1 = (m s).1 ∧ J (m s).2 (ma t).2 ∧ S t (ma t).2 ∧ ∀ x, (m s).1 = .ok x → P x

variable {J : σ → τ → Prop} {S : τ → τ → Prop}

theorem Rel.run {α : Type} {P : α → Prop} {m : M σ α} {ma : M τ α} (h : Rel J S P m ma) {s : σ} {t : τ} (hj : J s t) :
    ∃ r s' t', m s = (r, s') ∧ ma t = (r, t') ∧ J s' t' ∧ S t t' ∧ ∀ x, r = .ok x → P x :=
  let ⟨e, j, st, p⟩ := h s t hj
  ⟨(m s).1, (m s).2, (ma t).2, rfl, Prod.ext e rfl, j, st, p⟩

section combinators
variable {α β : Type}

theorem rel_weaken {P Q : α → Prop} {m : M σ α} {ma : M τ α} (h : Rel J S P m ma) (hpq : ∀ x, P x → Q x) :
    Rel J S Q m ma := fun s t hj =>
  let ⟨a, b, c, d⟩ := h s t hj
  ⟨a, b, c, fun x hx => hpq x (d x hx)⟩

theorem rel_ite {P : α → Prop} (c : Prop) [Decidable c] {a b : M σ α} {aa ba : M τ α}
    (h1 : c → Rel J S P a aa) (h2 : ¬ c → Rel J S P b ba) : Rel J S P (if c then a else b) (if c then aa else ba) := by
  split
  · exact h1 ‹_›
  · exact h2 ‹_›

theorem rel_catchIndex {P : α → Prop} {m : M σ α} {ma : M τ α} (d : α) (h1 : Rel J S P m ma) (hd : P d) :
    Rel J S P (M.catchIndex m d) (M.catchIndex ma d) := by
  intro s t hj
  obtain ⟨r, s', t', hm, hma, j1, s1, p1⟩ := h1.run hj
  unfold M.catchIndex
  rw [hm, hma]
  cases r with
  | ok x => exact ⟨rfl, j1, s1, p1⟩
  | error e =>
    cases e
    case index => exact ⟨rfl, j1, s1, fun y hy => by cases hy; exact hd⟩
    all_goals exact ⟨rfl, j1, s1, nofun⟩

variable [Step S]

theorem rel_const {P : α → Prop} (r : Except Err α) (h : ∀ x, r = .ok x → P x) :
    Rel J S P (M.ofExcept r) (M.ofExcept r) :=
  fun _ t hj => ⟨rfl, hj, Step.refl t, h⟩

theorem rel_ofExcept (r : Except Err α) : Rel J S (fun _ => True) (M.ofExcept r) (M.ofExcept r) :=
  rel_const r (fun _ _ => trivial)

theorem rel_pure {P : α → Prop} (x : α) (hx : P x) : Rel J S P (pure x) (pure x) :=
  rel_const (.ok x) (fun y hy => by cases hy; exact hx)

theorem rel_throw {P : α → Prop} (e : Err) : Rel J S P (M.throw e) (M.throw e) :=
  rel_const (.error e) (fun y hy => by cases hy)

theorem rel_bind {P : α → Prop} {Q : β → Prop} {m : M σ α} {ma : M τ α} {f : α → M σ β} {fa : α → M τ β}
    (h1 : Rel J S P m ma) (h2 : ∀ x, P x → Rel J S Q (f x) (fa x)) : Rel J S Q (m >>= f) (ma >>= fa) := by
  intro s t hj
  obtain ⟨r, s', t', hm, hma, j1, s1, p1⟩ := h1.run hj
  cases r with
  | error e => rw [bind_of_error hm, bind_of_error hma]; exact ⟨rfl, j1, s1, nofun⟩
  | ok x =>
    rw [bind_of_ok hm, bind_of_ok hma]
    obtain ⟨e2, j2, s2, p2⟩ := h2 x (p1 x rfl) s' t' j1
    exact ⟨e2, j2, Step.trans s1 s2, p2⟩

theorem rel_tryFinally {P : α → Prop} {m : M σ α} {ma : M τ α} {fin : M σ Unit} {fina : M τ Unit}
    (h1 : Rel J S P m ma) (h2 : Rel J S (fun _ => True) fin fina) :
    Rel J S P (M.tryFinally m fin) (M.tryFinally ma fina) := by
  intro s t hj
  obtain ⟨r, s', t', hm, hma, j1, s1, p1⟩ := h1.run hj
  obtain ⟨r2, s'', t'', hf, hfa, j2, s2, _⟩ := h2.run j1
  unfold M.tryFinally
  simp only [hm, hma, hf, hfa]
  cases r2 with
  | ok u => exact ⟨rfl, j2, Step.trans s1 s2, p1⟩
  | error e =>
    -- the exception of the `finally` block replaces the outcome: nothing is returned
    refine ⟨rfl, j2, Step.trans s1 s2, fun x hx => ?_⟩
    cases r with
    | ok y => cases hx
    | error e' => cases e' <;> cases hx

theorem rel_forEach (l : List α) {f : α → M σ Unit} {fa : α → M τ Unit}
    (h : ∀ a, a ∈ l → Rel J S (fun _ => True) (f a) (fa a)) :
    Rel J S (fun _ => True) (M.forEach l f) (M.forEach l fa) := by
  induction l with
  | nil => exact rel_pure () trivial
  | cons a t ih =>
    unfold M.forEach
    exact rel_bind (h a (by simp)) (fun _ _ => ih (fun b hb => h b (by simp [hb])))

theorem rel_mapL (l : List α) {Q : β → Prop} {f : α → M σ β} {fa : α → M τ β}
    (h : ∀ a, a ∈ l → Rel J S Q (f a) (fa a)) :
    Rel J S (fun r => r.length = l.length) (M.mapL l f) (M.mapL l fa) := by
  induction l with
  | nil => exact rel_pure [] rfl
  | cons a t ih =>
    unfold M.mapL
    refine rel_bind (h a (by simp)) (fun b _ => ?_)
    refine rel_bind (ih (fun c hc => h c (by simp [hc]))) (fun bs hbs => ?_)
    exact rel_pure _ (by simp [hbs])

theorem rel_mapL_range (k : Nat) {Q : β → Prop} {f : Nat → M σ β} {fa : Nat → M τ β}
    (h : ∀ i, Rel J S Q (f i) (fa i)) :
    Rel J S (fun t => k ≠ 0 → t.length = k) (M.mapL (List.range k) f) (M.mapL (List.range k) fa) :=
  rel_weaken (rel_mapL _ (fun i _ => h i)) (fun t ht _ => by simpa using ht)

/-- a fold keeps an invariant `Iv acc k` of the accumulator and the number of steps taken -/
theorem rel_foldL (l : List α) {f : β → α → M σ β} {fa : β → α → M τ β} (Iv : β → Nat → Prop) (init : β) (k0 : Nat)
    (h0 : Iv init k0) (h : ∀ b a k, a ∈ l → Iv b k → Rel J S (fun b' => Iv b' (k + 1)) (f b a) (fa b a)) :
    Rel J S (fun r => Iv r (k0 + l.length)) (M.foldL l init f) (M.foldL l init fa) := by
  induction l generalizing init k0 with
  | nil => exact rel_pure init h0
  | cons a t ih =>
    unfold M.foldL
    refine rel_bind (h init a k0 (by simp) h0) (fun b hb => ?_)
    refine rel_weaken (ih b (k0 + 1) hb (fun b' c k hc => h b' c k (by simp [hc]))) (fun r hr => ?_)
    rw [List.length_cons, show k0 + (t.length + 1) = k0 + 1 + t.length by omega]
    exact hr

theorem rel_foldL_true (l : List α) {f : β → α → M σ β} {fa : β → α → M τ β} (init : β)
    (h : ∀ b a, a ∈ l → Rel J S (fun _ => True) (f b a) (fa b a)) :
    Rel J S (fun _ => True) (M.foldL l init f) (M.foldL l init fa) :=
  rel_foldL l (fun _ _ => True) init 0 trivial (fun b a _ ha _ => h b a ha)

end combinators

/-- on one state space with `J = Eq`: a fact about every single run -/
theorem rel_eq {α : Type} {S : τ → τ → Prop} {ma : M τ α} (h : ∀ a, S a (ma a).2) :
    Rel Eq S (fun _ => True) ma ma := by
  intro s t hj
  cases hj
  exact ⟨rfl, rfl, h s, fun _ _ => trivial⟩

structure PrimRel [Tbl σ V] [Tbl τ V] (J : σ → τ → Prop) (S : τ → τ → Prop) (W D : String → Prop) (R : Prop) : Prop where
  size : Rel J S (fun _ => True) (Tbl.size : M σ Nat) (Tbl.size : M τ Nat)
  has : ∀ name, Rel J S (fun _ => True) (Tbl.has name : M σ Bool) (Tbl.has name : M τ Bool)
  names : Rel J S (fun _ => True) (Tbl.names : M σ (List String)) (Tbl.names : M τ (List String))
  get : ∀ (o : Ops V) name, Rel J S (fun _ => True) (Tbl.get o name : M σ (List V)) (Tbl.get o name : M τ (List V))
  getObs : ∀ (o : Ops V) name i, Rel J S (fun _ => True) (Tbl.getObs o name i : M σ V) (Tbl.getObs o name i : M τ V)
  setObs : ∀ name i (v : V), W name →
    Rel J S (fun _ => True) (Tbl.setObs name i v : M σ Unit) (Tbl.setObs name i v : M τ Unit)
  create : ∀ name (init : Init V), W name →
    Rel J S (fun _ => True) (Tbl.create name init : M σ Unit) (Tbl.create name init : M τ Unit)
  update : ∀ name (init : Init V), W name →
    Rel J S (fun _ => True) (Tbl.update name init : M σ Unit) (Tbl.update name init : M τ Unit)
  remove : ∀ name, W name → D name →
    Rel J S (fun _ => True) (Tbl.remove name : M σ Unit) (Tbl.remove name : M τ Unit)
  /-- `a = b` with both listed: `af = get(b); remove(a); create(a, af)` -/
  reassign : ∀ (o : Ops V) name src, W name → R →
    Rel J S (fun _ => True)
      (Tbl.get o src >>= fun af => Tbl.remove name >>= fun _ => Tbl.create name (.list af) : M σ Unit)
      (Tbl.get o src >>= fun af => Tbl.remove name >>= fun _ => Tbl.create name (.list af) : M τ Unit)

/-- where unlisting needs no permission, the re-assignment block is the composition of its three calls -/
theorem PrimRel.of_nine [Tbl σ V] [Tbl τ V] [Step S] {W : String → Prop}
    (size : Rel J S (fun _ => True) (Tbl.size : M σ Nat) (Tbl.size : M τ Nat))
    (has : ∀ name, Rel J S (fun _ => True) (Tbl.has name : M σ Bool) (Tbl.has name : M τ Bool))
    (names : Rel J S (fun _ => True) (Tbl.names : M σ (List String)) (Tbl.names : M τ (List String)))
    (get : ∀ (o : Ops V) name, Rel J S (fun _ => True) (Tbl.get o name : M σ (List V)) (Tbl.get o name : M τ (List V)))
    (getObs : ∀ (o : Ops V) name i, Rel J S (fun _ => True) (Tbl.getObs o name i : M σ V) (Tbl.getObs o name i : M τ V))
    (setObs : ∀ name i (v : V), W name →
      Rel J S (fun _ => True) (Tbl.setObs name i v : M σ Unit) (Tbl.setObs name i v : M τ Unit))
    (create : ∀ name (init : Init V), W name →
      Rel J S (fun _ => True) (Tbl.create name init : M σ Unit) (Tbl.create name init : M τ Unit))
    (update : ∀ name (init : Init V), W name →
      Rel J S (fun _ => True) (Tbl.update name init : M σ Unit) (Tbl.update name init : M τ Unit))
    (remove : ∀ name, W name → Rel J S (fun _ => True) (Tbl.remove name : M σ Unit) (Tbl.remove name : M τ Unit)) :
    PrimRel (V := V) J S W (fun _ => True) True :=
  ⟨size, has, names, get, getObs, setObs, create, update, fun name hw _ => remove name hw,
   fun o name src hw _ => rel_bind (get o src) (fun _ _ => rel_bind (remove name hw) (fun _ _ => create name _ hw))⟩

end TV.Features
