import TracklibVerif.Lemmas.Common.MapM
import TracklibVerif.Lemmas.Common.Assoc
/-! The list patterns of the map-matching model (C10), for any element type, on top of `Lemmas/Common/Assoc.lean` and
`Lemmas/Common/MapM.lean`:

* a list used as a Python `dict` — searched by `find? (key · == i)`, assigned by "replace where the key matches, else append"
  (`EDGES`: `Common.dictSet`); `setEdge`, `lookupEdge`, `lookupNode` and their 3D copies unfold to these forms;
* a loop whose body may raise — `travE` (all results, or the first exception: `List.mapM`) for the preparation of `STATES` and
  for the candidate loop, `loopE` (the results so far and the exception) for the loop over the tracks of a collection.

Core Lean only. -/
namespace TV.MapMatch

section General
variable {β β' γ ε : Type}

theorem ok_of_map_ok {f : β → γ} {x : Except ε β} {y : γ} (h : x.map f = .ok y) : ∃ z, x = .ok z ∧ f z = y := by
  cases x with
  | error e => cases h
  | ok z => exact ⟨z, rfl, Except.ok.inj h⟩

variable (key : β → Nat)

theorem find?_append_single (l : List β) (v : β) (k : Nat) :
    (l ++ [v]).find? (fun x => key x == k) =
      (l.find? (fun x => key x == k)).or (if key v == k then some v else none) := by
  rw [List.find?_append, List.find?_singleton]

theorem filterMap_eq_map_of {f : β → Option γ} {g : β → γ} : ∀ {l : List β}, (∀ x ∈ l, f x = some (g x)) →
    l.filterMap f = l.map g := by
  intro l
  induction l with
  | nil => intro _; rfl
  | cons x rest ih =>
    intro h
    rw [List.filterMap_cons, h x (List.mem_cons_self ..), List.map_cons, ih fun y hy => h y (List.mem_cons_of_mem _ hy)]

end General

section Dict
variable {β : Type} (key : β → Nat)

open Common (dictSet)

theorem find?_dictSet_same (l : List β) (v : β) : (dictSet key l v).find? (fun x => key x == key v) = some v :=
  (Common.find?_dictSet key l v (key v)).trans (if_pos rfl)

theorem find?_dictSet_other (l : List β) (v : β) (i : Nat) (hi : i ≠ key v) :
    (dictSet key l v).find? (fun x => key x == i) = l.find? (fun x => key x == i) :=
  (Common.find?_dictSet key l v i).trans (if_neg hi)

theorem dictSet_fresh (l : List β) (v : β) (h : key v ∉ l.map key) : dictSet key l v = l ++ [v] := by
  unfold dictSet
  rw [if_neg]
  intro hany
  obtain ⟨x, hx, hxe⟩ := List.any_eq_true.mp hany
  exact h (eq_of_beq hxe ▸ List.mem_map.mpr ⟨x, hx, rfl⟩)

theorem foldl_dictSet_fresh (vs : List β) : ∀ (l : List β), (l.map key ++ vs.map key).Nodup →
    vs.foldl (dictSet key) l = l ++ vs := by
  induction vs with
  | nil => intro l _; exact (List.append_nil l).symm
  | cons v vs ih =>
    intro l hnd
    have hv : key v ∉ l.map key := fun hm =>
      (List.nodup_append.mp hnd).2.2 _ hm _ (List.mem_cons_self ..) rfl
    rw [List.foldl_cons, dictSet_fresh key l v hv, ih, List.append_assoc]; · rfl
    rwa [List.map_append, List.map_singleton, List.append_assoc]

theorem length_dictSet (l : List β) (v : β) :
    0 < (dictSet key l v).length ∧ l.length ≤ (dictSet key l v).length := by
  unfold dictSet
  split
  · rename_i hany
    obtain ⟨x, hx, _⟩ := List.any_eq_true.mp hany
    rw [List.length_map]
    exact ⟨List.length_pos_of_mem hx, Nat.le_refl _⟩
  · rw [List.length_append]; exact ⟨Nat.succ_pos _, Nat.le_succ _⟩

theorem readout_foldl_dictSet {γ : Type} (val : β → γ) (vs : List β) (hnd : (vs.map key).Nodup) :
    (vs.map key).filterMap (fun i => ((vs.foldl (dictSet key) []).find? (fun x => key x == i)).map val) = vs.map val := by
  rw [foldl_dictSet_fresh key vs [] hnd, List.nil_append, List.filterMap_map]
  exact filterMap_eq_map_of fun x hx => by
    show Option.map val (vs.find? fun y => key y == key x) = _
    rw [Common.find?_of_nodup key vs hnd x hx]; rfl

theorem dictSet_map {β' : Type} (key' : β' → Nat) (h : β → β') (hk : ∀ x, key' (h x) = key x) (l : List β) (v : β) :
    (dictSet key l v).map h = dictSet key' (l.map h) (h v) := by
  unfold dictSet
  rw [List.any_map, show ((fun x => key' x == key' (h v)) ∘ h) = fun x => key x == key v from funext fun x => by
    rw [Function.comp_apply, hk, hk]]
  split
  · rw [List.map_map, List.map_map]
    exact List.map_congr_left fun x _ => by
      simp only [Function.comp_apply, hk]; split <;> rfl
  · rw [List.map_append]; rfl

end Dict

section Trav
variable {β γ ε : Type}

/-- `[f b for b in l]`, the first exception aborts: `List.mapM` in `Except` (`Lemmas/Common/MapM.lean`) -/
abbrev travE (f : β → Except ε γ) (l : List β) : Except ε (List γ) := l.mapM f

theorem travE_ok {f : β → Except ε γ} {l : List β} {r : List γ} (h : travE f l = .ok r) :
    r.length = l.length ∧ ∀ (k : Nat) (b : β) (c : γ), l[k]? = some b → r[k]? = some c → f b = .ok c :=
  ⟨(Common.mapM_ok_getElem? h).1, fun k b c hb hc => by
    obtain ⟨c', hc', hf⟩ := (Common.mapM_ok_getElem? h).2 k b hb
    rw [hc] at hc'; cases hc'; exact hf⟩

theorem travE_kept {f : β → Except ε (Option γ)} {l : List β} {os : List (Option γ)} (h : travE f l = .ok os) :
    (∀ c, c ∈ os.filterMap id ↔ ∃ b ∈ l, f b = .ok (some c)) ∧
    (os.filterMap id = [] → ∀ b ∈ l, f b = .ok none) := by
  obtain ⟨tot, mem⟩ := Common.mapM_ok_mem h
  have kept : ∀ c, c ∈ os.filterMap id ↔ ∃ b ∈ l, f b = .ok (some c) := fun c => by
    rw [List.mem_filterMap]
    exact ⟨fun ⟨o, ho, e⟩ => by cases (show o = some c from e); exact (mem _).mp ho, fun hn => ⟨some c, (mem _).mpr hn, rfl⟩⟩
  refine ⟨kept, fun hnil b hb => ?_⟩
  obtain ⟨o, ho⟩ := tot b hb
  cases o with
  | none => exact ho
  | some c => exact absurd ((kept c).mpr ⟨b, hb, ho⟩) (by rw [hnil]; exact List.not_mem_nil)

def orDefault (d : γ) : List γ → List γ
  | [] => [d]
  | c :: cs => c :: cs

theorem orDefault_map {γ' : Type} (g : γ → γ') (d : γ) (l : List γ) : (orDefault d l).map g = orDefault (g d) (l.map g) := by
  cases l <;> rfl

theorem travE_total {f : β → Except ε γ} {l : List β} (h : ∀ b ∈ l, ∃ c, f b = .ok c) : ∃ r, travE f l = .ok r :=
  Common.mapM_ok_of_each h

theorem travE_map {β' γ' : Type} {f : β → Except ε γ} {f' : β' → Except ε γ'} (g : γ → γ') (h : β → β')
    (hf : ∀ b, (f b).map g = f' (h b)) : ∀ l, (travE f l).map (List.map g) = travE f' (l.map h) := by
  intro l
  unfold travE
  induction l with
  | nil => rfl
  | cons b l ih =>
    rw [List.map_cons, List.mapM_cons, List.mapM_cons, ← hf b, ← ih]
    cases f b with
    | error e => rfl
    | ok c => cases l.mapM f <;> rfl

section Pad
variable {δ : Type}

/-- `l` with, beside its `k`-th element, `ds[k]` — `d` past the end of `ds` -/
def padZip (d : δ) : List β → List δ → List (β × δ)
  | [], _ => []
  | b :: l, ds => (b, ds.head?.getD d) :: padZip d l ds.tail

theorem padZip_getElem? (d : δ) : ∀ (l : List β) (ds : List δ) (k : Nat),
    (padZip d l ds)[k]? = l[k]?.map fun b => (b, ds[k]?.getD d) := by
  intro l
  induction l with
  | nil => intro ds k; rfl
  | cons b l ih =>
    intro ds k
    cases k with
    | zero => cases ds <;> rfl
    | succ k => rw [padZip, List.getElem?_cons_succ, ih]; cases ds <;> rfl

theorem length_padZip (d : δ) (l : List β) (ds : List δ) : (padZip d l ds).length = l.length := by
  fun_induction padZip d l ds with
  | case1 => rfl
  | case2 b l ds ih => exact congrArg Nat.succ ih

theorem padZip_map {β' : Type} (d : δ) (h : β → β') : ∀ (l : List β) (ds : List δ),
    padZip d (l.map h) ds = (padZip d l ds).map fun p => (h p.1, p.2) := by
  intro l
  induction l with
  | nil => intro ds; rfl
  | cons b l ih => intro ds; rw [List.map_cons, padZip, padZip, ih]; rfl

theorem eq_travE_padZip {f : β × δ → Except ε γ} {d : δ} {F : List β → List δ → Except ε (List γ)}
    (h0 : ∀ ds, F [] ds = .ok [])
    (hc : ∀ b l ds, F (b :: l) ds =
      match f (b, ds.head?.getD d) with
      | .error e => .error e
      | .ok c => match F l ds.tail with
        | .error e => .error e
        | .ok cs => .ok (c :: cs)) : ∀ l ds, F l ds = travE f (padZip d l ds) := by
  intro l
  induction l with
  | nil => exact h0
  | cons b l ih =>
    intro ds; rw [hc, ih, padZip]
    unfold travE
    rw [List.mapM_cons]
    cases f (b, ds.head?.getD d) with
    | error e => rfl
    | ok c => cases (padZip d l ds.tail).mapM f <;> rfl

theorem travE_padZip_ok {f : β × δ → Except ε γ} {d : δ} {l : List β} {ds : List δ} {r : List γ}
    (h : travE f (padZip d l ds) = .ok r) :
    r.length = l.length ∧ ∀ (k : Nat) (b : β) (c : γ), l[k]? = some b → r[k]? = some c → f (b, ds[k]?.getD d) = .ok c := by
  obtain ⟨len, pt⟩ := travE_ok h
  exact ⟨len.trans (length_padZip d l ds), fun k b c hb hc => pt k _ c (by rw [padZip_getElem?, hb]; rfl) hc⟩

theorem travE_padZip_total {f : β × δ → Except ε γ} {d : δ} {l : List β} {ds : List δ}
    (h : ∀ (k : Nat) (b : β), l[k]? = some b → ∃ c, f (b, ds[k]?.getD d) = .ok c) :
    ∃ r, travE f (padZip d l ds) = .ok r :=
  travE_total fun p hp => by
    obtain ⟨k, hk⟩ := List.getElem?_of_mem hp
    rw [padZip_getElem?] at hk
    obtain ⟨b, hb, rfl⟩ := Option.map_eq_some_iff.mp hk
    exact h k b hb

def getE (e : ε) (l : List γ) (i : Nat) : Except ε γ :=
  match l[i]? with
  | none => .error e
  | some x => .ok x

theorem getE_eq_ok {e : ε} {l : List γ} {i : Nat} {x : γ} : getE e l i = .ok x ↔ l[i]? = some x := by
  fun_cases getE e l i <;> simp [*]

theorem travE_getE_mem {e : ε} {ss : List (List γ)} {idx : List Nat} {inf : List γ}
    (h : travE (fun p => getE e p.1 p.2) (padZip 0 ss idx) = .ok inf) :
    inf.length = ss.length ∧ ∀ (k : Nat) (st : γ), inf[k]? = some st → ∃ l, ss[k]? = some l ∧ st ∈ l := by
  obtain ⟨len, pt⟩ := travE_padZip_ok h
  refine ⟨len, fun k st hst => ?_⟩
  have hk : k < ss.length := len ▸ (List.getElem?_eq_some_iff.mp hst).1
  exact ⟨_, List.getElem?_eq_getElem hk,
    List.mem_of_getElem? (getE_eq_ok.mp (pt k _ st (List.getElem?_eq_getElem hk) hst))⟩

theorem travE_getE_total {e : ε} {ss : List (List γ)} {idx : List Nat}
    (h : ∀ (k : Nat) (l : List γ), ss[k]? = some l → idx[k]?.getD 0 < l.length) :
    ∃ inf, travE (fun p => getE e p.1 p.2) (padZip 0 ss idx) = .ok inf :=
  travE_padZip_total fun k l hl => ⟨_, getE_eq_ok.mpr (List.getElem?_eq_getElem (h k l hl))⟩

end Pad

/-- `for b in l: results.append(f(b))`: the results of the elements completed, and the exception that stopped the loop -/
def loopE (f : β → Except ε γ) : List β → List γ × Option ε
  | [] => ([], none)
  | b :: l =>
    match f b with
    | .error e => ([], some e)
    | .ok c => (c :: (loopE f l).1, (loopE f l).2)

theorem eq_loopE {f : β → Except ε γ} {F : List β → List γ × Option ε} (h0 : F [] = ([], none))
    (hc : ∀ b l, F (b :: l) =
      match f b with
      | .error e => ([], some e)
      | .ok c => (c :: (F l).1, (F l).2)) : ∀ l, F l = loopE f l := by
  intro l
  induction l with
  | nil => exact h0
  | cons b l ih => rw [hc, ih]; rfl

theorem loopE_get {f : β → Except ε γ} {l : List β} {j : Nat} {c : γ} (h : (loopE f l).1[j]? = some c) :
    ∃ b, l[j]? = some b ∧ f b = .ok c := by
  revert j
  fun_induction loopE f l with
  | case1 => nofun
  | case2 => nofun
  | case3 b l c0 hb ih =>
    intro j h
    cases j with
    | zero => cases h; exact ⟨b, rfl, hb⟩
    | succ j => exact ih h

theorem loopE_complete {f : β → Except ε γ} {l : List β} (h : (loopE f l).2 = none) : (loopE f l).1.length = l.length := by
  revert h
  fun_induction loopE f l with
  | case1 => exact fun _ => rfl
  | case2 => nofun
  | case3 b l c0 hb ih => exact fun h => congrArg Nat.succ (ih h)

end Trav
end TV.MapMatch
