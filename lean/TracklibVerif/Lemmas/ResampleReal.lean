import TracklibVerif.Lemmas.Resample
import Mathlib.Analysis.Real.Sqrt
/-! Non-vacuity of the `math.sqrt` contract of C05 (`SqrtSpec`), kept apart so that the property module does not load real analysis. -/
namespace TV.Resample

example : SqrtSpec Real.sqrt := fun x hx => ⟨Real.sqrt_nonneg x, Real.mul_self_sqrt hx⟩

end TV.Resample
