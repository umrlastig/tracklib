import TracklibVerif.Model.Heapq
/-! `heapq` keeps a binary min-heap: helper lemmas for `Props/C06.lean`.

`lt` is any strict weak order given as a Boolean function (`Ord`); `Le a b` is `¬ b < a`.
`HeapFrom k l` = every parent→child edge whose parent index is `≥ k` is in order; `IsHeap = HeapFrom 0`.
The loops of `heapq` move a *hole*: `_siftdown` / `_siftup` keep the item being placed in a local variable, the
list holds a duplicate at the hole. The order invariant (`BInv`) speaks only of the edges that do not touch the
hole, so each step is one `List.set` read edge by edge (`edge_set`); the list with the item written into the hole
(`heap.set pos x`) is a permutation of the input at every iteration. Core Lean only. -/
namespace TV.Heapq
open List
variable {α : Type}

/-- what `heapq` needs of `<`: a strict weak order -/
structure Ord (lt : α → α → Bool) : Prop where
  asymm : ∀ a b, lt a b = true → lt b a = false
  trans : ∀ a b c, lt b a = false → lt c b = false → lt c a = false

/-- `a ≤ b` as `heapq` sees it: `not b < a` -/
def Le (lt : α → α → Bool) (a b : α) : Prop := lt b a = false

theorem Le.refl {lt : α → α → Bool} (o : Ord lt) (a : α) : Le lt a a := by
  unfold Le
  cases h : lt a a with
  | false => rfl
  | true => have := o.asymm a a h; rw [h] at this; cases this

theorem Le.of_lt {lt : α → α → Bool} (o : Ord lt) {a b : α} (h : lt a b = true) : Le lt a b := o.asymm a b h

theorem Le.trans {lt : α → α → Bool} (o : Ord lt) {a b c : α} (h1 : Le lt a b) (h2 : Le lt b c) : Le lt a c :=
  o.trans a b c h1 h2

def HeapFrom (lt : α → α → Bool) (k : Nat) (l : List α) : Prop :=
  ∀ j a b, 0 < j → k ≤ (j - 1) / 2 → l[(j - 1) / 2]? = some a → l[j]? = some b → Le lt a b

/-- the heap invariant of `heapq`: `heap[(j-1)//2] <= heap[j]` for every `j > 0` -/
def IsHeap (lt : α → α → Bool) (l : List α) : Prop := HeapFrom lt 0 l

/-- `pos` lies in the subtree rooted at `sp` -/
inductive Anc (sp : Nat) : Nat → Prop
  | refl : Anc sp sp
  | left {p : Nat} : Anc sp p → Anc sp (2 * p + 1)
  | right {p : Nat} : Anc sp p → Anc sp (2 * p + 2)

/-- stated apart: `omega` is slow on nested divisions in a large context -/
theorem parent_of_child {c q : Nat} (h : c = 2 * q + 1 ∨ c = 2 * q + 2) : (c - 1) / 2 = q := by omega

theorem parent_lt {p : Nat} (h : 0 < p) : (p - 1) / 2 < p := by omega

theorem child_of_parent {c q : Nat} (h0 : 0 < c) (h : (c - 1) / 2 = q) : c = 2 * q + 1 ∨ c = 2 * q + 2 := by omega

theorem lt_child {c q : Nat} (h : c = 2 * q + 1 ∨ c = 2 * q + 2) : q < c := by omega

theorem Anc.le {sp p : Nat} (h : Anc sp p) : sp ≤ p := by
  induction h with
  | refl => exact Nat.le_refl _
  | left _ ih => omega
  | right _ ih => omega

theorem Anc.child {sp p c : Nat} (h : Anc sp p) (hc : c = 2 * p + 1 ∨ c = 2 * p + 2) : Anc sp c := by
  rcases hc with rfl | rfl
  · exact h.left
  · exact h.right

theorem Anc.parent {sp p : Nat} (h : Anc sp p) (hlt : sp < p) : Anc sp ((p - 1) / 2) := by
  cases h with
  | refl => exact absurd hlt (Nat.lt_irrefl _)
  | left h' => rw [parent_of_child (Or.inl rfl)]; exact h'
  | right h' => rw [parent_of_child (Or.inr rfl)]; exact h'

theorem Anc.zero (p : Nat) : Anc 0 p := by
  induction p using Nat.strongRecOn with
  | _ p ih =>
    rcases Nat.eq_zero_or_pos p with rfl | hp
    · exact Anc.refl
    · exact (ih _ (parent_lt hp)).child (child_of_parent hp rfl)

theorem HeapFrom.of_get {lt : α → α → Bool} {k : Nat} {l l' : List α} (h : HeapFrom lt k l)
    (hl : ∀ j x, k ≤ j → l'[j]? = some x → l[j]? = some x) : HeapFrom lt k l' :=
  fun j a b hj hk ha hb => h j a b hj hk (hl _ a hk ha) (hl _ b (Nat.le_trans hk (Nat.le_of_lt (parent_lt hj))) hb)

theorem get_set (l : List α) (i j : Nat) (a : α) (hi : i < l.length) :
    (l.set i a)[j]? = if j = i then some a else l[j]? := by
  rw [List.getElem?_set]
  by_cases h : i = j
  · subst h; simp [hi]
  · have : ¬ j = i := fun h' => h h'.symm
    simp [h, this]

theorem lt_of_get {l : List α} {i : Nat} {a : α} (h : l[i]? = some a) : i < l.length :=
  (List.getElem?_eq_some_iff.mp h).1

theorem set_same {l : List α} {i : Nat} {a : α} (h : l[i]? = some a) : l.set i a = l := by
  obtain ⟨hi, rfl⟩ := List.getElem?_eq_some_iff.mp h
  exact List.set_getElem_self hi

theorem hole_move {l : List α} {i j : Nat} {a : α} (x : α) (hi : i < l.length) (hj : l[j]? = some a) (hij : i ≠ j) :
    (l.set i a).set j x ~ l.set i x := by
  obtain ⟨hj', ha⟩ := List.getElem?_eq_some_iff.1 hj
  have h := List.set_set_perm (as := l.set i x) (i := i) (j := j) (by simpa using hi) (by simpa using hj')
  have e1 : (l.set i x)[j]'(by simpa using hj') = a := by
    rw [List.getElem_set_ne hij]; exact ha
  have e2 : (l.set i x)[i]'(by simpa using hi) = x := by simp
  rw [e1, e2, List.set_set] at h
  exact h

theorem siftdownLoop_perm (lt : α → α → Bool) (sp : Nat) (x : α) (f : Nat) (heap : List α) (pos : Nat)
    (hpos : pos < heap.length) : siftdownLoop lt sp x f heap pos ~ heap.set pos x := by
  fun_induction siftdownLoop lt sp x f heap pos with
  | case3 f heap pos hlt q parent hp hxp ih =>
    exact (ih (by simpa using lt_of_get hp)).trans (hole_move x hpos hp (Nat.ne_of_gt (parent_lt (Nat.zero_lt_of_lt hlt))))
  | _ => exact Perm.refl _

/-- the edge from index `p` to index `c` of `l` is in order -/
def Edge (lt : α → α → Bool) (l : List α) (p c : Nat) : Prop :=
  ∀ a b, l[p]? = some a → l[c]? = some b → Le lt a b

theorem heapFrom_iff {lt : α → α → Bool} {k : Nat} {l : List α} :
    HeapFrom lt k l ↔ ∀ j, 0 < j → k ≤ (j - 1) / 2 → Edge lt l ((j - 1) / 2) j :=
  ⟨fun h j hj hk a b => h j a b hj hk, fun h j a b hj hk => h j hj hk a b⟩

/-- an edge of `l.set i v`, read in `l`: it compares `v` with the other end if it touches `i`, and is the edge
of `l` if not -/
theorem edge_set {lt : α → α → Bool} {l : List α} {i : Nat} (v : α) (hi : i < l.length) {p c : Nat} (hpc : p ≠ c) :
    Edge lt (l.set i v) p c ↔
      if p = i then ∀ b, l[c]? = some b → Le lt v b
      else if c = i then ∀ a, l[p]? = some a → Le lt a v
      else Edge lt l p c := by
  unfold Edge
  rw [get_set l i p v hi, get_set l i c v hi]
  by_cases hp : p = i
  · have hc : ¬ c = i := fun e => hpc (hp.trans e.symm)
    simp only [hp, hc, if_true, if_false]
    exact ⟨fun h b hb => h v b rfl hb, fun h a b ha hb => by cases ha; exact h b hb⟩
  · by_cases hc : c = i
    · simp only [hp, hc, if_true, if_false]
      exact ⟨fun h a ha => h a v ha rfl, fun h a b ha hb => by cases hb; exact h a ha⟩
    · simp only [hp, hc, if_false]

/-- the state of the loops of `_siftdown` and `_siftup`, on the list with its hole at `pos`: every edge that does
not touch the hole is in order, and the parent of the hole is below the children of the hole -/
structure BInv (lt : α → α → Bool) (sp : Nat) (heap : List α) (pos : Nat) : Prop where
  b1 : ∀ j, 0 < j → j ≠ pos → (j - 1) / 2 ≠ pos → sp ≤ (j - 1) / 2 → Edge lt heap ((j - 1) / 2) j
  b2 : sp < pos → ∀ c, (c = 2 * pos + 1 ∨ c = 2 * pos + 2) → Edge lt heap ((pos - 1) / 2) c

/-- an item that is below the children of the hole, and above its parent unless the hole is the root `sp`, fills
the hole -/
theorem BInv.fill {lt : α → α → Bool} {sp : Nat} {heap : List α} {pos : Nat} {x : α} (h : BInv lt sp heap pos)
    (hpos : pos < heap.length) (hx : ∀ c, (c = 2 * pos + 1 ∨ c = 2 * pos + 2) → ∀ b, heap[c]? = some b → Le lt x b)
    (hp : sp < pos → ∀ a, heap[(pos - 1) / 2]? = some a → Le lt a x) : HeapFrom lt sp (heap.set pos x) := by
  rw [heapFrom_iff]
  intro j hj hk
  rw [edge_set x hpos (Nat.ne_of_lt (parent_lt hj))]
  split
  next hq => exact hx j (child_of_parent hj hq)
  next hq =>
    split
    next hjp => subst hjp; exact hp (Nat.lt_of_le_of_lt hk (parent_lt hj))
    next hjp => exact h.b1 j hj hjp hq hk

theorem siftdownLoop_heap {lt : α → α → Bool} (o : Ord lt) (sp : Nat) (x : α) (f : Nat) (heap : List α) (pos : Nat)
    (hf : pos ≤ f) (hpos : pos < heap.length) (hanc : Anc sp pos) (hinv : BInv lt sp heap pos)
    (hx : ∀ c, (c = 2 * pos + 1 ∨ c = 2 * pos + 2) → ∀ b, heap[c]? = some b → Le lt x b) :
    HeapFrom lt sp (siftdownLoop lt sp x f heap pos) := by
  fun_induction siftdownLoop lt sp x f heap pos with
  | case1 heap pos => exact hinv.fill hpos hx (fun h => by omega)
  | case2 f heap pos hlt q hp => exact hinv.fill hpos hx (fun _ a ha => nomatch hp.symm.trans ha)
  | case3 f heap pos hlt q parent hp hxp ih =>
    -- the parent moves down into the hole, the hole moves up
    have hancp := hanc.parent hlt
    have hq : q < pos := parent_lt (Nat.lt_of_le_of_lt (Nat.zero_le _) hlt)
    have hsib : ∀ c, (c = 2 * q + 1 ∨ c = 2 * q + 2) → c ≠ pos →
        ∀ b, heap[c]? = some b → Le lt parent b := by
      intro c hc hcp b hb
      have hcq : (c - 1) / 2 = q := parent_of_child hc
      have := hinv.b1 c (Nat.lt_of_le_of_lt (Nat.zero_le _) (lt_child hc)) hcp (by rw [hcq]; exact Nat.ne_of_lt hq)
        (by rw [hcq]; exact hancp.le)
      rw [hcq] at this
      exact this parent b hp hb
    apply ih (Nat.le_of_lt_succ (Nat.lt_of_lt_of_le hq hf)) (by simpa using lt_of_get hp) hancp
    · constructor
      · intro j hj _ hjq hk
        have hjp : j ≠ pos := fun e => hjq (by rw [e])
        rw [edge_set parent hpos (Nat.ne_of_lt (parent_lt hj))]
        split
        next hjc => exact fun b hb => hinv.b2 hlt j (child_of_parent hj hjc) parent b hp hb
        next hjc => exact hinv.b1 j hj hjp hjc hk
      · intro hsp c hc
        have h0 : 0 < q := Nat.lt_of_le_of_lt (Nat.zero_le _) hsp
        have hgq : (q - 1) / 2 < q := parent_lt h0
        have hgp := hinv.b1 q h0 (Nat.ne_of_lt hq) (Nat.ne_of_lt (Nat.lt_trans hgq hq))
          (hancp.parent hsp).le
        rw [edge_set parent hpos (Nat.ne_of_lt (Nat.lt_trans hgq (lt_child hc))),
          if_neg (Nat.ne_of_lt (Nat.lt_trans hgq hq))]
        split
        next hcp => exact fun a ha => hgp a parent ha hp
        next hcp => exact fun a b ha hb => Le.trans o (hgp a parent ha hp) (hsib c hc hcp b hb)
    · intro c hc b hb
      rw [get_set _ _ _ _ hpos] at hb
      split at hb
      next hcp => cases hb; exact Le.of_lt o hxp
      next hcp => exact Le.trans o (Le.of_lt o hxp) (hsib c hc hcp b hb)
  | case4 f heap pos hlt q parent hp hxp =>
    exact hinv.fill hpos hx (fun _ a ha => Option.some.inj (hp.symm.trans ha) ▸ Bool.eq_false_iff.mpr hxp)
  | case5 f heap pos hlt => exact hinv.fill hpos hx (fun h => absurd h hlt)

theorem smallerChild_spec {lt : α → α → Bool} (o : Ord lt) (heap : List α) (c : Nat) (hc : c < heap.length) :
    (smallerChild lt heap c = c ∨ smallerChild lt heap c = c + 1) ∧ smallerChild lt heap c < heap.length ∧
    ∀ s a b, (s = c ∨ s = c + 1) → heap[smallerChild lt heap c]? = some a → heap[s]? = some b → Le lt a b := by
  fun_cases smallerChild lt heap c with
  | case1 l r h2 h1 hlr =>
    refine ⟨Or.inl rfl, hc, ?_⟩
    rintro s a b (rfl | rfl) ha hb
    · rw [ha] at hb; cases hb; exact Le.refl o _
    · rw [h1] at ha; rw [h2] at hb; cases ha; cases hb; exact Le.of_lt o hlr
  | case2 l r h2 h1 hlr =>
    refine ⟨Or.inr rfl, lt_of_get h2, ?_⟩
    rintro s a b (rfl | rfl) ha hb
    · rw [h2] at ha; rw [h1] at hb; cases ha; cases hb; exact Bool.eq_false_iff.mpr hlr
    · rw [ha] at hb; cases hb; exact Le.refl o _
  | case3 hno =>
    refine ⟨Or.inl rfl, hc, ?_⟩
    rintro s a b (rfl | rfl) ha hb
    · rw [ha] at hb; cases hb; exact Le.refl o _
    · exact (hno a b ha hb).elim

theorem bubble_spec {lt : α → α → Bool} (o : Ord lt) (sp : Nat) (f : Nat) (heap : List α) (pos : Nat)
    (hf : heap.length ≤ f + pos) (hpos : pos < heap.length) (hanc : Anc sp pos) (hinv : BInv lt sp heap pos) :
    (bubble lt f heap pos).2 < (bubble lt f heap pos).1.length ∧
    Anc sp (bubble lt f heap pos).2 ∧
    BInv lt sp (bubble lt f heap pos).1 (bubble lt f heap pos).2 ∧
    (bubble lt f heap pos).1.length ≤ 2 * (bubble lt f heap pos).2 + 1 ∧
    ∀ y, (bubble lt f heap pos).1.set (bubble lt f heap pos).2 y ~ heap.set pos y := by
  fun_induction bubble lt f heap pos with
  | case1 heap pos => omega
  | case2 f heap pos hchild c hn =>
    exact absurd (smallerChild_spec o heap _ hchild).2.1 (Nat.not_lt.2 (List.getElem?_eq_none_iff.1 hn))
  | case3 f heap pos hchild c cv hc ih =>
    -- the smaller child `cv` moves up into the hole, the hole moves down to `c`
    obtain ⟨s1, s2, s3⟩ := smallerChild_spec o heap (2 * pos + 1) hchild
    have hancc : Anc sp c := hanc.child s1
    have hpc : pos < c := lt_child s1
    have hrec := ih (by simp only [List.length_set]; omega) (by simpa using s2) hancc ?_
    · obtain ⟨r1, r3, r4, r5, r6⟩ := hrec
      exact ⟨r1, r3, r4, r5, fun y => (r6 y).trans (hole_move y hpos hc (by omega))⟩
    · constructor
      · intro j hj hjc hqc hk
        rw [edge_set cv hpos (Nat.ne_of_lt (parent_lt hj))]
        split
        next hq => exact fun b hb => s3 j cv b (child_of_parent hj hq) hc hb
        next hq =>
          split
          next hjp =>
            subst hjp
            exact fun a ha => hinv.b2 (Nat.lt_of_le_of_lt hk (parent_lt hj)) c s1 a cv ha hc
          next hjp => exact hinv.b1 j hj hjp hq hk
      · intro hsp cc hcc
        have hccq : (cc - 1) / 2 = c := parent_of_child hcc
        have hcc' : pos < cc := Nat.lt_trans hpc (lt_child hcc)
        have := hinv.b1 cc (Nat.lt_of_le_of_lt (Nat.zero_le _) hcc') (Nat.ne_of_gt hcc')
          (by rw [hccq]; exact Nat.ne_of_gt hpc) (by rw [hccq]; exact hancc.le)
        rw [hccq] at this
        rw [parent_of_child s1, edge_set cv hpos (Nat.ne_of_lt hcc'), if_pos rfl]
        exact fun b hb => this cv b hc hb
  | case4 f heap pos hleaf => exact ⟨hpos, hanc, hinv, Nat.le_of_not_lt hleaf, fun y => Perm.refl _⟩
theorem siftup_spec {lt : α → α → Bool} (o : Ord lt) (heap : List α) (pos : Nat) (hpos : pos < heap.length)
    (hh : HeapFrom lt (pos + 1) heap) : HeapFrom lt pos (siftup lt heap pos) ∧ siftup lt heap pos ~ heap := by
  unfold siftup
  have hx : heap[pos]? = some heap[pos] := List.getElem?_eq_getElem hpos
  rw [hx]
  simp only []
  generalize heap[pos] = x at hx
  have hinv : BInv lt pos heap pos := by
    constructor
    · intro j hj _ hpar hk
      exact heapFrom_iff.1 hh j hj (Nat.lt_of_le_of_ne hk (Ne.symm hpar))
    · intro h; omega
  obtain ⟨r1, r3, r4, r5, r6⟩ := bubble_spec o pos heap.length heap pos (by omega) hpos Anc.refl hinv
  generalize bubble lt heap.length heap pos = r at r1 r3 r4 r5 r6
  obtain ⟨h', leaf⟩ := r
  simp only [] at r1 r3 r4 r5 r6 ⊢
  constructor
  · apply siftdownLoop_heap o pos x leaf h' leaf (Nat.le_refl _) r1 r3 r4
    intro c hc b hb
    have := lt_of_get hb
    omega
  · refine (siftdownLoop_perm lt pos x leaf h' leaf r1).trans ((r6 x).trans ?_)
    rw [set_same hx]

theorem root_min {lt : α → α → Bool} (o : Ord lt) (l : List α) (hh : IsHeap lt l) (m : α) (hm : l[0]? = some m) :
    ∀ (j : Nat) (b : α), l[j]? = some b → Le lt m b := by
  intro j
  induction j using Nat.strongRecOn with
  | _ j ih =>
    intro b hb
    rcases Nat.eq_zero_or_pos j with rfl | h0
    · rw [hm] at hb; cases hb; exact Le.refl o _
    · have hp := List.getElem?_eq_getElem (Nat.lt_trans (parent_lt h0) (lt_of_get hb))
      exact Le.trans o (ih _ (parent_lt h0) _ hp) (hh j _ b h0 (Nat.zero_le _) hp hb)

theorem root_min_mem {lt : α → α → Bool} (o : Ord lt) (l : List α) (hh : IsHeap lt l) (m : α) (hm : l[0]? = some m) :
    ∀ x ∈ l, Le lt m x := by
  intro x hx
  obtain ⟨j, hj, rfl⟩ := List.getElem_of_mem hx
  exact root_min o l hh m hm j _ (List.getElem?_eq_getElem hj)

theorem isHeap_nil (lt : α → α → Bool) : IsHeap lt ([] : List α) := by
  intro j a b _ _ _ hb; simp at hb

theorem heappush_spec {lt : α → α → Bool} (o : Ord lt) (heap : List α) (item : α) (hh : IsHeap lt heap) :
    IsHeap lt (heappush lt heap item) ∧ heappush lt heap item ~ item :: heap := by
  unfold heappush siftdown
  have hx : (heap ++ [item])[heap.length]? = some item := by simp
  rw [hx]
  simp only []
  have hlen : heap.length < (heap ++ [item]).length := by simp
  -- the hole is the last index: it has no children
  have hleaf : ∀ {c : Nat} {b : α}, (heap ++ [item])[c]? = some b → c ≤ heap.length := by
    intro c b hb
    have := lt_of_get hb
    simp at this
    omega
  constructor
  · apply siftdownLoop_heap o 0 item heap.length (heap ++ [item]) heap.length (Nat.le_refl _) hlen (Anc.zero _)
    · constructor
      · intro j hj hjn _ hk a b ha hb
        have hjlt : j < heap.length := by have := hleaf hb; omega
        rw [List.getElem?_append_left (Nat.lt_trans (parent_lt hj) hjlt)] at ha
        rw [List.getElem?_append_left hjlt] at hb
        exact hh j a b hj hk ha hb
      · intro _ c hc a b _ hb
        have := hleaf hb
        omega
    · intro c hc b hb
      have := hleaf hb
      omega
  · refine (siftdownLoop_perm lt 0 item heap.length (heap ++ [item]) heap.length hlen).trans ?_
    rw [set_same hx]
    exact List.perm_append_singleton item heap

theorem heappop_none (lt : α → α → Bool) (heap : List α) : heappop lt heap = none ↔ heap = [] := by
  unfold heappop
  cases h : heap.getLast? with
  | none => simp [List.getLast?_eq_none_iff.1 h]
  | some last =>
    have hne : heap ≠ [] := by intro h'; rw [h'] at h; simp at h
    simp only [hne, iff_false]
    cases heap.dropLast <;> simp

theorem heappop_spec {lt : α → α → Bool} (o : Ord lt) (heap : List α) (hh : IsHeap lt heap) (m : α) (rest : List α)
    (h : heappop lt heap = some (m, rest)) :
    heap ~ m :: rest ∧ IsHeap lt rest ∧ (∀ x ∈ heap, Le lt m x) ∧ heap[0]? = some m := by
  unfold heappop at h
  cases hl : heap.getLast? with
  | none => rw [hl] at h; cases h
  | some last =>
    rw [hl] at h
    simp only [] at h
    have hsplit : heap = heap.dropLast ++ [last] := by
      have hne : heap ≠ [] := by intro h'; rw [h'] at hl; simp at hl
      have := List.dropLast_concat_getLast hne
      rw [List.getLast?_eq_some_getLast hne] at hl
      cases hl
      exact this.symm
    cases hd : heap.dropLast with
    | nil =>
      rw [hd] at h hsplit
      simp only [Option.some.injEq, Prod.mk.injEq] at h
      obtain ⟨rfl, rfl⟩ := h
      rw [hsplit]
      refine ⟨Perm.refl _, isHeap_nil lt, ?_, by simp⟩
      intro x hx
      simp at hx
      rw [hx]; exact Le.refl o _
    | cons r0 tl =>
      rw [hd] at h hsplit
      simp only [Option.some.injEq, Prod.mk.injEq] at h
      obtain ⟨rfl, rfl⟩ := h
      have hroot : heap[0]? = some r0 := by rw [hsplit]; simp
      have hfrom : HeapFrom lt 1 (last :: tl) := by
        refine HeapFrom.of_get (fun j a b hj _ => hh j a b hj (Nat.zero_le _)) fun j x hj hx => ?_
        obtain ⟨j, rfl⟩ := Nat.exists_eq_add_one_of_ne_zero (Nat.ne_of_gt hj)
        rw [hsplit]
        simp only [List.cons_append, List.getElem?_cons_succ] at hx ⊢
        rw [List.getElem?_append_left (lt_of_get hx)]
        exact hx
      obtain ⟨s1, s2⟩ := siftup_spec o (last :: tl) 0 (by simp) hfrom
      refine ⟨?_, s1, root_min_mem o heap hh r0 hroot, hroot⟩
      have : heap ~ r0 :: (last :: tl) := by
        rw [hsplit]
        simp only [List.cons_append]
        exact Perm.cons _ (List.perm_append_singleton last tl)
      exact this.trans (Perm.cons _ s2.symm)

theorem heapifyLoop_spec {lt : α → α → Bool} (o : Ord lt) (i : Nat) (x : List α) (hi : i ≤ x.length / 2)
    (hh : HeapFrom lt i x) : IsHeap lt (heapifyLoop lt i x) ∧ heapifyLoop lt i x ~ x := by
  induction i generalizing x with
  | zero => exact ⟨hh, Perm.refl _⟩
  | succ i ih =>
    unfold heapifyLoop
    obtain ⟨s1, s2⟩ := siftup_spec o x i (by omega) hh
    obtain ⟨a, b⟩ := ih (siftup lt x i) (by rw [s2.length_eq]; omega) s1
    exact ⟨a, b.trans s2⟩

theorem heapify_spec {lt : α → α → Bool} (o : Ord lt) (x : List α) : IsHeap lt (heapify lt x) ∧ heapify lt x ~ x := by
  unfold heapify
  apply heapifyLoop_spec o _ x (Nat.le_refl _)
  intro j a b hj hk _ hb
  have := lt_of_get hb
  omega
end TV.Heapq
