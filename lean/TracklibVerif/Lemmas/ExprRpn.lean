import TracklibVerif.Lemmas.Rpn
import TracklibVerif.Lemmas.Expr
import TracklibVerif.Lemmas.RpnChars
/-! Bridge between the parser's token-level trees (`TV.Rpn.E`, atoms are `String`s) and the evaluator's
expression trees (`TV.Expr.Ex`, names are character lists). -/
namespace TV.Expr
open TV.Rpn

/-- an expression tree as the parser sees it after the rewriting: a call is `f @ ( e )` -/
def toE : Ex → E
  | .num s => .atom (String.ofList s)
  | .var s => .atom (String.ofList s)
  | .bin o l r => .bin o (toE l) (toE r)
  | .call f e => .bin '@' (.atom (String.ofList f)) (.par (toE e))

theorem post_toE (e : Ex) : (Rpn.post (toE e)).map String.toList = Expr.post e := by
  induction e with
  | num s => simp [toE, Rpn.post, Expr.post]
  | var s => simp [toE, Rpn.post, Expr.post]
  | bin o l r ihl ihr => simp [toE, Rpn.post, Expr.post, ihl, ihr]
  | call f e ih => simp [toE, Rpn.post, Expr.post, ih]

theorem pyLvl_binOps {o : Char} (ho : binOps.contains o = true) : pyLvl o < 9 := by
  simp only [binOps, List.contains_cons, List.contains_nil, Bool.or_false, Bool.or_eq_true, beq_iff_eq] at ho
  rcases ho with h | h | h | h | h | h | h <;> (subst h; decide)

theorem wf_toE (e : Ex) (h : WFx e) : Rpn.WF pyLvl 9 (toE e) := by
  induction e with
  | num s => trivial
  | var s => trivial
  | bin o l r ihl ihr => exact ⟨pyLvl_binOps h.1, ihl h.2.1, ihr h.2.2⟩
  | call f e ih => exact ⟨by decide, trivial, ih h.2.2⟩

def stmt (lhs : Str) (e : Ex) : E := .bin '=' (.atom (String.ofList lhs)) (toE e)

theorem post_stmt (lhs : Str) (e : Ex) : (Rpn.post (stmt lhs e)).map String.toList = lhs :: (Expr.post e ++ [['=']]) := by
  simp [stmt, Rpn.post, post_toE]

theorem wf_stmt (lhs : Str) (e : Ex) (h : WFx e) : Rpn.WF pyLvl 9 (stmt lhs e) := ⟨by decide, trivial, wf_toE e h⟩


/-- names, numbers and function names of the tree are non-empty and free of parentheses, operator
    characters and white space -/
def PlainNames : Ex → Prop
  | .num s => AtomOK (String.ofList s)
  | .var s => AtomOK (String.ofList s)
  | .bin _ l r => PlainNames l ∧ PlainNames r
  | .call f e => AtomOK (String.ofList f) ∧ PlainNames e

theorem atomsOK_toE (e : Ex) (h : PlainNames e) : AtomsOK (toE e) := by
  induction e with
  | num s => exact h
  | var s => exact h
  | bin o l r ihl ihr => exact ⟨ihl h.1, ihr h.2⟩
  | call f e ih => exact ⟨h.1, ih h.2⟩

theorem atomOK_output : AtomOK (String.ofList outputName) := by
  refine ⟨by simp [outputName], ?_⟩
  intro c hc
  simp only [String.toList_ofList, outputName, List.mem_cons, List.mem_nil_iff, or_false] at hc
  rcases hc with h | h | h | h | h | h | h <;> (subst h; decide)

/-- the string of the statement `lhs=e`, as it reaches `makeRPN` -/
def stmtString (lhs : Str) (e : Ex) : Str := flat (shw pyLvl 9 (stmt lhs e))

theorem makeRPN_stmtString (lhs : Str) (e : Ex) (hw : WFx e) (hp : PlainNames e) (hl : AtomOK (String.ofList lhs)) :
    makeRPN (stmtString lhs e) = .ok (lhs :: (Expr.post e ++ [['=']])) := by
  rw [stmtString, makeRPN_flat_shw _ (wf_stmt lhs e hw) ⟨hl, atomsOK_toE e hp⟩, post_stmt]

end TV.Expr
