import TracklibVerif.Lemmas.ViterbiTable
import Mathlib.Analysis.SpecialFunctions.Log.Basic
/-! Likelihood form of the Viterbi cost (C09-T4), over the reals: with the tables `HMM.estimate` builds from
likelihoods, `cost = -log (joint likelihood)`, so a minimal cost is a maximal joint likelihood. -/
namespace TV.Viterbi

/-- the cost tables of `HMM.estimate` for user functions `P`, `Q` read from `p`, `q`: entries are
`costOf log eps isLog v`, i.e. `-(log (v + eps))` (`eps` = the `1e-300` guard), or `-v` when `log=True` -/
noncomputable def likTables (n : Nat → Nat) (p : Nat → Nat → ℝ) (q : Nat → Nat → Nat → ℝ)
    (eps big : ℝ) (isLog : Bool) : Tables ℝ :=
  { n := n
    obs := fun k l => costOf Real.log eps isLog (p k l)
    trans := fun k m l => costOf Real.log eps isLog (q k m l)
    add := (· + ·)
    big := big }

/-- joint likelihood of the sequence `σ` up to epoch `k` (each factor with the guard `eps` added, as the
code does; `eps = 0` gives the plain product `P₀ · Π Q_k · P_{k+1}`) -/
noncomputable def lik (p : Nat → Nat → ℝ) (q : Nat → Nat → Nat → ℝ) (eps : ℝ) (σ : Nat → Nat) : Nat → ℝ
  | 0 => p 0 (σ 0) + eps
  | k+1 => (q k (σ k) (σ (k+1)) + eps) * lik p q eps σ k * (p (k+1) (σ (k+1)) + eps)

variable (n : Nat → Nat) (p : Nat → Nat → ℝ) (q : Nat → Nat → Nat → ℝ) (eps big : ℝ) (N : Nat)

theorem lik_pos (hp : ∀ k l, k ≤ N → l < n k → 0 < p k l + eps)
    (hq : ∀ k m l, k < N → m < n k → l < n (k+1) → 0 < q k m l + eps)
    (σ : Nat → Nat) (hσ : ∀ k, k ≤ N → σ k < n k) : ∀ k, k ≤ N → 0 < lik p q eps σ k := by
  intro k
  induction k with
  | zero => intro hk; exact hp 0 (σ 0) hk (hσ 0 hk)
  | succ k ih =>
    intro hk
    simp only [lik]
    exact mul_pos (mul_pos (hq k (σ k) (σ (k+1)) (by omega) (hσ k (by omega)) (hσ (k+1) hk)) (ih (by omega)))
      (hp (k+1) (σ (k+1)) hk (hσ (k+1) hk))

theorem cost_eq_neg_log (hp : ∀ k l, k ≤ N → l < n k → 0 < p k l + eps)
    (hq : ∀ k m l, k < N → m < n k → l < n (k+1) → 0 < q k m l + eps)
    (σ : Nat → Nat) (hσ : ∀ k, k ≤ N → σ k < n k) :
    ∀ k, k ≤ N → cost (likTables n p q eps big false) σ k = - Real.log (lik p q eps σ k) := by
  intro k
  induction k with
  | zero => intro _; simp [cost, likTables, costOf, lik]
  | succ k ih =>
    intro hk
    have h1 := hq k (σ k) (σ (k+1)) (by omega) (hσ k (by omega)) (hσ (k+1) hk)
    have h2 := lik_pos n p q eps N hp hq σ hσ k (by omega)
    have h3 := hp (k+1) (σ (k+1)) hk (hσ (k+1) hk)
    simp only [cost, lik]
    rw [ih (by omega), Real.log_mul (ne_of_gt (mul_pos h1 h2)) (ne_of_gt h3),
      Real.log_mul (ne_of_gt h1) (ne_of_gt h2)]
    simp only [likTables, costOf]
    simp
    ring

theorem cost_le_iff_lik_ge (hp : ∀ k l, k ≤ N → l < n k → 0 < p k l + eps)
    (hq : ∀ k m l, k < N → m < n k → l < n (k+1) → 0 < q k m l + eps)
    (σ τ : Nat → Nat) (hσ : ∀ k, k ≤ N → σ k < n k) (hτ : ∀ k, k ≤ N → τ k < n k) :
    cost (likTables n p q eps big false) σ N ≤ cost (likTables n p q eps big false) τ N
      ↔ lik p q eps τ N ≤ lik p q eps σ N := by
  rw [cost_eq_neg_log n p q eps big N hp hq σ hσ N (Nat.le_refl _),
    cost_eq_neg_log n p q eps big N hp hq τ hτ N (Nat.le_refl _), neg_le_neg_iff]
  exact Real.log_le_log_iff (lik_pos n p q eps N hp hq τ hτ N (Nat.le_refl _))
    (lik_pos n p q eps N hp hq σ hσ N (Nat.le_refl _))

/-- a user who passes `log (v + eps)` and declares `log=True` gives `estimate` exactly the same cost tables -/
theorem likTables_log (eps' : ℝ) :
    likTables n (fun k l => Real.log (p k l + eps)) (fun k m l => Real.log (q k m l + eps)) eps' big true
      = likTables n p q eps big false := by
  simp [likTables, costOf]
end TV.Viterbi
