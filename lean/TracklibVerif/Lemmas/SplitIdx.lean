import TracklibVerif.Lemmas.SplitLimit
import TracklibVerif.Lemmas.Common.MapM
/-! `Track.extract` and `split(track, <index list>)` for ANY integers (Python list indexing: negative, reversed, out of
range); the pieces (`idxPieces`) of an in-range list of naturals. -/
namespace TV.Split
variable {β : Type}

theorem pyIndex_isSome (l : List β) (k : Int) :
    (pyIndex l k).isSome = true ↔ -(l.length : Int) ≤ k ∧ k < (l.length : Int) := by
  unfold pyIndex
  split
  · simp only [isSome_getElem?]; omega
  · split
    · simp only [isSome_getElem?]; omega
    · simp only [Option.isSome_none, Bool.false_eq_true, false_iff]; omega

theorem pyIndex_eq (l : List β) (k : Int) (h : -(l.length : Int) ≤ k ∧ k < (l.length : Int)) :
    pyIndex l k = l[(if 0 ≤ k then k else (l.length : Int) + k).toNat]? := by
  unfold pyIndex
  split
  · rfl
  · rw [if_pos (by omega)]

theorem mem_pyRange (a b k : Int) : k ∈ pyRange a b ↔ a ≤ k ∧ k < b := by
  simp only [pyRange, List.mem_map, List.mem_range]
  constructor
  · rintro ⟨i, hi, rfl⟩; omega
  · rintro ⟨h1, h2⟩; exact ⟨(k - a).toNat, by omega, by omega⟩

theorem extract_isSome (l : List β) (a b : Int) :
    (extract l a b).isSome = true ↔ ∀ k, a ≤ k → k ≤ b → -(l.length : Int) ≤ k ∧ k < (l.length : Int) := by
  unfold extract
  simp only [Common.mapM_isSome_iff, mem_pyRange, pyIndex_isSome, Int.lt_add_one_iff, and_imp]

/-- the consecutive pairs `(source[i], source[i+1])` -/
def pairs : List Int → List (Int × Int)
  | a :: b :: rest => (a, b) :: pairs (b :: rest)
  | _ => []

theorem splitIdx_eq (short : List β → Bool) (l : List β) : ∀ src : List Int,
    splitIdx short l src = ((pairs src).mapM (fun ab => extract l ab.1 ab.2)).map (List.filter (fun p => !short p))
  | [] | [_] => rfl
  | a :: b :: rest => by
    rw [splitIdx, splitIdx_eq short l (b :: rest), pairs, List.mapM_cons]
    cases extract l a b with
    | none => rfl
    | some p =>
      cases (pairs (b :: rest)).mapM (fun ab => extract l ab.1 ab.2) with
      | none => rfl
      | some ps => cases hs : short p <;> simp [hs]

/-- the pieces `split(track, [i0, i1, …])` is meant to return: observations `i_k .. i_{k+1}`, both ends included -/
def idxPieces (l : List β) : List Nat → List (List β)
  | a :: b :: rest => ((l.drop a).take (b + 1 - a)) :: idxPieces l (b :: rest)
  | _ => []

theorem idxPieces_length (l : List β) : ∀ src : List Nat, (idxPieces l src).length = src.length - 1
  | [] | [_] => rfl
  | _ :: b :: rest => by rw [idxPieces, List.length_cons, idxPieces_length l (b :: rest)]; rfl

theorem mapM_extract_natCast (l : List β) : ∀ src : List Nat, (∀ a ∈ src, a < l.length) →
    (pairs (src.map fun (k : Nat) => (k : Int))).mapM (fun ab => extract l ab.1 ab.2) = some (idxPieces l src)
  | [], _ | [_], _ => rfl
  | a :: b :: rest, hb => by
    have hal := hb a List.mem_cons_self
    have hbl : b < l.length := hb b (List.mem_cons_of_mem _ List.mem_cons_self)
    rw [List.map_cons, List.map_cons, pairs, List.mapM_cons, extract_range l a b (Nat.le_of_lt hal) hbl, ← List.map_cons,
      mapM_extract_natCast l (b :: rest) fun x hx => hb x (List.mem_cons_of_mem _ hx)]
    rfl
end TV.Split
