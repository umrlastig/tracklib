import TracklibVerif.Lemmas.TextIOFile
import TracklibVerif.Lemmas.TextIOSci
/-! `read_all`: the feature columns written by `writeToFile` are read back by the second pass of `__readFromCsv`
(core only). -/
namespace TV.TextIO
open TV.ObsTime

theorem getLast?_flatten_nl (ls : List Str) (hne : ls ≠ []) :
    ((ls.map (· ++ ['\n'])).flatten).getLast? = some '\n' := by
  obtain ⟨init, last, rfl⟩ : ∃ init last, ls = init ++ [last] := ⟨_, _, (List.dropLast_concat_getLast hne).symm⟩
  simp [← List.append_assoc]

theorem linePairs_flatten (ls : List Str) (h : ∀ l ∈ ls, '\n' ∉ l) :
    linePairs (ls.map (· ++ ['\n'])).flatten = ls.map (fun l => (l, l ++ ['\n'])) := by
  unfold linePairs rawLines
  rw [fileLines_flatten ls h]
  cases ls with
  | nil => rfl
  | cons a r =>
    rw [getLast?_flatten_nl _ (by simp)]
    simp only [↓reduceIte]
    exact List.map_prod_left_eq_zip.symm

def linePair (l : Str) : Str × Str := (l, l ++ ['\n'])

theorem hdrLoopNames_eq (sep cmt : Char) (hr : Nat) (ls : List (Str × Str)) (nm : Option (List Str)) (h : hr ≤ ls.length) :
    hdrLoopNames sep cmt hr ls nm = .ok (ls.drop hr,
      if hr = 0 then nm else ls[hr - 1]?.map (fun l => splitOnChar sep (if l.2.head? = some cmt then l.2.drop 1 else l.2))) := by
  induction hr generalizing ls nm with
  | zero => rfl
  | succ k ih =>
    cases ls with
    | nil => simp at h
    | cons a r =>
      rw [hdrLoopNames, ih r _ (by simpa using h)]
      cases k <;> simp

theorem dataLoopNames_comment (sep : Char) (l : Str × Str) (cs : Str) (h : strip l.1 = '#' :: cs)
    (ls : List (Str × Str)) (nm : Option (List Str)) (nf : Option Nat) :
    dataLoopNames sep '#' (l :: ls) nm nf = dataLoopNames sep '#' ls (some (splitOnChar sep cs)) nf := by
  simp [dataLoopNames, h]

theorem dataLoopNames_comments (sep : Char) (cm ls : List (Str × Str)) (h : ∀ l ∈ cm, ∃ cs, strip l.1 = '#' :: cs)
    (nm : Option (List Str)) (nf : Option Nat) :
    ∃ nm', dataLoopNames sep '#' (cm ++ ls) nm nf = dataLoopNames sep '#' ls nm' nf := by
  induction cm generalizing nm with
  | nil => exact ⟨nm, rfl⟩
  | cons a r ih =>
    obtain ⟨cs, hcs⟩ := h a (by simp)
    obtain ⟨nm', h'⟩ := ih (fun l hl => h l (by simp [hl])) (some (splitOnChar sep cs))
    exact ⟨nm', by rw [List.cons_append, dataLoopNames_comment sep a cs hcs, h']⟩

/-- there is at least the E and the N column -/
theorem append_ne_nil (f : CsvFmt) {cn names : List Str} (hcn : cn.length = nSpecial f) : cn ++ names ≠ [] := by
  intro e
  have : (cn ++ names).length = 0 := by rw [e]; rfl
  rw [List.length_append, hcn] at this
  unfold nSpecial at this
  omega

theorem colNames_ok (f : CsvFmt) (hv : ValidIds f) (hsep : f.sep ∉ colChars) (srid : Str) :
    ∀ s ∈ colNames f srid, FieldOK f.sep s := fun s hs =>
  have h := colNames_words f hv srid s hs
  fieldOK_intro _ s h.1 (fun c hc => colChars_props c (h.2 c hc)) (fun hm => hsep (h.2 _ hm))

def createStep (f : CsvFmt) (names : List Str) (dico : List Str) (i : Nat) : Except String (List Str) :=
  if (special f).contains (Int.ofNat i) then pure dico else do
    let name ← nth names i
    if reserved.contains name then throw "AnalyticalFeatureError"
    else pure (if dico.contains name then dico else dico ++ [name])

theorem createAFs_def (f : CsvFmt) (names : List Str) (nf : Nat) :
    createAFs f names nf = (List.range nf).foldlM (createStep f names) [] := rfl

theorem foldlM_range_states {α : Type} (g : α → Nat → Except String α) (s : Nat → α) (n : Nat)
    (h : ∀ i, i < n → g (s i) i = .ok (s (i + 1))) : (List.range n).foldlM g (s 0) = .ok (s n) := by
  induction n with
  | zero => rfl
  | succ n ih =>
    rw [List.range_succ, List.foldlM_append, ih (fun i hi => h i (Nat.lt_succ_of_lt hi))]
    simp [bind, Except.bind, pure, Except.pure, h n (Nat.lt_succ_self n)]

theorem foldlM_range_offset {α : Type} (g : α → Nat → Except String α) (k n : Nat) (s : Nat → α)
    (hskip : ∀ i, i < k → g (s 0) i = .ok (s 0)) (h : ∀ j, j < n → g (s j) (k + j) = .ok (s (j + 1))) :
    (List.range (k + n)).foldlM g (s 0) = .ok (s n) := by
  have := foldlM_range_states g (fun i => s (i - k)) (k + n) (fun i hi => by
    by_cases hlt : i < k
    · simp only [Nat.sub_eq_zero_of_le (Nat.le_of_lt hlt), Nat.sub_eq_zero_of_le hlt]
      exact hskip i hlt
    · obtain ⟨j, rfl⟩ := Nat.exists_eq_add_of_le (Nat.le_of_not_lt hlt)
      have e : k + j + 1 - k = j + 1 := by omega
      simp only [Nat.add_sub_cancel_left, e]
      exact h j (by omega))
  simpa using this

theorem not_mem_take_of_nodup (l : List Str) (hnd : l.Nodup) (j : Nat) (hj : j < l.length) : l[j] ∉ l.take j := by
  intro hm
  obtain ⟨i, hi, he⟩ := List.getElem_of_mem hm
  rw [List.length_take] at hi
  rw [List.getElem_take] at he
  have hp := List.pairwise_iff_getElem.1 hnd i j (by omega) hj (by omega)
  exact hp he

theorem createAFs_eq (f : CsvFmt) (hv : ValidIds f) (cn names : List Str) (hcn : cn.length = nSpecial f)
    (hres : ∀ n ∈ names, n ∉ reserved) (hnd : names.Nodup) :
    createAFs f (cn ++ names) (nSpecial f + names.length) = .ok names := by
  rw [createAFs_def]
  have := foldlM_range_offset (createStep f (cn ++ names)) (nSpecial f) names.length (fun j => names.take j)
    (fun i hi => by simp only [createStep, special_contains f hv i, hi, decide_true, ↓reduceIte, pure, Except.pure]) ?_
  · simpa using this
  intro j hjl
  have h2 : nth (cn ++ names) (nSpecial f + j) = .ok names[j] := hcn ▸ nth_append_right cn names hjl
  have h3 : reserved.contains names[j] = false := by simpa using hres names[j] (List.getElem_mem hjl)
  have h4 : (names.take j).contains names[j] = false := by simpa using not_mem_take_of_nodup names hnd j hjl
  simp only [createStep, special_contains f hv, Nat.not_lt.2 (Nat.le_add_right _ _), decide_false, h2, h3, h4, Bool.false_eq_true,
    ↓reduceIte, bind, Except.bind, pure, Except.pure]
  rw [List.take_add_one]
  simp [hjl]

def rowStep (f : CsvFmt) (names dico fields : List Str) (k : Nat) (fs : List (List AFRead)) (i : Nat) :
    Except String (List (List AFRead)) :=
  if (special f).contains (Int.ofNat i) then pure fs else do
    let fld ← nth fields i
    let name ← nth names i
    let v ← afValue name (strip fld)
    match dico.idxOf? name with
    | none => throw "AnalyticalFeatureError"
    | some j => do
      let ft ← nth fs k
      pure (fs.set k (ft.set j v))

theorem afRowSet_def (f : CsvFmt) (names dico fields : List Str) (k : Nat) (fs : List (List AFRead)) :
    afRowSet f names dico fields k fs = (List.range fields.length).foldlM (rowStep f names dico fields k) fs := rfl

theorem idxOf_nodup (l : List Str) (hnd : l.Nodup) (j : Nat) (hj : j < l.length) : l.idxOf? l[j] = some j := by
  rw [List.idxOf?_eq_some_iff]
  refine ⟨hj, rfl, ?_⟩
  intro i hi he
  exact List.pairwise_iff_getElem.1 hnd i j (by omega) hj hi he

theorem take_drop_set {α : Type} (a b : List α) (j : Nat) (ha : j < a.length) (hb : j < b.length) :
    (a.take j ++ b.drop j).set j a[j] = a.take (j + 1) ++ b.drop (j + 1) := by
  rw [List.set_append_right _ _ (by simp; omega), List.drop_eq_getElem_cons hb, List.take_succ_eq_append_getElem ha,
    List.length_take, Nat.min_eq_left (Nat.le_of_lt ha), Nat.sub_self, List.set_cons_zero, List.append_assoc]
  rfl

/-- `fields` are the fields of a line as met (with blanks around them when the line is read raw); after round `nSpecial + j` of
the inner loop of the second pass the first `j` values of observation `k` are in place -/
theorem afRowSet_eq (f : CsvFmt) (hv : ValidIds f) (cn names fields cf texts : List Str) (vals : List AFRead)
    (hfields : fields.map strip = cf ++ texts)
    (hcn : cn.length = nSpecial f) (hcf : cf.length = nSpecial f) (hnd : names.Nodup)
    (ht : texts.length = names.length) (hvl : vals.length = names.length)
    (hval : ∀ j (h1 : j < names.length) (h2 : j < texts.length) (h3 : j < vals.length), afValue names[j] texts[j] = .ok vals[j])
    (k : Nat) (fs : List (List AFRead)) (hk : k < fs.length) (hft : fs[k].length = names.length) :
    afRowSet f (cn ++ names) names fields k fs = .ok (fs.set k vals) := by
  have hlen : fields.length = nSpecial f + names.length := by
    have := congrArg List.length hfields
    simpa [hcf, ht] using this
  rw [afRowSet_def, hlen]
  have := foldlM_range_offset (rowStep f (cn ++ names) names fields k) (nSpecial f) names.length
    (fun j => fs.set k (vals.take j ++ fs[k].drop j))
    (fun i hi => by simp only [rowStep, special_contains f hv i, hi, decide_true, ↓reduceIte, pure, Except.pure]) ?_
  · simpa [List.take_of_length_le (Nat.le_of_eq hvl), List.drop_eq_nil_of_le (Nat.le_of_eq hft)] using this
  intro j hjl
  have hi : nSpecial f + j < fields.length := hlen ▸ Nat.add_lt_add_left hjl _
  have h2 : nth fields (nSpecial f + j) = .ok fields[nSpecial f + j] := nth_eq hi
  have hs : strip fields[nSpecial f + j] = texts[j]'(ht ▸ hjl) := by
    have : (fields.map strip)[nSpecial f + j]'(by simpa using hi) = (cf ++ texts)[nSpecial f + j]'(by simp [hcf, ht, hjl]) := by
      simp only [hfields]
    rw [List.getElem_map, List.getElem_append_right (hcf ▸ Nat.le_add_right _ _)] at this
    simpa [hcf] using this
  have h3 : nth (cn ++ names) (nSpecial f + j) = .ok names[j] := hcn ▸ nth_append_right cn names hjl
  have h6 : nth (fs.set k (vals.take j ++ fs[k].drop j)) k = .ok (vals.take j ++ fs[k].drop j) := by
    rw [nth_eq (by simpa using hk), List.getElem_set_self]
  simp only [rowStep, special_contains f hv, Nat.not_lt.2 (Nat.le_add_right _ _), decide_false, Bool.false_eq_true, ↓reduceIte, h2, hs, h3,
    hval j hjl (ht ▸ hjl) (hvl ▸ hjl), idxOf_nodup names hnd j hjl, h6, bind, Except.bind, pure, Except.pure]
  rw [List.set_set, take_drop_set vals fs[k] j (hvl ▸ hjl) (hft ▸ hjl)]

theorem afLoop_comment (f : CsvFmt) (names dico : List Str) (first : Bool) (cs : Str) (ls : List (Str × Str))
    (k : Nat) (fs : List (List AFRead)) :
    afLoop f '#' names dico first (linePair ('#' :: cs) :: ls) k fs = afLoop f '#' names dico false ls k fs := by
  cases first <;> simp [afLoop, linePair, strip_hash]

theorem afLoop_comments (f : CsvFmt) (names dico : List Str) (first : Bool) (cm : List Str) (hcm : ∀ l ∈ cm, ∃ cs, l = '#' :: cs)
    (ls : List (Str × Str)) (k : Nat) (fs : List (List AFRead)) :
    afLoop f '#' names dico first (cm.map linePair ++ ls) k fs = afLoop f '#' names dico (first && cm.isEmpty) ls k fs := by
  induction cm generalizing first with
  | nil => simp
  | cons a r ih =>
    obtain ⟨cs, rfl⟩ := hcm a (by simp)
    rw [List.map_cons, List.cons_append, afLoop_comment, ih _ (fun l hl => hcm l (by simp [hl]))]
    simp

/-- what a feature name must satisfy: a good field of the names line, and not one of the names the track refuses -/
def NameOK (sep : Char) (n : Str) : Prop := FieldOK sep n ∧ n ∉ reserved

/-- the value `read_all` stores for the feature value `v` written in the column named `name`: the text itself when the
name ends in `&`, else `float()` of the text, else the text without double quotes -/
def expAF (name : Str) (v : AFVal) : AFRead :=
  if name.getLast? = some '&' then .str (afText v)
  else match floatLit? (afText v) with
    | some x => x
    | none => .str ((afText v).filter (· ≠ '"'))

theorem afValue_expAF (name : Str) (hne : name ≠ []) (v : AFVal) : afValue name (afText v) = .ok (expAF name v) := by
  unfold afValue expAF
  cases h : name.getLast? with
  | none => exact absurd (List.getLast?_eq_none_iff.1 h) hne
  | some c =>
    by_cases hc : c = '&'
    · subst hc; simp [pure, Except.pure]
    · have : ¬ (some c = some '&') := by simpa using hc
      simp only [hc, this, ↓reduceIte]
      cases floatLit? (afText v) <;> rfl

/-! ### the header count that takes the names line

`h = 3`: the names line is consumed by the header loop *with its newline* (`line[1:].split(sep)` on the raw line; the names are
stripped afterwards), no comment line is left for the data loop, and the second pass meets a data line as its raw first line. -/

theorem strip_snoc_nl (s : Str) (hne : s ≠ []) (h1 : ∀ c, s.head? = some c → isWs c = false)
    (h2 : ∀ c, s.getLast? = some c → isWs c = false) : strip (s ++ ['\n']) = s := by
  rw [strip, lstrip_of_head (fun c hc => h1 c (by cases s <;> simp_all)), rstrip_append_ws _ _ (by decide), rstrip_of_last h2]

theorem splitOnChar_joinChar_snoc (c x : Char) (hx : c ≠ x) (vs : List Str) (last : Str)
    (h : ∀ v ∈ vs, c ∉ v) (hl : c ∉ last) :
    splitOnChar c (joinChar c (vs ++ [last]) ++ [x]) = vs ++ [last ++ [x]] := by
  rw [joinChar_concat_append, splitOnChar_joinChar _ _ (by simp)]
  intro v hv
  rcases List.mem_append.1 hv with hv | hv
  · exact h v hv
  · rw [List.mem_singleton.1 hv]; simp [hl, hx]

theorem fields_seen (sep : Char) (hnl : sep ≠ '\n') (fs : List Str) (hne : fs ≠ []) (h : ∀ s ∈ fs, FieldOK sep s) (line : Str)
    (hline : line = joinChar sep fs ∨ line = joinChar sep fs ++ ['\n']) :
    line ≠ [] ∧ strip line = joinChar sep fs ∧ ((splitOnChar sep line).filter (fun s => !s.isEmpty)).map strip = fs := by
  have hid : ∀ vs : List Str, (∀ s ∈ vs, FieldOK sep s) → vs.map strip = vs := fun vs hvs =>
    (List.map_congr_left (fun s hs => (strip_of_fieldOK _ s (hvs s hs) : strip s = id s))).trans (List.map_id vs)
  rcases hline with rfl | rfl
  · obtain ⟨hfl, hst, _, ⟨c, cs, hc, _⟩, _⟩ := fields_of_join sep hnl fs hne h
    exact ⟨by simp [hc], hst, by rw [hfl, hid fs h]⟩
  · obtain ⟨vs, last, rfl⟩ : ∃ vs last, fs = vs ++ [last] :=
      ⟨fs.dropLast, fs.getLast hne, (List.dropLast_concat_getLast hne).symm⟩
    have hlast := h last (by simp)
    have hinit : ∀ s ∈ vs, FieldOK sep s := fun s hs => h s (by simp [hs])
    obtain ⟨h1, h2, h3⟩ := joinChar_ends sep _ hne (fun s hs => (h s hs).1)
    refine ⟨by simp, strip_snoc_nl _ h1 (fun c hc => (h2 c hc).1) h3, ?_⟩
    rw [splitOnChar_joinChar_snoc sep '\n' hnl _ _ (fun v hv => (hinit v hv).2.1) hlast.2.1,
      filter_nonempty _ (by
        intro s hs
        rcases List.mem_append.1 hs with hs | hs
        · exact (hinit s hs).1.1
        · rw [List.mem_singleton.1 hs]; simp),
      List.map_append, List.map_singleton, strip_snoc_nl last hlast.1.1 (fun c hc => (hlast.1.2.1 c hc).1) hlast.1.2.2, hid vs hinit]

theorem names_taken (sep : Char) (hnl : sep ≠ '\n') (H : List Str) (hH : ∀ l ∈ H, ∃ cs, l = '#' :: cs) (fs : List Str) (hne : fs ≠ [])
    (hok : ∀ s ∈ fs, FieldOK sep s) (D : List (Str × Str)) (hr : Nat) (hle : hr ≤ H.length + 1) (nf : Option Nat) :
    ∃ nm0 X, hdrLoopNames sep '#' hr ((H ++ ['#' :: joinChar sep fs]).map linePair ++ D) none
        = .ok (((H ++ ['#' :: joinChar sep fs]).drop hr).map linePair ++ D, nm0) ∧
      dataLoopNames sep '#' (((H ++ ['#' :: joinChar sep fs]).drop hr).map linePair ++ D) nm0 nf = dataLoopNames sep '#' D (some X) nf ∧
      (X.filter (fun s => !s.isEmpty)).map strip = fs := by
  have h0 := hdrLoopNames_eq sep '#' hr ((H ++ ['#' :: joinChar sep fs]).map linePair ++ D) none (by simp; omega)
  rw [List.drop_append_of_le_length (by simp; omega), ← List.map_drop] at h0
  generalize hnm : (if hr = 0 then none else _) = nm0 at h0
  by_cases hlt : hr ≤ H.length
  · -- the names line is left to the data loop, which meets it stripped
    refine ⟨_, _, h0, ?_, (fields_seen sep hnl fs hne hok _ (Or.inl rfl)).2.2⟩
    rw [List.drop_append_of_le_length hlt, List.map_append, List.append_assoc, List.map_singleton]
    obtain ⟨nm1, h1⟩ := dataLoopNames_comments sep ((H.drop hr).map linePair) ([linePair ('#' :: joinChar sep fs)] ++ D)
      (by
        intro l hl
        obtain ⟨a, ha, rfl⟩ := List.mem_map.1 hl
        obtain ⟨cs, rfl⟩ := hH a (List.mem_of_mem_drop ha)
        exact ⟨_, strip_hash cs⟩) nm0 nf
    rw [h1]
    exact dataLoopNames_comment sep _ _ (fields_of_join sep hnl fs hne hok).2.2.1 D nm1 nf
  · -- the header loop takes it, raw
    obtain rfl : hr = H.length + 1 := by omega
    subst hnm
    refine ⟨_, _, h0, ?_, (fields_seen sep hnl fs hne hok _ (Or.inr rfl)).2.2⟩
    simp [linePair]

/-- a written data line given by its fields: the `nSpecial` coordinate / time columns followed by one text per feature name,
every field a good field, the text of feature `j` stored as `vals[j]` -/
def AFLineF (f : CsvFmt) (names : List Str) (l : Str) (vals : List AFRead) : Prop :=
  ∃ cf texts, l = joinChar f.sep (cf ++ texts) ∧ (∀ s ∈ cf ++ texts, FieldOK f.sep s) ∧ cf.length = nSpecial f ∧
    texts.length = names.length ∧ vals.length = names.length ∧
    ∀ j (_ : j < names.length) (_ : j < texts.length) (_ : j < vals.length), afValue names[j] texts[j] = .ok vals[j]

theorem afLineF_join (f : CsvFmt) (names : List Str) (l : Str) (vals : List AFRead) (h : AFLineF f names l vals) :
    ∃ fs, l = joinChar f.sep fs ∧ fs ≠ [] ∧ (∀ s ∈ fs, FieldOK f.sep s) ∧ fs.length = nSpecial f + names.length := by
  obtain ⟨cf, texts, rfl, hok, hcf, ht, _, _⟩ := h
  exact ⟨_, rfl, append_ne_nil f hcf, hok, by rw [List.length_append, hcf, ht]⟩

theorem dataLoopNames_data (f : CsvFmt) (hnl : f.sep ≠ '\n') (names : List Str) {α : Type} (line : α → Str)
    (vals : α → List AFRead) (ls : List α)
    (h : ∀ x ∈ ls, AFLineF f names (line x) (vals x)) (nm : Option (List Str)) (nf : Option Nat) :
    dataLoopNames f.sep '#' (ls.map (fun x => linePair (line x))) nm nf = (nm, if ls = [] then nf else some (nSpecial f + names.length)) := by
  induction ls generalizing nf with
  | nil => rfl
  | cons a r ih =>
    obtain ⟨fs, hl, hne, hok, hlen⟩ := afLineF_join f names (line a) (vals a) (h a (by simp))
    obtain ⟨hfl, hst, _, ⟨c, cs, hc, hcne⟩, _⟩ := fields_of_join f.sep hnl fs hne hok
    have hs' : strip (linePair (line a)).1 = c :: cs := by rw [linePair, hl, hst, hc]
    simp only [List.map_cons, dataLoopNames, hs', hcne, ↓reduceIte]
    rw [ih (fun l hl => h l (by simp [hl])), ← hc, hfl, hlen]
    by_cases hr : r = [] <;> simp [hr]

theorem afLoop_line (f : CsvFmt) (hv : ValidIds f) (hnl : f.sep ≠ '\n') (cn names : List Str)
    (hcn : cn.length = nSpecial f) (hnd : names.Nodup) (l : Str) (v : List AFRead) (hx : AFLineF f names l v) (first : Bool)
    (rest : List (Str × Str)) (k : Nat) (fs : List (List AFRead)) (hk : k < fs.length) (hft : fs[k].length = names.length) :
    afLoop f '#' (cn ++ names) names first (linePair l :: rest) k fs
      = afLoop f '#' (cn ++ names) names false rest (k + 1) (fs.set k v) := by
  obtain ⟨cf, texts, hl, hok, hcf, ht, hvl, hval⟩ := hx
  have hne : cf ++ texts ≠ [] := append_ne_nil f hcf
  obtain ⟨_, hst, _, ⟨c, cs, hc, hcne⟩, _⟩ := fields_of_join f.sep hnl _ hne hok
  obtain ⟨hne', hstrip, hflds⟩ := fields_seen f.sep hnl _ hne hok (if first then (linePair l).2 else strip (linePair l).1)
    (by cases first
        · exact Or.inl (by simp only [Bool.false_eq_true, ↓reduceIte, linePair, hl, hst])
        · exact Or.inr (by simp only [↓reduceIte, linePair, hl]))
  have hrow := afRowSet_eq f hv cn names _ cf texts v hflds hcn hcf hnd ht hvl hval k fs hk hft
  rw [afLoop]
  generalize (if first then (linePair l).2 else strip (linePair l).1) = line at *
  have hie : line.isEmpty = false := List.isEmpty_eq_false_iff.2 hne'
  simp only [hie, Bool.false_eq_true, ↓reduceIte, hstrip, hc, hcne, hrow, bind, Except.bind]

theorem afLoop_lines (f : CsvFmt) (hv : ValidIds f) (hnl : f.sep ≠ '\n') (cn names : List Str) (hcn : cn.length = nSpecial f)
    (hnd : names.Nodup) {α : Type} (line : α → Str) (vals : α → List AFRead) (ls : List α)
    (h : ∀ x ∈ ls, AFLineF f names (line x) (vals x)) (first : Bool)
    (done : List (List AFRead)) :
    afLoop f '#' (cn ++ names) names first (ls.map (fun x => linePair (line x))) done.length
        (done ++ List.replicate ls.length (List.replicate names.length (AFRead.num (0, 0))))
      = .ok (done ++ ls.map vals) := by
  induction ls generalizing done first with
  | nil => cases first <;> simp [afLoop, pure, Except.pure]
  | cons x r ih =>
    rw [List.map_cons, afLoop_line f hv hnl cn names hcn hnd _ _ (h x (by simp)) first _ _ _ (by simp) (by simp)]
    have hset : (done ++ List.replicate (x :: r).length (List.replicate names.length (AFRead.num (0, 0)))).set done.length (vals x)
        = (done ++ [vals x]) ++ List.replicate r.length (List.replicate names.length (AFRead.num (0, 0))) := by
      rw [List.set_append_right _ _ (Nat.le_refl _), Nat.sub_self]
      simp [List.replicate_succ]
    have := ih (fun y hy => h y (by simp [hy])) false (done ++ [vals x])
    rw [List.length_append, List.length_singleton] at this
    rw [hset, this]
    simp

theorem readAll_written (f : CsvFmt) (hv : ValidIds f) (hnl : f.sep ≠ '\n') (H : List Str) (cn names : List Str)
    {α : Type} (line : α → Str) (vals : α → List AFRead) (data : List α) (hr : Nat) (hle : hr ≤ H.length + 1)
    (hH : ∀ l ∈ H, '\n' ∉ l ∧ ∃ cs, l = '#' :: cs)
    (hcn : cn.length = nSpecial f) (hfields : ∀ s ∈ cn ++ names, FieldOK f.sep s)
    (hres : ∀ n ∈ names, n ∉ reserved) (hnd : names.Nodup)
    (hdata : ∀ x ∈ data, AFLineF f names (line x) (vals x)) (hne : data ≠ []) :
    readAll f hr '#'
        (((H ++ ('#' :: joinChar f.sep (cn ++ names)) :: data.map line).map (· ++ ['\n'])).flatten) data.length
      = .ok (names, data.map vals) := by
  have hcnne : cn ++ names ≠ [] := append_ne_nil f hcn
  have hlines : ∀ l ∈ H ++ ('#' :: joinChar f.sep (cn ++ names)) :: data.map line, '\n' ∉ l := by
    intro l hl
    simp only [List.mem_append, List.mem_cons, List.mem_map] at hl
    rcases hl with hl | rfl | ⟨x, hx, rfl⟩
    · exact (hH l hl).1
    · simpa using (fields_of_join f.sep hnl _ hcnne hfields).2.2.2.2
    · obtain ⟨fs, hl, hne', hok, _⟩ := afLineF_join f names (line x) (vals x) (hdata x hx)
      rw [hl]
      exact (fields_of_join f.sep hnl fs hne' hok).2.2.2.2
  have hlp : (H ++ ('#' :: joinChar f.sep (cn ++ names)) :: data.map line).map (fun l => (l, l ++ ['\n']))
      = (H ++ ['#' :: joinChar f.sep (cn ++ names)]).map linePair ++ data.map (fun x => linePair (line x)) := by
    simp [linePair, Function.comp_def]
  obtain ⟨nm0, X, h0, h1, hX⟩ := names_taken f.sep hnl H (fun l hl => (hH l hl).2) _ hcnne hfields
    (data.map (fun x => linePair (line x))) hr hle none
  unfold readAll
  rw [linePairs_flatten _ hlines, hlp, h0]
  simp only [bind, Except.bind]
  rw [h1, dataLoopNames_data f hnl names line vals data hdata]
  simp only [hne, ↓reduceIte, hX]
  rw [createAFs_eq f hv cn names hcn hres hnd]
  simp only
  -- second pass: the comment lines left, then the data lines, the first of them raw when no comment line is left
  rw [List.drop_append_of_le_length (by simp; omega), ← List.map_drop,
    afLoop_comments _ _ _ _ _ (fun l hl => by
      rcases List.mem_append.1 (List.mem_of_mem_drop hl) with h | h
      · exact (hH l h).2
      · exact ⟨_, List.mem_singleton.1 h⟩)]
  have := afLoop_lines f hv hnl cn names hcn hnd line vals data hdata (true && ((H ++ ['#' :: joinChar f.sep (cn ++ names)]).drop hr).isEmpty) []
  simp only [List.length_nil, List.nil_append] at this
  rw [this]
  rfl

theorem rowLine_afLineF (f : CsvFmt) (geo : Bool) (pf : List Tok) (r : Row) (afs : List AFVal) (names : List Str)
    (hv : ValidIds f) (hsep : numChar f.sep = false) (htime : f.idT ≠ -1 → TimeOK pf f.sep)
    (hafs : ∀ v ∈ afs, AFOK f.sep v) (hnm : ∀ n ∈ names, n ≠ []) (hlen : afs.length = names.length) :
    AFLineF f names (rowLine f geo pf r afs) ((names.zip afs).map (fun nv => expAF nv.1 nv.2)) := by
  unfold rowLine
  generalize (floatFmt geo).2 = d
  refine ⟨cols f (fixedCoreS d r.x) (fixedCoreS d r.y) (if f.idU = -1 then none else some (fixedCoreS d r.z))
      (if f.idT = -1 then none else some (printTime pf r.t)), afs.map afText, rfl,
    rowFields_ok f d pf r afs hv hsep htime hafs, cols_length _ _ _ _ _, by simp [hlen], by simp [hlen], ?_⟩
  intro j h1 h2 h3
  have hj : j < afs.length := by omega
  have e1 : (afs.map afText)[j] = afText afs[j] := by simp
  have e2 : ((names.zip afs).map (fun nv => expAF nv.1 nv.2))[j] = expAF names[j] afs[j] := by simp
  rw [e1, e2]
  exact afValue_expAF _ (hnm _ (List.getElem_mem h1)) _

/-- **read_all, every header count**: the file `writeToFile` writes with its header block (`h > 0`) and feature columns is read
back by `readFromCsv(..., h=hr, read_all=True)` for EVERY `hr` up to the three header lines written — `hr = 3` included, where
the names line is consumed by the header loop with its newline and the second pass meets the first data line raw — as the
same observations, the same feature names in the same order, and the values `expAF name value`. -/
theorem csv_read_all_roundtrip3 (f : CsvFmt) (geo : Bool) (pf : List Tok) (h naf : Nat) (rows : List (Row × List AFVal))
    (srid : Str) (names : List Str)
    (hv : ValidIds f) (hsep : numChar f.sep = false) (hnl : f.sep ≠ '\n') (hcol : f.sep ∉ colChars)
    (htime : f.idT ≠ -1 → TimeOK pf f.sep)
    (hrows : ∀ ra ∈ rows, RowOK f geo pf ra.1) (hafs : ∀ ra ∈ rows, ∀ v ∈ ra.2, AFOK f.sep v) (hsrid : '\n' ∉ srid)
    (hpos : 0 < h) (hne : rows ≠ [])
    (hnames : ∀ n ∈ names, NameOK f.sep n) (hnd : names.Nodup) (hrl : ∀ ra ∈ rows, ra.2.length = names.length) :
    ∃ text, writeToFile f geo pf h naf rows srid names = .ok text ∧
      ∀ hr, hr ≤ 3 → readCsvAll f pf hr text
        = .ok (rows.map (fun ra => expRow f geo pf ra.1), names,
               rows.map (fun ra => (names.zip ra.2).map (fun nv => expAF nv.1 nv.2))) := by
  have hh : HdrOK srid names := ⟨hsrid, fun n hn => (hnames n hn).1.2.2⟩
  obtain ⟨text, hw, hrd⟩ := csv_file_roundtrip f geo pf h naf rows srid names hv hsep hnl htime hrows hafs hh
  refine ⟨text, hw, ?_⟩
  have htext := Except.ok.inj (hw.symm.trans (writeToFile_explicit f geo pf h naf rows srid names hv hsep hnl htime hrows hafs))
  intro hr hle
  have h0 : h ≠ 0 := by omega
  unfold readCsvAll
  rw [hrd hr (by simp only [h0, ↓reduceIte]; exact hle)]
  simp only [bind, Except.bind, List.length_map]
  have hdata : ∀ ra ∈ rows, AFLineF f names (rowLine f geo pf ra.1 ra.2) ((names.zip ra.2).map (fun nv => expAF nv.1 nv.2)) :=
    fun ra hra => rowLine_afLineF f geo pf ra.1 ra.2 names hv hsep htime (hafs ra hra) (fun n hn => (hnames n hn).1.1.1) (hrl ra hra)
  have hcn : (colNames f srid).length = nSpecial f := cols_length _ _ _ _ _
  have hfields : ∀ s ∈ colNames f srid ++ names, FieldOK f.sep s := by
    intro s hs
    rcases List.mem_append.1 hs with hs | hs
    · exact colNames_ok f hv hcol srid s hs
    · exact (hnames s hs).1
  have hres : ∀ n ∈ names, n ∉ reserved := fun n hn => (hnames n hn).2
  have h12 : ∀ l ∈ [hdrLine1 srid, hdrLine2], '\n' ∉ l ∧ ∃ cs, l = '#' :: cs :=
    fun l hl => hdrLines_ok f hv hnl srid names hh l (List.mem_append_left [_] hl)
  suffices readAll f hr '#' text rows.length
      = .ok (names, rows.map (fun ra => (names.zip ra.2).map (fun nv => expAF nv.1 nv.2))) by rw [this]; rfl
  simp only [h0, ↓reduceIte] at htext
  rw [htext]
  exact readAll_written f hv hnl [hdrLine1 srid, hdrLine2] (colNames f srid) names _ _ rows hr hle h12 hcn hfields hres hnd hdata hne

/-- **read_all**: the same for `hr` = 0, 1, 2, the header counts that leave the names line to the data loop -/
theorem csv_read_all_roundtrip (f : CsvFmt) (geo : Bool) (pf : List Tok) (h naf : Nat) (rows : List (Row × List AFVal))
    (srid : Str) (names : List Str)
    (hv : ValidIds f) (hsep : numChar f.sep = false) (hnl : f.sep ≠ '\n') (hcol : f.sep ∉ colChars)
    (htime : f.idT ≠ -1 → TimeOK pf f.sep)
    (hrows : ∀ ra ∈ rows, RowOK f geo pf ra.1) (hafs : ∀ ra ∈ rows, ∀ v ∈ ra.2, AFOK f.sep v) (hsrid : '\n' ∉ srid)
    (hpos : 0 < h) (hne : rows ≠ [])
    (hnames : ∀ n ∈ names, NameOK f.sep n) (hnd : names.Nodup) (hrl : ∀ ra ∈ rows, ra.2.length = names.length) :
    ∃ text, writeToFile f geo pf h naf rows srid names = .ok text ∧
      ∀ hr, hr ≤ 2 → readCsvAll f pf hr text
        = .ok (rows.map (fun ra => expRow f geo pf ra.1), names,
               rows.map (fun ra => (names.zip ra.2).map (fun nv => expAF nv.1 nv.2))) := by
  obtain ⟨text, hw, hr3⟩ := csv_read_all_roundtrip3 f geo pf h naf rows srid names hv hsep hnl hcol htime hrows hafs hsrid hpos
    hne hnames hnd hrl
  exact ⟨text, hw, fun hr hle => hr3 hr (by omega)⟩

theorem takeWhile_digits (s : Str) (h : ∀ c ∈ s, (digitVal? c).isSome = true) :
    s.takeWhile (· ≠ '.') = s ∧ s.dropWhile (· ≠ '.') = [] := by
  have := takeWhile_until (fun c => decide (c ≠ '.')) s [] (fun c hc => by simp [(digit_of_digitVal (h c hc)).2.1])
    (fun _ hc => by simp at hc)
  rwa [List.append_nil] at this

/-- a float value is one field of the line when the separator is not a character of `str(float)`: a number character, the
exponent marker `e` or the `+` of a positive exponent -/
theorem afOK_dec (sep : Char) (hsep : numChar sep = false) (he : sep ≠ 'e') (hp : sep ≠ '+') (d : Nat) (n : Int) :
    AFOK sep (.dec d n) := by
  have hover := reprFloat_over 'e' d (SNum.ofInt n)
  have hch : ∀ c, floatChar 'e' c = true → isWs c = false ∧ c ≠ '#' ∧ c ≠ '\n' := by
    intro c h
    simp only [floatChar, Bool.or_eq_true, beq_iff_eq] at h
    rcases h with (h | rfl) | rfl
    · exact ⟨(numChar_props h).1, (numChar_props h).2.1, (numChar_props h).2.2.1⟩
    · decide
    · decide
  exact fieldOK_intro sep _ (reprFloat_ne_nil _ _ _) (fun c hc => hch c (hover c hc))
    (hover.not_mem (by simp [floatChar, hsep, he, hp]))

/-- **the values read back**, for a column whose name does not end in `&`: an `int` comes back as the float of the same
value, a float of any magnitude as the decimal `str()` printed, positional or in exponent notation (value `n / 10^d`, see `repr_value`), `nan` and
`±inf` as themselves, a string that `float()` refuses and that holds no double quote as itself. In a column whose name
ends in `&` every value comes back as its text. -/
theorem expAF_values (name : Str) (hamp : name.getLast? ≠ some '&') :
    (∀ i, expAF name (.int i) = .num (i, 0)) ∧
    (∀ d n, expAF name (.dec d n) = .num (reprValF d (SNum.ofInt n))) ∧
    expAF name .nan = .nan ∧ (∀ b, expAF name (.inf b) = .inf b) ∧
    (∀ s, floatLit? s = none → '"' ∉ s → expAF name (.str s) = .str s) := by
  refine ⟨?_, ?_, ?_, ?_, ?_⟩
  · intro i
    simp [expAF, hamp, afText, floatLit?, parseDec_intStr]
  · intro d n
    simp [expAF, hamp, afText, floatLit?, parseDec_reprFloat 'e' (by decide)]
  · simp only [expAF, hamp, ↓reduceIte, afText]
    decide +kernel
  · intro b
    cases b <;> (simp only [expAF, hamp, ↓reduceIte, afText]; decide +kernel)
  · intro s hs hq
    simp only [expAF, hamp, ↓reduceIte, afText, hs]
    rw [filter_ne_of_not_mem hq]

theorem expAF_amp (name : Str) (hamp : name.getLast? = some '&') (v : AFVal) : expAF name v = .str (afText v) := by
  simp [expAF, hamp]

end TV.TextIO
