import TracklibVerif.Model.GeoNum
import TracklibVerif.Lemmas.Geo
/-! Over exact arithmetic the conversions do not depend on the number types of the coordinates: `float(·)` commutes with
every operation of `Num ℝ`, hence with every formula of `Model/Geo.lean` instantiated at `Num ℝ`. -/
namespace TV.GeoNum
open TV.Geo

/-- `float(q)` over the reals: the number itself -/
noncomputable instance : OfRat ℝ := ⟨fun q => (q : ℝ)⟩

@[simp] theorem toF_flt (f : ℝ) : (Num.flt f).toF = f := rfl
@[simp] theorem toF_exact (q : Rat) : (Num.exact q : Num ℝ).toF = (q : ℝ) := rfl

@[simp] theorem toF_add (a b : Num ℝ) : (a + b).toF = a.toF + b.toF := by
  show (Num.add a b).toF = _
  fun_cases Num.add a b
  · exact Rat.cast_add _ _
  · rfl

@[simp] theorem toF_sub (a b : Num ℝ) : (a - b).toF = a.toF - b.toF := by
  show (Num.sub a b).toF = _
  fun_cases Num.sub a b
  · exact Rat.cast_sub _ _
  · rfl

@[simp] theorem toF_mul (a b : Num ℝ) : (a * b).toF = a.toF * b.toF := by
  show (Num.mul a b).toF = _
  fun_cases Num.mul a b
  · exact Rat.cast_mul _ _
  · rfl

@[simp] theorem toF_div (a b : Num ℝ) : (a / b).toF = a.toF / b.toF := rfl

@[simp] theorem toF_neg (a : Num ℝ) : (-a).toF = -a.toF := by
  show (Num.neg a).toF = _
  fun_cases Num.neg a
  · exact Rat.cast_neg _
  · rfl

@[simp] theorem toF_lit (m : Nat) (s : Bool) (e : Nat) :
    (OfScientific.ofScientific m s e : Num ℝ).toF = OfScientific.ofScientific m s e := rfl

variable (T : Trig ℝ)

@[simp] theorem toF_pi : (trig T).pi.toF = T.pi := rfl
@[simp] theorem toF_sin (x : Num ℝ) : ((trig T).sin x).toF = T.sin x.toF := rfl
@[simp] theorem toF_cos (x : Num ℝ) : ((trig T).cos x).toF = T.cos x.toF := rfl
@[simp] theorem toF_tan (x : Num ℝ) : ((trig T).tan x).toF = T.tan x.toF := rfl
@[simp] theorem toF_atan (x : Num ℝ) : ((trig T).atan x).toF = T.atan x.toF := rfl
@[simp] theorem toF_atan2 (y x : Num ℝ) : ((trig T).atan2 y x).toF = T.atan2 y.toF x.toF := rfl
@[simp] theorem toF_sqrt (x : Num ℝ) : ((trig T).sqrt x).toF = T.sqrt x.toF := rfl
@[simp] theorem toF_log (x : Num ℝ) : ((trig T).log x).toF = T.log x.toF := rfl
@[simp] theorem toF_exp (x : Num ℝ) : ((trig T).exp x).toF = T.exp x.toF := rfl
@[simp] theorem toF_pow (x y : Num ℝ) : ((trig T).pow x y).toF = T.pow x.toF y.toF := rfl

theorem geoToEcef_num (g : V3 (Num ℝ)) : v3F (geoToEcef (trig T) g) = geoToEcef T (v3F g) := by
  simp only [geoToEcef, v3F, Re, Fe, toF_add, toF_sub, toF_mul, toF_div, toF_lit, toF_pi, toF_sin, toF_cos, toF_sqrt, toF_pow]

theorem ecefToGeo_num (p : V3 (Num ℝ)) : v3F (ecefToGeo (trig T) p) = ecefToGeo T (v3F p) := by
  simp only [ecefToGeo, v3F, Re, Fe, toF_add, toF_sub, toF_mul, toF_div, toF_lit, toF_pi, toF_sin, toF_cos, toF_sqrt, toF_pow,
    toF_atan2]

theorem toEcef_num (b : Base (Num ℝ)) : v3F (b.toEcef (trig T)) = (baseF b).toEcef T := by
  cases b <;> simp only [Base.toEcef, baseF, geoToEcef_num]

theorem toGeo_num (b : Base (Num ℝ)) : v3F (b.toGeo (trig T)) = (baseF b).toGeo T := by
  cases b <;> simp only [Base.toGeo, baseF, ecefToGeo_num]

theorem baseF_ecef (c : V3 (Num ℝ)) : baseF (Base.ecef c) = Base.ecef (v3F c) := rfl

/- The base's ECEF position and its Geo image on the float side are the float values of those on the number side
(`toEcef_num`, `ecefToGeo_num` from right to left, before `v3F` is unfolded); the rest is the same arithmetic. -/
theorem ecefToEnu_num (p : V3 (Num ℝ)) (b : Base (Num ℝ)) :
    v3F (ecefToEnu (trig T) p b) = ecefToEnu T (v3F p) (baseF b) := by
  simp only [ecefToEnu, ← toEcef_num, ← ecefToGeo_num]
  simp only [v3F, toF_add, toF_sub, toF_mul, toF_div, toF_neg, toF_lit, toF_pi, toF_sin, toF_cos]

theorem enuToEcef_num (q : V3 (Num ℝ)) (b : Base (Num ℝ)) :
    v3F (enuToEcef (trig T) q b) = enuToEcef T (v3F q) (baseF b) := by
  simp only [enuToEcef, ← toEcef_num, ← ecefToGeo_num]
  simp only [v3F, toF_add, toF_sub, toF_mul, toF_div, toF_neg, toF_lit, toF_pi, toF_sin, toF_cos]

theorem geoToEnu_num (g : V3 (Num ℝ)) (b : Base (Num ℝ)) :
    v3F (geoToEnu (trig T) g b) = geoToEnu T (v3F g) (baseF b) := by
  simp only [geoToEnu, ecefToEnu_num, baseF_ecef, geoToEcef_num, toEcef_num]

theorem enuToGeo_num (q : V3 (Num ℝ)) (b : Base (Num ℝ)) :
    v3F (enuToGeo (trig T) q b) = enuToGeo T (v3F q) (baseF b) := by
  simp only [enuToGeo, ecefToGeo_num, enuToEcef_num, baseF_ecef, toEcef_num]

theorem enuToEnu_num (q : V3 (Num ℝ)) (b1 b2 : Base (Num ℝ)) :
    v3F (enuToEnu (trig T) q b1 b2) = enuToEnu T (v3F q) (baseF b1) (baseF b2) := by
  simp only [enuToEnu, ecefToEnu_num, enuToEcef_num, baseF_ecef, toEcef_num]

theorem toLambert93_num (c : V3 (Num ℝ)) : v3F (toLambert93 (trig T) c) = toLambert93 T (v3F c) := by
  simp only [toLambert93, v3F, lambE, lambXp, lambYp, lambN, lambC, lambLambda0, toF_add, toF_sub, toF_mul, toF_div, toF_neg,
    toF_lit, toF_pi, toF_sin, toF_cos, toF_tan, toF_log, toF_exp, toF_pow]

end TV.GeoNum
