import TracklibVerif.Lemmas.Filter
/-! Helpers for the algebraic form of the filter (`operateAlgebraic`, property C15): reading a signal of a
track after `removeAnalyticalFeature`, after the removal of the temporary `#…` features and after the assignment
`out = #0` of `Track.__applyOperation`. -/
namespace TV.Filter
section algebraic
variable {α : Type}

theorem getSig_filter_name (t : Sigs α) (f : String → Bool) (m : String) :
    getSig (t.filter (fun p => f p.1)) m = if f m = true then getSig t m else none := by
  induction t with
  | nil => simp [getSig_nil]
  | cons p t ih =>
    rw [List.filter_cons]
    by_cases hp : p.1 = m
    · subst hp
      cases hf : f p.1 <;> simp [getSig_cons, ih, hf]
    · cases hf : f p.1 <;> simp [getSig_cons, ih, hp]

theorem getSig_removeSig (t : Sigs α) (n m : String) :
    getSig (removeSig t n) m = if m = n then none else getSig t m := by
  unfold removeSig
  rw [getSig_filter_name t (fun x => !(x == n)) m]
  by_cases hm : m = n <;> simp [hm]

theorem getSig_dropTemp (t : Sigs α) (m : String) :
    getSig (t.filter (fun p => !(isTemp p.1))) m = if isTemp m = true then none else getSig t m := by
  rw [getSig_filter_name t (fun x => !(isTemp x)) m]
  cases isTemp m <;> simp

theorem getSig_assignAF_same (t : Sigs α) (out src : String) (s : List (Option α)) (hne : out ≠ src) :
    getSig (assignAF t out src s) out = some s := by
  unfold assignAF
  split
  · split
    · rw [getSig_removeSig, if_neg hne, getSig_setSig_same]
    · exact getSig_setSig_same _ _ _
  · split
    · rw [getSig_append_single, getSig_removeSig, if_pos rfl, if_pos rfl]; rfl
    · rename_i _ h
      rw [getSig_append_single, getSig_none_of_not_any t out (Bool.eq_false_iff.2 h), if_pos rfl]; rfl

theorem getSig_assignAF_other (t : Sigs α) (out src m : String) (s : List (Option α)) (h1 : m ≠ out) (h2 : m ≠ src) :
    getSig (assignAF t out src s) m = getSig t m := by
  unfold assignAF
  split
  · split
    · rw [getSig_removeSig, if_neg h2, getSig_setSig_other _ _ _ _ h1]
    · exact getSig_setSig_other _ _ _ _ h1
  · split
    · rw [getSig_append_single, getSig_removeSig, if_neg h1, if_neg (Ne.symm h1), Option.or_none]
    · rw [getSig_append_single, if_neg (Ne.symm h1), Option.or_none]
end algebraic
end TV.Filter
