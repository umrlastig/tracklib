import TracklibVerif.Lemmas.ObsTimeG
/-! `ObsTime.readUnixTime` on a NEGATIVE number of seconds (an instant before 1970), in exact arithmetic.

The statement of C03 is about seconds since 1970; what this tree does before 1970 is nevertheless a definite
function, and the lemmas of this file say which one: the year loop and the month loop stop at once (1970, January),
and every `int()` of the function rounds TOWARD ZERO, so that the day, hour, minute, second and millisecond fields
are the *negated* day/hour/minute/second/millisecond decomposition of `|x|`.
`TruncNeg` is the contract of Python's `int()` on non-positive reals, the counterpart of `TruncZ`.
The last part joins the two sides on whole milliseconds: `msStampZ K` is the stamp of the instant `K` ms from 1970 for every integer `K`,
`toAbsTime()` and the reader are inverse to each other along it, and `addSec` by whole seconds, on any object whose `toAbsTime()` is a whole
number `K` of milliseconds, returns the stamp of the line at `K + 1000 k` (`addSecG_msZ`). -/

namespace TV.ObsTime

section
variable {α : Type} [Field α] [LinearOrder α] [IsStrictOrderedRing α]

/-- contract of Python's `int()` on non-positive reals: it rounds toward zero (`int(-0.5) = 0`, `int(-1.5) = -1`) -/
def TruncNeg (trunc : α → Int) : Prop :=
  ∀ x : α, x ≤ 0 → trunc x ≤ 0 ∧ x ≤ ((trunc x : Int) : α) ∧ ((trunc x : Int) : α) - 1 < x

/-- `y ↦ -int(-y)`: on non-negative reals it is the integer part when `int()` rounds toward zero -/
def mirror (trunc : α → Int) : α → Int := fun y => - trunc (-y)

theorem TruncNeg.mirrorZ {trunc : α → Int} (h : TruncNeg trunc) : TruncZ (mirror trunc) := by
  intro x hx
  obtain ⟨a, b, c⟩ := h (-x) (by linarith)
  refine ⟨by unfold mirror; omega, ?_, ?_⟩
  · simp only [mirror, Int.cast_neg]; linarith
  · simp only [mirror, Int.cast_neg]; linarith

omit [LinearOrder α] [IsStrictOrderedRing α] in
theorem trunc_neg (trunc : α → Int) (y : α) : trunc (-y) = -(mirror trunc y) := by simp [mirror]

theorem TruncNeg.zero {trunc : α → Int} (h : TruncNeg trunc) : trunc 0 = 0 := by
  obtain ⟨a, b, -⟩ := h 0 (le_refl _)
  have : (0 : Int) ≤ trunc 0 := by exact_mod_cast b
  omega

/-- one "divide, truncate, subtract" step of `readUnixTime` on a non-positive remainder `-(r + f)`:
`k = int(e / c) = -(r // c)`, `e -= k * c` leaves `-(r mod c + f)` — the step after 1970 for `mirror trunc`, negated -/
theorem step_div_neg (trunc : α → Int) (htn : TruncNeg trunc) (r c : Nat) (hc : 0 < c) (f : α)
    (hf0 : 0 ≤ f) (hf1 : f < 1) :
    trunc ((-((r : α) + f)) / (((c : Nat) : Int) : α)) = -((r / c : Nat) : Int)
    ∧ (-((r : α) + f)) - ((((-((r / c : Nat) : Int)) * ((c : Nat) : Int)) : Int) : α)
        = -(((r % c : Nat) : α) + f) := by
  obtain ⟨a, b⟩ := step_div (mirror trunc) htn.mirrorZ r c hc f hf0 hf1
  exact ⟨by rw [neg_div, trunc_neg trunc, a], by rw [← b, Int.neg_mul, Int.cast_neg]; ring⟩

end

section
variable {α : Type} [Sub α] [LT α] [DecidableLT α] [IntCast α]

theorem yearLoopG_break (e : α) (k y sec : Nat)
    (h : e - (((sec : Nat) : Int) : α) < (((yearDays y * 86400 : Nat) : Int) : α)) :
    yearLoopG e (k + 1) y sec = some (y, sec) := by
  unfold yearLoopG
  simp only [h, ↓reduceIte]

theorem monthLoopG_break (y k m : Nat) (e : α)
    (h : e < (((monthDays y m * 86400 : Nat) : Int) : α)) :
    monthLoopG y (k + 1) m e = (m, e) := by
  unfold monthLoopG
  simp only [h, ↓reduceIte]
end

section
variable {α : Type} [Field α] [LinearOrder α] [IsStrictOrderedRing α]

/-- the stamp this tree returns for an instant `n` whole seconds (and some milliseconds) before 1970 -/
def negStamp (n : Nat) (ms : Int) : StampZ :=
  ⟨1970, 1, 1 - ((n / 86400 : Nat) : Int), -((n % 86400 / 3600 : Nat) : Int),
   -((n % 3600 / 60 : Nat) : Int), -((n % 60 : Nat) : Int), ms⟩

theorem secondsZ_negStamp (n : Nat) (ms : Int) : secondsZ (negStamp n ms) = -(n : Int) := by
  simp only [secondsZ, negStamp, Nat.sub_self, daysBeforeYear, daysBeforeMonth]
  omega

omit [LinearOrder α] [IsStrictOrderedRing α] in
theorem toAbsG_negStamp (n : Nat) (ms : Int) : (toAbsG (negStamp n ms) : α) = -(n : α) + (ms : α) / 1000 := by
  rw [toAbsG, secondsZ_negStamp]
  simp only [negStamp, Int.cast_neg, Int.cast_natCast, Int.cast_ofNat]

theorem readUnixG_neg_nat_add_frac (trunc : α → Int) (htn : TruncNeg trunc) (n : Nat) (f : α)
    (hf0 : 0 ≤ f) (hf1 : f < 1) :
    readUnixG trunc (-((n : α) + f))
      = some ⟨1970, 1, 1 - ((n / 86400 : Nat) : Int), -((n % 86400 / 3600 : Nat) : Int),
              -((n % 3600 / 60 : Nat) : Int), -((n % 60 : Nat) : Int), trunc (-(f * 1000))⟩ := by
  -- an instant not after 1970 is below every positive integer, so both loops stop at once
  have hlt : ∀ N : Nat, 0 < N → -((n : α) + f) < (((N : Nat) : Int) : α) := fun N hN =>
    lt_of_le_of_lt (neg_nonpos.2 (add_nonneg (Nat.cast_nonneg n) hf0)) (by exact_mod_cast hN)
  rw [readUnixG_of_steps trunc _ (fun r => -((r : α) + f)) (fun k => -(k : Int))
    (fun r c hc => step_div_neg trunc htn r c hc f hf0 hf1)
    1970 0 0 n
    (yearLoopG_break _ _ 1970 0 (by
      rw [Nat.cast_zero, Int.cast_zero, sub_zero]; exact hlt _ (by decide)))
    (by rw [Nat.cast_zero, Int.cast_zero, sub_zero]
        exact monthLoopG_break 1970 11 0 _ (hlt _ (by decide)))]
  simp only [Nat.cast_zero, zero_add, Int.cast_ofNat, neg_mul, neg_add_eq_sub]

/-- what `readUnixTime(x)` returns for `x ≤ 0` in exact arithmetic (specification of the reader before 1970):
with `n = -int(x)` whole seconds and `f = -x - n`, the stamp `negStamp n (int(-(1000 f)))` -/
def readUnixNegSpec (trunc : α → Int) (x : α) : StampZ :=
  negStamp (-(trunc x)).toNat (trunc (-((-x - (((-(trunc x)).toNat : Nat) : α)) * 1000)))

theorem neg_frac_bounds (trunc : α → Int) (htn : TruncNeg trunc) (x : α) (hx : x ≤ 0) :
    0 ≤ -x - (((-(trunc x)).toNat : Nat) : α) ∧ -x - (((-(trunc x)).toNat : Nat) : α) < 1 := by
  have := frac_bounds (mirror trunc) htn.mirrorZ (-x) (neg_nonneg.2 hx)
  rwa [mirror, neg_neg] at this

theorem ms_neg_bounds (trunc : α → Int) (htn : TruncNeg trunc) (f : α) (hf0 : 0 ≤ f) (hf1 : f < 1) :
    ∃ m : Nat, trunc (-(f * 1000)) = -(m : Int) ∧ m < 1000 ∧ (m : α) ≤ f * 1000 ∧ f * 1000 < (m : α) + 1 := by
  obtain ⟨a, b, c⟩ := ms_bounds (mirror trunc) htn.mirrorZ f hf0 hf1
  have h0 : 0 ≤ mirror trunc (f * 1000) := (htn.mirrorZ (f * 1000) (by positivity)).1
  refine ⟨(mirror trunc (f * 1000)).toNat, ?_, a, b, c⟩
  rw [trunc_neg trunc, Int.toNat_of_nonneg h0]

end

/-- the stamp this tree returns for "the well-formed stamp `t` moved by `d` milliseconds" (`d` a whole number of seconds
in milliseconds), on BOTH sides of 1970: the integer model's stamp when the target is not before 1970, the negated
decomposition (`negStamp`) when it is -/
def shiftMsZ (t : Stamp) (d : Int) : StampZ :=
  if 0 ≤ (toAbsMs t : Int) + d then (readUnixMs ((toAbsMs t : Int) + d).toNat).toZ
  else negStamp ((-((toAbsMs t : Int) + d)).toNat / 1000) (-(((-((toAbsMs t : Int) + d)).toNat % 1000 : Nat) : Int))

/-- the stamp this tree has for the instant `K` milliseconds from 1970, on either side of it (`shiftMsZ` with its origin at 1970) -/
def msStampZ (K : Int) : StampZ :=
  if 0 ≤ K then (readUnixMs K.toNat).toZ else negStamp ((-K).toNat / 1000) (-(((-K).toNat % 1000 : Nat) : Int))

theorem shiftMsZ_eq (t : Stamp) (d : Int) : shiftMsZ t d = msStampZ ((toAbsMs t : Int) + d) := rfl

theorem msStampZ_natCast (n : Nat) : msStampZ n = (readUnixMs n).toZ := by
  rw [msStampZ, if_pos (Int.natCast_nonneg n), Int.toNat_natCast]

theorem msStampZ_neg (n : Nat) : msStampZ (-(n : Int)) = negStamp (n / 1000) (-((n % 1000 : Nat) : Int)) := by
  cases n with
  | zero => decide +kernel
  | succ n => rw [msStampZ, if_neg (by omega), Int.neg_neg, Int.toNat_natCast]

theorem toZ_eq_msStampZ (t : Stamp) (h : WFs t) : t.toZ = msStampZ (toAbsMs t) := by
  rw [msStampZ_natCast, readUnixMs_toAbsMs t h]

section
variable {α : Type} [Field α] [LinearOrder α] [IsStrictOrderedRing α]

/-- `int()` is exact on a side of zero on which `K` lies -/
def TruncAt (trunc : α → Int) (K : Int) : Prop := (0 ≤ K ∧ TruncZ trunc) ∨ (K ≤ 0 ∧ TruncNeg trunc)

omit [IsStrictOrderedRing α] in
theorem TruncAt.of_both {trunc : α → Int} (htr : TruncZ trunc) (htn : TruncNeg trunc) (K : Int) : TruncAt trunc K :=
  (Int.le_total 0 K).imp (⟨·, htr⟩) (⟨·, htn⟩)

theorem toAbsG_negMs (k : Nat) :
    (toAbsG (negStamp (k / 1000) (-((k % 1000 : Nat) : Int))) : α) = -((k : α) / 1000) := by
  rw [toAbsG_negStamp, ms_split, Int.cast_neg, Int.cast_natCast]; ring

theorem toAbsG_toZ_int (s : Stamp) (hd : 1 ≤ s.d.day) : (toAbsG s.toZ : α) = (((toAbsMs s : Nat) : Int) : α) / 1000 := by
  rw [Int.cast_natCast, toAbsG_toZ s hd]

theorem toAbsG_msStampZ (K : Int) : (toAbsG (msStampZ K) : α) = (K : α) / 1000 := by
  obtain ⟨n, rfl | rfl⟩ := K.eq_nat_or_neg
  · rw [msStampZ_natCast, toAbsG_toZ_int _ (WFs_readUnixMs n).1.2.2.2.1, toAbsMs_readUnixMs]
  · rw [msStampZ_neg, toAbsG_negMs, Int.cast_neg, Int.cast_natCast, neg_div]

theorem readUnixG_msZ (trunc : α → Int) (K : Int) (ht : TruncAt trunc K) :
    readUnixG trunc ((K : α) / 1000) = some (msStampZ K) := by
  rcases ht with ⟨h, htr⟩ | ⟨h, htn⟩
  · obtain ⟨n, rfl⟩ := Int.eq_ofNat_of_zero_le h
    rw [Int.cast_natCast, readUnixG_ms trunc htr, msStampZ_natCast]
  · obtain ⟨n, rfl⟩ : ∃ n : Nat, K = -(n : Int) := ⟨(-K).toNat, by omega⟩
    obtain ⟨hf0, hf1⟩ := ms_frac (α := α) n
    rw [msStampZ_neg, Int.cast_neg, Int.cast_natCast, neg_div, ms_split, readUnixG_neg_nat_add_frac trunc htn _ _ hf0 hf1,
      div_mul_cancel₀ _ (by norm_num), trunc_neg trunc, trunc_natCast _ htn.mirrorZ]
    rfl

/-- `addSec(k)` reads its operand through `toAbsTime()` only: from ANY object, on the line or not, whose `toAbsTime()` is `K` ms -/
theorem addSecG_msZ (trunc : α → Int) (t : StampZ) (K k : Int) (hK : (toAbsG t : α) = (K : α) / 1000)
    (ht : TruncAt trunc (K + k * 1000)) :
    addSecG trunc t ((k : Int) : α) = some (msStampZ (K + k * 1000)) := by
  rw [addSecG, hK, ← readUnixG_msZ trunc _ ht]
  congr 1; push_cast; ring

end

end TV.ObsTime
