import TracklibVerif.Lemmas.TextIORow2
import TracklibVerif.Lemmas.Common.MapM
/-! Whole CSV files: `writeToFile` then `readCsv` (core only). -/
namespace TV.TextIO
open TV.ObsTime

theorem strip_hash (cs : Str) : strip ('#' :: cs) = '#' :: rstrip cs := by
  rw [strip, lstrip_cons_of_not_ws cs (by decide), rstrip_cons _ _ (by decide)]

/-- what the header block needs of the coordinate system name and of the feature names: no end of line in them -/
def HdrOK (srid : Str) (names : List Str) : Prop := '\n' ∉ srid ∧ ∀ n ∈ names, '\n' ∉ n

/-- the names of the coordinate / time columns in column order (`E N U time`, `lon lat h time`, `X Y Z time`) -/
def colNames (f : CsvFmt) (srid : Str) : List Str :=
  cols f (strip (hdrNames srid).1) (strip (hdrNames srid).2.1)
    ((if f.idU = -1 then none else some (hdrNames srid).2.2).map strip)
    ((if f.idT = -1 then none else some "time".toList).map strip)

/-- the letters of the column names `E N U X Y Z lon lat h time` -/
def colChars : Str := "ENUXYZlonathime".toList

theorem colNames_words (f : CsvFmt) (hv : ValidIds f) (srid : Str) :
    ∀ s ∈ colNames f srid, s ≠ [] ∧ ∀ c ∈ s, c ∈ colChars := by
  have hall : ∀ t ∈ [strip (hdrNames srid).1, strip (hdrNames srid).2.1, strip (hdrNames srid).2.2, strip "time".toList],
      t ≠ [] ∧ ∀ c ∈ t, c ∈ colChars := by
    unfold hdrNames colChars
    repeat rw [String.toList_ofList]
    split
    · decide
    · split <;> decide
  intro s hs
  unfold colNames at hs
  rcases mem_cols f hv _ _ _ _ (by split <;> simp [*]) (by split <;> simp [*]) s hs with rfl | rfl | h | h
  · exact hall _ (by simp)
  · exact hall _ (by simp)
  · split at h
    · simp at h
    · simp only [Option.map_some, Option.some.injEq] at h
      subst h; exact hall _ (by simp)
  · split at h
    · simp at h
    · simp only [Option.map_some, Option.some.injEq] at h
      subst h; exact hall _ (by simp)

theorem colChars_props : ∀ c ∈ colChars, isWs c = false ∧ c ≠ '#' ∧ c ≠ '\n' := by
  unfold colChars
  rw [String.toList_ofList]
  decide

theorem headerBlock_eq (f : CsvFmt) (hv : ValidIds f) (naf : Nat) (srid : Str) (names : List Str) :
    headerBlock f srid names (orderList f naf)
      = .ok ['#' :: ("srid: ".toList ++ (if srid = "GEO".toList then "Geo".toList else srid)),
             '#' :: "ref point: None".toList, '#' :: joinChar f.sep (colNames f srid ++ names)] := by
  unfold headerBlock colNames
  cases hx : hdrNames srid with
  | mk a bc =>
    cases bc with
    | mk b c =>
      simp only
      have hU : (if f.idU = -1 then none else some c).isSome = decide (f.idU ≠ -1)  := isSome_ite _ _
      have hT : (if f.idT = -1 then none else some "time".toList).isSome = decide (f.idT ≠ -1)  := isSome_ite _ _
      rw [printInOrder_layout f hv naf a b _ _ _ hU hT, foldl_sep_append _ (fun n => n)]
      simp only [List.nil_append, bind, Except.bind, pure, Except.pure]
      rw [joinChar_append_flatten _ _ _ (cols_ne_nil _ _ _ _ _)]

def hdrLine1 (srid : Str) : Str := '#' :: ("srid: ".toList ++ (if srid = "GEO".toList then "Geo".toList else srid))
def hdrLine2 : Str := '#' :: "ref point: None".toList
def hdrLine3 (f : CsvFmt) (srid : Str) (names : List Str) : Str := '#' :: joinChar f.sep (colNames f srid ++ names)

theorem hdrLines_ok (f : CsvFmt) (hv : ValidIds f) (hnl : f.sep ≠ '\n') (srid : Str) (names : List Str) (hh : HdrOK srid names) :
    ∀ l ∈ [hdrLine1 srid, hdrLine2, hdrLine3 f srid names], '\n' ∉ l ∧ ∃ cs, l = '#' :: cs := by
  intro l hl
  simp only [List.mem_cons, List.not_mem_nil, or_false] at hl
  rcases hl with rfl | rfl | rfl <;> refine ⟨fun hc => ?_, _, rfl⟩
  · unfold hdrLine1 at hc
    repeat rw [String.toList_ofList] at hc
    simp only [List.mem_cons, List.mem_append] at hc
    rcases hc with hc | hc | hc
    · exact absurd hc (by decide)
    · revert hc; decide
    · split at hc
      · revert hc; decide
      · exact hh.1 hc
  · unfold hdrLine2 at hc
    rw [String.toList_ofList] at hc
    revert hc; decide
  · rcases List.mem_cons.1 hc with e | hc
    · exact absurd e (by decide)
    · rcases mem_joinChar hc with h | ⟨v, hv', hcv⟩
      · exact hnl h.symm
      · rcases List.mem_append.1 hv' with hv' | hv'
        · exact (colChars_props _ ((colNames_words f hv srid v hv').2 _ hcv)).2.2 rfl
        · exact hh.2 v hv' hcv

theorem writeToFile_explicit (f : CsvFmt) (geo : Bool) (pf : List Tok) (h naf : Nat) (rows : List (Row × List AFVal))
    (srid : Str) (names : List Str)
    (hv : ValidIds f) (hsep : numChar f.sep = false) (hnl : f.sep ≠ '\n') (htime : f.idT ≠ -1 → TimeOK pf f.sep)
    (hrows : ∀ ra ∈ rows, RowOK f geo pf ra.1) (hafs : ∀ ra ∈ rows, ∀ v ∈ ra.2, AFOK f.sep v) :
    writeToFile f geo pf h naf rows srid names
      = .ok ((((if h = 0 then [] else [hdrLine1 srid, hdrLine2, hdrLine3 f srid names])
          ++ rows.map (fun ra => rowLine f geo pf ra.1 ra.2)).map (· ++ ['\n'])).flatten) := by
  unfold writeToFile
  have := Common.mapM_ok_of_forall (f := fun ra : Row × List AFVal => writeRow f geo pf (orderList f naf) ra.1 ra.2)
    (g := fun ra => rowLine f geo pf ra.1 ra.2) (l := rows)
    (fun ra hra => (row_roundtrip_line f geo pf naf ra.1 ra.2 hv hsep hnl htime (hrows ra hra) (hafs ra hra)).1)
  by_cases h0 : h = 0
  · subst h0
    simp only [this, Nat.lt_irrefl, ↓reduceIte, pure, Except.pure, bind, Except.bind]
  · simp only [this, Nat.pos_of_ne_zero h0, h0, ↓reduceIte, headerBlock_eq f hv naf srid names, pure, Except.pure, bind, Except.bind]
    rfl

theorem writeToFile_eq (f : CsvFmt) (geo : Bool) (pf : List Tok) (h naf : Nat) (rows : List (Row × List AFVal))
    (srid : Str) (names : List Str)
    (hv : ValidIds f) (hsep : numChar f.sep = false) (hnl : f.sep ≠ '\n') (htime : f.idT ≠ -1 → TimeOK pf f.sep)
    (hrows : ∀ ra ∈ rows, RowOK f geo pf ra.1) (hafs : ∀ ra ∈ rows, ∀ v ∈ ra.2, AFOK f.sep v) (hh : HdrOK srid names) :
    ∃ hdr, hdr.length = (if h = 0 then 0 else 3) ∧ (∀ l ∈ hdr, '\n' ∉ l ∧ ∃ cs, strip l = '#' :: cs) ∧
    writeToFile f geo pf h naf rows srid names
      = .ok ((hdr ++ rows.map (fun ra => rowLine f geo pf ra.1 ra.2)).map (· ++ ['\n'])).flatten := by
  refine ⟨_, ?_, ?_, writeToFile_explicit f geo pf h naf rows srid names hv hsep hnl htime hrows hafs⟩
  · split <;> rfl
  · intro l hl
    split at hl
    · simp at hl
    · obtain ⟨h1, cs, rfl⟩ := hdrLines_ok f hv hnl srid names hh l hl
      exact ⟨h1, _, strip_hash cs⟩

theorem readLines_data {α : Type} (f : CsvFmt) (rf : List Tok) (line : α → Str) (obs : α → RRow) (xs : List α)
    (h : ∀ x ∈ xs, strip (line x) = line x ∧ (∃ c cs, line x = c :: cs ∧ c ≠ '#') ∧ readRow f rf (line x) = .ok (obs x)) :
    readLines f rf '#' (xs.map line) = .ok (xs.map obs) := by
  induction xs with
  | nil => rfl
  | cons x r ih =>
    obtain ⟨hstrip, ⟨c, cs, hc, hne⟩, hread⟩ := h x (by simp)
    simp only [List.map_cons, readLines, hstrip]
    rw [hc]
    simp only [hne, ↓reduceIte]
    rw [← hc, hread, ih (fun y hy => h y (by simp [hy]))]
    rfl

theorem readLines_skip_comments (f : CsvFmt) (rf : List Tok) (cm ls : List Str)
    (h : ∀ l ∈ cm, ∃ cs, strip l = '#' :: cs) : readLines f rf '#' (cm ++ ls) = readLines f rf '#' ls := by
  induction cm with
  | nil => rfl
  | cons l r ih =>
    obtain ⟨cs, hcs⟩ := h l (by simp)
    simp only [List.cons_append, readLines, hcs, ↓reduceIte]
    exact ih (fun x hx => h x (by simp [hx]))

theorem skipHeader_append (pre ls : List Str) : skipHeader pre.length (pre ++ ls) = .ok ls := by
  induction pre with
  | nil => rfl
  | cons a r ih => simpa [skipHeader] using ih

/-- the reader alone: `header` first lines of any content, any number of comment lines, then lines each of which is one line,
its own `strip()`, no comment, and read by `readRow` as `obs x` — what `row_roundtrip_line` says of a written line -/
theorem readCsv_lines {α : Type} (f : CsvFmt) (rf : List Tok) (line : α → Str) (obs : α → RRow) (xs : List α)
    (h : ∀ x ∈ xs, '\n' ∉ line x ∧ strip (line x) = line x ∧ (∃ c cs, line x = c :: cs ∧ c ≠ '#') ∧
      readRow f rf (line x) = .ok (obs x))
    (pre : List Str) (cm : List Str) (hpre : ∀ l ∈ pre, '\n' ∉ l) (hcm : ∀ l ∈ cm, '\n' ∉ l ∧ ∃ cs, strip l = '#' :: cs) :
    readCsv f rf pre.length (((pre ++ (cm ++ xs.map line)).map (· ++ ['\n'])).flatten) = .ok (xs.map obs) := by
  unfold readCsv
  rw [fileLines_flatten, skipHeader_append]
  · simp only [bind, Except.bind]
    rw [readLines_skip_comments f rf cm _ (fun l hl => (hcm l hl).2)]
    exact readLines_data f rf line obs xs (fun x hx => (h x hx).2)
  · intro l hl
    simp only [List.mem_append, List.mem_map] at hl
    rcases hl with hl | hl | ⟨x, hx, rfl⟩
    · exact hpre l hl
    · exact (hcm l hl).1
    · exact (h x hx).1

/-- reader side of the header option: a file that starts with `header` lines of any content, then any number of
comment lines, then the data lines is read as the observations -/
theorem csv_header_block_roundtrip (f : CsvFmt) (geo : Bool) (pf : List Tok) (naf : Nat) (rows : List (Row × List AFVal))
    (hv : ValidIds f) (hsep : numChar f.sep = false) (hnl : f.sep ≠ '\n') (htime : f.idT ≠ -1 → TimeOK pf f.sep)
    (hrows : ∀ ra ∈ rows, RowOK f geo pf ra.1) (hafs : ∀ ra ∈ rows, ∀ v ∈ ra.2, AFOK f.sep v)
    (pre : List Str) (cm : List Str) (hpre : ∀ l ∈ pre, '\n' ∉ l) (hcm : ∀ l ∈ cm, '\n' ∉ l ∧ ∃ cs, strip l = '#' :: cs) :
    readCsv f pf pre.length (((pre ++ (cm ++ rows.map (fun ra => rowLine f geo pf ra.1 ra.2))).map (· ++ ['\n'])).flatten)
      = .ok (rows.map (fun ra => expRow f geo pf ra.1)) :=
  readCsv_lines f pf _ _ rows
    (fun ra hra => (row_roundtrip_line f geo pf naf ra.1 ra.2 hv hsep hnl htime (hrows ra hra) (hafs ra hra)).2) pre cm hpre hcm

/-- **T2 (file)**: the whole file, with or without the header block, read with any header count up to the number
of header lines written -/
theorem csv_file_roundtrip (f : CsvFmt) (geo : Bool) (pf : List Tok) (h naf : Nat) (rows : List (Row × List AFVal))
    (srid : Str) (names : List Str)
    (hv : ValidIds f) (hsep : numChar f.sep = false) (hnl : f.sep ≠ '\n') (htime : f.idT ≠ -1 → TimeOK pf f.sep)
    (hrows : ∀ ra ∈ rows, RowOK f geo pf ra.1) (hafs : ∀ ra ∈ rows, ∀ v ∈ ra.2, AFOK f.sep v) (hh : HdrOK srid names) :
    ∃ text, writeToFile f geo pf h naf rows srid names = .ok text ∧
      ∀ hr, hr ≤ (if h = 0 then 0 else 3) → readCsv f pf hr text = .ok (rows.map (fun ra => expRow f geo pf ra.1)) := by
  obtain ⟨hdr, hlen, hl, hw⟩ := writeToFile_eq f geo pf h naf rows srid names hv hsep hnl htime hrows hafs hh
  refine ⟨_, hw, ?_⟩
  intro hr hle
  rw [← hlen] at hle
  have hlt : (hdr.take hr).length = hr := by simp [List.length_take, Nat.min_eq_left hle]
  have := csv_header_block_roundtrip f geo pf naf rows hv hsep hnl htime hrows hafs (hdr.take hr) (hdr.drop hr)
    (fun l hm => (hl l (List.mem_of_mem_take hm)).1) (fun l hm => hl l (List.mem_of_mem_drop hm))
  rw [hlt, ← List.append_assoc, List.take_append_drop] at this
  exact this

/-- the front end `writeToCsv(track, path, track_format)`: `writeToFile` without feature columns -/
theorem writeToCsv_roundtrip (f : CsvFmt) (geo : Bool) (pf : List Tok) (h : Nat) (rows : List Row) (srid : Str)
    (hv : ValidIds f) (hsep : numChar f.sep = false) (hnl : f.sep ≠ '\n') (htime : f.idT ≠ -1 → TimeOK pf f.sep)
    (hrows : ∀ r ∈ rows, RowOK f geo pf r) (hsrid : '\n' ∉ srid) :
    ∃ text, writeToCsv f geo pf h rows srid = .ok text ∧
      ∀ hr, hr ≤ (if h = 0 then 0 else 3) → readCsv f pf hr text = .ok (rows.map (expRow f geo pf)) := by
  obtain ⟨text, hw, hr⟩ := csv_file_roundtrip f geo pf h 0 (rows.map (fun r => (r, []))) srid [] hv hsep hnl htime
    (by intro ra hra; obtain ⟨r, hr', rfl⟩ := List.mem_map.1 hra; exact hrows r hr')
    (by intro ra hra v hv'; obtain ⟨r, _, rfl⟩ := List.mem_map.1 hra; simp at hv')
    ⟨hsrid, by simp⟩
  refine ⟨text, hw, fun k hk => ?_⟩
  rw [hr k hk, List.map_map]
  rfl

end TV.TextIO
