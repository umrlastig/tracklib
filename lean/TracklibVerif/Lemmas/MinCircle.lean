import TracklibVerif.Model.MinCircle
import TracklibVerif.Lemmas.Plane
import Mathlib.Algebra.Order.Field.Basic
import Mathlib.Tactic.Ring
import Mathlib.Tactic.FieldSimp
import Mathlib.Tactic.LinearCombination
/-! `minCircle` over an ordered field. The leaf circles of `__welzl` (`__circle` on one, two, three points): each is the smallest
disc containing its points (`base_encloses`, `base_minimal`) — for three points either a circle on two of them (an obtuse angle,
by Thales) or, with no obtuse angle, the circle through the three, whose centre is then a convex combination of them. Runs of
`__welzl`, by its functional induction: the value returned is a leaf circle of at most three of the input points (`welzl_leaf`);
it encloses the input when the early leaf `len(R) == 3` is never met with points left in `P`, in particular on at most three
points (`welzl_encloses_small`). -/
namespace TV.MinCircle
variable {α : Type}

theorem pos_of_not_leaf {P R : List (Pt α)} (h : ¬ (P.isEmpty || R.length == 3) = true) : 0 < P.length := by
  cases P with
  | nil => simp at h
  | cons => simp

theorem length_erase_draw {P R : List (Pt α)} (h : ¬ (P.isEmpty || R.length == 3) = true) (n : Nat) :
    (P.eraseIdx (n % P.length)).length + 1 = P.length := by
  have := pos_of_not_leaf h
  rw [List.length_eraseIdx_of_lt (Nat.mod_lt _ this)]; omega

theorem mem_split_eraseIdx {P : List (Pt α)} {i : Nat} {p q : Pt α} (hp : P[i]? = some p) (hq : q ∈ P) :
    q = p ∨ q ∈ P.eraseIdx i := by
  obtain ⟨j, hj, rfl⟩ := List.getElem_of_mem hq
  by_cases hji : j = i
  · left
    subst hji
    rw [List.getElem?_eq_getElem hj] at hp
    exact Option.some.inj hp
  · right
    exact List.mem_eraseIdx_iff_getElem.mpr ⟨j, hj, hji, rfl⟩

variable [Field α] [LinearOrder α]

def Enc (c : Circ α) (p : Pt α) : Prop := d2 p.x p.y c.cx c.cy ≤ c.r2

theorem enc_of_inside {c : Circ α} {p : Pt α} (h : inside c p = true) : Enc c p :=
  le_of_lt (of_decide_eq_true h)

theorem encloses_iff (c : Circ α) (pts : List (Pt α)) : encloses c pts = true ↔ ∀ p ∈ pts, Enc c p := by
  simp only [encloses, List.all_eq_true, decide_eq_true_eq, Enc]

omit [LinearOrder α] in
theorem circle2_comm (p q : Pt α) : circle2 p q = circle2 q p := by
  unfold circle2
  rw [add_comm q.x, add_comm q.y, show d2 p.x p.y q.x q.y = d2 q.x q.y p.x p.y by unfold d2; ring]

omit [Field α] in
theorem argminR_mem (b : Circ α) (l : List (Circ α)) : argminR b l = b ∨ argminR b l ∈ l := by
  fun_induction argminR b l with
  | case1 => exact .inl rfl
  | case2 b c rest h ih => exact .inr (List.mem_cons.mpr ih)
  | case3 b c rest h ih => exact ih.imp_right (List.mem_cons_of_mem _)

theorem cands3_mem {p1 p2 p3 : Pt α} {c : Circ α} (h : c ∈ cands3 p1 p2 p3) :
    (c = circle2 p1 p2 ∧ inside c p3 = true) ∨ (c = circle2 p2 p3 ∧ inside c p1 = true)
      ∨ (c = circle2 p1 p3 ∧ inside c p2 = true) := by
  simp only [cands3, List.mem_append, List.mem_ite_nil_right, List.mem_singleton, or_assoc] at h
  rcases h with ⟨hi, rfl⟩ | ⟨hi, rfl⟩ | ⟨hi, rfl⟩
  · exact .inl ⟨rfl, hi⟩
  · exact .inr (.inl ⟨rfl, hi⟩)
  · exact .inr (.inr ⟨rfl, hi⟩)

theorem cands3_nil {p1 p2 p3 : Pt α} (h : cands3 p1 p2 p3 = []) :
    inside (circle2 p1 p2) p3 = false ∧ inside (circle2 p2 p3) p1 = false ∧ inside (circle2 p1 p3) p2 = false := by
  unfold cands3 at h
  simp only [List.append_eq_nil_iff, ite_eq_right_iff, List.cons_ne_nil, imp_false, Bool.not_eq_true] at h
  exact ⟨h.1.1, h.1.2, h.2⟩

/-! ### runs of `__welzl` (by the functional induction of `welzl`: leaf, out of fuel, index out of range, the drawn point
inside the recursive answer, outside it, recursive answer not a circle) -/

def FromLeaf (P R : List (Pt α)) (o : Out α) : Prop :=
  ∃ R', o = base R' ∧ ∀ p ∈ R', p ∈ R ∨ p ∈ P

theorem FromLeaf.mono {P P₂ R R₂ : List (Pt α)} {o : Out α} (hR : ∀ q ∈ R₂, q ∈ R ∨ q ∈ P) (hP : ∀ q ∈ P₂, q ∈ P) :
    FromLeaf P₂ R₂ o → FromLeaf P R o
  | ⟨R', e, h⟩ => ⟨R', e, fun p hp => (h p hp).elim (hR p) (fun x => .inr (hP p x))⟩

/-- the boundary list handed to the second recursive call holds `R` and at most the drawn point -/
theorem mem_boundary {eps : α} {p q : Pt α} {R : List (Pt α)}
    (h : q ∈ if R.any (fun q => ptEq eps p q) then R else R ++ [p]) : q ∈ R ∨ q = p := by
  split at h
  · exact .inl h
  · simpa using h

/-- with fuel for every point of `P` the model never runs out of it (each call draws a point that IS in `P` and recurses on one
point fewer), and the answer is a leaf circle -/
theorem welzl_leaf (eps : α) (draw : Nat → Nat) (fuel : Nat) (P R : List (Pt α)) (k : Nat) (hl : P.length ≤ fuel) :
    FromLeaf P R (welzl eps draw fuel P R k).1 := by
  fun_induction welzl eps draw fuel P R k with
  | case1 fuel P R k h => exact ⟨R, rfl, fun p hp => .inl hp⟩
  | case2 P R k h => exact absurd (pos_of_not_leaf h) (by omega)
  | case3 P R k h fuel id hnone =>
    have := Nat.mod_lt (draw k) (pos_of_not_leaf h)
    rw [List.getElem?_eq_none_iff] at hnone
    omega
  | case4 P R k h fuel id p hp P2 D k1 hrec hin ih =>
    have : P2.length + 1 = P.length := length_erase_draw h _
    rw [hrec] at ih
    exact (ih (by omega)).mono (fun q => .inl) (fun q => List.mem_of_mem_eraseIdx)
  | case5 P R k h fuel id p hp P2 D k1 hrec hin ih1 ih2 =>
    have : P2.length + 1 = P.length := length_erase_draw h _
    refine (ih2 (by omega)).mono (fun q hq => (mem_boundary hq).imp_right ?_) (fun q => List.mem_of_mem_eraseIdx)
    rintro rfl; exact List.mem_of_getElem? hp
  | case6 P R k h fuel id p hp P2 hother ih =>
    have : P2.length + 1 = P.length := length_erase_draw h _
    exact (ih (by omega)).mono (fun q => .inl) (fun q => List.mem_of_mem_eraseIdx)

variable [IsStrictOrderedRing α]

theorem circle2_left (p q : Pt α) : d2 p.x p.y (circle2 p q).cx (circle2 p q).cy = (circle2 p q).r2 := by
  simp only [circle2, d2]; ring

theorem circle2_right (p q : Pt α) : d2 q.x q.y (circle2 p q).cx (circle2 p q).cy = (circle2 p q).r2 := by
  simp only [circle2, d2]; ring

theorem circle2_minimal (p q : Pt α) (c : Circ α) (hp : Enc c p) (hq : Enc c q) : (circle2 p q).r2 ≤ c.r2 := by
  have := Plane.sq_dist_le_of_disc hp hq
  simp only [circle2, d2]
  linear_combination (1 / 4 : α) * this

/-- Thales: `r` is strictly inside the circle on the diameter `pq` iff the angle at `r` is obtuse -/
theorem inside_circle2_iff (p q r : Pt α) :
    inside (circle2 p q) r = true ↔ (p.x - r.x) * (q.x - r.x) + (p.y - r.y) * (q.y - r.y) < 0 := by
  rw [inside, decide_eq_true_iff]
  simp only [circle2, d2]
  constructor <;> intro h <;> linear_combination h

/-- the offset `u / (2 D)` of the circumcentre from the first vertex of the triangle `0, b, c` (`D = bx cy − by cx ≠ 0`) is
the solution of `2 b·u = |b|²`, `2 c·u = |c|²` -/
theorem circum_dot {bx by' cx cy : α} (h : bx * cy - cx * by' ≠ 0) :
    bx * bx + by' * by' =
      2 * (bx * ((cy * (bx * bx + by' * by') - by' * (cx * cx + cy * cy)) / (2 * (bx * cy - by' * cx)))
        + by' * ((bx * (cx * cx + cy * cy) - cx * (bx * bx + by' * by')) / (2 * (bx * cy - by' * cx)))) ∧
    cx * cx + cy * cy =
      2 * (cx * ((cy * (bx * bx + by' * by') - by' * (cx * cx + cy * cy)) / (2 * (bx * cy - by' * cx)))
        + cy * ((bx * (cx * cx + cy * cy) - cx * (bx * bx + by' * by')) / (2 * (bx * cy - by' * cx)))) := by
  rw [mul_comm cx by'] at h
  generalize hD : bx * cy - by' * cx = D at h ⊢
  constructor <;> field_simp <;> rw [← hD] <;> ring

/-- `circum p1 p2 p3` is the point `p1 + u` with squared radius `|u|²`, where `u` is characterised by `2 b·u = |b|²`,
`2 c·u = |c|²` (`b = p2 − p1`, `c = p3 − p1`); everything about the circle is derived from these two equations -/
theorem circum_eq (p1 p2 p3 : Pt α) (h : (p2.x - p1.x) * (p3.y - p1.y) - (p3.x - p1.x) * (p2.y - p1.y) ≠ 0) :
    ∃ ux uy, circum p1 p2 p3 = ⟨p1.x + ux, p1.y + uy, ux * ux + uy * uy⟩ ∧
      (p2.x - p1.x) * (p2.x - p1.x) + (p2.y - p1.y) * (p2.y - p1.y) = 2 * ((p2.x - p1.x) * ux + (p2.y - p1.y) * uy) ∧
      (p3.x - p1.x) * (p3.x - p1.x) + (p3.y - p1.y) * (p3.y - p1.y) = 2 * ((p3.x - p1.x) * ux + (p3.y - p1.y) * uy) :=
  ⟨_, _, rfl, circum_dot h⟩

theorem circum_through (p1 p2 p3 : Pt α) (h : (p2.x - p1.x) * (p3.y - p1.y) - (p3.x - p1.x) * (p2.y - p1.y) ≠ 0) :
    d2 p1.x p1.y (circum p1 p2 p3).cx (circum p1 p2 p3).cy = (circum p1 p2 p3).r2
    ∧ d2 p2.x p2.y (circum p1 p2 p3).cx (circum p1 p2 p3).cy = (circum p1 p2 p3).r2
    ∧ d2 p3.x p3.y (circum p1 p2 p3).cx (circum p1 p2 p3).cy = (circum p1 p2 p3).r2 := by
  obtain ⟨ux, uy, e, hb, hc⟩ := circum_eq p1 p2 p3 h
  rw [e]
  simp only [d2]
  exact ⟨by ring, by linear_combination hb, by linear_combination hc⟩

theorem d2_eq_zero {ax ay bx by' : α} (h : d2 ax ay bx by' = 0) : bx = ax ∧ by' = ay :=
  (mul_self_add_mul_self_eq_zero.mp h).imp sub_eq_zero.mp sub_eq_zero.mp

theorem cands3_minimal_enclosing {p1 p2 p3 : Pt α} {c : Circ α} (h : c ∈ cands3 p1 p2 p3) :
    Enc c p1 ∧ Enc c p2 ∧ Enc c p3 ∧ ∀ c' : Circ α, Enc c' p1 → Enc c' p2 → Enc c' p3 → c.r2 ≤ c'.r2 := by
  rcases cands3_mem h with ⟨rfl, hi⟩ | ⟨rfl, hi⟩ | ⟨rfl, hi⟩
  · exact ⟨le_of_eq (circle2_left _ _), le_of_eq (circle2_right _ _), enc_of_inside hi, fun c' h1 h2 _ => circle2_minimal _ _ c' h1 h2⟩
  · exact ⟨enc_of_inside hi, le_of_eq (circle2_left _ _), le_of_eq (circle2_right _ _), fun c' _ h2 h3 => circle2_minimal _ _ c' h2 h3⟩
  · exact ⟨le_of_eq (circle2_left _ _), enc_of_inside hi, le_of_eq (circle2_right _ _), fun c' h1 _ h3 => circle2_minimal _ _ c' h1 h3⟩

theorem circum_minimal (p1 p2 p3 : Pt α) (hdet : (p2.x - p1.x) * (p3.y - p1.y) - (p3.x - p1.x) * (p2.y - p1.y) ≠ 0)
    (hnil : cands3 p1 p2 p3 = []) (c' : Circ α) (h1 : Enc c' p1) (h2 : Enc c' p2) (h3 : Enc c' p3) :
    (circum p1 p2 p3).r2 ≤ c'.r2 := by
  obtain ⟨ux, uy, e, hb, hc⟩ := circum_eq p1 p2 p3 hdet
  -- no candidate = no obtuse angle (Thales)
  obtain ⟨i12, i23, i13⟩ := cands3_nil hnil
  rw [Bool.eq_false_iff, Ne, inside_circle2_iff, not_lt] at i12 i23 i13
  simp only [Enc, d2] at h1 h2 h3
  rw [e]
  refine Plane.circumradius_le_of_acute (wx := c'.cx - p1.x) (wy := c'.cy - p1.y) ?_ hb hc
    i23 (by linear_combination i13) (by linear_combination i12) h1 (by linear_combination h2) (by linear_combination h3)
  rwa [mul_comm (p2.y - p1.y)]

/-- `__circle(p1, p2, p3)`: `None` exactly for collinear points; never the perturbation branch; otherwise a circle that
encloses the three points — a candidate (minimal for the three points) or the circle THROUGH the three points -/
theorem circle3_spec (p1 p2 p3 : Pt α) :
    ((p2.x - p1.x) * (p3.y - p1.y) - (p3.x - p1.x) * (p2.y - p1.y) = 0 ∧ circle3 p1 p2 p3 = .none) ∨
    ((p2.x - p1.x) * (p3.y - p1.y) - (p3.x - p1.x) * (p2.y - p1.y) ≠ 0 ∧
      ∃ c, circle3 p1 p2 p3 = .circ c ∧
        ((c ∈ cands3 p1 p2 p3) ∨ (cands3 p1 p2 p3 = [] ∧ c = circum p1 p2 p3 ∧
          d2 p1.x p1.y c.cx c.cy = c.r2 ∧ d2 p2.x p2.y c.cx c.cy = c.r2 ∧ d2 p3.x p3.y c.cx c.cy = c.r2))) := by
  have hcol : collinear p1 p2 p3 = true ↔ (p2.x - p1.x) * (p3.y - p1.y) - (p3.x - p1.x) * (p2.y - p1.y) = 0 := decide_eq_true_iff
  fun_cases circle3 p1 p2 p3 with
  | case1 h => exact .inl ⟨hcol.mp h, rfl⟩
  | case2 h hdeg =>
    -- two coinciding points make the determinant vanish: the perturbation branch is never reached
    refine absurd (hcol.mpr ?_) h
    rcases hdeg with e | e | e
    · obtain ⟨a, b⟩ := d2_eq_zero e; rw [a, b]; ring
    · obtain ⟨a, b⟩ := d2_eq_zero e; rw [a, b]; ring
    · obtain ⟨a, b⟩ := d2_eq_zero e; rw [a, b]; ring
  | case3 h hdeg c rest hc =>
    refine .inr ⟨mt hcol.mpr h, _, rfl, .inl ?_⟩
    rw [hc]
    rcases argminR_mem c (c :: rest) with e | e
    · rw [e]; exact List.mem_cons_self
    · exact e
  | case4 h hdeg hc => exact .inr ⟨mt hcol.mpr h, _, rfl, .inr ⟨hc, rfl, circum_through _ _ _ (mt hcol.mpr h)⟩⟩

theorem circle3_minimal_enclosing {p1 p2 p3 : Pt α} {c : Circ α} (h : circle3 p1 p2 p3 = .circ c) :
    Enc c p1 ∧ Enc c p2 ∧ Enc c p3 ∧ ∀ c' : Circ α, Enc c' p1 → Enc c' p2 → Enc c' p3 → c.r2 ≤ c'.r2 := by
  rcases circle3_spec p1 p2 p3 with ⟨_, hn⟩ | ⟨hd, c0, hc0, hh⟩
  · rw [hn] at h; cases h
  · rw [hc0] at h; cases h
    rcases hh with hm | ⟨hnil, rfl, a, b, d⟩
    · exact cands3_minimal_enclosing hm
    · exact ⟨le_of_eq a, le_of_eq b, le_of_eq d, circum_minimal p1 p2 p3 hd hnil⟩

theorem base_encloses {R : List (Pt α)} {c : Circ α} (h : base R = .circ c) : ∀ p ∈ R.take 3, Enc c p := by
  match R, h with
  | [], _ => nofun
  | [a], h =>
    cases h
    simp only [List.take, List.mem_singleton, forall_eq, Enc, circle1, d2, sub_self, mul_zero, add_zero, le_refl]
  | [a, b], h =>
    cases h
    simp only [List.take, List.mem_cons, List.not_mem_nil, or_false, forall_eq_or_imp, forall_eq, Enc, circle2_left,
      circle2_right, le_refl, and_self]
  | a :: b :: d :: rest, h =>
    obtain ⟨e1, e2, e3, _⟩ := circle3_minimal_enclosing h
    simpa only [List.take, List.mem_cons, List.not_mem_nil, or_false, forall_eq_or_imp, forall_eq] using And.intro e1 ⟨e2, e3⟩

theorem base_minimal {R : List (Pt α)} {c : Circ α} (h : base R = .circ c) (c' : Circ α) (h0 : 0 ≤ c'.r2)
    (hc' : ∀ p ∈ R.take 3, Enc c' p) : c.r2 ≤ c'.r2 := by
  match R, h, hc' with
  | [], h, _ => cases h; exact h0
  | [a], h, _ => cases h; exact h0
  | [a, b], h, hc' =>
    cases h
    exact circle2_minimal a b c' (hc' a (by simp)) (hc' b (by simp))
  | a :: b :: d :: rest, h, hc' =>
    exact (circle3_minimal_enclosing h).2.2.2 c' (hc' a (by simp)) (hc' b (by simp)) (hc' d (by simp))

/-- a leaf is `None` — on three collinear points — or a circle: never a perturbation branch, never out of fuel -/
theorem base_cases (R : List (Pt α)) :
    (base R = .none ∧ ∃ a b d rest, R = a :: b :: d :: rest ∧
        (b.x - a.x) * (d.y - a.y) - (d.x - a.x) * (b.y - a.y) = 0) ∨ ∃ c, base R = .circ c := by
  match R with
  | [] | [a] | [a, b] => exact .inr ⟨_, rfl⟩
  | a :: b :: d :: rest =>
    rcases circle3_spec a b d with ⟨h0, h⟩ | ⟨_, c, h, _⟩
    · exact .inl ⟨h, a, b, d, rest, rfl, h0⟩
    · exact .inr ⟨c, h⟩

theorem inside_zero (c : Circ α) (h : c.r2 = 0) (q : Pt α) : inside c q = false := by
  unfold inside
  apply decide_eq_false
  rw [not_lt, h]
  unfold d2
  exact add_nonneg (mul_self_nonneg _) (mul_self_nonneg _)

theorem mincircle_single (eps : α) (draw : Nat → Nat) (p : Pt α) :
    (minCircleOfPoints eps draw [p]).1 = .circ (circle1 p) := by
  have h0 := inside_zero (⟨0, 0, 0⟩ : Circ α) rfl p
  simp [minCircleOfPoints, welzl, base, h0, Nat.mod_one]

/-- whichever of the two fixes is drawn first, the other one ends the run on the circle on their diameter -/
theorem mincircle_pair_eq (eps : α) (draw : Nat → Nat) (p q : Pt α) (hne : ptEq eps p q = false) (hne' : ptEq eps q p = false) :
    (minCircleOfPoints eps draw [p, q]).1 = .circ (circle2 p q) := by
  have h0 : ∀ r : Pt α, inside (⟨0, 0, 0⟩ : Circ α) r = false := fun r => inside_zero _ rfl r
  have h1 : ∀ a r : Pt α, inside (circle1 a) r = false := fun a r => inside_zero _ rfl r
  rcases Nat.mod_two_eq_zero_or_one (draw 0) with h | h
  · simp [minCircleOfPoints, welzl, base, h0, h, h1, hne', Nat.mod_one]
  · rw [circle2_comm]
    simp [minCircleOfPoints, welzl, base, h0, h, h1, hne, Nat.mod_one]

/-- the two-fix answer read as "the circle on the diameter, whichever fix is drawn first"; by `circle2_comm` both disjuncts name one
circle, `mincircle_pair_eq` -/
theorem mincircle_pair (eps : α) (draw : Nat → Nat) (p q : Pt α) (hne : ptEq eps p q = false) (hne' : ptEq eps q p = false) :
    (minCircleOfPoints eps draw [p, q]).1 = .circ (circle2 p q) ∨ (minCircleOfPoints eps draw [p, q]).1 = .circ (circle2 q p) :=
  .inl (mincircle_pair_eq eps draw p q hne hne')

/-- with at most three points in `P` and `R` together, and `ENUCoords.__eq__` telling apart any two different points involved,
a circle returned by `__welzl(P, R)` encloses every point of `R` and of `P` -/
theorem welzl_encloses_small (eps : α) (draw : Nat → Nat) (S : List (Pt α))
    (hsep : ∀ p ∈ S, ∀ q ∈ S, ptEq eps p q = true → p = q) (fuel : Nat) (P R : List (Pt α)) (k : Nat) (c : Circ α)
    (hlen : R.length + P.length ≤ 3) (hPS : ∀ p ∈ P, p ∈ S) (hRS : ∀ p ∈ R, p ∈ S)
    (h : (welzl eps draw fuel P R k).1 = .circ c) : (∀ p ∈ R, Enc c p) ∧ (∀ p ∈ P, Enc c p) := by
  fun_induction welzl eps draw fuel P R k with
  | case1 fuel P R k hleaf =>
    have hP : P = [] := by
      rcases Bool.or_eq_true _ _ |>.mp hleaf with h1 | h1
      · exact List.isEmpty_iff.mp h1
      · have : R.length = 3 := by simpa using h1
        exact List.eq_nil_of_length_eq_zero (by omega)
    subst hP
    exact ⟨fun p hp => base_encloses h p (by rwa [List.take_of_length_le (by omega)]), fun p hp => by cases hp⟩
  | case2 | case3 => cases h
  | case4 P R k hleaf fuel id p hp P2 D k1 hrec hin ih =>
    cases h
    have hl : P2.length + 1 = P.length := length_erase_draw hleaf _
    obtain ⟨ihR, ihP⟩ := ih (by omega) (fun a ha => hPS a (List.mem_of_mem_eraseIdx ha)) hRS (by rw [hrec])
    exact ⟨ihR, fun q hq => (mem_split_eraseIdx hp hq).elim (fun e => e ▸ enc_of_inside hin) (ihP q)⟩
  | case5 P R k hleaf fuel id p hp P2 D k1 hrec hin ih1 ih2 =>
    have hl : P2.length + 1 = P.length := length_erase_draw hleaf _
    have hpS : p ∈ S := hPS p (List.mem_of_getElem? hp)
    -- the new boundary list holds `R` and the drawn point: when `p in R` holds, the point found equal to `p` IS `p`
    have hsub : ∀ q ∈ R, q ∈ if R.any (fun q => ptEq eps p q) then R else R ++ [p] := fun q hq => by
      split
      · exact hq
      · exact List.mem_append_left _ hq
    have hself : p ∈ if R.any (fun q => ptEq eps p q) then R else R ++ [p] := by
      split
      · rename_i hany
        obtain ⟨q, hqR, hpq⟩ := List.any_eq_true.mp hany
        exact hsep p hpS q (hRS q hqR) hpq ▸ hqR
      · exact List.mem_append_right _ (List.mem_singleton.mpr rfl)
    have hbl : (if R.any (fun q => ptEq eps p q) then R else R ++ [p]).length ≤ R.length + 1 := by split <;> simp
    obtain ⟨ihR, ihP⟩ := ih2 (by omega) (fun a ha => hPS a (List.mem_of_mem_eraseIdx ha))
      (fun b hb => (mem_boundary hb).elim (hRS b) (fun e => e ▸ hpS)) h
    exact ⟨fun q hq => ihR q (hsub q hq), fun q hq => (mem_split_eraseIdx hp hq).elim (fun e => e ▸ ihR p hself) (ihP q)⟩
  | case6 P R k hleaf fuel id p hp P2 hother ih =>
    rcases hw : welzl eps draw fuel P2 R (k + 1) with ⟨o, k1⟩
    rw [hw] at h
    exact absurd (h ▸ hw) (hother c k1)

end TV.MinCircle
