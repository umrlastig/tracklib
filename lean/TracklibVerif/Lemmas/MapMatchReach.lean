import TracklibVerif.Lemmas.MapMatchCompose
import TracklibVerif.Props.C08Search
/-! Helper lemmas for C10, completeness of the candidates: the unit `__mapOnNetwork` derives
(`math.ceil(search_radius / min(csize, lsize))`, `csize` / `lsize` the NUMBERS of cells) characterised as a ceiling. -/
namespace TV.MapMatch
open TV.Grid
variable {α : Type} [Field α] [LinearOrder α] [IsStrictOrderedRing α]

/-- `math.ceil x = -floor(-x)` is the integer `U` with `U - 1 < x ≤ U` -/
theorem ceil_spec {fl : α → Int} (hf : IsFloor fl) (x : α) :
    x ≤ ((-(fl (-x)) : Int) : α) ∧ ((-(fl (-x)) : Int) : α) - 1 < x := by
  obtain ⟨h1, h2⟩ := hf (-x)
  rw [Int.cast_neg]
  exact ⟨le_neg_of_le_neg h1, by rw [← neg_add']; exact neg_lt.mpr h2⟩

theorem searchUnit_spec {fl : α → Int} (hf : IsFloor fl) (ix : Index α) (hc : 1 ≤ ix.csize) (hl : 1 ≤ ix.lsize)
    (radius : α) :
    ∃ U : Int, searchUnit fl radius ix = .ok U ∧
      radius ≤ ((U : Int) : α) * ((min ix.csize ix.lsize : Int) : α) ∧
      (((U : Int) : α) - 1) * ((min ix.csize ix.lsize : Int) : α) < radius ∧ (0 ≤ radius → 0 ≤ U) := by
  -- the code's `min` is the model's `if`; name it `m`
  obtain ⟨m, hm, hmin⟩ : ∃ m : Int, (if ix.lsize < ix.csize then ix.lsize else ix.csize) = m ∧ min ix.csize ix.lsize = m :=
    ⟨_, rfl, by rw [min_def]; split_ifs <;> omega⟩
  have hpos : (1 : Int) ≤ m := hmin ▸ le_min hc hl
  have hposα : (0 : α) < ((m : Int) : α) := Int.cast_pos.mpr (by omega)
  obtain ⟨h1, h2⟩ := ceil_spec hf (radius / ((m : Int) : α))
  refine ⟨-(fl (-(radius / ((m : Int) : α)))), ?_, ?_, ?_, fun hr => ?_⟩
  · unfold searchUnit
    simp only [hm, show (m == 0) = false from beq_false_of_ne (by omega), Bool.false_eq_true, if_false]
  · rw [hmin]; exact (div_le_iff₀ hposα).mp h1
  · rw [hmin]; exact (lt_div_iff₀ hposα).mp h2
  · exact Int.cast_nonneg_iff.mp (le_trans (div_nonneg hr (le_of_lt hposα)) h1)

end TV.MapMatch
