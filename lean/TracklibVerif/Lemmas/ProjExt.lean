import TracklibVerif.Lemmas.Proj
import TracklibVerif.Lemmas.ProjSentinel
/-! Helper lemmas for the front ends of C20 (`Model/Proj.lean`, second part) over a field with a linear order (for the
tests of the code): the numpy argument form where `b ≠ 0` (`footG_of_ne`), a `Yp` shorter than `Xp` (`polyLoopXY_short`), and the vertices of
skipped zero-length segments (`vertices_of_live`). The two-sequence loop against the vertex-list loop is in
`Lemmas/ProjSentinel.lean` (`polyLoopXY_zip`, bare operation classes). -/
namespace TV.Proj
variable {α : Type} [Field α] [LinearOrder α]

theorem footG_of_ne (np : Bool) (sqrt : α → α) (a b c x y : α) (hb : b ≠ 0) :
    footG np sqrt a b c x y = foot sqrt a b c x y := by
  unfold footG foot
  simp only [isZero_false b hb, Bool.and_false]

theorem polyLoopXY_short (np : Bool) (sqrt : α → α) (eps x y : α) (X Y : List α) (i : Nat)
    (cur res : Option (α × α × α × Nat)) (h2 : 2 ≤ X.length) (hl : Y.length < X.length) :
    polyLoopXY np sqrt eps x y X Y i cur ≠ .ok res := by
  fun_induction polyLoopXY np sqrt eps x y X Y i cur with
  | case1 | case2 => simp at h2
  | case3 x1 x2 xs i cur y1 y2 ys hsk ih | case5 x1 x2 xs i cur y1 y2 ys hsk r hp cur' ih =>
    simp only [List.length_cons] at hl h2 ih
    exact ih (by omega) (by omega)
  | case4 | case6 => exact nofun

theorem vertices_of_live (eps : α) (pts : List (α × α)) (bound : α × α → Prop) (i : Nat) (pi : α × α)
    (hz : ∀ j p1 p2, pts[j]? = some p1 → pts[j + 1]? = some p2 → skipped eps p1.1 p1.2 p2.1 p2.2 = true → p1 = p2)
    (hlive : ∀ j p1 p2, pts[j]? = some p1 → pts[j + 1]? = some p2 → skipped eps p1.1 p1.2 p2.1 p2.2 = false →
      bound p1 ∧ bound p2)
    (hpi : pts[i]? = some pi) (hi : bound pi) :
    ∀ (v : Nat) (p : α × α), pts[v]? = some p → bound p := by
  -- `bound` holds at both ends of a segment or at neither, hence at any two vertices or at neither
  have adj : ∀ j p1 p2, pts[j]? = some p1 → pts[j + 1]? = some p2 → (bound p1 ↔ bound p2) := by
    intro j p1 p2 h1 h2
    cases hsk : skipped eps p1.1 p1.2 p2.1 p2.2 with
    | true => rw [hz j p1 p2 h1 h2 hsk]
    | false => exact iff_of_true (hlive j p1 p2 h1 h2 hsk).1 (hlive j p1 p2 h1 h2 hsk).2
  have all : ∀ (u v : Nat) a b, u ≤ v → pts[u]? = some a → pts[v]? = some b → (bound a ↔ bound b) := by
    intro u v a b h ha hb
    induction v, h using Nat.le_induction generalizing b with
    | base => rw [ha] at hb; cases hb; rfl
    | succ n _ ih =>
      have hn := List.getElem?_eq_getElem (Nat.lt_of_succ_lt (List.getElem?_eq_some_iff.mp hb).1)
      exact (ih _ hn).trans (adj n _ b hn hb)
  intro v p hp
  rcases Nat.le_total i v with h | h
  · exact (all i v pi p h hpi hp).mp hi
  · exact (all v i p pi h hp hpi).mpr hi

end TV.Proj
