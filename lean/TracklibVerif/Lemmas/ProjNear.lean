import TracklibVerif.Lemmas.Proj
import Mathlib.Algebra.Order.Ring.Abs
/-! Helper lemmas for C20: a point close (in the `|dx| + |dy|` sense of `proj_polyligne`'s zero-length test) to a vertex
is almost as far from the query as that vertex — what is needed to bound the error made by skipping a segment of
non-zero length `< eps` (the code's `1e-16`), and a run of `r` consecutive such segments (`run_near`: `r · eps`). Ordered field,
`sqrt` by its contract; the triangle inequality itself divides nowhere and is stated over an ordered commutative ring. -/
namespace TV.Proj

section OrderedRing
variable {α : Type} [CommRing α] [LinearOrder α] [IsStrictOrderedRing α]

/-- Cauchy–Schwarz in the plane -/
theorem dot_sq_le (a b c d : α) : (a * c + b * d) * (a * c + b * d) ≤ (a * a + b * b) * (c * c + d * d) := by
  linarith [mul_self_nonneg (a * d - b * c)]

theorem sq_add_sq_le_abs (c d : α) : c * c + d * d ≤ (|c| + |d|) * (|c| + |d|) := by
  linarith [abs_mul_abs_self c, abs_mul_abs_self d, mul_nonneg (abs_nonneg c) (abs_nonneg d)]

/-- the triangle inequality `|u + w| ≤ |u| + |w|₁` on squares: `d ≤ |u + w|`, `e = |u|`, `|w|₁ ≤ δ` give `d ≤ e + δ` -/
theorem le_add_of_sq_le (u1 u2 w1 w2 d e δ : α) (hd : 0 ≤ d) (he : 0 ≤ e)
    (hv : d * d ≤ (u1 + w1) * (u1 + w1) + (u2 + w2) * (u2 + w2)) (hee : e * e = u1 * u1 + u2 * u2)
    (hn : |w1| + |w2| ≤ δ) : d ≤ e + δ := by
  have hw0 := add_nonneg (abs_nonneg w1) (abs_nonneg w2)
  have hδ : 0 ≤ δ := hw0.trans hn
  have hw : w1 * w1 + w2 * w2 ≤ δ * δ := (sq_add_sq_le_abs w1 w2).trans (mul_self_le_mul_self hw0 hn)
  -- `u · w ≤ e δ`, from `(u · w)² ≤ |u|² |w|² ≤ (e δ)²`
  have hs : u1 * w1 + u2 * w2 ≤ e * δ := by
    refine le_of_not_gt fun h => ?_
    have h1 := mul_self_lt_mul_self (mul_nonneg he hδ) h
    have h2 := dot_sq_le u1 u2 w1 w2
    rw [← hee] at h2
    have h3 := mul_le_mul_of_nonneg_left hw (mul_self_nonneg e)
    linarith
  rw [mul_self_le_mul_self_iff hd (add_nonneg he hδ)]
  linarith

end OrderedRing

variable {α : Type} [Field α] [LinearOrder α] [IsStrictOrderedRing α]

theorem near_vertex_bound (x y vx vy qx qy d e δ : α) (hd : 0 ≤ d) (he : 0 ≤ e)
    (hv : d * d ≤ d2 x y vx vy) (hee : e * e = d2 x y qx qy) (hn : |qx - vx| + |qy - vy| ≤ δ) : d ≤ e + δ :=
  le_add_of_sq_le (x - qx) (y - qy) (qx - vx) (qy - vy) d e δ hd he (hv.trans_eq (by unfold d2; ring)) hee hn

theorem skipped_iff (eps x1 y1 x2 y2 : α) : skipped eps x1 y1 x2 y2 = true ↔ |x1 - x2| + |y1 - y2| < eps := by
  rw [skipped, decide_eq_true_iff, fabs_eq_abs, fabs_eq_abs]

theorem abs_mul_le_of_le_one (t w : α) (t0 : 0 ≤ t) (t1 : t ≤ 1) : |t * w| ≤ |w| := by
  rw [abs_mul, abs_of_nonneg t0]
  exact mul_le_of_le_one_left (abs_nonneg w) t1

theorem onSeg_near_left {x1 y1 x2 y2 qx qy : α} (h : OnSeg x1 y1 x2 y2 qx qy) :
    |qx - x1| + |qy - y1| ≤ |x2 - x1| + |y2 - y1| := by
  obtain ⟨t, t0, t1, e1, e2⟩ := h
  rw [e1, e2, add_sub_cancel_left, add_sub_cancel_left]
  exact add_le_add (abs_mul_le_of_le_one t _ t0 t1) (abs_mul_le_of_le_one t _ t0 t1)

theorem skipped_near_left {eps x1 y1 x2 y2 qx qy : α} (hk : skipped eps x1 y1 x2 y2 = true)
    (h : OnSeg x1 y1 x2 y2 qx qy) : |qx - x1| + |qy - y1| < eps := by
  rw [skipped_iff, abs_sub_comm x1, abs_sub_comm y1] at hk
  exact (onSeg_near_left h).trans_lt hk

theorem skipped_near_right {eps x1 y1 x2 y2 qx qy : α} (hk : skipped eps x1 y1 x2 y2 = true)
    (h : OnSeg x1 y1 x2 y2 qx qy) : |qx - x2| + |qy - y2| < eps :=
  (onSeg_near_left h.symm).trans_lt ((skipped_iff ..).mp hk)

theorem run_near (eps : α) (pts : List (α × α)) (v : Nat) :
    ∀ (r : Nat) (pv pw : α × α), pts[v]? = some pv → pts[v + r]? = some pw →
      (∀ t, t < r → ∀ a b, pts[v + t]? = some a → pts[v + t + 1]? = some b → skipped eps a.1 a.2 b.1 b.2 = true) →
      |pw.1 - pv.1| + |pw.2 - pv.2| ≤ (r : α) * eps := by
  intro r
  induction r with
  | zero =>
    intro pv pw h1 h2 _
    rw [Nat.add_zero, h1] at h2
    cases h2
    simp
  | succ r ih =>
    intro pv pw h1 h2 hrun
    obtain ⟨m, hm⟩ : ∃ m, pts[v + r]? = some m :=
      ⟨_, List.getElem?_eq_getElem (Nat.lt_of_succ_lt (List.getElem?_eq_some_iff.mp h2).1)⟩
    have i1 := ih pv m h1 hm fun t ht => hrun t (Nat.lt_succ_of_lt ht)
    have sk := skipped_near_left (hrun r (Nat.lt_succ_self r) m pw hm h2) (OnSeg.right ..)
    have t1 := abs_sub_le pw.1 m.1 pv.1
    have t2 := abs_sub_le pw.2 m.2 pv.2
    push_cast
    linarith

theorem run_near_fwd (eps : α) (pts : List (α × α)) (v r : Nat) (pv : α × α) (hv : pts[v]? = some pv)
    (hrun : ∀ t, t < r → ∀ a b, pts[v + t]? = some a → pts[v + t + 1]? = some b → skipped eps a.1 a.2 b.1 b.2 = true)
    (t : Nat) (ht : t < r) (a b : α × α) (ha : pts[v + t]? = some a) (hb : pts[v + t + 1]? = some b)
    (qx qy : α) (hq : OnSeg a.1 a.2 b.1 b.2 qx qy) : |qx - pv.1| + |qy - pv.2| ≤ ((t + 1 : Nat) : α) * eps := by
  have hr := run_near eps pts v t pv a hv ha fun s hs => hrun s (hs.trans ht)
  have hn := skipped_near_left (hrun t ht a b ha hb) hq
  have t1 := abs_sub_le qx a.1 pv.1
  have t2 := abs_sub_le qy a.2 pv.2
  push_cast
  linarith

theorem run_near_back (eps : α) (pts : List (α × α)) (w r : Nat) (pv : α × α) (hv : pts[w + r]? = some pv)
    (hrun : ∀ t, t < r → ∀ a b, pts[w + t]? = some a → pts[w + t + 1]? = some b → skipped eps a.1 a.2 b.1 b.2 = true)
    (t : Nat) (ht : t < r) (a b : α × α) (ha : pts[w + t]? = some a) (hb : pts[w + t + 1]? = some b)
    (qx qy : α) (hq : OnSeg a.1 a.2 b.1 b.2 qx qy) : |qx - pv.1| + |qy - pv.2| ≤ ((r - t : Nat) : α) * eps := by
  have hr := run_near eps pts (w + t + 1) (r - t - 1) b pv hb (by rwa [show w + t + 1 + (r - t - 1) = w + r by omega])
    fun s hs a' b' ha' hb' => hrun (t + 1 + s) (by omega) a' b'
      (by rwa [show w + (t + 1 + s) = w + t + 1 + s by omega])
      (by rwa [show w + (t + 1 + s) + 1 = w + t + 1 + s + 1 by omega])
  have hn := skipped_near_right (hrun t ht a b ha hb) hq
  have t1 := abs_sub_le qx b.1 pv.1
  have t2 := abs_sub_le qy b.2 pv.2
  rw [abs_sub_comm b.1] at t1
  rw [abs_sub_comm b.2] at t2
  rw [show r - t = r - t - 1 + 1 by omega]
  push_cast
  linarith

end TV.Proj
