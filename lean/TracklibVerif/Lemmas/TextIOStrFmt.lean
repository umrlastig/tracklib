import TracklibVerif.Lemmas.TextIODigits
/-! The string-level algorithms of `ObsTime.__str__` and `ObsTime.__precompileReadFmt` (find / replace loops on the format
STRING) and their equivalence with the token-level model (`printTime`, `findCode` over `tokenize fmt`) for formats whose
literal characters are not code letters (core only).

What is assumed of Python's strings: `s.find(p)` for a two-character `p` is the index of the first position where the two
characters of `p` follow each other (`find2`), `-1` when there is none; `chaine[:id] + new + chaine[id+2:]` is `splice2`;
`"{:0wd}".format(v)` is `zpad w v`. The last loop of `__str__` (removal of backslashes) does nothing on a format without a
backslash and is not part of `strAlgo`. -/
namespace TV.TextIO
open TV.ObsTime

/-- `s.find(a + b)`: index of the first occurrence of the two-character string -/
def find2 (a b : Char) : Str → Option Nat
  | [] => none
  | x :: r => if x = a ∧ r.head? = some b then some 0 else (find2 a b r).map (· + 1)

/-- `chaine[:id] + new + chaine[id + 2:]` (`ObsTime.__replace` with length 2) -/
def splice2 (s : Str) (i : Nat) (new : Str) : Str := s.take i ++ new ++ s.drop (i + 2)

/-- `index = output.find(code); while index >= 0: output = replace(output, index, 2, new); index = output.find(code)` -/
def substCode : Nat → Char → Char → Str → Str → Str
  | 0, _, _, _, s => s
  | fuel + 1, a, b, new, s =>
    match find2 a b s with
    | none => s
    | some i => substCode fuel a b new (splice2 s i new)

/-- the loop of `ObsTime.__str__` over `__codes` on the format string (the fuel `output.length` is more than the number of
iterations of the `while` loop) -/
def strAlgo (fmt : Str) (t : Stamp) : Str :=
  codes.foldl (fun out c => substCode out.length (digitChar c.1) c.2 (zpad c.1 (fieldVal t c.1 c.2)) out) fmt

/-- the loop of `__precompileReadFmt` that fills the list (no `*` in the format): `format.find(code)` for every code -/
def precompileStr (fmt : Str) : List ((Nat × Char) × Nat) :=
  applyShift (sortByIdx (codes.filterMap (fun c => (find2 (digitChar c.1) c.2 fmt).map (fun i => (c, i))))) 0

def isCodeLetter (c : Char) : Bool := c = 'D' || c = 'M' || c = 'Y' || c = 'h' || c = 'm' || c = 's' || c = 'z'

inductive Seg where
  | done (s : Str)
  | todo (w : Nat) (l : Char)
  deriving DecidableEq

def Seg.str : Seg → Str
  | .done s => s
  | .todo w l => [digitChar w, l]

def segStr (ss : List Seg) : Str := (ss.map Seg.str).flatten

def SegOK : Seg → Prop
  | .done s => ∀ c ∈ s, isCodeLetter c = false
  | .todo w l => (w, l) ∈ codes

theorem codes_letter {w : Nat} {l : Char} (h : (w, l) ∈ codes) :
    isCodeLetter l = true ∧ isCodeLetter (digitChar w) = false ∧ w ≤ 4 := by
  simp only [codes, List.mem_cons, Prod.mk.injEq, List.not_mem_nil, or_false] at h
  rcases h with ⟨rfl, rfl⟩ | ⟨rfl, rfl⟩ | ⟨rfl, rfl⟩ | ⟨rfl, rfl⟩ | ⟨rfl, rfl⟩ | ⟨rfl, rfl⟩ | ⟨rfl, rfl⟩ | ⟨rfl, rfl⟩ | ⟨rfl, rfl⟩ |
    ⟨rfl, rfl⟩ | ⟨rfl, rfl⟩ | ⟨rfl, rfl⟩ | ⟨rfl, rfl⟩ | ⟨rfl, rfl⟩ | ⟨rfl, rfl⟩ <;> decide

theorem digitChar_inj {w w' : Nat} (h1 : w ≤ 4) (h2 : w' ≤ 4) (h : digitChar w = digitChar w') : w = w' := by
  have : ∀ a b : Fin 5, digitChar a.1 = digitChar b.1 → a = b := by decide
  have := this ⟨w, by omega⟩ ⟨w', by omega⟩ h
  exact Fin.mk.inj this

theorem segStr_cons (a : Seg) (r : List Seg) : segStr (a :: r) = a.str ++ segStr r := rfl

/-- a string of segments never STARTS with a code letter (a letter is always the second character of a pending code) -/
theorem segStr_head (ss : List Seg) (h : ∀ s ∈ ss, SegOK s) : ∀ c, (segStr ss).head? = some c → isCodeLetter c = false := by
  induction ss with
  | nil => intro c hc; simp [segStr] at hc
  | cons a r ih =>
    intro c hc
    rw [segStr_cons] at hc
    cases a with
    | todo w l =>
      simp only [Seg.str, List.cons_append, List.head?_cons, Option.some.injEq] at hc
      subst hc
      have hs : SegOK (.todo w l) := h _ (by simp)
      exact (codes_letter hs).2.1
    | done s =>
      cases s with
      | nil => exact ih (fun s hs => h s (by simp [hs])) c (by simpa [Seg.str] using hc)
      | cons x s' =>
        simp only [Seg.str, List.cons_append, List.head?_cons, Option.some.injEq] at hc
        subst hc
        exact h (.done (x :: s')) (by simp) x (by simp)

/-- offset of the first pending occurrence of the code `(w, l)` -/
def firstTodo (w : Nat) (l : Char) : List Seg → Option Nat
  | [] => none
  | .done s :: r => (firstTodo w l r).map (· + s.length)
  | .todo w' l' :: r => if w' = w ∧ l' = l then some 0 else (firstTodo w l r).map (· + 2)

theorem find2_done (a b : Char) (hb : isCodeLetter b = true) (s : Str) (R : Str)
    (hs : ∀ c ∈ s, isCodeLetter c = false) (hR : ∀ c, R.head? = some c → isCodeLetter c = false) :
    find2 a b (s ++ R) = (find2 a b R).map (· + s.length) := by
  induction s with
  | nil => simp
  | cons x s' ih =>
    have hhead : (s' ++ R).head? ≠ some b := by
      intro e
      cases s' with
      | nil => simp only [List.nil_append] at e; have := hR b e; rw [hb] at this; exact absurd this (by decide)
      | cons y s'' =>
        simp only [List.cons_append, List.head?_cons, Option.some.injEq] at e
        have := hs y (by simp); rw [e, hb] at this; exact absurd this (by decide)
    simp only [List.cons_append, find2, hhead, and_false, ↓reduceIte]
    rw [ih (fun c hc => hs c (by simp [hc]))]
    cases find2 a b R <;> simp [Nat.add_assoc]

theorem find2_segs (w : Nat) (l : Char) (hc : (w, l) ∈ codes) (ss : List Seg) (h : ∀ s ∈ ss, SegOK s) :
    find2 (digitChar w) l (segStr ss) = firstTodo w l ss := by
  obtain ⟨hl, hd, hw4⟩ := codes_letter hc
  induction ss with
  | nil => rfl
  | cons a r ih =>
    have ih' := ih (fun s hs => h s (by simp [hs]))
    have hR := segStr_head r (fun s hs => h s (by simp [hs]))
    rw [segStr_cons]
    cases a with
    | done s =>
      simp only [Seg.str, firstTodo]
      rw [find2_done _ _ hl s _ (h (.done s) (by simp)) hR, ih']
    | todo w' l' =>
      obtain ⟨hl', hd', hw4'⟩ := codes_letter (h (.todo w' l') (by simp))
      simp only [Seg.str, firstTodo, List.cons_append, List.nil_append, find2, List.head?_cons, Option.some.injEq]
      by_cases hm : w' = w ∧ l' = l
      · obtain ⟨rfl, rfl⟩ := hm
        simp
      · have hm' : ¬ (digitChar w' = digitChar w ∧ l' = l) := fun ⟨e1, e2⟩ => hm ⟨digitChar_inj hw4' hw4 e1, e2⟩
        have h2 : ¬ (l' = digitChar w ∧ (segStr r).head? = some l) := by
          intro ⟨e, _⟩
          rw [e, hd] at hl'
          exact absurd hl' (by decide)
        simp only [hm', hm, h2, ↓reduceIte]
        rw [ih']
        cases firstTodo w l r <;> simp

theorem segStr_append (a b : List Seg) : segStr (a ++ b) = segStr a ++ segStr b := by simp [segStr]

theorem firstTodo_skip (w : Nat) (l : Char) (pre X : List Seg) (h : Seg.todo w l ∉ pre) :
    firstTodo w l (pre ++ X) = (firstTodo w l X).map (· + (segStr pre).length) := by
  induction pre with
  | nil => simp [segStr]
  | cons a p ih =>
    have ih' := ih (fun hm => h (by simp [hm]))
    cases a with
    | done s => simp [firstTodo, ih', segStr_cons, Seg.str, Function.comp_def, Nat.add_assoc, Nat.add_comm s.length]
    | todo w' l' =>
      have : ¬ (w' = w ∧ l' = l) := fun e => h (by simp [e.1, e.2])
      simp [firstTodo, this, ih', segStr_cons, Seg.str, Function.comp_def, Nat.add_assoc]

theorem firstTodo_of_not_mem (w : Nat) (l : Char) (ss : List Seg) (h : Seg.todo w l ∉ ss) : firstTodo w l ss = none := by
  simpa [firstTodo] using firstTodo_skip w l ss [] h

theorem firstTodo_append (w : Nat) (l : Char) (pre r : List Seg) (h : Seg.todo w l ∉ pre) :
    firstTodo w l (pre ++ .todo w l :: r) = some (segStr pre).length := by
  simp [firstTodo_skip w l pre _ h, firstTodo]

theorem splice2_segs (w : Nat) (l : Char) (new : Str) (pre r : List Seg) :
    splice2 (segStr (pre ++ .todo w l :: r)) (segStr pre).length new = segStr (pre ++ .done new :: r) := by
  simp [segStr_append, segStr_cons, Seg.str, splice2]

/-- what one code does to a segment once its `while` loop is over -/
def stepSeg (w : Nat) (l : Char) (new : Str) : Seg → Seg
  | .done s => .done s
  | .todo w' l' => if w' = w ∧ l' = l then .done new else .todo w' l'

theorem map_stepSeg_of_not_mem (w : Nat) (l : Char) (new : Str) (ss : List Seg) (h : Seg.todo w l ∉ ss) :
    ss.map (stepSeg w l new) = ss := by
  rw [List.map_congr_left (g := id), List.map_id]
  intro s hs
  cases s with
  | done s => rfl
  | todo w' l' =>
    have : ¬ (w' = w ∧ l' = l) := fun e => h (by rw [← e.1, ← e.2]; exact hs)
    simp [stepSeg, this]

theorem count_todo_le (w : Nat) (l : Char) (ss : List Seg) : ss.count (.todo w l) ≤ (segStr ss).length := by
  induction ss with
  | nil => simp
  | cons a r ih =>
    rw [segStr_cons, List.length_append, List.count_cons]
    cases a with
    | done s => simp; omega
    | todo w' l' => simp only [Seg.str, List.length_cons, List.length_nil]; split <;> omega

theorem substCode_segs (w : Nat) (l : Char) (hc : (w, l) ∈ codes) (new : Str) (hnew : ∀ c ∈ new, isCodeLetter c = false)
    (fuel : Nat) (ss : List Seg) (hok : ∀ s ∈ ss, SegOK s) (hf : ss.count (.todo w l) ≤ fuel) :
    substCode fuel (digitChar w) l new (segStr ss) = segStr (ss.map (stepSeg w l new)) := by
  induction fuel generalizing ss with
  | zero => rw [substCode, map_stepSeg_of_not_mem w l new ss (List.count_eq_zero.1 (by omega))]
  | succ fuel ih =>
    rw [substCode, find2_segs w l hc ss hok]
    by_cases hm : Seg.todo w l ∈ ss
    · -- `ss = pre ++ todo :: r` with no pending occurrence in `pre`: the turn leaves `pre ++ done new :: r`
      obtain ⟨pre, r, rfl, hpre⟩ := List.eq_append_cons_of_mem hm
      have hcount : (pre ++ Seg.done new :: r).count (.todo w l) ≤ fuel := by
        simp only [List.count_append, List.count_cons, beq_self_eq_true, ↓reduceIte] at hf ⊢
        simp
        omega
      have hok' : ∀ s ∈ pre ++ Seg.done new :: r, SegOK s := by
        intro s hs
        rcases List.mem_append.1 hs with hs | hs
        · exact hok s (by simp [hs])
        · rcases List.mem_cons.1 hs with rfl | hs
          · exact hnew
          · exact hok s (by simp [hs])
      rw [firstTodo_append w l pre r hpre]
      simp only
      rw [splice2_segs, ih _ hok' hcount]
      simp [stepSeg]
    · rw [firstTodo_of_not_mem w l ss hm, map_stepSeg_of_not_mem w l new ss hm]

theorem zpad_noletter (w v : Nat) : ∀ c ∈ zpad w v, isCodeLetter c = false := fun c hc =>
  forall_digit (P := fun c => isCodeLetter c = false) (by decide) (zpad_digits w v c hc)

theorem stepSeg_ok (w : Nat) (l : Char) (v : Nat) (s : Seg) (h : SegOK s) : SegOK (stepSeg w l (zpad w v) s) := by
  cases s with
  | done s => exact h
  | todo w' l' =>
    simp only [stepSeg]
    split
    · exact zpad_noletter w v
    · exact h

def tokSeg : Tok → Seg
  | .code w l => .todo w l
  | .lit c => .done [c]

theorem codeOf_digit {a b : Char} {w : Nat} {l : Char} (h : codeOf? a b = some (w, l)) : a = digitChar w ∧ b = l ∧ (w, l) ∈ codes := by
  unfold codeOf? at h
  cases hd : digitVal? a with
  | none => simp [hd] at h
  | some d =>
    simp only [hd] at h
    split at h
    · rename_i hmem
      simp only [Option.some.injEq, Prod.mk.injEq] at h
      obtain ⟨rfl, rfl⟩ := h
      exact ⟨(digitVal_eq_some hd).1, rfl, by simpa using hmem⟩
    · simp at h

theorem segStr_tokenize (fmt : Str) :
    segStr ((tokenize fmt).map tokSeg) = fmt ∧ ∀ w l, Tok.code w l ∈ tokenize fmt → (w, l) ∈ codes := by
  induction fmt using tokenize.induct with
  | case1 => exact ⟨rfl, by simp [tokenize]⟩
  | case2 a => exact ⟨rfl, by simp [tokenize]⟩
  | case3 a b r w l hco ih =>
    obtain ⟨ha, hb, hmem⟩ := codeOf_digit hco
    simp only [tokenize, hco, List.map_cons, tokSeg, segStr_cons, Seg.str, List.mem_cons, Tok.code.injEq]
    refine ⟨by rw [ih.1, ← ha, ← hb]; rfl, ?_⟩
    intro w' l' h
    rcases h with ⟨rfl, rfl⟩ | h
    · exact hmem
    · exact ih.2 w' l' h
  | case4 a b r hco ih =>
    simp only [tokenize, hco, List.map_cons, tokSeg, segStr_cons, Seg.str, List.mem_cons, reduceCtorEq, false_or]
    exact ⟨by rw [ih.1]; rfl, ih.2⟩

def LitsOK (fmt : Str) : Prop := ∀ c, Tok.lit c ∈ tokenize fmt → isCodeLetter c = false

theorem tokSegs_ok (fmt : Str) (h : LitsOK fmt) : ∀ s ∈ (tokenize fmt).map tokSeg, SegOK s := by
  intro s hs
  obtain ⟨tk, htk, rfl⟩ := List.mem_map.1 hs
  cases tk with
  | code w l => exact (segStr_tokenize fmt).2 w l htk
  | lit c =>
    intro x hx
    simp only [List.mem_singleton] at hx
    subst hx
    exact h _ htk

def afterCodes (t : Stamp) (cs : List (Nat × Char)) (s : Seg) : Seg :=
  cs.foldl (fun sg c => stepSeg c.1 c.2 (zpad c.1 (fieldVal t c.1 c.2)) sg) s

theorem foldl_codes_segs (t : Stamp) (cs : List (Nat × Char)) (hcs : ∀ c ∈ cs, c ∈ codes) (ss : List Seg) (hok : ∀ s ∈ ss, SegOK s) :
    cs.foldl (fun out c => substCode out.length (digitChar c.1) c.2 (zpad c.1 (fieldVal t c.1 c.2)) out) (segStr ss)
      = segStr (ss.map (afterCodes t cs)) := by
  induction cs generalizing ss with
  | nil =>
    simp only [List.foldl_nil]
    rw [show afterCodes t [] = id from rfl, List.map_id]
  | cons c r ih =>
    simp only [List.foldl_cons]
    rw [substCode_segs c.1 c.2 (hcs c (by simp)) _ (zpad_noletter _ _) _ ss hok (count_todo_le _ _ _)]
    rw [ih (fun c' hc' => hcs c' (by simp [hc'])) _ (by
      intro s hs
      obtain ⟨s0, hs0, rfl⟩ := List.mem_map.1 hs
      exact stepSeg_ok _ _ _ s0 (hok s0 hs0)), List.map_map]
    rfl

theorem afterCodes_done (t : Stamp) (cs : List (Nat × Char)) (s : Str) : afterCodes t cs (.done s) = .done s := by
  induction cs with
  | nil => rfl
  | cons c r ih => simpa [afterCodes, stepSeg] using ih

theorem afterCodes_todo (t : Stamp) (cs : List (Nat × Char)) (w : Nat) (l : Char) :
    afterCodes t cs (.todo w l) = if (w, l) ∈ cs then .done (zpad w (fieldVal t w l)) else .todo w l := by
  induction cs with
  | nil => rfl
  | cons c r ih =>
    have hcons : afterCodes t (c :: r) (.todo w l)
        = afterCodes t r (stepSeg c.1 c.2 (zpad c.1 (fieldVal t c.1 c.2)) (.todo w l)) := rfl
    have hs : stepSeg c.1 c.2 (zpad c.1 (fieldVal t c.1 c.2)) (.todo w l)
        = if w = c.1 ∧ l = c.2 then .done (zpad c.1 (fieldVal t c.1 c.2)) else .todo w l := rfl
    rw [hcons, hs]
    by_cases hm : w = c.1 ∧ l = c.2
    · obtain ⟨rfl, rfl⟩ := hm
      simp only [and_self, ↓reduceIte, List.mem_cons, true_or]
      exact afterCodes_done t r _
    · simp only [hm, ↓reduceIte]
      have : ¬ ((w, l) = c) := fun e => hm (by rw [← e]; exact ⟨rfl, rfl⟩)
      rw [ih]
      simp [this]

theorem printTime_segs (t : Stamp) (toks : List Tok) (h : ∀ w l, Tok.code w l ∈ toks → (w, l) ∈ codes) :
    segStr ((toks.map tokSeg).map (afterCodes t codes)) = printTime toks t := by
  induction toks with
  | nil => rfl
  | cons tk r ih =>
    have ih' := ih (fun w l hm => h w l (by simp [hm]))
    cases tk with
    | code w l =>
      simp only [List.map_cons, tokSeg, segStr_cons, printTime]
      rw [afterCodes_todo, if_pos (h w l (by simp)), ih']
      rfl
    | lit c =>
      simp only [List.map_cons, tokSeg, segStr_cons, printTime]
      rw [afterCodes_done, ih']
      rfl

theorem firstTodo_findCode (w : Nat) (l : Char) (toks : List Tok) (p : Nat) :
    (firstTodo w l (toks.map tokSeg)).map (· + p) = findCode w l toks p := by
  induction toks generalizing p with
  | nil => rfl
  | cons tk r ih =>
    cases tk with
    | code w' l' =>
      simp only [List.map_cons, tokSeg, firstTodo, findCode]
      by_cases hm : w' = w ∧ l' = l
      · obtain ⟨rfl, rfl⟩ := hm; simp
      · have hm' : ¬ (w = w' ∧ l = l') := fun ⟨a, b⟩ => hm ⟨a.symm, b.symm⟩
        simp only [hm, hm', ↓reduceIte, ← ih (p + 2)]
        cases firstTodo w l (r.map tokSeg) <;> simp; omega
    | lit c =>
      simp only [List.map_cons, tokSeg, firstTodo, findCode, List.length_singleton, ← ih (p + 1)]
      cases firstTodo w l (r.map tokSeg) <;> simp; omega

theorem filterMap_congr' {α β : Type} (f g : α → Option β) (l : List α) (h : ∀ x ∈ l, f x = g x) :
    l.filterMap f = l.filterMap g := by
  induction l with
  | nil => rfl
  | cons a r ih =>
    simp only [List.filterMap_cons, h a (by simp)]
    rw [ih (fun x hx => h x (by simp [hx]))]

def litsOKb (fmt : Str) : Bool := (tokenize fmt).all (fun tk => match tk with | .lit c => !isCodeLetter c | .code _ _ => true)

theorem litsOK_of_b (fmt : Str) (h : litsOKb fmt = true) : LitsOK fmt := by
  intro c hc
  unfold litsOKb at h
  have := List.all_eq_true.1 h _ hc
  simpa using this

end TV.TextIO
