import TracklibVerif.Lemmas.GridReturns
/-! The incremental (`unit = -1`) search of `neighborhood(i, j, unit)` / `neighborhood(coord, unit)` of
`Model/Grid.lean`: rings (`__neighboringcells(i, j, u, True)`), the `while` loop, and the relation between a radius given
in UNITS and ground distance (`u` units cover every point within `u · min(dX, dY)` on each axis). -/
namespace TV.Grid

section index
variable {α : Type}

/-- the clipped square of radius `u` is that of radius `u - 1` plus the ring `u`: the rings `0 … u` of the
incremental search cover the whole clipped square (the ring is taken on the clipped square, so a ring cut by the border
of the grid repeats cells of earlier rings but loses none) -/
theorem sq_succ (ix : Index α) (i j u : Int) (c : Int × Int) :
    c ∈ neighboringCells ix i j u false ↔
      c ∈ neighboringCells ix i j (u - 1) false ∨ c ∈ neighboringCells ix i j u true := by
  obtain ⟨i', j'⟩ := c
  simp only [mem_neighboringCells_inc, Bool.false_eq_true, false_imp_iff, and_true, true_imp_iff]
  omega

theorem sq_full (ix : Index α) (i j u : Int) (hi : 0 ≤ i ∧ i < ix.csize) (hj : 0 ≤ j ∧ j < ix.lsize)
    (hu : max ix.csize ix.lsize - 1 ≤ u) (c : Int × Int) :
    c ∈ neighboringCells ix i j u false ↔ InGrid ix c := by
  obtain ⟨i', j'⟩ := c
  rw [mem_neighboringCells]
  unfold InGrid
  omega

def SqHolds (ix : Index α) (i j u : Int) (d : Nat) : Prop :=
  ∃ cell ∈ neighboringCells ix i j u false, Holds ix.grid cell.1 cell.2 d

theorem SqHolds.mono {ix : Index α} {i j u v : Int} {d : Nat} (h : SqHolds ix i j u d) (huv : u ≤ v) :
    SqHolds ix i j v d := by
  obtain ⟨⟨i', j'⟩, hc, hH⟩ := h
  refine ⟨(i', j'), ?_, hH⟩
  rw [mem_neighboringCells] at hc ⊢
  omega

theorem not_SqHolds_neg (ix : Index α) (i j u : Int) (hu : u < 0) (d : Nat) : ¬ SqHolds ix i j u d := by
  rintro ⟨⟨i', j'⟩, hc, _⟩
  rw [mem_neighboringCells] at hc
  omega

theorem collect_ring (ix : Index α) (hs : Shape ix.grid ix.csize.toNat ix.lsize.toNat) (i j u : Int) (tab : List Nat)
    (htab : ∀ d, d ∈ tab ↔ SqHolds ix i j (u - 1) d) :
    ∃ tab', collectCells ix tab (neighboringCells ix i j u true) = .ok tab' ∧ ∀ d, d ∈ tab' ↔ SqHolds ix i j u d := by
  obtain ⟨tab', h⟩ := collectCells_ok ix (neighboringCells ix i j u true) tab hs
    (fun cell hc => neighboringCells_inGrid ix i j u cell ((sq_succ ix i j u cell).mpr (Or.inr hc)))
  refine ⟨tab', h, fun d => ?_⟩
  rw [collectCells_mem ix _ tab tab' h, htab]
  constructor
  · rintro (⟨cell, hc, hH⟩ | ⟨cell, hc, hH⟩)
    · exact ⟨cell, (sq_succ ix i j u cell).mpr (Or.inl hc), hH⟩
    · exact ⟨cell, (sq_succ ix i j u cell).mpr (Or.inr hc), hH⟩
  · rintro ⟨cell, hc, hH⟩
    exact ((sq_succ ix i j u cell).mp hc).imp (fun h1 => ⟨cell, h1, hH⟩) (fun h1 => ⟨cell, h1, hH⟩)

/-- the `while` loop of `neighborhood(i, j, unit=-1)` from any reachable state (`found` is `len(TAB) > 0`, `TAB` lists the
square of radius `u - 1`, nothing is listed within radius `u - 2`): it returns the contents of the clipped square of some
radius `U`; either nothing is found up to the last ring (the whole grid), or `U - 1` is the first radius at which something
is listed: the loop makes exactly one more ring after the first non-empty one. -/
theorem searchCellLoop_spec (ix : Index α) (hs : Shape ix.grid ix.csize.toNat ix.lsize.toNat) (i j : Int)
    (hi : 0 ≤ i ∧ i < ix.csize) (hj : 0 ≤ j ∧ j < ix.lsize) :
    ∀ (fuel : Nat) (u : Int) (tab : List Nat), u ≤ max ix.csize ix.lsize + 1 →
      max ix.csize ix.lsize + 1 - u < (fuel : Int) →
      (∀ d, d ∈ tab ↔ SqHolds ix i j (u - 1) d) → (∀ d, ¬ SqHolds ix i j (u - 2) d) →
      ∃ out U, searchCellLoop ix i j fuel u tab (decide (tab.length > 0)) = .ok out ∧
        U ≤ max ix.csize ix.lsize ∧ (∀ d, d ∈ out ↔ SqHolds ix i j U d) ∧
        ((out = [] ∧ U = max ix.csize ix.lsize) ∨
          (out ≠ [] ∧ (∃ d, SqHolds ix i j (U - 1) d) ∧ ∀ d, ¬ SqHolds ix i j (U - 2) d)) := by
  intro fuel
  induction fuel with
  | zero => intro u tab h1 h2; omega
  | succ fuel ih =>
    intro u tab h1 h2 htab hprev
    unfold searchCellLoop
    by_cases hu : u ≤ max ix.csize ix.lsize
    · rw [if_pos hu]
      obtain ⟨tab', hcol, htab'⟩ := collect_ring ix hs i j u tab htab
      simp only [hcol]
      cases tab with
      | nil =>
        -- nothing found so far: next ring; nothing is listed within `u - 1`
        exact ih (u + 1) tab' (by omega) (by push_cast at h2 ⊢; omega)
          (by rw [add_sub_cancel_right]; exact htab')
          (by rw [show u + 1 - 2 = u - 1 by omega]; exact fun d hd => List.not_mem_nil ((htab d).mpr hd))
      | cons d0 t =>
        -- something was found on the previous ring: this ring is the last
        refine ⟨tab', u, rfl, hu, htab', Or.inr ⟨?_, ⟨d0, (htab d0).mp (List.mem_cons_self ..)⟩, hprev⟩⟩
        intro h
        have := (htab' d0).mpr (((htab d0).mp (List.mem_cons_self ..)).mono (by omega))
        rw [h] at this
        cases this
    · rw [if_neg hu]
      refine ⟨tab, u - 1, rfl, by omega, htab, Or.inl ⟨?_, by omega⟩⟩
      -- `u - 1` is the last radius: its square is the whole grid, and so is that of radius `u - 2`
      cases tab with
      | nil => rfl
      | cons d0 t =>
        obtain ⟨cell, hc, hH⟩ := (htab d0).mp (List.mem_cons_self ..)
        exact absurd ⟨cell, (sq_full ix i j (u - 2) hi hj (by omega) cell).mpr
          ((sq_full ix i j (u - 1) hi hj (by omega) cell).mp hc), hH⟩ (hprev d0)

theorem neighborhoodCell_search (ix : Index α) (hs : Shape ix.grid ix.csize.toNat ix.lsize.toNat) (i j : Int)
    (hi : 0 ≤ i ∧ i < ix.csize) (hj : 0 ≤ j ∧ j < ix.lsize) :
    ∃ out U, neighborhoodCell ix i j (-1) = .ok out ∧ 0 ≤ U ∧ U ≤ max ix.csize ix.lsize ∧
      (∀ d, d ∈ out ↔ SqHolds ix i j U d) ∧
      ((out = [] ∧ U = max ix.csize ix.lsize) ∨
        (1 ≤ U ∧ out ≠ [] ∧ (∃ d, SqHolds ix i j (U - 1) d) ∧ ∀ d, ¬ SqHolds ix i j (U - 2) d)) := by
  obtain ⟨out, U, hrun, b2, b3, b5⟩ := searchCellLoop_spec ix hs i j hi hj ((max ix.csize ix.lsize).toNat + 2) 0 []
    (by omega) (by push_cast; omega)
    (fun d => ⟨fun h => absurd h List.not_mem_nil, fun h => absurd h (not_SqHolds_neg ix i j _ (by omega) d)⟩)
    (fun d => not_SqHolds_neg ix i j _ (by omega) d)
  have hrun' : neighborhoodCell ix i j (-1) = .ok out := by
    unfold neighborhoodCell
    rw [if_neg (by decide)]
    exact hrun
  -- a radius `U - 1` that lists something is not negative
  have hU : (∃ d, SqHolds ix i j (U - 1) d) → 1 ≤ U := fun ⟨d, hd⟩ =>
    not_lt.mp fun h => not_SqHolds_neg ix i j _ (by omega) d hd
  refine ⟨out, U, hrun', ?_, b2, b3, b5.imp_right fun h => ⟨hU h.2.1, h⟩⟩
  rcases b5 with h | h
  · have := hi.1; have := hi.2; omega
  · have := hU h.2.1; omega

theorem neighborhoodCell_unit (ix : Index α) (hs : Shape ix.grid ix.csize.toNat ix.lsize.toNat) (i j u : Int) (hu : 0 ≤ u) :
    ∃ l, neighborhoodCell ix i j u = .ok l ∧ ∀ d, d ∈ l ↔ SqHolds ix i j u d := by
  obtain ⟨l, hl⟩ := collectCells_ok ix (neighboringCells ix i j u false) [] hs (neighboringCells_inGrid ix i j u)
  have hne : (u != -1) = true := by simp only [bne_iff_ne, ne_eq]; omega
  refine ⟨l, by simp only [neighborhoodCell, hne, if_true, hl], fun d => ?_⟩
  exact (collectCells_mem ix _ [] l hl d).trans (or_iff_right List.not_mem_nil)

end index

section scalar
variable {α : Type} [Field α] [LinearOrder α]

theorem neighborhoodPoint_of_cell (fl : α → Int) (ix : Index α) (hg : Good ix) (q c : α × α) (hq : getCell ix q = some c)
    (u : Int) (l : List Nat) (h : neighborhoodCell ix (cellOf fl ix c).1 (cellOf fl ix c).2 u = .ok l) :
    neighborhoodPoint fl ix q u = .ok (some l) := by
  simp only [neighborhoodPoint, hg.getCellR, hq, h]

variable [IsStrictOrderedRing α]

theorem cell_within_units {fl : α → Int} (hf : IsFloor fl) (ix : Index α) (hg : Good ix) (P q cP cq : α × α) (U : Int)
    (hU : 0 ≤ U) (hP : getCell ix P = some cP) (hq : getCell ix q = some cq)
    (hx : -(((U : Int) : α) * min ix.dX ix.dY) ≤ q.1 - P.1 ∧ q.1 - P.1 ≤ ((U : Int) : α) * min ix.dX ix.dY)
    (hy : -(((U : Int) : α) * min ix.dX ix.dY) ≤ q.2 - P.2 ∧ q.2 - P.2 ≤ ((U : Int) : α) * min ix.dX ix.dY) :
    ((cellOf fl ix cP).1, (cellOf fl ix cP).2) ∈
      neighboringCells ix (cellOf fl ix cq).1 (cellOf fl ix cq).2 U false := by
  obtain ⟨⟨hi0, hi1⟩, hj0, hj1⟩ := cellOf_inGrid hf ix hg P cP hP
  have hmn := hg.side_pos
  obtain ⟨_, _, rfl⟩ := (getCell_some_iff ix P cP).mp hP
  obtain ⟨_, _, rfl⟩ := (getCell_some_iff ix q cq).mp hq
  have ax := units_axis_int hf P.1 q.1 ix.xmin ix.dX _ U hU hmn (min_le_left _ _) hx.1 hx.2
  have ay := units_axis_int hf P.2 q.2 ix.ymin ix.dY _ U hU hmn (min_le_right _ _) hy.1 hy.2
  rw [mem_neighboringCells]
  unfold cellOf at hi0 hi1 hj0 hj1 ⊢
  dsimp only at hi0 hi1 hj0 hj1 ax ay ⊢
  omega

theorem cell_within_units_dist {fl : α → Int} (hf : IsFloor fl) (ix : Index α) (hg : Good ix) (P q cP cq : α × α) (U : Int)
    (hU : 0 ≤ U) (hP : getCell ix P = some cP) (hq : getCell ix q = some cq)
    (hd : (q.1 - P.1) ^ 2 + (q.2 - P.2) ^ 2 ≤ (((U : Int) : α) * min ix.dX ix.dY) ^ 2) :
    ((cellOf fl ix cP).1, (cellOf fl ix cP).2) ∈
      neighboringCells ix (cellOf fl ix cq).1 (cellOf fl ix cq).2 U false := by
  have hR : (0 : α) ≤ ((U : Int) : α) * min ix.dX ix.dY := mul_nonneg (Int.cast_nonneg hU) (le_of_lt hg.side_pos)
  obtain ⟨hx, hy⟩ := coord_le_of_dist hR hd
  exact cell_within_units hf ix hg P q cP cq U hU hP hq hx hy

theorem cell_within_dist {fl : α → Int} (hf : IsFloor fl) (ix : Index α) (hg : Good ix) (P q cP cq : α × α) (d : α)
    (hd : 0 ≤ d) (hP : getCell ix P = some cP) (hq : getCell ix q = some cq)
    (hdist : (q.1 - P.1) ^ 2 + (q.2 - P.2) ^ 2 ≤ d ^ 2) :
    ((cellOf fl ix cP).1, (cellOf fl ix cP).2) ∈
      neighboringCells ix (cellOf fl ix cq).1 (cellOf fl ix cq).2 (fl (d / min ix.dX ix.dY + 1)) false :=
  cell_within_units_dist hf ix hg P q cP cq _ (le_trans zero_le_one (units_pos hf d _ hd hg.side_pos)) hP hq
    (le_trans hdist (pow_le_pow_left₀ hd (le_of_lt (lt_units_mul hf d _ hg.side_pos)) 2))

end scalar
end TV.Grid
