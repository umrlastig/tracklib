import TracklibVerif.Lemmas.CinTabK
import TracklibVerif.Lemmas.CinTabOpt
/-! Feature values `Option α` (`none` = NaN) and positions `V3 α` of any coordinate class: the columns computed by the
class-dispatching table programs are the prefix sums / quotients of the distance `d` the class defines, taken on the
current positions. -/
namespace TV.CinTabK
open TV.Features TV.CinTab TV.Cinematics
open TV.Geo (V3)

variable {α : Type}

/-- coordinate columns of finite positions (`getX()/getY()/getZ()` of every fix) -/
def xsP (P : List (V3 α)) : List (Option α) := P.map (fun p => some p.x)
def ysP (P : List (V3 α)) : List (Option α) := P.map (fun p => some p.y)
def zsP (P : List (V3 α)) : List (Option α) := P.map (fun p => some p.z)

section spec
variable [Add α] [Sub α] [Div α] [OfNat α 0] [BEq α]

/-- `ds(track, i)` for the distance `d` (`d self point` = `self.distance2DTo(point)`) -/
def dsAtD (d : V3 α → V3 α → α) (P : List (V3 α)) (i : Nat) : Option α :=
  if i = 0 then some 0
  else match P[i]?, P[i - 1]? with
    | some p, some q => some (d p q)
    | _, _ => none

/-- cumulated length of the first `i` legs, leg `k` being `d P[k+1] P[k]` (`P[k+1].distance2DTo(P[k])`: for Geo the
horizontal part of the chord in the tangent frame at fix `k`) -/
def abscD (d : V3 α → V3 α → α) (P : List (V3 α)) : Nat → α
  | 0 => 0
  | i + 1 => abscD d P i + (match P[i + 1]?, P[i]? with
      | some p, some q => d p q
      | _, _ => 0)

/-- what `computeCurvAbsBetweenTwoPoints` accumulates: leg `k` is `d P[k] P[k+1]` (`P[k].distance2DTo(P[k+1])`) -/
def curvD (d : V3 α → V3 α → α) (P : List (V3 α)) : Nat → α
  | 0 => 0
  | i + 1 => curvD d P i + (match P[i]?, P[i + 1]? with
      | some p, some q => d p q
      | _, _ => 0)

/-- speed from the later fix `a` and the earlier fix `b`: NaN when no time elapsed, else `d P[a] P[b]` / elapsed -/
def speedBetweenD (d : V3 α → V3 α → α) (P : List (V3 α)) (ts : List α) (a b : Nat) : Option α :=
  match P[a]?, P[b]?, ts[a]?, ts[b]? with
  | some pa, some pb, some ta, some tb => quot (d pa pb) (ta - tb)
  | _, _, _, _ => none

/-- `speed(track, i)`: fixes (1,0) at the start, (n-1,n-2) at the end, (i+1,i-1) inside -/
def speedAtD (d : V3 α → V3 α → α) (P : List (V3 α)) (ts : List α) (i : Nat) : Option α :=
  let n := P.length
  if i = 0 then speedBetweenD d P ts 1 0
  else if i = n - 1 then speedBetweenD d P ts (n - 1) (n - 2)
  else speedBetweenD d P ts (i + 1) (i - 1)

def speedColD (d : V3 α → V3 α → α) (P : List (V3 α)) (ts : List α) : Col α :=
  (List.range P.length).map (speedAtD d P ts)

end spec

section entries
variable [Sub α] [Div α] [OfNat α 0] [BEq α]

theorem speedColD_getElem? (d : V3 α → V3 α → α) (P : List (V3 α)) (ts : List α) (i : Nat) (h : i < P.length) :
    (speedColD d P ts)[i]? = some (speedAtD d P ts i) := by
  unfold speedColD
  rw [List.getElem?_map, List.getElem?_range h]
  rfl

/-- the entry of the speed column at fix `i` of `n ≥ 2` fixes, `(a, b)` being the two fixes `speed(track, i)` takes -/
theorem speedAtD_eq (d : V3 α → V3 α → α) (P : List (V3 α)) (ts : List α) {i a b : Nat}
    (h : (i = 0 ∧ a = 1 ∧ b = 0) ∨ (i = P.length - 1 ∧ a = P.length - 1 ∧ b = P.length - 2)
      ∨ (0 < i ∧ i < P.length - 1 ∧ a = i + 1 ∧ b = i - 1)) (hn : 2 ≤ P.length)
    (ha : a < P.length) (hb : b < P.length) (ha' : a < ts.length) (hb' : b < ts.length) :
    speedAtD d P ts i = quot (d P[a] P[b]) (ts[a] - ts[b]) := by
  refine (ends_or_centre (speedBetweenD d P ts) h hn).trans ?_
  unfold speedBetweenD
  rw [List.getElem?_eq_getElem ha, List.getElem?_eq_getElem hb, List.getElem?_eq_getElem ha', List.getElem?_eq_getElem hb']

end entries

section sums
variable [Add α] [OfNat α 0]

theorem abscD_succ (d : V3 α → V3 α → α) (P : List (V3 α)) (i : Nat) (h : i + 1 < P.length) :
    abscD d P (i + 1) = abscD d P i + d (P[i + 1]'h) (P[i]'(Nat.lt_of_succ_lt h)) := by
  have h1 : P[i + 1]? = some (P[i + 1]'h) := List.getElem?_eq_getElem h
  have h0 : P[i]? = some (P[i]'(Nat.lt_of_succ_lt h)) := List.getElem?_eq_getElem (Nat.lt_of_succ_lt h)
  simp only [abscD, h1, h0]

theorem integrator_dsD (d : V3 α → V3 α → α) (P : List (V3 α)) :
    integrator ((List.range P.length).map (dsAtD d P)) = (List.range P.length).map (fun i => some (abscD d P i)) := by
  refine integrator_legs (fun i => match P[i]?, P[i - 1]? with | some p, some q => d p q | _, _ => 0)
    (abscD d P) rfl (fun _ => rfl) P.length (dsAtD d P) (fun i h0 hi => ?_)
  unfold dsAtD
  rw [if_neg (by omega), List.getElem?_eq_getElem hi, List.getElem?_eq_getElem (show i - 1 < P.length by omega)]

theorem abscD_mono [Preorder α] (hadd : ∀ a d : α, 0 ≤ d → a ≤ a + d) (d : V3 α → V3 α → α) (hd : ∀ p q, 0 ≤ d p q)
    (P : List (V3 α)) : ∀ i j, i ≤ j → abscD d P i ≤ abscD d P j :=
  prefix_mono hadd (abscD d P) _ (fun _ => rfl) (fun i => by
    split
    · exact hd _ _
    · exact le_refl _)

end sums

section opt
variable [Add α] [Sub α] [Mul α] [Div α] [OfNat α 0] [BEq α] [LE α] [DecidableLE α]

theorem distF_opt (sqrt : α → α) (ofNat : Nat → α) (isNaN : α → Bool) (d : V3 α → V3 α → α) (P : List (V3 α)) (i j : Nat) :
    distF (optG sqrt ofNat isNaN) (onPtsV d) (xsP P) (ysP P) (zsP P) i j
      = (match P[i]?, P[j]? with | some p, some q => some (d p q) | _, _ => none) := by
  unfold distF ptsF atFix
  simp only [xsP, ysP, zsP, List.getElem?_map]
  cases P[i]? with
  | none => rfl
  | some p =>
    cases P[j]? with
    | none => rfl
    | some q => rfl

theorem dsAtD_opt (sqrt : α → α) (ofNat : Nat → α) (isNaN : α → Bool) (d : V3 α → V3 α → α) (P : List (V3 α)) :
    dsL (optG sqrt ofNat isNaN) (distF (optG sqrt ofNat isNaN) (onPtsV d) (xsP P) (ysP P) (zsP P)) = dsAtD d P := by
  funext i
  unfold dsL dsAtD
  rw [distF_opt]
  rfl

theorem speedColD_opt (sqrt : α → α) (ofNat : Nat → α) (isNaN : α → Bool) (d : V3 α → V3 α → α) (P : List (V3 α)) (ts : List α) :
    (List.range P.length).map
        (speedL (optG sqrt ofNat isNaN) (distF (optG sqrt ofNat isNaN) (onPtsV d) (xsP P) (ysP P) (zsP P)) (tsOf ts) P.length)
      = speedColD d P ts := by
  have hb : ∀ a b, betweenL (optG sqrt ofNat isNaN) (distF (optG sqrt ofNat isNaN) (onPtsV d) (xsP P) (ysP P) (zsP P)) (tsOf ts) a b
      = speedBetweenD d P ts a b := by
    intro a b
    rw [betweenL_opt, distF_opt]
    unfold speedBetweenD
    cases P[a]? <;> cases P[b]? <;> cases ts[a]? <;> cases ts[b]? <;> rfl
  unfold speedColD
  apply List.map_congr_left
  intro i _
  unfold speedL speedAtD
  simp only [hb]

theorem sumL_curvD (sqrt : α → α) (ofNat : Nat → α) (isNaN : α → Bool) (d : V3 α → V3 α → α) (P : List (V3 α)) (k : Nat)
    (hk : k < P.length) :
    sumL (optG sqrt ofNat isNaN) (distF (optG sqrt ofNat isNaN) (onPtsV d) (xsP P) (ysP P) (zsP P)) k = some (curvD d P k) :=
  sumL_opt sqrt ofNat isNaN _ (curvD d P) (fun i => match P[i]?, P[i + 1]? with | some p, some q => d p q | _, _ => 0)
    rfl (fun _ => rfl) k (fun i hi => by
      rw [distF_opt, List.getElem?_eq_getElem (show i < P.length by omega), List.getElem?_eq_getElem (show i + 1 < P.length by omega)])

end opt
end TV.CinTabK
