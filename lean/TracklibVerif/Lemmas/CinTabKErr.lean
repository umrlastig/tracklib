import TracklibVerif.Lemmas.CinTabK
/-! A class of position objects WITHOUT a planimetric distance (`ECEFCoords`) on the feature table: the two instances of
the exception path of `addAnalyticalFeature` (`CinTab.addAFfn_raises`). `Obs.distance2DTo` refuses at fix 1 (fix 0 needs no
distance: `ds(track, 0) = 0`), `position.distance2DTo` raises at fix 0; neither exception is an `IndexError`, so the loop ends
there: the column created before the loop stays listed, with the `0` written at fix 0 in the first case, nothing else changed. -/
namespace TV.CinTabK
open TV.Features TV.CinTab

variable {σ V : Type} [Tbl σ V]
variable {I : σ → Prop} {n : σ → Nat} {rd : σ → String → Option (List V)} {co : σ → Coord → List V}

/-- `addAnalyticalFeature(ds, "ds")` on a track of `≥ 2` fixes whose class is refused by `Obs.distance2DTo`
(`K.refuse = some e`, `e` not an `IndexError`) and that does not list `ds`: the call ends in `e`; afterwards `ds` IS
listed (created before the loop), its value at fix 0 is the `0` computed there, every other name, the coordinates, the
times, the number of fixes and the invariant are unchanged. -/
theorem dsFeatureK_refused (L : Laws I n rd co) (g : GOps V) (K : Kernel V) (e : Err) (he : K.refuse = some e)
    (hne : e ≠ .index) (s : σ) (hI : I s) (hN : 2 ≤ n s) (hds : rd s "ds" = none) :
    ∃ s' col, (addAFfn g.toOps (dsAlgK g K) "ds" : M σ (List V)) s = (.error e, s') ∧ I s' ∧ n s' = n s ∧ co s' = co s
      ∧ rd s' "ds" = some col ∧ col[0]? = some g.zero ∧ ∀ m, m ≠ "ds" → rd s' m = rd s m := by
  obtain ⟨s', col, e1, hI', hn', hco', hrd', hall, hoth⟩ :=
    addAFfn_raises L g.toOps "ds" (by decide) (dsAlgK g K) (fun _ => g.zero) 1 e hne s hI (by omega) hds
      (fun i hi s' _ _ _ => by cases (show i = 0 by omega); rfl)
      (fun s' hI' hn' hco' => by
        show (obsDistT g K 1 0 : M σ V) s' = _
        rw [obsDistT_read L g K 1 0 (by omega) (by omega) s' hI' hn' hco']
        unfold obsF Kernel.obs
        rw [he])
  exact ⟨s', col, e1, hI', hn', hco', hrd', hall 0 (by omega), hoth⟩

/-- `computeAbsCurv` on such a track (no `ds` listed): it ends in the refusal before anything else is done — same final
table as `dsFeatureK_refused`: a `ds` column stays on the track, no `abs_curv` is created. -/
theorem computeAbsCurvK_refused (L : Laws I n rd co) (g : GOps V) (K : Kernel V) (e : Err) (he : K.refuse = some e)
    (hne : e ≠ .index) (s : σ) (hI : I s) (hN : 2 ≤ n s) (hds : rd s "ds" = none) :
    ∃ s' col, (computeAbsCurvK g K : M σ (List V)) s = (.error e, s') ∧ I s' ∧ n s' = n s ∧ co s' = co s
      ∧ rd s' "ds" = some col ∧ col[0]? = some g.zero ∧ ∀ m, m ≠ "ds" → rd s' m = rd s m := by
  have rds : reserved "ds" = false := by decide
  obtain ⟨s', col, e1, h⟩ := dsFeatureK_refused L g K e he hne s hI hN hds
  refine ⟨s', col, ?_, h⟩
  unfold computeAbsCurvK computeAbsCurvG
  apply bind_of_error
  unfold ensureDsG
  rw [bind_of_ok (L.has s "ds" hI rds), hds]
  simp only [Option.isSome_none, Bool.not_false, if_true]
  exact bind_of_error e1

/-- `estimate_speed` on a track of `≥ 2` fixes whose class has no `distance2DTo` (`K.pos` raises `e`, not an
`IndexError`) and that does not list `speed`: the call ends in `e` at fix 0; a `speed` column (whatever `create` put
there) stays listed, nothing else changed. -/
theorem estimateSpeedK_attr (L : Laws I n rd co) (g : GOps V) (K : Kernel V) (e : Err)
    (he : ∀ a b c d x y, K.pos a b c d x y = .error e) (hne : e ≠ .index) (s : σ) (hI : I s) (hN : 2 ≤ n s)
    (hsp : rd s "speed" = none) :
    ∃ s' col, (estimateSpeedK g K : M σ (List V)) s = (.error e, s') ∧ I s' ∧ n s' = n s ∧ co s' = co s
      ∧ rd s' "speed" = some col ∧ ∀ m, m ≠ "speed" → rd s' m = rd s m := by
  have rsp : reserved "speed" = false := by decide
  obtain ⟨s', col, e1, hI', hn', hco', hrd', _, hoth⟩ :=
    addAFfn_raises L g.toOps "speed" rsp (speedAlgK g K) (fun _ => g.zero) 0 e hne s hI (by omega) hsp
      (fun i hi => absurd hi (Nat.not_lt_zero i))
      (fun s' hI' hn' hco' => by
        show (speedBetweenK g K 1 0 : M σ V) s' = _
        unfold speedBetweenK
        apply bind_of_error
        rw [posDistT_read L g K 1 0 (by omega) (by omega) s' hI' hn' hco']
        unfold posF
        simp only [he])
  refine ⟨s', col, ?_, hI', hn', hco', hrd', hoth⟩
  unfold estimateSpeedK estimateSpeedG
  rw [bind_of_ok (L.has s "speed" hI rsp), hsp]
  exact e1

end TV.CinTabK
