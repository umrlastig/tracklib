import TracklibVerif.Lemmas.FeaturesWorld
/-! Tracks made of COPIES of observations (`Obs.copy()` = deepcopy: a new object): what `copyEach` builds, what the new
track shows, and that a selection / a repetition of the positions of an aligned track is aligned. For the other ways a
track is derived: `list.insert` permutes (`pyInsert_perm`), and `copy.deepcopy(track)` on pairwise distinct objects with
none of them in the memo is `copyEach` (`copyMemo_eq_copyEach`). -/
namespace TV.Features
variable {V : Type} [Inhabited V]

theorem view_of_objs {heap1 heap2 : List (HObs V)} {ids1 ids2 : List Nat} (dico : List (String × Nat))
    (h : ids1.map (heap1[·]?) = ids2.map (heap2[·]?)) :
    view { heap := heap1, ids := ids1, dico := dico } = view { heap := heap2, ids := ids2, dico := dico } := by
  have key : ∀ {β : Type} (q : Option (HObs V) → β),
      ids1.map (fun id => q (heap1[id]?)) = ids2.map (fun id => q (heap2[id]?)) := fun q => by
    have := congrArg (List.map q) h
    rwa [List.map_map, List.map_map] at this
  unfold view
  simp only [St.mk.injEq, true_and]
  exact ⟨key (β := List V) fun o => (o.map HObs.feats).getD [],
    key (β := V) fun o => (o.map fun ob => HObs.coord ob .x).getD default,
    key (β := V) fun o => (o.map fun ob => HObs.coord ob .y).getD default,
    key (β := V) fun o => (o.map fun ob => HObs.coord ob .z).getD default,
    key (β := V) fun o => (o.map fun ob => HObs.coord ob .t).getD default⟩

theorem view_congr (heap heap' : List (HObs V)) (ids : List Nat) (dico : List (String × Nat))
    (h : ∀ id ∈ ids, heap'[id]? = heap[id]?) :
    view { heap := heap', ids := ids, dico := dico } = view { heap := heap, ids := ids, dico := dico } :=
  view_of_objs dico (List.map_congr_left h)

theorem map_getElem?_append_range' {α : Type} (l os : List α) :
    (List.range' l.length os.length).map ((l ++ os)[·]?) = os.map some := by
  apply List.ext_getElem
  · simp
  · intro j _ h2
    have hj : j < os.length := by simpa using h2
    simp [hj]

omit [Inhabited V] in
/-- `[o.copy() for o in sel]`: the copies `os` of the objects at `sel` are appended to the heap, in order; their names are
`heap.length, heap.length + 1, …` -/
theorem copyEach_spec : ∀ (sel : List Nat) (heap : List (HObs V)), (∀ id ∈ sel, id < heap.length) →
    ∃ os, copyEach sel heap = some (List.range' heap.length sel.length, heap ++ os) ∧
      os.map some = sel.map (heap[·]?) := by
  intro sel
  induction sel with
  | nil => intro heap _; exact ⟨[], by simp [copyEach], rfl⟩
  | cons id rest ih =>
    intro heap hv
    have hid : id < heap.length := hv id (by simp)
    have hob : heap[id]? = some heap[id] := List.getElem?_eq_getElem hid
    obtain ⟨os, h1, h2⟩ := ih (heap ++ [heap[id]]) (fun id' hm => by
      have := hv id' (by simp [hm]); simp; omega)
    refine ⟨heap[id] :: os, ?_, ?_⟩
    · simp only [copyEach, allocCopy, hob, Option.map_some, h1, List.length_append, List.length_cons, List.length_nil,
        List.range'_succ, List.append_assoc, List.singleton_append]
    · rw [List.map_cons, List.map_cons, hob, h2]
      congr 1
      exact List.map_congr_left fun id' hm => List.getElem?_append_left (hv id' (by simp [hm]))

theorem inv_select {n : Nat} {heap : List (HObs V)} {ids : List Nat} {dico : List (String × Nat)}
    (h : Inv n (view { heap := heap, ids := ids, dico := dico })) (sel : List Nat) (hsub : ∀ id ∈ sel, id ∈ ids) :
    Inv sel.length (view { heap := heap, ids := sel, dico := dico }) := by
  refine ⟨h.enum, h.nodup, ?_, by simp [view], by simp [view], by simp [view], by simp [view], by simp [view]⟩
  intro r hr
  simp only [view, List.mem_map] at hr
  obtain ⟨id, hm, rfl⟩ := hr
  exact h.rows _ (List.mem_map_of_mem (hsub id hm))

theorem pyInsert_perm (l : List Nat) (p x : Nat) : (pyInsert l p x).Perm (x :: l) := by
  have := List.perm_middle (a := x) (l₁ := l.take p) (l₂ := l.drop p)
  rwa [List.take_append_drop] at this

theorem nodup_pyInsert (l : List Nat) (p x : Nat) (hnd : l.Nodup) (hx : x ∉ l) : (pyInsert l p x).Nodup :=
  (pyInsert_perm l p x).nodup_iff.2 (List.nodup_cons.2 ⟨hx, hnd⟩)

theorem mem_pyInsert {l : List Nat} {p x a : Nat} (h : a ∈ pyInsert l p x) : a = x ∨ a ∈ l :=
  List.mem_cons.1 ((pyInsert_perm l p x).mem_iff.1 h)

theorem length_pyInsert (l : List Nat) (p x : Nat) : (pyInsert l p x).length = l.length + 1 :=
  (pyInsert_perm l p x).length_eq

omit [Inhabited V] in
theorem copyMemo_eq_copyEach : ∀ (ids : List Nat) (memo : List (Nat × Nat)) (heap : List (HObs V)), ids.Nodup →
    (∀ id ∈ ids, memo.lookup id = none) → copyMemo ids memo heap = copyEach ids heap := by
  intro ids
  induction ids with
  | nil => intro _ _ _ _; rfl
  | cons id rest ih =>
    intro memo heap hnd hm
    obtain ⟨hni, hnd'⟩ := List.nodup_cons.mp hnd
    simp only [copyMemo, copyEach, hm id (by simp)]
    cases allocCopy heap id with
    | none => rfl
    | some r =>
      obtain ⟨nid, h1⟩ := r
      simp only
      rw [ih _ _ hnd' ?_]
      intro id' hm'
      have hne : (id' == id) = false := by
        simp only [beq_eq_false_iff_ne, ne_eq]
        intro e; exact hni (e ▸ hm')
      simp only [List.lookup_cons, hne]
      exact hm id' (by simp [hm'])


end TV.Features
