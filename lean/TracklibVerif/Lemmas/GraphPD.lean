import TracklibVerif.Lemmas.GraphStop
import TracklibVerif.Lemmas.PDict
import TracklibVerif.Model.GraphPD
/-! The forward loop driven by an explicit `priority_dict` (`forwardPD`) equals the loop with the abstract
"pop the minimum (label, id)" (`forward`): the dict holds exactly the labelled unsettled nodes, and
`pop_smallest` returns the node `popMinAux` designates (ties on the label broken by the node id). -/
namespace TV.Graph
open TV.PDict
section
variable {W : Type} [LinearOrder W] [Add W] [Zero W] [WalkAdd W]

structure Rel (net : Net W) (st : St W) (pd : PD W) : Prop where
  r1 : ∀ k x, lookup pd.dict k = some x ↔ (k < net.n ∧ st.vis k = false ∧ st.d k = some x)
  r2 : HInv pd

end

variable {W : Type} [LinearOrder W]

theorem popMinAux_lex (st : St W) (k : Nat) (u : Nat) (x : W) (h : popMinAux st k = some (u, x)) :
    ∀ v y, v < k → st.vis v = false → st.d v = some y → tle (x, u) (y, v) := by
  rw [popMinAux_eq_popKey] at h
  intro v y hvk hvis hdv
  obtain ⟨_, _, _, hmin⟩ := popKey_firstMin h
  obtain ⟨hle, hfirst⟩ := hmin v y hvk hvis hdv
  rcases lt_or_eq_of_le hle with hlt | heq
  · exact Or.inl hlt
  · exact Or.inr ⟨heq, hfirst (le_of_eq heq.symm)⟩

theorem pop_refines (net : Net W) (st : St W) (pd : PD W) (hrel : Rel net st pd) (u : Nat) (du : W)
    (hp : popMinAux st net.n = some (u, du)) :
    ∃ pd', popSmallest pd = some (u, pd') ∧ st.d u = some du ∧ len pd ≠ 0 ∧
      Rel net { st with vis := fun z => if z = u then true else st.vis z } pd' := by
  obtain ⟨hu, huv, hud, _⟩ := popMin_facts hp
  have hin : lookup pd.dict u = some du := (hrel.r1 u du).2 ⟨hu, huv, hud⟩
  obtain ⟨k, v, pd', h1, h2, h3, h4, h5⟩ := popSmallest_spec pd hrel.r2 u du hin
  obtain ⟨hk, hkv, hkd⟩ := (hrel.r1 k v).1 h2
  have hle1 : tle (v, k) (du, u) := h3 u du hin
  have hle2 : tle (du, u) (v, k) := popMinAux_lex st net.n u du hp k v hk hkv hkd
  have heq := tle_antisymm hle1 hle2
  simp only [Prod.mk.injEq] at heq
  obtain ⟨rfl, rfl⟩ := heq
  refine ⟨pd', h1, hud, ?_, ?_, h5⟩
  · intro h0
    unfold len at h0
    have : pd.dict = [] := List.eq_nil_of_length_eq_zero h0
    rw [this] at hin; simp [lookup] at hin
  · intro k' x
    rw [h4 k']
    by_cases hk' : k' = k
    · subst hk'; simp
    · simp only [hk', if_false]
      exact hrel.r1 k' x

theorem pop_none_refines (net : Net W) (st : St W) (pd : PD W) (hrel : Rel net st pd)
    (hp : popMinAux st net.n = none) : len pd = 0 := by
  unfold len
  cases hd : pd.dict with
  | nil => rfl
  | cons p r =>
    obtain ⟨a, w⟩ := p
    have hl : lookup pd.dict a = some w := by rw [hd]; simp [lookup]
    obtain ⟨h1, h2, h3⟩ := (hrel.r1 a w).1 hl
    have := (popMinAux_spec st net.n).1 hp a h1 h2
    rw [this] at h3; cases h3

variable [Add W]

theorem relaxOnePD_spec (net : Net W) (u : Nat) (du : W) (st : St W) (pd : PD W) (e : Edge W)
    (hrel : Rel net st pd) (hlt : other e u < net.n) :
    (relaxOnePD u du (st, pd) e).1 = relaxOne u du st e ∧
    Rel net (relaxOnePD u du (st, pd) e).1 (relaxOnePD u du (st, pd) e).2 := by
  have hset : st.vis (other e u) = false →
      Rel net { st with d := fun z => if z = other e u then some (du + e.w) else st.d z,
                        pred := fun z => if z = other e u then some (u, e.id) else st.pred z }
        (setitem pd (other e u) (du + e.w)) := by
    intro hv
    obtain ⟨s1, s2⟩ := setitem_spec pd hrel.r2 (other e u) (du + e.w)
    refine ⟨?_, s2⟩
    intro k x
    rw [s1 k]
    by_cases hk : k = other e u
    · subst hk
      simp only [if_true, Option.some.injEq]
      exact ⟨fun h => ⟨hlt, hv, h⟩, fun h => h.2.2⟩
    · simp only [hk, if_false]
      exact hrel.r1 k x
  unfold relaxOnePD relaxOne
  simp only []
  by_cases hv : st.vis (other e u) = true
  · simp only [hv, if_true]; exact ⟨by trivial, hrel⟩
  · have hv' : st.vis (other e u) = false := Bool.eq_false_iff.mpr hv
    simp only [hv', Bool.false_eq_true, if_false]
    cases hd : st.d (other e u) with
    | none => exact ⟨by trivial, hset hv'⟩
    | some y =>
      simp only []
      by_cases hl : du + e.w < y
      · simp only [hl, if_true]; exact ⟨by trivial, hset hv'⟩
      · simp only [hl, if_false]; exact ⟨by trivial, hrel⟩

theorem relaxAllPD_spec (net : Net W) (u : Nat) (du : W) (es : List (Edge W)) (hes : ∀ e ∈ es, other e u < net.n)
    (st : St W) (pd : PD W) (hrel : Rel net st pd) :
    (es.foldl (relaxOnePD u du) (st, pd)).1 = es.foldl (relaxOne u du) st ∧
    Rel net (es.foldl (relaxOnePD u du) (st, pd)).1 (es.foldl (relaxOnePD u du) (st, pd)).2 := by
  induction es generalizing st pd with
  | nil => exact ⟨rfl, hrel⟩
  | cons e es ih =>
    simp only [List.foldl_cons]
    obtain ⟨a, b⟩ := relaxOnePD_spec net u du st pd e hrel (hes e List.mem_cons_self)
    have := ih (fun e' he' => hes e' (List.mem_cons_of_mem _ he')) _ _ b
    rw [a] at this
    have hx : relaxOnePD u du (st, pd) e = (relaxOne u du st e, (relaxOnePD u du (st, pd) e).2) := by
      rw [← a]
    rw [hx]
    exact this

variable [Zero W]

omit [Add W] in
theorem rel_init (net : Net W) (s : Nat) (hs : s < net.n) : Rel net (St.init s) (ofDict [(s, (0 : W))]) := by
  refine ⟨?_, ofDict_inv _⟩
  intro k x
  simp only [ofDict, lookup, St.init]
  by_cases hk : s = k
  · subst hk; simp [hs]
  · have : ¬ k = s := fun h => hk h.symm
    simp [hk, this]

theorem forwardPD_eq (net : Net W) (hnet : WFNet net) (tgt : Option Nat) (cut : Option W) (f : Nat) (st : St W)
    (pd : PD W) (out : List (Nat × W)) (hrel : Rel net st pd) :
    forwardPD net tgt cut f st pd out = forward net tgt cut f st out := by
  induction f generalizing st pd out with
  | zero => rfl
  | succ f ih =>
    unfold forwardPD forward
    cases hp : popMinAux st net.n with
    | none => simp [pop_none_refines net st pd hrel hp]
    | some p =>
      obtain ⟨u, du⟩ := p
      obtain ⟨pd', h1, h2, h3, h4⟩ := pop_refines net st pd hrel u du hp
      simp only [h3, if_false, h1, h2]
      split
      · rfl
      · have hes : ∀ e ∈ nextEdges net u, other e u < net.n := by
          intro e he
          obtain ⟨a, b, _⟩ := hnet e (mem_nextEdges.1 he).1
          unfold other; split <;> assumption
        obtain ⟨a, b⟩ := relaxAllPD_spec net u du (nextEdges net u) hes _ pd' h4
        rw [ih _ _ _ b, a]
        rfl

theorem runForwardPD_eq (net : Net W) (hnet : WFNet net) (s : Nat) (hs : s < net.n) (tgt : Option Nat) (cut : Option W) :
    runForwardPD net s tgt cut = runForward net s tgt cut :=
  forwardPD_eq net hnet tgt cut net.n _ _ [] (rel_init net s hs)
end TV.Graph
