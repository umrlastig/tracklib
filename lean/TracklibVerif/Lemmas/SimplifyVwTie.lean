import TracklibVerif.Lemmas.SimplifyVw
/-! Visvalingam with **any** choice among equally small triangles (`Model/SimplifyTie.lean`): the runs (`VReach`). Every pass removes one
observation; whatever the areas the last observation stays (`VReach.any`); on a column all of whose triangle areas are numbers `<=`
ARGMIN's initial minimum every pass removes an *interior* observation and the state stays the initial column of the observations left
(`VReach.canon`). The code's own loop is one of these runs (`vwLoop_reach`), so each of these is also a statement about `vwLoop`;
the driver's level-by-level enumeration only returns such runs. No property of the scalar type is used. -/
namespace TV.Simplify
variable {α : Type} [Add α] [Sub α] [Mul α] [Div α] [Neg α] [LT α] [DecidableLT α] [BEq α]
  [OfNat α 0] [OfNat α 1] [OfNat α 2]

section
omit [Add α] [Sub α] [Mul α] [Div α] [Neg α] [OfNat α 0] [OfNat α 1] [OfNat α 2]

theorem mem_tieIds (big : α) (S : VState α) (j : Nat) (h : j ∈ tieIds big (S.map (·.2))) :
    j = argmin big (S.map (·.2)) ∨ ∃ p w, S[j]? = some (p, some w) := by
  revert h
  fun_cases tieIds big (S.map (·.2)) with
  | case1 id v hv hb =>
    intro h
    rcases List.mem_cons.mp h with e | hm
    · exact Or.inl e
    · have ht := (Bool.and_eq_true _ _ ▸ (List.mem_filter.mp hm).2).2
      revert ht
      fun_cases isTie (S.map (·.2)) v j with
      | case1 w hw => exact fun _ => (map_snd_num S j w hw).elim fun p hp => Or.inr ⟨p, w, hp⟩
      | case2 => nofun
  | case2 | case3 => exact fun h => Or.inl (List.mem_singleton.mp h)

theorem argmin_mem_tieIds (big : α) (col : List (Option α)) : argmin big col ∈ tieIds big col := by
  fun_cases tieIds big col with
  | case1 => exact List.mem_cons_self
  | case2 | case3 => exact List.mem_singleton.mpr rfl

end

section
omit [Add α] [Neg α]

theorem vwNext_body (big eps2 : α) (S S' : VState α) (hs : S' ∈ vwNext big eps2 S) :
    ∃ id, id ∈ tieIds big (S.map (·.2)) ∧ S' = vwBody S id ∧ S.length > 2 := by
  rw [vwNext_eq] at hs
  split at hs
  · rename_i hl
    split at hs
    · cases hs
    · obtain ⟨j, hj, e⟩ := List.mem_map.mp hs
      exact ⟨j, hj, e.symm, hl⟩
  · cases hs

theorem vwStep_mem_next (big eps2 : α) (S S1 : VState α) (hs : vwStep big eps2 S = some S1) : S1 ∈ vwNext big eps2 S := by
  obtain ⟨hl, hst, rfl⟩ := vwStep_some hs
  rw [vwNext_eq, if_pos hl, if_neg hst]
  exact List.mem_map.mpr ⟨_, argmin_mem_tieIds _ _, rfl⟩

theorem vwNext_nil_iff (big eps2 : α) (S : VState α) : vwNext big eps2 S = [] ↔ vwStep big eps2 S = none := by
  rw [vwNext_eq, vwStep_eq]
  split
  · split
    · exact ⟨fun _ => rfl, fun _ => rfl⟩
    · refine ⟨fun h => ?_, fun h => by cases h⟩
      have hm := argmin_mem_tieIds big (S.map (·.2))
      rw [List.map_eq_nil_iff.mp h] at hm
      cases hm
  · exact ⟨fun _ => rfl, fun _ => rfl⟩

theorem vwLoop_reach (big eps2 : α) (fuel : Nat) (S : VState α) : VReach big eps2 S (vwLoop big eps2 fuel S) := by
  fun_induction vwLoop big eps2 fuel S with
  | case1 S => exact VReach.refl S
  | case2 fuel S hs => exact VReach.refl S
  | case3 fuel S S1 hs ih => exact VReach.step (vwStep_mem_next big eps2 S S1 hs) ih

end

theorem VReach.sublist {big eps2 : α} {S S' : VState α} (r : VReach big eps2 S S') :
    (S'.map (·.1)).Sublist (S.map (·.1)) := by
  induction r with
  | refl S => exact List.Sublist.refl _
  | step hm _ ih =>
    obtain ⟨id, _, e, _⟩ := vwNext_body _ _ _ _ hm
    subst e
    exact ih.trans (by rw [vwBody_map_fst]; exact List.eraseIdx_sublist _ _)

theorem VInv.interior {big : α} {L : List (Fix α)} {S : VState α} (h : VInv big L S) (j : Nat) (p : Fix α) (v : α)
    (hj : S[j]? = some (p, some v)) : 0 < j ∧ j + 1 < S.length :=
  ⟨FirstNaN.pos h.first hj, LastNaN.lt h.last hj⟩

section
omit [Add α] [Sub α] [Mul α] [Div α] [Neg α] [OfNat α 0] [OfNat α 1] [OfNat α 2]

theorem Hit.tie_num {big : α} {S : VState α} (hh : Hit big S) {j : Nat} (hj : j ∈ tieIds big (S.map (·.2))) :
    ∃ p v, S[j]? = some (p, some v) :=
  (mem_tieIds big S j hj).elim (fun e => e ▸ hh.argmin_num) id

end

section
omit [Add α] [Neg α]

theorem vwInit_pass {big : α} {K : List (Fix α)} (hnum : NumAreas big K) (hl : 2 < K.length) {id : Nat}
    (hid : id ∈ tieIds big ((vwInit K).map (·.2))) :
    0 < id ∧ id + 1 < K.length ∧ vwBody (vwInit K) id = vwInit (K.eraseIdx id) ∧ 2 ≤ (K.eraseIdx id).length ∧
      NumAreas big (K.eraseIdx id) := by
  obtain ⟨p, v, e⟩ := (hit_vwInit hnum hl).tie_num hid
  have h0 := (vwInit_firstNaN K (Nat.le_of_lt (Nat.lt_of_succ_lt hl))).pos e
  have h1 := (vwInit_lastNaN K (Nat.le_of_lt (Nat.lt_of_succ_lt hl))).lt e
  rw [vwInit_length] at h1
  exact ⟨h0, h1, vwBody_vwInit K id h0 h1, by rw [List.length_eraseIdx_of_lt (Nat.lt_of_succ_lt h1)]; omega,
    hnum.sublist (List.eraseIdx_sublist K id)⟩

/-- a run on the initial column of `K`, all of whose triangle areas ARGMIN finds (numbers `<=` its initial minimum; T6's hypothesis is
`<`): every pass removes an interior observation, so every state is the initial column of its observations, a sub-sequence of `K`
with the same two ends -/
theorem VReach.canon {big eps2 : α} {S S' : VState α} (r : VReach big eps2 S S') :
    ∀ K : List (Fix α), S = vwInit K → 2 ≤ K.length → NumAreas big K →
      ∃ K', S' = vwInit K' ∧ K'.Sublist K ∧ K'.head? = K.head? ∧ K'.getLast? = K.getLast? ∧ 2 ≤ K'.length := by
  induction r with
  | refl S => intro K e h2 _; exact ⟨K, e, List.Sublist.refl _, rfl, rfl, h2⟩
  | step hm _ ih =>
    rintro K rfl h2 hnum
    obtain ⟨id, hid, rfl, hl⟩ := vwNext_body _ _ _ _ hm
    obtain ⟨h0, h1, e, h2', hnum'⟩ := vwInit_pass hnum (by rwa [vwInit_length] at hl) hid
    obtain ⟨K', e', s, a, b, c⟩ := ih _ e h2' hnum'
    exact ⟨K', e', s.trans (List.eraseIdx_sublist K id), a.trans (head?_eraseIdx_pos _ _ h0),
      b.trans (getLast?_eraseIdx_interior _ _ h1), c⟩

/-- a run with any tie-break, **no hypothesis on the areas**: the last observation stays, two or more observations stay two or more.
(The entry of the last observation is NaN from the start and the two guarded updates never write it, so no index that a tie-break may
answer is the last one.) -/
theorem VReach.any {big eps2 : α} {S S' : VState α} (r : VReach big eps2 S S') :
    LastNaN S → (S'.map (·.1)).getLast? = (S.map (·.1)).getLast? ∧ (2 ≤ S.length → 2 ≤ S'.length) := by
  induction r with
  | refl S => intro _; exact ⟨rfl, id⟩
  | @step S _ _ hm _ ih =>
    intro h
    obtain ⟨id, hid, e, hl⟩ := vwNext_body _ _ _ _ hm
    subst e
    have h1 : id + 1 < S.length := by
      rcases mem_tieIds _ _ _ hid with e | ⟨p, w, hp⟩
      · rw [e]; exact argmin_not_last big _ (by omega) h
      · exact h.lt hp
    obtain ⟨r2, r3⟩ := ih (h.body h1)
    refine ⟨?_, fun _ => r3 (by rw [vwBody_length _ _ (by omega)]; omega)⟩
    rw [r2, vwBody_map_fst, getLast?_eraseIdx_interior _ _ (by rw [List.length_map]; exact h1)]

end

/-- the code's loop stops by itself: `size − 2` passes are enough (`size ≤ 2` or `break`), whatever the column holds — a pass removes one
observation -/
theorem vwLoop_stops_any (big eps2 : α) (fuel : Nat) (S : VState α) (hl : S.length ≤ fuel + 2) :
    vwStep big eps2 (vwLoop big eps2 fuel S) = none := by
  fun_induction vwLoop big eps2 fuel S with
  | case1 S => exact vwStep_short big eps2 (S := S) (by omega)
  | case2 fuel S hs => exact hs
  | case3 fuel S S' hs ih =>
    obtain ⟨h2, _, rfl⟩ := vwStep_some hs
    have hid := argmin_lt big (S.map (·.2)) (by rw [List.length_map]; omega)
    rw [List.length_map] at hid
    exact ih (by rw [vwBody_length _ _ hid]; omega)

/-- the loop of `dedupTags` from an accumulator: a state joins unless one with the same observations is already there -/
def dedupFrom (acc l : List (VState α)) : List (VState α) :=
  l.foldl (fun acc S => if acc.any (fun T => tagsOf T == tagsOf S) then acc else acc ++ [S]) acc

section
omit [Add α] [Sub α] [Mul α] [Div α] [Neg α] [LT α] [DecidableLT α] [BEq α] [OfNat α 0] [OfNat α 1] [OfNat α 2]

theorem dedupFrom_cons (acc : List (VState α)) (S : VState α) (l : List (VState α)) :
    dedupFrom acc (S :: l) = dedupFrom (if acc.any (fun T => tagsOf T == tagsOf S) then acc else acc ++ [S]) l := rfl

theorem mem_dedupFrom {S : VState α} : ∀ (l acc : List (VState α)), S ∈ dedupFrom acc l → S ∈ acc ∨ S ∈ l
  | [], _, h => Or.inl h
  | a :: l, acc, h => by
    rcases mem_dedupFrom l _ (dedupFrom_cons acc a l ▸ h) with h1 | h1
    · split at h1
      · exact Or.inl h1
      · rcases List.mem_append.mp h1 with h2 | h2
        · exact Or.inl h2
        · right; rw [List.mem_singleton.mp h2]; exact List.mem_cons_self
    · exact Or.inr (List.mem_cons_of_mem _ h1)

theorem mem_dedupTags (l : List (VState α)) (S : VState α) (h : S ∈ dedupTags l) : S ∈ l :=
  (mem_dedupFrom l [] h).resolve_left (by intro h; cases h)

end

section
omit [Add α] [Neg α]

/-- everything the level-by-level enumeration returns is in `finals` already or is a state in which a run from a state of the frontier stops -/
theorem vwAllLevels_sound (big eps2 : α) (cap : Nat) (fuel : Nat) (frontier finals R : List (VState α))
    (h : vwAllLevels big eps2 cap fuel frontier finals = some R) :
    ∀ S ∈ R, S ∈ finals ∨ ∃ T ∈ frontier, VReach big eps2 T S ∧ vwNext big eps2 S = [] := by
  fun_induction vwAllLevels big eps2 cap fuel frontier finals with
  | case1 frontier finals hem | case3 fuel frontier finals hem => cases h; exact fun S hS => Or.inl hS
  | case2 frontier finals hem | case4 fuel frontier finals hem hcap => cases h
  | case5 fuel frontier finals hem hcap ih =>
    intro S hS
    rcases ih h S hS with h1 | ⟨T', hT', r, hn⟩
    · rcases List.mem_append.mp h1 with h1 | h1
      · exact Or.inl h1
      · obtain ⟨a, b⟩ := List.mem_filter.mp h1
        exact Or.inr ⟨S, a, VReach.refl S, List.isEmpty_iff.mp b⟩
    · obtain ⟨T, hT, hm⟩ := List.mem_flatMap.mp (mem_dedupTags _ T' hT')
      exact Or.inr ⟨T, hT, VReach.step hm r, hn⟩

end

end TV.Simplify
