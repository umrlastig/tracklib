import TracklibVerif.Lemmas.TextIOFixed
/-! `str(float)` over the whole range of magnitudes (core only): positional and exponent notation (`reprFloat`), read back by
`float()` (`parseDec?` with an exponent part) as the decimal that was printed, whose value is the value written. -/
namespace TV.TextIO

/-- whatever the fuel: stripping fewer zeros than there are satisfies the same equations -/
theorem stripZerosF_spec (f a : Nat) :
    ∃ tz, a = stripZerosF f a * 10 ^ tz ∧ numDigits a = numDigits (stripZerosF f a) + tz := by
  induction f generalizing a with
  | zero => exact ⟨0, by simp [stripZerosF], by simp [stripZerosF]⟩
  | succ f ih =>
    unfold stripZerosF
    split
    · rename_i h
      obtain ⟨tz, h1, h2⟩ := ih (a / 10)
      refine ⟨tz + 1, ?_, ?_⟩
      · rw [Nat.pow_succ, ← Nat.mul_assoc, ← h1]; omega
      · rw [numDigits_step a (by omega), h2]; omega
    · exact ⟨0, by simp, by simp⟩

theorem stripZeros_spec (a : Nat) : ∃ tz, a = stripZeros a * 10 ^ tz ∧ numDigits a = numDigits (stripZeros a) + tz :=
  stripZerosF_spec a a

theorem parseSInt_expDigits (x : Int) : parseSInt? ((if x < 0 then '-' else '+') :: zpad 2 x.natAbs) = some x := by
  unfold parseSInt?
  by_cases h : x < 0
  · have e : -((x.natAbs : Nat) : Int) = x := by omega
    simp [h, parseNat_zpad, e]
  · have e : ((x.natAbs : Nat) : Int) = x := by omega
    simp [h, parseNat_zpad, e]

/-- sign and mantissa `[-]d[.ddd]` -/
def sciHead (neg : Bool) (a : Nat) : Str := (if neg then ['-'] else []) ++ sciMant a

theorem sciHead_numChar (neg : Bool) (a : Nat) : Over numChar (sciHead neg a) := by
  intro c hc
  unfold sciHead sciMant at hc
  simp only [List.mem_append] at hc
  rcases hc with hc | hc | hc
  · cases neg <;> simp at hc
    subst hc; rfl
  · exact numChar_of_digit (natStr_digits _ c hc)
  · split at hc
    · simp at hc
    · rcases List.mem_cons.1 hc with rfl | hc
      · rfl
      · exact numChar_of_digit (padDigits_digits _ _ c hc)

theorem sciHead_ne_nil (neg : Bool) (a : Nat) : sciHead neg a ≠ [] := by
  unfold sciHead sciMant
  have := natStr_ne_nil (a / 10 ^ (numDigits a - 1))
  cases neg <;> simp [this]

theorem parseMant_sciHead (neg : Bool) (a : Nat) :
    parseMant? (sciHead neg a) = some (if neg then -(a : Int) else (a : Int), numDigits a - 1) := by
  unfold sciHead sciMant
  have hda : a / 10 ^ (numDigits a - 1) * 10 ^ (numDigits a - 1) + a % 10 ^ (numDigits a - 1) = a := by
    rw [Nat.mul_comm]; exact Nat.div_add_mod _ _
  by_cases hk : numDigits a = 1
  · have := parseMant_lit neg a [] 0 (fun _ h => by simp at h) rfl
    simpa [hk] using this
  · have := parseMant_lit neg (a / 10 ^ (numDigits a - 1)) ('.' :: padDigits (numDigits a - 1) (a % 10 ^ (numDigits a - 1)))
      (a % 10 ^ (numDigits a - 1)) (fun c h => by simpa using h.symm)
      (by rw [List.drop_one, List.tail_cons, parseNatAux_padDigits, Nat.mod_mod]; simp)
    simp only [List.drop_one, List.tail_cons, padDigits_length, hda] at this
    simpa only [hk, ↓reduceIte] using this

/-- **`float()` of the exponent notation**: `[-]d[.ddd](e|E)(+|-)xx` is read as the digits `a` with `numDigits a - 1`
decimals, scaled by the exponent -/
theorem parseDec_sci (ec : Char) (hec : isExpChar ec = true) (neg : Bool) (a : Nat) (x : Int) :
    parseDec? (sciHead neg a ++ expText ec x)
      = some (scaleDec (if neg then -(a : Int) else (a : Int)) (numDigits a - 1) x) := by
  have hnum := sciHead_numChar neg a
  have e : sciHead neg a ++ expText ec x = sciHead neg a ++ ec :: ((if x < 0 then '-' else '+') :: zpad 2 x.natAbs) := by
    simp [expText]
  have hstrip : strip (sciHead neg a ++ expText ec x) = sciHead neg a ++ expText ec x :=
    strip_between _ [ec, if x < 0 then '-' else '+'] (zpad 2 x.natAbs) (sciHead_ne_nil neg a) (zpad_ne_nil 2 x.natAbs)
      (fun c hc => (numChar_props (hnum c hc)).1) (fun c hc => (digit_of_digitVal (zpad_digits _ _ c hc)).1)
  unfold parseDec?
  rw [hstrip, e]
  have htw := takeWhile_until (fun c => !isExpChar c) (sciHead neg a) (ec :: ((if x < 0 then '-' else '+') :: zpad 2 x.natAbs))
    (fun c hc => by simp [(numChar_props (hnum c hc)).2.2.2.1]) (fun c hc => by simp at hc; simp [← hc, hec])
  simp only [htw.1, htw.2, parseMant_sciHead, parseSInt_expDigits]

theorem scaleDec_neg (m : Int) (k : Nat) (x : Int) :
    scaleDec (-m) k x = (-(scaleDec m k x).1, (scaleDec m k x).2) := by
  unfold scaleDec
  split
  · rfl
  · split
    · rfl
    · simp [Int.neg_mul]

theorem mul_pow_split (a p q r : Nat) (h : p + q = r) : a * 10 ^ p * 10 ^ q = a * 10 ^ r := by
  rw [Nat.mul_assoc, ← Nat.pow_add, h]

/-- digits `s` with `K ≥ 1` digits, `tz` trailing zeros removed, of a number with `d` decimals: the exponent notation
`s[0].s[1:] e (K + tz - 1 - d)` read back has the value `s · 10^tz / 10^d` -/
theorem scaleDec_value (s tz d K : Nat) (hK : 1 ≤ K) :
    (scaleDec (s : Int) (K - 1) (((K + tz : Nat) : Int) - 1 - (d : Int))).1 * 10 ^ d
      = ((s * 10 ^ tz : Nat) : Int) * 10 ^ (scaleDec (s : Int) (K - 1) (((K + tz : Nat) : Int) - 1 - (d : Int))).2 := by
  unfold scaleDec
  split
  · rename_i hx
    simp only
    have e : tz + (K - 1 + (((K + tz : Nat) : Int) - 1 - (d : Int)).natAbs) = d := by omega
    have := mul_pow_split s tz _ d e
    exact_mod_cast this.symm
  · rename_i hx
    split
    · rename_i hle
      simp only
      have e : tz + (K - 1 - (((K + tz : Nat) : Int) - 1 - (d : Int)).toNat) = d := by omega
      have := mul_pow_split s tz _ d e
      exact_mod_cast this.symm
    · rename_i hgt
      simp only [Int.pow_zero, Int.mul_one]
      have e : (((K + tz : Nat) : Int) - 1 - (d : Int)).toNat - (K - 1) + d = tz := by omega
      have := mul_pow_split s _ d tz e
      exact_mod_cast this

theorem trimFrac_spec (d f : Nat) : (trimFrac d f).1 ≤ d ∧ f = (trimFrac d f).2 * 10 ^ (d - (trimFrac d f).1) := by
  induction d, f using trimFrac.induct with
  | case1 f => simp [trimFrac]
  | case2 f => simp [trimFrac]
  | case3 d f h ih =>
    unfold trimFrac
    simp only [h, ↓reduceIte]
    refine ⟨by omega, ?_⟩
    have e : d + 2 - (trimFrac (d + 1) (f / 10)).1 = (d + 1 - (trimFrac (d + 1) (f / 10)).1) + 1 := by omega
    rw [e, Nat.pow_succ, ← Nat.mul_assoc, ← ih.2]
    omega
  | case4 d f h =>
    unfold trimFrac
    simp [h]

theorem trimFrac_lt (d f : Nat) (h : f < 10 ^ d) : (trimFrac d f).2 < 10 ^ (trimFrac d f).1 := by
  have hs := trimFrac_spec d f
  have hp : 10 ^ d = 10 ^ (trimFrac d f).1 * 10 ^ (d - (trimFrac d f).1) := by
    rw [← Nat.pow_add]; congr 1; omega
  rw [hp] at h
  have hpos : 0 < 10 ^ (d - (trimFrac d f).1) := Nat.pow_pos (by decide)
  have : (trimFrac d f).2 * 10 ^ (d - (trimFrac d f).1) < 10 ^ (trimFrac d f).1 * 10 ^ (d - (trimFrac d f).1) := by
    rw [← hs.2]; exact h
  exact Nat.lt_of_mul_lt_mul_right this

/-- what `float()` returns for the positional `str(±mag / 10^d)`: the mantissa without the trailing zeros of the decimals -/
def reprValS (d : Nat) (v : SNum) : Dec :=
  let t := trimFrac d (v.mag % 10 ^ d)
  let m : Int := ((v.mag / 10 ^ d * 10 ^ t.1 + t.2 : Nat) : Int)
  (if v.neg then -m else m, t.1)

theorem reprValS_value (d : Nat) (v : SNum) : (reprValS d v).2 ≤ d ∧ (reprValS d v).1 * 10 ^ (d - (reprValS d v).2) = v.toInt := by
  have hs := trimFrac_spec d (v.mag % 10 ^ d)
  refine ⟨hs.1, ?_⟩
  unfold reprValS SNum.toInt
  simp only
  generalize trimFrac d (v.mag % 10 ^ d) = t at hs
  have key : (v.mag / 10 ^ d * 10 ^ t.1 + t.2) * 10 ^ (d - t.1) = v.mag := by
    rw [Nat.add_mul, Nat.mul_assoc, ← Nat.pow_add, ← hs.2]
    have : t.1 + (d - t.1) = d := by omega
    rw [this, Nat.mul_comm]
    exact Nat.div_add_mod _ _
  have kz : (((v.mag / 10 ^ d * 10 ^ t.1 + t.2 : Nat) : Int)) * 10 ^ (d - t.1) = (v.mag : Int) := by
    exact_mod_cast key
  cases v.neg
  · simp only [Bool.false_eq_true, ↓reduceIte]; exact kz
  · simp only [↓reduceIte, Int.neg_mul, kz]

theorem parseDec_reprDecS (d : Nat) (v : SNum) : parseDec? (reprDecS d v) = some (reprValS d v) :=
  parseDec_core _ _ _ _ (trimFrac_lt d _ (Nat.mod_lt _ (Nat.pow_pos (by decide))))

theorem reprDecS_numChar (d : Nat) (v : SNum) : Over numChar (reprDecS d v) := lit_numChar _ _ _ _

theorem reprDecS_ne_nil (d : Nat) (v : SNum) : reprDecS d v ≠ [] := by
  unfold reprDecS
  have := natStr_ne_nil (v.mag / 10 ^ d)
  cases v.neg <;> simp [this]

/-- what `float()` returns for `str(x)`, `x = ±mag / 10^d`: in the exponent range the digits without trailing zeros scaled
by the exponent, else the positional decimal -/
def reprValF (d : Nat) (v : SNum) : Dec :=
  if useExp d v.mag then
    scaleDec (if v.neg then -(stripZeros v.mag : Int) else (stripZeros v.mag : Int)) (numDigits (stripZeros v.mag) - 1) (sciExp d v.mag)
  else if d = 0 then reprValS 1 ⟨v.neg, v.mag * 10⟩ else reprValS d v

/-- **`float(str(x))`**, syntactic half: the text `str` prints for `±mag / 10^d` — positional or exponent notation, marker
`e` or (after `str.upper()`) `E` — is accepted by `float()` and read as the decimal `reprValF d v` -/
theorem parseDec_reprFloat (ec : Char) (hec : isExpChar ec = true) (d : Nat) (v : SNum) :
    parseDec? (reprFloat ec d v) = some (reprValF d v) := by
  unfold reprFloat reprValF
  split
  · exact parseDec_sci ec hec v.neg (stripZeros v.mag) (sciExp d v.mag)
  · split
    · exact parseDec_reprDecS 1 _
    · exact parseDec_reprDecS d v

/-- **`float(str(x))`**, value half: the decimal read back is the value written, `mantissa / 10^decimals = ±mag / 10^d`
(cross-multiplied) — for every magnitude and both signs -/
theorem reprValF_value (d : Nat) (v : SNum) : (reprValF d v).1 * 10 ^ d = v.toInt * 10 ^ (reprValF d v).2 := by
  unfold reprValF
  split
  · obtain ⟨tz, h1, h2⟩ := stripZeros_spec v.mag
    have hK := numDigits_pos (stripZeros v.mag)
    have hv := scaleDec_value (stripZeros v.mag) tz d (numDigits (stripZeros v.mag)) hK
    have hx : sciExp d v.mag = ((numDigits (stripZeros v.mag) + tz : Nat) : Int) - 1 - (d : Int) := by
      unfold sciExp; rw [h2]
    rw [hx, ← h1] at *
    unfold SNum.toInt
    cases v.neg
    · simp only [Bool.false_eq_true, ↓reduceIte]
      exact hv
    · simp only [↓reduceIte, scaleDec_neg, Int.neg_mul, hv]
  · split
    · rename_i h0
      subst h0
      obtain ⟨hle, hval⟩ := reprValS_value 1 ⟨v.neg, v.mag * 10⟩
      generalize reprValS 1 ⟨v.neg, v.mag * 10⟩ = r at hle hval ⊢
      unfold SNum.toInt at hval ⊢
      simp only at hval
      have : r.2 = 0 ∨ r.2 = 1 := by omega
      rcases this with h | h
      · rw [h] at hval ⊢
        cases hn : v.neg <;> simp [hn] at hval ⊢ <;> omega
      · rw [h] at hval ⊢
        cases hn : v.neg <;> simp [hn] at hval ⊢ <;> omega
    · obtain ⟨hle, hval⟩ := reprValS_value d v
      generalize reprValS d v = r at hle hval
      rw [← hval, Int.mul_assoc, ← Int.pow_add]
      congr 2
      omega

/-- the characters of `str(float)`: number characters, the exponent marker, the `+` of a positive exponent -/
def floatChar (ec c : Char) : Bool := numChar c || c == ec || c == '+'

theorem reprFloat_over (ec : Char) (d : Nat) (v : SNum) : Over (floatChar ec) (reprFloat ec d v) := by
  have hnum : ∀ {s : Str}, Over numChar s → Over (floatChar ec) s := fun h => h.mono (fun c hc => by simp [floatChar, hc])
  unfold reprFloat
  split
  · rw [show (if v.neg then ['-'] else []) ++ sciMant (stripZeros v.mag) = sciHead v.neg (stripZeros v.mag) from rfl]
    refine (hnum (sciHead_numChar _ _)).append (Over.append ?_ (hnum (fun c hc => numChar_of_digit (zpad_digits _ _ c hc))))
    intro c hc
    simp only [List.mem_cons, List.not_mem_nil, or_false] at hc
    rcases hc with rfl | rfl
    · simp [floatChar]
    · split <;> simp [floatChar, numChar]
  · split <;> exact hnum (reprDecS_numChar _ _)

theorem reprFloat_ne_nil (ec : Char) (d : Nat) (v : SNum) : reprFloat ec d v ≠ [] := by
  unfold reprFloat
  split
  · have := sciHead_ne_nil v.neg (stripZeros v.mag)
    unfold sciHead at this
    intro h
    exact this (List.append_eq_nil_iff.1 h).1
  · split
    · exact reprDecS_ne_nil _ _
    · exact reprDecS_ne_nil _ _

end TV.TextIO
