import TracklibVerif.Lemmas.CinTabATab
import TracklibVerif.Lemmas.Features
import TracklibVerif.Lemmas.FeaturesInit
/-! The dict-and-rows table `Features.St` of a single track (C01's concrete model of `Track.__analyticalFeaturesDico` and the
`features` lists of its observations) satisfies the laws of a feature table: every law is carried over from the
specification table (`laws_ATab`) by the simulation lemma of the primitive concerned (`Features.sim_*`). -/
namespace TV.CinTab
open TV.Features

variable {V : Type} [Inhabited V]

/-- the table is aligned (C01's invariant) for the number of observations it holds -/
def sI (st : St V) : Prop := Inv st.rows.length st

def sN (st : St V) : Nat := st.rows.length

/-- what a feature name reads: the column of the index the dict designates -/
def sRd (st : St V) (name : String) : Option (List V) := aRd (abs st) name

theorem aI_abs {st : St V} (h : sI st) : aI (abs st) := by
  have hsz : (abs st).size = st.rows.length := abs_size h
  refine ⟨?_, ?_, ?_, ?_⟩
  · intro p hp
    simp only [abs, List.mem_map] at hp
    obtain ⟨q, _, rfl⟩ := hp
    rw [hsz]
    exact colAt_length st.rows q.2
  · rw [hsz]; exact h.ys
  · rw [hsz]; exact h.zs
  · rw [hsz]; exact h.ts

theorem read_transfer {α : Type} {P : α → Prop} {m : M (St V) α} {ma : M (ATab V) α} {st : St V}
    (hs : Sim st.rows.length P m ma) (h : sI st) (hst : (m st).2 = st) {x : α} {a' : ATab V} (ha : ma (abs st) = (.ok x, a')) :
    m st = (.ok x, st) := by
  obtain ⟨_, h2, _⟩ := hs st h
  rw [ha] at h2
  exact Prod.ext (Prod.mk.inj h2).1.symm hst

theorem write_transfer {m : M (St V) Unit} {ma : M (ATab V) Unit} {st : St V} (hs : Sim st.rows.length (fun _ => True) m ma)
    (h : sI st) {a' : ATab V} (ha : ma (abs st) = (.ok (), a')) {name : String} {R : Option (List V)} (hrd : aRd a' name = R)
    (hoth : ∀ m, m ≠ name → aRd a' m = aRd (abs st) m) (hco : a'.coord = (abs st).coord) :
    ∃ st', m st = (.ok (), st') ∧ sI st' ∧ sRd st' name = R ∧ sN st' = sN st ∧ (∀ m, m ≠ name → sRd st' m = sRd st m)
      ∧ St.coord st' = St.coord st := by
  obtain ⟨hinv, h2, _⟩ := hs st h
  rw [ha] at h2
  obtain ⟨e1, e2⟩ := Prod.mk.inj h2
  subst e2
  refine ⟨(m st).2, Prod.ext e1.symm rfl, ?_, hrd, hinv.size, hoth, ?_⟩
  · unfold sI
    rw [hinv.size]
    exact hinv
  · funext c
    rw [← abs_coord, hco, abs_coord]

theorem laws_St : Laws (σ := St V) (V := V) sI sN sRd St.coord where
  size := fun _ => rfl
  has := fun st name h hr => read_transfer (sim_has name) h rfl (laws_ATab.has (abs st) name (aI_abs h) hr)
  co_len := fun st c h => coord_length h c
  rd_len := by
    intro st name col h hrd
    have := laws_ATab.rd_len (abs st) name col (aI_abs h) hrd
    rw [this]
    exact abs_size h
  getObs_coord := fun o st c i v h hv =>
    read_transfer (sim_getObs o (cnm c) i) h (getObsC_state o _ i st)
      (laws_ATab.getObs_coord o (abs st) c i v (aI_abs h) (by rw [abs_coord]; exact hv))
  getObs_feat := fun o st name col i v h hr hrd hv =>
    read_transfer (sim_getObs o name i) h (getObsC_state o _ i st)
      (laws_ATab.getObs_feat o (abs st) name col i v (aI_abs h) hr hrd hv)
  get_feat := fun o st name col h hr hrd =>
    read_transfer (sim_get o name) h (getC_state o _ st) (laws_ATab.get_feat o (abs st) name col (aI_abs h) hr hrd)
  create_new := by
    intro st name v h hr hrd hn
    obtain ⟨a', col, ha, _, hrd', _, hoth, hco⟩ := laws_ATab.create_new (abs st) name v (aI_abs h) hr hrd
      (by rw [abs_size h]; exact hn)
    obtain ⟨st', e⟩ := write_transfer (sim_create name (.scalar v)) h ha hrd' hoth hco
    exact ⟨st', col, e⟩
  create_old := by
    intro st name v col h hr hrd hn
    refine read_transfer (sim_create name (.scalar v)) h ?_
      (laws_ATab.create_old (abs st) name v col (aI_abs h) hr hrd (by rw [abs_size h]; exact hn))
    -- the name is listed: `createC` returns the table as it is
    have hf : (find st.dico name).isSome = true := by
      have : aRd (abs st) name = some col := hrd
      rw [aRd_nr _ hr, abs_lookup] at this
      cases hfd : find st.dico name with
      | none => rw [hfd] at this; cases this
      | some idx => rfl
    have hne : st.rows.isEmpty = false := by
      cases hr' : st.rows with
      | nil => simp [sN, hr'] at hn
      | cons _ _ => rfl
    unfold createC hasC
    simp [hr, hne, hf]
  setObs := by
    intro st name col i v h hr hrd hi
    obtain ⟨a', ha, _, hrd', _, hoth, hco⟩ := laws_ATab.setObs (abs st) name col i v (aI_abs h) hr hrd
      (by rw [abs_size h]; exact hi)
    exact write_transfer (sim_setObs name i v) h ha hrd' hoth hco
  remove := by
    intro st name col h hr hrd
    obtain ⟨a', ha, _, hrd', _, hoth, hco⟩ := laws_ATab.remove (abs st) name col (aI_abs h) hr hrd
    exact write_transfer (sim_remove name) h ha hrd' hoth hco

end TV.CinTab
