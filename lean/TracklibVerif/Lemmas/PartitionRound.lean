import TracklibVerif.Lemmas.Partition
import Mathlib.Algebra.Order.Ring.Abs
import Mathlib.Tactic.Ring
import Mathlib.Tactic.LinearCombination
/-! Rounded addition (the standard model of floating-point arithmetic): how far the value of a bracketed sum computed
with a rounded addition `⊕` on `F` can be from the exact sum in an ordered commutative ring `α`, through an embedding `ι : F → α` with
`|ι (a ⊕ b) − (ι a + ι b)| ≤ u · |ι a + ι b|`. With height `≤ n`: `|ι (val) − Σ| ≤ ((1+u)^n − 1) · Σ|·|`. -/
namespace TV.Partition

namespace Br
def height : Br → Nat
  | seg _ _ => 0
  | node l r => max l.height r.height + 1

theorem height_lt_span : ∀ t : Br, t.WF → t.height + 1 ≤ t.hi - t.lo
  | seg _ _, h => by simp only [height, hi, lo]; simp only [WF] at h; omega
  | node l r, h => by
    have h1 := height_lt_span l h.1
    have h2 := height_lt_span r h.2.1
    have h3 := h.2.2
    have h4 := lo_lt_hi l h.1
    have h5 := lo_lt_hi r h.2.1
    simp only [height, hi, lo]
    omega
end Br

section round
variable {F α : Type} [Add F] [CommRing α] [LinearOrder α] [IsStrictOrderedRing α]

/-- one rounded addition on top of two sub-sums: `x` is the rounded sum of `vl` and `vr`, which approximate the exact sums `Sl`,
`Sr` with the bounds of the induction at `P = (1+u)^m` -/
theorem round_step {x vl vr Sl Sr Al Ar u P : α} (hu : 0 ≤ u)
    (he : |x - (vl + vr)| ≤ u * |vl + vr|)
    (el : |vl - Sl| ≤ (P - 1) * Al) (bl : |vl| ≤ P * Al)
    (er : |vr - Sr| ≤ (P - 1) * Ar) (br : |vr| ≤ P * Ar) :
    |x - (Sl + Sr)| ≤ (P * (1 + u) - 1) * (Al + Ar) ∧ |x| ≤ P * (1 + u) * (Al + Ar) := by
  have hsum : |vl + vr| ≤ P * Al + P * Ar := (abs_add_le _ _).trans (add_le_add bl br)
  have he' : |x - (vl + vr)| ≤ u * (P * Al + P * Ar) := he.trans (mul_le_mul_of_nonneg_left hsum hu)
  constructor
  · calc |x - (Sl + Sr)| = |(x - (vl + vr)) + ((vl - Sl) + (vr - Sr))| := by congr 1; ring
      _ ≤ |x - (vl + vr)| + (|vl - Sl| + |vr - Sr|) := (abs_add_le _ _).trans (add_le_add_right (abs_add_le _ _) _)
      _ ≤ u * (P * Al + P * Ar) + ((P - 1) * Al + (P - 1) * Ar) := add_le_add he' (add_le_add el er)
      _ = (P * (1 + u) - 1) * (Al + Ar) := by ring
  · calc |x| = |(x - (vl + vr)) + (vl + vr)| := by congr 1; ring
      _ ≤ |x - (vl + vr)| + |vl + vr| := abs_add_le _ _
      _ ≤ u * (P * Al + P * Ar) + (P * Al + P * Ar) := add_le_add he' hsum
      _ = P * (1 + u) * (Al + Ar) := by ring

theorem round_err (ι : F → α) (u : α) (hu : 0 ≤ u)
    (herr : ∀ a b : F, |ι (a + b) - (ι a + ι b)| ≤ u * |ι a + ι b|) (C : Nat → Nat → F) :
    ∀ (t : Br) (n : Nat), t.height ≤ n →
      |ι (t.val C) - t.val (fun a b => ι (C a b))| ≤ ((1 + u) ^ n - 1) * t.val (fun a b => |ι (C a b)|) ∧
      |ι (t.val C)| ≤ (1 + u) ^ n * t.val (fun a b => |ι (C a b)|)
  | .seg a b, n, _ => by
    have h1 : 1 ≤ (1 + u) ^ n := one_le_pow₀ (le_add_of_nonneg_right hu)
    simp only [Br.val, sub_self, abs_zero]
    exact ⟨mul_nonneg (sub_nonneg.mpr h1) (abs_nonneg _), le_mul_of_one_le_left (abs_nonneg _) h1⟩
  | .node l r, 0, hn => absurd hn (Nat.not_succ_le_zero _)
  | .node l r, m + 1, hn => by
    have hm : max l.height r.height ≤ m := Nat.le_of_succ_le_succ hn
    obtain ⟨el, bl⟩ := round_err ι u hu herr C l m (le_trans (le_max_left _ _) hm)
    obtain ⟨er, br⟩ := round_err ι u hu herr C r m (le_trans (le_max_right _ _) hm)
    simp only [Br.val, pow_succ]
    exact round_step hu (herr _ _) el bl er br
/-- two bracketings whose rounded values are ordered: their exact summed costs (`Br.val_eq_pathCost`) are ordered up to the two
rounding errors of `round_err` -/
theorem br_exact_le (ι : F → α) (u : α) (hu : 0 ≤ u) (herr : ∀ a b : F, |ι (a + b) - (ι a + ι b)| ≤ u * |ι a + ι b|)
    (C : Nat → Nat → F) (t t' : Br) (wf : t.WF) (wf' : t'.WF) (n : Nat) (hn : t.hi - t.lo ≤ n + 1)
    (hn' : t'.hi - t'.lo ≤ n + 1) (hle : ι (t.val C) ≤ ι (t'.val C)) :
    pathCost 0 (fun a b => ι (C a b)) t.chain ≤ pathCost 0 (fun a b => ι (C a b)) t'.chain +
      ((1 + u) ^ n - 1) * (pathCost 0 (fun a b => |ι (C a b)|) t.chain + pathCost 0 (fun a b => |ι (C a b)|) t'.chain) := by
  have b := abs_le.mp (round_err ι u hu herr C t n (by have := Br.height_lt_span t wf; omega)).1
  have b' := abs_le.mp (round_err ι u hu herr C t' n (by have := Br.height_lt_span t' wf'; omega)).1
  rw [← t.val_eq_pathCost _ wf, ← t.val_eq_pathCost _ wf, ← t'.val_eq_pathCost _ wf', ← t'.val_eq_pathCost _ wf']
  linear_combination b.1 + b'.2 + hle
end round
end TV.Partition
