import TracklibVerif.Lemmas.HmmPos
import TracklibVerif.Lemmas.Common.MapM
/-! The user functions are evaluated on the track of the call (`Model/Hmm.lean`): `estimate` depends on `S`, `Q`, `P`
only through their values on the track it is handed, as that track is WHEN THE CALL IS MADE — whatever the functions
would return on any other track, in particular on the half-written tracks the call itself goes through (result
features created, later epochs already written, positions of later epochs already rebound in the modes 3, 4, 5).
Second part: no function of the model other than `estimateX` ever reports `Err.user`. -/
namespace TV.Hmm
open TV.Viterbi
variable {α : Type}

theorem tablesOf_congr [Add α] [Neg α] (nm : Num α) (h1 h2 : Obj α) (tr : Trk α)
    (hQ : ∀ a b k, h1.Q a b k tr = h2.Q a b k tr) (hP : ∀ s y k, h1.P s y k tr = h2.P s y k tr)
    (hl : h1.log = h2.log) : tablesOf nm h1 tr = tablesOf nm h2 tr := by
  funext ST OBS
  simp only [tablesOf, hQ, hP, hl]

theorem domainError_congr [Add α] (nm : Num α) (h1 h2 : Obj α) (tr : Trk α)
    (hQ : ∀ a b k, h1.Q a b k tr = h2.Q a b k tr) (hP : ∀ s y k, h1.P s y k tr = h2.P s y k tr)
    (hl : h1.log = h2.log) : domainError nm h1 tr = domainError nm h2 tr := by
  funext ST OBS
  simp only [domainError, hQ, hP, hl]

/-- two objects that define the same model ON THE TRACK `tr` (same candidates at its epochs, same values of `Q` and `P`, same
flag; on every other track they may differ) give the same call -/
theorem estimate_congr [Add α] [Neg α] [LT α] [DecidableLT α] [BEq α] (nm : Num α) (h1 h2 : Obj α) (tr : Trk α)
    (obs : List String) (log : Bool) (mode : Nat) (hS : ∀ k, k < tr.size → h1.S tr k = h2.S tr k)
    (hQ : ∀ a b k, h1.Q a b k tr = h2.Q a b k tr) (hP : ∀ s y k, h1.P s y k tr = h2.P s y k tr)
    (hl : h1.log = h2.log) :
    (estimate nm h1 tr obs log mode).2 = (estimate nm h2 tr obs log mode).2 ∧
    (estimate nm h1 tr obs log mode).1.log = (estimate nm h2 tr obs log mode).1.log := by
  have hT := tablesOf_congr nm { h1 with log := h1.log || log } { h2 with log := h2.log || log } tr hQ hP
    (congrArg (· || log) hl)
  unfold estimate
  -- after rewriting, both sides branch on the same discriminants and differ in the returned object only
  simp only [List.map_congr_left (fun k hk => hS k (List.mem_range.mp hk)), hT]
  repeat' split
  all_goals exact ⟨rfl, congrArg (· || log) hl⟩

/-- the object whose functions ignore the track they are handed and answer as they do on `tr0`: the candidate lists and
likelihood tables "frozen" when the track was `tr0` -/
def Obj.frozen (h : Obj α) (tr0 : Trk α) : Obj α :=
  { S := fun _ k => h.S tr0 k, Q := fun a b k _ => h.Q a b k tr0, P := fun s y k _ => h.P s y k tr0, log := h.log }

theorem getObs_ne_user (nm : Num α) (tr : Trk α) (name : String) (i : Nat) :
    tr.getObs nm name i ≠ .error .user := by
  fun_cases Trk.getObs nm tr name i <;> nofun

theorem create_ne_user (tr : Trk α) (name : String) (init : Cell α) : tr.create name init ≠ .error .user := by
  fun_cases Trk.create tr name init <;> nofun

theorem setObs_ne_user (tr : Trk α) (name : String) (i : Nat) (v : Cell α) : tr.setObs name i v ≠ .error .user := by
  fun_cases Trk.setObs tr name i v <;> nofun

theorem getObsK_ne_user (nm : Num α) (tr : Trk α) (obs : List String) (k mode : Nat) :
    getObsK nm tr obs k mode ≠ .error .user := by
  fun_cases getObsK nm tr obs k mode
  case case1 e he =>
    obtain ⟨x, _, hx⟩ := Common.mapM_error_mem he
    exact fun h => getObs_ne_user nm tr x k (Except.error.inj h ▸ hx)
  all_goals nofun

theorem writeBack_ne_user (mode : Nat) (STATES : List (List Nat)) :
    ∀ (cols : List (List α × List Nat)) (idk : Nat) (tr : Trk α),
      (writeBack mode STATES cols idk tr).2 ≠ some .user := by
  intro cols idk tr
  fun_induction writeBack mode STATES cols idk tr
  case case2 e he => exact fun h => setObs_ne_user _ _ _ _ (Option.some.inj h ▸ he)
  case case3 e he => exact fun h => setObs_ne_user _ _ _ _ (Option.some.inj h ▸ he)
  case case4 ih => exact ih
  all_goals nofun

/-- `estimate` itself never reports a user function's exception (its user functions are total) -/
theorem estimate_ne_user [Add α] [Neg α] [LT α] [DecidableLT α] [BEq α] (nm : Num α) (h : Obj α) (tr : Trk α)
    (obs : List String) (log : Bool) (mode : Nat) : (estimate nm h tr obs log mode).2.2 ≠ some .user := by
  fun_cases estimate nm h tr obs log mode
  case case1 e he =>
    obtain ⟨k, _, hk⟩ := Common.mapM_error_mem he
    exact fun h => getObsK_ne_user nm tr obs k mode (Option.some.inj h ▸ hk)
  case case4 e he => exact fun h => create_ne_user _ _ _ (Option.some.inj h ▸ he)
  case case5 e he => exact fun h => create_ne_user _ _ _ (Option.some.inj h ▸ he)
  case case7 => exact writeBack_ne_user mode _ _ _ _
  all_goals nofun

theorem estimateS_ne_user [Add α] [Neg α] [LT α] [DecidableLT α] [BEq α] (nm : Num α) (h : ObjS α) (tr : Trk α)
    (obs : List String) (log : Bool) (mode : Nat) : (estimateS nm h tr obs log mode).2.2 ≠ some .user := by
  fun_cases estimateS nm h tr obs log mode
  case case2 => exact estimate_ne_user nm h.toObj tr obs log mode
  all_goals nofun

theorem firstErr_ne_user (l : List (Option Err)) (h : ∀ e, e ∈ l → e ≠ some .user) : firstErr l ≠ some .user := by
  fun_induction firstErr l
  case case1 => nofun
  case case2 ih => exact ih (fun e he => h e (List.mem_cons_of_mem _ he))
  case case3 e _ => exact h (some e) List.mem_cons_self

theorem callErr_some_ne_user [Add α] (nm : Num α) (log : Bool) (v : Option α) (hv : v.isSome) :
    callErr nm log v ≠ some .user := by
  fun_cases callErr nm log v
  case case1 => nomatch hv
  all_goals nofun

theorem callsOf_ne_user [Add α] (nm : Num α) (log : Bool) (h : ObjX α) (tr : Trk α) (ST : List (List Nat))
    (OBS : List (List (ObsItem α))) (hQ : ∀ a b k, (h.Q a b k tr).isSome) (hP : ∀ s y k, (h.P s y k tr).isSome) :
    firstErr (callsOf nm log h tr ST OBS) ≠ some .user := by
  apply firstErr_ne_user
  intro e he
  unfold callsOf at he
  simp only [List.mem_append, List.mem_map, List.mem_flatMap, List.mem_singleton] at he
  rcases he with ⟨s, _, rfl⟩ | ⟨k, _, s2, _, (⟨s1, _, rfl⟩ | rfl)⟩
  · exact callErr_some_ne_user nm _ _ (hP _ _ _)
  · exact callErr_some_ne_user nm _ _ (hQ _ _ _)
  · exact callErr_some_ne_user nm _ _ (hP _ _ _)
end TV.Hmm
