import TracklibVerif.Lemmas.FeaturesRelEval
/-! Simulation between ANY two implementations of the Track API (`Tbl σ V`, `Tbl τ V`), generic in the invariant `I` of
the first and the abstraction `ab : σ → τ`. `GSim I ab` is the relation `Rel` of `Lemmas/FeaturesRel.lean` between a
state satisfying `I` and its abstraction, with no claim about the step (`gsim_iff`); `PrimSim` = "the nine primitives are
simulated" then gives the simulation of every program written against the API, up to one API call `step` and the list
forms. The code's table against the specification table is the instance `σ = St V`, `τ = ATab V`, `I = Inv n`, `ab = abs`
(`Lemmas/FeaturesSim.lean`, `Lemmas/Features.lean`); the heap of objects against the table it shows is another
(`Lemmas/FeaturesWorld.lean`). -/
namespace TV.Features
variable {V : Type} {σ τ : Type}

def GSim {α : Type} (I : σ → Prop) (ab : σ → τ) (P : α → Prop) (m : M σ α) (ma : M τ α) : Prop :=
  ∀ st, I st → I (m st).2 ∧ ma (ab st) = ((m st).1, ab (m st).2) ∧ ∀ x, (m st).1 = .ok x → P x

variable {I : σ → Prop} {ab : σ → τ}

theorem gsim_of {α : Type} {m : M σ α} {ma : M τ α}
    (h : ∀ st, I st → I (m st).2 ∧ ma (ab st) = ((m st).1, ab (m st).2)) : GSim I ab (fun _ => True) m ma :=
  fun st hi => ⟨(h st hi).1, (h st hi).2, fun _ _ => trivial⟩

theorem gsim_iff {α : Type} {P : α → Prop} {m : M σ α} {ma : M τ α} :
    GSim I ab P m ma ↔ Rel (fun s t => I s ∧ t = ab s) Any P m ma := by
  constructor
  · intro h s t ⟨hi, ht⟩
    obtain ⟨a, b, c⟩ := h s hi
    subst ht
    rw [b]
    exact ⟨rfl, ⟨a, rfl⟩, trivial, c⟩
  · intro h st hi
    obtain ⟨a, b, _, d⟩ := h st (ab st) ⟨hi, rfl⟩
    exact ⟨b.1, Prod.ext a b.2, d⟩

theorem rel_of_gsim {α : Type} {S : τ → τ → Prop} {P : α → Prop} {m : M σ α} {ma : M τ α} (h : GSim I ab P m ma)
    (hs : ∀ s, I s → S (ab s) (ma (ab s)).2) : Rel (fun s t => I s ∧ t = ab s) S P m ma := fun s t hj =>
  let ⟨a, b, _, d⟩ := gsim_iff.1 h s t hj
  ⟨a, b, hj.2 ▸ hs s hj.1, d⟩

theorem gsim_weaken {α : Type} {P Q : α → Prop} {m : M σ α} {ma : M τ α} (h : GSim I ab P m ma)
    (hpq : ∀ x, P x → Q x) : GSim I ab Q m ma :=
  gsim_iff.2 (rel_weaken (gsim_iff.1 h) hpq)

class PrimSim [Tbl σ V] [Tbl τ V] (I : σ → Prop) (ab : σ → τ) : Prop where
  size : GSim I ab (fun _ => True) (Tbl.size : M σ Nat) (Tbl.size : M τ Nat)
  has : ∀ name, GSim I ab (fun _ => True) (Tbl.has name : M σ Bool) (Tbl.has name : M τ Bool)
  names : GSim I ab (fun _ => True) (Tbl.names : M σ (List String)) (Tbl.names : M τ (List String))
  get : ∀ (o : Ops V) name, GSim I ab (fun _ => True) (Tbl.get o name : M σ (List V)) (Tbl.get o name : M τ (List V))
  getObs : ∀ (o : Ops V) name i, GSim I ab (fun _ => True) (Tbl.getObs o name i : M σ V) (Tbl.getObs o name i : M τ V)
  setObs : ∀ name i (v : V), GSim I ab (fun _ => True) (Tbl.setObs name i v : M σ Unit) (Tbl.setObs name i v : M τ Unit)
  create : ∀ name (init : Init V), GSim I ab (fun _ => True) (Tbl.create name init : M σ Unit) (Tbl.create name init : M τ Unit)
  update : ∀ name (init : Init V), GSim I ab (fun _ => True) (Tbl.update name init : M σ Unit) (Tbl.update name init : M τ Unit)
  remove : ∀ name, GSim I ab (fun _ => True) (Tbl.remove name : M σ Unit) (Tbl.remove name : M τ Unit)

variable [Tbl σ V] [Tbl τ V] [hp : PrimSim (V := V) I ab]

theorem PrimSim.rel : PrimRel (V := V) (fun s t => I s ∧ t = ab s) Any (fun _ => True) (fun _ => True) True :=
  PrimRel.of_nine (gsim_iff.1 hp.size) (fun nm => gsim_iff.1 (hp.has nm)) (gsim_iff.1 hp.names)
    (fun o nm => gsim_iff.1 (hp.get o nm)) (fun o nm i => gsim_iff.1 (hp.getObs o nm i))
    (fun nm i v _ => gsim_iff.1 (hp.setObs nm i v)) (fun nm init _ => gsim_iff.1 (hp.create nm init))
    (fun nm init _ => gsim_iff.1 (hp.update nm init)) (fun nm _ => gsim_iff.1 (hp.remove nm))

theorem gsim_applyVoid (o : Ops V) (f : V → Except Err V) (inp out : String) :
    GSim I ab (fun _ => True) (applyVoid (σ := σ) o f inp out) (applyVoid (σ := τ) o f inp out) :=
  gsim_iff.2 (rel_applyVoid (PrimSim.rel (I := I) (ab := ab)) o f inp out trivial)

theorem gsim_shiftCircular (o : Ops V) (inp : String) (arg : V) (out : String) :
    GSim I ab (fun _ => True) (shiftCircular (σ := σ) o inp arg out) (shiftCircular (σ := τ) o inp arg out) :=
  gsim_iff.2 (rel_shiftCircular (PrimSim.rel (I := I) (ab := ab)) o inp arg out trivial)

theorem gsim_evaluate (o : Ops V) (rpn : List String) :
    GSim I ab (fun _ => True) (evaluate (σ := σ) o rpn) (evaluate (σ := τ) o rpn) :=
  gsim_iff.2 (rel_evaluate (PrimSim.rel (I := I) (ab := ab)) o rpn trivial (fun _ _ => ⟨trivial, trivial⟩)
    (fun _ _ _ => trivial))

theorem gsim_step (o : Ops V) (op : Op V) :
    GSim I ab (fun _ => True) (step (σ := σ) o op) (step (σ := τ) o op) :=
  gsim_iff.2 (rel_step (PrimSim.rel (I := I) (ab := ab)) o op (fun _ _ => trivial) (fun _ _ => trivial)
    (fun _ _ => trivial))

theorem gsim_trace (o : Ops V) (ops : List (Op V)) (s : σ) (h : I s) :
    trace o ops (ab s) = (trace o ops s).map (fun r => (r.1, ab r.2)) ∧ ∀ r ∈ trace o ops s, I r.2 := by
  induction ops generalizing s with
  | nil => exact ⟨rfl, fun r hr => by simp [trace] at hr⟩
  | cons op rest ih =>
    obtain ⟨hi, he, _⟩ := gsim_step (I := I) (ab := ab) o op s h
    obtain ⟨i1, i2⟩ := ih _ hi
    refine ⟨?_, fun r hr => ?_⟩
    · simp only [trace, List.map_cons]
      rw [he]
      simp only
      rw [i1]
    · simp only [trace, List.mem_cons] at hr
      rcases hr with rfl | hr
      · exact hi
      · exact i2 r hr

theorem gsim_runOps (o : Ops V) (ops : List (Op V)) (s : σ) (h : I s) :
    I (runOps o ops s) ∧ ab (runOps o ops s) = runOps o ops (ab s) := by
  induction ops generalizing s with
  | nil => exact ⟨h, rfl⟩
  | cons op rest ih =>
    obtain ⟨hi, he, _⟩ := gsim_step (I := I) (ab := ab) o op s h
    have := ih _ hi
    simp only [runOps, List.foldl_cons] at this ⊢
    rw [he]
    exact this

theorem gsim_stepList (o : Ops V) (ops : List (Op V)) :
    GSim I ab (fun _ => True) (stepList (σ := σ) o ops) (stepList (σ := τ) o ops) :=
  gsim_iff.2 (rel_stepList (PrimSim.rel (I := I) (ab := ab)) o ops (fun _ _ _ _ => trivial) (fun _ _ _ _ => trivial)
    (fun _ _ => trivial))

theorem gsim_call (o : Ops V) (c : Call V) :
    GSim I ab (fun _ => True) (call (σ := σ) o c) (call (σ := τ) o c) := by
  cases c with
  | one op => exact gsim_step o op
  | list ops => exact gsim_stepList o ops
  | refused => exact gsim_iff.2 (rel_throw _)

end TV.Features
