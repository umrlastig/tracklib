import TracklibVerif.Model.PartitionArr
import TracklibVerif.Lemmas.PartitionTable
/-! The array form of `optimalPartition` equals the function-table form (core Lean only). -/
namespace TV.Partition
variable {α : Type}

def Square {β : Type} (N : Nat) (T : Array (Array β)) : Prop := T.size = N ∧ ∀ r ∈ T, r.size = N

theorem square_mset {β : Type} (N : Nat) (T : Array (Array β)) (i j : Nat) (v : β) (h : Square N T) : Square N (mset T i j v) := by
  refine ⟨by simp [mset, h.1], fun r hr => ?_⟩
  obtain ⟨a, ha, rfl⟩ := Array.getElem_of_mem hr
  simp only [mset, Array.getElem_modify]
  split
  · rw [Array.size_setIfInBounds]; exact h.2 _ (Array.getElem_mem _)
  · exact h.2 _ (Array.getElem_mem _)

theorem mget_mset {β : Type} (d : β) (N : Nat) (T : Array (Array β)) (i j : Nat) (v : β) (h : Square N T)
    (hi : i < N) (hj : j < N) : mget d (mset T i j v) = upd (mget d T) i j v := by
  funext a b
  obtain ⟨h1, h2⟩ := h
  simp only [upd, mget, mset, Array.getElem?_modify]
  by_cases hia : i = a
  · subst hia
    have hlt : i < T.size := by omega
    rw [if_pos rfl, Array.getElem?_eq_getElem hlt]
    have hr : T[i].size = N := h2 _ (Array.getElem_mem hlt)
    simp only [Option.map_some, Array.getElem?_setIfInBounds]
    by_cases hjb : j = b
    · subst hjb
      simp [hr, hj]
    · have : ¬ (b = j) := fun h => hjb h.symm
      simp [hjb, this]
  · have : ¬ (a = i) := fun h => hia h.symm
    simp [hia, this]

/-- abstraction: the arrays seen as functions of their two indices -/
def absT (zero : α) (t : TabsA α) : Tabs α := ⟨mget zero t.D, mget 0 t.M⟩

def SquareT (N : Nat) (t : TabsA α) : Prop := Square N t.D ∧ Square N t.M

theorem loop_refine {σ τ : Type} (abs : σ → τ) (P : σ → Prop) (fA : Nat → σ → σ) (f : Nat → τ → τ) (lo n : Nat)
    (h : ∀ x s, lo ≤ x → x < lo + n → P s → abs (fA x s) = f x (abs s) ∧ P (fA x s)) (s : σ) (hs : P s) :
    abs (loop lo n fA s) = loop lo n f (abs s) ∧ P (loop lo n fA s) := by
  induction n with
  | zero => exact ⟨rfl, hs⟩
  | succ n ih =>
    obtain ⟨e, p⟩ := ih (fun x s h1 h2 => h x s h1 (by omega))
    simp only [loop]
    obtain ⟨e2, p2⟩ := h (lo + n) _ (by omega) (by omega) p
    exact ⟨by rw [e2, e], p2⟩

theorem mget_tab {β : Type} (d : β) (N : Nat) (F : Nat → Nat → β) (a b : Nat) :
    mget d ((Array.range N).map fun i => (Array.range N).map (F i)) a b = if a < N ∧ b < N then F a b else d := by
  simp only [mget, Array.getElem?_map, Array.getElem?_range]
  by_cases ha : a < N <;> by_cases hb : b < N <;> simp [ha, hb]

theorem square_tab {β : Type} (N : Nat) (F : Nat → Nat → β) : Square N ((Array.range N).map fun i => (Array.range N).map (F i)) := by
  refine ⟨by simp, fun r hr => ?_⟩
  obtain ⟨i, _, rfl⟩ := Array.mem_map.mp hr
  simp

theorem init_refine (zero : α) (N : Nat) (C : Nat → Nat → α) :
    absT zero (initA zero N C) = init zero N C ∧ SquareT N (initA zero N C) := by
  have tri : ∀ {β : Type} (a b : Nat) (x y : β),
      (if a < N ∧ b < N then (if a ≤ b then x else y) else y) = if a ≤ b ∧ b < N then x else y := fun a b x y => by
    by_cases h : a ≤ b ∧ b < N
    · rw [if_pos h, if_pos (by omega), if_pos h.1]
    · rw [if_neg h]
      by_cases h1 : a < N ∧ b < N
      · rw [if_pos h1, if_neg (by omega)]
      · rw [if_neg h1]
  refine ⟨?_, square_tab N _, square_tab N _⟩
  unfold absT initA init
  congr 1 <;> funext a b <;> rw [mget_tab] <;> exact tri a b _ _

theorem condWrite_refine (zero : α) (N i j : Nat) (kk : Int) (v : α) (c : Prop) [Decidable c] (s : TabsA α)
    (h : SquareT N s) (hi : i < N) (hj : j < N) :
    absT zero (if c then (⟨mset s.D i j v, mset s.M i j kk⟩ : TabsA α) else s) =
      (if c then (⟨upd (absT zero s).D i j v, upd (absT zero s).M i j kk⟩ : Tabs α) else absT zero s) ∧
    SquareT N (if c then (⟨mset s.D i j v, mset s.M i j kk⟩ : TabsA α) else s) := by
  obtain ⟨hD, hM⟩ := h
  by_cases hc : c
  · simp only [if_pos hc]
    refine ⟨?_, square_mset N _ i j _ hD, square_mset N _ i j _ hM⟩
    simp only [absT, mget_mset zero N s.D i j v hD hi hj, mget_mset 0 N s.M i j kk hM hi hj]
  · constructor
    · rw [if_neg hc, if_neg hc]
    · rw [if_neg hc]; exact ⟨hD, hM⟩

variable [Add α] [LT α] [DecidableLT α]

theorem stepKA_eq (zero : α) (mode i j k : Nat) (t : TabsA α) :
    stepKA zero mode i j k t =
      if better mode (mget zero t.D i k + mget zero t.D k j) (mget zero t.D i j) = true
      then ⟨mset t.D i j (mget zero t.D i k + mget zero t.D k j), mset t.M i j (k : Int)⟩ else t :=
  two_tests_eq (σ := TabsA α) mode (mget zero t.D i k + mget zero t.D k j) (fun t => mget zero t.D i j)
    (fun s => ⟨mset s.D i j (mget zero t.D i k + mget zero t.D k j), mset s.M i j (k : Int)⟩) t

theorem stepK_refine (zero : α) (N mode i j k : Nat) (t : TabsA α) (h : SquareT N t) (hi : i < N) (hj : j < N) :
    absT zero (stepKA zero mode i j k t) = stepK mode i j k (absT zero t) ∧ SquareT N (stepKA zero mode i j k t) := by
  rw [stepKA_eq, stepK_eq]
  exact condWrite_refine zero N i j (k : Int) (mget zero t.D i k + mget zero t.D k j)
    (better mode (mget zero t.D i k + mget zero t.D k j) (mget zero t.D i j) = true) t h hi hj

theorem fill_refine (zero : α) (mode N : Nat) (t : TabsA α) (h : SquareT N t) :
    absT zero (fillA zero mode N t) = fill mode N (absT zero t) := by
  unfold fillA fill
  refine (loop_refine (absT zero) (SquareT N) _ _ _ _ (fun diag s hd1 hd2 hs => ?_) t h).1
  unfold diagLoopA diagLoop
  apply loop_refine (absT zero) (SquareT N)
  · intro i s' _ hi2 hs'
    unfold cellLoopA cellLoop
    apply loop_refine (absT zero) (SquareT N)
    · intro k s'' _ _ hs''
      exact stepK_refine zero N mode i (i + diag) k s'' hs'' (by omega) (by omega)
    · exact hs'
  · exact hs

theorem tablesA_eq (zero : α) (rows : Nat) (C : Nat → Nat → α) (mode : Nat) :
    absT zero (tablesA zero rows C mode) = tables zero rows C mode := by
  unfold tablesA tables
  obtain ⟨e, w⟩ := init_refine zero (rows - 1) C
  rw [fill_refine zero mode (rows - 1) _ w, e]

theorem optimalPartitionA_eq (zero : α) (rows : Nat) (C : Nat → Nat → α) (mode : Nat) :
    optimalPartitionA zero rows C mode = optimalPartition zero rows C mode := by
  unfold optimalPartitionA optimalPartition
  rw [← tablesA_eq zero rows C mode]
  rfl
end TV.Partition
