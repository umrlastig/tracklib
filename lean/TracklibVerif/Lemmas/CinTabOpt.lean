import TracklibVerif.Lemmas.CinTabProg
import TracklibVerif.Lemmas.Cinematics
/-! Feature values `Option α` (`none` = NaN): the table-level columns computed by the generic programs are the
columns of `Model/Cinematics.lean` (`dsCol`, `integrator`, `speedCol`) of the current coordinates. -/
namespace TV.CinTab
open TV.Features TV.Cinematics

variable {α : Type} [Add α] [Sub α] [Mul α] [Div α] [OfNat α 0] [BEq α] [LE α] [DecidableLE α]

def xsOf (xy : List (α × α)) : List (Option α) := xy.map (fun p => some p.1)
def ysOf (xy : List (α × α)) : List (Option α) := xy.map (fun p => some p.2)
def tsOf (ts : List α) : List (Option α) := ts.map some

theorem integLoopG_opt (sqrt : α → α) (ofNat : Nat → α) (isNaN : α → Bool) :
    ∀ (acc : Option α) (l : List (Option α)), integLoopG (optG sqrt ofNat isNaN).toOps acc l = integLoop acc l
  | _, [] => rfl
  | acc, d :: rest => by
    show oadd acc d :: integLoopG _ (oadd acc d) rest = _
    rw [integLoopG_opt sqrt ofNat isNaN (oadd acc d) rest]
    rfl

theorem integG_opt (sqrt : α → α) (ofNat : Nat → α) (isNaN : α → Bool) (l : List (Option α)) :
    integG (optG sqrt ofNat isNaN).toOps l = integrator l := by
  cases l with
  | nil => rfl
  | cons d rest =>
    show some 0 :: integLoopG _ (some 0) rest = _
    rw [integLoopG_opt]
    rfl

theorem leg2_opt (sqrt : α → α) (ofNat : Nat → α) (isNaN : α → Bool) (xy : List (α × α)) (i j : Nat) :
    leg2 (optG sqrt ofNat isNaN) (xsOf xy) (ysOf xy) i j
      = (match xy[i]?, xy[j]? with | some p, some q => some (dist2D sqrt p q) | _, _ => none) := by
  unfold leg2 atFix
  simp only [xsOf, ysOf, List.getElem?_map]
  cases xy[i]? <;> cases xy[j]? <;> rfl

theorem dsCol_opt (sqrt : α → α) (ofNat : Nat → α) (isNaN : α → Bool) (xy : List (α × α)) :
    (List.range xy.length).map (dsL (optG sqrt ofNat isNaN) (leg2 (optG sqrt ofNat isNaN) (xsOf xy) (ysOf xy))) = dsCol sqrt xy := by
  unfold dsCol
  apply List.map_congr_left
  intro i _
  unfold dsL dsAt
  rw [leg2_opt]
  rfl

theorem betweenL_opt (sqrt : α → α) (ofNat : Nat → α) (isNaN : α → Bool) (ℓ : Nat → Nat → Option α) (ts : List α) (a b : Nat) :
    betweenL (optG sqrt ofNat isNaN) ℓ (tsOf ts) a b
      = (match ℓ a b, ts[a]?, ts[b]? with | some d, some ta, some tb => quot d (ta - tb) | _, _, _ => none) := by
  unfold betweenL atFix
  simp only [tsOf, List.getElem?_map]
  cases ts[a]? with
  | none => cases ℓ a b <;> rfl
  | some ta =>
    cases ts[b]? with
    | none => cases ℓ a b <;> rfl
    | some tb =>
      cases ℓ a b with
      -- the quotient of NaN is NaN
      | none => show (if ((ta - tb) == 0) = true then (none : Option α) else none) = none; split <;> rfl
      | some d => rfl

theorem speedCol_opt (sqrt : α → α) (ofNat : Nat → α) (isNaN : α → Bool) (xy : List (α × α)) (ts : List α) :
    (List.range xy.length).map
        (speedL (optG sqrt ofNat isNaN) (leg2 (optG sqrt ofNat isNaN) (xsOf xy) (ysOf xy)) (tsOf ts) xy.length)
      = speedCol sqrt xy ts := by
  have hb : ∀ a b, betweenL (optG sqrt ofNat isNaN) (leg2 (optG sqrt ofNat isNaN) (xsOf xy) (ysOf xy)) (tsOf ts) a b
      = speedBetween sqrt xy ts a b := by
    intro a b
    rw [betweenL_opt, leg2_opt]
    unfold speedBetween
    cases xy[a]? <;> cases xy[b]? <;> cases ts[a]? <;> cases ts[b]? <;> rfl
  unfold speedCol
  apply List.map_congr_left
  intro i _
  unfold speedL speedAt
  simp only [hb]

theorem sumL_opt (sqrt : α → α) (ofNat : Nat → α) (isNaN : α → Bool) (ℓ : Nat → Nat → Option α) (S d : Nat → α)
    (h0 : S 0 = 0) (hS : ∀ k, S (k + 1) = S k + d k) :
    ∀ k, (∀ i, i < k → ℓ i (i + 1) = some (d i)) → sumL (optG sqrt ofNat isNaN) ℓ k = some (S k)
  | 0, _ => by rw [h0]; rfl
  | k + 1, h => by
    unfold sumL
    rw [sumL_opt sqrt ofNat isNaN ℓ S d h0 hS k (fun i hi => h i (by omega)), h k (by omega), hS]
    rfl

section field
variable {β : Type} [Field β] [LinearOrder β]

/-- in exact arithmetic the legs accumulated by `computeCurvAbsBetweenTwoPoints` (`P[i+1] - P[i]`) are those of `absc`
(`P[i] - P[i+1]`) -/
theorem sumL_absc (sqrt : β → β) (ofNat : Nat → β) (isNaN : β → Bool) (xy : List (β × β)) (k : Nat) (hk : k < xy.length) :
    sumL (optG sqrt ofNat isNaN) (leg2 (optG sqrt ofNat isNaN) (xsOf xy) (ysOf xy)) k = some (absc sqrt xy k) :=
  sumL_opt sqrt ofNat isNaN _ (absc sqrt xy) (fun i => match xy[i + 1]?, xy[i]? with | some p, some q => dist2D sqrt p q | _, _ => 0)
    rfl (fun _ => rfl) k (fun i hi => by
      rw [leg2_opt, List.getElem?_eq_getElem (show i < xy.length by omega), List.getElem?_eq_getElem (show i + 1 < xy.length by omega)]
      exact congrArg some (dist2D_symm sqrt _ _))

end field

end TV.CinTab
