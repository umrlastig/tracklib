import TracklibVerif.Model.PyPrelude
/-! The vocabulary of the translated text, for the tie modules: lemmas about the prelude's guards (`if decide p`), subscripts, `%` and
`[c] * n` at a natural position, `list.remove`, `range` as a list of positions, `for` loops over the positions of a list or of a range, and `while`
loops against a model loop written with fuel. Nothing here mentions a model. Core Lean only. -/
namespace TV.Py

theorem ite_decide {β : Sort _} (p : Prop) [Decidable p] (a b : β) :
    (if decide p = true then a else b) = if p then a else b := by
  by_cases h : p
  · rw [if_pos h, if_pos (decide_eq_true h)]
  · rw [if_neg h, if_neg (by simpa using h)]

theorem ite_not_decide {β : Sort _} (p : Prop) [Decidable p] (a b : β) :
    (if (!decide p) = true then a else b) = if p then b else a := by
  by_cases h : p
  · rw [if_pos h, if_neg (by simpa using h)]
  · rw [if_neg h, if_pos (by simpa using h)]

theorem fmod_natCast (n k : Nat) : Int.fmod (n : Int) (k : Int) = ((n % k : Nat) : Int) := by
  rw [Int.fmod_eq_emod_of_nonneg _ (Int.natCast_nonneg k)]
  exact (Int.natCast_emod n k).symm

theorem replicate_natCast {β : Type} (n : Nat) (c : β) : Py.replicate (n : Int) c = List.replicate n c := by
  unfold Py.replicate; rw [Int.toNat_natCast]

theorem getIdx_of_getElem? {β : Type} {l : List β} {k : Nat} {v : β} (h : l[k]? = some v) : getIdx l (k : Int) = .ok v := by
  rw [getIdx_natCast]; exact getItem_eq_ok h

theorem getIdx_append_cons {β : Type} (pre : List β) (x : β) (post : List β) :
    getIdx (pre ++ x :: post) (pre.length : Int) = .ok x :=
  getIdx_of_getElem? (by simp)

theorem setIdx_append_cons {β : Type} (pre : List β) (x v : β) (post : List β) :
    setIdx (pre ++ x :: post) (pre.length : Int) v = .ok (pre ++ v :: post) := by
  rw [setIdx_natCast _ _ _ (by simp)]; simp

theorem removeFirst_eq_eraseP {β : Type} (eqv : β → β → Bool) (v : β) : ∀ l : List β,
    removeFirst eqv l v = if l.any (eqv · v) then .ok (l.eraseP (eqv · v)) else .error .value
  | [] => rfl
  | x :: xs => by
    rw [removeFirst, removeFirst_eq_eraseP eqv v xs, List.any_cons, List.eraseP_cons]
    cases eqv x v <;> cases xs.any (eqv · v) <;> rfl

theorem rangeFrom_one_eq_map (a : Int) (n : Nat) :
    rangeFrom a 1 n = (List.range n).map (fun (k : Nat) => a + (k : Int)) := by
  induction n with
  | zero => rfl
  | succ n ih => rw [rangeFrom_snoc, ih, List.range_succ, List.map_append]; simp

theorem range_eq_map (lo hi : Int) : range lo hi = (List.range (hi - lo).toNat).map (fun (k : Nat) => lo + (k : Int)) :=
  rangeFrom_one_eq_map _ _

theorem range_natCast (k m n : Nat) (h : k + m = n) : range (k : Int) (n : Int) = (List.range' k m).map (fun (i : Nat) => (i : Int)) := by
  rw [range_eq_map, show ((n : Int) - (k : Int)).toNat = m by omega, List.range_eq_range', List.range'_eq_map_range (s := k)]
  simp only [List.range_eq_range', List.map_map]
  apply List.map_congr_left; intro a _; simp only [Function.comp]; omega

theorem forList_map {β γ σ ρ : Type} (g : γ → β) (body : β → σ → M (Ctl σ ρ)) (l : List γ) (s : σ) :
    forList body (l.map g) s = forList (fun x => body (g x)) l s := by
  induction l generalizing s with
  | nil => rfl
  | cons x xs ih =>
    rw [List.map_cons, forList_cons, forList_cons]
    cases body (g x) s with
    | error e => rfl
    | ok c => cases c with
      | cont s1 => exact ih s1
      | brk s1 => rfl
      | ret r => rfl

theorem forRange_nat {σ ρ : Type} (body : Int → σ → M (Ctl σ ρ)) (k m n : Nat) (h : k + m = n) (s : σ) :
    forList body (range (k : Int) (n : Int)) s = forList (fun (i : Nat) => body (i : Int)) (List.range' k m) s := by
  rw [range_natCast k m n h, forList_map]

theorem range_foldl_prefix (g : Int → Int → Int) (W : Nat → Int) (lo : Int) (hW0 : W 0 = 0)
    (hs : ∀ (k : Nat) (s : Int), g (s + W k) (lo + k) = s + W (k + 1)) (b : Int) (s : Int) :
    (range lo b).foldl g s = s + W (b - lo).toNat := by
  rw [range_eq_map, List.foldl_map]
  induction (b - lo).toNat with
  | zero => rw [List.range_zero, List.foldl_nil, hW0, Int.add_zero]
  | succ k ih => rw [List.range_succ, List.foldl_append, ih, List.foldl_cons, List.foldl_nil, hs]

theorem forList_range_getIdx_aux {β σ ρ : Type} (l : List β) (f : β → σ → M (Ctl σ ρ)) (body : Int → σ → M (Ctl σ ρ))
    (h : ∀ i s, body i s = bind (getIdx l i) (fun v => f v s)) (suf pre : List β) (hl : l = pre ++ suf) (s : σ) :
    forList body (range (pre.length : Int) (len l)) s = forList f suf s := by
  have hlen : len l = ((pre.length + suf.length : Nat) : Int) := by subst hl; simp [len]
  rw [hlen, forRange_nat body _ suf.length _ rfl]
  clear hlen
  induction suf generalizing pre s with
  | nil => rfl
  | cons x xs ih =>
    have hget : l[pre.length]? = some x := by subst hl; simp
    rw [List.length_cons, List.range'_succ, forList_cons, forList_cons, h, getIdx_of_getElem? hget, bind_ok]
    cases f x s with
    | error e => rfl
    | ok c => cases c with
      | cont s1 =>
        have := ih (pre ++ [x]) (by rw [hl, List.append_assoc]; rfl) s1
        rw [List.length_append, List.length_singleton] at this
        exact this
      | brk s1 => rfl
      | ret r => rfl

theorem forList_range_getIdx {β σ ρ : Type} (l : List β) (f : β → σ → M (Ctl σ ρ)) (body : Int → σ → M (Ctl σ ρ))
    (h : ∀ i s, body i s = bind (getIdx l i) (fun v => f v s)) (s : σ) :
    forList body (range 0 (len l)) s = forList f l s :=
  forList_range_getIdx_aux l f body h l [] rfl s

theorem forList_range_getIdx_foldl {β σ ρ : Type} (l : List β) (step : σ → β → σ) (body : Int → σ → M (Ctl σ ρ))
    (h : ∀ i s, body i s = bind (getIdx l i) (fun v => .ok (.cont (step s v)))) (s : σ) :
    forList body (range 0 (len l)) s = .ok (.done (l.foldl step s)) := by
  rw [forList_range_getIdx l (fun v s => .ok (.cont (step s v))) body h s]
  exact forList_eq_foldl _ step l s (fun _ _ _ => rfl)

theorem foldl_snoc_map {β γ : Type} (g : β → γ) (l : List β) (acc : List γ) :
    l.foldl (fun a p => a ++ [g p]) acc = acc ++ l.map g := by
  induction l generalizing acc with
  | nil => simp
  | cons x xs ih => rw [List.foldl_cons, ih]; simp

/-- the body is spelled as the translator writes it, so that `simp` recognises it in the translated text -/
theorem forList_collect {β γ ρ : Type} (l : List β) (g : β → γ) :
    forList (ρ := ρ) (fun i s => bind (getIdx l i) (fun v => .ok (.cont (s ++ [g v])))) (range 0 (len l)) []
      = .ok (.done (l.map g)) := by
  rw [forList_range_getIdx_foldl l (fun a p => a ++ [g p]) _ (fun _ _ => rfl), foldl_snoc_map, List.nil_append]

/-- `enc` may depend on the position: a list filled up to `i`, a prefix already divided, … -/
theorem forRange_foldl {σ τ ρ : Type} (enc : Nat → τ → σ) (body : Int → σ → M (Ctl σ ρ)) (step : τ → Nat → τ)
    (m k n : Nat) (hn : k + m = n)
    (h : ∀ i, k ≤ i → i < n → ∀ t, body (i : Int) (enc i t) = .ok (.cont (enc (i + 1) (step t i)))) (t : τ) :
    forList body (range (k : Int) (n : Int)) (enc k t) = .ok (.done (enc n ((List.range' k m).foldl step t))) := by
  rw [forRange_nat body k m n hn]
  induction m generalizing k t with
  | zero => rw [Nat.add_zero] at hn; subst hn; rfl
  | succ m ih =>
    rw [List.range'_succ, forList_cons_cont (body := fun (i : Nat) => body (i : Int)) (h k (Nat.le_refl k) (by omega) t),
      List.foldl_cons]
    exact ih (k + 1) (by omega) (fun i h1 h2 t => h i (by omega) h2 t) _

/-- `G` is the model's loop written with fuel, post-processed by `fin`: its tie needs no induction of its own, only the
comparison of one round -/
theorem whileLoop_bind_unique {σ ρ γ : Type} (body : σ → M (Ctl σ ρ)) (fin : Out σ ρ → M γ) (G : Nat → σ → M γ)
    (h0 : ∀ s, G 0 s = .error .fuel)
    (hs : ∀ f s, G (f + 1) s = match body s with
      | .error e => .error e
      | .ok (.cont s') => G f s'
      | .ok (.brk s') => fin (.done s')
      | .ok (.ret r) => fin (.ret r)) :
    ∀ f s, bind (whileLoop body f s) fin = G f s := by
  intro f
  induction f with
  | zero => intro s; rw [h0]; rfl
  | succ f ih =>
    intro s
    rw [whileLoop_succ, hs]
    cases body s with
    | error e => rfl
    | ok c => cases c with
      | cont s1 => exact ih s1
      | brk s1 => rfl
      | ret r => rfl

theorem whileLoop_unique {σ ρ : Type} (body : σ → M (Ctl σ ρ)) (F : Nat → σ → M (Out σ ρ))
    (h0 : ∀ s, F 0 s = .error .fuel)
    (hs : ∀ f s, F (f + 1) s = match body s with
      | .error e => .error e
      | .ok (.cont s') => F f s'
      | .ok (.brk s') => .ok (.done s')
      | .ok (.ret r) => .ok (.ret r)) (f : Nat) (s : σ) : whileLoop body f s = F f s := by
  have := whileLoop_bind_unique body .ok F h0 hs f s
  cases hw : whileLoop body f s <;> rw [hw] at this <;> exact this

theorem whileLoop_bind_mono {σ ρ γ : Type} {body : σ → M (Ctl σ ρ)} {fin : Out σ ρ → M γ} {f g : Nat} {s : σ} {r : γ}
    (hfg : f ≤ g) (h : bind (whileLoop body f s) fin = .ok r) : bind (whileLoop body g s) fin = .ok r := by
  rw [whileLoop_mono body f g s hfg (fun hw => by rw [hw] at h; exact nomatch h)]; exact h

end TV.Py
