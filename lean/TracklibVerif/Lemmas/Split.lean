import TracklibVerif.Model.Split
/-! Helper lemmas for C11: the loop `go` of `split`, by three inductions. `go_spec`: the closed pieces and the open piece are
the track read so far, and the flag tells whether a marker was met (hence `split_eq_go`, the partition, the empty result).
`go_marked`: when the marker is a function of the observation (`tag`), every closed piece `EndsMarked` and the open piece is
unmarked. `go_cur_nil`: when the open piece is empty. `go_map`: `split` commutes with relabelling. -/
namespace TV.Split
variable {β : Type}

theorem go_spec (obs : List (β × Bool)) (cur : List β) (acc : List (List β)) (started : Bool) :
    let r := go obs cur acc started
    (r.1.flatten ++ r.2.1 = acc.flatten ++ cur ++ obs.map Prod.fst) ∧
    (r.2.2 = (started || obs.any Prod.snd)) := by
  induction obs generalizing cur acc started with
  | nil => simp [go]
  | cons p rest ih =>
    obtain ⟨o, m⟩ := p
    cases m <;> simp [go, ih]

theorem split_eq_go (obs : List (β × Bool)) :
    split obs = (go obs [] [] false).1 ++ (if obs.any Prod.snd then [(go obs [] [] false).2.1] else []) := by
  have h2 := (go_spec obs [] [] false).2
  unfold split
  revert h2
  generalize go obs [] [] false = r
  obtain ⟨acc, cur, started⟩ := r
  rintro rfl
  cases obs.any Prod.snd <;> simp

/-- C11-T1: with at least one marker the pieces, in order, are exactly the track -/
theorem split_partition (obs : List (β × Bool)) (h : obs.any Prod.snd = true) :
    (split obs).flatten = obs.map Prod.fst := by
  rw [split_eq_go, h]
  simpa using (go_spec obs [] [] false).1

theorem go_none (obs : List (β × Bool)) (cur : List β) (acc : List (List β)) (st : Bool) (h : obs.any Prod.snd = false) :
    go obs cur acc st = (acc, cur ++ obs.map Prod.fst, st) := by
  induction obs generalizing cur with
  | nil => simp [go]
  | cons p rest ih =>
    obtain ⟨o, m⟩ := p
    simp only [List.any_cons, Bool.or_eq_false_iff] at h
    obtain ⟨rfl, h⟩ := h
    simp [go, ih _ h]

/-- C11-T3: without any marker the result is empty -/
theorem split_none (obs : List (β × Bool)) (h : obs.any Prod.snd = false) : split obs = [] := by
  rw [split, go_none obs [] [] false h]
  rfl

theorem split_flatten_sublist (obs : List (β × Bool)) : (split obs).flatten.Sublist (obs.map Prod.fst) := by
  cases h : obs.any Prod.snd with
  | true => rw [split_partition obs h]; exact List.Sublist.refl _
  | false => rw [split_none obs h]; exact List.nil_sublist _

/-- a piece that ends at a marked observation and contains no other marked one (in particular it is not empty) -/
def EndsMarked (mk : β → Bool) (p : List β) : Prop :=
  ∃ init o, p = init ++ [o] ∧ mk o = true ∧ ∀ q ∈ init, mk q = false

/-- a track whose marker feature is a function of the observation (e.g. observations = (tag, marker) pairs) -/
def tag (mk : β → Bool) (l : List β) : List (β × Bool) := l.map (fun o => (o, mk o))

theorem go_marked (mk : β → Bool) (l : List β) (cur : List β) (acc : List (List β)) (started : Bool)
    (hacc : ∀ p ∈ acc, EndsMarked mk p) (hcur : ∀ q ∈ cur, mk q = false) :
    (∀ p ∈ (go (tag mk l) cur acc started).1, EndsMarked mk p) ∧
    (∀ q ∈ (go (tag mk l) cur acc started).2.1, mk q = false) := by
  induction l generalizing cur acc started with
  | nil => exact ⟨hacc, hcur⟩
  | cons o rest ih =>
    rw [tag, List.map_cons, go]
    cases hm : mk o with
    | true =>
      rw [if_pos rfl]
      exact ih [] _ true
        (List.forall_mem_append.mpr ⟨hacc, fun p hp => List.mem_singleton.mp hp ▸ ⟨cur, o, rfl, hm, hcur⟩⟩) nofun
    | false =>
      rw [if_neg Bool.false_ne_true]
      exact ih _ acc started hacc (List.forall_mem_append.mpr ⟨hcur, fun q hq => List.mem_singleton.mp hq ▸ hm⟩)

theorem any_tag (mk : β → Bool) (l : List β) : (tag mk l).any Prod.snd = l.any mk :=
  List.any_map

theorem map_fst_tag (mk : β → Bool) (l : List β) : (tag mk l).map Prod.fst = l := by
  rw [tag, List.map_map]; exact List.map_id _

theorem split_tag_marked (mk : β → Bool) (l : List β) :
    (∀ p ∈ (split (tag mk l)).dropLast, EndsMarked mk p) ∧
    ∀ t, (split (tag mk l)).getLast? = some t → ∀ q ∈ t, mk q = false := by
  obtain ⟨h1, h2⟩ := go_marked mk l [] [] false nofun nofun
  rw [split_eq_go, any_tag]
  cases h : l.any mk
  · rw [go_none _ _ _ _ (by rw [any_tag]; exact h)]
    exact ⟨nofun, nofun⟩
  · rw [if_pos rfl, List.dropLast_concat, List.getLast?_concat]
    exact ⟨h1, fun t ht => Option.some.inj ht ▸ h2⟩

theorem go_cur_nil (obs : List (β × Bool)) (cur : List β) (acc : List (List β)) (st : Bool) :
    (go obs cur acc st).2.1 = [] ↔ (obs = [] ∧ cur = []) ∨ obs.getLast?.map Prod.snd = some true := by
  fun_induction go obs cur acc st with
  | case1 => simp
  | case2 o rest cur acc st ih => rw [ih]; cases rest <;> simp [List.getLast?_cons_cons]
  | case3 o m rest cur acc st hm ih => rw [ih]; cases rest <;> simp [List.getLast?_cons_cons, hm]

theorem go_map {γ : Type} (f : β → γ) (obs : List (β × Bool)) (cur : List β) (acc : List (List β)) (st : Bool) :
    go (obs.map (fun p => (f p.1, p.2))) (cur.map f) (acc.map (List.map f)) st =
      (((go obs cur acc st).1).map (List.map f), ((go obs cur acc st).2.1).map f, (go obs cur acc st).2.2) := by
  fun_induction go obs cur acc st with
  | case1 => rfl
  | case2 o rest cur acc st ih => rw [← ih, List.map_cons, go, if_pos rfl]; simp
  | case3 o m rest cur acc st hm ih => rw [← ih, List.map_cons, go, if_neg hm]; simp

theorem split_map {γ : Type} (f : β → γ) (obs : List (β × Bool)) :
    split (obs.map (fun p => (f p.1, p.2))) = (split obs).map (List.map f) := by
  have h := go_map f obs [] [] false
  simp only [List.map_nil] at h
  unfold split
  rw [h]
  cases hs : (go obs [] [] false).2.2 <;> simp [hs]
end TV.Split
