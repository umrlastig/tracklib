import TracklibVerif.Lemmas.FeaturesSim
import TracklibVerif.Lemmas.Common.Assoc
import TracklibVerif.Lemmas.Common.MapM
/-! Data lemmas about search by name (`Common.assoc`), enumerations (`zipIdx`), the index remap of `removeAnalyticalFeature`, columns
(`colAt`) under the row edits of the primitives, and the simulation lemma of every primitive. -/
namespace TV.Features
variable {V : Type}

theorem find_zipIdx (ns : List String) (off : Nat) (n : String) (i : Nat)
    (h : find (ns.zipIdx off) n = some i) : off ≤ i ∧ i < off + ns.length ∧ ns[i - off]? = some n := by
  obtain ⟨p, hp, rfl⟩ := Option.map_eq_some_iff.mp h
  obtain ⟨h1, h2⟩ := List.mem_zipIdx_iff_le_and_getElem?_sub.mp (List.mem_of_find?_eq_some hp)
  have hn : p.1 = n := by simpa using List.find?_some hp
  have := (List.getElem?_eq_some_iff.mp h2).1
  exact ⟨h1, by omega, hn ▸ h2⟩

/-! `find` (name ↦ column index) and `lookup` (name ↦ column) are the same search, at two value types: `find d nm` and
`lookup cols nm` are definitionally `Common.assoc d nm` and `Common.assoc cols nm` (`Lemmas/Common/Assoc.lean`). -/

theorem find_isSome_of_mem (d : List (String × Nat)) (nm : String) (h : nm ∈ d.map Prod.fst) : (find d nm).isSome = true :=
  (Common.assoc_isSome_iff d nm).mpr h

theorem find_none_of_not_mem (d : List (String × Nat)) (nm : String) (h : nm ∉ d.map Prod.fst) : find d nm = none :=
  Option.not_isSome_iff_eq_none.mp (fun hs => h ((Common.assoc_isSome_iff d nm).mp hs))

theorem lookup_isSome_iff (cols : List (String × List V)) (m : String) :
    (lookup cols m).isSome = true ↔ m ∈ cols.map Prod.fst := Common.assoc_isSome_iff cols m

theorem zipIdx_dec (ns : List String) (off idx : Nat) (h : idx ≤ off) :
    (ns.zipIdx (off + 1)).map (fun p => (p.1, if p.2 > idx then p.2 - 1 else p.2)) = ns.zipIdx off := by
  induction ns generalizing off with
  | nil => simp
  | cons a rest ih =>
    simp only [List.zipIdx_cons, List.map_cons]
    rw [ih (off + 1) (by omega)]
    have : off + 1 > idx := by omega
    simp [this]

/-- the remap of `removeAnalyticalFeature` turns the enumeration of `ns` into the enumeration of `ns` without `name` -/
theorem remap_zipIdx (ns : List String) (hnd : ns.Nodup) (off : Nat) (name : String) (idx : Nat)
    (hf : find (ns.zipIdx off) name = some idx) :
    ((ns.zipIdx off).filter (fun p => !(p.1 == name))).map (fun p => (p.1, if p.2 > idx then p.2 - 1 else p.2))
      = (ns.erase name).zipIdx off := by
  induction ns generalizing off with
  | nil => simp [find] at hf
  | cons a rest ih =>
    have hnd' := (List.nodup_cons.mp hnd)
    simp only [find, List.zipIdx_cons, List.find?_cons] at hf
    by_cases ha : (a == name) = true
    · have hEq : a = name := by simpa using ha
      simp only [ha, Option.map_some, Option.some.injEq] at hf
      subst hf
      simp only [List.zipIdx_cons, List.filter_cons, ha, Bool.not_true, Bool.false_eq_true, if_false]
      have hnotin : name ∉ rest := by rw [← hEq]; exact hnd'.1
      have hfil : (rest.zipIdx (off + 1)).filter (fun p => !(p.1 == name)) = rest.zipIdx (off + 1) := by
        apply List.filter_eq_self.mpr
        intro p hp
        have : p.1 ∈ rest := by
          have := List.mem_map_of_mem (f := Prod.fst) hp
          simpa [List.zipIdx_map_fst] using this
        have : ¬ p.1 = name := fun e => hnotin (e ▸ this)
        simpa using this
      rw [hfil, zipIdx_dec rest off off (Nat.le_refl _)]
      simp [hEq]
    · have hne : ¬ a = name := by simpa using ha
      simp only [ha] at hf
      have hf' : find (rest.zipIdx (off + 1)) name = some idx := by simpa [find] using hf
      have hb := (find_zipIdx rest (off + 1) name idx hf').1
      simp only [List.zipIdx_cons, List.filter_cons, ha, Bool.not_false, if_true, List.map_cons]
      rw [ih hnd'.2 (off + 1) hf']
      have : ¬ off > idx := by omega
      simp only [this, if_false]
      rw [List.erase_cons_tail (by simpa using hne)]
      simp [List.zipIdx_cons]

theorem find_remap (d : List (String × Nat)) (name n : String) (hne : n ≠ name) (g : Nat → Nat) :
    find ((d.filter (fun p => !(p.1 == name))).map (fun p => (p.1, g p.2))) n = (find d n).map g := by
  show Common.assoc _ n = (Common.assoc d n).map g
  rw [Common.assoc_map _ (fun _ => g), Common.assoc_filter, if_neg hne]

section inv
variable {n : Nat} {st : St V}

theorem Inv.mem_iff (h : Inv n st) {p : String × Nat} : p ∈ st.dico ↔ (names st)[p.2]? = some p.1 := by
  rw [h.enum]
  exact List.mem_zipIdx_iff_getElem?

theorem Inv.dico_length (_h : Inv n st) : st.dico.length = (names st).length := by simp [names]

theorem Inv.idx_lt (h : Inv n st) {p : String × Nat} (hp : p ∈ st.dico) : p.2 < st.dico.length := by
  have := h.mem_iff.mp hp
  rw [h.dico_length]
  exact (List.getElem?_eq_some_iff.mp this).1

theorem Inv.find_some (h : Inv n st) {name : String} {idx : Nat} (hf : find st.dico name = some idx) :
    idx < st.dico.length ∧ (names st)[idx]? = some name := by
  have hf' : find ((names st).zipIdx 0) name = some idx := by rw [← h.enum]; exact hf
  obtain ⟨_, hlt, hget⟩ := find_zipIdx (names st) 0 name idx hf'
  rw [h.dico_length]
  exact ⟨by omega, by simpa using hget⟩

theorem Inv.idx_eq_iff (h : Inv n st) {name : String} {idx : Nat} (hf : find st.dico name = some idx)
    {p : String × Nat} (hp : p ∈ st.dico) : p.2 = idx ↔ p.1 = name := by
  have hp' := h.mem_iff.mp hp
  rw [← List.getElem?_inj (List.getElem?_eq_some_iff.mp hp').1 h.nodup, hp', (h.find_some hf).2, Option.some.injEq]

theorem Inv.slot (h : Inv n st) {name : String} {idx : Nat} (hf : find st.dico name = some idx) :
    ∀ r ∈ st.rows, idx < r.length := fun r hr => by rw [h.rows r hr]; exact (h.find_some hf).1

theorem Inv.row_lt (h : Inv n st) {p : String × Nat} (hp : p ∈ st.dico) : ∀ r ∈ st.rows, p.2 < r.length := by
  intro r hr
  rw [h.rows r hr]
  exact h.idx_lt hp

end inv

theorem appendCol_getElem? (rows : List (List V)) (l : List V) (i : Nat) :
    (appendCol rows l)[i]? = (rows[i]?).map (fun r => match l[i]? with | some v => r ++ [v] | none => r) := by
  fun_induction appendCol rows l generalizing i with
  | case1 r rs v vs ih => cases i <;> simp [ih]
  | case2 rs => cases rs[i]? <;> simp
  | case3 => simp

theorem writeCol_getElem? (idx : Nat) (rows : List (List V)) (l : List V) (i : Nat) :
    (writeCol idx rows l)[i]? = (rows[i]?).map (fun r => match l[i]? with | some v => r.set idx v | none => r) := by
  fun_induction writeCol idx rows l generalizing i with
  | case1 r rs v vs ih => cases i <;> simp [ih]
  | case2 rs => cases rs[i]? <;> simp
  | case3 => simp

theorem appendCol_length (rows : List (List V)) (l : List V) : (appendCol rows l).length = rows.length := by
  fun_induction appendCol rows l <;> simp [*]

theorem appendCol_rows (rows : List (List V)) (l : List V) (k : Nat) (h : ∀ r ∈ rows, r.length = k)
    (hl : rows.length ≤ l.length) : ∀ r ∈ appendCol rows l, r.length = k + 1 := by
  fun_induction appendCol rows l with
  | case1 r rs v vs ih =>
    intro r' hr'
    rcases List.mem_cons.mp hr' with rfl | hr'
    · simp [h r (by simp)]
    · exact ih (fun x hx => h x (by simp [hx])) (by simpa using hl) r' hr'
  | case2 rs => cases rs <;> simp at hl ⊢
  | case3 => simp

theorem writeCol_length (idx : Nat) (rows : List (List V)) (l : List V) : (writeCol idx rows l).length = rows.length := by
  fun_induction writeCol idx rows l <;> simp [*]

theorem writeCol_rows (idx : Nat) (rows : List (List V)) (l : List V) (k : Nat) (h : ∀ r ∈ rows, r.length = k) :
    ∀ r ∈ writeCol idx rows l, r.length = k := by
  fun_induction writeCol idx rows l with
  | case1 r rs v vs ih =>
    intro r' hr'
    rcases List.mem_cons.mp hr' with rfl | hr'
    · simp [h r (by simp)]
    · exact ih (fun x hx => h x (by simp [hx])) r' hr'
  | case2 rs => exact h
  | case3 => simp

theorem map_append_eq_appendCol (rows : List (List V)) (v : V) :
    rows.map (· ++ [v]) = appendCol rows (List.replicate rows.length v) := by
  induction rows with
  | nil => rfl
  | cons r rs ih => simp [appendCol, List.replicate_succ, ih]

theorem map_set_eq_writeCol (rows : List (List V)) (idx : Nat) (v : V) :
    rows.map (·.set idx v) = writeCol idx rows (List.replicate rows.length v) := by
  induction rows with
  | nil => rfl
  | cons r rs ih => simp [writeCol, List.replicate_succ, ih]

section
variable {n : Nat}

theorem coord_length {st : St V} (h : Inv n st) (c : Coord) : (st.coord c).length = n := by
  cases c <;> simp [St.coord, h.xs, h.ys, h.zs, h.ts]

theorem isEmpty_rows {st : St V} (h : Inv n st) : st.rows.isEmpty = (n == 0) := by
  rw [← h.size]; cases st.rows <;> simp

theorem inv_rows {st : St V} (h : Inv n st) (rows' : List (List V)) (hlen : rows'.length = st.rows.length)
    (hrows : ∀ r ∈ rows', r.length = st.dico.length) : Inv n { st with rows := rows' } :=
  ⟨h.enum, h.nodup, hrows, by simp only; rw [hlen]; exact h.size, h.xs, h.ys, h.zs, h.ts⟩

theorem inv_setCoord {st : St V} (h : Inv n st) (c : Coord) (l : List V) (hl : l.length = n) :
    Inv n (st.setCoord c l) := by
  cases c
  · exact ⟨h.enum, h.nodup, h.rows, h.size, hl, h.ys, h.zs, h.ts⟩
  · exact ⟨h.enum, h.nodup, h.rows, h.size, h.xs, hl, h.zs, h.ts⟩
  · exact ⟨h.enum, h.nodup, h.rows, h.size, h.xs, h.ys, hl, h.ts⟩
  · exact ⟨h.enum, h.nodup, h.rows, h.size, h.xs, h.ys, h.zs, hl⟩

theorem inv_create {st : St V} (h : Inv n st) {name : String} (hf : find st.dico name = none)
    (rows' : List (List V)) (hlen : rows'.length = st.rows.length)
    (hrows : ∀ r ∈ rows', r.length = st.dico.length + 1) :
    Inv n { st with dico := st.dico ++ [(name, st.dico.length)], rows := rows' } := by
  have hn : names ({ st with dico := st.dico ++ [(name, st.dico.length)], rows := rows' } : St V) = names st ++ [name] := by
    simp [names]
  refine ⟨?_, ?_, ?_, ?_, h.xs, h.ys, h.zs, h.ts⟩
  · rw [hn, List.zipIdx_append]
    simp only [List.zipIdx_cons, List.zipIdx_nil, Nat.zero_add]
    rw [← h.enum, ← h.dico_length]
  · rw [hn]
    have : name ∉ names st := fun hm => by
      have hs := find_isSome_of_mem st.dico name hm
      rw [hf] at hs; cases hs
    exact List.nodup_append.mpr ⟨h.nodup, by simp, by
      intro a ha b hb
      simp at hb
      subst hb
      intro e; subst e; exact this ha⟩
  · intro r hr
    simp only [List.length_append, List.length_cons, List.length_nil]
    exact hrows r hr
  · simp only; rw [hlen]; exact h.size

end

variable [Inhabited V]

theorem colAt_length (rows : List (List V)) (i : Nat) : (colAt rows i).length = rows.length := by
  simp [colAt]

theorem colAt_appendCol_old (rows : List (List V)) (l : List V) (i : Nat) (h : ∀ r ∈ rows, i < r.length) :
    colAt (appendCol rows l) i = colAt rows i := by
  apply List.ext_getElem?
  intro k
  simp only [colAt, List.getElem?_map, appendCol_getElem?]
  cases hr : rows[k]? with
  | none => rfl
  | some r =>
    have := h r (List.mem_of_getElem? hr)
    cases l[k]? <;> simp [List.getD_eq_getElem?_getD, List.getElem?_append_left this]

theorem colAt_appendCol_new (rows : List (List V)) (l : List V) (k : Nat) (h : ∀ r ∈ rows, r.length = k)
    (hl : rows.length ≤ l.length) : colAt (appendCol rows l) k = l.take rows.length := by
  fun_induction appendCol rows l with
  | case1 r rs v vs ih =>
    have := ih (fun x hx => h x (by simp [hx])) (by simpa using hl)
    simp only [colAt, List.map_cons, List.length_cons, List.take_succ_cons] at this ⊢
    rw [this]
    simp [List.getD_eq_getElem?_getD, ← h r (by simp)]
  | case2 rs => cases rs <;> simp [colAt] at hl ⊢
  | case3 => simp [colAt]

theorem colAt_writeCol_other (rows : List (List V)) (l : List V) (idx j : Nat) (hne : j ≠ idx) :
    colAt (writeCol idx rows l) j = colAt rows j := by
  apply List.ext_getElem?
  intro k
  simp only [colAt, List.getElem?_map, writeCol_getElem?]
  cases rows[k]? with
  | none => rfl
  | some r => cases l[k]? <;> simp [List.getD_eq_getElem?_getD, Ne.symm hne]

theorem colAt_writeCol_same (rows : List (List V)) (l : List V) (idx : Nat) (h : ∀ r ∈ rows, idx < r.length) :
    colAt (writeCol idx rows l) idx = overwrite l (colAt rows idx) := by
  fun_induction writeCol idx rows l with
  | case1 r rs v vs ih =>
    have := ih (fun x hx => h x (by simp [hx]))
    simp only [colAt, List.map_cons, overwrite, List.length_cons, List.take_succ_cons,
      List.drop_succ_cons, List.cons_append, List.length_map] at this ⊢
    rw [this]
    simp [List.getD_eq_getElem?_getD, h r (by simp)]
  | case2 rs => simp [overwrite]
  | case3 => simp [colAt, overwrite]

theorem colAt_map_append_old (rows : List (List V)) (v : V) (i : Nat) (h : ∀ r ∈ rows, i < r.length) :
    colAt (rows.map (· ++ [v])) i = colAt rows i := by
  rw [map_append_eq_appendCol, colAt_appendCol_old _ _ _ h]

theorem colAt_map_append_new (rows : List (List V)) (v : V) (k : Nat) (h : ∀ r ∈ rows, r.length = k) :
    colAt (rows.map (· ++ [v])) k = List.replicate rows.length v := by
  rw [map_append_eq_appendCol, colAt_appendCol_new _ _ _ h (by simp)]
  simp

theorem colAt_map_set_same (rows : List (List V)) (idx : Nat) (v : V) (h : ∀ r ∈ rows, idx < r.length) :
    colAt (rows.map (·.set idx v)) idx = List.replicate rows.length v := by
  rw [map_set_eq_writeCol, colAt_writeCol_same _ _ _ h]
  simp [overwrite, colAt_length]

theorem colAt_map_set_other (rows : List (List V)) (idx j : Nat) (v : V) (hne : j ≠ idx) :
    colAt (rows.map (·.set idx v)) j = colAt rows j := by
  rw [map_set_eq_writeCol, colAt_writeCol_other _ _ _ _ hne]

theorem colAt_set_same (rows : List (List V)) (i : Nat) (r : List V) (idx : Nat) (v : V)
    (h : idx < r.length) : colAt (rows.set i (r.set idx v)) idx = (colAt rows idx).set i v := by
  unfold colAt
  rw [List.map_set]
  simp [List.getD_eq_getElem?_getD, h]

theorem colAt_set_other (rows : List (List V)) (i : Nat) (r : List V) (idx j : Nat) (v : V)
    (hr : rows[i]? = some r) (hne : j ≠ idx) : colAt (rows.set i (r.set idx v)) j = colAt rows j := by
  unfold colAt
  rw [List.map_set]
  apply List.ext_getElem?
  intro k
  rw [List.getElem?_set]
  by_cases hk : i = k
  · subst hk
    simp [List.getD_eq_getElem?_getD, Ne.symm hne, hr]
    exact (List.getElem?_eq_some_iff.mp hr).1
  · simp [hk]

theorem colAt_eraseIdx (rows : List (List V)) (idx j : Nat) (hne : j ≠ idx) :
    colAt (rows.map (·.eraseIdx idx)) (if j > idx then j - 1 else j) = colAt rows j := by
  unfold colAt
  rw [List.map_map]
  apply List.map_congr_left
  intro r _
  simp only [Function.comp, List.getD_eq_getElem?_getD, List.getElem?_eraseIdx]
  by_cases hgt : j > idx
  · have h1 : ¬ (j - 1 < idx) := by omega
    have h2 : j - 1 + 1 = j := by omega
    simp [hgt, h1, h2]
  · have h1 : j < idx := by omega
    simp [hgt, h1]

theorem mapM_getElem (rows : List (List V)) (idx : Nat) (h : ∀ r ∈ rows, idx < r.length) :
    rows.mapM (fun r => r[idx]?) = some (colAt rows idx) :=
  Common.mapM_some_of_forall fun r hr => by
    rw [List.getElem?_eq_getElem (h r hr), List.getD_eq_getElem?_getD, List.getElem?_eq_getElem (h r hr)]; rfl

section prims
variable {n : Nat}

theorem abs_lookup (st : St V) (name : String) :
    lookup (abs st).cols name = (find st.dico name).map (colAt st.rows) :=
  Common.assoc_map st.dico (fun _ => colAt st.rows) name

theorem lookup_abs_of_mem {st : St V} {name : String} (h : name ∈ names st) :
    ∃ idx, find st.dico name = some idx ∧ lookup (abs st).cols name = some (colAt st.rows idx) := by
  obtain ⟨idx, hf⟩ := Option.isSome_iff_exists.mp (find_isSome_of_mem st.dico name h)
  exact ⟨idx, hf, by rw [abs_lookup, hf]; rfl⟩

theorem hasA_abs (st : St V) (name : String) : hasA (abs st) name = hasC st name := by
  simp [hasA, hasC, abs_lookup]

theorem abs_size {st : St V} (h : Inv n st) : (abs st).size = n := by simp [ATab.size, abs, h.xs]

theorem abs_coord (st : St V) (c : Coord) : (abs st).coord c = st.coord c := by
  cases c <;> rfl

theorem sim_size : Sim n (fun k => k = n) (tblSt.size : M (St V) Nat) (tblATab.size : M (ATab V) Nat) := by
  intro st h
  refine ⟨h, ?_, ?_⟩
  · show (Except.ok (abs st).size, abs st) = (Except.ok st.rows.length, abs st)
    rw [abs_size h, h.size]
  · intro x hx
    have : (Except.ok st.rows.length : Except Err Nat) = Except.ok x := hx
    cases this; exact h.size

theorem sim_has (name : String) :
    Sim n (fun _ => True) (tblSt.has name : M (St V) Bool) (tblATab.has name : M (ATab V) Bool) := by
  refine gsim_of fun st h => ⟨h, ?_⟩
  show (Except.ok (hasA (abs st) name), abs st) = (Except.ok (hasC st name), abs st)
  rw [hasA_abs]

theorem sim_names :
    Sim n (fun _ => True) (tblSt.names : M (St V) (List String)) (tblATab.names : M (ATab V) (List String)) := by
  refine gsim_of fun st h => ⟨h, ?_⟩
  show (Except.ok ((abs st).cols.map Prod.fst), abs st) = (Except.ok (st.dico.map Prod.fst), abs st)
  simp [abs]

theorem sim_get (o : Ops V) (name : String) :
    Sim n (fun l => l.length = n) (getC o name) (getA o name) := by
  intro st h
  fun_cases getC o name st
  case case1 c hc => exact ⟨h, by simp [getA, hc, abs_coord], fun x hx => by cases hx; exact coord_length h c⟩
  case case2 hc h1 => exact ⟨h, by simp [getA, hc, h1], nofun⟩
  case case3 hc h1 h2 =>
    exact ⟨h, by simp [getA, hc, h1, h2, abs_size h, h.size], fun x hx => by cases hx; simp [h.size]⟩
  case case4 hc h1 h2 hf => exact ⟨h, by simp [getA, hc, h1, h2, abs_lookup, hf], nofun⟩
  case case5 hc h1 h2 idx hf col hcol =>
    obtain rfl : colAt st.rows idx = col := Option.some.inj ((mapM_getElem st.rows idx (h.slot hf)).symm.trans hcol)
    exact ⟨h, by simp [getA, hc, h1, h2, abs_lookup, hf], fun x hx => by cases hx; rw [colAt_length, h.size]⟩
  -- an observation without the slot: excluded by the invariant
  case case6 hc h1 h2 idx hf hcol => rw [mapM_getElem st.rows idx (h.slot hf)] at hcol; cases hcol

theorem sim_getObs (o : Ops V) (name : String) (i : Nat) :
    Sim n (fun _ => True) (getObsC o name i) (getObsA o name i) := by
  refine gsim_of fun st h => ?_
  fun_cases getObsC o name i st
  case case1 c hc v hv => exact ⟨h, by simp [getObsA, hc, abs_coord, hv]⟩
  case case2 c hc hv => exact ⟨h, by simp [getObsA, hc, abs_coord, hv]⟩
  case case3 hc h1 => exact ⟨h, by simp [getObsA, hc, h1]⟩
  case case4 hc h1 h2 => exact ⟨h, by simp [getObsA, hc, h1, h2]⟩
  case case5 hc h1 h2 hf => exact ⟨h, by simp [getObsA, hc, h1, h2, abs_lookup, hf]⟩
  case case6 hc h1 h2 idx hf hr => exact ⟨h, by simp [getObsA, hc, h1, h2, abs_lookup, hf, colAt, hr]⟩
  case case7 hc h1 h2 idx hf r hr v hv =>
    exact ⟨h, by simp [getObsA, hc, h1, h2, abs_lookup, hf, colAt, hr, List.getD_eq_getElem?_getD, hv]⟩
  case case8 hc h1 h2 idx hf r hr hv =>
    have hl := h.slot hf r (List.mem_of_getElem? hr)
    rw [List.getElem?_eq_getElem hl] at hv; cases hv

theorem abs_create {st : St V} {name : String} (rows' : List (List V)) (c : List V)
    (hold : ∀ p ∈ st.dico, colAt rows' p.2 = colAt st.rows p.2) (hnew : colAt rows' st.dico.length = c) :
    abs ({ st with dico := st.dico ++ [(name, st.dico.length)], rows := rows' } : St V)
      = { abs st with cols := (abs st).cols ++ [(name, c)] } := by
  simp only [abs, List.map_append, List.map_cons, List.map_nil, hnew]
  congr 1
  congr 1
  apply List.map_congr_left
  intro p hp
  rw [hold p hp]

/-- createAnalyticalFeature (a list initialiser shorter than the track is refused on both sides, nothing changes) -/
theorem sim_create (name : String) (init : Init V) :
    Sim n (fun _ => True) (createC name init) (createA name init) := by
  refine gsim_of fun st h => ?_
  have he := isEmpty_rows h
  have hnone : hasC st name ≠ true → find st.dico name = none := fun h3 => by
    cases hfd : find st.dico name with
    | none => rfl
    | some i => simp [hasC, hfd] at h3
  have hlt : ∀ p ∈ st.dico, ∀ r ∈ st.rows, p.2 < r.length := fun p hp => h.row_lt hp
  fun_cases createC name init st
  case case1 h1 => exact ⟨h, by simp [createA, h1]⟩
  case case2 h1 h2 => exact ⟨h, by simp [createA, h1, abs_size h, he ▸ h2]⟩
  case case3 h1 h2 h3 => exact ⟨h, by simp [createA, h1, abs_size h, he ▸ h2, hasA_abs, h3]⟩
  case case4 h1 h2 h3 _ v =>
    refine ⟨inv_create h (hnone h3) _ (by simp) fun r hr => ?_, ?_⟩
    · obtain ⟨r0, hr0, rfl⟩ := List.mem_map.mp hr
      simp [h.rows r0 hr0]
    · rw [abs_create (st := st) (name := name) _ (List.replicate n v)
        (fun p hp => colAt_map_append_old _ _ _ (hlt p hp))
        (by rw [colAt_map_append_new _ _ _ h.rows, h.size])]
      simp [createA, h1, abs_size h, he ▸ h2, hasA_abs, h3]
  case case5 h1 h2 h3 l hl =>
    exact ⟨h, by simp [createA, h1, abs_size h, he ▸ h2, hasA_abs, h3, h.size ▸ hl]⟩
  case case6 h1 h2 h3 _ l hl =>
    rw [h.size] at hl
    refine ⟨inv_create h (hnone h3) _ (appendCol_length _ _) (appendCol_rows _ _ _ h.rows (by rw [h.size]; omega)), ?_⟩
    rw [abs_create (st := st) (name := name) _ (l.take n)
      (fun p hp => colAt_appendCol_old _ _ _ (hlt p hp))
      (by rw [colAt_appendCol_new _ _ _ h.rows (by rw [h.size]; omega), h.size])]
    simp [createA, h1, abs_size h, he ▸ h2, hasA_abs, h3, hl]

theorem abs_replace {st : St V} (h : Inv n st) {name : String} {idx : Nat} (hf : find st.dico name = some idx)
    (rows' : List (List V)) (c : List V) (hsame : colAt rows' idx = c)
    (hother : ∀ j, j ≠ idx → colAt rows' j = colAt st.rows j) :
    abs ({ st with rows := rows' } : St V) = { abs st with cols := replaceCol (abs st).cols name c } := by
  simp only [abs, replaceCol, List.map_map]
  congr 1
  apply List.map_congr_left
  intro p hp
  simp only [Function.comp]
  by_cases hn : p.1 = name
  · rw [if_pos (by simpa using hn), (h.idx_eq_iff hf hp).2 hn, hsame]
  · rw [if_neg (by simpa using hn), hother _ (mt (h.idx_eq_iff hf hp).1 hn)]

/-- updateAnalyticalFeature (a short list is a partial overwrite on both sides) -/
theorem sim_update (name : String) (init : Init V) :
    Sim n (fun _ => True) (updateC name init) (updateA name init) := by
  refine gsim_of fun st h => ?_
  have he := isEmpty_rows h
  fun_cases updateC name init st
  case case1 h1 => exact ⟨h, by simp [updateA, hasA_abs, h1]⟩
  case case2 h1 h2 => exact ⟨h, by simp [updateA, hasA_abs, h1, abs_size h, he ▸ h2]⟩
  case case3 h1 h2 hf =>
    exact ⟨h, by simp [updateA, hasA_abs, h1, abs_size h, he ▸ h2, abs_lookup, hf]⟩
  case case4 h1 h2 idx hf v =>
    refine ⟨inv_rows h _ (by simp) fun r hr => ?_, ?_⟩
    · obtain ⟨r0, hr0, rfl⟩ := List.mem_map.mp hr
      simp [h.rows r0 hr0]
    · rw [abs_replace h hf _ (List.replicate (colAt st.rows idx).length v)
        (by rw [colAt_map_set_same _ _ _ (h.slot hf), colAt_length])
        (fun j hj => colAt_map_set_other _ _ _ _ hj)]
      simp [updateA, hasA_abs, h1, abs_size h, he ▸ h2, abs_lookup, hf]
  case case5 h1 h2 idx hf l =>
    refine ⟨inv_rows h _ (writeCol_length _ _ _) (writeCol_rows _ _ _ _ h.rows), ?_⟩
    rw [abs_replace h hf _ (overwrite l (colAt st.rows idx))
      (colAt_writeCol_same _ _ _ (h.slot hf))
      (fun j hj => colAt_writeCol_other _ _ _ _ hj)]
    simp [updateA, hasA_abs, h1, abs_size h, he ▸ h2, abs_lookup, hf, h.size]

theorem abs_setCoord (st : St V) (c : Coord) (l : List V) : abs (st.setCoord c l) = (abs st).setCoord c l := by
  cases c <;> rfl

theorem sim_setObs (name : String) (i : Nat) (v : V) :
    Sim n (fun _ => True) (setObsC name i v) (setObsA name i v) := by
  refine gsim_of fun st h => ?_
  fun_cases setObsC name i v st
  case case1 h1 c hc hi =>
    exact ⟨inv_setCoord h c _ (by rw [List.length_set]; exact coord_length h c),
      by simp [setObsA, h1, hc, abs_coord, hi, abs_setCoord]⟩
  case case2 h1 c hc hi => exact ⟨h, by simp [setObsA, h1, hc, abs_coord, hi]⟩
  case case3 h1 hc => exact ⟨h, by simp [setObsA, h1, hc]⟩
  case case4 h1 hf => exact ⟨h, by simp [setObsA, h1, abs_lookup, hf]⟩
  case case5 h1 idx hf hr =>
    have hi : ¬ i < st.rows.length := fun hlt => by rw [List.getElem?_eq_getElem hlt] at hr; cases hr
    exact ⟨h, by simp [setObsA, h1, abs_lookup, hf, colAt_length, hi]⟩
  case case6 h1 idx hf r hr hl =>
    have hi : i < st.rows.length := (List.getElem?_eq_some_iff.mp hr).1
    refine ⟨inv_rows h _ (by simp) fun r' hr' => ?_, ?_⟩
    · rcases List.mem_or_eq_of_mem_set hr' with h' | h'
      · exact h.rows r' h'
      · rw [h', List.length_set]; exact h.rows r (List.mem_of_getElem? hr)
    · rw [abs_replace h hf _ ((colAt st.rows idx).set i v)
        (colAt_set_same _ _ _ _ _ hl)
        (fun j hj => colAt_set_other _ _ _ _ _ _ hr hj)]
      simp [setObsA, h1, abs_lookup, hf, colAt_length, hi]
  case case7 h1 idx hf r hr hl => exact absurd (h.slot hf r (List.mem_of_getElem? hr)) hl

theorem inv_remove {st : St V} (h : Inv n st) {name : String} {idx : Nat} (hf : find st.dico name = some idx) :
    Inv n { st with
      dico := (st.dico.filter (fun p => !(p.1 == name))).map (fun p => (p.1, if p.2 > idx then p.2 - 1 else p.2)),
      rows := st.rows.map (·.eraseIdx idx) } := by
  have hf' : find ((names st).zipIdx 0) name = some idx := by rw [← h.enum]; exact hf
  obtain ⟨hlt, hget⟩ := h.find_some hf
  have hmem : name ∈ names st := List.mem_of_getElem? hget
  have hd : (st.dico.filter (fun p => !(p.1 == name))).map (fun p => (p.1, if p.2 > idx then p.2 - 1 else p.2))
      = ((names st).erase name).zipIdx 0 := by
    have := remap_zipIdx (names st) h.nodup 0 name idx hf'
    rw [← h.enum] at this
    exact this
  have hn : names ({ st with
      dico := (st.dico.filter (fun p => !(p.1 == name))).map (fun p => (p.1, if p.2 > idx then p.2 - 1 else p.2)),
      rows := st.rows.map (·.eraseIdx idx) } : St V) = (names st).erase name := by
    show List.map Prod.fst _ = _
    rw [hd]; simp [List.zipIdx_map_fst]
  refine ⟨by rw [hn]; exact hd, by rw [hn]; exact h.nodup.erase _, ?_, by simp [h.size], h.xs, h.ys, h.zs, h.ts⟩
  intro r hr
  obtain ⟨r0, hr0, rfl⟩ := List.mem_map.mp hr
  have hl0 := h.rows r0 hr0
  simp only
  rw [hd, List.length_zipIdx, List.length_erase_of_mem hmem, List.length_eraseIdx, ← h.dico_length]
  have : idx < r0.length := by omega
  simp [this]; omega

theorem sim_remove (name : String) : Sim n (fun _ => True) (removeC (V := V) name) (removeA name) := by
  refine gsim_of fun st h => ?_
  fun_cases removeC name st
  case case1 h1 => exact ⟨h, by simp [removeA, hasA_abs, h1]⟩
  case case2 h1 hf => exact ⟨h, by simp [removeA, hasA_abs, h1, abs_lookup, hf]⟩
  case case3 h1 idx hf =>
    refine ⟨inv_remove h hf, ?_⟩
    simp only [removeA, hasA_abs, h1, abs_lookup, hf, Option.map_some, Bool.false_eq_true, if_false]
    simp only [abs, List.filter_map, List.map_map]
    congr 2
    apply List.map_congr_left
    intro p hp
    obtain ⟨hp1, hp2⟩ := List.mem_filter.mp hp
    simp only [Function.comp]
    rw [colAt_eraseIdx _ _ _ (mt (h.idx_eq_iff hf hp1).1 (by simpa using hp2))]

/-- the one-track table against the specification table: `gsim_step` and everything before it apply with `I = Inv n`,
`ab = abs` -/
instance primSimSt : PrimSim (Inv (V := V) n) abs where
  size := gsim_weaken sim_size (fun _ _ => trivial)
  has := sim_has
  names := sim_names
  get := fun o name => gsim_weaken (sim_get o name) (fun _ _ => trivial)
  getObs := sim_getObs
  setObs := sim_setObs
  create := sim_create
  update := sim_update
  remove := sim_remove

example (o : Ops V) (op : Op V) : Sim n (fun _ => True) (step (σ := St V) o op) (step (σ := ATab V) o op) :=
  gsim_step (I := Inv n) (ab := abs) o op

end prims
end TV.Features
