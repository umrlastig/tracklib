import TracklibVerif.Lemmas.Geo
/-! Helper lemmas for C14, Lambert-93: the forward projection puts a point in polar form about the pole of the cone; the
inverse reads the longitude off the angle and the isometric latitude off the radius, exactly. The loop body of the inverse
is `φ ↦ gd (lambU φ + L)`, the isometric latitude is `log tan(π/4 + φ/2) − lambU φ`, so the latitude is a fixed point. -/
namespace TV.Geo
open Real

@[simp] theorem rt_tan : realTrig.tan = Real.tan := rfl
@[simp] theorem rt_atan : realTrig.atan = Real.arctan := rfl
@[simp] theorem rt_log : realTrig.log = Real.log := rfl
@[simp] theorem rt_exp : realTrig.exp = Real.exp := rfl
theorem rt_pow (x y : ℝ) : realTrig.pow x y = x ^ y := rfl

theorem lit2 : (2.0 : ℝ) = 2 := by norm_num
theorem lit4 : (4.0 : ℝ) = 4 := by norm_num
theorem lambN_val : (lambN : ℝ) = 725607765053267 / 1000000000000000 := by unfold lambN; norm_num
theorem lambL0_val : (lambLambda0 : ℝ) = 523598775598299 / 10000000000000000 := by unfold lambLambda0; norm_num
theorem lambE_val : (lambE : ℝ) = 8181919106 / 100000000000 := by unfold lambE; norm_num
theorem lambN_pos : (0 : ℝ) < lambN := by unfold lambN; norm_num
theorem lambC_pos : (0 : ℝ) < lambC := by unfold lambC; norm_num
theorem lambE_pos : (0 : ℝ) < lambE := by rw [lambE_val]; norm_num
theorem lambE_lt : (lambE : ℝ) < 1 := by rw [lambE_val]; norm_num

theorem one_add_Es_pos (φ : ℝ) : 0 < 1 + lambE * Real.sin φ := by
  have := mul_le_mul_of_nonneg_left (Real.neg_one_le_sin φ) lambE_pos.le
  linarith [lambE_lt]
theorem one_sub_Es_pos (φ : ℝ) : 0 < 1 - lambE * Real.sin φ := by
  have := mul_le_mul_of_nonneg_left (Real.sin_le_one φ) lambE_pos.le
  linarith [lambE_lt]

/-- isometric latitude as `_projToLambert93` computes it (`φ` in radians) -/
noncomputable def lambLatIso (φ : ℝ) : ℝ :=
  Real.log (Real.tan (π / 4 + φ / 2) * ((1 - lambE * Real.sin φ) / (1 + lambE * Real.sin φ)) ^ ((lambE : ℝ) / 2))

/-- Gudermannian-like map of the loop body: `x ↦ 2 atan(exp x) − π/2` -/
noncomputable def gd (x : ℝ) : ℝ := 2 * Real.arctan (Real.exp x) - π / 2

/-- log of the eccentricity factor of the loop body -/
noncomputable def lambU (φ : ℝ) : ℝ :=
  (lambE : ℝ) / 2 * (Real.log (1 + lambE * Real.sin φ) - Real.log (1 - lambE * Real.sin φ))

theorem lambStep_eq (L φ : ℝ) : lambStep realTrig L φ = gd (lambU φ + L) := by
  simp only [lambStep, rt_atan, rt_exp, rt_sin, rt_pi, rt_pow, lit1, lit2]
  unfold gd lambU
  have hp := one_add_Es_pos φ
  have hm := one_sub_Es_pos φ
  rw [Real.rpow_def_of_pos (div_pos hp hm), Real.log_div hp.ne' hm.ne', ← Real.exp_add]
  congr 3
  ring_nf

/-- the argument `π/4 + φ/2` of the tangent in the isometric latitude -/
theorem quarter_mem {φ : ℝ} (hφ : φ ∈ Set.Ioo (-(π / 2)) (π / 2)) : π / 4 + φ / 2 ∈ Set.Ioo 0 (π / 2) :=
  ⟨by linarith only [hφ.1], by linarith only [hφ.2]⟩

theorem tan_quarter_pos {φ : ℝ} (hφ : φ ∈ Set.Ioo (-(π / 2)) (π / 2)) : 0 < Real.tan (π / 4 + φ / 2) :=
  Real.tan_pos_of_pos_of_lt_pi_div_two (quarter_mem hφ).1 (quarter_mem hφ).2

theorem lambLatIso_eq {φ : ℝ} (hφ : φ ∈ Set.Ioo (-(π / 2)) (π / 2)) :
    lambLatIso φ = Real.log (Real.tan (π / 4 + φ / 2)) - lambU φ := by
  have hp := one_add_Es_pos φ
  have hm := one_sub_Es_pos φ
  unfold lambLatIso lambU
  rw [Real.log_mul (tan_quarter_pos hφ).ne' (Real.rpow_pos_of_pos (div_pos hm hp) _).ne',
    Real.log_rpow (div_pos hm hp), Real.log_div hm.ne' hp.ne']
  ring

theorem gd_log_tan {φ : ℝ} (hφ : φ ∈ Set.Ioo (-(π / 2)) (π / 2)) : gd (Real.log (Real.tan (π / 4 + φ / 2))) = φ := by
  unfold gd
  rw [Real.exp_log (tan_quarter_pos hφ), Real.arctan_tan ((neg_lt_zero.mpr (half_pos Real.pi_pos)).trans (quarter_mem hφ).1) (quarter_mem hφ).2]
  ring

theorem lambert_fixed_point' {φ : ℝ} (hφ : φ ∈ Set.Ioo (-(π / 2)) (π / 2)) :
    lambStep realTrig (lambLatIso φ) φ = φ := by
  rw [lambStep_eq, lambLatIso_eq hφ, add_sub_cancel, gd_log_tan hφ]

theorem iter_fixed {α : Type} {f : α → α} {x : α} (h : f x = x) (k : Nat) : iter f k x = x := by
  induction k with
  | zero => rfl
  | succ k ih => rw [iter, h, ih]

/-- `_projToLambert93` over ℝ: polar coordinates about the pole `(Xp, Yp)`, radius `C exp(−n L)`, angle `n (λ − λ₀)` -/
theorem toLambert93_real (g : V3 ℝ) :
    toLambert93 realTrig g =
      ⟨lambXp + lambC * Real.exp (-lambN * lambLatIso (g.y * π / 180)) * Real.sin (lambN * (g.x * π / 180 - lambLambda0)),
       lambYp - lambC * Real.exp (-lambN * lambLatIso (g.y * π / 180)) * Real.cos (lambN * (g.x * π / 180 - lambLambda0)),
       g.z⟩ := by
  simp only [toLambert93, rt_tan, rt_log, rt_exp, rt_sin, rt_cos, rt_pi, rt_pow, lit180, lit1, lit2, lit4]
  rfl

/-- `__projFromLambert93` at the point of radius `R` and angle `θ` about the pole: the longitude from `θ`, and the loop
run with the isometric latitude `−log(R / C) / n`, started at its `gd` -/
theorem fromLambert93_polar {R : ℝ} (hR : 0 < R) (θ z : ℝ) :
    fromLambert93 realTrig ⟨lambXp + R * Real.sin θ, lambYp - R * Real.cos θ, z⟩ =
      ⟨(Real.arctan (Real.tan θ) / lambN + lambLambda0) * 180 / π,
       iter (lambStep realTrig (-Real.log (R / lambC) / lambN)) 10 (gd (-Real.log (R / lambC) / lambN)) * 180 / π, z⟩ := by
  simp only [fromLambert93, rt_pow2]
  simp only [rt_atan, rt_log, rt_exp, rt_pi, rt_sqrt, lit180, lit2]
  rw [add_sub_cancel_left, sub_sub_cancel_left, neg_div_neg_eq, mul_div_mul_left _ _ hR.ne', ← Real.tan_eq_sin_div_cos,
    show (R * Real.sin θ) ^ 2 + (-(R * Real.cos θ)) ^ 2 = R ^ 2 * (Real.sin θ ^ 2 + Real.cos θ ^ 2) by ring,
    Real.sin_sq_add_cos_sq, mul_one, Real.sqrt_sq hR.le]
  rfl

theorem lambR_pos (L : ℝ) : 0 < lambC * Real.exp (-lambN * L) := mul_pos lambC_pos (Real.exp_pos _)

theorem lambert_round_real (g : V3 ℝ) :
    fromLambert93 realTrig (toLambert93 realTrig g) =
      ⟨(Real.arctan (Real.tan (lambN * (g.x * π / 180 - lambLambda0))) / lambN + lambLambda0) * 180 / π,
       iter (lambStep realTrig (lambLatIso (g.y * π / 180))) 10 (gd (lambLatIso (g.y * π / 180))) * 180 / π, g.z⟩ := by
  rw [toLambert93_real, fromLambert93_polar (lambR_pos _), mul_div_cancel_left₀ _ lambC_pos.ne', Real.log_exp, neg_mul,
    neg_neg, mul_div_cancel_left₀ _ lambN_pos.ne']

/-- the longitude comes back on the whole sector the cone unrolls to, `|n (λ − λ₀)| < π/2` -/
theorem lambert_lon_of (g : V3 ℝ) (h : lambN * (g.x * π / 180 - lambLambda0) ∈ Set.Ioo (-(π / 2)) (π / 2)) :
    (fromLambert93 realTrig (toLambert93 realTrig g)).x = g.x := by
  rw [lambert_round_real]
  simp only
  rw [Real.arctan_tan h.1 h.2, mul_div_cancel_left₀ _ lambN_pos.ne', sub_add_cancel, mul_div_assoc, deg_rad]

theorem lambert_lon' (g : V3 ℝ) (h1 : -90 < g.x) (h2 : g.x < 90) :
    (fromLambert93 realTrig (toLambert93 realTrig g)).x = g.x := by
  obtain ⟨hu1, hu2⟩ := rad_mem h1 h2
  exact lambert_lon_of g ⟨by rw [lambN_val, lambL0_val]; linarith only [hu1, Real.two_le_pi],
    by rw [lambN_val, lambL0_val]; linarith only [hu2, Real.two_le_pi]⟩

end TV.Geo
