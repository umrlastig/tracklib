import TracklibVerif.Lemmas.Graph
/-! The loop of `run_routing_forward` as coded (target stop, cut-off, `output_dict`), with the queue's choice `pop` and the
body `stl` abstracted (`loopG`): `forward` (`Model/Graph.lean`), `forwardH` (`Model/GraphAStar.lean`) are instances; `loopG_rule`
is its rule (what every iteration that passes the stop tests preserves, of flags and recorded entries, holds at the end).
Proved once, for a queue that hands out an unsettled labelled node of minimal priority (`PopOK`): the invariants hold when
the loop ends, the recorded entries are the settled nodes with their labels, and (`Ended.low`) a node joined to the source by
a walk within the cut-off carries a label not above the walk's weight. -/
namespace TV.Graph
section loop
variable {W : Type} [LT W] [DecidableLT W]

/-- the `while len(fil) != 0` loop of `run_routing_forward` with the queue's choice and the body abstracted -/
def loopG (pop : St W → Option (Nat × W)) (stl : St W → Nat → W → St W) (target : Option Nat) (cut : Option W) :
    Nat → St W → List (Nat × W) → St W × List (Nat × W)
  | 0, st, out => (st, out)
  | f+1, st, out =>
    match pop st with
    | none => (st, out)
    | some (u, du) =>
      if stops target cut u du then (st, out)
      else loopG pop stl target cut f (stl st u du) (out ++ [(u, du)])

theorem loopG_congr (pop : St W → Option (Nat × W)) (stl stl' : St W → Nat → W → St W)
    (h : ∀ st u du, pop st = some (u, du) → stl st u du = stl' st u du)
    (tg : Option Nat) (cut : Option W) (f : Nat) (st : St W) (out : List (Nat × W)) :
    loopG pop stl tg cut f st out = loopG pop stl' tg cut f st out := by
  induction f generalizing st out with
  | zero => rfl
  | succ f ih =>
    unfold loopG
    cases hp : pop st with
    | none => rfl
    | some p => simp only [h st p.1 p.2 hp, ih]

theorem forward_eq_loopG [Add W] (net : Net W) (tg : Option Nat) (cut : Option W) (f : Nat) (st : St W) (out : List (Nat × W)) :
    forward net tg cut f st out = loopG (fun st => popMinAux st net.n) (settle net) tg cut f st out := by
  induction f generalizing st out with
  | zero => rfl
  | succ f ih =>
    unfold forward loopG
    cases popMinAux st net.n with
    | none => rfl
    | some p => simp only [ih]

end loop

section
variable {W : Type} [LinearOrder W] [Add W] [Zero W] [WalkAdd W]

structure PopOK (pr : Nat → W → W) (n : Nat) (pop : St W → Option (Nat × W)) : Prop where
  none : ∀ st, pop st = none → ∀ v, v < n → st.vis v = false → st.d v = none
  some : ∀ st u x, pop st = some (u, x) → u < n ∧ st.vis u = false ∧ st.d u = some x ∧
    ∀ v y, v < n → st.vis v = false → st.d v = some y → pr u x ≤ pr v y

/-- a state in which the loop may have ended: the invariants hold, and a stop test fired on the node on top of the
queue unless every labelled node is settled -/
structure Ended (pr : Nat → W → W) (net : Net W) (s : Nat) (pop : St W → Option (Nat × W)) (tg : Option Nat)
    (cut : Option W) (r : St W) : Prop where
  inv : InvP pr net s r
  fin : (∃ u du, pop r = some (u, du) ∧ stops tg cut u du = true) ∨ ∀ v y, r.d v = some y → r.vis v = true

end

variable {W : Type} [LinearOrder W]

/-- `y` does not exceed the cut-off (`none` = no cut-off) -/
def Within (cut : Option W) (y : W) : Prop := ∀ c, cut = some c → y ≤ c

theorem stops_true {tg : Option Nat} {cut : Option W} {u : Nat} {du : W} (h : stops tg cut u du = true) :
    (∃ c, cut = some c ∧ c < du) ∨ tg = some u := by
  cases cut with
  | none =>
    cases tg with
    | none => exact nomatch h
    | some t => exact Or.inr (congrArg some (of_decide_eq_true h).symm)
  | some c =>
    by_cases hlt : c < du
    · exact Or.inl ⟨c, rfl, hlt⟩
    · cases tg with
      | none => simp only [stops, hlt, decide_false, Bool.or_self] at h; exact nomatch h
      | some t =>
        simp only [stops, hlt, decide_false, Bool.false_or, decide_eq_true_eq] at h
        exact Or.inr (congrArg some h.symm)

theorem within_of_not_stops {tg : Option Nat} {cut : Option W} {u : Nat} {du : W} (h : ¬ stops tg cut u du = true) :
    Within cut du := by
  intro c hc
  refine not_lt.mp fun hlt => h ?_
  simp only [stops, hc, hlt, decide_true, Bool.true_or]

theorem loopG_rule (pop : St W → Option (Nat × W)) (stl : St W → Nat → W → St W) (tg : Option Nat) (cut : Option W)
    (Q : St W → List (Nat × W) → Prop)
    (hQ : ∀ st out u du, Q st out → pop st = some (u, du) → ¬ stops tg cut u du = true → Q (stl st u du) (out ++ [(u, du)]))
    (f : Nat) (st : St W) (out : List (Nat × W)) (h0 : Q st out) :
    Q (loopG pop stl tg cut f st out).1 (loopG pop stl tg cut f st out).2 := by
  fun_induction loopG pop stl tg cut f st out with
  | case4 f st out u du hp hs ih => exact ih (hQ st out u du h0 hp hs)
  | _ => exact h0

theorem loopG_preserves (pop : St W → Option (Nat × W)) (stl : St W → Nat → W → St W) (Q : St W → Prop)
    (hQ : ∀ st u du, Q st → pop st = some (u, du) → Q (stl st u du))
    (tg : Option Nat) (cut : Option W) (f : Nat) (st : St W) (out : List (Nat × W)) (h0 : Q st) :
    Q (loopG pop stl tg cut f st out).1 :=
  loopG_rule pop stl tg cut (fun st _ => Q st) (fun st _ u du h hp _ => hQ st u du h hp) f st out h0

theorem popOK_aux (n : Nat) : PopOK (fun _ y => y) n (fun st : St W => popMinAux st n) :=
  ⟨fun st => (popMinAux_spec st n).1, fun st => (popMinAux_spec st n).2⟩

/-- the loop ends because a stop test fired on the node on top of the queue, or with every labelled node below `n` settled:
nothing is left to pop, or (fuel) all `n` nodes are settled -/
theorem loopG_stop {pr : Nat → W → W} {n : Nat} {pop : St W → Option (Nat × W)} (hpop : PopOK pr n pop)
    (stl : St W → Nat → W → St W) (hvis : ∀ st u du z, (stl st u du).vis z = if z = u then true else st.vis z)
    (tg : Option Nat) (cut : Option W) (f : Nat) (st : St W) (out : List (Nat × W)) (hf : cnt st n ≤ f) :
    (∃ u du, pop (loopG pop stl tg cut f st out).1 = some (u, du) ∧ stops tg cut u du = true) ∨
      ∀ v, v < n → ∀ y, (loopG pop stl tg cut f st out).1.d v = some y → (loopG pop stl tg cut f st out).1.vis v = true := by
  fun_induction loopG pop stl tg cut f st out with
  | case1 st out => exact Or.inr fun v hv _ _ => cnt_zero_all st n (Nat.le_zero.mp hf) v hv
  | case2 f st out hp =>
    refine Or.inr fun v hv y hd => ?_
    cases hq : st.vis v with
    | true => rfl
    | false => rw [hpop.none st hp v hv hq] at hd; cases hd
  | case3 f st out u du hp hstop => exact Or.inl ⟨u, du, hp, hstop⟩
  | case4 f st out u du hp hstop ih =>
    apply ih
    obtain ⟨hu, huv, _⟩ := hpop.some st u du hp
    have := cnt_mark st (stl st u du) u huv (hvis st u du) n
    rw [if_pos hu] at this
    omega

variable [Add W]

theorem settle_settled {net : Net W} {st : St W} {u : Nat} {du : W} (hud : st.d u = some du) (v : Nat) (z : W) :
    ((settle net st u du).vis v = true ∧ (settle net st u du).d v = some z) ↔
      ((st.vis v = true ∧ st.d v = some z) ∨ (v, z) = (u, du)) := by
  obtain ⟨s1, s2, _⟩ := settle_spec net st u du
  rw [s1 v, mark_true]
  constructor
  · rintro ⟨rfl | a, b⟩
    · rw [s2 v (Or.inl rfl), hud] at b
      exact Or.inr (by rw [Option.some.inj b])
    · exact Or.inl ⟨a, (s2 v (Or.inr a)).symm.trans b⟩
  · rintro (⟨a, b⟩ | h)
    · exact ⟨Or.inr a, (s2 v (Or.inr a)).trans b⟩
    · obtain ⟨rfl, rfl⟩ := Prod.mk.inj h
      exact ⟨Or.inl rfl, (s2 v (Or.inl rfl)).trans hud⟩

variable [Zero W]

def IsDist (net : Net W) (s v : Nat) (y : W) : Prop := Walk net s v y ∧ ∀ c, Walk net s v c → y ≤ c

def Reachable (net : Net W) (s v : Nat) : Prop := ∃ c, Walk net s v c

theorem isDist_iff_label {net : Net W} {s : Nat} {d : Nat → Option W}
    (h1 : ∀ v c, Walk net s v c → ∃ y, d v = some y ∧ y ≤ c) (h2 : ∀ v y, d v = some y → Walk net s v y) (v : Nat) (y : W) :
    d v = some y ↔ IsDist net s v y := by
  constructor
  · intro h
    refine ⟨h2 v y h, fun c hc => ?_⟩
    obtain ⟨y', hy', hle⟩ := h1 v c hc
    exact Option.some.inj (h.symm.trans hy') ▸ hle
  · rintro ⟨hw, hmin⟩
    obtain ⟨y', hy', hle⟩ := h1 v y hw
    rw [hy', le_antisymm hle (hmin y' (h2 v y' hy'))]

omit [LinearOrder W] in
theorem InvA.unreachable {net : Net W} {s : Nat} {st : St W} (h : InvA net s st) {t : Nat} (hn : ¬ Reachable net s t) :
    st.d t = none := by
  cases hd : st.d t with
  | none => rfl
  | some y => exact absurd ⟨y, h.a3 t y hd⟩ hn

theorem Ended.unreachable {pr : Nat → W → W} {net : Net W} {pop : St W → Option (Nat × W)} {s : Nat} {tg : Option Nat}
    {cut : Option W} {r : St W} (h : Ended pr net s pop tg cut r) {t : Nat} (hn : ¬ Reachable net s t) : r.d t = none :=
  h.inv.a.unreachable hn

variable [WalkAdd W]

theorem loopG_ended {pr : Nat → W → W} {net : Net W} (hnet : WFNet net) (hpr : PrioOK pr net)
    {pop : St W → Option (Nat × W)} (hpop : PopOK pr net.n pop) (s : Nat) (hs : s < net.n) (tg : Option Nat)
    (cut : Option W) : Ended pr net s pop tg cut (loopG pop (settle net) tg cut net.n (St.init s) []).1 := by
  have hinv := loopG_preserves pop (settle net) (InvP pr net s)
    (fun st u du hi hp => settle_invP hnet hpr hi (hpop.some st u du hp).2.1 (hpop.some st u du hp).2.2.1
      (hpop.some st u du hp).2.2.2) tg cut net.n (St.init s) [] (invP_init pr net s hs)
  exact ⟨hinv, (loopG_stop hpop (settle net) (fun st u du => (settle_spec net st u du).1) tg cut net.n (St.init s) []
    (cnt_le _ _)).imp_right fun h v y hv => h v (hinv.a.a6 v y hv) y hv⟩

/-- when the loop has ended, a node `v` joined to the source by a walk of weight `c` within the cut-off carries a label
`≤ c`, and is settled unless it is the target — provided a target, if any, is `v`, and (when there is a cut-off) priorities
at other nodes bound labels as the priority at `v` does: the unsettled labelled node that covers the walk has a priority
`≤ pr v c`, hence so has the node on which the stop test fired, whose label exceeds the cut-off. -/
theorem Ended.low {pr : Nat → W → W} {net : Net W} (hpr : PrioOK pr net) {pop : St W → Option (Nat × W)}
    (hpop : PopOK pr net.n pop) {s : Nat} {tg : Option Nat} {cut : Option W} {r : St W} (h : Ended pr net s pop tg cut r)
    {v : Nat} {c : W} (hw : Walk net s v c) (hc : Within cut c) (htg : ∀ t, tg = some t → t = v)
    (hv : ∀ cc, cut = some cc → ∀ u a, pr u a ≤ pr v c → a ≤ c) :
    ∃ y, r.d v = some y ∧ y ≤ c ∧ (r.vis v = true ∨ tg = some v) := by
  obtain ⟨z, y, hz, hle, hcase⟩ := invP_cover hpr h.inv v c hw
  -- an unsettled labelled node of priority `≤ pr v c` is left only if the loop stopped at the target `v`
  have open_ : r.vis z = false → ∃ du, r.d v = some du ∧ du ≤ c ∧ tg = some v := by
    intro hzv
    rcases h.fin with ⟨u, du, hp, hstop⟩ | hall
    · obtain ⟨_, _, hud, hmin⟩ := hpop.some r u du hp
      have hprio : pr u du ≤ pr v c := le_trans (hmin z y (h.inv.a.a6 z y hz) hzv hz) hle
      rcases stops_true hstop with ⟨cc, hcc, hlt⟩ | htu
      · exact absurd (lt_of_le_of_lt (hc cc hcc) hlt) (not_lt.mpr (hv cc hcc u du hprio))
      · obtain rfl := htg u htu
        exact ⟨du, hud, (hpr.mono u du c).1 hprio, htu⟩
    · rw [hall z y hz] at hzv; cases hzv
  cases hzv : r.vis z with
  | false =>
    obtain ⟨du, h1, h2, h3⟩ := open_ hzv
    exact ⟨du, h1, h2, Or.inr h3⟩
  | true =>
    obtain rfl : z = v := hcase.resolve_left (by rw [hzv]; exact Bool.noConfusion)
    exact ⟨y, hz, (hpr.mono z y c).1 hle, Or.inl hzv⟩

theorem Ended.label {pr : Nat → W → W} {net : Net W} (hpr : PrioOK pr net) {pop : St W → Option (Nat × W)}
    (hpop : PopOK pr net.n pop) {s : Nat} {tg : Option Nat} {cut : Option W} {r : St W} (h : Ended pr net s pop tg cut r)
    {t : Nat} {y : W} (hy : IsDist net s t y) (hw : Within cut y) (htg : ∀ t', tg = some t' → t' = t)
    (hv : ∀ cc, cut = some cc → ∀ u a, pr u a ≤ pr t y → a ≤ y) :
    r.d t = some y ∧ (r.vis t = true ∨ tg = some t) := by
  obtain ⟨y', h1, h2, h3⟩ := h.low hpr hpop hy.1 hw htg hv
  rw [h1, le_antisymm h2 (hy.2 y' (h.inv.a.a3 t y' h1))]
  exact ⟨rfl, h3⟩

theorem Ended.dist {pr : Nat → W → W} {net : Net W} (hpr : PrioOK pr net) {pop : St W → Option (Nat × W)}
    (hpop : PopOK pr net.n pop) {s : Nat} {tg : Option Nat} {r : St W} (h : Ended pr net s pop tg none r)
    {t : Nat} (htg : ∀ t', tg = some t' → t' = t) :
    (∀ y, r.d t = some y ↔ IsDist net s t y) ∧ (r.d t = none ↔ ¬ Reachable net s t) := by
  have low : ∀ c, Walk net s t c → ∃ y, r.d t = some y ∧ y ≤ c := fun c hc => by
    obtain ⟨y, h1, h2, _⟩ := h.low hpr hpop hc (fun _ e => nomatch e) htg (fun _ e => nomatch e)
    exact ⟨y, h1, h2⟩
  refine ⟨fun y => ⟨fun hd => ⟨h.inv.a.a3 t y hd, fun c hc => ?_⟩, fun hy => ?_⟩, fun hd ⟨c, hc⟩ => ?_, h.unreachable⟩
  · obtain ⟨y', h1, h2⟩ := low c hc
    exact Option.some.inj (h1.symm.trans hd) ▸ h2
  · exact (h.label hpr hpop hy (fun _ e => nomatch e) htg (fun _ e => nomatch e)).1
  · obtain ⟨y', h1, _⟩ := low c hc
    rw [hd] at h1; cases h1

/-- every entry the loop writes to `output_dict` — whatever the target and the cut-off — is the true distance of its key and
does not exceed the cut-off; the entries are exactly the nodes marked `visite`, whose labels are therefore true distances -/
theorem loopG_entries {pr : Nat → W → W} {net : Net W} (hnet : WFNet net) (hpr : PrioOK pr net)
    {pop : St W → Option (Nat × W)} (hpop : PopOK pr net.n pop) (s : Nat) (hs : s < net.n) (tg : Option Nat)
    (cut : Option W) :
    (∀ u y, (u, y) ∈ (loopG pop (settle net) tg cut net.n (St.init s) []).2 → IsDist net s u y ∧ Within cut y) ∧
    (∀ u, (loopG pop (settle net) tg cut net.n (St.init s) []).1.vis u = true ↔
      ∃ y, (u, y) ∈ (loopG pop (settle net) tg cut net.n (St.init s) []).2) ∧
    (∀ u y, (loopG pop (settle net) tg cut net.n (St.init s) []).1.vis u = true →
      (loopG pop (settle net) tg cut net.n (St.init s) []).1.d u = some y → IsDist net s u y) := by
  have hinv := (loopG_ended hnet hpr hpop s hs tg cut).inv
  obtain ⟨r1, r2⟩ := loopG_rule pop (settle net) tg cut
    (fun st out => (∀ u y, (u, y) ∈ out ↔ (st.vis u = true ∧ st.d u = some y)) ∧
      ∀ u y, st.vis u = true → st.d u = some y → Within cut y)
    (fun st out u du ⟨hout, hcut⟩ hp hstop => by
      have settled := settle_settled (net := net) (hpop.some st u du hp).2.2.1
      refine ⟨fun v z => by rw [List.mem_append, List.mem_singleton, settled, hout], fun v z a b => ?_⟩
      rcases (settled v z).1 ⟨a, b⟩ with ⟨a', b'⟩ | h
      · exact hcut v z a' b'
      · rw [(Prod.mk.inj h).2]; exact within_of_not_stops hstop)
    net.n (St.init s) [] ⟨fun u y => ⟨fun e => (nomatch e), fun e => (nomatch e.1)⟩, fun u y e => (nomatch e)⟩
  have hdist := fun u y a b => invP_settled_min hpr hinv (u := u) (x := y) a b
  refine ⟨fun u y hm => ?_, fun u => ⟨fun hv => ?_, fun ⟨y, hm⟩ => ((r1 u y).1 hm).1⟩, hdist⟩
  · obtain ⟨a, b⟩ := (r1 u y).1 hm
    exact ⟨hdist u y a b, r2 u y a b⟩
  · obtain ⟨x, hx⟩ := hinv.a.a5 u hv
    exact ⟨x, (r1 u x).2 ⟨hv, hx⟩⟩
end TV.Graph
