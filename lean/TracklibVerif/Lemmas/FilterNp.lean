import TracklibVerif.Lemmas.Filter
/-! Lemmas about `Model/Filter.lean` (C15), on top of `Lemmas/Filter.lean`:

* an empty window has norm 0;
* user-defined kernel functions given by a table (`tableF`);
* the sample points of a sliding window lie within `S = int(support)` of 0. -/
namespace TV.Filter

section np
variable {α : Type} [Field α] [LinearOrder α] [IsStrictOrderedRing α]

theorem wtot_of_isEmpty (W : List (α × α)) (h : W.isEmpty = true) : wtot W = 0 := by
  rw [List.isEmpty_iff] at h
  rw [h, wtot_nil]

end np

section table
variable {α : Type} [Field α] [LinearOrder α]

theorem tableFrom_nonneg (a : α) (tbl : List α) (j : Nat) (h : ∀ y ∈ tbl, 0 ≤ y) : 0 ≤ tableFrom a tbl j := by
  induction tbl generalizing j with
  | nil => simp [tableFrom]
  | cons y ys ih =>
    unfold tableFrom
    split
    · exact h y List.mem_cons_self
    · exact ih (j + 1) (fun z hz => h z (List.mem_cons_of_mem _ hz))

theorem tableF_nonneg (tbl : List α) (x : α) (h : ∀ y ∈ tbl, 0 ≤ y) : 0 ≤ tableF tbl x :=
  tableFrom_nonneg _ tbl 0 h

variable [IsStrictOrderedRing α]

theorem tableFrom_nat (tbl : List α) (j0 m : Nat) :
    tableFrom (((j0 + m : Nat) : α)) tbl j0 = (tbl[m]?).getD 0 := by
  induction tbl generalizing j0 m with
  | nil => simp [tableFrom]
  | cons y ys ih =>
    unfold tableFrom
    cases m with
    | zero => simp
    | succ m =>
      have hne : ¬ ((j0 : α) = ((j0 + (m + 1) : Nat) : α)) := by
        intro h
        have := Nat.cast_injective (R := α) h
        omega
      have e : j0 + (m + 1) = (j0 + 1) + m := by omega
      simp only [beq_iff_eq, hne, if_false, List.getElem?_cons_succ]
      rw [e, ih]

theorem tableF_even (tbl : List α) (x : α) : tableF tbl (-x) = tableF tbl x := by
  unfold tableF; rw [absv_neg]

theorem tableF_nat (tbl : List α) (j : Nat) : tableF tbl (j : α) = (tbl[j]?).getD 0 := by
  unfold tableF
  have : absv ((j : Nat) : α) = ((0 + j : Nat) : α) := by
    rw [absv_eq_abs, Nat.zero_add]; exact abs_of_nonneg (Nat.cast_nonneg j)
  rw [this, tableFrom_nat]

/-- at the sample point `S - i` of a sliding window the table function reads `tbl[|S - i|]` -/
theorem tableF_sample (tbl : List α) (S i : Nat) :
    tableF tbl ((S : α) - (i : α)) = (tbl[((S : Int) - (i : Int)).natAbs]?).getD 0 := by
  rcases Nat.le_total i S with h | h
  · rw [← Nat.cast_sub h, tableF_nat, ← Nat.cast_sub h, Int.natAbs_natCast]
  · rw [← neg_sub, ← Nat.cast_sub h, tableF_even, tableF_nat, ← Int.natAbs_neg, neg_sub, ← Nat.cast_sub h, Int.natAbs_natCast]

theorem absv_sample_le (S i : Nat) (hi : i ≤ 2 * S) : absv ((S : α) - (i : α)) ≤ (S : α) := by
  rw [absv_eq_abs]
  exact abs_le.mpr ⟨neg_le_sub_iff_le_add.mpr (by rw [← two_mul]; exact_mod_cast hi), sub_le_self _ (Nat.cast_nonneg i)⟩
end table

end TV.Filter
