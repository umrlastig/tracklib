import TracklibVerif.Lemmas.ExprFn
import TracklibVerif.Lemmas.Common.MapM
/-! The tree semantics `denoteM` (operator classes as coded, with their number∘feature and
feature∘number forms and literal folding) agrees with plain *pointwise* evaluation: every leaf is a
vector (a number is a constant vector) and every operator acts observation by observation. The only
facts about arithmetic used are the two `Laws` below: commutativity of `+` and `*` (the number∘feature forms
`sr+`, `sr*` are bound to the feature∘number operators). Since fix 5676890 the scalar divisions are divisions
(`x / s`, `s / x`), so the two reciprocal laws `x*(1/s) = x/s`, `(1/x)*s = s/x` — false of IEEE doubles — are gone. -/
namespace TV.Expr
open Scalar
variable {α : Type} [Scalar α]

/-- what "ordinary arithmetic" has to satisfy for the scalar forms of the operators to be the
    pointwise ones: `x+s = s+x`, `x*s = s*x` (both hold of IEEE doubles, NaN payloads apart) -/
structure Laws (α : Type) [Scalar α] : Prop where
  add_comm : ∀ x s : α, add x s = add s x
  mul_comm : ∀ x s : α, mul x s = mul s x

def WellSized (tr : Tr α) : Prop :=
  tr.xs.length = tr.n ∧ tr.ys.length = tr.n ∧ tr.zs.length = tr.n ∧ tr.ts.length = tr.n ∧
    ∀ s c, lookup s tr.feats = some c → c.length = tr.n

/-- **pointwise semantics**: numbers are constant vectors; `+ - * / ^ < >` act at each observation
    (`/` gives NaN where the denominator is 0, as documented for `Divider`); functions as documented -/
def denote (tr : Tr α) : Ex → Except Err (List α)
  | .num s => match litOf s with
    | some v => .ok (List.replicate tr.n v)
    | none => .error "err:value"
  | .var s => getAF tr s
  | .bin o l r => do
    let a ← denote tr l
    let b ← denote tr r
    vvOp o a b
  | .call f e => do
    let a ← denote tr e
    if isVoidFn f then voidFn f tr.n a
    else if isAggFn f then (aggFn f a).map (fun v => List.replicate tr.n v)
    else .error "err:unsupported"

theorem zipWithM'_replicate {β γ δ : Type} (f : β → γ → Except Err δ) (x : β) (y : γ) (w : δ) (n : Nat)
    (h : f x y = .ok w) : zipWithM' f (List.replicate n x) (List.replicate n y) = .ok (List.replicate n w) := by
  induction n with
  | zero => rfl
  | succ n ih => simp [List.replicate_succ, zipWithM', h, ih, bind, Except.bind, pure, Except.pure]

theorem zipWithM'_right_const {β γ δ : Type} (f : β → γ → Except Err δ) (s : γ) (a : List β) :
    zipWithM' f a (List.replicate a.length s) = mapM' (fun x => f x s) a := by
  induction a with
  | nil => rfl
  | cons x xs ih => simp [List.replicate_succ, zipWithM', mapM', ih]

theorem zipWithM'_left_const {β γ δ : Type} (f : γ → β → Except Err δ) (s : γ) (a : List β) :
    zipWithM' f (List.replicate a.length s) a = mapM' (fun x => f s x) a := by
  induction a with
  | nil => rfl
  | cons x xs ih => simp [List.replicate_succ, zipWithM', mapM', ih]

theorem mapM'_eq {β γ : Type} (f : β → Except Err γ) (a : List β) : mapM' f a = a.mapM f := by
  induction a with
  | nil => rfl
  | cons x xs ih => rw [mapM', ih, List.mapM_cons]

theorem mapM'_pure {β γ : Type} (g : β → γ) (a : List β) : mapM' (fun x => (Except.ok (g x) : Except Err γ)) a = .ok (a.map g) :=
  (mapM'_eq _ a).trans (Common.mapM_ok_of_forall fun _ _ => rfl)

theorem mapM'_congr {β γ : Type} (f g : β → Except Err γ) (a : List β) (h : ∀ x ∈ a, f x = g x) : mapM' f a = mapM' g a := by
  induction a with
  | nil => rfl
  | cons x xs ih => simp [mapM', h x (by simp), ih (fun y hy => h y (by simp [hy]))]

theorem mapM'_length {β γ : Type} (f : β → Except Err γ) (a : List β) (c : List γ) (h : mapM' f a = .ok c) : c.length = a.length :=
  (Common.mapM_ok_getElem? ((mapM'_eq f a).symm.trans h)).1

theorem zipWithM'_length {β γ δ : Type} (f : β → γ → Except Err δ) (a : List β) (b : List γ) (c : List δ)
    (h : zipWithM' f a b = .ok c) : c.length = min a.length b.length := by
  induction a generalizing b c with
  | nil => simp [zipWithM'] at h; subst h; simp
  | cons x xs ih =>
    cases b with
    | nil => simp [zipWithM'] at h; subst h; simp
    | cons y ys =>
      simp only [zipWithM'] at h
      obtain ⟨z, hz, h⟩ := bind_ok h
      obtain ⟨zs, hzs, h⟩ := bind_ok h
      cases h
      simp [ih ys zs hzs]


theorem binOps_cases {o : Char} (ho : binOps.contains o = true) :
    o = '+' ∨ o = '-' ∨ o = '*' ∨ o = '/' ∨ o = '^' ∨ o = '>' ∨ o = '<' := by
  simpa [binOps] using ho

theorem mapM'_ok_mono {β γ : Type} {f g : β → Except Err γ} (hfg : ∀ x y, f x = .ok y → g x = .ok y) :
    ∀ (a : List β) (c : List γ), mapM' f a = .ok c → mapM' g a = .ok c
  | [], _, h => h
  | x :: xs, c, h => by
    simp only [mapM'] at h ⊢
    obtain ⟨y, hy, h⟩ := bind_ok h
    obtain ⟨ys, hys, h⟩ := bind_ok h
    rw [hfg x y hy, mapM'_ok_mono hfg xs ys hys]; exact h

theorem vsOp_eq (o : Char) (a : List α) (s : α) :
    vsOp o a s = if binOps.contains o then mapM' (fun x => litOp o x s) a else .error "err:unsupported" := by
  by_cases ho : binOps.contains o = true
  · rw [if_pos ho]
    rcases binOps_cases ho with rfl | rfl | rfl | rfl | rfl | rfl | rfl <;> simp [vsOp, litOp, mapM'_pure]
  · rw [if_neg ho]
    simp only [binOps, List.contains_cons, List.contains_nil, Bool.or_false, Bool.or_eq_true, beq_iff_eq, not_or] at ho
    simp [vsOp, ho]

theorem svOp_eq (L : Laws α) (o : Char) (s : α) (a : List α) :
    svOp o s a = if binOps.contains o then mapM' (fun x => litOp o s x) a else .error "err:unsupported" := by
  by_cases ho : binOps.contains o = true
  · rw [if_pos ho]
    rcases binOps_cases ho with rfl | rfl | rfl | rfl | rfl | rfl | rfl <;>
      simp [svOp, litOp, mapM'_pure, L.add_comm _ s, L.mul_comm _ s]
  · rw [if_neg ho]
    simp only [binOps, List.contains_cons, List.contains_nil, Bool.or_false, Bool.or_eq_true, beq_iff_eq, not_or] at ho
    simp [svOp, ho]

/-- the table of the numbers and the table of the features differ at `/` only: by a zero the division of numbers raises, where
    `Divider` gives NaN -/
theorem vvAt_of_litOp {o : Char} {x y w : α} (h : litOp o x y = .ok w) : vvAt o x y = .ok w := by
  unfold litOp at h
  unfold vvAt
  by_cases h4 : o = '/'
  · subst h4
    cases hz : isZero y <;> simp_all
  · simp only [h4, if_false] at h ⊢
    exact h

theorem getAF_length {tr : Tr α} (hs : WellSized tr) {s : Str} {c : List α} (h : getAF tr s = .ok c) : c.length = tr.n := by
  obtain ⟨hx, hy, hz, ht, hf⟩ := hs
  cases hr : isReserved s with
  | false => exact hf s c ((getAF_feat hr).mp h)
  | true =>
    rcases isReserved_cases hr with rfl | rfl | rfl | rfl | rfl | rfl <;> cases h
    · exact hx
    · exact hy
    · exact hz
    · exact ht
    · simp

theorem voidFn_length (f : Str) (n : Nat) (a c : List α) (ha : a.length = n) (hn : n ≠ 0)
    (h : voidFn f n a = .ok c) : c.length = n := by
  revert h
  -- the branches of `voidFn` in its order: `I D D2 ABS SQRT LOG DIODE SIGN EXP COS SIN TAN`, no function
  fun_cases voidFn f n a <;> intro h
  · cases h; simp [integ_eq_scanl, ha]; omega
  · cases h; simp [diff, ha]; omega
  · cases h; unfold diff2; split <;> simp [diff2Mid_length, ha] <;> omega
  · cases h; simp [ha]
  · rw [mapM'_length _ _ _ h, ha]
  · rw [mapM'_length _ _ _ h, ha]
  · cases h; simp [ha]
  · cases h; simp [ha]
  · rw [mapM'_length _ _ _ h, ha]
  · rw [mapM'_length _ _ _ h, ha]
  · rw [mapM'_length _ _ _ h, ha]
  · rw [mapM'_length _ _ _ h, ha]
  · cases h

omit [Scalar α] in
theorem toVec_length {n : Nat} {v : Val α} (h : ∀ c, v = .vec c → c.length = n) : (v.toVec n).length = n := by
  cases v with
  | lit x => simp [Val.toVec]
  | vec c => exact h c rfl

theorem nodeBin_pointwise (L : Laws α) (n : Nat) (o : Char) (a b v : Val α)
    (la : ∀ c, a = .vec c → c.length = n) (lb : ∀ c, b = .vec c → c.length = n) (h : nodeBin o a b = .ok v) :
    vvOp o (a.toVec n) (b.toVec n) = .ok (v.toVec n) := by
  have known : ∀ {f : α → Except Err α} {a c : List α},
      (if binOps.contains o then mapM' f a else .error "err:unsupported") = .ok c → mapM' f a = .ok c := by
    intro f a c h
    split at h
    · exact h
    · cases h
  cases a with
  | lit x =>
    cases b with
    | lit y => obtain ⟨w, hc, rfl⟩ := map_ok h; exact zipWithM'_replicate _ _ _ _ n (vvAt_of_litOp hc)
    | vec y =>
      obtain ⟨c, hc, rfl⟩ := map_ok h
      rw [svOp_eq L] at hc
      rw [← lb y rfl]
      exact (zipWithM'_left_const _ x y).trans (mapM'_ok_mono (fun _ _ => vvAt_of_litOp) y c (known hc))
  | vec x =>
    cases b with
    | lit y =>
      obtain ⟨c, hc, rfl⟩ := map_ok h
      rw [vsOp_eq] at hc
      rw [← la x rfl]
      exact (zipWithM'_right_const _ y x).trans (mapM'_ok_mono (fun _ _ => vvAt_of_litOp) x c (known hc))
    | vec y => obtain ⟨c, hc, rfl⟩ := map_ok h; exact hc

theorem nodeCall_pointwise (n : Nat) (hn : n ≠ 0) (f : Str) (x : List α) (v : Val α) (hx : x.length = n)
    (h : nodeCall n f (.vec x) = .ok v) :
    (if isVoidFn f then voidFn f n x else if isAggFn f then (aggFn f x).map (fun w => List.replicate n w)
      else .error "err:unsupported") = .ok (v.toVec n) ∧ ∀ c, v = .vec c → c.length = n := by
  simp only [nodeCall] at h
  by_cases hv : isVoidFn f = true
  · simp only [hv, if_true] at h ⊢
    obtain ⟨c, hc, rfl⟩ := map_ok h
    exact ⟨hc, fun c' hc' => by cases hc'; exact voidFn_length f n x c hx hn hc⟩
  · simp only [hv, if_false, Bool.false_eq_true] at h ⊢
    by_cases hg : isAggFn f = true
    · simp only [hg, if_true] at h ⊢
      obtain ⟨w, hw, rfl⟩ := map_ok h
      exact ⟨by rw [hw]; rfl, fun c' hc' => by cases hc'; simp⟩
    · simp [hg] at h

theorem denoteM_pointwise (L : Laws α) (tr : Tr α) (hs : WellSized tr) (hn : tr.n ≠ 0) (e : Ex) :
    ∀ v, denoteM tr e = .ok v → denote tr e = .ok (v.toVec tr.n) ∧ (∀ c, v = .vec c → c.length = tr.n) := by
  induction e with
  | num s =>
    intro v h
    simp only [denoteM] at h
    cases hl : litOf (α := α) s with
    | none => simp [hl] at h
    | some x =>
      simp only [hl, Except.ok.injEq] at h; subst h
      exact ⟨by simp [denote, hl, Val.toVec], by intro c hc; cases hc⟩
  | var s =>
    intro v h
    simp only [denoteM] at h
    cases hg : getAF tr s with
    | error e => simp [hg, Except.map] at h
    | ok c =>
      simp only [hg, Except.map, Except.ok.injEq] at h; subst h
      exact ⟨by simp [denote, hg, Val.toVec], by intro c' hc; cases hc; exact getAF_length hs hg⟩
  | bin o l r ihl ihr =>
    intro v h
    simp only [denoteM] at h
    obtain ⟨a, ha, h⟩ := bind_ok h
    obtain ⟨b, hb, h⟩ := bind_ok h
    obtain ⟨da, la⟩ := ihl a ha
    obtain ⟨db, lb⟩ := ihr b hb
    have hp := nodeBin_pointwise L tr.n o a b v la lb h
    refine ⟨by simp only [denote, da, db, ok_bind]; exact hp, fun c hc => ?_⟩
    subst hc
    -- the result is as long as the shorter operand, and both have one value per observation
    have := zipWithM'_length _ _ _ _ hp
    rw [toVec_length la, toVec_length lb, Nat.min_self] at this
    exact this
  | call f e ih =>
    intro v h
    simp only [denoteM] at h
    obtain ⟨a, ha, h⟩ := bind_ok h
    obtain ⟨da, la⟩ := ih a ha
    cases a with
    | lit x => simp [nodeCall] at h
    | vec x =>
      obtain ⟨hp, hl⟩ := nodeCall_pointwise tr.n hn f x v (la x rfl) h
      exact ⟨by simp only [denote, da, ok_bind]; exact hp, hl⟩

end TV.Expr
