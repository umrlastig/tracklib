import TracklibVerif.Lemmas.TextIOSplit
/-! Column layout of `TrackWriter.writeToFile` / `__readFromCsv` (core only): the `O` list sorted by column id
puts the datum whose id is `j` in column `j` when the ids are a bijection onto `0..k-1`. -/
namespace TV.TextIO

/-- the column ids in use (`-1` = column absent, for U and T only) -/
def usedIds (e n u t : Int) : List Int :=
  [e, n] ++ (if u = -1 then [] else [u]) ++ (if t = -1 then [] else [t])

/-- the ids in use are pairwise distinct and all lie in `0..k-1`, `k` their number: a bijection onto `0..k-1` -/
def validB (e n u t : Int) : Bool :=
  (usedIds e n u t).all (fun x => decide (0 ≤ x) && decide (x < (usedIds e n u t).length)) && decide (usedIds e n u t).Nodup

def ValidIds (f : CsvFmt) : Prop := validB f.idE f.idN f.idU f.idT = true

/-- the 2 + 6 + 6 + 24 layouts -/
def layouts : List (Int × Int × Int × Int) :=
  [(0,1,-1,-1),(1,0,-1,-1),
   (0,1,2,-1),(0,2,1,-1),(1,0,2,-1),(1,2,0,-1),(2,0,1,-1),(2,1,0,-1),
   (0,1,-1,2),(0,2,-1,1),(1,0,-1,2),(1,2,-1,0),(2,0,-1,1),(2,1,-1,0),
   (0,1,2,3),(0,1,3,2),(0,2,1,3),(0,2,3,1),(0,3,1,2),(0,3,2,1),
   (1,0,2,3),(1,0,3,2),(1,2,0,3),(1,2,3,0),(1,3,0,2),(1,3,2,0),
   (2,0,1,3),(2,0,3,1),(2,1,0,3),(2,1,3,0),(2,3,0,1),(2,3,1,0),
   (3,0,1,2),(3,0,2,1),(3,1,0,2),(3,1,2,0),(3,2,0,1),(3,2,1,0)]

theorem usedIds_length_le (e n u t : Int) : (usedIds e n u t).length ≤ 4 := by
  unfold usedIds; split <;> split <;> simp

theorem validB_iff {e n u t : Int} : validB e n u t = true ↔
    (∀ x ∈ usedIds e n u t, 0 ≤ x ∧ x < (usedIds e n u t).length) ∧ (usedIds e n u t).Nodup := by
  simp [validB]

theorem validB_bounds {e n u t : Int} (h : validB e n u t = true) :
    (0 ≤ e ∧ e < 4) ∧ (0 ≤ n ∧ n < 4) ∧ (u = -1 ∨ (0 ≤ u ∧ u < 4)) ∧ (t = -1 ∨ (0 ≤ t ∧ t < 4)) := by
  have hl := usedIds_length_le e n u t
  have hb := (validB_iff.1 h).1
  have he := hb e (by simp [usedIds])
  have hn := hb n (by simp [usedIds])
  refine ⟨⟨he.1, by omega⟩, ⟨hn.1, by omega⟩, ?_, ?_⟩
  · by_cases hu : u = -1
    · exact Or.inl hu
    · have := hb u (by simp [usedIds, hu]); exact Or.inr ⟨this.1, by omega⟩
  · by_cases ht : t = -1
    · exact Or.inl ht
    · have := hb t (by simp [usedIds, ht]); exact Or.inr ⟨this.1, by omega⟩

/-- every valid id assignment is one of the 38 layouts: each id lies in `-1..3`, and the `5^4` assignments of such values are
checked one by one -/
theorem validB_mem_layouts {e n u t : Int} (h : validB e n u t = true) : (e, n, u, t) ∈ layouts := by
  have small : ∀ e n u t : Fin 5, validB ((e.1 : Int) - 1) ((n.1 : Int) - 1) ((u.1 : Int) - 1) ((t.1 : Int) - 1) = true →
      ((e.1 : Int) - 1, (n.1 : Int) - 1, (u.1 : Int) - 1, (t.1 : Int) - 1) ∈ layouts := by decide +kernel
  obtain ⟨he, hn, hu, ht⟩ := validB_bounds h
  have := small ⟨(e + 1).toNat, by omega⟩ ⟨(n + 1).toNat, by omega⟩ ⟨(u + 1).toNat, by omega⟩ ⟨(t + 1).toNat, by omega⟩
  have e1 : (((e + 1).toNat : Nat) : Int) - 1 = e := by omega
  have e2 : (((n + 1).toNat : Nat) : Int) - 1 = n := by omega
  have e3 : (((u + 1).toNat : Nat) : Int) - 1 = u := by omega
  have e4 : (((t + 1).toNat : Nat) : Int) - 1 = t := by omega
  simp only [e1, e2, e3, e4] at this
  exact this h

theorem layouts_valid : ∀ l ∈ layouts, validB l.1 l.2.1 l.2.2.1 l.2.2.2 = true := by decide

theorem insertByKey_perm (x) (l : List (Int × Nat)) : (insertByKey x l).Perm (x :: l) := by
  induction l with
  | nil => exact List.Perm.refl _
  | cons y ys ih =>
    unfold insertByKey
    split
    · exact List.Perm.refl _
    · exact (List.Perm.cons y ih).trans (List.Perm.swap x y ys)

theorem insertByKey_last (x : Int × Nat) (l : List (Int × Nat)) (h : ∀ y ∈ l, y.1 ≤ x.1) : insertByKey x l = l ++ [x] := by
  induction l with
  | nil => rfl
  | cons y ys ih =>
    have hy := h y (by simp)
    have : ¬ x.1 < y.1 := by omega
    simp only [insertByKey, this, ↓reduceIte, List.cons_append]
    rw [ih (fun z hz => h z (by simp [hz]))]

theorem mem_sortByKey (l : List (Int × Nat)) : ∀ y ∈ sortByKey l, y ∈ l :=
  List.foldlRecOn (motive := fun b => ∀ y ∈ b, y ∈ l) l _ (fun _ h => absurd h List.not_mem_nil) fun b ih x hx y hy =>
    (List.mem_cons.1 ((insertByKey_perm x b).subset hy)).elim (fun e => e ▸ hx) (ih y)

theorem sortByKey_append_feats (o : List (Int × Nat)) (start naf : Nat) (ho : ∀ y ∈ o, y.1 < start) :
    sortByKey (o ++ (List.range naf).map (fun i => (((start + i : Nat) : Int), start + i)))
      = sortByKey o ++ (List.range naf).map (fun i => (((start + i : Nat) : Int), start + i)) := by
  unfold sortByKey
  rw [List.foldl_append]
  generalize hacc : o.foldl (fun acc x => insertByKey x acc) [] = acc
  have hacc' : ∀ y ∈ acc, y.1 < start := fun y hy => ho y (mem_sortByKey o y (by rw [sortByKey, hacc]; exact hy))
  clear hacc ho
  induction naf with
  | zero => simp
  | succ k ih =>
    rw [List.range_succ, List.map_append, List.foldl_append, ih]
    simp only [List.map_cons, List.map_nil, List.foldl_cons, List.foldl_nil]
    rw [insertByKey_last, List.append_assoc]
    intro y hy
    rcases List.mem_append.1 hy with h | h
    · have := hacc' y h
      simp only; omega
    · simp only [List.mem_map, List.mem_range] at h
      obtain ⟨i, hi, rfl⟩ := h
      simp only; omega

/-- the special columns of `writeToFile`'s `O` list before sorting -/
def specials (e n u t : Int) : List (Int × Nat) :=
  let o : List (Int × Nat) := [(e, 0), (n, 1)]
  let o := if u ≠ -1 then o ++ [(u, 2)] else o
  if t ≠ -1 then (if u ≠ -1 then o ++ [(t, 3)] else o ++ [(t, 2)]) else o

def nSpecial (f : CsvFmt) : Nat := 2 + (if f.idU ≠ -1 then 1 else 0) + (if f.idT ≠ -1 then 1 else 0)

theorem orderList_eq (f : CsvFmt) (naf : Nat) :
    orderList f naf = sortByKey (specials f.idE f.idN f.idU f.idT
      ++ (List.range naf).map (fun i => (((nSpecial f + i : Nat) : Int), nSpecial f + i))) := rfl

theorem nSpecial_eq (f : CsvFmt) : nSpecial f = (usedIds f.idE f.idN f.idU f.idT).length := by
  unfold nSpecial usedIds
  split <;> split <;> simp_all

def datum (f : CsvFmt) (E N : Str) (U T : Option Str) (j : Nat) : Str :=
  if f.idE = j then E else if f.idN = j then N else if f.idU = j then U.getD [] else T.getD []

def cols (f : CsvFmt) (E N : Str) (U T : Option Str) : List Str := (List.range (nSpecial f)).map (datum f E N U T)

/-- split a membership `(e, n, u, t) ∈ layouts` into the 38 concrete layouts -/
macro "layout_cases " h:ident : tactic => `(tactic| (
  simp only [layouts, List.mem_cons, Prod.mk.injEq, List.not_mem_nil, or_false] at $h:ident
  rcases $h:ident with ⟨h1, h2, h3, h4⟩ | ⟨h1, h2, h3, h4⟩ | ⟨h1, h2, h3, h4⟩ | ⟨h1, h2, h3, h4⟩ | ⟨h1, h2, h3, h4⟩ |
    ⟨h1, h2, h3, h4⟩ | ⟨h1, h2, h3, h4⟩ | ⟨h1, h2, h3, h4⟩ | ⟨h1, h2, h3, h4⟩ | ⟨h1, h2, h3, h4⟩ |
    ⟨h1, h2, h3, h4⟩ | ⟨h1, h2, h3, h4⟩ | ⟨h1, h2, h3, h4⟩ | ⟨h1, h2, h3, h4⟩ | ⟨h1, h2, h3, h4⟩ |
    ⟨h1, h2, h3, h4⟩ | ⟨h1, h2, h3, h4⟩ | ⟨h1, h2, h3, h4⟩ | ⟨h1, h2, h3, h4⟩ | ⟨h1, h2, h3, h4⟩ |
    ⟨h1, h2, h3, h4⟩ | ⟨h1, h2, h3, h4⟩ | ⟨h1, h2, h3, h4⟩ | ⟨h1, h2, h3, h4⟩ | ⟨h1, h2, h3, h4⟩ |
    ⟨h1, h2, h3, h4⟩ | ⟨h1, h2, h3, h4⟩ | ⟨h1, h2, h3, h4⟩ | ⟨h1, h2, h3, h4⟩ | ⟨h1, h2, h3, h4⟩ |
    ⟨h1, h2, h3, h4⟩ | ⟨h1, h2, h3, h4⟩ | ⟨h1, h2, h3, h4⟩ | ⟨h1, h2, h3, h4⟩ | ⟨h1, h2, h3, h4⟩ |
    ⟨h1, h2, h3, h4⟩ | ⟨h1, h2, h3, h4⟩ | ⟨h1, h2, h3, h4⟩
  all_goals subst_vars))

/-- position, in the list `D = [E, N] ++ U ++ T` of `__printInOrder`, of the datum whose column id is `j` -/
def posOf (e n u : Int) (j : Nat) : Nat :=
  if e = j then 0 else if n = j then 1 else if u = j then 2 else if u ≠ -1 then 3 else 2

/-- what the table of layouts is for: in each of them the `O` list sorted by column id lists the columns `0..k-1` in order,
each with the position in `D` of its datum -/
theorem layouts_sorted : ∀ l ∈ layouts, sortByKey (specials l.1 l.2.1 l.2.2.1 l.2.2.2)
    = (List.range (usedIds l.1 l.2.1 l.2.2.1 l.2.2.2).length).map (fun (j : Nat) => ((j : Int), posOf l.1 l.2.1 l.2.2.1 j)) := by
  decide

theorem sorted_specials (f : CsvFmt) (hv : ValidIds f) :
    sortByKey (specials f.idE f.idN f.idU f.idT)
      = (List.range (nSpecial f)).map (fun (j : Nat) => ((j : Int), posOf f.idE f.idN f.idU j)) := by
  rw [nSpecial_eq]
  exact layouts_sorted _ (validB_mem_layouts hv)

theorem mem_specials_of_lt (f : CsvFmt) (hv : ValidIds f) (j : Nat) (hj : j < nSpecial f) :
    ((j : Int), posOf f.idE f.idN f.idU j) ∈ specials f.idE f.idN f.idU f.idT := by
  refine mem_sortByKey _ _ ?_
  rw [sorted_specials f hv]
  exact List.mem_map.2 ⟨j, List.mem_range.2 hj, rfl⟩

theorem specials_keys (e n u t : Int) : (specials e n u t).map (·.1) = usedIds e n u t := by
  unfold specials usedIds
  split <;> split <;> simp_all

theorem validIds_lt (f : CsvFmt) (hv : ValidIds f) : ∀ x ∈ usedIds f.idE f.idN f.idU f.idT, 0 ≤ x ∧ x < nSpecial f := by
  rw [nSpecial_eq]
  exact (validB_iff.1 hv).1

theorem specials_keys_lt (f : CsvFmt) (hv : ValidIds f) : ∀ y ∈ specials f.idE f.idN f.idU f.idT, y.1 < nSpecial f := by
  intro y hy
  refine (validIds_lt f hv y.1 ?_).2
  rw [← specials_keys]
  exact List.mem_map.2 ⟨y, hy, rfl⟩

theorem mem_usedIds_of_lt (f : CsvFmt) (hv : ValidIds f) (j : Nat) (hj : j < nSpecial f) :
    (j : Int) ∈ usedIds f.idE f.idN f.idU f.idT :=
  specials_keys .. ▸ List.mem_map.2 ⟨_, mem_specials_of_lt f hv j hj, rfl⟩

theorem nth_posOf (f : CsvFmt) (hv : ValidIds f) (E N : Str) (U T : Option Str)
    (hU : U.isSome = decide (f.idU ≠ -1)) (hT : T.isSome = decide (f.idT ≠ -1)) (j : Nat) (hj : j < nSpecial f) :
    nth ([E, N] ++ U.toList ++ T.toList) (posOf f.idE f.idN f.idU j) = .ok (datum f E N U T j) := by
  have hc := mem_usedIds_of_lt f hv j hj
  unfold usedIds at hc
  unfold posOf datum
  by_cases h1 : f.idE = j
  · simp [h1, nth, pure, Except.pure]
  by_cases h2 : f.idN = j
  · simp [h1, h2, nth, pure, Except.pure]
  by_cases h3 : f.idU = j
  · obtain ⟨x, rfl⟩ : ∃ x, U = some x := Option.isSome_iff_exists.1 (by rw [hU]; simp; omega)
    simp [h1, h2, h3, nth, pure, Except.pure]
  · -- column `j` is in use and is none of E, N, U: it is T's
    have h4 : f.idT ≠ -1 := by
      intro h4
      simp [h4] at hc
      omega
    obtain ⟨y, rfl⟩ : ∃ y, T = some y := Option.isSome_iff_exists.1 (by rw [hT]; simp [h4])
    cases U <;> simp_all [nth, pure, Except.pure]

theorem cols_length (f : CsvFmt) (E N : Str) (U T : Option Str) : (cols f E N U T).length = nSpecial f := by
  simp [cols]

theorem cols_ne_nil (f : CsvFmt) (E N : Str) (U T : Option Str) : cols f E N U T ≠ [] := by
  intro h
  have := cols_length f E N U T
  rw [h] at this
  unfold nSpecial at this
  simp at this
  omega

theorem nth_cols (f : CsvFmt) (E N : Str) (U T : Option Str) (more : List Str) (j : Nat) (hj : j < nSpecial f) :
    nth (cols f E N U T ++ more) j = .ok (datum f E N U T j) := by
  rw [nth_eq (by simp [cols_length]; omega)]
  simp [cols, hj]

theorem strip_datum (f : CsvFmt) (E N : Str) (U T : Option Str) (j : Nat) :
    strip (datum f E N U T j) = datum f (strip E) (strip N) (U.map strip) (T.map strip) j := by
  fun_cases datum f E N U T j <;> simp only [datum, *, ↓reduceIte]
  · cases U <;> rfl
  · cases T <;> rfl

theorem isSome_ite (i : Int) (x : Str) : (if i = -1 then none else some x).isSome = decide (i ≠ -1) := by
  split <;> simp [*]

theorem printInOrder_of_picks (E N : Str) (U T : Option Str) (afs : Str) (O : List (Int × Nat)) (sep : Char) (k : Nat)
    (c : Nat → Str) (hk : k = 2 + (if U.isSome then 1 else 0) + (if T.isSome then 1 else 0))
    (hpick : ∀ j, j < k → pick ([E, N] ++ U.toList ++ T.toList) O j = .ok (c j)) :
    printInOrder E N U T afs O sep = .ok (joinChar sep ((List.range k).map c) ++ afs) := by
  unfold printInOrder
  generalize [E, N] ++ U.toList ++ T.toList = D at hpick
  subst hk
  cases U <;> cases T <;>
    simp [hpick, List.range_succ, joinChar, bind, Except.bind, pure, Except.pure]

/-- **layout**: `__printInOrder` with the sorted `O` list writes the datum with column id `j` in column `j` -/
theorem printInOrder_layout (f : CsvFmt) (hv : ValidIds f) (naf : Nat) (E N : Str) (U T : Option Str) (afs : Str)
    (hU : U.isSome = decide (f.idU ≠ -1)) (hT : T.isSome = decide (f.idT ≠ -1)) :
    printInOrder E N U T afs (orderList f naf) f.sep
      = .ok (joinChar f.sep (cols f (strip E) (strip N) (U.map strip) (T.map strip)) ++ afs) := by
  rw [orderList_eq, sortByKey_append_feats _ _ _ (specials_keys_lt f hv), sorted_specials f hv]
  refine printInOrder_of_picks E N U T afs _ f.sep (nSpecial f) _ (by simp [nSpecial, hU, hT]) ?_
  intro j hj
  unfold pick
  have hO : nth ((List.range (nSpecial f)).map (fun (j : Nat) => ((j : Int), posOf f.idE f.idN f.idU j))
      ++ (List.range naf).map (fun i => (((nSpecial f + i : Nat) : Int), nSpecial f + i))) j
      = .ok ((j : Int), posOf f.idE f.idN f.idU j) := by
    rw [nth_eq (by simp; omega)]
    simp [hj]
  rw [hO]
  simp only [bind, Except.bind, nth_posOf f hv E N U T hU hT j hj, pure, Except.pure, strip_datum]

theorem validIds_spec (f : CsvFmt) (hv : ValidIds f) :
    (0 ≤ f.idE ∧ f.idE < nSpecial f) ∧ (0 ≤ f.idN ∧ f.idN < nSpecial f) ∧ f.idE ≠ f.idN ∧
    (f.idU ≠ -1 → (0 ≤ f.idU ∧ f.idU < nSpecial f) ∧ f.idE ≠ f.idU ∧ f.idN ≠ f.idU) ∧
    (f.idT ≠ -1 → (0 ≤ f.idT ∧ f.idT < nSpecial f) ∧ f.idE ≠ f.idT ∧ f.idN ≠ f.idT ∧ f.idU ≠ f.idT) := by
  have hlt := validIds_lt f hv
  have hnd : (usedIds f.idE f.idN f.idU f.idT).Nodup := (validB_iff.1 hv).2
  unfold usedIds at hlt hnd
  by_cases hu : f.idU = -1 <;> by_cases ht : f.idT = -1 <;> simp [hu, ht] at hlt hnd ⊢ <;> omega

theorem cols_lookup (f : CsvFmt) (hv : ValidIds f) (E N : Str) (U T : Option Str) (more : List Str) :
    nth (cols f E N U T ++ more) (idx f.idE) = .ok E ∧ nth (cols f E N U T ++ more) (idx f.idN) = .ok N ∧
    (f.idU ≠ -1 → nth (cols f E N U T ++ more) (idx f.idU) = .ok (U.getD [])) ∧
    (f.idT ≠ -1 → nth (cols f E N U T ++ more) (idx f.idT) = .ok (T.getD [])) := by
  obtain ⟨he, hn, hen, hu, ht⟩ := validIds_spec f hv
  have key : ∀ i : Int, 0 ≤ i → i < nSpecial f →
      nth (cols f E N U T ++ more) (idx i) = .ok (datum f E N U T i.toNat) ∧ (i.toNat : Int) = i :=
    fun i h0 hk => ⟨nth_cols f E N U T more _ (by unfold idx; omega), Int.toNat_of_nonneg h0⟩
  refine ⟨?_, ?_, fun h => ?_, fun h => ?_⟩
  · rw [(key _ he.1 he.2).1]; simp [datum, (key _ he.1 he.2).2]
  · rw [(key _ hn.1 hn.2).1]; simp [datum, (key _ hn.1 hn.2).2, hen]
  · obtain ⟨hb, h1, h2⟩ := hu h
    rw [(key _ hb.1 hb.2).1]; simp [datum, (key _ hb.1 hb.2).2, h1, h2]
  · obtain ⟨hb, h1, h2, h3⟩ := ht h
    rw [(key _ hb.1 hb.2).1]; simp [datum, (key _ hb.1 hb.2).2, h1, h2, h3]

theorem nth_mem {α : Type} {l : List α} {i : Nat} {a : α} (h : nth l i = .ok a) : a ∈ l := by
  unfold nth at h
  cases hi : l[i]? with
  | none => simp [hi] at h
  | some b =>
    simp only [hi, pure, Except.pure, Except.ok.injEq] at h
    exact h ▸ List.mem_of_getElem? hi

theorem mem_cols (f : CsvFmt) (hv : ValidIds f) (E N : Str) (U T : Option Str)
    (hU : U.isSome = decide (f.idU ≠ -1)) (hT : T.isSome = decide (f.idT ≠ -1)) :
    ∀ s ∈ cols f E N U T, s = E ∨ s = N ∨ U = some s ∨ T = some s := by
  intro s hs
  obtain ⟨j, hj, rfl⟩ := List.mem_map.1 hs
  have := nth_mem (nth_posOf f hv E N U T hU hT j (List.mem_range.1 hj))
  simpa [or_assoc, eq_comm] using this

/-- the columns `id_special` of the reader are the columns `0..k-1` -/
theorem special_contains (f : CsvFmt) (hv : ValidIds f) (i : Nat) :
    (special f).contains (Int.ofNat i) = decide (i < nSpecial f) := by
  have hs : special f = usedIds f.idE f.idN f.idU f.idT := by
    obtain ⟨_, _, _, hu, ht⟩ := validIds_spec f hv
    unfold special usedIds
    by_cases h1 : f.idU = -1 <;> by_cases h2 : f.idT = -1 <;> simp_all
  rw [hs, Bool.eq_iff_iff, List.contains_iff_mem, decide_eq_true_eq]
  constructor
  · intro h
    have := (validIds_lt f hv _ h).2
    simp only [Int.ofNat_eq_natCast] at this
    omega
  · exact mem_usedIds_of_lt f hv i

end TV.TextIO
