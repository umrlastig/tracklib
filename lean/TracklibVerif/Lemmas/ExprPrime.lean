import TracklibVerif.Lemmas.ExprSource
/-! # The derivative shorthand `a'` (`Track.__prime`, applied twice by `__double_prime`)

`__prime` replaces every postfix token ending with a quote, `a'`, by the seven tokens `D a @ D t @ /` — the postfix form of
`D{a}/D{t}`. On the postfix form of a tree this is the tree with every such name replaced by that quotient (`unprime`);
`__double_prime` runs it twice, so `a''` is `D{D{a}/D{t}}/D{t}`. Source strings with the shorthand therefore evaluate as
the unprimed tree: the value theorems (T1, T3, T6) apply to `unprime (unprime (desugar e))`. -/
namespace TV.Expr
open TV.Rpn

def unprimeVar (s : Str) : Ex :=
  if s.getLast? = some '\'' then .bin '/' (.call ['D'] (.var s.dropLast)) (.call ['D'] (.var ['t'])) else .var s

def unprime : Ex → Ex
  | .num s => .num s
  | .var s => unprimeVar s
  | .bin o l r => .bin o (unprime l) (unprime r)
  | .call f e => .call f (unprime e)

def VarOK (s : Str) : Prop := s ≠ [] ∧ s.head? ≠ some '\''

/-- numbers, function names and operators do not end with a quote; names are `VarOK` -/
def PrimeOK : Ex → Prop
  | .num s => GoodTok s
  | .var s => VarOK s
  | .bin o l r => o ≠ '\'' ∧ PrimeOK l ∧ PrimeOK r
  | .call f e => GoodTok f ∧ PrimeOK e

theorem varOK_dropLast (s : Str) (h : VarOK s) (hq : s.getLast? = some '\'') : VarOK s.dropLast := by
  match s, h, hq with
  | [], h, _ => exact absurd rfl h.1
  | [x], h, hq =>
    simp only [List.getLast?_singleton, Option.some.injEq] at hq
    exact absurd (by simp [hq]) h.2
  | x :: y :: ys, h, _ =>
    refine ⟨by simp [List.dropLast], ?_⟩
    have := h.2
    simpa [List.dropLast] using this

theorem prime_var (s : Str) (h : VarOK s) : prime [s] = .ok (Expr.post (unprimeVar s)) := by
  cases hl : s.getLast? with
  | none => exact absurd (List.getLast?_eq_none_iff.mp hl) h.1
  | some c =>
    by_cases hc : c = '\''
    · subst hc; simp [prime, hl, unprimeVar, Expr.post, bind, Except.bind, pure, Except.pure]
    · have hne : ¬ (some c = some '\'') := fun e => hc (Option.some.inj e)
      simp only [unprimeVar, hl, hne, if_false]
      exact prime_good ⟨c, hl, hc⟩

theorem prime_post (e : Ex) (h : PrimeOK e) : prime (Expr.post e) = .ok (Expr.post (unprime e)) := by
  induction e with
  | num s => exact prime_good h
  | var s => exact prime_var s h
  | bin o l r ihl ihr => exact prime_append (prime_append (ihl h.2.1) (ihr h.2.2)) (prime_good ⟨o, rfl, h.1⟩)
  | call f e ih => exact prime_append (prime_append (prime_good h.1) (ih h.2)) (prime_good ⟨'@', rfl, by decide⟩)

theorem primeOK_unprime (e : Ex) (h : PrimeOK e) : PrimeOK (unprime e) := by
  induction e with
  | num s => exact h
  | var s =>
    simp only [unprime, unprimeVar]
    split
    · rename_i hq
      exact ⟨by decide, ⟨⟨'D', rfl, by decide⟩, varOK_dropLast s h hq⟩, ⟨'D', rfl, by decide⟩, ⟨by decide, by decide⟩⟩
    · exact h
  | bin o l r ihl ihr => exact ⟨h.1, ihl h.2.1, ihr h.2.2⟩
  | call f e ih => exact ⟨h.1, ih h.2⟩

theorem prime_stmt {lhs : Str} (hg : GoodTok lhs) (e : Ex) (h : PrimeOK e) :
    prime (lhs :: (Expr.post e ++ [['=']])) = .ok (lhs :: (Expr.post (unprime e) ++ [['=']])) :=
  prime_append (prime_good hg) (prime_append (prime_post e h) (prime_good ⟨'=', rfl, by decide⟩))

theorem doublePrime_stmt (lhs : Str) (e : Ex) (hg : GoodTok lhs) (h : PrimeOK e) :
    doublePrime (lhs :: (Expr.post e ++ [['=']])) = .ok (lhs :: (Expr.post (unprime (unprime e)) ++ [['=']])) := by
  simp only [doublePrime, prime_stmt hg e h]
  exact prime_stmt hg _ (primeOK_unprime e h)

theorem unprime_of_noQuote (e : Ex) (h : NoQuote e) : unprime e = e := by
  induction e with
  | num s => rfl
  | var s =>
    obtain ⟨c, hc, hq⟩ := h
    have hne : s.getLast? ≠ some '\'' := by rw [hc]; intro h'; exact hq (Option.some.inj h')
    simp only [unprime, unprimeVar, hne, if_false]
  | bin o l r ihl ihr => simp only [unprime, ihl h.1, ihr h.2]
  | call f e ih => simp only [unprime, ih h.2]

variable {α : Type} [Scalar α]

theorem operate_source_value_tokens_prime (tr : Tr α) (e : Sx) (h : SrcOK e) (hp : PrimeOK (desugar e)) :
    operate tr (src e) = operateTokens tr (outputName :: (Expr.post (unprime (unprime (desugar e))) ++ [['=']])) false :=
  operate_of tr _ _ false _ _ (preprocess_value e h) (makeRPN_value e h)
    (doublePrime_stmt outputName (desugar e) goodTok_output hp)

end TV.Expr
