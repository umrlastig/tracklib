import TracklibVerif.Lemmas.Seq
/-! Helper lemmas for C04: the dichotomy of `Track.__getInsertionIndex` and its two fix-up
loops (`searchLoop`, `fixLeft`, `fixRight` of `Model/Seq.lean`). Core Lean only.

Invariant of the search loop at its head, for a step `delta = ±2^m` (DESIGN.md appendix A.5):
  `delta > 0 → 0 ≤ id ∧ id + 2·delta ≤ N`,   `delta < 0 → -1 ≤ id + 2·delta ∧ id ≤ N - 1`.
Python's `>>` is a floor shift: `-1 >> 1 = -1`, so a negative unit step does not vanish and the loop
walks left one index at a time (`searchLoop_walk`). -/
namespace TV.Seq

/-- `get` reads the list `T` faithfully on the valid indices `0..N-1` (nothing is said elsewhere). -/
def ReadsOn (get : Int → Option Int) (T : List Int) : Prop :=
  ∀ (i : Nat), i < T.length → get (i : Int) = T[i]?

/-- a getter that raises `IndexError` on EVERY index outside `0..N-1` (no negative wrap) -/
def strictGet (T : List Int) (i : Int) : Option Int :=
  if 0 ≤ i ∧ i < (T.length : Int) then T[i.toNat]? else none

theorem strictGet_readsOn (T : List Int) : ReadsOn (strictGet T) T := by
  intro i hi
  have : (0 : Int) ≤ (i : Int) ∧ (i : Int) < (T.length : Int) := by omega
  simp [strictGet, this]

theorem pyGet_readsOn (T : List Int) : ReadsOn (pyGet T) T := by
  intro i _
  simp [pyGet]

/-- Python's `abs(delta >> 1)` on the steps the dichotomy takes: `±2p` is halved; `>>` is a floor shift, so `1 >> 1 = 0`
but `-1 >> 1 = -1` -/
theorem abs_shr_two_mul (p d : Int) (hp : 0 ≤ p) (hd : d = 2 * p ∨ d = -(2 * p)) : pyAbs (d >>> 1) = p := by
  rw [Int.shiftRight_eq_div_pow]
  show (((d / 2).natAbs : Nat) : Int) = p
  omega
theorem abs_shr_one : pyAbs ((1 : Int) >>> 1) = 0 := rfl
theorem abs_shr_neg_one : pyAbs ((-1 : Int) >>> 1) = 1 := rfl

variable {get : Int → Option Int} {T : List Int} {ts : Int}

theorem readsOn_get (hg : ReadsOn get T) (i : Int) (h0 : 0 ≤ i) (h1 : i < T.length) : get i = T[i.toNat]? := by
  have := hg i.toNat (by omega)
  rwa [Int.toNat_of_nonneg h0] at this

theorem searchLoop_done (N fuel : Nat) (id : Int) :
    searchLoop get N ts (fuel + 1) id 0 = .ok id := by
  simp [searchLoop]

theorem searchLoop_step (hg : ReadsOn get T) (fuel : Nat) (id delta id' t : Int) (he : id' = id + delta)
    (hd : delta ≠ 0) (h0 : 0 < id') (hN : id' < T.length) (ht : T[id'.toNat]? = some t) :
    searchLoop get T.length ts (fuel + 1) id delta =
      if t > ts then searchLoop get T.length ts fuel id' (-(pyAbs (delta >>> 1)))
      else searchLoop get T.length ts fuel id' (pyAbs (delta >>> 1)) := by
  subst he
  rw [searchLoop]
  simp only [hd, if_false, readsOn_get hg _ (by omega) hN, ht]
  rw [if_neg (by omega), if_neg (by omega)]

theorem searchLoop_one (hg : ReadsOn get T) (fuel : Nat) (id : Int) (h0 : 0 ≤ id) (hN : id + 1 < T.length) :
    searchLoop get T.length ts (fuel + 2) id 1 = .ok (id + 1) := by
  obtain ⟨t, ht⟩ : ∃ t, T[(id + 1).toNat]? = some t := ⟨_, List.getElem?_eq_getElem (by omega)⟩
  rw [searchLoop_step hg _ id 1 (id + 1) t rfl (by omega) (by omega) hN ht, abs_shr_one]
  simp only [Int.neg_zero, ite_self]
  exact searchLoop_done _ _ _

/-! The results of the three loops are stated as `∃ r, … ∧ ∀ get, ReadsOn get T → ∀ e, loop get (e + bound) … = .ok r`:
the index reached is determined by `T` and `ts` alone, so it is the same for the strict element access and for Python's
wrapping one, and for every sufficient fuel. The surplus `e` comes first and the part of the bound that the induction
decreases last, so that the fuel of the next iteration is the induction hypothesis' by unfolding `+`. -/

/-- the leftward walk with the negative unit step (`-1 >> 1 = -1`): from `1 ≤ id ≤ N-1` the loop ends,
within `id + 2` iterations, at an index `0 ≤ r ≤ N-1`, reading only indices in `1..N-1`. -/
theorem searchLoop_walk (id : Nat) : 1 ≤ id → id + 1 ≤ T.length →
    ∃ r : Nat, r + 1 ≤ T.length ∧ ∀ get, ReadsOn get T → ∀ e,
      searchLoop get T.length ts (e + id + 2) (id : Int) (-1) = .ok (r : Int) := by
  induction id with
  | zero => intro h; omega
  | succ k ih =>
    intro _ h2
    by_cases hk : k = 0
    · subst hk
      refine ⟨0, by omega, fun get _ e => ?_⟩
      rw [searchLoop]
      simp only [show ¬ ((-1 : Int) = 0) by omega, if_false]
      rw [if_neg (by omega), if_pos (by omega)]
      congr 1
    · obtain ⟨t, ht⟩ : ∃ t, T[(k : Int).toNat]? = some t := ⟨_, List.getElem?_eq_getElem (by omega)⟩
      have hstep := fun get (hg : ReadsOn get T) f => searchLoop_step (ts := ts) hg f ((k + 1 : Nat) : Int) (-1) (k : Int) t
        (by omega) (by omega) (by omega) (by omega) ht
      by_cases hc : t > ts
      · obtain ⟨r, hr, h⟩ := ih (by omega) (by omega)
        refine ⟨r, hr, fun get hg e => (hstep get hg _).trans ?_⟩
        rw [abs_shr_neg_one, if_pos hc]
        exact h get hg e
      · refine ⟨k + 1, by omega, fun get hg e => (hstep get hg _).trans ?_⟩
        rw [abs_shr_neg_one, if_neg hc]
        exact searchLoop_one hg (e + k) (k : Int) (by omega) (by omega)

def Reaches (T : List Int) (ts : Int) (m : Nat) (id delta : Int) : Prop :=
  ∃ r : Nat, r + 1 ≤ T.length ∧ ∀ get, ReadsOn get T → ∀ e,
    searchLoop get T.length ts (e + T.length + m + 2) id delta = .ok (r : Int)

theorem reaches_halve {m : Nat} {id id' delta p : Int} (he : id' = id + delta) (hp : 0 < p)
    (hd : delta = 2 * p ∨ delta = -(2 * p)) (h0 : 0 < id') (hN : id' < T.length)
    (hneg : Reaches T ts m id' (-p)) (hpos : Reaches T ts m id' p) : Reaches T ts (m + 1) id delta := by
  obtain ⟨t, ht⟩ : ∃ t, T[id'.toNat]? = some t := ⟨_, List.getElem?_eq_getElem (by omega)⟩
  have habs := abs_shr_two_mul p delta (by omega) hd
  obtain ⟨r, hr, h⟩ : Reaches T ts m id' (if t > ts then -p else p) := by
    split
    · exact hneg
    · exact hpos
  refine ⟨r, hr, fun get hg e => (searchLoop_step (ts := ts) hg _ id delta id' t he (by omega) h0 hN ht).trans ?_⟩
  rw [habs, ← h get hg e]
  split <;> rfl

/-- the halving phase: with the invariant of appendix A.5 at a step `±2^m`, the loop terminates within
`m + N + 2` iterations at an index `0 ≤ r ≤ N-1`; every element read is at an index in `1..N-1`. -/
theorem searchLoop_halving (m : Nat) : ∀ (id : Int),
    ((0 ≤ id ∧ id + 2 * (2 : Int) ^ m ≤ T.length) → Reaches T ts m id ((2 : Int) ^ m)) ∧
    ((-1 ≤ id - 2 * (2 : Int) ^ m ∧ id + 1 ≤ T.length) → Reaches T ts m id (-((2 : Int) ^ m))) := by
  induction m with
  | zero =>
    intro id
    have h20 : (2 : Int) ^ 0 = 1 := by rfl
    rw [h20]
    constructor
    · intro ⟨h0, h1⟩
      exact ⟨(id + 1).toNat, by omega, fun get hg e => by
        rw [searchLoop_one hg _ id h0 (by omega), Int.toNat_of_nonneg (by omega)]⟩
    · intro ⟨h0, h1⟩
      have := searchLoop_walk (T := T) (ts := ts) id.toNat (by omega) (by omega)
      rw [Int.toNat_of_nonneg (by omega)] at this
      obtain ⟨r, hr, h⟩ := this
      refine ⟨r, hr, fun get hg e => ?_⟩
      rw [show e + T.length + 0 + 2 = e + (T.length - id.toNat) + id.toNat + 2 by omega]
      exact h get hg _
  | succ m ih =>
    intro id
    have hp2 : (2 : Int) ^ (m + 1) = 2 * (2 : Int) ^ m := by rw [Int.pow_succ]; omega
    have hpos : 0 < (2 : Int) ^ m := Int.pow_pos (by omega)
    rw [hp2]
    generalize (2 : Int) ^ m = p at ih hpos ⊢
    constructor
    · intro ⟨h0, h1⟩
      exact reaches_halve rfl hpos (Or.inl rfl) (by omega) (by omega)
        ((ih (id + 2 * p)).2 ⟨by omega, by omega⟩) ((ih (id + 2 * p)).1 ⟨by omega, by omega⟩)
    · intro ⟨h0, h1⟩
      exact reaches_halve rfl hpos (Or.inr rfl) (by omega) (by omega)
        ((ih (id + -(2 * p))).2 ⟨by omega, by omega⟩) ((ih (id + -(2 * p))).1 ⟨by omega, by omega⟩)

/-- the loop as `__getInsertionIndex` enters it: `id = 0`, first step `2^j` with `2·2^j ≤ N` -/
theorem reaches_start (j : Nat) (hj : 2 * 2 ^ j ≤ T.length) : Reaches T ts j 0 ((2 : Int) ^ j) := by
  have hj' : (0 : Int) + 2 * (2 : Int) ^ j ≤ (T.length : Int) := by
    have : ((2 * 2 ^ j : Nat) : Int) ≤ (T.length : Int) := by exact_mod_cast hj
    simpa using this
  exact (searchLoop_halving j 0).1 ⟨Int.le_refl 0, hj'⟩

theorem fixLeft_spec (id : Nat) : id + 1 ≤ T.length →
    ∃ r : Nat, r ≤ id ∧ (r = 0 ∨ ∀ t, T[r]? = some t → t ≤ ts) ∧
      ∀ get, ReadsOn get T → ∀ e, fixLeft get ts (e + id + 1) (id : Int) = .ok (r : Int) := by
  induction id with
  | zero =>
    intro h1
    refine ⟨0, Nat.le_refl 0, Or.inl rfl, fun get hg e => ?_⟩
    rw [fixLeft, hg 0 h1, List.getElem?_eq_getElem h1]
    simp only []
    split <;> rfl
  | succ k ih =>
    intro h1
    have hstep : ∀ get, ReadsOn get T → ∀ f, fixLeft get ts (f + 1) ((k + 1 : Nat) : Int) =
        if T[k + 1] > ts then fixLeft get ts f (k : Int) else .ok ((k + 1 : Nat) : Int) := fun get hg f => by
      rw [fixLeft, hg (k + 1) h1, List.getElem?_eq_getElem h1]
      simp only []
      rw [if_neg (show ¬ ((k + 1 : Nat) : Int) = 0 by omega)]
      congr 2; omega
    by_cases hc : T[k + 1] > ts
    · obtain ⟨r, hle, hr, h⟩ := ih (Nat.le_of_succ_le h1)
      refine ⟨r, Nat.le_succ_of_le hle, hr, fun get hg e => ?_⟩
      rw [hstep get hg, if_pos hc]
      exact h get hg e
    · refine ⟨k + 1, Nat.le_refl _, Or.inr (fun t' ht' => ?_), fun get hg e => ?_⟩
      · rw [List.getElem?_eq_getElem h1] at ht'; cases ht'; omega
      · rw [hstep get hg, if_neg hc]

theorem fixRight_step (hg : ReadsOn get T) (f id : Nat) (t : Int) (ht : T[id]? = some t) :
    fixRight get T.length ts (f + 1) (id : Int) =
      if t ≤ ts then (if id + 1 = T.length then .ok ((id + 1 : Nat) : Int) else fixRight get T.length ts f ((id + 1 : Nat) : Int))
      else .ok (id : Int) := by
  rw [fixRight, hg id (List.getElem?_eq_some_iff.mp ht).1, ht]
  simp only []
  by_cases hN : id + 1 = T.length
  · rw [if_pos hN, if_pos (show (id : Int) + 1 = (T.length : Int) by omega)]; rfl
  · rw [if_neg hN, if_neg (show ¬ (id : Int) + 1 = (T.length : Int) by omega)]; rfl

theorem fixRight_spec : ∀ (k id : Nat), id + k + 1 = T.length →
    ∃ r : Nat, r ≤ T.length ∧
      (∀ j t, id ≤ j → j < r → T[j]? = some t → t ≤ ts) ∧ (∀ t, T[r]? = some t → ts < t) ∧
      ∀ get, ReadsOn get T → ∀ e, fixRight get T.length ts (e + k + 1) (id : Int) = .ok (r : Int) := by
  intro k
  induction k with
  | zero =>
    intro id h1
    obtain ⟨t, ht⟩ : ∃ t, T[id]? = some t := ⟨_, List.getElem?_eq_getElem (by omega)⟩
    by_cases hc : t ≤ ts
    · refine ⟨id + 1, by omega, fun j t' hj1 hj2 hj => ?_, fun t' ht' => ?_, fun get hg e => ?_⟩
      · have : j = id := by omega
        subst this; rw [ht] at hj; cases hj; exact hc
      · rw [List.getElem?_eq_none (by omega)] at ht'; cases ht'
      · rw [fixRight_step hg _ id t ht, if_pos hc, if_pos h1]
    · refine ⟨id, by omega, fun j t' hj1 hj2 _ => by omega, fun t' ht' => ?_, fun get hg e => ?_⟩
      · rw [ht] at ht'; cases ht'; omega
      · rw [fixRight_step hg _ id t ht, if_neg hc]
  | succ k ih =>
    intro id h1
    obtain ⟨t, ht⟩ : ∃ t, T[id]? = some t := ⟨_, List.getElem?_eq_getElem (by omega)⟩
    by_cases hc : t ≤ ts
    · obtain ⟨r, hrN, hall, hr, h⟩ := ih (id + 1) (by omega)
      refine ⟨r, hrN, fun j t' hj1 hj2 hj => ?_, hr, fun get hg e => ?_⟩
      · by_cases hjid : j = id
        · subst hjid; rw [ht] at hj; cases hj; exact hc
        · exact hall j t' (by omega) hj2 hj
      · rw [fixRight_step hg _ id t ht, if_pos hc, if_neg (by omega)]
        exact h get hg e
    · refine ⟨id, by omega, fun j t' hj1 hj2 _ => by omega, fun t' ht' => ?_, fun get hg e => ?_⟩
      · rw [ht] at ht'; cases ht'; omega
      · rw [fixRight_step hg _ id t ht, if_neg hc]

theorem insertionIndexWith_ge2 (j : Nat) (h : 2 ≤ T.length) :
    insertionIndexWith get j T ts =
      ((searchLoop get T.length ts (j + T.length + 3) 0 ((2 : Int) ^ j)).bind
        (fixLeft get ts (T.length + 2))).bind (fixRight get T.length ts (T.length + 2)) := by
  match T, h with
  | _ :: _ :: _, _ => rfl

/-- a single observation is the code's special case: the new one goes BEFORE an equal timestamp -/
theorem insertionIndexWith_singleton (get : Int → Option Int) (j : Nat) (t0 ts : Int) :
    insertionIndexWith get j [t0] ts = .ok (if t0 < ts then 1 else 0) := rfl
theorem insertionIndex_singleton (t0 ts : Int) : insertionIndex [t0] ts = .ok (if t0 < ts then 1 else 0) := rfl

theorem forall_mem_take {α : Type} {l : List α} {r : Nat} {P : α → Prop}
    (h : ∀ k x, k < r → l[k]? = some x → P x) : ∀ x ∈ l.take r, P x := by
  intro x hx
  obtain ⟨k, hk⟩ := List.mem_iff_getElem?.mp hx
  rw [List.getElem?_take] at hk
  by_cases hkr : k < r
  · rw [if_pos hkr] at hk; exact h k x hkr hk
  · rw [if_neg hkr] at hk; cases hk

theorem forall_mem_drop {α : Type} {l : List α} {r : Nat} {P : α → Prop}
    (h : ∀ k x, r ≤ k → l[k]? = some x → P x) : ∀ x ∈ l.drop r, P x := by
  intro x hx
  obtain ⟨k, hk⟩ := List.mem_iff_getElem?.mp hx
  rw [List.getElem?_drop] at hk
  exact h (r + k) x (Nat.le_add_right r k) hk

theorem sorted_getElem? (hs : T.Pairwise (· ≤ ·)) (i j : Nat) (hij : i ≤ j) (a b : Int)
    (ha : T[i]? = some a) (hb : T[j]? = some b) : a ≤ b := by
  by_cases h : i = j
  · subst h; rw [ha] at hb; cases hb; omega
  · have hi : i < T.length := (List.getElem?_eq_some_iff.mp ha).1
    have hj : j < T.length := (List.getElem?_eq_some_iff.mp hb).1
    have := List.pairwise_iff_getElem.mp hs i j hi hj (by omega)
    rw [List.getElem?_eq_getElem hi] at ha; rw [List.getElem?_eq_getElem hj] at hb
    cases ha; cases hb; exact this

theorem insertionIndex_loops (j : Nat) (hj : 2 * 2 ^ j ≤ T.length) :
    ∃ r : Nat, r ≤ T.length ∧
      (∀ get, ReadsOn get T → ∀ f0 f1 f2, j + T.length + 2 ≤ f0 → T.length + 1 ≤ f1 → T.length + 1 ≤ f2 →
        ((searchLoop get T.length ts f0 0 ((2 : Int) ^ j)).bind (fixLeft get ts f1)).bind (fixRight get T.length ts f2) =
          .ok (r : Int)) ∧
      (T.Pairwise (· ≤ ·) → (∀ t ∈ T.take r, t ≤ ts) ∧ (∀ t ∈ T.drop r, ts < t)) := by
  obtain ⟨r0, hr0, h0⟩ := reaches_start (T := T) (ts := ts) j hj
  obtain ⟨r1, hr1, hl, h1⟩ := fixLeft_spec (T := T) (ts := ts) r0 (by omega)
  obtain ⟨r2, hr2, hall, hr, h2⟩ := fixRight_spec (T := T) (ts := ts) (T.length - r1 - 1) r1 (by omega)
  refine ⟨r2, hr2, fun get hg f0 f1 f2 hf0 hf1 hf2 => ?_,
    fun hs => ⟨forall_mem_take fun k t hk hkt => ?_, forall_mem_drop fun k t hk hkt => ?_⟩⟩
  · obtain ⟨e0, rfl⟩ : ∃ e, f0 = e + T.length + j + 2 := ⟨f0 - (T.length + j + 2), by omega⟩
    obtain ⟨e1, rfl⟩ := Nat.exists_eq_add_of_le' (Nat.le_trans hr0 (Nat.le_of_succ_le hf1))
    obtain ⟨e2, rfl⟩ : ∃ e, f2 = e + (T.length - r1 - 1) + 1 := ⟨f2 - (T.length - r1), by omega⟩
    rw [h0 get hg e0, Res.bind, ← Nat.add_assoc, h1 get hg e1, Res.bind, h2 get hg e2]
  · -- before `r1` the entries are below the one at `r1`, which `fixLeft` left `≤ ts`; from `r1` on `fixRight` passed them
    by_cases hk1 : r1 ≤ k
    · exact hall k t hk1 hk hkt
    · rcases hl with h0 | hle
      · omega
      · have hr1lt : r1 < T.length := by omega
        have := hle T[r1] (List.getElem?_eq_getElem hr1lt)
        have := sorted_getElem? hs k r1 (by omega) t T[r1] hkt (List.getElem?_eq_getElem hr1lt)
        omega
  · have hklt : k < T.length := (List.getElem?_eq_some_iff.mp hkt).1
    have hr2lt : r2 < T.length := by omega
    have := hr T[r2] (List.getElem?_eq_getElem hr2lt)
    have := sorted_getElem? hs r2 k hk T[r2] t (List.getElem?_eq_getElem hr2lt) hkt
    omega

theorem countP_of_split (T : List Int) (p : Int → Bool) (r : Nat) (hr : r ≤ T.length)
    (h1 : ∀ t ∈ T.take r, p t = true) (h2 : ∀ t ∈ T.drop r, p t = false) : T.countP p = r := by
  rw [← List.take_append_drop r T, List.countP_append, List.countP_eq_length.mpr h1,
    List.countP_eq_zero.mpr (fun x hx => by rw [h2 x hx]; nofun), List.length_take]
  omega

theorem insertionIndexWith_bounds (j : Nat) (hN : 2 ≤ T.length) (hj : 2 * 2 ^ j ≤ T.length) :
    ∃ r : Nat, r ≤ T.length ∧ (∀ get, ReadsOn get T → insertionIndexWith get j T ts = .ok (r : Int)) ∧
      (T.Pairwise (· ≤ ·) → (∀ t ∈ T.take r, t ≤ ts) ∧ (∀ t ∈ T.drop r, ts < t)) := by
  obtain ⟨r, hr, h, hsplit⟩ := insertionIndex_loops (T := T) (ts := ts) j hj
  exact ⟨r, hr, fun get hg => by
    rw [insertionIndexWith_ge2 j hN]; exact h get hg _ _ _ (Nat.le_succ _) (Nat.le_succ _) (Nat.le_succ _), hsplit⟩

theorem ilog2_first_step (N : Nat) (hN : 2 ≤ N) : 2 * 2 ^ (ilog2 N - 1) ≤ N := by
  unfold ilog2
  have h1 : 1 ≤ N.log2 := (Nat.le_log2 (by omega)).mpr (by omega)
  have h2 : 2 ^ N.log2 ≤ N := Nat.log2_self_le (by omega)
  have : 2 * 2 ^ (N.log2 - 1) = 2 ^ N.log2 := by
    obtain ⟨k, hk⟩ : ∃ k, N.log2 = k + 1 := ⟨N.log2 - 1, by omega⟩
    rw [hk, Nat.add_sub_cancel, Nat.pow_succ]; omega
  omega


/-- the single observation (the new one goes before an equal timestamp) makes the split `≤ ts` / `≥ ts` -/
theorem insertionIndex_split (T : List Int) (ts : Int) :
    ∃ r : Nat, r ≤ T.length ∧
      (∀ get, ReadsOn get T → insertionIndexWith get (ilog2 T.length - 1) T ts = .ok (r : Int)) ∧
      (T.Pairwise (· ≤ ·) → (∀ t ∈ T.take r, t ≤ ts) ∧ (∀ t ∈ T.drop r, ts ≤ t)) := by
  match T with
  | [] => exact ⟨0, Nat.le_refl 0, fun _ _ => rfl, fun _ => ⟨nofun, nofun⟩⟩
  | [t0] =>
    by_cases h : t0 < ts
    · exact ⟨1, Nat.le_refl 1, fun _ _ => by rw [insertionIndexWith_singleton, if_pos h]; rfl,
        fun _ => ⟨fun t ht => by cases List.mem_singleton.mp ht; omega, nofun⟩⟩
    · exact ⟨0, Nat.zero_le 1, fun _ _ => by rw [insertionIndexWith_singleton, if_neg h]; rfl,
        fun _ => ⟨nofun, fun t ht => by cases List.mem_singleton.mp ht; omega⟩⟩
  | a :: b :: rest =>
    have hN : 2 ≤ (a :: b :: rest).length := by simp
    obtain ⟨r, hr, h, hsplit⟩ := insertionIndexWith_bounds (T := a :: b :: rest) (ts := ts) _ hN (ilog2_first_step _ hN)
    exact ⟨r, hr, h, fun hs => ⟨(hsplit hs).1, fun t ht => Int.le_of_lt ((hsplit hs).2 t ht)⟩⟩

theorem insertChrono_of_index (tr : Track) (o : Obs) (r : Nat) (hr : r ≤ tr.pts.length)
    (h : insertionIndex (tr.pts.map (·.time)) o.time = .ok (r : Int)) :
    insertChrono tr o = some ⟨tr.pts.take r ++ o :: tr.pts.drop r, tr.table⟩ := by
  simp only [insertChrono, h, pyInsert_nat tr.pts r o hr]

end TV.Seq
