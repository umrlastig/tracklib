import TracklibVerif.Lemmas.ObsTimeG
import TracklibVerif.Lemmas.ObsTimeZone
import TracklibVerif.Lemmas.Common.MapM
import TracklibVerif.Model.ObsTimeOperand
import Mathlib.Algebra.Order.Floor.Ring
import Mathlib.Data.Rat.Floor
/-! # C03 — timestamps convert to and from epoch seconds without drifting or deforming

Property theorems only (helper lemmas are in `Lemmas/ObsTime.lean`, `Lemmas/ObsTimeG.lean`, `Lemmas/ObsTimeNeg.lean`, `Lemmas/ObsTimeZone.lean`). T1–T6 are about the
integer model (`Model/ObsTime.lean`, integer milliseconds); T7–T14 are about the scalar-polymorphic model of the
float path (`Model/ObsTimeG.lean`) over a linearly ordered field with an exact `int()`, and reduce it to the
integer model. Z1–Z13 are about the `zone` label, `convertToZone`, the `Track` zone methods, `getDayOfWeek`,
`printZone` and about which call creates or modifies an object (`Model/ObsTimeZone.lean`). O1–O2 are about what may
stand on the other side of a comparison operator: a timestamp of any class derived from `ObsTime`, or an object that
is not a timestamp (`Model/ObsTimeOperand.lean`).
All statements are for every instant / every well-formed stamp, with no bound on the year. -/
namespace TV.C03
open TV.ObsTime

/-- T1: every instant reads back as a well-formed calendar stamp. -/
theorem readUnix_wellFormed (t : Nat) : WFs (readUnixMs t) := WFs_readUnixMs t

/-- T2: seconds → calendar → seconds is the identity (same instant, exactly). -/
theorem toAbs_readUnix (t : Nat) : toAbsMs (readUnixMs t) = t := toAbsMs_readUnixMs t

/-- T3: calendar → seconds → calendar is the identity on well-formed stamps. -/
theorem readUnix_toAbs (s : Stamp) (h : WFs s) : readUnixMs (toAbsMs s) = s := readUnixMs_toAbsMs s h

/-- T4: the instant is `(day number)·86400 s + time of day`, and the day number computed by
`toAbsTime`'s year and month loops is the closed-form proleptic Gregorian day number
(`civilDays`, days since 1970-01-01). -/
theorem toAbs_gregorian (s : Stamp) (h : WFs s) :
    toAbsMs s = (dayNo s.d * 86400 + (s.d.hour * 3600 + s.d.min * 60 + s.d.sec)) * 1000 + s.ms
    ∧ (dayNo s.d : Int) = civilDays s.d.year s.d.month s.d.day :=
  ⟨by rw [toAbsMs, toAbs_split], dayNo_civil s.d h.1⟩

/-- T5: the field-wise `<` orders well-formed stamps as their epoch milliseconds do. -/
theorem lt_iff (a b : Stamp) (ha : WFs a) (hb : WFs b) : ltS a b = true ↔ toAbsMs a < toAbsMs b :=
  ltS_iff a b ha hb

theorem gt_iff (a b : Stamp) (ha : WFs a) (hb : WFs b) : gtS a b = true ↔ toAbsMs a > toAbsMs b := by
  rw [gtS_eq_ltS]; exact ltS_iff b a hb ha

theorem eq_iff (a b : Stamp) (ha : WFs a) (hb : WFs b) : eqS a b = true ↔ toAbsMs a = toAbsMs b := by
  rw [eqS_iff]
  constructor
  · intro h; rw [h]
  · exact toAbsMs_inj a b ha hb

theorem le_iff (a b : Stamp) (ha : WFs a) (hb : WFs b) : leS a b = true ↔ toAbsMs a ≤ toAbsMs b := by
  rw [leS, Bool.not_eq_true', ← Bool.not_eq_true, gt_iff a b ha hb, Nat.not_lt]

theorem ge_iff (a b : Stamp) (ha : WFs a) (hb : WFs b) : geS a b = true ↔ toAbsMs a ≥ toAbsMs b := by
  rw [geS, Bool.not_eq_true', ← Bool.not_eq_true, lt_iff a b ha hb, Nat.not_lt]

theorem ne_iff (a b : Stamp) (ha : WFs a) (hb : WFs b) : neS a b = true ↔ toAbsMs a ≠ toAbsMs b := by
  rw [neS, Bool.not_eq_true', ← Bool.not_eq_true, eq_iff b a hb ha, ne_comm]

/-- T6: adding `n` seconds moves the instant by exactly `n` seconds, and the result is well formed. -/
theorem addSec_spec (t : Stamp) (n : Nat) :
    WFs (addSec t n) ∧ toAbsMs (addSec t n) = toAbsMs t + n * 1000 :=
  ⟨readUnix_wellFormed _, toAbs_readUnix _⟩

/-- non-vacuity: a leap-day stamp is well formed, and the round trip is the identity on it. -/
example : WFs ⟨⟨2000, 2, 29, 23, 59, 59⟩, 999⟩ := by unfold WFs WF monthDays isLeap; decide
example : readUnixMs (toAbsMs ⟨⟨2000, 2, 29, 23, 59, 59⟩, 999⟩) = ⟨⟨2000, 2, 29, 23, 59, 59⟩, 999⟩ := by decide +kernel
/-- regression witness for the defect repaired by the first `fix:` commit: the first second of 1971. -/
example : readUnixMs 31536000000 = ⟨⟨1971, 1, 1, 0, 0, 0⟩, 0⟩ := by decide +kernel

/-! ## The float path: `readUnixTime(x)` on fractional seconds, `toAbsTime()` as a scalar, `addSec` with
fractional and negative amounts, `__sub__`

The statements are over a linearly ordered field `α` with an exact truncation (`TruncZ trunc`: `trunc` is
Python's `int()` on non-negative reals). They need exact arithmetic: IEEE rounding of `toAbsTime()`'s
`ms / 1000.0` and of the sum, and of `elapsed_seconds * 1000`, is outside them (a float `toAbsTime()` of a stamp
with `ms = 57` is slightly below `….057` and reads back as 56 ms: within the property's millisecond, and
covered by the exact correspondence of the same definitions at `Float`). -/
section FloatPath
variable {α : Type} [Field α] [LinearOrder α] [IsStrictOrderedRing α]

/-- T7: for every `x ≥ 0` the float reader, run operation for operation (year loop on `elapsed - sec` with the
integer accumulator, month loop, the three truncated divisions, `ms = int(frac * 1000)`), returns the calendar
fields of the integer reader on `⌊x⌋` and `⌊(x − ⌊x⌋)·1000⌋` milliseconds; in particular the year loop ends. -/
theorem readUnixG_eq (trunc : α → Int) (htr : TruncZ trunc) (x : α) (hx : 0 ≤ x) :
    readUnixG trunc x = some (readUnixSpec trunc x).toZ := by
  obtain ⟨hf0, hf1⟩ := frac_bounds trunc htr x hx
  have e : x = ((trunc x).toNat : α) + (x - ((trunc x).toNat : α)) := by ring
  conv_lhs => rw [e]
  exact readUnixG_nat_add_frac trunc htr _ _ hf0 hf1

/-- T8: the stamp read from any `x ≥ 0` is well formed (month 1–12, a day of that month, hour 0–23,
minute and second 0–59, **millisecond 0–999**). -/
theorem readUnixG_wellFormed (trunc : α → Int) (htr : TruncZ trunc) (x : α) (hx : 0 ≤ x) :
    WFs (readUnixSpec trunc x) := by
  obtain ⟨hf0, hf1⟩ := frac_bounds trunc htr x hx
  exact ⟨(readUnix_spec _).1, (ms_bounds trunc htr _ hf0 hf1).1⟩

/-- the reader truncates to the millisecond: the millisecond count of the stamp read from `x` is the integer part of `1000 x` -/
theorem readUnixSpec_ms (trunc : α → Int) (htr : TruncZ trunc) (x : α) (hx : 0 ≤ x) :
    (toAbsMs (readUnixSpec trunc x) : α) ≤ x * 1000 ∧ x * 1000 < (toAbsMs (readUnixSpec trunc x) : α) + 1 := by
  obtain ⟨hf0, hf1⟩ := frac_bounds trunc htr x hx
  obtain ⟨-, hk1, hk2⟩ := ms_bounds trunc htr _ hf0 hf1
  simp only [toAbsMs, readUnixSpec, (readUnix_spec _).2, Nat.cast_add, Nat.cast_mul, Nat.cast_ofNat]
  constructor <;> linarith

/-- T9: "the same instant to within one millisecond": `0 ≤ x − toAbsTime(readUnixTime(x)) < 1/1000`. -/
theorem readUnixG_within_ms (trunc : α → Int) (htr : TruncZ trunc) (x : α) (hx : 0 ≤ x) :
    0 ≤ x - toAbsG (readUnixSpec trunc x).toZ ∧ x - toAbsG (readUnixSpec trunc x).toZ < 1 / 1000 := by
  obtain ⟨h1, h2⟩ := readUnixSpec_ms trunc htr x hx
  rw [toAbsG_toZ _ (readUnixG_wellFormed trunc htr x hx).1.2.2.2.1, sub_nonneg, sub_lt_iff_lt_add', ← add_div,
    div_le_iff₀ (by norm_num), lt_div_iff₀ (by norm_num)]
  exact ⟨h1, h2⟩

/-- T7–T9 in one statement about the mirrored code: `readUnixTime(x)` returns a well-formed stamp whose
`toAbsTime()` is at most `x` and more than `x − 1 ms`. -/
theorem readUnixG_spec (trunc : α → Int) (htr : TruncZ trunc) (x : α) (hx : 0 ≤ x) :
    ∃ s : Stamp, readUnixG trunc x = some s.toZ ∧ WFs s
      ∧ 0 ≤ x - toAbsG s.toZ ∧ x - toAbsG s.toZ < 1 / 1000 :=
  ⟨readUnixSpec trunc x, readUnixG_eq trunc htr x hx, readUnixG_wellFormed trunc htr x hx,
    readUnixG_within_ms trunc htr x hx⟩

/-- T10: calendar → `toAbsTime()` → `readUnixTime` is the identity on every well-formed stamp, the
millisecond field included ("exactly the same timestamp"), when the arithmetic is exact. -/
theorem readUnixG_toAbsG (trunc : α → Int) (htr : TruncZ trunc) (s : Stamp) (h : WFs s) :
    readUnixG trunc (toAbsG s.toZ) = some s.toZ := by
  rw [toZ_eq_msStampZ s h, toAbsG_msStampZ]
  exact readUnixG_msZ trunc _ (.inl ⟨Int.natCast_nonneg _, htr⟩)

/-- T11: `addSec(a)` for any scalar amount `a` (fractional, negative) that does not lead before 1970:
the result is well formed and denotes `toAbsTime() + a` to within one millisecond (truncated). -/
theorem addSecG_spec (trunc : α → Int) (htr : TruncZ trunc) (t : StampZ) (a : α) (h : 0 ≤ toAbsG t + a) :
    ∃ r : Stamp, addSecG trunc t a = some r.toZ ∧ WFs r
      ∧ 0 ≤ (toAbsG t + a) - toAbsG r.toZ ∧ (toAbsG t + a) - toAbsG r.toZ < 1 / 1000 :=
  readUnixG_spec trunc htr _ h

/-- `addMin`, `addHour`, `addDay`: the same with the amount multiplied by 60, 3600, 86400. -/
theorem addMinG_spec (trunc : α → Int) (htr : TruncZ trunc) (t : StampZ) (a : α) (h : 0 ≤ toAbsG t + a * 60) :
    ∃ r : Stamp, addMinG trunc t a = some r.toZ ∧ WFs r
      ∧ 0 ≤ (toAbsG t + a * 60) - toAbsG r.toZ ∧ (toAbsG t + a * 60) - toAbsG r.toZ < 1 / 1000 := by
  rw [addMinG, Int.cast_ofNat]
  exact readUnixG_spec trunc htr _ h
theorem addHourG_spec (trunc : α → Int) (htr : TruncZ trunc) (t : StampZ) (a : α) (h : 0 ≤ toAbsG t + a * 3600) :
    ∃ r : Stamp, addHourG trunc t a = some r.toZ ∧ WFs r
      ∧ 0 ≤ (toAbsG t + a * 3600) - toAbsG r.toZ ∧ (toAbsG t + a * 3600) - toAbsG r.toZ < 1 / 1000 := by
  rw [addHourG, Int.cast_ofNat]
  exact readUnixG_spec trunc htr _ h
theorem addDayG_spec (trunc : α → Int) (htr : TruncZ trunc) (t : StampZ) (a : α) (h : 0 ≤ toAbsG t + a * 86400) :
    ∃ r : Stamp, addDayG trunc t a = some r.toZ ∧ WFs r
      ∧ 0 ≤ (toAbsG t + a * 86400) - toAbsG r.toZ ∧ (toAbsG t + a * 86400) - toAbsG r.toZ < 1 / 1000 := by
  rw [addDayG, Int.cast_ofNat]
  exact readUnixG_spec trunc htr _ h

/-- T12: adding a whole number `k` of seconds, **negative included**, to a well-formed stamp moves the instant
by exactly `k` seconds and keeps the millisecond field (the float path agrees with the integer model's
`readUnixMs (toAbsMs t + 1000 k)`; with `toAbs_readUnix` the instant is `toAbsMs t + 1000 k` exactly). -/
theorem addSecG_whole (trunc : α → Int) (htr : TruncZ trunc) (t : Stamp) (h : WFs t) (k : Int)
    (hk : 0 ≤ (toAbsMs t : Int) + k * 1000) :
    addSecG trunc t.toZ ((k : Int) : α) = some (readUnixMs ((toAbsMs t : Int) + k * 1000).toNat).toZ := by
  rw [addSecG_msZ trunc _ _ k (toAbsG_toZ_int t h.1.2.2.2.1) (.inl ⟨hk, htr⟩), msStampZ, if_pos hk]

/-- T13: the comparison operators order well-formed stamps exactly as their `toAbsTime()` values
(seconds since 1970, as scalars) do, and as the sign of `__sub__` does. -/
theorem cmp_iff_seconds (a b : Stamp) (ha : WFs a) (hb : WFs b) :
    (ltS a b = true ↔ (toAbsG a.toZ : α) < toAbsG b.toZ)
    ∧ (gtS a b = true ↔ (toAbsG a.toZ : α) > toAbsG b.toZ)
    ∧ (eqS a b = true ↔ (toAbsG a.toZ : α) = toAbsG b.toZ)
    ∧ (leS a b = true ↔ (toAbsG a.toZ : α) ≤ toAbsG b.toZ)
    ∧ (geS a b = true ↔ (toAbsG a.toZ : α) ≥ toAbsG b.toZ)
    ∧ (neS a b = true ↔ (toAbsG a.toZ : α) ≠ toAbsG b.toZ) := by
  -- `toAbsTime()` is a strictly increasing function of the epoch milliseconds: T5 carries over operator by operator
  have hm := ms_strictMono (α := α)
  rw [toAbsG_toZ a ha.1.2.2.2.1, toAbsG_toZ b hb.1.2.2.2.1]
  exact ⟨(lt_iff a b ha hb).trans hm.lt_iff_lt.symm, (gt_iff a b ha hb).trans hm.lt_iff_lt.symm,
    (eq_iff a b ha hb).trans hm.injective.eq_iff.symm, (le_iff a b ha hb).trans hm.le_iff_le.symm,
    (ge_iff a b ha hb).trans hm.le_iff_le.symm, (ne_iff a b ha hb).trans hm.injective.ne_iff.symm⟩

/-- `t1 - t2` (`__sub__`) is the difference of the epoch milliseconds over 1000; its sign is the comparison. -/
theorem sub_spec (a b : Stamp) (ha : WFs a) (hb : WFs b) :
    (subG a.toZ b.toZ : α) = ((toAbsMs a : α) - (toAbsMs b : α)) / 1000
    ∧ (ltS a b = true ↔ (subG a.toZ b.toZ : α) < 0)
    ∧ (gtS a b = true ↔ (subG a.toZ b.toZ : α) > 0)
    ∧ (eqS a b = true ↔ (subG a.toZ b.toZ : α) = 0) := by
  obtain ⟨h1, h2, h3, -⟩ := cmp_iff_seconds (α := α) a b ha hb
  refine ⟨?_, ?_, ?_, ?_⟩
  · unfold subG; rw [toAbsG_toZ a ha.1.2.2.2.1, toAbsG_toZ b hb.1.2.2.2.1]; ring
  · rw [h1]; unfold subG; exact sub_neg.symm
  · rw [h2]; unfold subG; exact sub_pos.symm
  · rw [h3]; unfold subG; exact sub_eq_zero.symm

/-- the field-wise cascades evaluated on float-path stamps (integer-valued fields) are those of the integer model -/
theorem cmpZ_toZ (a b : Stamp) :
    ltZ a.toZ b.toZ = ltS a b ∧ gtZ a.toZ b.toZ = gtS a b ∧ eqZ a.toZ b.toZ = eqS a b :=
  ⟨by unfold ltZ ltS Stamp.toZ; simp only [natCast_bne, Int.ofNat_lt],
   by unfold gtZ gtS Stamp.toZ; simp only [natCast_bne, gt_iff_lt, Int.ofNat_lt],
   by unfold eqZ eqS Stamp.toZ; simp only [natCast_bne]⟩

/-- T14: reading is monotone: `0 ≤ x ≤ y` implies `readUnixTime(x) <= readUnixTime(y)` (so a chronological
sequence of float instants stays chronological when stamped). -/
theorem readUnixG_monotone (trunc : α → Int) (htr : TruncZ trunc) (x y : α) (hx : 0 ≤ x) (hxy : x ≤ y) :
    leS (readUnixSpec trunc x) (readUnixSpec trunc y) = true := by
  have hy : 0 ≤ y := le_trans hx hxy
  rw [le_iff _ _ (readUnixG_wellFormed trunc htr x hx) (readUnixG_wellFormed trunc htr y hy)]
  obtain ⟨hx1, -⟩ := readUnixSpec_ms trunc htr x hx
  obtain ⟨-, hy2⟩ := readUnixSpec_ms trunc htr y hy
  have : (toAbsMs (readUnixSpec trunc x) : α) < ((toAbsMs (readUnixSpec trunc y) + 1 : Nat) : α) := by
    push_cast
    exact lt_of_le_of_lt hx1 (lt_of_le_of_lt (mul_le_mul_of_nonneg_right hxy (by norm_num)) hy2)
  exact Nat.le_of_lt_succ (Nat.cast_lt.mp this)

end FloatPath

/-- `ObsTime()` (the defaults of `__init__`) is the epoch: the stamp read from 0, with `toAbsTime()` = 0. -/
theorem default_is_epoch : defaultZ = (readUnixMs 0).toZ ∧ secondsZ defaultZ = 0 ∧ defaultZ.ms = 0 := by
  decide +kernel

/-! ### non-vacuity of the float-path statements -/

/-- Python's `int()` on non-negative rationals is the floor: the contract is satisfiable -/
example : TruncZ (fun x : ℚ => ⌊x⌋) := fun x hx =>
  ⟨Int.floor_nonneg.mpr hx, Int.floor_le x, Int.lt_floor_add_one x⟩

/-- an instant in the last half millisecond of a second (the inputs of the seeded change C03-4):
`readUnixTime(1550941038.9996)` is `2019-02-23 16:57:18.999`, not `….18.1000`. -/
example : readUnixSpec (fun x : ℚ => ⌊x⌋) (1550941038 + 9996 / 10000) = ⟨⟨2019, 2, 23, 16, 57, 18⟩, 999⟩ := by
  have h1 : ⌊(1550941038 + 9996 / 10000 : ℚ)⌋ = 1550941038 := by
    rw [Int.floor_eq_iff]; constructor <;> norm_num
  have h0 : (1550941038 : ℤ).toNat = 1550941038 := by decide
  have h2 : ⌊((1550941038 + 9996 / 10000 : ℚ) - ((1550941038 : ℕ) : ℚ)) * 1000⌋ = 999 := by
    rw [Int.floor_eq_iff]; constructor <;> norm_num
  have h3 : (999 : ℤ).toNat = 999 := by decide
  simp only [readUnixSpec, h1, h0, h2, h3]
  decide +kernel

/-! ## The `zone` label, the functions around it, and which call creates or modifies an object

`Model/ObsTimeZone.lean`. The property's sentences are about the calendar fields and the seconds value: Z1 says the
label is never read by them, Z2 which label a result carries, Z3–Z6 what `convertToZone` is in exact arithmetic
(a shift of the calendar fields by whole hours that keeps `toAbsTime() − 3600·zone`, minute, second and
millisecond; invertible; order-preserving), Z7–Z8 the `Track` methods, Z9 the day of the week, Z10–Z11, Z13 that every
conversion returns a new object and only an attribute assignment / `Track.setTimeZone` writes into existing ones. -/
section ZoneLabel
variable {α : Type} [Add α] [Sub α] [Mul α] [Div α] [LT α] [DecidableLT α] [IntCast α]

/-- Z1: the zone label is never read by `toAbsTime()`, `-`, the round trip, `addSec/addMin/addHour/addDay`,
`getDayOfWeek()` (and the comparison cascades are defined on the calendar fields only): two objects with the same
calendar fields and different labels give the same answers. -/
theorem zone_not_read (trunc : α → Int) (t : StampZ) (z z' : Int) (b : ObsZ) :
    (toAbsZ ⟨t, z⟩ : α) = toAbsZ ⟨t, z'⟩
    ∧ (subZ ⟨t, z⟩ b : α) = subZ ⟨t, z'⟩ b ∧ (subZ b ⟨t, z⟩ : α) = subZ b ⟨t, z'⟩
    ∧ rtZ (α := α) trunc ⟨t, z⟩ = rtZ (α := α) trunc ⟨t, z'⟩
    ∧ (∀ u nb, addZ trunc u ⟨t, z⟩ nb = addZ trunc u ⟨t, z'⟩ nb)
    ∧ dayOfWeekG (α := α) trunc ⟨t, z⟩ = dayOfWeekG (α := α) trunc ⟨t, z'⟩ :=
  ⟨rfl, rfl, rfl, rfl, fun _ _ => rfl, rfl⟩

/-- Z2: the label of a result: `readUnixTime`, `addSec` …, the round trip return an object in zone 0 (built from
`ObsTime()`), whatever the label of the operand; `convertToZone(z)` returns one labelled `z`. -/
theorem results_zone (trunc : α → Int) (o r : ObsZ) :
    (∀ x, readUnixZ trunc x = some r → r.zone = 0)
    ∧ (∀ u nb, addZ trunc u o nb = some r → r.zone = 0)
    ∧ (rtZ (α := α) trunc o = some r → r.zone = 0)
    ∧ (∀ z, convertToZoneG (α := α) trunc o z = some r → r.zone = z) :=
  ⟨fun _ h => zone_of_map h, fun _ _ h => zone_of_map h, fun h => zone_of_map h, fun _ h => zone_of_map h⟩

end ZoneLabel

section Zone
variable {α : Type} [Field α] [LinearOrder α] [IsStrictOrderedRing α]

/-- Z3: `convertToZone(z)` on a well-formed stamp labelled `z0`, in exact arithmetic, when the target is not before
1970: the stamp of the integer model at `toAbsMs + 3 600 000 (z − z0)`, labelled `z`. -/
theorem convertToZoneG_eq (trunc : α → Int) (htr : TruncZ trunc) (t : Stamp) (h : WFs t) (z0 z : Int)
    (hk : 0 ≤ (toAbsMs t : Int) + 3600000 * (z - z0)) :
    convertToZoneG trunc (⟨t.toZ, z0⟩ : ObsZ) z = some ⟨(convertToZoneMs t z0 z).toZ, z⟩ := by
  rw [convertToZoneG_msZ trunc _ _ z0 z (toAbsG_toZ_int t h.1.2.2.2.1) (.inl ⟨hk, htr⟩), msStampZ, if_pos hk, convertToZoneMs]

/-- Z4: what `convertToZone` changes and what it keeps: the result is well formed; the instant moves by exactly
`z − z0` hours, so that `toAbsTime() − 3600·zone` (the instant on the common clock) is kept; millisecond, second and
minute fields are kept. -/
theorem convertToZone_spec (t : Stamp) (h : WFs t) (z0 z : Int)
    (hk : 0 ≤ (toAbsMs t : Int) + 3600000 * (z - z0)) :
    WFs (convertToZoneMs t z0 z)
    ∧ (toAbsMs (convertToZoneMs t z0 z) : Int) = (toAbsMs t : Int) + 3600000 * (z - z0)
    ∧ (toAbsMs (convertToZoneMs t z0 z) : Int) - 3600000 * z = (toAbsMs t : Int) - 3600000 * z0
    ∧ (convertToZoneMs t z0 z).ms = t.ms
    ∧ (convertToZoneMs t z0 z).d.min = t.d.min ∧ (convertToZoneMs t z0 z).d.sec = t.d.sec := by
  have h1 := toAbsMs_convertToZoneMs t z0 z hk
  -- a whole number of hours leaves the millisecond field alone
  have hms : (convertToZoneMs t z0 z).ms = t.ms := by
    have := h.2
    simp only [convertToZoneMs, readUnixMs, toAbsMs] at hk ⊢
    omega
  have hw : WFs (convertToZoneMs t z0 z) := WFs_readUnixMs _
  refine ⟨hw, h1, by omega, hms, ?_⟩
  -- the instant moves by whole hours: below the hour the time of day is the same
  unfold toAbsMs at h1
  rw [hms, toAbs_split, toAbs_split] at h1
  obtain ⟨⟨-, -, -, -, -, -, m1, s1⟩, -⟩ := hw
  obtain ⟨⟨-, -, -, -, -, -, m2, s2⟩, -⟩ := h
  omega

/-- Z5: converting to the zone the stamp is in changes nothing; two conversions in a row are one; hence converting to a
zone and back gives the stamp one started from. -/
theorem convertToZone_same (t : Stamp) (h : WFs t) (z : Int) : convertToZoneMs t z z = t := by
  unfold convertToZoneMs
  have e : ((toAbsMs t : Int) + 3600000 * (z - z)).toNat = toAbsMs t := by omega
  rw [e, readUnix_toAbs t h]

theorem convertToZone_comp (t : Stamp) (z0 z1 z2 : Int)
    (hk : 0 ≤ (toAbsMs t : Int) + 3600000 * (z1 - z0)) :
    convertToZoneMs (convertToZoneMs t z0 z1) z1 z2 = convertToZoneMs t z0 z2 := by
  have h1 := toAbsMs_convertToZoneMs t z0 z1 hk
  rw [show convertToZoneMs (convertToZoneMs t z0 z1) z1 z2
      = readUnixMs ((toAbsMs (convertToZoneMs t z0 z1) : Int) + 3600000 * (z2 - z1)).toNat from rfl, h1]
  unfold convertToZoneMs
  congr 2
  omega

theorem convertToZone_back (t : Stamp) (h : WFs t) (z0 z : Int)
    (hk : 0 ≤ (toAbsMs t : Int) + 3600000 * (z - z0)) :
    convertToZoneMs (convertToZoneMs t z0 z) z z0 = t :=
  (convertToZone_comp t z0 z z0 hk).trans (convertToZone_same t h z0)

/-- Z6: two stamps of one zone converted to one zone keep their order, their equality and their distance -/
theorem convertToZone_order (a b : Stamp) (ha : WFs a) (hb : WFs b) (z0 z : Int)
    (hka : 0 ≤ (toAbsMs a : Int) + 3600000 * (z - z0)) (hkb : 0 ≤ (toAbsMs b : Int) + 3600000 * (z - z0)) :
    ltS (convertToZoneMs a z0 z) (convertToZoneMs b z0 z) = ltS a b
    ∧ gtS (convertToZoneMs a z0 z) (convertToZoneMs b z0 z) = gtS a b
    ∧ eqS (convertToZoneMs a z0 z) (convertToZoneMs b z0 z) = eqS a b
    ∧ (toAbsMs (convertToZoneMs a z0 z) : Int) - toAbsMs (convertToZoneMs b z0 z) = (toAbsMs a : Int) - toAbsMs b := by
  have h1 := toAbsMs_convertToZoneMs a z0 z hka
  have h2 := toAbsMs_convertToZoneMs b z0 z hkb
  have wa : WFs (convertToZoneMs a z0 z) := WFs_readUnixMs _
  have wb : WFs (convertToZoneMs b z0 z) := WFs_readUnixMs _
  refine ⟨?_, ?_, ?_, by omega⟩
  · rw [Bool.eq_iff_iff, lt_iff _ _ wa wb, lt_iff _ _ ha hb]; omega
  · rw [Bool.eq_iff_iff, gt_iff _ _ wa wb, gt_iff _ _ ha hb]; omega
  · rw [Bool.eq_iff_iff, eq_iff _ _ wa wb, eq_iff _ _ ha hb]; omega

/-- Z7: `Track.setTimeZone(z)` relabels: calendar fields (hence seconds, order, differences) untouched, every
label `z`, and `getTimeZone()` then answers `z`. -/
theorem setTimeZone_spec (z : Int) (l : List ObsZ) :
    (setTimeZone z l).map (·.t) = l.map (·.t)
    ∧ (∀ o ∈ setTimeZone z l, o.zone = z)
    ∧ (l ≠ [] → getTimeZone (setTimeZone z l) = some z) := by
  refine ⟨by simp [setTimeZone], ?_, ?_⟩
  · intro o ho
    simp only [setTimeZone, List.mem_map] at ho
    obtain ⟨a, -, rfl⟩ := ho
    rfl
  · intro hl
    cases l with
    | nil => exact absurd rfl hl
    | cons a r => rfl

/-- Z8: `Track.convertToTimeZone(z)` on a track of well-formed stamps (each with its own label) is `convertToZone`
stamp by stamp, in exact arithmetic; `Track.addSeconds(k)` for a whole `k` moves every stamp by `k` seconds exactly
and leaves every result in zone 0. -/
theorem convertToTimeZone_eq (trunc : α → Int) (htr : TruncZ trunc) (z : Int) (ts : List (Stamp × Int))
    (h : ∀ p ∈ ts, WFs p.1 ∧ 0 ≤ (toAbsMs p.1 : Int) + 3600000 * (z - p.2)) :
    convertToTimeZone (α := α) trunc z (ts.map fun p => ⟨p.1.toZ, p.2⟩)
      = some (ts.map fun p => ⟨(convertToZoneMs p.1 p.2 z).toZ, z⟩) := by
  unfold convertToTimeZone
  exact Common.mapM_map_some_of_forall (fun p hp => convertToZoneG_eq trunc htr p.1 (h p hp).1 p.2 z (h p hp).2)

/-- `Track.addSeconds(k)` for a whole `k` (negative included): every stamp moves by exactly `k` seconds; the new
timestamps are in zone 0 whatever the labels were. -/
theorem addSeconds_whole (trunc : α → Int) (htr : TruncZ trunc) (k : Int) (ts : List (Stamp × Int))
    (h : ∀ p ∈ ts, WFs p.1 ∧ 0 ≤ (toAbsMs p.1 : Int) + k * 1000) :
    addSeconds trunc ((k : Int) : α) (ts.map fun p => ⟨p.1.toZ, p.2⟩)
      = some (ts.map fun p => ⟨(readUnixMs ((toAbsMs p.1 : Int) + k * 1000).toNat).toZ, 0⟩) := by
  unfold addSeconds
  refine Common.mapM_map_some_of_forall (fun p hp => ?_)
  simp only [addZ, addSecG_whole trunc htr p.1 (h p hp).1 k (h p hp).2, Option.map_some]

/-- Z9: `getDayOfWeek()` of a well-formed stamp is the day of the week of its proleptic Gregorian day number
(1970-01-01, day 0, is a Thursday = index 3 of `Mon … Sun`), whatever the zone label -/
theorem dayOfWeek_spec (trunc : α → Int) (htr : TruncZ trunc) (s : Stamp) (h : WFs s) (z : Int) :
    dayOfWeekG (α := α) trunc ⟨s.toZ, z⟩ = (civilDays s.d.year s.d.month s.d.day + 3) % 7 := by
  obtain ⟨hd, hms⟩ := h
  obtain ⟨hf0, hf1⟩ := ms_frac (α := α) (toAbsMs s)
  have hdiv := trunc_div_nat trunc htr (toAbsMs s / 1000) 86400 (by decide) _ hf0 hf1
  have hday : toAbsMs s / 1000 / 86400 = dayNo s.d := by
    rw [toAbsMs, toAbs_split]
    obtain ⟨-, -, -, -, -, hh, hm, hs⟩ := hd
    omega
  rw [Nat.cast_ofNat] at hdiv
  rw [dayOfWeekG, toAbsG_toZ s hd.2.2.2.1, ms_split, Int.cast_ofNat, hdiv, hday, dayNo_civil s.d hd]

end Zone

/-! ### objects: which statement creates, which one writes -/
section Frame
variable {α : Type} [Add α] [Sub α] [Mul α] [Div α] [LT α] [DecidableLT α] [IntCast α]

/-- Z10 (frame): a statement leaves every existing object as it is, except the attribute assignment `set i` (object `i`
only) and `Track.setTimeZone` (the objects of the track only). In particular no conversion, offset, comparison,
copy or `Track.convertToTimeZone / addSeconds` changes an object that exists, its own operand included. -/
theorem step_frame (trunc : α → Int) (σ : State) (op : Op α) (k : Nat) (hk : k < σ.store.length)
    (hw : ¬ op.writes σ k) : (step trunc σ op).1.store[k]? = σ.store[k]? := by
  refine step_cases trunc σ op (fun r => r.1.store[k]? = σ.store[k]?) (fun _ _ => rfl) (fun _ => List.getElem?_append_left hk)
    (fun _ _ => List.getElem?_append_left hk) (fun i f v o hop => ?_) (fun _ => rfl) (fun z hop => ?_)
    (fun _ => List.getElem?_append_left hk)
  · subst hop
    exact List.getElem?_set_ne (fun e => hw e.symm)
  · subst hop
    exact (foldl_set_zone z σ.track σ.store).2 k hw

/-- Z11 (fresh results): a statement that returns an object appends exactly that object to the store — it is a new
object, not one that existed — and what `readUnixTime(x)` returns does not depend on the state at all. -/
theorem step_fresh (trunc : α → Int) (σ σ' : State) (op : Op α) (o : ObsZ) :
    ((step trunc σ op).2 = .obj o → (step trunc σ op).1.store = σ.store ++ [o])
    ∧ (∀ x, (step trunc σ (.read x)).2 = (step trunc σ' (.read x)).2) := by
  constructor
  · exact step_cases trunc σ op (fun r => r.2 = .obj o → r.1.store = σ.store ++ [o]) (fun _ hne h => absurd h (hne o))
      (fun a h => by rw [show a = o from Out.obj.inj h]) (fun _ _ => nofun) (fun _ _ _ _ _ => nofun) (fun _ => nofun)
      (fun _ _ => nofun) (fun _ => nofun)
  · intro x
    simp only [step, push]
    cases readUnixZ trunc x <;> rfl

/-- Z13 (frame, whole programs): a program without attribute assignments and without `Track.setTimeZone` — any
sequence of constructions, conversions, offsets, round trips, zone conversions, copies, comparisons, prints and
`Track.convertToTimeZone / addSeconds` — leaves every object that existed before it exactly as it was. -/
theorem run_frame (trunc : α → Int) (ops : List (Op α)) (hops : ∀ op ∈ ops, assigns op = false) (σ : State)
    (k : Nat) (hk : k < σ.store.length) : (run trunc σ ops).1.store[k]? = σ.store[k]? := by
  induction ops generalizing σ with
  | nil => rfl
  | cons op rest ih =>
    have h1 : ¬ op.writes σ k := fun hw =>
      Bool.false_ne_true ((hops op (List.mem_cons_self ..)).symm.trans (assigns_of_writes hw))
    have hs := step_frame trunc σ op k hk h1
    simp only [run]
    rw [ih (fun o ho => hops o (List.mem_cons_of_mem _ ho)) (step trunc σ op).1
      (Nat.lt_of_lt_of_le hk (step_length trunc σ op)), hs]
end Frame

/-- the situation of a memoised reader: whatever statements `ops` are run after `readUnixTime(x)` — assignments to
the attributes of its result included — `readUnixTime(x)` again gives the same stamp -/
theorem read_again {α : Type} [Add α] [Sub α] [Mul α] [Div α] [LT α] [DecidableLT α] [IntCast α]
    (trunc : α → Int) (σ : State) (x : α) (ops : List (Op α)) :
    (step trunc (run trunc (step trunc σ (.read x)).1 ops).1 (.read x)).2 = (step trunc σ (.read x)).2 :=
  (step_fresh trunc _ σ (.read x) ⟨defaultZ, 0⟩).2 x

/-- the zone codes −24 … +24 -/
def zoneCodes : List Int := (List.range 49).map (fun (n : Nat) => ((n : Int) - 24 : Int))

/-- reads back the sign and the two digits that `printZone` prints: a left inverse of it on the zone codes, which is
why distinct zones print differently -/
def readZone (s : String) : Int :=
  match s.toList with
  | [sg, d1, d2, ':', '0', '0'] => (if sg = '-' then -1 else 1) * (((d1.toNat - 48) * 10 + (d2.toNat - 48) : Nat) : Int)
  | _ => 0

/-- Z12: `printZone()` is `Z` exactly for zone 0, and distinct zones print differently (−24 … +24) -/
theorem printZone_inj : (∀ a ∈ zoneCodes, (printZone a = "Z" ↔ a = 0))
    ∧ ∀ a ∈ zoneCodes, ∀ b ∈ zoneCodes, printZone a = printZone b → a = b := by
  have hinv : ∀ a ∈ zoneCodes, readZone (printZone a) = a := by decide +kernel
  exact ⟨by decide +kernel, fun a ha b hb h => (hinv a ha).symm.trans ((congrArg readZone h).trans (hinv b hb))⟩

/-! ### non-vacuity of the zone statements -/

example : printZone 2 = "+02:00" ∧ printZone (-11) = "-11:00" ∧ printZone 0 = "Z" := by decide +kernel
example : timeWithZone ⟨⟨2018, 6, 15, 13, 21, 46, 0⟩, 2⟩ = "2018-06-15T13:21:46+02:00" := by decide +kernel
/-- 13:21:46 in zone +2 is 12:21:46 in zone +1 (the inputs of the seeded change C03-6); across a year boundary:
00:30 on 1 January in zone 0 is 23:30 on 31 December in zone −1 -/
example : convertToZoneMs ⟨⟨2018, 6, 15, 13, 21, 46⟩, 0⟩ 2 1 = ⟨⟨2018, 6, 15, 12, 21, 46⟩, 0⟩ := by decide +kernel
example : convertToZoneMs ⟨⟨2001, 1, 1, 0, 30, 0⟩, 7⟩ 0 (-1) = ⟨⟨2000, 12, 31, 23, 30, 0⟩, 7⟩ := by decide +kernel
/-- the hypotheses of Z3–Z6 hold of a non-trivial input -/
example : WFs ⟨⟨2018, 6, 15, 13, 21, 46⟩, 0⟩ ∧ 0 ≤ (toAbsMs ⟨⟨2018, 6, 15, 13, 21, 46⟩, 0⟩ : Int) + 3600000 * (1 - 2) := by
  refine ⟨by unfold WFs WF monthDays isLeap; decide, by decide +kernel⟩
/-- 2018-06-15 was a Friday (index 4) -/
example : (civilDays 2018 6 15 + 3) % 7 = 4 := by decide +kernel
/-- a program: read, overwrite the hour of the result, read again — two objects, the second one untouched -/
example : (run (α := Rat) (fun x => ⌊x⌋) State.empty [.read 86399, .set 0 3 0, .read 86399]).1.store
    = [⟨⟨1970, 1, 1, 0, 59, 59, 0⟩, 0⟩, ⟨⟨1970, 1, 1, 23, 59, 59, 0⟩, 0⟩] := by decide +kernel

/-! ## What stands on the other side of a comparison operator (`Model/ObsTimeOperand.lean`) -/

private theorem bool_of_iff {b : Bool} {p : Prop} [Decidable p] (h : b = true ↔ p) : b = decide p := by
  cases b <;> simp_all

/-- O1: with a timestamp of ANY class on either side (`ObsTime` itself or a class derived from it: `isinstance` is all
`__eq__` asks, the order operators ask nothing) the six operators `[<, >, ==, <=, >=, !=]` answer, on well-formed
stamps, what the order of the epoch milliseconds says: the class of neither operand is read. -/
theorem cmpO_inst (ca cb : Nat) (a b : Stamp) (ha : WFs a) (hb : WFs b) :
    cmpO ca a (.inst cb b)
      = [some (decide (toAbsMs a < toAbsMs b)), some (decide (toAbsMs a > toAbsMs b)),
         some (decide (toAbsMs a = toAbsMs b)), some (decide (toAbsMs a ≤ toAbsMs b)),
         some (decide (toAbsMs a ≥ toAbsMs b)), some (decide (toAbsMs a ≠ toAbsMs b))] := by
  show [some (ltS a b), some (gtS a b), some (eqS a b), some (leS a b), some (geS a b), some (neS a b)] = _
  rw [bool_of_iff (lt_iff a b ha hb), bool_of_iff (gt_iff a b ha hb), bool_of_iff (eq_iff a b ha hb),
    bool_of_iff (le_iff a b ha hb), bool_of_iff (ge_iff a b ha hb), bool_of_iff (ne_iff a b ha hb)]

/-- O2: an operand that is not a timestamp (`None`, a number, a string, a tuple of the fields …) is equal to no
timestamp and different from every one; the four order operators raise (`AttributeError` of `time.year`). No
hypothesis on the stamp. -/
theorem cmpO_other (c : Nat) (a : Stamp) :
    cmpO c a .other = [none, none, some false, none, none, some true] := rfl

/-- non-vacuity: an instance of the first derived class and a plain `ObsTime` on the same leap-day second; one second apart. -/
example : cmpO 1 ⟨⟨2020, 2, 29, 23, 59, 58⟩, 0⟩ (.inst 0 ⟨⟨2020, 2, 29, 23, 59, 58⟩, 0⟩)
    = [some false, some false, some true, some true, some true, some false] := by decide
example : cmpO 0 ⟨⟨2020, 2, 29, 23, 59, 58⟩, 0⟩ (.inst 2 ⟨⟨2020, 2, 29, 23, 59, 59⟩, 0⟩)
    = [some true, some false, some false, some true, some false, some true] := by decide

end TV.C03
