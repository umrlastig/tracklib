import TracklibVerif.Model.FilterExt
import TracklibVerif.Lemmas.FilterLocal
import Mathlib.Algebra.Order.Field.Basic
/-! # C15 — `Filter.execute` over Python's numbers (`Model/FilterExt.lean`)

`+` on `Ext α` is the join of the kinds number < `inf`, `-inf` < NaN (`Ext.below`), so a sum — a total of weights, an accumulator of a
cell — is classified by the kinds of its terms. A run of `filterWindowX` is described once (`filterWindowX_zeroDiv`, `filterWindowX_run`, `filterWindowX_ok`).
Then: weights that are all non-finite, as `kernel[i] /= norm` leaves them when the total is 0 or NaN, give NaN at every filtered index
(`nonfinite_weights_nan`, `list_zero_or_nan_total`); infinite samples under positive or non-negative finite weights
(`inf_sample_pinf`, `inf_sample_both_nan`). -/
namespace TV.C15
open TV.Filter
set_option linter.unusedSectionVars false

section ops
variable {α : Type} [Add α] [Mul α] [Div α] [OfNat α 0] [LT α] [DecidableLT α]

theorem Ext.add_def (x y : Ext α) : x + y = Ext.add x y := rfl
theorem Ext.mul_def (x y : Ext α) : x * y = Ext.mul x y := rfl
theorem Ext.div_def (x y : Ext α) : x / y = Ext.div x y := rfl
theorem Ext.zero_def : (0 : Ext α) = Ext.fin 0 := rfl

theorem Ext.mulInf_nonfin (a : α) (pos : Bool) : (Ext.mulInf a pos).isFin = false := by
  unfold Ext.mulInf Ext.sgnInf
  by_cases h1 : 0 < a <;> by_cases h2 : a < 0 <;> cases pos <;> simp [h1, h2, Ext.isFin]

/-- multiplying by a non-finite value gives a non-finite value (`0 * inf` is `nan`) -/
theorem Ext.mul_nonfin (x y : Ext α) (hy : y.isFin = false) : (x * y).isFin = false := by
  cases x <;> cases y <;> first | exact Ext.mulInf_nonfin _ _ | rfl | (simp [Ext.isFin] at hy)

theorem Ext.div_nonfin (x y : Ext α) (hx : x.isFin = false) (hy : y.isFin = false) : x / y = .nan := by
  cases x <;> cases y <;> simp_all [Ext.div_def, Ext.div, Ext.isFin]

theorem Ext.isZero_nonfin (x : Ext α) (hx : x.isFin = false) : x.isZero = false := by
  cases x <;> simp_all [Ext.isZero, Ext.isFin]

theorem Ext.nan_add (y : Ext α) : Ext.nan + y = .nan := by cases y <;> rfl
theorem Ext.add_nan (x : Ext α) : x + Ext.nan = .nan := by cases x <;> rfl

/-- The kinds of Python's floats as a lattice: a number is below `inf` and `-inf`, which are below NaN; `Ext.below x y` says that the kind of `x` is
below the kind of `y`. Addition is the join of the kinds (`Ext.below_add`, `Ext.add_below`). -/
def Ext.below (x y : Ext α) : Prop := y = .nan ∨ x.isFin = true ∨ x = y

theorem Ext.below_trans {x y z : Ext α} (h1 : Ext.below x y) (h2 : Ext.below y z) : Ext.below x z := by
  rcases h2 with h | h | rfl
  · exact Or.inl h
  · rcases h1 with rfl | h1 | rfl
    · cases h
    · exact Or.inr (Or.inl h1)
    · exact Or.inr (Or.inl h)
  · exact h1

theorem Ext.below_add (x y : Ext α) : Ext.below x (x + y) ∧ Ext.below y (x + y) := by
  cases x <;> cases y <;> simp [Ext.below, Ext.isFin, Ext.add_def, Ext.add]

theorem Ext.add_below {x y c : Ext α} (hx : Ext.below x c) (hy : Ext.below y c) : Ext.below (x + y) c := by
  cases x <;> cases y <;> simp_all [Ext.below, Ext.isFin, Ext.add_def, Ext.add]
  -- left: `inf + -inf` and `-inf + inf`, where only NaN is above both terms
  all_goals
    rcases hx with h | rfl
    · exact Or.inl h
    · exact Or.inl (hy.resolve_right (fun e => nomatch e))

theorem Ext.eq_nan_of_below {y : Ext α} (h : Ext.below .nan y) : y = .nan := by
  rcases h with h | h | h
  · exact h
  · cases h
  · exact h.symm

theorem Ext.nonfin_of_below {x y : Ext α} (h : Ext.below x y) (hx : x.isFin = false) : y.isFin = false := by
  rcases h with rfl | h | rfl
  · rfl
  · rw [hx] at h; cases h
  · exact hx

end ops

section sums
variable {α : Type} [Add α] [Mul α] [Div α] [OfNat α 0] [LT α] [DecidableLT α]

theorem below_foldl_add (l : List (Ext α)) : ∀ a : Ext α, ∀ x ∈ a :: l, Ext.below x (l.foldl (· + ·) a) := by
  induction l with
  | nil => intro a x hx; rw [List.mem_singleton.mp hx]; exact Or.inr (Or.inr rfl)
  | cons y l ih =>
    intro a x hx
    have hs := ih (a + y) (a + y) List.mem_cons_self
    rcases List.mem_cons.mp hx with rfl | hx
    · exact Ext.below_trans (Ext.below_add x y).1 hs
    · rcases List.mem_cons.mp hx with rfl | hx
      · exact Ext.below_trans (Ext.below_add a x).2 hs
      · exact ih (a + y) x (List.mem_cons_of_mem _ hx)

theorem foldl_add_below (l : List (Ext α)) (c : Ext α) (a : Ext α) (h : ∀ x ∈ a :: l, Ext.below x c) : Ext.below (l.foldl (· + ·) a) c :=
  List.foldlRecOn (motive := (Ext.below · c)) l _ (h a List.mem_cons_self) (fun _ hb x hx => Ext.add_below hb (h x (List.mem_cons_of_mem _ hx)))

theorem foldl_add_nonfin_of_mem (k : List (Ext α)) (w : Ext α) (hw : w ∈ k) (hnf : w.isFin = false) :
    ∀ x : Ext α, (k.foldl (· + ·) x).isFin = false :=
  fun x => Ext.nonfin_of_below (below_foldl_add k x w (List.mem_cons_of_mem _ hw)) hnf

theorem foldl_add_fin (k : List (Ext α)) : ∀ (a s : α), k.foldl (· + ·) (Ext.fin a) = Ext.fin s → ∀ w ∈ k, w.isFin = true := by
  intro a s h w hw
  cases hf : w.isFin with
  | true => rfl
  | false =>
    have h2 := foldl_add_nonfin_of_mem k w hw hf (Ext.fin a)
    rw [h] at h2
    cases h2

/-- `nan` is absorbing: a list holding a NaN has total NaN, from any start -/
theorem foldl_add_nan (k : List (Ext α)) (hk : Ext.nan ∈ k) : ∀ x : Ext α, k.foldl (· + ·) x = Ext.nan :=
  fun x => Ext.eq_nan_of_below (below_foldl_add k x _ (List.mem_cons_of_mem _ hk))

theorem foldl_add_both (l : List (Ext α)) (a : Ext α) (h1 : Ext.pinf ∈ a :: l) (h2 : Ext.ninf ∈ a :: l) : l.foldl (· + ·) a = Ext.nan := by
  rcases below_foldl_add l a _ h1 with h | h | h
  · exact h
  · cases h
  · rcases below_foldl_add l a _ h2 with h' | h' | h'
    · exact h'
    · cases h'
    · rw [← h] at h'; cases h'

theorem foldl_add_sgnInf (pos : Bool) (l : List (Ext α)) (a : Ext α)
    (hall : ∀ x ∈ a :: l, Ext.below x (Ext.sgnInf pos)) (hmem : Ext.sgnInf pos ∈ a :: l) : l.foldl (· + ·) a = Ext.sgnInf pos := by
  rcases below_foldl_add l a _ hmem with h | h | h
  · have := foldl_add_below l _ a hall
    rw [h] at this
    cases pos <;> exact absurd (Ext.eq_nan_of_below this) (fun e => nomatch e)
  · cases pos <;> cases h
  · exact h.symm
end sums

section loops
variable {β : Type} [Add β] [Mul β]

theorem inner_noSample (s : List (Option β)) (D i : Nat) (k : List β) :
    ∀ (j : Nat) (st : β × β), anySample s D i k j = false → inner s D i k j st = st := by
  intro j st h
  obtain ⟨t, n⟩ := st
  rw [anySample_eq] at h
  have e : windowFrom s D i k j = [] := by simpa using h
  rw [inner_eq_foldl, e]
  rfl

end loops

section filterX
variable {α : Type} [Add α] [Mul α] [Div α] [OfNat α 0] [LT α] [DecidableLT α]

theorem toSamples_length (v : List (Ext α)) : (toSamples v).length = v.length := by simp [toSamples]

/-- the loop with non-finite weights: once a sample was read both accumulators are non-finite -/
theorem inner_nonfin (s : List (Option (Ext α))) (D i : Nat) (k : List (Ext α)) (hk : ∀ w ∈ k, w.isFin = false)
    (h : anySample s D i k 0 = true) :
    (inner s D i k 0 (0, 0)).1.isFin = false ∧ (inner s D i k 0 (0, 0)).2.isFin = false := by
  obtain ⟨p, hp⟩ := (anySample_iff_exists_mem s k D i).mp h
  have hw := hk _ (window_weight_mem hp)
  rw [inner_eq_foldl]
  exact ⟨foldl_add_nonfin_of_mem _ _ (List.mem_map.mpr ⟨p, hp, rfl⟩) (Ext.mul_nonfin _ _ hw) _,
    foldl_add_nonfin_of_mem _ _ (List.mem_map.mpr ⟨p, hp, rfl⟩) hw _⟩

theorem filterWindowX_eq_run (v k : List (Ext α)) (boundary np : Bool) :
    filterWindowX v k boundary np = runCells v.length k.length (cells (toSamples v) k (k.length / 2))
      (fun c => (c.1.2.isZero && !np) || !anySample (toSamples v) (k.length / 2) c.2 k 0)
      (fun c => c.1 / c.2) (fun i => (v[i]?).getD .nan) (fun o => o.getD .nan) boundary := rfl

theorem cellsX_length (v k : List (Ext α)) (D : Nat) : (cells (toSamples v) k D).length = v.length :=
  (cells_length _ k D).trans (toSamples_length v)

/-- `temp[i] /= norm` raises at some index: a window that read no sample (the ints `0 / 0`), or with Python floats a norm equal to 0 -/
theorem filterWindowX_test_iff (v k : List (Ext α)) (np : Bool) :
    (cells (toSamples v) k (k.length / 2)).zipIdx.any
        (fun c => (c.1.2.isZero && !np) || !anySample (toSamples v) (k.length / 2) c.2 k 0) = true ↔
      ∃ i, i < v.length ∧ (anySample (toSamples v) (k.length / 2) i k 0 = false ∨
        (np = false ∧ (inner (toSamples v) (k.length / 2) i k 0 (0, 0)).2.isZero = true)) := by
  rw [cells_any, toSamples_length]
  apply exists_congr
  intro i
  cases np <;> simp [or_comm]

theorem filterWindowX_zeroDiv (v k : List (Ext α)) (boundary np : Bool) (hodd : k.length % 2 = 1) (i : Nat) (hi : i < v.length)
    (h : anySample (toSamples v) (k.length / 2) i k 0 = false ∨
      (np = false ∧ (inner (toSamples v) (k.length / 2) i k 0 (0, 0)).2.isZero = true)) :
    filterWindowX v k boundary np = .error .zeroDiv := by
  rw [filterWindowX_eq_run, runCells_eq (cellsX_length v k _) (fun _ => rfl), if_neg (by omega),
    if_pos ((filterWindowX_test_iff v k np).2 ⟨i, hi, h⟩)]

/-- odd window, every window reads a sample and (Python floats) collects a non-zero norm: no division raises, the run goes through to the
boundary copy, which fails on a track shorter than the half window (`filterWindowG_run` over Python's numbers) -/
theorem filterWindowX_run (v k : List (Ext α)) (boundary np : Bool) (hodd : k.length % 2 = 1)
    (hgood : ∀ i, i < v.length → anySample (toSamples v) (k.length / 2) i k 0 = true ∧
      (np = false → (inner (toSamples v) (k.length / 2) i k 0 (0, 0)).2.isZero = false)) :
    filterWindowX v k boundary np =
      if boundary = false ∧ v.length < k.length / 2 then .error .index
      else .ok (runOut v.length k.length (cells (toSamples v) k (k.length / 2)) (fun c => c.1 / c.2) (fun i => (v[i]?).getD .nan)
        (fun o => o.getD .nan) boundary) := by
  rw [filterWindowX_eq_run, runCells_eq (cellsX_length v k _) (fun _ => rfl), if_neg (by omega), if_neg]
  rw [filterWindowX_test_iff]
  rintro ⟨i, hi, h | ⟨h1, h2⟩⟩
  · rw [(hgood i hi).1] at h; cases h
  · rw [(hgood i hi).2 h1] at h2; cases h2

/-- odd window, no division raises, and a signal at least as long as the half window when boundaries are copied: the run returns the quotient
of the cell at every filtered index and the input in the copied boundaries -/
theorem filterWindowX_ok (v k : List (Ext α)) (boundary np : Bool) (hodd : k.length % 2 = 1)
    (hgood : ∀ i, i < v.length → anySample (toSamples v) (k.length / 2) i k 0 = true ∧
      (np = false → (inner (toSamples v) (k.length / 2) i k 0 (0, 0)).2.isZero = false))
    (hlen : boundary = false → k.length / 2 ≤ v.length) :
    ∃ out, filterWindowX v k boundary np = .ok out ∧ out.length = v.length ∧
      ∀ i, i < v.length →
        ((boundary = true ∨ (k.length / 2 ≤ i ∧ i < v.length - k.length / 2)) → out[i]? =
          some ((inner (toSamples v) (k.length / 2) i k 0 (0, 0)).1 / (inner (toSamples v) (k.length / 2) i k 0 (0, 0)).2)) ∧
        (boundary = false → (i < k.length / 2 ∨ v.length - k.length / 2 ≤ i) → out[i]? = v[i]?) := by
  refine ⟨?out, ?h, ?l, fun i hi => ?g⟩
  case h => rw [filterWindowX_run v k boundary np hodd hgood, if_neg (not_short hlen)]
  case l => exact runOut_length
  case g =>
    rw [runOut_getElem? (fun _ => rfl) i hi (by rw [cellsX_length]; exact hi), cells_getElem]
    exact ⟨fun hf => by rw [if_neg (not_copied_iff.mpr hf)], fun hb hc => by rw [if_pos ⟨hb, hc⟩, List.getElem?_eq_getElem hi]; rfl⟩

theorem filterWindowX_ok_getElem? (v k : List (Ext α)) (boundary np : Bool) (out : List (Ext α))
    (h : filterWindowX v k boundary np = .ok out) (i : Nat) (hi : i < v.length)
    (hfilt : boundary = true ∨ (k.length / 2 ≤ i ∧ i < v.length - k.length / 2)) :
    out[i]? = some ((inner (toSamples v) (k.length / 2) i k 0 (0, 0)).1 / (inner (toSamples v) (k.length / 2) i k 0 (0, 0)).2) := by
  rw [filterWindowX_eq_run] at h
  rw [runCells_ok (cellsX_length v k _) (fun _ => rfl) out h,
    runOut_getElem? (fun _ => rfl) i hi (by rw [cellsX_length]; exact hi), cells_getElem, if_neg (not_copied_iff.mpr hfilt)]

/-- **Weights that are all `inf` / `-inf` / `nan`** (what `kernel[i] /= norm` leaves when the total is 0 or NaN): every window that reads
at least one sample yields NaN (`±inf·x`, `nan·x` summed, divided by a sum of such weights: `inf/inf`, `nan/…`); a window that reads no
sample divides the untouched ints `0 / 0`: ZeroDivisionError. No law of arithmetic is used. -/
theorem nonfinite_weights_nan (v k : List (Ext α)) (boundary np : Bool) (hodd : k.length % 2 = 1) (hk : ∀ w ∈ k, w.isFin = false) :
    ((∃ i, i < v.length ∧ anySample (toSamples v) (k.length / 2) i k 0 = false) → filterWindowX v k boundary np = .error .zeroDiv) ∧
    ((∀ i, i < v.length → anySample (toSamples v) (k.length / 2) i k 0 = true) →
      (boundary = false → v.length < k.length / 2 → filterWindowX v k boundary np = .error .index) ∧
      ((boundary = true ∨ k.length / 2 ≤ v.length) →
        ∃ out, filterWindowX v k boundary np = .ok out ∧ out.length = v.length ∧
          ∀ i, i < v.length →
            ((boundary = true ∨ (k.length / 2 ≤ i ∧ i < v.length - k.length / 2)) → out[i]? = some .nan) ∧
            (boundary = false → (i < k.length / 2 ∨ v.length - k.length / 2 ≤ i) → out[i]? = v[i]?))) := by
  refine ⟨fun ⟨i, hi, hf⟩ => filterWindowX_zeroDiv v k boundary np hodd i hi (Or.inl hf), fun hall => ?_⟩
  have hnf := fun i hi => inner_nonfin (toSamples v) (k.length / 2) i k hk (hall i hi)
  have hgood : ∀ i, i < v.length → anySample (toSamples v) (k.length / 2) i k 0 = true ∧
      (np = false → (inner (toSamples v) (k.length / 2) i k 0 (0, 0)).2.isZero = false) :=
    fun i hi => ⟨hall i hi, fun _ => Ext.isZero_nonfin _ (hnf i hi).2⟩
  refine ⟨fun hb hlt => ?_, fun hor => ?_⟩
  · rw [filterWindowX_run v k boundary np hodd hgood, if_pos ⟨hb, hlt⟩]
  · obtain ⟨out, ho, hl, hget⟩ := filterWindowX_ok v k boundary np hodd hgood
      (fun hb => hor.resolve_left (by rw [hb]; exact Bool.false_ne_true))
    refine ⟨out, ho, hl, fun i hi => ⟨fun hf => ?_, (hget i hi).2⟩⟩
    rw [(hget i hi).1 hf, Ext.div_nonfin _ _ (hnf i hi).1 (hnf i hi).2]

theorem normalise_eq (k : List (Ext α)) : normalise k = k.map (· / k.foldl (· + ·) 0) := rfl

theorem forall_mem_normalise {P : Ext α → Prop} (k : List (Ext α)) (h : ∀ x ∈ k, P (x / k.foldl (· + ·) 0)) :
    ∀ w ∈ normalise k, P w := by
  intro w hw
  rw [normalise_eq, List.mem_map] at hw
  obtain ⟨x, hx, rfl⟩ := hw
  exact h x hx

theorem normalise_zero_total (k : List (Ext α)) (z : α) (h : k.foldl (· + ·) 0 = Ext.fin z) (h1 : ¬ 0 < z) (h2 : ¬ z < 0) :
    ∀ w ∈ normalise k, w.isFin = false := by
  refine forall_mem_normalise k (fun x hx => ?_)
  rw [h]
  have hfin := foldl_add_fin k 0 z h x hx
  cases x with
  | fin a =>
    have : (Ext.fin a / Ext.fin z : Ext α) = Ext.mulInf a true := by
      simp [Ext.div_def, Ext.div, h1, h2]
    rw [this]; exact Ext.mulInf_nonfin _ _
  | pinf | ninf | nan => simp [Ext.isFin] at hfin

theorem normalise_nan_total (k : List (Ext α)) (h : k.foldl (· + ·) 0 = Ext.nan) : ∀ w ∈ normalise k, w = .nan := by
  refine forall_mem_normalise k (fun x _ => ?_)
  rw [h]
  cases x <;> rfl

theorem nan_nonfin_of_all_nan (k : List (Ext α)) (h : ∀ w ∈ k, w = Ext.nan) : ∀ w ∈ k, w.isFin = false := by
  intro w hw; rw [h w hw]; rfl

theorem normalise_zero_or_nan_total (k : List (Ext α))
    (htot : (∃ z, k.foldl (· + ·) 0 = Ext.fin z ∧ ¬ 0 < z ∧ ¬ z < 0) ∨ k.foldl (· + ·) 0 = Ext.nan) :
    ∀ w ∈ normalise k, w.isFin = false := by
  rcases htot with ⟨z, h, h1, h2⟩ | h
  · exact normalise_zero_total k z h h1 h2
  · exact nan_nonfin_of_all_nan _ (normalise_nan_total k h)

theorem executeListX_ok {v k out : List (Ext α)} (h : filterWindowX v (normalise k) false true = .ok out) :
    executeListX v k = .ok (normalise k, out) := by
  unfold executeListX; simp only [h]

theorem executeListX_error {v k : List (Ext α)} {e : Err} (h : filterWindowX v (normalise k) false true = .error e) :
    executeListX v k = .error e := by
  unfold executeListX; simp only [h]

/-- **A weight list whose total is 0** (e.g. `[1,-1,0]`, `[0,0,0]`) **or NaN** (a NaN among the weights: a kernel given as the name of a feature
holding a NaN): `kernel[i] /= np.sum(np.array(kernel))` does not raise (numpy scalars); the caller's list is left holding only `inf`, `-inf`,
`nan`; the call fails with a ZeroDivisionError iff some window reads no sample at all (and with an IndexError below the half window);
otherwise it returns the copied boundary values and NaN at every filtered index — never a number. The property (a weighted mean) demands nothing
there: no renormalisation exists. -/
theorem list_zero_or_nan_total (v k : List (Ext α)) (hodd : k.length % 2 = 1)
    (htot : (∃ z, k.foldl (· + ·) 0 = Ext.fin z ∧ ¬ 0 < z ∧ ¬ z < 0) ∨ k.foldl (· + ·) 0 = Ext.nan) :
    (∀ w ∈ normalise k, w.isFin = false) ∧
    ((∃ i, i < v.length ∧ anySample (toSamples v) (k.length / 2) i (normalise k) 0 = false) → executeListX v k = .error .zeroDiv) ∧
    ((∀ i, i < v.length → anySample (toSamples v) (k.length / 2) i (normalise k) 0 = true) → k.length / 2 ≤ v.length →
        ∃ out, executeListX v k = .ok (normalise k, out) ∧ out.length = v.length ∧
          ∀ i, i < v.length →
            ((k.length / 2 ≤ i ∧ i < v.length - k.length / 2) → out[i]? = some .nan) ∧
            ((i < k.length / 2 ∨ v.length - k.length / 2 ≤ i) → out[i]? = v[i]?)) := by
  have hnf := normalise_zero_or_nan_total k htot
  obtain ⟨h1, h2⟩ := nonfinite_weights_nan v (normalise k) false true (by rw [normalise_length]; exact hodd) hnf
  rw [normalise_length] at h1 h2
  refine ⟨hnf, ?_, ?_⟩
  · exact fun h => executeListX_error (h1 h)
  · intro hall hD
    obtain ⟨out, ho, hl, hi⟩ := (h2 hall).2 (Or.inr hD)
    refine ⟨out, ?_, hl, ?_⟩
    · exact executeListX_ok ho
    · intro i hi'
      obtain ⟨a, b⟩ := hi i hi'
      exact ⟨fun h => a (Or.inr h), b rfl⟩

example : executeListX (α := Int) [.fin 1, .fin 2, .fin 3, .fin 4, .fin 5] [.fin 1, .fin (-1), .fin 0]
    = .ok ([.pinf, .ninf, .nan], [.fin 1, .nan, .nan, .nan, .fin 5]) := by decide +kernel

example : executeListX (α := Int) [.fin 1, .fin 2, .fin 3] [.fin 1, .nan, .fin 0]
    = .ok ([.nan, .nan, .nan], [.fin 1, .nan, .fin 3]) := by decide +kernel

end filterX
section ordered
variable {α : Type} [Field α] [LinearOrder α] [IsStrictOrderedRing α]

/-- `isnan(val)` → skipped: the loop never reads a NaN -/
theorem sample_toSamples_ne_nan (v : List (Ext α)) (D i j : Nat) : sample (toSamples v) D i j ≠ some .nan := by
  rw [sample_eq, Ne, val?_eq_some, toSamples, List.getElem?_map]
  rcases v[i + D - j]? with _ | x
  · nofun
  · cases x <;> nofun

theorem Ext.ok_mul_nonneg (x : Ext α) (w : α) (hx1 : x ≠ .ninf) (hx2 : x ≠ .nan) (hxw : x = .pinf → 0 < w) :
    Ext.below (x * Ext.fin w) .pinf ∧ (x = .pinf → x * Ext.fin w = .pinf) := by
  cases x <;> simp_all [Ext.below, Ext.isFin, Ext.mul_def, Ext.mul, Ext.mulInf, Ext.sgnInf]

theorem Ext.inf_mul_pos (pos : Bool) (w : α) (hw : 0 < w) : (Ext.sgnInf pos : Ext α) * Ext.fin w = Ext.sgnInf pos := by
  cases pos <;> simp [Ext.mul_def, Ext.mul, Ext.mulInf, Ext.sgnInf, hw]

theorem foldl_add_fin_nonneg (l : List (Ext α)) (hl : ∀ x ∈ l, ∃ w, x = Ext.fin w ∧ 0 ≤ w) :
    ∀ a : α, ∃ n, l.foldl (· + ·) (Ext.fin a) = Ext.fin n ∧ a ≤ n ∧ ∀ w, 0 < w → Ext.fin w ∈ l → a < n := by
  induction l with
  | nil => intro a; exact ⟨a, rfl, le_refl _, fun _ _ h => nomatch h⟩
  | cons x l ih =>
    intro a
    obtain ⟨w, rfl, hw⟩ := hl x List.mem_cons_self
    obtain ⟨n, h1, h2, h3⟩ := ih (fun y hy => hl y (List.mem_cons_of_mem _ hy)) (a + w)
    refine ⟨n, h1, le_trans (le_add_of_nonneg_right hw) h2, fun w' hw' hmem => ?_⟩
    rcases List.mem_cons.mp hmem with e | hmem
    · cases e; exact lt_of_lt_of_le (lt_add_of_pos_right a hw') h2
    · exact lt_of_le_of_lt (le_add_of_nonneg_right hw) (h3 w' hw' hmem)

theorem mem_window_fin {s : List (Option (Ext α))} {D i : Nat} {ws : List α} {p : Ext α × Ext α}
    (h : p ∈ window s (ws.map Ext.fin) D i) : ∃ j, ∃ hj : j < ws.length, p.1 = Ext.fin ws[j] ∧ sample s D i j = some p.2 := by
  obtain ⟨j, hk, hs⟩ := (mem_window_iff_sample s _ D i p).mp h
  obtain ⟨hj, e⟩ := List.getElem?_eq_some_iff.mp hk
  rw [List.length_map] at hj
  exact ⟨j, hj, by rw [← e, List.getElem_map], hs⟩

theorem mem_window_fin_of_sample (s : List (Option (Ext α))) (D i : Nat) (ws : List α) (j : Nat) (hj : j < ws.length) (x : Ext α)
    (hs : sample s D i j = some x) : (Ext.fin ws[j], x) ∈ window s (ws.map Ext.fin) D i :=
  (mem_window_iff_sample s _ D i _).mpr ⟨j, by rw [List.getElem?_map, List.getElem?_eq_getElem hj]; rfl, hs⟩

/-- non-negative finite weights: the collected norm is a number, positive once a sample was read under a positive weight -/
theorem inner_norm_nonneg (s : List (Option (Ext α))) (D i : Nat) (ws : List α) (hnn : ∀ w ∈ ws, 0 ≤ w)
    (a : Nat) (ha : a < ws.length) (hsa : (sample s D i a).isSome = true) (hwa : 0 < ws[a]) :
    ∃ n', (inner s D i (ws.map Ext.fin) 0 (0, 0)).2 = Ext.fin n' ∧ 0 < n' := by
  obtain ⟨x, hx⟩ := Option.isSome_iff_exists.mp hsa
  rw [inner_eq_foldl]
  obtain ⟨n, h1, _, h3⟩ := foldl_add_fin_nonneg ((window s (ws.map Ext.fin) D i).map (·.1))
    (fun y hy => by
      obtain ⟨p, hp, rfl⟩ := List.mem_map.mp hy
      obtain ⟨j, hj, e, _⟩ := mem_window_fin hp
      exact ⟨ws[j], e, hnn _ (List.getElem_mem hj)⟩) 0
  exact ⟨n, h1, h3 ws[a] hwa (List.mem_map.mpr ⟨_, mem_window_fin_of_sample s D i ws a ha x hx, rfl⟩)⟩

/-- non-negative finite weights, no `-inf` / NaN sample, every `+inf` sample under a positive weight: the sum of products stays a number
or `+inf`, and is `+inf` once a `+inf` sample is read -/
theorem inner_temp_nonneg_pinf (s : List (Option (Ext α))) (D i : Nat) (ws : List α)
    (hs' : ∀ m, m < ws.length → sample s D i m ≠ some .ninf ∧ sample s D i m ≠ some .nan)
    (hpw : ∀ m, ∀ h : m < ws.length, sample s D i m = some .pinf → 0 < ws[m])
    (a : Nat) (ha : a < ws.length) (hsa : sample s D i a = some .pinf) :
    (inner s D i (ws.map Ext.fin) 0 (0, 0)).1 = .pinf := by
  rw [inner_eq_foldl]
  have hterm : ∀ p ∈ window s (ws.map Ext.fin) D i, Ext.below (p.2 * p.1) .pinf ∧ (p.2 = .pinf → p.2 * p.1 = .pinf) := by
    intro p hp
    obtain ⟨j, hj, e, hs⟩ := mem_window_fin hp
    rw [e]
    exact Ext.ok_mul_nonneg p.2 ws[j] (fun h => (hs' j hj).1 (by rw [hs, h])) (fun h => (hs' j hj).2 (by rw [hs, h]))
      (fun h => hpw j hj (by rw [hs, h]))
  refine foldl_add_sgnInf true _ _ (fun y hy => ?_) (List.mem_cons_of_mem _ ?_)
  · rcases List.mem_cons.mp hy with rfl | hy
    · exact Or.inr (Or.inl rfl)
    · obtain ⟨p, hp, rfl⟩ := List.mem_map.mp hy
      exact (hterm p hp).1
  · exact List.mem_map.mpr ⟨_, mem_window_fin_of_sample s D i ws a ha _ hsa,
      (hterm _ (mem_window_fin_of_sample s D i ws a ha _ hsa)).2 rfl⟩

/-- **Non-negative weights, a `+inf` sample, no `-inf` sample, every infinite sample under a positive weight**: the output is `+inf`
(a zero weight on a finite sample adds `0`). -/
theorem inf_sample_pinf_nonneg_weights (v : List (Ext α)) (ws : List α) (boundary np : Bool) (hnn : ∀ w ∈ ws, 0 ≤ w) (out : List (Ext α))
    (h : filterWindowX v (ws.map .fin) boundary np = .ok out) (i : Nat) (hi : i < v.length)
    (hfilt : boundary = true ∨ (ws.length / 2 ≤ i ∧ i < v.length - ws.length / 2))
    (hp : ∃ j, j < ws.length ∧ sample (toSamples v) (ws.length / 2) i j = some .pinf)
    (hpw : ∀ j, j < ws.length → sample (toSamples v) (ws.length / 2) i j = some .pinf → ∃ w, ws[j]? = some w ∧ 0 < w)
    (hn : ∀ j, j < ws.length → sample (toSamples v) (ws.length / 2) i j ≠ some .ninf) :
    out[i]? = some .pinf := by
  obtain ⟨jp, hjp1, hjp2⟩ := hp
  have hpos : ∀ m, ∀ h : m < ws.length, sample (toSamples v) (ws.length / 2) i m = some .pinf → 0 < ws[m] := by
    intro m h hsm
    obtain ⟨w, hw, hw0⟩ := hpw m h hsm
    rw [List.getElem?_eq_getElem h] at hw
    rw [Option.some.inj hw]
    exact hw0
  obtain ⟨n', hA1, hn'⟩ := inner_norm_nonneg (toSamples v) (ws.length / 2) i ws hnn jp hjp1 (by rw [hjp2]; rfl) (hpos jp hjp1 hjp2)
  rw [filterWindowX_ok_getElem? v (ws.map Ext.fin) boundary np out h i hi (by rw [List.length_map]; exact hfilt), List.length_map,
    inner_temp_nonneg_pinf (toSamples v) (ws.length / 2) i ws (fun m hm => ⟨hn m hm, sample_toSamples_ne_nan v _ _ _⟩) hpos
      jp hjp1 hjp2, hA1]
  simp [Ext.div_def, Ext.div, not_lt_of_gt hn']

/-- **A window holding `+inf` samples and no `-inf`, all weights positive**: the output is `+inf` (`w·inf = inf`, `inf + x = inf`, `inf / Σw = inf`).
With Python floats or numpy scalars alike. -/
theorem inf_sample_pinf (v : List (Ext α)) (ws : List α) (boundary np : Bool) (hpos : ∀ w ∈ ws, 0 < w) (out : List (Ext α))
    (h : filterWindowX v (ws.map .fin) boundary np = .ok out) (i : Nat) (hi : i < v.length)
    (hfilt : boundary = true ∨ (ws.length / 2 ≤ i ∧ i < v.length - ws.length / 2))
    (hp : ∃ j, j < ws.length ∧ sample (toSamples v) (ws.length / 2) i j = some .pinf)
    (hn : ∀ j, j < ws.length → sample (toSamples v) (ws.length / 2) i j ≠ some .ninf) :
    out[i]? = some .pinf :=
  inf_sample_pinf_nonneg_weights v ws boundary np (fun w hw => le_of_lt (hpos w hw)) out h i hi hfilt hp
    (fun j hj _ => ⟨ws[j], List.getElem?_eq_getElem hj, hpos _ (List.getElem_mem hj)⟩) hn

/-- positive finite weights: a `+inf` and a `-inf` sample both reach the sum of products, which is NaN -/
theorem inner_temp_nan (s : List (Option (Ext α))) (D i : Nat) (ws : List α) (hpos : ∀ w ∈ ws, 0 < w)
    (jp : Nat) (hjp : jp < ws.length) (hsp : sample s D i jp = some .pinf)
    (jn : Nat) (hjn : jn < ws.length) (hsn : sample s D i jn = some .ninf) :
    (inner s D i (ws.map Ext.fin) 0 (0, 0)).1 = .nan := by
  have hmem : ∀ (pos : Bool) (j : Nat) (hj : j < ws.length), sample s D i j = some (Ext.sgnInf pos) →
      Ext.sgnInf pos ∈ (window s (ws.map Ext.fin) D i).map (fun p => p.2 * p.1) := fun pos j hj hs =>
    List.mem_map.mpr ⟨_, mem_window_fin_of_sample s D i ws j hj _ hs, Ext.inf_mul_pos pos _ (hpos _ (List.getElem_mem hj))⟩
  rw [inner_eq_foldl]
  exact foldl_add_both _ _ (List.mem_cons_of_mem _ (hmem true jp hjp hsp)) (List.mem_cons_of_mem _ (hmem false jn hjn hsn))

/-- **A window holding both a `+inf` and a `-inf` sample, all weights positive**: the output is NaN (`inf + -inf`), and no exception is raised. -/
theorem inf_sample_both_nan (v : List (Ext α)) (ws : List α) (boundary np : Bool) (hpos : ∀ w ∈ ws, 0 < w) (out : List (Ext α))
    (h : filterWindowX v (ws.map .fin) boundary np = .ok out) (i : Nat) (hi : i < v.length)
    (hfilt : boundary = true ∨ (ws.length / 2 ≤ i ∧ i < v.length - ws.length / 2))
    (hp : ∃ j, j < ws.length ∧ sample (toSamples v) (ws.length / 2) i j = some .pinf)
    (hn : ∃ j, j < ws.length ∧ sample (toSamples v) (ws.length / 2) i j = some .ninf) :
    out[i]? = some .nan := by
  obtain ⟨jp, hjp1, hjp2⟩ := hp
  obtain ⟨jn, hjn1, hjn2⟩ := hn
  rw [filterWindowX_ok_getElem? v (ws.map Ext.fin) boundary np out h i hi (by rw [List.length_map]; exact hfilt), List.length_map,
    inner_temp_nan (toSamples v) (ws.length / 2) i ws hpos jp hjp1 hjp2 jn hjn1 hjn2]
  rfl

example : filterWindowX (α := Int) [.fin 1, .pinf, .fin 3] [.fin 1, .fin 1, .fin 1] true false = .ok [.pinf, .pinf, .pinf] := by decide +kernel

example : filterWindowX (α := Int) [.pinf, .fin 0, .ninf] [.fin 1, .fin 1, .fin 1] true false = .ok [.pinf, .nan, .ninf] := by decide +kernel

end ordered
end TV.C15
