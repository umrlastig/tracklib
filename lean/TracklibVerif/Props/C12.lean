import TracklibVerif.Lemmas.Partition
import TracklibVerif.Lemmas.PartitionArr
import TracklibVerif.Lemmas.PartitionFront
import TracklibVerif.Lemmas.PartitionRound
import TracklibVerif.Lemmas.PartitionStops
import Mathlib.Algebra.Order.Group.Int
import Mathlib.Algebra.Order.Field.Rat
set_option linter.unusedSectionVars false
/-! # C12 — optimal partitioning returns a global optimum for the requested direction

The property theorems, the chain T1/T2 go through (`partition_tree` → `bracketed_dir` → `optimal_dir`, the direction a parameter) and
the documented stop test the T3 statements are about (`stopsAdmitted`, `stopsDocumented`). Helpers: `Lemmas/PartitionTable.lean` — the in-place table form equals the function
form; `Lemmas/PartitionArr.lean` — the array form run by the driver equals the table form; `Lemmas/Partition.lean` —
directions, optimality of the function form over bracketed sums (no associativity), the bracketing `backtracking` follows,
chains as the right-nested bracketings; `Lemmas/PartitionRound.lean` — rounding error of a bracketed sum;
`Lemmas/PartitionFront.lean` — the call protocol and the matrices built by the front ends. The model is `Model/Partition.lean`; `optimalPartition 0 rows C mode` is the table form run by the driver, with the
code's convention `N = rows − 1` break candidates `0 … N−1` (hypothesis `3 ≤ rows` = at least two candidates).
T1/T2 (`result_shape`, `optimal_min`, `optimal_max`): costs in any linearly ordered additive commutative monoid (ℕ, ℤ, ℚ, ℝ:
exact arithmetic; the shape alone for any addition: `partition_shape`). `optimal_bracketed`: any monotone addition, no associativity — the statement that holds for IEEE
doubles without NaN. T3: the front ends `optimalSegmentation` (call protocol of the cost function, requested parameter,
matrix construction), `optimalSimplification`, `simplify` modes 4–8 and `findStopsGlobal`, each composed with T1/T2.
`findStopsGlobal` twice: with its tests as abstract predicates (`stops_matrix`, `stops_documented`, `stops_optimal`), and read
from the track (`Lemmas/PartitionStops.lean`; ordered commutative ring): `stops_planimetric` (the altitude is never read),
`stops_criterion` (the reward matrix is the documented one — enclosing circle and duration only: the row loop's early exit is
sound for the PLANIMETRIC distance), `stops_fit_in_circle`, `stops_track_optimal`, `stops_final_filter`, `find_stops_global`
(caller's arguments → stops returned, `downsampling` included) and `find_stops_global_checked` (its hypothesis on the circles
as the certificate `enclosedB` the driver evaluates on every case). Lists are Python lists of indices.
Further property theorems: `Props/C12MinCircle.lean` (`minCircle` as modelled: the two findings as theorems, what is guaranteed),
`Props/C12MinCircleStops.lean` (the reward matrix with `minCircle` as modelled), `Props/C12Dispatch.lean` (`findStops`),
`Props/C12Collection.lean` (`TrackCollection.simplify`), `Props/C12Round.lean` (rounded addition = rounding of the exact sum). -/
namespace TV.C12
open TV.Partition
variable {α : Type} [AddCommMonoid α] [LinearOrder α] [IsOrderedAddMonoid α]

/-- the split table records a bracketing `t` of the returned list whose value is the table entry `D[0, N−1]`, which is the
function form's value (any addition; every `mode`, also outside {0, 1}) -/
theorem partition_tree {β : Type} [Add β] [LT β] [DecidableLT β] (zero : β) (rows : Nat) (C : Nat → Nat → β) (mode : Nat)
    (h : 3 ≤ rows) :
    ∃ t : Br, t.WF ∧ t.lo = 0 ∧ t.hi = rows - 2 ∧ t.chain = optimalPartition zero rows C mode ∧
      t.val C = (tables zero rows C mode).D 0 (rows - 2) ∧
      (tables zero rows C mode).D 0 (rows - 2) = (opt (better mode) (· + ·) C (rows - 1) 0 (rows - 2)).1 := by
  have hD := (fill_spec zero mode (rows - 1) C 0 (rows - 2) (by omega) (by omega)).1
  obtain ⟨wf, lo, hi, ch, v⟩ := btTree_spec C (better mode) (rows - 1) (tables zero rows C mode).M
    (fun a b hab hb => (fill_spec zero mode (rows - 1) C a b hab hb).2) (rows - 1) 0 (rows - 2) (by omega) (by omega) (by omega)
  refine ⟨_, wf, lo, hi, ?_, v.trans hD.symm, hD⟩
  rw [ch]; unfold optimalPartition backward; rw [show rows - 1 - 1 = rows - 2 by omega]

/-- the shape of the result owes nothing to the arithmetic: any addition, any test `<` (IEEE doubles, NaN included) -/
theorem partition_shape {β : Type} [Add β] [LT β] [DecidableLT β] (zero : β) (rows : Nat) (C : Nat → Nat → β) (mode : Nat)
    (h : 3 ≤ rows) :
    (optimalPartition zero rows C mode).head? = some 0 ∧
    (optimalPartition zero rows C mode).getLast? = some (rows - 2) ∧
    (optimalPartition zero rows C mode).Pairwise (· < ·) := by
  obtain ⟨t, wf, lo, hi, ch, _⟩ := partition_tree zero rows C mode h
  obtain ⟨rest, e, hl, hinc, _⟩ := br_chain_cost (fun _ _ => (0 : Nat)) t wf
  rw [lo] at e hl hinc
  rw [← ch, e]
  exact ⟨rfl, by rw [hl, hi], hinc⟩

/-- **T1 `result_shape`**: for every matrix and every mode the result starts at the first candidate `0`, ends
at the last candidate `N − 1 = rows − 2`, and is strictly increasing. -/
theorem result_shape (rows : Nat) (C : Nat → Nat → α) (mode : Nat) (h : 3 ≤ rows) :
    (optimalPartition 0 rows C mode).head? = some 0 ∧
    (optimalPartition 0 rows C mode).getLast? = some (rows - 2) ∧
    (optimalPartition 0 rows C mode).Pairwise (· < ·) :=
  partition_shape 0 rows C mode h

/-- both directions at once, for ANY addition: the value of the recorded bracketing is at least as good (`R`) as every
bracketing of every chain -/
theorem bracketed_dir {β : Type} [Add β] [LT β] [DecidableLT β] {R : β → β → Prop} (zero : β) (rows : Nat)
    (C : Nat → Nat → β) (mode : Nat) (hd : Dir (better (α := β) mode) R) (h : 3 ≤ rows) :
    ∃ t : Br, t.WF ∧ t.lo = 0 ∧ t.hi = rows - 2 ∧ t.chain = optimalPartition zero rows C mode ∧
      t.val C = (tables zero rows C mode).D 0 (rows - 2) ∧
      ∀ t' : Br, t'.WF → t'.lo = 0 → t'.hi = rows - 2 → R (t.val C) (t'.val C) := by
  obtain ⟨t, wf, lo, hi, ch, v, hD⟩ := partition_tree zero rows C mode h
  refine ⟨t, wf, lo, hi, ch, v, fun t' wf' lo' hi' => ?_⟩
  have := opt_bound_br hd C (rows - 1) t' wf' (by omega)
  rwa [lo', hi', ← hD, ← v] at this

/-- both directions at once, against a criterion `C'` that the matrix `C` holds above the diagonal: the result is at least as
good (`R`) as every chain (chains are the right-nested bracketings; with an associative addition the value of a bracketing is
the summed cost of its chain) -/
theorem optimal_dir {R : α → α → Prop} (rows : Nat) (C C' : Nat → Nat → α) (mode : Nat)
    (hd : Dir (better (α := α) mode) R) (h : 3 ≤ rows) (hC : ∀ a b, a < b → b ≤ rows - 2 → C a b = C' a b)
    (π : List Nat) (h0 : π.head? = some 0) (hN : π.getLast? = some (rows - 2)) (hinc : π.Pairwise (· < ·)) :
    R (pathCost 0 C' (optimalPartition 0 rows C mode)) (pathCost 0 C' π) := by
  obtain ⟨t, wf, _, hi, ch, _, hopt⟩ := bracketed_dir 0 rows C mode hd h
  obtain ⟨t', wf', lo', hi', rfl⟩ := chain_bracketing h0 hN hinc (by omega)
  have := hopt t' wf' lo' hi'
  rwa [t.val_congr hC wf hi.le, t'.val_congr hC wf' hi'.le, t.val_eq_pathCost C' wf, t'.val_eq_pathCost C' wf', ch] at this

/-- **T2 `optimal_min`**: with `mode = MODE_SEGMENTATION_MINIMIZE` (0) the summed segment cost of the result is
the minimum over ALL strictly increasing index lists from the first to the last candidate. -/
theorem optimal_min (rows : Nat) (C : Nat → Nat → α) (h : 3 ≤ rows)
    (π : List Nat) (h0 : π.head? = some 0) (hN : π.getLast? = some (rows - 2)) (hinc : π.Pairwise (· < ·)) :
    pathCost 0 C (optimalPartition 0 rows C 0) ≤ pathCost 0 C π :=
  optimal_dir rows C C 0 dir_min h (fun _ _ _ _ => rfl) π h0 hN hinc

/-- **T2 `optimal_max`**: with `mode = MODE_SEGMENTATION_MAXIMIZE` (1) it is the maximum. -/
theorem optimal_max (rows : Nat) (C : Nat → Nat → α) (h : 3 ≤ rows)
    (π : List Nat) (h0 : π.head? = some 0) (hN : π.getLast? = some (rows - 2)) (hinc : π.Pairwise (· < ·)) :
    pathCost 0 C (optimalPartition 0 rows C 1) ≥ pathCost 0 C π :=
  optimal_dir rows C C 1 dir_max h (fun _ _ _ _ => rfl) π h0 hN hinc

/-- table form = function form: the value left in `D[0, N−1]` by the in-place dynamic programme is the value of
the interval recursion `opt`, and it is the summed cost of the returned list. -/
theorem table_value (rows : Nat) (C : Nat → Nat → α) (mode : Nat) (h : 3 ≤ rows) :
    (tables 0 rows C mode).D 0 (rows - 2) = (opt (better mode) (· + ·) C (rows - 1) 0 (rows - 2)).1 ∧
    pathCost 0 C (optimalPartition 0 rows C mode) = (tables 0 rows C mode).D 0 (rows - 2) := by
  obtain ⟨t, wf, _, _, ch, v, hD⟩ := partition_tree 0 rows C mode h
  exact ⟨hD, by rw [← ch, ← t.val_eq_pathCost C wf, v]⟩

/-- array form = function-table form: the programme run by the driver on real two-dimensional arrays
(`Array (Array _)` for numpy's `D` and `M`, in-place `D[i,j] = v`) returns the same list and leaves the same
tables as the function-table form the theorems above are about. -/
theorem array_form (rows : Nat) (C : Nat → Nat → α) (mode : Nat) :
    optimalPartitionA 0 rows C mode = optimalPartition 0 rows C mode ∧
    absT 0 (tablesA 0 rows C mode) = tables 0 rows C mode :=
  ⟨optimalPartitionA_eq 0 rows C mode, tablesA_eq 0 rows C mode⟩

/-- **T2 `optimal_bracketed`** — optimality that does NOT use associativity or commutativity of `+`, hence valid for IEEE
doubles (without NaN), whose addition is monotone (`a ≤ b → c ≤ d → a + c ≤ b + d`) but not associative. A *bracketing*
`Br` is a way of summing the segment costs of a chain (`Br.chain`) pairwise (`Br.val`). For MINIMIZE (resp. MAXIMIZE): the
split table `M` records a bracketing of the returned list whose value is exactly `D[0, N−1]`, and this value is `≤`
(resp. `≥`) the value of EVERY bracketing of EVERY strictly increasing list from `0` to `N−1` — in particular the
left-to-right and right-to-left sums of every chain. (What this leaves to sampling for doubles: the distance between two
bracketings of the same chain, a few ulps of the summed absolute costs.) -/
theorem optimal_bracketed {β : Type} [Add β] [LinearOrder β]
    (hmono : ∀ a b c d : β, a ≤ b → c ≤ d → a + c ≤ b + d) (zero : β) (rows : Nat) (C : Nat → Nat → β) (h : 3 ≤ rows) :
    (∃ t : Br, t.WF ∧ t.lo = 0 ∧ t.hi = rows - 2 ∧ t.chain = optimalPartition zero rows C 0 ∧
      t.val C = (tables zero rows C 0).D 0 (rows - 2) ∧
      ∀ t' : Br, t'.WF → t'.lo = 0 → t'.hi = rows - 2 → t.val C ≤ t'.val C) ∧
    (∃ t : Br, t.WF ∧ t.lo = 0 ∧ t.hi = rows - 2 ∧ t.chain = optimalPartition zero rows C 1 ∧
      t.val C = (tables zero rows C 1).D 0 (rows - 2) ∧
      ∀ t' : Br, t'.WF → t'.lo = 0 → t'.hi = rows - 2 → t.val C ≥ t'.val C) :=
  ⟨bracketed_dir zero rows C 0 (dir_min_of_mono hmono) h, bracketed_dir zero rows C 1 (dir_max_of_mono hmono) h⟩

/-- **T2 `optimal_rounded`** — optimality up to rounding in the standard model of floating-point arithmetic. `F` is the
set of machine numbers with its rounded addition `+` and its order, `ι : F → β` their exact values in an ordered field,
with `ι` monotone, `+` monotone, and `|ι (a + b) − (ι a + ι b)| ≤ u · |ι a + ι b|` (IEEE doubles without NaN and without
overflow: `u = 2⁻⁵³`; nothing is assumed about associativity). Then the EXACT summed cost of the list returned in MINIMIZE
mode exceeds the exact summed cost of any other chain `π` by at most `ε · (Σ|cost| along the result + Σ|cost| along π)`
with `ε = (1+u)^(N−2) − 1 ≈ (N−2)·u`; symmetrically for MAXIMIZE. This is the tolerance shape of the transfer check on
doubles (there with the generous `ε = 10⁻⁹`). -/
theorem optimal_rounded {F β : Type} [Add F] [LinearOrder F] [Field β] [LinearOrder β] [IsStrictOrderedRing β]
    (ι : F → β) (u : β) (hu : 0 ≤ u)
    (hι : ∀ a b : F, a ≤ b → ι a ≤ ι b)
    (hmono : ∀ a b c d : F, a ≤ b → c ≤ d → a + c ≤ b + d)
    (herr : ∀ a b : F, |ι (a + b) - (ι a + ι b)| ≤ u * |ι a + ι b|)
    (zero : F) (rows : Nat) (C : Nat → Nat → F) (h : 3 ≤ rows)
    (π : List Nat) (h0 : π.head? = some 0) (hN : π.getLast? = some (rows - 2)) (hinc : π.Pairwise (· < ·)) :
    let c : Nat → Nat → β := fun a b => ι (C a b)
    let ac : Nat → Nat → β := fun a b => |ι (C a b)|
    let ε : β := (1 + u) ^ (rows - 3) - 1
    pathCost 0 c (optimalPartition zero rows C 0) ≤
      pathCost 0 c π + ε * (pathCost 0 ac (optimalPartition zero rows C 0) + pathCost 0 ac π) ∧
    pathCost 0 c π ≤
      pathCost 0 c (optimalPartition zero rows C 1) + ε * (pathCost 0 ac (optimalPartition zero rows C 1) + pathCost 0 ac π) := by
  intro c ac ε
  obtain ⟨t', wf', lo', hi', rfl⟩ := chain_bracketing h0 hN hinc (by omega)
  have hn' : t'.hi - t'.lo ≤ rows - 3 + 1 := by omega
  constructor
  · obtain ⟨t, wf, lo, hi, ch, _, hopt⟩ := bracketed_dir zero rows C 0 (dir_min_of_mono hmono) h
    rw [← ch]
    exact br_exact_le ι u hu herr C t t' wf wf' (rows - 3) (by omega) hn' (hι _ _ (hopt t' wf' lo' hi'))
  · obtain ⟨t, wf, lo, hi, ch, _, hopt⟩ := bracketed_dir zero rows C 1 (dir_max_of_mono hmono) h
    rw [← ch, add_comm (pathCost 0 ac t.chain)]
    exact br_exact_le ι u hu herr C t' t wf' wf (rows - 3) hn' (by omega) (hι _ _ (hopt t' wf' lo' hi'))

/-- **matrix construction** of `optimalSegmentation`: the two nested loops with in-place assignment followed by
`C + C.T` (loop form `segMatrixL`) build the closed form `segMatrix`, which is symmetric, holds
`cost(track, a, b−1)` at every pair of candidates `a < b ≤ size−2`, twice `cost(track, a, a−1)` on the diagonal
(`a < size−2`; never read by `optimalPartition`) and `0` in the last row and column (outside the `N × N` block). -/
theorem seg_matrix (size : Nat) (cost : Nat → Int → α) :
    segMatrixL 0 size cost = segMatrix 0 size cost ∧
    (∀ a b, segMatrix 0 size cost a b = segMatrix 0 size cost b a) ∧
    (∀ a b, a < b → b ≤ size - 2 → 3 ≤ size → segMatrix 0 size cost a b = cost a ((b : Int) - 1)) ∧
    (∀ a, a + 2 < size → segMatrix 0 size cost a a = cost a ((a : Int) - 1) + cost a ((a : Int) - 1)) ∧
    (∀ a, segMatrix 0 size cost a (size - 1) = 0 ∧ segMatrix 0 size cost (size - 1) a = 0) := by
  refine ⟨segMatrixL_eq 0 size cost, ?_, ?_, ?_, ?_⟩
  · intro a b; simp only [segMatrix]; exact add_comm _ _
  · intro a b hab hb hs
    unfold segMatrix
    have h1 : a + 2 < size ∧ a ≤ b ∧ b + 1 < size := by omega
    have h2 : ¬ (b + 2 < size ∧ b ≤ a ∧ a + 1 < size) := by omega
    simp only [if_pos h1, if_neg h2, add_zero]
  · intro a ha
    unfold segMatrix
    have h1 : a + 2 < size ∧ a ≤ a ∧ a + 1 < size := by omega
    simp only [if_pos h1]
  · intro a
    unfold segMatrix
    have h1 : ¬ (a + 2 < size ∧ a ≤ size - 1 ∧ size - 1 + 1 < size) := by omega
    have h2 : ¬ (size - 1 + 2 < size ∧ size - 1 ≤ a ∧ a + 1 < size) := by omega
    simp only [if_neg h1, if_neg h2, add_zero, and_self]

/-- **T3 (segmentation, cost as a total function)**: the result is an increasing list from `0` to `size − 2` that is
optimal, in the requested direction, for the segment costs `cost(track, a, b−1)`. -/
theorem segmentation_optimal {R : α → α → Prop} (size : Nat) (cost : Nat → Int → α) (mode : Nat)
    (hd : Dir (better (α := α) mode) R) (h : 3 ≤ size)
    (π : List Nat) (h0 : π.head? = some 0) (hN : π.getLast? = some (size - 2)) (hinc : π.Pairwise (· < ·)) :
    let segCost : Nat → Nat → α := fun a b => cost a ((b : Int) - 1)
    (optimalSegmentation 0 size cost mode).head? = some 0 ∧
    (optimalSegmentation 0 size cost mode).getLast? = some (size - 2) ∧
    (optimalSegmentation 0 size cost mode).Pairwise (· < ·) ∧
    R (pathCost 0 segCost (optimalSegmentation 0 size cost mode)) (pathCost 0 segCost π) := by
  intro segCost
  obtain ⟨s1, s2, s3⟩ := result_shape size (segMatrix 0 size cost) mode h
  exact ⟨s1, s2, s3, optimal_dir size _ segCost mode hd h (fun a b hab hb => (seg_matrix size cost).2.2.1 a b hab hb h) π h0 hN hinc⟩

/-- **T3 `segmentation_requested`** — `optimalSegmentation(track, cost, glob_param, mode)` as called from Python.
`req i e` names the value of the call the CALLER means: `cost(track, i, e)` when `glob_param is None`,
`cost(track, i, e, glob_param)` otherwise (hypothesis `hreq`: the function accepts that call). Then the call returns
a list, strictly increasing from `0` to `size − 2`, optimal in the requested direction for
`Σ req(i_k, i_{k+1} − 1)` — the criterion evaluated with the REQUESTED parameter, whatever its value (`γ` is
arbitrary: `0`, `0.0`, `False`, negative numbers, `inf`, an empty tuple are values like any other; only `None`
selects the three-argument call). -/
theorem segmentation_requested {γ : Type} {R : α → α → Prop} (size : Nat) (c : CostFn γ α) (glob : Option γ) (mode : Nat)
    (hd : Dir (better (α := α) mode) R) (h : 3 ≤ size)
    (req : Nat → Int → α) (hreq : ∀ i e, segCall c glob i e = .ok (req i e)) :
    ∃ l, optimalSegmentationPy 0 size c glob mode = .ok l ∧
      l.head? = some 0 ∧ l.getLast? = some (size - 2) ∧ l.Pairwise (· < ·) ∧
      ∀ π : List Nat, π.head? = some 0 → π.getLast? = some (size - 2) → π.Pairwise (· < ·) →
        R (pathCost 0 (fun a b => req a ((b : Int) - 1)) l) (pathCost 0 (fun a b => req a ((b : Int) - 1)) π) := by
  refine ⟨optimalSegmentation 0 size req mode, ?_, ?_⟩
  · rw [optimalSegmentationPy_of_three_le 0 h, segCost_of_ok hreq]
  · obtain ⟨s1, s2, s3⟩ := result_shape size (segMatrix 0 size req) mode h
    exact ⟨s1, s2, s3, fun π h0 hN hinc => (segmentation_optimal size req mode hd h π h0 hN hinc).2.2.2⟩

/-- minimising instance with an explicit four-parameter function (with or without a default): the criterion is
`Σ f(i_k, i_{k+1} − 1, g)` for the value `g` that was passed, never the default `d` -/
theorem segmentation_requested_min {γ : Type} (size : Nat) (f : Nat → Int → γ → α) (d g : γ) (h : 3 ≤ size)
    (π : List Nat) (h0 : π.head? = some 0) (hN : π.getLast? = some (size - 2)) (hinc : π.Pairwise (· < ·)) :
    ∃ l, optimalSegmentationPy 0 size (CostFn.fourD f d) (some g) 0 = .ok l ∧
      pathCost 0 (fun a b => f a ((b : Int) - 1) g) l ≤ pathCost 0 (fun a b => f a ((b : Int) - 1) g) π := by
  obtain ⟨l, e, _, _, _, hopt⟩ := segmentation_requested size (CostFn.fourD f d) (some g) 0 dir_min h
    (fun i e => f i e g) (fun _ _ => rfl)
  exact ⟨l, e, hopt π h0 hN hinc⟩

/-- maximising instance, three-parameter function, no global parameter -/
theorem segmentation_requested_max {γ : Type} (size : Nat) (f : Nat → Int → α) (h : 3 ≤ size)
    (π : List Nat) (h0 : π.head? = some 0) (hN : π.getLast? = some (size - 2)) (hinc : π.Pairwise (· < ·)) :
    ∃ l, optimalSegmentationPy 0 size (CostFn.three (γ := γ) f) none 1 = .ok l ∧
      pathCost 0 (fun a b => f a ((b : Int) - 1)) l ≥ pathCost 0 (fun a b => f a ((b : Int) - 1)) π := by
  obtain ⟨l, e, _, _, _, hopt⟩ := segmentation_requested size (CostFn.three (γ := γ) f) none 1 dir_max h
    f (fun _ _ => rfl)
  exact ⟨l, e, hopt π h0 hN hinc⟩

/-- what the front end does outside that domain: a call protocol the cost function does not accept raises `TypeError`
as soon as one call is made (`size ≥ 3`); a track of two observations gives `[0, 0]` without calling the function,
one observation `IndexError`, none `ValueError`. -/
theorem segmentation_errors {γ : Type} (c : CostFn γ α) (glob : Option γ) (mode : Nat) :
    (∀ size, 3 ≤ size → (∀ i e, segCall c glob i e = .error .type) →
      optimalSegmentationPy (0 : α) size c glob mode = .error .type) ∧
    optimalSegmentationPy (0 : α) 2 c glob mode = .ok [0, 0] ∧
    optimalSegmentationPy (0 : α) 1 c glob mode = .error .index ∧
    optimalSegmentationPy (0 : α) 0 c glob mode = .error .value := by
  refine ⟨?_, ?_, rfl, rfl⟩
  · intro size hs herr
    rw [optimalSegmentationPy_of_three_le 0 hs, segCost_of_error herr]
  · unfold optimalSegmentationPy
    cases segCost c glob <;> rfl

/-- **T3 (simplification)**: `optimalSimplification(track, cost, eps, mode)` returns the observations at the indices
of `optimalSegmentation(track, cost, eps, mode)` — same parameter, same DIRECTION (forwarded since b8f1113) —, all
of them (every index is in range), in order; hence, with `segmentation_requested`, the kept observations are an
optimal selection for the requested parameter and direction. -/
theorem simplification_selects {γ ω : Type} {R : α → α → Prop} (obs : List ω) (c : CostFn γ α) (eps : Option γ) (mode : Nat)
    (hd : Dir (better (α := α) mode) R) (h : 3 ≤ obs.length)
    (req : Nat → Int → α) (hreq : ∀ i e, segCall c eps i e = .ok (req i e)) :
    ∃ l, optimalSegmentationPy 0 obs.length c eps mode = .ok l ∧
      optimalSimplificationPy 0 obs c eps mode = .ok (l.filterMap (fun i => obs[i]?)) ∧
      (l.filterMap (fun i => obs[i]?)).length = l.length ∧
      l.head? = some 0 ∧ l.getLast? = some (obs.length - 2) ∧ l.Pairwise (· < ·) ∧
      ∀ π : List Nat, π.head? = some 0 → π.getLast? = some (obs.length - 2) → π.Pairwise (· < ·) →
        R (pathCost 0 (fun a b => req a ((b : Int) - 1)) l) (pathCost 0 (fun a b => req a ((b : Int) - 1)) π) := by
  obtain ⟨l, e, l0, lN, linc, hopt⟩ := segmentation_requested obs.length c eps mode hd h req hreq
  refine ⟨l, e, ?_, ?_, l0, lN, linc, hopt⟩
  · unfold optimalSimplificationPy; rw [e]
  · -- every index of the chain is ≤ size − 2 < size
    refine length_filterMap_getElem? obs l fun x hx => ?_
    have := le_getLast_of_pairwise lN linc hx
    omega

/-- `simplify(track, cost, MODE_SIMPLIFY_FREE)` is `optimalSimplification(track, cost, None, MINIMIZE)` and
`MODE_SIMPLIFY_FREE_MAXIMIZE` is `optimalSimplification(track, cost, None, MAXIMIZE)`; the built-in modes 4, 5, 6
call it with the module's four-parameter cost, `tolerance` as the global parameter and MINIMIZE. -/
theorem simplify_modes {γ ω : Type} (obs : List ω) (c : CostFn γ α) (builtin : Nat → Nat → Int → γ → α) (tol : Option γ) :
    simplifyFree 0 obs c 7 = some (optimalSimplificationPy 0 obs c none 0) ∧
    simplifyFree 0 obs c 8 = some (optimalSimplificationPy 0 obs c none 1) ∧
    (∀ m, m = 4 ∨ m = 5 ∨ m = 6 →
      simplifyBuiltin 0 obs builtin tol m = some (optimalSimplificationPy 0 obs (CostFn.four (builtin m)) tol 0)) := by
  refine ⟨rfl, rfl, ?_⟩
  intro m hm
  unfold simplifyBuiltin
  rw [if_pos hm]

/-- **matrix construction** of stop detection: the row loops with their `break`, then `C + C.T`, put in every pair
of candidates `a < b ≤ size − 2` the reward `stopsReward a b` — `(b − a)²` iff (1) the `break` test `far` holds for no
end point `p_{j'−1}`, `a < j' ≤ b` (`farBefore`), (2) the `continue` test `short` does not hold for `(a, b−1)`, (3) the size
of the segment could be computed and is admitted (`small = some true`); `0` otherwise — and the matrix is symmetric.
`stops_documented` instantiates the three tests with those of `findStopsGlobal`. -/
theorem stops_matrix (sq : Nat → α) (p : StopPred) (size : Nat) :
    (∀ a b, stopsMatrix 0 sq p size a b = stopsMatrix 0 sq p size b a) ∧
    (∀ a b, a < b → stopsMatrix 0 sq p size a b = stopsReward 0 sq p size a b) ∧
    (∀ a b, a < b → b ≤ size - 2 → 3 ≤ size →
      (((∃ j, a < j ∧ j ≤ b ∧ p.far a (j - 1) = true) ∨ p.short a (b - 1) = true ∨ p.small a (b - 1) ≠ some true) →
        stopsReward 0 sq p size a b = 0) ∧
      (¬ ((∃ j, a < j ∧ j ≤ b ∧ p.far a (j - 1) = true) ∨ p.short a (b - 1) = true ∨ p.small a (b - 1) ≠ some true) →
        stopsReward 0 sq p size a b = sq (b - a))) := by
  refine ⟨?_, ?_, ?_⟩
  · intro a b; simp only [stopsMatrix, addTranspose]; exact add_comm _ _
  · intro a b hab
    simp only [stopsMatrix, addTranspose, stopsFill_eq]
    have : stopsReward 0 sq p size b a = 0 := by
      unfold stopsReward; rw [if_neg (by omega)]
    rw [this, add_zero]
  · exact stopsReward_cases 0 sq p size

/-- **criterion of `findStopsGlobal`** (tests as written since 026cb79): for candidates `a < b ≤ size − 2` the reward is
`(b − a)²` exactly when every end point `p_{j'−1}`, `a < j' ≤ b`, is within `diameter` of `p_a`, the segment lasts AT LEAST
`duration` (`duration ≤ t(p_{b−1}) − t(p_a)`), and `minCircle` returns a circle of diameter AT MOST `diameter`; `0`
otherwise. These are the documented, inclusive boundaries (source comment: `0` if the circle is `> diameter`, `0` if the
duration is `< duration`, `(j−i)²` otherwise; same boundaries as the function's final filter). The first condition is
implied by the third for exact geometry (a far end point forces the enclosing circle above `diameter`): it is the
`break` shortcut. A `None` circle gives `0` (source: "TODO : à valider"). -/
theorem stops_documented (sq : Nat → α) (dist dur : Nat → Nat → α) (circ : Nat → Nat → Option α) (diameter duration : α)
    (size a b : Nat) (hab : a < b) (hb : b ≤ size - 2) (hs : 3 ≤ size) :
    let admitted := (∀ j, a < j → j ≤ b → dist a (j - 1) ≤ diameter) ∧ duration ≤ dur a (b - 1) ∧
      ∃ d, circ a (b - 1) = some d ∧ d ≤ diameter
    (admitted → stopsReward 0 sq (stopPredGlobal dist dur circ diameter duration) size a b = sq (b - a)) ∧
    (¬ admitted → stopsReward 0 sq (stopPredGlobal dist dur circ diameter duration) size a b = 0) := by
  intro admitted
  obtain ⟨h0, h1⟩ := (stops_matrix sq (stopPredGlobal dist dur circ diameter duration) size).2.2 a b hab hb hs
  have key : admitted ↔ ¬ ((∃ j, a < j ∧ j ≤ b ∧ (stopPredGlobal dist dur circ diameter duration).far a (j - 1) = true) ∨
      (stopPredGlobal dist dur circ diameter duration).short a (b - 1) = true ∨
      (stopPredGlobal dist dur circ diameter duration).small a (b - 1) ≠ some true) := by
    simp only [admitted, stopPredGlobal, decide_eq_true_eq, not_or, not_exists, not_and, not_lt, ne_eq, not_not]
    refine and_congr Iff.rfl (and_congr Iff.rfl ?_)
    cases circ a (b - 1) <;> simp
  exact ⟨fun h => h1 (key.mp h), fun h => h0 (Classical.not_not.mp (mt key.mpr h))⟩

/-- **T3 (stop detection)**: the segmentation computed inside `findStopsGlobal` (and `findStopsGlobalForRTK`) is a strictly
increasing list from `0` to `size − 2` that MAXIMISES the summed reward `Σ stopsReward(i_k, i_{k+1})` over all such lists;
with `stops_documented`, `findStopsGlobal` maximises the criterion it documents. The candidates are `0 … size−2` and
segment `(a, b)` covers `p_a … p_{b−1}`: the last two observations belong to no segment. -/
theorem stops_optimal (sq : Nat → α) (p : StopPred) (size : Nat) (h : 3 ≤ size)
    (π : List Nat) (h0 : π.head? = some 0) (hN : π.getLast? = some (size - 2)) (hinc : π.Pairwise (· < ·)) :
    (stopsSegmentation 0 sq p size).head? = some 0 ∧
    (stopsSegmentation 0 sq p size).getLast? = some (size - 2) ∧
    (stopsSegmentation 0 sq p size).Pairwise (· < ·) ∧
    pathCost 0 (stopsReward 0 sq p size) (stopsSegmentation 0 sq p size) ≥ pathCost 0 (stopsReward 0 sq p size) π := by
  obtain ⟨s1, s2, s3⟩ := result_shape size (stopsMatrix 0 sq p size) 1 h
  exact ⟨s1, s2, s3, optimal_dir size _ _ 1 dir_max h (fun a b hab _ => (stops_matrix sq p size).2.1 a b hab) π h0 hN hinc⟩

/-- **the altitude is never read**: `findStopsGlobal(track, diameter, duration, downsampling)` — matrix, segmentation, final
filter, identifiers — is the same for two tracks (and two resampled copies) that agree on `x`, `y` and the times, whatever
their `z` (large variations, NaN …): the documented size of a stop is that of an enclosing CIRCLE. Holds for any scalar
type (no algebraic law is used). -/
theorem stops_planimetric {β : Type} [Add β] [LT β] [DecidableLT β] [Sub β] [Mul β] (zero one : β) (sq ofNat : Nat → β)
    (track track' resampled resampled' : List (Fix β)) (circ2 circA : Nat → Nat → Option β) (diameter duration downsampling : β)
    (h1 : track.map Fix.flat = track'.map Fix.flat) (h2 : resampled.map Fix.flat = resampled'.map Fix.flat) :
    findStopsGlobalPy zero one sq ofNat track resampled circ2 circA diameter duration downsampling =
      findStopsGlobalPy zero one sq ofNat track' resampled' circ2 circA diameter duration downsampling := by
  have h : (stopsTrack one downsampling track resampled).map Fix.flat =
      (stopsTrack one downsampling track' resampled').map Fix.flat := by
    unfold stopsTrack; split <;> assumption
  have hf := getFix_flat zero _ _ h
  unfold findStopsGlobalPy
  simp only [show (stopsTrack one downsampling track resampled).length = (stopsTrack one downsampling track' resampled').length by
    simpa using congrArg List.length h, stopPredTrack_flat zero _ _ hf, stopKeepTrack_flat zero _ _ hf]

/-- array form of stop detection (run by the driver) = `findStopsGlobalPy`: same errors, and on success the segmentation is
`stopsSegmentation`, the stops are `stopsReported` and the identifiers those of `findStopsGlobalPy` -/
theorem find_stops_array_form {β : Type} [Add β] [LT β] [DecidableLT β] [Sub β] [Mul β] (zero one : β) (sq ofNat : Nat → β)
    (track resampled : List (Fix β)) (circ2 circA : Nat → Nat → Option β) (diameter duration downsampling : β) :
    (findStopsGlobalPyA zero one sq ofNat track resampled circ2 circA diameter duration downsampling).map (fun r => r.2.2) =
      findStopsGlobalPy zero one sq ofNat track resampled circ2 circA diameter duration downsampling ∧
    ∀ seg st ids, findStopsGlobalPyA zero one sq ofNat track resampled circ2 circA diameter duration downsampling = .ok (seg, st, ids) →
      let tr := stopsTrack one downsampling track resampled
      let p := stopPredTrack zero (getFix zero tr) circ2 diameter duration
      seg = stopsSegmentation zero sq p tr.length ∧
      st = stopsReported zero sq p (stopKeepTrack zero (getFix zero tr) circA diameter duration) tr.length := by
  unfold findStopsGlobalPy stopsReported stopsSegmentation
  simp only [← optimalPartitionA_eq]
  fun_cases findStopsGlobalPyA zero one sq ofNat track resampled circ2 circA diameter duration downsampling with
  | case1 tr size h => exact ⟨(if_pos h).symm, nofun⟩
  | case2 tr size h0 h2 => exact ⟨((if_neg h0).trans (if_pos h2)).symm, nofun⟩
  | case3 tr size h0 h2 f p seg st =>
    refine ⟨((if_neg h0).trans (if_neg h2)).symm, ?_⟩
    rintro _ _ _ ⟨⟩
    exact ⟨rfl, rfl⟩

/-- the rewards are stated by cases, `(A → r = x) ∧ (¬ A → r = y)`: that is to say `r` is the `if` on any decidable condition
equivalent to `A` -/
theorem eq_ite_iff_cases {β : Type} {c A : Prop} [Decidable c] (hc : c ↔ A) {r x y : β} :
    r = (if c then x else y) ↔ (A → r = x) ∧ (¬ A → r = y) := by
  by_cases hA : A
  · rw [if_pos (hc.mpr hA)]
    exact ⟨fun h => ⟨fun _ => h, fun n => absurd hA n⟩, fun h => h.1 hA⟩
  · rw [if_neg (mt hc.mp hA)]
    exact ⟨fun h => ⟨fun a => absurd a hA, fun _ => h⟩, fun h => h.2 hA⟩

section track
variable {K : Type} [CommRing K] [LinearOrder K] [IsStrictOrderedRing K]

/-- the documented test on the observations `a … e` of the track: the segment lasts at least `duration` and `minCircle`
gives a circle of diameter at most `diameter` (squared: `circ2 a e ≤ diameter²`); inclusive boundaries, as documented -/
def stopsAdmitted (tr : Nat → Fix K) (circ2 : Nat → Nat → Option K) (diameter duration : K) (a e : Nat) : Bool :=
  match circ2 a e with
  | some c => decide (duration ≤ (tr e).t - (tr a).t ∧ c ≤ diameter * diameter)
  | none => false

/-- the documented reward of the segment `[a, b)` (source comment of `findStopsGlobal`): `C_ab = 0` if the enclosing circle of
`p_a … p_{b−1}` is `> diameter`, `0` if the time elapsed between `p_a` and `p_{b−1}` is `< duration`, `(b−a)²` otherwise.
No other condition: the distance test with its `break` does not appear. -/
def stopsDocumented (sq : Nat → K) (tr : Nat → Fix K) (circ2 : Nat → Nat → Option K) (diameter duration : K) (a b : Nat) : K :=
  if stopsAdmitted tr circ2 diameter duration a (b - 1) then sq (b - a) else 0

theorem stopsAdmitted_iff (tr : Nat → Fix K) (circ2 : Nat → Nat → Option K) (diameter duration : K) (a e : Nat) :
    stopsAdmitted tr circ2 diameter duration a e = true ↔
      ∃ c, circ2 a e = some c ∧ duration ≤ (tr e).t - (tr a).t ∧ c ≤ diameter * diameter := by
  unfold stopsAdmitted
  cases circ2 a e <;> simp

/-- **T3 `stops_criterion`** — the reward matrix of `findStopsGlobal` IS the documented one. Hypothesis `hc`: every circle
`minCircle` returns encloses, in the plane, the observations of its segment (squared diameter `circ2 i e = 4 r²`, centre
`(cx, cy)`). Then for `0 ≤ diameter` and candidates `a < b ≤ size − 2` the cell `(a, b)` holds `stopsDocumented a b`: the
row loop's early exit (`distance2DTo(p_a, p_{j−1}) > diameter: break`) never removes a reward the documented criterion
grants, because two points of a disc are at most one diameter apart IN THE PLANE. (With a distance that is not the
planimetric one — `distanceTo`, which adds the altitude — this is false: seeded change C12-6.) Exact arithmetic
(ordered commutative ring); on doubles the comparisons with the thresholds are those of the code, sampled by the check. -/
theorem stops_criterion (sq : Nat → K) (tr : Nat → Fix K) (circ2 : Nat → Nat → Option K) (diameter duration : K)
    (hd : 0 ≤ diameter)
    (size : Nat)
    (hc : ∀ i e c, i ≤ e → e < size → circ2 i e = some c → ∃ cx cy r2, c = 4 * r2 ∧ Enclosed tr cx cy r2 i e)
    (a b : Nat) (hab : a < b) (hb : b ≤ size - 2) (hs : 3 ≤ size) :
    stopsReward 0 sq (stopPredTrack 0 tr circ2 diameter duration) size a b = stopsDocumented sq tr circ2 diameter duration a b := by
  unfold stopPredTrack
  rw [if_neg (not_lt.mpr hd)]
  refine (eq_ite_iff_cases ?_).mpr (stops_documented sq (fun i e => dist2D2 (tr i) (tr e)) (fun i e => (tr e).t - (tr i).t) circ2
    (diameter * diameter) duration size a b hab hb hs)
  rw [stopsAdmitted_iff]
  constructor
  · rintro ⟨c, hcirc, hdu, hle⟩
    obtain ⟨cx, cy, r2, e, henc⟩ := hc _ _ _ (by omega) (by omega) hcirc
    exact ⟨fun j hj1 hj2 => ((dist2D2_le_of_disc (tr a) (tr (j - 1)) cx cy r2 (henc a (Nat.le_refl _) (by omega))
      (henc (j - 1) (by omega) (by omega))).trans_eq e.symm).trans hle, hdu, c, hcirc, hle⟩
  · rintro ⟨_, hdu, c, hcirc, hle⟩
    exact ⟨c, hcirc, hdu, hle⟩

/-- a negative `diameter` is exceeded by every distance: the reward matrix is zero -/
theorem stops_negative_diameter (sq : Nat → K) (tr : Nat → Fix K) (circ2 : Nat → Nat → Option K) (diameter duration : K)
    (hd : diameter < 0) (size a b : Nat) (hab : a < b) (hb : b ≤ size - 2) (hs : 3 ≤ size) :
    stopsReward 0 sq (stopPredTrack 0 tr circ2 diameter duration) size a b = 0 := by
  unfold stopPredTrack
  rw [if_pos hd]
  exact ((stops_matrix sq _ size).2.2 a b hab hb hs).1 (Or.inl ⟨b, hab, Nat.le_refl _, rfl⟩)

/-- **T3 `stops_fit_in_circle`** — the criterion without reference to `minCircle`'s answer: if moreover the circle returned is
a MINIMAL enclosing circle (`hmin`: no enclosing disc is smaller), the reward of `(a, b)` is `(b − a)²` exactly when the segment
lasts at least `duration` and the observations `p_a … p_{b−1}` FIT IN SOME DISC of diameter at most `diameter` (in the plane);
`0` otherwise. (`hsome`: `minCircle` did return a circle; `None` gives `0`: class `stops-mincircle-none`.) -/
theorem stops_fit_in_circle (sq : Nat → K) (tr : Nat → Fix K) (circ2 : Nat → Nat → Option K) (diameter duration : K)
    (hd : 0 ≤ diameter)
    (size : Nat)
    (hc : ∀ i e c, i ≤ e → e < size → circ2 i e = some c → ∃ cx cy r2, c = 4 * r2 ∧ Enclosed tr cx cy r2 i e)
    (hmin : ∀ i e c, circ2 i e = some c → ∀ cx cy r2, Enclosed tr cx cy r2 i e → c ≤ 4 * r2)
    (a b : Nat) (hab : a < b) (hb : b ≤ size - 2) (hs : 3 ≤ size) (hsome : circ2 a (b - 1) ≠ none) :
    let fits := duration ≤ (tr (b - 1)).t - (tr a).t ∧
      ∃ cx cy r2, Enclosed tr cx cy r2 a (b - 1) ∧ 4 * r2 ≤ diameter * diameter
    (fits → stopsReward 0 sq (stopPredTrack 0 tr circ2 diameter duration) size a b = sq (b - a)) ∧
    (¬ fits → stopsReward 0 sq (stopPredTrack 0 tr circ2 diameter duration) size a b = 0) := by
  intro fits
  rw [stops_criterion sq tr circ2 diameter duration hd size hc a b hab hb hs]
  refine (eq_ite_iff_cases ?_).mp rfl
  rw [stopsAdmitted_iff]
  constructor
  · rintro ⟨c, hcirc, h1, h2⟩
    obtain ⟨cx, cy, r2, e, henc⟩ := hc _ _ _ (by omega) (by omega) hcirc
    exact ⟨h1, cx, cy, r2, henc, e ▸ h2⟩
  · rintro ⟨h1, cx, cy, r2, henc, hle⟩
    obtain ⟨c, hcirc⟩ := Option.ne_none_iff_exists'.mp hsome
    exact ⟨c, hcirc, h1, (hmin _ _ _ hcirc cx cy r2 henc).trans hle⟩

/-- **T3 `stops_track_optimal`** — `findStopsGlobal` optimises the criterion it documents: under `stops_criterion`'s hypotheses
the segmentation computed from the track is a strictly increasing list from `0` to `size − 2` that MAXIMISES the summed
DOCUMENTED reward `Σ stopsDocumented(i_k, i_{k+1})` over all such lists. -/
theorem stops_track_optimal (sq : Nat → K) (tr : Nat → Fix K) (circ2 : Nat → Nat → Option K) (diameter duration : K)
    (hd : 0 ≤ diameter)
    (size : Nat)
    (hc : ∀ i e c, i ≤ e → e < size → circ2 i e = some c → ∃ cx cy r2, c = 4 * r2 ∧ Enclosed tr cx cy r2 i e)
    (h : 3 ≤ size)
    (π : List Nat) (h0 : π.head? = some 0) (hN : π.getLast? = some (size - 2)) (hinc : π.Pairwise (· < ·)) :
    let seg := stopsSegmentation 0 sq (stopPredTrack 0 tr circ2 diameter duration) size
    seg.head? = some 0 ∧ seg.getLast? = some (size - 2) ∧ seg.Pairwise (· < ·) ∧
    pathCost 0 (stopsDocumented sq tr circ2 diameter duration) seg ≥ pathCost 0 (stopsDocumented sq tr circ2 diameter duration) π := by
  intro seg
  obtain ⟨s1, s2, s3⟩ := result_shape size (stopsMatrix 0 sq (stopPredTrack 0 tr circ2 diameter duration) size) 1 h
  exact ⟨s1, s2, s3, optimal_dir size _ _ 1 dir_max h (fun a b hab hb => ((stops_matrix sq _ size).2.1 a b hab).trans
    (stops_criterion sq tr circ2 diameter duration hd size hc a b hab hb h)) π h0 hN hinc⟩

/-- the final filter of `findStopsGlobal` (`C is None`, `C.radius > diameter/2`, `portion.duration() < duration`) is the
documented test with the same inclusive boundaries -/
theorem stops_final_filter (tr : Nat → Fix K) (circA : Nat → Nat → Option K) (diameter duration : K) (hd : 0 ≤ diameter) :
    stopKeepTrack 0 tr circA diameter duration = stopsAdmitted tr circA diameter duration := by
  funext a e
  unfold stopKeepTrack stopsAdmitted
  cases circA a e with
  | none => rfl
  | some c =>
    rw [Bool.eq_iff_iff]
    simp only [not_lt.mpr hd, decide_false, Bool.false_or, Bool.and_eq_true, Bool.not_eq_eq_eq_not, Bool.not_true,
      decide_eq_false_iff_not, not_lt, decide_eq_true_eq]
    exact and_comm

/-- the call on at least three observations: the segmentation is computed with the circles `circ2` of the row loops, and its
segments are kept by the documented test on the circles `circA` of the final filter — two tables, `minCircle` being called
again, with new draws, on every segment; nothing is asked of either -/
theorem findStopsGlobalPy_of_three_le (sq ofNat : Nat → K) (track resampled : List (Fix K)) (circ2 circA : Nat → Nat → Option K)
    (diameter duration downsampling : K) (hd : 0 ≤ diameter)
    (hs : 3 ≤ (stopsTrack 1 downsampling track resampled).length) :
    let tr := getFix 0 (stopsTrack 1 downsampling track resampled)
    findStopsGlobalPy 0 1 sq ofNat track resampled circ2 circA diameter duration downsampling =
      .ok ((stopsReported 0 sq (stopPredTrack 0 tr circ2 diameter duration) (stopsAdmitted tr circA diameter duration)
          (stopsTrack 1 downsampling track resampled).length).map
        (fun ae => (ofNat ae.1 * downsampling, ofNat ae.2 * downsampling, ae.2 + 1 - ae.1))) := by
  intro tr
  unfold findStopsGlobalPy
  have h0 : ¬ (stopsTrack 1 downsampling track resampled).length = 0 := by omega
  have h2 : ¬ (stopsTrack 1 downsampling track resampled).length ≤ 2 := by omega
  simp only [if_neg h0, if_neg h2]
  rw [stops_final_filter _ circA diameter duration hd]

/-- **T3 `find_stops_global`** — `findStopsGlobal(track, diameter, duration, downsampling)` from the caller's arguments: on the
track the function works on (`tr`: the resampled copy when `downsampling > 1`, the track itself otherwise; at least three
observations), with `0 ≤ diameter` and a `minCircle` that returns enclosing circles and the same answer in the row loops and
in the final filter, the call returns — as `(id_ini, id_end, nb_points) = (a·downsampling, (b−1)·downsampling, b − a)` —
exactly the segments `[a, b)` ADMITTED by the documented criterion of a strictly increasing list `seg` from `0` to `size − 2`
that maximises the summed documented reward over all such lists. -/
theorem find_stops_global (sq ofNat : Nat → K) (track resampled : List (Fix K)) (circ2 : Nat → Nat → Option K)
    (diameter duration downsampling : K) (hd : 0 ≤ diameter)
    (hs : 3 ≤ (stopsTrack 1 downsampling track resampled).length)
    (hc : ∀ i e c, i ≤ e → e < (stopsTrack 1 downsampling track resampled).length → circ2 i e = some c →
      ∃ cx cy r2, c = 4 * r2 ∧ Enclosed (getFix 0 (stopsTrack 1 downsampling track resampled)) cx cy r2 i e) :
    let tr := getFix 0 (stopsTrack 1 downsampling track resampled)
    let size := (stopsTrack 1 downsampling track resampled).length
    ∃ seg : List Nat,
      seg.head? = some 0 ∧ seg.getLast? = some (size - 2) ∧ seg.Pairwise (· < ·) ∧
      (∀ π : List Nat, π.head? = some 0 → π.getLast? = some (size - 2) → π.Pairwise (· < ·) →
        pathCost 0 (stopsDocumented sq tr circ2 diameter duration) seg ≥
          pathCost 0 (stopsDocumented sq tr circ2 diameter duration) π) ∧
      findStopsGlobalPy 0 1 sq ofNat track resampled circ2 circ2 diameter duration downsampling =
        .ok ((((pairs seg).filter (fun ab => stopsAdmitted tr circ2 diameter duration ab.1 (ab.2 - 1))).map
          (fun ab => (ab.1, ab.2 - 1))).map
          (fun ae => (ofNat ae.1 * downsampling, ofNat ae.2 * downsampling, ae.2 + 1 - ae.1))) := by
  intro tr size
  refine ⟨stopsSegmentation 0 sq (stopPredTrack 0 tr circ2 diameter duration) size, ?_⟩
  obtain ⟨s1, s2, s3⟩ := result_shape size (stopsMatrix 0 sq (stopPredTrack 0 tr circ2 diameter duration) size) 1 hs
  exact ⟨s1, s2, s3, fun π h0 hN hinc => (stops_track_optimal sq tr circ2 diameter duration hd size hc hs π h0 hN hinc).2.2.2,
    findStopsGlobalPy_of_three_le sq ofNat track resampled circ2 circ2 diameter duration downsampling hd hs⟩

end track

section field
variable {K : Type} [Field K] [LinearOrder K] [IsStrictOrderedRing K]

/-- the run-time certificate computed by the driver on every stop-detection case (`enclosedB`, replied as `<enc>`) IS the
hypothesis `hc` of `stops_criterion` / `stops_track_optimal` / `find_stops_global`: every circle handed to the model
encloses the observations of its segment in the plane (radius² = a quarter of the squared diameter) -/
theorem enclosedB_sound (tr : Nat → Fix K) (circ2 : Nat → Nat → Option K) (cx cy : Nat → Nat → K) (size : Nat)
    (h : enclosedB 4 tr circ2 cx cy size = true) :
    ∀ i e c, i ≤ e → e < size → circ2 i e = some c → ∃ cx' cy' r2, c = 4 * r2 ∧ Enclosed tr cx' cy' r2 i e := by
  intro i e c hie he hc
  refine ⟨cx i e, cy i e, c / 4, (mul_div_cancel₀ c four_ne_zero).symm, fun k hk1 hk2 => ?_⟩
  simp only [enclosedB, List.all_eq_true, List.mem_range] at h
  have h3 := h i (by omega) e he
  rw [if_pos hie, hc] at h3
  simp only [List.all_eq_true, List.mem_range] at h3
  have h4 := h3 (k - i) (by omega)
  rw [show i + (k - i) = k by omega, Bool.not_eq_true', decide_eq_false_iff_not, not_lt] at h4
  exact (le_div_iff₀' four_pos).mpr h4

/-- **T3 `find_stops_global_checked`** — `find_stops_global` with its hypothesis on the circles replaced by the certificate the
driver checks on every case: for the circles the check hands to the model (exact minimal enclosing circles with their
centres), what the model returns — and the real `findStopsGlobal` is compared with, cell by cell and stop by stop — is the
set of admitted segments of a chain maximising the documented reward. -/
theorem find_stops_global_checked (sq ofNat : Nat → K) (track resampled : List (Fix K)) (circ2 : Nat → Nat → Option K)
    (cx cy : Nat → Nat → K) (diameter duration downsampling : K) (hd : 0 ≤ diameter)
    (hs : 3 ≤ (stopsTrack 1 downsampling track resampled).length)
    (henc : enclosedB 4 (getFix 0 (stopsTrack 1 downsampling track resampled)) circ2 cx cy
      (stopsTrack 1 downsampling track resampled).length = true) :
    let tr := getFix 0 (stopsTrack 1 downsampling track resampled)
    let size := (stopsTrack 1 downsampling track resampled).length
    ∃ seg : List Nat,
      seg.head? = some 0 ∧ seg.getLast? = some (size - 2) ∧ seg.Pairwise (· < ·) ∧
      (∀ π : List Nat, π.head? = some 0 → π.getLast? = some (size - 2) → π.Pairwise (· < ·) →
        pathCost 0 (stopsDocumented sq tr circ2 diameter duration) seg ≥
          pathCost 0 (stopsDocumented sq tr circ2 diameter duration) π) ∧
      findStopsGlobalPy 0 1 sq ofNat track resampled circ2 circ2 diameter duration downsampling =
        .ok ((((pairs seg).filter (fun ab => stopsAdmitted tr circ2 diameter duration ab.1 (ab.2 - 1))).map
          (fun ab => (ab.1, ab.2 - 1))).map
          (fun ae => (ofNat ae.1 * downsampling, ofNat ae.2 * downsampling, ae.2 + 1 - ae.1))) :=
  find_stops_global sq ofNat track resampled circ2 diameter duration downsampling hd hs
    (enclosedB_sound _ circ2 cx cy _ henc)
end field

/-- cost matrix of DESIGN.md §5 C12 (D11 witness), four candidates, as a `5 × 5` matrix -/
def exC : Nat → Nat → Int := fun i j =>
  (([[0, 1, 5, 9, 0], [1, 0, 1, 5, 0], [5, 1, 0, 1, 0], [9, 5, 1, 0, 0], [0, 0, 0, 0, 0]] : List (List Int)).getD i []).getD j 0

example : optimalPartition 0 5 exC 0 = [0, 1, 2, 3] := by decide +kernel
example : optimalPartition 0 5 exC 1 = [0, 3] := by decide +kernel
example : optimalPartitionA 0 5 exC 0 = [0, 1, 2, 3] := by decide +kernel
example : pathCost 0 exC [0, 1, 2, 3] = 3 ∧ pathCost 0 exC [0, 3] = 9 := by decide +kernel
example : ([0, 2, 3] : List Nat).head? = some 0 ∧ ([0, 2, 3] : List Nat).getLast? = some (5 - 2)
    ∧ ([0, 2, 3] : List Nat).Pairwise (· < ·) := by decide
-- the ordered-monoid hypotheses hold for ℤ
example : pathCost 0 exC (optimalPartition 0 5 exC 0) ≤ pathCost 0 exC [0, 2, 3] :=
  optimal_min 5 exC (by omega) [0, 2, 3] rfl rfl (by decide)
/-! front ends: a four-parameter cost with a default (`deviation + penalty`, default penalty 5) on a track of 6 observations
(candidates 0..4). With the REQUESTED penalty 0 every break is free and the optimum is a chain of free segments; with the default
penalty 5 (no parameter given) the optimum is the single segment: a falsy `0` must not fall back on the default. -/
def exDev : Nat → Int → Int := fun i e => if e ≤ (i : Int) + 1 then 0 else e - i - 1
def exF : Nat → Int → Int → Int := fun i e g => exDev i e + g

example : optimalSegmentationPy (0 : Int) 6 (CostFn.fourD exF 5) (some 0) 0 = .ok [0, 1, 2, 4] := by decide +kernel
example : optimalSegmentationPy (0 : Int) 6 (CostFn.fourD exF 5) none 0 = .ok [0, 4] := by decide +kernel
example : optimalSegmentationPy (0 : Int) 6 (CostFn.four exF) none 0 = .error .type := by decide +kernel
example : optimalSegmentationPy (0 : Int) 6 (CostFn.three (γ := Int) exDev) (some 0) 0 = .error .type := by decide +kernel
example : optimalSimplificationPy (0 : Int) ["a", "b", "c", "d", "e", "f"] (CostFn.fourD exF 5) (some 0) 0
    = .ok ["a", "b", "c", "e"] := by decide +kernel
example : simplifyFree (0 : Int) ["a", "b", "c", "d", "e", "f"] (CostFn.fourD exF 1) 8 = some (.ok ["a", "b", "c", "d", "e"]) := by
  decide +kernel
-- the hypothesis of `segmentation_requested` is satisfiable: the call protocol is accepted and names the requested values
example : ∀ i e, segCall (CostFn.fourD exF 5) (some 0) i e = .ok (exF i e 0) := fun _ _ => rfl
example : ∃ l, optimalSegmentationPy (0 : Int) 6 (CostFn.fourD exF 5) (some 0) 0 = .ok l ∧
    pathCost 0 (fun a b => exF a ((b : Int) - 1) 0) l ≤ pathCost 0 (fun a b => exF a ((b : Int) - 1) 0) [0, 4] :=
  segmentation_requested_min 6 exF 5 0 (by omega) [0, 4] rfl rfl (by decide)
-- loop form of the matrix on a concrete cost: row 0 of the 4 × 4 matrix for cost(track, i, e) = 10 i + e + 2
example : (List.range 4).map (segMatrixL (0 : Int) 4 (fun i e => 10 * i + e + 2) 0) = [2, 2, 3, 0] := by decide +kernel

/-! stop detection: 6 observations, the first three close together and lasting long enough, then a jump -/
def exStops : StopPred where
  far := fun i e => decide (i < 3 ∧ 3 ≤ e)
  short := fun i e => decide (e < i + 1)
  small := fun i e => some (decide ((i < 3 ∧ e < 3) ∨ (3 ≤ i)))

theorem exStops_segmentation : stopsSegmentation (0 : Int) (fun n => (n * n : Nat)) exStops 6 = [0, 3, 4] := by decide +kernel
example : stopsSegmentation (0 : Int) (fun n => (n * n : Nat)) exStops 6 = [0, 3, 4] := exStops_segmentation
example : (List.range 5).map (stopsMatrix (0 : Int) (fun n => (n * n : Nat)) exStops 6 0) = [0, 0, 4, 9, 0] := by decide +kernel
example : stopsReported (0 : Int) (fun n => (n * n : Nat)) exStops (fun _ _ => true) 6 = [(0, 2), (3, 3)] := by
  unfold stopsReported; rw [exStops_segmentation]; rfl

/-! `findStopsGlobal`'s tests on the regression witness of 026cb79: three fixes within 2 m at t = 0, 30, 60 — a group lasting
EXACTLY the minimal duration 60 — then jumps of 40 m. With the inclusive boundary the group is rewarded (9) and found. -/
def exTime : Nat → Int := fun i => ([0, 30, 60, 61, 62, 63] : List Int).getD i 0
def exDist : Nat → Nat → Int := fun i e => if i = e then 0 else if i < 3 ∧ e < 3 then 2 else 40
def exStopsG : StopPred := stopPredGlobal exDist (fun i e => exTime e - exTime i) (fun i e => some (exDist i e)) 20 60

example : (List.range 5).map (stopsMatrix (0 : Int) (fun n => (n * n : Nat)) exStopsG 6 0) = [0, 0, 0, 9, 0] := by decide +kernel
example : stopsSegmentation (0 : Int) (fun n => (n * n : Nat)) exStopsG 6 = [0, 3, 4] := by decide +kernel
-- a circle of diameter exactly `diameter` is admitted, a longer minimal duration is not
example : (stopPredGlobal exDist (fun i e => exTime e - exTime i) (fun i e => some (exDist i e)) 2 60).small 0 2 = some true := by decide
example : stopsSegmentation (0 : Int) (fun n => (n * n : Nat))
    (stopPredGlobal exDist (fun i e => exTime e - exTime i) (fun i e => some (exDist i e)) 20 61) 6 = [0, 4] := by decide +kernel

/-! stop detection from a track: fixes 2 m apart on a line, one every 30 s, whose altitude channel jumps by 1000 m from one
fix to the next (far above the diameter 5); `minCircle` of `p_i … p_e` is the circle on the segment's end points. The stops
are those of the planimetric criterion (two or three consecutive fixes), the altitude changes nothing, and with
`downsampling = 2` the identifiers are doubled and the criterion is read on the resampled copy. -/
def exFix (k : Nat) : Fix Int := ⟨2 * (k : Int), 0, if k % 2 = 0 then 0 else 1000, 30 * (k : Int)⟩
def exFlat (k : Nat) : Fix Int := ⟨2 * (k : Int), 0, 0, 30 * (k : Int)⟩
def exCirc2 (i e : Nat) : Option Int := some (4 * ((e : Int) - i) * ((e : Int) - i))

example : findStopsGlobalPy (0 : Int) 1 (fun n => ((n * n : Nat) : Int)) (fun n => (n : Int)) ((List.range 7).map exFix) []
    exCirc2 exCirc2 5 30 1 = .ok [(0, 1, 2), (2, 4, 3)] := by decide +kernel
example : findStopsGlobalPy (0 : Int) 1 (fun n => ((n * n : Nat) : Int)) (fun n => (n : Int)) ((List.range 7).map exFlat) []
    exCirc2 exCirc2 5 30 1 = .ok [(0, 1, 2), (2, 4, 3)] := by decide +kernel
example : findStopsGlobalPy (0 : Int) 1 (fun n => ((n * n : Nat) : Int)) (fun n => (n : Int)) ((List.range 7).map exFix)
    ((List.range 5).map exFix) exCirc2 exCirc2 5 30 2 = .ok [(0, 4, 3)] := by decide +kernel
example : findStopsGlobalPy (0 : Int) 1 (fun n => ((n * n : Nat) : Int)) (fun n => (n : Int)) ((List.range 7).map exFix) []
    exCirc2 exCirc2 (-1) 30 1 = .ok [] := by decide +kernel
example : findStopsGlobalPy (0 : Int) 1 (fun n => ((n * n : Nat) : Int)) (fun n => (n : Int)) ((List.range 2).map exFix) []
    exCirc2 exCirc2 5 30 1 = .error .index := by decide +kernel
-- `stops_planimetric`'s hypothesis: the two tracks agree on x, y, t
example : ((List.range 7).map exFix).map Fix.flat = ((List.range 7).map exFlat).map Fix.flat := by decide +kernel
/-- the hypothesis `hc` of `stops_criterion` / `stops_track_optimal` / `find_stops_global` is satisfiable: the circles of
`exCirc2` enclose their segments (centre the mid-point of the end points) -/
theorem exCirc2_encloses : ∀ i e c, exCirc2 i e = some c → ∃ cx cy r2, c = 4 * r2 ∧ Enclosed exFix cx cy r2 i e := by
  intro i e c h
  refine ⟨(i : Int) + e, 0, ((e : Int) - i) * ((e : Int) - i), ?_, ?_⟩
  · simp only [exCirc2, Option.some.injEq] at h
    rw [← h]; ring
  · intro k h1 h2
    simp only [exFix]
    have a : (0 : Int) ≤ (k : Int) - i := by omega
    have b : (0 : Int) ≤ (e : Int) - k := by omega
    linear_combination 4 * mul_nonneg a b
example : pathCost 0 (stopsDocumented (fun n => ((n * n : Nat) : Int)) exFix exCirc2 5 30)
      (stopsSegmentation 0 (fun n => ((n * n : Nat) : Int)) (stopPredTrack 0 exFix exCirc2 5 30) 7) ≥
    pathCost 0 (stopsDocumented (fun n => ((n * n : Nat) : Int)) exFix exCirc2 5 30) [0, 3, 5] :=
  (stops_track_optimal _ exFix exCirc2 5 30 (by decide) 7 (fun i e c _ _ => exCirc2_encloses i e c) (by omega) [0, 3, 5] rfl rfl (by decide)).2.2.2
example : stopsSegmentation 0 (fun n => ((n * n : Nat) : Int)) (stopPredTrack 0 exFix exCirc2 5 30) 7 = [0, 2, 5] ∧
    pathCost 0 (stopsDocumented (fun n => ((n * n : Nat) : Int)) exFix exCirc2 5 30) [0, 2, 5] = 13 ∧
    pathCost 0 (stopsDocumented (fun n => ((n * n : Nat) : Int)) exFix exCirc2 5 30) [0, 3, 5] = 13 := by decide +kernel

/-! the certificate of `find_stops_global_checked` on the same track over ℚ (centres: the mid-points of the end points) -/
def exFixQ (k : Nat) : Fix Rat := ⟨2 * (k : Rat), 0, if k % 2 = 0 then 0 else 1000, 30 * (k : Rat)⟩
def exCirc2Q (i e : Nat) : Option Rat := some (4 * ((e : Rat) - i) * ((e : Rat) - i))
example : enclosedB (4 : Rat) (getFix 0 ((List.range 7).map exFixQ)) exCirc2Q (fun i e => (i : Rat) + e) (fun _ _ => 0) 7 = true := by
  decide +kernel
-- a circle that is too small is refused
example : enclosedB (4 : Rat) (getFix 0 ((List.range 7).map exFixQ)) (fun _ _ => some 1) (fun i e => (i : Rat) + e) (fun _ _ => 0) 7 = false := by
  decide +kernel

/-! `optimal_bracketed`: its monotonicity hypothesis holds for ℤ (and, outside Lean, for doubles without NaN) -/
example : ∃ t : Br, t.WF ∧ t.chain = optimalPartition 0 5 exC 0 ∧
    ∀ t' : Br, t'.WF → t'.lo = 0 → t'.hi = 3 → t.val exC ≤ t'.val exC := by
  obtain ⟨⟨t, wf, _, _, ch, _, hopt⟩, _⟩ := optimal_bracketed (fun a b c d h1 h2 => Int.add_le_add h1 h2) (0 : Int) 5 exC (by omega)
  exact ⟨t, wf, ch, hopt⟩
example : (Br.node (.seg 0 1) (.node (.seg 1 2) (.seg 2 3))).WF ∧ (Br.node (.seg 0 1) (.node (.seg 1 2) (.seg 2 3))).chain = [0, 1, 2, 3]
    ∧ (Br.node (.seg 0 1) (.node (.seg 1 2) (.seg 2 3))).val exC = 3 := ⟨by simp [Br.WF, Br.hi, Br.lo], rfl, by decide⟩
/-! `optimal_rounded`: its hypotheses are satisfiable (ℤ with its exact addition embedded in ℚ, any `u ≥ 0`; for doubles
they are the standard model with `u = 2⁻⁵³`) -/
example : pathCost 0 (fun a b => ((exC a b : Int) : Rat)) (optimalPartition 0 5 exC 0) ≤
    pathCost 0 (fun a b => ((exC a b : Int) : Rat)) [0, 2, 3] +
      ((1 + 1 / 2) ^ (5 - 3) - 1) * (pathCost 0 (fun a b => |((exC a b : Int) : Rat)|) (optimalPartition 0 5 exC 0) +
        pathCost 0 (fun a b => |((exC a b : Int) : Rat)|) [0, 2, 3]) :=
  (optimal_rounded (fun (a : Int) => (a : Rat)) (1 / 2) (by norm_num) (fun a b h => by exact_mod_cast h)
    (fun a b c d h1 h2 => Int.add_le_add h1 h2)
    (fun a b => by simp only [Int.cast_add, sub_self, abs_zero]; exact mul_nonneg (by norm_num) (abs_nonneg _))
    0 5 exC (by omega) [0, 2, 3] rfl rfl (by decide)).1
end TV.C12
