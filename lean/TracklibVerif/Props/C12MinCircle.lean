import TracklibVerif.Lemmas.MinCircle
import Mathlib.Algebra.Order.Field.Rat
/-! # C12 — `minCircle` (util/geometrics.py: `__welzl`, `__circle`), the routine behind `findStopsGlobal`'s size test

The model is `Model/MinCircle.lean` (random draws as an explicit parameter, radii compared through their squares: exact
arithmetic). Two findings of the check are theorems about the model here — `mincircle_not_enclosing`,
`mincircle_none` (witness inputs and draw sequences replayed against tracklib in the corpus) — together with what the routine
DOES guarantee: its leaf circles (`circle_two_minimal`, `circle_three`, `circle_three_minimal`), the shape of every answer
(`mincircle_answer`), `mincircle_none_only_collinear`, `mincircle_enclosing_is_minimal` (an enclosing answer is the minimal circle),
`mincircle_small` / `mincircle_three` (inputs of at most three fixes: always right). Ordered field = exact arithmetic; on doubles the code's roots and the complex-number
circumcentre are rounded (not modelled). -/
namespace TV.C12
open TV.MinCircle

/-- the random source that replays a recorded list of `random.randint` values -/
def drawOf (l : List Nat) : Nat → Nat := fun k => l.getD k 0

/-- readable form of an answer (for the witnesses) -/
def showOut : Out Rat × Nat → Option (Option (Rat × Rat × Rat)) × Nat
  | (.none, k) => (some none, k)
  | (.circ c, k) => (some (some (c.cx, c.cy, c.r2)), k)
  | (_, k) => (none, k)

/-- Finding `stops-mincircle-not-enclosing` as a theorem about the model: for the four fixes (4,0), (1,0), (3,2), (2,2) and the
14 draws listed, `minCircle` returns the circle of centre (3,1) and squared radius 2 (the two-point circle on (4,0)-(2,2),
chosen by `__circle`'s CANDIDATES step for the boundary set {(4,0),(3,2),(2,2)}… where Welzl's recursion needs the circle
THROUGH the three points), and the fix (1,0) is at squared distance 5 > 2 of its centre: the answer does not enclose the input. -/
theorem mincircle_not_enclosing :
    showOut (minCircleOfPoints (1 / 10000) (drawOf [3, 2, 0, 0, 0, 1, 0, 0, 0, 0, 0, 0, 1, 0])
      [⟨4, 0, 0⟩, ⟨1, 0, 0⟩, ⟨3, 2, 0⟩, ⟨2, 2, 0⟩]) = (some (some (3, 1, 2)), 14)
    ∧ encloses (⟨3, 1, 2⟩ : Circ Rat) [⟨4, 0, 0⟩, ⟨1, 0, 0⟩, ⟨3, 2, 0⟩, ⟨2, 2, 0⟩] = false
    ∧ d2 (1 : Rat) 0 3 1 = 5 := by decide +kernel

/-- Finding `stops-mincircle-none` as a theorem about the model: five DISTINCT fixes, three of them — (2,3), (3,1), (1,5) —
on a line; for the 23 draws listed the three end up together in Welzl's boundary set and `minCircle` returns `None`
(`findStopsGlobal` then writes reward 0 for a segment the documented criterion may reward). -/
theorem mincircle_none :
    (showOut (minCircleOfPoints (1 / 10000)
      (drawOf [0, 1, 1, 1, 0, 0, 0, 0, 0, 1, 0, 0, 0, 0, 0, 0, 1, 1, 0, 0, 2, 1, 0])
      [⟨2, 3, 0⟩, ⟨3, 1, 0⟩, ⟨4, 2, 0⟩, ⟨4, 4, 0⟩, ⟨1, 5, 0⟩])).1 = some none := by decide +kernel

/-- the same with a place met twice at two altitudes: `ENUCoords.__eq__` compares the altitude too, so both fixes join the
boundary set, and with any third fix the three are collinear in the plane: `None`, here for the draws 0,1,0,1,1,0,1 -/
theorem mincircle_none_same_place :
    (showOut (minCircleOfPoints (1 / 10000) (drawOf [0, 1, 0, 1, 1, 0, 1])
      [⟨0, 0, 0⟩, ⟨0, 0, 1⟩, ⟨1, 0, 0⟩])).1 = some none := by decide +kernel

variable {α : Type} [Field α] [LinearOrder α] [IsStrictOrderedRing α]

/-- `__circle(p, q)`: both points are ON the circle and no disc containing both is smaller — the true minimal circle of two points -/
theorem circle_two_minimal (p q : Pt α) :
    d2 p.x p.y (circle2 p q).cx (circle2 p q).cy = (circle2 p q).r2
    ∧ d2 q.x q.y (circle2 p q).cx (circle2 p q).cy = (circle2 p q).r2
    ∧ ∀ c : Circ α, Enc c p → Enc c q → (circle2 p q).r2 ≤ c.r2 :=
  ⟨circle2_left p q, circle2_right p q, fun c => circle2_minimal p q c⟩

/-- `__circle(p1, p2, p3)` in exact arithmetic: `None` exactly when the three points are collinear (two equal points
included); the `random.random()` perturbation branches are never reached; otherwise the circle returned encloses the three
points, and it is either a two-point CANDIDATE — then the smallest disc containing the three points, with the third point
strictly inside, NOT on the circle — or, when there is no candidate, the circle THROUGH the three points. -/
theorem circle_three (p1 p2 p3 : Pt α) :
    ((p2.x - p1.x) * (p3.y - p1.y) - (p3.x - p1.x) * (p2.y - p1.y) = 0 ∧ circle3 p1 p2 p3 = .none) ∨
    ((p2.x - p1.x) * (p3.y - p1.y) - (p3.x - p1.x) * (p2.y - p1.y) ≠ 0 ∧
      ∃ c, circle3 p1 p2 p3 = .circ c ∧ Enc c p1 ∧ Enc c p2 ∧ Enc c p3 ∧
        ((c ∈ cands3 p1 p2 p3 ∧ ∀ c' : Circ α, Enc c' p1 → Enc c' p2 → Enc c' p3 → c.r2 ≤ c'.r2) ∨
         (cands3 p1 p2 p3 = [] ∧ c = circum p1 p2 p3 ∧ d2 p1.x p1.y c.cx c.cy = c.r2 ∧ d2 p2.x p2.y c.cx c.cy = c.r2
            ∧ d2 p3.x p3.y c.cx c.cy = c.r2))) := by
  rcases circle3_spec p1 p2 p3 with h | ⟨hd, c, hc, hh⟩
  · exact Or.inl h
  · obtain ⟨e1, e2, e3, _⟩ := circle3_minimal_enclosing hc
    refine Or.inr ⟨hd, c, hc, e1, e2, e3, ?_⟩
    rcases hh with hm | hh
    · exact Or.inl ⟨hm, (cands3_minimal_enclosing hm).2.2.2⟩
    · exact Or.inr hh

/-- `__circle(p1, p2, p3)` in exact arithmetic is the TRUE minimal enclosing circle of its three points, in both cases
(candidate: two points on a diameter; no candidate — no obtuse angle — the circle through the three points, whose centre is a
convex combination of them). What Welzl's recursion asks of this leaf is something else — the smallest circle with the three
points ON it — and the two differ exactly when there is a candidate: that is the defect behind `mincircle_not_enclosing`. -/
theorem circle_three_minimal {p1 p2 p3 : Pt α} {c : Circ α} (h : circle3 p1 p2 p3 = .circ c) :
    Enc c p1 ∧ Enc c p2 ∧ Enc c p3 ∧ ∀ c' : Circ α, Enc c' p1 → Enc c' p2 → Enc c' p3 → c.r2 ≤ c'.r2 :=
  circle3_minimal_enclosing h

/-- inputs of at most two fixes, EVERY draw sequence: no fix — the circle of centre (0,0), radius 0; one fix — the fix itself,
radius 0; two fixes that `ENUCoords.__eq__` tells apart — the circle on their diameter, which is the true minimal circle
(`circle_two_minimal`). (Two fixes within 0.0001 of each other in all three coordinates: the zero circle on one of them.) -/
theorem mincircle_small (eps : α) (draw : Nat → Nat) :
    (∃ c, (minCircleOfPoints eps draw ([] : List (Pt α))).1 = .circ c ∧ c.cx = 0 ∧ c.cy = 0 ∧ c.r2 = 0)
    ∧ (∀ p : Pt α, (minCircleOfPoints eps draw [p]).1 = .circ (circle1 p))
    ∧ (∀ p q : Pt α, ptEq eps p q = false → ptEq eps q p = false →
        ∃ c, (minCircleOfPoints eps draw [p, q]).1 = .circ c ∧ c.r2 = (circle2 p q).r2 ∧
          d2 p.x p.y c.cx c.cy = c.r2 ∧ d2 q.x q.y c.cx c.cy = c.r2 ∧
          ∀ c' : Circ α, Enc c' p → Enc c' q → c.r2 ≤ c'.r2) := by
  refine ⟨⟨⟨0, 0, 0⟩, by simp [minCircleOfPoints, welzl, base], rfl, rfl, rfl⟩, mincircle_single eps draw, ?_⟩
  exact fun p q h1 h2 =>
    ⟨_, mincircle_pair_eq eps draw p q h1 h2, rfl, circle2_left p q, circle2_right p q, circle2_minimal p q⟩

/-- Every answer of `minCircleOfPoints`, for EVERY sequence of random draws: the model never runs out of fuel and never
reaches a perturbation branch; the answer is the leaf circle `base R'` of a list `R'` of input points, and when it is a
circle it encloses the first three points of `R'` — the points it is built on. Nothing more is guaranteed: the other points
of the input need not be enclosed (`mincircle_not_enclosing`). -/
theorem mincircle_answer (eps : α) (draw : Nat → Nat) (pts : List (Pt α)) :
    ∃ R', (minCircleOfPoints eps draw pts).1 = base R' ∧ (∀ p ∈ R', p ∈ pts) ∧
      ∀ c, (minCircleOfPoints eps draw pts).1 = .circ c → ∀ p ∈ R'.take 3, Enc c p := by
  obtain ⟨R', e, hR'⟩ := welzl_leaf eps draw pts.length pts [] 0 (Nat.le_refl _)
  exact ⟨R', e, fun p hp => (hR' p hp).resolve_left List.not_mem_nil, fun c hc => base_encloses (e ▸ hc)⟩

/-- `minCircle` returns `None` ONLY IF three of the input fixes (three entries of the list; two of them may be the same place)
are collinear in the plane: on a track with no three collinear fixes it never returns `None`, whatever the random draws. -/
theorem mincircle_none_only_collinear (eps : α) (draw : Nat → Nat) (pts : List (Pt α))
    (h : (minCircleOfPoints eps draw pts).1 = .none) :
    ∃ p1 ∈ pts, ∃ p2 ∈ pts, ∃ p3 ∈ pts, (p2.x - p1.x) * (p3.y - p1.y) - (p3.x - p1.x) * (p2.y - p1.y) = 0 := by
  obtain ⟨R', e, hR', _⟩ := mincircle_answer eps draw pts
  rcases base_cases R' with ⟨_, a, b, d, rest, rfl, h0⟩ | ⟨c, hc⟩
  · exact ⟨a, hR' a (by simp), b, hR' b (by simp), d, hR' d (by simp), h0⟩
  · rw [h, hc] at e; cases e

/-- the certificate the driver evaluates on every answer (`enc`) is sound -/
theorem encloses_sound (c : Circ α) (pts : List (Pt α)) (h : encloses c pts = true) : ∀ p ∈ pts, Enc c p :=
  (encloses_iff c pts).mp h

/-- **Enclosing answers are minimal.** Whatever the random draws: if the circle returned by `minCircleOfPoints` encloses every
input fix (the certificate `enc` of the driver), it is THE minimal enclosing circle — no disc containing the input has a
smaller radius. So the only way `minCircle` errs, apart from `None`, is by NOT enclosing (`mincircle_not_enclosing`); the
`findStopsGlobal` rewards computed from enclosing answers are those of the documented criterion (`stops_fit_in_circle`). -/
theorem mincircle_enclosing_is_minimal (eps : α) (draw : Nat → Nat) (pts : List (Pt α)) (c : Circ α)
    (h : (minCircleOfPoints eps draw pts).1 = .circ c) (henc : encloses c pts = true) :
    (∀ p ∈ pts, Enc c p) ∧ ∀ c' : Circ α, 0 ≤ c'.r2 → (∀ p ∈ pts, Enc c' p) → c.r2 ≤ c'.r2 := by
  refine ⟨encloses_sound c pts henc, fun c' h0 hc' => ?_⟩
  obtain ⟨R', e, hR', _⟩ := mincircle_answer eps draw pts
  rw [h] at e
  exact base_minimal e.symm c' h0 (fun p hp => hc' p (hR' p (List.mem_of_mem_take hp)))

/-- **At most three fixes: always right.** For an input of at most three fixes that `ENUCoords.__eq__` tells apart whenever
they differ (no two different fixes within 0.0001 in all coordinates), and EVERY draw sequence: a circle returned by `minCircle`
encloses every fix and is THE minimal enclosing circle (the early leaf `len(R) == 3` is then met only with `P` empty, where
`__circle`'s answer — the minimal circle of its three points, `circle_three_minimal` — is what is wanted). With
`mincircle_none_only_collinear`: on at most three fixes `minCircle` is either `None` (three collinear entries) or exact. The
defect needs four fixes (`mincircle_not_enclosing`). -/
theorem mincircle_three (eps : α) (draw : Nat → Nat) (pts : List (Pt α)) (hlen : pts.length ≤ 3)
    (hsep : ∀ p ∈ pts, ∀ q ∈ pts, ptEq eps p q = true → p = q) (c : Circ α)
    (h : (minCircleOfPoints eps draw pts).1 = .circ c) :
    (∀ p ∈ pts, Enc c p) ∧ ∀ c' : Circ α, 0 ≤ c'.r2 → (∀ p ∈ pts, Enc c' p) → c.r2 ≤ c'.r2 :=
  mincircle_enclosing_is_minimal eps draw pts c h ((encloses_iff c pts).mpr
    (welzl_encloses_small eps draw pts hsep pts.length pts [] 0 c (by simpa using hlen) (fun p hp => hp) nofun h).2)

/-- non-vacuity: a run that returns the true minimal circle (all four fixes enclosed, three on the circle) -/
example : (showOut (minCircleOfPoints (1 / 10000) (drawOf [0, 0, 0, 0, 0, 0, 0, 0])
    [⟨0, 0, 0⟩, ⟨4, 0, 0⟩, ⟨1, 1, 0⟩, ⟨2, 3, 0⟩])).1
    = some (some (2, 5 / 6, 169 / 36)) := by decide +kernel

/-- non-vacuity of `circle_three`: an obtuse triangle (candidate on the long side, the third point strictly inside, not on the
circle), an acute one (no candidate: circle through the three points), a right one (the third point is ON the two-point circle:
not a candidate, the circle through the three points is that same circle), three collinear points -/
example : (cands3 (⟨0, 0, 0⟩ : Pt Rat) ⟨4, 0, 0⟩ ⟨2, 1, 0⟩).map (fun c => (c.cx, c.cy, c.r2)) = [(2, 0, 4)] := by decide +kernel
example : showOut (circle3 (⟨0, 0, 0⟩ : Pt Rat) ⟨4, 0, 0⟩ ⟨2, 1, 0⟩, 0) = (some (some (2, 0, 4)), 0) := by decide +kernel
example : (cands3 (⟨0, 0, 0⟩ : Pt Rat) ⟨4, 0, 0⟩ ⟨2, 3, 0⟩).length = 0 := by decide +kernel
example : showOut (circle3 (⟨0, 0, 0⟩ : Pt Rat) ⟨4, 0, 0⟩ ⟨2, 3, 0⟩, 0) = (some (some (2, 5 / 6, 169 / 36)), 0) := by decide +kernel
example : (cands3 (⟨0, 0, 0⟩ : Pt Rat) ⟨4, 0, 0⟩ ⟨0, 2, 0⟩).length = 0 := by decide +kernel
example : showOut (circle3 (⟨0, 0, 0⟩ : Pt Rat) ⟨4, 0, 0⟩ ⟨0, 2, 0⟩, 0) = (some (some (2, 1, 5)), 0) := by decide +kernel
example : showOut (circle3 (⟨0, 0, 0⟩ : Pt Rat) ⟨4, 0, 0⟩ ⟨2, 0, 0⟩, 0) = (some none, 0) := by decide +kernel

end TV.C12
