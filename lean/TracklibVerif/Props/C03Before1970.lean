import TracklibVerif.Lemmas.ObsTimeNeg
import TracklibVerif.Props.C03
import Mathlib.Algebra.Order.Floor.Ring
import Mathlib.Data.Rat.Floor
/-! C03, the domain boundary as theorems: what this tree does with an instant BEFORE 1970.

The property speaks of seconds since 1970. Before 1970 no oracle clause and no theorem of `Props/C03.lean` applies;
the theorems below say what `readUnixTime`, `toAbsTime`, `addSec` and `convertToZone` of this tree compute there,
operation for operation, in exact arithmetic (ordered field; `int()` rounds toward zero: `TruncNeg`). With IEEE
doubles the same definitions are run bit-exactly at `Float` by the correspondence (streams `rdf` / `addf` / `prog`
with negative instants). -/
open TV.ObsTime
namespace TV.C03

section Before1970
variable {α : Type} [Field α] [LinearOrder α] [IsStrictOrderedRing α]

/-- B1: for every `x ≤ 0` the reader, run operation for operation, stops both loops at once (1970, January) and
returns `day = 1 − n div 86400` and the NEGATED hour, minute, second, millisecond of `−x = n + f`
(`readUnixTime(-1)` is `1970-01-01 00:00:-1`, `readUnixTime(-86400.5)` is `1970-01-00 00:00:00.-500`). -/
theorem readUnixG_before1970 (trunc : α → Int) (htn : TruncNeg trunc) (x : α) (hx : x ≤ 0) :
    readUnixG trunc x = some (readUnixNegSpec trunc x) := by
  obtain ⟨hf0, hf1⟩ := neg_frac_bounds trunc htn x hx
  have e : x = -((((-(trunc x)).toNat : Nat) : α) + (-x - (((-(trunc x)).toNat : Nat) : α))) := by ring
  conv_lhs => rw [e]
  exact readUnixG_neg_nat_add_frac trunc htn _ _ hf0 hf1

/-- before 1970 the reader truncates `1000 x` toward zero: the stamp is `negStamp n (−m)` with `n·1000 + m` the integer part
of `−1000 x` -/
theorem readUnixNegSpec_ms (trunc : α → Int) (htn : TruncNeg trunc) (x : α) (hx : x ≤ 0) :
    ∃ n m : Nat, readUnixNegSpec trunc x = negStamp n (-(m : Int)) ∧ m < 1000
      ∧ x * 1000 ≤ -((n * 1000 + m : Nat) : α) ∧ -((n * 1000 + m : Nat) : α) < x * 1000 + 1 := by
  obtain ⟨hf0, hf1⟩ := neg_frac_bounds trunc htn x hx
  obtain ⟨m, hm, hm1, hm2, hm3⟩ := ms_neg_bounds trunc htn _ hf0 hf1
  refine ⟨_, m, by rw [readUnixNegSpec, hm], hm1, ?_, ?_⟩ <;> push_cast <;> linarith only [hm2, hm3]

/-- B2: the fields of that stamp: year 1970, month 1, day ≤ 1, hour −23…0, minute and second −59…0,
millisecond −999…0 — every field other than year and month is non-positive (day − 1 included). -/
theorem readUnixG_before1970_fields (trunc : α → Int) (htn : TruncNeg trunc) (x : α) (hx : x ≤ 0) :
    let r := readUnixNegSpec trunc x
    r.year = 1970 ∧ r.month = 1 ∧ r.day ≤ 1 ∧ (-23 ≤ r.hour ∧ r.hour ≤ 0) ∧ (-59 ≤ r.min ∧ r.min ≤ 0)
      ∧ (-59 ≤ r.sec ∧ r.sec ≤ 0) ∧ (-999 ≤ r.ms ∧ r.ms ≤ 0) := by
  obtain ⟨n, m, e, hm, -⟩ := readUnixNegSpec_ms trunc htn x hx
  simp only [e, negStamp]
  refine ⟨trivial, trivial, ?_, ?_, ?_, ?_, ?_⟩ <;> omega

/-- B3: the INSTANT is nevertheless kept to within one millisecond, rounded toward zero:
`x ≤ toAbsTime(readUnixTime(x)) < x + 1/1000` for `x ≤ 0` (after 1970 it is `x − 1/1000 < … ≤ x`). -/
theorem readUnixG_before1970_instant (trunc : α → Int) (htn : TruncNeg trunc) (x : α) (hx : x ≤ 0) :
    x ≤ toAbsG (readUnixNegSpec trunc x) ∧ toAbsG (readUnixNegSpec trunc x) < x + 1 / 1000 := by
  obtain ⟨n, m, e, -, h1, h2⟩ := readUnixNegSpec_ms trunc htn x hx
  rw [e, toAbsG_negStamp, Int.cast_neg, Int.cast_natCast]
  push_cast at h1 h2
  exact ⟨by linarith only [h1], by linarith only [h2]⟩

/-- B4: the domain boundary. A millisecond or more before 1970 the stamp returned is NOT well formed (day 0 or less, or a
negative hour, minute, second or millisecond); less than a millisecond before 1970 it is the epoch stamp `ObsTime()`. -/
theorem readUnixG_before1970_illFormed (trunc : α → Int) (htn : TruncNeg trunc) (x : α) (hx : x ≤ 0) :
    let r := readUnixNegSpec trunc x
    (x ≤ -(1 / 1000) → r.day < 1 ∨ r.hour < 0 ∨ r.min < 0 ∨ r.sec < 0 ∨ r.ms < 0)
    ∧ (-(1 / 1000) < x → r = defaultZ) := by
  -- the stamp is the epoch exactly when the integer part of `−1000 x` is 0
  obtain ⟨n, m, e, -, h1, h2⟩ := readUnixNegSpec_ms trunc htn x hx
  simp only [e]
  constructor
  · intro h
    have : ((0 : Nat) : α) < ((n * 1000 + m : Nat) : α) := by rw [Nat.cast_zero]; linarith only [h, h2]
    have := Nat.cast_lt.1 this
    simp only [negStamp]
    omega
  · intro h
    have : ((n * 1000 + m : Nat) : α) < ((1 : Nat) : α) := by rw [Nat.cast_one]; linarith only [h, h1]
    obtain ⟨rfl, rfl⟩ : n = 0 ∧ m = 0 := by have := Nat.cast_lt.1 this; omega
    rfl

/-- B5: on a whole number `k` of milliseconds before 1970 the reader returns `negStamp (k div 1000) (−(k mod 1000))`, and the
round trip through `toAbsTime()` is exact: `toAbsTime(readUnixTime(−k/1000)) = −k/1000`. -/
theorem readUnixG_negMs (trunc : α → Int) (htn : TruncNeg trunc) (k : Nat) :
    readUnixG trunc (-((k : α) / 1000)) = some (negStamp (k / 1000) (-((k % 1000 : Nat) : Int))) := by
  rw [← msStampZ_neg, ← readUnixG_msZ trunc _ (.inr ⟨by omega, htn⟩), Int.cast_neg, Int.cast_natCast, neg_div]

theorem toAbsG_readUnixG_before1970 (trunc : α → Int) (htn : TruncNeg trunc) (k : Nat) :
    ∃ r, readUnixG trunc (-((k : α) / 1000)) = some r ∧ (toAbsG r : α) = -((k : α) / 1000) :=
  ⟨_, readUnixG_negMs trunc htn k, toAbsG_negMs k⟩

/-- B6: **there and back across 1970.** From a well-formed stamp, `addSec(k)` with a whole `k` that leads to 1970 or before
returns an ill-formed stamp (B4) whose `toAbsTime()` is nevertheless exactly `toAbsTime() + k`, and `addSec(−k)` on THAT
stamp returns the stamp one started from. (Needs `int()` on both sides of zero: `TruncZ` and `TruncNeg`.) -/
theorem addSecG_before1970_back (trunc : α → Int) (htr : TruncZ trunc) (htn : TruncNeg trunc) (t : Stamp) (h : WFs t)
    (k : Int) (hk : (toAbsMs t : Int) + k * 1000 ≤ 0) :
    ∃ r, addSecG trunc t.toZ ((k : Int) : α) = some r ∧ (toAbsG r : α) = toAbsG t.toZ + ((k : Int) : α)
      ∧ addSecG trunc r ((-k : Int) : α) = some t.toZ := by
  -- on the millisecond line: there `K ↦ K + 1000 k` (a target not after 1970: `TruncNeg`), back `↦ K` (not before: `TruncZ`)
  rw [toZ_eq_msStampZ t h]
  refine ⟨_, addSecG_msZ trunc _ _ k (toAbsG_msStampZ _) (.inr ⟨hk, htn⟩), ?_, ?_⟩
  · rw [toAbsG_msStampZ, toAbsG_msStampZ]; push_cast; ring
  · rw [addSecG_msZ trunc _ _ (-k) (toAbsG_msStampZ _) (.inl ⟨by omega, htr⟩)]; congr 2; ring

/-- B7: the same for `convertToZone`: a conversion whose target is 1970 or before, followed by the conversion back to the
zone one came from, returns the stamp (and the label) one started from. -/
theorem convertToZoneG_before1970_back (trunc : α → Int) (htr : TruncZ trunc) (htn : TruncNeg trunc) (t : Stamp)
    (h : WFs t) (z0 z : Int) (hk : (toAbsMs t : Int) + 3600000 * (z - z0) ≤ 0) :
    ∃ r, convertToZoneG trunc (⟨t.toZ, z0⟩ : ObsZ) z = some ⟨r, z⟩
      ∧ (toAbsG r : α) = toAbsG t.toZ + ((3600 * (z - z0) : Int) : α)
      ∧ convertToZoneG trunc (⟨r, z⟩ : ObsZ) z0 = some ⟨t.toZ, z0⟩ := by
  rw [toZ_eq_msStampZ t h]
  refine ⟨_, convertToZoneG_msZ trunc _ _ z0 z (toAbsG_msStampZ _) (.inr ⟨hk, htn⟩), ?_, ?_⟩
  · rw [toAbsG_msStampZ, toAbsG_msStampZ]; push_cast; ring
  · rw [convertToZoneG_msZ trunc _ _ z z0 (toAbsG_msStampZ _) (.inl ⟨by omega, htr⟩)]; congr 3; ring

/-- B8a: `addSec(a)` / `addMin(a)` / `addHour(a)` / `addDay(a)` for ANY scalar amount (fractional included) and any stamp, when
the instant asked for is 1970 or before: the stamp of B1/B2 (ill formed from one millisecond before 1970 on, B4), whose
`toAbsTime()` is the instant asked for to within one millisecond, rounded toward zero. -/
theorem addG_before1970_spec (trunc : α → Int) (htn : TruncNeg trunc) (t : StampZ) (a c : α) (h : toAbsG t + a * c ≤ 0) :
    readUnixG trunc (toAbsG t + a * c) = some (readUnixNegSpec trunc (toAbsG t + a * c))
    ∧ toAbsG t + a * c ≤ toAbsG (readUnixNegSpec trunc (toAbsG t + a * c))
    ∧ toAbsG (readUnixNegSpec trunc (toAbsG t + a * c)) < toAbsG t + a * c + 1 / 1000 :=
  ⟨readUnixG_before1970 trunc htn _ h, readUnixG_before1970_instant trunc htn _ h⟩

theorem addSecG_before1970_spec (trunc : α → Int) (htn : TruncNeg trunc) (t : StampZ) (a : α) (h : toAbsG t + a ≤ 0) :
    ∃ r, addSecG trunc t a = some r ∧ r = readUnixNegSpec trunc (toAbsG t + a)
      ∧ toAbsG t + a ≤ toAbsG r ∧ toAbsG r < toAbsG t + a + 1 / 1000 :=
  ⟨_, readUnixG_before1970 trunc htn _ h, rfl, readUnixG_before1970_instant trunc htn _ h⟩

theorem addMinHourDayG_before1970_spec (trunc : α → Int) (htn : TruncNeg trunc) (t : StampZ) (a : α) :
    (toAbsG t + a * 60 ≤ 0 → ∃ r, addMinG trunc t a = some r
        ∧ toAbsG t + a * 60 ≤ toAbsG r ∧ toAbsG r < toAbsG t + a * 60 + 1 / 1000)
    ∧ (toAbsG t + a * 3600 ≤ 0 → ∃ r, addHourG trunc t a = some r
        ∧ toAbsG t + a * 3600 ≤ toAbsG r ∧ toAbsG r < toAbsG t + a * 3600 + 1 / 1000)
    ∧ (toAbsG t + a * 86400 ≤ 0 → ∃ r, addDayG trunc t a = some r
        ∧ toAbsG t + a * 86400 ≤ toAbsG r ∧ toAbsG r < toAbsG t + a * 86400 + 1 / 1000) := by
  refine ⟨fun h => ?_, fun h => ?_, fun h => ?_⟩
  · have := addG_before1970_spec trunc htn t a 60 h
    exact ⟨_, by rw [addMinG, Int.cast_ofNat]; exact this.1, this.2⟩
  · have := addG_before1970_spec trunc htn t a 3600 h
    exact ⟨_, by rw [addHourG, Int.cast_ofNat]; exact this.1, this.2⟩
  · have := addG_before1970_spec trunc htn t a 86400 h
    exact ⟨_, by rw [addDayG, Int.cast_ofNat]; exact this.1, this.2⟩

/-- B9: **`addSec(k)` for a whole `k`, on both sides of 1970, with no domain hypothesis**: from a well-formed stamp the call
returns `shiftMsZ t (1000 k)` — the integer model's stamp of `toAbsMs + 1000 k` when that is not negative (T12), the negated
decomposition of `−(toAbsMs + 1000 k)` when it is. -/
theorem addSecG_total (trunc : α → Int) (htr : TruncZ trunc) (htn : TruncNeg trunc) (t : Stamp) (h : WFs t) (k : Int) :
    addSecG trunc t.toZ ((k : Int) : α) = some (shiftMsZ t (k * 1000)) := by
  rw [addSecG_msZ trunc _ _ k (toAbsG_toZ_int t h.1.2.2.2.1) (.of_both htr htn _), shiftMsZ_eq]

/-- B10: the same for `convertToZone(z)` on a well-formed stamp labelled `z0`: `shiftMsZ t (3 600 000 (z − z0))`, labelled `z`,
whatever the target (Z3 without its hypothesis "not before 1970"). -/
theorem convertToZoneG_total (trunc : α → Int) (htr : TruncZ trunc) (htn : TruncNeg trunc) (t : Stamp) (h : WFs t)
    (z0 z : Int) :
    convertToZoneG trunc (⟨t.toZ, z0⟩ : ObsZ) z = some ⟨shiftMsZ t (3600000 * (z - z0)), z⟩ := by
  rw [convertToZoneG_msZ trunc _ _ z0 z (toAbsG_toZ_int t h.1.2.2.2.1) (.of_both htr htn _), shiftMsZ_eq]

/-- B11: `Track.convertToTimeZone(z)` and `Track.addSeconds(k)` (`k` whole) on ANY track of well-formed stamps, each with its
own label — some targets before 1970, some not: stamp by stamp `shiftMsZ` (Z8 without its domain hypothesis). -/
theorem convertToTimeZone_total (trunc : α → Int) (htr : TruncZ trunc) (htn : TruncNeg trunc) (z : Int)
    (ts : List (Stamp × Int)) (h : ∀ p ∈ ts, WFs p.1) :
    convertToTimeZone (α := α) trunc z (ts.map fun p => ⟨p.1.toZ, p.2⟩)
      = some (ts.map fun p => ⟨shiftMsZ p.1 (3600000 * (z - p.2)), z⟩) := by
  unfold convertToTimeZone
  exact Common.mapM_map_some_of_forall (fun p hp => convertToZoneG_total trunc htr htn p.1 (h p hp) p.2 z)

theorem addSeconds_total (trunc : α → Int) (htr : TruncZ trunc) (htn : TruncNeg trunc) (k : Int)
    (ts : List (Stamp × Int)) (h : ∀ p ∈ ts, WFs p.1) :
    addSeconds trunc ((k : Int) : α) (ts.map fun p => ⟨p.1.toZ, p.2⟩)
      = some (ts.map fun p => ⟨shiftMsZ p.1 (k * 1000), 0⟩) := by
  unfold addSeconds
  refine Common.mapM_map_some_of_forall (fun p hp => ?_)
  simp only [addZ, addSecG_total trunc htr htn p.1 (h p hp) k, Option.map_some]

end Before1970

/-- B8: `toAbsTime()` counts a year before 1970 as 1970: `range(1970, year)` is empty, so the years contribute nothing
(only the leap rule of the February of `year` is still read). -/
theorem toAbs_year_before1970 (t : StampZ) (hy : t.year ≤ 1970) :
    secondsZ t = ((daysBeforeMonth t.year (t.month - 1) : Nat) : Int) * 86400
      + (t.day - 1) * 86400 + t.hour * 3600 + t.min * 60 + t.sec := by
  have : t.year - 1970 = 0 := by omega
  simp only [secondsZ, this, daysBeforeYear, Nat.zero_add]

/-- `int()` toward zero on the rationals satisfies both contracts -/
def truncQ (x : ℚ) : Int := if 0 ≤ x then ⌊x⌋ else ⌈x⌉

example : TruncZ truncQ := fun x hx => by
  simp only [truncQ, hx, ↓reduceIte]
  exact ⟨Int.floor_nonneg.2 hx, Int.floor_le x, Int.lt_floor_add_one x⟩

example : TruncNeg truncQ := fun x hx => by
  by_cases h0 : 0 ≤ x
  · have : x = 0 := le_antisymm hx h0
    subst this; simp [truncQ]
  · simp only [truncQ, h0, ↓reduceIte]
    refine ⟨Int.ceil_le.2 (by simpa using hx), Int.le_ceil x, ?_⟩
    have := Int.ceil_lt_add_one x
    linarith

/-- witnesses replayed on the real code (corpus/C03/before1970_*.json): `readUnixTime(-1)`, `readUnixTime(-86400.5)`;
1969-12-31 23:59:59 has `toAbsTime() = 31 535 999`, not −1 -/
example : readUnixNegSpec truncQ (-1) = ⟨1970, 1, 1, 0, 0, -1, 0⟩ := by decide +kernel
example : readUnixNegSpec truncQ (-(864005 / 10)) = ⟨1970, 1, 0, 0, 0, 0, -500⟩ := by decide +kernel
example : secondsZ ⟨1969, 12, 31, 23, 59, 59, 0⟩ = 31535999 := by decide +kernel
example : WFs ⟨⟨1970, 1, 1, 0, 30, 0⟩, 7⟩ ∧ (toAbsMs ⟨⟨1970, 1, 1, 0, 30, 0⟩, 7⟩ : Int) + 3600000 * (-1 - 0) ≤ 0 := by
  unfold WFs WF monthDays isLeap; decide

example : shiftMsZ ⟨⟨1970, 1, 1, 0, 30, 0⟩, 0⟩ (3600000 * (-1 - 0)) = ⟨1970, 1, 1, 0, -30, 0, 0⟩ := by decide +kernel
example : shiftMsZ ⟨⟨1970, 1, 1, 0, 30, 0⟩, 7⟩ (3600000 * (1 - 0)) = ⟨1970, 1, 1, 1, 30, 0, 7⟩ := by decide +kernel

end TV.C03
