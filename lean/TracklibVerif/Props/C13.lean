import TracklibVerif.Lemmas.TextIOGpx
import TracklibVerif.Lemmas.TextIOAll
import TracklibVerif.Lemmas.TextIOGpxAF
import TracklibVerif.Lemmas.TextIOWktFile
import TracklibVerif.Lemmas.TextIOSession
import TracklibVerif.Lemmas.TextIOStrFmt
import TracklibVerif.Lemmas.ObsTime
/-! # C13 — tracks and networks written to file are read back unchanged

Theorems about the model `TV.TextIO` (`Model/TextIO.lean`), which mirrors
`TrackWriter.writeToFile` (also with every argument at its default) / `writeToCsv` / `TrackReader.__readFromCsv` (including
`read_all` and the directory branch of `readFromFile`), `ObsTime.__str__` / `readTimestamp`,
`NetworkWriter.writeToCsv` / `NetworkReader.readFromFile`, `Track.toWKT` / `TrackReader.parseWkt` / `TrackReader.readFromWkt`,
`TrackWriter.writeToGpx` (with and without `af=True`, a track or a collection in one file) / `TrackReader.__readFromGpx`.
Numbers are decimals in sign–magnitude form: `v : SNum` at `d` decimals stands for the float `±mag / 10^d`. The fixed-point
formats of the CSV / GPX writers print it exactly on that lattice; `str(float)` (WKT, network geometries, feature values) prints
the shortest round-trip decimal of ANY finite double — positionally or, below `1e-4` and from `1e16`, in exponent notation
(`reprFloat`) — and `float()` reads both (`parseDec?`, with an exponent part). That contract (`format`'s rounding of off-lattice
values, `repr`'s choice of the shortest digits, `float()`'s correctly rounded conversion) is exercised by the correspondence
check, not proved. Every file-level theorem is over lists of ANY length; `csv_file_lines` and the `…_same_number_same_order`
theorems say so in the words of the statement (one physical line per observation; same number, same order), with examples at 5000
observations / vertices. -/
namespace TV.C13
open TV.TextIO TV.ObsTime

/-- **T1 `fixed_roundtrip`** — "coordinates equal to the written precision": for every scaled integer
(of either sign, including the `-0.000` Python prints for a negative value that rounds to zero), every
width `w` and number of decimals `d`, `float("{:w.df}".format(x).strip())` is exactly the printed decimal:
mantissa `v.toInt`, `d` decimals. Instances: `{:10.3f}` (ENU/ECEF, 1 mm), `{:20.10f}` (GEO, 1e-10°). -/
theorem fixed_roundtrip (w d : Nat) (v : SNum) : parseDec? (renderFixedS w d v) = some (v.toInt, d) := by
  rw [renderFixedS_eq, parseDec_fixedCoreS]

theorem toInt_ofInt (n : Int) : (SNum.ofInt n).toInt = n := by
  unfold SNum.toInt SNum.ofInt
  by_cases h : n < 0
  · simp [h]; omega
  · simp [h]; omega

/-- T1 for a plain integer `n` (the value `n / 10^d`). -/
theorem fixed_roundtrip_int (w d : Nat) (n : Int) : parseDec? (renderFixed w d n) = some (n, d) := by
  unfold renderFixed
  rw [fixed_roundtrip, toInt_ofInt]

/-- T1 without the `strip()` (the GPX writer prints `{:3.8f}` inside attributes and `float()` reads it). -/
theorem fixed_padded_roundtrip (w d : Nat) (v : SNum) : parseDec? (fixedWS w d v) = some (v.toInt, d) :=
  parseDec_fixedWS w d v

/-- **T2 `columns_roundtrip`** (layout): when the column ids in use are a bijection onto `0..k-1`
(`ValidIds`), `__printInOrder` with the sorted `O` list writes in column `j` the datum whose id is `j`
(`cols`), followed by the feature columns; and the reader's look-ups `fields[id_E]`, `fields[id_N]`,
`fields[id_U]`, `fields[id_T]` in such a list of fields find E, N, U, T, whatever follows. -/
theorem columns_roundtrip (f : CsvFmt) (hv : ValidIds f) (naf : Nat) (E N : Str) (U T : Option Str) (afs : Str)
    (hU : U.isSome = decide (f.idU ≠ -1)) (hT : T.isSome = decide (f.idT ≠ -1)) (more : List Str) :
    printInOrder E N U T afs (orderList f naf) f.sep
        = .ok (joinChar f.sep (cols f (strip E) (strip N) (U.map strip) (T.map strip)) ++ afs)
    ∧ nth (cols f (strip E) (strip N) (U.map strip) (T.map strip) ++ more) (idx f.idE) = .ok (strip E)
    ∧ nth (cols f (strip E) (strip N) (U.map strip) (T.map strip) ++ more) (idx f.idN) = .ok (strip N)
    ∧ (∀ u, U = some u → nth (cols f (strip E) (strip N) (U.map strip) (T.map strip) ++ more) (idx f.idU) = .ok (strip u))
    ∧ (∀ t, T = some t → nth (cols f (strip E) (strip N) (U.map strip) (T.map strip) ++ more) (idx f.idT) = .ok (strip t)) := by
  have hl := cols_lookup f hv (strip E) (strip N) (U.map strip) (T.map strip) more
  refine ⟨printInOrder_layout f hv naf E N U T afs hU hT, hl.1, hl.2.1, ?_, ?_⟩
  · intro u hu
    subst hu
    have : f.idU ≠ -1 := by simpa using hU.symm
    simpa using hl.2.2.1 this
  · intro t ht
    subst ht
    have : f.idT ≠ -1 := by simpa using hT.symm
    simpa using hl.2.2.2 this

/-- the valid id assignments are exactly the 2 + 6 + 6 + 24 permutation layouts -/
theorem validIds_iff (e n u t : Int) : validB e n u t = true ↔ (e, n, u, t) ∈ layouts :=
  ⟨validB_mem_layouts, fun h => layouts_valid _ h⟩

/-- **T2 (data line)** `row_roundtrip`: for a bijective layout, a separator that is neither a digit, `-`,
`.` nor the newline, a time format of distinct full-width codes whose literals avoid the separator, the
quote, `#` and the newline (and that does not start or end with a blank), and coordinates that do not
collide with the reader's no-data sentinel, the line `writeToFile` writes for an observation — with any
number of feature columns — is read back by `__readFromCsv` as exactly that observation: coordinates with
the printed decimals, third coordinate 0 when no U column is written, timestamp with the fields the format
names (`project`; `ObsTime()` when no T column is written). The line contains no newline, is its own
`strip()`, is not empty and is not a comment line. -/
theorem row_roundtrip (f : CsvFmt) (geo : Bool) (pf : List Tok) (naf : Nat) (r : Row) (afs : List AFVal)
    (hv : ValidIds f) (hsep : numChar f.sep = false) (hnl : f.sep ≠ '\n')
    (htime : f.idT ≠ -1 → TimeOK pf f.sep ∧ Fits r.t)
    (hnd : decTrunc (r.x.toInt, (floatFmt geo).2) ≠ noData ∧ decTrunc (r.y.toInt, (floatFmt geo).2) ≠ noData)
    (hafs : ∀ v ∈ afs, AFOK f.sep v) :
    ∃ line, writeRow f geo pf (orderList f naf) r afs = .ok line ∧
      '\n' ∉ line ∧ strip line = line ∧ (∃ c cs, line = c :: cs ∧ c ≠ '#') ∧
      readRow f pf line = .ok ⟨(r.x.toInt, (floatFmt geo).2), (r.y.toInt, (floatFmt geo).2),
        if f.idU = -1 then (0, 0) else (r.z.toInt, (floatFmt geo).2),
        if f.idT = -1 then epoch else project pf r.t⟩ :=
  TV.TextIO.row_roundtrip f geo pf naf r afs hv hsep hnl htime hnd hafs

/-- **T2 (file)** `csv_file_roundtrip`: under the hypotheses of `row_roundtrip` for every observation
(`RowOK`), for every value of the writer's `h` argument, every coordinate system name and feature names free of
end-of-line characters (`HdrOK`), the text `writeToFile` produces — the data lines, preceded when `h > 0` by
the three comment lines `#srid: …`, `#ref point: …`, `#<column names>` — is read back by
`readFromCsv(..., h=hr)` as the same number of observations in the same order, each equal to what was written
(`expRow`), for every reader header count `hr` up to the number of header lines written (0 when `h = 0`, 3
otherwise). In particular the matching call `hr = h` reads everything back for `h` = 0, 1, 2, 3, and `hr = 0`
always does (the header lines are comment lines). -/
theorem csv_file_roundtrip (f : CsvFmt) (geo : Bool) (pf : List Tok) (h naf : Nat) (rows : List (Row × List AFVal))
    (srid : Str) (names : List Str)
    (hv : ValidIds f) (hsep : numChar f.sep = false) (hnl : f.sep ≠ '\n') (htime : f.idT ≠ -1 → TimeOK pf f.sep)
    (hrows : ∀ ra ∈ rows, RowOK f geo pf ra.1) (hafs : ∀ ra ∈ rows, ∀ v ∈ ra.2, AFOK f.sep v) (hh : HdrOK srid names) :
    ∃ text, writeToFile f geo pf h naf rows srid names = .ok text ∧
      ∀ hr, hr ≤ (if h = 0 then 0 else 3) → readCsv f pf hr text = .ok (rows.map (fun ra => expRow f geo pf ra.1)) :=
  TV.TextIO.csv_file_roundtrip f geo pf h naf rows srid names hv hsep hnl htime hrows hafs hh

/-- the matching call: written with the flag `h` (0 or 1), read with `h` -/
theorem csv_file_roundtrip_matching (f : CsvFmt) (geo : Bool) (pf : List Tok) (h naf : Nat) (hh01 : h ≤ 1)
    (rows : List (Row × List AFVal)) (srid : Str) (names : List Str)
    (hv : ValidIds f) (hsep : numChar f.sep = false) (hnl : f.sep ≠ '\n') (htime : f.idT ≠ -1 → TimeOK pf f.sep)
    (hrows : ∀ ra ∈ rows, RowOK f geo pf ra.1) (hafs : ∀ ra ∈ rows, ∀ v ∈ ra.2, AFOK f.sep v) (hh : HdrOK srid names) :
    ∃ text, writeToFile f geo pf h naf rows srid names = .ok text ∧
      readCsv f pf h text = .ok (rows.map (fun ra => expRow f geo pf ra.1)) := by
  obtain ⟨text, hw, hr⟩ := csv_file_roundtrip f geo pf h naf rows srid names hv hsep hnl htime hrows hafs hh
  exact ⟨text, hw, hr h (by split <;> omega)⟩

/-- **T2 (file, text level, any length)** `csv_file_lines`: under the hypotheses of `csv_file_roundtrip` the text
`writeToFile` produces for a track of ANY number of observations is made of physical lines, each terminated by its own
end-of-line character — the header block `hdr` (none for `h = 0`, three comment lines otherwise) followed by exactly one
line per observation, in order (`rowLine`), none of which contains an end-of-line character. Read line by line
(`readline()`, `fileLines`) the file gives these lines back: `header lines + number of observations` of them. (This is
what a writer that gathers its lines by blocks and forgets the line break between two blocks violates from the first
full block on: two observations on one physical line.) -/
theorem csv_file_lines (f : CsvFmt) (geo : Bool) (pf : List Tok) (h naf : Nat) (rows : List (Row × List AFVal))
    (srid : Str) (names : List Str)
    (hv : ValidIds f) (hsep : numChar f.sep = false) (hnl : f.sep ≠ '\n') (htime : f.idT ≠ -1 → TimeOK pf f.sep)
    (hrows : ∀ ra ∈ rows, RowOK f geo pf ra.1) (hafs : ∀ ra ∈ rows, ∀ v ∈ ra.2, AFOK f.sep v) (hh : HdrOK srid names) :
    ∃ text hdr, writeToFile f geo pf h naf rows srid names = .ok text ∧
      hdr.length = (if h = 0 then 0 else 3) ∧
      text = ((hdr ++ rows.map (fun ra => rowLine f geo pf ra.1 ra.2)).map (· ++ ['\n'])).flatten ∧
      (∀ l ∈ hdr ++ rows.map (fun ra => rowLine f geo pf ra.1 ra.2), '\n' ∉ l) ∧
      fileLines text = hdr ++ rows.map (fun ra => rowLine f geo pf ra.1 ra.2) ∧
      (fileLines text).length = (if h = 0 then 0 else 3) + rows.length := by
  obtain ⟨hdr, hlen, hl, hw⟩ := TV.TextIO.writeToFile_eq f geo pf h naf rows srid names hv hsep hnl htime hrows hafs hh
  have hno : ∀ l ∈ hdr ++ rows.map (fun ra => rowLine f geo pf ra.1 ra.2), '\n' ∉ l := by
    intro l hm
    simp only [List.mem_append, List.mem_map] at hm
    rcases hm with hm | ⟨ra, hra, rfl⟩
    · exact (hl l hm).1
    · exact (row_roundtrip_line f geo pf naf ra.1 ra.2 hv hsep hnl htime (hrows ra hra) (hafs ra hra)).2.1
  have hfl := fileLines_flatten _ hno
  refine ⟨_, hdr, hw, hlen, rfl, hno, hfl, ?_⟩
  rw [hfl, List.length_append, List.length_map, hlen]

theorem map_same_number_same_order {α β : Type} (g : α → β) (l : List α) :
    (l.map g).length = l.length ∧ ∀ i (hi : i < l.length), (l.map g)[i]? = some (g l[i]) :=
  ⟨List.length_map .., fun i hi => by simp [List.getElem?_map, List.getElem?_eq_getElem hi]⟩

/-- **T2 (file, any length)** `csv_file_same_number_same_order`: the statement of the property in its own words — "the same
number of observations in the same order" — for a track of ANY number of observations: the track read back has as many
observations as the track written, and its `i`-th observation is the `i`-th observation written (`expRow`), for every
`i`, with every reader header count up to the number of header lines written. -/
theorem csv_file_same_number_same_order (f : CsvFmt) (geo : Bool) (pf : List Tok) (h naf : Nat) (rows : List (Row × List AFVal))
    (srid : Str) (names : List Str)
    (hv : ValidIds f) (hsep : numChar f.sep = false) (hnl : f.sep ≠ '\n') (htime : f.idT ≠ -1 → TimeOK pf f.sep)
    (hrows : ∀ ra ∈ rows, RowOK f geo pf ra.1) (hafs : ∀ ra ∈ rows, ∀ v ∈ ra.2, AFOK f.sep v) (hh : HdrOK srid names) :
    ∃ text, writeToFile f geo pf h naf rows srid names = .ok text ∧
      ∀ hr, hr ≤ (if h = 0 then 0 else 3) → ∃ back, readCsv f pf hr text = .ok back ∧ back.length = rows.length ∧
        ∀ i (hi : i < rows.length), back[i]? = some (expRow f geo pf rows[i].1) := by
  obtain ⟨text, hw, hr⟩ := csv_file_roundtrip f geo pf h naf rows srid names hv hsep hnl htime hrows hafs hh
  exact ⟨text, hw, fun k hk => ⟨_, hr k hk, map_same_number_same_order _ rows⟩⟩

/-- the hypotheses are satisfiable by a long track: 5000 observations (more than two blocks of 2048 lines) with a negative
coordinate, a coordinate beyond 1e6 and a leap-day timestamp one second before midnight; the file has 5000 lines and 5000
observations are read back, the last one being the observation written -/
example : ∃ text, writeToFile ⟨0, 1, 2, 3, ','⟩ false (tokenize "2D/2M/4Y 2h:2m:2s".toList) 0 0
      (List.replicate 5000 (⟨⟨true, 1500⟩, ⟨false, 1000000123⟩, ⟨false, 0⟩, ⟨⟨2024, 2, 29, 23, 59, 59⟩, 0⟩⟩, [])) = .ok text ∧
    (fileLines text).length = 5000 ∧
    ∃ back, readCsv ⟨0, 1, 2, 3, ','⟩ (tokenize "2D/2M/4Y 2h:2m:2s".toList) 0 text = .ok back ∧ back.length = 5000 ∧
      back[4999]? = some ⟨(-1500, 3), (1000000123, 3), (0, 3), ⟨⟨2024, 2, 29, 23, 59, 59⟩, 0⟩⟩ := by
  have hv : ValidIds ⟨0, 1, 2, 3, ','⟩ := by decide
  have ht : TimeOK (tokenize "2D/2M/4Y 2h:2m:2s".toList) ',' := timeOK_of_b _ _ (by rw [String.toList_ofList]; decide)
  generalize hr : (⟨⟨true, 1500⟩, ⟨false, 1000000123⟩, ⟨false, 0⟩, ⟨⟨2024, 2, 29, 23, 59, 59⟩, 0⟩⟩ : Row) = r
  have hrow : RowOK ⟨0, 1, 2, 3, ','⟩ false (tokenize "2D/2M/4Y 2h:2m:2s".toList) r := by
    subst hr
    exact ⟨fun _ => by unfold Fits; decide, by decide +kernel, by decide +kernel⟩
  have hrows : ∀ ra ∈ List.replicate 5000 (r, ([] : List AFVal)), RowOK ⟨0, 1, 2, 3, ','⟩ false (tokenize "2D/2M/4Y 2h:2m:2s".toList) ra.1 := by
    intro ra hra; rw [List.eq_of_mem_replicate hra]; exact hrow
  have hafs : ∀ ra ∈ List.replicate 5000 (r, ([] : List AFVal)), ∀ v ∈ ra.2, AFOK ',' v := by
    intro ra hra v hv'; rw [List.eq_of_mem_replicate hra] at hv'; simp at hv'
  have hh : HdrOK "ENU".toList [] := by unfold HdrOK; rw [String.toList_ofList]; decide
  obtain ⟨text, hdr, hw, hlen, _, _, _, hn⟩ := csv_file_lines ⟨0, 1, 2, 3, ','⟩ false _ 0 0 _ "ENU".toList [] hv (by decide) (by decide)
    (fun _ => ht) hrows hafs hh
  obtain ⟨text', hw', hb⟩ := csv_file_same_number_same_order ⟨0, 1, 2, 3, ','⟩ false _ 0 0 _ "ENU".toList [] hv (by decide) (by decide)
    (fun _ => ht) hrows hafs hh
  obtain ⟨back, hrd, hl, hi⟩ := hb 0 (Nat.le_refl 0)
  have htt : text' = text := by rw [hw] at hw'; exact (Except.ok.inj hw').symm
  subst htt
  rw [List.length_replicate] at hn hl
  refine ⟨text', hw, hn, back, hrd, hl, ?_⟩
  rw [hi 4999 (by rw [List.length_replicate]; omega), List.getElem_replicate]
  subst hr
  repeat rw [String.toList_ofList]
  decide +kernel

/-- reader side of the header option: a file made of `header` first lines of any content, any number of comment
lines (`#…`) and then the data lines is read with `h=header` as exactly the observations. The header block of
`writeToFile` (`#srid: …`, `#ref point: …`, `#E;N;…`) has this shape for every split of its three lines. -/
theorem csv_header_block_roundtrip (f : CsvFmt) (geo : Bool) (pf : List Tok) (naf : Nat) (rows : List (Row × List AFVal))
    (hv : ValidIds f) (hsep : numChar f.sep = false) (hnl : f.sep ≠ '\n') (htime : f.idT ≠ -1 → TimeOK pf f.sep)
    (hrows : ∀ ra ∈ rows, RowOK f geo pf ra.1) (hafs : ∀ ra ∈ rows, ∀ v ∈ ra.2, AFOK f.sep v)
    (pre : List Str) (cm : List Str) (hpre : ∀ l ∈ pre, '\n' ∉ l) (hcm : ∀ l ∈ cm, '\n' ∉ l ∧ ∃ cs, strip l = '#' :: cs) :
    readCsv f pf pre.length (((pre ++ (cm ++ rows.map (fun ra => rowLine f geo pf ra.1 ra.2))).map (· ++ ['\n'])).flatten)
      = .ok (rows.map (fun ra => expRow f geo pf ra.1)) :=
  TV.TextIO.csv_header_block_roundtrip f geo pf naf rows hv hsep hnl htime hrows hafs pre cm hpre hcm

/-- **front end** `writeToCsv_roundtrip`: `TrackWriter.writeToCsv(track, path, track_format)` writes what `writeToFile` writes
with the column ids, separator and `header` of the TrackFormat (no feature column: `track_format.af_names` is always empty),
so the file is read back by `readFromCsv` with any header count up to the number of header lines written, under the
hypotheses of `csv_file_roundtrip`. -/
theorem writeToCsv_roundtrip (f : CsvFmt) (geo : Bool) (pf : List Tok) (h : Nat) (rows : List Row) (srid : Str)
    (hv : ValidIds f) (hsep : numChar f.sep = false) (hnl : f.sep ≠ '\n') (htime : f.idT ≠ -1 → TimeOK pf f.sep)
    (hrows : ∀ r ∈ rows, RowOK f geo pf r) (hsrid : '\n' ∉ srid) :
    ∃ text, writeToCsv f geo pf h rows srid = .ok text ∧
      ∀ hr, hr ≤ (if h = 0 then 0 else 3) → readCsv f pf hr text = .ok (rows.map (expRow f geo pf)) :=
  TV.TextIO.writeToCsv_roundtrip f geo pf h rows srid hv hsep hnl htime hrows hsrid

/-- `writeToCsv(collection, dir, track_format)` (= `writeToFiles`): one file per track, each of which is read back as its
track. -/
theorem writeToCsv_collection_roundtrip (f : CsvFmt) (geo : Bool) (pf : List Tok) (h : Nat) (tracks : List (List Row)) (srid : Str)
    (hv : ValidIds f) (hsep : numChar f.sep = false) (hnl : f.sep ≠ '\n') (htime : f.idT ≠ -1 → TimeOK pf f.sep)
    (hrows : ∀ rows ∈ tracks, ∀ r ∈ rows, RowOK f geo pf r) (hsrid : '\n' ∉ srid) :
    ∃ texts, writeToCsvColl f geo pf h tracks srid = .ok texts ∧ texts.length = tracks.length ∧
      ∀ i (h1 : i < texts.length) (h2 : i < tracks.length), ∀ hr, hr ≤ (if h = 0 then 0 else 3) →
        readCsv f pf hr texts[i] = .ok (tracks[i].map (expRow f geo pf)) := by
  obtain ⟨texts, hw⟩ := Common.mapM_ok_of_each (f := fun rows => writeToCsv f geo pf h rows srid) (l := tracks) (fun rows hr =>
    (writeToCsv_roundtrip f geo pf h rows srid hv hsep hnl htime (hrows rows hr) hsrid).imp fun _ hx => hx.1)
  obtain ⟨hlen, hget⟩ := Common.mapM_ok_getElem? hw
  refine ⟨texts, hw, hlen, fun i h1 h2 k hk => ?_⟩
  obtain ⟨b, hb, hwb⟩ := hget i _ (List.getElem?_eq_getElem h2)
  obtain ⟨text, hw', hr⟩ := writeToCsv_roundtrip f geo pf h tracks[i] srid hv hsep hnl htime (hrows _ (List.getElem_mem h2)) hsrid
  rw [List.getElem?_eq_getElem h1, Option.some.injEq] at hb
  rw [hb, Except.ok.inj (hwb.symm.trans hw')]
  exact hr k hk

/-- **default arguments** `writeToFile_default_roundtrip`: `TrackWriter.writeToFile(track, path)` — every other argument left at its
default, the branch that builds its own format (E in column 0, N in column 1, separator `,`, no header) — writes a file that the
matching call `readFromCsv(path, 0, 1)` reads back as the same observations (planimetric coordinates; no U and no time column
is written: third coordinate 0, `ObsTime()`). -/
theorem writeToFile_default_roundtrip (geo : Bool) (pf : List Tok) (rows : List Row) (srid : Str)
    (hrows : ∀ r ∈ rows, RowOK ⟨0, 1, -1, -1, ','⟩ geo pf r) (hsrid : '\n' ∉ srid) :
    ∃ text, writeToFileDefault geo pf rows srid = .ok text ∧
      readCsv ⟨0, 1, -1, -1, ','⟩ pf 0 text = .ok (rows.map (expRow ⟨0, 1, -1, -1, ','⟩ geo pf)) := by
  obtain ⟨text, hw, hr⟩ := writeToCsv_roundtrip ⟨0, 1, -1, -1, ','⟩ geo pf 0 rows srid (by decide) (by decide) (by decide)
    (fun h => absurd rfl h) hrows hsrid
  exact ⟨text, hw, hr 0 (by simp)⟩

/-- **directory read-back** `readFromCsv_dir_roundtrip`: after `writeToCsv(collection, dir, format)`, `readFromCsv(dir, …)` (the
directory branch of `readFromFile`) — whatever the order in which `os.listdir` delivers the files (`listing`: any sequence of
written files, each paired with the track it was written from) — returns those tracks in listing order, each with all its
observations in order; a file whose track is empty is skipped. -/
theorem readFromCsv_dir_roundtrip (f : CsvFmt) (geo : Bool) (pf : List Tok) (h : Nat) (tracks : List (List Row)) (srid : Str)
    (hv : ValidIds f) (hsep : numChar f.sep = false) (hnl : f.sep ≠ '\n') (htime : f.idT ≠ -1 → TimeOK pf f.sep)
    (hrows : ∀ rows ∈ tracks, ∀ r ∈ rows, RowOK f geo pf r) (hsrid : '\n' ∉ srid) :
    ∃ texts, writeToCsvColl f geo pf h tracks srid = .ok texts ∧ texts.length = tracks.length ∧
      ∀ listing : List (Str × List Row), (∀ x ∈ listing, x ∈ texts.zip tracks) → ∀ hr, hr ≤ (if h = 0 then 0 else 3) →
        readCsvDir f pf hr (listing.map (·.1))
          = .ok ((listing.map (fun x => x.2.map (expRow f geo pf))).filter (fun t => !t.isEmpty)) := by
  obtain ⟨texts, hw, hlen, hrd⟩ := writeToCsv_collection_roundtrip f geo pf h tracks srid hv hsep hnl htime hrows hsrid
  refine ⟨texts, hw, hlen, fun listing hl hr hle => ?_⟩
  unfold readCsvDir
  have hm : (listing.map (·.1)).mapM (readCsv f pf hr) = .ok (listing.map (fun x => x.2.map (expRow f geo pf))) := by
    refine Common.mapM_map_ok_of_forall fun x hx => ?_
    obtain ⟨i, hi, hxi⟩ := List.mem_iff_getElem.1 (hl x hx)
    rw [List.getElem_zip] at hxi
    have h1 : i < texts.length := by simp at hi; omega
    have h2 : i < tracks.length := by simp at hi; omega
    have := hrd i h1 h2 hr hle
    rw [← hxi]
    exact this
  rw [hm]
  rfl

/-- **T2 (feature columns)** `csv_read_all_roundtrip`: a track written by `writeToFile` with its header block (`h > 0`)
and the feature columns `af_names = names` — values of any kind (`AFVal`: int, float on a decimal lattice, str, nan, ±inf)
whose text is one field of the line (`AFOK`), names that are good fields, distinct and not refused by the track (`NameOK`),
a separator that is not one of the letters of the column names `E N U X Y Z lon lat h time` — is read back by
`readFromCsv(..., h=hr, read_all=True)`, for EVERY reader header count `hr` up to the three header lines written — `hr` = 0, 1,
2, 3, in particular the matching calls `h = hr` — as the same observations, the same feature names in the same order, and for
every observation the values `expAF name v` (`read_all_values` says what they are). For `hr ≤ 2` the names are those of the
last header line (`#E;N;U;time;af0;…`), which the first pass reads as a comment line (stripped); the second pass reads the
first line raw and the others stripped. For `hr = 3` the names line is consumed by the header loop RAW
(`line[1:].split(sep)`: the last name carries the newline until the names are stripped), no comment line is left, and the
second pass meets the first data line raw (its last field carries the newline until the value is stripped).
(`h = 0` writes no names: the reader raises UnboundLocalError; `hr > 3` eats data lines.) -/
theorem csv_read_all_roundtrip (f : CsvFmt) (geo : Bool) (pf : List Tok) (h naf : Nat) (rows : List (Row × List AFVal))
    (srid : Str) (names : List Str)
    (hv : ValidIds f) (hsep : numChar f.sep = false) (hnl : f.sep ≠ '\n') (hcol : f.sep ∉ colChars)
    (htime : f.idT ≠ -1 → TimeOK pf f.sep)
    (hrows : ∀ ra ∈ rows, RowOK f geo pf ra.1) (hafs : ∀ ra ∈ rows, ∀ v ∈ ra.2, AFOK f.sep v) (hsrid : '\n' ∉ srid)
    (hpos : 0 < h) (hne : rows ≠ [])
    (hnames : ∀ n ∈ names, NameOK f.sep n) (hnd : names.Nodup) (hrl : ∀ ra ∈ rows, ra.2.length = names.length) :
    ∃ text, writeToFile f geo pf h naf rows srid names = .ok text ∧
      ∀ hr, hr ≤ 3 → readCsvAll f pf hr text
        = .ok (rows.map (fun ra => expRow f geo pf ra.1), names,
               rows.map (fun ra => (names.zip ra.2).map (fun nv => expAF nv.1 nv.2))) :=
  TV.TextIO.csv_read_all_roundtrip3 f geo pf h naf rows srid names hv hsep hnl hcol htime hrows hafs hsrid hpos hne hnames hnd hrl

/-- the hypotheses are satisfiable, and `hr = 3` is not vacuous: two observations, a time column, two feature columns
(`speed`, and `k&` whose values stay texts), written with `h = 1` and read with `h = 3, read_all=True` -/
example : ∃ text, writeToFile ⟨0, 1, -1, 2, ';'⟩ false (tokenize "2D/2M/4Y 2h:2m:2s".toList) 1 2
      [(⟨⟨true, 1500⟩, ⟨false, 2250⟩, ⟨false, 0⟩, ⟨⟨2024, 2, 29, 23, 59, 59⟩, 0⟩⟩, [.dec 1 25, .int 7]),
       (⟨⟨false, 0⟩, ⟨false, 1⟩, ⟨false, 0⟩, ⟨⟨2000, 1, 1, 0, 0, 0⟩, 0⟩⟩, [.nan, .str "a b".toList])]
      "ENU".toList ["speed".toList, "k&".toList] = .ok text ∧
    text = "#srid: ENU\n#ref point: None\n#E;N;time;speed;k&\n-1.500;2.250;29/02/2024 23:59:59;2.5;7\n0.000;0.001;01/01/2000 00:00:00;nan;a b\n".toList ∧
    (readCsvAll ⟨0, 1, -1, 2, ';'⟩ (tokenize "2D/2M/4Y 2h:2m:2s".toList) 3 text).toOption
      = some ([⟨(-1500, 3), (2250, 3), (0, 0), ⟨⟨2024, 2, 29, 23, 59, 59⟩, 0⟩⟩, ⟨(0, 3), (1, 3), (0, 0), ⟨⟨2000, 1, 1, 0, 0, 0⟩, 0⟩⟩],
              ["speed".toList, "k&".toList], [[.num (25, 1), .str "7".toList], [.nan, .str "a b".toList]]) := by
  refine ⟨_, ?_, rfl, ?_⟩ <;> repeat rw [String.toList_ofList]
  · rfl
  · decide +kernel

/-- `read_all_values`: what `expAF` is. In a column whose name does not end in `&`: an `int` comes back as the float of the
same value; a float `n / 10^d` of ANY magnitude as the decimal `str()` printed — positionally or, below `1e-4` and from `1e16`,
in exponent notation (`5e-09`, `1.5e+22`) — whose value is `n / 10^d` (`repr_value`); `nan`, `inf`, `-inf` as themselves; a
string that `float()` refuses and that holds no double quote as itself. In a column whose name ends in `&` every value comes
back as its text. Feature values that are ints always satisfy `AFOK` when the separator is not a number character; floats
when it is, besides, neither the exponent marker `e` nor `+`. -/
theorem read_all_values (name : Str) :
    (name.getLast? ≠ some '&' →
      (∀ i, expAF name (.int i) = .num (i, 0)) ∧
      (∀ d n, expAF name (.dec d n) = .num (reprValF d (SNum.ofInt n)) ∧
        (reprValF d (SNum.ofInt n)).1 * 10 ^ d = n * 10 ^ (reprValF d (SNum.ofInt n)).2) ∧
      expAF name .nan = .nan ∧ (∀ b, expAF name (.inf b) = .inf b) ∧
      (∀ s, floatLit? s = none → '"' ∉ s → expAF name (.str s) = .str s)) ∧
    (name.getLast? = some '&' → ∀ v, expAF name v = .str (afText v)) ∧
    (∀ sep, numChar sep = false → (∀ i, AFOK sep (.int i)) ∧ (sep ≠ 'e' → sep ≠ '+' → ∀ d n, AFOK sep (.dec d n))) := by
  refine ⟨fun h => ?_, fun h v => expAF_amp name h v, fun sep hs => ⟨afOK_int sep hs, fun he hp => afOK_dec sep hs he hp⟩⟩
  obtain ⟨h1, h2, h3, h4, h5⟩ := expAF_values name h
  refine ⟨h1, fun d n => ⟨h2 d n, ?_⟩, h3, h4, h5⟩
  have := reprValF_value d (SNum.ofInt n)
  rwa [toInt_ofInt] at this

/-- **T3 `time_roundtrip`**: for a format made of distinct full-width codes (`2D 2M 4Y 2h 2m 2s 3z`,
`Lossless`) and arbitrary literal characters, and a stamp whose fields fit their widths (`Fits`: four-digit
year, …, which every well-formed `ObsTime` before year 10000 satisfies), reading what `__str__` printed
gives back the fields the format names; the others keep the values of `ObsTime()`. -/
theorem time_roundtrip (f : List Tok) (h : Lossless f) (t : Stamp) (ht : Fits t) :
    readTimestamp f (printTime f t) = some (project f t) :=
  readTimestamp_printTime f h t ht

/-- **reading under another format** `reread_roundtrip`: a text is read under a lossless read format `f2` as the stamp whose
text under `f2` it is (`printTime f2 t2`), whatever format `f1` and stamp `t1` it was printed from — `03/04/2021` printed
from 3 April under `2D/2M/4Y` is 4 March under `2M/2D/4Y`. The result depends on the text and on the read format in force
only: this is what the `reread` stream and the twin-format sessions demand of the real code (state left by earlier reads
must not matter). -/
theorem reread_roundtrip (f1 f2 : List Tok) (h2 : Lossless f2) (t1 t2 : Stamp) (ht2 : Fits t2)
    (htext : printTime f1 t1 = printTime f2 t2) : readTimestamp f2 (printTime f1 t1) = some (project f2 t2) := by
  rw [htext]
  exact time_roundtrip f2 h2 t2 ht2

/-- 3 April 2021 under day/month is the text of 4 March 2021 under month/day -/
example : printTime (tokenize "2D/2M/4Y 2h:2m:2s".toList) ⟨⟨2021, 4, 3, 10, 0, 0⟩, 0⟩
    = printTime (tokenize "2M/2D/4Y 2h:2m:2s".toList) ⟨⟨2021, 3, 4, 10, 0, 0⟩, 0⟩ := by
  repeat rw [String.toList_ofList]
  decide +kernel

/-- with the six calendar codes present the calendar part is read back identically ("timestamps
identical to the second") -/
theorem time_roundtrip_full (f : List Tok) (h : Lossless f) (hfull : FullDate f) (t : Stamp) (ht : Fits t) :
    ∃ t', readTimestamp f (printTime f t) = some t' ∧ t'.d = t.d :=
  ⟨_, time_roundtrip f h t ht, project_full f t hfull⟩

/-- T3 with trailing text: what follows the printed stamp (the zone letter `Z` of a GPX `<time>`) is ignored -/
theorem time_roundtrip_suffix (f : List Tok) (h : Lossless f) (t : Stamp) (ht : Fits t) (suf : Str) :
    readTimestamp f (printTime f t ++ suf) = some (project f t) :=
  readTimestamp_printTime_suffix f h t ht suf

/-- **GPX** `gpx_file_roundtrip`: the text `writeToGpx` writes for a track (from the `<trk>` line on; the
metadata block above it lies outside any `<trk>` and is skipped by the scanner) is read by the `trk` scanner of
`__readFromGpx`, with a read format that reads ISO stamps (`ReadsIso`: `4Y-2M-2DT2h:2m:2s`, with or without
the trailing `Z` — the format the caller has to set), as exactly one track with the same points in the same
order: longitude, latitude with the eight printed decimals, the timestamp to the second, and the elevation
when the coordinates are geographic. For `srid` ENU / ECEF the elevation comes back as 0 (`geo = false`): the
scanner stores it in an attribute those coordinate classes do not use — the defect listed as
`gpx-elevation-non-geo`. The track name must not contain `<` or a newline. -/
theorem gpx_file_roundtrip (rf : List Tok) (hrf : ReadsIso rf) (geo : Bool) (name : Str)
    (hname : '<' ∉ name ∧ '\n' ∉ name) (rows : List GRow) (hrows : ∀ r ∈ rows, Fits r.t) :
    readGpx rf geo (gpxBody name rows) = .ok [rows.map (expG rf geo)] :=
  TV.TextIO.gpx_file_roundtrip rf hrf geo name hname rows hrows

/-- **GPX collection** `gpx_collection_roundtrip`: `writeToGpx(collection, path)` with `oneFile=True` (the default) writes one
`<trk>` element per track, in the order of the collection; the file is read back as the same number of tracks in the same
order, each with the same points in order (track names free of `<` and newline; a track without points comes back empty). -/
theorem gpx_collection_roundtrip (rf : List Tok) (hrf : ReadsIso rf) (geo : Bool) (tracks : List (Str × List GRow))
    (hok : ∀ t ∈ tracks, ('<' ∉ t.1 ∧ '\n' ∉ t.1) ∧ ∀ r ∈ t.2, Fits r.t) :
    readGpx rf geo (gpxBodyColl tracks) = .ok (tracks.map (fun t => t.2.map (expG rf geo))) :=
  TV.TextIO.gpx_collection_roundtrip rf hrf geo tracks hok

/-- two tracks in one file, the second one empty -/
example : (readGpx isoFmt true (gpxBodyColl [("a".toList, [⟨⟨false, 100000000⟩, ⟨true, 200000000⟩, ⟨false, 0⟩, ⟨⟨2020, 1, 2, 3, 4, 5⟩, 0⟩⟩]),
      ("b".toList, [])])).toOption
    = some [[⟨(100000000, 8), (-200000000, 8), (0, 8), ⟨⟨2020, 1, 2, 3, 4, 5⟩, 0⟩⟩], []] := by
  repeat rw [String.toList_ofList]
  decide +kernel

/-- **GPX with extensions** `gpx_af_file_roundtrip`: the text `writeToGpx(track, path, af=True)` writes — every point followed
by an `<extensions>` block with one line `<name>str(value)</name>` per analytical feature — is read by the `trk` scanner as the
same single track with the same points in order (the reader does not read the feature values: `read_all` is ignored for GPX).
The scanner skips the lines from `<extensions>` to `</extensions>`, so the names of the features do not matter: a feature
called `time`, `ele`, `trk` or `trkpt` is not taken for the point's own tag. Hypothesis on every extension line
(`ExtOK`): it is one line and does not itself contain `</extensions>` (which would end the block early);
`gpx_af_names_ok` gives a simple sufficient condition on names and values. -/
theorem gpx_af_file_roundtrip (rf : List Tok) (hrf : ReadsIso rf) (geo : Bool) (name : Str)
    (hname : '<' ∉ name ∧ '\n' ∉ name) (rows : List (GRow × List (Str × AFVal)))
    (hrows : ∀ ra ∈ rows, Fits ra.1.t ∧ ∀ a ∈ ra.2, ExtOK a.1 a.2) :
    readGpx rf geo (gpxBodyAF name rows) = .ok [rows.map (fun ra => expG rf geo ra.1)] :=
  TV.TextIO.gpx_af_file_roundtrip rf hrf geo name hname rows hrows

/-- `gpx_af_names_ok`: every feature whose name holds no `<`, `>`, newline, does not start with `/` and is not `extensions`
itself, and whose value text holds no `<` and no newline, satisfies `ExtOK` — whatever the name otherwise is (`time`, `ele`,
`trk`, `trkpt` included). -/
theorem gpx_af_names_ok (n : Str) (v : AFVal) (h1 : '<' ∉ n) (h2 : '>' ∉ n) (h3 : '\n' ∉ n) (h4 : '<' ∉ afText v)
    (h5 : '\n' ∉ afText v) (h6 : n.head? ≠ some '/') (h7 : n ≠ "extensions".toList) : ExtOK n v := by
  unfold ExtOK
  rw [lAf_elem]
  refine ⟨?_, not_mem_elemLine _ _ _ h3 h5⟩
  rw [pat_eext, isInfix_elem _ _ _ _ h1 h4]
  -- the opening tag does not start with `/`; the closing tag is `</extensions>` only for the name `extensions`
  have f1 : isPrefix ['/', 'e', 'x', 't', 'e', 'n', 's', 'i', 'o', 'n', 's', '>'] ((n ++ '>' :: afText v) ++ '<' :: ('/' :: (n ++ ['>']))) = false := by
    cases n with
    | nil => simp [isPrefix]
    | cons c cs =>
      have : c ≠ '/' := by
        intro e; subst e; exact h6 rfl
      simp [isPrefix, Ne.symm this]
  have f2 : isPrefix ['/', 'e', 'x', 't', 'e', 'n', 's', 'i', 'o', 'n', 's', '>'] ('/' :: (n ++ ['>'])) = false := by
    cases hb : isPrefix ['/', 'e', 'x', 't', 'e', 'n', 's', 'i', 'o', 'n', 's', '>'] ('/' :: (n ++ ['>'])) with
    | false => rfl
    | true =>
      have hb' : isPrefix ("extensions".toList ++ ['>']) (n ++ ['>']) = true := by
        simpa [isPrefix] using hb
      exact absurd (isPrefix_snoc_eq '>' _ n h2 hb') h7
  rw [f1, f2]
  rfl

/-- the two read formats the callers use for GPX files read ISO stamps; with them the calendar part of the
timestamp comes back unchanged -/
theorem gpx_read_formats : ReadsIso isoFmt ∧ ReadsIso (tokenize "4Y-2M-2DT2h:2m:2sZ".toList)
    ∧ (∀ t, (project isoFmt t).d = t.d) ∧ (∀ t, (project (tokenize "4Y-2M-2DT2h:2m:2sZ".toList) t).d = t.d) :=
  ⟨readsIso_iso, readsIso_isoZ, fun t => project_full _ t (by rw [isoFmt_eq]; decide),
    fun t => project_full _ t (by rw [isoFmtZ_eq, isoFmt_eq]; decide)⟩

/-- **`repr_value`**: `float(str(x))` for `x = ±mag / 10^d` of any magnitude: the text — positional, or in exponent notation
with the marker `e` (as written) or `E` (after `str.upper()`) — is accepted by `float()` and the decimal read back has the
value written, `mantissa · 10^d = ±mag · 10^decimals` (exact; that this decimal is the double itself is `repr`'s
shortest-round-trip contract, see `written_precision_partial`). -/
theorem repr_value (ec : Char) (hec : ec = 'e' ∨ ec = 'E') (d : Nat) (v : SNum) :
    parseDec? (reprFloat ec d v) = some (reprValF d v) ∧ (reprValF d v).1 * 10 ^ d = v.toInt * 10 ^ (reprValF d v).2 :=
  ⟨parseDec_reprFloat ec (by rcases hec with rfl | rfl <;> decide) d v, reprValF_value d v⟩

/-- **written precision, partial** `written_precision_partial`: the written precision is the precision of the TEXT. For the
CSV and GPX writers (fixed-point formats) what is printed for a coordinate `±m / 10^d` and what `float()` reads from it denote
the same number; for WKT, which writes `str(float)`, the text read back denotes exactly the number printed, whatever its
magnitude (positional or exponent notation, either marker). MISSING: Python's `format` applied to an arbitrary double (the
correctly rounded choice of `m`, hence "within half a unit of the last printed decimal"), the choice of the shortest
round-trip digits by `repr`, and `float()`'s correctly rounded conversion are library behaviour; they are exercised by the
`fix` stream, by the byte-for-byte comparison of every written file and by the off-lattice / full-range streams, not proved. -/
theorem written_precision_partial (w d : Nat) (v : SNum) (ec : Char) (hec : ec = 'e' ∨ ec = 'E') :
    parseDec? (renderFixedS w d v) = some (v.toInt, d) ∧
    (parseDec? (reprFloat ec d v) = some (reprValF d v) ∧ (reprValF d v).1 * 10 ^ d = v.toInt * 10 ^ (reprValF d v).2) :=
  ⟨fixed_roundtrip w d v, repr_value ec hec d v⟩

/-- well-formed stamps before year 10000 fit -/
theorem fits_of_wf (t : Stamp) (h : WFs t) (hy : t.d.year < 10000) : Fits t := by
  obtain ⟨⟨_, _, hm, _, hd, hh, hmi, hs⟩, hms⟩ := h
  have := monthDays_le t.d.year (t.d.month - 1)
  exact ⟨hy, by omega, by omega, by omega, by omega, by omega, hms⟩

/-- **T4 `wkt_roundtrip`**: for a non-empty ENU, Geo or ECEF track whose first two coordinates (E N / lon lat / X Y) are ANY
finite floats — `±mag / 10^d` their shortest round-trip decimals: negative zero, integer-valued (`5.0`), many digits, below
`1e-4` or from `1e16` where `str(float)` switches to the exponent notation (`1.9290316747799796e-05`, `-4.26e-12`, `1.5e+22`) —
`TrackReader.parseWkt(track.toWKT())` returns the same number of vertices in the same order, each with the coordinates written
(`expVertex`: `float()` of the printed text, third coordinate 0; `wkt_vertex_value`: its value is the value written). The text
reaches the vertex loop upper-cased (`wkt_upper`): an exponent marker is read as `E`. -/
theorem wkt_roundtrip (d : Nat) (pts : List Pt) (hne : pts ≠ []) :
    parseWkt (toWKT d pts) = .ok (pts.map (expVertex d)) :=
  TV.TextIO.wkt_roundtrip d pts hne

/-- the vertex parsed back has the planimetric coordinates written: `mantissa / 10^decimals = ±mag / 10^d` for both ordinates
(cross-multiplied, exact), and the third coordinate 0 -/
theorem wkt_vertex_value (d : Nat) (p : Pt) :
    (expVertex d p).1.1 * 10 ^ d = p.1.toInt * 10 ^ (expVertex d p).1.2 ∧
    (expVertex d p).2.1.1 * 10 ^ d = p.2.toInt * 10 ^ (expVertex d p).2.1.2 ∧ (expVertex d p).2.2 = (0, 0) :=
  ⟨reprValF_value d p.1, reprValF_value d p.2, rfl⟩

/-- what `parseWkt` works on: `wkt.upper()` of the exported text is the same text with the exponent marker `E` -/
theorem wkt_upper (d : Nat) (pts : List Pt) : toUpper (toWKT d pts) = toWKTE 'E' d pts := toUpper_toWKT d pts

/-- **`polygon_parse`**: a one-ring polygon text in the canonical layout `POLYGON((x y,x y,…))` — which tracklib never writes but
other tools do — whose ordinates are printed as `str(float)` prints them (any magnitude) is parsed by `TrackReader.parseWkt` as
the vertices of its ring, in order, each with the coordinates written. -/
theorem polygon_parse (d : Nat) (pts : List Pt) (hne : pts ≠ []) :
    parseWkt (toPolyWKT 'e' d pts) = .ok (pts.map (expVertex d)) :=
  TV.TextIO.polygon_parse d pts hne

example : toPolyWKT 'e' 5 [(0, 0), (150000, 0), (150000, 1), (0, 0)] = "POLYGON((0.0 0.0,1.5 0.0,1.5 1e-05,0.0 0.0))".toList := by
  repeat rw [String.toList_ofList]
  decide +kernel

/-- **WKT file** `wkt_file_roundtrip`: tracks exported with `toWKT` and stored one per line in a csv file — `uid sep tid sep
"LINESTRING(…)"`, the layout `TrackReader.readFromWkt(path, 2, 0, 1, sep, h, doublequote=…)` reads; with or without a header line,
with or without an empty line after every track, either value of `doublequote` — come back as the same number of tracks in the
same order, each with its user id, its track id and every vertex with the planimetric coordinates written (`wkt_vertex_value`).
tracklib has no writer for this layout: the file is the one a user writes with `sep.join`. Identifiers free of the separator, the
quote and end-of-line characters; at least one vertex per track; the separator is not the quote or an end-of-line character (it
MAY be the comma or the blank: the WKT text is quoted). -/
theorem wkt_file_roundtrip (dq : Bool) (sep : Char) (hsep : sep ≠ '"') (hs : sep ≠ '\n' ∧ sep ≠ '\r') (hdr blank : Bool) (d : Nat)
    (tracks : List (Str × Str × List Pt)) (hok : ∀ t ∈ tracks, WTrackOK sep t) :
    readWktFile ⟨2, 0, 1, sep, if hdr then 1 else 0, dq⟩ (wktFile sep hdr true blank 2 0 1 d tracks)
      = .ok (tracks.map (expWTrack d)) :=
  TV.TextIO.wkt_file_roundtrip dq sep hsep hs hdr blank d tracks hok

/-- a two-track file with a header line and blank lines, separator `,` (the WKT text is quoted), one ordinate in exponent notation -/
example : wktFile ',' true true true 2 0 1 5 [("u1".toList, "t0".toList, [(150000, -225000), (1, 0)]), ("u2".toList, "t1".toList, [(0, 500000)])]
      = "user,track,wkt\nu1,t0,\"LINESTRING(1.5 -2.25,1e-05 0.0)\"\n\nu2,t1,\"LINESTRING(0.0 5.0)\"\n\n".toList
    ∧ (readWktFile ⟨2, 0, 1, ',', 1, false⟩ (wktFile ',' true true true 2 0 1 5
        [("u1".toList, "t0".toList, [(150000, -225000), (1, 0)]), ("u2".toList, "t1".toList, [(0, 500000)])])).toOption
      = some [⟨some "u1".toList, some "t0".toList, [((15, 1), (-225, 2), (0, 0)), ((1, 5), (0, 1), (0, 0))]⟩,
              ⟨some "u2".toList, some "t1".toList, [((0, 1), (50, 1), (0, 0))]⟩] := by
  repeat rw [String.toList_ofList]
  decide +kernel
example : WTrackOK ',' ("u1".toList, "t0".toList, [(150000, -225000)]) := by unfold WTrackOK IdOK; decide

/-- **`float_exponent_form`**: `float()` of a literal in exponent notation `[-]d[.ddd](e|E)(+|-)xx` — the digits `a`, the
exponent `x` — is the decimal `a / 10^(digits-1) · 10^x`, for every `a` and `x` (reader side of `repr_value`: also texts
`str(float)` would not print, e.g. with trailing zeros in the mantissa). -/
theorem float_exponent_form (ec : Char) (hec : ec = 'e' ∨ ec = 'E') (neg : Bool) (a : Nat) (x : Int) :
    parseDec? ((if neg then ['-'] else []) ++ sciMant a ++ expText ec x)
      = some (scaleDec (if neg then -(a : Int) else (a : Int)) (numDigits a - 1) x) :=
  parseDec_sci ec (by rcases hec with rfl | rfl <;> decide) neg a x

/-- the texts `str(float)` prints around the two switches, and what is read back: 0.0001 is positional, 0.00001 is `1e-05`;
9999999999999998.0 is positional, 1e16 is `1e+16`; the ordinate of the seeded defect; the smallest double; negative zero -/
example : reprFloat 'e' 4 ⟨false, 1⟩ = "0.0001".toList ∧ reprFloat 'e' 5 ⟨false, 1⟩ = "1e-05".toList
    ∧ reprFloat 'e' 0 ⟨false, 9999999999999998⟩ = "9999999999999998.0".toList ∧ reprFloat 'e' 0 ⟨false, 10 ^ 16⟩ = "1e+16".toList
    ∧ reprFloat 'e' 21 ⟨false, 19290316747799796⟩ = "1.9290316747799796e-05".toList
    ∧ reprFloat 'E' 27 ⟨true, 4262146191535976⟩ = "-4.262146191535976E-12".toList
    ∧ reprFloat 'e' 324 ⟨false, 5⟩ = "5e-324".toList ∧ reprFloat 'e' 3 ⟨true, 0⟩ = "-0.0".toList
    ∧ reprFloat 'e' 0 ⟨false, 5⟩ = "5.0".toList ∧ reprFloat 'e' 3 ⟨false, 15 * 10 ^ 24⟩ = "1.5e+22".toList := by
  repeat rw [String.toList_ofList]
  decide +kernel
example : reprValF 21 ⟨false, 19290316747799796⟩ = (19290316747799796, 21) ∧ reprValF 3 ⟨false, 15 * 10 ^ 24⟩ = (15 * 10 ^ 21, 0)
    ∧ reprValF 3 ⟨true, 0⟩ = (0, 1) ∧ reprValF 5 ⟨true, 100⟩ = (-1, 3) := by
  repeat rw [String.toList_ofList]
  decide +kernel
/-- the track of the seeded defect: a point due east of the base, one due north of it -/
example : toWKT 27 [(⟨false, 14678254238078335 * 10 ^ 12⟩, ⟨false, 19290316747799796 * 10 ^ 6⟩), (⟨true, 4262146191535976⟩, ⟨false, 22241366549883587 * 10 ^ 12⟩)]
      = "LINESTRING(14.678254238078335 1.9290316747799796e-05,-4.262146191535976e-12 22.241366549883587)".toList
    ∧ (parseWkt (toWKT 27 [(⟨false, 14678254238078335 * 10 ^ 12⟩, ⟨false, 19290316747799796 * 10 ^ 6⟩),
        (⟨true, 4262146191535976⟩, ⟨false, 22241366549883587 * 10 ^ 12⟩)])).toOption
      = some [((14678254238078335, 15), (19290316747799796, 21), (0, 0)), ((-4262146191535976, 27), (22241366549883587, 15), (0, 0))] := by
  repeat rw [String.toList_ofList]
  decide +kernel

/-- **T4 `network_row_roundtrip`**: the line `NetworkWriter.writeToCsv` writes for an edge
(`id,source,target,orientation,"LINESTRING(...)"`), split by `csv.reader` with the same delimiter, gives the five
fields, and `readLineAndAddToNetwork` rebuilds the edge: same identifiers, same end nodes, same orientation,
same vertices (`expEdge`). Requires identifiers free of the delimiter, quote and end-of-line characters, an
orientation among 0, 1, −1, at least two vertices, and a delimiter that is not a number character (`SepOK`). -/
theorem network_row_roundtrip (sep : Char) (hs : SepOK sep) (hdr d : Nat) (e : NEdge) (he : EdgeOK sep e) :
    netRow sep d e = edgeBody sep d e ++ ['\n'] ∧
    csvRecord sep ((edgeBody sep d e).filter (fun c => c ≠ '\n' ∧ c ≠ '\r')) = [e.id, e.src, e.tgt, intStr e.orient, toWKT d e.geom] ∧
    netReadRow ⟨0, 1, 2, 3, 4, sep, hdr⟩ [e.id, e.src, e.tgt, intStr e.orient, toWKT d e.geom] = .ok (expEdge d e) :=
  ⟨netRow_eq sep d e, csvRecord_edgeBody sep hs d e he, netReadRow_record sep hdr d e he⟩

/-- **T4 (network file)** `net_file_roundtrip`: a network written with its header line (`h=1`) and read with
`header=1`, or written without header (`h=0`) and read with `header=0`, gives back all edges in order, each
equal to what was written — every vertex of every geometry, whether or not the network is topologically exact (edges that
share a node id may end beside the position the node was registered with: the geometry is not touched). The node table of
the result is `nodesOf` of these edges: identifiers in order of first appearance, each at the end vertex of the first edge
that mentions it (`Network.addNode` ignores a later node with the same id). -/
theorem net_file_roundtrip (sep : Char) (hs : SepOK sep) (d : Nat) (es : List NEdge) (he : ∀ e ∈ es, EdgeOK sep e) :
    netRead ⟨0, 1, 2, 3, 4, sep, 1⟩ (netWrite sep 1 d es) = .ok (es.map (expEdge d))
    ∧ netRead ⟨0, 1, 2, 3, 4, sep, 0⟩ (netWrite sep 0 d es) = .ok (es.map (expEdge d)) :=
  TV.TextIO.net_file_roundtrip sep hs d es he

/-- **GPX, any length** `gpx_same_number_same_order`: a GPX track of ANY number of points is read back as one track with
the same number of points, the `i`-th point read being the `i`-th point written (`expG`). -/
theorem gpx_same_number_same_order (rf : List Tok) (hrf : ReadsIso rf) (geo : Bool) (name : Str)
    (hname : '<' ∉ name ∧ '\n' ∉ name) (rows : List GRow) (hrows : ∀ r ∈ rows, Fits r.t) :
    ∃ back, readGpx rf geo (gpxBody name rows) = .ok [back] ∧ back.length = rows.length ∧
      ∀ i (hi : i < rows.length), back[i]? = some (expG rf geo rows[i]) :=
  ⟨_, gpx_file_roundtrip rf hrf geo name hname rows hrows, map_same_number_same_order _ rows⟩

/-- **network, any size** `net_same_number_same_order`: a network of ANY number of edges, each with ANY number of vertices,
written with / without its header line and read with the matching header count: the same number of edges, the `i`-th edge
read being the `i`-th edge written (`expEdge`: ids, end nodes, orientation, every vertex). -/
theorem net_same_number_same_order (sep : Char) (hs : SepOK sep) (d : Nat) (es : List NEdge) (he : ∀ e ∈ es, EdgeOK sep e) :
    ∃ back, netRead ⟨0, 1, 2, 3, 4, sep, 1⟩ (netWrite sep 1 d es) = .ok back ∧
      netRead ⟨0, 1, 2, 3, 4, sep, 0⟩ (netWrite sep 0 d es) = .ok back ∧ back.length = es.length ∧
      ∀ i (hi : i < es.length), back[i]? = some (expEdge d es[i]) :=
  ⟨_, (net_file_roundtrip sep hs d es he).1, (net_file_roundtrip sep hs d es he).2, map_same_number_same_order _ es⟩

/-- **WKT, any length** `wkt_same_number_same_order`: a track of ANY (non-zero) number of vertices exported by `toWKT` is
parsed back as the same number of vertices, the `i`-th vertex parsed being the `i`-th vertex exported (`expVertex`). -/
theorem wkt_same_number_same_order (d : Nat) (pts : List Pt) (hne : pts ≠ []) :
    ∃ back, parseWkt (toWKT d pts) = .ok back ∧ back.length = pts.length ∧
      ∀ i (hi : i < pts.length), back[i]? = some (expVertex d pts[i]) :=
  ⟨_, wkt_roundtrip d pts hne, map_same_number_same_order _ pts⟩

/-- non-vacuity at size: a WKT text of 5000 vertices satisfies the hypotheses -/
example : ∃ back, parseWkt (toWKT 3 (List.replicate 5000 (⟨true, 1500⟩, ⟨false, 1000000123⟩))) = .ok back ∧ back.length = 5000 := by
  obtain ⟨back, h, hl, _⟩ := wkt_same_number_same_order 3 (List.replicate 5000 (⟨true, 1500⟩, ⟨false, 1000000123⟩))
    (by intro h; have := congrArg List.length h; rw [List.length_replicate] at this; exact absurd this (by decide))
  exact ⟨back, h, by rw [hl, List.length_replicate]⟩

/-- the default format, the ISO format of the GPX writer and a format without separators are lossless and full -/
example : Lossless (tokenize "2D/2M/4Y 2h:2m:2s".toList) ∧ FullDate (tokenize "2D/2M/4Y 2h:2m:2s".toList) := by
  rw [String.toList_ofList]; decide
example : Lossless (tokenize "4Y-2M-2DT2h:2m:2s".toList) ∧ FullDate (tokenize "4Y-2M-2DT2h:2m:2s".toList) := by
  rw [String.toList_ofList]; decide
example : Lossless (tokenize "4Y2M2D2h2m2s.3z".toList) := by rw [String.toList_ofList]; decide
example : Fits ⟨⟨2024, 2, 29, 23, 59, 59⟩, 999⟩ := by unfold Fits; decide
example : ValidIds ⟨3, 1, 0, 2, ';'⟩ := by decide
/-- the default format can be used with `,` and `;` but not with the blank separator -/
example : TimeOK (tokenize "2D/2M/4Y 2h:2m:2s".toList) ';' := timeOK_of_b _ _ (by rw [String.toList_ofList]; decide)
example : ¬ TimeOK (tokenize "2D/2M/4Y 2h:2m:2s".toList) ' ' := fun h => absurd (h.lits ' ' (by decide)).1 (by decide)

/-- a concrete line: E in column 3, N in 1, U in 0, T in 2 -/
example : (writeRow ⟨3, 1, 0, 2, ';'⟩ false (tokenize "2D/2M/4Y 2h:2m:2s".toList) (orderList ⟨3, 1, 0, 2, ';'⟩ 0)
    ⟨⟨true, 1500⟩, ⟨false, 1000000123⟩, ⟨false, 0⟩, ⟨⟨2024, 2, 29, 23, 59, 59⟩, 0⟩⟩ []).toOption
    = some "0.000;1000000.123;29/02/2024 23:59:59;-1.500".toList := by
  repeat rw [String.toList_ofList]
  decide +kernel

/-- counter-example documenting the bijection precondition of T2: with ids E=0, N=2 (column 1 unused)
the writer still writes two columns (rank order) and the reader looks for a third one: IndexError. -/
example : (writeToFile ⟨0, 2, -1, -1, ','⟩ false [] 0 0 [(⟨⟨false, 1000⟩, ⟨false, 2000⟩, ⟨false, 0⟩, epoch⟩, [])]).toOption
      = some "1.000,2.000\n".toList
    ∧ (readCsv ⟨0, 2, -1, -1, ','⟩ [] 0 "1.000,2.000\n".toList).toOption = none := by
  repeat rw [String.toList_ofList]
  decide +kernel

/-- the header block `writeToFile(..., h=1)` writes: E in column 1, N in 0, time in 2, one feature column; and the
file is read back whole with `h=1` and with `h=0` -/
example : (writeToFile ⟨1, 0, -1, 2, ';'⟩ true (tokenize "2D/2M/4Y 2h:2m:2s".toList) 1 1
      [(⟨⟨false, 15000000000⟩, ⟨true, 25000000000⟩, ⟨false, 0⟩, ⟨⟨2020, 1, 1, 10, 0, 0⟩, 0⟩⟩, [.int (-7)])] "GEO".toList ["af0".toList]).toOption
    = some "#srid: Geo\n#ref point: None\n#lat;lon;time;af0\n-2.5000000000;1.5000000000;01/01/2020 10:00:00;-7\n".toList := by
  repeat rw [String.toList_ofList]
  decide +kernel
example : (readCsv ⟨1, 0, -1, 2, ';'⟩ (tokenize "2D/2M/4Y 2h:2m:2s".toList) 1
      "#srid: Geo\n#ref point: None\n#lat;lon;time;af0\n-2.5000000000;1.5000000000;01/01/2020 10:00:00;-7\n".toList).toOption
      = some [⟨(15000000000, 10), (-25000000000, 10), (0, 0), ⟨⟨2020, 1, 1, 10, 0, 0⟩, 0⟩⟩]
    ∧ (readCsv ⟨1, 0, -1, 2, ';'⟩ (tokenize "2D/2M/4Y 2h:2m:2s".toList) 0
      "#srid: Geo\n#ref point: None\n#lat;lon;time;af0\n-2.5000000000;1.5000000000;01/01/2020 10:00:00;-7\n".toList).toOption
      = some [⟨(15000000000, 10), (-25000000000, 10), (0, 0), ⟨⟨2020, 1, 1, 10, 0, 0⟩, 0⟩⟩] := by
  repeat rw [String.toList_ofList]
  decide +kernel
example : HdrOK "ECEF".toList ["af0".toList, "speed".toList] := by unfold HdrOK; decide
/-- a file with three feature columns (float, string-typed `k&`, string) read back with `read_all` -/
example : (readCsvAll ⟨0, 1, -1, 2, ';'⟩ (tokenize "2D/2M/4Y 2h:2m:2s".toList) 1
      "#srid: ENU\n#ref point: None\n#E;N;time;speed;k&;mode\n1.500;2.500;02/01/2020 03:04:05;1.25;12;walk\n4.500;5.500;02/01/2020 03:04:06;nan;13;\"q\"\n".toList).toOption
    = some ([⟨(1500, 3), (2500, 3), (0, 0), ⟨⟨2020, 1, 2, 3, 4, 5⟩, 0⟩⟩, ⟨(4500, 3), (5500, 3), (0, 0), ⟨⟨2020, 1, 2, 3, 4, 6⟩, 0⟩⟩],
        ["speed".toList, "k&".toList, "mode".toList],
        [[.num (125, 2), .str "12".toList, .str "walk".toList], [.nan, .str "13".toList, .str "q".toList]]) := by
  repeat rw [String.toList_ofList]
  decide +kernel
/-- without the header block there are no names: UnboundLocalError -/
example : (match readCsvAll ⟨0, 1, -1, -1, ';'⟩ [] 0 "1.500;2.500;7\n".toList with | .error e => e | .ok _ => "") = "unbound" := by
  repeat rw [String.toList_ofList]
  decide +kernel
example : NameOK ';' "speed".toList ∧ NameOK ';' "k&".toList ∧ ¬ NameOK ';' "x".toList := by
  unfold NameOK FieldOK reserved
  refine ⟨⟨⟨⟨by decide, ?_, ?_⟩, by decide, by decide⟩, by decide⟩, ⟨⟨⟨by decide, ?_, ?_⟩, by decide, by decide⟩, by decide⟩, fun h => h.2 (by decide)⟩ <;>
    (intro c hc; simp at hc; subst hc; decide)
example : AFOK ';' (.str "walk".toList) ∧ ';' ∉ colChars := by
  unfold AFOK FieldOK
  refine ⟨⟨⟨by decide, ?_, ?_⟩, by decide, by decide⟩, by decide⟩ <;> (intro c hc; simp [afText] at hc; subst hc; decide)
/-- the network reader with `header=0` keeps the first record -/
example : (netRead ⟨0, 1, 2, 3, 4, ',', 0⟩ "e1,a,b,-1,\"LINESTRING(0.0 0.0,1.5 -2.25)\"\n".toList).toOption
    = some [⟨"e1".toList, "a".toList, "b".toList, -1, [((0, 1), (0, 1), (0, 0)), ((15, 1), (-225, 2), (0, 0))]⟩] := by
  repeat rw [String.toList_ofList]
  decide +kernel

/-- a network that is not topologically exact: `e2` starts 25 cm beside node `b`. Its geometry comes back as written and `b`
keeps the position `e1` registered -/
example : (netRead ⟨0, 1, 2, 3, 4, ',', 1⟩ (netWrite ',' 1 3 [⟨"e1".toList, "a".toList, "b".toList, 1, [(0, 0), (10000, 0)]⟩,
      ⟨"e2".toList, "b".toList, "c".toList, 0, [(10250, 500), (20000, 5000)]⟩])).toOption
    = some [⟨"e1".toList, "a".toList, "b".toList, 1, [((0, 1), (0, 1), (0, 0)), ((100, 1), (0, 1), (0, 0))]⟩,
            ⟨"e2".toList, "b".toList, "c".toList, 0, [((1025, 2), (5, 1), (0, 0)), ((200, 1), (50, 1), (0, 0))]⟩]
    ∧ (nodesOf [⟨"e1".toList, "a".toList, "b".toList, 1, [((0, 1), (0, 1), (0, 0)), ((100, 1), (0, 1), (0, 0))]⟩,
            ⟨"e2".toList, "b".toList, "c".toList, 0, [((1025, 2), (5, 1), (0, 0)), ((200, 1), (50, 1), (0, 0))]⟩]).map (fun n => n.2)
      = [((0, 1), (0, 1), (0, 0)), ((100, 1), (0, 1), (0, 0)), ((200, 1), (50, 1), (0, 0))] := by
  repeat rw [String.toList_ofList]
  decide +kernel

/-- counter-example documenting the separator precondition: with the blank separator the default
time format is split, and the timestamp written last reads back as `ObsTime()` (the defect listed as
`csv-separator-in-timestamp`). -/
example : (readCsv ⟨0, 1, -1, 2, ' '⟩ (tokenize "2D/2M/4Y 2h:2m:2s".toList) 0 "1.000 2.000 31/01/2020 23:59:59\n".toList).toOption
    = some [⟨(1000, 3), (2000, 3), (0, 0), epoch⟩] := by
  repeat rw [String.toList_ofList]
  decide +kernel

/-- feature names and values of every ordinary kind - the names of the point's own tags included - give extension lines the
scanner skips -/
example : ExtOK "speed".toList (.dec 2 125) ∧ ExtOK "time".toList (.int 12) ∧ ExtOK "ele".toList (.str "walk".toList) :=
  ⟨gpx_af_names_ok _ _ (by decide) (by decide) (by decide) (by decide +kernel) (by decide +kernel) (by decide) (by decide),
   gpx_af_names_ok _ _ (by decide) (by decide) (by decide) (by decide +kernel) (by decide +kernel) (by decide) (by decide),
   gpx_af_names_ok _ _ (by decide) (by decide) (by decide) (by decide) (by decide) (by decide) (by decide)⟩
/-- a point whose features are called `time` and `ele` reads back with its own timestamp and elevation -/
example : (readGpx isoFmt true (gpxBodyAF "0".toList [(⟨⟨false, 100000000⟩, ⟨false, 200000000⟩, ⟨false, 350000000⟩, ⟨⟨2020, 1, 2, 3, 4, 5⟩, 0⟩⟩,
      [("time".toList, .int 12), ("ele".toList, .int 7)])])).toOption
    = some [[⟨(100000000, 8), (200000000, 8), (350000000, 8), ⟨⟨2020, 1, 2, 3, 4, 5⟩, 0⟩⟩]] := by
  repeat rw [String.toList_ofList]
  decide +kernel
/-- the one name that is excluded: a feature called `extensions` closes the block on its own line -/
example : ¬ ExtOK "extensions".toList (.int 1) := fun h => absurd h.1 (by decide +kernel)

/-- a network line and a WKT text -/
example : netRow ',' 3 ⟨"e1".toList, "a".toList, "b".toList, -1, [(0, 0), (1500, -2250)]⟩
    = "e1,a,b,-1,\"LINESTRING(0.0 0.0,1.5 -2.25)\"\n".toList := by
  repeat rw [String.toList_ofList]
  decide +kernel
example : SepOK ';' ∧ SepOK ' ' ∧ ¬ SepOK '-' := by unfold SepOK; decide
example : EdgeOK ',' ⟨"e1".toList, "a".toList, "b".toList, -1, [(0, 0), (1500, -2250)]⟩ := by
  unfold EdgeOK IdOK; decide

/-! ### sessions: the hidden class-level state of `ObsTime` as part of the model state (`Model/TextIOSession.lean`)

`TState` = (`__READ_FMT`, `__PRINT_FMT`, the memo table `__PRECOMPILED_READ_FMT`); `step` = one operation of a session on it
(`setReadFormat` / `setPrintFormat` by the user, `str`, `readTimestamp`, `timeWithZone`, `writeToGpx`, `writeToFile` +
`readFromCsv`); `readTimestampS` reads through the memo table of the state, `Reachable` = any history from the class body. -/

/-- **`session_state_invariant`**: in every state a session can reach from the class body — any history of format changes by
the user and of library calls — the memo table `__PRECOMPILED_READ_FMT` is the precompiled form of the CURRENT read format
(the literal list of the class body is the precompiled default format), so `readTimestamp` in that state is `readTimestamp`
with the read format in force: what was read or set earlier does not matter. -/
theorem session_state_invariant (st : TState) (h : Reachable st) :
    st.pre = precompile (tokenize st.readFmt) ∧ ∀ s, readTimestampS st s = readTimestamp (tokenize st.readFmt) s :=
  ⟨reachable_inv st h, readTimestampS_eq st (reachable_inv st h)⟩

/-- **`session_no_state_left`**: no library call of a session leaves the class-level state changed — `str`, `readTimestamp`,
`timeWithZone` and `writeToGpx` (print format set to ISO and put back), `writeToFile` + `readFromCsv` (read format saved, set to
the TrackFormat's copy of it, put back; when the reader raises before putting it back, the format left in force is the same
one) — and any sequence of them leaves it as found. Only the user's `setReadFormat` / `setPrintFormat` move it. -/
theorem session_no_state_left (st : TState) (h : Reachable st) (last : Str) :
    (∀ op, isUser op = false → (step st last op).1 = st) ∧
    (∀ ops, (∀ op ∈ ops, isUser op = false) → run st last ops = st) :=
  ⟨fun op hop => library_call_leaves_no_state st last op (reachable_inv st h) hop,
   fun ops hops => run_library_calls st last ops (reachable_inv st h) hops⟩

/-- **`session_time_roundtrip`**: under ANY history of earlier format changes and library calls that leaves the read and the
print format equal (and lossless) at the time of the pair, `str(t)` followed — after any further library calls `mid` — by
`readTimestamp` of that text gives back the fields the format names. -/
theorem session_time_roundtrip (st : TState) (hst : Reachable st) (heq : st.readFmt = st.printFmt)
    (hl : Lossless (tokenize st.readFmt)) (t : Stamp) (ht : Fits t)
    (mid : List SOp) (hmid : ∀ op ∈ mid, isUser op = false) (last : Str) :
    (step st last (.print t)).2 = .text (printTime (tokenize st.readFmt) t) ∧
    (step (run st (printTime (tokenize st.readFmt) t) mid) last (.read (printTime (tokenize st.readFmt) t))).2
      = .stamp (some (project (tokenize st.readFmt) t)) :=
  TV.TextIO.session_time_roundtrip st hst heq hl t ht mid hmid last

/-- **`session_csv_roundtrip`**: `writeToFile` then `readFromCsv` as one operation of a session: in every reachable state whose
two formats are equal, under the hypotheses of `csv_file_roundtrip` for that format, every observation comes back (the reader
going through the memo table of the state) and the state is left as found. -/
theorem session_csv_roundtrip (st : TState) (hst : Reachable st) (heq : st.readFmt = st.printFmt)
    (f : CsvFmt) (geo : Bool) (h hr : Nat) (srid : Str) (rows : List Row)
    (hv : ValidIds f) (hsep : numChar f.sep = false) (hnl : f.sep ≠ '\n')
    (htime : f.idT ≠ -1 → TimeOK (tokenize st.printFmt) f.sep)
    (hrows : ∀ r ∈ rows, RowOK f geo (tokenize st.printFmt) r) (hsrid : '\n' ∉ srid)
    (hhr : hr ≤ (if h = 0 then 0 else 3)) (last : Str) :
    ∃ text, step st last (.csv f geo h hr srid rows)
      = (st, .csv (.ok text) (.ok (rows.map (expRow f geo (tokenize st.printFmt))))) :=
  TV.TextIO.session_csv_roundtrip st hst heq f geo h hr srid rows hv hsep hnl htime hrows hsrid hhr last

/-- a history: the user reads a text under day/month, switches both formats to month/day (a twin format), calls `timeWithZone`
and `writeToGpx`; the state reached has equal formats, its memo table is the one of month/day, and the pair `str` /
`readTimestamp` round-trips there: 3 April stays 3 April, while the text read FIRST under day/month meant 4 March -/
example :
    let hist : List SOp := [.read "03/04/2021 10:00:00".toList, .setRead "2M/2D/4Y 2h:2m:2s".toList, .setPrint "2M/2D/4Y 2h:2m:2s".toList,
      .tz ⟨⟨2021, 4, 3, 10, 0, 0⟩, 0⟩, .gpxw "t".toList []]
    let st := run TState.init [] hist
    st.readFmt = st.printFmt ∧ st.pre = [((2, 'M'), 0), ((2, 'D'), 3), ((4, 'Y'), 6), ((2, 'h'), 11), ((2, 'm'), 14), ((2, 's'), 17)] ∧
    (runOuts TState.init [] hist).map (·.1) ≠ [] ∧
    (runOuts st [] [.print ⟨⟨2021, 4, 3, 10, 0, 0⟩, 0⟩, .readLast]).map (fun x => match x.1 with | .stamp t => t | _ => none)
      = [none, some ⟨⟨2021, 4, 3, 10, 0, 0⟩, 0⟩] := by
  repeat rw [String.toList_ofList]
  decide +kernel

/-- **`str_string_level`**: `ObsTime.__str__` works on the format STRING — for every code of `__codes` in turn, `find` the code
and splice the zero-padded field over its two characters until it is found no more (`strAlgo`: `find2` = `str.find` of a
two-character string, `splice2` = `chaine[:id] + new + chaine[id+2:]`). For every format whose literal characters are not code
letters (`LitsOK`: no `D M Y h m s z` outside the codes; digits, punctuation, blanks, `T`, `Z`, … are fine; no backslash, for
which `__str__` has a further loop) this gives exactly the text of the token-level model `printTime (tokenize fmt)` — the
inserted digits never make up a new code with what follows. All theorems about `printTime` therefore speak of the string
algorithm. -/
theorem str_string_level (fmt : Str) (h : LitsOK fmt) (t : Stamp) : strAlgo fmt t = printTime (tokenize fmt) t := by
  unfold strAlgo
  conv => lhs; rw [← (segStr_tokenize fmt).1]
  rw [foldl_codes_segs t codes (fun _ hc => hc) _ (tokSegs_ok fmt h)]
  exact printTime_segs t _ (segStr_tokenize fmt).2

/-- **`precompile_string_level`**: the same for `__precompileReadFmt` (formats without `*`): `format.find(code)` for every code,
sorted by position and shifted, is the token-level `precompile`. -/
theorem precompile_string_level (fmt : Str) (h : LitsOK fmt) : precompileStr fmt = precompile (tokenize fmt) := by
  unfold precompileStr precompile
  congr 2
  apply filterMap_congr'
  intro c hc
  have hf := find2_segs c.1 c.2 hc _ (tokSegs_ok fmt h)
  rw [(segStr_tokenize fmt).1] at hf
  rw [hf, ← firstTodo_findCode c.1 c.2 (tokenize fmt) 0]
  cases firstTodo c.1 c.2 ((tokenize fmt).map tokSeg) <;> simp

/-- the formats of the streams satisfy the hypothesis; and it is needed: with the literal `D` after the code, the digits `12`
printed for day 12 make up a new `2D` with it — the string algorithm prints `112`, the tokens say `12D` -/
example : LitsOK "2D/2M/4Y 2h:2m:2s".toList ∧ LitsOK "4Y-2M-2DT2h:2m:2s.3zZ".toList ∧ LitsOK "4Y2M2D2h2m2s".toList
    ∧ LitsOK "[4Y] (2M) {2D}".toList ∧ LitsOK "1D/1M/4Y 1h:1m:1s".toList :=
  ⟨litsOK_of_b _ (by rw [String.toList_ofList]; decide), litsOK_of_b _ (by rw [String.toList_ofList]; decide), litsOK_of_b _ (by rw [String.toList_ofList]; decide), litsOK_of_b _ (by rw [String.toList_ofList]; decide), litsOK_of_b _ (by rw [String.toList_ofList]; decide)⟩
example : strAlgo "2D/2M/4Y 2h:2m:2s".toList ⟨⟨2024, 2, 29, 23, 59, 59⟩, 0⟩ = "29/02/2024 23:59:59".toList := by
  repeat rw [String.toList_ofList]
  decide +kernel
example : strAlgo "2DD".toList ⟨⟨2024, 2, 12, 0, 0, 0⟩, 0⟩ = "112".toList
    ∧ printTime (tokenize "2DD".toList) ⟨⟨2024, 2, 12, 0, 0, 0⟩, 0⟩ = "12D".toList := by
  repeat rw [String.toList_ofList]
  decide +kernel

end TV.C13
