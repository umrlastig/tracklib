import TracklibVerif.Props.C18
import TracklibVerif.Lemmas.DTWFastSession
import TracklibVerif.Model.DTWHyp
/-! # C18 — sessions that include the fast variant (modes FDTW = 3 / 107)

`session_history_irrelevant` / `session_history_irrelevant_real` (Props/C18.lean) exclude the FDTW modes. Here they are included:
`_fillAF_dtw` overwrites `diff` / `ex` / `ey` only at the observations of the coupling it is given, so that what a call returns on
an already matched track is what it returns on a fresh copy **when the walk through the antecedent map is a coupling** — which is
what `fdtw_spec` proves under the hypotheses of `match_fdtw_correct` / `match_fdtw_real_correct` (`FastHyp`: accumulation monotone
and inflationary on the distances at hand, `big` above every candidate cost) and `fdtw_struct` under `big` above every partial
coupling cost alone (`FastBig`). `FastCallOK` asks one or the other (`FastOK`) of the accumulation and the point
distance of the call at hand, whatever the form of `p` (number of any type, callable) and of `dim`; `fast_call_ok` discharges all
but the bound on `big` over an ordered field for a non-negative point distance and a power function non-negative on non-negative
numbers. The statements are about `runSeqX`, the sessions the driver runs (`runSeq` is the special case of `front_ends_agree`). -/
open TV.DTW
namespace TV.C18

section anyAccumulation
variable {α : Type} [Add α] [Sub α] [Mul α] [LinearOrder α] [OfNat α 0]

/-- T5b for **any accumulation**: whatever `w` (a callable `p` of any shape, `B**p` wrapped in int64, …) and whatever the point distance
(negative values of a callable `dim` included), when `big` is above the accumulated cost of every partial coupling (`FastBig`) the fast
variant succeeds and the matching it returns is a monotone unit-step coupling from the first to the last pair, **its accumulated cost is
the reported score**, `nb_links` and the `pair` feature describe it, and nobody is left out. (That the score is the optimum needs the
accumulation monotone and inflationary: `fdtw_equal`.) -/
theorem fdtw_path_any (dist : Pt α → Pt α → α) (big : α) (w : α → α → α) (t1 t2 : List (Pt α))
    (h1 : 0 < t1.length) (h2 : 0 < t2.length) (hbig : FastBig big w dist t1 t2) :
    ∃ out, fdtw dist big w t1 t2 = some out ∧
      IsCouplingOf t1.length t2.length out.S ∧
      costBack w 0 (Dmat dist t1 t2) out.S = out.score ∧
      out.nbLinks = out.S.length ∧ out.rows.length = t1.length ∧
      (∀ s ∈ out.S, s.1 < t2.length ∧ s.2 < t1.length) ∧
      (∀ j, j < t1.length → ∃ r : Row α, out.rows[j]? = some r ∧ (∀ i, i ∈ r.pair ↔ (i, j) ∈ out.S) ∧ r.pair ≠ []) ∧
      (∀ i, i < t2.length → ∃ (j : Nat) (r : Row α), out.rows[j]? = some r ∧ i ∈ r.pair) := by
  obtain ⟨S, hS, he⟩ := fdtw_struct dist big w t1 t2 h1 h2 hbig
  exact ⟨_, he _ (List.length_map _), hS, rfl, rfl, outOf_length dist t1 t2 _ _, outOf_links dist t1 t2 _ _ hS h1 h2⟩

end anyAccumulation

section sessionFast
variable {α : Type} [Add α] [Sub α] [Mul α] [Div α] [Neg α] [LinearOrder α] [OfNat α 0] [OfNat α 1] [OfScientific α]

/-- **histories are irrelevant in every mode, the fast variant included**: in a session of `match` / `compare` calls on shared
objects (`runSeqX`: any constants, any exponent in any form, any `dim`), where every call in a FDTW mode (3 / 107) is one the fast
variant is good for (`FastCallOK`, asked for every pair of objects of the session: the positions of an object never change, so this
is a hypothesis on the tracks given at the start), every call returns what it returns on copies of the same positions that never
went through `match`. In particular `match(match(t1, t2, FDTW), t3, FDTW)` is `match(t1, t3, FDTW)`: no link and no `diff` / `ex` /
`ey` of the earlier matching survives. -/
theorem session_history_irrelevant_fdtw (pow : α → α → α) (G : Geom α) (root : Nat → α → α) (ofNat : Nat → α) (big : α) :
    ∀ (steps : List (StepX α)) (env : List (Option (TrackObj α))), WFEnv env →
      (∀ st ∈ steps, (st.mode = 3 ∨ st.mode = 107) → ∀ a b, some a ∈ env → some b ∈ env →
        FastCallOK pow G big st.p st.dim a.pts b.pts) →
      runSeqX pow G root ofNat big env steps
        = runFreshX pow G root ofNat big (env.map (Option.map TrackObj.pts)) steps :=
  fun steps env hwf hm =>
    session_history pow G root ofNat big (fun t => ∃ o, some o ∈ env ∧ o.pts = t) steps env
      (fun obj ho => ⟨(hwf obj ho).1, (hwf obj ho).2, obj, ho, rfl⟩)
      (fun st hs hmode _ _ ⟨a, ha, ea⟩ ⟨b, hb, eb⟩ => ea ▸ eb ▸ hm st hs hmode a b ha hb)

/-- a call is one the fast variant is good for as soon as `big` is above every partial coupling cost, for whatever `_p2weight` and
`_distance` return: no monotonicity, no sign condition -/
theorem fast_call_ok_any (pow : α → α → α) (G : Geom α) (big : α) (p : PArgX α) (dim : DimArg α) (t1 t2 : List (Pt α))
    (hbig : ∀ w dist, p2weightX pow p.exponent = .ok w → distanceOf G dim = .ok dist → FastBig big w dist t1 t2) :
    FastCallOK pow G big p dim t1 t2 :=
  fun w dist hw hd => Or.inr (hbig w dist hw hd)

/-- the single call, any form of `p` (number of any type, callable; exponent any positive number): `match(m, track2, FDTW, p, dim)`
on a track `m` that carries the feature rows of an earlier matching is `match` on the same positions without features, for a call
the fast variant is good for (generalises `match_fdtw_history`, which is about a Python number `p ∈ {0, 1, 2, …, inf}`) -/
theorem match_fdtw_history_any (pow : α → α → α) (G : Geom α) (big : α) (p : PArgX α) (dim : DimArg α)
    (t1 t2 : List (Pt α)) (rows0 : List (Row α)) (hl : rows0.length = t1.length) (h1 : 0 < t1.length) (h2 : 0 < t2.length)
    (hok : FastCallOK pow G big p dim t1 t2) :
    matchCallX pow G big 3 p dim { pts := t1, rows := rows0 } t2 = matchCallX pow G big 3 p dim (TrackObj.fresh t1) t2 :=
  matchCallX_history_all pow G big 3 p dim t1 t2 rows0 hl h1 h2 (fun _ => hok)

end sessionFast

section fieldFast
variable {α : Type} [Field α] [LinearOrder α] [IsStrictOrderedRing α]

/-- **when a call is one the fast variant is good for**, over an ordered field: the point distance `_distance(·, ·, dim)` is
non-negative on this class of positions (`distanceOf_nonneg`: every numeric `dim` when `sqrt` is non-negative; a callable `dim` must
be so itself), `B**x` is non-negative on non-negative `B` (the real power function is; only asked when `p` is not a natural number
nor infinity), and `big` is above every candidate cost — whatever the form of `p`: monotonicity and inflation of the accumulation
follow (`weightX_mono`, `weight_infl`) -/
theorem fast_call_ok (pow : α → α → α) (G : Geom α) (big : α) (p : PArgX α) (dim : DimArg α) (t1 t2 : List (Pt α))
    (hnn : ∀ dist, distanceOf G dim = .ok dist → ∀ a b, 0 ≤ dist a b)
    (hpow : ∀ x b : α, 0 < x → 0 ≤ b → 0 ≤ pow b x)
    (hbig : ∀ w dist, p2weightX pow p.exponent = .ok w → distanceOf G dim = .ok dist →
      ∀ i j i' j', i < t2.length → j < t1.length → i' < t2.length → j' < t1.length →
        w (T w 0 (Dmat dist t1 t2) i j) (Dmat dist t1 t2 i' j') < big) :
    FastCallOK pow G big p dim t1 t2 := by
  intro w dist hw hd
  obtain ⟨e, rfl, hx⟩ := p2weightX_ok pow p.exponent w hw
  refine Or.inl ⟨fun a b d h => weightX_mono pow e a b d h, ?_, hbig _ dist hw hd⟩
  intro a i j _ _
  cases e with
  | norm v => exact weight_infl v a _ (hnn dist hd _ _)
  | real x => exact le_add_of_nonneg_right (hpow x _ (hx x rfl) (hnn dist hd _ _))

/-- **sessions in every mode over an ordered field**: `session_history_irrelevant_fdtw` with the hypotheses of
`match_fdtw_correct` / `match_fdtw_real_correct` spelt out for every call in a FDTW mode — non-negative point distance, `B**x ≥ 0`
on `B ≥ 0`, `big` above every candidate cost on every pair of tracks of the session -/
theorem session_history_irrelevant_all (pow : α → α → α) (G : Geom α) (root : Nat → α → α) (ofNat : Nat → α) (big : α)
    (steps : List (StepX α)) (env : List (Option (TrackObj α))) (hwf : WFEnv env)
    (hpow : ∀ x b : α, 0 < x → 0 ≤ b → 0 ≤ pow b x)
    (hnn : ∀ st ∈ steps, (st.mode = 3 ∨ st.mode = 107) → ∀ dist, distanceOf G st.dim = .ok dist → ∀ a b, 0 ≤ dist a b)
    (hbig : ∀ st ∈ steps, (st.mode = 3 ∨ st.mode = 107) → ∀ a b, some a ∈ env → some b ∈ env →
      ∀ w dist, p2weightX pow st.p.exponent = .ok w → distanceOf G st.dim = .ok dist →
      ∀ i j i' j', i < b.pts.length → j < a.pts.length → i' < b.pts.length → j' < a.pts.length →
        w (T w 0 (Dmat dist a.pts b.pts) i j) (Dmat dist a.pts b.pts i' j') < big) :
    runSeqX pow G root ofNat big env steps
      = runFreshX pow G root ofNat big (env.map (Option.map TrackObj.pts)) steps :=
  session_history_irrelevant_fdtw pow G root ofNat big steps env hwf
    (fun st hs hmode a b ha hb => fast_call_ok pow G big st.p st.dim a.pts b.pts (hnn st hs hmode) hpow (hbig st hs hmode a b ha hb))

/-- **the monitor the driver runs is sound** (`C18.hyp`, `Model/DTWHyp.lean`): when `fastHypCheck` accepts two tracks — every point
distance `B ≥ 0`, `weight(0, B) ≥ 0`, every candidate cost `weight(T[i,j], D[i',j'])` below `big` — the hypotheses of `fdtw_equal` /
`match_fdtw_correct` / `match_fdtw_real_correct` / `session_history_irrelevant_fdtw` hold of them, for every accumulation `_p2weight`
can return (`weightX pow e`: `A + B**k`, `A + (B != 0)`, `max`, `A + B**x` whatever `B**x` computes). On the generated inputs the
check is evaluated in `Float` with `B**x = Float.pow`: the hypotheses on `B**x` are discharged there by the run, not assumed. -/
theorem fast_hyp_check_sound (pow : α → α → α) (big : α) (e : PExp α) (dist : Pt α → Pt α → α) (t1 t2 : List (Pt α))
    (h : fastHypCheck big (weightX pow e) dist t1 t2 = true) : FastHyp big (weightX pow e) dist t1 t2 := by
  unfold fastHypCheck at h
  simp only [Bool.and_eq_true, List.all_eq_true] at h
  obtain ⟨hA, hB⟩ := h
  -- `latticeCells n1 n2` is the product `range n2 ×ˢ range n1`
  have hmem : ∀ i j, i < t2.length → j < t1.length → (i, j) ∈ latticeCells t1.length t2.length :=
    fun i j hi hj => List.pair_mem_product.mpr ⟨List.mem_range.mpr hi, List.mem_range.mpr hj⟩
  have hdc : ∀ i j, i < t2.length → j < t1.length →
      cellAt (distCols dist t1 t2) i j = some (Dmat dist t1 t2 i j) := by
    intro i j hi hj
    rw [distCols_eq]
    exact cellAt_dcols _ _ _ i j hi hj
  refine ⟨fun a b d hab => weightX_mono pow e a b d hab, ?_, ?_⟩
  · intro a i j hi hj
    have := hA (i, j) (hmem i j hi hj)
    simp only [hdc i j hi hj, Bool.and_eq_true, decide_eq_true_eq] at this
    obtain ⟨h0, h1⟩ := this
    cases e with
    | norm v => exact weight_infl v a _ h0
    | real x =>
      have h2 : 0 ≤ pow (Dmat dist t1 t2 i j) x := by simpa [weightX] using h1
      exact le_add_of_nonneg_right h2
  · intro i j i' j' hi hj hi' hj'
    have := hB (i, j) (hmem i j hi hj) (i', j') (hmem i' j' hi' hj')
    rw [distCols_eq] at this
    simp only [cellAt_table _ _ _ _ _ i j hi hj, cellAt_dcols _ _ _ i' j' hi' hj', decide_eq_true_eq] at this
    exact this

end fieldFast

/-- `FastCallOK` holds of a concrete call: heights `0, 2` against `1`, `dim = 1`, `p = numpy.int64(2)` (a Python `int` after
`_exponent`), `big = 1000`, whatever `pow` is (never called for a natural exponent) -/
example (pow : ℚ → ℚ → ℚ) :
    FastCallOK pow { cls := .enu, T := exTrig } 1000 { tyname := "<class'numpy.int64'>", val := some (.norm (.nat 2)) } (.num 1)
      [⟨0, 0, 0⟩, ⟨0, 0, 2⟩] [⟨0, 0, 1⟩] := by
  intro w dist hw hd
  have hn := exponentTy_numpy "<class'numpy.int64'>" (by decide +kernel)
  have hw' : w = weight (.nat 2) :=
    Except.ok.inj (hw.symm.trans ((p2weightX_toX pow (PArg.exponent { tyname := "<class'numpy.int64'>", val := some (.nat 2) })).trans
      (p2weight_numeric _ (.nat 2) hn.2 rfl)))
  have hd' : dist = distance (α := ℚ) id 1 := Except.ok.inj (hd.symm.trans (distance_enu _ rfl 1 (Or.inl rfl)))
  subst hw' hd'
  -- the monitor accepts the two tracks
  exact Or.inl (fast_hyp_check_sound pow 1000 (.norm (.nat 2)) (distance id 1) _ _
    (show fastHypCheck (1000 : ℚ) (weight (.nat 2)) (distance id 1) [⟨0, 0, 0⟩, ⟨0, 0, 2⟩] [⟨0, 0, 1⟩] = true by decide +kernel))

/-- a session with the fast variant (heights, `dim = 1`, `big = 1000`): `m = match(t0, t1, FDTW, p = 2)` on a `t0` that already
carried features under the same names, then `match(m, t2, FDTW, p = numpy.int64(1))`: the second call returns the links of `t0` with
`t2` only (`nb_links = 3`) and the `diff` of the new matching, as `session_history_irrelevant_fdtw` says -/
example :
    (runSeqX (α := ℚ) (fun b _ => b) { cls := .enu, T := exTrig } (fun _ x => x) (fun n => (n : ℚ)) 1000
      [some { pts := [⟨0, 0, 0⟩, ⟨0, 0, 1⟩], rows := [{ diff := some 5, pair := [9, 0] }, { diff := some 5, pair := [9, 1] }] },
       some (TrackObj.fresh [⟨0, 0, 1⟩]), some (TrackObj.fresh [⟨0, 0, 2⟩, ⟨0, 0, 0⟩, ⟨0, 0, 3⟩])]
      [{ front := true, mode := 3, p := { tyname := "<class'int'>", val := some (.norm (.nat 2)) }, dim := .num 1, a := 0, b := 1 },
       { front := true, mode := 3, p := { tyname := "<class'numpy.int64'>", val := some (.norm (.nat 1)) }, dim := .num 1, a := 3, b := 2 }]).map
      (fun r => match r with
        | .matched o => some (o.score, o.rows.map (·.pair), o.nbLinks)
        | _ => none)
    = [some (1, [[0], [0]], 2), some (4, [[0, 1], [2]], 3)] := by decide +kernel
/-- … and the `diff` feature of the two returned tracks: the distances of the new links (`|0 - 1|`, `|1 - 1|`; `|0 - 0|`, `|1 - 3|`),
nothing of the `5` that `t0` carried -/
example :
    (runSeqX (α := ℚ) (fun b _ => b) { cls := .enu, T := exTrig } (fun _ x => x) (fun n => (n : ℚ)) 1000
      [some { pts := [⟨0, 0, 0⟩, ⟨0, 0, 1⟩], rows := [{ diff := some 5, pair := [9, 0] }, { diff := some 5, pair := [9, 1] }] },
       some (TrackObj.fresh [⟨0, 0, 1⟩]), some (TrackObj.fresh [⟨0, 0, 2⟩, ⟨0, 0, 0⟩, ⟨0, 0, 3⟩])]
      [{ front := true, mode := 3, p := { tyname := "<class'int'>", val := some (.norm (.nat 2)) }, dim := .num 1, a := 0, b := 1 },
       { front := true, mode := 3, p := { tyname := "<class'numpy.int64'>", val := some (.norm (.nat 1)) }, dim := .num 1, a := 3, b := 2 }]).map
      (fun r => match r with
        | .matched o => o.rows.map (fun r => r.diff.getD 5)
        | _ => [])
    = [[1, 0], [0, 2]] := by decide +kernel

/-- `FastBig` is satisfiable, by an accumulation that is neither monotone nor inflationary (`w A B = B - A`: the alternating sum along
the coupling) on heights `0, 2` against `1`: the partial coupling costs are `1` at `(0,0)` and `1 - 1 = 0` at `(0,1)`, below `big = 1000`;
and the run of the fast variant on it returns a coupling whose accumulated cost is the score, as `fdtw_path_any` says -/
example : FastBig (α := ℚ) 1000 (fun a d => d - a) (distance id 1) [⟨0, 0, 0⟩, ⟨0, 0, 2⟩] [⟨0, 0, 1⟩] := by
  intro i j c hi hj hc
  have hi0 : i = 0 := by simpa using hi
  subst hi0
  have hj2 : j = 0 ∨ j = 1 := by simp at hj; omega
  have hD0 : Dmat (α := ℚ) (distance id 1) [⟨0, 0, 0⟩, ⟨0, 0, 2⟩] [⟨0, 0, 1⟩] 0 0 = 1 := by decide +kernel
  have hD1 : Dmat (α := ℚ) (distance id 1) [⟨0, 0, 0⟩, ⟨0, 0, 2⟩] [⟨0, 0, 1⟩] 0 1 = 1 := by decide +kernel
  have h00 : ∀ c, Coupling (fun a d : ℚ => d - a) 0 (Dmat (distance id 1) [⟨0, 0, 0⟩, ⟨0, 0, 2⟩] [⟨0, 0, 1⟩]) 0 0 c → c = 1 := by
    intro c h
    cases h
    simp [hD0]
  rcases hj2 with rfl | rfl
  · rw [h00 c hc]; norm_num
  · cases hc with
    | right h =>
      rw [h00 _ h]
      simp [hD1]
example :
    (fdtw (α := ℚ) (distance id 1) 1000 (fun a d => d - a) [⟨0, 0, 0⟩, ⟨0, 0, 2⟩] [⟨0, 0, 1⟩]).map
      (fun o => (o.score, o.S, decide (costBack (fun a d : ℚ => d - a) 0 (Dmat (distance id 1) [⟨0, 0, 0⟩, ⟨0, 0, 2⟩] [⟨0, 0, 1⟩]) o.S = o.score)))
    = some (0, [(0, 1), (0, 0)], true) := by decide +kernel

/-- the monitor accepts a concrete pair of tracks (heights `0, 2, 1` against `1, 3`, `dim = 1`, `p = 2`, `big = 1000`) and rejects it
when `big = 5` is below a candidate cost — `fast_hyp_check_sound` is not vacuous and the check is not constantly true -/
example : fastHypCheck (α := ℚ) 1000 (weightX (fun b _ => b) (.norm (.nat 2))) (distance id 1)
    [⟨0, 0, 0⟩, ⟨0, 0, 2⟩, ⟨0, 0, 1⟩] [⟨0, 0, 1⟩, ⟨0, 0, 3⟩] = true ∧
  fastHypCheck (α := ℚ) 5 (weightX (fun b _ => b) (.norm (.nat 2))) (distance id 1)
    [⟨0, 0, 0⟩, ⟨0, 0, 2⟩, ⟨0, 0, 1⟩] [⟨0, 0, 1⟩, ⟨0, 0, 3⟩] = false := by decide +kernel

end TV.C18
