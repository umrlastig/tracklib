import TracklibVerif.Model.GraphAStarPath
import TracklibVerif.Lemmas.GraphMetric
import TracklibVerif.Lemmas.GraphPathExt
import Mathlib.Analysis.Real.Sqrt
import Mathlib.Tactic.NormNum
/-! # C07 in A* mode — a returned shortest path is a real, optimal, geometrically continuous route

Property theorems for `Network.shortest_path` after `setRoutingMethod(Network.ROUTING_ALGO_ASTAR)` (model:
`Model/GraphAStar.lean` — the forward pass `forwardH`: label `g`, queue priority `g + heuristic`, as the code is after fix
c78e3ab — and `Model/GraphAStarPath.lean` — `shortest_path` = that forward pass followed by `run_routing_backward`, alone
and as a call of a session on one `Network` object with its routing settings).

* ANY heuristic (consistent or not, any `astar_wgt`, any node coordinates), any cut-off — `astar_forward_state_good`,
  `astar_path_is_walk`, `astar_geometry_chained`, `astar_unreachable_none`, `astar_reachable_path`, `astar_never_diverges`:
  a returned path is REAL (a walk of permitted edges from `s` to `t`), CONTINUOUS (the used edges' polylines chained along
  the travel, junction vertices once, from the position of `s` to that of `t`) and its weights sum to the value reported
  for the target; no walk ⇒ `None`; without a cut-off a reachable target always gets a path. Weights: any `WalkAdd`
  addition (also a non-associative one, see `Props/C07.lean`).
* a CONSISTENT heuristic (`h u ≤ w + h v` along every permitted arc) — `astar_path_optimal`, `astar_path_optimal_cut`: the
  weights sum to the true shortest distance (with a cut-off: whenever the distance is within it). Exact arithmetic
  (linearly ordered cancellative commutative monoid: `ℕ ℤ ℚ ℝ`): the comparison `g + h < g' + h'` is cancelled.
* the heuristic the code computes — `astar_metric_path_optimal`: `astar_wgt × Node.distanceTo(target)` is consistent as
  soon as `0 ≤ astar_wgt` and every permitted arc weighs at least `astar_wgt ×` the straight-line distance of its ends
  (the harness' predicate `heuristic_consistent`); ordered field, `sqrt` any square root on the non-negative elements.
* `astar_track_operators_agree`, `astar_session_path_fresh`, `astar_session_dist_fresh`, `dijkstra_mode_is_session`: the
  same through the track operators of the C04 model; a call at any point of a session on one object answers as on a fresh
  network with the object's settings of that moment; with `routing_mode ≠ 1` the session is the Dijkstra session of
  `Props/C07.lean`.

OPEN (see `P.open_statements`): with float weights the `g + h` comparisons are subject to rounding (the float stream runs
the model at `Float` bit for bit); for a heuristic that is NOT consistent optimality is not claimed (the docstring of
`setRoutingMethod` says approximate). -/
namespace TV.C07
open TV.Graph TV.GraphExt

section any
variable {W : Type} [LinearOrder W] [Add W] [Zero W] [WalkAdd W] {P : Type}

/-- the flags left by the forward pass of `shortest_path(s, t, cut)` in A* mode satisfy the predecessor invariant
(`antecedent` settled, joined by `antecedent_edge` in a permitted direction, tight, ranked) WHATEVER the heuristic -/
theorem astar_forward_state_good (net : Net W) (hnet : WFNet net) (h : Nat → W) (s t : Nat) (hs : s < net.n)
    (cut : Option W) : GoodH net s (runForwardH net h s (some t) cut).1 :=
  forwardH_goodH net hnet h s hs (some t) cut

/-- REAL, any heuristic, any cut-off: whatever `shortest_path(s, t, cut)` returns as a path in A* mode is a route: its node
list starts at `s`, ends at `t`, consecutive nodes are joined by the recorded edge in a permitted direction; its geometry is
the chain of those edges' polylines along the travel, junction vertices once, closed by the position of `t`; and the
recorded weights sum to the label of `t` — the value `shortest_distance(s, t, cut)` reports in the same mode. -/
theorem astar_path_is_walk (net : Net W) (hnet : WFNet net) (hu : UniqueIds net) (geo : Geo P) (h : Nat → W) (s t : Nat)
    (hs : s < net.n) (cut : Option W) (nodes : List Nat) (geom : List P)
    (hp : shortestPathH net geo h s t cut = .path nodes geom) :
    ∃ l g g' y, nodes = l ++ [t] ∧ geom = g ++ [geo.pos t] ∧ nodes.head? = some s ∧ Route net geo s l g g' t y ∧
      Walk net s t y ∧ shortestDistanceH net h s t cut = some y := by
  obtain ⟨l, g, g', y, rfl, rfl, hr, hd⟩ := ((astar_forward_state_good net hnet h s t hs cut).answer hu geo t).2.2 nodes geom hp
  exact ⟨l, g, g', y, rfl, rfl, hr.nodes_head, hr, hr.walk, hd⟩

/-- CONTINUOUS, any heuristic: when every edge polyline starts at its source's position and ends at its target's, the
geometry returned in A* mode is the position of `s` followed by the polylines of the edges used, each oriented along the
direction of travel and each without its first vertex; it starts at the position of `s` and ends at that of `t`. -/
theorem astar_geometry_chained (net : Net W) (hnet : WFNet net) (hu : UniqueIds net) (geo : Geo P) (hgeo : GeoOK net geo)
    (h : Nat → W) (s t : Nat) (hs : s < net.n) (cut : Option W) (nodes : List Nat) (geom : List P)
    (hp : shortestPathH net geo h s t cut = .path nodes geom) :
    ∃ l g g' y, nodes = l ++ [t] ∧ Route net geo s l g g' t y ∧ geom = geo.pos s :: g' ∧
      geom.head? = some (geo.pos s) ∧ geom.getLast? = some (geo.pos t) := by
  obtain ⟨l, g, g', y, a, b, _, c, _, _⟩ := astar_path_is_walk net hnet hu geo h s t hs cut nodes geom hp
  exact ⟨l, g, g', y, a, c, c.chained hgeo b⟩

/-- any heuristic, any cut-off: no permitted walk ⇒ `None`; and `t = s` ⇒ `None` (as coded) -/
theorem astar_unreachable_none (net : Net W) (hnet : WFNet net) (hu : UniqueIds net) (geo : Geo P) (h : Nat → W)
    (s t : Nat) (hs : s < net.n) (cut : Option W) (hn : ¬ Reachable net s t ∨ t = s) :
    shortestPathH net geo h s t cut = .none := by
  have hg := astar_forward_state_good net hnet h s t hs cut
  exact (hg.answer hu geo t).2.1.2 (hn.imp hg.2.1.unreachable id)

/-- any heuristic, no cut-off: a reachable target other than the source always gets a path -/
theorem astar_reachable_path (net : Net W) (hnet : WFNet net) (hu : UniqueIds net) (geo : Geo P) (h : Nat → W) (s t : Nat)
    (hs : s < net.n) (hr : Reachable net s t) (hts : t ≠ s) :
    ∃ nodes geom, shortestPathH net geo h s t none = .path nodes geom := by
  cases hd : shortestDistanceH net h s t none with
  | none => exact absurd hr ((shortestDistanceH_any net hnet h s t hs).2.1 hd)
  | some y =>
    obtain ⟨l, g, g', _, hb, _⟩ := (astar_forward_state_good net hnet h s t hs none).some hu geo hd hts
    exact ⟨_, _, hb⟩

/-- the backward loop always terminates on the flags left by an A* forward pass, whatever the heuristic -/
theorem astar_never_diverges (net : Net W) (hnet : WFNet net) (hu : UniqueIds net) (geo : Geo P) (h : Nat → W) (s t : Nat)
    (hs : s < net.n) (cut : Option W) : shortestPathH net geo h s t cut ≠ .diverge :=
  ((astar_forward_state_good net hnet h s t hs cut).answer hu geo t).1

omit [WalkAdd W] in
/-- `shortest_path` in A* mode with `run_routing_backward` written on TRACKS with the operators of the C04 model returns
`None` / a path exactly when the list-level model does, with the same node list, the same points and no analytical
feature (`run_routing_backward` is the same code in both modes) -/
theorem astar_track_operators_agree (net : Net W) (geo : GeoT) (h : Nat → W) (s t : Nat) (cut : Option W) :
    shortestPathHT net geo h s t cut = liftBack (shortestPathH net geo.toGeo h s t cut) :=
  runBackwardT_eq net geo _ t

omit [WalkAdd W] in
/-- a session call with a heuristic that is 0 everywhere (`routing_mode ≠ 1`, `astar_wgt = 0`, all nodes at the target's
position) is the Dijkstra call (needs `a + 0 = a`, as `forwardH_zero`) -/
theorem stepOpH_zero (hadd : ∀ a : W, a + 0 = a) (net : Net W) (geo : GeoT) (order : List Nat) (hOf : Option Nat → Nat → W)
    (hz : ∀ tg v, hOf tg v = 0) (se : GraphExt.Sess W) (op : GraphExt.Op W) :
    stepOpH net geo order hOf se op = GraphExt.stepOp net geo order se op := by
  have hf : ∀ tg s t cut ud, se.forwardH net (hOf tg) s t cut ud = se.forward net s t cut ud := by
    intro tg s t cut ud
    unfold Sess.forwardH Sess.forward runForwardOnH runForwardOn
    rw [forwardH_zero hadd net _ (hz tg)]
  cases op <;> simp only [stepOpH, GraphExt.stepOp, hf] <;> rfl
end any

section consistent
variable {W : Type} [AddCommMonoid W] [LinearOrder W] [IsOrderedCancelAddMonoid W] {P : Type}

/-- OPTIMAL: with a consistent heuristic the weights of the edges used by the path that `shortest_path(s, t)` returns in A*
mode sum to the true shortest distance; `None` exactly when `t` is unreachable or `t = s`. -/
theorem astar_path_optimal (net : Net W) (hnet : WFNet net) (hu : UniqueIds net) (geo : Geo P) (h : Nat → W)
    (hc : Consistent net h) (s t : Nat) (hs : s < net.n) :
    (shortestPathH net geo h s t none = .none ↔ (¬ Reachable net s t ∨ t = s)) ∧
    (∀ nodes geom, shortestPathH net geo h s t none = .path nodes geom →
      ∃ l g g' y, nodes = l ++ [t] ∧ geom = g ++ [geo.pos t] ∧ Route net geo s l g g' t y ∧ IsDist net s t y) := by
  obtain ⟨_, b, c⟩ := (astar_forward_state_good net hnet h s t hs none).answer hu geo t
  obtain ⟨hdist, hnone⟩ := shortestDistanceH_spec net hnet h hc s t hs
  refine ⟨by rw [← hnone]; exact b, fun nodes geom e => ?_⟩
  obtain ⟨l, g, g', y, e1, e2, hr, hd⟩ := c nodes geom e
  exact ⟨l, g, g', y, e1, e2, hr, (hdist y).1 hd⟩

/-- OPTIMAL with a cut-off: consistent heuristic, smallest at the target (`h t = 0` for the code's heuristic); if the true
distance does not exceed the cut-off, the returned path realises it. -/
theorem astar_path_optimal_cut (net : Net W) (hnet : WFNet net) (hu : UniqueIds net) (geo : Geo P) (h : Nat → W)
    (hc : Consistent net h) (s t : Nat) (hs : s < net.n) (hmin : ∀ v, h t ≤ h v) (cut : Option W) (d : W)
    (hd : IsDist net s t d) (hw : Within cut d) (nodes : List Nat) (geom : List P)
    (hp : shortestPathH net geo h s t cut = .path nodes geom) :
    ∃ l g g', nodes = l ++ [t] ∧ geom = g ++ [geo.pos t] ∧ Route net geo s l g g' t d := by
  obtain ⟨l, g, g', y, a, b, _, c, _, e⟩ := astar_path_is_walk net hnet hu geo h s t hs cut nodes geom hp
  rw [(shortestDistanceH_cut net hnet h hc s t hs hmin cut).1 d hd hw] at e
  cases e
  exact ⟨l, g, g', a, b, c⟩

/-- consistent heuristic smallest at the target, ANY cut-off (also one below the true distance): a returned path is a real
route with its geometry chained, the weights of its edges sum to the value `y` that `shortest_distance(s, t, cut)` reports in
A* mode, `y` is at least the true distance `d`, and if `y` does not exceed the cut-off then `y = d`. -/
theorem astar_path_cut_sound (net : Net W) (hnet : WFNet net) (hu : UniqueIds net) (geo : Geo P) (h : Nat → W)
    (hc : Consistent net h) (s t : Nat) (hs : s < net.n) (hmin : ∀ v, h t ≤ h v) (cut : Option W) (nodes : List Nat)
    (geom : List P) (hp : shortestPathH net geo h s t cut = .path nodes geom) :
    ∃ l g g' y d, nodes = l ++ [t] ∧ geom = g ++ [geo.pos t] ∧ Route net geo s l g g' t y ∧
      shortestDistanceH net h s t cut = some y ∧ IsDist net s t d ∧ d ≤ y ∧ (Within cut y → y = d) := by
  obtain ⟨l, g, g', y, a, b, _, c, hw, e⟩ := astar_path_is_walk net hnet hu geo h s t hs cut nodes geom hp
  obtain ⟨d, hd, hle, h'⟩ := cut_sound_of_walk net hnet s hs (shortestDistanceH_cut net hnet h hc s t hs hmin cut).1 e hw
  exact ⟨l, g, g', y, d, a, b, c, e, hd, hle, h'⟩

/-- paths requested after an A* search that was STOPPED (at its target `t0`, or by a cut-off), consistent heuristic: for every
node `t ≠ s` that the search had settled (`visite`) before it stopped, `run_routing_backward(t)` returns a route from `s` to
`t` whose weights sum to the true distance. (Nodes labelled but not settled may get a tentative route: `astar_path_is_walk`.) -/
theorem astar_backward_settled_optimal (net : Net W) (hnet : WFNet net) (hu : UniqueIds net) (geo : Geo P) (h : Nat → W)
    (hc : Consistent net h) (s : Nat) (hs : s < net.n) (t0 : Option Nat) (cut : Option W) (t : Nat)
    (hv : (runForwardH net h s t0 cut).1.vis t = true) (hts : t ≠ s) :
    ∃ l g g' y, runBackward net geo (runForwardH net h s t0 cut).1 t = .path (l ++ [t]) (g ++ [geo.pos t]) ∧
      Route net geo s l g g' t y ∧ IsDist net s t y := by
  have hg := forwardH_goodH net hnet h s hs t0 cut
  obtain ⟨y, hy⟩ := hg.1.b5 t hv
  obtain ⟨l, g, g', y', hbk, hr, hd⟩ := hg.some hu geo hy hts
  exact ⟨l, g, g', y', hbk, hr, (runForwardH_entries net hnet h hc s hs t0 cut).2.2 t y' hv hd⟩

/-- with `routing_mode ≠ 1` (the default) the value of `heuristic` is its initial `0` in every call: the object answers
every call, and is left in the state, of the Dijkstra session of `Model/GraphPathExt.lean` (`Props/C07.lean`: `session_*`),
whatever `astar_wgt` and the node coordinates -/
theorem dijkstra_mode_is_session [Sub W] [Mul W] (sqrt : W → W) (net : Net W) (geo : GeoT) (pos : Nat → Pos W)
    (order : List Nat) (sa : SessA W) (hm : sa.mode ≠ 1) (op : GraphExt.Op W) :
    (stepOpA sqrt net geo pos order sa (.call op)).2 = (GraphExt.stepOp net geo order sa.sess op).2 ∧
    (stepOpA sqrt net geo pos order sa (.call op)).1 = { sa with sess := (GraphExt.stepOp net geo order sa.sess op).1 } := by
  have hz : ∀ tg v, sa.h sqrt pos tg v = 0 := by
    intro tg v
    unfold SessA.h heuristicOf
    cases tg with
    | none => rfl
    | some t => simp [hm]
  have e := stepOpH_zero (fun a => add_zero a) net geo order (sa.h sqrt pos) hz sa.sess op
  exact ⟨congrArg Prod.snd e, congrArg (fun r => { sa with sess := r.1 }) e⟩
end consistent

section metric
variable {F : Type} [Field F] [LinearOrder F] [IsStrictOrderedRing F] {P : Type}

/-- **the property in A\* mode at full strength**, hypotheses on the configuration only. `Node.distanceTo` is the Euclidean
distance of the node coordinates (`sqrt`: any square root on the non-negative elements). If `0 ≤ astar_wgt` and every
permitted arc weighs at least `astar_wgt ×` the straight-line distance between its ends (the harness' predicate
`heuristic_consistent`), then `shortest_path(s, t[, cut])` with `routing_mode = 1`: returns `None` iff `t` is unreachable or
`t = s` (no cut-off); a returned path is a real route whose polylines are chained along the travel; without a cut-off its
weights sum to the true shortest distance; with a cut-off they do whenever that distance is within it. -/
theorem astar_metric_path_optimal {sqrt : F → F} (hsq : IsSqrt sqrt) (net : Net F) (hnet : WFNet net) (hu : UniqueIds net)
    (geo : Geo P) (pos : Nat → Pos F) (wgt : F) (hw : 0 ≤ wgt)
    (hedge : ∀ u v w, Arc net u v w → wgt * distanceTo sqrt (pos u) (pos v) ≤ w) (s t : Nat) (hs : s < net.n) :
    (shortestPathH net geo (heuristicOf sqrt pos 1 wgt (some t)) s t none = .none ↔ (¬ Reachable net s t ∨ t = s)) ∧
    (∀ cut nodes geom, shortestPathH net geo (heuristicOf sqrt pos 1 wgt (some t)) s t cut = .path nodes geom →
      ∃ l g g' y, nodes = l ++ [t] ∧ geom = g ++ [geo.pos t] ∧ Route net geo s l g g' t y ∧
        shortestDistanceH net (heuristicOf sqrt pos 1 wgt (some t)) s t cut = some y ∧
        (cut = none → IsDist net s t y) ∧ (∀ d, IsDist net s t d → Within cut d → y = d)) := by
  obtain ⟨hc, hmin⟩ := heuristicOf_consistent hsq net pos wgt hw t hedge
  refine ⟨(astar_path_optimal net hnet hu geo _ hc s t hs).1, ?_⟩
  intro cut nodes geom hp
  obtain ⟨l, g, g', y, a, b, _, c, _, e⟩ := astar_path_is_walk net hnet hu geo _ s t hs cut nodes geom hp
  refine ⟨l, g, g', y, a, b, c, e, ?_, ?_⟩
  · intro hcut; subst hcut
    exact ((shortestDistanceH_spec net hnet _ hc s t hs).1 y).1 e
  · intro d hd hwd
    rw [(shortestDistanceH_cut net hnet _ hc s t hs hmin cut).1 d hd hwd] at e
    exact (Option.some.inj e).symm
end metric

section session
variable {W : Type} [LT W] [DecidableLT W] [Add W] [OfNat W 0] [Sub W] [Mul W]

/-- `shortest_path(source, target, cut[, output_dict])` called at any point of a session on an object with routing settings
returns what it returns on a fresh network searched with the object's settings OF THAT MOMENT: it does not depend on the
flags left by earlier searches (in either mode), on how the nodes are designated, nor on an `output_dict` being passed; the
label left on the target is what `shortest_distance` reports with the same settings. -/
theorem astar_session_path_fresh (sqrt : W → W) (net : Net W) (geo : GeoT) (pos : Nat → Pos W) (order : List Nat)
    (sa : SessA W) (s t : NodeArg) (cut : Option W) (ud : Bool) :
    (stepOpA sqrt net geo pos order sa (.call (.path s t cut ud))).2 =
      .path (shortestPathHT net geo (sa.h sqrt pos (some (correctInputNode t))) (correctInputNode s) (correctInputNode t) cut)
            (shortestDistanceH net (sa.h sqrt pos (some (correctInputNode t))) (correctInputNode s) (correctInputNode t) cut) := rfl

/-- `shortest_distance(source, target, cut[, output_dict])` at any point of such a session = on a fresh network with the
settings of that moment -/
theorem astar_session_dist_fresh (sqrt : W → W) (net : Net W) (geo : GeoT) (pos : Nat → Pos W) (order : List Nat)
    (sa : SessA W) (s t : NodeArg) (cut : Option W) (ud : Bool) :
    (stepOpA sqrt net geo pos order sa (.call (.dist s (some t) cut ud))).2 =
      .dist (shortestDistanceH net (sa.h sqrt pos (some (correctInputNode t))) (correctInputNode s) (correctInputNode t) cut) := rfl

/-- the setters change their own attribute only: neither the flags nor the `output_dict` -/
theorem setters_touch_settings_only (sqrt : W → W) (net : Net W) (geo : GeoT) (pos : Nat → Pos W) (order : List Nat)
    (sa : SessA W) (m : Nat) (w : W) :
    (stepOpA sqrt net geo pos order sa (.setMethod m)).1 = { sa with mode := m } ∧
    (stepOpA sqrt net geo pos order sa (.setWeight w)).1 = { sa with wgt := w } := ⟨rfl, rfl⟩
end session

/-! ### the property in a session, from the configuration -/
section sessionMetric
variable {F : Type} [Field F] [LinearOrder F] [IsStrictOrderedRing F]

/-- **at any point of a session** on an object whose `routing_mode` is 1 at that moment, with `0 ≤ astar_wgt` and every permitted
arc weighing at least `astar_wgt ×` the straight-line distance of its ends: whatever searches were made before (in either mode),
however the nodes are designated, with or without `output_dict` — `shortest_path(s, t)` never diverges, returns `None` iff `t`
is unreachable or `t = s`, and otherwise a track without analytical feature that is the chain of a real route whose weights sum
to the true shortest distance, which is also the label left on the target. -/
theorem astar_session_metric_optimal {sqrt : F → F} (hsq : IsSqrt sqrt) (net : Net F) (hnet : WFNet net) (hu : UniqueIds net)
    (geo : GeoT) (pos : Nat → Pos F) (order : List Nat) (sa : SessA F) (hm : sa.mode = 1) (hw : 0 ≤ sa.wgt)
    (hedge : ∀ u v w, Arc net u v w → sa.wgt * distanceTo sqrt (pos u) (pos v) ≤ w)
    (s t : NodeArg) (ud : Bool) (hs : correctInputNode s < net.n) :
    ∃ b lab, (stepOpA sqrt net geo pos order sa (.call (.path s t none ud))).2 = .path b lab ∧ b ≠ .diverge ∧
      (b = .none ↔ (¬ Reachable net (correctInputNode s) (correctInputNode t) ∨ correctInputNode t = correctInputNode s)) ∧
      (∀ nodes trk, b = .path nodes trk → ∃ l g g' y, nodes = l ++ [correctInputNode t] ∧
        trk = ⟨g ++ [geo.pos (correctInputNode t)], []⟩ ∧
        Route net geo.toGeo (correctInputNode s) l g g' (correctInputNode t) y ∧
        IsDist net (correctInputNode s) (correctInputNode t) y ∧ lab = some y) := by
  have hh : sa.h sqrt pos (some (correctInputNode t)) = heuristicOf sqrt pos 1 sa.wgt (some (correctInputNode t)) := by
    unfold SessA.h; rw [hm]
  obtain ⟨hc, _⟩ := heuristicOf_consistent hsq net pos sa.wgt hw (correctInputNode t) hedge
  have hd := shortestDistanceH_spec net hnet _ hc (correctInputNode s) (correctInputNode t) hs
  obtain ⟨a, b, c⟩ := GoodH.optimalT hu geo (forwardH_goodH net hnet (heuristicOf sqrt pos 1 sa.wgt (some (correctInputNode t)))
    (correctInputNode s) hs (some (correctInputNode t)) none) (correctInputNode t) hd
  refine ⟨_, _, astar_session_path_fresh sqrt net geo pos order sa s t none ud, ?_, ?_, ?_⟩ <;> rw [hh]
  · exact a
  · exact b
  · intro nodes trk e
    obtain ⟨l, g, g', y, e1, e2, hr, hy⟩ := c nodes trk e
    exact ⟨l, g, g', y, e1, e2, hr, hy, (hd.1 y).2 hy⟩
end sessionMetric

/-! ### sequences of calls on one object with routing settings -/
section machine
set_option linter.unusedSectionVars false
variable {W : Type} [LinearOrder W] [Add W] [Zero W] [WalkAdd W] [Sub W] [Mul W]

def SessGoodH (net : Net W) (se : GraphExt.Sess W) : Prop := ∀ st, se.flags = some st → ∃ s, s < net.n ∧ GoodH net s st

def OpOkA (net : Net W) : OpA W → Prop
  | .call op => OpOk net op
  | _ => True

theorem sess_forwardH_good (net : Net W) (hnet : WFNet net) (h : Nat → W) (se : GraphExt.Sess W) (s : NodeArg) (t : Option NodeArg)
    (cut : Option W) (ud : Bool) (hs : correctInputNode s < net.n) : SessGoodH net (se.forwardH net h s t cut ud) := by
  intro st hst
  simp only [GraphExt.Sess.forwardH, Option.some.injEq] at hst
  subst hst
  exact ⟨correctInputNode s, hs, forwardH_goodH net hnet h _ hs (t.map correctInputNode) cut⟩

theorem stepOpH_ok (net : Net W) (hnet : WFNet net) (hu : UniqueIds net) (geo : GeoT) (order : List Nat)
    (hOf : Option Nat → Nat → W) (se : GraphExt.Sess W) (op : GraphExt.Op W) (hok : OpOk net op) (hse : SessGoodH net se) :
    OutOk net geo (stepOpH net geo order hOf se op).2 ∧ SessGoodH net (stepOpH net geo order hOf se op).1 := by
  cases op with
  | path s t cut ud =>
    exact ⟨backward_out_ok net hu geo _ _ (forwardH_goodH net hnet _ _ hok _ cut) _,
      sess_forwardH_good net hnet _ se s (some t) cut ud hok⟩
  | dist s t cut ud => cases t <;> exact ⟨trivial, sess_forwardH_good net hnet _ se s _ cut ud hok⟩
  | fwd s t cut ud => exact ⟨trivial, sess_forwardH_good net hnet _ se s t cut ud hok⟩
  | back t =>
    simp only [stepOpH]
    split
    · exact ⟨trivial, hse⟩
    · rename_i st hst
      obtain ⟨s0, _, hgood⟩ := hse st hst
      exact ⟨backward_out_ok net hu geo s0 st hgood _, hse⟩

/-- STATE MACHINE in A* mode: in ANY sequence of `setRoutingMethod` / `setAStarWeight` / `shortest_path` /
`shortest_distance` / `run_routing_forward` / `run_routing_backward` calls on one network — any settings (any `astar_wgt`,
any coordinates: the heuristic need not be consistent), switched at any moment, any targets and cut-offs,
`run_routing_backward` for any node after any search — the backward loop always terminates and every track returned is the
chain of a real route whose edge weights sum to the label of its last node. -/
theorem astar_session_outputs_ok (sqrt : W → W) (net : Net W) (hnet : WFNet net) (hu : UniqueIds net) (geo : GeoT)
    (pos : Nat → Pos W) (order : List Nat) :
    ∀ (ops : List (OpA W)) (sa : SessA W), (∀ op ∈ ops, OpOkA net op) → SessGoodH net sa.sess →
      (∀ o ∈ (runSessionA sqrt net geo pos order sa ops).1, OutOk net geo o) ∧
      SessGoodH net (runSessionA sqrt net geo pos order sa ops).2.sess := by
  intro ops
  induction ops with
  | nil => intro sa _ hse; exact ⟨fun o ho => (by cases ho), hse⟩
  | cons op ops ih =>
    intro sa hok hse
    have hop := hok op (List.mem_cons_self)
    have hstep : OutOk net geo (stepOpA sqrt net geo pos order sa op).2 ∧
        SessGoodH net (stepOpA sqrt net geo pos order sa op).1.sess := by
      cases op with
      | setMethod m => exact ⟨trivial, hse⟩
      | setWeight w => exact ⟨trivial, hse⟩
      | call op => exact stepOpH_ok net hnet hu geo order _ sa.sess op hop hse
    obtain ⟨ih1, ih2⟩ := ih _ (fun o ho => hok o (List.mem_cons_of_mem _ ho)) hstep.2
    exact ⟨fun o ho => (List.mem_cons.1 ho).elim (fun e => e ▸ hstep.1) (ih1 o), ih2⟩
end machine

/-! ### the hypotheses are satisfiable, and the model computes -/

/-- the straight road 0 –10– 1 –10– 2 with nodes at x = 0, 10, 20 plus a detour 0 –13– 3 –13– 2 over a node at (10, 5);
the straight-line distances are rational only along the road, so the heuristic below is the distance to node 2 along the
x axis, which is consistent for these weights -/
def aroad : Net Int := { n := 4, edges := [⟨0, 0, 1, 10, 0⟩, ⟨1, 2, 1, 10, -1⟩, ⟨2, 0, 3, 13, 1⟩, ⟨3, 3, 2, 13, 1⟩] }
def aroadH : Nat → Int := fun v => if v = 0 then 20 else if v = 1 then 10 else if v = 3 then 10 else 0
def aroadGeo : Geo (Int × Int) :=
  { pos := fun v => if v = 0 then (0, 0) else if v = 1 then (10, 0) else if v = 2 then (20, 0) else (10, 5),
    line := fun i => if i = 0 then [(0, 0), (10, 0)] else if i = 1 then [(20, 0), (15, 1), (10, 0)]
                     else if i = 2 then [(0, 0), (10, 5)] else [(10, 5), (20, 0)] }

example : WFNet aroad := by unfold WFNet; decide
example : UniqueIds aroad := uniqueIds_of_nodup _ (by decide)
example : GeoOK aroad aroadGeo := by unfold GeoOK; decide
example : Consistent aroad aroadH := consistent_of_edges _ _ (by decide)
/-- edge 1 is stored 2→1 and travelled 1→2: its polyline comes out reversed -/
example : shortestPathH aroad aroadGeo aroadH 0 2 none = .path [0, 1, 2] [(0, 0), (10, 0), (15, 1), (20, 0)] := by decide +kernel
example : shortestPathH aroad aroadGeo aroadH 2 0 none = .none := by decide +kernel
example : shortestDistanceH aroad aroadH 0 2 none = some 20 := by decide +kernel
/-- a heuristic that is NOT consistent (node 1 looks far from the target): the route over node 3 is returned — real,
continuous, weighing the reported 26 — and is not optimal; `astar_path_is_walk` still applies, `astar_path_optimal` does not -/
def aroadBad : Nat → Int := fun v => if v = 1 then 100 else 0
example : shortestPathH aroad aroadGeo aroadBad 0 2 none = .path [0, 3, 2] [(0, 0), (10, 5), (20, 0)] ∧
    shortestDistanceH aroad aroadBad 0 2 none = some 26 := by decide +kernel

/-! ### the hypotheses of the metric form are satisfiable: the reals with `Real.sqrt` -/
example : IsSqrt Real.sqrt := fun x hx => ⟨Real.sqrt_nonneg x, Real.mul_self_sqrt hx⟩
/-- one two-way edge of weight 5 between nodes at (0, 0, 0) and (3, 4, 0): it weighs `astar_wgt = 1` × its straight length -/
noncomputable def rnet : Net ℝ := { n := 2, edges := [⟨0, 0, 1, 5, 0⟩] }
noncomputable def rpos : Nat → Pos ℝ := fun v => if v = 0 then ⟨0, 0, 0⟩ else ⟨3, 4, 0⟩
example : ∀ u v w, Arc rnet u v w → (1 : ℝ) * distanceTo Real.sqrt (rpos u) (rpos v) ≤ w := by
  intro u v w ha
  obtain ⟨e, he, hw, hdir⟩ := ha
  simp only [rnet, List.mem_singleton] at he
  subst he
  have h25 : Real.sqrt 25 = 5 := by
    rw [show (25 : ℝ) = 5 * 5 by norm_num]; exact Real.sqrt_mul_self (by norm_num)
  rcases hdir with ⟨_, hu, hv⟩ | ⟨_, hu, hv⟩
  · simp only at hu hv hw
    subst hu hv hw
    simp only [rpos, distanceTo]
    norm_num
    rw [h25]
  · simp only at hu hv hw
    subst hu hv hw
    simp only [rpos, distanceTo]
    norm_num
    rw [h25]
end TV.C07
