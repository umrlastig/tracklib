import TracklibVerif.Lemmas.Raster
import TracklibVerif.Lemmas.RasterSession
import TracklibVerif.Lemmas.RasterRounded
import Mathlib.Data.Rat.Floor
import Mathlib.Tactic.NormNum
/-! # C19 — grid summarising conserves observations and aggregates per cell

Property theorems only (helper lemmas: `Lemmas/Raster.lean`, `Lemmas/RasterSession.lean`; models: `Model/Raster.lean`,
`Model/RasterSession.lean`). `getCell`, `scatter`, `cellValue`, `aggregates` are the models of `Raster.getCell`, the scatter
loop of `Raster.addCollectionToRaster`, the `co_*` cell operators and the per-band loop of `Raster.computeAggregates`;
`addBand`, `addColl`, `computeAll`, `run` those of the calls `addAFMap`, `addCollectionToRaster`, `computeAggregates` and of
sequences of calls on one `Raster` object; `summarizeS` that of `summarize`.
Scalars: any linearly ordered field with a floor function (`ℚ`, `ℝ`); `floor`/`ceil` are `Int.floor`/`Int.ceil`.
A feature value `none` is NaN. `WF g` says the grid is the one the constructor builds on a bounding box
`xmin ≤ xmax`, `ymin ≤ ymax` — zero width and zero height included: all observations on one vertical or horizontal
line, a single observation — with positive resolution (`ncol = max 1 ⌈(xmax-xmin)/rx⌉`,
`nrow = max 1 ⌈(ymax-ymin)/ry⌉`; the `max 1` is the `fix:` commit bdf8515).

Floating point. The field theorems speak of exact arithmetic. The last sections restate the geometry for Python's floats:
`rounded_cell_in_grid` / `rounded_conservation` are about the SAME definitions `mkGrid`, `getCell`, `scatter` instantiated
at `RQ rnd` (rationals, every operation rounded by `rnd`; `Lemmas/RasterRounded.lean`), under explicit hypotheses on `rnd`
(monotone, integers up to the grid size kept, relative error `u`). Rounding inside the cell operators' sums is not covered.
`scatter_stops_at_outside` and `compute_failing_bands` state what a failing call leaves behind.
`Props/C19Partial.lean` (`add_collection_partial`, `partial_conservation`, `partial_then_compute`): which cells of which grids have been written when
the `TypeError` leaves `addCollectionToRaster` (a prefix of the track × feature × observation order), and that a later `computeAggregates` aggregates exactly those.
`computed_bands_persist` / `session_spec_after_setters` state what the calls AFTER a `computeAggregates` leave of its bands
(`setNoDataValue`, `addAFMap`: nothing is rewritten; the marker in a cell without value is the one of the call that wrote it).

Feature tables. The theorems here speak of the feature values of a track BY NAME (`Trk.feats`, `featVals`). That the ranks at
which a track stores its features (its own dictionary; different from track to track in one collection) do not matter is
`Props/C19Layout.lean`: `add_collection_by_name`, `track_layout_sound`, `add_collection_layout_independent`. -/
namespace TV.C19
open TV.Raster
variable {α : Type} [Field α] [LinearOrder α] [IsStrictOrderedRing α] [FloorRing α]

/-- T1. Every point of the extent is assigned a cell of the grid (`0 ≤ column < ncol`, `0 ≤ line < nrow`, lines
counted from the top) whose footprint — `[xmin + c·rx, xmin + (c+1)·rx) × [ymin + (nrow-1-r)·ry, ymin + (nrow-r)·ry)`,
closed on the right for the last column and on the top for line 0 — contains it; and it is the only cell of the
grid whose footprint contains the point. This includes the grids of zero width / height (one column / one row):
there `x = xmin` lies in column 0 = `[xmin, xmin + rx)`, `y = ymin` in line 0 = `[ymin, ymin + ry)`. -/
theorem cell_footprint (g : Grid α) (hg : WF g) (x y : α)
    (hx : g.xmin ≤ x ∧ x ≤ g.xmax) (hy : g.ymin ≤ y ∧ y ≤ g.ymax) :
    ∃ c r : ℤ, getCell Int.floor g x y = some (c, r) ∧ 0 ≤ c ∧ c < g.ncol ∧ 0 ≤ r ∧ r < g.nrow ∧ InCell g c r x y
      ∧ ∀ c' r' : ℤ, c' < g.ncol → 0 ≤ r' → InCell g c' r' x y → c' = c ∧ r' = r := by
  obtain ⟨c, r, h, c0, c1, r0, r1, hin⟩ := getCell_footprint g hg x y hx hy
  exact ⟨c, r, h, c0, c1, r0, r1, hin,
    fun c' r' hc' hr' h' => inCell_unique g hg.rx hg.ry x y c' r' c r hc' c1 hr' r0 h' hin⟩

/-- a point outside the extent is assigned no cell -/
theorem cell_outside (g : Grid α) (x y : α) (h : x < g.xmin ∨ g.xmax < x ∨ y < g.ymin ∨ g.ymax < y) :
    getCell Int.floor g x y = none :=
  (getCell_eq_none_iff _ g x y).2 (or_assoc.2 h)

/-- T2. Scattering observations that lie in the extent never fails; afterwards the cell in line `i`, column `j`
holds exactly the values of the observations whose `getCell` is `(j, i)`, in scatter order (each value lands in
exactly one cell). Hence the cell sizes add up to the number of observations, and the `co_count` values add up to
the number of non-NaN values. -/
theorem conservation {V : Type} (g : Grid α) (hg : WF g) (obs : List (α × α × V))
    (hin : ∀ o ∈ obs, (g.xmin ≤ o.1 ∧ o.1 ≤ g.xmax) ∧ (g.ymin ≤ o.2.1 ∧ o.2.1 ≤ g.ymax)) :
    ∃ cells : Cells V,
      scatter Int.floor g (emptyCells g.nrow.toNat g.ncol.toNat) obs = some cells
      ∧ Rect cells g.nrow.toNat g.ncol.toNat
      ∧ (∀ i j, cellAt cells i j
          = located (fun o : α × α × V => getCell Int.floor g o.1 o.2.1) (fun o => o.2.2) j i obs)
      ∧ (∑ i ∈ Finset.range g.nrow.toNat, ∑ j ∈ Finset.range g.ncol.toNat, (cellAt cells i j).length) = obs.length
      ∧ ∀ w : V → ℕ, (∑ i ∈ Finset.range g.nrow.toNat, ∑ j ∈ Finset.range g.ncol.toNat, ((cellAt cells i j).map w).sum)
          = (obs.map (fun o => w o.2.2)).sum :=
  scatter_conserves Int.floor g _ _ obs (fun o ho => getCell_inGrid hg o (hin o ho).1 (hin o ho).2)

/-- T3. Each cell operator equals the aggregate over exactly the non-NaN values of the cell (`nonNaN l`):
count = their number; sum = their sum; min / max = their least / greatest element; avg = sum / number;
median = middle element (or half-sum of the two middle elements) of their sorted permutation; with no non-NaN
value (empty cell, or all NaN) count and sum are 0 and the others are NaN, which `computeAggregates` stores as the
no-data value. -/
theorem aggregate_spec (l : List (Option α)) (noData : α) :
    cellValue .count l = some (((nonNaN l).length : ℕ) : α)
    ∧ cellValue .sum l = some (nonNaN l).sum
    ∧ ((cellValue .min l = none ↔ nonNaN l = []) ∧ ∀ m, cellValue .min l = some m → m ∈ nonNaN l ∧ ∀ v ∈ nonNaN l, m ≤ v)
    ∧ ((cellValue .max l = none ↔ nonNaN l = []) ∧ ∀ m, cellValue .max l = some m → m ∈ nonNaN l ∧ ∀ v ∈ nonNaN l, v ≤ m)
    ∧ cellValue .avg l = (if nonNaN l = [] then none else some ((nonNaN l).sum / ((nonNaN l).length : α)))
    ∧ ((cellValue .median l = none ↔ nonNaN l = []) ∧
        (nonNaN l ≠ [] → ∃ s : List α, s.Perm (nonNaN l) ∧ s.Pairwise (· ≤ ·) ∧
          (((nonNaN l).length % 2 = 1 ∧ ∃ h : ((nonNaN l).length - 1) / 2 < s.length,
              cellValue .median l = some s[((nonNaN l).length - 1) / 2])
           ∨ ((nonNaN l).length % 2 = 0 ∧ ∃ (h1 : (nonNaN l).length / 2 < s.length) (h2 : (nonNaN l).length / 2 - 1 < s.length),
              cellValue .median l = some ((1 / 2 : α) * (s[(nonNaN l).length / 2] + s[(nonNaN l).length / 2 - 1]))))))
    ∧ (nonNaN l = [] → ∀ op, (cellValue op l).getD noData
          = if op = .count ∨ op = .sum then 0 else noData) := by
  refine ⟨congrArg (fun n : ℕ => some (n : α)) (coCount_eq l), congrArg some (coSum_eq l), coMin_spec l, coMax_spec l,
    coAvg_spec l, coMedian_spec l, fun hnil op => ?_⟩
  rw [cellValue_empty hnil]
  split <;> rfl

/-- the grids written by `computeAggregates`: entry (line `i`, column `j`) is the operator's value on that cell,
NaN replaced by the no-data value -/
theorem aggregates_entry (noData : α) (op : Op) (c : Cells (Option α)) (i j : ℕ)
    (hi : i < c.length) (hj : j < (c[i]'hi).length) :
    ((aggregates noData op c)[i]?.bind (·[j]?)) = some ((cellValue op (cellAt c i j)).getD noData) :=
  map_map_entry (fun cell => (cellValue op cell).getD noData) c i j hi hj

/-- the grids written by `computeAggregates` on a raster whose no-data value is `nd` (`none` = `None`): entry (line `i`,
column `j`) is the operator's value on that cell, and the raster's OWN no-data value when that value is NaN; hence a cell
without a non-NaN value (no observation, or only NaN) holds 0 for count and sum and the raster's no-data value — whatever it is —
for the four other operators. -/
theorem aggregatesN_entry (nd : Option α) (op : Op) (c : Cells (Option α)) (i j : ℕ)
    (hi : i < c.length) (hj : j < (c[i]'hi).length) :
    ((aggregatesN nd op c)[i]?.bind (·[j]?))
        = some (fillNaN nd (cellValue op (cellAt c i j)))
    ∧ (nonNaN (cellAt c i j) = [] →
        ((aggregatesN nd op c)[i]?.bind (·[j]?)) = some (if op = .count ∨ op = .sum then some 0 else nd)) := by
  have h1 := map_map_entry (fun cell => fillNaN nd (cellValue op cell)) c i j hi hj
  refine ⟨h1, fun hnil => h1.trans ?_⟩
  rw [cellValue_empty hnil]
  split <;> rfl

/-! ### the raster object as a state machine: sequences of calls on ONE `Raster`

`run floor s cmds` is the model of a sequence of calls (`addAFMap`, `addCollectionToRaster`, `computeAggregates`,
`setNoDataValue`), each one caught, on the raster in state `s`; `s.noData` is the raster's own no-data value (the constructor's
`novalue`, then whatever `setNoDataValue` put there; `none` = Python's `None`), which — since the `fix:` commit 279f7b2 — is what
`computeAggregates` writes. -/

/-- No call changes the grid geometry: after ANY sequence of calls (failing ones included) the geometry is the one
`Raster.__init__` built. -/
theorem session_geometry (floor : α → Int) (s : RState α) (cmds : List (Cmd α)) :
    (run floor s cmds).1.g = s.g ∧ (run floor s cmds).2.length = cmds.length :=
  ⟨run_g floor cmds s, run_length floor cmds s⟩

/-- `addCollectionToRaster` REPLACES the values, it does not accumulate. On a raster in ANY state `s` (whatever values an
earlier collection left, whatever the bands hold) with a well-formed grid, for a collection whose observations lie in the
extent and whose tracks have every feature the bands name: no exception; geometry, bands and no-data value are untouched;
the values are kept for exactly the features of the bands, and the cell (line `i`, column `j`) of feature `af` holds exactly
the values of `af` of the observations of THIS collection that `getCell` locates there, in track order. -/
theorem add_collection_spec (s : RState α) (hg : WF s.g) (afo : List String) (T : List (Trk α))
    (hperm : afo.isPerm (afsOf s.bands) = true)
    (hfeat : ∀ t ∈ T, ∀ af ∈ afo, (featVals t af).isSome = true) (hin : ∀ t ∈ T, InExtent s.g t) :
    ∃ V : Vals α, addColl Int.floor s afo T = ({ s with values := some V }, none)
      ∧ ∀ af, (af ∉ afo → V.lookup af = none)
        ∧ (af ∈ afo → ∃ c, V.lookup af = some c ∧ Rect c s.g.nrow.toNat s.g.ncol.toNat
            ∧ ∀ i j, cellAt c i j = located (fun o : α × α × Option α => getCell Int.floor s.g o.1 o.2.1) (fun o => o.2.2) j i
                (T.flatMap (fun t => obsOf t af))) :=
  ⟨valsOf s.g afo T, addColl_ok s hg afo T hperm hfeat hin, fun af => valsOf_spec s.g hg afo T hin af⟩

/-- Conservation on a raster with a history: after `addCollectionToRaster` (hypotheses of `add_collection_spec`), for every
feature of the bands the sizes of the cells add up to the number of observations of THIS collection (each observation is
in exactly one cell, nothing of an earlier collection is counted), and any per-value weight is conserved — with the
weight "is not NaN": the entries of a `co_count` band add up to the number of non-NaN values. -/
theorem add_collection_conservation (s : RState α) (hg : WF s.g) (afo : List String) (T : List (Trk α))
    (hperm : afo.isPerm (afsOf s.bands) = true)
    (hfeat : ∀ t ∈ T, ∀ af ∈ afo, (featVals t af).isSome = true) (hin : ∀ t ∈ T, InExtent s.g t)
    (af : String) (haf : af ∈ afo) :
    ∃ (V : Vals α) (c : Cells (Option α)), addColl Int.floor s afo T = ({ s with values := some V }, none) ∧ V.lookup af = some c
      ∧ (∑ i ∈ Finset.range s.g.nrow.toNat, ∑ j ∈ Finset.range s.g.ncol.toNat, (cellAt c i j).length)
          = (T.flatMap (fun t => obsOf t af)).length
      ∧ ∀ w : Option α → ℕ, (∑ i ∈ Finset.range s.g.nrow.toNat, ∑ j ∈ Finset.range s.g.ncol.toNat, ((cellAt c i j).map w).sum)
          = ((T.flatMap (fun t => obsOf t af)).map (fun o => w o.2.2)).sum := by
  obtain ⟨V, hV, hspec⟩ := add_collection_spec s hg afo T hperm hfeat hin
  obtain ⟨c, hl, _, hc⟩ := (hspec af).2 haf
  refine ⟨V, c, hV, hl, located_conserves (fun o ho => ?_) hc⟩
  obtain ⟨t, ht, hot⟩ := List.mem_flatMap.1 ho
  exact obsOf_inGrid hg (hin t ht) af o hot

/-- the observations handed to the scatter for a feature the track has (a value per position) are all its positions, in
order: none is dropped -/
theorem obs_cover (t : Trk α) (af : String) (vs : List (Option α)) (h : featVals t af = some vs) (hl : vs.length = t.pts.length) :
    (obsOf t af).map (fun o => (o.1, o.2.1)) = t.pts :=
  obsOf_points t af vs h hl

/-- a track lacking a feature the bands name: `AnalyticalFeatureError`, and — the dictionary having been replaced
before the test — every cell of every feature is left empty: the earlier collection's values are gone -/
theorem add_collection_missing_feature (floor : α → Int) (s : RState α) (afo : List String) (T : List (Trk α))
    (hperm : afo.isPerm (afsOf s.bands) = true)
    (t : Trk α) (ht : t ∈ T) (af : String) (haf : af ∈ afo) (hmiss : featVals t af = none) :
    addColl floor s afo T
      = ({ s with values := some (afo.map (fun a => (a, emptyCells s.g.nrow.toNat s.g.ncol.toNat))) }, some .afError) := by
  unfold addColl
  have h1 : (!(afo.isPerm (afsOf s.bands))) = false := by rw [hperm]; rfl
  have h2 : (T.any (fun t => afo.any (fun af => (featVals t af).isNone))) = true := by
    rw [List.any_eq_true]
    refine ⟨t, ht, ?_⟩
    rw [List.any_eq_true]
    exact ⟨af, haf, by rw [hmiss]; rfl⟩
  rw [h1, h2]
  simp

/-- an observation outside the extent (every track having every feature, at least one band): `getCell` returns `None`,
the unpacking raises `TypeError`; bands and geometry are untouched (the values scattered before it stay: exactly which ones is
`add_collection_partial`, `Props/C19Partial.lean`) -/
theorem add_collection_outside (s : RState α) (hg : WF s.g) (afo : List String) (T : List (Trk α))
    (hperm : afo.isPerm (afsOf s.bands) = true) (hne : afo ≠ [])
    (hfeat : ∀ t ∈ T, ∀ af ∈ afo, HasFeat t af) (hout : ∃ t ∈ T, ∃ p ∈ t.pts, ¬ Inside s.g p.1 p.2) :
    (addColl Int.floor s afo T).2 = some .type ∧ (addColl Int.floor s afo T).1.bands = s.bands
      ∧ (addColl Int.floor s afo T).1.g = s.g := by
  refine ⟨?_, (addColl_g _ s afo T).2, (addColl_g _ s afo T).1⟩
  rw [addColl_eq Int.floor s afo T hperm (fun t ht af haf => (hfeat t ht af haf).isSome)]
  -- the loop over the tracks stops in the first track with an observation outside
  obtain ⟨a0, arest, rfl⟩ := List.exists_cons_of_ne_nil hne
  obtain ⟨Tpre, t, Tpost, rfl, hpre, houtt⟩ := first_outside_track s.g T hout
  obtain ⟨c', _, _, h⟩ := addTracks_partial s.g hg a0 arest Tpre Tpost t hfeat hpre houtt
  rw [h]

/-- The invariant over operation sequences. Take ANY sequence of calls `pre` on a new raster (bands added, other
collections scattered and aggregated, calls that raised — anything), then `addCollectionToRaster` of a collection `T` inside
the extent whose tracks have every feature of the bands, then any calls `post` other than `addCollectionToRaster` (bands
added later, `setNoDataValue`, further `computeAggregates`), then `computeAggregates`, every band being named
`<feature>#<operator>` with a feature scattered by that `addCollectionToRaster` and one of the six operators. Then neither that
`addCollectionToRaster` nor the last `computeAggregates` raises, the geometry is still the constructor's, the bands are those
present before the last call, and EVERY band — whatever it held before: nothing, an explicit grid, the aggregates of an
earlier collection — holds, in (line `i`, column `j`), its operator applied to exactly the values of its feature of the
observations of `T` that `getCell` locates in that cell, a cell without a non-NaN value holding the raster's OWN no-data value as it
is at that call — the constructor's `novalue` or what `setNoDataValue` put there since, `None` included (`aggregatesN_entry`). With T1 (`cell_footprint`), T2 (`conservation`) and T3
(`aggregate_spec`) this is the property for the collection LAST scattered, after any history. -/
theorem session_spec (g : Grid α) (hg : WF g) (nd : Option α) (pre post : List (Cmd α)) (afo : List String) (T : List (Trk α))
    (hpost : ∀ c ∈ post, c.isAdd = false)
    (hperm : afo.isPerm (afsOf (run Int.floor (initState g nd) pre).1.bands) = true)
    (hfeat : ∀ t ∈ T, ∀ af ∈ afo, (featVals t af).isSome = true) (hin : ∀ t ∈ T, InExtent g t)
    (hbands : ∀ b ∈ (run Int.floor (initState g nd) (pre ++ [.add afo T] ++ post)).1.bands,
        ∃ af opn rest, b.name = af :: opn :: rest ∧ af ∈ afo ∧ (opOf opn).isSome = true) :
    ∃ (s3 : RState α) (outs : List (Option Err)),
      run Int.floor (initState g nd) (pre ++ [.add afo T] ++ post ++ [.compute]) = (s3, outs)
      ∧ outs[pre.length]? = some none ∧ outs.getLast? = some none
      ∧ s3.g = g ∧ s3.noData = (run Int.floor (initState g nd) (pre ++ [.add afo T] ++ post)).1.noData
      ∧ s3.bands.map (·.name) = (run Int.floor (initState g nd) (pre ++ [.add afo T] ++ post)).1.bands.map (·.name)
      ∧ ∀ b ∈ s3.bands, ∀ af opn rest op, b.name = af :: opn :: rest → opOf opn = some op →
          ∃ c : Cells (Option α), Rect c g.nrow.toNat g.ncol.toNat
            ∧ (∀ i j, cellAt c i j = located (fun o : α × α × Option α => getCell Int.floor g o.1 o.2.1) (fun o => o.2.2) j i
                (T.flatMap (fun t => obsOf t af)))
            ∧ b.grid = some (aggregatesN s3.noData op c) := by
  -- the calls before `addCollectionToRaster` only fix the state `s1` it starts from, whose geometry is `g`
  have hg1 : (run Int.floor (initState g nd) pre).1.g = g := run_g _ _ _
  have hl1 : (run Int.floor (initState g nd) pre).2.length = pre.length := run_length _ _ _
  simp only [List.append_assoc pre, run_append _ pre] at hbands ⊢
  generalize run Int.floor (initState g nd) pre = r1 at *
  obtain ⟨s1, outs1⟩ := r1
  subst hg1
  obtain ⟨s3, outs, hrun, hg3, hnd, hnames, hb⟩ := add_then_compute Int.floor s1 afo T _ none
    (addColl_ok s1 hg afo T hperm hfeat hin) _ (fun af haf => (valsOf_spec _ hg afo T hin af).2 haf) post hpost hbands
  rw [hrun]
  refine ⟨s3, _, rfl, ?_, ?_, hg3, hnd, hnames, fun b hb' af opn rest op hn hop =>
    (hb b hb' af opn rest op hn hop).imp fun c h => ⟨h.1.1, h.1.2, h.2⟩⟩
  · rw [List.getElem?_append_right (Nat.le_of_eq hl1), hl1, Nat.sub_self]; rfl
  · rw [← List.append_assoc, List.getLast?_concat]

/-- Reading the bands later. `computeAggregates` is the only call that writes into a band: after ANY sequence of other calls
on a raster in any state — `setNoDataValue` with any value, any number of times; `addAFMap`, failing or not; even
`addCollectionToRaster` — the geometry is the same, the bands of before are all still there, in place, each with the very
grid it held (so a genuine aggregate that happens to be equal to a no-data marker, old or new, is never rewritten, and a
cell without value keeps the marker of the call that wrote it), the bands added since have names not taken before, and
`getAFMap(name)` returns what it returned. -/
theorem computed_bands_persist (floor : α → Int) (s : RState α) (later : List (Cmd α))
    (hlater : ∀ c ∈ later, c.isCompute = false) :
    (run floor s later).1.g = s.g
    ∧ (∃ extra, (run floor s later).1.bands = s.bands ++ extra ∧ ∀ b ∈ extra, ∀ b' ∈ s.bands, b.name ≠ b'.name)
    ∧ ∀ name b, getBand s name = some b → getBand (run floor s later).1 name = some b := by
  obtain ⟨extra, h1, h2⟩ := run_keeps_bands floor later s hlater
  exact ⟨run_g floor later s, ⟨extra, h1, h2⟩, fun name b hb => getBand_append s _ extra h1 name b hb⟩

/-- `session_spec`, read later: after the sequence of `session_spec` (any calls, a well-formed `addCollectionToRaster(T)`, calls
other than `addCollectionToRaster`, `computeAggregates`), then ANY calls other than `computeAggregates` (`setNoDataValue` once or
several times — to 0, to a count, to a value a cell really holds —, `addAFMap`, …): the bands written by that
`computeAggregates` (`s3.bands`) are the first bands of the final raster `s4`, unchanged: EVERY one still holds its operator
over exactly the values of the observations of `T` located in each cell, and in a cell without a non-NaN value 0 for count /
sum, otherwise the no-data value the raster had AT THAT `computeAggregates` (`s3.noData`) — not the one it has now. -/
theorem session_spec_after_setters (g : Grid α) (hg : WF g) (nd : Option α) (pre post later : List (Cmd α)) (afo : List String)
    (T : List (Trk α))
    (hpost : ∀ c ∈ post, c.isAdd = false)
    (hperm : afo.isPerm (afsOf (run Int.floor (initState g nd) pre).1.bands) = true)
    (hfeat : ∀ t ∈ T, ∀ af ∈ afo, (featVals t af).isSome = true) (hin : ∀ t ∈ T, InExtent g t)
    (hbands : ∀ b ∈ (run Int.floor (initState g nd) (pre ++ [.add afo T] ++ post)).1.bands,
        ∃ af opn rest, b.name = af :: opn :: rest ∧ af ∈ afo ∧ (opOf opn).isSome = true)
    (hlater : ∀ c ∈ later, c.isCompute = false) :
    ∃ (s3 s4 : RState α) (outs : List (Option Err)) (extra : List (Band α)),
      run Int.floor (initState g nd) (pre ++ [.add afo T] ++ post ++ [.compute]) = (s3, outs)
      ∧ (run Int.floor (initState g nd) (pre ++ [.add afo T] ++ post ++ [.compute] ++ later)).1 = s4
      ∧ s4.g = g ∧ s4.bands = s3.bands ++ extra ∧ (∀ b ∈ extra, ∀ b' ∈ s3.bands, b.name ≠ b'.name)
      ∧ ∀ b ∈ s3.bands, ∀ af opn rest op, b.name = af :: opn :: rest → opOf opn = some op →
          ∃ c : Cells (Option α), Rect c g.nrow.toNat g.ncol.toNat
            ∧ (∀ i j, cellAt c i j = located (fun o : α × α × Option α => getCell Int.floor g o.1 o.2.1) (fun o => o.2.2) j i
                (T.flatMap (fun t => obsOf t af)))
            ∧ b.grid = some (aggregatesN s3.noData op c) := by
  obtain ⟨s3, outs, hrun, _, _, hg3, _, _, hspec⟩ := session_spec g hg nd pre post afo T hpost hperm hfeat hin hbands
  obtain ⟨hg4, ⟨extra, hb4, hfresh⟩, _⟩ := computed_bands_persist Int.floor s3 later hlater
  refine ⟨s3, _, outs, extra, hrun, rfl, ?_, ?_, hfresh, hspec⟩
  · rw [run_append, hrun]; simp only; rw [hg4, hg3]
  · rw [run_append, hrun]; exact hb4

/-- One-shot corollary: `summarize`. For EVERY collection of non-empty tracks — a north-south or east-west line of
observations and a single observation included, whose extent has no width or no height —, positive resolution, margin ≥ 0,
a non-empty list of (feature, operator) pairs without repetition, operators among the six, every track having every
feature: `summarize` does not fail and does not return 0; it builds a well-formed grid (at least one column and one row)
covering every observation, with one band per pair, in call order; and every band holds, in (line `i`, column `j`), its
operator applied to exactly the values of its feature of the observations that `getCell` locates in that cell (so that T1, T2,
T3 apply to the returned grids). A cell without a non-NaN value holds `NO_DATA_VALUE` (`wr`), the no-data value of the raster
`summarize` builds, except for count and sum (0). It is `session_spec` for the call sequence `addAFMap … addAFMap, addCollectionToRaster,
computeAggregates` on a new raster. Before bdf8515 this needed two different x and two different y among the observations. -/
theorem summarize_spec (tracks : List (Trk α)) (afs ops afo : List String) (rx ry margin wr : α)
    (hrx : 0 < rx) (hry : 0 < ry) (hm : 0 ≤ margin)
    (hne : tracks ≠ []) (hpts : ∀ t ∈ tracks, t.pts ≠ [])
    (hafs : afs ≠ []) (hlen : afs.length = ops.length)
    (hdist : ((afs.zip ops).map (fun p => [p.1, p.2])).Nodup)
    (hops : ∀ o ∈ ops, (opOf o).isSome = true)
    (hperm : afo.isPerm afs.eraseDups = true)
    (hfeat : ∀ t ∈ tracks, ∀ af ∈ afs, (featVals t af).isSome = true) :
    ∃ s : RState α, summarizeS Int.floor Int.ceil wr tracks afs ops rx ry margin afo = .ok s
      ∧ WF s.g ∧ (∀ t ∈ tracks, InExtent s.g t) ∧ s.noData = some wr
      ∧ s.bands.map (·.name) = (afs.zip ops).map (fun p => [p.1, p.2])
      ∧ ∀ b ∈ s.bands, ∀ af opn rest op, b.name = af :: opn :: rest → opOf opn = some op →
          ∃ c : Cells (Option α), Rect c s.g.nrow.toNat s.g.ncol.toNat
            ∧ (∀ i j, cellAt c i j = located (fun o : α × α × Option α => getCell Int.floor s.g o.1 o.2.1) (fun o => o.2.2) j i
                (tracks.flatMap (fun t => obsOf t af)))
            ∧ b.grid = some (aggregatesN (some wr) op c) := by
  obtain ⟨bx0, bx1, e1, e2, hx, hbx⟩ := coord_range (·.1) tracks hne hpts
  obtain ⟨by0, by1, e3, e4, hy, hby⟩ := coord_range (·.2) tracks hne hpts
  obtain ⟨hwf, hc1, hc2, hc3, hc4⟩ := mkGrid_wf bx0 bx1 by0 by1 rx ry margin hx hy hrx hry hm
  rw [summarizeS_run Int.floor Int.ceil wr tracks afs ops rx ry margin afo hafs hlen hne hpts e1 e2 e3 e4]
  generalize mkGrid Int.ceil bx0 bx1 by0 by1 rx ry margin = g at hwf hc1 hc2 hc3 hc4 ⊢
  have hin : ∀ t ∈ tracks, InExtent g t := fun t ht p hp =>
    ⟨⟨hc1.trans (hbx t ht p hp).1, (hbx t ht p hp).2.trans hc2⟩, ⟨hc3.trans (hby t ht p hp).1, (hby t ht p hp).2.trans hc4⟩⟩
  have hmem : ∀ af, af ∈ afo ↔ af ∈ afs := fun af => by
    rw [(List.isPerm_iff.1 hperm).mem_iff, List.mem_eraseDups]
  have hfeat' : ∀ t ∈ tracks, ∀ af ∈ afo, (featVals t af).isSome = true := fun t ht af haf => hfeat t ht af ((hmem af).1 haf)
  let s1 : RState α := ⟨g, some wr, (afs.zip ops).map (fun p => (⟨[p.1, p.2], none⟩ : Band α)), none⟩
  have hpre : run Int.floor (initState g (some wr)) ((afs.zip ops).map (fun p => Cmd.band [p.1, p.2] none))
      = (s1, (afs.zip ops).map (fun _ => none)) :=
    run_bands Int.floor (fun p : String × String => [p.1, p.2]) (afs.zip ops) (initState g (some wr)) hdist
      (fun p _ => ⟨by simp, nofun⟩)
  have hadd : addColl Int.floor s1 afo tracks = ({ s1 with values := some (valsOf g afo tracks) }, none) :=
    addColl_ok s1 hwf afo tracks (by
      rw [← hperm]
      refine congrArg (fun l : List String => afo.isPerm l.eraseDups) ?_
      exact (List.map_map ..).trans (List.map_fst_zip (by omega))) hfeat' hin
  obtain ⟨s3, hrun, hg3, hnd, hnames, hb⟩ := run_then_compute Int.floor { s1 with values := some (valsOf g afo tracks) } _ rfl afo _
    (fun af haf => (valsOf_spec g hwf afo tracks hin af).2 haf) [] nofun (fun b hb => by
      obtain ⟨p, hp, rfl⟩ := List.mem_map.1 hb
      exact ⟨p.1, p.2, [], rfl, (hmem p.1).2 (List.of_mem_zip hp).1, hops p.2 (List.of_mem_zip hp).2⟩)
  simp only [List.nil_append, run_nil] at hrun
  simp only [run_append, hpre, run_cons, step, hadd, hrun]
  rw [firstErr_none _ (fun o ho => by
      simp only [List.mem_append, List.mem_map, List.mem_cons, List.not_mem_nil, or_false] at ho
      rcases ho with ⟨_, _, rfl⟩ | rfl | rfl <;> rfl)]
  change s3.g = g at hg3
  change s3.noData = some wr at hnd
  subst hg3
  refine ⟨s3, rfl, hwf, hin, hnd, hnames.trans (List.map_map ..), fun b hb' af opn rest op hn hop => ?_⟩
  obtain ⟨c, ⟨hR, hc⟩, h⟩ := hb b hb' af opn rest op hn hop
  exact ⟨c, hR, hc, hnd ▸ h⟩

/-- the `floor` / `ceil` the driver uses at `Rat` (core `Rat.floor`, `Rat.ceil`) are the `Int.floor` / `Int.ceil`
of the theorems, so on exact (dyadic) inputs the theorems speak about the very values the driver computes -/
theorem rat_floor_ceil (q : ℚ) : Int.floor q = Rat.floor q ∧ Int.ceil q = Rat.ceil q := by
  refine ⟨rfl, ?_⟩
  rw [Rat.ceil_eq_neg_floor_neg]
  have : (-q).floor = ⌊-q⌋ := rfl
  rw [this, Int.floor_neg, neg_neg]

/-- a 2 × 2 grid over [0,2]² with unit cells is well formed -/
def demoGrid : Grid ℚ := { xmin := 0, xmax := 2, ymin := 0, ymax := 2, rx := 1, ry := 1, ncol := 2, nrow := 2 }
example : WF demoGrid := by
  refine ⟨by decide, by decide, by decide, by decide, ?_, ?_⟩ <;>
  · show (2 : ℤ) = max 1 ⌈((2 : ℚ) - 0) / 1⌉
    norm_num
/-- the centre lies in column 1, line 0; the top-right corner too (closed outer border); the origin in (0, 1) -/
example : getCell Rat.floor demoGrid 1 1 = some (1, 0) ∧ getCell Rat.floor demoGrid 2 2 = some (1, 0)
    ∧ getCell Rat.floor demoGrid 0 0 = some (0, 1) := by decide +kernel
/-- a grid of zero width: the three observations of a north-south line (1,0), (1,1), (1,2), unit cells -/
def lineGrid : Grid ℚ := { xmin := 1, xmax := 1, ymin := 0, ymax := 2, rx := 1, ry := 1, ncol := 1, nrow := 2 }
example : WF lineGrid := by
  refine ⟨by decide, by decide, by decide, by decide, ?_, ?_⟩
  · show (1 : ℤ) = max 1 ⌈((1 : ℚ) - 1) / 1⌉
    norm_num
  · show (2 : ℤ) = max 1 ⌈((2 : ℚ) - 0) / 1⌉
    norm_num
/-- it is the grid the constructor builds on that line, and the three points get the cells of the single column:
(0, 1), (0, 0) and, on the closed top border, (0, 0) -/
example : (mkGrid Rat.ceil 1 1 0 2 1 1 0).ncol = 1 ∧ (mkGrid Rat.ceil 1 1 0 2 1 1 0).nrow = 2
    ∧ getCell Rat.floor lineGrid 1 0 = some (0, 1) ∧ getCell Rat.floor lineGrid 1 1 = some (0, 0)
    ∧ getCell Rat.floor lineGrid 1 2 = some (0, 0) := by decide +kernel
/-- `summarize` of the inputs of the defect repaired by bdf8515: a north-south line (count grid `[[2],[1]]`, max `[[5],[1]]`), an
east-west line (`[[1, 2]]`), a single observation (`[[1]]`) — none raises -/
def oneTrack (pts : List (ℚ × ℚ)) (vs : List (Option ℚ)) : List (Trk ℚ) := [{ uid := 1, pts := pts, feats := [("v", vs)] }]
def bandGrids : SumRes ℚ → List (Option (List (List (Option ℚ))))
  | .ok s => s.bands.map (·.grid)
  | _ => []
example :
    bandGrids (summarizeS Rat.floor Rat.ceil (-99999 : ℚ) (oneTrack [(1, 0), (1, 1), (1, 2), (1, 2)] [some 1, some 1, none, some 5])
        ["v", "v"] ["co_count", "co_max"] 1 1 0 ["v"]) = [some [[some 2], [some 1]], some [[some 5], [some 1]]]
    ∧ bandGrids (summarizeS Rat.floor Rat.ceil (-99999 : ℚ) (oneTrack [(0, 2), (1, 2), (2, 2)] [some 1, some 1, some 1])
        ["v"] ["co_count"] 1 1 0 ["v"]) = [some [[some 1, some 2]]]
    ∧ bandGrids (summarizeS Rat.floor Rat.ceil (-99999 : ℚ) (oneTrack [(0, 2)] [some 1]) ["v"] ["co_count"] 1 1 (1/4) ["v"])
        = [some [[some 1]]] := by
  decide +kernel
/-- a session on ONE raster (the 2 × 2 grid above): a band, a first collection, `computeAggregates`, a second collection,
`computeAggregates` again, a band added later, `computeAggregates`: no call raises; after the second pass the count band
describes the second collection alone (`[[0,0],[0,1]]`, not `[[0,1],[1,1]]`), and the band added later is computed too -/
def demoT0 : List (Trk ℚ) := [{ uid := 1, pts := [(0, 0), (1/2, 1/2), (2, 2)], feats := [("v", [some 1, none, some 3])] }]
def demoT1 : List (Trk ℚ) := [{ uid := 7, pts := [(3/2, 1/2)], feats := [("v", [some 4])] }]
example :
    (run Rat.floor (initState demoGrid (some (-99999 : ℚ)))
        [.band ["v", "co_count"] none, .add ["v"] demoT0, .compute]).1.bands.map (·.grid) = [some [[some 0, some 1], [some 1, some 0]]]
    ∧ (run Rat.floor (initState demoGrid (some (-99999 : ℚ)))
        [.band ["v", "co_count"] none, .add ["v"] demoT0, .compute, .add ["v"] demoT1, .compute,
         .band ["v", "co_max"] none, .compute]).1.bands.map (·.grid)
        = [some [[some 0, some 0], [some 0, some 1]], some [[some (-99999), some (-99999)], [some (-99999), some 4]]]
    ∧ (run Rat.floor (initState demoGrid (some (-99999 : ℚ)))
        [.band ["v", "co_count"] none, .add ["v"] demoT0, .compute, .add ["v"] demoT1, .compute,
         .band ["v", "co_max"] none, .compute]).2 = [none, none, none, none, none, none, none] := by
  decide +kernel
/-- the raster's own no-data value (the input of the defect repaired by 279f7b2): built with `novalue = -1`, the cells without value
of a `co_min` band hold -1; after `setNoDataValue(7)` between `addCollectionToRaster` and `computeAggregates`, 7; after
`setNoDataValue(None)`, `None`; the count band holds 0 there in every case -/
example :
    (run Rat.floor (initState demoGrid (some (-1 : ℚ)))
        [.band ["v", "co_min"] none, .add ["v"] demoT1, .compute]).1.bands.map (·.grid)
      = [some [[some (-1), some (-1)], [some (-1), some 4]]]
    ∧ (run Rat.floor (initState demoGrid (some (-1 : ℚ)))
        [.band ["v", "co_min"] none, .add ["v"] demoT1, .setNoData (some 7), .compute]).1.bands.map (·.grid)
      = [some [[some 7, some 7], [some 7, some 4]]]
    ∧ (run Rat.floor (initState demoGrid (some (-1 : ℚ)))
        [.band ["v", "co_min"] none, .band ["v", "co_count"] none, .add ["v"] demoT1, .setNoData none, .compute]).1.bands.map (·.grid)
      = [some [[none, none], [none, some 4]], some [[some 0, some 0], [some 0, some 1]]] := by
  decide +kernel
/-- the no-data value changed after the bands were computed (the input of seeded change C19-11): a raster built with `novalue = -1`:
the min band holds -1 in the cells without value, the count band genuine 0s and 1s; `setNoDataValue(0)`, `setNoDataValue(1)`, a band
added, `setNoDataValue(None)`: the two computed bands are exactly as `computeAggregates` left them (the -1 of the cells without
value, the 0 and 1 of the counts), the new band is empty, the no-data value is `None` -/
example :
    let s := (run Rat.floor (initState demoGrid (some (-1))) [.band ["v", "co_min"] none, .band ["v", "co_count"] none, .add ["v"] demoT0, .compute]).1
    let s' := (run Rat.floor s [.setNoData (some 0), .setNoData (some 1), .band ["w", "co_sum"] none, .setNoData none]).1
    s.bands.map (·.grid) = [some [[some (-1), some 3], [some 1, some (-1)]], some [[some 0, some 1], [some 1, some 0]]]
    ∧ s'.bands.map (·.grid) = [some [[some (-1), some 3], [some 1, some (-1)]], some [[some 0, some 1], [some 1, some 0]], none]
    ∧ s'.noData = none ∧ (getBand s' ["v", "co_count"]).map (·.grid) = some (some [[some 0, some 1], [some 1, some 0]]) := by decide +kernel

/-- calls that raise, in the order the Python meets them: `computeAggregates` before any collection (`AttributeError`), a name
already taken (`WrongArgumentError`), a band without `#` (`IndexError`), an observation outside the grid (`TypeError`), a band
added after the collection for a feature it did not scatter (`KeyError`), an unknown operator (`NameError`) -/
example :
    (run Rat.floor (initState demoGrid (some (-99999 : ℚ)))
        [.band ["v", "co_count"] none, .compute, .band ["v", "co_count"] none,
         .add ["v"] [{ uid := 1, pts := [(3, 3)], feats := [("v", [some 1])] }],
         .add ["v"] demoT1, .band ["w", "co_sum"] none, .compute]).2
      = [none, some .attr, some .wrongArg, some .type, none, none, some .key]
    ∧ (run Rat.floor (initState demoGrid (some (-99999 : ℚ)))
        [.band ["v"] none, .add ["v"] demoT1, .compute, .add ["v"] [{ uid := 1, pts := [(1, 1)], feats := [] }]]).2
      = [none, none, some .index, some .afError]
    ∧ (run Rat.floor (initState demoGrid (some (-99999 : ℚ)))
        [.band ["v", "undefined_op"] none, .add ["v"] demoT1, .compute]).2 = [none, none, some .name] := by
  decide +kernel
/-- the operators on a cell holding NaN, 1, 2 (the input of the defect repaired by 90d9915 / 4b05560) -/
example : coMin [none, some (1 : ℚ), some 2] = some 1 ∧ coMax [none, some (1 : ℚ), some 2] = some 2
    ∧ coCount [none, some (1 : ℚ), some 2] = 2 ∧ coMedian [none, some (1 : ℚ), some 2] = some (3 / 2)
    ∧ coMedian ([none] : List (Option ℚ)) = none := by decide +kernel

/-- The scatter loop (one track, one feature) meeting an observation outside the extent: the observations before it,
all inside the extent, are in their cells — cell `(i, j)` holds what it held plus the values of those observations whose
`getCell` is `(j, i)`, in order —, the loop stops there with `TypeError` (`getCell` returned `None`, the tuple unpacking
raises), and nothing after that observation is scattered: this is the partial state `addCollectionToRaster` leaves in
the grid of that feature. How the partial grids of the several features and tracks combine — the `for trace: for
afname:` order — is `add_collection_partial` (`Props/C19Partial.lean`), with `partial_conservation` and
`partial_then_compute` for what a later `computeAggregates` makes of them. -/
theorem scatter_stops_at_outside {W : Type} (g : Grid α) (hg : WF g) (pre post : List (α × α × W)) (o : α × α × W)
    (c : Cells W) (hR : Rect c g.nrow.toNat g.ncol.toNat)
    (hpre : ∀ p ∈ pre, Inside g p.1 p.2.1) (ho : ¬ Inside g o.1 o.2.1) :
    ∃ c' : Cells W, scatterP Int.floor g c (pre ++ o :: post) = (c', some .type)
      ∧ scatter Int.floor g c pre = some c' ∧ Rect c' g.nrow.toNat g.ncol.toNat
      ∧ ∀ i j, cellAt c' i j = cellAt c i j
          ++ located (fun p : α × α × W => getCell Int.floor g p.1 p.2.1) (fun p => p.2.2) j i pre :=
  scatterP_stops g hg pre post o c hR hpre ho

/-- A failing `computeAggregates` (whatever the exception: `IndexError`, `AttributeError`, `KeyError`, `NameError`): there is
a first band that raises; the bands before it have been rewritten with their aggregates, that band and all the following
ones are exactly as they were (no band is ever half rewritten), the exception is that band's, and nothing else of the
raster (geometry, no-data value, values) changes. -/
theorem compute_failing_bands (s : RState α) (e : Err) (h : (step Int.floor s .compute).2 = some e) :
    ∃ (pre : List (Band α)) (b : Band α) (post : List (Band α)), s.bands = pre ++ b :: post
      ∧ (∀ p ∈ pre, (computeBand s.noData s.values p).2 = none)
      ∧ computeBand s.noData s.values b = (b, some e)
      ∧ (step Int.floor s .compute).1
          = { s with bands := pre.map (fun p => (computeBand s.noData s.values p).1) ++ b :: post } := by
  obtain ⟨pre, b, post, h1, h2, h3, h4⟩ := computeAll_fail s.noData s.values s.bands e h
  exact ⟨pre, b, post, h1, h2, h3, congrArg (fun bs => { s with bands := bs }) h4⟩

/-- non-vacuity: on the 2 × 2 demo grid, a band computed, then a band without operator: the first band is rewritten, the
second raises `IndexError` and is left as it was, the third is not reached -/
example :
    (run Rat.floor (initState demoGrid (some (-99999 : ℚ)))
        [.band ["v", "co_count"] none, .band ["v"] none, .band ["v", "co_max"] none, .add ["v"] demoT1, .compute]).1.bands.map (·.grid)
      = [some [[some 0, some 0], [some 0, some 1]], none, none]
    ∧ (run Rat.floor (initState demoGrid (some (-99999 : ℚ)))
        [.band ["v", "co_count"] none, .band ["v"] none, .band ["v", "co_max"] none, .add ["v"] demoT1, .compute]).2
      = [none, none, none, none, some .index] := by decide +kernel
/-- non-vacuity: the scatter of (1/2, 1/2), (3, 3), (3/2, 3/2) on the demo grid stops at the second observation -/
example : scatterP Rat.floor demoGrid (emptyCells 2 2) [((1/2 : ℚ), (1/2 : ℚ), (7 : ℕ)), (3, 3, 8), (3/2, 3/2, 9)]
    = ([[[], []], [[7], []]], some .type) := by decide +kernel

/-! ## The same geometry in rounded (floating-point) arithmetic

`RQ rnd` (`Lemmas/RasterRounded.lean`): the rationals with every `+ - * /` and every conversion of an integer followed by
the rounding `rnd`; comparisons exact. `mkGrid`, `getCell`, `scatter` at `RQ rnd` are the SAME model definitions as
above, now computing what Python computes in floats. `Rounding rnd N`: `rnd` is monotone and leaves the integers of
magnitude `≤ N` unchanged (IEEE binary64, any rounding mode, `N = 2^53`); `RoundingErr rnd N u` adds a relative error
bound `|rnd t - t| ≤ u |t|` (`u = 2^-53` for round-to-nearest, no underflow in these operations). `WFR g`: positive
resolution and `ncol`, `nrow` as the constructor computes them IN ROUNDED ARITHMETIC, `max 1 ⌈rnd (rnd (xmax - xmin) / rx)⌉`
(every grid `mkGrid RQ.ceil …` is: `mkGrid_wfr`). Exact footprints cannot be demanded of floats (an extent of
`3 + 10^-17` cells is given 3 lines and the observation at `ymax` goes to line 0, a hair above its exact footprint):
what holds is stated here. -/
section rounded
variable {rnd : ℚ → ℚ}

/-- T1 under rounding. For a grid built by the constructor in rounded arithmetic, every point of the extent — the
borders and corners included, whatever the rounding did to `extent / resolution` — gets a cell OF THE GRID
(`0 ≤ column < ncol`, `0 ≤ line < nrow`: `addCollectionToRaster` neither raises `IndexError` nor wraps around through a
negative index), and the point lies in that cell's footprint up to the rounding allowance `InCellUpTo`: the offset
`x - xmin` scaled by `(1 ± u)²` lies between the cell's edges `c·rx` and `(c+1)·rx`; for the lines, the rounded
subtraction from `nrow - 1` adds `u·nrow·ry`. Needs no exactness hypothesis: this is the statement about Python's
floats, for any rounding with relative error `u`. -/
theorem rounded_cell_in_grid {N : ℤ} {u : ℚ} (hr : RoundingErr rnd N u) (g : Grid (RQ rnd)) (hg : WFR g)
    (hN : g.ncol ≤ N ∧ g.nrow ≤ N) (x y : RQ rnd)
    (hx : g.xmin.v ≤ x.v ∧ x.v ≤ g.xmax.v) (hy : g.ymin.v ≤ y.v ∧ y.v ≤ g.ymax.v) :
    ∃ c l : ℤ, getCell RQ.floor g x y = some (c, l) ∧ 0 ≤ c ∧ c < g.ncol ∧ 0 ≤ l ∧ l < g.nrow
      ∧ InCellUpTo g u c l x.v y.v :=
  getCell_rounded_footprint hr g hg hN x y hx hy

/-- T2 under rounding (conservation for Python's floats). With a monotone rounding that keeps the integers up to the
grid size — no bound on the rounding error is needed — scattering observations of the extent never fails, every value
lands in exactly one cell of the grid (the one `getCell` computes), the cell sizes add up to the number of
observations and any per-value weight (non-NaN: the `co_count` total) is conserved. -/
theorem rounded_conservation {V : Type} {N : ℤ} (hr : Rounding rnd N) (g : Grid (RQ rnd)) (hg : WFR g)
    (hN : g.ncol ≤ N ∧ g.nrow ≤ N) (obs : List (RQ rnd × RQ rnd × V))
    (hin : ∀ o ∈ obs, (g.xmin.v ≤ o.1.v ∧ o.1.v ≤ g.xmax.v) ∧ (g.ymin.v ≤ o.2.1.v ∧ o.2.1.v ≤ g.ymax.v)) :
    ∃ cells : Cells V,
      scatter RQ.floor g (emptyCells g.nrow.toNat g.ncol.toNat) obs = some cells
      ∧ Rect cells g.nrow.toNat g.ncol.toNat
      ∧ (∀ i j, cellAt cells i j
          = located (fun o : RQ rnd × RQ rnd × V => getCell RQ.floor g o.1 o.2.1) (fun o => o.2.2) j i obs)
      ∧ (∑ i ∈ Finset.range g.nrow.toNat, ∑ j ∈ Finset.range g.ncol.toNat, (cellAt cells i j).length) = obs.length
      ∧ ∀ w : V → ℕ, (∑ i ∈ Finset.range g.nrow.toNat, ∑ j ∈ Finset.range g.ncol.toNat, ((cellAt cells i j).map w).sum)
          = (obs.map (fun o => w o.2.2)).sum := by
  exact scatter_conserves RQ.floor g _ _ obs (fun o ho =>
    .of_int hg.ncol_pos hg.nrow_pos (getCell_rounded_range hr g hg hN o.1 o.2.1 (hin o ho).1 (hin o ho).2))

/-- the extent under rounding. `Raster.__init__` enlarges the bounding box by `margin` in floating point
(`xmin = bx0 - margin * (bx1 - bx0)`, … — four rounded operations per bound). For ANY monotone rounding with `rnd 0 = 0`
(no error bound needed), a bounding box whose four numbers are representable (`rnd b = b`: they ARE floats, read from the
observations) and `margin ≥ 0`, the extent the constructor computes still contains the bounding box, and is not
inverted: every observation of the collection satisfies the hypotheses `hx`, `hy` / `hin` of `rounded_cell_in_grid` /
`rounded_conservation` -/
theorem rounded_extent_contains_bbox (hmono : Monotone rnd) (h0 : rnd 0 = 0)
    (bx0 bx1 by0 by1 rx ry margin : RQ rnd)
    (hx : bx0.v ≤ bx1.v) (hy : by0.v ≤ by1.v) (hm : 0 ≤ margin.v)
    (rx0 : rnd bx0.v = bx0.v) (rx1 : rnd bx1.v = bx1.v) (ry0 : rnd by0.v = by0.v) (ry1 : rnd by1.v = by1.v) :
    let g := mkGrid RQ.ceil bx0 bx1 by0 by1 rx ry margin
    g.xmin.v ≤ bx0.v ∧ bx1.v ≤ g.xmax.v ∧ g.ymin.v ≤ by0.v ∧ by1.v ≤ g.ymax.v ∧
      g.xmin.v ≤ g.xmax.v ∧ g.ymin.v ≤ g.ymax.v := by
  have key : ∀ a b : RQ rnd, a.v ≤ b.v → rnd a.v = a.v → rnd b.v = b.v →
      (a - margin * (b - a)).v ≤ a.v ∧ b.v ≤ (b + margin * (b - a)).v := by
    intro a b hab ra rb
    have hd : 0 ≤ rnd (b.v - a.v) := by
      have := hmono (show (0 : ℚ) ≤ b.v - a.v by linarith); rwa [h0] at this
    have hmd : 0 ≤ rnd (margin.v * rnd (b.v - a.v)) := by
      have := hmono (mul_nonneg hm hd); rwa [h0] at this
    simp only [RQ.sub_v, RQ.add_v, RQ.mul_v]
    constructor
    · have := hmono (show a.v - rnd (margin.v * rnd (b.v - a.v)) ≤ a.v by linarith); rwa [ra] at this
    · have := hmono (show b.v ≤ b.v + rnd (margin.v * rnd (b.v - a.v)) by linarith); rwa [rb] at this
  obtain ⟨hx0, hx1⟩ := key bx0 bx1 hx rx0 rx1
  obtain ⟨hy0, hy1⟩ := key by0 by1 hy ry0 ry1
  exact ⟨hx0, hx1, hy0, hy1, le_trans hx0 (le_trans hx hx1), le_trans hy0 (le_trans hy hy1)⟩

end rounded

/-! Non-vacuity of the rounded statements: `rnd8` (exact below 1 in magnitude, rounded DOWN to a multiple of 1/8 above:
monotone, keeps every integer, relative error ≤ 1/8) is a `RoundingErr`. On the box `[0,1] × [0,13/4]` with cells
`1 × 21/20` the exact quotient `3.095…` would give 4 lines; rounded it is `3` and the constructor builds 3 lines: the
observation at `ymax` goes to line 0 (`idy = rnd8 (2 - 3) = -1`), which is a line of the grid, `0.1` above its exact
footprint `[2.1, 3.15]` and inside it up to the allowance. -/
def gEx : Grid (RQ rnd8) := mkGrid RQ.ceil ⟨0⟩ ⟨1⟩ ⟨0⟩ ⟨13 / 4⟩ ⟨1⟩ ⟨21 / 20⟩ ⟨0⟩

example : gEx.nrow = 3 ∧ gEx.ncol = 1 ∧ gEx.ymax.v = 13 / 4 ∧ ⌈(13 / 4 : ℚ) / (21 / 20)⌉ = 4 := by decide +kernel
example : getCell RQ.floor gEx ⟨1⟩ ⟨13 / 4⟩ = some (0, 0) ∧ getCell RQ.floor gEx ⟨1 / 2⟩ ⟨2⟩ = some (0, 1)
    ∧ getCell RQ.floor gEx ⟨0⟩ ⟨0⟩ = some (0, 2) := by decide +kernel
example : ∃ c l : ℤ, getCell RQ.floor gEx ⟨1⟩ ⟨13 / 4⟩ = some (c, l) ∧ 0 ≤ c ∧ c < gEx.ncol ∧ 0 ≤ l ∧ l < gEx.nrow
      ∧ InCellUpTo gEx (1 / 8) c l 1 (13 / 4) :=
  rounded_cell_in_grid (rnd8_rounding 3) gEx (mkGrid_wfr _ _ _ _ _ _ _ (by decide +kernel) (by decide +kernel))
    (by decide +kernel) ⟨1⟩ ⟨13 / 4⟩ (by decide +kernel) (by decide +kernel)
example : ∃ cells : Cells ℕ, scatter RQ.floor gEx (emptyCells 3 1) [(⟨1⟩, ⟨13 / 4⟩, 7), (⟨0⟩, ⟨0⟩, 8), (⟨1 / 2⟩, ⟨2⟩, 9)] = some cells
    ∧ cells = [[[7]], [[9]], [[8]]] := ⟨_, by decide +kernel, rfl⟩
/-- what the tolerance of seeded change "ceil(extent/res - 1e-9)" does, in the same arithmetic: with one line fewer than
the constructor's count the observation at `ymax` is sent to line `-1`, which Python's negative index stores in the BOTTOM
line -/
example : getCell RQ.floor { gEx with nrow := 2 } ⟨1⟩ ⟨13 / 4⟩ = some (0, -1)
    ∧ put (emptyCells 2 1 : Cells ℕ) (-1) 0 7 = some [[[]], [[7]]] := by decide +kernel
/-- the hypotheses of `rounded_extent_contains_bbox` on the example grid -/
example : let g := gEx; g.xmin.v ≤ 0 ∧ (1 : ℚ) ≤ g.xmax.v ∧ g.ymin.v ≤ 0 ∧ (13 / 4 : ℚ) ≤ g.ymax.v ∧
    g.xmin.v ≤ g.xmax.v ∧ g.ymin.v ≤ g.ymax.v :=
  rounded_extent_contains_bbox rnd8_mono (by decide +kernel) ⟨0⟩ ⟨1⟩ ⟨0⟩ ⟨13 / 4⟩ ⟨1⟩ ⟨21 / 20⟩ ⟨0⟩
    (by decide +kernel) (by decide +kernel) (by decide +kernel) (by decide +kernel) (by decide +kernel)
    (by decide +kernel) (by decide +kernel)

end TV.C19
