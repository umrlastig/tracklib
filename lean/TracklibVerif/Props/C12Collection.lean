import TracklibVerif.Props.C12
/-! # C12 — `TrackCollection.simplify(cost, MODE_SIMPLIFY_FREE / _MAXIMIZE)`: every track of the collection is simplified by
`simplify` — hence optimally for the requested direction (`simplify_modes`, `simplification_selects`). -/
namespace TV.C12
open TV.Partition
variable {α : Type} [Add α] [LT α] [DecidableLT α]

/-- **T3 `collection_simplify_each`** — when `TrackCollection.simplify(cost, mode)` returns, it returns one track per input
track, in order, each being `simplify(track, cost, mode)`; when it raises, some `simplify(track, cost, mode)` raised that
exception and every earlier track was simplified without error. -/
theorem collection_simplify_each {γ ω : Type} (zero : α) (c : CostFn γ α) (smode : Nat) (tracks : List (List ω)) :
    (∀ outs, collectionSimplifyFree zero c smode tracks = some (.ok outs) →
      List.Forall₂ (fun t r => simplifyFree zero t c smode = some (.ok r)) tracks outs) ∧
    (∀ e, collectionSimplifyFree zero c smode tracks = some (.error e) →
      ∃ pre t post, tracks = pre ++ t :: post ∧ simplifyFree zero t c smode = some (.error e) ∧
        ∀ t' ∈ pre, ∃ r, simplifyFree zero t' c smode = some (.ok r)) := by
  fun_induction collectionSimplifyFree zero c smode tracks with
  | case1 => exact ⟨fun outs h => by cases h; exact .nil, nofun⟩
  | case2 | case4 => exact ⟨nofun, nofun⟩
  | case3 t ts e h => exact ⟨nofun, fun e' he => by cases he; exact ⟨[], t, ts, rfl, h, nofun⟩⟩
  | case5 t ts r hr e hrec ih =>
    refine ⟨nofun, fun e' he => ?_⟩
    cases he
    obtain ⟨pre, t0, post, e1, e2, e3⟩ := ih.2 e hrec
    exact ⟨t :: pre, t0, post, by rw [e1]; rfl, e2, List.forall_mem_cons.mpr ⟨⟨r, hr⟩, e3⟩⟩
  | case6 t ts r hr rs hrec ih => exact ⟨fun outs h => by cases h; exact .cons hr (ih.1 rs hrec), nofun⟩

/-- non-vacuity: two tracks, minimising and maximising -/
example : collectionSimplifyFree (0 : Int) (CostFn.three (γ := Int) (fun i e => ((e : Int) - i) * ((e : Int) - i))) 7
    [["a", "b", "c", "d", "e"], ["p", "q", "r", "s"]] = some (.ok [["a", "b", "c", "d"], ["p", "q", "r"]]) := by decide +kernel
example : collectionSimplifyFree (0 : Int) (CostFn.three (γ := Int) (fun i e => ((e : Int) - i) * ((e : Int) - i))) 8
    [["a", "b", "c", "d", "e"], ["p", "q", "r", "s"]] = some (.ok [["a", "d"], ["p", "r"]]) := by decide +kernel

end TV.C12
