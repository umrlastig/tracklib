import TracklibVerif.Lemmas.GridSearch
import Mathlib.Data.Rat.Floor
/-! # C08 — the grid spatial index never omits a feature that is geometrically there

Property theorems only (helper lemmas: `Lemmas/Grid.lean` (ordered-field geometry), `Lemmas/GridCells.lean`,
`GridIndex.lean`, `GridBuild.lean`, `GridQuery.lean`, `GridMain.lean`, `GridReturns.lean`, `GridSearch.lean`). The model is
`Model/Grid.lean` (`core/spatial_index.py` after ad7c5ee, 9a44198, the degenerate-extent repair and the upper-border
repair, `cartesienne`/`isSegmentIntersects` of `util/geometry.py`).

All statements are over an arbitrary linearly ordered field `α` (ℚ, ℝ) with `fl : α → ℤ` any function satisfying
the contract of `math.floor` (`IsFloor`); they are about the exact values, not about IEEE rounding.
`lerp A B s` is the point `A + s (B − A)` of the segment `[A, B]`; `Consec t` are the consecutive vertex pairs of
the track `t`; `Holds g i j k` says `k ∈ grid[i][j]`. `getCell ix p = some c` says that `p` is inside the closed
extent and `c` are its fractional cell indices (what `__getCell` returns: `getCell_min_is_identity`). `cellOf fl ix c =
(min(floor c.x, csize − 1), min(floor c.y, lsize − 1))` is the cell containing the point, as `request(coord)` computes
it: cells are half-open as `floor` assigns them, except that the last column / row is closed on the upper border of
the extent (`extent_point_cell`). The legitimate configurations are `margin ≥ 0` (0 included) and the default or a
positive explicit cell size; on them the constructor and every query of a point / segment / track inside the closed
extent return (`constructor_returns`, `point_query_complete`, `segment_query_returns`, `track_query_returns`,
`neighborhood_complete`), for every bounding box: thin, flat, a single point, shorter than a cell
(`grid_always_builds`, `flat_axis_single_column`). The front ends are inside the model: `TrackCollection.createSpatialIndex`
(`collection_create_index`: its flag is the margin), the constructor and `Network.createSpatialIndex` with their default
margin 0.05 (`default_margin_create_index`), and sequences of `Network.addEdge` calls on an indexed network
(`network_add_edges_complete`: running edge numbers). -/
namespace TV.C08
open TV.Grid
variable {α : Type} [Field α] [LinearOrder α] [IsStrictOrderedRing α]

/-- T1 `straddle_necessary`: two closed segments that share a point pass `isSegmentIntersects` (the
product-of-evaluations test `val1 <= 0 and val2 <= 0`), including touching ends, collinear overlap and
zero-length segments. -/
theorem straddle_necessary (s1 s2 : Seg α) (r q : α) (hr0 : 0 ≤ r) (hr1 : r ≤ 1) (hq0 : 0 ≤ q) (hq1 : q ≤ 1)
    (hx : s1.x1 + r * (s1.x2 - s1.x1) = s2.x1 + q * (s2.x2 - s2.x1))
    (hy : s1.y1 + r * (s1.y2 - s1.y1) = s2.y1 + q * (s2.y2 - s2.y1)) :
    isSegmentIntersects s1 s2 = true :=
  (isSegmentIntersects_iff s1 s2).mpr (inter_of_common _ _ _ _ _ _ _ _ r q hr0 hr1 hq0 hq1 hx hy)

/-- T2 `cells_complete`: let `P = c1 + s (c2 − c1)` be a point of the segment `[c1, c2]` (fractional cell indices) of
a grid of `cs × ls` cells, and `(i, j)` a cell containing it: `i ≤ Px < i+1`, or `i = cs − 1` is the last column and
`i ≤ Px ≤ cs` (closed on the upper border); likewise for `j`. Then `(i, j)` is in the list returned by
`__cellsCrossSegment(c1, c2)`: the cell is inside the scanned (clamped) index box and passes one of the five tests —
including for a segment lying exactly on the upper border. -/
theorem cells_complete {fl : α → Int} (hf : IsFloor fl) (cs ls : Int) (c1 c2 : α × α) (s : α) (hs0 : 0 ≤ s) (hs1 : s ≤ 1)
    (i j : Int) (hic : i ≤ cs - 1) (hjc : j ≤ ls - 1)
    (hi : ((i : Int) : α) ≤ (lerp c1 c2 s).1 ∧
      ((lerp c1 c2 s).1 < ((i : Int) : α) + 1 ∨ (i = cs - 1 ∧ (lerp c1 c2 s).1 ≤ ((cs : Int) : α))))
    (hj : ((j : Int) : α) ≤ (lerp c1 c2 s).2 ∧
      ((lerp c1 c2 s).2 < ((j : Int) : α) + 1 ∨ (j = ls - 1 ∧ (lerp c1 c2 s).2 ≤ ((ls : Int) : α)))) :
    (i, j) ∈ cellsCross fl cs ls c1 c2 :=
  cellsCross_complete hf cs ls c1 c2 s hs0 hs1 i j hic hjc hi hj

/-- `constructor_returns`: `SpatialIndex(collection, resolution, margin)` does not raise for a non-empty collection,
`margin ≥ 0` — `margin = 0` included, where the right-most and top-most vertices lie on the upper border of the
extent — and the default or a positive explicit cell size (a flat or single-point bounding box, a cell larger than
the extent included). (Findings `vertex-on-upper-border` and `default-resolution-flat-extent`, repaired.) -/
theorem constructor_returns {fl : α → Int} (hf : IsFloor fl) (feats : List (List (α × α))) (res : Option (α × α))
    (margin : α) (hm : 0 ≤ margin) (hres : ∀ r, res = some r → 0 < r.1 ∧ 0 < r.2) (hne : feats.flatten ≠ []) :
    ∃ ix, build fl feats res margin = .ok ix := by
  obtain ⟨bb, hbb⟩ : ∃ bb, bboxOf feats.flatten = some bb := by
    cases hfl : feats.flatten with
    | nil => exact absurd hfl hne
    | cons p rest => exact ⟨_, rfl⟩
  obtain ⟨ix0, hmk, _⟩ := mkIndex_builds hf bb res margin hres
  obtain ⟨ix, h, _⟩ := addFeatures_inside_complete hf feats ix0 0 (mkIndex_good hf bb res margin ix0 hres hmk)
    (inside_of_bbox fl feats bb res margin ix0 hbb hmk hm)
  exact ⟨ix, (build_ok_iff ..).mpr ⟨bb, ix0, hbb, hmk, h⟩⟩

/-- `collection_create_index`: `TrackCollection.createSpatialIndex(resolution, verbose)` hands its flag to the
constructor in the position of `margin`; the index it makes is `SpatialIndex(collection, resolution, margin)` with
`margin = 1` (`verbose=True`) or `margin = 0` (`verbose=False`, the extent is the bounding box and the extreme
vertices lie on its upper border). Both are `≥ 0`: the call returns and every theorem of this file applies to the
index. (`Network.createSpatialIndex` passes resolution, margin, verbose in order: it is the constructor.) -/
theorem collection_create_index {fl : α → Int} (hf : IsFloor fl) (feats : List (List (α × α))) (res : Option (α × α))
    (verbose : Bool) (hres : ∀ r, res = some r → 0 < r.1 ∧ 0 < r.2) (hne : feats.flatten ≠ []) :
    ∃ m ix, 0 ≤ m ∧ (m = 1 ∨ m = 0) ∧ createIndexTC fl feats res verbose = build fl feats res m ∧
      build fl feats res m = .ok ix := by
  cases verbose with
  | true =>
    obtain ⟨ix, h⟩ := constructor_returns hf feats res (1 : α) zero_le_one hres hne
    exact ⟨1, ix, zero_le_one, Or.inl rfl, by simp [createIndexTC], h⟩
  | false =>
    obtain ⟨ix, h⟩ := constructor_returns hf feats res (0 : α) (le_refl _) hres hne
    exact ⟨0, ix, le_refl _, Or.inr rfl, by simp [createIndexTC], h⟩

/-- `getCell_min_is_identity`: on an index on which nothing raises (in particular every built index) `__getCell` as
executed — `idx = min((x − xmin) / dX, csize)`, `idy = min((y − ymin) / dY, lsize)` — returns exactly the affine
fractional indices `getCell`: the `min` (which protects against a quotient that exceeds the grid size by a rounding
error when `x = xmax`) is the identity in exact arithmetic, because the cells cover the extent. -/
theorem getCell_min_is_identity (ix : Index α) (hg : Good ix) (p : α × α) : getCellR ix p = .ok (getCell ix p) :=
  hg.getCellR p

/-- `extent_point_cell`: on a built index every point `p` of the closed extent has a cell `cellOf` inside the grid
(`0 ≤ i < csize`, `0 ≤ j < lsize`) whose closed square contains its fractional indices `c`: `i ≤ c.x ≤ i + 1`
(`c.x < i + 1` except for the last column, which owns the upper border `c.x = csize`), likewise for `j`. -/
theorem extent_point_cell {fl : α → Int} (hf : IsFloor fl) (feats : List (List (α × α))) (res : Option (α × α))
    (margin : α) (ix : Index α) (hm : 0 ≤ margin) (hres : ∀ r, res = some r → 0 < r.1 ∧ 0 < r.2)
    (hb : build fl feats res margin = .ok ix) (p c : α × α) (hp : getCell ix p = some c) :
    let cell := cellOf fl ix c
    ((0 ≤ cell.1 ∧ cell.1 < ix.csize) ∧ (0 ≤ cell.2 ∧ cell.2 < ix.lsize)) ∧
    (((cell.1 : Int) : α) ≤ c.1 ∧ (c.1 < ((cell.1 : Int) : α) + 1 ∨ (cell.1 = ix.csize - 1 ∧ c.1 = ((ix.csize : Int) : α)))) ∧
    (((cell.2 : Int) : α) ≤ c.2 ∧ (c.2 < ((cell.2 : Int) : α) + 1 ∨ (cell.2 = ix.lsize - 1 ∧ c.2 = ((ix.lsize : Int) : α)))) := by
  intro cell
  have hg := build_good hf feats res margin ix hm hres hb
  obtain ⟨r1, r2⟩ := getCell_range_of_good ix hg p c hp
  exact ⟨cellOf_inGrid hf ix hg p c hp, clamp_spec hf c.1 ix.csize r1.2, clamp_spec hf c.2 ix.lsize r2.2⟩

/-- T3a `index_complete`: after `SpatialIndex(collection, resolution, margin)` (`margin ≥ 0`, default or positive cell
size) every point `P` of every segment `[A, B]` of feature number `k` is inside the extent and the cell containing
it (`cellOf`) lists `k` — the vertices on the upper border of the extent (`margin = 0`) included. -/
theorem index_complete {fl : α → Int} (hf : IsFloor fl) (feats : List (List (α × α))) (res : Option (α × α))
    (margin : α) (ix : Index α) (hm : 0 ≤ margin) (hres : ∀ r, res = some r → 0 < r.1 ∧ 0 < r.2)
    (hb : build fl feats res margin = .ok ix)
    (k : Nat) (t : List (α × α)) (hk : feats[k]? = some t) (A B : α × α) (hAB : (A, B) ∈ Consec t)
    (s : α) (hs0 : 0 ≤ s) (hs1 : s ≤ 1) :
    ∃ c, getCell ix (lerp A B s) = some c ∧ Holds ix.grid (cellOf fl ix c).1 (cellOf fl ix c).2 k :=
  (build_spec hf feats res margin ix hm hres hb).2.2 k t hk A B hAB s hs0 hs1

/-- T3b `point_query_complete`: `request(q)` for EVERY point `q` of the closed extent (its upper border included)
does not raise, and returns every feature `k` having a segment with a point `P` in the cell that contains `q`
(same `cellOf`). -/
theorem point_query_complete {fl : α → Int} (hf : IsFloor fl) (feats : List (List (α × α))) (res : Option (α × α))
    (margin : α) (ix : Index α) (hm : 0 ≤ margin) (hres : ∀ r, res = some r → 0 < r.1 ∧ 0 < r.2)
    (hb : build fl feats res margin = .ok ix) (q cq : α × α) (hq : getCell ix q = some cq) :
    ∃ l, requestPoint fl ix q = .ok l ∧
      ∀ (k : Nat) (t : List (α × α)) (A B : α × α) (s : α) (cP : α × α), feats[k]? = some t → (A, B) ∈ Consec t →
        0 ≤ s → s ≤ 1 → getCell ix (lerp A B s) = some cP → cellOf fl ix cq = cellOf fl ix cP → k ∈ l := by
  have hg := build_good hf feats res margin ix hm hres hb
  obtain ⟨l, hl⟩ := requestPoint_ok hf ix hg q cq hq
  refine ⟨l, hl, ?_⟩
  intro k t A B s cP hk hAB hs0 hs1 hP hcell
  obtain ⟨c, hc, l', hl', hkl⟩ := index_complete hf feats res margin ix hm hres hb k t hk A B hAB s hs0 hs1
  rw [hP] at hc
  cases hc
  rw [requestPoint_eq fl ix hg q cq hq, hcell, hl'] at hl
  cases hl
  exact hkl

/-- T3c `segment_query_complete`: a returned `request([Q1, Q2])` on a built index contains every feature listed in
the cell (`cellOf`) of any point `Q` of the query segment — in particular (T3a) every feature having a point in
such a cell. -/
theorem segment_query_complete {fl : α → Int} (hf : IsFloor fl) (feats : List (List (α × α))) (res : Option (α × α))
    (margin : α) (ix : Index α) (hm : 0 ≤ margin) (hres : ∀ r, res = some r → 0 < r.1 ∧ 0 < r.2)
    (hb : build fl feats res margin = .ok ix) (Q1 Q2 : α × α) (l : List Nat)
    (h : requestSeg fl ix Q1 Q2 = .ok l) (s : α) (hs0 : 0 ≤ s) (hs1 : s ≤ 1) :
    ∃ c, getCell ix (lerp Q1 Q2 s) = some c ∧ ∀ k, Holds ix.grid (cellOf fl ix c).1 (cellOf fl ix c).2 k → k ∈ l := by
  have hg := build_good hf feats res margin ix hm hres hb
  obtain ⟨p1, p2, g1, g2, hc⟩ := requestSegInto_spec fl ix hg [] l Q1 Q2 h
  refine ⟨lerp p1 p2 s, getCell_lerp ix Q1 Q2 p1 p2 s hs0 hs1 g1 g2, fun k hk => ?_⟩
  exact (hc k).mpr (Or.inr ⟨_, cellOf_mem_cellsCross hf ix hg Q1 Q2 p1 p2 g1 g2 s hs0 hs1, hk⟩)

/-- T3e `segment_query_returns`: on a built index `request([Q1, Q2])` does not raise when both ends are inside the
closed extent, its upper border included (finding `query-on-upper-border`, repaired). -/
theorem segment_query_returns {fl : α → Int} (hf : IsFloor fl) (feats : List (List (α × α))) (res : Option (α × α))
    (margin : α) (ix : Index α) (hm : 0 ≤ margin) (hres : ∀ r, res = some r → 0 < r.1 ∧ 0 < r.2)
    (hb : build fl feats res margin = .ok ix) (Q1 Q2 : α × α)
    (h1 : getCell ix Q1 ≠ none) (h2 : getCell ix Q2 ≠ none) :
    ∃ l, requestSeg fl ix Q1 Q2 = .ok l :=
  requestSegInto_ok hf ix (build_good hf feats res margin ix hm hres hb) [] Q1 Q2 h1 h2

/-- T3d `track_query_complete`: the same as T3c for `request(track)` and every segment of the query track. -/
theorem track_query_complete {fl : α → Int} (hf : IsFloor fl) (feats : List (List (α × α))) (res : Option (α × α))
    (margin : α) (ix : Index α) (hm : 0 ≤ margin) (hres : ∀ r, res = some r → 0 < r.1 ∧ 0 < r.2)
    (hb : build fl feats res margin = .ok ix) (track : List (α × α)) (l : List Nat)
    (h : requestTrack fl ix track = .ok l) (Q1 Q2 : α × α) (hQ : (Q1, Q2) ∈ Consec track)
    (s : α) (hs0 : 0 ≤ s) (hs1 : s ≤ 1) :
    ∃ c, getCell ix (lerp Q1 Q2 s) = some c ∧ ∀ k, Holds ix.grid (cellOf fl ix c).1 (cellOf fl ix c).2 k → k ∈ l := by
  have hg := build_good hf feats res margin ix hm hres hb
  obtain ⟨_, hc⟩ := requestTrackLoop_spec fl ix hg track none [] l h
  obtain ⟨p1, p2, g1, g2, hcc⟩ := hc Q1 Q2 hQ
  exact ⟨lerp p1 p2 s, getCell_lerp ix Q1 Q2 p1 p2 s hs0 hs1 g1 g2,
    fun k hk => hcc _ (cellOf_mem_cellsCross hf ix hg Q1 Q2 p1 p2 g1 g2 s hs0 hs1) k hk⟩

/-- T3f `track_query_returns`: on a built index `request(track)` does not raise when every vertex of the query
track is inside the closed extent. -/
theorem track_query_returns {fl : α → Int} (hf : IsFloor fl) (feats : List (List (α × α))) (res : Option (α × α))
    (margin : α) (ix : Index α) (hm : 0 ≤ margin) (hres : ∀ r, res = some r → 0 < r.1 ∧ 0 < r.2)
    (hb : build fl feats res margin = .ok ix) (track : List (α × α)) (hin : ∀ p ∈ track, getCell ix p ≠ none) :
    ∃ l, requestTrack fl ix track = .ok l :=
  requestTrackLoop_ok hf ix (build_good hf feats res margin ix hm hres hb) track none [] hin

/-- T4a `units_sound`: with positive cell sizes, two points inside the extent whose coordinates differ by at most
`d` on each axis (in particular two points at Euclidean distance ≤ `d`) fall in cells whose column and row indices
— floors of the fractional indices, hence also the clamped `cellOf` — differ by at most
`groundDistanceToUnits(d) = floor(d / min(dX, dY) + 1)` (which does not raise). -/
theorem units_sound {fl : α → Int} (hf : IsFloor fl) (ix : Index α) (hdX : 0 < ix.dX) (hdY : 0 < ix.dY)
    (p q cp cq : α × α) (d : α) (hp : getCell ix p = some cp) (hq : getCell ix q = some cq)
    (hx : -d ≤ q.1 - p.1 ∧ q.1 - p.1 ≤ d) (hy : -d ≤ q.2 - p.2 ∧ q.2 - p.2 ≤ d) :
    ∃ u, groundDistanceToUnits fl ix d = .ok u ∧ u = fl (d / min ix.dX ix.dY + 1) ∧
      (fl cq.1 - fl cp.1 ≤ u ∧ fl cp.1 - fl cq.1 ≤ u) ∧ (fl cq.2 - fl cp.2 ≤ u ∧ fl cp.2 - fl cq.2 ≤ u) ∧
      ((cellOf fl ix cq).1 - (cellOf fl ix cp).1 ≤ u ∧ (cellOf fl ix cp).1 - (cellOf fl ix cq).1 ≤ u) ∧
      ((cellOf fl ix cq).2 - (cellOf fl ix cp).2 ≤ u ∧ (cellOf fl ix cp).2 - (cellOf fl ix cq).2 ≤ u) := by
  obtain ⟨_, _, rfl⟩ := (getCell_some_iff ix p cp).mp hp
  obtain ⟨_, _, rfl⟩ := (getCell_some_iff ix q cq).mp hq
  have hmn : 0 < min ix.dX ix.dY := lt_min hdX hdY
  have ax := units_axis hf p.1 q.1 ix.xmin ix.dX d _ hmn (min_le_left _ _) hx.1 hx.2
  have ay := units_axis hf p.2 q.2 ix.ymin ix.dY d _ hmn (min_le_right _ _) hy.1 hy.2
  have hu : 0 ≤ fl (d / min ix.dX ix.dY + 1) := by omega
  refine ⟨fl (d / min ix.dX ix.dY + 1), groundDistanceToUnits_eq fl ix hmn d, rfl, ax, ay, ?_, ?_⟩
  · unfold cellOf; dsimp only; constructor <;> omega
  · unfold cellOf; dsimp only; constructor <;> omega

omit [Field α] [LinearOrder α] [IsStrictOrderedRing α] in
/-- T4b `neighboringCells_square`: `__neighboringcells(i, j, u)` is exactly the square of Chebyshev radius `u`
around `(i, j)` clipped to the grid `[0, csize) × [0, lsize)`. -/
theorem neighboringCells_square (ix : Index α) (i j u i' j' : Int) :
    (i', j') ∈ neighboringCells ix i j u false ↔
      (i - u ≤ i' ∧ i' ≤ i + u ∧ 0 ≤ i' ∧ i' < ix.csize) ∧ (j - u ≤ j' ∧ j' ≤ j + u ∧ 0 ≤ j' ∧ j' < ix.lsize) :=
  mem_neighboringCells ix i j u i' j'

/-- T4c' `neighborhood_finds_registered`: on ANY index on which nothing raises (`Good`: well formed, at least one
column and row, positive cell sides — a built index, also after later `addFeature` / `Network.addEdge` calls), for
every query point `q` of the closed extent and ground distance `d ≥ 0`: `groundDistanceToUnits(d)` and
`neighborhood(q, unit = groundDistanceToUnits(d))` do not raise and the latter returns every feature `k` listed in
the cell of a point `P` of the extent within Euclidean distance `d` of `q`. The answer is a function of the grid as
it is now: nothing remembered from earlier queries enters it. -/
theorem neighborhood_finds_registered {fl : α → Int} (hf : IsFloor fl) (ix : Index α) (hg : Good ix)
    (k : Nat) (P cP : α × α) (hP : getCell ix P = some cP) (hHolds : Holds ix.grid (cellOf fl ix cP).1 (cellOf fl ix cP).2 k)
    (q : α × α) (hq : getCell ix q ≠ none) (d : α) (hd : 0 ≤ d)
    (hdist : (q.1 - P.1) ^ 2 + (q.2 - P.2) ^ 2 ≤ d ^ 2) :
    ∃ u l, groundDistanceToUnits fl ix d = .ok u ∧ neighborhoodPoint fl ix q u = .ok (some l) ∧ k ∈ l := by
  obtain ⟨cq, hcq⟩ := Option.ne_none_iff_exists'.mp hq
  obtain ⟨l, hl, hmem⟩ := neighborhoodCell_unit ix hg.1.2 (cellOf fl ix cq).1 (cellOf fl ix cq).2
    (fl (d / min ix.dX ix.dY + 1)) (le_trans zero_le_one (units_pos hf d _ hd hg.side_pos))
  exact ⟨_, l, groundDistanceToUnits_eq fl ix hg.side_pos d, neighborhoodPoint_of_cell fl ix hg q cq hcq _ l hl,
    (hmem k).mpr ⟨_, cell_within_dist hf ix hg P q cP cq d hd hP hcq hdist, hHolds⟩⟩

/-- T4c `neighborhood_complete`: for an index built with `margin ≥ 0` and a positive (or the default) cell size,
EVERY query point `q` of the closed extent and a ground distance `d ≥ 0`:
`groundDistanceToUnits(d)` and `neighborhood(q, unit = groundDistanceToUnits(d))` do not raise and the latter
returns every feature `k` that has a point `P` (on one of its segments) within Euclidean distance `d` of `q`. -/
theorem neighborhood_complete {fl : α → Int} (hf : IsFloor fl) (feats : List (List (α × α))) (res : Option (α × α))
    (margin : α) (ix : Index α) (hm : 0 ≤ margin) (hres : ∀ r, res = some r → 0 < r.1 ∧ 0 < r.2)
    (hb : build fl feats res margin = .ok ix)
    (k : Nat) (t : List (α × α)) (hk : feats[k]? = some t) (A B : α × α) (hAB : (A, B) ∈ Consec t)
    (s : α) (hs0 : 0 ≤ s) (hs1 : s ≤ 1) (q : α × α) (hq : getCell ix q ≠ none) (d : α) (hd : 0 ≤ d)
    (hdist : (q.1 - (lerp A B s).1) ^ 2 + (q.2 - (lerp A B s).2) ^ 2 ≤ d ^ 2) :
    ∃ u l, groundDistanceToUnits fl ix d = .ok u ∧ neighborhoodPoint fl ix q u = .ok (some l) ∧ k ∈ l := by
  obtain ⟨cP, hP, hHolds⟩ := index_complete hf feats res margin ix hm hres hb k t hk A B hAB s hs0 hs1
  exact neighborhood_finds_registered hf ix (build_good hf feats res margin ix hm hres hb) k _ cP hP hHolds q hq d hd hdist

theorem found_of_registered {fl : α → Int} (hf : IsFloor fl) (ix : Index α) (hg : Good ix) (k : Nat) (P : α × α)
    (h : ∃ c, getCell ix P = some c ∧ Holds ix.grid (cellOf fl ix c).1 (cellOf fl ix c).2 k) :
    (∃ c, getCell ix P = some c ∧ Holds ix.grid (cellOf fl ix c).1 (cellOf fl ix c).2 k) ∧
    (∃ l, requestPoint fl ix P = .ok l ∧ k ∈ l) ∧
    (∀ (q : α × α) (d : α), getCell ix q ≠ none → 0 ≤ d → (q.1 - P.1) ^ 2 + (q.2 - P.2) ^ 2 ≤ d ^ 2 →
      ∃ u l, groundDistanceToUnits fl ix d = .ok u ∧ neighborhoodPoint fl ix q u = .ok (some l) ∧ k ∈ l) := by
  obtain ⟨c, hc, hH⟩ := h
  refine ⟨⟨c, hc, hH⟩, ?_, fun q d hq hd hdist => neighborhood_finds_registered hf ix hg k P c hc hH q hq d hd hdist⟩
  obtain ⟨l, hl, hkl⟩ := hH
  exact ⟨l, by rw [requestPoint_eq fl ix hg P c hc]; exact hl, hkl⟩

/-- T5 `late_feature_complete`: a feature added to an existing index — `addFeature(track, num)` after construction,
which is what `Network.addEdge` does on an indexed network — whose vertices are all inside the extent: the call
returns an index `ix'` with the same extent and grid dimensions in which everything registered before is still
registered, every point of every segment of the track lies in a cell that lists `num`, a point request in that cell
returns `num`, and a neighbourhood query from a ground distance `d` around any point `q` within `d` of the track
returns `num` — whatever was asked of the index before the addition. (`ix` is any index reached from a built one by
such additions: `Good` is kept; `built_index_good` is the starting point.) -/
theorem late_feature_complete {fl : α → Int} (hf : IsFloor fl) (ix : Index α) (hg : Good ix)
    (track : List (α × α)) (num : Nat) (hin : ∀ p ∈ track, getCell ix p ≠ none) :
    ∃ ix', addFeature fl ix track num = .ok ix' ∧ Good ix' ∧ Same ix ix' ∧
      (∀ i j k, Holds ix.grid i j k → Holds ix'.grid i j k) ∧
      ∀ A B, (A, B) ∈ Consec track → ∀ s : α, 0 ≤ s → s ≤ 1 →
        (∃ c, getCell ix' (lerp A B s) = some c ∧ Holds ix'.grid (cellOf fl ix' c).1 (cellOf fl ix' c).2 num) ∧
        (∃ l, requestPoint fl ix' (lerp A B s) = .ok l ∧ num ∈ l) ∧
        (∀ (q : α × α) (d : α), getCell ix' q ≠ none → 0 ≤ d →
          (q.1 - (lerp A B s).1) ^ 2 + (q.2 - (lerp A B s).2) ^ 2 ≤ d ^ 2 →
          ∃ u l, groundDistanceToUnits fl ix' d = .ok u ∧ neighborhoodPoint fl ix' q u = .ok (some l) ∧ num ∈ l) := by
  obtain ⟨ix', h, hg', e, hreg⟩ := addFeature_complete hf ix hg track num hin
  exact ⟨ix', h, hg', e.1, e.2, fun A B hAB s hs0 hs1 => found_of_registered hf ix' hg' num _ (hreg A B hAB s hs0 hs1)⟩

/-- a built index is `Good` (well formed, at least one column and row, positive cell sides, the cells cover the
extent): the starting point of `late_feature_complete`, which keeps it -/
theorem built_index_good {fl : α → Int} (hf : IsFloor fl) (feats : List (List (α × α))) (res : Option (α × α))
    (margin : α) (ix : Index α) (hm : 0 ≤ margin) (hres : ∀ r, res = some r → 0 < r.1 ∧ 0 < r.2)
    (hb : build fl feats res margin = .ok ix) : Good ix :=
  build_good hf feats res margin ix hm hres hb

/-- `grid_always_builds` (the repairs 9a44198 and the degenerate-extent one): with the default resolution or a
positive explicit cell size, `__init__` reaches the registration loop without raising for EVERY bounding box — an
extent more than 100 times wider than tall, a flat one (all vertices on one horizontal or vertical line), a single
point, one shorter than the cell size on an axis: the grid has at least one column and one row, both cell sides
are positive (so `__getCell` and `groundDistanceToUnits` never divide by zero), the cells tile every axis of
positive length exactly, and an axis of zero length has one column / row. (Each of these cases used to raise
ZeroDivisionError.) -/
theorem grid_always_builds {fl : α → Int} (hf : IsFloor fl) (bb : α × α × α × α) (res : Option (α × α)) (margin : α)
    (hres : ∀ r, res = some r → 0 < r.1 ∧ 0 < r.2) :
    ∃ ix, mkIndex fl bb res margin = .ok ix ∧ 1 ≤ ix.csize ∧ 1 ≤ ix.lsize ∧ 0 < ix.dX ∧ 0 < ix.dY ∧
      (ix.xmin < ix.xmax → ix.dX * ((ix.csize : Int) : α) = ix.xmax - ix.xmin) ∧
      (ix.ymin < ix.ymax → ix.dY * ((ix.lsize : Int) : α) = ix.ymax - ix.ymin) ∧
      (ix.xmin = ix.xmax → ix.csize = 1) ∧ (ix.ymin = ix.ymax → ix.lsize = 1) :=
  mkIndex_builds hf bb res margin hres

/-- `flat_axis_single_column`: on a built index whose extent has zero length along x (all vertices share one
abscissa: a straight north-south track) there is one column and every point of the extent — every vertex, every
admissible query point — has column index `0`; likewise along y. Together with T3/T4 (which speak about every
built index) such a collection is indexed and queried like any other. -/
theorem flat_axis_single_column {fl : α → Int} (hf : IsFloor fl) (feats : List (List (α × α))) (res : Option (α × α))
    (margin : α) (ix : Index α) (hm : 0 ≤ margin) (hres : ∀ r, res = some r → 0 < r.1 ∧ 0 < r.2)
    (hb : build fl feats res margin = .ok ix) (p c : α × α) (hp : getCell ix p = some c) :
    (ix.xmin = ix.xmax → ix.csize = 1 ∧ (cellOf fl ix c).1 = 0) ∧
    (ix.ymin = ix.ymax → ix.lsize = 1 ∧ (cellOf fl ix c).2 = 0) := by
  obtain ⟨_, ⟨_, _, oX, oY⟩, _⟩ := build_spec hf feats res margin ix hm hres hb
  obtain ⟨⟨a1, a2⟩, ⟨b1, b2⟩, rfl⟩ := (getCell_some_iff ix p c).mp hp
  -- on an axis of zero length the point is on the lower border: its fractional index is `0 / side`
  have axis : ∀ o hi x side : α, o ≤ x → x ≤ hi → o = hi → fl ((x - o) / side) = 0 := fun o hi x side h1 h2 h => by
    rw [le_antisymm (h2.trans_eq h.symm) h1, sub_self, zero_div, hf.zero]
  constructor
  · intro h
    refine ⟨oX h, ?_⟩
    show min (fl ((p.1 - ix.xmin) / ix.dX)) (ix.csize - 1) = 0
    rw [axis _ _ _ _ a1 a2 h, oX h]
    rfl
  · intro h
    refine ⟨oY h, ?_⟩
    show min (fl ((p.2 - ix.ymin) / ix.dY)) (ix.lsize - 1) = 0
    rw [axis _ _ _ _ b1 b2 h, oY h]
    rfl

/-- `default_margin_create_index` (argument handling of the front ends that take a margin): `SpatialIndex(collection,
resolution=None, margin=0.05, verbose=True)` and `Network.createSpatialIndex(resolution=None, margin=0.05,
verbose=True)` called with the margin left out (`margin = none`) build the index of margin `1/20`, called with a
margin `m` that of margin `m`; for `m ≥ 0` (the default is) and the default or a positive cell size the call
returns, so every theorem of this file applies to the index. -/
theorem default_margin_create_index {fl : α → Int} (hf : IsFloor fl) (feats : List (List (α × α))) (res : Option (α × α))
    (margin : Option α) (hm : ∀ m, margin = some m → 0 ≤ m) (hres : ∀ r, res = some r → 0 < r.1 ∧ 0 < r.2)
    (hne : feats.flatten ≠ []) :
    ∃ m ix, 0 ≤ m ∧ (margin = some m ∨ (margin = none ∧ m = 1 / 20)) ∧
      createIndexArgs fl feats res margin = build fl feats res m ∧ build fl feats res m = .ok ix := by
  cases margin with
  | none =>
    have h0 : (0 : α) ≤ 1 / 20 := by norm_num
    obtain ⟨ix, h⟩ := constructor_returns hf feats res (1 / 20 : α) h0 hres hne
    exact ⟨1 / 20, ix, h0, Or.inr ⟨rfl, rfl⟩, by simp [createIndexArgs, defaultMargin], h⟩
  | some m =>
    obtain ⟨ix, h⟩ := constructor_returns hf feats res m (hm m rfl) hres hne
    exact ⟨m, ix, hm m rfl, Or.inl rfl, rfl, h⟩

/-- `network_add_edges_complete`: a sequence of `Network.addEdge` calls on an indexed network of `n` edges (each
registers the new edge under the running number of edges: `n`, `n + 1`, …), every vertex of every new edge inside the
extent. All calls return; the index keeps its extent and dimensions and everything registered before; and for the
`k`-th new edge, every point of every one of its segments lies in a cell that lists `n + k`, a point request there
returns `n + k`, and a neighbourhood query from a ground distance `d` around any `q` of the extent within `d` of that
point returns `n + k` — after ALL the additions (a later edge never removes an earlier one). `ix` is any index on
which nothing raises (`built_index_good`). -/
theorem network_add_edges_complete {fl : α → Int} (hf : IsFloor fl) (ix : Index α) (hg : Good ix) (n : Nat)
    (tracks : List (List (α × α))) (hin : ∀ t ∈ tracks, ∀ p ∈ t, getCell ix p ≠ none) :
    ∃ ix', networkAddEdges fl ix n tracks = .ok ix' ∧ Good ix' ∧ Same ix ix' ∧
      (∀ i j k, Holds ix.grid i j k → Holds ix'.grid i j k) ∧
      ∀ (k : Nat) (t : List (α × α)), tracks[k]? = some t → ∀ A B, (A, B) ∈ Consec t → ∀ s : α, 0 ≤ s → s ≤ 1 →
        (∃ c, getCell ix' (lerp A B s) = some c ∧ Holds ix'.grid (cellOf fl ix' c).1 (cellOf fl ix' c).2 (n + k)) ∧
        (∃ l, requestPoint fl ix' (lerp A B s) = .ok l ∧ n + k ∈ l) ∧
        (∀ (q : α × α) (d : α), getCell ix' q ≠ none → 0 ≤ d →
          (q.1 - (lerp A B s).1) ^ 2 + (q.2 - (lerp A B s).2) ^ 2 ≤ d ^ 2 →
          ∃ u l, groundDistanceToUnits fl ix' d = .ok u ∧ neighborhoodPoint fl ix' q u = .ok (some l) ∧ n + k ∈ l) := by
  obtain ⟨ix', h, hg', e, hreg⟩ := addFeatures_inside_complete hf tracks ix n hg hin
  exact ⟨ix', h, hg', e.1, e.2,
    fun k t hk A B hAB s hs0 hs1 => found_of_registered hf ix' hg' (n + k) _ (hreg k t hk A B hAB s hs0 hs1)⟩

/-- `Rat.floor` (the driver's `math.floor`) satisfies the floor contract -/
theorem isFloor_ratFloor : IsFloor (α := ℚ) Rat.floor := by
  intro x
  have e : Rat.floor x = ⌊x⌋ := rfl
  rw [e]
  exact ⟨Int.floor_le x, Int.lt_floor_add_one x⟩

/-- the hypotheses of T3/T4 are satisfiable: the index of the tracks (0,0)-(4,3) and (1,5/2)-(2,5/2)-(4,0) with
cell size (1,1) and margin 1/2 is built (8 x 6 cells over [-2,6] x [-3/2,9/2]) -/
example : (build Rat.floor [[((0 : ℚ), (0 : ℚ)), (4, 3)], [(1, 5/2), (2, 5/2), (4, 0)]] (some (1, 1)) (1/2)).toBool = true := by
  decide +kernel

/-- regression witness of finding `vertex-on-upper-border` (repaired): with margin 0 the track (0,0)-(1,1), cell
size (1,1), is indexed on a 1 x 1 grid (the constructor used to raise IndexError: the vertex (1,1) has fractional
indices (csize, lsize)); the corner (1,1), the border point (1/2,1) and the border segment (1,0)-(1,1) find it -/
example : (match build Rat.floor [[((0 : ℚ), (0 : ℚ)), (1, 1)]] (some (1, 1)) 0 with
    | .ok ix => (ix.csize, ix.lsize, requestPoint Rat.floor ix (1, 1), requestPoint Rat.floor ix (1/2, 1),
        requestSeg Rat.floor ix (1, 0) (1, 1))
    | .error _ => (0, 0, .error .exit, .error .exit, .error .exit)) = (1, 1, .ok [0], .ok [0], .ok [0]) := by
  decide +kernel

/-- segments lying exactly on the upper border (margin 0, 2 x 2 cells over [0,2]²): track 0 = (0,0)-(2,0)-(2,2) runs
along the right border, track 1 = (0,2)-(2,2) along the top one. The border points (2,1), (1,2), (2,2) belong to
the last column / row and find both tracks; the interior point (1/2,1/2) finds track 0 only -/
example : (match build Rat.floor [[((0 : ℚ), (0 : ℚ)), (2, 0), (2, 2)], [(0, 2), (2, 2)]] (some (1, 1)) 0 with
    | .ok ix => (requestPoint Rat.floor ix (2, 1), requestPoint Rat.floor ix (1, 2), requestPoint Rat.floor ix (2, 2),
        requestPoint Rat.floor ix (1/2, 1/2))
    | .error _ => (.error .exit, .error .exit, .error .exit, .error .exit)) = (.ok [0, 1], .ok [0, 1], .ok [0, 1], .ok [0]) := by
  decide +kernel

/-- regression witness of finding `query-on-upper-border` (repaired): on the index of the track (0,0)-(2,2), cell
size (1,1), margin 1/2 (extent [-1,3]², 4 x 4 cells), `request` of the border point (3,1), of the corner (3,3)
and of the segment (3,-1)-(3,3) lying on the border return (they used to raise IndexError) -/
example : (match build Rat.floor [[((0 : ℚ), (0 : ℚ)), (2, 2)]] (some (1, 1)) (1/2) with
    | .ok ix => (requestPoint Rat.floor ix (3, 1), requestPoint Rat.floor ix (3, 3), requestSeg Rat.floor ix (3, -1) (3, 3))
    | .error _ => (.error .exit, .error .exit, .error .exit)) = (.ok [0], .ok [0], .ok [0]) := by
  decide +kernel

/-- a later addition (the hypotheses of `late_feature_complete` are satisfiable): the network of the two edges
(0,0)-(100,0) and (0,100)-(100,100), cell size (10,10), margin 1/20; the neighbourhood of (50,50) for a ground distance
15 (2 units) is empty; after `addFeature` of the edge (58,58)-(62,62) under number 2 — it crosses cells next to that of
(50,50), not that cell itself — the same query returns it -/
example : (match build Rat.floor [[((0 : ℚ), (0 : ℚ)), (100, 0)], [(0, 100), (100, 100)]] (some (10, 10)) (1/20) with
    | .ok ix =>
      (match addFeature Rat.floor ix [(58, 58), (62, 62)] 2 with
       | .ok ix' => (groundDistanceToUnits Rat.floor ix 15, neighborhoodPoint Rat.floor ix (50, 50) 2,
                     neighborhoodPoint Rat.floor ix' (50, 50) 2)
       | .error _ => (.error .exit, .error .exit, .error .exit))
    | .error _ => (.error .exit, .error .exit, .error .exit)) = (.ok 2, .ok (some []), .ok (some [2])) := by
  decide +kernel

/-- the front ends of a network (the hypotheses of `default_margin_create_index` and `network_add_edges_complete` are
satisfiable): `Network.createSpatialIndex((10, 10))` — margin left out — on the two edges (0,0)-(100,0) and
(0,100)-(100,100) builds the index of margin 1/20 (extent [-5,105]², 11 x 11 cells of side 10); two `Network.addEdge`
calls register the new edges under the numbers 2 and 3, and point requests on them find them -/
example : (match createIndexArgs Rat.floor [[((0 : ℚ), (0 : ℚ)), (100, 0)], [(0, 100), (100, 100)]] (some (10, 10)) none with
    | .ok ix =>
      (match networkAddEdges Rat.floor ix 2 [[(58, 58), (62, 62)], [(10, 10), (10, 30)]] with
       | .ok ix' => (ix'.xmin, ix'.csize, ix'.dX, requestPoint Rat.floor ix' (60, 60), requestPoint Rat.floor ix' (10, 20))
       | .error _ => (0, 0, 0, .error .exit, .error .exit))
    | .error _ => (0, 0, 0, .error .exit, .error .exit)) = (-5, 11, 10, .ok [2], .ok [3]) := by
  decide +kernel

/-- regression witness of the defect repaired by ad7c5ee: cells 60 x 1, distance 10 gives 11 units (was 1) -/
example : (match build Rat.floor [[((0 : ℚ), (0 : ℚ)), (60, 0), (60, 4)], [(0, 10), (60, 10)]] (some (60, 1)) (1/2) with
    | .ok ix => (match groundDistanceToUnits Rat.floor ix 10 with | .ok u => u | .error _ => 0) | .error _ => 0) = 11 := by
  decide +kernel

/-- regression witness of the defect repaired by 9a44198: the track (0,0)-(1000,5) with the default resolution and
margin 1/20 is indexed on a 100 x 1 grid (it used to raise ZeroDivisionError), and the point (500, 5/2) finds it -/
example : (match build Rat.floor [[((0 : ℚ), (0 : ℚ)), (1000, 5)]] none (1/20) with
    | .ok ix => (ix.csize, ix.lsize, requestPoint Rat.floor ix (500, 5/2)) | .error _ => (0, 0, .error .exit))
    = (100, 1, .ok [0]) := by
  decide +kernel

/-- regression witness of the degenerate-extent repair: the straight east-west track (0,0)-(10,0) with the default
resolution and margin 1/20 is indexed on a 100 x 1 grid (it used to raise ZeroDivisionError in `__getCell`), the
point (5, 0) finds it, and a ground distance of 1 is 10 units (cell side 11/100 on both axes) -/
example : (match build Rat.floor [[((0 : ℚ), (0 : ℚ)), (10, 0)]] none (1/20) with
    | .ok ix => (ix.csize, ix.lsize, requestPoint Rat.floor ix (5, 0), groundDistanceToUnits Rat.floor ix 1)
    | .error _ => (0, 0, .error .exit, .error .exit)) = (100, 1, .ok [0], .ok 10) := by
  decide +kernel

/-- the same track with an explicit cell size (2, 2): 5 x 1 cells (`int(0 / 2) = 0` rows used to raise
ZeroDivisionError in `__init__`) -/
example : (match build Rat.floor [[((0 : ℚ), (0 : ℚ)), (10, 0)]] (some (2, 2)) (1/20) with
    | .ok ix => (ix.csize, ix.lsize, requestPoint Rat.floor ix (5, 0)) | .error _ => (0, 0, .error .exit))
    = (5, 1, .ok [0]) := by
  decide +kernel

/-- an explicit cell size larger than the extent on one axis: the track (0,0)-(10,1) with cells (2, 5) is indexed on
5 x 1 cells of height 11/10 (`int(1.1 / 5) = 0` rows used to raise ZeroDivisionError) -/
example : (match build Rat.floor [[((0 : ℚ), (0 : ℚ)), (10, 1)]] (some (2, 5)) (1/20) with
    | .ok ix => (ix.csize, ix.lsize, ix.dY, requestPoint Rat.floor ix (5, 1/2)) | .error _ => (0, 0, 0, .error .exit))
    = (5, 1, 11/10, .ok [0]) := by
  decide +kernel

/-- a bounding box that is a single point (a track that never moves): one cell of unit side (`r = 0 / 100` used to
raise ZeroDivisionError), and the point finds the track -/
example : (match build Rat.floor [[((3 : ℚ), (4 : ℚ)), (3, 4)]] none (1/20) with
    | .ok ix => (ix.csize, ix.lsize, ix.dX, ix.dY, requestPoint Rat.floor ix (3, 4)) | .error _ => (0, 0, 0, 0, .error .exit))
    = (1, 1, 1, 1, .ok [0]) := by
  decide +kernel

end TV.C08
