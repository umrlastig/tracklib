import TracklibVerif.Lemmas.SimplifyGeom
import TracklibVerif.Lemmas.SimplifyTrack
import TracklibVerif.Lemmas.SimplifyVwOrd
import TracklibVerif.Lemmas.SimplifyVwTie
import TracklibVerif.Lemmas.SimplifyVwFirst
import TracklibVerif.Lemmas.SimplifyOrd
import TracklibVerif.Lemmas.SimplifyColl
import Mathlib.Analysis.Real.Sqrt
/-! # C16 — simplification keeps the end points, only drops fixes, and honours its tolerance

Property theorems only (helper lemmas: `Lemmas/Simplify.lean`, `Lemmas/SimplifyVw.lean`, `Lemmas/SimplifyVwTie.lean`,
`Lemmas/SimplifyVwFirst.lean`, `Lemmas/SimplifyTrack.lean`, `Lemmas/SimplifyColl.lean` (the collection entry points), scalar-independent; `Lemmas/SimplifyOrd.lean`, `Lemmas/SimplifyVwOrd.lean`,
total order with arbitrary arithmetic; `Lemmas/SimplifyGeom.lean`, ordered field). Two models:
`Model/Simplify.lean` — `douglas_peucker`, `visvalingam` (algo/simplification.py) on the list of positions,
`distance_to_segment`, `triangle_area`, `aire_visval` (util/geometry.py), `Operator.ARGMIN`, as the code is after ec611a5,
1a5eeec, 68863c7, b704eae and b728412 — and `Model/SimplifyTrack.lean` — the same two functions and the dispatcher `simplify(track, tolerance, mode)`
on the `Track` **object**: feature rows of the observations, feature dict, `uid`/`tid`/`base`, the temporary `'@aire'`
column, `Track.__add__` and `removeObs` of C04. T8/T9 tie the second to the first. The same file models the attribute
`no_data_value` that the readers set (`simplifyN`: never read; `None` on a Douglas–Peucker result, copied by Visvalingam) and
`Network.simplify` (`netSimplify`: `simplify` on every edge geometry) and `TrackCollection.simplify` (`collSimplify`: `simplify` on a
copy of every track, default mode 1; the entry point repaired by 039f340 — T15 states the property for every track of a collection). T12 (`vw_any`) is Visvalingam with **no** hypothesis on
the areas. A third model file, `Model/SimplifyTie.lean`, is the freedom the statement leaves to Visvalingam — which of several equally
small triangles goes first (`VwAnyResult`, `visvalingamAll`): T13 proves the property for **every** such run, that the code's run is
one of them and that the enumeration the correspondence check accepts is sound (`Lemmas/SimplifyVwTie.lean`). T14
(`Lemmas/SimplifyVwFirst.lean`) characterises, pass by pass, when the first observation survives a mixed column.
`Props/C16b.lean` continues this file: T6 for every column without NaN, the whole run on a column of NaN, completeness of the enumeration of
T13, and T16 — the depth of Douglas–Peucker's recursion (`dpDepth`).

A fix is `⟨tag, x, y⟩`; *sublist* is about fixes (tag included), i.e. about observations.
`douglasPeucker … = some out` means "the call returns `out`"; `none` is Python's unbounded recursion.

The theorems of the first section assume **nothing** about the scalar type: they hold for every
instantiation of `+ − × ÷ <  ==`, the driver's IEEE `Float` model included. The second section (`totalOrderAnyArithmetic`)
assumes only that `<` is a **linear order** — the arithmetic is arbitrary (rounded, …): T5' (robust tolerance), T10. The
third is over a linearly ordered field with a square root satisfying `SqrtOK` (`Real.sqrt` does, see the examples). -/
namespace TV.C16
open TV.Simplify

section anyScalar
variable {α : Type} [Add α] [Sub α] [Mul α] [Div α] [Neg α] [LT α] [DecidableLT α] [BEq α]
  [OfNat α 0] [OfNat α 1] [OfNat α 2]

/-- T1: Douglas–Peucker only drops fixes — the returned observations are a sub-sequence of the input
observations, in their original order (any scalar type, any tolerance). -/
theorem dp_sublist (sqrt : α → α) (eps : α) (L out : List (Fix α))
    (h : douglasPeucker sqrt eps L = some out) : out.Sublist L :=
  (dpFuel_tree sqrt eps L.length L out h).sublist

/-- T2: the first and the last observation are always kept (first = last position, i.e. closed loops,
duplicates and collinear runs included; any scalar type), and a track of ≥ 2 fixes keeps ≥ 2 fixes. -/
theorem dp_ends (sqrt : α → α) (eps : α) (L out : List (Fix α))
    (h : douglasPeucker sqrt eps L = some out) :
    out.head? = L.head? ∧ out.getLast? = L.getLast? ∧ (2 ≤ L.length → 2 ≤ out.length) :=
  have t := dpFuel_tree sqrt eps L.length L out h
  ⟨t.ends.1, t.ends.2, t.two_le⟩

/-- T3 (scalar-independent form): the recursion terminates for **every** track and every tolerance `eps > 0`
as soon as `distance_to_segment(A; A, B)` is never strictly positive (true in a field, `dp_total` below, and
checked bit-exactly on the implementation by the harness). The unusual split `L[0:imax] / L[imax:n]` is
harmless here: `1 ≤ imax ≤ n−1`, so both parts are strictly shorter. -/
theorem dp_total_of_self_distance (sqrt : α → α) (eps : α) (heps : (0 : α) < eps)
    (hd0 : ∀ a b : Fix α, ¬ (distFix sqrt a b a > 0)) (L : List (Fix α)) :
    ∃ out, douglasPeucker sqrt eps L = some out :=
  dpFuel_total_gen sqrt eps heps hd0 L.length L (by omega)

omit [Add α] [Neg α] in
/-- what T6, T10, T11 and T13 rest on: on a track of ≥ 2 fixes none of whose triangle areas is NaN (numbers below ARGMIN's initial minimum
or equal to it), **whichever** of several equally small triangles goes first at each pass, the result is a sub-sequence of the input
observations with the first and the last one, at least two, **on whose own `'@aire'` column the loop stops at once** — every state of
such a run is the initial column of the observations left (`VReach.canon`), the last one included. Any scalar type, any tolerance. -/
theorem vw_any_tiebreak_stable (big eps : α) (L out : List (Fix α)) (h2 : 2 ≤ L.length)
    (hnum : ∀ a b c, a ∈ L → b ∈ L → c ∈ L → areaFix a b c < big ∨ (areaFix a b c == big) = true)
    (h : VwAnyResult big eps L out) :
    out.Sublist L ∧ out.head? = L.head? ∧ out.getLast? = L.getLast? ∧ 2 ≤ out.length ∧
      vwStep big (eps * eps) (vwInit out) = none := by
  obtain ⟨S', r, hn, rfl⟩ := h
  obtain ⟨K, rfl, s, a, b, c⟩ := r.canon L rfl h2 hnum
  rw [vwInit_map_fst]
  exact ⟨s, a, b, c, (vwNext_nil_iff _ _ _).mp hn⟩

/-- T13 (the code's own run is one of them): what `visvalingam` returns — ARGMIN's first minimum at every pass — is a
`VwAnyResult`. No hypothesis; any scalar type. -/
theorem vw_own_run_is_tiebreak_run (big eps : α) (L : List (Fix α)) : VwAnyResult big eps L (visvalingam big eps L) :=
  ⟨_, vwLoop_reach _ _ _ _,
    (vwNext_nil_iff _ _ _).mpr (vwLoop_stops_any big (eps * eps) L.length (vwInit L) (by rw [vwInit_length]; omega)), rfl⟩

/-- T13 (sub-sequence, **no hypothesis at all**): whichever of several equally small triangles is eliminated at each pass
(`VwAnyResult`: the results of all such runs; the statement of C16 leaves the choice free, the code takes the first), the result
is a sub-sequence of the input observations in their original order. Any scalar type, any areas, any tolerance. -/
theorem vw_any_tiebreak_sublist (big eps : α) (L out : List (Fix α)) (h : VwAnyResult big eps L out) : out.Sublist L := by
  obtain ⟨S', r, _, e⟩ := h
  have := r.sublist
  rw [vwInit_map_fst] at this
  rw [e]; exact this

/-- T13 without hypothesis (T12 for **every** run): whatever the areas (infinite, NaN, mixed) and whichever of the equally small
triangles goes first at each pass, the result is a sub-sequence of the input observations, the **last** observation is kept and a
track of two or more observations keeps at least two. (A run is a finite sequence of passes by construction: each removes one
observation.) Any scalar type. -/
theorem vw_any_tiebreak_any_areas (big eps : α) (L out : List (Fix α)) (h1 : 1 ≤ L.length) (h : VwAnyResult big eps L out) :
    out.Sublist L ∧ out.getLast? = L.getLast? ∧ (2 ≤ L.length → 2 ≤ out.length) := by
  refine ⟨vw_any_tiebreak_sublist big eps L out h, ?_⟩
  obtain ⟨S', r, _, e⟩ := h
  obtain ⟨r2, r3⟩ := r.any (vwInit_lastNaN L h1)
  rw [vwInit_map_fst] at r2
  subst e
  exact ⟨r2, fun h2 => by rw [List.length_map]; exact r3 (by rw [vwInit_length]; exact h2)⟩

/-- T12 (Visvalingam with **no hypothesis on the areas** — infinite, NaN, mixed columns, every pass): on every track, for every
tolerance and every scalar type (the driver's IEEE `Float` model
included), the result is a sub-sequence of the input observations in their original order, the **last** observation is
kept, a track of two or more observations keeps at least two, and the `while` loop stops by itself within `len(track)`
passes. (The entry of the last observation is NaN from the start and is never rewritten, so ARGMIN cannot designate it
while more than two observations remain.) What can fail outside T6's hypothesis is only the **first** observation: T6'. -/
theorem vw_any (big eps : α) (L : List (Fix α)) :
    (visvalingam big eps L).Sublist L ∧
    (visvalingam big eps L).getLast? = L.getLast? ∧
    (2 ≤ L.length → 2 ≤ (visvalingam big eps L).length) ∧
    vwStep big (eps * eps) (vwLoop big (eps * eps) L.length (vwInit L)) = none := by
  have hstop := vwLoop_stops_any big (eps * eps) L.length (vwInit L) (by rw [vwInit_length]; omega)
  cases L with
  | nil => exact ⟨List.Sublist.refl _, rfl, fun h => absurd h (Nat.not_succ_le_zero 1), rfl⟩
  | cons a l =>
    obtain ⟨s, e, l2⟩ := vw_any_tiebreak_any_areas big eps (a :: l) _ (Nat.succ_pos _) (vw_own_run_is_tiebreak_run big eps _)
    exact ⟨s, e, l2, hstop⟩

/-- T6: Visvalingam, for every track of ≥ 2 fixes whose triangle areas stay below ARGMIN's sentinel
(`big`: `float('inf')` since 68863c7, `1e300` before — i.e. areas that are finite numbers, not `inf`, not NaN) and **every** tolerance: the result is a sub-sequence of the input
observations in their original order, it keeps the first and the last observation, and the `while` loop has
stopped by itself within `len(track)` passes (`size ≤ 2` or the smallest area exceeds `eps²`): no
`IndexError`, no end point removed. Any scalar type. -/
theorem vw_sublist_ends (big eps : α) (L : List (Fix α)) (h2 : 2 ≤ L.length)
    (hbig : ∀ a b c, a ∈ L → b ∈ L → c ∈ L → areaFix a b c < big) :
    (visvalingam big eps L).Sublist L ∧
    (visvalingam big eps L).head? = L.head? ∧
    (visvalingam big eps L).getLast? = L.getLast? ∧
    vwStep big (eps * eps) (vwLoop big (eps * eps) L.length (vwInit L)) = none := by
  obtain ⟨a, b, c, _, _⟩ := vw_any_tiebreak_stable big eps L _ h2 (fun a b c ha hb hc => Or.inl (hbig a b c ha hb hc))
    (vw_own_run_is_tiebreak_run big eps L)
  exact ⟨a, b, c, (vw_any big eps L).2.2.2⟩

/-- T7 (the freedom left by ties): **whichever** of several equally far fixes is taken as the split point
(`dpAllFuel` enumerates all such runs; the correspondence check accepts exactly these), the result is a
sub-sequence of the input that keeps both ends. Any scalar type. -/
theorem dp_any_tiebreak (sqrt : α → α) (eps : α) (L out : List (Fix α))
    (h : out ∈ dpAllFuel sqrt eps L.length L) :
    out.Sublist L ∧ out.head? = L.head? ∧ out.getLast? = L.getLast? :=
  have t := dpAllFuel_tree sqrt eps L.length L out h
  ⟨t.sublist, t.ends.1, t.ends.2⟩

/-- T11 for **every** run (T13) and every column without NaN: when no triangle of the track has an area `> eps * eps`, whichever of the equally
small triangles goes first at each pass, the result is the first and the last observation — a result of more than two would have stopped by
`break`, on an entry that is a triangle area of the track. Any scalar type. -/
theorem vw_any_tiebreak_all_below (big eps : α) (L out : List (Fix α)) (h2 : 2 ≤ L.length)
    (hnum : ∀ a b c, a ∈ L → b ∈ L → c ∈ L → areaFix a b c < big ∨ (areaFix a b c == big) = true)
    (hle : ∀ a b c, a ∈ L → b ∈ L → c ∈ L → ¬ areaFix a b c > eps * eps) (h : VwAnyResult big eps L out) :
    ∃ a b, L.head? = some a ∧ L.getLast? = some b ∧ out = [a, b] := by
  obtain ⟨s, ha, hb, hk, hstop⟩ := vw_any_tiebreak_stable big eps L out h2 hnum h
  rw [← ha, ← hb]
  have l2 : out.length = 2 := by
    by_cases hl : 2 < out.length
    · obtain ⟨p, w, ew, hw⟩ := vwStep_none hstop (by rw [vwInit_length]; exact hl)
      exact absurd hw (vwInit_area (P := fun v => ¬ v > eps * eps) out
        (fun a b c ha hb hc => hle a b c (s.subset ha) (s.subset hb) (s.subset hc)) (List.mem_of_getElem? ew) rfl)
    · omega
  match out, l2 with
  | [a, b], _ => exact ⟨a, b, rfl, rfl, rfl⟩

/-- T11 (tolerances far above the track's extent, up to the largest double): when **no** triangle of the track has an area
`> eps * eps` — in particular when `eps * eps` is `+inf`, i.e. for every tolerance from 1.3407807929942597e154 on, now that
b704eae computes `eps = eps * eps` (`eps **= 2` raised OverflowError there) — the `break` never fires and Visvalingam
returns **exactly the first and the last observation**. Under T6's hypothesis; any scalar type. -/
theorem vw_all_below (big eps : α) (L : List (Fix α)) (h2 : 2 ≤ L.length)
    (hbig : ∀ a b c, a ∈ L → b ∈ L → c ∈ L → areaFix a b c < big)
    (hle : ∀ a b c, a ∈ L → b ∈ L → c ∈ L → ¬ areaFix a b c > eps * eps) :
    ∃ a b, L.head? = some a ∧ L.getLast? = some b ∧ visvalingam big eps L = [a, b] :=
  vw_any_tiebreak_all_below big eps L _ h2 (fun a b c ha hb hc => Or.inl (hbig a b c ha hb hc)) hle
    (vw_own_run_is_tiebreak_run big eps L)

/-- T6', the complement of T6, in the form it has since b728412: on a track of ≥ 3 fixes **none** of
whose interior fixes has an initial triangle area below ARGMIN's initial minimum **or equal to it** (`big = +inf` since 68863c7: every
area is NaN — e.g. `inf − inf` from coordinates of about 1e154 and more, not an ENU frame; an *infinite* area no longer qualifies, it equals
the start value and is found: T6'' below), the first pass of the loop records no index, ARGMIN answers 0, the NaN stored there does not trigger
the `break`, and the **first** observation is removed. Any scalar type, any tolerance. The harness' `wild` stream compares the code with
the model on such inputs. -/
theorem vw_sentinel_first_pass (big eps2 : α) (L : List (Fix α)) (h3 : 3 ≤ L.length)
    (h : ∀ (j : Nat) (v : α), 0 < j → aireVisval L j = some v → ¬ v < big ∧ ¬ (v == big) = true) :
    ∃ S', vwStep big eps2 (vwInit L) = some S' ∧ S'.map (·.1) = L.eraseIdx 0 := by
  have hh : ¬ Hit big (vwInit L) := fun hh => by
    obtain ⟨j, v, hj0, hv, hb⟩ := (hit_vwInit_iff big L).mp hh
    exact hb.elim (h j v hj0 hv).1 (h j v hj0 hv).2
  exact ⟨_, vwStep_of_not_hit big eps2 _ (by rw [vwInit_length]; omega) (vwInit_firstNaN L (by omega)) hh,
    by rw [vwBody_map_fst, vwInit_map_fst]⟩

/-- T6'' (what b728412 repaired, seen from Visvalingam): as soon as **one** interior fix has an initial triangle area that is a number
below ARGMIN's initial minimum **or equal to it** — `+inf` itself: an infinite area, which the scan started from `(inf, index 0)` never
found before b728412 — the first pass, if the loop makes one, removes an observation **other than the first**. (T14 is the same
statement for every pass of the run.) Any scalar type, any tolerance. -/
theorem vw_first_pass_found (big eps2 : α) (L : List (Fix α)) (h1 : 1 ≤ L.length) (S' : VState α)
    (h : ∃ (j : Nat) (v : α), 0 < j ∧ aireVisval L j = some v ∧ (v < big ∨ (v == big) = true))
    (hs : vwStep big eps2 (vwInit L) = some S') : (S'.map (·.1)).head? = L.head? := by
  have := (vwStep_hit big eps2 (vwInit L) S' (vwInit_firstNaN L h1) ((hit_vwInit_iff big L).mpr h) hs).2.1
  rwa [vwInit_map_fst] at this

/-- T8: the positions of the `Track` returned by `douglas_peucker(track, eps)` are exactly those of the list-level model
`douglasPeucker` (and the call recurses for ever exactly when the list-level model does): T1–T5, T7 are statements about
the `Track` that `simplify(track, eps, MODE_SIMPLIFY_DOUGLAS_PEUCKER)` returns. Any scalar type. -/
theorem dp_track_points (sqrt : α → α) (eps : α) (T : Trk α) :
    (dpTrk sqrt eps T).map (fun O => fixes O.pts) = douglasPeucker sqrt eps (fixes T.pts) := by
  unfold dpTrk douglasPeucker
  rw [dpTrkFuel_fixes, List.length_map]

/-- T8: Douglas–Peucker returns the input's **observations** — position, timestamp tag *and feature row* — as a
sub-sequence in the original order, first and last observation included (closed loops, duplicates included). The `Track`
object around them is new: its feature dict is **empty** (the rows keep their values, the names are not transmitted) and
its `uid`, `tid`, `base` are the input's or — when the left-most piece of the recursion has at most two fixes — the
constructor's defaults `0, 0, None`; a track of at most two fixes comes back as `Track(L)` with the defaults. -/
theorem dp_track_obs (sqrt : α → α) (eps : α) (T O : Trk α) (h : dpTrk sqrt eps T = some O) :
    O.pts.Sublist T.pts ∧ O.pts.head? = T.pts.head? ∧ O.pts.getLast? = T.pts.getLast? ∧ O.dico = [] ∧
    (O.info = T.info ∨ O.info = Info.default) ∧
    (T.pts.length ≤ 2 → O = ⟨T.pts, Info.default, []⟩) := by
  obtain ⟨t, d, e⟩ := dpTrkFuel_tree sqrt eps T.pts.length T O h
  refine ⟨t.sublist, t.ends.1, t.ends.2, d, e, fun hl => ?_⟩
  rw [dpTrk, dpTrkFuel_short _ _ _ _ hl] at h
  exact (Option.some.inj h).symm

/-- T9: Visvalingam on a `Track` whose feature table is well formed and has no `'@aire'` column (`FreshTable`), **any**
tolerance, any areas: the call succeeds; the positions returned are those of the list-level model `visvalingam` (so T6
is about the `Track` returned); the **observations** returned — position, tag and feature row — are a sub-sequence of the
input's; the feature dict and `uid`, `tid`, `base` of the result are the input's. The temporary `'@aire'` column is
created as the last column, read by ARGMIN, updated, and removed without a trace (no entry left in any row, no index
of the dict shifted). The input track is not written at all: the function works on `track.copy()` (a deep copy); the
model is a function of the input. -/
theorem vw_track (big eps : α) (T : Trk α) (hf : FreshTable T) (hne : T.pts ≠ []) :
    ∃ O, vwTrk big eps T = .ok O ∧ fixes O.pts = visvalingam big eps (fixes T.pts) ∧ O.pts.Sublist T.pts ∧
      O.dico = T.dico ∧ O.info = T.info := by
  obtain ⟨O, h, a, b, _, _, c, d⟩ := vwTrk_any big eps T hf hne
  exact ⟨O, h, a, b, c, d⟩

/-- T9 (ends): with T6's hypothesis the first and the last **observation** (feature rows included) are kept. -/
theorem vw_track_ends (big eps : α) (T O : Trk α) (hf : FreshTable T) (h2 : 2 ≤ T.pts.length)
    (hbig : ∀ a b c, a ∈ fixes T.pts → b ∈ fixes T.pts → c ∈ fixes T.pts → areaFix a b c < big)
    (h : vwTrk big eps T = .ok O) :
    O.pts.head? = T.pts.head? ∧ O.pts.getLast? = T.pts.getLast? :=
  vwTrk_ends_no_nan big eps T O hf h2 (fun a b c ha hb hc => Or.inl (hbig a b c ha hb hc)) h

/-- composition with C04: `output.removeObs(id)` — `removeObsList([id])`, modelled for C04 by `TV.Seq.removeObs`, which the
`Track`-level loop calls — is the `eraseIdx` of the list-level loop, for every index ARGMIN can return. (The `+` of
Douglas–Peucker is C04's `Track.__add__`: `trkAdd` uses C04's `TV.Seq.sameNames` rule for the feature dict as it is.) -/
theorem vw_removeObs_is_C04 {β : Type} (S : List β) (id : Nat) :
    (TV.Seq.removeObs S (id : Int)).1 = S.eraseIdx id :=
  removeObs_eq_eraseIdx S id

/-- the dispatcher: `simplify(track, tol, 1)` (also the default mode) is `douglas_peucker(track, tol)`, mode `2` is
`visvalingam(track, tol)`; modes 3 … 8 call other functions (squaring moves positions; 4 … 8 are
`optimalSimplification`, the dynamic programme of C12) — the statement of C16 is about modes 1 and 2 only; any other
mode raises (`NameError`: `NotYetImplementedError` is not imported by simplification.py). -/
theorem simplify_dispatch (sqrt : α → α) (big tol : α) (T : Trk α) :
    simplify sqrt big T tol 1 = (match dpTrk sqrt tol T with | some O => .ok O | none => .error "RecursionError") ∧
    simplify sqrt big T tol 2 = vwTrk big tol T ∧
    (∀ m : Int, m < 1 ∨ 8 < m → simplify sqrt big T tol m = .error "NameError") := by
  refine ⟨rfl, rfl, fun m hm => ?_⟩
  have ne : ∀ k : Int, 1 ≤ k → k ≤ 8 → (m == k) = false := fun k h1 h8 => beq_eq_false_iff_ne.mpr (by omega)
  have : dispatch m = .nameError := by
    simp only [dispatch, ne 1 (by decide) (by decide), ne 2 (by decide) (by decide), ne 3 (by decide) (by decide),
      ne 4 (by decide) (by decide), ne 5 (by decide) (by decide), ne 6 (by decide) (by decide), ne 7 (by decide) (by decide),
      ne 8 (by decide) (by decide), Bool.or_self, Bool.false_eq_true, ↓reduceIte]
  unfold simplify
  rw [this]

/-- T12 on the `Track` object (well-formed feature table without `'@aire'`, non-empty track, **any** areas, any tolerance): the
call succeeds, the observations returned (feature rows included) are a sub-sequence of the input's, the last observation is
kept, and a track of two or more observations keeps at least two. -/
theorem vw_track_any (big eps : α) (T : Trk α) (hf : FreshTable T) (hne : T.pts ≠ []) :
    ∃ O, vwTrk big eps T = .ok O ∧ O.pts.Sublist T.pts ∧ O.pts.getLast? = T.pts.getLast? ∧
      (2 ≤ T.pts.length → 2 ≤ O.pts.length) := by
  obtain ⟨O, h, _, a, b, c, _⟩ := vwTrk_any big eps T hf hne
  exact ⟨O, h, a, b, c⟩

/-- `simplify()` never reads `track.no_data_value`: on a track that carries the attribute (a track read with
`TrackReader.readFromFile`, whose blank / `NA` lines are fixes placed at that value) the observations returned are exactly
those returned for the same track without the attribute — the placeholder fixes are observations like the others, none is
left out before simplifying —; the result's own attribute is `None` after Douglas–Peucker (a new `Track`) and the input's
after Visvalingam (the copy). Any scalar type. -/
theorem simplify_nodata (sqrt : α → α) (big tol : α) (T : TrkN α) (mode : Int) :
    (∀ O, simplifyN sqrt big T tol mode = .ok O → simplify sqrt big T.trk tol mode = .ok O.trk) ∧
    (∀ O, simplify sqrt big T.trk tol mode = .ok O → ∃ O', simplifyN sqrt big T tol mode = .ok O' ∧ O'.trk = O) ∧
    (∀ e, simplifyN sqrt big T tol mode = .error e ↔ simplify sqrt big T.trk tol mode = .error e) ∧
    (∀ O, simplifyN sqrt big T tol 1 = .ok O → O.nodata = none) ∧
    (∀ O, simplifyN sqrt big T tol 2 = .ok O → O.nodata = T.nodata) := by
  exact ⟨fun O h => ((simplifyN_ok sqrt big T tol mode O).mp h).1,
    fun O h => ⟨⟨O, _⟩, (simplifyN_ok sqrt big T tol mode _).mpr ⟨h, rfl⟩, rfl⟩,
    fun e => simplifyN_error sqrt big T tol mode e,
    fun O h => ((simplifyN_ok sqrt big T tol 1 O).mp h).2,
    fun O h => ((simplifyN_ok sqrt big T tol 2 O).mp h).2⟩

/-- `Network.simplify(tolerance, mode)` is `simplify` on every edge geometry, in the edges' order: when it succeeds the
i-th geometry of the result is what `simplify` returns for the i-th geometry. Any scalar type. -/
theorem net_simplify_each (sqrt : α → α) (big tol : α) (mode : Int) (G O : List (TrkN α))
    (h : netSimplify sqrt big G tol mode = .ok O) :
    List.Forall₂ (fun g o => simplifyN sqrt big g tol mode = .ok o) G O :=
  (Common.mapM_ok_iff_forall₂ _ G O).mp h

/-- T15 (what the entry point is): `collection.simplify(tolerance, mode)` returns, in the collection's order, what
`simplify(track, tolerance, mode)` returns for (a deep copy of) every track — as many tracks as the collection has; when it fails,
it fails with the exception of one of these calls; an empty collection comes back empty whatever the mode; and the default of
`mode` is `1`, Douglas–Peucker. The model is a function: the caller's collection and tracks are not written. Any scalar type. -/
theorem coll_simplify_each (sqrt : α → α) (big tol : α) (mode : Int) (C : List (TrkN α)) :
    (∀ O, collSimplify sqrt big C tol mode = .ok O →
      List.Forall₂ (fun t o => simplifyN sqrt big t tol mode = .ok o) C O ∧ O.length = C.length) ∧
    (∀ e, collSimplify sqrt big C tol mode = .error e → ∃ t ∈ C, simplifyN sqrt big t tol mode = .error e) ∧
    collSimplify sqrt big ([] : List (TrkN α)) tol mode = .ok [] ∧
    collSimplify sqrt big C tol = collSimplify sqrt big C tol 1 := by
  refine ⟨fun O h => ?_, fun e h => Common.mapM_error_mem h, rfl, rfl⟩
  have := (Common.mapM_ok_iff_forall₂ _ C O).mp h
  exact ⟨this, this.length_eq.symm⟩

/-- T15 (modes the dispatcher refuses): on a non-empty collection a mode outside 1 … 8 raises (`NameError`, from the first track). -/
theorem coll_simplify_invalid_mode (sqrt : α → α) (big tol : α) (m : Int) (hm : m < 1 ∨ 8 < m) (t : TrkN α) (C : List (TrkN α)) :
    collSimplify sqrt big (t :: C) tol m = .error "NameError" := by
  have h1 : simplifyN sqrt big t tol m = .error "NameError" := by
    unfold simplifyN
    rw [(simplify_dispatch sqrt big tol t.trk).2.2 m hm]
  unfold collSimplify
  rw [List.mapM_cons, h1]; rfl

/-- Visvalingam through `simplify()` on one track that carries `no_data_value` (well-formed feature table without `'@aire'`, non-empty):
what T9, T12 and T9 (ends) say, about the result of `simplify(track, eps, 2)` -/
theorem simplifyN_vw (big eps : α) (sqrt : α → α) (t : TrkN α) (hf : FreshTable t.trk) (hne : t.trk.pts ≠ []) :
    ∃ o, simplifyN sqrt big t eps 2 = .ok o ∧
      (o.trk.pts.Sublist t.trk.pts ∧ o.trk.pts.getLast? = t.trk.pts.getLast? ∧
        (2 ≤ t.trk.pts.length → 2 ≤ o.trk.pts.length) ∧
        o.trk.dico = t.trk.dico ∧ o.trk.info = t.trk.info ∧ o.nodata = t.nodata ∧
        (2 ≤ t.trk.pts.length →
          (∀ a b c, a ∈ fixes t.trk.pts → b ∈ fixes t.trk.pts → c ∈ fixes t.trk.pts → areaFix a b c < big) →
          o.trk.pts.head? = t.trk.pts.head?)) := by
  obtain ⟨T', h, _, hs, hl, h2, hd, hi⟩ := vwTrk_any big eps t.trk hf hne
  have hs2 : simplify sqrt big t.trk eps 2 = .ok T' := by rw [(simplify_dispatch sqrt big eps t.trk).2.1, h]
  exact ⟨⟨T', t.nodata⟩, (simplifyN_ok sqrt big t eps 2 _).mpr ⟨hs2, rfl⟩, hs, hl, h2, hd, hi, rfl,
    fun h2' hbig => (vw_track_ends big eps t.trk T' hf h2' hbig h).1⟩

/-- T15, the statement of C16 for **Visvalingam on every track of a collection** (`collection.simplify(tolerance, 2)`; any scalar type,
any tolerance, any areas): if every track is non-empty and has a well-formed feature table without `'@aire'`, the call succeeds and,
track by track, the observations returned (feature rows included) are a sub-sequence of the track's, the **last** observation is
kept, a track of two or more observations keeps at least two, feature dict, `uid`/`tid`/`base` and `no_data_value` are the track's;
and for every track of ≥ 2 fixes whose triangle areas are below ARGMIN's start value (T6's hypothesis: finite areas) the **first**
observation is kept too. -/
theorem coll_simplify_vw (big eps : α) (sqrt : α → α) (C : List (TrkN α))
    (hC : ∀ t ∈ C, FreshTable t.trk ∧ t.trk.pts ≠ []) :
    ∃ O, collSimplify sqrt big C eps 2 = .ok O ∧ O.length = C.length ∧
      List.Forall₂ (fun t o =>
        o.trk.pts.Sublist t.trk.pts ∧ o.trk.pts.getLast? = t.trk.pts.getLast? ∧
        (2 ≤ t.trk.pts.length → 2 ≤ o.trk.pts.length) ∧
        o.trk.dico = t.trk.dico ∧ o.trk.info = t.trk.info ∧ o.nodata = t.nodata ∧
        (2 ≤ t.trk.pts.length →
          (∀ a b c, a ∈ fixes t.trk.pts → b ∈ fixes t.trk.pts → c ∈ fixes t.trk.pts → areaFix a b c < big) →
          o.trk.pts.head? = t.trk.pts.head?)) C O :=
  mapM_ok_forall₂ (fun t => simplifyN sqrt big t eps 2) _ C
    (fun t ht => simplifyN_vw big eps sqrt t (hC t ht).1 (hC t ht).2)

/-- T13 (ends): under T6's hypothesis (areas below ARGMIN's initial minimum `+inf`: finite areas) **every** such run keeps the
first and the last observation, and at least two observations. Any scalar type, any tolerance; closed loops, repeated positions
(many equal areas: the case where the runs differ most) included. -/
theorem vw_any_tiebreak (big eps : α) (L out : List (Fix α)) (h2 : 2 ≤ L.length)
    (hbig : ∀ a b c, a ∈ L → b ∈ L → c ∈ L → areaFix a b c < big) (h : VwAnyResult big eps L out) :
    out.Sublist L ∧ out.head? = L.head? ∧ out.getLast? = L.getLast? ∧ 2 ≤ out.length := by
  have ⟨a, b, c, d, _⟩ := vw_any_tiebreak_stable big eps L out h2 (fun a b c ha hb hc => Or.inl (hbig a b c ha hb hc)) h
  exact ⟨a, b, c, d⟩

/-- T13 (the enumeration the correspondence check uses is sound): every result that `visvalingamAll` returns — the driver's
level-by-level enumeration, states holding the same observations merged, given up (`none`) beyond `cap` states per level — is a
`VwAnyResult`: the check accepts a different result of the implementation only if it is one of the runs T13 is about. -/
theorem vw_all_levels_sound (big eps : α) (cap : Nat) (L : List (Fix α)) (R : List (List (Fix α)))
    (h : visvalingamAll big eps cap L = some R) : ∀ out ∈ R, VwAnyResult big eps L out := by
  unfold visvalingamAll at h
  obtain ⟨R0, hR, rfl⟩ := Option.map_eq_some_iff.mp h
  intro out ho
  obtain ⟨S, hS, e⟩ := List.mem_map.mp ho
  rcases vwAllLevels_sound big (eps * eps) cap (L.length + 1) [vwInit L] [] R0 hR S hS with h0 | ⟨T, hT, r, hn⟩
  · cases h0
  · rw [List.mem_singleton.mp hT] at r
    exact ⟨S, r, hn, e.symm⟩

/-- T14 (mixed columns — some triangle areas finite, some infinite or NaN; at the level
of the passes): on a track of pairwise different observations (tagged fixes are), for any areas, any tolerance, any scalar type,
**the first observation is kept if and only if every pass of the loop finds a minimum** — `AllHit`: at every pass some entry of the
`'@aire'` column is a number below ARGMIN's initial minimum `+inf` or — since b728412 — equal to it. (Then ARGMIN answers an index `>= 1` and the NaN entry of the
first observation is never rewritten; otherwise it answers its default `0`, `NaN > eps` is `False`, and the first observation goes.)
T6 is the case where all areas are below `big` or equal to it (every pass then finds a minimum: `vw_sublist_ends_no_nan`, `Props/C16b.lean`), T6' the case
where none is (`vw_all_nan`, same file, for the whole run). -/
theorem vw_first_kept_iff (big eps : α) (L : List (Fix α)) (h1 : 1 ≤ L.length) (hn : L.Nodup) :
    (visvalingam big eps L).head? = L.head? ↔ AllHit big (eps * eps) L.length (vwInit L) := by
  have := vwLoop_first_iff big (eps * eps) L.length (vwInit L) (vwInit_firstNaN L h1)
    (by rw [vwInit_map_fst]; exact hn)
  rwa [vwInit_map_fst] at this

/-- a one-fix track is returned unchanged by both algorithms -/
theorem single_fix (sqrt : α → α) (big eps : α) (p : Fix α) :
    douglasPeucker sqrt eps [p] = some [p] ∧ visvalingam big eps [p] = [p] :=
  ⟨rfl, rfl⟩

end anyScalar

section totalOrderAnyArithmetic
/-! Theorems that use **only the order**: the scalar type is linearly ordered, its arithmetic (`+ − × ÷`, `sqrt`, `==`) is
arbitrary — rounded, saturating, anything. They are statements about the *computed* distances and areas, hence about the
floating-point run as long as no NaN arises (IEEE `<` is a linear order on the other doubles, infinities included). -/
variable {α : Type} [Add α] [Sub α] [Mul α] [Div α] [Neg α] [BEq α] [OfNat α 0] [OfNat α 1] [OfNat α 2] [LinearOrder α]

/-- T5' (tolerance, robust form — the part of T5 that survives rounding): let `W p a b` be any acceptance predicate ("`p` is
near enough to the segment `[a, b]`") such that (`hbase`) a fix whose **computed** distance to a chord is `< eps` is accepted
for that chord, and (`hself`) a vertex is accepted for every segment it ends. Then every input fix is accepted for a segment
between two **consecutive vertices of the output** polyline. With exact arithmetic `W` = "true distance ≤ eps" gives T5 (see the
example below); on doubles `W` = "true distance ≤ eps·(1+1e-9) + 1e-13·M" is what the transfer check samples, and `hbase` is
then a pointwise rounding bound on `distance_to_segment` alone (sampled by the `dist` stream) — the recursion, the split and
the concatenation add no error. -/
theorem dp_tolerance_any_arithmetic (sqrt : α → α) (eps : α) (W : Fix α → Fix α → Fix α → Prop)
    (hbase : ∀ a b p, distFix sqrt a b p < eps → W p a b) (hself : ∀ p q, W p p q ∧ W p q p)
    (L out : List (Fix α)) (h : douglasPeucker sqrt eps L = some out) (h2 : 2 ≤ L.length) :
    ∀ p ∈ L, ∃ a b, [a, b] <:+: out ∧ W p a b :=
  (dpFuel_tree sqrt eps L.length L out h).tolerance (chord_accept sqrt eps W hbase) hself h2

/-- T5' for every run the correspondence check accepts (any choice among equally far fixes) -/
theorem dp_any_tiebreak_tolerance_any_arithmetic (sqrt : α → α) (eps : α) (W : Fix α → Fix α → Fix α → Prop)
    (hbase : ∀ a b p, distFix sqrt a b p < eps → W p a b) (hself : ∀ p q, W p p q ∧ W p q p)
    (L : List (Fix α)) (h2 : 2 ≤ L.length) :
    ∀ out ∈ dpAllFuel sqrt eps L.length L, ∀ p ∈ L, ∃ a b, [a, b] <:+: out ∧ W p a b :=
  fun out h => (dpAllFuel_tree sqrt eps L.length L out h).tolerance (chord_accept sqrt eps W hbase) hself h2

/-- T3' (termination under rounded arithmetic): the hypothesis of T3 — `distance_to_segment(A; A, B)` is never `> 0` — follows from six
zero laws of the arithmetic (`ZeroLaws`: `x − x = 0`, `0·x = 0`, `0 + 0 = 0`, `0/x = 0`, `x + 0 = x`, `sqrt 0 = 0`; IEEE doubles
satisfy them on finite values) and the order: in either branch of `l == 0` the computed distance is `0`. Hence Douglas–Peucker
returns on every track for every `eps > 0`. -/
theorem dp_total_zero_laws (sqrt : α → α) (hz : ZeroLaws sqrt) (eps : α) (heps : (0 : α) < eps) (L : List (Fix α)) :
    ∃ out, douglasPeucker sqrt eps L = some out :=
  dp_total_of_self_distance sqrt eps heps hz.self_distance L

/-- the statement of C16 for Douglas–Peucker under **any arithmetic on a total order**: if a chord's first end is never at a
strictly positive computed distance from it (`hd0`; checked bit-exactly on the implementation by the `dist` stream) the call
returns; the result is a sub-sequence with both ends; every input fix is accepted (T5'). -/
theorem dp_correct_any_arithmetic (sqrt : α → α) (eps : α) (heps : (0 : α) < eps)
    (hd0 : ∀ a b : Fix α, ¬ (distFix sqrt a b a > 0)) (W : Fix α → Fix α → Fix α → Prop)
    (hbase : ∀ a b p, distFix sqrt a b p < eps → W p a b) (hself : ∀ p q, W p p q ∧ W p q p)
    (L : List (Fix α)) (h2 : 2 ≤ L.length) :
    ∃ out, douglasPeucker sqrt eps L = some out ∧ out.Sublist L ∧ out.head? = L.head? ∧ out.getLast? = L.getLast? ∧
      ∀ p ∈ L, ∃ a b, [a, b] <:+: out ∧ W p a b := by
  obtain ⟨out, h⟩ := dp_total_of_self_distance sqrt eps heps hd0 L
  exact ⟨out, h, dp_sublist sqrt eps L out h, (dp_ends sqrt eps L out h).1, (dp_ends sqrt eps L out h).2.1,
    dp_tolerance_any_arithmetic sqrt eps W hbase hself L out h h2⟩

/-- T10 for **every** run (T13): whichever of several equally small triangles is eliminated at each pass, every interior fix of the
result spans with its two neighbours in the result a triangle of (computed) area `> eps²`. Any arithmetic on a linear order; T6's
hypothesis. So all the results the correspondence check accepts honour the tolerance in Visvalingam's sense. -/
theorem vw_any_tiebreak_threshold (big eps : α) (L out : List (Fix α)) (h2 : 2 ≤ L.length)
    (hbig : ∀ a b c, a ∈ L → b ∈ L → c ∈ L → areaFix a b c < big) (h : VwAnyResult big eps L out)
    (i : Nat) (p0 p1 p2 : Fix α) (h0 : 0 < i)
    (e0 : out[i - 1]? = some p0) (e1 : out[i]? = some p1) (e2 : out[i + 1]? = some p2) :
    eps * eps < areaFix p0 p1 p2 := by
  have hnum : NumAreas big L := fun a b c ha hb hc => Or.inl (hbig a b c ha hb hc)
  obtain ⟨s, _, _, _, hstop⟩ := vw_any_tiebreak_stable big eps L out h2 hnum h
  exact vwInit_stop_above big (eps * eps) out (hnum.sublist s) hstop i p0 p1 p2 h0 e0 e1 e2

/-- T10 (threshold semantics of Visvalingam; **any arithmetic**: nothing is assumed about `+ − × ÷` — they may round as IEEE
doubles do —, only that `<` is a linear order, as it is on doubles away from NaN; the areas below are the *computed* ones): under
T6's hypothesis, **every interior fix of the result spans with its two neighbours *in the result* a triangle of area
`> eps²`** (`eps = eps * eps`: the tolerance is a length, compared squared with areas). ARGMIN designates a smallest entry of the
`'@aire'` column, the column holds, for every interior fix, the area of the triangle with its *current* neighbours
(consistency is an invariant of the loop: the two guarded updates after each removal are exactly the two entries that
the removal invalidates), and the loop only stops when two fixes remain or that smallest area exceeds `eps²`. -/
theorem vw_threshold (big eps : α) (L : List (Fix α)) (h2 : 2 ≤ L.length)
    (hbig : ∀ a b c, a ∈ L → b ∈ L → c ∈ L → areaFix a b c < big) (i : Nat) (p0 p1 p2 : Fix α) (h0 : 0 < i)
    (e0 : (visvalingam big eps L)[i - 1]? = some p0) (e1 : (visvalingam big eps L)[i]? = some p1)
    (e2 : (visvalingam big eps L)[i + 1]? = some p2) :
    eps * eps < areaFix p0 p1 p2 := by
  exact vw_any_tiebreak_threshold big eps L _ h2 hbig (vw_own_run_is_tiebreak_run big eps L) i p0 p1 p2 h0 e0 e1 e2

end totalOrderAnyArithmetic

section orderedField
variable {α : Type} [Field α] [LinearOrder α] [IsStrictOrderedRing α]

/-- T4: `distance_to_segment` (normalised scalar product, projection, clamp of the projected point to the
segment's bounding box, `l == 0` branch) is the distance to the **closed segment**: `d ≥ 0`,
`d² = |P − (A + t(B−A))|²` for some `t ∈ [0,1]`, and `d² ≤ |P − (A + t(B−A))|²` for all `t ∈ [0,1]`. -/
theorem dist_seg_spec (sqrt : α → α) (hs : SqrtOK sqrt) (x0 y0 x1 y1 x2 y2 : α) :
    0 ≤ distanceToSegment sqrt x0 y0 x1 y1 x2 y2 ∧
    (∃ t, 0 ≤ t ∧ t ≤ 1 ∧ distanceToSegment sqrt x0 y0 x1 y1 x2 y2 * distanceToSegment sqrt x0 y0 x1 y1 x2 y2 =
        q2 x0 y0 x1 y1 x2 y2 t) ∧
    (∀ t, 0 ≤ t → t ≤ 1 → distanceToSegment sqrt x0 y0 x1 y1 x2 y2 * distanceToSegment sqrt x0 y0 x1 y1 x2 y2 ≤
        q2 x0 y0 x1 y1 x2 y2 t) :=
  TV.Simplify.dist_seg_spec sqrt hs x0 y0 x1 y1 x2 y2

/-- T4 (executable form): `distance_to_segment² = distSegSq`, the square-root-free closed form that the driver
evaluates exactly on rationals to cross-check the harness' oracle. -/
theorem dist_sq_eq (sqrt : α → α) (hs : SqrtOK sqrt) (x0 y0 x1 y1 x2 y2 : α) :
    distanceToSegment sqrt x0 y0 x1 y1 x2 y2 * distanceToSegment sqrt x0 y0 x1 y1 x2 y2 =
      distSegSq x0 y0 x1 y1 x2 y2 :=
  TV.Simplify.dist_sq_eq sqrt hs x0 y0 x1 y1 x2 y2

/-- T3: Douglas–Peucker is defined (terminates) for every track — empty, one fix, closed loops, repeated
positions — and every tolerance `eps > 0`. -/
theorem dp_total (sqrt : α → α) (hs : SqrtOK sqrt) (eps : α) (heps : 0 < eps) (L : List (Fix α)) :
    ∃ out, douglasPeucker sqrt eps L = some out :=
  dp_total_zero_laws sqrt hs.zeroLaws eps heps L

/-- T5: every input fix lies within the tolerance of the simplified polyline: for each `p` of the input there
are two **consecutive** vertices `a, b` of the output and `t ∈ [0,1]` with `|p − (a + t(b−a))|² ≤ eps²`.
This is about the *output* polyline, not only about the chord the fix was tested against; the code's split
keeps `L[imax−1]` and `L[imax]` as adjacent vertices, which only adds a segment. -/
theorem dp_tolerance (sqrt : α → α) (hs : SqrtOK sqrt) (eps : α) (L out : List (Fix α))
    (h : douglasPeucker sqrt eps L = some out) (h2 : 2 ≤ L.length) :
    ∀ p ∈ L, ∃ a b, [a, b] <:+: out ∧ ∃ t, 0 ≤ t ∧ t ≤ 1 ∧ q2 p.x p.y a.x a.y b.x b.y t ≤ eps * eps :=
  dp_tolerance_any_arithmetic sqrt eps (Near (eps * eps)) (near_of_dist_lt sqrt hs eps) (near_self _ (mul_self_nonneg eps))
    L out h h2

/-- T7 (continued): the tolerance also holds whichever farthest fix is taken, and the code's own result
(first farthest fix) is one of the enumerated runs. -/
theorem dp_any_tiebreak_tolerance (sqrt : α → α) (hs : SqrtOK sqrt) (eps : α) (heps : 0 < eps) (L : List (Fix α))
    (h2 : 2 ≤ L.length) :
    (∀ out ∈ dpAllFuel sqrt eps L.length L, ∀ p ∈ L,
      ∃ a b, [a, b] <:+: out ∧ ∃ t, 0 ≤ t ∧ t ≤ 1 ∧ q2 p.x p.y a.x a.y b.x b.y t ≤ eps * eps) ∧
    (∀ out, douglasPeucker sqrt eps L = some out → out ∈ dpAllFuel sqrt eps L.length L) :=
  ⟨dp_any_tiebreak_tolerance_any_arithmetic sqrt eps (Near (eps * eps)) (near_of_dist_lt sqrt hs eps)
      (near_self _ (mul_self_nonneg eps)) L h2,
   fun out h => dpFuel_mem_all sqrt eps heps hs.zeroLaws.self_distance L.length L out h⟩

/-- the statement of C16 for Douglas–Peucker in one piece -/
theorem dp_correct (sqrt : α → α) (hs : SqrtOK sqrt) (eps : α) (heps : 0 < eps) (L : List (Fix α))
    (h2 : 2 ≤ L.length) :
    ∃ out, douglasPeucker sqrt eps L = some out ∧ out.Sublist L ∧
      out.head? = L.head? ∧ out.getLast? = L.getLast? ∧
      ∀ p ∈ L, ∃ a b, [a, b] <:+: out ∧ ∃ t, 0 ≤ t ∧ t ≤ 1 ∧ q2 p.x p.y a.x a.y b.x b.y t ≤ eps * eps := by
  exact dp_correct_any_arithmetic sqrt eps heps hs.zeroLaws.self_distance
    (Near (eps * eps)) (near_of_dist_lt sqrt hs eps) (near_self _ (mul_self_nonneg eps)) L h2

/-- Douglas–Peucker on the `Track`, for a track of **any** length (a track of fewer than two fixes comes back as it is and the
tolerance clause says nothing): the form the collection needs -/
theorem dp_track_all (sqrt : α → α) (hs : SqrtOK sqrt) (eps : α) (heps : 0 < eps) (T : Trk α) :
    ∃ O, dpTrk sqrt eps T = some O ∧ O.pts.Sublist T.pts ∧ O.pts.head? = T.pts.head? ∧
      O.pts.getLast? = T.pts.getLast? ∧
      (2 ≤ T.pts.length → ∀ p ∈ T.pts, ∃ a b, [a, b] <:+: fixes O.pts ∧
        ∃ t, 0 ≤ t ∧ t ≤ 1 ∧ q2 p.fix.x p.fix.y a.x a.y b.x b.y t ≤ eps * eps) := by
  obtain ⟨out, h⟩ := dp_total sqrt hs eps heps (fixes T.pts)
  have hp := dp_track_points sqrt eps T
  rw [h] at hp
  obtain ⟨O, hO, hp⟩ := Option.map_eq_some_iff.mp hp
  obtain ⟨a, b, c, _⟩ := dp_track_obs sqrt eps T O hO
  refine ⟨O, hO, a, b, c, fun h2 p hpm => ?_⟩
  rw [hp]
  exact dp_tolerance sqrt hs eps (fixes T.pts) out h (by rw [List.length_map]; exact h2) p.fix (List.mem_map.mpr ⟨p, hpm, rfl⟩)

/-- the statement of C16 for Douglas–Peucker **on the `Track`**: for every track of ≥ 2 fixes (any features, any
`uid/tid/base`) and every `eps > 0` the call returns a `Track` whose observations — feature rows included — are a
sub-sequence of the input's with both ends, and every input fix is within `eps` of a segment between two consecutive
vertices of the returned polyline. -/
theorem dp_track_correct (sqrt : α → α) (hs : SqrtOK sqrt) (eps : α) (heps : 0 < eps) (T : Trk α)
    (h2 : 2 ≤ T.pts.length) :
    ∃ O, dpTrk sqrt eps T = some O ∧ O.pts.Sublist T.pts ∧ O.pts.head? = T.pts.head? ∧
      O.pts.getLast? = T.pts.getLast? ∧
      ∀ p ∈ T.pts, ∃ a b, [a, b] <:+: fixes O.pts ∧
        ∃ t, 0 ≤ t ∧ t ≤ 1 ∧ q2 p.fix.x p.fix.y a.x a.y b.x b.y t ≤ eps * eps := by
  obtain ⟨O, h, a, b, c, d⟩ := dp_track_all sqrt hs eps heps T
  exact ⟨O, h, a, b, c, d h2⟩

/-- … and through `simplify()` on a track that carries `no_data_value`, again for a track of any length -/
theorem simplifyN_dp_all (sqrt : α → α) (hs : SqrtOK sqrt) (big eps : α) (heps : 0 < eps) (T : TrkN α) :
    ∃ O, simplifyN sqrt big T eps 1 = .ok O ∧ O.nodata = none ∧ O.trk.pts.Sublist T.trk.pts ∧
      O.trk.pts.head? = T.trk.pts.head? ∧ O.trk.pts.getLast? = T.trk.pts.getLast? ∧
      (2 ≤ T.trk.pts.length → ∀ p ∈ T.trk.pts, ∃ a b, [a, b] <:+: fixes O.trk.pts ∧
        ∃ t, 0 ≤ t ∧ t ≤ 1 ∧ q2 p.fix.x p.fix.y a.x a.y b.x b.y t ≤ eps * eps) := by
  obtain ⟨O, h, a, b, c, d⟩ := dp_track_all sqrt hs eps heps T.trk
  have hs1 : simplify sqrt big T.trk eps 1 = .ok O := by
    rw [(simplify_dispatch sqrt big eps T.trk).1, h]
  exact ⟨⟨O, none⟩, (simplifyN_ok sqrt big T eps 1 _).mpr ⟨hs1, rfl⟩, rfl, a, b, c, d⟩

/-- the statement of C16 for Douglas–Peucker **through `simplify()` on a track made by a reader** (any `no_data_value`, any
number of placeholder fixes anywhere — first and last included): a result exists, the observations returned are a sub-sequence
of **all** the input's observations with both ends, and **every** input observation, placeholder or not, is within `eps` of
the returned polyline. -/
theorem simplify_nodata_dp_correct (sqrt : α → α) (hs : SqrtOK sqrt) (big eps : α) (heps : 0 < eps) (T : TrkN α)
    (h2 : 2 ≤ T.trk.pts.length) :
    ∃ O, simplifyN sqrt big T eps 1 = .ok O ∧ O.nodata = none ∧ O.trk.pts.Sublist T.trk.pts ∧
      O.trk.pts.head? = T.trk.pts.head? ∧ O.trk.pts.getLast? = T.trk.pts.getLast? ∧
      ∀ p ∈ T.trk.pts, ∃ a b, [a, b] <:+: fixes O.trk.pts ∧
        ∃ t, 0 ≤ t ∧ t ≤ 1 ∧ q2 p.fix.x p.fix.y a.x a.y b.x b.y t ≤ eps * eps := by
  obtain ⟨O, h, n, a, b, c, d⟩ := simplifyN_dp_all sqrt hs big eps heps T
  exact ⟨O, h, n, a, b, c, d h2⟩

/-- T15, the statement of C16 for **Douglas–Peucker on every track of a collection** — `collection.simplify(tolerance)`, the default
mode, or `collection.simplify(tolerance, 1)` — over an ordered field with an exact sqrt: for **every** collection (empty, tracks of 0, 1, 2
fixes, reader-made tracks with placeholder fixes, closed loops, repeated positions) and every `eps > 0` the call returns as many tracks
as the collection has and, track by track in the collection's order: the observations returned (feature rows included) are a
sub-sequence of the track's, the first and the last observation are kept, `no_data_value` of the new `Track` is `None`, and for a
track of ≥ 2 fixes every input fix is within `eps` of a segment between two consecutive vertices of the returned polyline. -/
theorem coll_simplify_dp_correct (sqrt : α → α) (hs : SqrtOK sqrt) (big eps : α) (heps : 0 < eps) (C : List (TrkN α)) :
    ∃ O, collSimplify sqrt big C eps = .ok O ∧ O.length = C.length ∧
      List.Forall₂ (fun t o =>
        o.nodata = none ∧ o.trk.pts.Sublist t.trk.pts ∧ o.trk.pts.head? = t.trk.pts.head? ∧
        o.trk.pts.getLast? = t.trk.pts.getLast? ∧
        (2 ≤ t.trk.pts.length → ∀ p ∈ t.trk.pts, ∃ a b, [a, b] <:+: fixes o.trk.pts ∧
          ∃ u, 0 ≤ u ∧ u ≤ 1 ∧ q2 p.fix.x p.fix.y a.x a.y b.x b.y u ≤ eps * eps)) C O :=
  mapM_ok_forall₂ (fun t => simplifyN sqrt big t eps 1) _ C (fun t _ => simplifyN_dp_all sqrt hs big eps heps t)

end orderedField

/-- T5 is the instance of T5' with `W` = "within `eps` of the closed segment" (exact arithmetic: ordered field, correct sqrt) -/
example {α : Type} [Field α] [LinearOrder α] [IsStrictOrderedRing α] (sqrt : α → α) (hs : SqrtOK sqrt) (eps : α)
    (L out : List (Fix α)) (h : douglasPeucker sqrt eps L = some out) (h2 : 2 ≤ L.length) :
    ∀ p ∈ L, ∃ a b, [a, b] <:+: out ∧ ∃ t, 0 ≤ t ∧ t ≤ 1 ∧ q2 p.x p.y a.x a.y b.x b.y t ≤ eps * eps :=
  dp_tolerance_any_arithmetic sqrt eps (Near (eps * eps)) (near_of_dist_lt sqrt hs eps) (near_self _ (mul_self_nonneg eps))
    L out h h2

/-- an arithmetic that is *not* exact — integers with truncating division and an integer square root — is a legitimate scalar
type for T5', T10 and T12: Douglas–Peucker run on it (the computed distance of `(2,3)` to the chord is `sqrt 9 = 3`) -/
def isqrt (x : Int) : Int := Int.ofNat (Nat.sqrt x.toNat)

example : ZeroLaws isqrt :=
  ⟨Int.sub_self, Int.zero_mul, rfl, Int.zero_ediv, Int.add_zero, by decide⟩

example : douglasPeucker isqrt 4 [(⟨0, 0, 0⟩ : Fix Int), ⟨1, 2, 3⟩, ⟨2, 4, 0⟩] = some [⟨0, 0, 0⟩, ⟨2, 4, 0⟩] := by decide +kernel

/-- the real square root satisfies the contract -/
example : SqrtOK Real.sqrt := fun x hx => ⟨Real.sqrt_nonneg x, Real.mul_self_sqrt hx⟩

/-- hence over ℝ with `Real.sqrt` the whole statement holds for every track and every positive tolerance -/
example (eps : ℝ) (heps : 0 < eps) (L : List (Fix ℝ)) (h2 : 2 ≤ L.length) :
    ∃ out, douglasPeucker Real.sqrt eps L = some out ∧ out.Sublist L ∧
      out.head? = L.head? ∧ out.getLast? = L.getLast? ∧
      ∀ p ∈ L, ∃ a b, [a, b] <:+: out ∧ ∃ t, 0 ≤ t ∧ t ≤ 1 ∧ q2 p.x p.y a.x a.y b.x b.y t ≤ eps * eps :=
  dp_correct Real.sqrt (fun x hx => ⟨Real.sqrt_nonneg x, Real.mul_self_sqrt hx⟩) eps heps L h2

/-- a closed loop over ℚ with rational chord lengths (`sqrt` only has to be right on the values it meets in
this run: the 3-4-5 triangle). Regression witness for ec611a5: first = last, the chord has length 0. -/
def sqrtTab (x : Rat) : Rat := if x = 25 then 5 else if x = 16 then 4 else if x = 9 then 3 else if x = 0 then 0 else x

example : douglasPeucker sqrtTab 1 [⟨0, 0, 0⟩, ⟨1, 4, 0⟩, ⟨2, 4, 3⟩, ⟨3, 0, 0⟩]
    = some [⟨0, 0, 0⟩, ⟨1, 4, 0⟩, ⟨2, 4, 3⟩, ⟨3, 0, 0⟩] := by decide +kernel

/-- the odd split at work: `imax = 2`, both `L[1]` and `L[2]` survive although `L[1]` is on the chord -/
example : douglasPeucker sqrtTab 1 [⟨0, 0, 0⟩, ⟨1, 2, 0⟩, ⟨2, 4, 3⟩, ⟨3, 4, 0⟩]
    = some [⟨0, 0, 0⟩, ⟨1, 2, 0⟩, ⟨2, 4, 3⟩, ⟨3, 4, 0⟩] := by decide +kernel

/-- Visvalingam on the witness of 1a5eeec (`(0,0),(1,1),(2,0),(0,0)`, tolerance 1): the first fix stays -/
example : visvalingam (10 ^ 300 : Rat) 1 [⟨0, 0, 0⟩, ⟨1, 1, 1⟩, ⟨2, 2, 0⟩, ⟨3, 0, 0⟩] = [⟨0, 0, 0⟩, ⟨3, 0, 0⟩] := by
  decide +kernel

example : ∀ a ∈ [(⟨0, 0, 0⟩ : Fix Rat), ⟨1, 1, 1⟩, ⟨2, 2, 0⟩, ⟨3, 0, 0⟩], ∀ b ∈ [(⟨0, 0, 0⟩ : Fix Rat), ⟨1, 1, 1⟩, ⟨2, 2, 0⟩, ⟨3, 0, 0⟩],
    ∀ c ∈ [(⟨0, 0, 0⟩ : Fix Rat), ⟨1, 1, 1⟩, ⟨2, 2, 0⟩, ⟨3, 0, 0⟩], areaFix a b c < (10 ^ 300 : Rat) := by
  decide +kernel

/-- the hypothesis `hbig` of T6 cannot be dropped: with an area above ARGMIN's sentinel (here `big = 1`,
area 8) ARGMIN answers its default index 0 and the first fix is removed — on the real code, where the sentinel is `+inf`, this
needs an area that is NaN (coordinates of about 1e154 and more; class `vw-area-reaches-argmin-sentinel` of the harness). -/
example : visvalingam (1 : Rat) 1 [⟨0, 0, 0⟩, ⟨1, 2, 4⟩, ⟨2, 4, 0⟩] = [⟨1, 2, 4⟩, ⟨2, 4, 0⟩] := by decide +kernel

/-- T10 at work over ℚ: tolerance 1 (threshold 1 on areas) drops the fix whose triangle has area 1 (`1 > 1` is false) and
keeps the two others, whose triangles with their neighbours *in the result* have areas 2 and 4 -/
example : visvalingam (10 ^ 300 : Rat) 1 [⟨0, 0, 0⟩, ⟨1, 1, 1⟩, ⟨2, 2, 0⟩, ⟨3, 4, 2⟩, ⟨4, 6, 0⟩] =
    [⟨0, 0, 0⟩, ⟨2, 2, 0⟩, ⟨3, 4, 2⟩, ⟨4, 6, 0⟩] := by decide +kernel

/-- T11 at work over ℚ: tolerance 1000 on a five-fix track (every area is far below 10⁶): the two ends -/
example : visvalingam (10 ^ 300 : Rat) 1000 [⟨0, 0, 0⟩, ⟨1, 1, 1⟩, ⟨2, 2, 0⟩, ⟨3, 4, 2⟩, ⟨4, 6, 0⟩] =
    [⟨0, 0, 0⟩, ⟨4, 6, 0⟩] := by decide +kernel

/-- T6' at work (`big = 1`; the only interior fix has area 8): its hypothesis holds, the first pass removes the first fix -/
example : ∀ j ∈ [1, 2, 3], ∀ v, aireVisval [(⟨0, 0, 0⟩ : Fix Rat), ⟨1, 2, 4⟩, ⟨2, 4, 0⟩] j = some v →
    ¬ v < (1 : Rat) ∧ ¬ (v == (1 : Rat)) = true := by
  decide +kernel

/-- T6'' at work (`big = 8`, the only interior fix has area 8 = the start value, "infinite"): since b728412 it is found, `8 > 1` breaks
the loop at once and all three observations come back; before b728412 ARGMIN answered 0 and the first fix went -/
example : visvalingam (8 : Rat) 1 [⟨0, 0, 0⟩, ⟨1, 2, 4⟩, ⟨2, 4, 0⟩] = [⟨0, 0, 0⟩, ⟨1, 2, 4⟩, ⟨2, 4, 0⟩] := by decide +kernel

/-- … and with a tolerance whose square is not below the area (`8 > 9` is false) the fix found goes, the two ends stay -/
example : visvalingam (8 : Rat) 3 [⟨0, 0, 0⟩, ⟨1, 2, 4⟩, ⟨2, 4, 0⟩] = [⟨0, 0, 0⟩, ⟨2, 4, 0⟩] := by decide +kernel

/-- a track with two features (`tag` in column 0, `w` in column 1), `uid = 7`, `tid = 9`, `base = 5` -/
def demoTrk : Trk Rat :=
  ⟨[⟨⟨0, 0, 0⟩, [some 0, some 5]⟩, ⟨⟨1, 1, 1⟩, [some 1, some 5]⟩, ⟨⟨2, 2, 0⟩, [some 2, none]⟩, ⟨⟨3, 0, 0⟩, [some 3, some 5]⟩],
   ⟨7, 9, some 5⟩, [("tag", 0), ("w", 1)]⟩

example : FreshTable demoTrk := ⟨by decide +kernel, by decide +kernel, by decide +kernel⟩

/-- Visvalingam on it (tolerance 1): the two ends with their own rows, the dict and `uid/tid/base` of the input -/
example : vwTrk (10 ^ 300 : Rat) 1 demoTrk =
    .ok ⟨[⟨⟨0, 0, 0⟩, [some 0, some 5]⟩, ⟨⟨3, 0, 0⟩, [some 3, some 5]⟩], ⟨7, 9, some 5⟩, [("tag", 0), ("w", 1)]⟩ := by
  decide +kernel

/-- outside `FreshTable`: a track that already has a feature called `'@aire'` (here in column 0, before `w`). The column is
overwritten with triangle areas and then **deleted** from the result — the user's feature is lost and `w` moves to column
0 (class `vw-user-feature-named-aire` of the harness). -/
example : vwTrk (10 ^ 300 : Rat) (1 / 2)
      ⟨[⟨⟨0, 0, 0⟩, [some 8, some 5]⟩, ⟨⟨1, 1, 1⟩, [some 8, some 6]⟩, ⟨⟨2, 2, 0⟩, [some 8, some 7]⟩], ⟨0, 0, none⟩,
        [("@aire", 0), ("w", 1)]⟩ =
    .ok ⟨[⟨⟨0, 0, 0⟩, [some 5]⟩, ⟨⟨1, 1, 1⟩, [some 6]⟩, ⟨⟨2, 2, 0⟩, [some 7]⟩], ⟨0, 0, none⟩, [("w", 0)]⟩ := by
  decide +kernel

/-- outside `FreshTable` (2): observations that carry more feature values than the dict names — `Track(other.getObsList())`, in
particular **every Douglas–Peucker result of a track with features** (T8: the rows travel, the dict is empty). `createAnalyticalFeature`
gives `'@aire'` the column `len(dico) = 0` but appends its slot at the end of the rows, so the areas overwrite the first value and
`removeAnalyticalFeature` deletes it: every observation comes back without its first value and with a trailing `0.0`
(class `vw-feature-values-without-dict-entry` of the harness; the input's own observations are untouched, deep copy). -/
example : vwTrk (10 ^ 300 : Rat) (1 / 2)
      ⟨[⟨⟨0, 0, 0⟩, [some 10, some 5]⟩, ⟨⟨1, 1, 1⟩, [some 11, some 5]⟩, ⟨⟨2, 2, 0⟩, [some 12, some 5]⟩], ⟨0, 0, none⟩, []⟩ =
    .ok ⟨[⟨⟨0, 0, 0⟩, [some 5, some 0]⟩, ⟨⟨1, 1, 1⟩, [some 5, some 0]⟩, ⟨⟨2, 2, 0⟩, [some 5, some 0]⟩], ⟨0, 0, none⟩, []⟩ := by
  decide +kernel

/-- Douglas–Peucker on a track `(0,0), (2,3), (4,0)` with two features (`sqrtTab` is right on the values met: 0, 9, 16).
Tolerance 4 (> 3, the distance of the middle fix to the chord): the two ends — the rows travel, the dict is empty,
`uid/tid/base` are the input's … -/
def demoTrk2 : Trk Rat :=
  ⟨[⟨⟨0, 0, 0⟩, [some 0, some 5]⟩, ⟨⟨1, 2, 3⟩, [some 1, none]⟩, ⟨⟨2, 4, 0⟩, [some 2, some 5]⟩], ⟨7, 9, some 5⟩, [("tag", 0), ("w", 1)]⟩

example : dpTrk sqrtTab 4 demoTrk2 =
    some ⟨[⟨⟨0, 0, 0⟩, [some 0, some 5]⟩, ⟨⟨2, 4, 0⟩, [some 2, some 5]⟩], ⟨7, 9, some 5⟩, []⟩ := by
  decide +kernel

/-- … tolerance 3 (`dmax < eps` is false): split at `imax = 1`, the left piece `L[0:1]` has one fix and comes back as
`Track(L)`, whose defaults `uid = 0, tid = 0, base = None` the sum inherits -/
example : dpTrk sqrtTab 3 demoTrk2 =
    some ⟨[⟨⟨0, 0, 0⟩, [some 0, some 5]⟩, ⟨⟨1, 2, 3⟩, [some 1, none]⟩, ⟨⟨2, 4, 0⟩, [some 2, some 5]⟩], ⟨0, 0, none⟩, []⟩ := by
  decide +kernel

/-- … and a track of two fixes comes back with the defaults too -/
example : dpTrk sqrtTab 3 ⟨[⟨⟨0, 0, 0⟩, [some 0]⟩, ⟨⟨1, 4, 3⟩, [some 1]⟩], ⟨7, 9, some 5⟩, [("tag", 0)]⟩ =
    some ⟨[⟨⟨0, 0, 0⟩, [some 0]⟩, ⟨⟨1, 4, 3⟩, [some 1]⟩], ⟨0, 0, none⟩, []⟩ := by
  decide +kernel

/-- `sqrt` on the values met below: the chord `(-4,-4) … (0,-1)` has length 5, the middle fix `(-4,-1)` is at distance 12/5 -/
def sqrtTab2 (x : Rat) : Rat := if x = 25 then 5 else if x = 144 / 25 then 12 / 5 else if x = 0 then 0 else x

/-- a three-fix track whose first fix is a reader's placeholder at `no_data_value = -4` (`tid = 7`) -/
def demoTrkN : TrkN Rat :=
  ⟨⟨[⟨⟨0, -4, -4⟩, []⟩, ⟨⟨1, -4, -1⟩, []⟩, ⟨⟨2, 0, -1⟩, []⟩], ⟨0, 7, none⟩, []⟩, some (-4)⟩

/-- `simplify(track, 3, MODE_SIMPLIFY_DOUGLAS_PEUCKER)`: the placeholder is the first observation and stays; the result is a new
`Track`, its `no_data_value` is `None` … -/
example : simplifyN sqrtTab2 (10 ^ 300) demoTrkN 3 1 =
    .ok ⟨⟨[⟨⟨0, -4, -4⟩, []⟩, ⟨⟨2, 0, -1⟩, []⟩], ⟨0, 7, none⟩, []⟩, none⟩ := by decide +kernel

/-- … with tolerance 2 (< 12/5) the middle fix is kept as well … -/
example : (simplifyN sqrtTab2 (10 ^ 300) demoTrkN 2 1).map (fun O => O.trk.pts.length) = .ok 3 := by decide +kernel

/-- … and Visvalingam (area of the middle fix 6 ≤ 3²) returns the copy's attribute -/
example : simplifyN sqrtTab2 (10 ^ 300) demoTrkN 3 2 =
    .ok ⟨⟨[⟨⟨0, -4, -4⟩, []⟩, ⟨⟨2, 0, -1⟩, []⟩], ⟨0, 7, none⟩, []⟩, some (-4)⟩ := by decide +kernel

/-- `Network.simplify` on two edges -/
example : (netSimplify sqrtTab2 (10 ^ 300) [demoTrkN, demoTrkN] 3 2).map List.length = .ok 2 := by decide +kernel

/-- `TrackCollection.simplify` on two tracks, default mode (Douglas–Peucker, tolerance 3): two new tracks, the placeholder first fix
kept, `no_data_value` None … -/
example : collSimplify sqrtTab2 (10 ^ 300) [demoTrkN, demoTrkN] 3 =
    .ok [⟨⟨[⟨⟨0, -4, -4⟩, []⟩, ⟨⟨2, 0, -1⟩, []⟩], ⟨0, 7, none⟩, []⟩, none⟩,
         ⟨⟨[⟨⟨0, -4, -4⟩, []⟩, ⟨⟨2, 0, -1⟩, []⟩], ⟨0, 7, none⟩, []⟩, none⟩] := by decide +kernel

/-- … Visvalingam keeps the copies' attribute; a one-fix track and a two-fix track in the collection come back as they are
(the hypotheses of `coll_simplify_vw` hold for them) … -/
example : collSimplify sqrtTab2 (10 ^ 300) [demoTrkN, ⟨⟨[⟨⟨0, 1, 1⟩, []⟩], ⟨1, 2, none⟩, []⟩, none⟩,
      ⟨⟨[⟨⟨0, 1, 1⟩, []⟩, ⟨⟨1, 2, 1⟩, []⟩], ⟨3, 4, none⟩, []⟩, some 5⟩] 3 2 =
    .ok [⟨⟨[⟨⟨0, -4, -4⟩, []⟩, ⟨⟨2, 0, -1⟩, []⟩], ⟨0, 7, none⟩, []⟩, some (-4)⟩, ⟨⟨[⟨⟨0, 1, 1⟩, []⟩], ⟨1, 2, none⟩, []⟩, none⟩,
         ⟨⟨[⟨⟨0, 1, 1⟩, []⟩, ⟨⟨1, 2, 1⟩, []⟩], ⟨3, 4, none⟩, []⟩, some 5⟩] := by decide +kernel

example : ∀ t ∈ [demoTrkN, ⟨⟨[⟨⟨0, 1, 1⟩, []⟩], ⟨1, 2, none⟩, []⟩, none⟩], FreshTable t.trk ∧ t.trk.pts ≠ [] := by
  intro t ht
  simp only [List.mem_cons, List.not_mem_nil, or_false] at ht
  rcases ht with rfl | rfl <;> exact ⟨⟨by decide +kernel, by decide +kernel, by decide +kernel⟩, by decide +kernel⟩

/-- … an empty track stops Visvalingam (`AnalyticalFeatureError` from `addAnalyticalFeature`), and with it the whole call — the
hypothesis `t.trk.pts ≠ []` of `coll_simplify_vw` cannot be dropped —; Douglas–Peucker returns it … -/
example : collSimplify sqrtTab2 (10 ^ 300) [demoTrkN, ⟨⟨[], ⟨0, 0, none⟩, []⟩, none⟩] 3 2 = .error "AnalyticalFeatureError" := by
  decide +kernel

example : (collSimplify sqrtTab2 (10 ^ 300) [demoTrkN, ⟨⟨[], ⟨0, 0, none⟩, []⟩, none⟩] 3).map List.length = .ok 2 := by
  decide +kernel

/-- … an invalid mode raises on a non-empty collection and goes unnoticed on an empty one -/
example : collSimplify sqrtTab2 (10 ^ 300) [demoTrkN] 3 0 = .error "NameError" ∧
    collSimplify sqrtTab2 (10 ^ 300) ([] : List (TrkN Rat)) 3 0 = .ok [] := by decide +kernel

/-- T12 at work outside T6's hypothesis (`big = 1`, the only area is 8): the first observation is lost (T6'), the last one and two
observations are kept -/
example : (visvalingam (1 : Rat) 1 [⟨0, 0, 0⟩, ⟨1, 2, 4⟩, ⟨2, 4, 0⟩]).getLast? = some ⟨2, 4, 0⟩ := by decide +kernel

/-- a zig-zag: the three interior fixes span triangles of area 1 each (tolerance 1, threshold 1 on areas). The code eliminates
fix 1 (ARGMIN's first minimum), then fix 2 (area 1 with its new neighbours), and stops at fix 3, whose triangle now has area 2 … -/
def tieTrack : List (Fix Rat) := [⟨0, 0, 0⟩, ⟨1, 1, 1⟩, ⟨2, 2, 0⟩, ⟨3, 3, 1⟩, ⟨4, 4, 0⟩]

example : visvalingam (10 ^ 300 : Rat) 1 tieTrack = [⟨0, 0, 0⟩, ⟨3, 3, 1⟩, ⟨4, 4, 0⟩] := by decide +kernel

/-- … with another choice among the equal areas the run ends elsewhere: three different results, each a sub-sequence with both ends
whose interior fixes span an area > 1 (T13) -/
example : visvalingamAll (10 ^ 300 : Rat) 1 8 tieTrack =
    some [[⟨0, 0, 0⟩, ⟨3, 3, 1⟩, ⟨4, 4, 0⟩], [⟨0, 0, 0⟩, ⟨1, 1, 1⟩, ⟨4, 4, 0⟩], [⟨0, 0, 0⟩, ⟨4, 4, 0⟩]] := by decide +kernel

/-- a dwell: fixes 1 and 2 are at the same place, both triangles have area 0 (tolerance 1/2, threshold 1/4). Whichever goes first, the
other one then spans a triangle of area 1/2 with the ends and stays: two different results, both sub-sequences with both ends -/
def tieTrack2 : List (Fix Rat) := [⟨0, 0, 0⟩, ⟨1, 0, 1⟩, ⟨2, 0, 1⟩, ⟨3, 1, 0⟩]

example : visvalingamAll (10 ^ 300 : Rat) (1 / 2) 8 tieTrack2 =
    some [[⟨0, 0, 0⟩, ⟨2, 0, 1⟩, ⟨3, 1, 0⟩], [⟨0, 0, 0⟩, ⟨1, 0, 1⟩, ⟨3, 1, 0⟩]] := by decide +kernel

/-- the code's own run (ARGMIN: the first minimum) is the first of them -/
example : visvalingam (10 ^ 300 : Rat) (1 / 2) tieTrack2 = [⟨0, 0, 0⟩, ⟨2, 0, 1⟩, ⟨3, 1, 0⟩] := by decide +kernel

/-- `cap` at work: a level with more states than `cap` gives up -/
example : visvalingamAll (10 ^ 300 : Rat) (1 / 2) 1 tieTrack2 = none := by decide +kernel

/-- `big = 5`: fix 1 spans an area 8 (not below `big`: "infinite"), fixes 2 and 3 areas 3 and 1; tolerance² = 4. First pass: a minimum is
found (fix 3, area 1), fix 3 goes; second pass: fix 2 (recomputed: area 4 ≤ 4) goes, fix 1 is recomputed (area 12, not below `big`); third
pass: no minimum — ARGMIN answers 0 and the **first** observation is removed, although the column was mixed at the start -/
example : visvalingam (5 : Rat) 2 [⟨0, 0, 0⟩, ⟨1, 2, 4⟩, ⟨2, 4, 0⟩, ⟨3, 5, 1⟩, ⟨4, 6, 0⟩] = [⟨1, 2, 4⟩, ⟨4, 6, 0⟩] := by decide +kernel

/-- … and with tolerance² = 1/4 the smallest number of the column (1) exceeds it at the first pass: `break`, every pass (none was made) found
a minimum, the first observation is kept -/
example : visvalingam (5 : Rat) (1 / 2) [⟨0, 0, 0⟩, ⟨1, 2, 4⟩, ⟨2, 4, 0⟩, ⟨3, 5, 1⟩, ⟨4, 6, 0⟩] =
    [⟨0, 0, 0⟩, ⟨1, 2, 4⟩, ⟨2, 4, 0⟩, ⟨3, 5, 1⟩, ⟨4, 6, 0⟩] := by decide +kernel

end TV.C16
