import TracklibVerif.Lemmas.ExprAggField
import TracklibVerif.Lemmas.ExprAggFieldEx
import TracklibVerif.Props.C02
/-! # C02 — the aggregate functions as coded are their documented closed forms (T13, T14)

`denoteM` / `denote` take the definitions of the functions as coded (`aggFn` of `Model/Expr.lean`, the loops of
core/operators.py). T8–T10 (`Props/C02.lean`) relate `MIN MAX ARGMIN ARGMAX D I D2` to their documented formulas; here the
remaining aggregates: `SUM AVG VAR STD MSE RMSE` (T13) and the order statistics `MEDIAN MAD` (T14), over an ordered field.

The statements need *exact arithmetic*: `M : FieldModel α K` reads the scalars as elements of an ordered field `K` or NaN
and says that `+ - * /`, `x ** 2`, `abs`, `<`, `float(count)` and `0.5` are the field's (`Option Rat` is such a model:
`exactQ_model`). For IEEE doubles the formulas hold up to rounding; that distance is judged by the Python oracle's running
error bound, which evaluates exactly these formulas. `nums M c` = the numbers of the vector, NaN skipped. -/
namespace TV.C02
open TV.Expr

variable {α : Type} [Scalar α] {K : Type} [Field K] [LinearOrder K] [IsStrictOrderedRing K]

/-- **T13 (`SUM`, `AVG` as coded are Σ x and Σ x / count over the non-NaN observations)** — `Sum` / `Averager` skip NaN
(`if isnan(val): continue`); on a vector without any number `AVG` is `0 / 0` on Python integers: ZeroDivisionError.
Needs exact arithmetic (`M`). -/
theorem aggregate_sum_avg (M : FieldModel α K) (c : List α) :
    (∃ r, aggFn ['S', 'U', 'M'] c = .ok r ∧ M.val r = some (nums M c).sum) ∧
    (nums M c ≠ [] → ∃ r, aggFn ['A', 'V', 'G'] c = .ok r ∧ M.val r = some ((nums M c).sum / ((nums M c).length : K))) ∧
    (nums M c = [] → aggFn ['A', 'V', 'G'] c = .error "err:zerodiv") :=
  ⟨⟨sumL c, rfl, sumL_formula M c⟩, fun h => avgL_formula M c h, fun h => avgL_none M c h⟩

/-- **T13' (`VAR`, `MSE` as coded are Σ (x − mean)² / count and Σ x² / count over the non-NaN observations; `STD`, `RMSE`
are `math.sqrt` of them)** — the population variance (divisor `count`, not `count − 1`), the mean being `AVG`'s.
Needs exact arithmetic (`M`); `math.sqrt` stays a parameter (`Scalar.sqrt`). -/
theorem aggregate_var_mse (M : FieldModel α K) (c : List α) (h : nums M c ≠ []) :
    (∃ r, aggFn ['V', 'A', 'R'] c = .ok r ∧ aggFn ['S', 'T', 'D'] c = Scalar.sqrt r ∧
      M.val r = some (((nums M c).map (fun x => (x - (nums M c).sum / ((nums M c).length : K)) ^ 2)).sum
                        / ((nums M c).length : K))) ∧
    (∃ r, aggFn ['M', 'S', 'E'] c = .ok r ∧ aggFn ['R', 'M', 'S', 'E'] c = Scalar.sqrt r ∧
      M.val r = some (((nums M c).map (fun x => x ^ 2)).sum / ((nums M c).length : K))) := by
  obtain ⟨r, h1, h2⟩ := varL_formula M c h
  obtain ⟨s, h3, h4⟩ := mseL_formula M c h
  exact ⟨⟨r, h1, stdL_eq c r h1, h2⟩, ⟨s, h3, rmseL_eq c s h3, h4⟩⟩

/-- **T14 (`MEDIAN` as coded is the documented median)**: `Median` sorts with `np.argsort` (ascending, NaN last — NaN is
*not* skipped: the number `N` of observations counts them) and takes `vals[sort_index[N//2]]` for odd `N`,
`0.5 * (vals[sort_index[(int)(N/2 - 1)]] + vals[sort_index[(int)(N/2)]])` for even `N`. Whenever rank `N/2` falls on a number
(always, on a non-empty vector without NaN: `median_rank_of_noNaN`) the result is: for odd `N` the value of rank `N/2` among the
numbers of the vector, for even `N` the mean of the values of ranks `N/2 − 1` and `N/2` — "the value of rank `k`" (`IsOS`)
being stated without any sorting: at most `k` numbers are below it, more than `k` are below or equal to it; it is unique
(`order_statistic_unique`). A shift of one of the two ranks, or their rounding (seeded change C02-11), makes this false.
Needs exact arithmetic for the mean of the even case only. -/
theorem aggregate_median (M : FieldModel α K) (c : List α) (hnum : c.length / 2 < (nums M c).length) :
    (c.length % 2 = 1 → ∃ r x, aggFn ['M', 'E', 'D', 'I', 'A', 'N'] c = .ok r ∧ M.val r = some x
        ∧ IsOS (nums M c) (c.length / 2) x) ∧
    (c.length % 2 = 0 → ∃ r lo hi, aggFn ['M', 'E', 'D', 'I', 'A', 'N'] c = .ok r ∧ M.val r = some ((lo + hi) / 2)
        ∧ IsOS (nums M c) (c.length / 2 - 1) lo ∧ IsOS (nums M c) (c.length / 2) hi) :=
  middle_formula M c hnum

/-- **T14 (NaN side)**: `np.argsort` puts NaN last, so when the central rank of an odd number of observations does not fall on
a number (half of the observations or more are NaN) `MEDIAN` returns a NaN — `Median` does not skip NaN, unlike the other
aggregates (the oracle does not judge `MEDIAN` of a vector holding a NaN: the documentation gives no value). -/
theorem aggregate_median_nan (M : FieldModel α K) (c : List α) (hodd : c.length % 2 = 1)
    (hnum : (nums M c).length ≤ c.length / 2) :
    ∃ r, aggFn ['M', 'E', 'D', 'I', 'A', 'N'] c = .ok r ∧ Scalar.isNaN r = true :=
  middle_nan M c hodd hnum

/-- the hypothesis of T14 on a non-empty vector without NaN -/
theorem median_rank_of_noNaN (M : FieldModel α K) (c : List α) (hne : c ≠ []) (h : ∀ a ∈ c, Scalar.isNaN a = false) :
    c.length / 2 < (nums M c).length := by
  rw [nums_length_of_noNaN M c h]
  have : c.length ≠ 0 := fun h0 => hne (List.eq_nil_of_length_eq_zero h0)
  omega

omit [Field K] [IsStrictOrderedRing K] in
/-- "the value of rank `k`" determines the value -/
theorem order_statistic_unique (v : List K) (k : Nat) (m m' : K) (h : IsOS v k m) (h' : IsOS v k m') : m = m' :=
  h.unique h'

/-- **T14' (`MAD` as coded is the median of `|x|` over the non-NaN observations)**: `Mad` skips NaN, takes absolute values,
and picks the central rank(s) `N // 2` (odd `N`; fix 56ef03e — it used to be the rank below) or `N/2 − 1`, `N/2` (even `N`)
of the `N` numbers. -/
theorem aggregate_mad (M : FieldModel α K) (c : List α) (h : nums M c ≠ []) :
    (((nums M c).length % 2 = 1 → ∃ r x, aggFn ['M', 'A', 'D'] c = .ok r ∧ M.val r = some x
        ∧ IsOS ((nums M c).map (fun x => |x|)) ((nums M c).length / 2) x) ∧
     ((nums M c).length % 2 = 0 → ∃ r lo hi, aggFn ['M', 'A', 'D'] c = .ok r ∧ M.val r = some ((lo + hi) / 2)
        ∧ IsOS ((nums M c).map (fun x => |x|)) ((nums M c).length / 2 - 1) lo
        ∧ IsOS ((nums M c).map (fun x => |x|)) ((nums M c).length / 2) hi)) :=
  madL_formula M c h

/-- **T14'' (the index arithmetic of `Median`)**: for an even `N ≥ 2`, Python's `(int)(N / 2 - 1)` and `(int)(N / 2)` — true
division, then truncation toward zero — are the integer ranks `N/2 − 1` and `N/2` the model (and T14) use. (Exact quotients;
`N / 2` is exact in doubles for every `N < 2^53`.) -/
theorem median_index_arithmetic (N : Nat) (hev : N % 2 = 0) (h2 : 2 ≤ N) :
    pyInt ((N : Rat) / 2 - 1) = ((N / 2 - 1 : Nat) : Int) ∧ pyInt ((N : Rat) / 2) = ((N / 2 : Nat) : Int) := by
  obtain ⟨k, rfl⟩ : ∃ k, N = 2 * k := ⟨N / 2, by omega⟩
  have hk : 1 ≤ k := by omega
  have e1 : ((2 * k : Nat) : Rat) / 2 = (k : Rat) := by push_cast; field_simp
  have e2 : (k : Rat) - 1 = ((k - 1 : Nat) : Rat) := by rw [Nat.cast_sub hk]; simp
  have d1 : 2 * k / 2 = k := by omega
  rw [e1, d1]
  refine ⟨?_, ?_⟩
  · rw [e2]
    have : (0 : Rat) ≤ ((k - 1 : Nat) : Rat) := Nat.cast_nonneg _
    simp only [pyInt, this, if_true]
    exact Int.floor_natCast _
  · have : (0 : Rat) ≤ (k : Rat) := Nat.cast_nonneg _
    simp only [pyInt, this, if_true]
    exact Int.floor_natCast _

/-- **T13/T14 inside an expression**: the tree semantics of `f{a}` for an aggregate `f` is the constant vector of the value
`aggFn f` returns on the column of `a` — the value T8, T9, T13, T14 characterise — … -/
theorem expression_aggregate_value (tr : Tr α) (f a : Str) (ca : List α) (r : α) (ga : getAF tr a = .ok ca)
    (hf : isVoidFn f = false) (hg : isAggFn f = true) (hr : aggFn f ca = .ok r) :
    denoteM tr (.call f (.var a)) = .ok (.vec (List.replicate tr.n r)) := by
  rw [← opAgg_denote tr f a ca ga hf hg]
  simp only [opAgg, ga, hr, Except.map, bind, Except.bind]

/-- … and `Track.operate("f{a}")`, from the source string, returns that value at every observation and leaves the track as it
was: with T13 for `f = SUM`, `operate("SUM{a}")` is Σ of the non-NaN values of `a` at every observation. -/
theorem operate_aggregate_value (tr : Tr α) (f a : Str) (ca : List α) (r : α)
    (h : SrcOK (.call f (.var a))) (hq : NoQuote (desugar (.call f (.var a)))) (hw : WFx (desugar (.call f (.var a))))
    (hn : tr.n ≠ 0) (hnt : NoTemps tr) (hl : NoLitNames tr)
    (ga : getAF tr a = .ok ca) (hf : isVoidFn f = false) (hg : isAggFn f = true) (hr : aggFn f ca = .ok r) :
    operate tr (src (.call f (.var a))) = (.ok (some (List.replicate tr.n r)), tr) := by
  have hd : denoteM tr (desugar (.call f (.var a))) = .ok (.vec (List.replicate tr.n r)) :=
    expression_aggregate_value tr f a ca r ga hf hg hr
  exact operate_source_value tr (.call f (.var a)) _ h hq hw hn hnt hl hd

/-! ## non-vacuity: exact rationals with a NaN element -/

/-- the hypotheses are those of exact arithmetic -/
example : FieldModel (Option Rat) Rat := exactQ_model

def cEx : List (Option Rat) := [some 3, none, some (-1), some 4, some 2]
example : nums exactQ_model cEx = [3, -1, 4, 2] := rfl
/-- `SUM = 8`, `AVG = 2`, `VAR = ((1)² + (−3)² + 2² + 0²)/4 = 7/2`, `MSE = 30/4` on `[3, NaN, −1, 4, 2]` -/
example : aggFn ['S', 'U', 'M'] cEx = .ok (some 8) ∧ aggFn ['A', 'V', 'G'] cEx = .ok (some 2)
    ∧ aggFn ['V', 'A', 'R'] cEx = .ok (some (7 / 2)) ∧ aggFn ['M', 'S', 'E'] cEx = .ok (some (15 / 2)) := by
  decide +kernel
/-- `MEDIAN` of `[3, NaN, −1, 4, 2]`: `N = 5`, rank 2 of `−1, 2, 3, 4, NaN` is `3` (the NaN is counted in `N`);
`MAD`: 4 numbers, the mean of ranks 1 and 2 of `1, 2, 3, 4` -/
example : 5 / 2 < (nums exactQ_model cEx).length := by decide
example : aggFn ['M', 'E', 'D', 'I', 'A', 'N'] cEx = .ok (some 3) := by
  obtain ⟨r, x, h1, h2, h3⟩ := (aggregate_median exactQ_model cEx (by decide)).1 (by decide)
  have hos : IsOS (nums exactQ_model cEx) (cEx.length / 2) 3 := by unfold IsOS; decide +kernel
  have hx : x = 3 := h3.unique hos
  subst hx; rw [h1]; exact congrArg _ h2
/-- T14' determines the value: 4 numbers, the mean of the values of ranks 1 and 2 of `|x|` = `3, 1, 4, 2` -/
example : aggFn ['M', 'A', 'D'] cEx = .ok (some (5 / 2)) := by
  obtain ⟨r, lo, hi, h1, h2, h3, h4⟩ := (aggregate_mad exactQ_model cEx (by decide)).2 (by decide)
  have o1 : IsOS ((nums exactQ_model cEx).map (fun x => |x|)) ((nums exactQ_model cEx).length / 2 - 1) 2 := by
    unfold IsOS; decide +kernel
  have o2 : IsOS ((nums exactQ_model cEx).map (fun x => |x|)) ((nums exactQ_model cEx).length / 2) 3 := by
    unfold IsOS; decide +kernel
  have e1 : lo = 2 := h3.unique o1
  have e2 : hi = 3 := h4.unique o2
  subst e1 e2; rw [h1]
  have : ((2 : Rat) + 3) / 2 = 5 / 2 := by norm_num
  rw [this] at h2; exact congrArg _ h2
/-- an even vector without NaN: `MEDIAN{[4, 1, 3, 2]} = (2 + 3)/2` -/
example : aggFn ['M', 'E', 'D', 'I', 'A', 'N'] ([some 4, some 1, some 3, some 2] : List (Option Rat)) = .ok (some (5 / 2)) := by
  obtain ⟨r, lo, hi, h1, h2, h3, h4⟩ := (aggregate_median exactQ_model [some 4, some 1, some 3, some 2]
    (median_rank_of_noNaN exactQ_model _ (by decide) (by decide))).2 (by decide)
  have o1 : IsOS (nums exactQ_model [some 4, some 1, some 3, some 2]) (4 / 2 - 1) 2 := by unfold IsOS; decide +kernel
  have o2 : IsOS (nums exactQ_model [some 4, some 1, some 3, some 2]) (4 / 2) 3 := by unfold IsOS; decide +kernel
  have e1 : lo = 2 := h3.unique o1
  have e2 : hi = 3 := h4.unique o2
  subst e1 e2; rw [h1]
  have : ((2 : Rat) + 3) / 2 = 5 / 2 := by norm_num
  rw [this] at h2; exact congrArg _ h2
example : pyInt ((4 : Nat) / 2 - 1 : Rat) = 1 ∧ pyInt ((4 : Nat) / 2 : Rat) = 2 := by
  have := median_index_arithmetic 4 (by decide) (by decide)
  simpa using this

example : ∃ r, aggFn ['M', 'E', 'D', 'I', 'A', 'N'] ([none, some 1, none] : List (Option Rat)) = .ok r ∧ Scalar.isNaN r = true :=
  aggregate_median_nan exactQ_model _ (by decide) (by decide)

/-- `operate("SUM{a}")` on the toy track of `Props/C02.lean` (`a = [1, -2, 4]`) -/
example : operate trEx "SUM{a}".toList = (.ok (some [3, 3, 3]), trEx) := by
  have h := operate_aggregate_value trEx ['S', 'U', 'M'] ['a'] [1, -2, 4] 3
    (by simp only [SrcOK, NameOK]; decide) (by simp only [desugar, NoQuote, GoodTok]; decide) (by simp only [desugar, WFx]; decide)
    (by decide) trEx_noTemps trEx_noLit (by rfl) (by decide) (by decide) (by rfl)
  have hs : src (.call ['S', 'U', 'M'] (.var ['a'])) = "SUM{a}".toList := by decide +kernel
  rw [hs] at h
  exact h

end TV.C02
