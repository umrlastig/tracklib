import TracklibVerif.Lemmas.FeaturesWorldDerive
import TracklibVerif.Props.C01
/-! # C01 on a heap of `Obs` objects — tracks that share, or copy, their observations

Property theorems only. `Props/C01.lean` is about one track seen as one table (`St`). In Python a track holds references
to `Obs` objects; `Model/FeaturesWorld.lean` runs the same Track API (`step`, every operator, `operate(str)` …) on a heap
of objects (`Wd`: the heap, and the references and the dict of the track the call is addressed to), each loop acting on
the object found at each position, one position after the other. `view w` is the table the track shows.

* `heap_step_refines`, `heap_history_refines`, `heap_step_spec`: as long as the objects of the track are PAIRWISE
  DISTINCT (and the table it shows is aligned), every API call does on the heap exactly what it does on `view w`
  (hence, by `Props/C01.lean`, what the name ↦ column specification does), and the track stays such a track: all
  theorems of `Props/C01.lean` hold for tracks living on a heap.
* `heap_history_frame`, `other_track_unchanged`: an API call touches no object outside the track it is addressed to; a track
  that shares no object with it shows exactly the same table afterwards, whatever the call and its outcome.
* `copies_are_fresh`, `span_track_independent`, `ring_track_good`: the derivations that COPY observations
  (`Obs.copy()` = deepcopy: `extractSpanTime`, `loop(add=True)`, `t.addObs(o.copy())`, `t.insertObs(o.copy(), p)`) make
  new objects: the piece shares nothing with any existing track (so neither disturbs the other), the ring is again a track
  of pairwise distinct objects showing the old table with one row repeated.
* the example on the ring closed without a copy (end of this file): distinctness is needed — a track that refers to
  one object at two positions (what a shallow `Obs.copy()` produces for the ring) is misaligned by the first
  `createAnalyticalFeature`; and `extract` / slices / `+` share objects by design (finding derived-track-shares-observations): the model shows the effect, the theorems do not
  cover it. -/
set_option linter.unusedSectionVars false
namespace TV.C01
open TV.Features
variable {V : Type} [Inhabited V] {n : Nat}

/-- the track in focus refers to pairwise distinct existing objects and shows an aligned table of `n` observations -/
structure GoodTrack (n : Nat) (w : Wd V) : Prop where
  nodup : w.ids.Nodup
  valid : ∀ id ∈ w.ids, id < w.heap.length
  inv : Inv n (view w)

theorem GoodTrack.wgood {w : Wd V} (h : GoodTrack n w) : WGood n w.heap w.ids w :=
  ⟨h.nodup, h.valid, h.inv, rfl, rfl, fun _ _ => rfl⟩

theorem _root_.TV.Features.WGood.good {h0 : List (HObs V)} {ids0 : List Nat} {w : Wd V} (h : WGood n h0 ids0 w) :
    GoodTrack n w := ⟨h.nodup, h.valid, h.inv⟩

/-- W1: on a heap, for a track of pairwise distinct objects showing an aligned table, every API call (any operator, any
expression, returning or raising) does exactly what it does on the table the track shows: same outcome, and the track
shows the resulting table; the track is again such a track (same objects), no object is added or dropped, and every
object OUTSIDE the track is left exactly as it was. -/
theorem heap_step_refines (o : Ops V) (op : Op V) (w : Wd V) (h : GoodTrack n w) :
    GoodTrack n (step o op w).2 ∧
    step o op (view w) = ((step o op w).1, view (step o op w).2) ∧
    (step o op w).2.ids = w.ids ∧ (step o op w).2.heap.length = w.heap.length ∧
    ∀ id, id ∉ w.ids → (step o op w).2.heap[id]? = w.heap[id]? := by
  obtain ⟨hg, he, _⟩ := gsim_step (I := WGood n w.heap w.ids) (ab := view) o op w h.wgood
  exact ⟨hg.good, he, hg.ids, hg.length, hg.other⟩

/-- W1 with the specification: the call does on the heap what it does on the name ↦ column table. -/
theorem heap_step_spec (o : Ops V) (op : Op V) (w : Wd V) (h : GoodTrack n w) :
    step o op (abs (view w)) = ((step o op w).1, abs (view (step o op w).2)) := by
  have h1 := (heap_step_refines o op w h).2.1
  have h2 := step_refines o op (view w) h.inv
  rw [h1] at h2
  exact h2

/-- W2: along every finite history on such a track, outcomes and shown tables are those of the same history on the
table the track showed at the start. -/
theorem heap_history_refines (o : Ops V) (ops : List (Op V)) (w : Wd V) (h : GoodTrack n w) :
    trace o ops (view w) = (trace o ops w).map (fun r => (r.1, view r.2)) ∧ ∀ r ∈ trace o ops w, GoodTrack n r.2 := by
  obtain ⟨h1, h2⟩ := gsim_trace (I := WGood n w.heap w.ids) (ab := view) o ops w h.wgood
  exact ⟨h1, fun r hr => (h2 r hr).good⟩

/-- W3 (frame): an API call touches no object outside the track it is addressed to — along a whole history. -/
theorem heap_history_frame (o : Ops V) (ops : List (Op V)) (w : Wd V) (h : GoodTrack n w) :
    GoodTrack n (runOps o ops w) ∧ (runOps o ops w).ids = w.ids ∧ (runOps o ops w).heap.length = w.heap.length ∧
    ∀ id, id ∉ w.ids → (runOps o ops w).heap[id]? = w.heap[id]? := by
  obtain ⟨hg, _⟩ := gsim_runOps (I := WGood n w.heap w.ids) (ab := view) o ops w h.wgood
  exact ⟨hg.good, hg.ids, hg.length, hg.other⟩

/-- W4: a track that shares no object with the track a history is run on shows exactly the same table after it —
names, every column, every row, coordinates and timestamps —, whatever the calls and their outcomes. -/
theorem other_track_unchanged (o : Ops V) (ops : List (Op V)) (w : Wd V) (h : GoodTrack n w)
    (ids' : List Nat) (dico' : List (String × Nat)) (hdis : ∀ id ∈ ids', id ∉ w.ids) :
    view { heap := (runOps o ops w).heap, ids := ids', dico := dico' } = view { heap := w.heap, ids := ids', dico := dico' } :=
  view_congr _ _ _ _ (fun id hm => (heap_history_frame o ops w h).2.2.2 id (hdis id hm))

/-! ## tracks made of copies of observations -/

theorem GoodTrack.extend {w : Wd V} (h : GoodTrack n w) (heap' : List (HObs V))
    (hext : ∀ id, id < w.heap.length → heap'[id]? = w.heap[id]?) (hlen : w.heap.length ≤ heap'.length) :
    view { heap := heap', ids := w.ids, dico := w.dico } = view w ∧
    GoodTrack n { heap := heap', ids := w.ids, dico := w.dico } := by
  have hv : view { heap := heap', ids := w.ids, dico := w.dico } = view w :=
    view_congr _ _ _ _ (fun id hm => hext id (h.valid id hm))
  exact ⟨hv, h.nodup, fun id hm => Nat.lt_of_lt_of_le (h.valid id hm) hlen, by rw [hv]; exact h.inv⟩

/-- D1: `[o.copy() for o in …]` over positions of a track (what `extractSpanTime` does with the observations it keeps;
`Obs.copy()` is a deepcopy) makes NEW objects, one per position: the track made of them refers to pairwise distinct
objects none of which belongs to any track that existed before, shows exactly the rows / coordinates of the positions
copied under the transmitted dict, is aligned, and the old objects are untouched. -/
theorem copies_are_fresh (w : Wd V) (h : GoodTrack n w) (sel : List Nat) (hsub : ∀ id ∈ sel, id ∈ w.ids) :
    ∃ heap', copyEach sel w.heap = some (List.range' w.heap.length sel.length, heap') ∧
      GoodTrack sel.length { heap := heap', ids := List.range' w.heap.length sel.length, dico := w.dico } ∧
      view { heap := heap', ids := List.range' w.heap.length sel.length, dico := w.dico } =
        view { heap := w.heap, ids := sel, dico := w.dico } ∧
      (∀ id, id < w.heap.length → heap'[id]? = w.heap[id]?) ∧ w.heap.length ≤ heap'.length ∧
      (∀ id ∈ List.range' w.heap.length sel.length, w.heap.length ≤ id) := by
  obtain ⟨os, h1, hos⟩ := copyEach_spec sel w.heap (fun id hm => h.valid id (hsub id hm))
  have hlen : os.length = sel.length := by simpa using congrArg List.length hos
  have hv : view { heap := w.heap ++ os, ids := List.range' w.heap.length sel.length, dico := w.dico } =
      view { heap := w.heap, ids := sel, dico := w.dico } :=
    view_of_objs _ (by rw [← hlen, map_getElem?_append_range', hos])
  refine ⟨w.heap ++ os, h1, ⟨List.nodup_range', ?_, ?_⟩, hv, fun id hlt => List.getElem?_append_left hlt, by simp, ?_⟩
  · intro id hm
    have := List.mem_range'_1.mp hm
    show id < (w.heap ++ os).length
    rw [List.length_append]
    omega
  · rw [hv]
    exact inv_select (heap := w.heap) (ids := w.ids) (dico := w.dico) h.inv sel hsub
  · intro id hm
    exact (List.mem_range'_1.mp hm).1

/-- D2: the piece and its parent are independent. After `piece = [o.copy() for o in <positions of the parent>]` with the
parent's dict transmitted (`extractSpanTime`), ANY history of API calls on the piece leaves the table the parent shows
exactly as it was, and ANY history on the parent leaves the table the piece shows exactly as it was — names, columns,
rows, coordinates, timestamps. -/
theorem span_track_independent (o : Ops V) (w : Wd V) (h : GoodTrack n w) (sel : List Nat) (hsub : ∀ id ∈ sel, id ∈ w.ids)
    (ops : List (Op V)) :
    ∃ heap', copyEach sel w.heap = some (List.range' w.heap.length sel.length, heap') ∧
      view { heap := (runOps o ops ({ heap := heap', ids := List.range' w.heap.length sel.length, dico := w.dico } : Wd V)).heap,
             ids := w.ids, dico := w.dico } = view w ∧
      view { heap := (runOps o ops ({ heap := heap', ids := w.ids, dico := w.dico } : Wd V)).heap,
             ids := List.range' w.heap.length sel.length, dico := w.dico } =
        view { heap := w.heap, ids := sel, dico := w.dico } := by
  obtain ⟨heap', h1, hg, hv, hext, hlen, hfresh⟩ := copies_are_fresh w h sel hsub
  obtain ⟨hpv, hpg⟩ := h.extend heap' hext hlen
  refine ⟨heap', h1, ?_, ?_⟩
  · rw [other_track_unchanged o ops _ hg w.ids w.dico ?_, hpv]
    intro id hm hm'
    have := hfresh id hm'
    have := h.valid id hm
    omega
  · rw [other_track_unchanged o ops _ hpg (List.range' w.heap.length sel.length) w.dico ?_, hv]
    intro id hm hm'
    have := hfresh id hm
    have := h.valid id hm'
    omega

/-- D3: the ring. `t.addObs(t[i].copy())`, `t.insertObs(t[i].copy(), p)` and `t.loop(add=True)` (= `addObs(self[0].copy())`)
put a NEW object, equal to the object at position `i`, at position `p` (`p = len` appends): the track is again a track of
pairwise distinct objects, one observation longer, aligned, and shows the old table with row `i` repeated at `p` — so
every theorem about histories applies to the ring. -/
theorem ring_track_good (w : Wd V) (h : GoodTrack n w) (i id p : Nat) (hi : w.ids[i]? = some id) :
    ∃ heap', allocCopy w.heap id = some (w.heap.length, heap') ∧
      GoodTrack (n + 1) { heap := heap', ids := pyInsert w.ids p w.heap.length, dico := w.dico } ∧
      view { heap := heap', ids := pyInsert w.ids p w.heap.length, dico := w.dico } =
        view { heap := w.heap, ids := pyInsert w.ids p id, dico := w.dico } := by
  have hm : id ∈ w.ids := List.mem_of_getElem? hi
  have hid : id < w.heap.length := h.valid id hm
  have hob : w.heap[id]? = some w.heap[id] := List.getElem?_eq_getElem hid
  have hold : w.ids.map ((w.heap ++ [w.heap[id]])[·]?) = w.ids.map (w.heap[·]?) :=
    List.map_congr_left fun id' hm' => List.getElem?_append_left (h.valid id' hm')
  have hnew : (w.heap ++ [w.heap[id]])[w.heap.length]? = w.heap[id]? := by
    rw [hob, List.getElem?_append_right (Nat.le_refl _)]; simp
  have hv : view { heap := w.heap ++ [w.heap[id]], ids := pyInsert w.ids p w.heap.length, dico := w.dico } =
      view { heap := w.heap, ids := pyInsert w.ids p id, dico := w.dico } :=
    view_of_objs _ (by simp only [pyInsert, List.map_append, List.map_cons, List.map_take, List.map_drop, hold, hnew])
  have hn : w.ids.length = n := by have := h.inv.size; simpa [view] using this
  refine ⟨w.heap ++ [w.heap[id]], by simp [allocCopy, hob], ⟨?_, ?_, ?_⟩, hv⟩
  · exact nodup_pyInsert _ _ _ h.nodup (fun hm' => Nat.lt_irrefl _ (h.valid _ hm'))
  · intro id' hm'
    show id' < (w.heap ++ [w.heap[id]]).length
    rw [List.length_append]
    rcases mem_pyInsert hm' with e | hm''
    · subst e; simp
    · have := h.valid id' hm''; simp; omega
  · rw [hv]
    have := inv_select (heap := w.heap) (ids := w.ids) (dico := w.dico) h.inv (pyInsert w.ids p id)
      (fun a ha => by rcases mem_pyInsert ha with e | ha'; exact e ▸ hm; exact ha')
    rwa [length_pyInsert, hn] at this

/-- D4: what `Sys.derive` (the model of the derivation functions) does for `extractSpanTime`: the new last track is made
by `copyEach` over positions of the source track, with the source's dict — so D1 and D2 are about it. -/
theorem derive_span_is_copies (o : Ops V) (s : Sys V) (k i j : Nat) (s' : Sys V) (k' : Nat)
    (h : s.derive o (.span i j) k = .ok (s', k')) :
    ∃ t sel ids' heap', s.trks[k]? = some t ∧ (∀ id ∈ sel, id ∈ t.ids) ∧ copyEach sel s.heap = some (ids', heap') ∧
      s' = { heap := heap', trks := s.trks ++ [{ ids := ids', dico := t.dico }] } ∧ k' = s.trks.length := by
  generalize hd : Derive.span i j = d at h
  revert h
  fun_cases Sys.derive o d k s <;> intro h <;> cases hd <;> cases h
  rename_i t ht _ _ _ _ _ _ ids' heap' hc _ _
  exact ⟨t, _, ids', heap', ht, fun id hm => (List.mem_filter.mp hm).1, hc, rfl, rfl⟩

/-- D5: and for `loop(add=True)` / `addObs(o.copy())` / `insertObs(o.copy(), p)`: the track itself, with the new object
`allocCopy` made inserted by `pyInsert` — so D3 is about it. -/
theorem derive_addCopy_is_insert (o : Ops V) (s : Sys V) (k i : Nat) (pos : Option Nat) (s' : Sys V) (k' : Nat)
    (h : s.derive o (.addCopy i pos) k = .ok (s', k')) :
    ∃ t id heap', s.trks[k]? = some t ∧ t.ids[i]? = some id ∧ allocCopy s.heap id = some (s.heap.length, heap') ∧
      s' = { heap := heap', trks := s.trks.set k { t with ids := pyInsert t.ids (pos.getD t.ids.length) s.heap.length } } ∧ k' = k := by
  generalize hd : Derive.addCopy i pos = d at h
  revert h
  fun_cases Sys.derive o d k s <;> intro h <;> cases hd <;> cases h
  rename_i t ht id nid heap' hc hid _
  obtain rfl : nid = s.heap.length := by
    obtain ⟨ob, _, e⟩ := Option.map_eq_some_iff.mp hc
    exact (Prod.mk.inj e).1.symm
  refine ⟨t, id, heap', ht, hid, hc, ?_, rfl⟩
  cases pos with
  | none => simp [pyInsert]; rfl
  | some p => rfl

theorem derive_loopAdd_is_addCopy (o : Ops V) (s : Sys V) (k : Nat) :
    s.derive o .loopAdd k = s.derive o (.addCopy 0 none) k := by
  unfold Sys.derive
  rfl

/-- D6: `Track.copy()` (`copy.deepcopy` of the track) of a track of pairwise distinct objects makes one new object per
position, like `[o.copy() for o in track]` over all positions — so D1 and D2 are about the copy as well. -/
theorem derive_copy_is_copies (o : Ops V) (s : Sys V) (k : Nat) (t : HTrk) (ht : s.trks[k]? = some t) (hnd : t.ids.Nodup) :
    s.derive o .copy k = match copyEach t.ids s.heap with
      | none => .error .unsupported
      | some (ids', heap') => .ok ({ heap := heap', trks := s.trks ++ [{ ids := ids', dico := t.dico }] }, s.trks.length) := by
  unfold Sys.derive
  simp only [ht]
  rw [copyMemo_eq_copyEach t.ids [] s.heap hnd (fun _ _ => rfl)]
  cases copyEach t.ids s.heap <;> rfl

/-! ## Non-vacuity, and what happens without distinct objects -/

def mkOb (x : Int) (fs : List Int) : HObs Int := { x := x, y := 2 * x, z := 3 * x, t := 1000 + x, feats := fs }

/-- one track of three observations carrying the features `a`, `b` -/
def s0 : Sys Int :=
  { heap := [mkOb 10 [1, 7], mkOb 11 [2, 7], mkOb 12 [3, 7]], trks := [{ ids := [0, 1, 2], dico := [("a", 0), ("b", 1)] }] }

def w0 : Wd Int := { heap := s0.heap, ids := [0, 1, 2], dico := [("a", 0), ("b", 1)] }

example : s0.focus 0 = some w0 := rfl
example : GoodTrack 3 w0 :=
  ⟨by decide, by decide, ⟨by decide +kernel, by decide +kernel, by decide, rfl, rfl, rfl, rfl, rfl⟩⟩

def shows (s : Sys Int) (k : Nat) : Option (List String × List (List Int)) :=
  (s.focus k).map fun w => ((view w).dico.map Prod.fst, (view w).rows)

/-- `loop(add=True)`, then `createAnalyticalFeature("c", 5)` and `track["a", 0] = -7` on the ring: the new observation is
a new object — four observations with one value per listed name, the cell write changes one cell -/
example : (do
    let (s1, k) ← (s0.derive iops .loopAdd 0).toOption
    let (_, s2) ← s1.api iops k (.create "c" (.scalar 5))
    let (_, s3) ← s2.api iops k (.setObs "a" 0 (-7))
    shows s3 k) = some (["a", "b", "c"], [[-7, 7, 5], [2, 7, 5], [3, 7, 5], [1, 7, 5]]) := by decide +kernel

/-- the same ring closed WITHOUT a copy (the track refers to object 0 at both ends — what a
shallow `Obs.copy()` sharing the `features` list amounts to): `createAnalyticalFeature` appends twice to that object, the
track lists three names and two of its four observations carry four values; the hypothesis "pairwise distinct objects"
of the theorems above cannot be dropped -/
example : ((step iops (.create "c" (.scalar 5)) ({ w0 with ids := [0, 1, 2, 0] } : Wd Int)).2 |> view).rows
    = [[1, 7, 5, 5], [2, 7, 5], [3, 7, 5], [1, 7, 5, 5]] := by decide +kernel

/-- `extractSpanTime` over the observations 1..2, then a history on the piece (`create`, a cell write, `a = a*2`): the
parent shows exactly what it showed; and a call on the parent does not move the piece -/
example : (do
    let (s1, k) ← (s0.derive iops (.span 1 2) 0).toOption
    let (_, s2) ← s1.api iops k (.create "w" (.scalar 1))
    let (_, s3) ← s2.api iops k (.setObs "a" 0 99)
    let (_, s4) ← s3.api iops k (.expr ["a", "a", "2", "*", "="])
    let (_, s5) ← s4.api iops 0 (.remove "a")
    some [shows s4 0, shows s5 0, shows s4 k, shows s5 k]) =
    some [some (["a", "b"], [[1, 7], [2, 7], [3, 7]]), some (["b"], [[7], [7], [7]]),
          some (["b", "w", "a"], [[7, 1, 198], [7, 1, 6]]), some (["b", "w", "a"], [[7, 1, 198], [7, 1, 6]])] := by decide +kernel

/-- `extract(1, 2)` hands over the objects themselves (finding derived-track-shares-observations): a feature created on
the piece is appended to the parent's observations 1..2, the parent lists two names and shows rows of 2, 3, 3 values.
The model exhibits it; the theorems (which need disjoint tracks) do not cover it. -/
example : (do
    let (s1, k) ← (s0.derive iops (.extract 1 2) 0).toOption
    let (_, s2) ← s1.api iops k (.create "w" (.scalar 1))
    shows s2 0) = some (["a", "b"], [[1, 7], [2, 7, 1], [3, 7, 1]]) := by decide +kernel

end TV.C01
