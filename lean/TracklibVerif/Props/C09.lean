import TracklibVerif.Lemmas.ViterbiTable
import TracklibVerif.Lemmas.ViterbiLik
import TracklibVerif.Lemmas.ViterbiZero
import TracklibVerif.Lemmas.Hmm
import TracklibVerif.Lemmas.HmmPos
import TracklibVerif.Lemmas.HmmCall
import TracklibVerif.Lemmas.ViterbiBound
import TracklibVerif.Lemmas.ViterbiSentinel
import TracklibVerif.Lemmas.ViterbiTop
import Mathlib.Algebra.Order.Monoid.Defs
import Mathlib.Algebra.Order.Group.Nat
import Mathlib.Tactic.SplitIfs
/-! # C09 — hidden-Markov decoding returns a maximum-likelihood state sequence

The property theorems (helpers: `Lemmas/Viterbi.lean`, `Lemmas/ViterbiTable.lean`, `Lemmas/ViterbiSentinel.lean`,
`Lemmas/ViterbiBound.lean`, `Lemmas/ViterbiTop.lean`, `Lemmas/ViterbiLik.lean`, `Lemmas/ViterbiZero.lean`, `Lemmas/Hmm.lean`,
`Lemmas/HmmPos.lean`, `Lemmas/HmmCall.lean`); the case analyses of `estimateS` / `estimateX` (T10–T12, T14) are proved here.
T0–T4c are about `TV.Viterbi.decode`, the table-building executable model of the decoder inside `HMM.estimate`
that the native driver runs against the real code (`Model/Viterbi.lean`), for a track of `N+1` epochs,
any numbers of candidate states `t.n k ≥ 1` (they may differ per epoch) and any cost tables.
T5–T7 are about `TV.Hmm.estimate` (`Model/Hmm.lean`), the call as a whole: the HMM object and its `log` flag
(`estimate` honours its `log` argument since fix d19cf43: `self.log = self.log or log`), the compilation of the
candidate states and of the observations from the track, the cost tables of THAT call, and the writing of
`hmm_inference` (the state object) / `hmm_cost` — for histories of calls on tracks that already carry results.
T8–T9 are about the POSITIONS: the modes 3, 4, 5 rebind the position of every epoch to the decoded state object and
write no coordinate of any object; `x`, `y`, `z` as observation names read the coordinates of whatever object the
position is when the call is made. T10–T11 are about what `S` may return (`TV.Hmm.estimateS`): anything with a length
and integer indexing is a candidate list; anything else is a `TypeError` before the track is touched.
T13 is about user functions that READ THE TRACK they are handed: the call depends on them only through their values on the
call-time track (nothing is re-evaluated on a half-written one). T14 is about user functions that RAISE
(`TV.Hmm.estimateX`, what the driver runs): the exception propagates and nothing of the track is written.

Reading of the model: `t.obs k l` is `-Plog(STATES[k][l], OBS[k], k)`, `t.trans k m l` is
`-Qlog(STATES[k][m], STATES[k+1][l], k)`, `t.add` is Python's `+`, `t.big` the `1e300` sentinel; the
result `r` lists per epoch `(idk, TAB_VAL[k][idk])`, i.e. the index of `hmm_inference` among that epoch's
candidates (`seqOf r k`) and `hmm_cost` (`costAt r k`). `cost t σ k` is the cost of the sequence `σ` up to
epoch `k`, accumulated exactly as the code does: `(q + previous) + p`.

Hypotheses: `Mono t` — the accumulation is monotone in each argument (true of `+` in every ordered
additive monoid, and of IEEE addition on finite values; the latter is not proved); `PathsBelow t` —
the running cost of every candidate sequence stays below the sentinel. -/
namespace TV.C09
open TV.Viterbi
variable {α : Type} [LinearOrder α]

/-- **T0 (no failure).** When each of the `N+1` epochs has at least one candidate state, decoding does
not raise and records exactly one entry per epoch. -/
theorem decode_succeeds (t : Tables α) (N : Nat) (hpos : ∀ k, k ≤ N → 0 < t.n k) :
    ∃ r, decode t (N+1) = .ok r ∧ r.length = N + 1 := by
  obtain ⟨idk, _, _, h⟩ := decode_eq t N hpos
  exact ⟨_, h, by simp⟩

/-- **T1 `decoded_valid`.** The inferred sequence has one entry per epoch and the entry of epoch `k` is an
index `< n_k`: the state written to `hmm_inference` at epoch `k` is one of THAT epoch's candidates
(`STATES[k][idk]`). Needs no hypothesis on the costs (in particular none on the sentinel). -/
theorem decoded_valid (t : Tables α) (N : Nat) (hpos : ∀ k, k ≤ N → 0 < t.n k) (r : List (Nat × α))
    (h : decode t (N+1) = .ok r) : r.length = N + 1 ∧ ∀ k, k ≤ N → seqOf r k < t.n k := by
  obtain ⟨hlen, hN, _, hseq⟩ := decode_ok t N hpos r h
  refine ⟨hlen, fun k hk => ?_⟩
  rw [(hseq k hk).1]
  exact back_lt_n t N _ (fun j hj => hpos j (by omega)) hN k hk

/-- **T2 `decoded_cost`.** The `hmm_cost` recorded at epoch `k` is the accumulated (left-fold) cost of the
decoded sequence up to epoch `k`; at the last epoch it is `TAB_VAL[N][idk]`, the smallest entry of the last
column. -/
theorem decoded_cost (t : Tables α) (N : Nat) (hpos : ∀ k, k ≤ N → 0 < t.n k) (hbig : PathsBelow t N)
    (r : List (Nat × α)) (h : decode t (N+1) = .ok r) :
    (∀ k, k ≤ N → costAt r k = some (cost t (seqOf r) k)) ∧
    costAt r N = some (val t N (seqOf r N)) ∧
    ∀ l, l < t.n N → val t N (seqOf r N) ≤ val t N l := by
  obtain ⟨_, hN, hmin, hseq⟩ := decode_ok t N hpos r h
  have hf := found_of_sentinel t N hpos (sentinel_of_paths t N hpos hbig) _ hN
  exact ⟨(decoded_of_found t N hpos r h hf).1, (hseq N (Nat.le_refl _)).2, hmin⟩

/-- **T3 `decoded_optimal`.** The decoded sequence costs no more than ANY sequence that picks one candidate
per epoch, and the cost recorded at the last epoch is that minimum. Together with T1 (the decoded sequence
is itself such a sequence) the recorded cost is the optimum over all `Π n_k` candidate sequences. -/
theorem decoded_optimal (t : Tables α) (hm : Mono t) (N : Nat) (hpos : ∀ k, k ≤ N → 0 < t.n k)
    (hbig : PathsBelow t N) (r : List (Nat × α)) (h : decode t (N+1) = .ok r)
    (σ : Nat → Nat) (hσ : ∀ k, k ≤ N → σ k < t.n k) :
    cost t (seqOf r) N ≤ cost t σ N ∧ costAt r N = some (cost t (seqOf r) N) := by
  obtain ⟨hc, hv, hmin⟩ := decoded_cost t N hpos hbig r h
  have e := Option.some.inj ((hc N (Nat.le_refl _)).symm.trans hv)
  exact ⟨e ▸ minVal_le_cost t hm N _ hmin σ hσ, hc N (Nat.le_refl _)⟩

/-- T3 for the code's accumulation `+` over any ordered additive commutative monoid. -/
theorem decoded_optimal_add [AddCommMonoid α] [IsOrderedAddMonoid α] (t : Tables α)
    (hadd : t.add = (· + ·)) (N : Nat) (hpos : ∀ k, k ≤ N → 0 < t.n k) (hbig : PathsBelow t N)
    (r : List (Nat × α)) (h : decode t (N+1) = .ok r)
    (σ : Nat → Nat) (hσ : ∀ k, k ≤ N → σ k < t.n k) :
    cost t (seqOf r) N ≤ cost t σ N ∧ costAt r N = some (cost t (seqOf r) N) :=
  decoded_optimal t (mono_of_add t hadd) N hpos hbig r h σ hσ

/-- **T4 `likelihood_form`** (ℝ). Let the user's `P`, `Q` return likelihoods `p k l`, `q k m l` that are
strictly positive once the guard `eps ≥ 0` is added (the code's `eps` is `1e-300`; with `eps = 0` and strictly
positive likelihoods `lik` is the plain joint likelihood `P₀ · Π Q_k P_{k+1}`). Then the decoded sequence is
a candidate sequence of MAXIMAL joint likelihood and the cost recorded at the last epoch is `-log` of that
maximum. -/
theorem likelihood_form (n : Nat → Nat) (p : Nat → Nat → ℝ) (q : Nat → Nat → Nat → ℝ) (eps big : ℝ) (N : Nat)
    (hpos : ∀ k, k ≤ N → 0 < n k)
    (hp : ∀ k l, k ≤ N → l < n k → 0 < p k l + eps)
    (hq : ∀ k m l, k < N → m < n k → l < n (k+1) → 0 < q k m l + eps)
    (hbig : PathsBelow (likTables n p q eps big false) N)
    (r : List (Nat × ℝ)) (h : decode (likTables n p q eps big false) (N+1) = .ok r) :
    (∀ k, k ≤ N → seqOf r k < n k) ∧
    (∀ σ : Nat → Nat, (∀ k, k ≤ N → σ k < n k) → lik p q eps σ N ≤ lik p q eps (seqOf r) N) ∧
    costAt r N = some (- Real.log (lik p q eps (seqOf r) N)) := by
  have hv := (decoded_valid (likTables n p q eps big false) N hpos r h).2
  refine ⟨hv, fun σ hσ => ?_, ?_⟩
  · have ho := (decoded_optimal_add (likTables n p q eps big false) rfl N hpos hbig r h σ hσ).1
    exact (cost_le_iff_lik_ge n p q eps big N hp hq (seqOf r) σ hv hσ).mp ho
  · have hc := (decoded_cost (likTables n p q eps big false) N hpos hbig r h).1 N (Nat.le_refl _)
    rw [hc, cost_eq_neg_log n p q eps big N hp hq (seqOf r) hv N (Nat.le_refl _)]

/-- **`paths_below_of_bounded`** (the sentinel hypothesis made checkable). If no entry of the cost tables exceeds
`B ≥ 0` and `2N·B` is below the sentinel, then `PathsBelow` holds: the `1e300` start value of `best_val` is never the
minimum. (Over an ordered additive commutative monoid; `n • B` is `B + … + B`.) -/
theorem paths_below_of_bounded [AddCommMonoid α] [IsOrderedAddMonoid α] (t : Tables α) (hadd : t.add = (· + ·))
    (B : α) (hB : 0 ≤ B) (N : Nat)
    (hobs : ∀ k l, k ≤ N → l < t.n k → t.obs k l ≤ B)
    (htr : ∀ k m l, k < N → m < t.n k → l < t.n (k+1) → t.trans k m l ≤ B)
    (hbig : (2 * N) • B < t.big) : PathsBelow t N :=
  pathsBelow_of_bounded t hadd B hB N hobs htr hbig

/-- **T4' `likelihood_form_nonneg`** (ℝ; T4 without a hypothesis on running costs). For NON-NEGATIVE likelihoods — zeros
included, values above 1 included (unnormalised) — and a guard `0 < eps ≤ 1`, every cost is at most `-log eps`
(690.78 for the code's `1e-300`), so it is enough that `2N·(-log eps)` is below the sentinel (for the code's constants:
any track of fewer than `10^296` epochs, see the example below): the decoded sequence is a candidate sequence of maximal
guarded joint likelihood and the cost recorded at the last epoch is `-log` of that maximum. -/
theorem likelihood_form_nonneg (n : Nat → Nat) (p : Nat → Nat → ℝ) (q : Nat → Nat → Nat → ℝ) (eps big : ℝ) (N : Nat)
    (hpos : ∀ k, k ≤ N → 0 < n k) (he : 0 < eps) (he1 : eps ≤ 1)
    (hp : ∀ k l, k ≤ N → l < n k → 0 ≤ p k l)
    (hq : ∀ k m l, k < N → m < n k → l < n (k+1) → 0 ≤ q k m l)
    (hbig : (2 * N : ℝ) * (- Real.log eps) < big)
    (r : List (Nat × ℝ)) (h : decode (likTables n p q eps big false) (N+1) = .ok r) :
    (∀ k, k ≤ N → seqOf r k < n k) ∧
    (∀ σ : Nat → Nat, (∀ k, k ≤ N → σ k < n k) → lik p q eps σ N ≤ lik p q eps (seqOf r) N) ∧
    costAt r N = some (- Real.log (lik p q eps (seqOf r) N)) := by
  have key : ∀ v : ℝ, 0 ≤ v → - Real.log (v + eps) ≤ - Real.log eps :=
    fun v hv => neg_le_neg (Real.log_le_log he (le_add_of_nonneg_left hv))
  exact likelihood_form n p q eps big N hpos
    (fun k l hk hl => add_pos_of_nonneg_of_pos (hp k l hk hl) he)
    (fun k m l hk hm hl => add_pos_of_nonneg_of_pos (hq k m l hk hm hl) he)
    (paths_below_of_bounded (likTables n p q eps big false) rfl (- Real.log eps)
      (neg_nonneg.mpr (Real.log_nonpos he.le he1)) N (fun k l hk hl => key _ (hp k l hk hl))
      (fun k m l hk hm hl => key _ (hq k m l hk hm hl)) (by simpa [likTables, nsmul_eq_mul] using hbig)) r h

/-- **T4b `logs_supplied_same`.** A user who passes the logarithms `log (v + eps)` of the same likelihoods
and declares the model with `log=True` makes `estimate` work on exactly the same cost tables: same decoded
sequence, same recorded costs (so T1–T4 hold for it, with the same optimum). -/
theorem logs_supplied_same (n : Nat → Nat) (p : Nat → Nat → ℝ) (q : Nat → Nat → Nat → ℝ)
    (eps eps' big : ℝ) (N : Nat) :
    decode (likTables n (fun k l => Real.log (p k l + eps)) (fun k m l => Real.log (q k m l + eps))
        eps' big true) N
      = decode (likTables n p q eps big false) N := by
  rw [likTables_log]

/-- **T4c `zero_factors_minimised`** (ℝ; likelihood 0 and the `1e-300` guard). Let the likelihoods returned by `P`
and `Q` be `0` or in `[a, b]` with `0 < eps ≤ a ≤ b`, and let the guard be small against them:
`eps · (b + eps)^(2N) < a^(2N+1)` (for the code's `eps = 1e-300`: e.g. `a = 1e-10`, `b = 1`, up to 11 epochs —
see the example below). Then the decoded sequence has the SMALLEST NUMBER OF ZERO FACTORS among all candidate
sequences (`nzero` counts the zeros among the `2N+1` likelihoods of a sequence); by T4 it moreover maximises the
guarded product `Π (v + eps)`, i.e. among the sequences with that number of zeros it maximises — up to the
guard — the product of the non-zero likelihoods. A zero likelihood is therefore never "impossible" for the
decoder: it costs `-log eps` = 690.78, and a sequence through zeros is returned exactly when every candidate
sequence has at least as many. -/
theorem zero_factors_minimised (n : Nat → Nat) (p : Nat → Nat → ℝ) (q : Nat → Nat → Nat → ℝ) (eps a b big : ℝ)
    (N : Nat) (hpos : ∀ k, k ≤ N → 0 < n k)
    (he : 0 < eps) (hea : eps ≤ a) (hab : a ≤ b) (hsep : eps * (b + eps) ^ (2 * N) < a ^ (2 * N + 1))
    (hp : ∀ k l, k ≤ N → l < n k → p k l = 0 ∨ (a ≤ p k l ∧ p k l ≤ b))
    (hq : ∀ k m l, k < N → m < n k → l < n (k+1) → q k m l = 0 ∨ (a ≤ q k m l ∧ q k m l ≤ b))
    (hbig : PathsBelow (likTables n p q eps big false) N)
    (r : List (Nat × ℝ)) (h : decode (likTables n p q eps big false) (N+1) = .ok r)
    (σ : Nat → Nat) (hσ : ∀ k, k ≤ N → σ k < n k) :
    nzero p q (seqOf r) N ≤ nzero p q σ N := by
  have ha : 0 < a := lt_of_lt_of_le he hea
  have guarded : ∀ v : ℝ, v = 0 ∨ (a ≤ v ∧ v ≤ b) → 0 < v + eps := fun v hv =>
    add_pos_of_nonneg_of_pos (hv.elim (fun h0 => h0.ge) (fun h => ha.le.trans h.1)) he
  have hp' : ∀ k l, k ≤ N → l < n k → 0 < p k l + eps := fun k l hk hl => guarded _ (hp k l hk hl)
  have hq' : ∀ k m l, k < N → m < n k → l < n (k+1) → 0 < q k m l + eps :=
    fun k m l hk hm hl => guarded _ (hq k m l hk hm hl)
  obtain ⟨hv, hmax, _⟩ := likelihood_form n p q eps big N hpos hp' hq' hbig r h
  by_contra hc
  have hlt := lik_lt_of_nzero_lt p q n eps a b N he hea hab hsep hp hq σ (seqOf r) hσ hv (by omega)
  exact absurd (hmax σ hσ) (not_le.mpr hlt)

/-- corollary: when some candidate sequence avoids every zero likelihood, so does the decoded one -/
theorem zero_avoided (n : Nat → Nat) (p : Nat → Nat → ℝ) (q : Nat → Nat → Nat → ℝ) (eps a b big : ℝ)
    (N : Nat) (hpos : ∀ k, k ≤ N → 0 < n k)
    (he : 0 < eps) (hea : eps ≤ a) (hab : a ≤ b) (hsep : eps * (b + eps) ^ (2 * N) < a ^ (2 * N + 1))
    (hp : ∀ k l, k ≤ N → l < n k → p k l = 0 ∨ (a ≤ p k l ∧ p k l ≤ b))
    (hq : ∀ k m l, k < N → m < n k → l < n (k+1) → q k m l = 0 ∨ (a ≤ q k m l ∧ q k m l ≤ b))
    (hbig : PathsBelow (likTables n p q eps big false) N)
    (r : List (Nat × ℝ)) (h : decode (likTables n p q eps big false) (N+1) = .ok r)
    (σ : Nat → Nat) (hσ : ∀ k, k ≤ N → σ k < n k) (h0 : nzero p q σ N = 0) :
    nzero p q (seqOf r) N = 0 := by
  have := zero_factors_minimised n p q eps a b big N hpos he hea hab hsep hp hq hbig r h σ hσ
  omega

/-! ## Without the sentinel hypothesis: impossible transitions, infinite costs, the `1e300` start value reached

T3 assumes `PathsBelow` (every running cost of every candidate sequence below `1e300`). In map-matching most transitions
are IMPOSSIBLE: a user who supplies logarithms returns `-inf` for them (cost `+inf`), and `inf < 1e300` is false, so the
scan over the predecessors may end with its start values `best_val = 1e300`, `best_ant = 0`. T15–T18 say what the decoder
does then, for costs that never decrease a running value (`Infl`: non-negative, possibly infinite costs — log-likelihoods
of probabilities; a probability DENSITY above 1 has a negative cost and is covered by T3 only). They hold in every linear
order with a monotone accumulation, in particular for `+` on `WithTop β` (`⊤` = impossible) and on `ℝ≥0∞`. -/

/-- `+` with non-negative costs never decreases a running value (ordered additive commutative monoid; in `WithTop β`,
`ℝ≥0∞`, … `⊤` is a non-negative cost). -/
theorem infl_add [AddCommMonoid α] [IsOrderedAddMonoid α] (t : Tables α) (hadd : t.add = (· + ·)) (N : Nat)
    (hobs : ∀ k l, k ≤ N → l < t.n k → 0 ≤ t.obs k l)
    (htr : ∀ k m l, k < N → m < t.n k → l < t.n (k+1) → 0 ≤ t.trans k m l) : Infl t N :=
  infl_of_add t hadd N hobs htr

/-- **T15 `decoded_optimal_feasible`** (T1–T3 with NO hypothesis on running costs). Costs that never decrease a value,
at least one candidate per epoch, and SOME candidate sequence `σ₀` whose cost is below the sentinel (with infinite costs
for impossible transitions / emissions: some sequence is possible and its cost is below `1e300`). Then the decoded
sequence is a candidate sequence, the `hmm_cost` recorded at EVERY epoch is the cost of the decoded prefix, the decoded
sequence costs no more than ANY candidate sequence — the impossible ones and those above the sentinel included — and its
cost is below the sentinel. Cells that the scan left at `1e300 + p` (T17) are never on the decoded path. -/
theorem decoded_optimal_feasible (t : Tables α) (hm : Mono t) (N : Nat) (hpos : ∀ k, k ≤ N → 0 < t.n k)
    (hi : Infl t N) (r : List (Nat × α)) (h : decode t (N+1) = .ok r)
    (σ₀ : Nat → Nat) (hσ₀ : ∀ k, k ≤ N → σ₀ k < t.n k) (hc₀ : cost t σ₀ N < t.big) :
    (∀ k, k ≤ N → seqOf r k < t.n k) ∧
    (∀ k, k ≤ N → costAt r k = some (cost t (seqOf r) k)) ∧
    (∀ σ : Nat → Nat, (∀ k, k ≤ N → σ k < t.n k) → cost t (seqOf r) N ≤ cost t σ N) ∧
    cost t (seqOf r) N < t.big := by
  obtain ⟨_, hN, hmin, _⟩ := decode_ok t N hpos r h
  have hlow := minVal_le_cost t hm N _ hmin
  have hbelow := (hlow σ₀ hσ₀).trans_lt hc₀
  obtain ⟨hc, e⟩ := decoded_of_found t N hpos r h (found_of_below t N hi N (Nat.le_refl _) _ hN hbelow)
  exact ⟨(decoded_valid t N hpos r h).2, hc, fun σ hσ => e ▸ hlow σ hσ, e ▸ hbelow⟩

/-- **T16 `decoded_infeasible`** (what is returned when NO candidate sequence is possible). Costs that never decrease a
value; every candidate sequence costs at least the sentinel (e.g. every one goes through an impossible transition: cost
`+inf`). The call still succeeds (T0) and assigns every epoch one of its candidates (T1) — every sequence being as bad
as any other, the assigned one is trivially optimal — but the `hmm_cost` recorded at the last epoch is only known to be
at least the sentinel: the code records `1e300 + p` (T17), NOT `+inf`, for a sequence that is impossible. A user tells
"no possible sequence" from `hmm_cost[-1] >= 1e300`. -/
theorem decoded_infeasible (t : Tables α) (hm : Mono t) (N : Nat) (hpos : ∀ k, k ≤ N → 0 < t.n k)
    (hi : Infl t N) (r : List (Nat × α)) (h : decode t (N+1) = .ok r)
    (hall : ∀ σ : Nat → Nat, (∀ k, k ≤ N → σ k < t.n k) → t.big ≤ cost t σ N) :
    (∀ k, k ≤ N → seqOf r k < t.n k) ∧ ∃ v, costAt r N = some v ∧ t.big ≤ v := by
  obtain ⟨_, hN, hmin, hseq⟩ := decode_ok t N hpos r h
  exact ⟨(decoded_valid t N hpos r h).2, _, (hseq N (Nat.le_refl _)).2,
    (decoded_no_sentinel_hyp t hm N hpos hi _ hN hmin).2.2 hall⟩

/-- **T17 `sentinel_cell`** (the `1e300` start value reached). A candidate `l` of epoch `k+1` none of whose predecessors
offers a value below the sentinel (`q + TAB_VAL[k][m] < 1e300` is false for every `m`: impossible transitions, or
predecessors that are themselves such cells): `TAB_MRK[k+1][l] = 0`, the initial `best_ant`, and
`TAB_VAL[k+1][l] = 1e300 + p`. No hypothesis on the tables. -/
theorem sentinel_cell (t : Tables α) (k l : Nat)
    (h : ∀ m, m < t.n k → ¬ t.add (t.trans k m l) (val t k m) < t.big) :
    mrk t k l = 0 ∧ val t (k+1) l = t.add t.big (t.obs (k+1) l) :=
  TV.Viterbi.sentinel_cell t k l h

/-- T15 for `+` and non-negative costs over any ordered additive commutative monoid (ℕ, ℚ≥0, `WithTop ℚ`, `ℝ≥0∞`, …). -/
theorem decoded_optimal_feasible_add [AddCommMonoid α] [IsOrderedAddMonoid α] (t : Tables α) (hadd : t.add = (· + ·))
    (N : Nat) (hpos : ∀ k, k ≤ N → 0 < t.n k)
    (hobs : ∀ k l, k ≤ N → l < t.n k → 0 ≤ t.obs k l)
    (htr : ∀ k m l, k < N → m < t.n k → l < t.n (k+1) → 0 ≤ t.trans k m l)
    (r : List (Nat × α)) (h : decode t (N+1) = .ok r)
    (σ₀ : Nat → Nat) (hσ₀ : ∀ k, k ≤ N → σ₀ k < t.n k) (hc₀ : cost t σ₀ N < t.big) :
    (∀ k, k ≤ N → seqOf r k < t.n k) ∧
    (∀ k, k ≤ N → costAt r k = some (cost t (seqOf r) k)) ∧
    (∀ σ : Nat → Nat, (∀ k, k ≤ N → σ k < t.n k) → cost t (seqOf r) N ≤ cost t σ N) ∧
    cost t (seqOf r) N < t.big :=
  decoded_optimal_feasible t (mono_of_add t hadd) N hpos (infl_add t hadd N hobs htr) r h σ₀ hσ₀ hc₀

/-- **T18 `impossible_avoided`** (zero-probability transitions / emissions supplied as `-inf` logarithms: `⊤` in
`WithTop β`). Non-negative costs, `⊤` allowed anywhere; if some candidate sequence has a cost below the sentinel then
the decoded sequence goes through NO impossible emission and NO impossible transition, and (T15) it is the cheapest of
the possible sequences. -/
theorem impossible_avoided {β : Type} [AddCommMonoid β] [LinearOrder β] [IsOrderedAddMonoid β]
    (t : Tables (WithTop β)) (hadd : t.add = (· + ·)) (N : Nat) (hpos : ∀ k, k ≤ N → 0 < t.n k)
    (hobs : ∀ k l, k ≤ N → l < t.n k → 0 ≤ t.obs k l)
    (htr : ∀ k m l, k < N → m < t.n k → l < t.n (k+1) → 0 ≤ t.trans k m l)
    (r : List (Nat × WithTop β)) (h : decode t (N+1) = .ok r)
    (σ₀ : Nat → Nat) (hσ₀ : ∀ k, k ≤ N → σ₀ k < t.n k) (hc₀ : cost t σ₀ N < t.big) :
    (∀ k, k ≤ N → t.obs k (seqOf r k) ≠ ⊤) ∧ (∀ k, k < N → t.trans k (seqOf r k) (seqOf r (k+1)) ≠ ⊤) ∧
    (∀ σ : Nat → Nat, (∀ k, k ≤ N → σ k < t.n k) → cost t (seqOf r) N ≤ cost t σ N) := by
  obtain ⟨_, _, hopt, hlt⟩ := decoded_optimal_feasible_add t hadd N hpos hobs htr r h σ₀ hσ₀ hc₀
  obtain ⟨h1, h2⟩ := cost_ne_top t hadd (seqOf r) N (ne_top_of_lt hlt)
  exact ⟨h1, h2, hopt⟩

/-- **T19 `argmin_first_nan`** (`numpy.argmin` on NaN; any type with `<` and `==`, e.g. IEEE doubles). When the last
column `TAB_VAL[N]` holds a NaN — a NaN returned by `P` / `Q`, `inf - inf` — `numpy.argmin` returns the index of the
FIRST NaN, whatever the other entries are: the state inferred at the last epoch is that candidate (and `hmm_cost` there is
NaN). In the forward scan a NaN is never taken (`nan < best_val` is false). In a linear order nothing is a NaN and
`argmin?` is the first minimum (`TV.Viterbi.argmin?_spec`), which is what T0–T18 use. -/
theorem argmin_first_nan {β : Type} [LT β] [DecidableLT β] [BEq β] (xs : List β) (j : Nat) (x : β)
    (h : xs[j]? = some x) (hx : isNaN x = true)
    (hb : ∀ j' y, j' < j → xs[j']? = some y → isNaN y = false) : argmin? xs = some j := by
  obtain ⟨hj, rfl⟩ := List.getElem?_eq_some_iff.mp h
  rw [argmin?_nan xs (List.any_eq_true.mpr ⟨_, List.getElem_mem hj, hx⟩),
    (List.findIdx_eq hj).mpr ⟨hx, fun j' hj' => hb j' _ hj' (List.getElem?_eq_getElem _)⟩]

/-! ## The call as a whole: what `estimate` reads from and writes to the track (histories of calls)

`TV.Hmm.estimate` (`Model/Hmm.lean`) is `HMM.estimate` with its front end: the flag of the object, the
compilation of `STATES` and `OBS` from the track as it is when the call is made, the cost tables, the decoder
above, and the writing of the two result features. -/
section calls
open TV.Hmm
variable {β : Type}

/-- **T5 `estimate_spec`.** One call on a track of `N+1` epochs (well-formed feature table, the observation
features readable, at least one candidate per epoch) — whatever the track carried before, in particular
`hmm_inference` / `hmm_cost` of an earlier decoding or of the user: no exception; the object's flag becomes
`self.log or log`; afterwards `hmm_inference[k]` is the STATE object `S(track, k)[i_k]` and `hmm_cost[k]` the
recorded cost, where `(i_k, cost_k)` is what the decoder returns on the cost tables of THIS call; every other
feature is unchanged. So T1–T4 hold for what is read from the track after every call of a history. -/
theorem estimate_spec [LinearOrder β] [Add β] [Neg β] (nm : Num β) (h : Obj β) (tr : Trk β) (obs : List String)
    (log : Bool) (mode N : Nat) (hwf : tr.WF) (hsize : tr.size = N + 1) (OBS : List (List (ObsItem β)))
    (hobs : (List.range tr.size).mapM (fun k => getObsK nm tr obs k mode) = .ok OBS)
    (hS : ∀ k, k ≤ N → h.S tr k ≠ []) :
    ∃ r tr', decode (tablesOf nm { h with log := h.log || log } tr ((List.range tr.size).map (h.S tr)) OBS) (N+1) = .ok r ∧
      estimate nm h tr obs log mode = ({ h with log := h.log || log }, tr', none) ∧
      tr'.WF ∧ tr'.size = tr.size ∧ (∀ n, tr.has n = true → tr'.has n = true) ∧
      (∀ k, k ≤ N → tr'.get? "hmm_inference" k = some (.st ((h.S tr k).getD (seqOf r k) 0)) ∧
        ∃ v, costAt r k = some v ∧ tr'.get? "hmm_cost" k = some (.num v)) ∧
      (∀ n j, n ≠ "hmm_inference" → n ≠ "hmm_cost" → tr'.get? n j = tr.get? n j) := by
  obtain ⟨r, tr', hd, he, w, s, hh, hres, hfr, _⟩ := estimate_ok nm h tr obs log mode N hwf hsize OBS hobs hS
  exact ⟨r, tr', hd, he, w, s, hh, hres, hfr⟩

/-- **T6 `estimate_optimal`** (end to end, `+` of an ordered additive commutative group). After the call the states
read from `hmm_inference` are candidates of their epochs, they form a sequence of minimal cost among ALL candidate
sequences for the cost tables of this call, and `hmm_cost` at the last epoch is that minimal cost. -/
theorem estimate_optimal [AddCommGroup β] [LinearOrder β] [IsOrderedAddMonoid β] (nm : Num β) (h : Obj β)
    (tr : Trk β) (obs : List String) (log : Bool) (mode N : Nat) (hwf : tr.WF) (hsize : tr.size = N + 1)
    (OBS : List (List (ObsItem β)))
    (hobs : (List.range tr.size).mapM (fun k => getObsK nm tr obs k mode) = .ok OBS)
    (hS : ∀ k, k ≤ N → h.S tr k ≠ [])
    (hbig : PathsBelow (tablesOf nm { h with log := h.log || log } tr ((List.range tr.size).map (h.S tr)) OBS) N) :
    ∃ (i : Nat → Nat) (tr' : Trk β),
      estimate nm h tr obs log mode = ({ h with log := h.log || log }, tr', none) ∧
      (∀ k, k ≤ N → i k < (h.S tr k).length ∧ tr'.get? "hmm_inference" k = some (.st ((h.S tr k).getD (i k) 0))) ∧
      tr'.get? "hmm_cost" N = some (.num
        (cost (tablesOf nm { h with log := h.log || log } tr ((List.range tr.size).map (h.S tr)) OBS) i N)) ∧
      ∀ σ : Nat → Nat, (∀ k, k ≤ N → σ k < (h.S tr k).length) →
        cost (tablesOf nm { h with log := h.log || log } tr ((List.range tr.size).map (h.S tr)) OBS) i N
          ≤ cost (tablesOf nm { h with log := h.log || log } tr ((List.range tr.size).map (h.S tr)) OBS) σ N := by
  obtain ⟨r, tr', hd, he, _, _, _, hres, _⟩ := estimate_spec nm h tr obs log mode N hwf hsize OBS hobs hS
  have hc := tablesOf_counts nm { h with log := h.log || log } tr N hsize OBS hS
  have hpos := fun k hk => (hc k hk).2
  have hv := (decoded_valid _ N hpos r hd).2
  have hopt := fun (σ : Nat → Nat) (hσ : ∀ k, k ≤ N → σ k < (h.S tr k).length) =>
    decoded_optimal_add _ rfl N hpos hbig r hd σ (fun k hk => (hc k hk).1 ▸ hσ k hk)
  have hi : ∀ k, k ≤ N → seqOf r k < (h.S tr k).length := fun k hk => (hc k hk).1 ▸ hv k hk
  obtain ⟨v, hv1, hv2⟩ := (hres N (Nat.le_refl _)).2
  exact ⟨seqOf r, tr', he, fun k hk => ⟨hi k hk, (hres k hk).1⟩,
    by rw [hv2, Option.some.inj (hv1.symm.trans (hopt _ hi).2)], fun σ hσ => (hopt σ hσ).1⟩

/-- **T6b `estimate_optimal_feasible`** (end to end WITHOUT the hypothesis on running costs; `+` of an ordered additive
commutative monoid with a negation — e.g. the extended reals, where the logarithm `⊥` of a zero probability has the cost
`⊤`). The cost tables of this call are non-negative (`⊤` = impossible allowed) and some candidate sequence costs less
than the sentinel. After the call the states read from `hmm_inference` are candidates of their epochs, `hmm_cost` holds at
EVERY epoch the cost of the decoded prefix, and the decoded sequence costs no more than ANY candidate sequence. -/
theorem estimate_optimal_feasible [AddCommMonoid β] [Neg β] [LinearOrder β] [IsOrderedAddMonoid β] (nm : Num β) (h : Obj β)
    (tr : Trk β) (obs : List String) (log : Bool) (mode N : Nat) (hwf : tr.WF) (hsize : tr.size = N + 1)
    (OBS : List (List (ObsItem β)))
    (hobs : (List.range tr.size).mapM (fun k => getObsK nm tr obs k mode) = .ok OBS)
    (hS : ∀ k, k ≤ N → h.S tr k ≠ [])
    (hp : ∀ k l, 0 ≤ (tablesOf nm { h with log := h.log || log } tr ((List.range tr.size).map (h.S tr)) OBS).obs k l)
    (hq : ∀ k m l, 0 ≤ (tablesOf nm { h with log := h.log || log } tr ((List.range tr.size).map (h.S tr)) OBS).trans k m l)
    (σ₀ : Nat → Nat) (hσ₀ : ∀ k, k ≤ N → σ₀ k < (h.S tr k).length)
    (hc₀ : cost (tablesOf nm { h with log := h.log || log } tr ((List.range tr.size).map (h.S tr)) OBS) σ₀ N < nm.big) :
    ∃ (i : Nat → Nat) (tr' : Trk β),
      estimate nm h tr obs log mode = ({ h with log := h.log || log }, tr', none) ∧
      (∀ k, k ≤ N → i k < (h.S tr k).length ∧ tr'.get? "hmm_inference" k = some (.st ((h.S tr k).getD (i k) 0))) ∧
      (∀ k, k ≤ N → tr'.get? "hmm_cost" k = some (.num
        (cost (tablesOf nm { h with log := h.log || log } tr ((List.range tr.size).map (h.S tr)) OBS) i k))) ∧
      ∀ σ : Nat → Nat, (∀ k, k ≤ N → σ k < (h.S tr k).length) →
        cost (tablesOf nm { h with log := h.log || log } tr ((List.range tr.size).map (h.S tr)) OBS) i N
          ≤ cost (tablesOf nm { h with log := h.log || log } tr ((List.range tr.size).map (h.S tr)) OBS) σ N := by
  obtain ⟨r, tr', hd, he, _, _, _, hres, _⟩ := estimate_spec nm h tr obs log mode N hwf hsize OBS hobs hS
  have hc := tablesOf_counts nm { h with log := h.log || log } tr N hsize OBS hS
  obtain ⟨hv, hcost, hopt, _⟩ := decoded_optimal_feasible_add _ rfl N (fun k hk => (hc k hk).2)
    (fun k l _ _ => hp k l) (fun k m l _ _ _ => hq k m l) r hd σ₀ (fun k hk => (hc k hk).1 ▸ hσ₀ k hk) hc₀
  refine ⟨seqOf r, tr', he, fun k hk => ⟨(hc k hk).1 ▸ hv k hk, (hres k hk).1⟩, fun k hk => ?_,
    fun σ hσ => hopt σ (fun k hk => (hc k hk).1 ▸ hσ k hk)⟩
  obtain ⟨v, hv1, hv2⟩ := (hres k hk).2
  rw [hv2, Option.some.inj (hv1.symm.trans (hcost k hk))]

/-- **T7 `estimate_twice`** (histories). Two calls one after the other on the same track — other object, other
model, other observation features, other flag, other mode: after the second call the two result features hold the
decoding of the SECOND call (its tables are compiled from the track as the first call left it, so observations
edited in between, or `hmm_inference` of the first call used as an observation, are what the second call reads);
nothing of the first result is left in them. -/
theorem estimate_twice [LinearOrder β] [Add β] [Neg β] (nm : Num β) (h1 h2 : Obj β) (tr : Trk β)
    (obs1 obs2 : List String) (log1 log2 : Bool) (mode1 mode2 N : Nat) (hwf : tr.WF) (hsize : tr.size = N + 1)
    (OBS1 : List (List (ObsItem β)))
    (hobs1 : (List.range tr.size).mapM (fun k => getObsK nm tr obs1 k mode1) = .ok OBS1)
    (hS1 : ∀ k, k ≤ N → h1.S tr k ≠ []) :
    ∃ tr1, estimate nm h1 tr obs1 log1 mode1 = ({ h1 with log := h1.log || log1 }, tr1, none) ∧
      tr1.has "hmm_inference" = true ∧ tr1.has "hmm_cost" = true ∧
      ∀ (OBS2 : List (List (ObsItem β))),
        (List.range tr1.size).mapM (fun k => getObsK nm tr1 obs2 k mode2) = .ok OBS2 →
        (∀ k, k ≤ N → h2.S tr1 k ≠ []) →
        ∃ r2 tr2,
          decode (tablesOf nm { h2 with log := h2.log || log2 } tr1 ((List.range tr1.size).map (h2.S tr1)) OBS2) (N+1) = .ok r2 ∧
          estimate nm h2 tr1 obs2 log2 mode2 = ({ h2 with log := h2.log || log2 }, tr2, none) ∧
          ∀ k, k ≤ N → tr2.get? "hmm_inference" k = some (.st ((h2.S tr1 k).getD (seqOf r2 k) 0)) ∧
            ∃ v, costAt r2 k = some v ∧ tr2.get? "hmm_cost" k = some (.num v) := by
  obtain ⟨r, tr1, _, he, w1, s1, _, _, _, _, _, _, hi, hc⟩ :=
    estimate_ok nm h1 tr obs1 log1 mode1 N hwf hsize OBS1 hobs1 hS1
  refine ⟨tr1, he, hi, hc, fun OBS2 hobs2 hS2 => ?_⟩
  obtain ⟨r2, tr2, hd2, he2, _, _, _, hres2, _⟩ :=
    estimate_ok nm h2 tr1 obs2 log2 mode2 N w1 (by omega) OBS2 hobs2 hS2
  exact ⟨r2, tr2, hd2, he2, hres2⟩

/-- **T8 `estimate_positions`** (modes 3, 4, 5: positions written from states). Hypotheses of T5 and one position per
epoch. The call writes NO coordinate: the coordinates of the track's own position objects (`xyz`) are what they were
(those of the state objects, `nm.stXYZ`, are a constant of the model: a state — also one that is the position object of
another epoch of the same track, or shared by several epochs — is never modified). In the modes 3, 4, 5 the position
of EVERY epoch is rebound to the state object recorded in `hmm_inference` for that epoch (`r` is the decoding of T5),
so its coordinates are that state's; in every other mode every position is the object it was. -/
theorem estimate_positions [LinearOrder β] [Add β] [Neg β] (nm : Num β) (h : Obj β) (tr : Trk β) (obs : List String)
    (log : Bool) (mode N : Nat) (hwf : tr.WF) (hsize : tr.size = N + 1) (hplen : tr.pos.length = tr.size)
    (OBS : List (List (ObsItem β)))
    (hobs : (List.range tr.size).mapM (fun k => getObsK nm tr obs k mode) = .ok OBS)
    (hS : ∀ k, k ≤ N → h.S tr k ≠ []) :
    ∃ r tr', decode (tablesOf nm { h with log := h.log || log } tr ((List.range tr.size).map (h.S tr)) OBS) (N+1) = .ok r ∧
      estimate nm h tr obs log mode = ({ h with log := h.log || log }, tr', none) ∧
      tr'.xyz = tr.xyz ∧
      (PosMode mode → ∀ k, k ≤ N → tr'.pos[k]? = some (some ((h.S tr k).getD (seqOf r k) 0)) ∧
        tr'.posXYZ nm k = some (nm.stXYZ ((h.S tr k).getD (seqOf r k) 0))) ∧
      (¬ PosMode mode → tr'.pos = tr.pos ∧ ∀ k, tr'.posXYZ nm k = tr.posXYZ nm k) := by
  obtain ⟨r, tr', hd, he, _, _, _, _, _, hx, hn, hp, _⟩ := estimate_ok nm h tr obs log mode N hwf hsize OBS hobs hS
  refine ⟨r, tr', hd, he, hx, fun hm k hk => ?_, fun hm => ?_⟩
  · have := hp hm hplen k hk
    exact ⟨this, by simp [Trk.posXYZ, this]⟩
  · have := hn hm
    exact ⟨this, fun k => by simp [Trk.posXYZ, this, hx]⟩

/-- **T9 `positions_as_observations`** (the names `x`, `y`, `z`; `MarkovRegularization` decodes with
`obs=["x","y","z"]` in mode 4). Reading `x` / `y` / `z` at epoch `k` yields the coordinates of the object the position
of epoch `k` is at that moment. Hence after a decoding in mode 3, 4, 5 (T8) a further call — or the user — reads the
coordinates of the decoded STATE of every epoch; after a decoding in any other mode, what was read before. -/
theorem positions_as_observations (nm : Num β) (tr : Trk β) (k : Nat) (p : β × β × β)
    (hp : tr.posXYZ nm k = some p) :
    tr.getObs nm "x" k = .ok (.num p.1) ∧ tr.getObs nm "y" k = .ok (.num p.2.1) ∧
      tr.getObs nm "z" k = .ok (.num p.2.2) := by
  refine ⟨?_, ?_, ?_⟩ <;> simp [Trk.getObs, hp]

/-- T8 + T9: what `x`, `y`, `z` read after a decoding in mode 3, 4, 5 -/
theorem estimate_then_xyz [LinearOrder β] [Add β] [Neg β] (nm : Num β) (h : Obj β) (tr : Trk β) (obs : List String)
    (log : Bool) (mode N : Nat) (hwf : tr.WF) (hsize : tr.size = N + 1) (hplen : tr.pos.length = tr.size)
    (OBS : List (List (ObsItem β)))
    (hobs : (List.range tr.size).mapM (fun k => getObsK nm tr obs k mode) = .ok OBS)
    (hS : ∀ k, k ≤ N → h.S tr k ≠ []) (hm : PosMode mode) :
    ∃ r tr', decode (tablesOf nm { h with log := h.log || log } tr ((List.range tr.size).map (h.S tr)) OBS) (N+1) = .ok r ∧
      estimate nm h tr obs log mode = ({ h with log := h.log || log }, tr', none) ∧
      ∀ k, k ≤ N →
        tr'.getObs nm "x" k = .ok (.num (nm.stXYZ ((h.S tr k).getD (seqOf r k) 0)).1) ∧
        tr'.getObs nm "y" k = .ok (.num (nm.stXYZ ((h.S tr k).getD (seqOf r k) 0)).2.1) ∧
        tr'.getObs nm "z" k = .ok (.num (nm.stXYZ ((h.S tr k).getD (seqOf r k) 0)).2.2) := by
  obtain ⟨r, tr', hd, he, _, hp, _⟩ := estimate_positions nm h tr obs log mode N hwf hsize hplen OBS hobs hS
  exact ⟨r, tr', hd, he, fun k hk => positions_as_observations nm tr' k _ (hp hm k hk).2⟩

/-- **T10 `any_sequence_of_candidates`** (what `S` returns). `estimate` uses `S(track, k)` through `len` and `[i]` only.
When every epoch's return value has a length — list, tuple, numpy array, `range`, `deque`, a user class — the call is
exactly `estimate` on the items in index order (`ObjS.toObj`): same flag, same track, same exception if any. So T5–T9
hold with "candidates of epoch `k`" = the items of whatever `S` returned. (`NoDomainError`: no value that is converted
lies outside the domain of `math.log` — true when the flag is set and for likelihoods `v` with `v + 1e-300 > 0`; T12
is the other case.) -/
theorem any_sequence_of_candidates [LinearOrder β] [Add β] [Neg β] (nm : Num β) (h : ObjS β) (tr : Trk β)
    (obs : List String) (log : Bool) (mode : Nat) (hs : ∀ k, k < tr.size → (h.S tr k).isSized = true)
    (hd : NoDomainError nm h tr obs log mode) :
    (estimateS nm h tr obs log mode).1.log = (estimate nm h.toObj tr obs log mode).1.log ∧
    (estimateS nm h tr obs log mode).2 = (estimate nm h.toObj tr obs log mode).2 := by
  unfold estimateS
  rw [if_pos (by simp only [List.all_eq_true, List.mem_range]; exact hs)]
  cases hobs : (List.range tr.size).mapM (fun k => getObsK nm tr obs k mode) with
  | error e => simp
  | ok OBS =>
    have := hd OBS hobs
    simp only [ObjS.toObj] at this ⊢
    simp [this]

/-- the flag is set (constructor, `setLog`, or the argument of this call): nothing is converted, `math.log` is not called -/
theorem no_domain_error_of_log [Add β] (nm : Num β) (h : ObjS β) (tr : Trk β) (obs : List String) (log : Bool) (mode : Nat)
    (hl : (h.log || log) = true) : NoDomainError nm h tr obs log mode := by
  intro OBS _
  simp only [domainError, ObjS.toObj, hl]
  rfl

/-- **T12 `negative_likelihood_raises`.** The flag is not set and, among the values `P` / `Q` return for the candidates of
the track (every candidate of every epoch, every pair of candidates of consecutive epochs), one is outside the domain of
`math.log` once the guard is added (`v + 1e-300 ≤ 0`: a negative "likelihood"): `ValueError` — raised in the first
column or the forward pass, so NOTHING of the track is written; the flag is or-ed (i.e. stays unset). -/
theorem negative_likelihood_raises [LinearOrder β] [Add β] [Neg β] (nm : Num β) (h : ObjS β) (tr : Trk β)
    (obs : List String) (log : Bool) (mode : Nat) (hs : ∀ k, k < tr.size → (h.S tr k).isSized = true)
    (hne : tr.size ≠ 0) (OBS : List (List (ObsItem β)))
    (hobs : (List.range tr.size).mapM (fun k => getObsK nm tr obs k mode) = .ok OBS)
    (hd : domainError nm { h.toObj with log := h.log || log } tr ((List.range tr.size).map (h.toObj.S tr)) OBS = true) :
    estimateS nm h tr obs log mode = ({ h with log := h.log || log }, tr, some .value) := by
  unfold estimateS
  rw [if_pos (by simp only [List.all_eq_true, List.mem_range]; exact hs)]
  simp only [ObjS.toObj] at hd ⊢
  simp [hobs, hd, hne]

/-- **T11 `candidates_without_length`.** When `S` returns at some epoch something without a length (a generator, `None`,
a bare state object): `TypeError`; the flag has been or-ed into the object; NOTHING of the track is written (no feature
created, no position rebound) — whatever the other epochs, the observations and the mode are. -/
theorem candidates_without_length [LinearOrder β] [Add β] [Neg β] (nm : Num β) (h : ObjS β) (tr : Trk β)
    (obs : List String) (log : Bool) (mode : Nat) (k : Nat) (hk : k < tr.size) (hu : (h.S tr k).isSized = false) :
    estimateS nm h tr obs log mode = ({ h with log := h.log || log }, tr, some .type) := by
  unfold estimateS
  rw [if_neg]
  simp only [List.all_eq_true, List.mem_range, not_forall]
  exact ⟨k, hk, by simp [hu]⟩

/-- **T13 `estimate_reads_call_time_track`** (user functions that look at the track). `S(track, k)`, `Q(s1, s2, k, track)`,
`P(s, y, k, track)` all receive the track and may read it (a window of positions, a heading towards the next fix, a feature
of an earlier decoding). `estimate` depends on them ONLY through their values on the track it is handed, as that track is
when the call is made: two triples of functions that agree there — and differ arbitrarily on every other track, in
particular on the half-written tracks the call itself goes through (result features created, `hmm_inference` /
`hmm_cost` of later epochs already written, positions of later epochs already rebound in the modes 3, 4, 5) — yield the
same track, the same exception and the same flag. So the model the statement speaks about ("candidate lists and
likelihoods given by the user") is the one the functions define on the call-time track: T1–T12 are stated for `h.S tr`,
`h.Q · · · tr`, `h.P · · · tr` with that `tr`, and no function is evaluated a second time on a modified track. -/
theorem estimate_reads_call_time_track [Add β] [Neg β] [LT β] [DecidableLT β] [BEq β] (nm : Num β) (h1 h2 : Obj β) (tr : Trk β)
    (obs : List String) (log : Bool) (mode : Nat)
    (hS : ∀ k, h1.S tr k = h2.S tr k) (hQ : ∀ a b k, h1.Q a b k tr = h2.Q a b k tr)
    (hP : ∀ s y k, h1.P s y k tr = h2.P s y k tr) (hl : h1.log = h2.log) :
    (estimate nm h1 tr obs log mode).2 = (estimate nm h2 tr obs log mode).2 ∧
    (estimate nm h1 tr obs log mode).1.log = (estimate nm h2 tr obs log mode).1.log :=
  estimate_congr nm h1 h2 tr obs log mode (fun k _ => hS k) hQ hP hl

/-- T13, the form an oracle uses: decoding with track-reading user functions IS decoding with the candidate lists and
likelihood tables frozen when the call is made (`Obj.frozen`: functions that ignore the track they are handed). -/
theorem estimate_is_frozen_model [Add β] [Neg β] [LT β] [DecidableLT β] [BEq β] (nm : Num β) (h : Obj β) (tr : Trk β)
    (obs : List String) (log : Bool) (mode : Nat) :
    (estimate nm h tr obs log mode).2 = (estimate nm (h.frozen tr) tr obs log mode).2 ∧
    (estimate nm h tr obs log mode).1.log = (estimate nm (h.frozen tr) tr obs log mode).1.log :=
  estimate_congr nm h (h.frozen tr) tr obs log mode (fun _ _ => rfl) (fun _ _ _ => rfl) (fun _ _ _ => rfl) rfl

/-- T13 for any return type of `S` and any numbers (`estimateS`: TypeError / ValueError of `math.log` included) -/
theorem estimateS_reads_call_time_track [Add β] [Neg β] [LT β] [DecidableLT β] [BEq β] (nm : Num β) (h1 h2 : ObjS β) (tr : Trk β)
    (obs : List String) (log : Bool) (mode : Nat)
    (hS : ∀ k, h1.S tr k = h2.S tr k) (hQ : ∀ a b k, h1.Q a b k tr = h2.Q a b k tr)
    (hP : ∀ s y k, h1.P s y k tr = h2.P s y k tr) (hl : h1.log = h2.log) :
    (estimateS nm h1 tr obs log mode).2 = (estimateS nm h2 tr obs log mode).2 ∧
    (estimateS nm h1 tr obs log mode).1.log = (estimateS nm h2 tr obs log mode).1.log := by
  have hA := estimate_congr nm h1.toObj h2.toObj tr obs log mode (fun k _ => congrArg SRet.items (hS k)) hQ hP hl
  have hD := domainError_congr nm { h1.toObj with log := h1.toObj.log || log }
    { h2.toObj with log := h2.toObj.log || log } tr hQ hP (congrArg (· || log) hl)
  have hST : (List.range tr.size).map (h1.toObj.S tr) = (List.range tr.size).map (h2.toObj.S tr) :=
    List.map_congr_left (fun k _ => congrArg SRet.items (hS k))
  unfold estimateS
  -- the conditions and the inner call are the same on both sides; the projections commute with the `if`s
  simp only [hS, hST, hD, hA.1, hA.2, hl, apply_ite Prod.snd, apply_ite Prod.fst, apply_ite ObjS.log, and_self]

/-- **T14 `user_exception_nothing_written`** (user functions that raise; `TV.Hmm.estimateX`). `estimate` catches nothing
and calls every user function before the backward step, the only place where the track is written. Whenever the call
ends with the exception of a user function, the track is exactly what it was — no feature created, no cell written, no
position rebound — and the flag has been or-ed into the object. -/
theorem user_exception_nothing_written [Add β] [Neg β] [LT β] [DecidableLT β] [BEq β] (nm : Num β) (h : ObjX β) (tr : Trk β)
    (obs : List String) (log : Bool) (mode : Nat) (hu : (estimateX nm h tr obs log mode).2.2 = some .user) :
    estimateX nm h tr obs log mode = (h.log || log, tr, some .user) := by
  revert hu
  -- the three branches of `estimateX`: `S` raises; a user function raises first in the forward pass; `estimateS`
  fun_cases estimateX nm h tr obs log mode
  case case3 => exact fun hu => absurd hu (estimateS_ne_user nm (h.toObjS nm.zero) tr obs log mode)
  all_goals exact fun _ => rfl

/-- T14a: `S(track, k)` raising at some epoch — whatever the other epochs return (a list, a generator, …), whatever the
observation names are: that exception (every `S(track, k)` is called before the first `len`). -/
theorem user_exception_from_S [Add β] [Neg β] [LT β] [DecidableLT β] [BEq β] (nm : Num β) (h : ObjX β) (tr : Trk β)
    (obs : List String) (log : Bool) (mode : Nat) (k : Nat) (hk : k < tr.size) (hn : h.S tr k = none) :
    estimateX nm h tr obs log mode = (h.log || log, tr, some .user) := by
  unfold estimateX
  rw [if_pos (List.any_eq_true.mpr ⟨k, List.mem_range.mpr hk, by rw [hn]; rfl⟩)]

/-- T14b: every `S(track, k)` has a length, the observations compile, the track is not empty, and among the `Plog` /
`Qlog` calls in the order of the code (first column; then per epoch, per candidate, the transitions from every candidate
of the previous epoch and then the observation) the first one that fails fails with the user function's exception (not
with `math.log`'s ValueError): that exception, nothing written. -/
theorem user_exception_from_call [Add β] [Neg β] [LT β] [DecidableLT β] [BEq β] (nm : Num β) (h : ObjX β) (tr : Trk β)
    (obs : List String) (log : Bool) (mode : Nat)
    (hS : ∀ k, k < tr.size → ∃ l, h.S tr k = some (.sized l)) (hne : tr.size ≠ 0) (OBS : List (List (ObsItem β)))
    (hobs : (List.range tr.size).mapM (fun k => getObsK nm tr obs k mode) = .ok OBS)
    (hf : firstErr (callsOf nm (h.log || log) h tr
      ((List.range tr.size).map (fun k => ((h.toObjS nm.zero).S tr k).items)) OBS) = some .user) :
    estimateX nm h tr obs log mode = (h.log || log, tr, some .user) := by
  have h1 : ¬ (List.range tr.size).any (fun k => (h.S tr k).isNone) = true := by
    intro hc
    obtain ⟨k, hk, hk'⟩ := List.any_eq_true.mp hc
    obtain ⟨l, hl⟩ := hS k (List.mem_range.mp hk)
    rw [hl] at hk'
    nomatch hk'
  have h2 : (List.range tr.size).all (fun k => ((h.toObjS nm.zero).S tr k).isSized) = true := by
    apply List.all_eq_true.mpr
    intro k hk
    obtain ⟨l, hl⟩ := hS k (List.mem_range.mp hk)
    simp only [ObjX.toObjS, hl]
    rfl
  unfold estimateX
  rw [if_neg h1]
  simp only [h2, hobs, hf, Bool.true_and]
  simp [hne]

/-- T14c: no user function raises on the track of the call: the call is `estimateS` on the functions' values (T10–T12,
hence T5–T9). What the functions do on other tracks is irrelevant (T13). -/
theorem no_user_exception [Add β] [Neg β] [LT β] [DecidableLT β] [BEq β] (nm : Num β) (h : ObjX β) (tr : Trk β)
    (obs : List String) (log : Bool) (mode : Nat)
    (hS : ∀ k, k < tr.size → (h.S tr k).isSome) (hQ : ∀ a b k, (h.Q a b k tr).isSome)
    (hP : ∀ s y k, (h.P s y k tr).isSome) :
    estimateX nm h tr obs log mode =
      ((estimateS nm (h.toObjS nm.zero) tr obs log mode).1.log, (estimateS nm (h.toObjS nm.zero) tr obs log mode).2.1,
       (estimateS nm (h.toObjS nm.zero) tr obs log mode).2.2) := by
  have h1 : ¬ (List.range tr.size).any (fun k => (h.S tr k).isNone) = true := by
    intro hc
    obtain ⟨k, hk, hk'⟩ := List.any_eq_true.mp hc
    have := hS k (List.mem_range.mp hk)
    cases hv : h.S tr k <;> simp [hv] at this hk'
  have h3 : ∀ ST OBS, (firstErr (callsOf nm (h.log || log) h tr ST OBS) == some Err.user) = false :=
    fun ST OBS => by simpa using callsOf_ne_user nm (h.log || log) h tr ST OBS hQ hP
  unfold estimateX
  rw [if_neg h1]
  simp only [h3]
  split <;> simp
end calls

/-! Non-vacuity: a 3-epoch model over ℕ with 2, 1 and 2 candidate states (they differ per epoch; no state
beyond the track, as in the driver), in which the cheapest state of epoch 0 is not on the optimal path. -/
section example_
private def exT : Tables Nat :=
  { n := fun k => if k = 0 then 2 else if k = 1 then 1 else if k = 2 then 2 else 0
    obs := fun k l => if k = 0 then (if l = 0 then 0 else 1) else if k = 2 then (if l = 0 then 2 else 0) else 0
    trans := fun k m l => if k = 0 then (if m = 0 then 5 else 1) else if l = 0 then 0 else 1
    add := (· + ·)
    big := 1000 }

example : decode exT 3 = .ok [(1, 1), (0, 2), (1, 3)] := by decide +kernel
example : ∀ k, k ≤ 2 → 0 < exT.n k := by
  intro k hk
  have : k = 0 ∨ k = 1 ∨ k = 2 := by omega
  rcases this with rfl | rfl | rfl <;> decide
example : Mono exT := mono_of_add exT rfl
example : PathsBelow exT 2 :=
  paths_below_of_bounded exT rfl 5 (by decide) 2
    (fun k l _ _ => by dsimp only [exT]; split_ifs <;> decide)
    (fun k m l _ _ _ => by dsimp only [exT]; split_ifs <;> decide) (by decide)
set_option exponentiation.threshold 400 in
/-- the bound of T4' for the code's constants (`eps = 1e-300`, sentinel `1e300`) and a track of a million epochs:
`-log eps = 300 log 10 ≤ 2700` -/
example : (2 * (10 ^ 6 : ℕ) : ℝ) * (- Real.log (1 / 10 ^ 300)) < 10 ^ 300 := by
  have h10 : Real.log 10 ≤ 9 := by
    have := Real.log_le_sub_one_of_pos (show (0 : ℝ) < 10 by norm_num)
    linarith
  rw [one_div, Real.log_inv, Real.log_pow, neg_neg]
  calc (2 * (10 ^ 6 : ℕ) : ℝ) * ((300 : ℕ) * Real.log 10) ≤ 2 * (10 ^ 6 : ℕ) * ((300 : ℕ) * 9) :=
        mul_le_mul_of_nonneg_left (mul_le_mul_of_nonneg_left h10 (Nat.cast_nonneg _))
          (mul_nonneg zero_le_two (Nat.cast_nonneg _))
    _ < 10 ^ 10 := by norm_num
    _ < 10 ^ 300 := pow_lt_pow_right₀ (by norm_num) (by norm_num)
/-- the hypotheses of T4 are satisfiable: two epochs of two states, all likelihoods 1, no guard -/
example : PathsBelow (likTables (fun _ => 2) (fun _ _ => 1) (fun _ _ _ => 1) 0 1000 false) 1 := by
  intro σ _ k hk
  have : k = 0 := by omega
  subst this
  simp [likTables, costOf, cost]

/-- Non-vacuity of T15–T18: costs in `WithTop ℕ`, sentinel 1000. Epoch 0 has two candidates, epoch 1 two; every
transition into candidate 0 of epoch 1 is impossible (`⊤`), as is the one from candidate 0 to candidate 1: the only
possible sequence is (1, 1), of cost 1 + 2 + 0 = 3 — although candidate 0 of epoch 0 is the cheaper start. The cell
(1, 0) is a sentinel cell: value 1000 + 0, back-pointer 0. -/
private def exTop : Tables (WithTop Nat) :=
  { n := fun k => if k ≤ 1 then 2 else 0
    obs := fun k l => if k = 0 then (if l = 0 then 0 else 1) else 0
    trans := fun _ m l => if l = 0 then ⊤ else if m = 0 then ⊤ else 2
    add := (· + ·)
    big := 1000 }
example : decode exTop 2 = .ok [(1, 1), (1, 3)] := by decide +kernel
example : mrk exTop 0 0 = 0 ∧ val exTop 1 0 = 1000 := by decide +kernel
example : cost exTop (fun _ => 1) 1 < exTop.big := by decide +kernel
example : Infl exTop 1 := infl_add exTop rfl 1 (fun _ _ _ _ => bot_le) (fun _ _ _ _ _ _ => bot_le)
/-- no possible sequence at all (every transition impossible): the decoder answers the candidates 0, 0 and records
`1000`, not `⊤` (T16, T17) -/
private def exNone : Tables (WithTop Nat) := { exTop with trans := fun _ _ _ => ⊤ }
example : decode exNone 2 = .ok [(0, 0), (0, 1000)] := by decide +kernel
end example_

/-! Non-vacuity of T4c and of the theorems about calls: the separation hypothesis for the code's guard, and a
history of two calls on a track that already carries a feature called `hmm_inference` (evaluated by the kernel). -/
section example_calls
open TV.Hmm

set_option exponentiation.threshold 400 in
/-- the separation hypothesis of T4c holds for the code's guard `1e-300`, likelihoods in `[1e-10, 1]` and tracks of
up to 11 epochs -/
example : (1 / 10 ^ 300 : ℝ) * (1 + 1 / 10 ^ 300) ^ (2 * 10) < (1 / 10 ^ 10) ^ (2 * 10 + 1) := by norm_num

private def nmZ : Num Int := { logf := fun x => x, eps := 0, big := 1000, zero := 0, idx := fun i => i }
/-- a track of 2 epochs with an observation feature and a user feature called hmm_inference -/
private def tr0 : Trk Int :=
  { size := 2, cols := [("ya", [.num 0, .num 1]), ("hmm_inference", [.num 7, .num 7])], pos := [none, none] }
/-- the observed value as a number -/
private def yv : List (ObsItem Int) → Int
  | [.cell (.num v)] => v
  | _ => 0
/-- model A prefers state `y`, model B prefers state `1 - y` (logs are given: cost = -value); two candidates 0, 1 -/
private def hA : Obj Int :=
  { S := fun _ _ => [0, 1], Q := fun _ _ _ _ => 0, P := fun s y _ _ => if (s : Int) = yv y then 0 else -1, log := true }
private def hB : Obj Int :=
  { S := fun _ _ => [0, 1], Q := fun _ _ _ _ => 0, P := fun s y _ _ => if (s : Int) = yv y then -1 else 0, log := false }

example : tr0.WF := by intro c hc; simp [tr0] at hc; rcases hc with rfl | rfl <;> rfl
example : ((estimate nmZ hA tr0 ["ya"] false 0).2.1.get? "hmm_inference" 0,
           (estimate nmZ hA tr0 ["ya"] false 0).2.1.get? "hmm_inference" 1) = (some (.st 0), some (.st 1)) := by
  decide +kernel
/-- second decoding of the same track with another model, the flag given to `estimate`: the first result is replaced -/
example : let tr1 := (estimate nmZ hA tr0 ["ya"] false 0).2.1
          let r := estimate nmZ hB tr1 ["ya"] true 0
          (r.1.log, r.2.2, r.2.1.get? "hmm_inference" 0, r.2.1.get? "hmm_inference" 1, r.2.1.get? "hmm_cost" 1)
            = (true, none, some (.st 1), some (.st 0), some (.num 0)) := by
  decide +kernel

/-- states that are positions: state `s` is at `(10 s, 0, 0)`; a decoding in mode 5 rebinds the positions, `x` then
reads the decoded states' abscissae; the own coordinates of the track are untouched -/
private def nmP : Num Int := { nmZ with stXYZ := fun s => (10 * (s : Int), 0, 0) }
private def trP : Trk Int := { tr0 with xyz := [(3, 4, 5), (6, 7, 8)] }
example : let r := estimate nmP hA trP ["ya"] false 5
          (r.2.1.pos, r.2.1.xyz) = ([some 0, some 1], [(3, 4, 5), (6, 7, 8)]) ∧
          ((r.2.1.getObs nmP "x" 0).toOption, (r.2.1.getObs nmP "x" 1).toOption) = (some (.num 0), some (.num 10)) ∧
          ((trP.getObs nmP "x" 1).toOption, (trP.getObs nmP "z" 1).toOption) = (some (.num 6), some (.num 8)) := by
  decide +kernel
example : PosMode 5 ∧ ¬ PosMode 0 := by unfold PosMode; decide
/-- `S` returning a tuple at epoch 0 and a numpy array at epoch 1 is `S` returning their items; a generator at epoch 1
is a TypeError that leaves the track as it was -/
private def hS1 : ObjS Int := { S := fun _ _ => .sized [0, 1], Q := hA.Q, P := hA.P, log := true }
private def hS2 : ObjS Int := { S := fun _ k => if k = 1 then .unsized else .sized [0, 1], Q := hA.Q, P := hA.P, log := false }
example : let a := estimateS nmZ hS1 tr0 ["ya"] false 0
          let b := estimate nmZ hA tr0 ["ya"] false 0
          (a.2.1.cols, a.2.1.pos, a.2.2) = (b.2.1.cols, b.2.1.pos, b.2.2) ∧ a.2.1.get? "hmm_inference" 1 = some (.st 1) := by
  decide +kernel
/-- `math.log` defined on the positive numbers only; model A's `P` returns `-1` for the wrong state: declared as
likelihoods (flag unset) the call raises ValueError and writes nothing; with the flag given to the call it decodes -/
private def nmD : Num Int := { nmZ with logDom := fun x => decide (0 < x) }
private def hS3 : ObjS Int := { hS1 with log := false, Q := fun _ _ _ _ => 1 }
example : let a := estimateS nmD hS3 tr0 ["ya"] false 0
          (a.2.1.cols, a.2.1.pos, a.2.2, a.1.log) = (tr0.cols, tr0.pos, some .value, false) := by
  decide +kernel
example : let a := estimateS nmD hS3 tr0 ["ya"] true 0
          (a.2.2, a.1.log, a.2.1.get? "hmm_inference" 1) = (none, true, some (.st 1)) := by
  decide +kernel
example : let a := estimateS nmZ hS2 tr0 ["ya"] true 3
          (a.2.1.cols, a.2.1.pos, a.2.2, a.1.log) = (tr0.cols, tr0.pos, some .type, true) := by
  decide +kernel

/-- T13: an `S` that looks at the NEXT fix (candidates 0, 1 while the abscissa of epoch 1 is 6, otherwise 2, 3). Decoded in
mode 5 the position of epoch 1 is rebound to its state before epoch 0 is written, so `S` evaluated on the track after the
call proposes other candidates for epoch 0 — the decoded state is one of those of the call-time track. -/
private def hT : Obj Int :=
  { hA with S := fun tr k => if k = 0 then (match tr.posXYZ nmP 1 with
                                            | some p => if p.1 = 6 then [0, 1] else [2, 3]
                                            | none => [4]) else [0, 1] }
example : let r := estimate nmP hT trP ["ya"] false 5
          (r.2.1.get? "hmm_inference" 0, r.2.1.get? "hmm_inference" 1, hT.S trP 0, hT.S r.2.1 0, r.2.2)
            = (some (.st 0), some (.st 1), [0, 1], [2, 3], none) := by
  decide +kernel
/-- T14: `P` raises for state 1 at epoch 1 (reached in the forward pass): the exception leaves the call, the track is
untouched, the flag given to the call is in the object; with an `S` that raises at epoch 1 likewise; when the raising
argument is not a candidate the call decodes -/
private def hX (raiseS : Bool) (badState : Nat) : ObjX Int :=
  { S := fun _ k => if raiseS && k = 1 then none else some (.sized [0, 1])
    Q := fun a b k tr => some (hA.Q a b k tr)
    P := fun s y k tr => if k = 1 ∧ s = badState then none else some (hA.P s y k tr)
    log := false }
example : let r := estimateX nmZ (hX false 1) tr0 ["ya"] true 0
          (r.1, r.2.1.cols, r.2.1.pos, r.2.2) = (true, tr0.cols, tr0.pos, some .user) := by decide +kernel
example : let r := estimateX nmZ (hX true 7) tr0 ["ya"] true 3
          (r.1, r.2.1.cols, r.2.1.pos, r.2.2) = (true, tr0.cols, tr0.pos, some .user) := by decide +kernel
example : let r := estimateX nmZ (hX false 7) tr0 ["ya"] true 0
          (r.1, r.2.2, r.2.1.get? "hmm_inference" 1) = (true, none, some (.st 1)) := by decide +kernel
end example_calls
end TV.C09
