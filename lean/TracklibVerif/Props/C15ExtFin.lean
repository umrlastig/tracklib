import TracklibVerif.Props.C15Ext
import TracklibVerif.Lemmas.Filter
import TracklibVerif.Lemmas.FilterNp
/-! # C15 — `Filter.execute` over Python's numbers and over a field: finite weights of any sign

`Props/C15Ext.lean` says what `Model/FilterExt.lean` (the loops of `Filter.execute` run over `Ext α`: an exact scalar extended with
`inf`, `-inf`, `nan`) returns when the weights are not finite (a weight list whose total is 0 or NaN) and when a window holds infinite samples.
This file ties that model to the model over a field (`Model/Filter.lean`) on finite inputs:

* `finite_weights_any_sign` — finite weights of any sign: the output is `Σ k·v / Σ k` over the window *as numpy divides* (`fin_div_fin`):
  the renormalised mean when the norm is not 0, `±inf` / NaN when it cancels. This is the strongest statement there is for negative
  weights: the mean formula survives, the bounds (`filter_bounds`) do not, and a cancelling norm yields an infinity, not an exception;
* `ext_model_agrees`, `list_ext_model_agrees` — without a zero norm both models return the same signal (`meanSignal`), so every theorem of
  `Props/C15.lean` about `filterWindow` / `execute` in the domain is a theorem about the model over Python's numbers as well.

No law of arithmetic is used by the transfer (`windowFrom_map₂`: the window of the lifted signal under lifted weights is the lifted window;
`foldl_fin`: `fin` commutes with `+`, `*` by definition); the field is needed to
name the sums (`wsum`, `wtot`) and to split `fin t / fin n` by the sign of `t`. Rounding stays outside, as everywhere in C15. -/
set_option linter.unusedSectionVars false
namespace TV.C15
open TV.Filter

section hom
variable {α : Type} [Add α] [Mul α] [Div α] [OfNat α 0] [LT α] [DecidableLT α]

/-- a signal of finite values and NaN (`none`), seen as Python's numbers -/
def liftSig (v : List (Option α)) : List (Ext α) :=
  v.map (fun o => match o with | none => Ext.nan | some a => Ext.fin a)

theorem liftSig_length (v : List (Option α)) : (liftSig v).length = v.length := by simp [liftSig]

theorem toSamples_liftSig (v : List (Option α)) : toSamples (liftSig v) = v.map (Option.map Ext.fin) := by
  unfold toSamples liftSig
  rw [List.map_map]
  apply List.map_congr_left
  intro o _
  cases o <;> rfl

theorem foldl_fin (k : List α) (a : α) : (k.map Ext.fin).foldl (· + ·) (Ext.fin a) = Ext.fin (k.foldl (· + ·) a) := by
  rw [List.foldl_map]
  exact List.foldl_hom Ext.fin (fun _ _ => rfl)
end hom

section finite
variable {α : Type} [Field α] [LinearOrder α] [IsStrictOrderedRing α]

/-- `temp[i] / norm` as numpy computes it from finite accumulators: the quotient when the norm is not 0, else `inf` / `-inf` by the
sign of the sum of products, `nan` for `0 / 0` -/
theorem fin_div_fin (t n : α) : (Ext.fin t / Ext.fin n : Ext α) =
    if n ≠ 0 then Ext.fin (t / n) else if 0 < t then Ext.pinf else if t < 0 then Ext.ninf else Ext.nan := by
  show Ext.div (Ext.fin t) (Ext.fin n) = _
  unfold Ext.div
  by_cases hn : n = 0
  · subst hn
    simp only [lt_irrefl, or_self, if_false, ne_eq, not_true_eq_false]
    unfold Ext.mulInf Ext.sgnInf
    by_cases h1 : 0 < t
    · simp [h1]
    · by_cases h2 : t < 0
      · simp [h1, h2]
      · simp [h1, h2]
  · have : 0 < n ∨ n < 0 := (lt_or_gt_of_ne hn).symm
    simp [this, hn]

theorem cell_lift (v : List (Option α)) (k : List α) (i : Nat) :
    inner (toSamples (liftSig v)) (k.length / 2) i (k.map Ext.fin) 0 (0, 0) =
      (Ext.fin (wsum (window v k (k.length / 2) i)), Ext.fin (wtot (window v k (k.length / 2) i))) := by
  rw [toSamples_liftSig, inner_eq_foldl, windowFrom_map₂, List.map_map, List.map_map]
  show (((window v k _ i).map (Ext.fin ∘ fun p => p.2 * p.1)).foldl (· + ·) (Ext.fin 0),
    ((window v k _ i).map (Ext.fin ∘ fun p => p.1)).foldl (· + ·) (Ext.fin 0)) = _
  rw [← List.map_map, ← List.map_map, foldl_fin, foldl_fin, TV.Filter.foldl_add, TV.Filter.foldl_add, zero_add, zero_add]
  rfl

/-- **Finite weights of any sign** (negative ones included; the window of a Kernel object with `np = false`, a weight list already normalised
with `np = true`), finite or NaN samples, every window reading at least one sample. The loops compute exactly `Σ k·v` and `Σ k` over the
window; the output is their quotient *as numpy computes it* (`fin_div_fin`): the renormalised weighted mean whenever the collected norm is
not 0 — with negative weights it need not lie between the samples —, and when the norm cancels (possible only with weights of both signs
or all zero) `inf` / `-inf` by the sign of `Σ k·v`, NaN when that is 0 too: never an exception with numpy weights, a ZeroDivisionError
with Python floats (excluded here by `hnp`). -/
theorem finite_weights_any_sign (v : List (Option α)) (k : List α) (boundary np : Bool) (hodd : k.length % 2 = 1)
    (hsample : ∀ i, i < v.length → window v k (k.length / 2) i ≠ [])
    (hnp : np = false → ∀ i, i < v.length → wtot (window v k (k.length / 2) i) ≠ 0)
    (hlen : boundary = false → k.length / 2 ≤ v.length) :
    ∃ out, filterWindowX (liftSig v) (k.map Ext.fin) boundary np = .ok out ∧ out.length = v.length ∧
      ∀ i, i < v.length →
        ((boundary = true ∨ (k.length / 2 ≤ i ∧ i < v.length - k.length / 2)) →
          out[i]? = some (Ext.fin (wsum (window v k (k.length / 2) i)) / Ext.fin (wtot (window v k (k.length / 2) i)))) ∧
        (boundary = false → (i < k.length / 2 ∨ v.length - k.length / 2 ≤ i) → out[i]? = (liftSig v)[i]?) := by
  obtain ⟨out, ho, hl, hget⟩ := filterWindowX_ok (liftSig v) (k.map Ext.fin) boundary np (by rw [List.length_map]; exact hodd)
    (by
      intro i hi
      rw [liftSig_length] at hi
      rw [List.length_map, cell_lift, toSamples_liftSig, anySample_eq, windowFrom_map₂]
      refine ⟨?_, fun h => ?_⟩
      · have hne := hsample i hi
        unfold window at hne
        cases hW : windowFrom v (k.length / 2) i k 0 with
        | nil => exact absurd hW hne
        | cons _ _ => rfl
      · rcases lt_or_gt_of_ne (hnp h i hi) with h | h <;> simp [Ext.isZero, h])
    (by rw [List.length_map, liftSig_length]; exact hlen)
  simp only [List.length_map, liftSig_length, cell_lift] at hl hget
  exact ⟨out, ho, hl, hget⟩
end finite

section agree
variable {α : Type} [Field α] [LinearOrder α] [IsStrictOrderedRing α]

theorem liftSig_getElem? (v : List (Option α)) (i : Nat) :
    (liftSig v)[i]? = (v[i]?).map (fun o => match o with | none => Ext.nan | some a => Ext.fin a) := by
  unfold liftSig; rw [List.getElem?_map]

/-- **No zero norm: the two models agree.** Finite weights of any sign, finite / NaN samples, no collected norm equal to 0 (in particular
everywhere in the property's domain `InDomain`): the model over Python's numbers returns the signal of the model over a field —
`meanSignal`, about which `filter_is_mean`, `filter_bounds`, `filter_const`, `boundary_copy`, … speak — with no `inf` and no NaN other
than a copied boundary NaN. -/
theorem ext_model_agrees (v : List (Option α)) (k : List α) (boundary np : Bool) (hodd : k.length % 2 = 1)
    (hden : ∀ i, i < v.length → wtot (window v k (k.length / 2) i) ≠ 0)
    (hlen : boundary = false → k.length / 2 ≤ v.length) :
    filterWindowX (liftSig v) (k.map Ext.fin) boundary np = .ok (liftSig (meanSignal v k boundary)) := by
  have hsample : ∀ i, i < v.length → window v k (k.length / 2) i ≠ [] := by
    intro i hi h
    exact hden i hi (by rw [h, wtot_nil])
  obtain ⟨out, hout, hl, hget⟩ := finite_weights_any_sign v k boundary np hodd hsample (fun _ => hden) hlen
  rw [hout]
  congr 1
  apply List.ext_getElem?
  intro i
  by_cases hi : i < v.length
  · rw [liftSig_getElem?, meanSignal_get v k boundary i hi]
    obtain ⟨h1, h2⟩ := hget i hi
    by_cases hc : boundary = false ∧ (i < k.length / 2 ∨ v.length - k.length / 2 ≤ i)
    · rw [if_pos hc, h2 hc.1 hc.2, liftSig_getElem?, List.getElem?_eq_getElem hi]
      rfl
    · rw [if_neg hc]
      rw [h1 (not_copied_iff.mp hc), fin_div_fin, if_pos (hden i hi)]
      rfl
  · have h1 : out[i]? = none := by rw [List.getElem?_eq_none_iff]; omega
    have h2 : (liftSig (meanSignal v k boundary))[i]? = none := by
      rw [List.getElem?_eq_none_iff, liftSig_length]
      unfold meanSignal
      simp only [List.length_map, List.length_range]
      omega
    rw [h1, h2]

theorem normalise_fin (k : List α) (hs : k.sum ≠ 0) : normalise (k.map Ext.fin) = (normalise k).map Ext.fin := by
  unfold normalise
  show (k.map Ext.fin).map (fun x => x / (k.map Ext.fin).foldl (· + ·) (Ext.fin 0)) = _
  rw [foldl_fin, TV.Filter.foldl_add, zero_add, List.map_map, List.map_map]
  apply List.map_congr_left
  intro a _
  simp only [Function.comp]
  rw [fin_div_fin, if_pos hs]

/-- **A weight list with a non-zero total and no zero norm** (negative weights allowed): `Filter.execute` over Python's numbers leaves the
caller's list divided by its total and returns the mean signal of the caller's weights, exactly what `execute_is_mean` says of the model
over a field (`execute v (.list k)`, theorem `execute_list_eq`). -/
theorem list_ext_model_agrees (v : List (Option α)) (k : List α) (hodd : k.length % 2 = 1) (hs : k.sum ≠ 0)
    (hden : ∀ i, i < v.length → wtot (window v k (k.length / 2) i) ≠ 0) (hlen : k.length / 2 ≤ v.length) :
    executeListX (liftSig v) (k.map Ext.fin) = .ok ((k.map (· / k.sum)).map Ext.fin, liftSig (meanSignal v k false)) ∧
    execute v (.list k) = .ok (some (k.map (· / k.sum)), meanSignal v k false) := by
  refine ⟨?_, ?_⟩
  · unfold executeListX
    simp only [normalise_fin k hs]
    rw [ext_model_agrees v (normalise k) false true (by rw [TV.Filter.normalise_length]; exact hodd)
      (by
        intro i hi
        rw [TV.Filter.normalise_length, wtot_window_normalise]
        exact div_ne_zero (hden i hi) hs)
      (by intro _; rw [TV.Filter.normalise_length]; exact hlen)]
    rw [meanSignal_normalise v k false hs, TV.Filter.normalise_eq]
  · rw [execute_list_eq v k hodd hden hlen hs, TV.Filter.normalise_eq]
end agree

/-! ## The statements are not vacuous (the model evaluated on the corpus inputs `ext-negative-norm-cancels`, `ext-inf-sample-zero-weight`) -/

/-- weights `[1,-2,2]`: at index 1 the sample under the weight 1 is NaN, the valid weights -2 and 2 cancel, `Σ k·v = -4`: `-inf` -/
example : filterWindowX (α := Int) [.fin 1, .fin 3, .nan, .fin 1, .fin 3, .fin 1] [.fin 1, .fin (-2), .fin 2] false true =
    .ok [.fin 1, .ninf, .fin 2, .fin (-1), .fin (-3), .fin 1] := by decide +kernel

/-- a zero weight on an infinite sample is `0 * inf = nan` (window `[0,1,1,1,0]`, boundaries filtered, Python floats) -/
example : filterWindowX (α := Int) [.fin 1, .pinf, .ninf, .fin 4, .fin 5, .fin 6, .fin 9] [.fin 0, .fin 1, .fin 1, .fin 1, .fin 0] true false =
    .ok [.nan, .nan, .nan, .nan, .nan, .fin 6, .fin 7] := by decide +kernel

/-- the hypotheses of `finite_weights_any_sign` hold for `[1,-2,2]` on `[1, 3, NaN, 1]` over `ℚ`-like fields: stated for any ordered field -/
example {α : Type} [Field α] [LinearOrder α] [IsStrictOrderedRing α] :
    ∃ out, filterWindowX (liftSig [some (1 : α), some 3, none, some 1]) ([1, -2, 2].map Ext.fin) true true = .ok out ∧ out.length = 4 := by
  obtain ⟨out, h, hl, _⟩ := finite_weights_any_sign [some (1 : α), some 3, none, some 1] [1, -2, 2] true true (by simp)
    (by
      intro i hi
      have hm : ∃ m x, i ≤ m + 1 ∧ m ≤ i + 1 ∧ [some (1 : α), some 3, none, some 1][m]? = some (some x) := by
        have : i = 0 ∨ i = 1 ∨ i = 2 ∨ i = 3 := by simp at hi; omega
        rcases this with rfl | rfl | rfl | rfl
        · exact ⟨0, 1, by omega, by omega, rfl⟩
        · exact ⟨1, 3, by omega, by omega, rfl⟩
        · exact ⟨1, 3, by omega, by omega, rfl⟩
        · exact ⟨3, 1, by omega, by omega, rfl⟩
      obtain ⟨m, x, h1, h2, hx⟩ := hm
      obtain ⟨w, _, hmem⟩ := mem_window_of_sample _ ([1, -2, 2] : List α) i m x (by simp) (by simpa using h1) (by simpa using h2) hx
      exact List.ne_nil_of_mem hmem)
    (by intro h; cases h) (by intro h; cases h)
  exact ⟨out, h, hl⟩
end TV.C15
