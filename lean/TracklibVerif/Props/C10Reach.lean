import TracklibVerif.Props.C10
import TracklibVerif.Lemmas.MapMatchReach
/-! # C10, completeness of the candidates — what `neighborhood(p, unit=newunit)` with the unit `__mapOnNetwork` derives is
complete for (the hypothesis of T14 `near_edge_is_candidate` turned into proved statements)

`__mapOnNetwork` computes `newunit = math.ceil(search_radius / min(csize, lsize))` where `csize` / `lsize` are the NUMBERS of
columns / rows of the index, not the sides `dX` / `dY` of a cell. Through C08's `neighborhood_unit_complete` /
`built_index_good` / `index_complete`:

* T28 `edge_within_unit_reach_is_candidate` — the candidates are complete for the ground distance `U · min(dX, dY)`, `U` the
  unit the code derives (characterised as a ceiling);
* T29 `edge_within_radius_is_candidate_on_coarse_index` — hence for the search radius itself whenever the smaller number of
  cells is at most the smaller cell side;
* `edge_within_radius_missed` — and NOT in general: a witness in the model (replayed on the real code by
  `corpus/C10/edge_within_radius_not_candidate.json`) of an edge 3 from the observation, search radius 5, that is not a candidate.

Over a linearly ordered field with an exact `floor` (exact arithmetic: on floats the boundary cases `distance = U · min(dX, dY)`
and `search_radius / cells` within an ulp of an integer may fall on either side). The property C10 itself does not claim
completeness; nothing here is demanded by the oracle. -/
namespace TV.C10
open TV.Proj TV.MapMatch TV.Grid
variable {α : Type} [Field α] [LinearOrder α] [IsStrictOrderedRing α]

/-- T28 `edge_within_unit_reach_is_candidate` (T14 without its hypothesis on the unit). For a network whose index was built by the
constructor on the network's geometries (`margin ≥ 0`, positive or default cell size), a search radius `≥ 0` and an observation
`q` of the closed extent: `newunit = math.ceil(search_radius / min(csize, lsize))` does not raise and is the integer `U ≥ 0` with
`(U - 1) · min(csize, lsize) < search_radius ≤ U · min(csize, lsize)` (NUMBERS of cells); `neighborhood(q, unit=U)` returns a
list, and EVERY edge number `k` that has a point (on one of its segments) within Euclidean distance `U · min(dX, dY)` of `q` is
among the candidates — then (T9) `q` is matched as soon as `k` projects strictly within the radius. -/
theorem edge_within_unit_reach_is_candidate {fl : α → Int} (hf : IsFloor fl) (net : Net α) (res : Option (α × α)) (margin : α)
    (ix : Index α) (hm : 0 ≤ margin) (hres : ∀ r, res = some r → 0 < r.1 ∧ 0 < r.2)
    (hb : build fl (netFeatures net) res margin = .ok ix) (hix : net.index = some ix)
    (radius : α) (hr : 0 ≤ radius) (q : α × α) (hq : getCell ix q ≠ none) :
    ∃ (U : Int) (l : List Nat), searchUnit fl radius ix = .ok U ∧ 0 ≤ U ∧
      radius ≤ ((U : Int) : α) * ((min ix.csize ix.lsize : Int) : α) ∧
      (((U : Int) : α) - 1) * ((min ix.csize ix.lsize : Int) : α) < radius ∧
      candidatesOf fl radius net q = .ok (some l) ∧
      ∀ (k : Nat) (g : List (α × α)), (netFeatures net)[k]? = some g → ∀ A B, (A, B) ∈ Consec g → ∀ s : α, 0 ≤ s → s ≤ 1 →
        (q.1 - (lerp A B s).1) ^ 2 + (q.2 - (lerp A B s).2) ^ 2 ≤ (((U : Int) : α) * min ix.dX ix.dY) ^ 2 → k ∈ l := by
  obtain ⟨cq, hcq⟩ := Option.ne_none_iff_exists'.mp hq
  have hg := TV.C08.built_index_good hf (netFeatures net) res margin ix hm hres hb
  obtain ⟨U, hU, hle, hlt, h0⟩ := searchUnit_spec hf ix hg.2.1 hg.2.2.1 radius
  obtain ⟨l, hl, hall⟩ := TV.C08.neighborhood_unit_complete hf ix hg q cq hcq U (h0 hr)
  refine ⟨U, l, hU, h0 hr, hle, hlt, by unfold candidatesOf; simp only [hix, hU, hl], ?_⟩
  intro k g hk A B hAB s hs0 hs1 hd
  obtain ⟨cP, hP, hH⟩ := TV.C08.index_complete hf (netFeatures net) res margin ix hm hres hb k g hk A B hAB s hs0 hs1
  exact hall k _ cP hP hH hd

/-- T29 `edge_within_radius_is_candidate_on_coarse_index`: completeness of the candidates in terms of the SEARCH RADIUS, under
a condition on the index alone. Same network, radius and observation as T28; if the smaller NUMBER of cells is at most the
smaller cell SIDE (`min(csize, lsize) ≤ min(dX, dY)`: a coarse index — e.g. a 10 × 8 grid of cells of side ≥ 8), every edge
number with a point within the search radius of `q` is among the candidates of `q`: no edge within the radius is missed, and
(T9) `q` is flagged unmatched only if no candidate projects strictly within the radius. Without the condition:
`edge_within_radius_missed`. -/
theorem edge_within_radius_is_candidate_on_coarse_index {fl : α → Int} (hf : IsFloor fl) (net : Net α) (res : Option (α × α))
    (margin : α) (ix : Index α) (hm : 0 ≤ margin) (hres : ∀ r, res = some r → 0 < r.1 ∧ 0 < r.2)
    (hb : build fl (netFeatures net) res margin = .ok ix) (hix : net.index = some ix)
    (radius : α) (hr : 0 ≤ radius) (q : α × α) (hq : getCell ix q ≠ none)
    (hcoarse : ((min ix.csize ix.lsize : Int) : α) ≤ min ix.dX ix.dY) :
    ∃ l : List Nat, candidatesOf fl radius net q = .ok (some l) ∧
      ∀ (k : Nat) (g : List (α × α)), (netFeatures net)[k]? = some g → ∀ A B, (A, B) ∈ Consec g → ∀ s : α, 0 ≤ s → s ≤ 1 →
        (q.1 - (lerp A B s).1) ^ 2 + (q.2 - (lerp A B s).2) ^ 2 ≤ radius ^ 2 → k ∈ l := by
  obtain ⟨U, l, _, hU0, hle, _, hc, hall⟩ :=
    edge_within_unit_reach_is_candidate hf net res margin ix hm hres hb hix radius hr q hq
  refine ⟨l, hc, ?_⟩
  intro k g hk A B hAB s hs0 hs1 hd
  apply hall k g hk A B hAB s hs0 hs1
  have hUα : (0 : α) ≤ ((U : Int) : α) := by exact_mod_cast hU0
  have h1 : radius ≤ ((U : Int) : α) * min ix.dX ix.dY := le_trans hle (mul_le_mul_of_nonneg_left hcoarse hUα)
  have h2 : radius ^ 2 ≤ (((U : Int) : α) * min ix.dX ix.dY) ^ 2 := pow_le_pow_left₀ hr h1 2
  exact le_trans hd h2

/-- T30 `edge_within_unit_reach_is_candidate_3d` (T28 with altitudes): the index reads `getX()`, `getY()` only; whatever the
altitudes of the edges and of the observation, the candidates of an observation whose planimetric position is in the extent
contain every edge number with a planimetric point within `U · min(dX, dY)` of it, `U` the unit derived by the code. -/
theorem edge_within_unit_reach_is_candidate_3d {fl : α → Int} (hf : IsFloor fl) (net : Net3 α) (res : Option (α × α)) (margin : α)
    (ix : Index α) (hm : 0 ≤ margin) (hres : ∀ r, res = some r → 0 < r.1 ∧ 0 < r.2)
    (hb : build fl (netFeatures3 net) res margin = .ok ix) (hix : net.index = some ix)
    (radius : α) (hr : 0 ≤ radius) (q : P3 α) (hq : getCell ix (xy q) ≠ none) :
    ∃ (U : Int) (l : List Nat), searchUnit fl radius ix = .ok U ∧ 0 ≤ U ∧
      radius ≤ ((U : Int) : α) * ((min ix.csize ix.lsize : Int) : α) ∧
      (((U : Int) : α) - 1) * ((min ix.csize ix.lsize : Int) : α) < radius ∧
      candidatesOf3 fl radius net q = .ok (some l) ∧
      ∀ (k : Nat) (g : List (α × α)), (netFeatures3 net)[k]? = some g → ∀ A B, (A, B) ∈ Consec g → ∀ s : α, 0 ≤ s → s ≤ 1 →
        ((xy q).1 - (lerp A B s).1) ^ 2 + ((xy q).2 - (lerp A B s).2) ^ 2 ≤ (((U : Int) : α) * min ix.dX ix.dY) ^ 2 → k ∈ l := by
  rw [candidatesOf3_flat]
  obtain ⟨U, l, hU, hU0, hle, hlt, hc, hall⟩ := edge_within_unit_reach_is_candidate hf (flatNet net) res margin ix hm hres
    (by rw [netFeatures3_flat]; exact hb) hix radius hr (xy q) hq
  exact ⟨U, l, hU, hU0, hle, hlt, hc, fun k g hk => hall k g (by rw [netFeatures3_flat]; exact hk)⟩

/-! Non-vacuity, and the witness that the condition of T29 cannot be dropped. Two parallel streets `y = 0` (edge number 0) and
`y = 12` (edge number 1), `x` from 0 to 12, index of resolution `(1, 1)` with margin 1/4: extent `[-3, 15]²`, 18 × 18 cells of
side 1; search radius 5, so `newunit = ceil(5 / 18) = 1` and the reach of T28 is 1 ground unit. -/
def missEdges : List (EdgeIn Rat × Node Rat × Node Rat) :=
  [(readerEdge sqExact 1 [(0, 0), (12, 0)] 0 12, ⟨1, (0, 0)⟩, ⟨2, (12, 0)⟩),
   (readerEdge sqExact 2 [(0, 12), (12, 12)] 0 12, ⟨3, (0, 12)⟩, ⟨4, (12, 12)⟩)]

/-- `edge_within_radius_missed`: the candidates are NOT complete for the search radius in general. On the network above the
observation `(6, 3)` is at distance 3 `< search_radius = 5` from edge number 0 (its projection on that geometry is `(6, 0)` at
distance 3), yet the unit derived from the numbers of cells is 1, the candidate list of `(6, 3)` is empty, and the observation is
flagged unmatched `((6, 3), -1, -1, -1)`; the observation `(6, 1)`, within the reach `U · min(dX, dY) = 1` of T28, has edge 0
as a candidate and is matched at `(6, 0)`. The real code answers the same (`corpus/C10/edge_within_radius_not_candidate.json`). -/
theorem edge_within_radius_missed :
    (match buildNet Rat.floor missEdges 0 (some (1, 1)) (1/4) with
     | .ok net =>
       (match net.index with
        | some ix => decide (ix.csize = 18 ∧ ix.lsize = 18 ∧ ix.dX = 1 ∧ ix.dY = 1 ∧ searchUnit Rat.floor 5 ix = .ok 1)
        | none => false) &&
       decide (candidatesOf Rat.floor 5 net (6, 3) = .ok (some [])) &&
       decide (projOnTrack sqExact 1 [(0, 0), (12, 0)] 6 3 = .ok ((6, 0), 3, 0)) &&
       (match obsStatesNet sqExact Rat.floor 1 5 net (6, 3) with
        | .ok [s] => decide (s.p = (6, 3) ∧ s.edge = -1)
        | _ => false) &&
       decide (candidatesOf Rat.floor 5 net (6, 1) = .ok (some [0])) &&
       (match obsStatesNet sqExact Rat.floor 1 5 net (6, 1) with
        | .ok [s] => decide (s.p = (6, 0) ∧ s.edge = 0 ∧ s.d0 = 6 ∧ s.d1 = 6)
        | _ => false)
     | .error _ => false) = true := by decide +kernel

/-- T29's condition is satisfiable on a real construction: the same streets with resolution `(6, 6)` give 3 × 3 cells of side
6 (`3 ≤ 6`), `newunit = ceil(5 / 3) = 2`, and `(6, 3)` has both edges as candidates and is matched on edge 0 at `(6, 0)`. -/
example : (match buildNet Rat.floor missEdges 0 (some (6, 6)) (1/4) with
    | .ok net =>
      (match net.index with
       | some ix => decide (ix.csize = 3 ∧ ix.lsize = 3 ∧ ix.dX = 6 ∧ ix.dY = 6 ∧ searchUnit Rat.floor 5 ix = .ok 2)
       | none => false) &&
      (match candidatesOf Rat.floor 5 net (6, 3) with
       | .ok (some l) => decide (0 ∈ l ∧ 1 ∈ l)
       | _ => false) &&
      (match obsStatesNet sqExact Rat.floor 1 5 net (6, 3) with
       | .ok [s] => decide (s.p = (6, 0) ∧ s.edge = 0)
       | _ => false)
    | .error _ => false) = true := by decide +kernel

end TV.C10
