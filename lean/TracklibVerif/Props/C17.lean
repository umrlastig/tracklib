import TracklibVerif.Lemmas.Cinematics
import TracklibVerif.Lemmas.CinTabOpt
import TracklibVerif.Lemmas.CinTabATab
import TracklibVerif.Lemmas.CinTabWorld
import TracklibVerif.Lemmas.CinTabGeom
import TracklibVerif.Lemmas.CinCoords
import TracklibVerif.Lemmas.Geo
import TracklibVerif.Lemmas.CinTabMore
import TracklibVerif.Lemmas.CinTabZone
import TracklibVerif.Lemmas.CinTabSt
import TracklibVerif.Lemmas.CinTabKOpt
import TracklibVerif.Lemmas.CinTabKErr
import Mathlib.Analysis.Real.Sqrt
/-! # C17 — curvilinear abscissa and speed features match their geometric definitions

Property theorems and the examples of their hypotheses (helper lemmas: the `Lemmas/Cin*.lean` modules and `Lemmas/Geo.lean`; models: `Model/Cinematics*.lean`).
`computeAbsCurv` / `estimateSpeed` are the models of `algo/cinematics.py computeAbsCurv / estimate_speed`
(with `analytics.ds`, `analytics.speed`, `Integrator.execute`, `ENUCoords.distance2DTo`). A feature value
`none` is NaN. All statements hold for tracks of any length.

Two layers. The first part states the properties on the list model (`Model/Cinematics.lean`: a track is a list of
positions, a list of times and an association list of columns). The second part ("on the feature table") states them
on the programs as the Python runs them — through the Track API, `Model/CinematicsTab.lean` — for EVERY
representation of the feature table that satisfies the laws `CinTab.Laws`, and shows that the specification table
of C01, C01's dict-and-rows table of a single track (`dict_rows_table_lawful`) and the world of observation objects
shared between tracks are such representations. On the world every observation object carries the eight fields of its
`ObsTime` (seven calendar fields and `zone`): no operation on features — the method `track.estimate_speed()` included,
`speed_method_is_function` — writes one of them (`positions_and_stamps_unchanged`) and none reads the zone
(`zone_not_read`): elapsed times are differences of clock readings.

Third part ("per coordinate class", model `Model/CinematicsCoords.lean`): the same Python run on tracks whose positions
are `ENUCoords`, `GeoCoords` or `ECEFCoords` — which `distance2DTo` each feature dispatches to, the statement for every
class that defines a planimetric distance, what the Geo distance is geometrically, and what happens on ECEF tracks.

Fourth part ("on the feature table, for every coordinate class", model `Model/CinematicsTabK.lean`): the dispatch of the
third part put behind the Track API as a KERNEL (`Obs.__check_call_geom1` + the class's `distance2DTo`), the programs
written once for any kernel, and the table theorems of the second part for every class that defines a planimetric
distance (`abscurv_table_class`, `speed_table_class`, `curvabs_table_class`, on shared observations
`abscurv_shared_class` / `speed_shared_class`), the exception path of ECEF tracks from the table laws
(`ecef_refused_table`), purity and zone-blindness for EVERY kernel (`positions_and_stamps_unchanged_class`,
`zone_not_read_class`). The ENU programs of the second part are instances of the generic ones by `rfl`
(`enu_programs_are_instances`). -/
namespace TV.C17
open TV.Cinematics
variable {α : Type}

section anyScalar
variable [Add α] [Sub α] [Mul α] [Div α] [OfNat α 0] [BEq α]

/-- T1. On a track without `ds` / `abs_curv` features, `computeAbsCurv` returns the column
`[s 0, …, s (n-1)]` (no NaN) where `s = absc` satisfies `s 0 = 0` and
`s (i+1) = s i + distance2D(P[i+1], P[i])`: the abscissa starts at 0 and grows between consecutive
fixes by exactly their planimetric distance. Holds over any scalar type and any `sqrt` — in
particular for the `Float` operations, in the order Python performs them. -/
theorem abscurv_prefix (sqrt : α → α) (t : Track α)
    (hds : t.has "ds" = false) (hac : t.has "abs_curv" = false) :
    (computeAbsCurv sqrt t).2 = some ((List.range t.xy.length).map (fun i => some (absc sqrt t.xy i)))
    ∧ absc sqrt t.xy 0 = 0
    ∧ ∀ i (h : i + 1 < t.xy.length),
        absc sqrt t.xy (i + 1) = absc sqrt t.xy i + dist2D sqrt (t.xy[i + 1]'h) (t.xy[i]'(Nat.lt_of_succ_lt h)) := by
  refine ⟨?_, rfl, fun i h => absc_succ sqrt t.xy i h⟩
  rw [computeAbsCurv_fresh sqrt t hds hac, integrator_dsCol]

/-- T2. On a track of `n ≥ 2` fixes without a `speed` feature, `estimate_speed` returns a column `v`
of length `n` with
* `v[0]`   = speed between fixes 1 and 0,
* `v[n-1]` = speed between fixes n-1 and n-2,
* `v[i]`   = speed between fixes i+1 and i-1 for `0 < i < n-1`,
where the speed between a later fix `a` and an earlier fix `b` is NaN (`none`) when the elapsed time
`ts[a] - ts[b]` is zero and otherwise `distance2D(P[a], P[b]) / (ts[a] - ts[b])`. -/
theorem speed_def [LawfulBEq α] (sqrt : α → α) (t : Track α) (hsp : t.has "speed" = false)
    (hn : 2 ≤ t.xy.length) (hts : t.ts.length = t.xy.length) :
    ∃ v : Col α, (estimateSpeed sqrt t).2 = some v ∧ v.length = t.xy.length ∧
      ∀ (i a b : Nat) (hi : i < t.xy.length),
        ((i = 0 ∧ a = 1 ∧ b = 0) ∨ (i = t.xy.length - 1 ∧ a = t.xy.length - 1 ∧ b = t.xy.length - 2)
          ∨ (0 < i ∧ i < t.xy.length - 1 ∧ a = i + 1 ∧ b = i - 1)) →
        ∀ (ha : a < t.xy.length) (hb : b < t.xy.length),
          (t.ts[a]'(hts ▸ ha) - t.ts[b]'(hts ▸ hb) = 0 → v[i]? = some none) ∧
          (t.ts[a]'(hts ▸ ha) - t.ts[b]'(hts ▸ hb) ≠ 0 →
            v[i]? = some (some (dist2D sqrt t.xy[a] t.xy[b] / (t.ts[a]'(hts ▸ ha) - t.ts[b]'(hts ▸ hb))))) := by
  exact ⟨speedCol sqrt t.xy t.ts, by rw [estimateSpeed_fresh sqrt t hsp], speedCol_entries sqrt t.xy t.ts hn hts⟩

/-- T3a. Computing either feature leaves positions, timestamps and every other feature untouched
(only `abs_curv` — and the temporary `ds` — resp. `speed` are written). -/
theorem pure (sqrt : α → α) (t : Track α) :
    ((computeAbsCurv sqrt t).1.xy = t.xy ∧ (computeAbsCurv sqrt t).1.ts = t.ts
      ∧ ∀ m, m ≠ "ds" → m ≠ "abs_curv" → (computeAbsCurv sqrt t).1.get m = t.get m)
    ∧ ((estimateSpeed sqrt t).1.xy = t.xy ∧ (estimateSpeed sqrt t).1.ts = t.ts
      ∧ ∀ m, m ≠ "speed" → (estimateSpeed sqrt t).1.get m = t.get m) :=
  have ha := computeAbsCurv_only sqrt t
  have hs := estimateSpeed_only sqrt t
  ⟨⟨ha.xy, ha.ts, fun m h1 h2 => ha.get m (by simp [h1, h2])⟩, ⟨hs.xy, hs.ts, fun m h => hs.get m (by simp [h])⟩⟩

/-- T3b. Recomputation is idempotent, for every track (whatever features it had): calling the function
again on the resulting track returns the same column and leaves that track exactly as it was; after
`computeAbsCurv` the track has `abs_curv` and no `ds`. -/
theorem idempotent (sqrt : α → α) (t : Track α) :
    computeAbsCurv sqrt (computeAbsCurv sqrt t).1 = computeAbsCurv sqrt t
    ∧ estimateSpeed sqrt (estimateSpeed sqrt t).1 = estimateSpeed sqrt t
    ∧ (computeAbsCurv sqrt t).1.has "ds" = false ∧ (computeAbsCurv sqrt t).1.has "abs_curv" = true
    ∧ (estimateSpeed sqrt t).1.has "speed" = true :=
  ⟨computeAbsCurv_idem sqrt t, estimateSpeed_idem sqrt t, (computeAbsCurv_has sqrt t).1,
   (computeAbsCurv_has sqrt t).2, estimateSpeed_has sqrt t⟩

/-- T3c. On a track without `ds` / `abs_curv` (resp. `speed`) the only change to the feature table is one
appended column, `abs_curv` (resp. `speed`): the temporary `ds` is gone. -/
theorem only_adds (sqrt : α → α) (t : Track α) :
    (t.has "ds" = false → t.has "abs_curv" = false →
      (computeAbsCurv sqrt t).1.feats
        = t.feats ++ [("abs_curv", (List.range t.xy.length).map (fun i => some (absc sqrt t.xy i)))])
    ∧ (t.has "speed" = false →
      (estimateSpeed sqrt t).1.feats = t.feats ++ [("speed", speedCol sqrt t.xy t.ts)]) := by
  constructor
  · intro hds hac
    rw [computeAbsCurv_fresh sqrt t hds hac, integrator_dsCol]
    simp [Track.set, hac]
  · intro hsp
    rw [estimateSpeed_fresh sqrt t hsp]
    simp [Track.set, hsp]

end anyScalar

section field
variable [Field α] [LinearOrder α] [IsStrictOrderedRing α]

/-- T1 (geometric reading). Over an ordered field with a genuine square root
(`0 ≤ x → 0 ≤ sqrt x ∧ sqrt x * sqrt x = x`): every increment `s (i+1) - s i` is the non-negative number
whose square is `Δx² + Δy²` (the planimetric distance of the two fixes), the abscissa never decreases,
and its last value is the planimetric length of the track (the sum of all legs). -/
theorem abscurv_geometric (sqrt : α → α) (hs : SqrtSpec sqrt) (xy : List (α × α)) :
    (∀ i (h : i + 1 < xy.length),
        0 ≤ absc sqrt xy (i + 1) - absc sqrt xy i ∧
        (absc sqrt xy (i + 1) - absc sqrt xy i) * (absc sqrt xy (i + 1) - absc sqrt xy i)
          = ((xy[i + 1]'h).1 - (xy[i]'(Nat.lt_of_succ_lt h)).1) ^ 2 + ((xy[i + 1]'h).2 - (xy[i]'(Nat.lt_of_succ_lt h)).2) ^ 2)
    ∧ (∀ i j, i ≤ j → absc sqrt xy i ≤ absc sqrt xy j)
    ∧ (0 < xy.length → absc sqrt xy (xy.length - 1) = (legs sqrt xy).sum) := by
  refine ⟨fun i h => ?_, absc_mono (fun _ _ => le_add_of_nonneg_right) sqrt (fun p q => (dist2D_spec sqrt hs p q).1) xy, absc_last sqrt xy⟩
  obtain ⟨h0, h1⟩ := dist2D_spec sqrt hs (xy[i + 1]'h) (xy[i]'(Nat.lt_of_succ_lt h))
  rw [absc_succ sqrt xy i h, add_sub_cancel_left]
  exact ⟨h0, by rw [h1]; ring⟩

end field

section rounded
variable [Add α] [Sub α] [Mul α] [OfNat α 0] [Preorder α]

/-- T1, "never decreases", WITHOUT exact arithmetic. Let the scalars carry any preorder, and assume only
* `0 ≤ sqrt x` for every `x`, and
* `a ≤ a + d` whenever `0 ≤ d` (adding a non-negative number does not decrease — true of every correctly rounded
  floating-point addition, because rounding is monotone and `a` is representable).
Then the abscissa `s = absc` never decreases: `i ≤ j → s i ≤ s j`. No commutativity, associativity or exactness of
`+`, `-`, `*`, `sqrt` is used, so the statement applies to IEEE doubles with the operations in Python's order (the two
assumptions are facts about IEEE-754, taken as hypotheses here). -/
theorem abscurv_monotone_rounded (sqrt : α → α) (hsqrt : ∀ x, 0 ≤ sqrt x) (hadd : ∀ a d : α, 0 ≤ d → a ≤ a + d)
    (xy : List (α × α)) : ∀ i j, i ≤ j → absc sqrt xy i ≤ absc sqrt xy j :=
  absc_mono hadd sqrt (fun _ _ => hsqrt _) xy

end rounded

/-! ## on the feature table -/

section table
open TV.Features TV.CinTab
variable [Add α] [Sub α] [Mul α] [Div α] [OfNat α 0] [BEq α] [LE α] [DecidableLE α]
variable {σ : Type} [Tbl σ (Option α)]
variable {I : σ → Prop} {n : σ → Nat} {rd : σ → String → Option (List (Option α))} {co : σ → Coord → List (Option α)}

/-- T1 on the table. Let a feature table satisfy the laws (`L`), hold `xy.length ≥ 1` fixes at the finite positions
`xy`, and list neither `ds` nor `abs_curv`. Then `computeAbsCurv` — `addAnalyticalFeature(ds, "ds")`,
`operate(INTEGRATOR, "ds", "abs_curv")`, `removeAnalyticalFeature("ds")`, `getAnalyticalFeature("abs_curv")`, all
through the Track API — terminates without an exception and
* returns `[s 0, …, s (n-1)]`, `s = absc` (so `s 0 = 0`, `s (i+1) = s i + distance2D(P[i+1], P[i])`: `abscurv_prefix`,
  `abscurv_geometric`), computed from the positions the table holds NOW;
* `abs_curv` reads exactly that column afterwards, `ds` is not listed, every other name reads what it read before;
* the coordinate and time columns, the number of fixes and the representation invariant are unchanged.
Any scalar type, any `sqrt`. -/
theorem abscurv_table (L : Laws I n rd co) (sqrt : α → α) (ofNat : Nat → α) (isNaN : α → Bool) (xy : List (α × α)) (s : σ)
    (hI : I s) (hn : n s = xy.length) (hpos : 0 < xy.length) (hx : co s .x = xsOf xy) (hy : co s .y = ysOf xy)
    (hds : rd s "ds" = none) (hac : rd s "abs_curv" = none) :
    ∃ s', (computeAbsCurvT (optG sqrt ofNat isNaN) : M σ _) s
        = (.ok ((List.range xy.length).map (fun i => some (absc sqrt xy i))), s')
      ∧ I s' ∧ n s' = n s ∧ co s' = co s
      ∧ rd s' "abs_curv" = some ((List.range xy.length).map (fun i => some (absc sqrt xy i)))
      ∧ ∀ m, m ≠ "abs_curv" → rd s' m = rd s m := by
  exact computeAbsCurvG_spec L (optG sqrt ofNat isNaN) _ _ s hI (hn ▸ hpos) hds
    (fun i hi => dsAlgT_read L (optG sqrt ofNat isNaN) i hi)
    (by rw [hac, Option.getD_none, hn, hx, hy, dsCol_opt, integG_opt, integrator_dsCol])

/-- T3 on the table (repetition). On a table that lists `abs_curv` (and no `ds`), `computeAbsCurv` returns the listed
column as it is and every name, the coordinates and the times read afterwards what they read before — the temporary
`ds` is created from the current positions and removed again. In particular a second `computeAbsCurv` right after the
first returns the same column. -/
theorem abscurv_table_again (L : Laws I n rd co) (sqrt : α → α) (ofNat : Nat → α) (isNaN : α → Bool) (s : σ)
    (hI : I s) (hpos : 0 < n s) (hds : rd s "ds" = none) (col : List (Option α)) (hac : rd s "abs_curv" = some col) :
    ∃ s', (computeAbsCurvT (optG sqrt ofNat isNaN) : M σ _) s = (.ok col, s')
      ∧ I s' ∧ n s' = n s ∧ co s' = co s ∧ ∀ m, rd s' m = rd s m := by
  exact computeAbsCurvG_again L (optG sqrt ofNat isNaN) _ _ s hI hpos hds col hac
    (fun i hi => dsAlgT_read L (optG sqrt ofNat isNaN) i hi)

/-- T2 on the table. On a lawful table of `n ≥ 2` fixes at the finite positions `xy` and finite times `ts` that does
not list `speed`, `estimate_speed` (= `addAnalyticalFeature(speed)`) terminates without an exception, returns the
column `speedCol sqrt xy ts` of the CURRENT positions and times — entry by entry the one-sided / centred quotient or
NaN of `speedCol_def` —, `speed` reads exactly that column afterwards, every other name, the coordinates, the times and
the invariant are unchanged. -/
theorem speed_table (L : Laws I n rd co) (sqrt : α → α) (ofNat : Nat → α) (isNaN : α → Bool) (xy : List (α × α)) (ts : List α)
    (s : σ) (hI : I s) (hn : n s = xy.length) (h2 : 2 ≤ xy.length) (hx : co s .x = xsOf xy) (hy : co s .y = ysOf xy)
    (ht : co s .t = tsOf ts) (hsp : rd s "speed" = none) :
    ∃ s', (estimateSpeedT (optG sqrt ofNat isNaN) : M σ _) s = (.ok (speedCol sqrt xy ts), s')
      ∧ I s' ∧ n s' = n s ∧ co s' = co s ∧ rd s' "speed" = some (speedCol sqrt xy ts)
      ∧ ∀ m, m ≠ "speed" → rd s' m = rd s m := by
  exact estimateSpeedG_fresh L (optG sqrt ofNat isNaN) _ _ s hI (by omega) hsp
    (fun i hi => speedAlgT_read L (optG sqrt ofNat isNaN) (hn ▸ h2) i hi)
    (by rw [hn, hx, hy, ht, speedCol_opt])

/-- T3 on the table (repetition). On a table that lists `speed`, `estimate_speed` returns the listed column and does
not change the state at all. -/
theorem speed_table_again (L : Laws I n rd co) (sqrt : α → α) (ofNat : Nat → α) (isNaN : α → Bool) (s : σ) (hI : I s)
    (col : List (Option α)) (hsp : rd s "speed" = some col) :
    (estimateSpeedT (optG sqrt ofNat isNaN) : M σ _) s = (.ok col, s) :=
  estimateSpeedG_again L (optG sqrt ofNat isNaN) _ s hI col hsp

end table

section speedcol
variable [Add α] [Sub α] [Mul α] [Div α] [OfNat α 0] [BEq α] [LawfulBEq α]
open TV.CinTab

/-- The entries of the speed column (what `speed_table` returns), for `n ≥ 2` fixes: `v[0]` from fixes (1,0), `v[n-1]`
from fixes (n-1,n-2), `v[i]` from fixes (i+1,i-1) otherwise; NaN exactly when the elapsed time is zero, else planimetric
distance over elapsed time. -/
theorem speedCol_def (sqrt : α → α) (xy : List (α × α)) (ts : List α) (hn : 2 ≤ xy.length) (hts : ts.length = xy.length) :
    (speedCol sqrt xy ts).length = xy.length ∧
    ∀ (i a b : Nat) (_hi : i < xy.length),
      ((i = 0 ∧ a = 1 ∧ b = 0) ∨ (i = xy.length - 1 ∧ a = xy.length - 1 ∧ b = xy.length - 2)
        ∨ (0 < i ∧ i < xy.length - 1 ∧ a = i + 1 ∧ b = i - 1)) →
      ∀ (ha : a < xy.length) (hb : b < xy.length),
        (ts[a]'(hts ▸ ha) - ts[b]'(hts ▸ hb) = 0 → (speedCol sqrt xy ts)[i]? = some none) ∧
        (ts[a]'(hts ▸ ha) - ts[b]'(hts ▸ hb) ≠ 0 →
          (speedCol sqrt xy ts)[i]? = some (some (dist2D sqrt xy[a] xy[b] / (ts[a]'(hts ▸ ha) - ts[b]'(hts ▸ hb))))) := by
  exact speedCol_entries sqrt xy ts hn hts

end speedcol

section representations
open TV.Features TV.CinTab

/-- The specification table of C01 (`Features.ATab`: name ↦ column, coordinate columns) satisfies the laws of a
feature table; so `abscurv_table`, `speed_table`, … hold on it (and, through C01's simulation theorems, on the
dict-and-rows table `Features.St` of a single track). -/
theorem spec_table_lawful {V : Type} [Inhabited V] : Laws (σ := ATab V) (V := V) aI ATab.size aRd ATab.coord := laws_ATab

/-- The dict-and-rows table of a single track (`Features.St`, C01's concrete model: `__analyticalFeaturesDico` as a
name → index list, one `features` row per observation) satisfies the laws of a feature table under C01's alignment
invariant `Features.Inv` (the dict enumerates distinct names, every row carries exactly one value per listed name, the
coordinate columns have one value per observation); a name reads the column of the index the dict designates. Each law
is carried over from the specification table by C01's simulation lemma of the primitive. Hence `abscurv_table`,
`speed_table`, `curvabs_table`, `length_table`, … hold on the table as Python lays it out. -/
theorem dict_rows_table_lawful {V : Type} [Inhabited V] : Laws (σ := St V) (V := V) sI sN sRd St.coord := laws_St

/-- **Shared observations.** The world of observation OBJECTS referenced by several tracks (`+`, extract, slicing share
them; each object carries one `features` list, each track its own name → index dict) satisfies the laws of a feature
table for the track in focus, under `WInv`: its references are distinct and valid, its dict enumerates distinct names
with distinct indices below its length, and every one of its objects carries AT LEAST as many slots as the dict lists —
objects that went through another track's computations carry more. `createAnalyticalFeature` appends a slot and
registers index `len(dico)`; reads, writes and deletions go through `features[dico[name]]`. Hence every table
theorem holds for a track whose observations are shared. -/
theorem shared_world_lawful {V : Type} [Inhabited V] [AbsTime V] : Laws (σ := World V) (V := V) WInv wN wRd wCo := laws_World

variable [Add α] [Sub α] [Mul α] [Div α] [OfNat α 0] [BEq α] [LE α] [DecidableLE α] [IntCast α]

/-- T1 for a track whose observations are shared with other tracks, as a statement about one operation of a history
(`stepW`, what the driver runs): if track `k` of the world satisfies `WInv`, holds `≥ 1` fixes at the finite positions
`xy` and lists neither `ds` nor `abs_curv`, then `computeAbsCurv(track k)` returns `[absc 0, …]` of the CURRENT
positions, track `k` reads it under `abs_curv` afterwards and reads every other name as before — whatever extra slots
its observation objects carry from computations made on other tracks. -/
theorem abscurv_shared (sqrt : α → α) (ofNat : Nat → α) (isNaN : α → Bool) (w : World (Option α)) (k : Nat)
    (xy : List (α × α)) (hw : WInv { w with cur := k }) (hn : wN { w with cur := k } = xy.length) (hpos : 0 < xy.length)
    (hx : wCo { w with cur := k } .x = xsOf xy) (hy : wCo { w with cur := k } .y = ysOf xy)
    (hds : wRd { w with cur := k } "ds" = none) (hac : wRd { w with cur := k } "abs_curv" = none) :
    ∃ w', stepW (optG sqrt ofNat isNaN) (.absCurv k) w
        = (.ok (.col ((List.range xy.length).map (fun i => some (absc sqrt xy i)))), w')
      ∧ WInv w' ∧ wCo w' = wCo { w with cur := k }
      ∧ wRd w' "abs_curv" = some ((List.range xy.length).map (fun i => some (absc sqrt xy i)))
      ∧ ∀ m, m ≠ "abs_curv" → wRd w' m = wRd { w with cur := k } m := by
  obtain ⟨w', e, hI', _, hco', hrd', hoth⟩ :=
    abscurv_table laws_World sqrt ofNat isNaN xy { w with cur := k } hw hn hpos hx hy hds hac
  exact ⟨w', runOn_ok k (computeAbsCurvT (optG sqrt ofNat isNaN)) (·.map .col) w w' _ hw.cur e, hI', hco', hrd', hoth⟩

/-- T2 for a track whose observations are shared: `estimate_speed(track k)` on a track of `≥ 2` fixes that does not list
`speed` returns the speed column of the CURRENT positions and of the absolute times computed from the CURRENT timestamp
fields (`ts`), and track `k` reads it under `speed` afterwards. -/
theorem speed_shared (sqrt : α → α) (ofNat : Nat → α) (isNaN : α → Bool) (w : World (Option α)) (k : Nat)
    (xy : List (α × α)) (ts : List α) (hw : WInv { w with cur := k }) (hn : wN { w with cur := k } = xy.length)
    (h2 : 2 ≤ xy.length) (hx : wCo { w with cur := k } .x = xsOf xy) (hy : wCo { w with cur := k } .y = ysOf xy)
    (ht : wCo { w with cur := k } .t = tsOf ts) (hsp : wRd { w with cur := k } "speed" = none) :
    ∃ w', stepW (optG sqrt ofNat isNaN) (.speed k) w = (.ok (.col (speedCol sqrt xy ts)), w')
      ∧ WInv w' ∧ wCo w' = wCo { w with cur := k } ∧ wRd w' "speed" = some (speedCol sqrt xy ts)
      ∧ ∀ m, m ≠ "speed" → wRd w' m = wRd { w with cur := k } m := by
  obtain ⟨w', e, hI', _, hco', hrd', hoth⟩ :=
    speed_table laws_World sqrt ofNat isNaN xy ts { w with cur := k } hw hn h2 hx hy ht hsp
  exact ⟨w', runOn_ok k _ (·.map .col) w w' _ hw.cur e, hI', hco', hrd', hoth⟩

/-- **Purity, for every observation of every track.** Whatever the world looks like — aligned or not, whatever the
tracks share — and also when the operation ends in an exception: after computing, reading, removing or writing
features through any entry point (`computeAbsCurv`, `estimate_speed`, `addAnalyticalFeature(speed | ds)`,
`operate(INTEGRATOR | DIFFERENTIATOR)`, `length`, `computeCurvAbsBetweenTwoPoints`, reads, `removeAnalyticalFeature`,
`track[name] = list`, `isSorted`, `duration`, `getT`, and the METHOD `track.estimate_speed()`) the position and the stamp
— the seven calendar fields and the `zone` field (`geom` lists `(x, y, z, t, zone)` per object) — of EVERY observation
object and the reference list of EVERY track are what they were. -/
theorem positions_and_stamps_unchanged {V : Type} [AbsTime V] (g : GOps V) (op : WOp V) (hop : op.onFeatures = true) (w : World V) :
    geom (stepW g op w).2 = geom w ∧ (stepW g op w).2.trks.map (·.ids) = w.trks.map (·.ids) :=
  stepW_frame g op hop w

/-- `Track.estimate_speed()` — the method of core/track.py, called without a kernel — is `estimate_speed(track)` of
algo/cinematics.py: same result, same final world, on every world. With `positions_and_stamps_unchanged` (the method is an
operation on features): it rewrites no stamp, whatever zones the stamps of the track carry. -/
theorem speed_method_is_function {V : Type} [AbsTime V] (g : GOps V) (k : Nat) (w : World V) :
    stepW g (.speedMethod k) w = stepW g (.speed k) w := rfl

/-- **No feature operation reads the zone of a stamp.** For every operation on features (`computeAbsCurv`,
`estimate_speed` as a function and as a method, `addAnalyticalFeature(speed | ds)`, `operate`, `length`,
`computeCurvAbsBetweenTwoPoints`, reads, `isSorted`, `duration`, `getT`, …), every world and every rewriting `f` of the
zone fields of the stamps: on the rewritten world the operation returns the same value (or raises the same exception) and
ends in the rewritten final world. So "the time elapsed between" two fixes that `speed` divides by is a function of the
seven calendar fields of their stamps (the difference of the clock readings), whatever zones the stamps carry. -/
theorem zone_not_read {V : Type} [AbsTime V] (g : GOps V) (op : WOp V) (hop : op.onFeatures = true) (f : Int → Int) (w : World V) :
    stepW g op (w.zmap f) = ((stepW g op w).1, (stepW g op w).2.zmap f) :=
  stepW_blind g op hop f w

/-- Corollary: two worlds that differ in the zone fields only (they agree once every zone is set to 0) give the same
result of every operation on features, and final worlds that again differ in the zones only. -/
theorem same_result_whatever_zones {V : Type} [AbsTime V] (g : GOps V) (op : WOp V) (hop : op.onFeatures = true) (w w' : World V)
    (h : w.zmap (fun _ => 0) = w'.zmap (fun _ => 0)) :
    (stepW g op w).1 = (stepW g op w').1 ∧ (stepW g op w).2.zmap (fun _ => 0) = (stepW g op w').2.zmap (fun _ => 0) := by
  have e1 := zone_not_read g op hop (fun _ => 0) w
  have e2 := zone_not_read g op hop (fun _ => 0) w'
  rw [h] at e1
  rw [e1] at e2
  exact ⟨(Prod.mk.inj e2).1, (Prod.mk.inj e2).2⟩

end representations

section otherEntry
open TV.Features TV.CinTab
variable [Field α] [LinearOrder α] [IsStrictOrderedRing α]
variable {σ : Type} [Tbl σ (Option α)]
variable {I : σ → Prop} {n : σ → Nat} {rd : σ → String → Option (List (Option α))} {co : σ → Coord → List (Option α)}

/-- Another entry point of "the planimetric length of the track": `computeCurvAbsBetweenTwoPoints(track)` on a lawful
table holding `≥ 1` fixes at the finite positions `xy` only reads, and (in exact arithmetic: it subtracts the
coordinates in the other order than `ds`) returns `absc (n-1)` — the value `abs_curv` ends at, the sum of the legs
(`abscurv_geometric`). -/
theorem curvabs_table (L : Laws I n rd co) (sqrt : α → α) (ofNat : Nat → α) (isNaN : α → Bool) (xy : List (α × α)) (s : σ)
    (hI : I s) (hn : n s = xy.length) (hpos : 0 < xy.length) (hx : co s .x = xsOf xy) (hy : co s .y = ysOf xy) :
    (curvAbsT (optG sqrt ofNat isNaN) : M σ _) s = (.ok (some (absc sqrt xy (xy.length - 1))), s) := by
  rw [curvAbsT_read L (optG sqrt ofNat isNaN) s hI, hx, hy, hn, sumL_absc sqrt ofNat isNaN xy _ (by omega)]

end otherEntry

section readEntry
open TV.Features TV.CinTab
variable [Add α] [Sub α] [Mul α] [Div α] [OfNat α 0] [BEq α] [LE α] [DecidableLE α]
variable {σ : Type} [Tbl σ (Option α)]
variable {I : σ → Prop} {n : σ → Nat} {rd : σ → String → Option (List (Option α))} {co : σ → Coord → List (Option α)}

/-- The VALUE of `Track.length()` on a lawful table holding `≥ 1` fixes at the finite positions `(xy, zs)`: the call only
reads and returns `len3D (n-1)`, where `len3D 0 = 0` and `len3D (k+1) = len3D k + sqrt(dx² + dy² + dz²)` of
`P[k+1] - P[k]` — the 3D legs accumulated in Python's order. Any scalar type, any `sqrt`. (On a track of constant height
every leg is the planimetric one.) -/
theorem length_table (L : Laws I n rd co) (sqrt : α → α) (ofNat : Nat → α) (isNaN : α → Bool) (xy : List (α × α)) (zs : List α)
    (s : σ) (hI : I s) (hn : n s = xy.length) (hpos : 0 < xy.length) (hzl : zs.length = xy.length)
    (hx : co s .x = xsOf xy) (hy : co s .y = ysOf xy) (hz : co s .z = zsOf zs) :
    (lengthT (optG sqrt ofNat isNaN) : M σ _) s = (.ok (some (len3D sqrt xy zs (xy.length - 1))), s) := by
  rw [lengthT_read L (optG sqrt ofNat isNaN) s hI, hx, hy, hz, hn, sumL_len3D sqrt ofNat isNaN xy zs hzl _ (by omega)]

/-- The VALUE of `Track.duration()` on a lawful table holding `≥ 1` fixes at the finite times `ts` (absolute times of
the CURRENT timestamp fields): the call only reads and returns `ts[n-1] - ts[0]`. -/
theorem duration_table (L : Laws I n rd co) (sqrt : α → α) (ofNat : Nat → α) (isNaN : α → Bool) (ts : List α)
    (s : σ) (hI : I s) (hn : n s = ts.length) (hpos : 0 < ts.length) (ht : co s .t = tsOf ts) :
    (durationT (optG sqrt ofNat isNaN) : M σ _) s = (.ok (some (ts[ts.length - 1]'(by omega) - ts[0]'hpos)), s) := by
  rw [durationT_read L (optG sqrt ofNat isNaN) s hI (by omega), ht, hn, durF_opt sqrt ofNat isNaN ts hpos]

/-- The VALUE of `Track.isSorted()` on a lawful table holding `≥ 1` fixes at the finite times `ts`: the call only reads
and returns `true` exactly when no consecutive difference `ts[i+1] - ts[i]` is `≤ 0` — STRICTLY increasing times; two
fixes with the same timestamp make a track "not sorted" (noted: the statement of C17 allows repeated timestamps). -/
theorem sorted_table (L : Laws I n rd co) (sqrt : α → α) (ofNat : Nat → α) (isNaN : α → Bool) (ts : List α)
    (s : σ) (hI : I s) (hn : n s = ts.length) (hpos : 0 < ts.length) (ht : co s .t = tsOf ts) :
    ∃ b, (isSortedT (optG sqrt ofNat isNaN) : M σ _) s = (.ok b, s)
      ∧ (b = true ↔ ∀ i (h : i + 1 < ts.length), ¬ (ts[i + 1]'h - ts[i]'(Nat.lt_of_succ_lt h) ≤ 0)) := by
  refine ⟨_, isSortedT_read L (optG sqrt ofNat isNaN) s hI, ?_⟩
  rw [ht, hn]
  exact sortedF_opt sqrt ofNat isNaN ts

end readEntry

/-! ## per coordinate class -/

section coordsAny
open TV.CinCoords
open TV.Geo (Trig V3 geoToEnu)
variable [Add α] [Sub α] [Mul α] [Div α] [Neg α] [OfScientific α] [OfNat α 0] [BEq α]

/-- **Which distance the features use, class by class.** `Obs.distance2DTo` (the path of `ds`, hence of `abs_curv`) and
`position.distance2DTo` (the path of `speed` and of `computeCurvAbsBetweenTwoPoints`) give
* for `ENUCoords` the Euclidean distance of the (E, N) pairs — the `dist2D` of the first two parts;
* for `GeoCoords` `norm2D` of `self.toENUCoords(point)`: East / North components of `self` in the local frame at `point`;
* for `ECEFCoords` an exception: the refusal of `Obs.__check_call_geom1`, resp. `AttributeError` (no such method). -/
theorem class_distance (T : Trig α) (p q : V3 α) :
    obsDist2D T .enu p q = .ok (dist2D T.sqrt (p.x, p.y) (q.x, q.y))
    ∧ posDist2D T .enu p q = .ok (dist2D T.sqrt (p.x, p.y) (q.x, q.y))
    ∧ obsDist2D T .geo p q = .ok (norm2DP T (geoToEnu T p (.geo q)))
    ∧ posDist2D T .geo p q = .ok (norm2DP T (geoToEnu T p (.geo q)))
    ∧ obsDist2D T .ecef p q = .error .refused
    ∧ posDist2D T .ecef p q = .error .attr := ⟨rfl, rfl, rfl, rfl, rfl, rfl⟩

/-- **The ENU class is the model of the first part.** On a track of `ENUCoords` the class-dispatching programs raise
nothing and are `computeAbsCurv` / `estimateSpeed` of `Model/Cinematics.lean` (the third coordinates are not read), so
every theorem of the first part is a theorem about them. -/
theorem enu_class_is_cinematics (T : Trig α) (zs : List α) (tr : Track α) (hz : zs.length = tr.xy.length) :
    computeAbsCurvC T ⟨.enu, zs, tr⟩ = (.ok (computeAbsCurv T.sqrt tr).2, ⟨.enu, zs, (computeAbsCurv T.sqrt tr).1⟩)
    ∧ estimateSpeedC T ⟨.enu, zs, tr⟩ = (.ok (estimateSpeed T.sqrt tr).2, ⟨.enu, zs, (estimateSpeed T.sqrt tr).1⟩) :=
  ⟨computeAbsCurvC_enu T zs tr hz, estimateSpeedC_enu T zs tr hz⟩

/-- T1 for every class that defines a planimetric distance (ENU, Geo). On a track listing neither `ds` nor `abs_curv`,
`computeAbsCurv` raises nothing and returns `[s 0, …, s (n-1)]` (no NaN) with `s 0 = 0` and
`s (i+1) = s i + d(P[i+1], P[i])`, `d` being THE DISTANCE OF THE CLASS (`class_distance`; for Geo the frame is the one at
the earlier fix `P[i]`); `abs_curv` is stored, `ds` is gone, nothing else changes. Any scalar type — in particular
`Float` with the libm functions, in Python's order. -/
theorem abscurv_prefix_coords (T : Trig α) (t : CTrack α) (hc : t.cls ≠ .ecef) (hz : t.zs.length = t.tr.xy.length)
    (hds : t.tr.has "ds" = false) (hac : t.tr.has "abs_curv" = false) :
    computeAbsCurvC T t
      = (.ok (some ((List.range t.tr.xy.length).map (fun i => some (abscC T t i)))),
         { t with tr := t.tr.set "abs_curv" ((List.range t.tr.xy.length).map (fun i => some (abscC T t i))) })
    ∧ abscC T t 0 = 0
    ∧ ∀ i, i + 1 < t.tr.xy.length → ∃ p q, t.pt (i + 1) = some p ∧ t.pt i = some q
        ∧ abscC T t (i + 1) = abscC T t i + dist2C T t.cls p q := by
  refine ⟨computeAbsCurvC_fresh T t hc hz hds hac, rfl, fun i h => ?_⟩
  refine ⟨_, _, pt_of_lt t hz (i + 1) h, pt_of_lt t hz i (Nat.lt_of_succ_lt h), ?_⟩
  simp only [abscC, pt_of_lt t hz (i + 1) h, pt_of_lt t hz i (Nat.lt_of_succ_lt h)]

/-- T2 for every class that defines a planimetric distance. On a track of `n ≥ 2` fixes without a `speed` feature,
`estimate_speed` raises nothing and returns a column `v` of length `n` whose entry `i` is computed from the fixes
(1,0) / (n-1,n-2) / (i+1,i-1): NaN when the elapsed time is zero, otherwise `d(P[a], P[b]) / (ts[a] - ts[b])` with the
distance of the class (for Geo: in the frame at the earlier fix `P[b]`). -/
theorem speed_def_coords [LawfulBEq α] (T : Trig α) (t : CTrack α) (hc : t.cls ≠ .ecef) (hz : t.zs.length = t.tr.xy.length)
    (hsp : t.tr.has "speed" = false) (hn : 2 ≤ t.tr.xy.length) (hts : t.tr.ts.length = t.tr.xy.length) :
    ∃ v : Col α, (estimateSpeedC T t).1 = .ok (some v) ∧ v.length = t.tr.xy.length ∧
      ∀ (i a b : Nat), i < t.tr.xy.length →
        ((i = 0 ∧ a = 1 ∧ b = 0) ∨ (i = t.tr.xy.length - 1 ∧ a = t.tr.xy.length - 1 ∧ b = t.tr.xy.length - 2)
          ∨ (0 < i ∧ i < t.tr.xy.length - 1 ∧ a = i + 1 ∧ b = i - 1)) →
        ∀ (ha : a < t.tr.xy.length) (hb : b < t.tr.xy.length), ∃ pa pb, t.pt a = some pa ∧ t.pt b = some pb ∧
          (t.tr.ts[a]'(hts ▸ ha) - t.tr.ts[b]'(hts ▸ hb) = 0 → v[i]? = some none) ∧
          (t.tr.ts[a]'(hts ▸ ha) - t.tr.ts[b]'(hts ▸ hb) ≠ 0 →
            v[i]? = some (some (dist2C T t.cls pa pb / (t.tr.ts[a]'(hts ▸ ha) - t.tr.ts[b]'(hts ▸ hb))))) := by
  have hl := pts_length t hz
  refine ⟨TV.CinTabK.speedColD (dist2C T t.cls) t.pts t.tr.ts, by rw [estimateSpeedC_fresh T t hc hz hsp],
    by simp [TV.CinTabK.speedColD, hl], fun i a b hi hcase ha hb => ?_⟩
  have ha' : a < t.pts.length := hl ▸ ha
  have hb' : b < t.pts.length := hl ▸ hb
  refine ⟨_, _, (pt_eq_pts t a).trans (List.getElem?_eq_getElem ha'), (pt_eq_pts t b).trans (List.getElem?_eq_getElem hb'),
    quot_entry ?_⟩
  rw [TV.CinTabK.speedColD_getElem? _ _ _ i (hl ▸ hi), TV.CinTabK.speedAtD_eq _ _ _ (hl ▸ hcase) (hl ▸ hn) ha' hb' (hts ▸ ha) (hts ▸ hb)]

/-- T3 for every class, exceptions included: `computeAbsCurv` / `estimate_speed` leave the class of the positions, the
three coordinates of every fix and the timestamps as they were, and every feature other than `ds` / `abs_curv`
(resp. `speed`) reads what it read before — also when the computation is refused half-way. -/
theorem pure_coords (T : Trig α) (t : CTrack α) :
    ((computeAbsCurvC T t).2.cls = t.cls ∧ (computeAbsCurvC T t).2.zs = t.zs
      ∧ (computeAbsCurvC T t).2.tr.xy = t.tr.xy ∧ (computeAbsCurvC T t).2.tr.ts = t.tr.ts
      ∧ ∀ m, m ≠ "ds" → m ≠ "abs_curv" → (computeAbsCurvC T t).2.tr.get m = t.tr.get m)
    ∧ ((estimateSpeedC T t).2.cls = t.cls ∧ (estimateSpeedC T t).2.zs = t.zs
      ∧ (estimateSpeedC T t).2.tr.xy = t.tr.xy ∧ (estimateSpeedC T t).2.tr.ts = t.tr.ts
      ∧ ∀ m, m ≠ "speed" → (estimateSpeedC T t).2.tr.get m = t.tr.get m) :=
  have ⟨a1, a2, ha⟩ := computeAbsCurvC_only T t
  have ⟨s1, s2, hs⟩ := estimateSpeedC_only T t
  ⟨⟨a1, a2, ha.xy, ha.ts, fun m h1 h2 => ha.get m (by simp [h1, h2])⟩, ⟨s1, s2, hs.xy, hs.ts, fun m h => hs.get m (by simp [h])⟩⟩

/-- **ECEF tracks** (`n ≥ 2` fixes, no `ds` / `speed` listed): `computeAbsCurv` is REFUSED (`Obs.__check_call_geom1`),
`estimate_speed` and `computeCurvAbsBetweenTwoPoints` end in `AttributeError` (`ECEFCoords` has no `distance2DTo`). The
refusal comes after `createAnalyticalFeature`: a `ds` (resp. `speed`) column of zeros STAYS on the track — noted: a second
`computeAbsCurv` then finds `ds`, integrates the zeros and returns an all-zero `abs_curv`, a second `estimate_speed`
returns the zeros (see the `example`s below; outside the statement, which is about tracks with a planimetric distance). -/
theorem ecef_refused (T : Trig α) (t : CTrack α) (hc : t.cls = .ecef) (hz : t.zs.length = t.tr.xy.length)
    (h2 : 2 ≤ t.tr.xy.length) :
    (t.tr.has "ds" = false → computeAbsCurvC T t
        = (.error .refused, { t with tr := t.tr.set "ds" (List.replicate t.tr.xy.length (some 0)) }))
    ∧ (t.tr.has "speed" = false → estimateSpeedC T t
        = (.error .attr, { t with tr := t.tr.set "speed" (List.replicate t.tr.xy.length (some 0)) }))
    ∧ curvAbsC T t = .error .attr :=
  ⟨computeAbsCurvC_ecef T t hc hz h2, estimateSpeedC_ecef T t hc hz h2, curvAbsC_ecef T t hc hz h2⟩

end coordsAny

section coordsRounded
open TV.CinCoords
open TV.Geo (Trig V3)
variable [Add α] [Sub α] [Mul α] [Div α] [Neg α] [OfScientific α] [OfNat α 0] [Preorder α]

/-- T1, "never decreases", for every class and WITHOUT exact arithmetic: under the two facts of correctly rounded IEEE
arithmetic of `abscurv_monotone_rounded` (`0 ≤ sqrt x`; `0 ≤ d → a ≤ a + d`) the abscissa of a Geo track never decreases
either — whatever `sin`, `cos`, `atan2`, `pow` return: the leg is a square root. -/
theorem abscurv_monotone_coords (T : Trig α) (hsqrt : ∀ x, 0 ≤ T.sqrt x) (hadd : ∀ a d : α, 0 ≤ d → a ≤ a + d)
    (t : CTrack α) : ∀ i j, i ≤ j → abscC T t i ≤ abscC T t j :=
  abscC_eq T t ▸ CinTabK.abscD_mono hadd _ (dist2C_nonneg T hsqrt t.cls) t.pts

end coordsRounded

section coordsReal
open TV.CinCoords
open TV.Geo (Trig V3 geoToEnu geoToEcef Pyth)

/-- **What the Geo distance is.** Over the reals, for any `sin`/`cos` with `sin² + cos² = 1`, `x ** 2 = x²` and a genuine
square root: `GeoCoords.distance2DTo` is the non-negative `d` with `d² + U² = |chord|²`, where the chord is the
straight segment between the two positions in ECEF coordinates and `U` its component along the third axis of the local
frame at `point` — the horizontal part of the chord. Hence `d ≤ |chord|`, and `d = 0` for a repeated position. (Whatever
angles the base's ECEF → geodetic step recovers: the local frame is a rotation.) -/
theorem geo_distance_horizontal (T : Trig ℝ) (hT : Pyth T) (hpow : ∀ x, T.pow x 2.0 = x ^ 2) (hs : SqrtSpec T.sqrt)
    (p q : V3 ℝ) :
    0 ≤ geoDist2D T p q
    ∧ geoDist2D T p q ^ 2 + (geoToEnu T p (.geo q)).z ^ 2
        = ((geoToEcef T p).x - (geoToEcef T q).x) ^ 2 + ((geoToEcef T p).y - (geoToEcef T q).y) ^ 2
          + ((geoToEcef T p).z - (geoToEcef T q).z) ^ 2
    ∧ geoDist2D T p p = 0 := by
  have hnn : ∀ v : V3 ℝ, 0 ≤ v.x ^ 2 + v.y ^ 2 := fun v => by positivity
  have hd : ∀ v : V3 ℝ, 0 ≤ norm2DP T v ∧ norm2DP T v ^ 2 = v.x ^ 2 + v.y ^ 2 := by
    intro v
    unfold norm2DP
    rw [hpow, hpow]
    obtain ⟨h0, h1⟩ := hs _ (hnn v)
    exact ⟨h0, by rw [pow_two, h1]⟩
  refine ⟨(hd _).1, ?_, ?_⟩
  · unfold geoDist2D
    rw [(hd _).2]
    exact TV.Geo.ecefToEnu_norm T hT (geoToEcef T p) (.ecef (geoToEcef T q))
  · unfold geoDist2D
    have h0 := (hd (geoToEnu T p (.geo p))).2
    rw [TV.Geo.geoToEnu_self'] at h0 ⊢
    have : norm2DP T ⟨0, 0, 0⟩ ^ 2 = 0 := by rw [h0]; norm_num
    exact pow_eq_zero_iff (two_ne_zero) |>.1 this

end coordsReal

/-! ## on the feature table, for every coordinate class -/

section tableClass
open TV.Features TV.CinTab TV.CinTabK TV.CinCoords
open TV.Geo (Trig V3)
variable [Add α] [Sub α] [Mul α] [Div α] [Neg α] [OfScientific α] [OfNat α 0] [BEq α] [LE α] [DecidableLE α]
variable {σ : Type} [Tbl σ (Option α)]
variable {I : σ → Prop} {n : σ → Nat} {rd : σ → String → Option (List (Option α))} {co : σ → Coord → List (Option α)}

/-- The kernel of a class that defines a planimetric distance (`ENUCoords`, `GeoCoords`): `Obs.distance2DTo` does not
refuse, `position.distance2DTo` never raises, and both compute `CinCoords.dist2C` — the distance of `class_distance` — on
the coordinates of the two position objects. (Whatever `Err` stands for the refusal / the missing method of ECEF.) -/
theorem class_kernel_defines (T : Trig α) (eRef eAttr : Err) (c : Cls) (hc : c ≠ .ecef) :
    Defines (clsKernel T eRef eAttr c) (onPtsV (dist2C T c)) := by
  cases c with
  | enu => exact ⟨rfl, fun _ _ _ _ _ _ => rfl⟩
  | geo => exact ⟨rfl, fun _ _ _ _ _ _ => rfl⟩
  | ecef => exact absurd rfl hc

/-- The ENU programs of the table model are the instances of the class-generic ones at `analytics.ds` / `analytics.speed`
with the `ENUCoords` distance built in: `abscurv_table`, `speed_table`, … are statements about the same program text. -/
theorem enu_programs_are_instances {V : Type} [Tbl σ V] (g : GOps V) :
    (computeAbsCurvT g : M σ (List V)) = computeAbsCurvG g (dsAlgT g)
    ∧ (estimateSpeedT g : M σ (List V)) = estimateSpeedG g (speedAlgT g) := ⟨computeAbsCurvT_eq g, estimateSpeedT_eq g⟩

/-- **T1 on the table, for every class with a planimetric distance.** Let a feature table satisfy the laws, hold
`≥ 1` fixes whose position objects are of class `c` (ENU or Geo) with the finite coordinates `P` (`getX/getY/getZ`), and
list neither `ds` nor `abs_curv`. Then `computeAbsCurv` — through the Track API, `ds` going through `Obs.distance2DTo` and
the class's `distance2DTo` — terminates without an exception and returns `[s 0, …, s (n-1)]` with `s 0 = 0`,
`s (i+1) = s i + d_class(P[i+1], P[i])` (`abscD`; `dist2C`: for Geo the East/North part of the chord in the tangent frame
at fix `i`) of the positions the table holds NOW; `abs_curv` reads exactly that column afterwards, `ds` is not listed,
every other name, the coordinate and time columns, the number of fixes and the invariant are unchanged. Any scalar type
(Float with libm's sin / cos / atan2 / pow / sqrt included). -/
theorem abscurv_table_class (L : Laws I n rd co) (T : Trig α) (eRef eAttr : Err) (c : Cls) (hc : c ≠ .ecef)
    (sqrt : α → α) (ofNat : Nat → α) (isNaN : α → Bool) (P : List (V3 α)) (s : σ)
    (hI : I s) (hn : n s = P.length) (hpos : 0 < P.length)
    (hx : co s .x = xsP P) (hy : co s .y = ysP P) (hz : co s .z = zsP P)
    (hds : rd s "ds" = none) (hac : rd s "abs_curv" = none) :
    ∃ s', (computeAbsCurvK (optG sqrt ofNat isNaN) (clsKernel T eRef eAttr c) : M σ _) s
        = (.ok ((List.range P.length).map (fun i => some (abscD (dist2C T c) P i))), s')
      ∧ I s' ∧ n s' = n s ∧ co s' = co s
      ∧ rd s' "abs_curv" = some ((List.range P.length).map (fun i => some (abscD (dist2C T c) P i)))
      ∧ ∀ m, m ≠ "abs_curv" → rd s' m = rd s m := by
  exact computeAbsCurvG_spec L (optG sqrt ofNat isNaN) _ _ s hI (hn ▸ hpos) hds
    (fun i hi => dsAlgK_read L (optG sqrt ofNat isNaN) (class_kernel_defines T eRef eAttr c hc) i hi)
    (by rw [hac, Option.getD_none, hn, hx, hy, hz, dsAtD_opt, integG_opt, integrator_dsD])

/-- T3 on the table for every class with a planimetric distance (repetition): on a table that lists `abs_curv` (and no
`ds`), `computeAbsCurv` returns the listed column as it is and every name, the coordinates and the times read afterwards
what they read before (the temporary `ds` is created from the current positions and removed again). -/
theorem abscurv_table_class_again (L : Laws I n rd co) (T : Trig α) (eRef eAttr : Err) (c : Cls) (hc : c ≠ .ecef)
    (sqrt : α → α) (ofNat : Nat → α) (isNaN : α → Bool) (s : σ)
    (hI : I s) (hpos : 0 < n s) (hds : rd s "ds" = none) (col : List (Option α)) (hac : rd s "abs_curv" = some col) :
    ∃ s', (computeAbsCurvK (optG sqrt ofNat isNaN) (clsKernel T eRef eAttr c) : M σ _) s = (.ok col, s')
      ∧ I s' ∧ n s' = n s ∧ co s' = co s ∧ ∀ m, rd s' m = rd s m := by
  exact computeAbsCurvG_again L (optG sqrt ofNat isNaN) _ _ s hI hpos hds col hac
    (fun i hi => dsAlgK_read L (optG sqrt ofNat isNaN) (class_kernel_defines T eRef eAttr c hc) i hi)

/-- **T2 on the table, for every class with a planimetric distance.** On a lawful table of `n ≥ 2` fixes of class `c`
(ENU or Geo) at the finite coordinates `P` and finite times `ts` that does not list `speed`, `estimate_speed` (function
or method) terminates without an exception and returns `speedColD d_class P ts` of the CURRENT positions and times:
entry `i` from fixes (1,0) / (n-1,n-2) / (i+1,i-1), NaN when the elapsed time is zero, else `d_class(P[a], P[b])` /
elapsed (`speedAtD`, `speedBetweenD`; for Geo in the tangent frame at the EARLIER fix `b`); `speed` reads exactly that
column afterwards, every other name, the coordinates, the times and the invariant are unchanged. -/
theorem speed_table_class (L : Laws I n rd co) (T : Trig α) (eRef eAttr : Err) (c : Cls) (hc : c ≠ .ecef)
    (sqrt : α → α) (ofNat : Nat → α) (isNaN : α → Bool) (P : List (V3 α)) (ts : List α) (s : σ)
    (hI : I s) (hn : n s = P.length) (h2 : 2 ≤ P.length)
    (hx : co s .x = xsP P) (hy : co s .y = ysP P) (hz : co s .z = zsP P) (ht : co s .t = tsOf ts)
    (hsp : rd s "speed" = none) :
    ∃ s', (estimateSpeedK (optG sqrt ofNat isNaN) (clsKernel T eRef eAttr c) : M σ _) s
        = (.ok (speedColD (dist2C T c) P ts), s')
      ∧ I s' ∧ n s' = n s ∧ co s' = co s ∧ rd s' "speed" = some (speedColD (dist2C T c) P ts)
      ∧ ∀ m, m ≠ "speed" → rd s' m = rd s m := by
  exact estimateSpeedG_fresh L (optG sqrt ofNat isNaN) _ _ s hI (by omega) hsp
    (fun i hi => speedAlgK_read L (optG sqrt ofNat isNaN) (class_kernel_defines T eRef eAttr c hc) (hn ▸ h2) i hi)
    (by rw [hn, hx, hy, hz, ht, speedColD_opt])

/-- T3 on the table (repetition), any class — ECEF included: on a table that lists `speed`, `estimate_speed` returns the
listed column and does not change the state at all (no distance is taken). -/
theorem speed_table_class_again (L : Laws I n rd co) (K : Kernel (Option α)) (sqrt : α → α) (ofNat : Nat → α) (isNaN : α → Bool)
    (s : σ) (hI : I s) (col : List (Option α)) (hsp : rd s "speed" = some col) :
    (estimateSpeedK (optG sqrt ofNat isNaN) K : M σ _) s = (.ok col, s) :=
  estimateSpeedG_again L (optG sqrt ofNat isNaN) _ s hI col hsp

/-- `computeCurvAbsBetweenTwoPoints(track)` on a lawful table of `≥ 1` fixes of a class with a planimetric distance only
reads and returns `curvD d_class P (n-1)`: `0` plus the legs `d_class(P[k], P[k+1])` accumulated in Python's order (for
Geo: in the tangent frame at the LATER fix `k+1` — the other end than `ds`; the two differ by about leg × height
difference / Earth radius, which is why the oracle accepts either). Any scalar type. -/
theorem curvabs_table_class (L : Laws I n rd co) (T : Trig α) (eRef eAttr : Err) (c : Cls) (hc : c ≠ .ecef)
    (sqrt : α → α) (ofNat : Nat → α) (isNaN : α → Bool) (P : List (V3 α)) (s : σ)
    (hI : I s) (hn : n s = P.length) (hpos : 0 < P.length)
    (hx : co s .x = xsP P) (hy : co s .y = ysP P) (hz : co s .z = zsP P) :
    (curvAbsK (optG sqrt ofNat isNaN) (clsKernel T eRef eAttr c) : M σ _) s
      = (.ok (some (curvD (dist2C T c) P (P.length - 1))), s) := by
  have hK := class_kernel_defines T eRef eAttr c hc
  rw [curvAbsK_read L (optG sqrt ofNat isNaN) hK s hI, hx, hy, hz, hn,
    sumL_curvD sqrt ofNat isNaN (dist2C T c) P _ (by omega)]

/-- **ECEF tracks on the feature table** (any lawful table — shared observations included — of `n ≥ 2` fixes; `eRef` /
`eAttr` are whatever `Err` stands for `raise CoordTypeError` / `AttributeError`, not an `IndexError`):
* no `ds` listed: `computeAbsCurv` ends in the refusal of `Obs.distance2DTo` raised at fix 1; afterwards a `ds` column IS
  listed (created before the loop of `addAnalyticalFeature`) whose value at fix 0 is the `0` computed there, `abs_curv` is
  not created, every other name reads as before;
* no `speed` listed: `estimate_speed` ends in the `AttributeError` of `position.distance2DTo` at fix 0; a `speed` column
  stays listed, every other name reads as before;
in both cases the coordinates, the times, the number of fixes and the invariant are unchanged. (The statement of C17 does
not apply to ECEF tracks — they define no planimetric distance; noted: a SECOND call finds the column and returns it.) -/
theorem ecef_refused_table (L : Laws I n rd co) (T : Trig α) (eRef eAttr : Err) (hr : eRef ≠ .index) (ha : eAttr ≠ .index)
    (sqrt : α → α) (ofNat : Nat → α) (isNaN : α → Bool) (s : σ) (hI : I s) (h2 : 2 ≤ n s) :
    (rd s "ds" = none → ∃ s' col, (computeAbsCurvK (optG sqrt ofNat isNaN) (clsKernel T eRef eAttr .ecef) : M σ _) s = (.error eRef, s')
        ∧ I s' ∧ n s' = n s ∧ co s' = co s ∧ rd s' "ds" = some col ∧ col[0]? = some (some 0) ∧ ∀ m, m ≠ "ds" → rd s' m = rd s m)
    ∧ (rd s "speed" = none → ∃ s' col, (estimateSpeedK (optG sqrt ofNat isNaN) (clsKernel T eRef eAttr .ecef) : M σ _) s = (.error eAttr, s')
        ∧ I s' ∧ n s' = n s ∧ co s' = co s ∧ rd s' "speed" = some col ∧ ∀ m, m ≠ "speed" → rd s' m = rd s m) :=
  ⟨fun hds => computeAbsCurvK_refused L (optG sqrt ofNat isNaN) (clsKernel T eRef eAttr .ecef) eRef rfl hr s hI h2 hds,
   fun hsp => estimateSpeedK_attr L (optG sqrt ofNat isNaN) (clsKernel T eRef eAttr .ecef) eAttr (fun _ _ _ _ _ _ => rfl) ha s hI h2 hsp⟩

variable [IntCast α]

/-- T1 for a Geo (or ENU) track whose observations are SHARED with other tracks, as one operation of a history on the world
of observation objects (`stepK`, what the driver runs for class G / X pools): if track `k` satisfies `WInv`, holds `≥ 1`
fixes at the finite coordinates `P` and lists neither `ds` nor `abs_curv`, then `computeAbsCurv(track k)` returns the prefix
sums of the class distance of the CURRENT positions, track `k` reads them under `abs_curv` afterwards and reads every other
name as before — whatever extra slots its observation objects carry from computations made on other tracks. -/
theorem abscurv_shared_class (T : Trig α) (eRef eAttr : Err) (c : Cls) (hc : c ≠ .ecef)
    (sqrt : α → α) (ofNat : Nat → α) (isNaN : α → Bool) (w : World (Option α)) (k : Nat)
    (P : List (V3 α)) (hw : WInv { w with cur := k }) (hn : wN { w with cur := k } = P.length) (hpos : 0 < P.length)
    (hx : wCo { w with cur := k } .x = xsP P) (hy : wCo { w with cur := k } .y = ysP P) (hz : wCo { w with cur := k } .z = zsP P)
    (hds : wRd { w with cur := k } "ds" = none) (hac : wRd { w with cur := k } "abs_curv" = none) :
    ∃ w', stepK (optG sqrt ofNat isNaN) (clsKernel T eRef eAttr c) (.absCurv k) w
        = (.ok (.col ((List.range P.length).map (fun i => some (abscD (dist2C T c) P i)))), w')
      ∧ WInv w' ∧ wCo w' = wCo { w with cur := k }
      ∧ wRd w' "abs_curv" = some ((List.range P.length).map (fun i => some (abscD (dist2C T c) P i)))
      ∧ ∀ m, m ≠ "abs_curv" → wRd w' m = wRd { w with cur := k } m := by
  obtain ⟨w', e, hI', _, hco', hrd', hoth⟩ :=
    abscurv_table_class laws_World T eRef eAttr c hc sqrt ofNat isNaN P { w with cur := k } hw hn hpos hx hy hz hds hac
  refine ⟨w', ?_, hI', hco', hrd', hoth⟩
  exact runOn_ok k _ _ w w' _ hw.cur e

/-- T2 for a Geo (or ENU) track whose observations are shared: `estimate_speed(track k)` on `≥ 2` fixes without `speed`
returns the speed column of the class distance of the CURRENT positions and of the absolute times of the CURRENT timestamp
fields, and track `k` reads it under `speed` afterwards. -/
theorem speed_shared_class (T : Trig α) (eRef eAttr : Err) (c : Cls) (hc : c ≠ .ecef)
    (sqrt : α → α) (ofNat : Nat → α) (isNaN : α → Bool) (w : World (Option α)) (k : Nat)
    (P : List (V3 α)) (ts : List α) (hw : WInv { w with cur := k }) (hn : wN { w with cur := k } = P.length) (h2 : 2 ≤ P.length)
    (hx : wCo { w with cur := k } .x = xsP P) (hy : wCo { w with cur := k } .y = ysP P) (hz : wCo { w with cur := k } .z = zsP P)
    (ht : wCo { w with cur := k } .t = tsOf ts) (hsp : wRd { w with cur := k } "speed" = none) :
    ∃ w', stepK (optG sqrt ofNat isNaN) (clsKernel T eRef eAttr c) (.speed k) w
        = (.ok (.col (speedColD (dist2C T c) P ts)), w')
      ∧ WInv w' ∧ wCo w' = wCo { w with cur := k } ∧ wRd w' "speed" = some (speedColD (dist2C T c) P ts)
      ∧ ∀ m, m ≠ "speed" → wRd w' m = wRd { w with cur := k } m := by
  obtain ⟨w', e, hI', _, hco', hrd', hoth⟩ :=
    speed_table_class laws_World T eRef eAttr c hc sqrt ofNat isNaN P ts { w with cur := k } hw hn h2 hx hy hz ht hsp
  refine ⟨w', ?_, hI', hco', hrd', hoth⟩
  exact runOn_ok k _ _ w w' _ hw.cur e

/-- **Purity for every coordinate class, on every world.** Whatever the class of the position objects (the kernel `K` is
arbitrary: ENU, Geo, ECEF with its refusal and its `AttributeError`, or anything else), whatever the tracks share, aligned
or not, and also when the operation ends in an exception: after any operation on features the position and the stamp —
seven calendar fields and `zone` — of EVERY observation object and the reference list of EVERY track are what they were. -/
theorem positions_and_stamps_unchanged_class {V : Type} [AbsTime V] (g : GOps V) (K : Kernel V) (op : WOp V)
    (hop : op.onFeatures = true) (w : World V) :
    geom (stepK g K op w).2 = geom w ∧ (stepK g K op w).2.trks.map (·.ids) = w.trks.map (·.ids) :=
  stepK_frame g K op hop w

/-- No operation on features reads the zone field of a stamp, for every coordinate class: on a world whose zones were
rewritten by any function it returns the same value / raises the same exception and ends in the rewritten final world. -/
theorem zone_not_read_class {V : Type} [AbsTime V] (g : GOps V) (K : Kernel V) (op : WOp V) (hop : op.onFeatures = true)
    (f : Int → Int) (w : World V) :
    stepK g K op (w.zmap f) = ((stepK g K op w).1, (stepK g K op w).2.zmap f) :=
  stepK_blind g K op hop f w

end tableClass

section tableClassRounded
open TV.CinTabK TV.CinCoords
open TV.Geo (Trig V3)
variable [Add α] [Sub α] [Mul α] [Div α] [Neg α] [OfScientific α] [OfNat α 0] [Preorder α]

/-- "Never decreases" for the column `abscurv_table_class` returns, for every class and WITHOUT exact arithmetic: under the
two facts of correctly rounded IEEE arithmetic (`0 ≤ sqrt x`; `0 ≤ d → a ≤ a + d`) the prefix sums `abscD` of the class
distance never decrease — whatever `sin`, `cos`, `atan2`, `pow` return: every leg is a square root. -/
theorem abscurv_monotone_class (T : Trig α) (hsqrt : ∀ x, 0 ≤ T.sqrt x) (hadd : ∀ a d : α, 0 ≤ d → a ≤ a + d)
    (c : Cls) (P : List (V3 α)) : ∀ i j, i ≤ j → abscD (dist2C T c) P i ≤ abscD (dist2C T c) P j :=
  abscD_mono hadd _ (dist2C_nonneg T hsqrt c) P

end tableClassRounded

section tableClassEntries
open TV.CinTabK
open TV.Geo (V3)
variable [Add α] [Sub α] [Mul α] [Div α] [OfNat α 0] [BEq α] [LawfulBEq α]

/-- The entries of the columns `abscurv_table_class` / `speed_table_class` return, for ANY distance `d` (`d self point` =
`self.distance2DTo(point)`): the abscissa starts at `0` and grows by `d(P[i+1], P[i])`; the speed column has one value per
fix, `v[0]` from fixes (1,0), `v[n-1]` from fixes (n-1,n-2), `v[i]` from fixes (i+1,i-1) otherwise, NaN exactly when the
elapsed time is zero, else `d(P[a], P[b])` over the elapsed time. -/
theorem class_columns_def (d : V3 α → V3 α → α) (P : List (V3 α)) (ts : List α) (hn : 2 ≤ P.length) (hts : ts.length = P.length) :
    abscD d P 0 = 0
    ∧ (∀ i (h : i + 1 < P.length), abscD d P (i + 1) = abscD d P i + d (P[i + 1]'h) (P[i]'(Nat.lt_of_succ_lt h)))
    ∧ (speedColD d P ts).length = P.length
    ∧ ∀ (i a b : Nat) (_hi : i < P.length),
      ((i = 0 ∧ a = 1 ∧ b = 0) ∨ (i = P.length - 1 ∧ a = P.length - 1 ∧ b = P.length - 2)
        ∨ (0 < i ∧ i < P.length - 1 ∧ a = i + 1 ∧ b = i - 1)) →
      ∀ (ha : a < P.length) (hb : b < P.length),
        (ts[a]'(hts ▸ ha) - ts[b]'(hts ▸ hb) = 0 → (speedColD d P ts)[i]? = some none) ∧
        (ts[a]'(hts ▸ ha) - ts[b]'(hts ▸ hb) ≠ 0 →
          (speedColD d P ts)[i]? = some (some (d P[a] P[b] / (ts[a]'(hts ▸ ha) - ts[b]'(hts ▸ hb))))) := by
  refine ⟨rfl, fun i h => abscD_succ d P i h, by simp [speedColD], fun i a b hi hcase ha hb => quot_entry ?_⟩
  rw [speedColD_getElem? d P ts i hi, speedAtD_eq d P ts hcase hn ha hb (hts ▸ ha) (hts ▸ hb)]

end tableClassEntries

/-- the square-root contract is inhabited (by `Real.sqrt`) -/
example : SqrtSpec Real.sqrt := fun x hx => ⟨Real.sqrt_nonneg x, Real.mul_self_sqrt hx⟩

/-- a 4-fix track with a repeated position and a repeated timestamp satisfies the hypotheses of T1/T2 -/
def demo : Track Rat := { xy := [(0, 0), (3, 4), (3, 4), (6, 8)], ts := [0, 2, 2, 5], feats := [("w", [some 1, none, some 2, some 3])] }
example : demo.has "ds" = false ∧ demo.has "abs_curv" = false ∧ demo.has "speed" = false
    ∧ 2 ≤ demo.xy.length ∧ demo.ts.length = demo.xy.length := by decide
/-- with the exact square root on these legs the model returns 0,5,5,10 and 5/2, 5/2, 5/3, 5/3 -/
example : (computeAbsCurv (fun x => if x = 25 then 5 else 0) demo).2 = some [some 0, some 5, some 5, some 10] := by
  decide +kernel
example : (estimateSpeed (fun x => if x = 25 then 5 else if x = 100 then 10 else 0) demo).2
    = some [some (5 / 2), some (5 / 2), some (5 / 3), some (5 / 3)] := by
  decide +kernel
/-- the NaN rule: two fixes with the same timestamp -/
example : (estimateSpeed (fun x => if x = 25 then 5 else 0)
    ({ xy := [(0, 0), (3, 4)], ts := [7, 7], feats := [] } : Track Rat)).2 = some [none, none] := by
  decide +kernel

/-- the hypotheses of `abscurv_monotone_rounded` are satisfiable by an arithmetic whose square root is NOT exact: the
integers with the floor square root -/
example : (∀ x : Int, 0 ≤ ((Nat.sqrt x.toNat : Nat) : Int)) ∧ (∀ a d : Int, 0 ≤ d → a ≤ a + d) :=
  ⟨fun _ => Int.natCast_nonneg _, fun a d h => by omega⟩
example : absc (fun x : Int => ((Nat.sqrt x.toNat : Nat) : Int)) [(0, 0), (1, 1), (3, 2), (3, 2)] 3 = 3 := by decide +kernel

section demoWorld
open TV.Features TV.CinTab TV.ObsTime

/-- four observation objects; the two middle ones already carry a slot (value 7) because they also belong to track 1,
on which `speed` was computed; track 0 references all four and lists no feature. The stamps of the first two were written by
a logger set to zone 0, those of the last two by a logger set to zone +2 (the sixth component) -/
def demoW : World (Option Rat) :=
  { heap := [⟨some 0, some 0, some 0, ⟨1970, 1, 1, 0, 0, 0, 0⟩, [], 0⟩, ⟨some 3, some 4, some 0, ⟨1970, 1, 1, 0, 0, 2, 0⟩, [some 7], 0⟩,
             ⟨some 3, some 4, some 1, ⟨1970, 1, 1, 0, 0, 2, 0⟩, [some 7], 2⟩, ⟨some 6, some 8, some 0, ⟨1970, 1, 1, 0, 0, 5, 0⟩, [], 2⟩],
    trks := [⟨[0, 1, 2, 3], []⟩, ⟨[1, 2], [("speed", 0)]⟩], cur := 0 }

def demoG : GOps (Option Rat) := optG (fun x => if x = 25 then 5 else if x = 100 then 10 else 0) (fun n => (n : Rat)) (fun _ => false)

/-- the hypotheses of `abscurv_shared` / `speed_shared` hold for track 0 of `demoW` (with `xy = demo.xy`, `ts = demo.ts`) -/
example : WInv { demoW with cur := 0 } :=
  ⟨by decide, by decide, by decide, ⟨by decide, by decide, by decide⟩, fun _ _ _ _ => Nat.zero_le _⟩
example : wN { demoW with cur := 0 } = demo.xy.length ∧ wCo { demoW with cur := 0 } .x = xsOf demo.xy
    ∧ wCo { demoW with cur := 0 } .y = ysOf demo.xy ∧ wCo { demoW with cur := 0 } .t = tsOf demo.ts
    ∧ wRd { demoW with cur := 0 } "ds" = none ∧ wRd { demoW with cur := 0 } "abs_curv" = none
    ∧ wRd { demoW with cur := 0 } "speed" = none := by decide +kernel
/-- … and for track 1 (two fixes, one listed feature, one slot per object) -/
example : WInv { demoW with cur := 1 } :=
  ⟨by decide, by decide, by decide, ⟨by decide, by decide, by decide⟩, by
    intro id hid ob hob
    have : id = 1 ∨ id = 2 := by simpa [World.trk, demoW] using hid
    rcases this with rfl | rfl <;> (simp [demoW] at hob; subst hob; decide)⟩

/-- the model run: abs_curv of track 0 is 0,5,5,10 although objects 1 and 2 carried a foreign slot; afterwards they carry
`[5, 0]` — the abscissa sits in the slot track 0's dict designates (index 0), the appended slot is behind it -/
example : (match (stepW demoG (.absCurv 0) demoW).1 with | .ok (.col l) => l | _ => []) = [some 0, some 5, some 5, some 10] := by
  decide +kernel
example : (stepW demoG (.absCurv 0) demoW).2.heap.map (·.feats)
    = [[some 0], [some 5, some 0], [some 5, some 0], [some 10]] := by decide +kernel
example : wRd { (stepW demoG (.absCurv 0) demoW).2 with cur := 0 } "abs_curv" = some [some 0, some 5, some 5, some 10] := by
  decide +kernel
example : (match (stepW demoG (.speed 0) demoW).1 with | .ok (.col l) => l | _ => [])
    = [some (5 / 2), some (5 / 2), some (5 / 3), some (5 / 3)] := by decide +kernel
/-- the METHOD `track.estimate_speed()` on the same track (stamps of two zones): the same column, and the `zone` fields —
like every other field of every stamp — are what they were -/
example : (match (stepW demoG (.speedMethod 0) demoW).1 with | .ok (.col l) => l | _ => [])
    = [some (5 / 2), some (5 / 2), some (5 / 3), some (5 / 3)] := by decide +kernel
example : (stepW demoG (.speedMethod 0) demoW).2.heap.map (·.zone) = [0, 0, 2, 2] := by decide +kernel
/-- `demoW` is a non-trivial instance of `zone_not_read` / `same_result_whatever_zones`: its zones are not all 0 -/
example : (demoW.zmap (fun _ => 0)).heap.map (·.zone) = [0, 0, 0, 0] ∧ demoW.heap.map (·.zone) ≠ [0, 0, 0, 0] := by decide +kernel
/-- `track.setTimeZone(1)` on the section (track 1) writes the zone of the two shared objects and nothing else; the speeds
computed afterwards are the same -/
example : (stepW demoG (.setZone 1 1) demoW).2.heap.map (·.zone) = [0, 1, 1, 2] := by decide +kernel
example : (match (stepW demoG (.speed 0) (stepW demoG (.setZone 1 1) demoW).2).1 with | .ok (.col l) => l | _ => [])
    = [some (5 / 2), some (5 / 2), some (5 / 3), some (5 / 3)] := by decide +kernel
/-- an in-place edit of a timestamp FIELD is seen by the next computation: fix 1 moved from second 2 to second 0 -/
example : (match (stepW demoG (.speed 0) (stepW demoG (.setTime 0 1 "sec" 0) demoW).2).1 with | .ok (.col l) => l | _ => [])
    = [none, some (5 / 2), some (5 / 5), some (5 / 3)] := by decide +kernel
/-- the further hypotheses of `length_table` / `duration_table` / `sorted_table` hold for track 0 of `demoW`, and the
model runs: duration 5 s, not sorted (fixes 1 and 2 carry the same stamp), 3D length 5 + 1 + sqrt 26 (here with a square
root that answers 51/10 for 26) -/
example : wCo { demoW with cur := 0 } .z = zsOf [0, 0, 1, 0] ∧ ([0, 0, 1, 0] : List Rat).length = demo.xy.length := by decide +kernel
example : (match (stepW demoG (.duration 0) demoW).1 with | .ok (.num v) => v | _ => none) = some 5 := by decide +kernel
example : (match (stepW demoG (.sorted 0) demoW).1 with | .ok (.bool b) => some b | _ => none) = some false := by decide +kernel
example : (match (stepW (optG (fun x => if x = 25 then 5 else if x = 1 then 1 else if x = 26 then 51 / 10 else 0)
      (fun n => (n : Rat)) (fun _ => false)) (.length 0) demoW).1 with | .ok (.num v) => v | _ => none) = some (111 / 10) := by
  decide +kernel
example : len3D (fun x : Rat => if x = 25 then 5 else if x = 1 then 1 else if x = 26 then 51 / 10 else 0) demo.xy [0, 0, 1, 0] 3
    = 111 / 10 := by decide +kernel
end demoWorld

/-! ### non-vacuity of `dict_rows_table_lawful`: an aligned dict-and-rows table -/
section demoSt
open TV.Features TV.CinTab

/-- four fixes, two listed features (`w` at index 0, `speed` at index 1), one row of two values per observation -/
def demoSt : St (Option Rat) :=
  { dico := [("w", 0), ("speed", 1)], rows := [[some 1, some 7], [some 2, some 7], [some 3, some 7], [some 4, some 7]],
    xs := [some 0, some 3, some 3, some 6], ys := [some 0, some 4, some 4, some 8], zs := [some 0, some 0, some 1, some 0],
    ts := [some 0, some 2, some 2, some 5] }

example : sI demoSt := ⟨by decide, by decide, by decide, by decide, by decide, by decide, by decide, by decide⟩
example : sN demoSt = 4 ∧ sRd demoSt "w" = some [some 1, some 2, some 3, some 4] ∧ sRd demoSt "abs_curv" = none
    ∧ sRd demoSt "ds" = none := by decide +kernel
/-- the run on that table: abs_curv 0, 5, 5, 10 is appended as a third name, `w` and `speed` read as before -/
example : ((computeAbsCurvT demoG : M (St (Option Rat)) _) demoSt).1 = .ok [some 0, some 5, some 5, some 10] := by decide +kernel
example : sRd ((computeAbsCurvT demoG : M (St (Option Rat)) _) demoSt).2 "w" = some [some 1, some 2, some 3, some 4]
    ∧ sRd ((computeAbsCurvT demoG : M (St (Option Rat)) _) demoSt).2 "abs_curv" = some [some 0, some 5, some 5, some 10] := by
  decide +kernel
end demoSt

section demoCoords
open TV.CinCoords
open TV.Geo (Trig V3 Pyth realTrig)

/-- the hypotheses of `geo_distance_horizontal` are satisfied by the real functions -/
example : Pyth realTrig ∧ (∀ x, realTrig.pow x 2.0 = x ^ 2) ∧ SqrtSpec realTrig.sqrt :=
  ⟨TV.Geo.pyth_real, TV.Geo.rt_pow2, fun x hx => ⟨Real.sqrt_nonneg x, Real.mul_self_sqrt hx⟩⟩

/-- a `Trig` on the rationals whose square root is exact on the squares that occur below; the other functions are not
reached by the runs of the examples -/
def demoT : Trig Rat :=
  { pi := 3, sin := id, cos := id, tan := id, atan := id, atan2 := fun _ _ => 0,
    sqrt := fun x => if x = 25 then 5 else if x = 100 then 10 else 0, log := id, exp := id, pow := fun x _ => x * x }

/-- a Geo track and an ECEF track satisfying the hypotheses of `abscurv_prefix_coords` / `speed_def_coords` /
`ecef_refused` -/
def demoGeo : CTrack Rat :=
  { cls := .geo, zs := [35, 35, 36], tr := { xy := [(2.34, 48.85), (2.341, 48.85), (2.341, 48.851)], ts := [0, 10, 10], feats := [] } }
def demoEcef : CTrack Rat :=
  { cls := .ecef, zs := [4779000, 4779000, 4779100], tr := { xy := [(4201000, 171000), (4201003, 171004), (4201003, 171004)], ts := [0, 10, 20], feats := [] } }
example : demoGeo.cls ≠ .ecef ∧ demoGeo.zs.length = demoGeo.tr.xy.length ∧ demoGeo.tr.has "ds" = false
    ∧ demoGeo.tr.has "abs_curv" = false ∧ demoGeo.tr.has "speed" = false ∧ 2 ≤ demoGeo.tr.xy.length
    ∧ demoGeo.tr.ts.length = demoGeo.tr.xy.length := by decide
example : demoEcef.cls = .ecef ∧ demoEcef.zs.length = demoEcef.tr.xy.length ∧ 2 ≤ demoEcef.tr.xy.length
    ∧ demoEcef.tr.has "ds" = false ∧ demoEcef.tr.has "speed" = false := by decide

/-- the same three (x, y) pairs read as ENU positions: 0, 5, 5 … the class decides the distance -/
example : (match (computeAbsCurvC demoT { cls := .enu, zs := [0, 0, 0], tr := { xy := [(0, 0), (3, 4), (3, 4)], ts := [0, 1, 2], feats := [] } }).1 with
    | .ok (some c) => c | _ => []) = [some 0, some 5, some 5] := by decide +kernel

/-- noted: on the ECEF track the first `computeAbsCurv` is refused, the SECOND returns zeros although the track moves
(5 m between the first two fixes); likewise `estimate_speed` -/
example : (match (computeAbsCurvC demoT demoEcef).1 with | .error e => some e | _ => none) = some .refused := by decide +kernel
example : (match (computeAbsCurvC demoT (computeAbsCurvC demoT demoEcef).2).1 with
    | .ok (some c) => c | _ => []) = [some 0, some 0, some 0] := by decide +kernel
example : (match (estimateSpeedC demoT (estimateSpeedC demoT demoEcef).2).1 with
    | .ok (some c) => c | _ => []) = [some 0, some 0, some 0] := by decide +kernel
end demoCoords

section demoClassWorld
open TV.Features TV.CinTab TV.CinTabK TV.CinCoords
open TV.Geo (V3)

/-- the positions of track 0 of `demoW` -/
def demoP : List (V3 Rat) := [⟨0, 0, 0⟩, ⟨3, 4, 0⟩, ⟨3, 4, 1⟩, ⟨6, 8, 0⟩]

/-- the hypotheses of `abscurv_shared_class` / `speed_shared_class` hold for track 0 of `demoW` (`WInv`: above) -/
example : wN { demoW with cur := 0 } = demoP.length ∧ 2 ≤ demoP.length ∧ wCo { demoW with cur := 0 } .x = xsP demoP
    ∧ wCo { demoW with cur := 0 } .y = ysP demoP ∧ wCo { demoW with cur := 0 } .z = zsP demoP
    ∧ wCo { demoW with cur := 0 } .t = tsOf demo.ts := by decide +kernel
/-- as ENUCoords the class-generic step computes what `stepW` computes: 0, 5, 5, 10, foreign slots notwithstanding -/
example : (match (stepK demoG (clsKernel demoT .type .key .enu) (.absCurv 0) demoW).1 with | .ok (.col l) => l | _ => [])
    = [some 0, some 5, some 5, some 10] := by decide +kernel
example : (match (stepK demoG (clsKernel demoT .type .key .enu) (.speed 0) demoW).1 with | .ok (.col l) => l | _ => [])
    = [some (5 / 2), some (5 / 2), some (5 / 3), some (5 / 3)] := by decide +kernel
/-- as GeoCoords (with the toy trigonometry of `demoT`): a column of four finite values starting at 0, stored under abs_curv -/
example : (match (stepK demoG (clsKernel demoT .type .key .geo) (.absCurv 0) demoW).1 with
    | .ok (.col l) => (l.length, l.head?, l.all Option.isSome) | _ => (0, none, false)) = (4, some (some 0), true) := by decide +kernel
/-- as ECEFCoords: computeAbsCurv is refused, a `ds` column stays on track 0 (value 0 at fix 0), no abs_curv; estimate_speed
raises the AttributeError; positions and stamps are what they were -/
example : (match (stepK demoG (clsKernel demoT .type .key .ecef) (.absCurv 0) demoW).1 with | .error e => some e | _ => none)
    = some .type := by decide +kernel
example : (stepK demoG (clsKernel demoT .type .key .ecef) (.absCurv 0) demoW).2.trks.map (·.dico) = [[("ds", 0)], [("speed", 0)]] := by
  decide +kernel
example : (match (stepK demoG (clsKernel demoT .type .key .ecef) (.speed 0) demoW).1 with | .error e => some e | _ => none)
    = some .key := by decide +kernel
example : geom (stepK demoG (clsKernel demoT .type .key .ecef) (.absCurv 0) demoW).2 = geom demoW := by decide +kernel
example : (Err.type ≠ Err.index) ∧ (Err.key ≠ Err.index) := by decide
end demoClassWorld

end TV.C17
