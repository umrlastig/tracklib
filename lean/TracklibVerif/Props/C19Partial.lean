import TracklibVerif.Props.C19
/-! C19, the exception path of `addCollectionToRaster`: WHICH cells of WHICH grids have been written when the `TypeError`
of an observation outside the extent leaves the call, and what a later `computeAggregates` aggregates.

The loops are `for trace in collection: for afname in AFs: for i in range(trace.size()):`, the values are appended one at a
time, and the first `getCell` that returns `None` ends everything. Every track has every feature with one value per
observation (the `AnalyticalFeatureError` test before the loops), so the observation that raises is met in the pass of
the FIRST feature `a0` of the set's iteration order, on the first track `t` that has an observation outside. What has been
written is therefore a prefix of the (track, feature, observation) order:

* every feature of every track before `t` (all their observations), and
* for `t`, the feature `a0` only, up to the observation before the first one outside the extent;

nothing of `t` for the other features, nothing of the tracks after `t` (`writtenObs`). `add_collection_partial` states it
cell by cell (`add_collection_partial_total`: every collection with an observation outside splits that way); `partial_conservation` is the conservation law on that path (the cell sizes of a feature add up to the number
of observations WRITTEN for it, so the features of one raster disagree by the part of `t` that only `a0` received);
`partial_then_compute` says that a later `computeAggregates` — after any calls other than `addCollectionToRaster` —
aggregates exactly those values, band by band. -/
namespace TV.C19
open TV.Raster
variable {α : Type} [Field α] [LinearOrder α] [IsStrictOrderedRing α] [FloorRing α]

/-- the observations whose values are in the grid of feature `af` when the `TypeError` leaves `addCollectionToRaster`:
`Tpre` the tracks before the one that raises, `t` that track, `a0` the first feature of the iteration order -/
def writtenObs (g : Grid α) (a0 : String) (Tpre : List (Trk α)) (t : Trk α) (af : String) : List (α × α × Option α) :=
  Tpre.flatMap (fun t' => obsOf t' af) ++ (if af = a0 then (obsOf t a0).takeWhile (insideB g) else [])

/-- WHAT HAS BEEN WRITTEN when the `TypeError` leaves `addCollectionToRaster`. A raster in any state with a well-formed grid
and at least one band (`a0 :: arest` the iteration order of the set of features); the tracks `Tpre` all inside the extent,
then a track `t` with an observation outside, then any tracks `Tpost`; every track has every feature, one value per
observation. Then the call raises `TypeError`, bands / geometry / no-data value are untouched, the dictionary — replaced, as
always — has exactly the features of the bands in that order, and the cell (line `i`, column `j`) of feature `af` holds exactly
the values of `af` of the observations `writtenObs` located there, in order: all of `Tpre`, and — for `a0` only — those of `t`
before its first observation outside. -/
theorem add_collection_partial (s : RState α) (hg : WF s.g) (a0 : String) (arest : List String) (Tpre Tpost : List (Trk α)) (t : Trk α)
    (hperm : (a0 :: arest).isPerm (afsOf s.bands) = true)
    (hfeat : ∀ t' ∈ Tpre ++ t :: Tpost, ∀ af ∈ a0 :: arest, HasFeat t' af)
    (hpre : ∀ t' ∈ Tpre, InExtent s.g t') (hout : ∃ p ∈ t.pts, ¬ Inside s.g p.1 p.2) :
    ∃ V : Vals α, addColl Int.floor s (a0 :: arest) (Tpre ++ t :: Tpost) = ({ s with values := some V }, some .type)
      ∧ V.map (·.1) = a0 :: arest
      ∧ ∀ af ∈ a0 :: arest, ∃ c, V.lookup af = some c ∧ Rect c s.g.nrow.toNat s.g.ncol.toNat
          ∧ ∀ i j, cellAt c i j = located (fun o : α × α × Option α => getCell Int.floor s.g o.1 o.2.1) (fun o => o.2.2) j i
              (writtenObs s.g a0 Tpre t af) := by
  have hsome : ∀ t' ∈ Tpre ++ t :: Tpost, ∀ af ∈ a0 :: arest, (featVals t' af).isSome = true := fun t' ht' af haf =>
    (hfeat t' ht' af haf).isSome
  obtain ⟨c', hR', hc', hrun⟩ := addTracks_partial s.g hg a0 arest Tpre Tpost t hfeat hpre hout
  refine ⟨(a0, c') :: valsOf s.g arest Tpre, by rw [addColl_eq Int.floor s _ _ hperm hsome, hrun],
    congrArg (a0 :: ·) (valsOf_keys s.g arest Tpre), fun af haf => ?_⟩
  by_cases e : af = a0
  · subst e
    exact ⟨c', by simp [List.lookup], hR', fun i j => by rw [hc' i j, writtenObs, if_pos rfl]⟩
  · -- another feature: the grid the tracks before `t` left
    obtain ⟨c, hl, hR, hc⟩ := (valsOf_spec s.g hg arest Tpre hpre af).2 ((List.mem_cons.1 haf).resolve_left e)
    exact ⟨c, by rw [List.lookup_cons, beq_false_of_ne e]; exact hl, hR, fun i j => by
      rw [hc i j, writtenObs, if_neg e, List.append_nil]⟩

/-- `add_collection_partial` covers EVERY `TypeError` of `add_collection_outside`: whenever some observation of the collection
lies outside the extent (at least one band, every track having every feature), the collection splits at its first track with
such an observation and the values left behind are those of `writtenObs` for that split. -/
theorem add_collection_partial_total (s : RState α) (hg : WF s.g) (a0 : String) (arest : List String) (T : List (Trk α))
    (hperm : (a0 :: arest).isPerm (afsOf s.bands) = true)
    (hfeat : ∀ t' ∈ T, ∀ af ∈ a0 :: arest, HasFeat t' af) (hout : ∃ t ∈ T, ∃ p ∈ t.pts, ¬ Inside s.g p.1 p.2) :
    ∃ (Tpre : List (Trk α)) (t : Trk α) (Tpost : List (Trk α)) (V : Vals α), T = Tpre ++ t :: Tpost
      ∧ (∀ t' ∈ Tpre, InExtent s.g t') ∧ (∃ p ∈ t.pts, ¬ Inside s.g p.1 p.2)
      ∧ addColl Int.floor s (a0 :: arest) T = ({ s with values := some V }, some .type)
      ∧ V.map (·.1) = a0 :: arest
      ∧ ∀ af ∈ a0 :: arest, ∃ c, V.lookup af = some c ∧ Rect c s.g.nrow.toNat s.g.ncol.toNat
          ∧ ∀ i j, cellAt c i j = located (fun o : α × α × Option α => getCell Int.floor s.g o.1 o.2.1) (fun o => o.2.2) j i
              (writtenObs s.g a0 Tpre t af) := by
  obtain ⟨Tpre, t, Tpost, hT, hpre, houtt⟩ := first_outside_track s.g T hout
  subst hT
  obtain ⟨V, h1, h2, h3⟩ := add_collection_partial s hg a0 arest Tpre Tpost t hperm hfeat hpre houtt
  exact ⟨Tpre, t, Tpost, V, rfl, hpre, houtt, h1, h2, h3⟩

omit [IsStrictOrderedRing α] [FloorRing α] in
theorem writtenObs_inside (g : Grid α) (a0 : String) (Tpre : List (Trk α)) (t : Trk α) (af : String)
    (hpre : ∀ t' ∈ Tpre, InExtent g t') : ∀ o ∈ writtenObs g a0 Tpre t af, Inside g o.1 o.2.1 := by
  intro o ho
  unfold writtenObs at ho
  rcases List.mem_append.1 ho with h | h
  · obtain ⟨t', ht', hot⟩ := List.mem_flatMap.1 h
    exact hpre t' ht' _ (obsOf_mem t' af o hot)
  · by_cases e : af = a0
    · rw [if_pos e] at h
      exact (insideB_iff g o).1 (takeWhile_all _ _ o h)
    · rw [if_neg e] at h; simp at h

/-- 'Conserves observations' on the exception path: after the failing `addCollectionToRaster` (hypotheses of
`add_collection_partial`), for every feature of the bands the cell sizes add up to the number of observations WRITTEN for it
— all those of the tracks before the failing one, plus, for the first feature only, those of the failing track before its
first observation outside —, and any per-value weight (non-NaN: the `co_count` total) is conserved on them. Nothing is
written twice, nothing written is lost; the observation outside and everything after it in the loop order is absent. -/
theorem partial_conservation (s : RState α) (hg : WF s.g) (a0 : String) (arest : List String) (Tpre Tpost : List (Trk α)) (t : Trk α)
    (hperm : (a0 :: arest).isPerm (afsOf s.bands) = true)
    (hfeat : ∀ t' ∈ Tpre ++ t :: Tpost, ∀ af ∈ a0 :: arest, HasFeat t' af)
    (hpre : ∀ t' ∈ Tpre, InExtent s.g t') (hout : ∃ p ∈ t.pts, ¬ Inside s.g p.1 p.2)
    (af : String) (haf : af ∈ a0 :: arest) :
    ∃ (V : Vals α) (c : Cells (Option α)),
      addColl Int.floor s (a0 :: arest) (Tpre ++ t :: Tpost) = ({ s with values := some V }, some .type) ∧ V.lookup af = some c
      ∧ (∑ i ∈ Finset.range s.g.nrow.toNat, ∑ j ∈ Finset.range s.g.ncol.toNat, (cellAt c i j).length)
          = (writtenObs s.g a0 Tpre t af).length
      ∧ ∀ w : Option α → ℕ, (∑ i ∈ Finset.range s.g.nrow.toNat, ∑ j ∈ Finset.range s.g.ncol.toNat, ((cellAt c i j).map w).sum)
          = ((writtenObs s.g a0 Tpre t af).map (fun o => w o.2.2)).sum := by
  obtain ⟨V, hV, _, hspec⟩ := add_collection_partial s hg a0 arest Tpre Tpost t hperm hfeat hpre hout
  obtain ⟨c, hl, _, hc⟩ := hspec af haf
  refine ⟨V, c, hV, hl, located_conserves (fun o ho => ?_) hc⟩
  have hp := writtenObs_inside s.g a0 Tpre t af hpre o ho
  exact getCell_inGrid hg o hp.1 hp.2

/-- A LATER `computeAggregates` AGGREGATES EXACTLY WHAT WAS WRITTEN. After the failing `addCollectionToRaster` of
`add_collection_partial` (the exception caught), then any calls `post` other than `addCollectionToRaster` (`setNoDataValue`,
bands added, other `computeAggregates`), then `computeAggregates`, every band being `<feature>#<operator>` with a feature of
the scattered set and one of the six operators: that `computeAggregates` does not raise, and EVERY band holds, in (line `i`,
column `j`), its operator over exactly the values of its feature of the observations `writtenObs` located there — a
`co_count` band of the first feature counts the part of the failing track before its first observation outside, a band of
another feature does not —, a cell without value holding the raster's no-data value as it is at that call. -/
theorem partial_then_compute (s : RState α) (hg : WF s.g) (a0 : String) (arest : List String) (Tpre Tpost : List (Trk α)) (t : Trk α)
    (post : List (Cmd α)) (hpost : ∀ c ∈ post, c.isAdd = false)
    (hperm : (a0 :: arest).isPerm (afsOf s.bands) = true)
    (hfeat : ∀ t' ∈ Tpre ++ t :: Tpost, ∀ af ∈ a0 :: arest, HasFeat t' af)
    (hpre : ∀ t' ∈ Tpre, InExtent s.g t') (hout : ∃ p ∈ t.pts, ¬ Inside s.g p.1 p.2)
    (hbands : ∀ b ∈ (run Int.floor s ([.add (a0 :: arest) (Tpre ++ t :: Tpost)] ++ post)).1.bands,
        ∃ af opn rest, b.name = af :: opn :: rest ∧ af ∈ a0 :: arest ∧ (opOf opn).isSome = true) :
    ∃ (s3 : RState α) (outs : List (Option Err)),
      run Int.floor s ([.add (a0 :: arest) (Tpre ++ t :: Tpost)] ++ post ++ [.compute]) = (s3, outs)
      ∧ outs.head? = some (some .type) ∧ outs.getLast? = some none
      ∧ s3.g = s.g ∧ s3.noData = (run Int.floor s ([.add (a0 :: arest) (Tpre ++ t :: Tpost)] ++ post)).1.noData
      ∧ s3.bands.map (·.name) = (run Int.floor s ([.add (a0 :: arest) (Tpre ++ t :: Tpost)] ++ post)).1.bands.map (·.name)
      ∧ ∀ b ∈ s3.bands, ∀ af opn rest op, b.name = af :: opn :: rest → opOf opn = some op →
          ∃ c : Cells (Option α), Rect c s.g.nrow.toNat s.g.ncol.toNat
            ∧ (∀ i j, cellAt c i j = located (fun o : α × α × Option α => getCell Int.floor s.g o.1 o.2.1) (fun o => o.2.2) j i
                (writtenObs s.g a0 Tpre t af))
            ∧ b.grid = some (aggregatesN s3.noData op c) := by
  obtain ⟨V, hV, _, hspec⟩ := add_collection_partial s hg a0 arest Tpre Tpost t hperm hfeat hpre hout
  obtain ⟨s3, outs, hrun, hg3, hnd, hnames, hb⟩ := add_then_compute Int.floor s _ _ V _ hV _ hspec post hpost hbands
  exact ⟨s3, _, hrun, rfl, List.getLast?_concat, hg3, hnd, hnames, fun b hb' af opn rest op hn hop =>
    (hb b hb' af opn rest op hn hop).imp fun c h => ⟨h.1.1, h.1.2, h.2⟩⟩

/-! ### non-vacuity: two tracks, two features, on the 2 × 2 demo grid `[0,2] × [0,2]` (line 0 is the top row)

Track 1 `(1/2,1/2) (3/2,1/2)` with `v = 1, 2`, `w = 10, 20`; track 2 `(1/2,3/2) (3,3) (3/2,3/2)` with `v = 3, 4, 5`,
`w = 30, 40, 50`: its second observation is outside. Iteration order `v, w`: the grid of `v` has received track 1 and the
first observation of track 2, the grid of `w` track 1 only; with the order `w, v` it is the other way round. -/
def partT : List (Trk ℚ) :=
  [{ uid := 1, pts := [(1/2, 1/2), (3/2, 1/2)], feats := [("v", [some 1, some 2]), ("w", [some 10, some 20])] },
   { uid := 2, pts := [(1/2, 3/2), (3, 3), (3/2, 3/2)], feats := [("v", [some 3, some 4, some 5]), ("w", [some 30, some 40, some 50])] }]

/-- `collectionValuesGrid`: the feature names, and the grids in the same order -/
def valNames (s : RState ℚ) : List String := (s.values.getD []).map (·.1)
def valGrids (s : RState ℚ) : List (Cells (Option ℚ)) := (s.values.getD []).map (·.2)
def partRun (afo : List String) : RState ℚ :=
  (run Rat.floor (initState demoGrid (some (-99999 : ℚ)))
    [.band ["v", "co_count"] none, .band ["w", "co_count"] none, .add afo partT]).1
example :
    valNames (partRun ["v", "w"]) = ["v", "w"]
    ∧ valGrids (partRun ["v", "w"]) = [[[[some 3], []], [[some 1], [some 2]]], [[[], []], [[some 10], [some 20]]]]
    ∧ valNames (partRun ["w", "v"]) = ["w", "v"]
    ∧ valGrids (partRun ["w", "v"]) = [[[[some 30], []], [[some 10], [some 20]]], [[[], []], [[some 1], [some 2]]]] := by
  decide +kernel

/-- … and the `computeAggregates` that follows (the `TypeError` caught) aggregates exactly that: the counts of `v` add up to
3, those of `w` to 2, the max band of `w` is `10, 20`; a `setNoDataValue` in between decides the marker of the empty cells -/
example :
    (run Rat.floor (initState demoGrid (some (-99999 : ℚ)))
        [.band ["v", "co_count"] none, .band ["w", "co_count"] none, .band ["w", "co_max"] none, .add ["v", "w"] partT,
         .setNoData (some (-1)), .compute]).1.bands.map (·.grid)
      = [some [[some 1, some 0], [some 1, some 1]], some [[some 0, some 0], [some 1, some 1]],
         some [[some (-1), some (-1)], [some 10, some 20]]]
    ∧ (run Rat.floor (initState demoGrid (some (-99999 : ℚ)))
        [.band ["v", "co_count"] none, .band ["w", "co_count"] none, .band ["w", "co_max"] none, .add ["v", "w"] partT,
         .setNoData (some (-1)), .compute]).2 = [none, none, none, some .type, none, none] := by decide +kernel

/-- the written observations of the example, as `writtenObs` names them -/
example : writtenObs demoGrid "v" (partT.take 1) (partT.getD 1 ⟨0, [], []⟩) "v" = [(1/2, 1/2, some 1), (3/2, 1/2, some 2), (1/2, 3/2, some 3)]
    ∧ writtenObs demoGrid "v" (partT.take 1) (partT.getD 1 ⟨0, [], []⟩) "w" = [(1/2, 1/2, some 10), (3/2, 1/2, some 20)] := by
  decide +kernel

end TV.C19
