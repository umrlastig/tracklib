import TracklibVerif.Lemmas.Proj
import TracklibVerif.Lemmas.ProjExt
import TracklibVerif.Lemmas.ProjTrack
import TracklibVerif.Lemmas.ProjNear
import Mathlib.Analysis.Real.Sqrt
/-! # C20 — projecting a point on a polyline returns its nearest point

Property theorems (helpers in `Lemmas/Proj*.lean`), about the model `Model/Proj.lean` of
`geometry.cartesienne / projection_droite / proj_segment / proj_polyligne` and
`mapping.__projOnTrack / mapOnTrack`, over any linearly ordered field (ℚ, ℝ), for a `sqrt` parameter with
`0 ≤ v → 0 ≤ sqrt v ∧ sqrt v * sqrt v = v`. Distances are compared squared:
`d2 x y px py = (x-px)² + (y-py)²`, and `OnSeg x1 y1 x2 y2 px py` says `(px,py) = (x1,y1) + t·((x2,y2)-(x1,y1))`
for some `0 ≤ t ≤ 1`.

What is and is not proved. T1 and T2 hold for every segment. Minimality (T3, T4) is proved for
**non-vertical** segments only: for a vertical segment the code (as it is; `test_geometry.py::testProjSegment`
expects it) returns the nearest END point or raises — see `vertical_as_coded`
and the counter-examples, which are evaluated on the model. For every non-vertical orientation the statement
is proved at the strength of the property: `proj_segment_nearest_partial` (one segment: point on it, distance
to it, minimal), `proj_segment_horizontal` (closed form for horizontal segments), `proj_polyline_vertices` and
`proj_polyline_nearest_partial` (polyline: index of the carrying segment, point on it, distance to it, minimal
over every point of every segment, the skipped zero-length segments included — and, since the `fix:` commit 563eeba, also
when NO segment is kept: all the vertices coincide), `proj_polyline_skipped_partial` (a skipped
segment of non-zero length `< 1e-16` touching a kept one is covered up to `1e-16`), `proj_polyline_skipped_run` /
`proj_polyline_skipped_run_back` (a run of `k` consecutive skipped segments from a kept end: up to `k · 1e-16`),
`proj_polyline_all_skipped` (EVERY segment skipped — the case the fix repaired; before it the code raised
`UnboundLocalError` —: the first vertex is returned with the distance to it, and the polyline is that point up to
(number of segments) × `1e-16`), `proj_polyline_on` (what any answer guarantees on any polyline), `projPolyligne_vs_old`
(the repair changes nothing where the old code returned). An empty polyline raises `IndexError`. IEEE rounding is outside these
statements (the horizontal-segment defect D17 and its near-vertical counterpart exist only in floating point).

Front ends (second half of the file): the argument forms of `proj_segment` / `proj_polyligne` (lists vs numpy
arrays, two sequences of unequal lengths), `Track.getX()/getY()` on 3D positions, `__projOnTrack` and both
branches of `mapOnTrack` are in the model; `projOnTrack3_planimetric` says that the projection is planimetric
(no altitude is read, the returned point has third coordinate 0), so that every theorem about `projPolyligne`
applies to `mapOnTrack` on 3D data through `mapOnTrack3_coord` / `mapOnTrack3_track`.

Track objects (last part of the file, model `Model/ProjTrack.lean`): the Track branch of `mapOnTrack` on tracks that carry
STATE — a table of analytical features (possibly with features called `dist` / `edge`: the output of an earlier
`mapOnTrack`), time stamps. `mapOnTrackT_rows`: the output is a fresh track with exactly the features `dist`, `edge`,
whose columns are the distance and the segment index of THIS projection of every query, whatever the track of queries
carried (`mapOnTrackT_ignores_state`); `mapChain_calls`: in chained snapping every call is such a projection of the
positions of the previous output; `mapOnTrackT_nearest_partial`: the property at full strength through the track
form; `mapOnTrackT_empty`: a track of queries without observation raises.

The listed finding as a case (end of the file): `vertical_zerodiv_iff` (which queries raise on a vertical segment) and
`proj_polyline_vertical_case` (what an answer on a polyline WITH kept vertical segments still guarantees: the reported
segment is vertical and the point is one of its ends, or the answer is right w.r.t. the non-vertical segments) — the model's
side of the class `vertical-segment` by which the harness excuses failing answers (recognised from the geometry of the
input, whatever the failure looks like). -/
namespace TV.C20
open TV.Proj
variable {α : Type} [Field α] [LinearOrder α] [IsStrictOrderedRing α]

/-- the contract of the `sqrt` parameter is inhabited: `Real.sqrt` -/
example : SqrtSpec Real.sqrt := fun v hv => ⟨Real.sqrt_nonneg v, Real.mul_self_sqrt hv⟩

/-- T1 `proj_on_segment`: whenever `proj_segment` returns, the returned point lies on the segment —
for every segment, vertical ones included (foot accepted by the inclusion test, or an end point). -/
theorem proj_on_segment {sqrt : α → α} (hs : SqrtSpec sqrt) (x1 y1 x2 y2 x y d px py : α)
    (h : projSegment sqrt x1 y1 x2 y2 x y = .ok (d, px, py)) : OnSeg x1 y1 x2 y2 px py :=
  (projSegment_sound hs h).on

/-- T2 `proj_dist_consistent`: the returned distance is the distance from the query to the returned
point (`0 ≤ d` and `d² = (x-px)² + (y-py)²`), for every segment on which `proj_segment` returns. (In the
foot branch `b ≠ 0` necessarily: with `b = 0` that branch raises `ZeroDivisionError`.) -/
theorem proj_dist_consistent {sqrt : α → α} (hs : SqrtSpec sqrt) (x1 y1 x2 y2 x y d px py : α)
    (h : projSegment sqrt x1 y1 x2 y2 x y = .ok (d, px, py)) : 0 ≤ d ∧ d * d = d2 x y px py :=
  ⟨(projSegment_sound hs h).nonneg, (projSegment_sound hs h).dist⟩

/-- T3 `proj_segment_min_partial`: on a **non-vertical** segment (`x1 ≠ x2`; horizontal and oblique ones)
`proj_segment` always returns, and the returned distance is at most the distance from the query to every
point of the segment. With T1 and T2: the returned point is a nearest point of the segment.
Missing w.r.t. the property: vertical segments (false there, see below). -/
theorem proj_segment_min_partial {sqrt : α → α} (hs : SqrtSpec sqrt) (x1 y1 x2 y2 x y : α) (hx : x1 ≠ x2) :
    ∃ d px py, projSegment sqrt x1 y1 x2 y2 x y = .ok (d, px, py) ∧
      ∀ qx qy, OnSeg x1 y1 x2 y2 qx qy → d * d ≤ d2 x y qx qy := by
  obtain ⟨⟨d, px, py⟩, e⟩ := projSegment_total hs x1 y1 x2 y2 x y hx
  exact ⟨d, px, py, e, (projSegment_sound hs e).min hx⟩

/-- The behaviour on a vertical segment, exactly as coded (defect D16): either `ZeroDivisionError`
(when the query has the segment's abscissa and `y2 - y1` lies between `y1` and `y2`) or the nearer of
the two END points — never the foot of the perpendicular. -/
theorem vertical_as_coded {sqrt : α → α} (hs : SqrtSpec sqrt) (x1 y1 y2 x y : α) (hy : y1 ≠ y2) :
    projSegment sqrt x1 y1 x1 y2 x y = .error .zerodiv ∨
    ∃ d, (projSegment sqrt x1 y1 x1 y2 x y = .ok (d, x1, y1) ∨ projSegment sqrt x1 y1 x1 y2 x y = .ok (d, x1, y2))
      ∧ d * d ≤ d2 x y x1 y1 ∧ d * d ≤ d2 x y x1 y2 := by
  rw [projSegment_vertical hs _ _ _ _ _ hy]
  split
  · exact Or.inl rfl
  · right
    rcases hn : nearestEnd sqrt x1 y1 x1 y2 x y with ⟨d, px, py⟩
    obtain ⟨hp, _, _, l, r⟩ := nearestEnd_spec hs hn
    refine ⟨d, ?_, l, r⟩
    rcases hp with ⟨rfl, rfl⟩ | ⟨rfl, rfl⟩
    · exact Or.inl rfl
    · exact Or.inr rfl

/-- T4 `proj_polyline_min_partial`: when `proj_polyligne` returns `(d, (px,py), i)` on a polyline with at least one
segment that is not skipped (`hex`; the other case — every segment skipped, the polyline is a point up to `1e-16` per
segment — is `proj_polyline_all_skipped`):
* `i` is the index of a segment of the polyline that was not skipped as (near-)zero-length, and `(px,py)` lies on it;
* `d` is the distance from the query to `(px,py)`;
* `d` is at most the distance to both end points of every non-skipped segment of any orientation, and at most
  the distance to **every point of every non-vertical** non-skipped segment.
Hence on a polyline without vertical segments the result is a nearest point and its carrying segment.
Missing w.r.t. the property: interior points of vertical segments (false there: D16). -/
theorem proj_polyline_min_partial {sqrt : α → α} (hs : SqrtSpec sqrt) (eps : α) (pts : List (α × α))
    (x y d px py : α) (i : Nat) (h : projPolyligne sqrt eps pts x y = .ok (d, px, py, i))
    (hex : ∃ j p1 p2, pts[j]? = some p1 ∧ pts[j + 1]? = some p2 ∧ skipped eps p1.1 p1.2 p2.1 p2.2 = false) :
    (∃ p1 p2, pts[i]? = some p1 ∧ pts[i + 1]? = some p2 ∧ skipped eps p1.1 p1.2 p2.1 p2.2 = false ∧
        OnSeg p1.1 p1.2 p2.1 p2.2 px py) ∧
    0 ≤ d ∧ d * d = d2 x y px py ∧
    (∀ j p1 p2, pts[j]? = some p1 → pts[j + 1]? = some p2 → skipped eps p1.1 p1.2 p2.1 p2.2 = false →
        (d * d ≤ d2 x y p1.1 p1.2 ∧ d * d ≤ d2 x y p2.1 p2.2) ∧
        (p1.1 ≠ p2.1 → ∀ qx qy, OnSeg p1.1 p1.2 p2.1 p2.2 qx qy → d * d ≤ d2 x y qx qy)) := by
  obtain ⟨p1, p2, s1, s2, hk, hp, hall⟩ := polyLoop_kept hs eps x y pts (projPolyligne_of_kept h hex)
  have A := projSegment_sound hs hp
  exact ⟨⟨p1, p2, s1, s2, hk, A.on⟩, A.nonneg, A.dist, hall⟩

/-- T4b `proj_polyline_total`: on a polyline with at least one vertex and no non-skipped vertical segment,
`proj_polyligne` returns (no `ZeroDivisionError`, no `IndexError`) — whether or not a segment is kept (since the
`fix:` commit 563eeba a polyline all of whose segments are skipped is answered with its first vertex). -/
theorem proj_polyline_total {sqrt : α → α} (hs : SqrtSpec sqrt) (eps : α) (pts : List (α × α)) (x y : α)
    (hnv : ∀ j p1 p2, pts[j]? = some p1 → pts[j + 1]? = some p2 → skipped eps p1.1 p1.2 p2.1 p2.2 = false → p1.1 ≠ p2.1)
    (hne : pts ≠ []) :
    ∃ r, projPolyligne sqrt eps pts x y = .ok r := by
  obtain ⟨res, e⟩ := polyLoop_total sqrt eps x y pts
    (fun k p1 p2 hk hsk => projSegment_total hs _ _ _ _ _ _ (hnv k p1 p2 hk.1 hk.2 hsk)) 0 none
  fun_cases projPolyligne sqrt eps pts x y with
  | case1 => exact absurd rfl hne
  | case2 p0 rest e' hl => cases hl.symm.trans e
  | case3 p0 rest hl | case4 p0 rest r hl => rw [hl]; exact ⟨_, rfl⟩

/-- `proj_polyline_all_skipped` (the case the `fix:` commit 563eeba repaired): a polyline ALL of whose segments are skipped by
the `abs(dx) + abs(dy) < eps` test (`1e-16`) — all the vertices coincide, exactly or up to the threshold per segment; a single
vertex. `proj_polyligne` returns its FIRST vertex `p0`, index `0`, and the distance `d` from the query to `p0`
(`0 ≤ d`, `d² = |q - p0|²`); the polyline IS that point up to (number of segments) × `eps`: every point `(qx, qy)` of its
`(t+1)`-th segment is within `(t + 1) * eps` of `p0` (in the `|dx| + |dy|` sense of the test), hence
`d ≤ |q - (qx, qy)| + (t + 1) * eps` and `|q - (qx, qy)| ≤ d + (t + 1) * eps`: the returned distance is the minimum distance to
the polyline up to that bound, and exactly when the vertices coincide exactly (`eps`-free form: `proj_polyline_nearest_partial`).
Every orientation (a skipped segment is never handed to `proj_segment`): no exception. Exact arithmetic. -/
theorem proj_polyline_all_skipped {sqrt : α → α} (hs : SqrtSpec sqrt) (eps : α) (p0 : α × α) (rest : List (α × α)) (x y : α)
    (hall : ∀ j p1 p2, (p0 :: rest)[j]? = some p1 → (p0 :: rest)[j + 1]? = some p2 → skipped eps p1.1 p1.2 p2.1 p2.2 = true) :
    ∃ d, projPolyligne sqrt eps (p0 :: rest) x y = .ok (d, p0.1, p0.2, 0) ∧ 0 ≤ d ∧ d * d = d2 x y p0.1 p0.2 ∧
      ∀ t a b, (p0 :: rest)[t]? = some a → (p0 :: rest)[t + 1]? = some b → ∀ qx qy, OnSeg a.1 a.2 b.1 b.2 qx qy →
        |qx - p0.1| + |qy - p0.2| ≤ ((t + 1 : Nat) : α) * eps ∧
        d ≤ sqrt (d2 x y qx qy) + ((t + 1 : Nat) : α) * eps ∧ sqrt (d2 x y qx qy) ≤ d + ((t + 1 : Nat) : α) * eps := by
  obtain ⟨d0, dd⟩ := sqrt_d2 hs x y p0.1 p0.2
  refine ⟨_, projPolyligne_all_skipped sqrt eps p0 rest x y (fun k p1 p2 hk => hall k p1 p2 hk.1 hk.2), d0, dd, ?_⟩
  intro t a b ha hb qx qy hq
  obtain ⟨e0, ee⟩ := sqrt_d2 hs x y qx qy
  have hnear := run_near_fwd eps (p0 :: rest) 0 (t + 1) p0 rfl
    (fun s _ a' b' ha' hb' => hall s a' b' (Nat.zero_add s ▸ ha') (Nat.zero_add s ▸ hb'))
    t (Nat.lt_succ_self t) a b (by rwa [Nat.zero_add]) (by rwa [Nat.zero_add]) qx qy hq
  exact ⟨hnear, near_vertex_bound x y p0.1 p0.2 qx qy _ _ _ d0 e0 dd.le ee hnear,
    near_vertex_bound x y qx qy p0.1 p0.2 _ _ _ e0 d0 ee.le dd (by rwa [abs_sub_comm p0.1, abs_sub_comm p0.2])⟩

/-- `proj_polyline_on`: what an answer `(d, (px,py), i)` of `proj_polyligne` guarantees on ANY polyline, with or without a kept
segment, of any orientation: vertex `i` exists; `d` is the distance from the query to `(px,py)`; when the polyline has at
least two vertices, segment `i` exists and `(px,py)` lies on it (a kept segment, or — every segment skipped — segment 0, of
which it is the first end); on a single-vertex polyline `i = 0` and `(px,py)` is that vertex. This is what C10's candidate
loop uses (position on an existing edge geometry, distance within the radius). -/
theorem proj_polyline_on {sqrt : α → α} (hs : SqrtSpec sqrt) (eps : α) (pts : List (α × α))
    (x y d px py : α) (i : Nat) (h : projPolyligne sqrt eps pts x y = .ok (d, px, py, i)) :
    0 ≤ d ∧ d * d = d2 x y px py ∧ ∃ p1, pts[i]? = some p1 ∧
      (2 ≤ pts.length → ∃ p2, pts[i + 1]? = some p2 ∧ OnSeg p1.1 p1.2 p2.1 p2.2 px py) ∧
      (pts.length = 1 → i = 0 ∧ (px, py) = p1) := by
  rcases projPolyligne_ok_cases sqrt eps pts x y _ h with hl | ⟨p0, rest, rfl, e, _⟩
  · obtain ⟨p1, p2, s1, s2, _, hp, _⟩ := polyLoop_kept hs eps x y pts hl
    have A := projSegment_sound hs hp
    refine ⟨A.nonneg, A.dist, p1, s1, fun _ => ⟨p2, s2, A.on⟩, fun h1 => ?_⟩
    have := (List.getElem?_eq_some_iff.mp s2).1
    omega
  · simp only [firstVertex, Prod.mk.injEq] at e
    obtain ⟨rfl, rfl, rfl, rfl⟩ := e
    obtain ⟨d0, dd⟩ := sqrt_d2 hs x y p0.1 p0.2
    refine ⟨d0, dd, p0, rfl, fun h2 => ?_, fun _ => ⟨rfl, rfl⟩⟩
    match rest, h2 with
    | p1 :: _, _ => exact ⟨p1, rfl, OnSeg.left ..⟩

/-- the repair is conservative: whenever the pre-fix function (`projPolyligneOld`, kept only as the documented old variant:
`none` = its `UnboundLocalError`) returned an answer, the current one returns the same; where it raised
`UnboundLocalError` on a non-empty polyline the current one returns the first vertex -/
theorem projPolyligne_vs_old (sqrt : α → α) (eps : α) (pts : List (α × α)) (x y : α) :
    (∀ r, projPolyligneOld sqrt eps pts x y = .ok (some r) → projPolyligne sqrt eps pts x y = .ok r) ∧
    (∀ p0 rest, pts = p0 :: rest → projPolyligneOld sqrt eps pts x y = .ok none →
      projPolyligne sqrt eps pts x y = .ok (firstVertex sqrt x y p0.1 p0.2)) ∧
    (∀ e, projPolyligneOld sqrt eps pts x y = .error e → pts ≠ [] → projPolyligne sqrt eps pts x y = .error e) := by
  unfold projPolyligneOld
  -- per outcome of the current function (empty, the loop raises, nothing kept, `r` kept), the one claim that applies
  fun_cases projPolyligne sqrt eps pts x y with
  | case1 => exact ⟨nofun, nofun, fun _ _ h => absurd rfl h⟩
  | case2 p0 rest e hl => rw [hl]; exact ⟨nofun, nofun, fun _ h _ => by cases h; rfl⟩
  | case3 p0 rest hl => rw [hl]; exact ⟨nofun, fun _ _ e _ => by cases e; rfl, nofun⟩
  | case4 p0 rest r hl => rw [hl]; exact ⟨fun _ h => by cases h; rfl, nofun, nofun⟩

/-- T5 `projOnTrack_spec`: the map-matching wrapper `__projOnTrack` / `mapOnTrack(coord, track)` returns the same
point, distance and segment index as `proj_polyligne`, reordered as `(point, distance, index)`. -/
theorem projOnTrack_spec (sqrt : α → α) (eps : α) (pts : List (α × α)) (x y d px py : α) (i : Nat) :
    projOnTrack sqrt eps pts x y = .ok ((px, py), d, i) ↔ projPolyligne sqrt eps pts x y = .ok (d, px, py, i) := by
  unfold projOnTrack
  cases projPolyligne sqrt eps pts x y with
  | error e => simp
  | ok r =>
    obtain ⟨a, b, c, n⟩ := r
    simp only [Except.ok.injEq, Prod.mk.injEq]
    constructor
    · rintro ⟨⟨h1, h2⟩, h3, h4⟩; exact ⟨h3, h1, h2, h4⟩
    · rintro ⟨h3, h1, h2, h4⟩; exact ⟨⟨h1, h2⟩, h3, h4⟩

/-- T6 `mapOnTrack_rows`: `mapOnTrack(track_of_queries, track)` yields one row per query, in order, row `j` being
the projection of query `j`. -/
theorem mapOnTrack_rows (sqrt : α → α) (eps : α) (pts : List (α × α)) (qs : List (α × α))
    (rows : List ((α × α) × α × Nat)) (h : mapOnTrackAll sqrt eps pts qs = .ok rows) :
    rows.length = qs.length ∧
    ∀ (j : Nat) (q : α × α), qs[j]? = some q → ∃ row, rows[j]? = some row ∧ projOnTrack sqrt eps pts q.1 q.2 = .ok row :=
  TV.Common.mapM_ok_getElem? (TV.ProjTrack.mapOnTrackAll_eq_mapM sqrt eps pts qs ▸ h)

/-! ## The full statement, and why it is not a theorem

```
theorem proj_segment_min (hs : SqrtSpec sqrt) (x1 y1 x2 y2 x y : α) (h : x1 ≠ x2 ∨ y1 ≠ y2) :
    ∃ d px py, projSegment sqrt x1 y1 x2 y2 x y = .ok (d, px, py) ∧
      ∀ qx qy, OnSeg x1 y1 x2 y2 qx qy → d * d ≤ d2 x y qx qy
```
is FALSE of the code as it is (defect D16, vertical segments): refuted below for every ordered field, and
evaluated on the model over `Rat`. -/

/-- refutation of the full statement: segment `(0,0)-(0,8)`, query `(3,4)` — whatever is returned is at squared
distance 25 (an end point) while the point `(0,4)` of the segment is at squared distance 9. -/
theorem proj_segment_min_fails_on_vertical {sqrt : α → α} (hs : SqrtSpec sqrt) :
    ¬ ∃ d px py, projSegment sqrt 0 0 0 8 3 4 = .ok (d, px, py) ∧
        ∀ qx qy, OnSeg (0 : α) 0 0 8 qx qy → d * d ≤ d2 3 4 qx qy := by
  rintro ⟨d, px, py, e, hmin⟩
  have A := projSegment_sound hs e
  have h9 := hmin 0 4 ⟨1 / 2, by norm_num, by norm_num, by norm_num, by norm_num⟩
  rw [A.dist] at h9
  rcases A.ends rfl with ⟨rfl, rfl⟩ | ⟨rfl, rfl⟩ <;>
  · unfold d2 at h9
    norm_num at h9

/-- a `sqrt` table sufficient for the evaluated examples -/
def sqTable : Rat → Rat := fun v => if v = 64 then 8 else if v = 25 then 5 else if v = 36 then 6 else 0

/-- evaluated on the model: vertical segment `(0,0)-(0,8)`, query `(3,4)` → the end point `(0,0)` at distance 5,
although `(0,4)` is at distance 3 -/
example : (projSegment sqTable 0 0 0 8 3 4).toOption = some (5, 0, 0) := by decide +kernel
/-- evaluated on the model: a query ON the vertical segment raises `ZeroDivisionError` -/
example : (match projSegment sqTable 0 0 0 8 0 4 with | .error .zerodiv => true | _ => false) = true := by
  decide +kernel
/-- non-vacuity of T3/T4: a horizontal segment `(0,0)-(8,0)`, query `(3,4)` → the foot `(3,0)` at distance 4 -/
example : (projSegment sqTable 0 0 8 0 3 4).toOption = some (4, 3, 0) := by decide +kernel
/-- non-vacuity of T4: polyline `(-4,3),(4,3),(4,3),(4,-3)` (horizontal, zero-length, vertical; on the integer
lattice `eps = 1` skips exactly the zero-length segments), query `(0,0)` → segment 0, foot `(0,3)`, distance 3 -/
example : (projPolyligne sqTable 1 [(-4, 3), (4, 3), (4, 3), (4, -3)] 0 0).toOption
    = some (3, 0, 3, 0) := by decide +kernel

/-- non-vacuity of `proj_polyline_all_skipped`, evaluated on the model (`eps = 1`): the polyline `(4,3),(4,3),(4,3)` (the
witness of the repaired defect: all vertices equal) and `(4,3),(4,13/4),(4,7/2)` (two segments of length `1/4`, both
skipped), query `(0,0)` → the first vertex `(4,3)` at distance 5, index 0; a single vertex too; an empty polyline raises
`IndexError` (`Xp[0]`) -/
example : (projPolyligne sqTable 1 [(4, 3), (4, 3), (4, 3)] 0 0).toOption = some (5, 4, 3, 0)
    ∧ (projPolyligne sqTable 1 [(4, 3), (4, 13 / 4), (4, 7 / 2)] 0 0).toOption = some (5, 4, 3, 0)
    ∧ (projPolyligne sqTable 1 [(4, 3)] 0 0).toOption = some (5, 4, 3, 0)
    ∧ (match projPolyligne sqTable 1 [] 0 0 with | .error .index => true | _ => false) = true := by decide +kernel

/-! ## The statement at the strength of the property, for every non-vertical orientation

Exact arithmetic (an ordered field): the floating-point defect D17 of horizontal segments (`yb = -c / b` not
reproducing the ordinate) does not exist here. -/

/-- T3' `proj_segment_nearest_partial`: on every **non-vertical** segment (oblique or horizontal, either direction)
`proj_segment` returns `(d, (px,py))` with: `(px,py)` on the segment, `d` = distance from the query to `(px,py)`,
and `d` ≤ the distance from the query to every point of the segment — the three clauses of the property together.
Missing w.r.t. the property: vertical segments (false there: `proj_segment_min_fails_on_vertical`). -/
theorem proj_segment_nearest_partial {sqrt : α → α} (hs : SqrtSpec sqrt) (x1 y1 x2 y2 x y : α) (hx : x1 ≠ x2) :
    ∃ d px py, projSegment sqrt x1 y1 x2 y2 x y = .ok (d, px, py) ∧ OnSeg x1 y1 x2 y2 px py ∧
      0 ≤ d ∧ d * d = d2 x y px py ∧ ∀ qx qy, OnSeg x1 y1 x2 y2 qx qy → d * d ≤ d2 x y qx qy := by
  obtain ⟨⟨d, px, py⟩, e⟩ := projSegment_total hs x1 y1 x2 y2 x y hx
  have A := projSegment_sound hs e
  exact ⟨d, px, py, e, A.on, A.nonneg, A.dist, A.min hx⟩

/-- `proj_segment_horizontal`: a horizontal segment `(x1,y1)-(x2,y1)` in exact arithmetic. The returned point has the
segment's ordinate and lies on it; when the query abscissa is between `x1` and `x2` (either order) the returned point
is the foot `(x, y1)` and the distance is `|y - y1|`; in every case the distance is the distance to the returned
point and is minimal. (In double arithmetic this fails for the ordinates listed under the finding
`horizontal-segment-fp`: needs exact arithmetic.) -/
theorem proj_segment_horizontal {sqrt : α → α} (hs : SqrtSpec sqrt) (x1 x2 y1 x y : α) (hx : x1 ≠ x2) :
    ∃ d px, projSegment sqrt x1 y1 x2 y1 x y = .ok (d, px, y1) ∧ OnSeg x1 y1 x2 y1 px y1 ∧
      0 ≤ d ∧ d * d = d2 x y px y1 ∧
      (((x1 ≤ x ∧ x ≤ x2) ∨ (x2 ≤ x ∧ x ≤ x1)) → px = x ∧ d * d = (y - y1) * (y - y1)) ∧
      ∀ qx qy, OnSeg x1 y1 x2 y1 qx qy → d * d ≤ d2 x y qx qy := by
  obtain ⟨d, px, py, e, hon, d0, dd, hmin⟩ := proj_segment_nearest_partial hs x1 y1 x2 y1 x y hx
  obtain rfl : py = y1 := by
    obtain ⟨t, _, _, _, e2⟩ := hon
    rw [e2, sub_self, mul_zero, add_zero]
  refine ⟨d, px, e, hon, d0, dd, fun hin => ?_, hmin⟩
  -- the foot `(x, py)` is the point of parameter `(x - x1) / (x2 - x1)`, which the inclusion test accepts
  have ex : x = x1 + (x - x1) / (x2 - x1) * (x2 - x1) := by
    rw [div_mul_cancel₀ _ (sub_ne_zero.mpr hx.symm), add_sub_cancel]
  have ey : py = py + (x - x1) / (x2 - x1) * (py - py) := by rw [sub_self, mul_zero, add_zero]
  have ht := (included_param_iff x1 py x2 py _ hx).mp
    (by rw [← ex, ← ey, included_iff]; exact ⟨hin.imp id And.symm, Or.inl ⟨le_rfl, le_rfl⟩⟩)
  have hle := hmin x py ⟨_, ht.1, ht.2, ex, ey⟩
  -- `d² = (x - px)² + (y - py)² ≤ (y - py)²`
  rw [dd, d2, d2, sub_self, mul_zero, zero_add] at hle
  have hx0 : x - px = 0 := mul_self_eq_zero.mp (le_antisymm (by linarith) (mul_self_nonneg _))
  exact ⟨(sub_eq_zero.mp hx0).symm, by rw [dd, d2, hx0, mul_zero, zero_add]⟩

/-- T4' `proj_polyline_vertices`: when every skipped segment is a true zero-length one (two equal vertices: what the
`< 1e-16` test of `proj_polyligne` is there for), the returned distance is at most the distance from the query to
**every vertex** of the polyline — the vertices of the skipped segments included, although `proj_segment` was never
called on them (each one is an end point of a neighbouring segment that was not skipped). -/
theorem proj_polyline_vertices {sqrt : α → α} (hs : SqrtSpec sqrt) (eps : α) (pts : List (α × α))
    (x y d px py : α) (i : Nat) (h : projPolyligne sqrt eps pts x y = .ok (d, px, py, i))
    (hz : ∀ j p1 p2, pts[j]? = some p1 → pts[j + 1]? = some p2 → skipped eps p1.1 p1.2 p2.1 p2.2 = true → p1 = p2) :
    ∀ (v : Nat) (p : α × α), pts[v]? = some p → d * d ≤ d2 x y p.1 p.2 := by
  rcases projPolyligne_ok_cases sqrt eps pts x y _ h with hl | ⟨p0, rest, rfl, e, hsk⟩
  · obtain ⟨p1, p2, s1, s2, hk, _, hall⟩ := polyLoop_kept hs eps x y pts hl
    exact vertices_of_live eps pts (fun p => d * d ≤ d2 x y p.1 p.2) i p1 hz
      (fun j q1 q2 t1 t2 hj => (hall j q1 q2 t1 t2 hj).1) s1 (hall i p1 p2 s1 s2 hk).1.1
  · -- every segment is skipped, hence (hz) all the vertices are the first one, which is what is returned
    have hall : ∀ (v : Nat) (p : α × α), (p0 :: rest)[v]? = some p → p = p0 :=
      vertices_of_live eps (p0 :: rest) (fun p => p = p0) 0 p0 hz
        (fun j q1 q2 t1 t2 hj => by rw [hsk j q1 q2 ⟨t1, t2⟩] at hj; cases hj) rfl rfl
    intro v p hp
    rw [hall v p hp, show d = _ from congrArg Prod.fst e]
    exact (sqrt_d2 hs x y p0.1 p0.2).2.le

/-- T4'' `proj_polyline_nearest_partial`: the property at full strength for every polyline without vertical segment.
Hypotheses: no segment kept by the `< 1e-16` test is vertical; every segment skipped by it has two equal vertices; the
polyline has at least two vertices (NO segment need be kept: a polyline all of whose vertices coincide is covered since the
`fix:` commit 563eeba — the returned point is then that vertex, on segment 0). Then `proj_polyligne` returns `(d, (px,py), i)` with: `i` the index of a segment of the
polyline, `(px,py)` on that segment, `d` = distance from the query to `(px,py)`, and `d` ≤ the distance from the query
to **every point of every segment** of the polyline (skipped ones included): `(px,py)` is a nearest point of the
polyline. Segments may be oblique or horizontal, run in any direction, repeat vertices, be collinear.
Missing w.r.t. the property: polylines with a vertical segment (false there: D16); a skipped segment of non-zero
length `< 1e-16` (its points are nearer than `1e-16` to a vertex). -/
theorem proj_polyline_nearest_partial {sqrt : α → α} (hs : SqrtSpec sqrt) (eps : α) (pts : List (α × α)) (x y : α)
    (hnv : ∀ j p1 p2, pts[j]? = some p1 → pts[j + 1]? = some p2 → skipped eps p1.1 p1.2 p2.1 p2.2 = false → p1.1 ≠ p2.1)
    (hz : ∀ j p1 p2, pts[j]? = some p1 → pts[j + 1]? = some p2 → skipped eps p1.1 p1.2 p2.1 p2.2 = true → p1 = p2)
    (h2 : 2 ≤ pts.length) :
    ∃ d px py i, projPolyligne sqrt eps pts x y = .ok (d, px, py, i) ∧
      (∃ p1 p2, pts[i]? = some p1 ∧ pts[i + 1]? = some p2 ∧ OnSeg p1.1 p1.2 p2.1 p2.2 px py) ∧
      0 ≤ d ∧ d * d = d2 x y px py ∧
      ∀ j p1 p2, pts[j]? = some p1 → pts[j + 1]? = some p2 →
        ∀ qx qy, OnSeg p1.1 p1.2 p2.1 p2.2 qx qy → d * d ≤ d2 x y qx qy := by
  obtain ⟨⟨d, px, py, i⟩, h⟩ := proj_polyline_total hs eps pts x y hnv (by rintro rfl; cases h2)
  obtain ⟨d0, dd, p1, s1, hseg, _⟩ := proj_polyline_on hs eps pts x y d px py i h
  obtain ⟨p2, s2, hon⟩ := hseg h2
  refine ⟨d, px, py, i, h, ⟨p1, p2, s1, s2, hon⟩, d0, dd, fun j q1 q2 t1 t2 qx qy hq => ?_⟩
  cases hsk : skipped eps q1.1 q1.2 q2.1 q2.2 with
  | false =>
    exact ((proj_polyline_min_partial hs eps pts x y d px py i h ⟨j, q1, q2, t1, t2, hsk⟩).2.2.2 j q1 q2 t1 t2 hsk).2
      (hnv j q1 q2 t1 t2 hsk) qx qy hq
  | true =>
    -- a skipped segment is a single vertex
    obtain rfl := hz j q1 q2 t1 t2 hsk
    obtain ⟨t, _, _, rfl, rfl⟩ := hq
    rw [sub_self, mul_zero, add_zero, sub_self, mul_zero, add_zero]
    exact proj_polyline_vertices hs eps pts x y d px py i h hz j q1 t1

/-- skipping costs at most the distance to a kept end: if `proj_polyligne` returns `(d, …)`, `pv` is an end of a kept segment
and `(qx, qy)` is within `δ` of `pv` (in the `|dx| + |dy|` sense of the zero-length test), then `d ≤ |query - (qx, qy)| + δ` -/
theorem le_near_kept_end {sqrt : α → α} (hs : SqrtSpec sqrt) (eps : α) (pts : List (α × α))
    (x y d px py : α) (i : Nat) (h : projPolyligne sqrt eps pts x y = .ok (d, px, py, i)) (pv : α × α)
    (hadj : ∃ k q1 q2, pts[k]? = some q1 ∧ pts[k + 1]? = some q2 ∧ skipped eps q1.1 q1.2 q2.1 q2.2 = false ∧
      (q1 = pv ∨ q2 = pv)) {δ qx qy : α} (hn : |qx - pv.1| + |qy - pv.2| ≤ δ) :
    d ≤ sqrt (d2 x y qx qy) + δ := by
  obtain ⟨k, q1, q2, k1, k2, hk, hends⟩ := hadj
  obtain ⟨_, d0, _, hall⟩ := proj_polyline_min_partial hs eps pts x y d px py i h ⟨k, q1, q2, k1, k2, hk⟩
  obtain ⟨⟨b1, b2⟩, _⟩ := hall k q1 q2 k1 k2 hk
  obtain ⟨e0, ee⟩ := sqrt_d2 hs x y qx qy
  exact near_vertex_bound x y pv.1 pv.2 qx qy d _ δ d0 e0 (by rcases hends with rfl | rfl; exacts [b1, b2]) ee hn

/-- `proj_polyline_skipped_partial`: the error made by skipping a segment of NON-zero length `< eps` (`1e-16`) is at most
`eps`. If `proj_polyligne` returns `(d, …)` and segment `j` is skipped by the `abs(dx) + abs(dy) < eps` test while one of
its two ends is also an end of a segment that is kept (the usual case: an isolated tiny segment between two ordinary
ones), then for every point `(qx, qy)` of the skipped segment `d ≤ |query - (qx, qy)| + eps` (the distance written with
the `sqrt` parameter). Together with `proj_polyline_min_partial` (kept segments): on a polyline without kept vertical
segment whose skipped segments each touch a kept one, the returned distance exceeds the true minimum by less than `eps`.
A run of several consecutive skipped segments: `proj_polyline_skipped_run` / `proj_polyline_skipped_run_back` below (the
bound is then the number of skipped segments up to the nearest kept end, times `eps`). Exact arithmetic. -/
theorem proj_polyline_skipped_partial {sqrt : α → α} (hs : SqrtSpec sqrt) (eps : α) (pts : List (α × α))
    (x y d px py : α) (i : Nat) (h : projPolyligne sqrt eps pts x y = .ok (d, px, py, i))
    (j : Nat) (p1 p2 : α × α) (h1 : pts[j]? = some p1) (h2 : pts[j + 1]? = some p2)
    (hsk : skipped eps p1.1 p1.2 p2.1 p2.2 = true)
    (hadj : ∃ k q1 q2, pts[k]? = some q1 ∧ pts[k + 1]? = some q2 ∧ skipped eps q1.1 q1.2 q2.1 q2.2 = false ∧
      (q1 = p1 ∨ q2 = p1 ∨ q1 = p2 ∨ q2 = p2)) :
    ∀ qx qy, OnSeg p1.1 p1.2 p2.1 p2.2 qx qy → d ≤ sqrt (d2 x y qx qy) + eps := by
  obtain ⟨k, q1, q2, k1, k2, hk, hends⟩ := hadj
  intro qx qy hq
  rcases or_assoc.mpr hends with e | e
  · exact le_near_kept_end hs eps pts x y d px py i h p1 ⟨k, q1, q2, k1, k2, hk, e⟩ (skipped_near_left hsk hq).le
  · exact le_near_kept_end hs eps pts x y d px py i h p2 ⟨k, q1, q2, k1, k2, hk, e⟩ (skipped_near_right hsk hq).le

/-- non-vacuity of `proj_polyline_skipped_partial`: polyline `(-4,3),(4,3),(4,7/2)` with `eps = 1` skips the segment
`(4,3)-(4,7/2)` of length `1/2`, whose first end is the end of the kept horizontal segment; query `(0,0)` → segment 0 at
distance 3 (every point of the skipped segment is farther than 3 anyway: the bound `d ≤ |q - p| + eps` holds with room) -/
example : (projPolyligne sqTable 1 [(-4, 3), (4, 3), (4, 7 / 2)] 0 0).toOption = some (3, 0, 3, 0)
    ∧ skipped (1 : Rat) 4 3 4 (7 / 2) = true ∧ skipped (1 : Rat) (-4) 3 4 3 = false := by decide +kernel

/-- `proj_polyline_skipped_run`: a RUN of consecutive skipped segments of non-zero length (each `abs(dx) + abs(dy) < eps`,
`1e-16`), going FORWARD from a vertex `v` that is an end of a kept segment: if `proj_polyligne` returns `(d, …)`, every point
`(qx, qy)` of the `(t+1)`-th segment of the run satisfies `d ≤ |query - (qx, qy)| + (t + 1) * eps` — the error made by skipping
the run is at most the number of skipped segments walked from the nearest kept end, times the threshold. With
`proj_polyline_skipped_run_back` (runs going backward to a kept end) and `proj_polyline_min_partial` this covers every point of a
polyline that has a kept segment (a maximal run of skipped segments always touches a kept segment at one of its ends, unless
every segment is skipped — then `proj_polyline_all_skipped` applies: the first vertex is returned and every point is covered up
to (number of segments) × `eps`): without kept vertical segment the returned distance exceeds the true
minimum by at most (longest run) × `eps`. `proj_polyline_skipped_partial` is the case `r = 1`. Exact arithmetic. -/
theorem proj_polyline_skipped_run {sqrt : α → α} (hs : SqrtSpec sqrt) (eps : α) (pts : List (α × α))
    (x y d px py : α) (i : Nat) (h : projPolyligne sqrt eps pts x y = .ok (d, px, py, i))
    (v r : Nat) (pv : α × α) (hv : pts[v]? = some pv)
    (hadj : ∃ k q1 q2, pts[k]? = some q1 ∧ pts[k + 1]? = some q2 ∧ skipped eps q1.1 q1.2 q2.1 q2.2 = false ∧
      (q1 = pv ∨ q2 = pv))
    (hrun : ∀ t, t < r → ∀ a b, pts[v + t]? = some a → pts[v + t + 1]? = some b → skipped eps a.1 a.2 b.1 b.2 = true) :
    ∀ t, t < r → ∀ a b, pts[v + t]? = some a → pts[v + t + 1]? = some b →
      ∀ qx qy, OnSeg a.1 a.2 b.1 b.2 qx qy → d ≤ sqrt (d2 x y qx qy) + ((t + 1 : Nat) : α) * eps :=
  fun t ht a b ha hb qx qy hq =>
    le_near_kept_end hs eps pts x y d px py i h pv hadj (run_near_fwd eps pts v r pv hv hrun t ht a b ha hb qx qy hq)

/-- `proj_polyline_skipped_run_back`: the same for a run of skipped segments `w, …, w + r - 1` going BACKWARD from the vertex
`w + r`, an end of a kept segment: every point of segment `w + t` of the run satisfies
`d ≤ |query - (qx, qy)| + (r - t) * eps`. Exact arithmetic. -/
theorem proj_polyline_skipped_run_back {sqrt : α → α} (hs : SqrtSpec sqrt) (eps : α) (pts : List (α × α))
    (x y d px py : α) (i : Nat) (h : projPolyligne sqrt eps pts x y = .ok (d, px, py, i))
    (w r : Nat) (pv : α × α) (hv : pts[w + r]? = some pv)
    (hadj : ∃ k q1 q2, pts[k]? = some q1 ∧ pts[k + 1]? = some q2 ∧ skipped eps q1.1 q1.2 q2.1 q2.2 = false ∧
      (q1 = pv ∨ q2 = pv))
    (hrun : ∀ t, t < r → ∀ a b, pts[w + t]? = some a → pts[w + t + 1]? = some b → skipped eps a.1 a.2 b.1 b.2 = true) :
    ∀ t, t < r → ∀ a b, pts[w + t]? = some a → pts[w + t + 1]? = some b →
      ∀ qx qy, OnSeg a.1 a.2 b.1 b.2 qx qy → d ≤ sqrt (d2 x y qx qy) + ((r - t : Nat) : α) * eps :=
  fun t ht a b ha hb qx qy hq =>
    le_near_kept_end hs eps pts x y d px py i h pv hadj (run_near_back eps pts w r pv hv hrun t ht a b ha hb qx qy hq)

/-- non-vacuity of the two run theorems, evaluated on the model (`eps = 1`): `(-4,3),(4,3),(4,13/4),(4,7/2)` — the two last
segments (length `1/4` each) are skipped, a forward run from the end `(4,3)` of the kept segment 0; the query `(0,0)` →
segment 0 at distance 3. Reversed polyline: a backward run ending at vertex 2, the answer is carried by segment 2 -/
example : (projPolyligne sqTable 1 [(-4, 3), (4, 3), (4, 13 / 4), (4, 7 / 2)] 0 0).toOption = some (3, 0, 3, 0)
    ∧ skipped (1 : Rat) 4 3 4 (13 / 4) = true ∧ skipped (1 : Rat) 4 (13 / 4) 4 (7 / 2) = true
    ∧ (projPolyligne sqTable 1 [(4, 7 / 2), (4, 13 / 4), (4, 3), (-4, 3)] 0 0).toOption = some (3, 0, 3, 2) := by decide +kernel


/-- `projSegmentG_lists`: with a `list` / `tuple` of Python numbers the parametrised model of `proj_segment` is the
kernel `projSegment` all the theorems above are about. -/
theorem projSegmentG_lists (sqrt : α → α) (x1 y1 x2 y2 x y : α) :
    projSegmentG false sqrt x1 y1 x2 y2 x y = projSegment sqrt x1 y1 x2 y2 x y :=
  projSegmentG_false sqrt x1 y1 x2 y2 x y

/-- `projSegmentG_numpy_nonvertical`: with numpy scalars (`-c / b` never raises) the result is the same on every
non-vertical segment. (On a vertical one numpy yields `inf` / `nan` where Python floats raise `ZeroDivisionError`:
IEEE semantics, outside an ordered field; compared bit for bit by the correspondence check.) -/
theorem projSegmentG_numpy_nonvertical (np : Bool) (sqrt : α → α) (x1 y1 x2 y2 x y : α) (hx : x1 ≠ x2) :
    projSegmentG np sqrt x1 y1 x2 y2 x y = projSegment sqrt x1 y1 x2 y2 x y := by
  have hb : (cartesienne x1 y1 x2 y2).2.1 ≠ 0 := cB_ne x1 x2 hx
  unfold projSegmentG projSegment projectionDroiteG projectionDroite
  simp only [footG_of_ne np sqrt _ _ _ _ _ hb]

/-- `projPolyligneXY_spec`: `proj_polyligne(Xp, Yp, x, y)` with `len(Yp) >= len(Xp)` is the kernel `projPolyligne` on the
vertices `zip(Xp, Yp)` (extra ordinates are ignored) — for lists, and for numpy arrays when no segment kept by the
`< 1e-16` test is vertical. -/
theorem projPolyligneXY_spec (np : Bool) (sqrt : α → α) (eps : α) (X Y : List α) (x y : α) (hl : X.length ≤ Y.length)
    (hnp : np = false ∨ ∀ j p1 p2, (X.zip Y)[j]? = some p1 → (X.zip Y)[j + 1]? = some p2 →
      skipped eps p1.1 p1.2 p2.1 p2.2 = false → p1.1 ≠ p2.1) :
    projPolyligneXY np sqrt eps X Y x y = (projPolyligne sqrt eps (X.zip Y) x y).mapError ErrX.base := by
  unfold projPolyligneXY projPolyligne
  rw [(polyLoopXY_zip np sqrt eps x y X Y 0 none hl fun k p1 p2 h1 h2 hk => by
    rcases hnp with rfl | hnv
    · exact projSegmentG_false ..
    · exact projSegmentG_numpy_nonvertical np sqrt _ _ _ _ _ _ (hnv k p1 p2 h1 h2 hk)).1]
  match X, Y, hl with
  | [], _, _ => rfl
  | x0 :: xs, [], hl => simp at hl
  | x0 :: xs, y0 :: ys, _ =>
    simp only [List.zip_cons_cons]
    cases polyLoop sqrt eps x y ((x0, y0) :: xs.zip ys) 0 none with
    | error e => rfl
    | ok r => cases r <;> rfl

/-- `projPolyligneXY_short`: with `len(Yp) < len(Xp)` `proj_polyligne` never returns a value (`IndexError` — at `Yp[0]` when
`Yp` is empty, else in the loop at `Yp[i]` / `Yp[i + 1]` —, or an earlier `ZeroDivisionError`). -/
theorem projPolyligneXY_short (np : Bool) (sqrt : α → α) (eps : α) (X Y : List α) (x y : α) (hl : Y.length < X.length)
    (r : α × α × α × Nat) : projPolyligneXY np sqrt eps X Y x y ≠ .ok r := by
  fun_cases projPolyligneXY np sqrt eps X Y x y with
  | case1 | case2 => nofun
  | case3 x0 xs y0 ys e h => rw [h]; nofun
  | case4 x0 xs y0 ys h | case5 x0 xs y0 ys r' h =>
    exact absurd h (polyLoopXY_short np sqrt eps x y _ _ 0 none _ (by simp only [List.length_cons] at hl ⊢; omega) hl)

/-- the planimetric vertices of a list of 3D positions -/
def xy (pts : List (α × α × α)) : List (α × α) := pts.map (fun p => (p.1, p.2.1))

/-- `projOnTrack3_planimetric`: `__projOnTrack(point, track)` on 3D positions **is planimetric**: it returns exactly the
point, distance and index of `proj_polyligne` on the `(X, Y)` of the track and of the query, with the third coordinate
of the returned point set to `0`; no altitude (of the query or of the track, `NaN` included) is ever read. -/
theorem projOnTrack3_planimetric (sqrt : α → α) (eps : α) (pts : List (α × α × α)) (q : α × α × α)
    (px py pz d : α) (i : Nat) :
    projOnTrack3 sqrt eps pts q = .ok ((px, py, pz), d, i) ↔
      (pz = 0 ∧ projPolyligne sqrt eps (xy pts) q.1 q.2.1 = .ok (d, px, py, i)) := by
  have hl : (getXs pts).length ≤ (getYs pts).length := by simp [getXs, getYs]
  have hzip : (getXs pts).zip (getYs pts) = xy pts := by
    simp [getXs, getYs, xy, List.zip_map']
  unfold projOnTrack3
  rw [projPolyligneXY_spec false sqrt eps _ _ _ _ hl (Or.inl rfl), hzip]
  cases projPolyligne sqrt eps (xy pts) q.1 q.2.1 with
  | error e => simp [Except.mapError]
  | ok r =>
    obtain ⟨a, b, c, n⟩ := r
    simp only [Except.mapError, Except.ok.injEq, Prod.mk.injEq]
    constructor
    · rintro ⟨⟨h1, h2, h3⟩, h4, h5⟩; exact ⟨h3.symm, h4, h1, h2, h5⟩
    · rintro ⟨h3, h4, h1, h2, h5⟩; exact ⟨⟨h1, h2, h3.symm⟩, h4, h5⟩

/-- `mapOnTrack3_coord`: `mapOnTrack(coord, track)` (first argument not a `Track`) returns a single
`(ENUCoords(px, py, 0), d, i)` which is the planimetric projection of the coordinate: with
`proj_polyline_min_partial` / `proj_polyline_nearest_partial` on `xy pts` this gives all clauses of the property. -/
theorem mapOnTrack3_coord (sqrt : α → α) (eps : α) (pts : List (α × α × α)) (q : α × α × α)
    (out : ((α × α × α) × α × Nat) ⊕ List ((α × α × α) × α × Nat))
    (h : mapOnTrack3 sqrt eps pts (.inl q) = .ok out) :
    ∃ px py d i, out = .inl ((px, py, 0), d, i) ∧ projPolyligne sqrt eps (xy pts) q.1 q.2.1 = .ok (d, px, py, i) := by
  simp only [mapOnTrack3] at h
  cases hp : projOnTrack3 sqrt eps pts q with
  | error e => rw [hp] at h; cases h
  | ok r =>
    rw [hp] at h
    obtain ⟨⟨px, py, pz⟩, d, i⟩ := r
    obtain ⟨hz, hproj⟩ := (projOnTrack3_planimetric sqrt eps pts q px py pz d i).mp hp
    subst hz
    injection h with h
    exact ⟨px, py, d, i, h.symm, hproj⟩

/-- `mapOnTrack3_track`: `mapOnTrack(track_of_queries, track)` returns one row per query, in order; row `j` is
`(ENUCoords(px, py, 0), d, i)`, the planimetric projection of query `j` (its `dist` and `edge` features are `d`, `i`). -/
theorem mapOnTrack3_track (sqrt : α → α) (eps : α) (pts : List (α × α × α)) (qs : List (α × α × α))
    (out : ((α × α × α) × α × Nat) ⊕ List ((α × α × α) × α × Nat))
    (h : mapOnTrack3 sqrt eps pts (.inr qs) = .ok out) :
    ∃ rows, out = .inr rows ∧ rows.length = qs.length ∧
      ∀ (j : Nat) (q : α × α × α), qs[j]? = some q → ∃ px py d i, rows[j]? = some ((px, py, 0), d, i) ∧
        projPolyligne sqrt eps (xy pts) q.1 q.2.1 = .ok (d, px, py, i) := by
  simp only [mapOnTrack3] at h
  cases hp : mapOnTrack3All sqrt eps pts qs with
  | error e => rw [hp] at h; cases h
  | ok rows =>
    rw [hp] at h
    obtain ⟨l, f⟩ := TV.ProjTrack.mapOnTrack3All_rows sqrt eps pts qs rows hp
    refine ⟨rows, (Except.ok.inj h).symm, l, fun j q hq => ?_⟩
    obtain ⟨⟨⟨px, py, pz⟩, d, i⟩, e1, e2⟩ := f j q hq
    obtain ⟨rfl, hproj⟩ := (projOnTrack3_planimetric sqrt eps pts q px py pz d i).mp e2
    exact ⟨px, py, d, i, e1, hproj⟩

open TV.ProjTrack TV.Features

/-- `mapOnTrackT_rows`: `mapOnTrack(track_of_queries, track)` on two track OBJECTS (feature tables, time stamps). When it
returns, the output track has **exactly the features `dist`, `edge`** (in that order), default time stamps, and there
are rows `(point, d, i)`, one per observation of the track of queries, in order, such that: the positions of the output
are the points, `output["dist"]` is the column of the `d`, `output["edge"]` the column of the `i`, and row `j` is
`(ENUCoords(px, py, 0), d, i)` with `(d, px, py, i) = proj_polyligne` of query `j` on the planimetric vertices of the
reference track. Nothing in the statement depends on the features / time stamps the two input tracks carry: a feature
called `dist` or `edge` on the track of queries (the output of an earlier `mapOnTrack`) is NOT what the output holds. -/
theorem mapOnTrackT_rows (sqrt : α → α) (eps : α) (ofNat : Nat → α) (ref q out : St α)
    (h : mapOnTrackT sqrt eps ofNat ref q = .ok out) :
    out.dico.map Prod.fst = ["dist", "edge"] ∧
    ∃ rows : List ((α × α × α) × α × Nat),
      rows.length = (positions q).length ∧ rows ≠ [] ∧
      positions out = rows.map (fun r => r.1) ∧
      column out "dist" = some (rows.map (fun r => r.2.1)) ∧
      column out "edge" = some (rows.map (fun r => ofNat r.2.2)) ∧
      out.ts = rows.map (fun _ => (0 : α)) ∧
      ∀ (j : Nat) (qj : α × α × α), (positions q)[j]? = some qj → ∃ px py d i, rows[j]? = some ((px, py, 0), d, i) ∧
        projPolyligne sqrt eps (xy (positions ref)) qj.1 qj.2.1 = .ok (d, px, py, i) := by
  rw [mapOnTrackT_eq] at h
  cases hall : mapOnTrack3All sqrt eps (positions ref) (positions q) with
  | error e => rw [hall] at h; cases h
  | ok rows =>
    rw [hall] at h
    cases rows with
    | nil => cases h
    | cons r rs =>
      cases h
      obtain ⟨rows', e', l', f'⟩ := mapOnTrack3_track sqrt eps (positions ref) (positions q) _
        (by rw [mapOnTrack3, hall]; rfl)
      cases e'
      exact ⟨rfl, r :: rs, l', List.cons_ne_nil _ _, positions_outputOf ofNat _, column_dist ofNat _, column_edge ofNat _,
        rfl, f'⟩

/-- `mapOnTrackT_ignores_state`: the result of `mapOnTrack(track_of_queries, track)` depends on the POSITIONS of the two
tracks only: two tracks of queries (two reference tracks) with the same positions and any analytical features, any
time stamps, give the same output track — or the same exception. -/
theorem mapOnTrackT_ignores_state (sqrt : α → α) (eps : α) (ofNat : Nat → α) (ref ref' q q' : St α)
    (hr : positions ref = positions ref') (hq : positions q = positions q') :
    mapOnTrackT sqrt eps ofNat ref q = mapOnTrackT sqrt eps ofNat ref' q' := by
  unfold mapOnTrackT
  rw [hr, hq]

/-- `mapOnTrackT_empty`: a track of queries without observation: `createAnalyticalFeature("dist", [])` on the empty
output raises `AnalyticalFeatureError` ("there is no observation in track"), whatever the reference track. -/
theorem mapOnTrackT_empty (sqrt : α → α) (eps : α) (ofNat : Nat → α) (ref q : St α) (hq : positions q = []) :
    mapOnTrackT sqrt eps ofNat ref q = .error (.feat .empty) := by
  rw [mapOnTrackT_eq, hq]
  simp [mapOnTrack3All]

/-- `mapChain_calls`: chained snapping `mapOnTrack(… mapOnTrack(mapOnTrack(q, ref₀), ref₁) …)` that runs to its end: one
output per reference track, and output `k` is `mapOnTrack(track of queries of call k, refₖ)` where the track of queries of
call `0` is `q` and that of call `k + 1` is output `k` — so that by `mapOnTrackT_rows` the `dist` / `edge` of output
`k + 1` are those of the projection of the positions of output `k` on `refₖ₊₁`, not the `dist` / `edge` output `k` carries. -/
theorem mapChain_calls (sqrt : α → α) (eps : α) (ofNat : Nat → α) (refs : List (St α)) (q : St α) (outs : List (St α))
    (h : mapChain sqrt eps ofNat refs q = (outs, none)) :
    outs.length = refs.length ∧
    ∀ (k : Nat) (r : St α), refs[k]? = some r → ∃ o, outs[k]? = some o ∧
      mapOnTrackT sqrt eps ofNat r ((q :: outs)[k]?.getD q) = .ok o := by
  -- the branches of the chain: no reference track left, the call raises, it returns `o` and the chain goes on from `o`
  fun_induction mapChain sqrt eps ofNat refs q generalizing outs with
  | case1 q => cases h; exact ⟨rfl, nofun⟩
  | case2 r0 rs q e he => cases h
  | case3 r0 rs q o ho rest ih =>
    obtain ⟨rfl, h2⟩ := Prod.mk.inj h
    obtain ⟨l, f⟩ := ih rest.1 (Prod.ext rfl h2)
    refine ⟨congrArg (· + 1) l, fun k r hk => ?_⟩
    cases k with
    | zero => cases hk; exact ⟨o, rfl, ho⟩
    | succ k =>
      obtain ⟨o', e1, e2⟩ := f k r hk
      -- call `k + 1` reads output `k`, which exists: the default of `getD` is never used
      obtain ⟨v, hk'⟩ : ∃ v, (o :: rest.1)[k]? = some v :=
        ⟨_, List.getElem?_eq_getElem (Nat.lt_succ_of_lt (List.getElem?_eq_some_iff.mp e1).1)⟩
      rw [hk'] at e2
      exact ⟨o', e1, by rw [List.getElem?_cons_succ, hk']; exact e2⟩

/-- `mapOnTrackT_nearest_partial`: the property at full strength **through the track form**, on track objects with any
state. Hypotheses on the reference polyline as in `proj_polyline_nearest_partial` (no kept vertical segment, skipped
segments zero-length, at least two vertices — a reference track all of whose positions coincide included), and a track of queries with at least one observation. Then `mapOnTrack(track, track)`
returns an output track, with rows `(point, d, i)` one per query in order such that the output's positions are the
points, its `dist` feature the `d`, its `edge` feature the `i`, and for every query `j`: the point is
`ENUCoords(px, py, 0)` lying on segment `i` of the reference polyline, `d` is the distance from the query to it, and `d` is
at most the distance from the query to every point of every segment — whatever features (`dist` / `edge` included) and
time stamps the track of queries and the reference track carry.
Missing w.r.t. the property: as `proj_polyline_nearest_partial` (vertical segments: D16; exact arithmetic). -/
theorem mapOnTrackT_nearest_partial {sqrt : α → α} (hs : SqrtSpec sqrt) (eps : α) (ofNat : Nat → α) (ref q : St α)
    (hq : positions q ≠ [])
    (hnv : ∀ j p1 p2, (xy (positions ref))[j]? = some p1 → (xy (positions ref))[j + 1]? = some p2 →
      skipped eps p1.1 p1.2 p2.1 p2.2 = false → p1.1 ≠ p2.1)
    (hz : ∀ j p1 p2, (xy (positions ref))[j]? = some p1 → (xy (positions ref))[j + 1]? = some p2 →
      skipped eps p1.1 p1.2 p2.1 p2.2 = true → p1 = p2)
    (h2 : 2 ≤ (xy (positions ref)).length) :
    ∃ (out : St α) (rows : List ((α × α × α) × α × Nat)),
      mapOnTrackT sqrt eps ofNat ref q = .ok out ∧ out.dico.map Prod.fst = ["dist", "edge"] ∧
      rows.length = (positions q).length ∧ positions out = rows.map (fun r => r.1) ∧
      column out "dist" = some (rows.map (fun r => r.2.1)) ∧ column out "edge" = some (rows.map (fun r => ofNat r.2.2)) ∧
      ∀ (j : Nat) (qj : α × α × α), (positions q)[j]? = some qj → ∃ px py d i, rows[j]? = some ((px, py, 0), d, i) ∧
        (∃ p1 p2, (xy (positions ref))[i]? = some p1 ∧ (xy (positions ref))[i + 1]? = some p2 ∧
          OnSeg p1.1 p1.2 p2.1 p2.2 px py) ∧
        0 ≤ d ∧ d * d = d2 qj.1 qj.2.1 px py ∧
        ∀ j' p1 p2, (xy (positions ref))[j']? = some p1 → (xy (positions ref))[j' + 1]? = some p2 →
          ∀ qx qy, OnSeg p1.1 p1.2 p2.1 p2.2 qx qy → d * d ≤ d2 qj.1 qj.2.1 qx qy := by
  have hnp := fun qj : α × α × α => proj_polyline_nearest_partial hs eps (xy (positions ref)) qj.1 qj.2.1 hnv hz h2
  -- every query projects, so the loop returns
  obtain ⟨rows0, e0⟩ : ∃ rows, mapOnTrack3All sqrt eps (positions ref) (positions q) = .ok rows := by
    rw [mapOnTrack3All_eq_mapM]
    refine TV.Common.mapM_ok_of_each fun q0 _ => ?_
    obtain ⟨d, px, py, i, e, _⟩ := hnp q0
    exact ⟨_, (projOnTrack3_planimetric sqrt eps _ q0 px py 0 d i).mpr ⟨rfl, e⟩⟩
  obtain ⟨out, eout⟩ : ∃ out, mapOnTrackT sqrt eps ofNat ref q = .ok out := by
    rw [mapOnTrackT_eq, e0]
    cases rows0 with
    | nil => exact absurd (List.length_eq_zero_iff.mp (mapOnTrack3All_rows sqrt eps _ _ _ e0).1.symm) hq
    | cons r rs => exact ⟨_, rfl⟩
  obtain ⟨hd, rows, l, _, hp, hdist, hedge, _, f⟩ := mapOnTrackT_rows sqrt eps ofNat ref q out eout
  refine ⟨out, rows, eout, hd, l, hp, hdist, hedge, fun j qj hj => ?_⟩
  obtain ⟨px, py, d, i, er, ep⟩ := f j qj hj
  obtain ⟨d', px', py', i', e', facts⟩ := hnp qj
  cases ep.symm.trans e'
  exact ⟨_, _, _, _, er, facts⟩

/-- a track of queries that was snapped before: one observation at `(3, 4, 5)` carrying `dist = 99`, `edge = 7` -/
def snapped : St Rat :=
  { dico := [("dist", 0), ("edge", 1)], rows := [[99, 7]], xs := [3], ys := [4], zs := [5], ts := [1000] }
/-- a reference track `(0,0,35)-(8,0,40)` carrying a feature of its own -/
def refTrack : St Rat :=
  { dico := [("abs_curv", 0)], rows := [[0], [8]], xs := [0, 8], ys := [0, 0], zs := [35, 40], ts := [0, 1] }

/-- evaluated on the model: snapping `snapped` on `refTrack` gives `dist = [4]`, `edge = [0]` (NOT the `99`, `7` it
carried), the features `dist`, `edge` only, the point `(3, 0, 0)`, the default time stamp -/
example : (match mapOnTrackT sqTable 1 (fun n => (n : Rat)) refTrack snapped with
    | .ok o => column o "dist" == some [4] && column o "edge" == some [0] && o.dico.map Prod.fst == ["dist", "edge"]
        && positions o == [(3, 0, 0)] && o.ts == [0]
    | .error _ => false) = true := by decide +kernel
/-- evaluated on the model: two-step snapping, first on `(0,0)-(8,0)` then on `(0,-3)-(8,-3)`: the second output holds
the distance 3 from the first output `(3,0)` to the second line -/
example : (match mapChain sqTable 1 (fun n => (n : Rat)) [refTrack, { refTrack with ys := [-3, -3] }] snapped with
    | ([o1, o2], none) => column o1 "dist" == some [4] && column o2 "dist" == some [3] && positions o2 == [(3, -3, 0)]
    | _ => false) = true := by decide +kernel
/-- evaluated on the model: a track of queries without observation raises `AnalyticalFeatureError` -/
example : (match mapOnTrackT sqTable 1 (fun n => (n : Rat)) refTrack { snapped with rows := [], xs := [], ys := [], zs := [], ts := [] } with
    | .error (.feat .empty) => true | _ => false) = true := by decide +kernel

/-- non-vacuity of `proj_polyline_nearest_partial` (horizontal, zero-length, then oblique south-west-bound; `eps = 1`
skips exactly the zero-length segments on the integer lattice): query `(0,0)` → segment 2 (the index counts the
skipped segment), foot `(28/25, -21/25)`, distance `7/5` (segment 0 is at distance 3) -/
example : (projPolyligne sqTable 1 [(-4, 3), (4, 3), (4, 3), (1, -1)] 0 0).toOption
    = some (7 / 5, 28 / 25, -21 / 25, 2) := by decide +kernel
/-- a west-bound horizontal segment `(8,0)-(0,0)`, query `(3,4)` → the foot `(3,0)` at distance 4 -/
example : (projSegment sqTable 8 0 0 0 3 4).toOption = some (4, 3, 0) := by decide +kernel
/-- evaluated on the model: `__projOnTrack` with altitudes (track at 35 and 40, query at 100) → the planimetric foot
`(3, 0, 0)` at planimetric distance 4 -/
example : (match projOnTrack3 sqTable 1 [(0, 0, 35), (8, 0, 40)] (3, 4, 100) with
    | .ok r => r == ((3, 0, 0), 4, 0) | .error _ => false) = true := by decide +kernel
/-- evaluated on the model: a `Yp` shorter than `Xp` raises `IndexError` -/
example : (match projPolyligneXY false sqTable 1 [0, 8, 9] [0, 0] 3 4 with
    | .error .index => true | _ => false) = true := by decide +kernel

/-! ## The listed finding `vertical-segment` as a CASE

The harness excuses a failing answer only inside the class of the listed finding D16, and recognises that class from the
geometry of the input (a kept, exactly vertical segment that the answer depends on), not from one failure pattern. The two
theorems below are the model's side of that class: which queries raise on a vertical segment, and what an answer of
`proj_polyligne` on a polyline WITH vertical segments still guarantees. -/

/-- `vertical_zerodiv_iff`: on a vertical segment `(x1,y1)-(x1,y2)` `proj_segment` raises `ZeroDivisionError` exactly when
the query has the segment's abscissa and the pseudo-foot ordinate `a = y2 - y1` lies between `y1` and `y2` — the
predicate `zerodiv_vertical` of the harness (exact arithmetic; the numpy form returns inf / nan there instead). In every
other case it returns an end point (`vertical_as_coded`). -/
theorem vertical_zerodiv_iff {sqrt : α → α} (hs : SqrtSpec sqrt) (x1 y1 y2 x y : α) (hy : y1 ≠ y2) :
    projSegment sqrt x1 y1 x1 y2 x y = .error .zerodiv ↔
      (x = x1 ∧ ((y1 ≤ y2 - y1 ∧ y2 - y1 ≤ y2) ∨ (y2 - y1 ≤ y1 ∧ y2 ≤ y2 - y1))) := by
  rw [projSegment_vertical hs _ _ _ _ _ hy]
  constructor
  · intro h
    split at h
    · rename_i hin
      obtain ⟨hx, hin⟩ := (included_iff ..).mp hin
      exact ⟨hx.elim (fun h => le_antisymm h.2 h.1) (fun h => le_antisymm h.1 h.2), hin⟩
    · cases h
  · rintro ⟨rfl, h⟩
    exact if_pos ((included_iff ..).mpr ⟨Or.inl ⟨le_rfl, le_rfl⟩, h⟩)

/-- a `sqrt` that is right on the squares met by the examples of this section -/
def sqT2 : Rat → Rat := fun v => if v = 1 then 1 else if v = 9 then 3 else if v = 16 then 4 else if v = 25 then 5
  else if v = 36 then 6 else if v = 64 then 8 else if v = 169 then 13 else if v = 196 then 14 else if v = 225 then 15
  else if v = 400 then 20 else 0

/-- non-vacuity of `vertical_zerodiv_iff`, both directions, evaluated on the model. Segment `(0,0)-(0,8)`: the query `(0,4)`
raises (`a = 8` lies in `[0,8]`), the query `(3,4)` does not (its abscissa is not the segment's). Segment `(0,2)-(0,8)`,
query `(0,4)`: raises (`a = 6` lies in `[2,8]`). Segment `(0,5)-(0,8)`, query `(0,4)`: returns the end point `(0,5)` at
distance 1 (`a = 3` is outside `[5,8]`) -/
example : (match projSegment sqT2 0 0 0 8 0 4 with | .error .zerodiv => true | _ => false) = true
    ∧ (match projSegment sqT2 0 0 0 8 3 4 with | .error .zerodiv => true | _ => false) = false
    ∧ (match projSegment sqT2 0 2 0 8 0 4 with | .error .zerodiv => true | _ => false) = true
    ∧ (projSegment sqT2 0 5 0 8 0 4).toOption = some (1, 0, 5) := by decide +kernel

/-- `proj_polyline_vertical_case`: what an answer `(d, (px,py), i)` of `proj_polyligne` guarantees on ANY polyline, kept
vertical segments included (a polyline with a kept vertical segment has a kept segment: `hex`; without any kept segment
there is no vertical one to speak of and `proj_polyline_all_skipped` gives the answer) — the formal counterpart of the class
`vertical-segment` of the harness. Segment `i` is a kept segment and
* either it is exactly vertical, and then the returned point is one of its two END points (never an interior point:
  the defect D16) — the answer was built by the defective branch;
* or it is not vertical, and then the answer is right once the kept vertical segments are left out: the point lies on
  segment `i`, `d` is its distance to the query, and `d` is at most the distance to every point of segment `i` and of
  every other kept non-vertical segment.
Hence every failure of the property on the model involves a kept vertical segment in one of these two ways; a failing
answer of the real code that is in neither is not an instance of the listed finding. -/
theorem proj_polyline_vertical_case {sqrt : α → α} (hs : SqrtSpec sqrt) (eps : α) (pts : List (α × α))
    (x y d px py : α) (i : Nat) (h : projPolyligne sqrt eps pts x y = .ok (d, px, py, i))
    (hex : ∃ j p1 p2, pts[j]? = some p1 ∧ pts[j + 1]? = some p2 ∧ skipped eps p1.1 p1.2 p2.1 p2.2 = false) :
    ∃ p1 p2, pts[i]? = some p1 ∧ pts[i + 1]? = some p2 ∧ skipped eps p1.1 p1.2 p2.1 p2.2 = false ∧
      ((p1.1 = p2.1 ∧ p1.2 ≠ p2.2 ∧ ((px, py) = p1 ∨ (px, py) = p2)) ∨
       (p1.1 ≠ p2.1 ∧ OnSeg p1.1 p1.2 p2.1 p2.2 px py ∧ 0 ≤ d ∧ d * d = d2 x y px py ∧
        (∀ qx qy, OnSeg p1.1 p1.2 p2.1 p2.2 qx qy → d * d ≤ d2 x y qx qy) ∧
        ∀ j q1 q2, pts[j]? = some q1 → pts[j + 1]? = some q2 → skipped eps q1.1 q1.2 q2.1 q2.2 = false →
          q1.1 ≠ q2.1 → ∀ qx qy, OnSeg q1.1 q1.2 q2.1 q2.2 qx qy → d * d ≤ d2 x y qx qy)) := by
  obtain ⟨p1, p2, s1, s2, hk, hp, hall⟩ := polyLoop_kept hs eps x y pts (projPolyligne_of_kept h hex)
  have A := projSegment_sound hs hp
  refine ⟨p1, p2, s1, s2, hk, ?_⟩
  by_cases hx : p1.1 = p2.1
  · refine Or.inl ⟨hx, fun hy => ?_, ?_⟩
    · rw [← hx, ← hy, projSegment_degenerate hs] at hp
      cases hp
    · rcases A.ends hx with ⟨rfl, rfl⟩ | ⟨rfl, rfl⟩
      exacts [Or.inl rfl, Or.inr rfl]
  · exact Or.inr ⟨hx, A.on, A.nonneg, A.dist, A.min hx, fun j q1 q2 u1 u2 hj => (hall j q1 q2 u1 u2 hj).2⟩

/-- non-vacuity of `proj_polyline_vertical_case`, both branches, evaluated on the model (`eps = 1` skips exactly the
zero-length segments on the integer lattice), query `(12,5)`. First branch: `(0,0),(0,14),(-4,17)` → segment 0 (vertical),
its END point `(0,0)` at distance 13, although the foot `(0,5)` is at distance 12 (the other segment is at distance 15).
Second branch: `(0,0),(0,14),(20,14)` → segment 1 (horizontal), the foot `(12,14)` at distance 9 -/
example : (projPolyligne sqT2 1 [(0, 0), (0, 14), (-4, 17)] 12 5).toOption = some (13, 0, 0, 0)
    ∧ (projPolyligne sqT2 1 [(0, 0), (0, 14), (20, 14)] 12 5).toOption = some (9, 12, 14, 1) := by decide +kernel

end TV.C20
