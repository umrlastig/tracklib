import TracklibVerif.Lemmas.MapMatchSound
import TracklibVerif.Lemmas.MapMatchCompose
import TracklibVerif.Lemmas.MapMatchZ
import TracklibVerif.Lemmas.MapMatchTotal
import TracklibVerif.Lemmas.MapMatchIndexSound
import TracklibVerif.Lemmas.MapMatchTimes
/-! # C10 — map-matched positions lie on a real edge within the search radius

Property theorems only (helpers in the `Lemmas/MapMatch*.lean` files; they rest on the C20 theorems), over any linearly ordered field and a `sqrt` with `SqrtSpec`
(exact arithmetic: IEEE rounding is outside the theorems and sampled by the transfer check).

Part I (T1–T3) is about the core `Model/MapMatch.lean` of `mapping.__mapOnNetwork`, where the candidate edge numbers
returned by the spatial index and the state indices decoded by the HMM are PARAMETERS: the theorems hold for every index
answer and every decoder. `IsFlag pos s` is the state `(pos, -1, -1, -1)`; `Sound … pos s` says: `s.edge` is an existing edge
number, `s.p` lies on a segment of that edge's geometry, at a distance `d < radius` of `pos`, and (for an `abs_curv` column
made by `computeAbsCurv`) `s.d0 + s.d1` is the last abscissa.

Part II (T4–T12) is about `Model/MapMatchNet.lean`: the construction path (`Network.addNode` / `addEdge`, `computeAbsCurv` on
the edge geometries, the index attached before or after the last edges), the candidates taken from the network's own index
(the model of C08) with the search unit as coded, and the front end `mapOnNetwork` (bare track / collection, the arguments that
are never read, the columns created on the track). There the statement is about the values a user reads:
`Matched … (netEdges net) pos s` says that `s.edge` is an edge NUMBER of the network and `SoundOn` the geometry stored in the
network under that number: `s.p` on one of its segments, strictly within the radius of `pos`, `s.d0` / `s.d1` the lengths of the
two parts of that geometry on either side of `s.p` (distances to the two end nodes measured along the edge), adding up to its
length `polyLength`. Part III (T13–T14) instantiates the two parameters with the models of C09 and C08 through their registered
theorems.

Part IV (T15–T21, T19b) is about `Model/MapMatchZ.lean`: the same code on networks and tracks WITH ALTITUDES (`LINESTRING(x y z, …)`
read by `NetworkReader`, hand-built networks and GPS tracks with `ENUCoords(x, y, z)`). **Which length the property means.** The
code measures an edge PLANIMETRICALLY: `computeAbsCurv` sums `distance2DTo` (T15), the assigned point is `ENUCoords(x, y, 0)` on
the planimetric geometry and `__distToNode` completes the abscissas with `distance2DTo`; so "distances to the edge's two end
nodes measured along the edge that add up to the edge length" holds with the planimetric length `polyLength3` of the stored
geometry (T17, T19, T20) — NOT with `Track.length()` / `Edge.weight`, which is the 3D length and is larger on every edge that
is not level (T16). No altitude — of a vertex, of a node, of an observation — influences a candidate, an assigned point, a
distance or an exception (T18); the flag state carries the observation's own position, altitude included; the network stores
geometries with their altitudes as given (T20).

Exceptions (`ZeroDivisionError` of the projection on a vertical segment, D16; `IndexError` on a candidate edge with fewer than
two vertices): Parts I–IV are about a call that returns; Part V (T22–T25) says when it does: on a network none of
whose edge geometries has a kept vertical segment and each of which has at least two vertices (`GoodGeom`; a candidate edge
all of whose vertices coincide is an ordinary candidate since the `fix:` commit 563eeba, T22b), for every answer of the
index made of existing edge numbers and every decoder answering in-range indices, nothing is raised.

Part VI (T26–T27) is about the TIME STAMPS: the model's observations carry an opaque stamp (`Obs.t`), and every theorem above is
for every list of observations — chronological or not, with equal stamps or not. T26/T27 say what that means for the code: it
neither requires nor establishes a chronological order; the stamps are never read, the list of observations is handed back as
it was. -/
namespace TV.C10
open TV.Proj TV.MapMatch
variable {α : Type} [Field α] [LinearOrder α] [IsStrictOrderedRing α]

/-- T1 `candidate_sound`: every state of `STATES[i]` is the flag state or a sound candidate, and `STATES[i]` is never
empty (for every list of candidate edge numbers the index may return, `None` included). -/
theorem candidate_sound {sqrt : α → α} (hs : SqrtSpec sqrt) (eps radius : α) (edges : List (Edge α)) (pos : α × α)
    (cand : Option (List Nat)) (l : List (State α)) (h : obsStates sqrt eps radius edges pos cand = .ok l) :
    l ≠ [] ∧ ∀ s ∈ l, IsFlag pos s ∨ Sound sqrt radius edges pos s := by
  rcases obsStates_spec h with ⟨rfl, _⟩ | ⟨hne, mem⟩
  · exact ⟨List.cons_ne_nil _ _, fun s hm => Or.inl (by rw [List.mem_singleton.mp hm]; exact ⟨rfl, rfl, rfl, rfl⟩)⟩
  · refine ⟨hne, fun s hm => Or.inr ?_⟩
    obtain ⟨n, _, hst⟩ := (mem s).mp hm
    obtain ⟨eg, i, p1, p2, d, hn, he, g1, g2, hon, d0, dd, hlt, ha, hb⟩ := candStep_geom hs eps radius edges pos n s hst
    refine ⟨n, eg, i, p1, p2, d, hn, he, g1, g2, hon, d0, dd, hlt, fun hc => ⟨polyLength sqrt eg.geom, ?_, ?_⟩⟩
    · rw [hc]; exact absCurv_last sqrt eg.geom (List.ne_nil_of_length_pos (Nat.zero_lt_of_lt (List.getElem?_eq_some_iff.mp g1).1))
    · exact (distToNode_along hs eg s.p i s.d0 s.d1 p1 p2 g1 g2 hon ha hb hc).2.2

/-- T1b `all_states_sound`: `STATES` has one non-empty list per observation, in order, each made of the flag state or
of sound candidates for that observation's position. -/
theorem all_states_sound {sqrt : α → α} (hs : SqrtSpec sqrt) (eps radius : α) (edges : List (Edge α)) :
    ∀ (track : List (Obs α)) (cands : List (Option (List Nat))) (ss : List (List (State α))),
      allStates sqrt eps radius edges track cands = .ok ss →
      ss.length = track.length ∧
      ∀ (k : Nat) (o : Obs α) (l : List (State α)), track[k]? = some o → ss[k]? = some l →
        l ≠ [] ∧ ∀ s ∈ l, IsFlag o.pos s ∨ Sound sqrt radius edges o.pos s := by
  intro track cands ss h
  rw [allStates_eq] at h
  obtain ⟨len, pt⟩ := travE_padZip_ok h
  exact ⟨len, fun k o l hk hl => candidate_sound hs eps radius edges _ _ _ (pt k o l hk hl)⟩

/-- T2 `inferred_is_candidate`: when `mapOnNetwork` returns — whatever the decoder — the `hmm_inference` column has
one entry per observation, entry `k` is one of `STATES[k]`, hence every observation is flagged or assigned a
sound candidate: a point on the geometry of an existing edge, strictly within the search radius of the observed
position, with distances to the edge's two end nodes that add up to the edge length. -/
theorem inferred_is_candidate {sqrt : α → α} (hs : SqrtSpec sqrt) (eps radius : α) (edges : List (Edge α)) (mode : Nat)
    (decode : List (List (State α)) → List Nat) (track : List (Obs α)) (names : List String)
    (cands : List (Option (List Nat))) (res : Result α)
    (h : mapOnNetwork sqrt eps radius edges mode decode track names cands = .ok res) :
    res.inference.length = track.length ∧
    ∀ (k : Nat) (o : Obs α) (st : State α), track[k]? = some o → res.inference[k]? = some st →
      (∃ l, res.states[k]? = some l ∧ st ∈ l) ∧ (IsFlag o.pos st ∨ Sound sqrt radius edges o.pos st) := by
  obtain ⟨states, inf, h1, h2, rfl⟩ := mapOnNetwork_ok h
  obtain ⟨len, f⟩ := all_states_sound hs eps radius edges track cands states h1
  obtain ⟨len2, g⟩ := inferAll_mem states _ _ h2
  refine ⟨len2.trans len, fun k o st hk hst => ?_⟩
  obtain ⟨l, hl, hm⟩ := g k st hst
  exact ⟨⟨l, hl, hm⟩, (f k o l hk hl).2 st hm⟩

/-- T3 `track_preserved`: `mapOnNetwork` (which calls the decoder with mode 1, and more generally any mode outside
{3,4,5}) returns the same observations in the same order with unchanged positions and timestamps; the only
change to the track is the creation of the columns `obs_noise`, `hmm_inference`, `hmm_cost` (each only if
absent), every existing feature name being kept. -/
theorem track_preserved (sqrt : α → α) (eps radius : α) (edges : List (Edge α)) (mode : Nat)
    (hmode : writesPositions mode = false)
    (decode : List (List (State α)) → List Nat) (track : List (Obs α)) (names : List String)
    (cands : List (Option (List Nat))) (res : Result α)
    (h : mapOnNetwork sqrt eps radius edges mode decode track names cands = .ok res) :
    res.track = track ∧
    res.features = addName (addName (addName names "obs_noise") "hmm_inference") "hmm_cost" ∧
    (∀ n ∈ names, n ∈ res.features) := by
  obtain ⟨states, inf, _, _, rfl⟩ := mapOnNetwork_ok h
  exact ⟨newPositions_id mode hmode track inf, rfl,
    fun n hn => mem_addName _ _ _ (mem_addName _ _ _ (mem_addName _ _ _ hn))⟩

/-- the mode used by `mapOnNetwork` (`MODE_OBS_AS_2D_POSITIONS = 1`) does not write positions -/
example : writesPositions 1 = false := by decide

/-- T3b `timestamps_preserved`: in every mode (also those that overwrite positions) the number of observations and
their timestamps are unchanged. -/
theorem timestamps_preserved (sqrt : α → α) (eps radius : α) (edges : List (Edge α)) (mode : Nat)
    (decode : List (List (State α)) → List Nat) (track : List (Obs α)) (names : List String)
    (cands : List (Option (List Nat))) (res : Result α)
    (h : mapOnNetwork sqrt eps radius edges mode decode track names cands = .ok res) :
    res.track.map (·.t) = track.map (·.t) := by
  obtain ⟨states, inf, _, _, rfl⟩ := mapOnNetwork_ok h
  exact newPositions_times mode track inf

/-- T2b `decoder_in_range_total`: a decoder that answers, for every epoch, an index inside that epoch's candidate list
(what `HMM.estimate` does: `argmin` of a non-empty row, then back-pointers initialised to 0 into non-empty rows —
rows are non-empty by T1) never makes the backward step fail. -/
theorem decoder_in_range_total (ss : List (List (State α))) (idx : List Nat)
    (h : ∀ (k : Nat) (l : List (State α)), ss[k]? = some l → idx[k]?.getD 0 < l.length) :
    ∃ inf, inferAll ss idx = .ok inf := inferAll_total ss idx h

/-- T2c `viterbi_decoder_total`: with the decoder of C09 (`Model/Viterbi`: first-minimum scan with `best_ant = 0`,
back-pointers, path from any valid last state — `np.argmin` of the non-empty last row), over ANY cost tables whose
row sizes are the sizes of the candidate lists, the backward step of `mapOnNetwork` never fails: the candidate lists
are non-empty (T1), so every decoded index is in range. No assumption on the costs. -/
theorem viterbi_decoder_total {β : Type} [LinearOrder β] (ss : List (List (State α)))
    (t : TV.Viterbi.Tables β) (hpos : ∀ k, 0 < t.n k)
    (hn : ∀ (k : Nat) (l : List (State α)), ss[k]? = some l → t.n k = l.length)
    (last : Nat) (hl : last < t.n (ss.length - 1)) :
    ∃ inf, inferAll ss ((List.range ss.length).map (TV.Viterbi.back t (ss.length - 1) last)) = .ok inf := by
  apply inferAll_total
  intro k l hk
  have hk' : k < ss.length := (List.getElem?_eq_some_iff.mp hk).1
  have e : ((List.range ss.length).map (TV.Viterbi.back t (ss.length - 1) last))[k]? =
      some (TV.Viterbi.back t (ss.length - 1) last k) := by
    simp [hk']
  rw [e, Option.getD_some, ← hn k l hk]
  exact TV.Viterbi.back_lt_n t (ss.length - 1) last (fun j _ => hpos j) hl k (by omega)

/-! Non-vacuity, evaluated on the model over `Rat`: edge 0 = `(0,0)-(8,0)` (horizontal), edge 1 = `(8,0)-(8,6)`
(vertical); observation `(3,4)` with radius 5 → candidate on edge 0 at `(3,0)`, distances 3 and 5 (length 8). -/
def sqTable : Rat → Rat := fun v =>
  if v = 64 then 8 else if v = 9 then 3 else if v = 25 then 5 else if v = 36 then 6 else if v = 16 then 4 else 0

example : (match obsStates sqTable 1 5 [mkEdge sqTable [(0, 0), (8, 0)], mkEdge sqTable [(8, 0), (8, 6)]] (3, 4) (some [0]) with
    | .ok [s] => decide (s.p = (3, 0) ∧ s.edge = 0 ∧ s.d0 = 3 ∧ s.d1 = 5)
    | _ => false) = true := by decide +kernel
/-- no candidate within the radius → the flag state -/
example : (match obsStates sqTable 1 2 [mkEdge sqTable [(0, 0), (8, 0)]] (3, 4) (some [0]) with
    | .ok [s] => decide (s.p = (3, 4) ∧ s.edge = -1 ∧ s.d0 = -1 ∧ s.d1 = -1)
    | _ => false) = true := by decide +kernel

/-- T4 `abs_curv_prefix_lengths`: `computeAbsCurv` on an edge geometry: `abs_curv[i]` is the length of the geometry up to vertex
`i` (sum of the 2D lengths of the first `i` segments), the last value is the length of the edge. -/
theorem abs_curv_prefix_lengths (sqrt : α → α) (g : List (α × α)) :
    (∀ i, i < g.length → (absCurv sqrt g)[i]? = some (polyLength sqrt (g.take (i + 1)))) ∧
    (g ≠ [] → (absCurv sqrt g)[g.length - 1]? = some (polyLength sqrt g)) :=
  ⟨fun i hi => absCurv_take sqrt g i hi, fun hg => absCurv_last sqrt g hg⟩

/-- T5 `dist_to_nodes_along_edge`: on an edge whose `abs_curv` column is the computed one, for a point `p` of segment `i`,
`__distToNode(…, 0)` is the length of the geometry from its first vertex to `p` and `__distToNode(…, 1)` the length from `p`
to its last vertex (both along the polyline), and they add up to the length of the edge. -/
theorem dist_to_nodes_along_edge {sqrt : α → α} (hs : SqrtSpec sqrt) (e : Edge α) (p : α × α) (i : Nat) (a b : α)
    (p1 p2 : α × α) (g1 : e.geom[i]? = some p1) (g2 : e.geom[i + 1]? = some p2)
    (hon : OnSeg p1.1 p1.2 p2.1 p2.2 p.1 p.2)
    (ha : distToNode sqrt e p i 0 = some a) (hb : distToNode sqrt e p i 1 = some b)
    (hc : e.curv = absCurv sqrt e.geom) :
    a = polyLength sqrt (e.geom.take (i + 1)) + dist2D sqrt p1 p ∧
    b = polyLength sqrt (e.geom.drop (i + 1)) + dist2D sqrt p2 p ∧
    a + b = polyLength sqrt e.geom :=
  distToNode_along hs e p i a b p1 p2 g1 g2 hon ha hb hc

/-- T6 `addEdge_keeps_geometry`: one `Network.addEdge(edge, source, target)` that returns: the edge is found under its id with
its geometry and `abs_curv` column AS GIVEN (no vertex moved, nothing recomputed) and the ids of its two end nodes; every
edge stored under another id is untouched; every node already registered keeps its coordinates (a `Node` with a known id is
ignored, whatever its coordinates — node ids shared by edges whose end vertices differ leave all geometries alone). -/
theorem addEdge_keeps_geometry (fl : α → Int) (net net' : Net α) (e : EdgeIn α) (s t : Node α)
    (h : addEdge fl net e s t = .ok net') :
    lookupEdge net'.edges e.id = some ⟨e, s.id, t.id⟩ ∧
    (∀ i, i ≠ e.id → lookupEdge net'.edges i = lookupEdge net.edges i) ∧
    (∀ i m, lookupNode net i = some m → lookupNode net' i = some m) := by
  obtain ⟨he, _, hn⟩ := addEdge_spec fl net net' e s t h
  refine ⟨?_, fun i hi => ?_, fun i m hm => ?_⟩
  · rw [he]; exact find?_dictSet_same (fun x : NEdge α => x.e.id) net.edges ⟨e, s.id, t.id⟩
  · rw [he]; exact find?_dictSet_other (fun x : NEdge α => x.e.id) net.edges ⟨e, s.id, t.id⟩ i hi
  · have := addNode_keeps (addNode net s) t i m (addNode_keeps net s i m hm)
    unfold lookupNode at this ⊢
    rwa [hn]

/-- T7 `built_network_edges`: a network built by `addEdge` calls with pairwise different edge ids — the spatial index being
attached after all of them or before the last `late` ones — has, under edge NUMBER `n`, the geometry and the `abs_curv`
column of the `n`-th edge handed over, unchanged. (What `hmm_inference` refers to by number is what was given.) -/
theorem built_network_edges (fl : α → Int) (es : List (EdgeIn α × Node α × Node α)) (late : Nat) (res : Option (α × α))
    (margin : α) (net : Net α) (hnd : (es.map (fun x => x.1.id)).Nodup) (h : buildNet fl es late res margin = .ok net) :
    netEdges net = es.map (fun x => (⟨x.1.geom, x.1.curv⟩ : Edge α)) :=
  buildNet_edges fl es late res margin net hnd h

/-- T8 `states_flag_or_matched`: on edges with computed `abs_curv` columns, `STATES[i]` (any answer of the index) is the flag
state alone, or a non-empty list of matched states: existing edge number, point on a segment of that edge's geometry,
strictly within the radius, along-edge distances to the two ends that add up to the edge length. -/
theorem states_flag_or_matched {sqrt : α → α} (hs : SqrtSpec sqrt) (eps radius : α) (edges : List (Edge α))
    (hcurv : ∀ eg ∈ edges, eg.curv = absCurv sqrt eg.geom) (pos : α × α)
    (cand : Option (List Nat)) (l : List (State α)) (h : obsStates sqrt eps radius edges pos cand = .ok l) :
    l = [flag pos] ∨ (l ≠ [] ∧ ∀ s ∈ l, Matched sqrt radius edges pos s) :=
  obsStates_matched hs eps radius edges hcurv pos cand l h

/-- T9 `flag_iff_out_of_reach`: when `STATES[i]` is returned for the candidate edge numbers `E`, it contains a flag state
(edge number -1: "unmatched") if and only if NO candidate edge projects strictly within the search radius — an observation
is flagged exactly when it has no candidate in reach, and a matched state never carries the number -1. -/
theorem flag_iff_out_of_reach (sqrt : α → α) (eps radius : α) (edges : List (Edge α)) (pos : α × α) (E : List Nat)
    (l : List (State α)) (h : obsStates sqrt eps radius edges pos (some E) = .ok l) :
    (∃ s ∈ l, s.edge = -1) ↔
      ∀ (n : Nat) (eg : Edge α) (r : (α × α) × α × Nat), n ∈ E → edges[n]? = some eg →
        projOnTrack sqrt eps eg.geom pos.1 pos.2 = .ok r → ¬ r.2.1 < radius := by
  rcases obsStates_spec h with ⟨rfl, hnone⟩ | ⟨hne, mem⟩
  · -- nothing kept: a candidate within the radius would have contributed a state
    refine ⟨fun _ n eg r hn he hp hr => ?_, fun _ => ⟨flag pos, List.mem_singleton.mpr rfl, rfl⟩⟩
    obtain ⟨eg', r', he', hp', hnr⟩ := candStep_none (hnone n hn)
    cases he.symm.trans he'; cases hp.symm.trans hp'
    exact hnr hr
  · -- every kept state carries the number of a candidate within the radius
    constructor
    · rintro ⟨s, hs, he⟩
      obtain ⟨n, _, hn⟩ := (mem s).mp hs
      obtain ⟨_, _, _, _, _, _, _, _, _, rfl⟩ := candStep_some sqrt eps radius edges pos n s hn
      exact absurd he (by simp only; omega)
    · intro hall
      obtain ⟨s, hs⟩ := List.exists_mem_of_ne_nil l hne
      obtain ⟨n, hn, hst⟩ := (mem s).mp hs
      obtain ⟨eg, r, _, _, he, hp, hr, _⟩ := candStep_some sqrt eps radius edges pos n s hst
      exact absurd hr (hall n eg r hn he hp)

/-- T10 `front_end_sound`: `mapOnNetwork(tracks, network, …)` — a bare track or a collection, any decoder, any spatial index
attached to the network — on a network whose edge geometries carry computed `abs_curv` columns: for the `j`-th track that was
processed, the track has the same observations (count, order, positions, timestamps), `hmm_inference` has one entry per
observation, entry `k` is one of `STATES[k]` and is the flag state `(position, -1, -1, -1)` or a matched state: the number of
an existing edge, a point on the geometry stored under that number, strictly within `search_radius` of the observed position,
with distances to the two end nodes measured along that geometry that add up to its length. -/
theorem front_end_sound {sqrt : α → α} (hs : SqrtSpec sqrt) (fl : α → Int) (eps : α) (net : Net α)
    (hcurv : ∀ eg ∈ netEdges net, eg.curv = absCurv sqrt eg.geom) (dec : Decoder α) (a : Args α) (tracks : TracksArg α)
    (j : Nat) (r : ResultN α) (hr : (mapOnNetworkFront sqrt fl eps net dec a tracks).1[j]? = some r) :
    ∃ t, tracks.toList[j]? = some t ∧ r.track.obs = t.obs ∧ r.inference.length = t.obs.length ∧
      ∀ (k : Nat) (o : Obs α) (st : State α), t.obs[k]? = some o → r.inference[k]? = some st →
        (∃ l, r.states[k]? = some l ∧ st ∈ l) ∧
        (st = flag o.pos ∨ Matched sqrt a.searchRadius (netEdges net) o.pos st) := by
  rw [mapOnNetworkFront_eq] at hr
  obtain ⟨t, ht, hm⟩ := loopE_get hr
  exact ⟨t, ht, matchOne_spec hs fl eps net hcurv dec a t r hm⟩

/-- T11 `front_end_tracks_independent`: the result of the `j`-th track of a call is the result of `__mapOnNetwork` on that track
alone (`STATES` is rebuilt for each track: nothing is carried over from the other tracks of the collection); a bare `Track` is
handled as the collection of that one track; `transition_cost`, `debug`, `verbose` do not influence any result; and when the call
raises nothing, every track of the collection has been processed. -/
theorem front_end_tracks_independent (sqrt : α → α) (fl : α → Int) (eps : α) (net : Net α) (dec : Decoder α) (a : Args α) :
    (∀ (tracks : TracksArg α) (j : Nat) (r : ResultN α), (mapOnNetworkFront sqrt fl eps net dec a tracks).1[j]? = some r →
      ∃ t, tracks.toList[j]? = some t ∧ matchOne sqrt fl eps net dec a t = .ok r) ∧
    (∀ t, mapOnNetworkFront sqrt fl eps net dec a (.one t) = mapOnNetworkFront sqrt fl eps net dec a (.many [t])) ∧
    (∀ (a' : Args α) (tracks : TracksArg α), a'.gpsNoise = a.gpsNoise → a'.searchRadius = a.searchRadius →
      mapOnNetworkFront sqrt fl eps net dec a' tracks = mapOnNetworkFront sqrt fl eps net dec a tracks) ∧
    (∀ (tracks : TracksArg α), (mapOnNetworkFront sqrt fl eps net dec a tracks).2 = none →
      (mapOnNetworkFront sqrt fl eps net dec a tracks).1.length = tracks.toList.length) := by
  refine ⟨fun tracks j r h => ?_, fun t => rfl, fun a' tracks h1 h2 => ?_, fun tracks h => ?_⟩
  · rw [mapOnNetworkFront_eq] at h; exact loopE_get h
  · have hone : matchOne sqrt fl eps net dec a' = matchOne sqrt fl eps net dec a := by
      funext t; unfold matchOne; rw [h1, h2]
    rw [mapOnNetworkFront_eq, mapOnNetworkFront_eq, hone]
  · rw [mapOnNetworkFront_eq] at h ⊢; exact loopE_complete h

/-- T12 `front_end_track_preserved`: what `mapOnNetwork` changes on a track: nothing in its observations; the feature names
`obs_noise`, `hmm_inference`, `hmm_cost` are created when absent (every existing name kept, in place); the `obs_noise` column is
filled with `gps_noise` when it is created and KEEPS its content when it existed (a track matched again with another noise
value keeps the old column). -/
theorem front_end_track_preserved {sqrt : α → α} (hs : SqrtSpec sqrt) (fl : α → Int) (eps : α) (net : Net α)
    (hcurv : ∀ eg ∈ netEdges net, eg.curv = absCurv sqrt eg.geom) (dec : Decoder α) (a : Args α) (t : TrackS α)
    (r : ResultN α) (h : matchOne sqrt fl eps net dec a t = .ok r) :
    r.track.obs = t.obs ∧
    r.track.names = addName (addName (addName t.names "obs_noise") "hmm_inference") "hmm_cost" ∧
    (∀ n ∈ t.names, n ∈ r.track.names) ∧
    r.track.noise = (if t.names.contains "obs_noise" then t.noise else t.obs.map (fun _ => a.gpsNoise)) := by
  obtain ⟨_, _, _, _, rfl⟩ := matchOne_ok h
  obtain ⟨_, hnames, hnoise⟩ := withNoise_fields a t
  exact ⟨rfl, by rw [← hnames], fun n hn => mem_addName _ _ _ (mem_addName _ _ _ (hnames ▸ mem_addName _ _ _ hn)), hnoise⟩

/-- T10b `matched_on_built_network`: T10 on a network built by `addEdge` from edges made the way `NetworkReader` and the
hand-written builders make them (`computeAbsCurv` on the geometry, then `Edge`), with pairwise different ids: a matched state
names the number `n` of an edge handed to `addEdge` and is `SoundOn` the geometry `es[n]` — the geometry as it was given IS the
geometry in the network, and the abscissas used are those of that geometry. -/
theorem matched_on_built_network {sqrt : α → α} (hs : SqrtSpec sqrt) (fl : α → Int) (eps : α)
    (es : List (EdgeIn α × Node α × Node α)) (late : Nat) (res : Option (α × α)) (margin : α) (net : Net α)
    (hnd : (es.map (fun x => x.1.id)).Nodup) (hmade : ∀ x ∈ es, x.1.curv = absCurv sqrt x.1.geom)
    (hb : buildNet fl es late res margin = .ok net)
    (dec : Decoder α) (a : Args α) (tracks : TracksArg α)
    (j : Nat) (r : ResultN α) (hr : (mapOnNetworkFront sqrt fl eps net dec a tracks).1[j]? = some r) :
    ∃ t, tracks.toList[j]? = some t ∧ r.track.obs = t.obs ∧
      ∀ (k : Nat) (o : Obs α) (st : State α), t.obs[k]? = some o → r.inference[k]? = some st →
        st = flag o.pos ∨ ∃ (n : Nat) (x : EdgeIn α × Node α × Node α), st.edge = (n : Int) ∧ es[n]? = some x ∧
          SoundOn sqrt a.searchRadius x.1.geom o.pos st := by
  have hne := built_network_edges fl es late res margin net hnd hb
  obtain ⟨t, ht, h1, _, h3⟩ := front_end_sound hs fl eps net (by rw [hne]; exact List.forall_mem_map.mpr hmade) dec a tracks j r hr
  refine ⟨t, ht, h1, fun k o st hk hst => (h3 k o st hk hst).2.imp_right fun hm => ?_⟩
  rw [hne] at hm
  exact hm.of_map

/-- T13 `viterbi_inference`: with `HMM.estimate` as modelled and proved for C09 (`Viterbi.decode`) over ANY cost tables whose
numbers of states per epoch are the sizes of the candidate lists: decoding does not raise (`TV.C09.decode_succeeds`), its indices
are in range (`TV.C09.decoded_valid`), and `hmm_inference[k]` is one of `STATES[k]`. The only hypothesis on `STATES` — non-empty
lists — is what T1 / T8 prove; so T2 / T10 apply to the real decoder with no assumption on the observation and transition models. -/
theorem viterbi_inference {β : Type} [LinearOrder β] (ss : List (List (State α))) (N : Nat) (hlen : ss.length = N + 1)
    (hne : ∀ (k : Nat) (l : List (State α)), ss[k]? = some l → l ≠ [])
    (t : TV.Viterbi.Tables β) (hn : ∀ (k : Nat) (l : List (State α)), ss[k]? = some l → t.n k = l.length) :
    ∃ (r : List (Nat × β)) (inf : List (State α)), TV.Viterbi.decode t (N + 1) = .ok r ∧
      inferAll ss (r.map Prod.fst) = .ok inf ∧ inf.length = N + 1 ∧
      ∀ (k : Nat) (st : State α), inf[k]? = some st → ∃ l, ss[k]? = some l ∧ st ∈ l :=
  TV.MapMatch.viterbi_inference ss N hlen hne t hn

/-- T14 `near_edge_is_candidate`: the index of C08 as the source of the candidates. By `TV.C08.neighborhood_complete`, for an
index built by the constructor on the network's geometries (`margin ≥ 0`, positive or default cell size), an observation `q`
inside the extent and an edge number `k` with a point within distance `d` of `q`: if the unit computed by `__mapOnNetwork`
(`ceil(search_radius / min(csize, lsize))`, from the NUMBERS of cells) is the unit `groundDistanceToUnits(d)` of the index, `k`
is among the candidates of `q` — and then (T9) `q` is matched as soon as `k` projects within the radius. The code's unit is in
general another number: completeness of the candidates is not part of C10 and not claimed. -/
theorem near_edge_is_candidate {fl : α → Int} (hf : TV.Grid.IsFloor fl) (net : Net α) (res : Option (α × α)) (margin : α)
    (ix : TV.Grid.Index α) (hm : 0 ≤ margin) (hres : ∀ r, res = some r → 0 < r.1 ∧ 0 < r.2)
    (hb : TV.Grid.build fl (netFeatures net) res margin = .ok ix) (hix : net.index = some ix)
    (k : Nat) (g : List (α × α)) (hk : (netFeatures net)[k]? = some g) (A B : α × α) (hAB : (A, B) ∈ TV.Grid.Consec g)
    (s : α) (hs0 : 0 ≤ s) (hs1 : s ≤ 1) (q : α × α) (hq : TV.Grid.getCell ix q ≠ none) (d : α) (hd : 0 ≤ d)
    (hdist : (q.1 - (TV.Grid.lerp A B s).1) ^ 2 + (q.2 - (TV.Grid.lerp A B s).2) ^ 2 ≤ d ^ 2)
    (radius : α) (hu : ∀ u, TV.Grid.groundDistanceToUnits fl ix d = .ok u → searchUnit fl radius ix = .ok u) :
    ∃ l, candidatesOf fl radius net q = .ok (some l) ∧ k ∈ l :=
  TV.MapMatch.near_edge_is_candidate hf net res margin ix hm hres hb hix k g hk A B hAB s hs0 hs1 q hq d hd hdist radius hu

/-! Non-vacuity of Part II, evaluated on the model over `Rat` (`Rat.floor` for `math.floor`; `sqExact` is exact on the squares of
0..59 and answers 1000 elsewhere, so that a distance that is not rational is simply out of reach): two streets sharing node 2
whose polylines do NOT end on the same coordinates (edge 1 starts at `(8,1)`, node 2 was registered at `(8,0)` by edge 0), built
through `buildNet`, index of cell size 4 with margin 1/4, search radius 5. Observation `(3,4)` is matched on edge 0 at `(3,0)`
with along-edge distances 3 and 5 (length 8); `(14,6)` on the second segment of the 3-vertex edge 1 at `(14,5)` with distances
8 and 1 (length 9); `(3,40)`, outside the index, is flagged; the track keeps its feature `speed` and gets the three columns;
the geometry of edge 1 in the network still starts at `(8,1)` and node 2 is still at `(8,0)`. -/
def sqExact (v : Rat) : Rat :=
  match (List.range 60).find? (fun k => decide (((k : Nat) : Rat) * ((k : Nat) : Rat) = v)) with
  | some k => ((k : Nat) : Rat)
  | none => 1000

def demoEdges : List (EdgeIn Rat × Node Rat × Node Rat) :=
  [(readerEdge sqExact 7 [(0, 0), (8, 0)] 0 8, ⟨1, (0, 0)⟩, ⟨2, (8, 0)⟩),
   (readerEdge sqExact 3 [(8, 1), (11, 5), (15, 5)] 1 9, ⟨2, (8, 1)⟩, ⟨5, (15, 5)⟩)]

def demoArgs : Args Rat := ⟨2, 10, 5, false, false⟩

example : (match buildNet Rat.floor demoEdges 0 (some (4, 4)) (1/4) with
    | .ok net =>
      decide ((netEdges net).map (·.geom) = [[(0, 0), (8, 0)], [(8, 1), (11, 5), (15, 5)]] ∧
              (netEdges net).map (·.curv) = [[0, 8], [0, 5, 9]] ∧
              (lookupNode net 2).map (·.coord) = some (8, 0)) &&
      (match mapOnNetworkFront sqExact Rat.floor 1 net (fun _ _ ss => ss.map (fun _ => 0)) demoArgs
          (.many [⟨[⟨(3, 4), 0⟩, ⟨(14, 6), 1⟩, ⟨(3, 40), 2⟩], ["speed"], []⟩]) with
       | ([r], none) =>
         (match r.inference with
          | [s0, s1, s2] =>
            decide (s0.p = (3, 0) ∧ s0.edge = 0 ∧ s0.d0 = 3 ∧ s0.d1 = 5 ∧
                    s1.p = (14, 5) ∧ s1.edge = 1 ∧ s1.d0 = 8 ∧ s1.d1 = 1 ∧
                    s2.p = (3, 40) ∧ s2.edge = -1) &&
            decide (r.track.names = ["speed", "obs_noise", "hmm_inference", "hmm_cost"] ∧ r.track.noise = [2, 2, 2] ∧
                    r.track.obs.map (·.pos) = [(3, 4), (14, 6), (3, 40)])
          | _ => false)
       | _ => false)
    | .error _ => false) = true := by decide +kernel

/-- the same two streets in the other order with the index attached BEFORE the second `addEdge` (which then registers the edge in
the index itself): same geometries by number, and `(7,2)` has a candidate on the late edge (number 1) at `(7,0)` -/
example : (match buildNet Rat.floor demoEdges.reverse 1 (some (4, 4)) 2 with
    | .ok net =>
      decide ((netEdges net).map (·.geom) = [[(8, 1), (11, 5), (15, 5)], [(0, 0), (8, 0)]]) &&
      (match mapOnNetworkFront sqExact Rat.floor 1 net (fun _ _ ss => ss.map (fun _ => 0)) demoArgs
          (.one ⟨[⟨(7, 2), 1⟩], [], []⟩) with
       | ([r], none) => r.states.any (fun l => l.any (fun s => decide (s.edge = 1 ∧ s.p = (7, 0) ∧ s.d0 = 7 ∧ s.d1 = 1)))
       | _ => false)
    | .error _ => false) = true := by decide +kernel

/-- T15 `abs_curv_planimetric`: `computeAbsCurv` on an edge geometry with altitudes (`ds` = `distance2DTo`, then `INTEGRATOR`) is
`computeAbsCurv` on its planimetric vertices: two geometries with the same `(x, y)` have the same column whatever their altitudes;
`abs_curv[i]` is the PLANIMETRIC length of the geometry up to vertex `i`, the last value is the planimetric length of the edge. -/
theorem abs_curv_planimetric (sqrt : α → α) (g : List (P3 α)) :
    absCurv3 sqrt g = absCurv sqrt (g.map xy) ∧
    (∀ g' : List (P3 α), g'.map xy = g.map xy → absCurv3 sqrt g' = absCurv3 sqrt g) ∧
    (∀ i, i < g.length → (absCurv3 sqrt g)[i]? = some (polyLength sqrt ((g.map xy).take (i + 1)))) ∧
    (g ≠ [] → (absCurv3 sqrt g)[g.length - 1]? = some (polyLength3 sqrt g)) := by
  refine ⟨absCurv3_eq sqrt g, fun g' h => by rw [absCurv3_eq, absCurv3_eq, h], ?_, ?_⟩
  · intro i hi
    rw [absCurv3_eq]
    exact absCurv_take sqrt (g.map xy) i (by rwa [List.length_map])
  · intro hg
    rw [absCurv3_eq]
    have := absCurv_last sqrt (g.map xy) fun h => hg (List.map_eq_nil_iff.mp h)
    rwa [List.length_map] at this

/-- T16 `weight_is_3d_length`: the edge made by `NetworkReader` (no weight column) / by the hand-written builders carries the
computed `abs_curv` column and the weight `Track.length()`, which is the 3D length: at least the planimetric length that the
along-edge distances of a matched state add up to, and equal to it when all vertices of the edge have the same altitude. -/
theorem weight_is_3d_length {sqrt : α → α} (hs : SqrtSpec sqrt) (id : Nat) (g : List (P3 α)) (o : Int) :
    (readerEdge3 sqrt id g o).curv = absCurv3 sqrt g ∧ (readerEdge3 sqrt id g o).geom = g ∧
    (readerEdge3 sqrt id g o).weight = trackLength3D sqrt g ∧
    polyLength3 sqrt g ≤ trackLength3D sqrt g ∧
    (∀ c, (∀ p ∈ g, p.2.2 = c) → trackLength3D sqrt g = polyLength3 sqrt g) := by
  refine ⟨rfl, rfl, rfl, ?_, ?_⟩
  · cases g with
    | nil => exact le_refl _
    | cons p rest => exact polyLengthFrom_le_trackLengthFrom hs rest 0 0 p (le_refl _)
  · intro c hc
    cases g with
    | nil => rfl
    | cons p rest =>
      exact polyLengthFrom_eq_trackLengthFrom sqrt c rest 0 p (hc p (by simp)) (fun q hq => hc q (List.mem_cons_of_mem _ hq))

/-- T17 `states_flag_or_matched_3d` (T8 with altitudes): on edges whose `abs_curv` columns are the computed ones, `STATES[i]` — for
any answer of the index — is the flag state alone, `(position, -1, -1, -1)` with the observation's OWN 3D position, or a
non-empty list of matched states: the assigned point has `U = 0` and, in the plane, lies on a segment of the geometry stored
under an existing edge number, strictly within the radius of the (planimetric) observed position, with the PLANIMETRIC
along-edge distances to the two end nodes, which add up to the planimetric length of that geometry. -/
theorem states_flag_or_matched_3d {sqrt : α → α} (hs : SqrtSpec sqrt) (eps radius : α) (edges : List (Edge3 α))
    (hcurv : ∀ eg ∈ edges, eg.curv = absCurv3 sqrt eg.geom) (pos : P3 α)
    (cand : Option (List Nat)) (l : List (State3 α)) (h : obsStates3 sqrt eps radius edges pos cand = .ok l) :
    l = [flag3 pos] ∨ (l ≠ [] ∧ ∀ s ∈ l, s.p.2.2 = 0 ∧
      ∃ (n : Nat) (eg : Edge3 α), s.edge = (n : Int) ∧ edges[n]? = some eg ∧
        SoundOn sqrt radius (eg.geom.map xy) (xy pos) (flatS s) ∧ s.d0 + s.d1 = polyLength3 sqrt eg.geom) :=
  (obsStates3_matched hs eps radius edges hcurv pos cand l h).imp_right fun ⟨hne, hall⟩ => ⟨hne, fun s hsm => by
    obtain ⟨hz, hm⟩ := hall s hsm
    obtain ⟨n, e3, hn, he, hso⟩ := hm.of_map
    exact ⟨hz, n, e3, hn, he, hso, hso.sum⟩⟩

/-- T18 `altitudes_irrelevant`: (a) building a network with altitudes and then forgetting them gives the network built from the
planimetric data: same edge numbers, same `abs_curv` columns, the same spatial index, the same exceptions; (b) `STATES` of a
track with altitudes on a network with altitudes, the altitudes of the assigned points forgotten, is `STATES` of the planimetric
track on the planimetric network, exceptions included: no altitude influences a candidate, an assigned point or a distance. -/
theorem altitudes_irrelevant (sqrt : α → α) (fl : α → Int) (eps radius : α) :
    (∀ (es : List (EdgeIn3 α × Node3 α × Node3 α)) (late : Nat) (res : Option (α × α)) (margin : α),
      (buildNet3 fl es late res margin).map flatNet =
        buildNet fl (es.map (fun x => (flatEI x.1, flatNode x.2.1, flatNode x.2.2))) late res margin) ∧
    (∀ (net : Net3 α) (track : List (Obs3 α)),
      (allStatesNet3 sqrt fl eps radius net track).map (List.map (List.map flatS)) =
        allStatesNet sqrt fl eps radius (flatNet net) (track.map flatO)) :=
  ⟨fun es late res margin => buildNet3_flat fl es late res margin,
   fun net track => allStatesNet3_flat sqrt fl eps radius net track⟩

/-- T19 `front_end_sound_3d` (T10 and T12 with altitudes): `mapOnNetwork(tracks, network, …)` on a network with altitudes whose
edge geometries carry computed `abs_curv` columns — a bare track or a collection, any decoder, any index: the `j`-th track
processed keeps its observations (count, order, 3D positions, timestamps), gets the three columns, and every `hmm_inference`
entry is one of `STATES[k]` and is the flag state with the observation's own 3D position, or a matched state (T17): `U = 0`,
on the planimetric geometry stored under an existing edge number, strictly within `search_radius`, with planimetric along-edge
distances that add up to the planimetric length of that geometry. -/
theorem front_end_sound_3d {sqrt : α → α} (hs : SqrtSpec sqrt) (fl : α → Int) (eps : α) (net : Net3 α)
    (hcurv : ∀ eg ∈ netEdges3 net, eg.curv = absCurv3 sqrt eg.geom) (dec : Decoder3 α) (a : Args α) (tracks : TracksArg3 α)
    (j : Nat) (r : ResultN3 α) (hr : (mapOnNetworkFront3 sqrt fl eps net dec a tracks).1[j]? = some r) :
    ∃ t, tracks.toList[j]? = some t ∧ r.track.obs = t.obs ∧ r.inference.length = t.obs.length ∧
      r.track.names = addName (addName (addName t.names "obs_noise") "hmm_inference") "hmm_cost" ∧
      r.track.noise = (if t.names.contains "obs_noise" then t.noise else t.obs.map (fun _ => a.gpsNoise)) ∧
      ∀ (k : Nat) (o : Obs3 α) (st : State3 α), t.obs[k]? = some o → r.inference[k]? = some st →
        (∃ l, r.states[k]? = some l ∧ st ∈ l) ∧
        (st = flag3 o.pos ∨ (st.p.2.2 = 0 ∧ Matched sqrt a.searchRadius ((netEdges3 net).map flatE) (xy o.pos) (flatS st))) := by
  rw [mapOnNetworkFront3_eq] at hr
  obtain ⟨t, ht, hm⟩ := loopE_get hr
  refine ⟨t, ht, ?_⟩
  revert hm
  fun_cases matchOne3 sqrt fl eps net dec a t
  case case4 _ t1 states hst inf hinf =>
    rintro ⟨⟩
    -- the track the call works on (its `obs_noise` column created when absent) has the observations of `t`
    have hobs : t1.obs = t.obs := by simp only [t1]; split <;> rfl
    rw [hobs] at hst
    obtain ⟨len, f⟩ := allStatesNet_matched3 hs fl eps a.searchRadius net hcurv t.obs states hst
    obtain ⟨len2, g⟩ := inferAll3_mem states _ _ hinf
    refine ⟨?_, len2.trans len, ?_, ?_, fun k o st hk hst' => ?_⟩
    · simp only [hobs]
      exact newPositions3_id 1 rfl t.obs inf
    · by_cases hc : t.names.contains "obs_noise" = true <;> simp only [t1, addName, hc, ↓reduceIte, Bool.false_eq_true]
    · simp only [t1]
      split <;> rfl
    · obtain ⟨l, hl, hm⟩ := g k st hst'
      refine ⟨⟨l, hl, hm⟩, ?_⟩
      rcases f k o l hk hl with hfl | ⟨_, hall⟩
      · rw [hfl] at hm; exact Or.inl (List.mem_singleton.mp hm)
      · exact Or.inr (hall st hm)
  all_goals nofun

/-- T19b `front_end_tracks_independent_3d` (T11 with altitudes): the result of the `j`-th track is the result of `__mapOnNetwork` on
that track alone; a bare `Track` is the collection of that one track; `transition_cost`, `debug`, `verbose` influence nothing;
when nothing is raised every track has been processed. -/
theorem front_end_tracks_independent_3d (sqrt : α → α) (fl : α → Int) (eps : α) (net : Net3 α) (dec : Decoder3 α) (a : Args α) :
    (∀ (tracks : TracksArg3 α) (j : Nat) (r : ResultN3 α), (mapOnNetworkFront3 sqrt fl eps net dec a tracks).1[j]? = some r →
      ∃ t, tracks.toList[j]? = some t ∧ matchOne3 sqrt fl eps net dec a t = .ok r) ∧
    (∀ t, mapOnNetworkFront3 sqrt fl eps net dec a (.one t) = mapOnNetworkFront3 sqrt fl eps net dec a (.many [t])) ∧
    (∀ (a' : Args α) (tracks : TracksArg3 α), a'.gpsNoise = a.gpsNoise → a'.searchRadius = a.searchRadius →
      mapOnNetworkFront3 sqrt fl eps net dec a' tracks = mapOnNetworkFront3 sqrt fl eps net dec a tracks) ∧
    (∀ (tracks : TracksArg3 α), (mapOnNetworkFront3 sqrt fl eps net dec a tracks).2 = none →
      (mapOnNetworkFront3 sqrt fl eps net dec a tracks).1.length = tracks.toList.length) := by
  refine ⟨fun tracks j r h => ?_, fun t => rfl, fun a' tracks h1 h2 => ?_, fun tracks h => ?_⟩
  · rw [mapOnNetworkFront3_eq] at h; exact loopE_get h
  · have hone : matchOne3 sqrt fl eps net dec a' = matchOne3 sqrt fl eps net dec a := by
      funext t; unfold matchOne3; rw [h1, h2]
    rw [mapOnNetworkFront3_eq, mapOnNetworkFront3_eq, hone]
  · rw [mapOnNetworkFront3_eq] at h ⊢; exact loopE_complete h

/-- T20 `matched_on_built_network_3d` (T7 and T10b with altitudes): a network built by `addEdge` from edges made the way
`NetworkReader` makes them from `LINESTRING(x y z, …)` (`computeAbsCurv`, then `Edge`), with pairwise different ids, stores under
edge number `n` the `n`-th geometry handed over WITH ITS ALTITUDES, unchanged; and a matched state names the number `n` of an edge
handed over, has `U = 0` and is `SoundOn` the planimetric vertices of THAT geometry, its two distances adding up to its
planimetric length. -/
theorem matched_on_built_network_3d {sqrt : α → α} (hs : SqrtSpec sqrt) (fl : α → Int) (eps : α)
    (es : List (EdgeIn3 α × Node3 α × Node3 α)) (late : Nat) (res : Option (α × α)) (margin : α) (net : Net3 α)
    (hnd : (es.map (fun x => x.1.id)).Nodup) (hmade : ∀ x ∈ es, x.1.curv = absCurv3 sqrt x.1.geom)
    (hb : buildNet3 fl es late res margin = .ok net)
    (dec : Decoder3 α) (a : Args α) (tracks : TracksArg3 α)
    (j : Nat) (r : ResultN3 α) (hr : (mapOnNetworkFront3 sqrt fl eps net dec a tracks).1[j]? = some r) :
    netEdges3 net = es.map (fun x => (⟨x.1.geom, x.1.curv⟩ : Edge3 α)) ∧
    ∃ t, tracks.toList[j]? = some t ∧ r.track.obs = t.obs ∧
      ∀ (k : Nat) (o : Obs3 α) (st : State3 α), t.obs[k]? = some o → r.inference[k]? = some st →
        st = flag3 o.pos ∨ (st.p.2.2 = 0 ∧ ∃ (n : Nat) (x : EdgeIn3 α × Node3 α × Node3 α), st.edge = (n : Int) ∧ es[n]? = some x ∧
          SoundOn sqrt a.searchRadius (x.1.geom.map xy) (xy o.pos) (flatS st) ∧
          st.d0 + st.d1 = polyLength3 sqrt x.1.geom) := by
  have hne := buildNet_edges3 fl es late res margin net hnd hb
  obtain ⟨t, ht, h1, _, _, _, h3⟩ := front_end_sound_3d hs fl eps net
    (by rw [hne]; exact List.forall_mem_map.mpr hmade) dec a tracks j r hr
  refine ⟨hne, t, ht, h1, fun k o st hk hst => (h3 k o st hk hst).2.imp_right fun ⟨hz, hm⟩ => ?_⟩
  rw [hne, List.map_map] at hm
  obtain ⟨n, x, hn, hx, hso⟩ := hm.of_map
  exact ⟨hz, n, x, hn, hx, hso, hso.sum⟩

/-- T21 `near_edge_is_candidate_3d` (T14 with altitudes): the index of C08 reads `getX()`, `getY()` only; for an index built by
the constructor on the network's geometries, an observation whose planimetric position is inside the extent and an edge number
`k` with a planimetric point within distance `d` of it: `k` is among the candidates whenever the unit computed by
`__mapOnNetwork` is `groundDistanceToUnits(d)` — whatever the altitudes of the edge and of the observation. -/
theorem near_edge_is_candidate_3d {fl : α → Int} (hf : TV.Grid.IsFloor fl) (net : Net3 α) (res : Option (α × α)) (margin : α)
    (ix : TV.Grid.Index α) (hm : 0 ≤ margin) (hres : ∀ r, res = some r → 0 < r.1 ∧ 0 < r.2)
    (hb : TV.Grid.build fl (netFeatures3 net) res margin = .ok ix) (hix : net.index = some ix)
    (k : Nat) (g : List (α × α)) (hk : (netFeatures3 net)[k]? = some g) (A B : α × α) (hAB : (A, B) ∈ TV.Grid.Consec g)
    (s : α) (hs0 : 0 ≤ s) (hs1 : s ≤ 1) (q : P3 α) (hq : TV.Grid.getCell ix (xy q) ≠ none) (d : α) (hd : 0 ≤ d)
    (hdist : ((xy q).1 - (TV.Grid.lerp A B s).1) ^ 2 + ((xy q).2 - (TV.Grid.lerp A B s).2) ^ 2 ≤ d ^ 2)
    (radius : α) (hu : ∀ u, TV.Grid.groundDistanceToUnits fl ix d = .ok u → searchUnit fl radius ix = .ok u) :
    ∃ l, candidatesOf3 fl radius net q = .ok (some l) ∧ k ∈ l := by
  rw [candidatesOf3_flat]
  exact TV.MapMatch.near_edge_is_candidate hf (flatNet net) res margin ix hm hres (by rw [netFeatures3_flat]; exact hb) hix k g
    (by rw [netFeatures3_flat]; exact hk) A B hAB s hs0 hs1 (xy q) hq d hd hdist radius hu

/-! Non-vacuity of Part IV, evaluated on the model over `Rat`: a road over a hill, `(0,0,0) → (6,8,24) → (12,16,0)` (two
segments of planimetric length 10 and 3D length 26), built through `readerEdge3` / `buildNet3` with an index of cell size 4 and
margin 1/4; search radius 6. The observation `(7,1)` at altitude 100 is matched at `(3,4)` with `U = 0`, along-edge distances
5 and 15: they add up to the PLANIMETRIC length 20 of the edge, whose `abs_curv` column is `[0, 10, 20]` and whose weight
(`Track.length()`) is 52; `(3,40)` at altitude 7, outside the index, is flagged with its own position `(3,40,7)`; the track
keeps its 3D positions; the geometry in the network still has its altitudes. -/
def demoHill : List (EdgeIn3 Rat × Node3 Rat × Node3 Rat) :=
  [(readerEdge3 sqExact 7 [(0, 0, 0), (6, 8, 24), (12, 16, 0)] 0, ⟨1, (0, 0, 0)⟩, ⟨2, (12, 16, 0)⟩)]

example : (match buildNet3 Rat.floor demoHill 0 (some (4, 4)) (1/4) with
    | .ok net =>
      decide ((netEdges3 net).map (·.geom) = [[(0, 0, 0), (6, 8, 24), (12, 16, 0)]] ∧
              (netEdges3 net).map (·.curv) = [[0, 10, 20]] ∧
              net.edges.map (·.e.weight) = [52]) &&
      (match mapOnNetworkFront3 sqExact Rat.floor 1 net (fun _ _ ss => ss.map (fun _ => 0)) ⟨2, 10, 6, false, false⟩
          (.one ⟨[⟨(7, 1, 100), 0⟩, ⟨(3, 40, 7), 1⟩], [], []⟩) with
       | ([r], none) =>
         (match r.inference with
          | [s0, s1] =>
            decide (s0.p = (3, 4, 0) ∧ s0.edge = 0 ∧ s0.d0 = 5 ∧ s0.d1 = 15 ∧
                    s1.p = (3, 40, 7) ∧ s1.edge = -1 ∧ s1.d0 = -1) &&
            decide (r.track.obs.map (·.pos) = [(7, 1, 100), (3, 40, 7)] ∧
                    r.track.names = ["obs_noise", "hmm_inference", "hmm_cost"])
          | _ => false)
       | _ => false)
    | .error _ => false) = true := by decide +kernel

/-- T22 `returns_on_regular_geometries`: the exceptions of the candidate loop are the `ZeroDivisionError` of the projection on a
kept vertical segment (finding D16, class `vertical-segment-zerodiv`) and the `IndexError` on a geometry with fewer than two
vertices (`Xp[0]` / `abs_curv[i + 1]`). A geometry ALL of whose segments are skipped (all vertices coincide) is no longer one of
them: since the `fix:` commit 563eeba `proj_polyligne` answers with its first vertex and the edge is an ordinary candidate
(the former class `zero-length-edge-unbound`; `zero_length_edge_candidate` below). On edges with computed `abs_curv` columns
whose geometries have no kept vertical segment and at least two vertices (`GoodGeom`), for candidate lists made of existing
edge numbers and a decoder answering in-range indices (T2b / T2c / T13: the Viterbi decoder does), `__mapOnNetwork` returns: no
`ZeroDivisionError`, no `KeyError` / `IndexError`. -/
theorem returns_on_regular_geometries {sqrt : α → α} (hs : SqrtSpec sqrt) (eps radius : α) (edges : List (Edge α))
    (hcurv : ∀ eg ∈ edges, eg.curv = absCurv sqrt eg.geom) (hgood : ∀ eg ∈ edges, GoodGeom eps eg.geom) (mode : Nat)
    (decode : List (List (State α)) → List Nat) (track : List (Obs α)) (names : List String)
    (cands : List (Option (List Nat))) (hc : ∀ c ∈ cands, ∀ E, c = some E → ∀ n ∈ E, n < edges.length)
    (hdec : ∀ ss, allStates sqrt eps radius edges track cands = .ok ss →
      ∀ (k : Nat) (l : List (State α)), ss[k]? = some l → (decode ss)[k]?.getD 0 < l.length) :
    ∃ res, mapOnNetwork sqrt eps radius edges mode decode track names cands = .ok res := by
  obtain ⟨ss, hss⟩ := allStates_total hs eps radius edges hcurv hgood track cands hc
  obtain ⟨inf, hinf⟩ := inferAll_total ss (decode ss) (hdec ss hss)
  unfold mapOnNetwork
  rw [hss]
  simp only [hinf]
  exact ⟨_, rfl⟩

/-- T23 `states_returned_3d`: T22 for the preparation of `STATES[i]` on data with altitudes: whether the projection can raise is
decided by the PLANIMETRIC geometry alone (an edge that is vertical in space — same `(x, y)`, different altitudes — is a
zero-length edge for map-matching). -/
theorem states_returned_3d {sqrt : α → α} (hs : SqrtSpec sqrt) (eps radius : α) (edges : List (Edge3 α))
    (hcurv : ∀ eg ∈ edges, eg.curv = absCurv3 sqrt eg.geom) (hgood : ∀ eg ∈ edges, GoodGeom eps (eg.geom.map xy))
    (pos : P3 α) (cand : Option (List Nat)) (hc : ∀ E, cand = some E → ∀ n ∈ E, n < edges.length) :
    ∃ l, obsStates3 sqrt eps radius edges pos cand = .ok l := by
  obtain ⟨l, hl⟩ := obsStates_total hs eps radius (edges.map flatE) (flatE_curv hcurv)
    (List.forall_mem_map.mpr hgood) (xy pos) cand (by simpa using hc)
  exact (ok_of_map_ok ((obsStates3_flat sqrt eps radius edges pos cand).trans hl)).imp fun _ => And.left

/-- T24 `candidates_are_edge_numbers`: on a network built by `addEdge` calls with pairwise different edge ids (index attached
before or after the last edges) every number the spatial index answers for an observation is the number of an existing edge:
the grid only ever stores feature numbers handed to `addFeature` — by the constructor (`0 … size-1`) or by `addEdge`
(`getNumberOfEdges() - 1`) —, so `EDGES[getEdgeId(elem)]` in the candidate loop raises neither `IndexError` nor `KeyError`. -/
theorem candidates_are_edge_numbers (fl : α → Int) (es : List (EdgeIn α × Node α × Node α)) (late : Nat) (res : Option (α × α))
    (margin : α) (net : Net α) (hnd : (es.map (fun x => x.1.id)).Nodup) (h : buildNet fl es late res margin = .ok net)
    (radius : α) (pos : α × α) (E : List Nat) (hc : candidatesOf fl radius net pos = .ok (some E)) :
    ∀ n ∈ E, n < (netEdges net).length ∧ ∃ eg, (netEdges net)[n]? = some eg := by
  intro n hn
  have hlt := candidates_exist fl es late res margin net hnd h radius pos E hc n hn
  exact ⟨hlt, _, List.getElem?_eq_getElem hlt⟩

/-- T25 `states_returned_on_built_network`: on a network built from `computeAbsCurv`-made edges with pairwise different ids whose
geometries are regular (`GoodGeom`: no kept vertical segment, at least two vertices — all of them may coincide), the preparation of `STATES` for a whole
track returns unless the index query itself raises (C08's subject; it does not for an observation inside or outside the extent
of an index built by the constructor): no `ZeroDivisionError` of the projection, no `KeyError` /
`IndexError` on an edge number. With T2b / T13 (in-range decoder) the whole `__mapOnNetwork` returns. -/
theorem states_returned_on_built_network {sqrt : α → α} (hs : SqrtSpec sqrt) (fl : α → Int) (eps radius : α)
    (es : List (EdgeIn α × Node α × Node α)) (late : Nat) (res : Option (α × α)) (margin : α) (net : Net α)
    (hnd : (es.map (fun x => x.1.id)).Nodup) (hmade : ∀ x ∈ es, x.1.curv = absCurv sqrt x.1.geom)
    (hgood : ∀ x ∈ es, GoodGeom eps x.1.geom) (hb : buildNet fl es late res margin = .ok net)
    (track : List (Obs α)) (hidx : ∀ o ∈ track, ∃ c, candidatesOf fl radius net o.pos = .ok c) :
    ∃ ss, allStatesNet sqrt fl eps radius net track = .ok ss := by
  have hne := buildNet_edges fl es late res margin net hnd hb
  rw [allStatesNet_eq]
  refine travE_total fun o ho => ?_
  obtain ⟨c, hc⟩ := hidx o ho
  obtain ⟨l, hl⟩ := obsStates_total hs eps radius (netEdges net) (by rw [hne]; exact List.forall_mem_map.mpr hmade)
    (by rw [hne]; exact List.forall_mem_map.mpr hgood) o.pos c
    (fun E hE => by subst hE; exact candidates_exist fl es late res margin net hnd hb radius o.pos E hc)
  exact ⟨l, by unfold obsStatesNet; rw [hc]; dsimp only; rw [hl]⟩

/-- T25b `states_returned_on_built_network_3d`: T25 with altitudes — regularity is that of the planimetric geometries. -/
theorem states_returned_on_built_network_3d {sqrt : α → α} (hs : SqrtSpec sqrt) (fl : α → Int) (eps radius : α)
    (es : List (EdgeIn3 α × Node3 α × Node3 α)) (late : Nat) (res : Option (α × α)) (margin : α) (net : Net3 α)
    (hnd : (es.map (fun x => x.1.id)).Nodup) (hmade : ∀ x ∈ es, x.1.curv = absCurv3 sqrt x.1.geom)
    (hgood : ∀ x ∈ es, GoodGeom eps (x.1.geom.map xy)) (hb : buildNet3 fl es late res margin = .ok net)
    (track : List (Obs3 α)) (hidx : ∀ o ∈ track, ∃ c, candidatesOf3 fl radius net o.pos = .ok c) :
    ∃ ss, allStatesNet3 sqrt fl eps radius net track = .ok ss := by
  obtain ⟨ss, hss⟩ := states_returned_on_built_network hs fl eps radius
    (es.map fun x => (flatEI x.1, flatNode x.2.1, flatNode x.2.2)) late res margin (flatNet net)
    (by rw [List.map_map]; exact hnd)
    (List.forall_mem_map.mpr fun y hy =>
      show (flatEI y.1).curv = absCurv sqrt (flatEI y.1).geom from (hmade y hy).trans (absCurv3_eq sqrt y.1.geom))
    (List.forall_mem_map.mpr fun y hy => show GoodGeom eps (flatEI y.1).geom from hgood y hy)
    (by rw [← buildNet3_flat, hb]; rfl) (track.map flatO)
    (List.forall_mem_map.mpr fun o3 ho3 => (hidx o3 ho3).imp fun c hc => by rw [← hc, candidatesOf3_flat]; rfl)
  exact (ok_of_map_ok ((allStatesNet3_flat sqrt fl eps radius net track).trans hss)).imp fun _ => And.left

/-- non-vacuity: the oblique 3-vertex geometry of `demoEdges` is `GoodGeom` (with the driver's threshold replaced by 1) -/
example : GoodGeom (1 : Rat) [(8, 1), (11, 5), (15, 5)] := by
  refine ⟨?_, by decide⟩
  intro j p1 p2 h1 h2 _
  match j with
  | 0 => simp at h1 h2; subst h1 h2; decide +kernel
  | 1 => simp at h1 h2; subst h1 h2; decide +kernel
  | (j + 2) => simp at h2

/-- T22b `zero_length_edge_candidate` (the input of the former class `zero-length-edge-unbound`, repaired by the `fix:` commit
563eeba): a candidate edge whose two vertices coincide, built by `computeAbsCurv`, is an ORDINARY candidate: the candidate
loop raises nothing; the edge yields a state exactly when the vertex is strictly within the radius of the observation, and
that state is `(the vertex, the edge number, 0, 0)` — position on the (point-like) geometry, both along-edge distances `0`,
adding up to the edge length `0`. (Geometries of more vertices, all coinciding: the general theorems — T1 … through
`TV.C20.proj_polyline_on` — and the evaluated example below.) -/
theorem zero_length_edge_candidate {sqrt : α → α} (hs : SqrtSpec sqrt) (eps radius : α) (heps : 0 < eps)
    (edges : List (Edge α)) (pos : α × α) (elem : Nat) (v : α × α) (acc : List (State α))
    (he : edges[elem]? = some (mkEdge sqrt [v, v])) :
    candLoop sqrt eps radius edges pos [elem] acc =
      .ok (if sqrt (d2 pos.1 pos.2 v.1 v.2) < radius then acc ++ [⟨v, (elem : Int), 0, 0⟩] else acc) := by
  have hsk : skipped eps v.1 v.2 v.1 v.2 = true := by
    simp only [skipped, fabs, sub_self, lt_irrefl, ↓reduceIte, add_zero, heps, decide_true]
  have hp : projOnTrack sqrt eps [v, v] pos.1 pos.2 = .ok ((v.1, v.2), sqrt (d2 pos.1 pos.2 v.1 v.2), 0) := by
    unfold projOnTrack projPolyligne
    simp only [polyLoop, hsk, ↓reduceIte]
    rfl
  -- the segment has length `sqrt 0`: so have the abscissa of the second vertex and the distances from the vertices to the point
  have h0 : dist2D sqrt v v = 0 := by
    unfold dist2D; rw [sub_self, sub_self, mul_zero, add_zero]; exact sqrt_zero hs
  have hcurv : absCurv sqrt [v, v] = [0, 0] := by
    simp only [absCurv, curvFrom, h0, add_zero]
  simp only [candLoop, he, mkEdge, hp, hcurv]
  split
  · simp only [distToNode, List.getElem?_cons_zero, List.getElem?_cons_succ, List.length_cons, List.length_nil, ↓reduceIte,
      h0, add_zero, sub_self, one_ne_zero, Nat.reduceAdd, Nat.add_one_sub_one]
  · rfl

/-- evaluated on the model (`eps = 1`, `sqrt` by table): the edge `(4,3),(4,3),(4,3)` (three coinciding vertices) as candidate
`0` of an observation at `(0,0)` with radius 6 gives the state `((4,3), 0, 0, 0)`; with radius 5 (the vertex is AT the radius)
no state; an edge with an EMPTY geometry raises `IndexError` -/
example : (match candLoop TV.C20.sqTable 1 6 [mkEdge TV.C20.sqTable [(4, 3), (4, 3), (4, 3)]] (0, 0) [0] [] with
      | .ok [s] => s.p == (4, 3) && s.edge == 0 && s.d0 == 0 && s.d1 == 0 | _ => false) = true
    ∧ (match candLoop TV.C20.sqTable 1 5 [mkEdge TV.C20.sqTable [(4, 3), (4, 3), (4, 3)]] (0, 0) [0] [] with
      | .ok [] => true | _ => false) = true
    ∧ (match candLoop TV.C20.sqTable 1 5 [mkEdge TV.C20.sqTable []] (0, 0) [0] [] with
      | .error (.proj .index) => true | _ => false) = true := by decide +kernel

/-- T26 `order_and_stamps_kept`: `__mapOnNetwork` on ONE track, for every network (no hypothesis on its geometries or abscissa
columns), every decoder, every argument and EVERY assignment of time stamps to the observations (reverse-chronological storage,
equal stamps, no time information: all stamps equal): when the call returns, the track holds the same observations in the same
order — positions and time stamps. (T12 states it under the hypotheses needed for its other clauses; this is the clause of the
property "the track keeps the same observations in the same order with unchanged positions and timestamps" on its own.) -/
theorem order_and_stamps_kept (sqrt : α → α) (fl : α → Int) (eps : α) (net : Net α) (dec : Decoder α) (a : Args α)
    (t : TrackS α) (r : ResultN α) (h : matchOne sqrt fl eps net dec a t = .ok r) :
    r.track.obs = t.obs ∧ r.track.obs.map (·.t) = t.obs.map (·.t) ∧ r.track.obs.map (·.pos) = t.obs.map (·.pos) := by
  obtain ⟨_, _, _, _, rfl⟩ := matchOne_ok h
  exact ⟨rfl, rfl, rfl⟩

/-- T27 `time_stamps_never_read`: two tracks that differ by their time stamps only (same positions in the same order, same
feature names, same `obs_noise` column) get the same `STATES`, the same `hmm_inference` column, the same feature names and
`obs_noise` column, or the same exception — provided the decoder reads, of the track, the positions, the names and the
`obs_noise` column only (`Decoder.TimeBlind`; `HMM.estimate` is called with `MODE_OBS_AS_2D_POSITIONS`, `__obs_log` reads
`obs_noise` and the position, `__tst_log` the states). In particular the result on a track stored in any order is the result on
the same list of positions stamped chronologically: nothing needs sorting, and by T26 nothing is sorted. The preparation of
`STATES` (first conjunct) needs no hypothesis on the decoder. -/
theorem time_stamps_never_read (sqrt : α → α) (fl : α → Int) (eps : α) (net : Net α) (a : Args α) (t t' : TrackS α)
    (hpos : t.obs.map (·.pos) = t'.obs.map (·.pos)) :
    allStatesNet sqrt fl eps a.searchRadius net t.obs = allStatesNet sqrt fl eps a.searchRadius net t'.obs ∧
    ∀ (dec : Decoder α), Decoder.TimeBlind dec → t.names = t'.names → t.noise = t'.noise →
      (matchOne sqrt fl eps net dec a t).map ResultN.view = (matchOne sqrt fl eps net dec a t').map ResultN.view :=
  ⟨allStatesNet_pos_only sqrt fl eps a.searchRadius net t.obs t'.obs hpos,
   fun dec hdec hn hz => matchOne_time_blind sqrt fl eps net dec hdec a t t' hpos hn hz⟩

/-- non-vacuity of T27: a track stored in reverse chronological order with a tie, and the same positions stamped 1, 2, 3 -/
example : ([⟨(0, 0), 20⟩, ⟨(1, 0), 20⟩, ⟨(2, 5), 10⟩] : List (Obs Rat)).map (·.pos)
    = ([⟨(0, 0), 1⟩, ⟨(1, 0), 2⟩, ⟨(2, 5), 3⟩] : List (Obs Rat)).map (·.pos) := rfl

/-- non-vacuity of `Decoder.TimeBlind`: every decoder computed from the network, the positions, the feature names, the
`obs_noise` column and `STATES` is time-blind -/
example (f : Net α → List (α × α) → List String → List α → List (List (State α)) → List Nat) :
    Decoder.TimeBlind (fun net u st => f net (u.obs.map (·.pos)) u.names u.noise st) := by
  intro net u u' st h1 h2 h3
  simp only [h1, h2, h3]

end TV.C10
