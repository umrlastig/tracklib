import TracklibVerif.Lemmas.GraphBack
import TracklibVerif.Lemmas.GraphPathExt
import TracklibVerif.Lemmas.GraphMut
import TracklibVerif.Lemmas.GraphR4
import Mathlib.Algebra.Order.Group.Int
/-! # C07 — a returned shortest path is a real, optimal, geometrically continuous route

Property theorems only (helper lemmas: `Lemmas/GraphPath.lean` — the invariant on `antecedent` /
`antecedent_edge`; `Lemmas/GraphBack.lean` — the backward walk; `Lemmas/GraphPathExt.lean` — the backward walk written with the
track operators of C04; `Lemmas/GraphMut.lean` — the network modified between calls; `Lemmas/GraphR4.lean` — a non-associative
`WalkAdd` for the examples). The model (`Model/Graph.lean`) mirrors
`Network.shortest_path` = `run_routing_forward(source, target, cut)` followed by `run_routing_backward(target)`
as it is after fix 9d0d428. Weights: any linear order with an addition that satisfies `WalkAdd` (`Lemmas/Graph.lean`: adding
a non-negative weight does not decrease a label, addition on the right is monotone — every linearly ordered additive
commutative monoid, and also IEEE-754 round-to-nearest addition on the non-NaN doubles, which is not associative: the weight
of a route is the sum taken from the source outwards, `((0 + w₁) + w₂) + …`, as the code takes it), non-negative (`WFNet`);
edge ids unique (`UniqueIds`, `EDGES` is a dict); points: any type.

Sections: the four theorems of the design (walk, optimal, geometry chained, unreachable ⇒ None) on point lists;
any cut-off, also below the true distance (`path_cut_sound`); the same through the TRACK operators of the C04 model
(`Model/GraphPathExt.lean`: `Track()`, `addObs`, `copy`, `reverse`, `>`, `+` — `track_operators_agree`,
`geometry_chained_track`, `path_optimal_track`); sequences of calls on one `Network` object with nodes given by id or by
object and an optional `output_dict` (`session_*`, `backward_after_full_search`, `backward_settled_optimal`,
`output_dict_entries_sound`); a network that is MODIFIED between the calls (`Model/GraphMut.lean`: edges and nodes added
after searches, `getEdge(i).weight = w`, new polylines, moved nodes, `getEdge(i).orientation = o` — `mut_path_fresh`,
`mut_path_optimal`, `mut_path_cut_sound`, `mut_geometry_chained`, `orientation_attribute_not_read`,
`path_after_orientation_assignment`, `path_any_history`, `mut_never_diverges`). Arithmetic: no theorem uses associativity, commutativity or cancellation of `+`
(`WalkAdd` only), so the statements are about the sums as the code rounds them — PROVIDED the double addition satisfies
`WalkAdd`, which is a fact about IEEE-754 that is not proved here (Lean's `Float` is opaque); the float stream of the harness
runs the same model instantiated at `Float` bit for bit. "The shortest distance" is then the least rounded sum over walks.

A* MODE (`setRoutingMethod(ROUTING_ALGO_ASTAR)`: the queue ordered by `poids + heuristic`) is `Props/C07AStar.lean`: real / continuous / weights = reported
value for ANY heuristic, optimal for a consistent one, and from the configuration (weights ≥ `astar_wgt` × straight-line length).
FAMILIES of networks sharing their `Node` / `Edge` objects (`sub_network` kept and used) are `Props/C07Family.lean`: a `shortest_path`
on shared objects carrying any flags answers as on private objects.

`Route net geo s l g g' t y` (see `Lemmas/GraphBack.lean`) says: `l ++ [t]` is a list of nodes starting at `s` in which
each consecutive pair is joined by an existing edge travelled in a direction its orientation permits, `y` is the sum of
those edges' weights, `g` is the concatenation of those edges' polylines, each oriented along the direction of
travel and each without its last vertex (= the first vertex of the next polyline: junction vertices appear once), and
`g'` is the same concatenation with each polyline deprived of its first vertex instead. -/
namespace TV.C07
open TV.Graph
variable {W : Type} [LinearOrder W] [Add W] [Zero W] [WalkAdd W] {P : Type}

/-- the state left by the forward pass of `shortest_path(s, t, cut)` satisfies both invariants -/
theorem forward_state_good (net : Net W) (hnet : WFNet net) (s t : Nat) (hs : s < net.n) (cut : Option W) :
    Good net s (runForward net s (some t) cut).1 :=
  runForward_good net hnet s hs (some t) cut

/-- T1 (`path_is_walk`) + first half of T3: whatever `shortest_path(s, t, cut)` returns as a path is a route:
its node list starts at `s`, ends at `t`, consecutive nodes are joined by the recorded edge in a permitted direction;
its geometry is the chain of those edges' polylines along the travel, junction vertices once, closed by the position
of `t`; and the recorded weights sum to the label of `t`. -/
theorem path_is_walk (net : Net W) (hnet : WFNet net) (hu : UniqueIds net) (geo : Geo P) (s t : Nat) (hs : s < net.n)
    (cut : Option W) (nodes : List Nat) (geom : List P) (h : shortestPath net geo s t cut = .path nodes geom) :
    ∃ l g g' y, nodes = l ++ [t] ∧ geom = g ++ [geo.pos t] ∧ nodes.head? = some s ∧ Route net geo s l g g' t y ∧
      Walk net s t y ∧ shortestDistance net s t cut = some y := by
  obtain ⟨l, g, g', y, rfl, rfl, hr, hd⟩ := ((forward_state_good net hnet s t hs cut).toGoodH.answer hu geo t).2.2 nodes geom h
  exact ⟨l, g, g', y, rfl, rfl, hr.nodes_head, hr, hr.walk, hd⟩

/-- T2 (`path_optimal`): the weights of the edges used by the path returned by `shortest_path(s, t)` sum to the
true shortest distance. -/
theorem path_optimal (net : Net W) (hnet : WFNet net) (hu : UniqueIds net) (geo : Geo P) (s t : Nat) (hs : s < net.n)
    (nodes : List Nat) (geom : List P) (h : shortestPath net geo s t none = .path nodes geom) :
    ∃ l g g' y, nodes = l ++ [t] ∧ geom = g ++ [geo.pos t] ∧ Route net geo s l g g' t y ∧ IsDist net s t y := by
  obtain ⟨l, g, g', y, a, b, _, c, _, d⟩ := path_is_walk net hnet hu geo s t hs none nodes geom h
  exact ⟨l, g, g', y, a, b, c, ((shortestDistance_spec net hnet s t hs).1 y).1 d⟩

/-- T2 with a cut-off: if the true distance does not exceed the cut-off, the returned path realises it. -/
theorem path_optimal_cut (net : Net W) (hnet : WFNet net) (hu : UniqueIds net) (geo : Geo P) (s t : Nat) (hs : s < net.n)
    (cut : Option W) (d : W) (hd : IsDist net s t d) (hw : Within cut d)
    (nodes : List Nat) (geom : List P) (h : shortestPath net geo s t cut = .path nodes geom) :
    ∃ l g g', nodes = l ++ [t] ∧ geom = g ++ [geo.pos t] ∧ Route net geo s l g g' t d := by
  obtain ⟨l, g, g', y, a, b, _, c, _, e⟩ := path_is_walk net hnet hu geo s t hs cut nodes geom h
  rw [(shortestDistance_cut net hnet s t hs cut).1 d hd hw] at e
  cases e
  exact ⟨l, g, g', a, b, c⟩

/-- T3 (`geometry_chained`): when every edge polyline starts at its source's position and ends at its target's,
the returned geometry is the position of `s` followed by the polylines of the edges used (see `path_is_walk`), each
oriented along the direction of travel and each without its first vertex (junction vertices once); it starts at the
position of `s` and ends at the position of `t`. -/
theorem geometry_chained (net : Net W) (hnet : WFNet net) (hu : UniqueIds net) (geo : Geo P) (hgeo : GeoOK net geo)
    (s t : Nat) (hs : s < net.n) (cut : Option W) (nodes : List Nat) (geom : List P)
    (h : shortestPath net geo s t cut = .path nodes geom) :
    ∃ l g g' y, nodes = l ++ [t] ∧ Route net geo s l g g' t y ∧ geom = geo.pos s :: g' ∧
      geom.head? = some (geo.pos s) ∧ geom.getLast? = some (geo.pos t) := by
  obtain ⟨l, g, g', y, a, b, _, c, _, _⟩ := path_is_walk net hnet hu geo s t hs cut nodes geom h
  exact ⟨l, g, g', y, a, c, c.chained hgeo b⟩

/-- T4 (`unreachable_none`): no permitted walk ⇒ `None`; and `t = s` ⇒ `None` (as coded). -/
theorem unreachable_none (net : Net W) (hnet : WFNet net) (hu : UniqueIds net) (geo : Geo P) (s t : Nat) (hs : s < net.n)
    (cut : Option W) (h : ¬ Reachable net s t ∨ t = s) : shortestPath net geo s t cut = .none := by
  have hg := (forward_state_good net hnet s t hs cut).toGoodH
  exact (hg.answer hu geo t).2.1.2 (h.imp hg.2.1.unreachable id)

/-- converse of T4: a reachable target other than the source always gets a path (never `None`, and the backward
loop always ends). -/
theorem reachable_path (net : Net W) (hnet : WFNet net) (hu : UniqueIds net) (geo : Geo P) (s t : Nat) (hs : s < net.n)
    (hr : Reachable net s t) (hts : t ≠ s) : ∃ nodes geom, shortestPath net geo s t none = .path nodes geom := by
  cases hd : shortestDistance net s t none with
  | none => exact absurd hr ((shortestDistance_spec net hnet s t hs).2.1 hd)
  | some y =>
    obtain ⟨l, g, g', _, hb, _⟩ := (forward_state_good net hnet s t hs none).toGoodH.some hu geo hd hts
    exact ⟨_, _, hb⟩

/-- the backward loop `while node.antecedent != ""` always terminates on the flags left by the forward pass -/
theorem never_diverges (net : Net W) (hnet : WFNet net) (hu : UniqueIds net) (geo : Geo P) (s t : Nat) (hs : s < net.n)
    (cut : Option W) : shortestPath net geo s t cut ≠ .diverge :=
  ((forward_state_good net hnet s t hs cut).toGoodH.answer hu geo t).1

/-! ### with a cut-off (also below the true distance) -/

/-- `shortest_path(s, t, cut)` for ANY cut-off, also one below the true distance (the forward pass then stops on a
label greater than the cut-off and may leave `t` with a tentative label): whatever is returned as a path is a real
route from `s` to `t` with its geometry chained, the weights of its edges sum to the value `y` that
`shortest_distance(s, t, cut)` reports, `y` is at least the true distance `d`, and if `y` does not exceed the
cut-off then `y = d`. So a returned path is optimal or visibly heavier than the cut-off, never a fake. -/
theorem path_cut_sound (net : Net W) (hnet : WFNet net) (hu : UniqueIds net) (geo : Geo P) (s t : Nat) (hs : s < net.n)
    (cut : Option W) (nodes : List Nat) (geom : List P) (h : shortestPath net geo s t cut = .path nodes geom) :
    ∃ l g g' y d, nodes = l ++ [t] ∧ geom = g ++ [geo.pos t] ∧ Route net geo s l g g' t y ∧
      shortestDistance net s t cut = some y ∧ IsDist net s t d ∧ d ≤ y ∧ (Within cut y → y = d) := by
  obtain ⟨l, g, g', y, a, b, _, c, hw, e⟩ := path_is_walk net hnet hu geo s t hs cut nodes geom h
  obtain ⟨d, hd, hle, h⟩ := cut_sound_of_walk net hnet s hs (shortestDistance_cut net hnet s t hs cut).1 e hw
  exact ⟨l, g, g', y, d, a, b, c, e, hd, hle, h⟩

/-! ### the track operators (`copy`, `reverse`, `>`, `+`) as modelled for C04 -/
open TV.GraphExt

omit [WalkAdd W] in
/-- `shortest_path` with `run_routing_backward` written on TRACKS with the operators of the C04 model
(`track = track + (edge_geom > 1)` = `Seq.concat track (Seq.dropFirst edge_geom 1)`, `reverse` = copy with the points
reversed, `Track()` / `addObs`) returns: `None` / a path exactly when the list-level model does, with the same node list,
the same points, and no analytical feature. The proof uses the C04 property theorems `TV.C04.concat_spec` and
`TV.C04.dropFirst_spec` for the two operators. -/
theorem track_operators_agree (net : Net W) (geo : GeoT) (s t : Nat) (cut : Option W) :
    shortestPathT net geo s t cut = liftBack (shortestPath net geo.toGeo s t cut) :=
  runBackwardT_eq net geo _ t

/-- T3 through the track operators: when every edge geometry starts at its source's position and ends at its
target's, the `Track` returned by `shortest_path(s, t, cut)` has exactly the points `pos s` followed by the polylines
of the edges used, each oriented along the travel and without its first vertex (`edge_geom > 1`: junction vertices
once); it starts at the position of `s`, ends at the position of `t` and carries no analytical feature. Edge
polylines are arbitrary lists: repeated vertices, two-vertex and one-vertex geometries, edges stored against the
direction of travel (`SENS_INVERSE`) and parallel edges are all covered. -/
theorem geometry_chained_track (net : Net W) (hnet : WFNet net) (hu : UniqueIds net) (geo : GeoT)
    (hgeo : GeoOK net geo.toGeo) (s t : Nat) (hs : s < net.n) (cut : Option W) (nodes : List Nat) (trk : Seq.Track)
    (h : shortestPathT net geo s t cut = .path nodes trk) :
    ∃ l g g' y, nodes = l ++ [t] ∧ Route net geo.toGeo s l g g' t y ∧ trk.pts = geo.pos s :: g' ∧ trk.table = [] ∧
      trk.pts.head? = some (geo.pos s) ∧ trk.pts.getLast? = some (geo.pos t) := by
  rw [track_operators_agree] at h
  obtain ⟨h1, h2⟩ := liftBack_path h
  obtain ⟨l, g, g', y, a, b, c, d, e⟩ := geometry_chained net hnet hu geo.toGeo hgeo s t hs cut nodes trk.pts h1
  exact ⟨l, g, g', y, a, b, c, h2, d, e⟩

/-- T1/T2/T4 through the track operators: `None` exactly when the list-level model returns `None`, never a
divergence; a returned track's points are a route's chain closed by the position of `t`, and without cut-off the
weights sum to the true distance. -/
theorem path_optimal_track (net : Net W) (hnet : WFNet net) (hu : UniqueIds net) (geo : GeoT) (s t : Nat) (hs : s < net.n) :
    shortestPathT net geo s t none ≠ .diverge ∧
    (shortestPathT net geo s t none = .none ↔ (¬ Reachable net s t ∨ t = s)) ∧
    (∀ nodes trk, shortestPathT net geo s t none = .path nodes trk →
      ∃ l g g' y, nodes = l ++ [t] ∧ trk = ⟨g ++ [geo.pos t], []⟩ ∧ Route net geo.toGeo s l g g' t y ∧ IsDist net s t y) :=
  GoodH.optimalT hu geo (forward_state_good net hnet s t hs none).toGoodH t (shortestDistance_spec net hnet s t hs)

/-! ### several searches on one `Network` object -/

omit [WalkAdd W] in
/-- `shortest_path(source, target, cut[, output_dict])` called at any point of a session returns what it returns on
a fresh network: it does not depend on the flags left on the nodes by earlier searches (`__resetFlags`), on whether
the nodes are designated by id or by `Node` object (`__correctInputNode`), nor on an `output_dict` being passed; the
label left on the target is what `shortest_distance` with the same arguments reports. -/
theorem session_path_fresh (net : Net W) (geo : GeoT) (order : List Nat) (se : Sess W) (s t : NodeArg) (cut : Option W)
    (ud : Bool) :
    (stepOp net geo order se (.path s t cut ud)).2 =
      .path (shortestPathT net geo (correctInputNode s) (correctInputNode t) cut)
            (shortestDistance net (correctInputNode s) (correctInputNode t) cut) := rfl

omit [WalkAdd W] in
/-- `shortest_distance(source, target, cut[, output_dict])` at any point of a session = on a fresh network -/
theorem session_dist_fresh (net : Net W) (geo : GeoT) (order : List Nat) (se : Sess W) (s t : NodeArg) (cut : Option W)
    (ud : Bool) :
    (stepOp net geo order se (.dist s (some t) cut ud)).2 =
      .dist (shortestDistance net (correctInputNode s) (correctInputNode t) cut) := rfl

omit [WalkAdd W] in
/-- the entries written to a caller's `output_dict` by `shortest_path(s, t, cut, output_dict)` and by
`shortest_distance(s, t, cut, output_dict)` are the same, and so are the flags left on the nodes -/
theorem session_path_dist_same_state (net : Net W) (geo : GeoT) (order : List Nat) (se : Sess W) (s t : NodeArg)
    (cut : Option W) (ud : Bool) :
    (stepOp net geo order se (.path s t cut ud)).1 = (stepOp net geo order se (.dist s (some t) cut ud)).1 := rfl

/-- STATE MACHINE: in any sequence of calls `shortest_path` / `shortest_distance` / `run_routing_forward` /
`run_routing_backward` on one network (nodes by id or by object, with or without `output_dict`, any targets and
cut-offs, `run_routing_backward` for any node after any search), the backward loop always terminates and every track
returned is the chain of a real route whose edge weights sum to the label of its last node.
(`OutOk`: what that says of one output; `OpOk`: the source of a call is a node of the network; `SessGood`: the flags are those
of a forward pass — all three in `Lemmas/GraphPathExt.lean`.) -/
theorem session_outputs_ok (net : Net W) (hnet : WFNet net) (hu : UniqueIds net) (geo : GeoT) (order : List Nat) :
    ∀ (ops : List (Op W)) (se : Sess W), (∀ op ∈ ops, OpOk net op) → SessGood net se →
      (∀ o ∈ (runSession net geo order se ops).1, OutOk net geo o) ∧ SessGood net (runSession net geo order se ops).2 := by
  intro ops
  induction ops with
  | nil => intro se _ hse; exact ⟨fun o ho => (by cases ho), hse⟩
  | cons op ops ih =>
    intro se hok hse
    obtain ⟨h1, h2⟩ := stepOp_ok net hnet hu geo order se op (hok op List.mem_cons_self) hse
    obtain ⟨ih1, ih2⟩ := ih _ (fun o ho => hok o (List.mem_cons_of_mem _ ho)) h2
    exact ⟨fun o ho => (List.mem_cons.1 ho).elim (fun e => e ▸ h1) (ih1 o), ih2⟩

/-- paths requested after a distance-only search: after `shortest_distance(s)` / `run_routing_forward(s)` (no target,
no cut-off), `run_routing_backward(t)` returns `None` exactly when `t` is unreachable or `t = s`, and otherwise a
route from `s` to `t` whose weights sum to the true distance — for every `t`, in any order, as often as wanted. -/
theorem backward_after_full_search (net : Net W) (hnet : WFNet net) (hu : UniqueIds net) (geo : GeoT) (s : Nat)
    (hs : s < net.n) (t : Nat) :
    runBackwardT net geo (runForward net s none none).1 t ≠ .diverge ∧
    (runBackwardT net geo (runForward net s none none).1 t = .none ↔ (¬ Reachable net s t ∨ t = s)) ∧
    (∀ nodes trk, runBackwardT net geo (runForward net s none none).1 t = .path nodes trk →
      ∃ l g g' y, nodes = l ++ [t] ∧ trk = ⟨g ++ [geo.pos t], []⟩ ∧ Route net geo.toGeo s l g g' t y ∧ IsDist net s t y) :=
  GoodH.optimalT hu geo (runForward_good net hnet s hs none none).toGoodH t
    (runForward_dist net hnet s hs none t (fun _ e => nomatch e))

/-- paths requested after a search that was STOPPED (at another target `t0`, or by a cut-off): for every node `t ≠ s`
that the search had settled (`visite`) before it stopped, `run_routing_backward(t)` returns a route from `s` to `t`
whose weights sum to the true distance. (Nodes labelled but not settled may get a tentative route:
`session_outputs_ok` / `path_cut_sound`.) -/
theorem backward_settled_optimal (net : Net W) (hnet : WFNet net) (hu : UniqueIds net) (geo : GeoT) (s : Nat)
    (hs : s < net.n) (t0 : Option Nat) (cut : Option W) (t : Nat)
    (hv : (runForward net s t0 cut).1.vis t = true) (hts : t ≠ s) :
    ∃ l g g' y, runBackwardT net geo (runForward net s t0 cut).1 t = .path (l ++ [t]) ⟨g ++ [geo.pos t], []⟩ ∧
      Route net geo.toGeo s l g g' t y ∧ IsDist net s t y := by
  have hg := runForward_good net hnet s hs t0 cut
  obtain ⟨y, hy⟩ := hg.1.j5 t hv
  obtain ⟨l, g, g', y', hb, hr, hd⟩ := hg.toGoodH.some hu geo.toGeo hy hts
  exact ⟨l, g, g', y', by rw [runBackwardT_eq, hb]; rfl, hr, settled_isDist net hnet s _ hg.1 t y' hv hd⟩

/-- the `output_dict` of `shortest_path(s, t, cut, output_dict)` (and of any other search): every entry
`(s, u) ↦ y` written is the true distance from `s` to `u`, and does not exceed the cut-off. (The target itself is not
written: the loop stops before recording it.) -/
theorem output_dict_entries_sound (net : Net W) (hnet : WFNet net) (s : Nat) (hs : s < net.n) (t0 : Option Nat)
    (cut : Option W) (u : Nat) (y : W) (h : (u, y) ∈ (runForward net s t0 cut).2) : IsDist net s u y ∧ Within cut y :=
  (runForward_entries net hnet s hs t0 cut).1 u y h

/-! ### the network as `addNode` / `addEdge` build it -/

/-- For a network built by successive `addEdge(edge, source, target)` calls (edge ids unique): `EDGES` holds the edges in
insertion order; looking up the ids of `NEXT_EDGES[u]` in `EDGES` yields `pyNext` — each edge that may be left from `u`,
in insertion order, a two-way edge from `u` to `u` twice; and the relaxation loop of one iteration of
`run_routing_forward` over that list (after `pere.visite = True`) has exactly the effect of the loop over the model's
`nextEdges net u`, in which every edge occurs once. So every theorem about the model's forward pass is about the
adjacency lists that `addEdge` actually fills. -/
theorem next_edges_as_built (n : Nat) (es : List (Edge W × P × P)) (hu : UniqueIds ⟨n, es.map (·.1)⟩) (u : Nat) (du : W)
    (st : St W) (hv : st.vis u = true) :
    (build NetObj.empty es).edges = es.map (·.1) ∧
    ((build NetObj.empty es).next u).filterMap (findEdge ⟨n, es.map (·.1)⟩) = pyNext ⟨n, es.map (·.1)⟩ u ∧
    (pyNext ⟨n, es.map (·.1)⟩ u).foldl (relaxOne u du) st = (nextEdges ⟨n, es.map (·.1)⟩ u).foldl (relaxOne u du) st := by
  obtain ⟨h1, h2⟩ := build_spec es (NetObj.empty : NetObj W P)
  refine ⟨by simpa [NetObj.empty] using h1, ?_, pyNext_fold _ u du st hv⟩
  rw [h2 u]
  simp only [NetObj.empty, List.nil_append]
  exact lookup_next ⟨n, es.map (·.1)⟩ hu u (es.map (·.1)) (fun e he => he)

omit [LinearOrder W] [Add W] [Zero W] [WalkAdd W] in
/-- the position of a node is the coordinate of its FIRST registration: later `addNode` / `addEdge` calls that mention
the same id with other `Node` objects (other coordinates) do not change it, and `addEdge` registers both its ends. This
is the position `run_routing_backward` starts the geometry with (`Obs(node.coord)`). -/
theorem first_registration_wins (nb : NetObj W P) (es : List (Edge W × P × P)) (e : Edge W) (sc tc : P) (v : Nat) (p : P) :
    (posOf nb v = some p → posOf (build nb es) v = some p) ∧
    (∃ q, posOf (addEdge nb e sc tc) e.src = some q) ∧ (∃ q, posOf (addEdge nb e sc tc) e.tgt = some q) := by
  refine ⟨build_posOf es nb v p, ?_, ?_⟩
  · exact ⟨_, addEdge_posOf_of_addNode nb e sc tc _ _ (addNode_posOf _ e.tgt tc e.src _ (addNode_posOf_self nb e.src sc))⟩
  · exact ⟨_, addEdge_posOf_of_addNode nb e sc tc _ _ (addNode_posOf_self _ e.tgt tc)⟩


/-! ### a network that is modified between the calls -/
section modified
open TV.GraphMut

/-- CURRENT CONTENT. Take a network built and modified by ANY sequence of calls — `addNode`, `addEdge` (also after searches),
`getEdge(i).weight = w`, `getEdge(i).geom = track`, `getNode(v).coord = c`, interleaved with any routing calls — but no
assignment to an orientation attribute. Then `shortest_path(s, t, cut[, output_dict])` for two registered nodes returns what
it returns on a FRESH network holding the nodes, edges, weights, polylines and coordinates the object has NOW: nothing is
remembered of the earlier weights, of the flags of the earlier searches, of the order in which the content came about. -/
theorem mut_path_fresh (n : Nat) (ops : List (GraphMut.Op W)) (hno : ∀ op ∈ ops, op.isSetOri = false)
    (s t : NodeArg) (cut : Option W) (ud : Bool)
    (hs : registered (runOps (Obj.new n) ops).2 (correctInputNode s) = true)
    (ht : registered (runOps (Obj.new n) ops).2 (correctInputNode t) = true) :
    (exec (runOps (Obj.new n) ops).2 (.path s t cut ud)).2 =
      .path (shortestPathT (netOf (runOps (Obj.new n) ops).2) (geoOf (runOps (Obj.new n) ops).2) (correctInputNode s) (correctInputNode t) cut)
            (shortestDistance (netOf (runOps (Obj.new n) ops).2) (correctInputNode s) (correctInputNode t) cut) :=
  path_query _ (runOps_inv ops _ (inv_new n) hno) s t cut ud hs ht

/-- T1/T2/T4 on the modified network: `shortest_path(s, t)` after any such history never diverges, returns `None` exactly
when `t` is unreachable in the CURRENT network (current edges, current orientations) or `t = s`, and otherwise the chain of a
route of the current network whose CURRENT weights sum to the CURRENT shortest distance; the label it leaves on `t` is what
`shortest_distance` reports on a fresh network with that content. -/
theorem mut_path_optimal (n : Nat) (ops : List (GraphMut.Op W)) (hno : ∀ op ∈ ops, op.isSetOri = false)
    (s t : NodeArg) (ud : Bool)
    (hs : registered (runOps (Obj.new n) ops).2 (correctInputNode s) = true)
    (ht : registered (runOps (Obj.new n) ops).2 (correctInputNode t) = true) :
    ∃ b, (exec (runOps (Obj.new n) ops).2 (.path s t none ud)).2 =
        .path b (shortestDistance (netOf (runOps (Obj.new n) ops).2) (correctInputNode s) (correctInputNode t) none) ∧
      b ≠ .diverge ∧
      (b = .none ↔ (¬ Reachable (netOf (runOps (Obj.new n) ops).2) (correctInputNode s) (correctInputNode t) ∨
                    correctInputNode t = correctInputNode s)) ∧
      (∀ nodes trk, b = .path nodes trk → ∃ l g g' y, nodes = l ++ [correctInputNode t] ∧
        trk = ⟨g ++ [(geoOf (runOps (Obj.new n) ops).2).pos (correctInputNode t)], []⟩ ∧
        Route (netOf (runOps (Obj.new n) ops).2) (geoOf (runOps (Obj.new n) ops).2).toGeo (correctInputNode s) l g g' (correctInputNode t) y ∧
        IsDist (netOf (runOps (Obj.new n) ops).2) (correctInputNode s) (correctInputNode t) y) := by
  have hi := runOps_inv ops _ (inv_new n) hno
  generalize (runOps (Obj.new n) ops).2 = o at hi hs ht ⊢
  have hlt : correctInputNode s < (netOf o).n := registered_lt o hi _ hs
  obtain ⟨h1, h2, h3⟩ := path_optimal_track (netOf o) hi.wf hi.uniq (geoOf o) (correctInputNode s) (correctInputNode t) hlt
  exact ⟨_, path_query o hi s t none ud hs ht, h1, h2, h3⟩

/-- the same with ANY cut-off (also one below the current distance): a returned track is the chain of a real route of the
current network, its current weights sum to the value `y` that `shortest_distance(s, t, cut)` reports, `y` is at least the
current distance and equal to it unless it exceeds the cut-off -/
theorem mut_path_cut_sound (n : Nat) (ops : List (GraphMut.Op W)) (hno : ∀ op ∈ ops, op.isSetOri = false)
    (s t : NodeArg) (cut : Option W) (ud : Bool)
    (hs : registered (runOps (Obj.new n) ops).2 (correctInputNode s) = true)
    (ht : registered (runOps (Obj.new n) ops).2 (correctInputNode t) = true)
    (nodes : List Nat) (trk : Seq.Track) (lab : Option W)
    (h : (exec (runOps (Obj.new n) ops).2 (.path s t cut ud)).2 = .path (.path nodes trk) lab) :
    ∃ l g g' y d, nodes = l ++ [correctInputNode t] ∧ trk = ⟨g ++ [(geoOf (runOps (Obj.new n) ops).2).pos (correctInputNode t)], []⟩ ∧
      Route (netOf (runOps (Obj.new n) ops).2) (geoOf (runOps (Obj.new n) ops).2).toGeo (correctInputNode s) l g g' (correctInputNode t) y ∧
      lab = some y ∧ IsDist (netOf (runOps (Obj.new n) ops).2) (correctInputNode s) (correctInputNode t) d ∧ d ≤ y ∧ (Within cut y → y = d) := by
  have hi := runOps_inv ops _ (inv_new n) hno
  generalize (runOps (Obj.new n) ops).2 = o at hi hs ht h ⊢
  have hlt : correctInputNode s < (netOf o).n := registered_lt o hi _ hs
  rw [path_query o hi s t cut ud hs ht] at h
  simp only [GraphMut.Out.path.injEq] at h
  obtain ⟨hb, hl⟩ := h
  rw [track_operators_agree] at hb
  obtain ⟨h1, h2⟩ := liftBack_path hb
  obtain ⟨l, g, g', y, d, a, b, c, e, f, g1, g2⟩ :=
    path_cut_sound (netOf o) hi.wf hi.uniq (geoOf o).toGeo (correctInputNode s) (correctInputNode t) hlt cut nodes trk.pts h1
  refine ⟨l, g, g', y, d, a, ?_, c, by rw [← hl, e], f, g1, g2⟩
  cases trk with
  | mk p tb => simp only at b h2; rw [b, h2]; rfl

/-- T3 on the modified network: when, NOW, every polyline runs from the current position of its edge's source to the current
position of its target (nodes moved together with the polylines that end there, new polylines joining the positions), the
returned geometry is the position of `s` followed by the used edges' current polylines, each oriented along the travel and
without its first vertex; it starts at the current position of `s`, ends at that of `t`, and has no analytical feature. -/
theorem mut_geometry_chained (n : Nat) (ops : List (GraphMut.Op W)) (hno : ∀ op ∈ ops, op.isSetOri = false)
    (s t : NodeArg) (cut : Option W) (ud : Bool)
    (hs : registered (runOps (Obj.new n) ops).2 (correctInputNode s) = true)
    (ht : registered (runOps (Obj.new n) ops).2 (correctInputNode t) = true)
    (hgeo : GeoOK (netOf (runOps (Obj.new n) ops).2) (geoOf (runOps (Obj.new n) ops).2).toGeo)
    (nodes : List Nat) (trk : Seq.Track) (lab : Option W)
    (h : (exec (runOps (Obj.new n) ops).2 (.path s t cut ud)).2 = .path (.path nodes trk) lab) :
    ∃ l g g' y, nodes = l ++ [correctInputNode t] ∧
      Route (netOf (runOps (Obj.new n) ops).2) (geoOf (runOps (Obj.new n) ops).2).toGeo (correctInputNode s) l g g' (correctInputNode t) y ∧
      trk.pts = (geoOf (runOps (Obj.new n) ops).2).pos (correctInputNode s) :: g' ∧ trk.table = [] ∧
      trk.pts.head? = some ((geoOf (runOps (Obj.new n) ops).2).pos (correctInputNode s)) ∧
      trk.pts.getLast? = some ((geoOf (runOps (Obj.new n) ops).2).pos (correctInputNode t)) := by
  have hi := runOps_inv ops _ (inv_new n) hno
  generalize (runOps (Obj.new n) ops).2 = o at hi hs ht hgeo h ⊢
  have hlt : correctInputNode s < (netOf o).n := registered_lt o hi _ hs
  rw [path_query o hi s t cut ud hs ht] at h
  simp only [GraphMut.Out.path.injEq] at h
  exact geometry_chained_track (netOf o) hi.wf hi.uniq (geoOf o) hgeo _ _ hlt cut nodes trk h.1

omit [WalkAdd W] in
/-- FROZEN ORIENTATION. `getEdge(i).orientation = x` on a built network changes an attribute that only `addEdge` reads:
whatever calls follow (routing calls, further modifications, further `addEdge`), every one of them returns exactly what it
would have returned without the assignment. The directions in which an edge may be travelled are those of the moment it was
added (`NEXT_EDGES`). -/
theorem orientation_attribute_not_read (o : Obj W) (i : Nat) (x : Int) (ops : List (GraphMut.Op W)) :
    (runOps (exec o (.setOri i x)).1 ops).1 = (runOps o ops).1 :=
  (runOps_oriEq ops _ _ (setOri_oriEq o i x)).1

/-- so, for a network that was built and modified without touching an orientation: after `getEdge(i).orientation = x` a
`shortest_path` still answers for the content BEFORE the assignment (the orientations the edges were added with) -/
theorem path_after_orientation_assignment (n : Nat) (ops : List (GraphMut.Op W)) (hno : ∀ op ∈ ops, op.isSetOri = false)
    (i : Nat) (x : Int) (s t : NodeArg) (cut : Option W) (ud : Bool)
    (hs : registered (runOps (Obj.new n) ops).2 (correctInputNode s) = true)
    (ht : registered (runOps (Obj.new n) ops).2 (correctInputNode t) = true) :
    (exec (exec (runOps (Obj.new n) ops).2 (.setOri i x)).1 (.path s t cut ud)).2 =
      .path (shortestPathT (netOf (runOps (Obj.new n) ops).2) (geoOf (runOps (Obj.new n) ops).2) (correctInputNode s) (correctInputNode t) cut)
            (shortestDistance (netOf (runOps (Obj.new n) ops).2) (correctInputNode s) (correctInputNode t) cut) := by
  rw [(exec_oriEq _ _ (setOri_oriEq (runOps (Obj.new n) ops).2 i x) (.path s t cut ud)).2]
  exact mut_path_fresh n ops hno s t cut ud hs ht

/-- ANY history, orientation assignments included: after any sequence of calls on a new network, `shortest_path(s, t, cut)`
answers for a fresh network holding the content that the SAME history WITHOUT its orientation assignments produces — the
current nodes, edges, weights, polylines and coordinates, each edge with the orientation it was added with. -/
theorem path_any_history (n : Nat) (ops : List (GraphMut.Op W)) (s t : NodeArg) (cut : Option W) (ud : Bool)
    (hs : registered (runOps (Obj.new n) ops).2 (correctInputNode s) = true)
    (ht : registered (runOps (Obj.new n) ops).2 (correctInputNode t) = true) :
    (exec (runOps (Obj.new n) ops).2 (.path s t cut ud)).2 =
      .path (shortestPathT (netOf (runOps (Obj.new n) (dropOri ops)).2) (geoOf (runOps (Obj.new n) (dropOri ops)).2)
               (correctInputNode s) (correctInputNode t) cut)
            (shortestDistance (netOf (runOps (Obj.new n) (dropOri ops)).2) (correctInputNode s) (correctInputNode t) cut) := by
  have he := runOps_dropOri ops (Obj.new n) (Obj.new n) (OriEq.refl _)
  rw [(exec_oriEq _ _ he (.path s t cut ud)).2]
  rw [registered_oriEq _ _ he] at hs ht
  exact mut_path_fresh n (dropOri ops) (dropOri_clean ops) s t cut ud hs ht

/-- TERMINATION, any history: whatever the calls were — modifications of any kind, orientation assignments, searches stopped
at targets or cut-offs, `run_routing_backward` on flags older than the last modification, calls naming unknown nodes — no
`shortest_path` / `run_routing_backward` of the sequence runs for ever (the `while node.antecedent != ""` loop follows ranked
antecedents through edges that are still in `EDGES`: nothing is ever removed). -/
theorem mut_never_diverges (n : Nat) (ops : List (GraphMut.Op W)) (b : BackT) (lab : Option W)
    (h : GraphMut.Out.path b lab ∈ (runOps (Obj.new n) ops).1) : b ≠ .diverge :=
  runOps_ends ops (Obj.new n) (Obj.new n) (OriEq.refl _) (inv_new n) (chainOK_new n) _ h

end modified

/-! ### the hypotheses are satisfiable by a non-trivial network, and the model computes on it -/

/-- 0 –(w 0, two-way)– 1 ; edge 1 stored 2→1 but only travelled 1→2 (orientation −1) with a bent polyline;
a heavier parallel edge 1→2. The defect repaired by 9d0d428 truncated this path at node 1 (distance 0). -/
def demo : Net Int :=
  { n := 3, edges := [⟨0, 0, 1, 0, 0⟩, ⟨1, 2, 1, 1, -1⟩, ⟨2, 1, 2, 5, 1⟩] }
def demoGeo : Geo (Int × Int) :=
  { pos := fun v => if v = 0 then (0, 0) else if v = 1 then (1, 0) else (2, 0),
    line := fun i => if i = 0 then [(0, 0), (1, 0)] else if i = 1 then [(2, 0), (1, 1), (1, 0)] else [(1, 0), (2, 0)] }

example : WFNet demo := by unfold WFNet; decide
example : UniqueIds demo := uniqueIds_of_nodup _ (by decide)
example : GeoOK demo demoGeo := by unfold GeoOK; decide
example : shortestPath demo demoGeo 0 2 none = .path [0, 1, 2] [(0, 0), (1, 0), (1, 1), (2, 0)] := by decide +kernel
example : shortestPath demo demoGeo 2 0 none = .none := by decide +kernel
example : shortestPath demo demoGeo 0 0 none = .none := by decide +kernel

/-! ### the same through the track operators, with awkward geometries; a session; a cut-off below the distance -/

/-- observation number `k` (the tag identifies the vertex occurrence: the returned track starts with the first edge's own
vertex and ends with `Obs(target.coord)`; under `GeoOK` their positions are those of the two nodes) -/
def ob (k : Nat) : Seq.Obs := ⟨k, 0, []⟩

/-- nodes 0,1,2 at observations 0,1,2. Edge 0: 0–1 two-way, weight 0, with a REPEATED vertex (10, 10, 11);
edge 1: stored 2→1, travelled 1→2 only (`SENS_INVERSE`), three vertices, carrying an analytical feature;
edges 2 and 3: PARALLEL, equal weight 5, 1→2, a two-vertex and a one-vertex geometry. -/
def demoT : GeoT :=
  { pos := ob,
    geom := fun i => if i = 0 then ⟨[ob 10, ob 10, ob 11], []⟩ else if i = 1 then ⟨[ob 20, ob 21, ob 22], [("speed", 0)]⟩
                     else if i = 2 then ⟨[ob 30, ob 31], []⟩ else ⟨[ob 40], []⟩ }
def demo4 : Net Int :=
  { n := 3, edges := [⟨0, 0, 1, 0, 0⟩, ⟨1, 2, 1, 1, -1⟩, ⟨2, 1, 2, 5, 1⟩, ⟨3, 1, 2, 5, 1⟩] }

/-- `track + (edge_geom > 1)` twice, the second polyline reversed; the result has no analytical feature although edge 1 has -/
example : shortestPathT demo4 demoT 0 2 none = .path [0, 1, 2] ⟨[ob 10, ob 10, ob 22, ob 21, ob 2], []⟩ := by decide +kernel
example : shortestPathT demo4 demoT 1 0 none = .path [1, 0] ⟨[ob 11, ob 10, ob 0], []⟩ := by decide +kernel
example : shortestPathT demo4 demoT 2 0 none = .none := by decide +kernel

/-- a session: backward before any search; a path with the target given as an object and an `output_dict`; a distance-only
search followed by backward passes to two targets; source = target; an unreachable target after a reachable one;
a cut-off below the true distance of the target -/
example : (runSession demo4 demoT [0, 1, 2] Sess.start
      [.back (.id 2), .path (.id 0) (.obj 2) none true, .dist (.obj 0) none none false, .back (.id 1), .back (.obj 2),
       .path (.id 1) (.id 1) none false, .path (.id 2) (.id 0) none false, .path (.id 1) (.id 2) (some 0) false]).1 =
    [.attrErr,
     .path (.path [0, 1, 2] ⟨[ob 10, ob 10, ob 22, ob 21, ob 2], []⟩) (some 1),
     .dists [some 0, some 0, some 1],
     .path (.path [0, 1] ⟨[ob 10, ob 10, ob 1], []⟩) (some 0),
     .path (.path [0, 1, 2] ⟨[ob 10, ob 10, ob 22, ob 21, ob 2], []⟩) (some 1),
     .path .none (some 0),
     .path .none none,
     .path (.path [1, 2] ⟨[ob 22, ob 21, ob 2], []⟩) (some 1)] := by decide +kernel

/-- the same network with geometries that JOIN the node positions (`GeoOK`): edge 0 has a repeated vertex, edge 1 is stored
against the travel, edges 2 and 3 are parallel with equal weights and different polylines -/
def demoT2 : GeoT :=
  { pos := ob,
    geom := fun i => if i = 0 then ⟨[ob 0, ob 10, ob 10, ob 1], []⟩ else if i = 1 then ⟨[ob 2, ob 21, ob 1], [("speed", 0)]⟩
                     else if i = 2 then ⟨[ob 1, ob 2], []⟩ else ⟨[ob 1, ob 30, ob 2], []⟩ }
example : WFNet demo4 := by unfold WFNet; decide
example : UniqueIds demo4 := uniqueIds_of_nodup _ (by decide)
example : GeoOK demo4 demoT2.toGeo := by unfold GeoOK; decide
example : shortestPathT demo4 demoT2 0 2 none = .path [0, 1, 2] ⟨[ob 0, ob 10, ob 10, ob 1, ob 21, ob 2], []⟩ := by decide +kernel
example : ∀ op ∈ [Op.back (.id 2), Op.path (.id 0) (.obj 2) none true, Op.dist (.obj 0) none (none : Option Int) false], OpOk demo4 op := by
  intro op h
  simp only [List.mem_cons, List.not_mem_nil, or_false] at h
  rcases h with rfl | rfl | rfl <;> simp [OpOk, correctInputNode, demo4]

/-- with a cut-off below the true distance the path returned may be a tentative one: 0 →1→ 1 →1→ 2 and 0 →5→ 2, cut-off 0:
the search stops when node 1 (label 1 > 0) is popped, node 2 still carries the label 5 through the direct edge.
`path_cut_sound`: a real route, weight 5 = the reported value ≥ the true distance 2, and 5 exceeds the cut-off. -/
def demoCut : Net Int := { n := 3, edges := [⟨0, 0, 1, 1, 1⟩, ⟨1, 1, 2, 1, 1⟩, ⟨2, 0, 2, 5, 1⟩] }
def demoCutGeo : Geo Nat := { pos := fun v => v, line := fun i => if i = 0 then [0, 1] else if i = 1 then [1, 2] else [0, 7, 2] }
example : shortestPath demoCut demoCutGeo 0 2 (some 0) = .path [0, 2] [0, 7, 2] := by decide +kernel
example : shortestDistance demoCut 0 2 (some 0) = some 5 := by decide +kernel
example : shortestPath demoCut demoCutGeo 0 2 none = .path [0, 1, 2] [0, 1, 2] := by decide +kernel
example : shortestPath demoCut demoCutGeo 0 2 (some 1) = .path [0, 1, 2] [0, 1, 2] := by decide +kernel

/-- `demo4` built by four `addEdge` calls; node 1 is registered first with the coordinate `ob 1`, the later registrations
with `ob 99` are ignored; `NEXT_EDGES[1]` = edges 0 (two-way), 1 (stored 2→1, travelled 1→2), 2, 3 -/
def demoBuild : NetObj Int Seq.Obs :=
  build NetObj.empty [(⟨0, 0, 1, 0, 0⟩, ob 0, ob 1), (⟨1, 2, 1, 1, -1⟩, ob 2, ob 99), (⟨2, 1, 2, 5, 1⟩, ob 99, ob 98), (⟨3, 1, 2, 5, 1⟩, ob 1, ob 2)]
example : demoBuild.edges.map (·.id) = demo4.edges.map (·.id) ∧ demoBuild.next 1 = [0, 1, 2, 3] ∧ demoBuild.next 2 = [] ∧
    posOf demoBuild 1 = some (ob 1) ∧ posOf demoBuild 2 = some (ob 2) := by decide +kernel
/-- a two-way edge from a node to itself is entered twice in `NEXT_EDGES` -/
example : (build (NetObj.empty : NetObj Int Nat) [(⟨7, 0, 0, 1, 0⟩, 5, 5)]).next 0 = [7, 7] := by decide +kernel


/-! ### a network that is built and modified by the calls themselves -/
open TV.GraphMut in
/-- `a –4– b –4– c`, `a → d` one-way (stored `d → a`, `SENS_INVERSE`) 5, `d –5– c`: a→c goes through `b` (8). Road works: the
weight of `b–c` becomes 50 — a backward pass on the old flags still gives the old route, the next `shortest_path` goes through
`d` (10). Assigning `SENS_DIRECT` to the one-way edge changes nothing (`orientation_attribute_not_read`). Node `d` is moved
together with the two polylines that end there. A new node 4 enters with an edge 4→c (`run_routing_backward(4)` before the
next search: `AttributeError`), then an edge a→4 of weight 0 (its Node objects carry other coordinates: ignored): a→4→c (1).
Unknown node, unknown edge: `KeyError`; a negative weight is outside the domain. -/
def demoOps : List (GraphMut.Op Int) :=
  [.addEdge ⟨0, 0, 1, 4, 0⟩ (ob 0) (ob 1) ⟨[ob 0, ob 10, ob 1], []⟩,
   .addEdge ⟨1, 1, 2, 4, 0⟩ (ob 1) (ob 2) ⟨[ob 1, ob 2], [("speed", 0)]⟩,
   .addEdge ⟨2, 3, 0, 5, -1⟩ (ob 3) (ob 0) ⟨[ob 3, ob 0], []⟩,
   .addEdge ⟨3, 3, 2, 5, 0⟩ (ob 3) (ob 2) ⟨[ob 3, ob 30, ob 2], []⟩,
   .path (.id 0) (.id 2) none false,
   .setWeight 1 50,
   .back (.id 2),
   .path (.id 0) (.obj 2) none false,
   .setOri 2 1,
   .path (.id 0) (.id 2) none false,
   .setCoord 3 (ob 33), .setGeom 2 ⟨[ob 33, ob 0], []⟩, .setGeom 3 ⟨[ob 33, ob 2], []⟩,
   .path (.id 0) (.id 2) none false,
   .addEdge ⟨4, 4, 2, 1, 1⟩ (ob 4) (ob 98) ⟨[ob 4, ob 2], []⟩,
   .back (.id 4),
   .addEdge ⟨5, 0, 4, 0, 1⟩ (ob 99) (ob 97) ⟨[ob 0, ob 4], []⟩,
   .path (.id 0) (.id 2) none true,
   .path (.id 0) (.id 5) none false,
   .setWeight 9 1, .setWeight 1 (-1)]

open TV.GraphMut in
example : (runOps (Obj.new 6) demoOps).1 =
    [.unit, .unit, .unit, .unit,
     .path (.path [0, 1, 2] ⟨[ob 0, ob 10, ob 1, ob 2], []⟩) (some 8),
     .unit,
     .path (.path [0, 1, 2] ⟨[ob 0, ob 10, ob 1, ob 2], []⟩) (some 8),
     .path (.path [0, 3, 2] ⟨[ob 0, ob 3, ob 30, ob 2], []⟩) (some 10),
     .unit,
     .path (.path [0, 3, 2] ⟨[ob 0, ob 3, ob 30, ob 2], []⟩) (some 10),
     .unit, .unit, .unit,
     .path (.path [0, 3, 2] ⟨[ob 0, ob 33, ob 2], []⟩) (some 10),
     .unit, .attrErr, .unit,
     .path (.path [0, 4, 2] ⟨[ob 0, ob 4, ob 2], []⟩) (some 1),
     .keyErr, .keyErr, .err] := by decide +kernel

open TV.GraphMut in
/-- the hypotheses of the `mut_*` theorems on that history (without its orientation assignment): both nodes registered, and the
final content joins its node positions -/
example : ∀ op ∈ demoOps.eraseIdx 8, op.isSetOri = false := by decide +kernel
open TV.GraphMut in
example : registered (runOps (Obj.new 6) (demoOps.eraseIdx 8)).2 0 = true ∧ registered (runOps (Obj.new 6) (demoOps.eraseIdx 8)).2 2 = true := by
  decide +kernel
open TV.GraphMut in
example : (netOf (runOps (Obj.new 6) (demoOps.eraseIdx 8)).2).edges.all (fun e =>
    let geo := (geoOf (runOps (Obj.new 6) (demoOps.eraseIdx 8)).2).toGeo
    (geo.line e.id).head? == some (geo.pos e.src) && (geo.line e.id).getLast? == some (geo.pos e.tgt)) = true := by decide +kernel

/-! ### the theorems do not rest on associativity -/
/-- weights in `TV.C06.R4` (natural numbers, a sum above 2 is rounded up to the next multiple of 4 — monotone, not
associative): 0 →1→ 1 →2→ 2 weighs `(0 + 1) + 2 = 4` (rounded), the direct edge 5 -/
def demoR : Net C06.R4 := { n := 3, edges := [⟨0, 0, 1, C06.R4.of 1, 1⟩, ⟨1, 1, 2, C06.R4.of 2, 1⟩, ⟨2, 0, 2, C06.R4.of 5, 1⟩] }
example : WFNet demoR := by unfold WFNet; decide
example : UniqueIds demoR := uniqueIds_of_nodup _ (by decide)
example : shortestPath demoR demoCutGeo 0 2 none = .path [0, 1, 2] [0, 1, 2] ∧ shortestDistance demoR 0 2 none = some (C06.R4.of 4) := by
  decide +kernel

end TV.C07
