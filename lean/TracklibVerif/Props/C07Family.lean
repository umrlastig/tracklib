import TracklibVerif.Model.GraphSharedPath
import TracklibVerif.Lemmas.GraphShared
import TracklibVerif.Lemmas.GraphPathExt
import TracklibVerif.Props.C07
/-! # C07 on families of networks that share their `Node` and `Edge` objects

`sub = net.sub_network(s, cut)` fills a new `Network()` with the parent's own `Edge` and `Node` objects; the routing
attributes (`poids`, `visite`, `antecedent`, `antecedent_edge`) are attributes of the shared `Node` objects, so a
`shortest_path` of one network starts on whatever the last search of ANOTHER network left there, `__resetFlags` rewriting
its own `NODES` only (`Model/GraphShared.lean`, `Model/GraphSharedPath.lean`).

`family_path_as_private`: whatever flags the shared objects carry (∀ `st`: anything any other network of the family wrote, in
any order), `shortest_path(s, t, cut)` of a network returns exactly what it returns on `Node` objects of its own — the pure
`shortest_path` of ITS graph (its current edges and weights), hence everything `Props/C07.lean` proves of that; the value left
on the target is its `shortest_distance`; and the call touches the flags of its own nodes only. `family_backward_as_private`:
the same for `run_routing_backward(t')` called right after a search of the SAME network (any target, any cut-off).
Not covered: `run_routing_backward` called when the flags were last written by another network's search (nothing is stated
about it; the harness neither compares nor judges it). -/
set_option linter.unusedSectionVars false
namespace TV.C07
open TV.Graph TV.GraphExt
variable {W : Type} [LinearOrder W] [Add W] [Zero W] [WalkAdd W]

/-- the chain of a labelling that satisfies the predecessor invariant stays inside the network's own nodes, where the two
labellings agree -/
theorem runBackwardT_agree (net : Net W) (geo : GeoT) (order : List Nat) (hends : ∀ e ∈ net.edges, e.src ∈ order ∧ e.tgt ∈ order)
    (s : Nat) (a b : St W) (hg : Good net s b) (hag : AgreeOn order a b) (t : Nat) (ht : t ∈ order) :
    runBackwardT net geo a t = runBackwardT net geo b t := by
  obtain ⟨_, rk, K, hp⟩ := hg
  refine runBackwardT_congr net net geo a b (· ∈ order) rfl (fun v hv => ⟨(hag v hv).2.2, fun p eid hpv => ⟨?_, rfl⟩⟩) t ht
  obtain ⟨_, _, e', he', _, _, _⟩ := hp.p2 v p eid hpv
  rw [mem_nextEdges] at he'
  rcases he'.2 with ⟨_, h2⟩ | ⟨_, h2⟩
  · rw [← h2]; exact (hends e' he'.1).1
  · rw [← h2]; exact (hends e' he'.1).2

/-- **`run_routing_backward` right after a search of the same network, on shared `Node` objects**: whatever flags `st` the
objects carried before the search (written by any network of the family), `run_routing_forward(s, tgt, cut)` followed by
`run_routing_backward(t')` returns what it returns on a fresh network with nodes of its own. -/
theorem family_backward_as_private (net : Net W) (hnet : WFNet net) (geo : GeoT) (order : List Nat)
    (hnodes : ∀ v ∈ order, v < net.n) (hends : ∀ e ∈ net.edges, e.src ∈ order ∧ e.tgt ∈ order) (st : St W)
    (s : Nat) (hs : s ∈ order) (tgt : Option Nat) (cut : Option W) (t' : Nat) (ht : t' ∈ order) :
    backwardAfterSh net geo order st s tgt cut t' = runBackwardT net geo (runForward net s tgt cut).1 t' := by
  obtain ⟨_, hag, _⟩ := routeOnPD_obs net hnet order hnodes hends st s hs tgt cut
  exact runBackwardT_agree net geo order hends s _ _ (runForward_good net hnet s (hnodes s hs) tgt cut) hag t' ht

/-- **`shortest_path` on a network of a family = `shortest_path` on that network alone.** For ANY flags `st` found on the
shared `Node` objects: the track returned is the one the pure model returns for this network's graph
(`shortestPathT`: `path_optimal_track`, `geometry_chained_track`, `path_cut_sound` apply), the label left on the target is
its `shortest_distance`, and the flags of the nodes the network does not hold are left as they were. -/
theorem family_path_as_private (net : Net W) (hnet : WFNet net) (geo : GeoT) (order : List Nat)
    (hnodes : ∀ v ∈ order, v < net.n) (hends : ∀ e ∈ net.edges, e.src ∈ order ∧ e.tgt ∈ order) (st : St W)
    (s t : Nat) (hs : s ∈ order) (ht : t ∈ order) (cut : Option W) :
    (shortestPathSh net geo order st s t cut).1 = shortestPathT net geo s t cut ∧
    (shortestPathSh net geo order st s t cut).2.d t = shortestDistance net s t cut ∧
    SameOutside order (shortestPathSh net geo order st s t cut).2 st := by
  obtain ⟨_, hag, hout⟩ := routeOnPD_obs net hnet order hnodes hends st s hs (some t) cut
  refine ⟨family_backward_as_private net hnet geo order hnodes hends st s hs (some t) cut t ht, ?_, hout⟩
  exact (hag t ht).1

/-- so, T1/T2/T4 for a network of a family, whatever the other networks were asked before: never diverges; `None` iff `t` is
unreachable in THIS network or `t = s`; otherwise the chain of a route of this network whose weights sum to its true
shortest distance -/
theorem family_path_optimal (net : Net W) (hnet : WFNet net) (hu : UniqueIds net) (geo : GeoT) (order : List Nat)
    (hnodes : ∀ v ∈ order, v < net.n) (hends : ∀ e ∈ net.edges, e.src ∈ order ∧ e.tgt ∈ order) (st : St W)
    (s t : Nat) (hs : s ∈ order) (ht : t ∈ order) :
    (shortestPathSh net geo order st s t none).1 ≠ .diverge ∧
    ((shortestPathSh net geo order st s t none).1 = .none ↔ (¬ Reachable net s t ∨ t = s)) ∧
    (∀ nodes trk, (shortestPathSh net geo order st s t none).1 = .path nodes trk →
      ∃ l g g' y, nodes = l ++ [t] ∧ trk = ⟨g ++ [geo.pos t], []⟩ ∧ Route net geo.toGeo s l g g' t y ∧ IsDist net s t y) := by
  rw [(family_path_as_private net hnet geo order hnodes hends st s t hs ht none).1]
  exact path_optimal_track net hnet hu geo s t (hnodes s hs)

/-! ### any program over a family -/

def FamOK (F : Fam W) : Prop := ∃ nets, FamRel F nets

theorem execFamP_ok (geo : GeoT) (F : Fam W) (h : FamOK F) (op : FamPOp W) : FamOK (execFamP geo F op).1 := by
  obtain ⟨nets, hrel⟩ := h
  cases op with
  | fam op => exact ⟨_, (execFam_step F nets hrel op).2.1⟩
  | path k s t cut =>
    simp only [execFamP]
    split
    · exact ⟨nets, hrel⟩
    · split
      · exact ⟨nets, hrel⟩
      · exact ⟨nets, hrel⟩

theorem famPAfter_ok (geo : GeoT) (ops : List (FamPOp W)) : ∀ (F : Fam W), FamOK F → FamOK (famPAfter geo F ops) := by
  induction ops with
  | nil => intro F h; exact h
  | cons op rest ih => intro F h; exact ih _ (execFamP_ok geo F h op)

/-- **ANY PROGRAM over a family**: networks created, filled, searched (distances, tables, `prepare`), extracted with
`sub_network` (the extracts kept and used, extracts of extracts), weights of shared `Edge` objects assigned, and
`shortest_path` asked on any of them in any order. At any point, `nets[k].shortest_path(s, t, cut)` for two nodes of that
network returns the pure `shortest_path` of network `k`'s OWN current graph, and leaves its `shortest_distance` on the target
— whatever the other networks of the family were asked before (their searches wrote `antecedent` / `antecedent_edge` on the
shared `Node` objects). -/
theorem family_program_path_as_private (geo : GeoT) (n : Nat) (ops : List (FamPOp W)) (k s t : Nat) (cut : Option W)
    (σ : Graph.Sess W) (hk : (famPAfter geo (Fam.new n) ops).nets[k]? = some σ) (hs : s ∈ σ.order) (ht : t ∈ σ.order) :
    (execFamP geo (famPAfter geo (Fam.new n) ops) (.path k s t cut)).2 =
      .path (shortestPathT σ.net geo s t cut) (shortestDistance σ.net s t cut) := by
  obtain ⟨nets, hrel⟩ := famPAfter_ok geo ops (Fam.new n) ⟨[], famRel_new n⟩
  generalize famPAfter geo (Fam.new n) ops = F at hk hrel
  obtain ⟨σ', _, rfl, hok⟩ := hrel.get hk
  obtain ⟨a, b, _⟩ := family_path_as_private σ'.core.net hok.wf geo σ'.core.order hok.nodes hok.ends F.flags s t hs ht cut
  have hc : (σ'.core.order.contains s && σ'.core.order.contains t) = true := by simp [hs, ht]
  simp only [execFamP, hk, hc, if_true]
  rw [a, b]

/-- non-vacuity: the parent `demo4` (`Props/C07.lean`) with all its nodes; the shared objects carry the flags that a search
of an extract from node 2 left (labels and antecedents that mean nothing for the parent) -/
def staleFlags : St Int :=
  { d := fun v => if v = 2 then some 0 else if v = 1 then some 7 else none, vis := fun v => v = 2 || v = 1,
    pred := fun v => if v = 1 then some (2, 1) else none }
example : (shortestPathSh demo4 demoT [0, 1, 2] staleFlags 0 2 none).1 = shortestPathT demo4 demoT 0 2 none := by decide +kernel
example : (shortestPathSh demo4 demoT [0, 1, 2] staleFlags 0 2 none).1 =
    .path [0, 1, 2] ⟨[ob 10, ob 10, ob 22, ob 21, ob 2], []⟩ := by decide +kernel

def trackOf : FamPOut Int → Option BackT
  | .path b _ => some b
  | _ => none

/-- a program: `A = Network()`, two two-way edges 0 –1– 1 –1– 2 (the second stored 2→1), `B = A.sub_network(2, cut=1)` (holds edge 1 and the nodes 1, 2),
a path on `B` from 2 to 1 (writes antecedents on the shared nodes 1 and 2), then a path on `A` from 0 to 2, then on `B` again -/
def famProg : List (FamPOp Int) :=
  [.fam .create, .fam (.on 0 (.addEdge ⟨0, 0, 1, 1, 0⟩)), .fam (.on 0 (.addEdge ⟨1, 2, 1, 1, 0⟩)), .fam (.extract 0 2 (some 1)),
   .path 1 2 1 none, .path 0 0 2 none, .path 1 1 2 none, .path 1 0 2 none]
example : (runFamP demoT2 (Fam.new 3) famProg).map trackOf =
    [none, none, none, none,
     some (.path [2, 1] ⟨[ob 2, ob 21, ob 1], []⟩),
     some (.path [0, 1, 2] ⟨[ob 0, ob 10, ob 10, ob 1, ob 21, ob 2], []⟩),
     some (.path [1, 2] ⟨[ob 1, ob 21, ob 2], []⟩),
     none] := by decide +kernel
end TV.C07
