import TracklibVerif.Lemmas.SplitSeg
import TracklibVerif.Lemmas.SplitUid
import TracklibVerif.Lemmas.SplitVal
import TracklibVerif.Lemmas.SplitTrack
import TracklibVerif.Lemmas.SplitIdx
import TracklibVerif.Lemmas.SplitNum
import TracklibVerif.Lemmas.ObsTime
/-! # C11 — splitting on a marker partitions the track; markers reflect the thresholds

Property theorems only (helper lemmas are in `Lemmas/Split*.lean`). The models are in `Model/Split.lean`:
`split` mirrors `split(track, <feature name>)` of algo/segmentation.py on a list of
(observation, marker = 1?) pairs; `splitL` / `splitLimit` the same call with a `limit`; `splitIdx` / `extract` the
index-list form and `Track.extract`; `splitColl` `TrackCollection.split_segmentation`; `marker`/`markers` mirror the
loops of `segmentation()` on exact scalars with NaN = `none`, `segTrack` the whole call on a feature table.
`Model/SplitVal.lean`: the same loops with `isnan(v)` and `v <= threshold` as the Python operator calls they are
(`foldCmpG` … `segTrackG`), and the values a track hands over: numbers or `ObsTime` objects (`Val`; the built-in
feature `timestamp`), compared with the `ObsTime` operators of `Model/ObsTime.lean`.
`Model/SplitTrack.lean`: the front end of `split(track, <feature name>)` — the marker read from the feature table BY
NAME (`FTrack.get`: built-in names, then the dictionary, by the exact string; `== 1` on the cell), `splitTrack` /
`splitTrackU`, and `segmentation()` followed by `split()` on its output feature (`segSplitTrackG`).
`Model/SplitNum.lean`: numbers as Python holds them — Python int, Python float, `numpy.int64`, `numpy.float64` (`PNum`) —
and what `<=` does on each pairing: exact, except that numpy converts the integer operand of an integer/float pair to
the nearest double (`roundInt`). `segmentation()` itself converts nothing (no `float(threshold)`): `marker_and_num` /
`marker_or_num` state the property for integers of any size (beyond 2^53, beyond int64) against integer or float thresholds.
Index lists: `extract_any` / `split_indices_any` cover every list of integers (negative, descending, out of range).
All statements hold for every track length, every marker vector, every number of tested features; the
observations are abstract, so nothing depends on coordinates (NaN, infinite, repeated), timestamps or other features. -/
namespace TV.C11
open TV.Split
variable {β : Type}

/-- T1: as soon as one observation is marked, the pieces taken in order are the track: every
observation exactly once, in the original order. -/
theorem split_partition (obs : List (β × Bool)) (h : obs.any Prod.snd = true) :
    (split obs).flatten = obs.map Prod.fst :=
  Split.split_partition obs h

/-- T3: with no marked observation the returned collection is empty (as documented). -/
theorem split_none (obs : List (β × Bool)) (h : obs.any Prod.snd = false) : split obs = [] :=
  Split.split_none obs h

/-- T2 (a): every piece except the last one ends at a marked observation and contains no other
marked observation. (`mk o` = "the marker feature of observation `o` equals 1".) -/
theorem split_ends_marked (mk : β → Bool) (l : List β) :
    ∀ p ∈ (split (tag mk l)).dropLast, EndsMarked mk p :=
  (split_tag_marked mk l).1

/-- T2 (b): the last piece (what follows the last marked observation) contains no marked observation. -/
theorem split_tail_unmarked (mk : β → Bool) (l : List β) (t : List β)
    (ht : (split (tag mk l)).getLast? = some t) : ∀ q ∈ t, mk q = false :=
  (split_tag_marked mk l).2 t ht

/-- T2 (c): the trailing piece is the only piece that can be empty (it is empty exactly when
`extract(size, size-1)` is called, i.e. the last observation is marked). -/
theorem split_only_tail_empty (mk : β → Bool) (l : List β) :
    ∀ p ∈ (split (tag mk l)).dropLast, p ≠ [] := by
  intro p hp
  obtain ⟨init, o, rfl, _, _⟩ := split_ends_marked mk l p hp
  simp

/-- T2 (d): the trailing piece is empty exactly when the last observation of the track is marked -/
theorem split_tail_empty_iff (mk : β → Bool) (l : List β) (h : l.any mk = true) :
    (split (tag mk l)).getLast? = some [] ↔ ∃ o, l.getLast? = some o ∧ mk o = true := by
  rw [split_eq_go, any_tag, h, if_pos rfl, List.getLast?_concat]
  have hl : l ≠ [] := by intro hl; subst hl; simp at h
  rw [Option.some.injEq, go_cur_nil]
  simp [hl, tag, List.getLast?_map]

/-- T2 for a track given as (observation, marker) pairs: `split` only looks at the markers, so the
pieces are the images of the pieces of the self-tagged track, which satisfy (a)–(c). -/
theorem split_pairs (obs : List (β × Bool)) :
    split obs = (split (tag Prod.snd obs)).map (List.map Prod.fst) := by
  have h := split_map (Prod.fst : β × Bool → β) (tag Prod.snd obs)
  have e : (tag Prod.snd obs).map (fun p => (p.1.1, p.2)) = obs := by
    simp [tag, Function.comp_def]
  rw [e] at h
  exact h

/-- T5: `split(track, name, limit)` returns, in order, the pieces of `split(track, name)` that pass the filter of
their position: the pieces that end at a marked observation unless `short` (`limit > 0 and length < limit`), then the
closing piece if `keepTail` (`limit == 0 or (limit > 0 and length >= limit)`). Nothing else is dropped, nothing is
added, no piece is altered. Holds with or without a marked observation (then both sides are empty). -/
theorem split_limit_filter (short keepTail : List β → Bool) (obs : List (β × Bool)) :
    splitL short keepTail obs =
      (split obs).dropLast.filter (fun p => !short p) ++ ((split obs).getLast?.toList).filter keepTail :=
  splitL_eq_filter short keepTail obs

/-- T5 (partition property of the kept pieces): the kept pieces are a sub-sequence of the pieces of the plain split
(same order, none twice), and their observations, taken in order, are a sub-sequence of the track: original order,
no observation twice. -/
theorem split_limit_sublist (short keepTail : List β → Bool) (obs : List (β × Bool)) :
    (splitL short keepTail obs).Sublist (split obs) ∧
    (splitL short keepTail obs).flatten.Sublist (obs.map Prod.fst) := by
  have h : (splitL short keepTail obs).Sublist (split obs) := by
    rw [splitL_eq_filter]
    conv => rhs; rw [← dropLast_append_getLast? (split obs)]
    exact List.Sublist.append List.filter_sublist List.filter_sublist
  exact ⟨h, (sublist_flatten h).trans (split_flatten_sublist obs)⟩

/-- T5 (`limit = 0`, the property's case): whatever `Track.length` returns for the pieces — a NaN included, since
nothing is assumed about `length` — `split(track, name, 0)` is `split(track, name)`. The two facts about the scalar
type (`0 < 0` is false, `0 == 0` is true) hold for Python numbers. -/
theorem split_limit_zero {α : Type} [LT α] [LE α] [DecidableLT α] [DecidableLE α] [BEq α] [OfNat α 0]
    (h0 : ¬ (0 : α) < 0) (hz : ((0 : α) == 0) = true) (length : List β → α) (obs : List (β × Bool)) :
    splitLimit length 0 obs = split obs := by
  rw [splitLimit, splitL_eq_filter_same _ _ (fun _ => true) (fun p => by simp [limitShort, h0])
    (fun p => by simp [limitKeepTail, hz])]
  exact List.filter_eq_self.mpr (fun _ _ => rfl)

/-- T5 (`limit > 0`, lengths comparable with the limit — i.e. not NaN): the two filters are the same test, and the
result is exactly the pieces of the plain split whose length is at least `limit`. -/
theorem split_limit_pos {α : Type} [LT α] [LE α] [DecidableLT α] [DecidableLE α] [BEq α] [OfNat α 0]
    (limit : α) (hpos : (0 : α) < limit) (hne : (limit == 0) = false) (length : List β → α)
    (htot : ∀ p, ¬ length p < limit ↔ limit ≤ length p) (obs : List (β × Bool)) :
    splitLimit length limit obs = (split obs).filter (fun p => decide (limit ≤ length p)) := by
  exact splitL_eq_filter_same _ _ _ (fun p => by simp [limitShort, hpos, ← htot p])
    (fun p => by simp [limitKeepTail, hne, hpos]) obs

/-- T5 (uids): the loop written with the code's `i`, `begin`, `count` (`splitU`, which also yields the three numbers of
each piece's uid `<uid>.<count>.<begin>.<end>`) returns the pieces of `splitL`. -/
theorem split_uid_pieces (short keepTail : List β → Bool) (obs : List (β × Bool)) :
    (splitU short keepTail obs).map Prod.snd = splitL short keepTail obs := by
  have h := goU_goL short obs 0 0 0 [] [] false (by simp)
  simp only [List.map_nil] at h
  unfold splitU splitL
  rw [← h]
  generalize goU short obs 0 0 0 [] [] = r
  obtain ⟨acc, cur, begin, count⟩ := r
  by_cases hb : begin = 0
  · simp [hb]
  · cases hk : keepTail cur <;> simp [hb, hk]

/-- T5 (uids): the numbers written into the uid of a returned piece are right: the piece is the run of observations
`begin..end` (both included) of the track — what `findStopsLocal` reads back as `id_ini` / `id_end` — and `count`
numbers the returned pieces 0, 1, 2, … without a gap, whatever was dropped by the limit. -/
theorem split_uid_numbers (short keepTail : List β → Bool) (obs : List (β × Bool)) :
    (∀ (count b e : Nat) (p : List β), ((count, b, e), p) ∈ splitU short keepTail obs →
      p = ((obs.map Prod.fst).take (e + 1)).drop b ∧ b ≤ e + 1 ∧ e + 1 ≤ obs.length) ∧
    (splitU short keepTail obs).map (fun x => x.1.1) = List.range (splitU short keepTail obs).length :=
  ⟨fun count b e p h => by
      have := (splitU_ids short keepTail obs).1 ((count, b, e), p) h
      simpa [IdOk] using this,
   (splitU_ids short keepTail obs).2⟩

/-- T5/T6 (the loop and `Track.extract` agree): every returned piece is what `Track.extract(begin, end)` returns on the
track for the `begin` / `end` of its uid — `split` calls `track.extract(begin, i)`; the closing piece after a marked last
observation is `extract(size, size - 1)`, the empty track. -/
theorem split_uid_extract (short keepTail : List β → Bool) (obs : List (β × Bool)) :
    ∀ (count b e : Nat) (p : List β), ((count, b, e), p) ∈ splitU short keepTail obs →
      extract (obs.map Prod.fst) (b : Int) (e : Int) = some p :=
  fun count b e p h => ((splitU_ids short keepTail obs).1 ((count, b, e), p) h).extract

/-- T6: `Track.extract(a, b)` with `0 ≤ a ≤ b < size` is the run of observations `a..b`, both ends included. -/
theorem extract_inclusive (l : List β) (a b : Nat) (hab : a ≤ b) (hb : b < l.length) :
    extract l (a : Int) (b : Int) = some ((l.drop a).take (b + 1 - a)) ∧ ((l.drop a).take (b + 1 - a)).length = b + 1 - a := by
  refine ⟨extract_range l a b (Nat.le_of_lt (Nat.lt_of_le_of_lt hab hb)) hb, ?_⟩
  rw [List.length_take, List.length_drop]
  exact Nat.min_eq_left (Nat.sub_le_sub_right hb a)

/-- T6: `Track.extract(a, b)` with `a > b` is the empty track, never an error (the closing `extract(size, size - 1)`
of `split` when the last observation is marked). -/
theorem extract_reversed_empty (l : List β) (a b : Int) (h : b < a) : extract l a b = some [] := by
  unfold extract pyRange
  have : (b + 1 - a).toNat = 0 := Int.toNat_eq_zero.mpr (Int.sub_nonpos_of_le h)
  rw [this]; rfl

/-- T6: `split(track, [i0 ≤ i1 ≤ … ], limit)` with indices inside the track returns, in order, the runs
`i_k .. i_{k+1}` (both ends included, so consecutive pieces share their boundary observation) that are not `short`;
with `limit = 0` there are `len(indices) - 1` of them. -/
theorem split_indices (short : List β → Bool) (l : List β) (src : List Nat)
    (hs : src.Pairwise (· ≤ ·)) (hb : ∀ a ∈ src, a < l.length) :
    splitIdx short l (src.map (fun (k : Nat) => (k : Int))) = some ((idxPieces l src).filter (fun p => !short p)) ∧
    (idxPieces l src).length = src.length - 1 :=
  ⟨by rw [splitIdx_eq, mapM_extract_natCast l src hb]; rfl, idxPieces_length l src⟩

/-- T6 (any integers): `Track.extract(a, b)` raises `IndexError` exactly when some index of `a..b` lies outside
`[-size, size)` (Python list indexing: a negative index counts from the end); otherwise it returns `b - a + 1`
observations (none when `a > b`), the `j`-th being `track[a + j]` — so a range that crosses 0 from the negative side
wraps around from the end of the track to its beginning. -/
theorem extract_any (l : List β) (a b : Int) :
    ((extract l a b).isSome = true ↔ ∀ k, a ≤ k → k ≤ b → -(l.length : Int) ≤ k ∧ k < (l.length : Int)) ∧
    ∀ p, extract l a b = some p →
      p.length = (b + 1 - a).toNat ∧ ∀ (j : Nat), j < p.length → (p[j]?).map some = some (pyIndex l (a + (j : Int))) := by
  refine ⟨extract_isSome l a b, fun p h => ?_⟩
  have hm := (Common.mapM_eq_some_iff _ _ _).mp h
  have hlen : p.length = (b + 1 - a).toNat := by simpa [pyRange] using (congrArg List.length hm).symm
  refine ⟨hlen, fun j hj => ?_⟩
  have hj' := congrArg (·[j]?) hm
  simp only [List.getElem?_map] at hj'
  rw [← hj', pyRange, List.getElem?_map, List.getElem?_range (by omega)]
  rfl

/-- T6 (any index list — unsorted, negative, out of range): `split(track, source, limit)` raises `IndexError` exactly
when one of the ranges `source[i] .. source[i+1]` reaches outside `[-size, size)`; otherwise it returns, in the order of
the list, the tracks `extract(source[i], source[i+1])` (characterised by `extract_any`; empty for a descending pair)
that are not `short`. -/
theorem split_indices_any (short : List β → Bool) (l : List β) (src : List Int) :
    ((splitIdx short l src).isSome = true ↔
      ∀ ab ∈ pairs src, ∀ k, ab.1 ≤ k → k ≤ ab.2 → -(l.length : Int) ≤ k ∧ k < (l.length : Int)) ∧
    ∀ r, splitIdx short l src = some r →
      ∃ ps, (pairs src).mapM (fun ab => extract l ab.1 ab.2) = some ps ∧ r = ps.filter (fun p => !short p) := by
  rw [splitIdx_eq]
  exact ⟨by simp only [Option.isSome_map, Common.mapM_isSome_iff, extract_isSome],
    fun r h => by simpa only [Option.map_eq_some_iff, eq_comm (a := r)] using h⟩

/-- T7: `TrackCollection.split_segmentation`: the pieces, taken in order, are the observations of the tracks that
have at least one marked observation, track after track, each exactly once and in the original order (a track
without any marked observation contributes no piece). -/
theorem split_collection (tracks : List (List (β × Bool))) :
    (splitColl tracks).flatten = ((tracks.filter (fun t => t.any Prod.snd)).map (List.map Prod.fst)).flatten := by
  induction tracks with
  | nil => rfl
  | cons t ts ih =>
    simp only [splitColl, List.flatMap_cons, List.flatten_append] at ih ⊢
    rw [ih]
    cases h : t.any Prod.snd with
    | true => simp [h, split_partition t h]
    | false => simp [h, split_none t h]

section marker
variable {α : Type} [LE α] [LT α] [DecidableLE α]

/-- T4 (AND mode), for any scalar type where `¬ a ≤ b ↔ b < a` (rationals, rationals with ±∞: the doubles without
NaN): with at least as many thresholds as tested features the call succeeds and the marker is 1 exactly when SOME
tested non-NaN value exceeds the threshold of its position. (The library's mode names are inverted with respect to
the quantifier: AND is the conjunction of `value <= threshold`, so its negation — the marker — is "some exceeds".) -/
theorem marker_and_ord (hnot : ∀ a b : α, ¬ a ≤ b ↔ b < a) (fmax : α) (ths : List α) (vals : List (Option α))
    (h : vals.length ≤ ths.length) :
    ∃ b, marker fmax true ths vals = some b ∧
      (b = true ↔ ∃ (i : Nat) (v th : α), vals[i]? = some (some v) ∧ ths[i]? = some th ∧ th < v) := by
  obtain ⟨b, hb, hiff⟩ := marker_eq_mode_iff fmax true ths vals h
  exact ⟨b, hb, by simpa only [Bool.not_true, decide_eq_false_iff_not, hnot] using hiff⟩

/-- T4 (OR mode): the marker is 1 exactly when EVERY tested non-NaN value exceeds the threshold of
its position (vacuously 1 when all tested values are NaN). -/
theorem marker_or_ord (hnot : ∀ a b : α, ¬ a ≤ b ↔ b < a) (fmax : α) (ths : List α) (vals : List (Option α))
    (h : vals.length ≤ ths.length) :
    ∃ b, marker fmax false ths vals = some b ∧
      (b = true ↔ ∀ (i : Nat) (v th : α), vals[i]? = some (some v) → ths[i]? = some th → th < v) := by
  obtain ⟨b, hb, hiff⟩ := marker_eq_mode_iff fmax false ths vals h
  refine ⟨b, hb, ?_⟩
  rw [← Bool.not_eq_false, hiff]
  simp only [not_exists, not_and, Bool.not_false, decide_eq_true_eq, hnot]

end marker

section thresholds
variable {α : Type} [LE α] [DecidableLE α]

/-- T4 (whole track): `segmentation()` succeeds on every observation and produces one marker per
observation, each being the marker of that observation's row (`marker_and` / `marker_or`). -/
theorem markers_each_ord (fmax : α) (andMode : Bool) (ths : List α) (rows : List (List (Option α)))
    (h : ∀ r ∈ rows, r.length ≤ ths.length) :
    ∃ bs, markers fmax andMode ths rows = some bs ∧ rows.map (marker fmax andMode ths) = bs.map some := by
  induction rows with
  | nil => exact ⟨[], rfl, rfl⟩
  | cons r rs ih =>
    obtain ⟨bs, hbs, hall⟩ := ih (fun x hx => h x (List.mem_cons_of_mem _ hx))
    obtain ⟨b, hb, _⟩ := marker_eq_mode_iff fmax andMode ths r (h r List.mem_cons_self)
    exact ⟨b :: bs, by simp [markers, hb, hbs], by simp [hb, hall]⟩

/-- T4 (more thresholds than tested features): the extra thresholds are never read. -/
theorem marker_extra_thresholds (fmax : α) (andMode : Bool) (ths extra : List α) (vals : List (Option α))
    (h : vals.length ≤ ths.length) :
    marker fmax andMode (ths ++ extra) vals = marker fmax andMode ths vals := by
  simp only [marker, foldCmp_extra fmax andMode ths extra vals 0 andMode (by rw [Nat.zero_add]; exact h)]

/-- What the code does with FEWER thresholds than tested features (outside the property's domain): as soon as an
observation has a non-NaN value for the feature at position `len(thresholds_max)`, the call raises `IndexError`
(the guard `len(thresholds_max) >= index` lets `index == len` through; the `sys.float_info.max` default is only
reached for later positions, when that value is NaN). -/
theorem marker_index_error (fmax : α) (andMode : Bool) (ths : List α) (vals : List (Option α)) (v : α)
    (h : vals[ths.length]? = some (some v)) : marker fmax andMode ths vals = none := by
  rw [marker, foldCmp_index_error fmax andMode ths v vals _ 0 andMode (Nat.zero_add _) h, Option.map_none]
end thresholds

/-- T4 (AND mode) on exact rationals (every finite double is one, and `<=` on finite doubles is exact) -/
theorem marker_and (fmax : Rat) (ths : List Rat) (vals : List (Option Rat)) (h : vals.length ≤ ths.length) :
    ∃ b, marker fmax true ths vals = some b ∧
      (b = true ↔ ∃ (i : Nat) (v th : Rat), vals[i]? = some (some v) ∧ ths[i]? = some th ∧ th < v) :=
  marker_and_ord (fun _ _ => Rat.not_le) fmax ths vals h

/-- T4 (OR mode) on exact rationals -/
theorem marker_or (fmax : Rat) (ths : List Rat) (vals : List (Option Rat)) (h : vals.length ≤ ths.length) :
    ∃ b, marker fmax false ths vals = some b ∧
      (b = true ↔ ∀ (i : Nat) (v th : Rat), vals[i]? = some (some v) → ths[i]? = some th → th < v) :=
  marker_or_ord (fun _ _ => Rat.not_le) fmax ths vals h

/-- T4 (whole track) on exact rationals -/
theorem markers_each (fmax : Rat) (andMode : Bool) (ths : List Rat) (rows : List (List (Option Rat)))
    (h : ∀ r ∈ rows, r.length ≤ ths.length) :
    ∃ bs, markers fmax andMode ths rows = some bs ∧ rows.map (marker fmax andMode ths) = bs.map some :=
  markers_each_ord fmax andMode ths rows h

/-- T4 with infinite values and thresholds (`Ext` = rationals and ±∞, the scalar type the driver runs): +∞ exceeds
every threshold but +∞, nothing exceeds +∞, −∞ exceeds nothing. -/
theorem marker_and_ext (ths : List Ext) (vals : List (Option Ext)) (h : vals.length ≤ ths.length) :
    ∃ b, marker Ext.fmax true ths vals = some b ∧
      (b = true ↔ ∃ (i : Nat) (v th : Ext), vals[i]? = some (some v) ∧ ths[i]? = some th ∧ th < v) :=
  marker_and_ord Ext.not_le Ext.fmax ths vals h

theorem marker_or_ext (ths : List Ext) (vals : List (Option Ext)) (h : vals.length ≤ ths.length) :
    ∃ b, marker Ext.fmax false ths vals = some b ∧
      (b = true ↔ ∀ (i : Nat) (v th : Ext), vals[i]? = some (some v) → ths[i]? = some th → th < v) :=
  marker_or_ord Ext.not_le Ext.fmax ths vals h

section track
variable {α : Type} [LE α] [DecidableLE α] [OfNat α 0] [OfNat α 1]

/-- the value written for a marker: the integers 1 / 0 -/
def markVal (b : Bool) : Option α := some (if b then 1 else 0)

/-- T8: a call in the property's domain — output name not reserved (and therefore not virtual), track not empty,
every tested feature known once the output feature exists, at least as many thresholds as tested features —
succeeds; the output feature then holds, for every observation, the marker of the row of tested values read at
that observation (`rows` lists them in the order of `afs_input`; each marker is characterised by `marker_and_ord` /
`marker_or_ord`); every other feature — virtual or analytical — reads as before; the table keeps its names and
their order (the output name is appended only if it was new); size unchanged. This covers an output feature
that already exists (whatever it holds) and an output feature that is one of the tested features. -/
theorem segmentation_track (fmax : α) (andMode : Bool) (t : FTrack α) (afs : Arg String) (out : String) (ths : Arg α)
    (hres : reserved.contains out = false) (hsize : t.size ≠ 0) (hvirt : t.virt.lookup out = none)
    (hknown : ∀ a ∈ afs.listify, ((t.create out).get a).isSome = true)
    (hlen : afs.listify.length ≤ ths.listify.length) :
    ∃ rows bs t', (t.create out).rows afs.listify = some rows ∧ rows.length = t.size ∧
      markers fmax andMode ths.listify rows = some bs ∧
      rows.map (marker fmax andMode ths.listify) = bs.map some ∧
      segTrack fmax andMode t afs out ths = .ok t' ∧
      t'.get out = some (bs.map markVal) ∧
      (∀ name, name ≠ out → t'.get name = t.get name) ∧
      t'.feats.map Prod.fst = (t.create out).feats.map Prod.fst ∧
      t'.size = t.size ∧ t'.virt = t.virt := by
  obtain ⟨rows, hrows, hrl, hrw⟩ := rows_of_known _ _ hknown
  obtain ⟨bs, hbs, hall⟩ := markers_each_ord fmax andMode ths.listify rows (fun r hr => by rw [hrw r hr]; exact hlen)
  refine ⟨rows, bs, _, hrows, by rw [hrl, create_size], hbs, hall, ?_, create_setCol t out (bs.map markVal) hvirt⟩
  simp only [segTrack, hres, Bool.false_eq_true, if_false, hsize, hrows, hbs]
  rfl

/-- T8 (collections): `TrackCollection.segmentation` is `segmentation()` on every track in turn: when each call
succeeds, the collection holds the segmented tracks in the same order. -/
theorem segmentation_collection (fmax : α) (andMode : Bool) (ts : List (FTrack α)) (afs : Arg String) (out : String)
    (ths : Arg α) (f : FTrack α → FTrack α) (h : ∀ t ∈ ts, segTrack fmax andMode t afs out ths = .ok (f t)) :
    segColl fmax andMode ts afs out ths = .ok (ts.map f) :=
  Common.mapM_ok_of_forall h

/-- T8 (argument forms): a bare feature name / a bare threshold is the one-element list. -/
theorem listify_one {γ : Type} (a : γ) : (Arg.one a).listify = (Arg.many [a]).listify := rfl
end track

section typed
variable {α : Type}

/-- T9 (AND mode, any kind of value): let `isnan` and `le?` be what Python's `v != v` and `v <= th` do on the values
at hand, and `gt` "v exceeds th". If, wherever a non-NaN tested value meets the threshold of its position, `<=` answers
and answers `not (v exceeds th)` (numbers; `ObsTime` against `ObsTime`; any class whose `__le__` is the negation of
its `__gt__`), then the call raises nothing and the marker is 1 exactly when SOME tested value that is not NaN
exceeds its threshold. A value is skipped only if `isnan` says so: a tested `ObsTime` counts. -/
theorem marker_and_typed (isnan : α → Bool) (le? : α → α → Except String Bool) (gt : α → α → Bool) (fmax : α)
    (ths : List α) (vals : List (Option α)) (h : vals.length ≤ ths.length) (hty : Typed isnan le? gt ths 0 vals) :
    ∃ b, markerG isnan le? fmax true ths vals = .ok b ∧
      (b = true ↔ ∃ (i : Nat) (v th : α), vals[i]? = some (some v) ∧ isnan v = false ∧ ths[i]? = some th ∧ gt v th = true) :=
  markerG_typed isnan le? fmax true ths gt vals h hty

/-- T9 (OR mode, any kind of value): the marker is 1 exactly when EVERY tested value that is not NaN exceeds its
threshold. -/
theorem marker_or_typed (isnan : α → Bool) (le? : α → α → Except String Bool) (gt : α → α → Bool) (fmax : α)
    (ths : List α) (vals : List (Option α)) (h : vals.length ≤ ths.length) (hty : Typed isnan le? gt ths 0 vals) :
    ∃ b, markerG isnan le? fmax false ths vals = .ok b ∧
      (b = true ↔ ∀ (i : Nat) (v th : α), vals[i]? = some (some v) → isnan v = false → ths[i]? = some th → gt v th = true) := by
  obtain ⟨b, hb, hiff⟩ := markerG_typed isnan le? fmax false ths gt vals h hty
  refine ⟨b, hb, ?_⟩
  rw [← Bool.not_eq_false, hiff]
  simp only [not_exists, not_and, Bool.not_eq_false]

/-- T9 (whole track): with typed rows `segmentation()` raises nothing and yields one marker per observation, each
the marker of its row. -/
theorem markers_each_typed (isnan : α → Bool) (le? : α → α → Except String Bool) (gt : α → α → Bool) (fmax : α)
    (andMode : Bool) (ths : List α) (rows : List (List (Option α)))
    (h : ∀ r ∈ rows, r.length ≤ ths.length ∧ Typed isnan le? gt ths 0 r) :
    ∃ bs, markersG isnan le? fmax andMode ths rows = .ok bs ∧
      rows.map (markerG isnan le? fmax andMode ths) = bs.map Except.ok := by
  induction rows with
  | nil => exact ⟨[], rfl, rfl⟩
  | cons r rs ih =>
    obtain ⟨bs, hbs, hall⟩ := ih (fun x hx => h x (List.mem_cons_of_mem _ hx))
    obtain ⟨hl, hty⟩ := h r List.mem_cons_self
    obtain ⟨b, hb, _⟩ := markerG_typed isnan le? fmax andMode ths gt r hl hty
    exact ⟨b :: bs, by simp [markersG, hb, hbs], by simp [hb, hall]⟩

/-- T9 (the numeric model is a special case): when nothing but NaN is NaN and `<=` always answers — numbers —
the operator-call loops are the loops `marker_and_ord` … `segmentation_track` are about. -/
theorem segmentation_total [LE α] [DecidableLE α] [OfNat α 0] [OfNat α 1] (fmax : α) (andMode : Bool) (t : FTrack α)
    (afs : Arg String) (out : String) (ths : Arg α) :
    segTrackG (fun _ => false) (fun a b => .ok (decide (a ≤ b))) fmax andMode t afs out ths
      = segTrack fmax andMode t afs out ths := by
  unfold segTrackG segTrack
  refine ite_congr rfl (fun _ => rfl) (fun _ => ite_congr rfl (fun _ => rfl) (fun _ => ?_))
  dsimp only
  cases (t.create out).rows afs.listify with
  | none => rfl
  | some rows =>
    dsimp only
    rw [markersG_total]
    cases markers fmax andMode ths.listify rows <;> rfl

/-- T9 (evaluation order, outside the domain): a value that cannot be compared with its threshold (a number against
an `ObsTime`) raises only if Python gets to compare it. The first tested value that is not NaN is always compared:
if `<=` raises there, the call raises. -/
theorem marker_first_raises (isnan : α → Bool) (le? : α → α → Except String Bool) (fmax : α) (andMode : Bool)
    (v th : α) (ths : List α) (vals : List (Option α)) (e : String) (hn : isnan v = false) (he : le? v th = .error e) :
    markerG isnan le? fmax andMode (th :: ths) (some v :: vals) = .error e := by
  cases andMode <;> simp [markerG, foldCmpG, hn, threshold, he]

/-- T9 (evaluation order): once a tested value has decided the marker — it exceeds its threshold in AND mode, it
does not in OR mode — the remaining values are not compared (`False and …`, `True or …`): no exception, whatever
they are. Stated for the first tested value. -/
theorem marker_decided_first (isnan : α → Bool) (le? : α → α → Except String Bool) (fmax : α) (andMode : Bool)
    (v th : α) (ths : List α) (vals : List (Option α)) (hn : isnan v = false) (hle : le? v th = .ok (!andMode))
    (hlen : vals.length ≤ ths.length) :
    markerG isnan le? fmax andMode (th :: ths) (some v :: vals) = .ok andMode := by
  have hd := foldCmpG_decided isnan le? fmax andMode (th :: ths) vals 1 (by rw [List.length_cons, Nat.add_comm]; exact Nat.succ_le_succ hlen)
  cases andMode <;> simp_all [markerG, foldCmpG, threshold]
end typed

open TV.ObsTime in
/-- T10 (`isnan`): no value but the float NaN is "NaN" for `segmentation()`: `utils.isnan(v)` is `v != v`, which is
False for every number and — `ObsTime.__ne__` being `not (time == self)` on the seven fields — for every `ObsTime`.
So the timestamps of the built-in feature `timestamp` are never skipped. -/
theorem val_never_nan (v : Val) : Val.isnan v = false := by
  cases v with
  | num x => rfl
  | time t =>
    have : eqS t t = true := (eqS_iff t t).mpr rfl
    simp [Val.isnan, neS, this]

/-- T10 (AND mode on numbers and timestamps): every tested value being of the kind of its threshold (number against
number, `ObsTime` against `ObsTime`; the kinds may differ from one tested feature to the next), the call raises
nothing and the marker is 1 exactly when some tested non-NaN value exceeds its threshold (`Val.gt`: `>` on numbers,
`ObsTime.__gt__` on timestamps). -/
theorem marker_and_val (ths : List Val) (vals : List (Option Val)) (h : vals.length ≤ ths.length)
    (hk : ∀ (i : Nat) (v th : Val), vals[i]? = some (some v) → ths[i]? = some th → Val.sameKind v th = true) :
    ∃ b, markerG Val.isnan Val.le? Val.fmax true ths vals = .ok b ∧
      (b = true ↔ ∃ (i : Nat) (v th : Val), vals[i]? = some (some v) ∧ ths[i]? = some th ∧ Val.gt v th = true) := by
  obtain ⟨b, hb, hiff⟩ := marker_and_typed Val.isnan Val.le? Val.gt Val.fmax ths vals h (Val.typed ths vals hk)
  refine ⟨b, hb, hiff.trans ⟨?_, ?_⟩⟩
  · rintro ⟨i, v, th, hv, _, hth, hg⟩; exact ⟨i, v, th, hv, hth, hg⟩
  · rintro ⟨i, v, th, hv, hth, hg⟩; exact ⟨i, v, th, hv, val_never_nan v, hth, hg⟩

/-- T10 (OR mode on numbers and timestamps): the marker is 1 exactly when every tested non-NaN value exceeds its
threshold. -/
theorem marker_or_val (ths : List Val) (vals : List (Option Val)) (h : vals.length ≤ ths.length)
    (hk : ∀ (i : Nat) (v th : Val), vals[i]? = some (some v) → ths[i]? = some th → Val.sameKind v th = true) :
    ∃ b, markerG Val.isnan Val.le? Val.fmax false ths vals = .ok b ∧
      (b = true ↔ ∀ (i : Nat) (v th : Val), vals[i]? = some (some v) → ths[i]? = some th → Val.gt v th = true) := by
  obtain ⟨b, hb, hiff⟩ := marker_or_typed Val.isnan Val.le? Val.gt Val.fmax ths vals h (Val.typed ths vals hk)
  refine ⟨b, hb, hiff.trans ⟨?_, ?_⟩⟩
  · intro hall i v th hv hth; exact hall i v th hv (val_never_nan v) hth
  · intro hall i v th hv _ hth; exact hall i v th hv hth

open TV.ObsTime in
/-- T10 ("exceeds" between timestamps is "strictly later"): for well-formed dates (`WFs`: fields in their calendar
ranges, year ≥ 1970) `ObsTime.__gt__` holds exactly when the instant, counted in milliseconds, is larger (C03). -/
theorem val_gt_time (a b : Stamp) (ha : WFs a) (hb : WFs b) :
    Val.gt (.time a) (.time b) = true ↔ toAbsMs b < toAbsMs a := by
  show gtS a b = true ↔ _
  rw [gtS_eq_ltS]
  exact ltS_iff b a hb ha

/-- T10 ("exceeds" between numbers) -/
theorem val_gt_num (a b : Ext) : Val.gt (.num a) (.num b) = true ↔ b < a := by
  simp [Val.gt]

/-- T10 (outside the domain): a number against an `ObsTime` threshold, or the reverse, is an `AttributeError` of
`ObsTime.__gt__` / `__lt__` (they read `time.year`) as soon as the pair is compared. -/
theorem val_mixed_raises (v th : Val) (h : Val.sameKind v th = false) : Val.le? v th = .error "attr" := by
  cases v <;> cases th <;> first | rfl | cases h

/-- T10 (`getObsAnalyticalFeature` on the built-in names): on a track given by its coordinates (`xyz`: columns named
`x`, `y`, `z`), its timestamps and its feature table, the name `timestamp` reads the `ObsTime` objects themselves,
`idx` the indices 0, 1, 2, …, `t` `toAbsTime()` of every timestamp — whatever the feature table holds. -/
theorem builtin_features (absTime : TV.ObsTime.Stamp → Option Val) (xyz feats : List (String × Col Val))
    (stamps : List TV.ObsTime.Stamp) (hx : ∀ p ∈ xyz, p.1 = "x" ∨ p.1 = "y" ∨ p.1 = "z") :
    (FTrack.ofObs absTime xyz stamps feats).size = stamps.length ∧
    (FTrack.ofObs absTime xyz stamps feats).get "timestamp" = some (stamps.map (fun s => some (Val.time s))) ∧
    (FTrack.ofObs absTime xyz stamps feats).get "idx"
      = some ((List.range stamps.length).map (fun (i : Nat) => some (Val.num (.fin (i : Rat))))) ∧
    (FTrack.ofObs absTime xyz stamps feats).get "t" = some (stamps.map absTime) := by
  -- a name that is none of `x y z` is looked up among `t timestamp idx`
  have hk : ∀ k : String, k ≠ "x" → k ≠ "y" → k ≠ "z" → (FTrack.ofObs absTime xyz stamps feats).virt.lookup k =
      List.lookup k [("t", stamps.map absTime), ("timestamp", stamps.map (fun s => some (Val.time s))),
        ("idx", (List.range stamps.length).map (fun (i : Nat) => some (Val.num (.fin (i : Rat)))))] :=
    fun k h1 h2 h3 => lookup_append_skip k xyz _ fun p hp e => by
      rcases hx p hp with h | h | h
      · exact h1 (e ▸ h)
      · exact h2 (e ▸ h)
      · exact h3 (e ▸ h)
  refine ⟨rfl, ?_, ?_, ?_⟩ <;> rw [FTrack.get, hk _ (by simp) (by simp) (by simp)] <;> simp [List.lookup_cons]

section trackG
variable {α : Type} [OfNat α 0] [OfNat α 1]

/-- T11 (`segmentation()` as a whole, any kind of value): `segmentation_track` for the operator-call model. A call
in the domain — output name not reserved, track not empty, tested features known, at least as many thresholds as
tested features, and the rows read from the track typed against the thresholds (at `Val`: every tested feature holds
values of the kind of its threshold, NaN apart — `Val.typed`) — succeeds; the output feature holds the markers of the
rows (characterised by `marker_and_typed` / `marker_or_typed`); every other feature reads as before; names, their
order and the size are unchanged. The tested features may be the built-in ones (`virt`: `x y z t idx timestamp`). -/
theorem segmentation_track_typed (isnan : α → Bool) (le? : α → α → Except String Bool) (gt : α → α → Bool) (fmax : α)
    (andMode : Bool) (t : FTrack α) (afs : Arg String) (out : String) (ths : Arg α)
    (hres : reserved.contains out = false) (hsize : t.size ≠ 0) (hvirt : t.virt.lookup out = none)
    (hknown : ∀ a ∈ afs.listify, ((t.create out).get a).isSome = true)
    (hlen : afs.listify.length ≤ ths.listify.length)
    (hty : ∀ rows, (t.create out).rows afs.listify = some rows → ∀ r ∈ rows, Typed isnan le? gt ths.listify 0 r) :
    ∃ rows bs t', (t.create out).rows afs.listify = some rows ∧ rows.length = t.size ∧
      markersG isnan le? fmax andMode ths.listify rows = .ok bs ∧
      rows.map (markerG isnan le? fmax andMode ths.listify) = bs.map Except.ok ∧
      segTrackG isnan le? fmax andMode t afs out ths = .ok t' ∧
      t'.get out = some (bs.map markVal) ∧
      (∀ name, name ≠ out → t'.get name = t.get name) ∧
      t'.feats.map Prod.fst = (t.create out).feats.map Prod.fst ∧
      t'.size = t.size ∧ t'.virt = t.virt := by
  obtain ⟨rows, hrows, hrl, hrw⟩ := rows_of_known _ _ hknown
  obtain ⟨bs, hbs, hall⟩ := markers_each_typed isnan le? gt fmax andMode ths.listify rows
    (fun r hr => ⟨by rw [hrw r hr]; exact hlen, hty _ hrows r hr⟩)
  refine ⟨rows, bs, _, hrows, by rw [hrl, create_size], hbs, hall, ?_, create_setCol t out (bs.map markVal) hvirt⟩
  simp only [segTrackG, hres, Bool.false_eq_true, if_false, hsize, hrows, hbs]
  rfl

/-- T11 (numbers and `ObsTime` objects): the same for the values a track actually hands over, the hypothesis being
that in every row read from the track each non-NaN tested value is of the kind of the threshold of its position
(e.g. `afs_input = ["speed", "timestamp"]`, `thresholds_max = [5.0, ObsTime(…)]`). -/
theorem segmentation_track_val (andMode : Bool) (t : FTrack Val) (afs : Arg String) (out : String) (ths : Arg Val)
    (hres : reserved.contains out = false) (hsize : t.size ≠ 0) (hvirt : t.virt.lookup out = none)
    (hknown : ∀ a ∈ afs.listify, ((t.create out).get a).isSome = true)
    (hlen : afs.listify.length ≤ ths.listify.length)
    (hk : ∀ rows, (t.create out).rows afs.listify = some rows → ∀ r ∈ rows, ∀ (i : Nat) (v th : Val),
      r[i]? = some (some v) → ths.listify[i]? = some th → Val.sameKind v th = true) :
    ∃ rows bs t', (t.create out).rows afs.listify = some rows ∧ rows.length = t.size ∧
      markersG Val.isnan Val.le? Val.fmax andMode ths.listify rows = .ok bs ∧
      rows.map (markerG Val.isnan Val.le? Val.fmax andMode ths.listify) = bs.map Except.ok ∧
      segTrackG Val.isnan Val.le? Val.fmax andMode t afs out ths = .ok t' ∧
      t'.get out = some (bs.map markVal) ∧
      (∀ name, name ≠ out → t'.get name = t.get name) ∧
      t'.feats.map Prod.fst = (t.create out).feats.map Prod.fst ∧
      t'.size = t.size ∧ t'.virt = t.virt :=
  segmentation_track_typed Val.isnan Val.le? Val.gt Val.fmax andMode t afs out ths hres hsize hvirt hknown hlen
    (fun rows hr r hmem => Val.typed _ _ (hk rows hr r hmem))

/-- T11 (no memory, any kind of value): what an already existing output feature held before the call has no
influence on the result, exceptions included. -/
theorem segmentation_history_typed (isnan : α → Bool) (le? : α → α → Except String Bool) (fmax : α) (andMode : Bool)
    (t : FTrack α) (afs : Arg String) (out : String) (ths : Arg α)
    (c : Col α) (hhas : t.has out = true) (hout : out ∉ afs.listify) :
    segTrackG isnan le? fmax andMode (t.setCol out c) afs out ths = segTrackG isnan le? fmax andMode t afs out ths := by
  obtain ⟨h1, h2, hr⟩ := setCol_unseen t afs.listify out c hhas hout
  simp only [segTrackG, h1, h2, hr, setCol_setCol]
  rfl
end trackG

section
variable {α : Type} [LE α] [DecidableLE α] [OfNat α 0] [OfNat α 1]

/-- T8 (no memory): when the output feature already exists and is not one of the tested features, what it held
before the call has no influence on the result — a second `segmentation()` into the same output name gives what a
first one would have given. -/
theorem segmentation_history (fmax : α) (andMode : Bool) (t : FTrack α) (afs : Arg String) (out : String) (ths : Arg α)
    (c : Col α) (hhas : t.has out = true) (hout : out ∉ afs.listify) :
    segTrack fmax andMode (t.setCol out c) afs out ths = segTrack fmax andMode t afs out ths := by
  rw [← segmentation_total, ← segmentation_total]
  exact segmentation_history_typed _ _ fmax andMode t afs out ths c hhas hout
end

section byname
variable {α : Type}

/-- T12 (what `split` reads): `getObsAnalyticalFeature(source, i)` finds the column stored under the key `source` —
the whole string, neither stripped nor parsed — whatever other features the track carries and whatever THEIR names
are: a marker called `speed-limit` is found as such when features `speed` and `limit` exist too, `" mark"` is not
`"mark"`. (Hypotheses: `source` is not one of the six built-in names, and no earlier entry of the table has that
very name — the table is a dictionary.) -/
theorem split_reads_named_column (t : FTrack α) (source : String) (col : Col α)
    (before after : List (String × Col α)) (hv : t.virt.lookup source = none)
    (hf : t.feats = before ++ (source, col) :: after) (hb : ∀ p ∈ before, p.1 ≠ source) :
    t.get source = some col := by
  simp only [FTrack.get, hv]
  exact List.lookup_eq_some_iff.mpr ⟨before, after, hf, fun p hp => by simpa using (hb p hp).symm⟩

/-- T12 (frame): the pieces (and the uid numbers, and the outcome when the name is unknown) depend on the track only
through its size and the column read under the name `source`: two tracks that agree there are split alike, whatever
their other features hold. -/
theorem split_track_frame (isOne : Option α → Bool) (t t' : FTrack α) (source : String)
    (hs : t'.size = t.size) (hg : t'.get source = t.get source) :
    splitTrack isOne t' source = splitTrack isOne t source ∧
    ∀ short keepTail, splitTrackU isOne short keepTail t' source = splitTrackU isOne short keepTail t source := by
  constructor
  · simp only [splitTrack, FTrack.marked, hs, hg]
  · intro short keepTail
    simp only [splitTrackU, FTrack.marked, hs, hg]

/-- T12 (the split half of the property, for a track and a feature NAME): when the track has a feature `source`
holding `col`, `split(track, source)` succeeds and its pieces — lists of observation indices — are: nothing when no
cell of `col` equals 1; otherwise the observations 0 … size−1 exactly once and in order, every piece but the last
ending at an observation whose cell equals 1 and containing no other such observation, the last piece containing
none. `isOne` is `== 1` on a cell (any function: nothing is assumed about it). -/
theorem split_track_property (isOne : Option α → Bool) (t : FTrack α) (source : String) (col : Col α)
    (hg : t.get source = some col) :
    ∃ pieces, splitTrack isOne t source = .ok pieces ∧
      ((List.range t.size).any (colMark isOne col) = true → pieces.flatten = List.range t.size) ∧
      ((List.range t.size).any (colMark isOne col) = false → pieces = []) ∧
      (∀ p ∈ pieces.dropLast, EndsMarked (colMark isOne col) p) ∧
      (∀ tl, pieces.getLast? = some tl → ∀ q ∈ tl, colMark isOne col q = false) := by
  refine ⟨_, splitTrack_of_get isOne t source col hg, ?_, ?_, ?_, ?_⟩
  · intro h
    rw [split_partition (tag (colMark isOne col) (List.range t.size)) (by rw [any_tag]; exact h), map_fst_tag]
  · intro h
    exact split_none _ (by rw [any_tag]; exact h)
  · exact split_ends_marked _ _
  · exact fun tl h => split_tail_unmarked _ _ tl h

/-- T12 (limit, uids): the same front end with a `limit` returns the pieces of `split_limit_filter` with the uid
numbers of `split_uid_numbers`, on the markers read under the name `source`. -/
theorem split_track_uid (isOne : Option α → Bool) (short keepTail : List Nat → Bool) (t : FTrack α) (source : String)
    (col : Col α) (hg : t.get source = some col) :
    ∃ r, splitTrackU isOne short keepTail t source = .ok r ∧
      r.map Prod.snd = splitL short keepTail (tag (colMark isOne col) (List.range t.size)) :=
  ⟨_, splitTrackU_of_get isOne short keepTail t source col hg, split_uid_pieces _ _ _⟩

/-- T12 (unknown name, outside the domain): `AnalyticalFeatureError` on a non-empty track, the empty collection on an
empty one (the loop does not run). -/
theorem split_track_unknown (isOne : Option α → Bool) (t : FTrack α) (source : String) (hg : t.get source = none) :
    splitTrack isOne t source = if t.size = 0 then .ok [] else .error "af" := by
  simp [splitTrack, FTrack.marked, hg]

variable [OfNat α 0] [OfNat α 1]

/-- T13 (`segmentation()` then `split()` on its output feature, any kind of tested value): under the hypotheses of
`segmentation_track_typed`, the two calls in a row succeed and return the split of the track on the markers `bs` of
its rows (each characterised by `marker_and_typed` / `marker_or_typed`): the column written by `segmentation()` as
1 / 0 is read back by `split()` under the same name with `== 1`. Whatever the output name is (not reserved), and
whether or not the feature existed before. The three facts about `isOne` are those of Python's `== 1` on 1, 0, NaN. -/
theorem segmentation_then_split (isnan : α → Bool) (le? : α → α → Except String Bool) (gt : α → α → Bool)
    (isOne : Option α → Bool) (h1 : isOne (some 1) = true) (h0 : isOne (some 0) = false) (hn : isOne none = false)
    (fmax : α) (andMode : Bool) (t : FTrack α) (afs : Arg String) (out : String) (ths : Arg α)
    (hres : reserved.contains out = false) (hsize : t.size ≠ 0) (hvirt : t.virt.lookup out = none)
    (hknown : ∀ a ∈ afs.listify, ((t.create out).get a).isSome = true)
    (hlen : afs.listify.length ≤ ths.listify.length)
    (hty : ∀ rows, (t.create out).rows afs.listify = some rows → ∀ r ∈ rows, Typed isnan le? gt ths.listify 0 r) :
    ∃ (rows : List (List (Option _))) (bs : List Bool), (t.create out).rows afs.listify = some rows ∧ rows.length = t.size ∧
      bs.length = t.size ∧
      rows.map (markerG isnan le? fmax andMode ths.listify) = bs.map Except.ok ∧
      segSplitTrackG isnan le? isOne fmax andMode t afs out ths =
        .ok (split (tag (fun i => (bs[i]?).getD false) (List.range t.size))) := by
  obtain ⟨rows, bs, t', hrows, hrl, _, hall, hseg, hget, _, _, hsz, _⟩ :=
    segmentation_track_typed isnan le? gt fmax andMode t afs out ths hres hsize hvirt hknown hlen hty
  refine ⟨rows, bs, hrows, hrl, by simpa only [List.length_map, hrl] using (congrArg List.length hall).symm, hall, ?_⟩
  simp only [segSplitTrackG, hseg]
  rw [splitTrack_of_get isOne t' out _ hget, hsz]
  unfold markVal
  rw [colMark_markers isOne h1 h0 hn bs]

/-- T13 on numbers and `ObsTime` objects, with Python's `== 1` -/
theorem segmentation_then_split_val (andMode : Bool) (t : FTrack Val) (afs : Arg String) (out : String) (ths : Arg Val)
    (hres : reserved.contains out = false) (hsize : t.size ≠ 0) (hvirt : t.virt.lookup out = none)
    (hknown : ∀ a ∈ afs.listify, ((t.create out).get a).isSome = true)
    (hlen : afs.listify.length ≤ ths.listify.length)
    (hk : ∀ rows, (t.create out).rows afs.listify = some rows → ∀ r ∈ rows, ∀ (i : Nat) (v th : Val),
      r[i]? = some (some v) → ths.listify[i]? = some th → Val.sameKind v th = true) :
    ∃ (rows : List (List (Option _))) (bs : List Bool), (t.create out).rows afs.listify = some rows ∧ rows.length = t.size ∧
      bs.length = t.size ∧
      rows.map (markerG Val.isnan Val.le? Val.fmax andMode ths.listify) = bs.map Except.ok ∧
      segSplitTrackG Val.isnan Val.le? Val.isOne Val.fmax andMode t afs out ths =
        .ok (split (tag (fun i => (bs[i]?).getD false) (List.range t.size))) :=
  segmentation_then_split Val.isnan Val.le? Val.gt Val.isOne (by decide) (by decide) rfl Val.fmax andMode t afs out ths
    hres hsize hvirt hknown hlen (fun rows hr r hmem => Val.typed _ _ (hk rows hr r hmem))
end byname

-- markers 0 1 0 1 on tags 10..13: pieces [10,11] [12,13] and the empty tail of `extract(4, 3)`
example : split [(10, false), (11, true), (12, false), (13, true)] = [[10, 11], [12, 13], []] := by decide
-- adjacent markers, marker on the first observation
example : split [(0, true), (1, true), (2, false)] = [[0], [1], [2]] := by decide
example : ([(10, false), (11, true), (12, false), (13, true)] : List (Nat × Bool)).any Prod.snd = true := by decide
-- AND mode, thresholds [2, 5]: (1, NaN) → 0 ; (3, 4) → 1 ; (NaN, NaN) → 0.  OR mode: (3, 4) → 0 ; (3, 6) → 1 ; (NaN, NaN) → 1
example : markers (10 : Rat) true [2, 5] [[some 1, none], [some 3, some 4], [none, none]] = some [false, true, false] := by decide +kernel
example : markers (10 : Rat) false [2, 5] [[some 3, some 4], [some 3, some 6], [none, none]] = some [false, true, true] := by decide +kernel
-- a value equal to its threshold does not exceed it
example : marker (10 : Rat) true [2] [some 2] = some false := by decide +kernel
-- outside the hypothesis of T4 (fewer thresholds than features): the call raises IndexError
example : marker (10 : Rat) true [2] [some 1, some 1] = none := by decide +kernel

-- limit: the piece [0] (one observation) is short, [1,2] is kept, the closing piece [3] fails its own test
example : splitL (fun p => decide (p.length < 2)) (fun p => decide (p.length ≥ 2))
    [(0, true), (1, false), (2, true), (3, false)] = [[1, 2]] := by decide
-- uid numbers: marker vector 0 1 1 0 0, the one-observation piece [2] is short: count stays 1 for the closing piece
example : splitU (fun p => decide (p.length < 2)) (fun _ => true)
    [(10, false), (11, true), (12, true), (13, false), (14, false)] = [((0, 0, 1), [10, 11]), ((1, 3, 4), [13, 14])] := by decide
-- the two facts `split_limit_zero` asks of the scalar type, on the rationals; `split_limit_pos` on a length function
example : ¬ (0 : Rat) < 0 := by decide
example : ((0 : Rat) == 0) = true := by decide
example : splitLimit (fun p : List Nat => ((p.length - 1 : Nat) : Rat)) 1 [(0, true), (1, false), (2, true), (3, false), (4, false)]
    = [[1, 2], [3, 4]] := by decide +kernel
example : ∀ p : List Nat, ¬ ((p.length : Nat) : Rat) < 1 ↔ (1 : Rat) ≤ ((p.length : Nat) : Rat) := fun _ => Rat.not_lt
-- extract: inclusive bounds, reversed bounds, Python's negative indices, IndexError
example : extract [10, 11, 12, 13] 1 2 = some [11, 12] := by decide
example : extract [10, 11] 2 1 = some [] := by decide
example : extract [10, 11, 12] (-2) (-1) = some [11, 12] := by decide
example : extract [10] 0 1 = none := by decide
-- index list: consecutive pieces share their boundary observation
example : splitIdx (fun _ => false) [10, 11, 12, 13, 14] [0, 2, 4] = some [[10, 11, 12], [12, 13, 14]] := by decide
example : ([0, 2, 4] : List Nat).Pairwise (· ≤ ·) := by decide
-- collection: the track without a marker contributes nothing
example : splitColl [[(0, false), (1, true), (2, false)], [(3, false)], [(4, true)]] = [[0, 1], [2], [4], []] := by decide
-- infinite values and thresholds: +inf exceeds 5, nothing exceeds +inf, -inf exceeds nothing
example : markers Ext.fmax true [.fin 5, .pinf] [[some .pinf, none], [some (.fin 1), some .pinf], [some .ninf, some (.fin 7)]]
    = some [true, false, false] := by decide +kernel
-- segmentation() on a feature table: two tested features, the second given through a virtual name; the output
-- feature already exists and holds stale values; AND mode, thresholds [2, 5]
example : ((segTrack Ext.fmax true
      { size := 3, virt := [("z", [some (.fin 9), none, some (.fin 5)])],
        feats := [("speed", [some (.fin 1), some (.fin 3), some (.fin 2)]), ("cut", [some (.fin 1), some (.fin 1), none])] }
      (.many ["speed", "z"]) "cut" (.many [.fin 2, .fin 5])).toOption.map (·.feats))
    = some [("speed", [some (.fin 1), some (.fin 3), some (.fin 2)]), ("cut", [some (.fin 1), some (.fin 1), some (.fin 0)])] := by
  decide +kernel
-- a bare name and a bare threshold; the output feature is new and is appended
example : ((segTrack Ext.fmax true { size := 2, virt := [], feats := [("speed", [some (.fin 1), some (.fin 3)])] }
      (.one "speed") "cut" (.one (.fin 2))).toOption.map (·.feats))
    = some [("speed", [some (.fin 1), some (.fin 3)]), ("cut", [some (.fin 0), some (.fin 1)])] := by decide +kernel
-- outside the domain: reserved output name, empty track
example : (segTrack Ext.fmax true { size := 2, virt := [], feats := [("speed", [some (.fin 1), some (.fin 3)])] }
      (.one "speed") "x" (.one (.fin 2))).toOption.isNone = true := by decide +kernel

-- timestamps: 2020-02-29 23:59:59.500, 2020-03-01 00:00:00.000 and .500; thresholds: a number for `speed`, an ObsTime for `timestamp`
section
open TV.ObsTime
private def s1 : Stamp := ⟨⟨2020, 2, 29, 23, 59, 59⟩, 500⟩
private def s2 : Stamp := ⟨⟨2020, 3, 1, 0, 0, 0⟩, 0⟩
private def s3 : Stamp := ⟨⟨2020, 3, 1, 0, 0, 0⟩, 500⟩
/-- (result, "") or (none, exception) -/
private def res {γ : Type} : Except String γ → Option γ × String
  | .ok b => (some b, "")
  | .error e => (none, e)
-- a single tested feature, the timestamp, against the instant of the second observation: equal does not exceed
example : res (markersG Val.isnan Val.le? Val.fmax true [.time s2] [[some (.time s1)], [some (.time s2)], [some (.time s3)]])
    = (some [false, false, true], "") := by decide +kernel
-- mixed: speed > 5 or later than s2 (AND mode); speed > 5 and later than s2 (OR mode); a missing speed is skipped
example : res (markersG Val.isnan Val.le? Val.fmax true [.num (.fin 5), .time s2]
    [[some (.num (.fin 9)), some (.time s1)], [none, some (.time s2)], [some (.num (.fin 1)), some (.time s3)]])
    = (some [true, false, true], "") := by decide +kernel
example : res (markersG Val.isnan Val.le? Val.fmax false [.num (.fin 5), .time s2]
    [[some (.num (.fin 9)), some (.time s1)], [none, some (.time s3)], [some (.num (.fin 9)), some (.time s3)]])
    = (some [false, true, true], "") := by decide +kernel
-- the hypothesis of `marker_and_val` on such a row, and well-formed dates for `val_gt_time`
example : Val.sameKind (.num (.fin 9)) (.num (.fin 5)) = true ∧ Val.sameKind (.time s1) (.time s2) = true := by decide
example : WFs s1 ∧ WFs s3 := by unfold WFs WF; decide
example : Val.gt (.time s3) (.time s1) = true := by decide
-- outside the domain: a number against an ObsTime threshold raises when it is compared (first position, or AND mode
-- with nothing exceeding before it) and not when the marker is already decided
example : res (markerG Val.isnan Val.le? Val.fmax true [.time s2] [some (.num (.fin 9))]) = (none, "attr") := by decide +kernel
example : res (markerG Val.isnan Val.le? Val.fmax true [.num (.fin 5), .time s2] [some (.num (.fin 9)), some (.num (.fin 9))])
    = (some true, "") := by decide +kernel
example : res (markerG Val.isnan Val.le? Val.fmax true [.num (.fin 5), .time s2] [some (.num (.fin 1)), some (.num (.fin 9))])
    = (none, "attr") := by decide +kernel
-- the whole call on the built-in feature `timestamp` (a virtual column) mixed with a feature of the table
example : ((segTrackG Val.isnan Val.le? Val.fmax true
      { size := 3, virt := [("timestamp", [some (.time s1), some (.time s2), some (.time s3)])],
        feats := [("speed", [some (.num (.fin 9)), none, some (.num (.fin 1))])] }
      (.many ["speed", "timestamp"]) "cut" (.many [.num (.fin 5), .time s2])).toOption.map (·.feats))
    = some [("speed", [some (.num (.fin 9)), none, some (.num (.fin 1))]), ("cut", [some 1, some 0, some 1])] := by
  decide +kernel
-- index lists with Python indexing: negative indices, a descending pair (empty piece), a range wrapping around 0, IndexError
example : extract [10, 11, 12, 13] (-2) (-1) = some [12, 13] := by decide +kernel
example : extract [10, 11, 12, 13] (-1) 1 = some [13, 10, 11] := by decide +kernel
example : extract [10, 11, 12, 13] 2 4 = none := by decide +kernel
example : splitIdx (fun _ => false) [10, 11, 12, 13] [3, 1, 2, -1] = some [[], [11, 12], []] := by decide +kernel
example : splitIdx (fun _ => false) [10, 11, 12, 13] [0, 1, 5] = none := by decide +kernel
example : pairs [3, 1, 2, -1] = [(3, 1), (1, 2), (2, -1)] := by decide
-- the marker read by NAME: features `speed`, `limit` and a marker called `speed-limit` (speed - limit equals 1 at the
-- observations 0 and 2, the marker is 1 at 1 only); ` cut` is not `cut`; cells 1.0 / True are 1 by value, 2 and NaN are not
private def tk : FTrack Val :=
  { size := 4, virt := [("idx", [some (.num (.fin 0)), some (.num (.fin 1)), some (.num (.fin 2)), some (.num (.fin 3))])],
    feats := [("speed", [some (.num (.fin 3)), some (.num (.fin 2)), some (.num (.fin 5)), some (.num (.fin 1))]),
              ("limit", [some (.num (.fin 2)), some (.num (.fin 2)), some (.num (.fin 4)), some (.num (.fin 1))]),
              ("speed-limit", [some 0, some 1, some 0, some 0]),
              ("cut", [some 1, some 0, some 0, some 0]),
              (" cut", [some (.num (.fin 2)), none, some 1, some 0])] }
example : (splitTrack Val.isOne tk "speed-limit").toOption = some [[0, 1], [2, 3]] := by decide +kernel
example : (splitTrack Val.isOne tk " cut").toOption = some [[0, 1, 2], [3]] := by decide +kernel
example : (splitTrack Val.isOne tk "cut").toOption = some [[0], [1, 2, 3]] := by decide +kernel
example : (splitTrack Val.isOne tk "idx").toOption = some [[0, 1], [2, 3]] := by decide +kernel
example : (splitTrack Val.isOne tk "speed - limit").toOption = none := by decide +kernel
example : tk.get "speed-limit" = some [some 0, some 1, some 0, some 0] := by decide +kernel
example : (List.range tk.size).any (colMark Val.isOne [some 0, some 1, some 0, some 0]) = true := by decide +kernel
-- segmentation() into an output feature called `speed>2` (speed > 2 at 0 and 2), then split() on it
example : (segSplitTrackG Val.isnan Val.le? Val.isOne Val.fmax true tk (.one "speed") "speed>2" (.one (.num (.fin 2)))).toOption
    = some [[0], [1, 2], [3]] := by decide +kernel
end
section num

/-- T14 (`<=` between two Python numbers is exact): for a Python int or float against a Python int or float, in any
pairing and at any magnitude, `a <= b` answers, and answers exactly "not (a exceeds b)" on the VALUES — Python does not
convert the int to a float (`2**53 + 1 <= 2.0**53` is False). Exact arithmetic: the values are rationals. -/
theorem num_le_python (a b : PNum) (ha : a.kind.isNumpy = false) (hb : b.kind.isNumpy = false) :
    PNum.le? a b = .ok (decide (a.val ≤ b.val)) := by
  unfold PNum.le?
  rw [PNum.converts_python a b ha hb, PNum.image_false, PNum.image_false]

/-- T14 (numpy scalars): two integers (`numpy.int64` / Python int) or two floats are compared exactly as well
(`PNum.converts_same`); when numpy does convert — an integer operand `n` of any of the four types against a float `x`
of either flavour — an integer below 2^53 in magnitude is unchanged by the conversion, so the comparison is still the
exact one, both ways round. -/
theorem num_le_small (ka kb : NumKind) (n : Int) (x : Rat) (h : n.natAbs < 2 ^ 53) (hkb : kb.isInt = false) :
    PNum.le? ⟨ka, .fin (n : Rat)⟩ ⟨kb, .fin x⟩ = .ok (decide ((n : Rat) ≤ x)) ∧
    PNum.le? ⟨kb, .fin x⟩ ⟨ka, .fin (n : Rat)⟩ = .ok (decide (x ≤ (n : Rat))) := by
  have hx : ∀ (c : Bool), PNum.image c ⟨kb, .fin x⟩ = .fin x := by
    intro c; unfold PNum.image; simp [hkb]
  simp only [PNum.le?, PNum.image_small _ ka n h, hx, Ext.fin_le, and_self]

/-- T14 (AND mode on numbers of any Python type and size): thresholds paired with the tested values so that no compared
pair makes numpy convert (Python ints and floats in any pairing — e.g. an integer feature beyond 2^53 against an integer
threshold that is not a double; `numpy.int64` against integers; floats against floats): the call raises nothing and the
marker is 1 exactly when some tested non-NaN value EXACTLY exceeds its threshold. No threshold is rounded. -/
theorem marker_and_num (ths : List PNum) (vals : List (Option PNum)) (h : vals.length ≤ ths.length)
    (hk : ∀ (i : Nat) (v th : PNum), vals[i]? = some (some v) → ths[i]? = some th → v.converts th = false) :
    ∃ b, markerG PNum.isnan PNum.le? PNum.fmax true ths vals = .ok b ∧
      (b = true ↔ ∃ (i : Nat) (v th : PNum), vals[i]? = some (some v) ∧ ths[i]? = some th ∧ th.val < v.val) := by
  obtain ⟨b, hb, hiff⟩ := marker_and_typed PNum.isnan PNum.le? PNum.gt PNum.fmax ths vals h (PNum.typed ths vals hk)
  refine ⟨b, hb, hiff.trans ⟨?_, ?_⟩⟩
  · rintro ⟨i, v, th, hv, _, hth, hg⟩; exact ⟨i, v, th, hv, hth, by simpa [PNum.gt] using hg⟩
  · rintro ⟨i, v, th, hv, hth, hg⟩; exact ⟨i, v, th, hv, rfl, hth, by simpa [PNum.gt] using hg⟩

/-- T14 (OR mode): the marker is 1 exactly when every tested non-NaN value exactly exceeds its threshold. -/
theorem marker_or_num (ths : List PNum) (vals : List (Option PNum)) (h : vals.length ≤ ths.length)
    (hk : ∀ (i : Nat) (v th : PNum), vals[i]? = some (some v) → ths[i]? = some th → v.converts th = false) :
    ∃ b, markerG PNum.isnan PNum.le? PNum.fmax false ths vals = .ok b ∧
      (b = true ↔ ∀ (i : Nat) (v th : PNum), vals[i]? = some (some v) → ths[i]? = some th → th.val < v.val) := by
  obtain ⟨b, hb, hiff⟩ := marker_or_typed PNum.isnan PNum.le? PNum.gt PNum.fmax ths vals h (PNum.typed ths vals hk)
  refine ⟨b, hb, hiff.trans ⟨?_, ?_⟩⟩
  · intro hall i v th hv hth; simpa [PNum.gt] using hall i v th hv rfl hth
  · intro hall i v th hv _ hth; simpa [PNum.gt] using hall i v th hv hth

-- non-vacuity / regression witnesses: an integer threshold beyond 2^53 that is not a double (2^53 + 3), integer values
-- around it; rounding the threshold to its double (2^53 + 4) would move the marker of the values 2^53 + 4: the model,
-- like the code, does not
example : (markersG PNum.isnan PNum.le? PNum.fmax true [⟨.pyInt, .fin (2 ^ 53 + 3)⟩]
    [[some ⟨.pyInt, .fin (2 ^ 53 + 2)⟩], [some ⟨.pyInt, .fin (2 ^ 53 + 3)⟩], [some ⟨.pyInt, .fin (2 ^ 53 + 4)⟩], [none]]).toOption
    = some [false, false, true, false] := by decide +kernel
example : roundInt (2 ^ 53 + 3) = 2 ^ 53 + 4 := by decide +kernel
example : roundInt 1700000000000000300 = 1700000000000000256 := by decide +kernel
example : (markersG PNum.isnan PNum.le? PNum.fmax true [⟨.pyFloat, .fin (2 ^ 53 + 4)⟩] [[some ⟨.pyInt, .fin (2 ^ 53 + 4)⟩]]).toOption
    = some [false] := by decide +kernel
-- a Python int against a float: exact; the same integer as a numpy.int64 against the same float: converted first
example : (PNum.le? ⟨.pyInt, .fin (2 ^ 53 + 1)⟩ ⟨.pyFloat, .fin (2 ^ 53)⟩).toOption = some false := by decide +kernel
example : (PNum.le? ⟨.npInt, .fin (2 ^ 53 + 1)⟩ ⟨.pyFloat, .fin (2 ^ 53)⟩).toOption = some true := by decide +kernel
example : (PNum.le? ⟨.npFloat, .fin (2 ^ 53 + 4)⟩ ⟨.pyInt, .fin (2 ^ 53 + 3)⟩).toOption = some true := by decide +kernel
end num
end TV.C11
