import TracklibVerif.Props.C04Slice
import TracklibVerif.Model.SeqMore
/-! # C04, part 3 — the remaining operations on the observation list (`Model/SeqMore.lean`)

`reverse`, `makeOdd` / `makeEven`, `setObs` / `track[i] = obs`, `getFirstObs` / `getLastObs`, the even split
`track / n`, `removeObsList` with timestamps: which observations each selects, and where each raises. -/
namespace TV.C04
open TV.Seq
variable {α : Type}

/-- `reverse()` never raises and returns all the observations, the last one first, with the feature table of the
source (names and columns); it is `track[::-1]`; every observation reads what it read in the source -/
theorem reverse_spec (tr : Track) :
    reverseTrack tr = some ⟨tr.pts.reverse, tr.table⟩ ∧ reverseTrack tr = getitemSlice tr none none (some (-1)) ∧
      Carries ⟨tr.pts.reverse, tr.table⟩ tr := by
  have h : reverseTrack tr = getitemSlice tr none none (some (-1)) := rfl
  exact ⟨h.trans (getitemSlice_reversed tr), h, carries_intro rfl (fun o ho => List.mem_reverse.mp ho)⟩

theorem reverse_reverse (tr : Track) : (reverseTrack tr).bind reverseTrack = some tr := by
  rw [(reverse_spec tr).1, Option.bind_some, (reverse_spec _).1]
  simp

/-- `makeOdd()`: an even non-empty track loses its last observation, an odd one is unchanged — the size is odd
afterwards and the observations are a prefix of the old ones; on the EMPTY track (size 0 is even) the `pop` raises
`IndexError`. `makeEven()` never raises: an odd track loses its last observation, an even one (the empty one too) is
unchanged. -/
theorem makeOdd_makeEven_spec (l : List α) :
    (makeOdd l = none ↔ l = []) ∧
    (∀ r, makeOdd l = some r → r = l.take r.length ∧ r.length % 2 = 1 ∧
      r.length = if l.length % 2 = 0 then l.length - 1 else l.length) ∧
    (∃ r, makeEven l = some r ∧ r = l.take r.length ∧ r.length % 2 = 0 ∧
      r.length = if l.length % 2 = 1 then l.length - 1 else l.length) := by
  refine ⟨?_, ?_, ?_⟩
  · unfold makeOdd pyPop
    cases l with
    | nil => simp
    | cons x xs => by_cases h : (xs.length + 1) % 2 = 0 <;> simp [h]
  · intro r hr
    unfold makeOdd pyPop at hr
    by_cases h : l.length % 2 = 0
    · rw [if_pos h] at hr
      cases l with
      | nil => simp at hr
      | cons x xs =>
        simp only [List.isEmpty_cons, Bool.false_eq_true, if_false, Option.some.injEq] at hr
        subst hr
        have hl : ((x :: xs).dropLast).length = (x :: xs).length - 1 := List.length_dropLast
        have hlen : (x :: xs).length = xs.length + 1 := rfl
        refine ⟨?_, by omega, by rw [if_pos h]; exact hl⟩
        rw [hl, List.dropLast_eq_take]
    · rw [if_neg h] at hr
      cases hr
      exact ⟨by simp, by omega, by rw [if_neg h]⟩
  · unfold makeEven pyPop
    by_cases h : l.length % 2 = 1
    · rw [if_pos h]
      cases l with
      | nil => simp at h
      | cons x xs =>
        have hl : ((x :: xs).dropLast).length = (x :: xs).length - 1 := List.length_dropLast
        have hlen : (x :: xs).length = xs.length + 1 := rfl
        refine ⟨(x :: xs).dropLast, by simp, ?_, by omega, by rw [if_pos h]; exact hl⟩
        rw [hl, List.dropLast_eq_take]
    · rw [if_neg h]
      exact ⟨l, rfl, by simp, by omega, by rw [if_neg h]⟩

theorem pySet_eq (l : List α) (i : Int) (x : α) : pySet l i x = (bucketOf l.length i).map (l.set · x) :=
  (bucketOf_map l.length i (l.set · x)).symm

/-- `setObs(i, obs)` / `track[i] = obs`: with `0 ≤ i < size` exactly the position `i` is replaced (it holds the new
observation, every other position its old one, the size is unchanged); `-size ≤ i < 0` designates the position
`size + i`; any other index raises `IndexError` -/
theorem setObs_spec (l : List α) (x : α) (i : Int) :
    (∀ k : Nat, k < l.length → (i = (k : Int) ∨ i = (k : Int) - (l.length : Int)) →
      pySet l i x = some (l.set k x) ∧ (l.set k x)[k]? = some x ∧ (l.set k x).length = l.length ∧
      ∀ j : Nat, j ≠ k → (l.set k x)[j]? = l[j]?) ∧
    (pySet l i x = none ↔ (l.length : Int) ≤ i ∨ i < -(l.length : Int)) := by
  constructor
  · intro k hk hi
    refine ⟨?_, by simp [hk], by simp, fun j hj => by rw [List.getElem?_set_ne (Ne.symm hj)]⟩
    rw [pySet_eq, bucketOf_of hk (by omega)]; rfl
  · rw [pySet_eq, Option.map_eq_none_iff, bucketOf_eq_none_iff]

/-- `getFirstObs()` / `getLastObs()`: the first / the last observation of a non-empty track; `IndexError` on the empty one -/
theorem firstLast_spec (l : List α) :
    getFirst l = l.head? ∧ getLast l = l.getLast? ∧ (l = [] → getFirst l = none ∧ getLast l = none) := by
  have h1 : getFirst l = l.head? := by simp [getFirst, pyGet, List.head?_eq_getElem?]
  have h2 : getLast l = l.getLast? := by
    unfold getLast pyGet
    cases l with
    | nil => simp
    | cons x xs =>
      have h0 : (0 : Int) ≤ ((x :: xs).length : Int) - 1 := by simp only [List.length_cons]; omega
      have e : (((x :: xs).length : Int) - 1).toNat = (x :: xs).length - 1 := by simp only [List.length_cons]; omega
      rw [if_pos h0, e, List.getLast?_eq_getElem?]
  exact ⟨h1, h2, fun h => by subst h; simp [h1, h2]⟩

theorem flatMap_segments (l : List α) (N : Nat) : ∀ k : Nat, k * N ≤ l.length →
    (List.range k).flatMap (fun i => (l.take (min ((i + 1) * N) l.length)).drop (i * N)) = l.take (k * N)
  | 0, _ => by simp
  | k + 1, h => by
    have hk : k * N ≤ l.length := by
      have : k * N ≤ (k + 1) * N := Nat.mul_le_mul_right N (by omega)
      omega
    rw [List.range_succ, List.flatMap_append, flatMap_segments l N k hk]
    simp only [List.flatMap_cons, List.flatMap_nil, List.append_nil]
    rw [Nat.min_eq_left h]
    have e : (k + 1) * N = k * N + N := by rw [Nat.add_mul, Nat.one_mul]
    have e2 : (k + 1) * N - k * N = N := by omega
    rw [List.drop_take, e2, e, List.take_add]

/-- `track / number` with `number ≥ 1` (`N = size / number`, integer quotient): never raises; returns `number`
segments, the `i`-th being exactly the observations `i·N, …, i·N + N - 1` in order, each with the source's feature
table; one after the other they are the first `number·N` observations of the track. The LAST `size mod number`
observations are in no segment. (`number = 0`: `ZeroDivisionError`; `number < 0`: no segment at all.) -/
theorem splitEven_spec (tr : Track) (number : Nat) (hn : 1 ≤ number) :
    ∃ segs : List Track, splitEven tr (number : Int) = some segs ∧ segs.length = number ∧
      (∀ i : Nat, i < number → ∃ sg, segs[i]? = some sg ∧ sg.table = tr.table ∧ Carries sg tr ∧
        sg.pts = (tr.pts.drop (i * (tr.pts.length / number))).take (tr.pts.length / number) ∧
        sg.pts.length = tr.pts.length / number) ∧
      segs.flatMap (·.pts) = tr.pts.take (number * (tr.pts.length / number)) ∧
      tr.pts.length - number * (tr.pts.length / number) = tr.pts.length % number := by
  have h0 : ¬ ((number : Int) = 0) := by omega
  have hmul : number * (tr.pts.length / number) ≤ tr.pts.length := Nat.mul_div_le _ _
  refine ⟨(List.range number).map (fun i => transmitAF ((tr.pts.take (min ((i + 1) * (tr.pts.length / number))
    tr.pts.length)).drop (i * (tr.pts.length / number))) tr), ?_, by simp, ?_, ?_, ?_⟩
  · simp only [splitEven, if_neg h0, Int.toNat_natCast]
  · intro i hi
    have hle : (i + 1) * (tr.pts.length / number) ≤ tr.pts.length := by
      have : (i + 1) * (tr.pts.length / number) ≤ number * (tr.pts.length / number) :=
        Nat.mul_le_mul_right _ (by omega)
      omega
    have e : (i + 1) * (tr.pts.length / number) = i * (tr.pts.length / number) + tr.pts.length / number := by
      rw [Nat.add_mul, Nat.one_mul]
    refine ⟨transmitAF ((tr.pts.take (min ((i + 1) * (tr.pts.length / number)) tr.pts.length)).drop
      (i * (tr.pts.length / number))) tr, by simp [hi], rfl, ?_, ?_, ?_⟩
    · exact carries_intro rfl (fun o ho => List.mem_of_mem_take (List.mem_of_mem_drop ho))
    · show (tr.pts.take _).drop _ = _
      rw [Nat.min_eq_left hle, e, List.drop_take, Nat.add_sub_cancel_left]
    · show ((tr.pts.take _).drop _).length = _
      rw [Nat.min_eq_left hle, List.length_drop, List.length_take, Nat.min_eq_left hle, e, Nat.add_sub_cancel_left]
  · rw [List.flatMap_map]
    exact flatMap_segments tr.pts (tr.pts.length / number) number hmul
  · have := Nat.div_add_mod tr.pts.length number
    omega

/-- `track / 0` raises `ZeroDivisionError`; a negative number gives an empty collection -/
theorem splitEven_boundary (tr : Track) (number : Int) :
    (splitEven tr number = none ↔ number = 0) ∧ (number < 0 → splitEven tr number = some []) := by
  constructor
  · unfold splitEven
    by_cases h : number = 0 <;> simp [h]
  · intro h
    have h0 : ¬ (number = 0) := by omega
    have e : number.toNat = 0 := by omega
    simp only [splitEven, if_neg h0, e, List.range_zero, List.map_nil]

theorem removeByTimes_eq (l : List Obs) (tab : List Int) :
    removeByTimes l tab =
      if tab.Nodup then removeTimesLoop (tab.mergeSort (fun a b => decide (a ≤ b))) l 0 else (l, 0) :=
  sortedNodup_eq tab (l, 0) (fun s => removeTimesLoop s l 0) rfl

theorem removeFirstTime_spec : ∀ (l : List Obs) (t : Int),
    ((removeFirstTime l t).1).Sublist l ∧ (removeFirstTime l t).1.length + (removeFirstTime l t).2 = l.length ∧
    (t ∉ l.map (·.time) → removeFirstTime l t = (l, 0)) ∧
    ((l.map (·.time)).Nodup → (removeFirstTime l t).1 = l.filter (fun o => !(o.time == t)))
  | [], t => by simp [removeFirstTime]
  | o :: os, t => by
    obtain ⟨ih1, ih2, ih3, ih4⟩ := removeFirstTime_spec os t
    by_cases h : o.time = t
    · simp only [removeFirstTime, if_pos h]
      refine ⟨List.sublist_cons_self o os, by simp, ?_, ?_⟩
      · intro hn; exact absurd (by simp [h]) hn
      · intro hnd
        have hnd' := List.nodup_cons.mp (show (o.time :: os.map (·.time)).Nodup from hnd)
        have : (o.time == t) = true := by simp [h]
        rw [List.filter_cons_of_neg (by simp [this])]
        symm
        apply List.filter_eq_self.mpr
        intro a ha
        have : a.time ≠ t := by
          intro hat
          apply hnd'.1
          rw [h, ← hat]
          exact List.mem_map_of_mem ha
        simp [this]
    · simp only [removeFirstTime, if_neg h]
      refine ⟨ih1.cons_cons o, by simp only [List.length_cons]; omega, ?_, ?_⟩
      · intro hn
        have : t ∉ os.map (·.time) := by
          intro hm; apply hn; simp only [List.map_cons, List.mem_cons]; exact Or.inr hm
        rw [ih3 this]
      · intro hnd
        have hnd' := List.nodup_cons.mp (show (o.time :: os.map (·.time)).Nodup from hnd)
        have : (o.time == t) = false := by simp [h]
        rw [List.filter_cons_of_pos (by simp [this]), ih4 hnd'.2]

theorem removeTimesLoop_spec : ∀ (s : List Int) (l : List Obs) (c : Nat),
    ((removeTimesLoop s l c).1).Sublist l ∧ (removeTimesLoop s l c).1.length + (removeTimesLoop s l c).2 = l.length + c ∧
    ((l.map (·.time)).Nodup → (removeTimesLoop s l c).1 = l.filter (fun o => !s.contains o.time))
  | [], l, c => by
    refine ⟨by simp [removeTimesLoop], by simp [removeTimesLoop], fun _ => ?_⟩
    show l = _
    exact (List.filter_eq_self.mpr (by simp)).symm
  | t :: rest, l, c => by
    obtain ⟨h1, h2, _, h4⟩ := removeFirstTime_spec l t
    obtain ⟨i1, i2, i3⟩ := removeTimesLoop_spec rest (removeFirstTime l t).1 (c + (removeFirstTime l t).2)
    simp only [removeTimesLoop]
    refine ⟨i1.trans h1, by omega, ?_⟩
    intro hnd
    have hnd' : (((removeFirstTime l t).1).map (·.time)).Nodup := (h1.map _).nodup hnd
    rw [i3 hnd', h4 hnd, List.filter_filter]
    apply List.filter_congr
    intro o _
    simp only [List.contains_cons, Bool.not_or, Bool.and_comm]

/-- `removeObsList(tab)` with timestamps. In every case the observations left are a sub-sequence of the old ones (order
kept, nothing altered) and the number returned is the number removed. When the timestamps of `tab` are distinct and
those of the track are distinct too, exactly the observations whose timestamp is not in `tab` are left. (On a track
with repeated timestamps only the FIRST observation of each listed timestamp is removed: `removeFirstTime`.) -/
theorem removeByTimes_spec (l : List Obs) (tab : List Int) :
    ((removeByTimes l tab).1).Sublist l ∧ (removeByTimes l tab).1.length + (removeByTimes l tab).2 = l.length ∧
    (tab.Nodup → (l.map (·.time)).Nodup → (removeByTimes l tab).1 = l.filter (fun o => !tab.contains o.time)) := by
  rw [removeByTimes_eq]
  by_cases hn : tab.Nodup
  · rw [if_pos hn]
    obtain ⟨h1, h2, h3⟩ := removeTimesLoop_spec (tab.mergeSort (fun a b => decide (a ≤ b))) l 0
    refine ⟨h1, by omega, fun _ hnd => ?_⟩
    rw [h3 hnd]
    exact List.filter_congr (fun o _ => by rw [(List.mergeSort_perm tab _).contains_eq])
  · rw [if_neg hn]
    exact ⟨List.Sublist.refl l, rfl, fun h => absurd h hn⟩

/-- a repeated timestamp in the list is refused: nothing removed, 0 returned -/
theorem removeByTimes_refuses_duplicates (l : List Obs) (tab : List Int) (hn : ¬ tab.Nodup) :
    removeByTimes l tab = (l, 0) := by
  rw [removeByTimes_eq, if_neg hn]

/-! ## non-vacuity and witnesses -/

example : (splitEven ⟨[⟨0, 1, []⟩, ⟨1, 2, []⟩, ⟨2, 3, []⟩, ⟨3, 4, []⟩, ⟨4, 5, []⟩], []⟩ 2).map
    (fun sg => sg.map (fun t => t.pts.map (·.tag))) = some [[0, 1], [2, 3]] := by decide +kernel
example : (reverseTrack ⟨[⟨0, 1, [7]⟩, ⟨1, 2, [8]⟩], [("f", 0)]⟩) = some ⟨[⟨1, 2, [8]⟩, ⟨0, 1, [7]⟩], [("f", 0)]⟩ := by
  decide +kernel
example : makeOdd ([] : List Nat) = none ∧ makeOdd [1, 2] = some [1] ∧ makeEven [1, 2, 3] = some [1, 2] := by decide
example : pySet [10, 11, 12] (-1) 99 = some [10, 11, 99] ∧ pySet [10, 11, 12] 3 99 = none := by decide
/-- distinct timestamps on both sides (hypotheses of `removeByTimes_spec`); with a repeated timestamp in the track only
the first observation goes -/
example : ([3, 1] : List Int).Nodup ∧ (([⟨0, 1, []⟩, ⟨1, 3, []⟩, ⟨2, 5, []⟩] : List Obs).map (·.time)).Nodup := by decide
example : removeTimesLoop [3] [⟨0, 3, []⟩, ⟨1, 3, []⟩] 0 = ([⟨1, 3, []⟩], 1) := by decide +kernel

end TV.C04
