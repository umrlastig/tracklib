import TracklibVerif.Lemmas.RasterLayout
/-! # C19 — the feature table of the tracks (property theorems; continuation of `Props/C19.lean`)

"Each cell's aggregate … equals that aggregate computed over exactly the feature values of the observations located in the
cell": the feature value of an observation is what `Track.getObsAnalyticalFeature(name, i)` returns, i.e.
`Obs.features[rank]` with the rank of `name` looked up in the dictionary of THAT track. Tracks of one collection may hold
the same features at different ranks. The theorems of `Props/C19.lean` speak of the values by name (`Trk.feats`,
`featVals`); the ones below justify that view:

* `add_collection_by_name` — `addCollectionToRaster` (`addColl`) depends on the tracks only through their positions and
  their values by name for the features of the bands;
* `track_layout_sound` — a track whose features are built by ANY script of `createAnalyticalFeature` /
  `removeAnalyticalFeature` / `setObsAnalyticalFeature` calls on the concrete table (dictionary of ranks + one value list per
  observation; `Model/RasterLayout.lean`, on the model of `core/track.py` of C01): what the raster reads through the ranks is the
  content of the table BY NAME after the same script (`runScriptA`, in which no rank occurs), and every feature has one value
  per observation;
* `add_collection_layout_independent` — hence two collections whose tracks were built by different scripts (another creation
  order, extra features, temporary features removed, features re-created) with the same content by name are scattered alike.

These statements hold for any scalar type (no arithmetic is used): for Python's floats too. -/
set_option linter.unusedSectionVars false
namespace TV.C19
open TV.Raster TV.Features

section byName
variable {α : Type} [Add α] [Sub α] [Mul α] [Div α] [OfNat α 0] [OfNat α 1] [OfNat α 2] [IntCast α] [NatCast α]
  [LT α] [DecidableLT α] [LE α] [DecidableLE α] [BEq α]

/-- `addCollectionToRaster` sees a collection only through the positions of its tracks and, for the features `afo` of the
    bands, their values BY NAME (`featVals`: `uid`, `x`, `y`, `idx`, or the track's own feature of that name): two
    collections that agree on those, track by track, leave the raster in the same state with the same outcome — on a
    raster in any state, failing calls included. -/
theorem add_collection_by_name (floor : α → Int) (s : RState α) (afo : List String) (ts ts' : List (Trk α))
    (h : SameColl afo ts ts') : addColl floor s afo ts = addColl floor s afo ts' := by
  have h2 := addTracks_congr floor s.g afo ts ts' (afo.map (fun af => (af, emptyCells s.g.nrow.toNat s.g.ncol.toNat))) h
    (by intro k hk; simpa [List.map_map, Function.comp_def] using hk)
  unfold addColl
  simp only [any_missing_congr afo ts ts' h, h2]

/-- the content by name of the feature table of a track of `pts.length` observations after the script: the script run on
    the specification table of C01 (`ATab`: name ↦ column, no ranks) -/
def byNameAfter (pts : List (α × α)) (steps : List (LStep α)) : List (String × List (Option α)) :=
  (runScriptA steps (abs (tab0 pts))).2.cols

/-- A track built by a script that does not raise, whatever the ranks the script leaves in the dictionary: its positions
    and uid are those given; the features the raster model sees are the table's content by name after the script; the value
    list read for a feature name (other than the built-in `uid`, `x`, `y`, `idx`) is the column of that name; every feature
    has exactly one value per observation (so `addColl`'s scatter pairs positions and values one to one) and no name occurs
    twice. -/
theorem track_layout_sound (uid : α) (pts : List (α × α)) (steps : List (LStep α)) (t : Trk α)
    (h : trkOfScript uid pts steps = some t) :
    t.uid = uid ∧ t.pts = pts ∧ t.feats = byNameAfter pts steps
      ∧ (∀ af, af ≠ "uid" → af ≠ "x" → af ≠ "y" → af ≠ "idx" → featVals t af = Features.lookup (byNameAfter pts steps) af)
      ∧ (∀ f ∈ t.feats, f.2.length = pts.length) ∧ (t.feats.map Prod.fst).Nodup := by
  obtain ⟨hinv, hsim, _⟩ := sim_script pts.length steps (tab0 pts) (inv_tab0 pts)
  revert h
  fun_cases trkOfScript uid pts steps
  case case2 => exact nofun
  case case1 u st hr =>
    rintro ⟨⟩
    rw [hr] at hinv hsim
    have hfe : featsOfTab st = byNameAfter pts steps := by
      unfold byNameAfter
      rw [hsim]
      rfl
    refine ⟨rfl, rfl, hfe, ?_, ?_, ?_⟩
    · intro af h1 h2 h3 h4
      unfold featVals
      simp only [h1, h2, h3, h4, if_false]
      rw [← hfe]
      exact list_lookup_eq _ af
    · intro f hf
      simp only [featsOfTab, List.mem_map] at hf
      obtain ⟨p, _, rfl⟩ := hf
      simp [hinv.size]
    · have : (featsOfTab st).map Prod.fst = names st := by
        simp [featsOfTab, names, List.map_map, Function.comp_def]
      show ((featsOfTab st).map Prod.fst).Nodup
      rw [this]
      exact hinv.nodup

/-- Layout independence. Two collections of tracks built by scripts (track by track: same uid, same positions, ANY two
    scripts that do not raise and leave the same content by name for the features `afo` of the bands — another creation
    order, extra or temporary features, features removed and created again) are scattered alike by
    `addCollectionToRaster`: same state, same outcome. `afo` is assumed free of the names `uid`, `x`, `y`, `idx`
    only to keep the hypothesis about the tables; those four are read from uid and positions, which are equal. -/
theorem add_collection_layout_independent (floor : α → Int) (s : RState α) (afo : List String)
    (specs : List (α × List (α × α) × List (LStep α) × List (LStep α))) (ts ts' : List (Trk α))
    (h1 : specs.map (fun q => trkOfScript q.1 q.2.1 q.2.2.1) = ts.map some)
    (h2 : specs.map (fun q => trkOfScript q.1 q.2.1 q.2.2.2) = ts'.map some)
    (hsame : ∀ q ∈ specs, ∀ af ∈ afo, Features.lookup (byNameAfter q.2.1 q.2.2.1) af = Features.lookup (byNameAfter q.2.1 q.2.2.2) af) :
    addColl floor s afo ts = addColl floor s afo ts' := by
  apply add_collection_by_name
  induction specs generalizing ts ts' with
  | nil =>
    cases ts <;> cases ts' <;> simp at h1 h2
    exact SameColl.nil
  | cons q rest ih =>
    cases ts with
    | nil => simp at h1
    | cons t ts =>
      cases ts' with
      | nil => simp at h2
      | cons t' ts' =>
        simp only [List.map_cons, List.cons.injEq] at h1 h2
        obtain ⟨u1, p1, f1, -⟩ := track_layout_sound _ _ _ t h1.1
        obtain ⟨u2, p2, f2, -⟩ := track_layout_sound _ _ _ t' h2.1
        refine SameColl.cons ⟨p1.trans p2.symm, fun af haf => featVals_congr af (u1.trans u2.symm) (p1.trans p2.symm) ?_⟩
          (ih ts ts' h1.2 h2.2 (fun q' hq' => hsame q' (by simp [hq'])))
        rw [f1, f2, list_lookup_eq, list_lookup_eq]
        exact hsame q (by simp) af haf

end byName

/-! Non-vacuity: two scripts with different final ranks and the same content by name. -/
section examples
def scriptA : List (LStep Int) := [.create "v" [some 3, none], .create "w" [some 5, some 6]]
def scriptB : List (LStep Int) :=
  [.create "tmp" [none, none], .create "w" [some 0, some 0], .remove "tmp", .create "v" [some 3, some 9],
   .write "w" [some 5, some 6], .write "v" [some 3, none]]

/-- ranks after the scripts: v ↦ 0, w ↦ 1 and w ↦ 0, v ↦ 1 -/
example : (runScript scriptA (tab0 [((0 : Int), (0 : Int)), (1, 1)])).2.dico = [("v", 0), ("w", 1)]
    ∧ (runScript scriptB (tab0 [((0 : Int), (0 : Int)), (1, 1)])).2.dico = [("w", 0), ("v", 1)] := by decide +kernel

example : (trkOfScript (7 : Int) [(0, 0), (1, 1)] scriptA).map (fun t => (featVals t "v", featVals t "w"))
      = some (some [some 3, none], some [some 5, some 6])
    ∧ (trkOfScript (7 : Int) [(0, 0), (1, 1)] scriptB).map (fun t => (featVals t "v", featVals t "w"))
      = some (some [some 3, none], some [some 5, some 6]) := by decide +kernel
end examples

end TV.C19
