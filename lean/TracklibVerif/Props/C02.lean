import TracklibVerif.Lemmas.ExprRpn
import TracklibVerif.Lemmas.ExprExact
import TracklibVerif.Lemmas.ExprErr
import TracklibVerif.Lemmas.ExprSourceForms
import TracklibVerif.Lemmas.ExprMinus
import TracklibVerif.Lemmas.ExprExt
import TracklibVerif.Lemmas.ExprAgg
import TracklibVerif.Lemmas.ExprFn
import TracklibVerif.Lemmas.ExprPrime
/-! # C02 — algebraic feature expressions evaluate to ordinary arithmetic on the features

Property theorems only (helpers: `Lemmas/Rpn.lean`, `Lemmas/RpnChars.lean`, `Lemmas/Expr.lean`, `Lemmas/ExprRpn.lean`,
`Lemmas/ExprPointwise.lean`, `Lemmas/ExprErr.lean` (error direction), `Lemmas/ExprStr.lean`, `ExprSyntax`, `ExprRewrite`, `ExprSource`, `ExprSourceForms`, `ExprMinus` (the rewriting chain),
`Lemmas/ExprAgg.lean` / `Lemmas/ExprFn.lean` (MIN MAX ARGMIN ARGMAX D I D2 against their documented formulas),
`Lemmas/ExprQuote.lean` / `Lemmas/ExprPrime.lean` (the `'` shorthand);
the closed forms of `SUM AVG VAR STD MSE RMSE MEDIAN MAD` (T13, T14) are in `Props/C02Agg.lean`).
Models: `Model/Rpn.lean` (token-level `utils.makeRPN`) and `Model/Expr.lean` (the rewriting chain,
character-level `makeRPN`, `__evaluateRPN` / `__applyOperation`, the operator classes, the purge of
`Track.operate`). The scalar type `α` is abstract (`Scalar α`): the statements hold for the `Float`
instance the driver runs as well as for exact arithmetic; no law of arithmetic is assumed.

`denoteM tr e` is the *tree semantics*: structural recursion on the expression tree with the operator
definitions of core/operators.py at each node (pointwise `+ - * / ^ < >` with the NaN-on-zero rule of
`Divider`, number∘feature and feature∘number forms, `I D D2 ABS SQRT LOG DIODE SIGN EXP COS SIN TAN`,
`SUM AVG VAR STD MSE RMSE MAD MIN MAX MEDIAN ARGMIN ARGMAX`); it has no stack, no temporaries and no parser.
The theorems cover both directions (value: T1–T5, error: T6) and start from the string the user types (T7, with the
`'` shorthand: T11, a sign typed directly after a binary `+` / `-`: T12, any number of bare minuses and doubled signs in one
string: T15). T8–T10 relate definitions as coded to their documented formulas: `MIN` / `MAX` (T8), `ARGMIN` / `ARGMAX` (T9, T9'),
`D` / `I` / `D2` (T10); `SUM AVG VAR STD MSE RMSE` (T13) and `MEDIAN` / `MAD` (T14) are in `Props/C02Agg.lean`.

The model is that of the code after the repairs 5676890 / 2dd86ce (`a/number`, `number/a` are single divisions, coded like
the other scalar operators; they used to go through a reciprocal) and b728412 (`ARGMIN` / `ARGMAX` take their first index on
equality with the start value): T5 needs commutativity of `+` and `*` only, T9 holds for every vector that holds a number. -/
namespace TV.C02
open TV.Expr TV.Rpn

variable {α : Type} [Scalar α]

/-- **T2 (parser)**: for the precedence table of `utils.makeRPN`
(`= | < > | + - | ! | * / | % | ^ | @ | & $`) the right-to-left scan at depth 0 with
outer-parenthesis stripping returns the postfix form of every expression tree printed with the
parentheses that precedence and left associativity require (plus any redundant ones: `E.par`).
So `a-b-c` is `(a-b)-c`, `a+b*c` is `a+(b*c)`, and explicit parentheses are honoured. -/
theorem makeRPN_show (e : E) (hwf : Rpn.WF pyLvl 9 e) (fuel : Nat) (hf : Rpn.size e ≤ fuel) :
    rpn pyLvl 9 fuel (shw pyLvl 9 e) = Rpn.post e :=
  rpn_shw pyLvl 9 e hwf fuel hf

/-- **T1 (stack machine = tree semantics; exactly the temporaries it created)**: for every
well-formed tree `e` whose tree semantics on the track is `v`, running `__evaluateRPN` on the postfix
form of `e` (followed by anything) amounts to pushing one item that stands for `v`; the counter of
temporaries advances by the number of operations of `e`, and the track differs only by temporaries
`#k … #(k+ops-1)` appended to the table (`Step`): no other feature, coordinate or timestamp changes. -/
theorem evalRPN_postfix (e : Ex) (tr : Tr α) (st : List (Item α)) (k : Nat) (rest : List Str) (v : Val α)
    (hw : WFx e) (hn : tr.n ≠ 0) (hf : Fresh tr k) (hl : NoLitNames tr) (hd : denoteM tr e = .ok v) :
    ∃ tr' it, evalRPN tr (Expr.post e ++ rest) st k = evalRPN tr' rest (it :: st) (k + nops e)
      ∧ Step tr tr' k (k + nops e) ∧ itemVal tr' it = some v :=
  evalRPN_post e tr st k rest v hw hn hf hl hd

/-- **T3a (no `=`)**: `operate` on the postfix form of `#output = e` returns the tree semantics of
`e`, one value per observation, and leaves the track *exactly* as it was (same table, same order,
no temporary left). -/
theorem operate_value (tr : Tr α) (e : Ex) (v : Val α)
    (hw : WFx e) (hn : tr.n ≠ 0) (hnt : NoTemps tr) (hl : NoLitNames tr) (hd : denoteM tr e = .ok v) :
    operateTokens tr (outputName :: (Expr.post e ++ [['=']])) false = (.ok (some (v.toVec tr.n)), tr) :=
  operateTokens_value tr e v hw hn hnt hl hd

/-- **T3b (`lhs = e`, new name)**: nothing is returned; the value is stored under `lhs`; every
other column, the coordinates and the timestamps are unchanged. -/
theorem operate_assign_new (tr : Tr α) (lhs : Str) (e : Ex) (v : Val α)
    (hop : isOperatorTok lhs = none) (hr : isReserved lhs = false) (ht : isTemp lhs = false)
    (hlk : lookup lhs tr.feats = none)
    (hw : WFx e) (hn : tr.n ≠ 0) (hnt : NoTemps tr) (hl : NoLitNames tr) (hd : denoteM tr e = .ok v) :
    operateTokens tr (lhs :: (Expr.post e ++ [['=']])) true = (.ok none, ext tr [(lhs, v.toVec tr.n)]) :=
  operateTokens_assign_new tr lhs e v hop hr ht hlk hw hn hnt hl hd

/-- **T3c (`lhs = e`, existing feature, vector value)**: the column `lhs` is replaced (removed, then
appended with the new values); nothing else changes. -/
theorem operate_assign_existing (tr : Tr α) (lhs : Str) (e : Ex) (c : List α)
    (hop : isOperatorTok lhs = none) (hr : isReserved lhs = false) (ht : isTemp lhs = false)
    (hlk : (lookup lhs tr.feats).isSome) (hone : lookup lhs (eraseKey lhs tr.feats) = none)
    (hw : WFx e) (hn : tr.n ≠ 0) (hnt : NoTemps tr) (hl : NoLitNames tr) (hd : denoteM tr e = .ok (.vec c)) :
    operateTokens tr (lhs :: (Expr.post e ++ [['=']])) true =
      (.ok none, { tr with feats := eraseKey lhs tr.feats ++ [(lhs, c)] }) := by
  obtain ⟨ad, it, had, hv, he⟩ := evalRPN_before_assign tr lhs e (.vec c) hop hw hn hnt hl hd
  have hone' : lookup lhs (eraseKey lhs (ext tr ad).feats) = none := by
    rw [ext_feats, eraseKey_append, if_pos hlk, lookup_append, hone]
    exact lookup_none_of_keys _ _ (added_ne had ht)
  rw [operateTokens_of_assign he (assign_replace (ext tr ad) lhs it c hn hr (lookup_append_isSome ad hlk) hone' hv),
    purge_replace ht, purge_ext_temps hnt had]

/-- **T3c' (`lhs = <number expression>`, existing feature)**: the column is overwritten in place with
the constant (regression statement for fix 79feaf2). -/
theorem operate_assign_existing_number (tr : Tr α) (lhs : Str) (e : Ex) (x : α)
    (hop : isOperatorTok lhs = none) (hr : isReserved lhs = false) (hlk : (lookup lhs tr.feats).isSome)
    (hw : WFx e) (hn : tr.n ≠ 0) (hnt : NoTemps tr) (hl : NoLitNames tr) (hd : denoteM tr e = .ok (.lit x)) :
    operateTokens tr (lhs :: (Expr.post e ++ [['=']])) true =
      (.ok none, { tr with feats := setKey lhs (List.replicate tr.n x) tr.feats }) := by
  obtain ⟨ad, it, had, hv, he⟩ := evalRPN_before_assign tr lhs e (.lit x) hop hw hn hnt hl hd
  have ht : isTemp lhs = false := by
    cases h : isTemp lhs with
    | false => rfl
    | true => rw [lookup_temp_none hnt h] at hlk; cases hlk
  rw [operateTokens_of_assign he (assign_overwrite (ext tr ad) lhs it x hn (hl.ext had) hr (lookup_append_isSome ad hlk) hv),
    purge_overwrite ht, purge_ext_temps hnt had]
  rfl

/-- **T3d (`x = e`, `y = e`, `z = e`)**: the coordinate is written with the value of `e` at every
observation — whether `e` has a vector value or is a pure number expression such as `3` or `1+2`,
which is written at every observation (regression statement for fix 144a468: `x=3` used to raise
KeyError) —; the table of features is untouched (regression statement for fix 3613032: the source
feature is not deleted), the other coordinates and the timestamps are unchanged, nothing is returned. -/
theorem operate_assign_coordinate (tr : Tr α) (lhs : Str) (e : Ex) (v : Val α)
    (hc : lhs = ['x'] ∨ lhs = ['y'] ∨ lhs = ['z'])
    (hw : WFx e) (hn : tr.n ≠ 0) (hnt : NoTemps tr) (hl : NoLitNames tr) (hd : denoteM tr e = .ok v) :
    operateTokens tr (lhs :: (Expr.post e ++ [['=']])) true = (.ok none, setCoord tr lhs (v.toVec tr.n)) := by
  have hop : isOperatorTok lhs = none := by rcases hc with rfl | rfl | rfl <;> rfl
  obtain ⟨ad, it, had, hv, he⟩ := evalRPN_before_assign tr lhs e v hop hw hn hnt hl hd
  rw [operateTokens_of_assign he (assign_coord (ext tr ad) lhs it v hc hn (hl.ext had) hv), purge_setCoord, purge_dropTemp,
    purge_ext_temps hnt had]
  rfl

/-- **T3 (composition parser ∘ evaluator, token level)**: parse the printed statement `#output = e`
(minimal parentheses, calls printed `f@(…)` as the rewriting produces them) with `makeRPN`'s table,
run the stack machine and the purge: the result is the tree semantics of `e` and the track is
unchanged. -/
theorem operate_show_value (tr : Tr α) (e : Ex) (v : Val α) (fuel : Nat)
    (hfuel : Rpn.size (stmt outputName e) ≤ fuel)
    (hw : WFx e) (hn : tr.n ≠ 0) (hnt : NoTemps tr) (hl : NoLitNames tr) (hd : denoteM tr e = .ok v) :
    operateTokens tr ((rpn pyLvl 9 fuel (shw pyLvl 9 (stmt outputName e))).map String.toList) false
      = (.ok (some (v.toVec tr.n)), tr) := by
  rw [rpn_shw pyLvl 9 _ (wf_stmt outputName e hw) fuel hfuel, post_stmt]
  exact operateTokens_value tr e v hw hn hnt hl hd

/-- **T4 (operator objects agree with the evaluator)**: `Track.operate(Operator.X, …)` with a new
output name returns exactly the tree semantics of the corresponding one-node expression
(`a∘b`, `a∘number`, `number∘a`, `f{a}` for each of the 12 void functions — `LOG` with its own way of storing
the result included — and the 12 aggregates); together with T3a this is "applying the operator objects
directly gives the same values". -/
theorem operator_objects_agree (tr : Tr α) (o : Char) (f a b lit out : Str) (ca cb : List α) (s : α)
    (ga : getAF tr a = .ok ca) (gb : getAF tr b = .ok cb) (hs : litOf lit = some s)
    (hn : tr.n ≠ 0) (hr : isReserved out = false) (hlk : lookup out tr.feats = none) :
    (opBin tr o a b out).1.map Val.vec = denoteM tr (.bin o (.var a) (.var b))
    ∧ (opScal tr o a s out).1.map Val.vec = denoteM tr (.bin o (.var a) (.num lit))
    ∧ (opScalRev tr o a s out).1.map Val.vec = denoteM tr (.bin o (.num lit) (.var a))
    ∧ (isVoidFn f = true → (opVoidFn tr f a out).1.map Val.vec = denoteM tr (.call f (.var a)))
    ∧ (isVoidFn f = false → isAggFn f = true →
        (opAgg tr f a).map (fun v => Val.vec (List.replicate tr.n v)) = denoteM tr (.call f (.var a))) :=
  ⟨opBin_denote tr o a b out ca cb ga gb hn hr hlk, opScal_denote tr o a lit out ca s ga hs hn hr hlk,
   opScalRev_denote tr o a lit out ca s ga hs hn hr hlk, fun hf => opVoidFn_denote tr f a out ca ga hf hn hr hlk,
   fun hf hg => opAgg_denote tr f a ca ga hf hg⟩

/-- **T2' (parser, character level)**: `utils.makeRPN` as modelled on the *string* (the definition the
driver runs and that is compared with the real `makeRPN` on every run: nine groups scanned in order,
right-to-left scan with the depth counter, `strip`, outer-parenthesis stripping, fuel = length of the
string) returns the postfix form of every printed tree whose atoms are non-empty and free of
parentheses, operator characters and white space. -/
theorem makeRPN_chars_show (e : E) (hwf : Rpn.WF pyLvl 9 e) (hok : AtomsOK e) :
    makeRPN (flat (shw pyLvl 9 e)) = .ok ((Rpn.post e).map String.toList) :=
  makeRPN_flat_shw e hwf hok

/-- **string → tokens**: on the rewritten string of any statement `lhs=e` with plain names, what
`operate` does (character-level `makeRPN`, `__double_prime`, stack machine, purge) is what it does on
the postfix token list `lhs, postfix(e), =` — so T3a–T3d apply to strings. -/
theorem operate_string_tokens (tr : Tr α) (lhs : Str) (e : Ex) (void : Bool)
    (hw : WFx e) (hp : PlainNames e) (hq : NoQuote e) (hl : AtomOK (String.ofList lhs)) (hg : GoodTok lhs) :
    operateRewritten tr (stmtString lhs e) void = operateTokens tr (lhs :: (Expr.post e ++ [['=']])) void := by
  simp only [operateRewritten, evaluateRewritten, makeRPN_stmtString lhs e hw hp hl,
    doublePrime_id _ (goodTok_stmt hg (goodTok_post e hq (wf_toE e hw))), operateTokens]

/-- **T3' (string → value)**: from the rewritten string of the statement `#output=e` on
(`makeRPN` on characters, `__double_prime`, the stack machine, fetching `#output`, the purge),
`operate` returns the tree semantics of `e` at every observation and leaves the track exactly as it was. -/
theorem operate_string_value (tr : Tr α) (e : Ex) (v : Val α)
    (hw : WFx e) (hp : PlainNames e) (hq : NoQuote e)
    (hn : tr.n ≠ 0) (hnt : NoTemps tr) (hl : NoLitNames tr) (hd : denoteM tr e = .ok v) :
    operateRewritten tr (stmtString outputName e) false = (.ok (some (v.toVec tr.n)), tr) := by
  rw [operate_string_tokens tr outputName e false hw hp hq atomOK_output goodTok_output]
  exact operateTokens_value tr e v hw hn hnt hl hd

/-- **T5 (tree semantics = ordinary pointwise arithmetic)**: under the two laws of `Laws`
(`x+s = s+x`, `x*s = s*x` — the number∘feature forms `sr+`, `sr*` are bound to the feature∘number operators —, true of
every field and of IEEE doubles) the evaluator's semantics of a tree — with its literal folding and its separate
feature∘number / number∘feature operator tables — is what one gets by evaluating the tree observation
by observation with numbers as constant vectors (`denote`): in particular `a/number` and `number/a` are the quotients
`Divider` computes against a constant vector (since fix 5676890; the pre-fix operators multiplied by a reciprocal and the
statement needed `x*(1/s) = x/s`, `(1/x)*s = s/x`, which IEEE doubles satisfy up to rounding only, and not at all for a
subnormal divisor). A wrong entry in one of the scalar tables (e.g. `sr-` bound to the non-reversed operator) makes this
statement false. -/
theorem tree_semantics_pointwise (L : Laws α) (tr : Tr α) (hs : WellSized tr) (hn : tr.n ≠ 0) (e : Ex) (v : Val α)
    (hd : denoteM tr e = .ok v) : denote tr e = .ok (v.toVec tr.n) :=
  (denoteM_pointwise L tr hs hn e v hd).1

/-- **C02, end to end on the model** (from the rewritten string on): if evaluating the tree of `e`
observation by observation gives… whatever the evaluator's semantics gives (`hd`), then `operate`
returns exactly the pointwise value `denote tr e` and leaves the track as it was. -/
theorem operate_string_pointwise (L : Laws α) (tr : Tr α) (e : Ex) (v : Val α)
    (hw : WFx e) (hp : PlainNames e) (hq : NoQuote e) (hs : WellSized tr)
    (hn : tr.n ≠ 0) (hnt : NoTemps tr) (hl : NoLitNames tr) (hd : denoteM tr e = .ok v) :
    ∃ vec, denote tr e = .ok vec ∧ operateRewritten tr (stmtString outputName e) false = (.ok (some vec), tr) :=
  ⟨v.toVec tr.n, tree_semantics_pointwise L tr hs hn e v hd, operate_string_value tr e v hw hp hq hn hnt hl hd⟩

/-- **T6 (error propagation, stack machine)**: when the tree semantics of a well-formed tree is an *error*
(division of a feature by the literal 0, `0 ** negative`, a complex or overflowing power, `SQRT` of a negative,
`EXP` overflow, a function of a number-valued sub-expression, …) — every variable being bound on the track,
every call applying one of the 24 known functions to something other than a bare number token — the stack
machine raises the *same* error, having changed the track only by appended temporaries `#k…`. -/
theorem evalRPN_postfix_error (e : Ex) (tr : Tr α) (st : List (Item α)) (k : Nat) (rest : List Str) (err : Err)
    (hw : WFx e) (hc : CallsOK e) (hb : Bound tr e) (hn : tr.n ≠ 0) (hf : Fresh tr k) (hl : NoLitNames tr)
    (hd : denoteM tr e = .error err) :
    ∃ tr', evalRPN tr (Expr.post e ++ rest) st k = (.error err, tr') ∧ Step tr tr' k (k + nops e) :=
  evalRPN_post_err e tr st k rest err hw hc hb hn hf hl hd

/-- **T6' (error propagation, `operate`)**: under the same hypotheses `operate` on the postfix form of
`lhs = e` (with or without a user-visible left-hand side) raises that error and — the temporaries being purged
in the `finally` clause (fix 761b645) — leaves the track *exactly* as it was: nothing is stored under `lhs`. -/
theorem operate_error (tr : Tr α) (lhs : Str) (e : Ex) (void : Bool) (err : Err)
    (hop : isOperatorTok lhs = none) (hw : WFx e) (hc : CallsOK e) (hb : Bound tr e)
    (hn : tr.n ≠ 0) (hnt : NoTemps tr) (hl : NoLitNames tr) (hd : denoteM tr e = .error err) :
    operateTokens tr (lhs :: (Expr.post e ++ [['=']])) void = (.error err, tr) :=
  operateTokens_error tr lhs e void err hop hw hc hb hn hnt hl hd

/-- **T6'' (error propagation from the rewritten string)**: the same for the string `lhs=e` as it reaches
`makeRPN` (character-level parser, `__double_prime`, stack machine, purge). -/
theorem operate_string_error (tr : Tr α) (lhs : Str) (e : Ex) (void : Bool) (err : Err)
    (hw : WFx e) (hp : PlainNames e) (hq : NoQuote e) (hla : AtomOK (String.ofList lhs)) (hg : GoodTok lhs)
    (hop : isOperatorTok lhs = none) (hc : CallsOK e) (hb : Bound tr e)
    (hn : tr.n ≠ 0) (hnt : NoTemps tr) (hl : NoLitNames tr) (hd : denoteM tr e = .error err) :
    operateRewritten tr (stmtString lhs e) void = (.error err, tr) := by
  rw [operate_string_tokens tr lhs e void hw hp hq hla hg]
  exact operateTokens_error tr lhs e void err hop hw hc hb hn hnt hl hd

/-! ## from the string the user types (the rewriting chain of `Track.__evaluate`)

`Sx` is the surface syntax (numbers, names, binary operators, calls `f{…}`, unary minus `(-…)`, explicit
parentheses); `src e` its printed string (minimal parentheses); `desugar e : Ex` what is computed (unary
minus is `0 - e`); `SrcOK e`: operators are operator characters of `makeRPN`'s table other than `=`, names /
numbers / function names are non-empty, free of parentheses, braces, operator characters and white space, and
no name or number ends with `.` (`2.*a` would contain the pattern `.*`). -/

/-- **T7a (rewriting chain, `lhs=e`)**: `preprocess` — removal of spaces, `**`→`^`, `.*`→`!`, `{`→`@(`, `}`→`)`,
`>>`/`<<`, the reflexive forms, the unary-sign rewrites, `f(`→`f@(` for the 51 names of the two operator tables —
maps the source string of the statement *exactly* to the printed parser tree of the desugared statement
(a call is `f@(…)`, a unary minus `(0-…)`), with `void = True`. -/
theorem preprocess_source_assign (lhs : Str) (e : Sx) (hl : NameOK lhs) (h : SrcOK e) :
    preprocess (lhs ++ '=' :: src e) = .ok (flat (shw pyLvl 9 (.bin '=' (.atom (String.ofList lhs)) (toE' e))), true) :=
  preprocess_assign lhs e hl h

/-- **T7b (rewriting chain, no `=`)**: the same with the prefix `#output = ` (with its two spaces) and `void = False`. -/
theorem preprocess_source_value (e : Sx) (h : SrcOK e) :
    preprocess (src e) = .ok ("#output = ".toList ++ flat (shw pyLvl 9 (toE' e)), false) :=
  preprocess_value e h

/-- **T7c (tokens of the rewritten string = postfix form of the tree)**: `makeRPN` on what `preprocess` returns for
the value form — the spaces of the prefix included — is `#output`, the postfix form of the desugared tree, `=`. -/
theorem tokens_of_preprocessed_source (e : Sx) (h : SrcOK e) :
    (preprocess (src e)).bind (fun p => makeRPN p.1) = .ok (outputName :: (Expr.post (desugar e) ++ [['=']])) := by
  rw [preprocess_value e h]
  exact makeRPN_value e h

/-- **T7 (source string → tokens, `lhs=e`)**: `Track.operate` on the string the user types does what it does on
the postfix token list `lhs, postfix(desugar e), =` — so T3b–T3d and T6' apply to source strings. -/
theorem operate_source_statement (tr : Tr α) (lhs : Str) (e : Sx)
    (hl : NameOK lhs) (hg : GoodTok lhs) (h : SrcOK e) (hq : NoQuote (desugar e)) :
    operate tr (lhs ++ '=' :: src e) = operateTokens tr (lhs :: (Expr.post (desugar e) ++ [['=']])) true :=
  operate_source_tokens tr lhs e hl hg h hq

/-- **C02, end to end from the source string, no `=`**: `Track.operate(src e)` — the whole of `__evaluate`
(rewriting chain, `makeRPN` on characters, `__double_prime`, stack machine, fetch of `#output`) and the purge —
returns the tree semantics of the expression at every observation and leaves the track exactly as it was. -/
theorem operate_source_value (tr : Tr α) (e : Sx) (v : Val α) (h : SrcOK e) (hq : NoQuote (desugar e))
    (hw : WFx (desugar e)) (hn : tr.n ≠ 0) (hnt : NoTemps tr) (hl : NoLitNames tr)
    (hd : denoteM tr (desugar e) = .ok v) :
    operate tr (src e) = (.ok (some (v.toVec tr.n)), tr) :=
  Expr.operate_source_value tr e v h hq hw hn hnt hl hd

/-- … and it is the *pointwise* value (ordinary arithmetic observation by observation) under the `Laws` of T5. -/
theorem operate_source_pointwise (L : Laws α) (tr : Tr α) (e : Sx) (v : Val α) (h : SrcOK e) (hq : NoQuote (desugar e))
    (hw : WFx (desugar e)) (hs : WellSized tr) (hn : tr.n ≠ 0) (hnt : NoTemps tr) (hl : NoLitNames tr)
    (hd : denoteM tr (desugar e) = .ok v) :
    ∃ vec, denote tr (desugar e) = .ok vec ∧ operate tr (src e) = (.ok (some vec), tr) :=
  ⟨v.toVec tr.n, tree_semantics_pointwise L tr hs hn (desugar e) v hd, Expr.operate_source_value tr e v h hq hw hn hnt hl hd⟩

/-- **from the source string, `lhs=e` with a new name**: nothing is returned, the value is stored under `lhs`,
nothing else changes. -/
theorem operate_source_assign_new (tr : Tr α) (lhs : Str) (e : Sx) (v : Val α)
    (hl : NameOK lhs) (hg : GoodTok lhs) (h : SrcOK e) (hq : NoQuote (desugar e))
    (hop : isOperatorTok lhs = none) (hr : isReserved lhs = false) (ht : isTemp lhs = false)
    (hlk : lookup lhs tr.feats = none)
    (hw : WFx (desugar e)) (hn : tr.n ≠ 0) (hnt : NoTemps tr) (hlit : NoLitNames tr)
    (hd : denoteM tr (desugar e) = .ok v) :
    operate tr (lhs ++ '=' :: src e) = (.ok none, ext tr [(lhs, v.toVec tr.n)]) :=
  Expr.operate_source_assign_new tr lhs e v hl hg h hq hop hr ht hlk hw hn hnt hlit hd

/-- **from the source string, error propagation**: when the tree semantics is an error (hypotheses of T6),
`Track.operate("lhs=…")` raises that error and leaves the track exactly as it was. -/
theorem operate_source_error (tr : Tr α) (lhs : Str) (e : Sx) (err : Err)
    (hl : NameOK lhs) (hg : GoodTok lhs) (h : SrcOK e) (hq : NoQuote (desugar e))
    (hop : isOperatorTok lhs = none) (hw : WFx (desugar e)) (hc : CallsOK (desugar e)) (hb : Bound tr (desugar e))
    (hn : tr.n ≠ 0) (hnt : NoTemps tr) (hlit : NoLitNames tr) (hd : denoteM tr (desugar e) = .error err) :
    operate tr (lhs ++ '=' :: src e) = (.error err, tr) := by
  rw [operate_source_tokens tr lhs e hl hg h hq]
  exact operateTokens_error tr lhs (desugar e) true err hop hw hc hb hn hnt hlit hd

/-- … and for the value form (no `=`). -/
theorem operate_source_value_error (tr : Tr α) (e : Sx) (err : Err) (h : SrcOK e) (hq : NoQuote (desugar e))
    (hw : WFx (desugar e)) (hc : CallsOK (desugar e)) (hb : Bound tr (desugar e))
    (hn : tr.n ≠ 0) (hnt : NoTemps tr) (hlit : NoLitNames tr) (hd : denoteM tr (desugar e) = .error err) :
    operate tr (src e) = (.error err, tr) := by
  rw [operate_source_value_tokens tr e h hq]
  exact operateTokens_error tr outputName (desugar e) false err (by decide) hw hc hb hn hnt hlit hd

/-- **spaces anywhere**: `operate` on a string is `operate` on the string without its blanks (the first
`replace(" ", "")`), so every statement above holds for any spacing of the source. -/
theorem operate_source_spaces (tr : Tr α) (s : Str) : operate tr s = operate tr (s.filter (fun d => d != ' ')) :=
  operate_spaces tr s

/-- **`**` written for `^`** (`Sy` = `Sx` with a `pw` node printed `**`; `lower` maps it to `^`). -/
theorem operate_source_starstar (tr : Tr α) (lhs : Str) (e : Sy)
    (hl : NameOK lhs) (hg : GoodTok lhs) (h : SrcOK (lower e)) (hq : NoQuote (desugar (lower e))) :
    operate tr (lhs ++ '=' :: srcY e) = operateTokens tr (lhs :: (Expr.post (desugar (lower e)) ++ [['=']])) true := by
  rw [operate_congr tr ((preprocess_assign_pow lhs e hl h).trans (preprocess_assign lhs (lower e) hl h).symm)]
  exact operate_source_tokens tr lhs (lower e) hl hg h hq

/-- **reflexive forms** `lhs op= e` for `op` in `+ - * / ^ % !`: the statement `lhs = lhs op (e)`. -/
theorem operate_source_reflexive (tr : Tr α) (lhs : Str) (op : Char) (e : Sx) (hop : op ∈ rops)
    (hl : NameOK lhs) (hd : lhs.getLast? ≠ some '.') (hg : GoodTok lhs) (h : SrcOK e) (hq : NoQuote (desugar e)) :
    operate tr (lhs ++ op :: '=' :: src e)
      = operateTokens tr (lhs :: (Expr.post (.bin op (.var lhs) (desugar e)) ++ [['=']])) true := by
  rw [operate_congr tr (preprocess_reflex lhs op e hop hl hd h)]
  exact operate_source_tokens tr lhs _ hl hg (srcOK_reflex hl hd (rops_facts hop).1 (rops_facts hop).2 h) ⟨hg, hq⟩

/-- **bare unary minus** at the start of the string, after `=`, `(` or `{` (`-a+b`, `c=-a*b`, `ABS{-a}`, `(-a+b)`):
dropping the `0` of one `0-` of a printed source string at such a position does not change what `operate` does
(one bare minus per application). -/
theorem operate_source_bare_minus (tr : Tr α) (pre : Str) (hp : PreOK pre) (e : Sx) (h : SrcOK e) (P Q : Str)
    (hS : pre ++ src e = P ++ '0' :: '-' :: Q)
    (hP : P = [] ∨ ∃ P' c, P = P' ++ [c] ∧ (c = '=' ∨ c = '(' ∨ c = '{')) :
    operate tr (P ++ '-' :: Q) = operate tr (pre ++ src e) :=
  operate_bare_minus tr pre hp e h P Q hS hP

/-- **front end `Track[expr]`**: when the (stripped) string contains one of the characters `+ - / * ^ > < ( ) = '`
or `{` that `Track.__getitem__` looks for, `Track[expr]` is `Track.operate(expr)` — every statement above about `operate`
then holds for `Track[…]`. The opening brace `{` is one of them since fix 396f8f9, so a function call alone (`SUM{a}`)
is evaluated; a string with none of them (a name, or a number alone) is looked up as a feature name. -/
theorem getitem_is_operate (tr : Tr α) (s : Str) (hs : strip s = s)
    (h : s.any (fun c => exprChars.contains c) = true) : getitemStr tr s = operate tr s := by
  simp only [getitemStr, hs, h, if_true]

/-- **externals** (`Track.operate(expression, {'name': value})`): the machine that substitutes the values of the
dictionary for their names is, with an empty dictionary, the machine of all the statements above. (With a non-empty
dictionary an external is a number given by name; that reading is tied by the correspondence and judged by the
oracle, stream `externals`, not proved.) -/
theorem operate_no_externals (tr : Tr α) (expr : Str) : operateX [] tr expr = operate tr expr := by
  unfold operateX operate
  rw [evaluateX_nil]

/-- **T8 (`MIN` / `MAX` as coded are the documented `min(x)` / `max(x)`, at every magnitude)**: the folds of `Min` /
`Max` start from `+inf` / `-inf` (fix 68863c7; they used to start from `±1e300` and missed everything beyond). Under
the order laws of the comparison (strict, transitive, `±inf` beyond every number, NaN comparing false), as soon as the
vector holds one number — of any magnitude, the infinities included — `MIN` (`MAX`) is a non-NaN value of the vector
and no value is below (above) it. -/
theorem aggregate_min_max (L : OrdLaws α) (T : TopLaws α) (c : List α) (w : α) (hw : w ∈ c) (hn : Scalar.isNaN w = false) :
    (minL c ∈ c ∧ Scalar.isNaN (minL c) = false ∧ ∀ v ∈ c, Scalar.lt v (minL c) = false) ∧
    (maxL c ∈ c ∧ Scalar.isNaN (maxL c) = false ∧ ∀ v ∈ c, Scalar.lt (maxL c) v = false) :=
  ⟨minL_is_minimum L T c w hw hn, maxL_is_maximum L T c w hw hn⟩

/-- **T8' (no number at all)**: on an empty or all-NaN feature `Min` returns `+inf` and `Max` returns `-inf`, their
start values (the documented `min(x)` / `max(x)` are undefined there; the oracle does not judge that case). -/
theorem aggregate_sentinel (L : OrdLaws α) (T : TopLaws α) (c : List α) (h : ∀ v ∈ c, Scalar.isNaN v = true) :
    minL c = Scalar.inf ∧ maxL c = Scalar.neg Scalar.inf :=
  minmax_of_no_number L T c h

/-- **T9 (`ARGMIN` / `ARGMAX` as coded are the documented `min {t | x(t) = min(x)}` / `min {t | x(t) = max(x)}`)**: under the
order laws of the comparison and of `==` at the start value (`EqLaws`: an infinity is equal to itself and to nothing else), as
soon as the vector holds one number — of any magnitude, the infinities included — `ARGMIN` is the index of the *first*
observation holding exactly the value `MIN` returns — no earlier observation holds it —, and likewise `ARGMAX` with the value
of `MAX`. With T8 (that value is the minimum / maximum of the numbers of the vector, NaN skipped) this is the documented
definition at every magnitude. (Since fix b728412; before it the statement needed "`MIN` is strictly below `+inf`":
`ARGMIN{[nan, inf, inf]}` was 0, the index of the NaN.) -/
theorem aggregate_argmin_argmax (L : OrdLaws α) (T : TopLaws α) (E : EqLaws α) (c : List α) (w : α) (hw : w ∈ c)
    (hn : Scalar.isNaN w = false) :
    (∃ k, argminL c = Scalar.ofNat k ∧ c[k]? = some (minL c) ∧ ∀ j, j < k → c[j]? ≠ some (minL c)) ∧
    (∃ k, argmaxL c = Scalar.ofNat k ∧ c[k]? = some (maxL c) ∧ ∀ j, j < k → c[j]? ≠ some (maxL c)) :=
  ⟨argminL_first L T E c w hw hn, argmaxL_first L T E c w hw hn⟩

/-- **T9' (no number at all)**: on an empty or all-NaN vector — the only case T9 leaves out, for which the documented index is
undefined — no index is ever taken and `ARGMIN` / `ARGMAX` return `0` (`return 0 if idmin is None else idmin`). -/
theorem aggregate_arg_none (L : OrdLaws α) (T : TopLaws α) (E : EqLaws α) (c : List α) (h : ∀ v ∈ c, Scalar.isNaN v = true) :
    argminL c = Scalar.ofNat 0 ∧ argmaxL c = Scalar.ofNat 0 :=
  ⟨argminL_none L T E c h, argmaxL_none L T E c h⟩

/-- **T10 (`D`, `I`, `D2` as coded are their documented recurrences)**, for every scalar type and without any law of
arithmetic: `D`: `y(0) = NaN`, `y(t) = x(t) - x(t-1)`; `I`: `y(0) = 0`, `y(t) = y(t-1) + x(t)`;
`D2`: `y(t) = x(t+1) - 2·x(t) + x(t-1)` for `1 ≤ t ≤ n-2`, NaN at both ends; each returns one value per observation. -/
theorem finite_differences (c : List α) (n : Nat) (hl : c.length = n) (hn : 2 ≤ n) :
    ((diff c)[0]? = some Scalar.nan ∧ (diff c).length = n ∧
      ∀ i a b, c[i]? = some a → c[i + 1]? = some b → (diff c)[i + 1]? = some (Scalar.sub b a)) ∧
    ((integ c)[0]? = some Scalar.zero ∧
      ∀ i x, c[i + 1]? = some x → (integ c)[i + 1]? = some (Scalar.add ((integ c).getD i Scalar.nan) x)) ∧
    ((diff2 n c)[0]? = some Scalar.nan ∧ (diff2 n c)[n - 1]? = some Scalar.nan ∧ (diff2 n c).length = n ∧
      ∀ i a b d, c[i]? = some a → c[i + 1]? = some b → c[i + 2]? = some d →
        (diff2 n c)[i + 1]? = some (Scalar.add (Scalar.sub d (Scalar.mul Scalar.two b)) a)) := by
  have hne : c ≠ [] := by intro h; rw [h] at hl; simp at hl; omega
  obtain ⟨e1, e2, e3⟩ := diff2_ends n c hn hl
  exact ⟨⟨diff_zero c, by rw [diff_length c hne, hl], diff_succ c⟩, ⟨integ_zero c, integ_succ c⟩,
    ⟨e1, e2, e3, diff2_mid n c hn⟩⟩

/-- **T11 (the derivative shorthand `a'`, from the source string)**: `__double_prime` turns every name ending with a quote
into `D{name}/D{t}` (twice: `a''` is `D{D{a}/D{t}}/D{t}`), so `Track.operate` on a source string whose names may carry
the shorthand does what it does on the postfix tokens of the *unprimed* tree `unprime (unprime (desugar e))` — for the
statement `lhs=e` and for the value form. T1, T3a–T3d and T6' then give the value / the stored column / the error of
that tree; on a tree without any quote `unprime` is the identity (`unprime_of_noQuote`) and this is T7. -/
theorem operate_source_prime (tr : Tr α) (lhs : Str) (e : Sx)
    (hl : NameOK lhs) (hg : GoodTok lhs) (h : SrcOK e) (hp : PrimeOK (desugar e)) :
    operate tr (lhs ++ '=' :: src e)
        = operateTokens tr (lhs :: (Expr.post (unprime (unprime (desugar e))) ++ [['=']])) true
    ∧ operate tr (src e)
        = operateTokens tr (outputName :: (Expr.post (unprime (unprime (desugar e))) ++ [['=']])) false :=
  ⟨operate_of tr _ _ true _ _ (preprocess_assign lhs e hl h) (makeRPN_assign lhs e hl h) (doublePrime_stmt lhs (desugar e) hg hp),
    operate_source_value_tokens_prime tr e h hp⟩

/-- … and its value: `operate(src e)` returns the tree semantics of the unprimed tree at every observation and leaves the
track exactly as it was (`"a'"` evaluates `D{a}/D{t}`). -/
theorem operate_source_prime_value (tr : Tr α) (e : Sx) (v : Val α) (h : SrcOK e) (hp : PrimeOK (desugar e))
    (hw : WFx (unprime (unprime (desugar e)))) (hn : tr.n ≠ 0) (hnt : NoTemps tr) (hl : NoLitNames tr)
    (hd : denoteM tr (unprime (unprime (desugar e))) = .ok v) :
    operate tr (src e) = (.ok (some (v.toVec tr.n)), tr) := by
  rw [operate_source_value_tokens_prime tr e h hp]
  exact operateTokens_value tr _ v hw hn hnt hl hd

/-- **T12 (a sign directly after a binary `+` or `-`: `a+-b`, `a--b`, `a++b`, `a-+b`)**: the last four replacements of
`__unaryOp` merge two adjacent signs into the sign of their product. If `P o Q` is a printed source string (`pre` empty,
or `lhs=`) in which `o` is a *binary* `+` or `-` (the character before it is neither `(` nor `{`), then typing the two
signs `s1 s2` whose product is `o` (`SignPair`: `--` and `++` for `+`, `+-` and `-+` for `-`) in its place does not
change what `operate` does (one pair per application). -/
theorem operate_source_sign_pair (tr : Tr α) (pre : Str) (hp : PreOK pre) (e : Sx) (h : SrcOK e) (P Q : Str)
    (s1 s2 o : Char) (hs : SignPair s1 s2 o) (hS : pre ++ src e = P ++ o :: Q)
    (hP : ∃ P' c, P = P' ++ [c] ∧ c ≠ '(' ∧ c ≠ '{') :
    operate tr (P ++ s1 :: s2 :: Q) = operate tr (pre ++ src e) :=
  operate_congr tr (preprocess_sign_pair pre hp e h P Q s1 s2 o hs hS hP)

/-- **T15 (ANY number of bare minuses and doubled signs in one string)**: `Sugar s u` says that `u` is obtained from `s` by
any number of the two sugarings of the bare-minus theorem and of T12, each applied to the result of the ones before, in any
order: dropping the `0` of a `0-` that stands at the start or directly after `=`, `(` or `{`, and typing a binary `+` / `-`
(between `p` and `q`: `okp p o`, `p ≠ (`, `okp o q`) as two signs with that product. If `s` is a printed source string
(`pre` empty, or `lhs=`), `Track.operate` does on `u` what it does on `s` — so T7 and everything after it hold for strings
such as `-a*(-b+a)--b`. (The eight replacements of `__unaryOp` are shown to act locally: on `X c - Q` and `X c 0 - Q`
(`c` one of `=`, `(`) they agree for ALL strings `X`, `Q`; on `A s1 s2 B` and `A o B` as soon as `A` does not end with a sign,
`(` or `=` and `B` does not start with a sign — `unaryOp_drop_zero_all`, `unaryOp_sign_pair_all` of `Lemmas/ExprMinus.lean`.) -/
theorem operate_source_sugar (tr : Tr α) (pre : Str) (hp : PreOK pre) (e : Sx) (h : SrcOK e) (u : Str)
    (hu : Sugar (pre ++ src e) u) : operate tr u = operate tr (pre ++ src e) :=
  operate_congr tr (preprocess_sugar pre hp e h u hu)

/-- **T15' (tokens of a sugared string)**: the rewriting chain followed by `makeRPN`, applied to a value-form string with any
number of bare minuses and doubled signs, yields `#output`, the postfix form of the tree it denotes (every bare or
parenthesised minus being `0 - …`), `=`. -/
theorem tokens_of_sugared_source (e : Sx) (h : SrcOK e) (u : Str) (hu : Sugar (src e) u) :
    (preprocess u).bind (fun p => makeRPN p.1) = .ok (outputName :: (Expr.post (desugar e) ++ [['=']])) := by
  have hp := preprocess_sugar [] preOK_nil e h u (by simpa using hu)
  rw [List.nil_append] at hp
  rw [hp]
  exact tokens_of_preprocessed_source e h

/-- **T15'' (a sugared statement `lhs=…`)**: with a left-hand side, `Track.operate` on the sugared string does what it does on
the postfix tokens `lhs, postfix(desugar e), =` — so T3b–T3d and T6' apply to `c=-a*(-b+a)--b`. -/
theorem operate_source_sugar_statement (tr : Tr α) (lhs : Str) (e : Sx) (hl : NameOK lhs) (hg : GoodTok lhs) (h : SrcOK e)
    (hq : NoQuote (desugar e)) (u : Str) (hu : Sugar (lhs ++ '=' :: src e) u) :
    operate tr u = operateTokens tr (lhs :: (Expr.post (desugar e) ++ [['=']])) true := by
  have e1 : (lhs ++ ['=']) ++ src e = lhs ++ '=' :: src e := by simp
  have := operate_source_sugar tr (lhs ++ ['=']) (preOK_lhs hl) e h u (by rw [e1]; exact hu)
  rw [this, e1]
  exact operate_source_tokens tr lhs e hl hg h hq

/-! ## non-vacuity -/

/-- the laws are those of exact arithmetic: rationals with a NaN element satisfy them -/
example : Laws (Option Rat) := exactQ_laws


/-- a toy exact scalar (integers; `pow` by repeated multiplication, no NaN) for the examples -/
instance toy : Scalar Int where
  add := (· + ·)
  sub := (· - ·)
  mul := (· * ·)
  div := (· / ·)
  neg := fun x => -x
  pow := fun x y => .ok (x ^ y.toNat)
  sqrt := fun x => .ok x
  abs := fun x => x.natAbs
  lt := fun a b => decide (a < b)
  isZero := fun x => x == 0
  isNaN := fun _ => false
  nan := 0
  ofDec := fun m k => (m : Int) / (10 ^ k : Nat)
  inf := 10 ^ 300

def trEx : Tr Int := ⟨3, [1, 2, 3], [0, 0, 0], [0, 0, 0], [0, 10, 20], [(['a'], [1, -2, 4]), (['b'], [2, 2, 5])]⟩
/-- `(a+b)*2 - SUM{a}` -/
def eEx : Ex := .bin '-' (.bin '*' (.bin '+' (.var ['a']) (.var ['b'])) (.num ['2'])) (.call ['S', 'U', 'M'] (.var ['a']))

example : WFx eEx := by simp only [eEx, WFx]; decide
example : trEx.n ≠ 0 := by decide
theorem trEx_noTemps : NoTemps trEx := by
  show ∀ p ∈ trEx.feats, isTemp p.1 = false
  decide
theorem trEx_noLit : NoLitNames trEx := NoLitNames.of_keys (by decide)
example : NoTemps trEx := trEx_noTemps
example : NoLitNames trEx := trEx_noLit
example : denoteM trEx eEx = .ok (.vec [3, -3, 15]) := by rfl
/-- the parser on the printed statement gives the postfix form the evaluator runs -/
example : (rpn pyLvl 9 20 (shw pyLvl 9 (stmt outputName eEx))).map String.toList
    = outputName :: (Expr.post eEx ++ [['=']]) := by decide +kernel
example : PlainNames eEx ∧ NoQuote eEx := by
  simp only [eEx, PlainNames, NoQuote, AtomOK, GoodTok, String.toList_ofList]
  decide
/-- the character-level parser on the string of the statement -/
example : stmtString outputName eEx = "#output=(a+b)*2-SUM@(a)".toList := by
  simp only [String.reduceToList]
  decide +kernel
example : makeRPN (stmtString outputName eEx) = .ok (outputName :: (Expr.post eEx ++ [['=']])) := by rfl
/-- `y=1+2` (fix 144a468): the number is written at every observation, the table is untouched -/
example : denoteM trEx (.bin '+' (.num ['1']) (.num ['2'])) = .ok (.lit 3) := by rfl
example : operateTokens trEx [['y'], ['1'], ['2'], ['+'], ['=']] true = (.ok none, setCoord trEx ['y'] [3, 3, 3]) := by rfl
/-- the same from the string, through the whole rewriting chain -/
example : (operate trEx "y=1+2".toList).1.toOption = some none ∧ (operate trEx "y=1+2".toList).2.ys = [3, 3, 3]
    ∧ (operate trEx "y=1+2".toList).2.feats = trEx.feats := by
  simp only [String.reduceToList]
  decide +kernel
/-- a parenthesis directly after a comparison operator stays a parenthesis (fix 6716f85), while a function
name followed by `(` is still turned into a call -/
example : funcAt "c=a>(b+1)".toList = "c=a>(b+1)".toList ∧ funcAt "c=a<(b)%(a)".toList = "c=a<(b)%(a)".toList
    ∧ funcAt "D(a)>(SUM(b))".toList = "D@(a)>(SUM@(b))".toList := by
  simp only [String.reduceToList]
  decide +kernel
example : ((preprocess "a>(b+1)".toList).bind (fun p => makeRPN p.1)).toOption
    = some [outputName, ['a'], ['b'], ['1'], ['+'], ['>'], ['=']] := by
  simp only [String.reduceToList]
  decide +kernel
example : (operate trEx "a>(b+1)".toList).1.toOption = some (some [0, 0, 0])
    ∧ (operate trEx "(a+3)>(b+1)".toList).1.toOption = some (some [1, 0, 1]) := by
  simp only [String.reduceToList]
  decide +kernel
/-- left associativity and precedence with the real table: `a-b-c*d` -/
example : rpn pyLvl 9 20 (shw pyLvl 9 (.bin '-' (.bin '-' (.atom "a") (.atom "b")) (.bin '*' (.atom "c") (.atom "d"))))
    = ["a", "b", "-", "c", "d", "*", "-"] := by decide

/-! ### the source-string theorems (T7) and the error direction (T6) are not vacuous -/

/-- `(a+b)*2-SUM{(-a)}` as the user types it -/
def sEx : Sx :=
  .bin '-' (.bin '*' (.bin '+' (.var ['a']) (.var ['b'])) (.num ['2'])) (.call ['S', 'U', 'M'] (.neg (.var ['a'])))
theorem sEx_src : src sEx = "(a+b)*2-SUM{(-a)}".toList := by
  simp only [String.reduceToList]
  decide +kernel
theorem sEx_ok : SrcOK sEx := by simp only [sEx, SrcOK, NameOK]; decide
theorem sEx_noQuote : NoQuote (desugar sEx) := by simp only [sEx, desugar, NoQuote, GoodTok]; decide
theorem sEx_wf : WFx (desugar sEx) := by simp only [sEx, desugar, WFx]; decide
example : (preprocess "(a+b)*2-SUM{(-a)}".toList).toOption = some ("#output = (a+b)*2-SUM@((0-a))".toList, false) := by
  simp only [String.reduceToList]
  decide +kernel
/-- every hypothesis of `operate_source_value` holds on a concrete string and track -/
example : operate trEx "(a+b)*2-SUM{(-a)}".toList = (.ok (some [9, 3, 21]), trEx) := by
  have h := operate_source_value trEx sEx (.vec [9, 3, 21]) sEx_ok sEx_noQuote sEx_wf (by decide) trEx_noTemps trEx_noLit (by rfl)
  rw [sEx_src] at h
  exact h

/-- `c=a/0`: the tree semantics is ZeroDivisionError (`a[0] / 0` in ScalarDivider's loop), so is `operate`, and
nothing is stored -/
def dEx : Sx := .bin '/' (.var ['a']) (.num ['0'])
example : denoteM trEx (desugar dEx) = .error "err:zerodiv" := by rfl
example : operate trEx "c=a/0".toList = (.error "err:zerodiv", trEx) := by
  have h := operate_source_error trEx ['c'] dEx "err:zerodiv" ⟨by decide, by decide⟩ ⟨'c', rfl, by decide⟩
    (by simp only [dEx, SrcOK, NameOK]; decide) (by simp only [dEx, desugar, NoQuote, GoodTok]; decide) (by decide)
    (by simp only [dEx, desugar, WFx]; decide) (by simp only [dEx, desugar, CallsOK]; trivial)
    (by simp only [dEx, desugar, Bound]; exact ⟨⟨_, rfl⟩, trivial⟩) (by decide) trEx_noTemps trEx_noLit (by rfl)
  have hs : (['c'] ++ '=' :: src dEx) = "c=a/0".toList := by
    simp only [String.reduceToList]
    decide +kernel
  rw [hs] at h
  exact h
/-- `DIODE{a}+ARGMAX{b}` on the toy scalar -/
example : denoteM trEx (.bin '+' (.call ['D', 'I', 'O', 'D', 'E'] (.var ['a'])) (.call ['A', 'R', 'G', 'M', 'A', 'X'] (.var ['b'])))
    = .ok (.vec [3, 2, 6]) := by rfl

/-- a five-element scalar for T8: `0 = -inf < 1 < 2 < 3 = +inf`, `4` = NaN; its comparison satisfies the laws -/
def ord5 : Scalar (Fin 5) where
  add := fun a _ => a
  sub := fun a _ => a
  mul := fun a _ => a
  div := fun a _ => a
  neg := fun a => if a = 4 then 4 else 3 - a
  pow := fun a _ => .ok a
  sqrt := fun a => .ok a
  abs := fun a => a
  lt := fun a b => decide (a < b ∧ a ≠ 4 ∧ b ≠ 4)
  isZero := fun _ => false
  isNaN := fun a => a == 4
  nan := 4
  ofDec := fun _ _ => 1
  inf := 3
example : @OrdLaws (Fin 5) ord5 := @OrdLaws.mk (Fin 5) ord5 (by decide) (by decide)
example : @TopLaws (Fin 5) ord5 := @TopLaws.mk (Fin 5) ord5 (by decide) (by decide) (by decide) (by decide) (by decide) (by decide)
/-- NaN is skipped, values of every magnitude are seen, nothing at all gives the start value -/
example : minL ([3, -7, 4] : List Int) = -7 ∧ maxL ([3, -7, 4] : List Int) = 4 := by decide +kernel
example : @minL (Fin 5) ord5 [4, 2, 1, 4] = 1 ∧ @maxL (Fin 5) ord5 [4, 2, 1, 4] = 2 ∧ @minL (Fin 5) ord5 [4, 4] = 3
    ∧ @maxL (Fin 5) ord5 [] = 0 := by decide

/-- `operate("b*factor+k", {'factor': 2, 'k': 10})` on the toy scalar -/
example : (operateX [(['f', 'a', 'c', 't', 'o', 'r'], 2), (['k'], 10)] trEx "b*factor+k".toList).1.toOption = some (some [14, 14, 20]) := by
  simp only [String.reduceToList]
  decide +kernel

/-- `Track["(a+b)*2"]` is `operate("(a+b)*2")`, and so is `Track["SUM{a}"]` since fix 396f8f9 (the opening brace is
among the characters `__getitem__` tests); a plain name is looked up -/
example : getitemStr trEx "(a+b)*2".toList = operate trEx "(a+b)*2".toList :=
  getitem_is_operate trEx _ (by decide +kernel) (by decide +kernel)
example : getitemStr trEx "SUM{a}".toList = operate trEx "SUM{a}".toList :=
  getitem_is_operate trEx _ (by decide +kernel) (by decide +kernel)
example : (getitemStr trEx "SUM{a}".toList).1.toOption = some (some [3, 3, 3]) ∧ (getitemStr trEx "b".toList).1.toOption = some (some [2, 2, 5]) := by
  simp only [String.reduceToList]
  decide +kernel

/-- T5 after fix 5676890: `a/2`, `2/a` are the quotients of `Divider` against the constant vector (toy scalar: integer division) -/
example : denoteM trEx (.bin '/' (.var ['a']) (.num ['2'])) = .ok (.vec [0, -1, 2])
    ∧ denote trEx (.bin '/' (.var ['a']) (.num ['2'])) = .ok [0, -1, 2]
    ∧ denoteM trEx (.bin '/' (.num ['8']) (.var ['a'])) = .ok (.vec [8, -4, 2])
    ∧ denote trEx (.bin '/' (.num ['8']) (.var ['a'])) = .ok [8, -4, 2] := ⟨by rfl, by rfl, by rfl, by rfl⟩
/-- `2/a` with a zero in `a`: ZeroDivisionError from the division itself; `c` is not stored and no temporary is left -/
example : (operate (α := Int) ⟨2, [1, 2], [0, 0], [0, 0], [0, 1], [(['a'], [4, 0])]⟩ "c=2/a".toList)
    = (.error "err:zerodiv", ⟨2, [1, 2], [0, 0], [0, 0], [0, 1], [(['a'], [4, 0])]⟩) := by rfl
/-- the operator object applied directly: `SCALAR_DIVIDER` by 0 raises at the first observation, `c` having been created at 0
(like every other scalar operator, fix 2dd86ce) -/
example : opScal trEx '/' ['a'] 0 ['c'] = (.error "err:zerodiv", { trEx with feats := trEx.feats ++ [(['c'], [0, 0, 0])] })
    ∧ (opScal trEx '/' ['a'] 2 ['c']).1 = .ok [0, -1, 2]
    ∧ (opScal trEx '/' ['a'] 2 ['c']).2.feats = trEx.feats ++ [(['c'], [0, -1, 2])] := ⟨by rfl, by rfl, by rfl⟩

/-- T9 on the toy scalar (whose comparison is a strict order): the first of two equal minima / maxima -/
theorem toy_ord : @OrdLaws Int toy := @OrdLaws.mk Int toy (by intro a; simp [Scalar.lt]) (by
  intro a b c h1 h2
  simp only [Scalar.lt, decide_eq_true_eq] at h1 h2 ⊢
  omega)
example : argminL ([3, -7, 4, -7] : List Int) = 1 ∧ argmaxL ([3, 9, 4, 9] : List Int) = 1 ∧ minL ([3, -7, 4, -7] : List Int) = -7 := by
  decide +kernel
/-- T9 at the start value (fix b728412) on the five-element scalar `0 = -inf < 1 < 2 < 3 = +inf`, `4` = NaN: in
`[nan, inf, inf]` the first index holding the minimum `+inf` is 1 (the pre-fix loop returned 0, the index of the NaN), in
`[nan, -inf]` the maximum `-inf` is at index 1; with a smaller number later the strict comparison still wins; nothing but NaN
gives no index -/
example : @argLoop (Fin 5) ord5 (fun v m => ord5.lt v m) [4, 3, 3] 0 3 none = some 1
    ∧ @argLoop (Fin 5) ord5 (fun v m => ord5.lt m v) [4, 0] 0 0 none = some 1
    ∧ @argLoop (Fin 5) ord5 (fun v m => ord5.lt v m) [4, 3, 1, 3, 1] 0 3 none = some 2
    ∧ @argLoop (Fin 5) ord5 (fun v m => ord5.lt v m) [4, 4] 0 3 none = none := by decide
example : @EqLaws (Fin 5) ord5 := @EqLaws.mk (Fin 5) ord5 (by decide) (by decide) (by decide) (by decide)
theorem toy_eq : @EqLaws Int toy := @EqLaws.mk Int toy (by decide +kernel)
  (by intro v h; simp only [Scalar.eq, Scalar.inf] at h ⊢; simp at h; omega)
  (by decide +kernel)
  (by intro v h; simp only [Scalar.eq, Scalar.inf, Scalar.neg] at h ⊢; simp at h; omega)
/-- T10: `D`, `I`, `D2` of `[1, 4, 9, 16]` -/
example : diff ([1, 4, 9, 16] : List Int) = [0, 3, 5, 7] ∧ integ ([1, 4, 9, 16] : List Int) = [0, 4, 13, 29]
    ∧ diff2 4 ([1, 4, 9, 16] : List Int) = [0, 2, 2, 0] := by decide +kernel
/-- T11: `a'*10` is `D{a}/D{t}*10` (`a = [1, -2, 4]`, `t = [0, 10, 20]`; the toy division is the integer one, its NaN is 0) -/
def pEx : Sx := .bin '*' (.var ['a', '\'']) (.num ['1', '0'])
theorem pEx_src : src pEx = "a'*10".toList := by
  simp only [String.reduceToList]
  decide +kernel
theorem pEx_ok : SrcOK pEx ∧ PrimeOK (desugar pEx) := by
  refine ⟨by simp only [pEx, SrcOK, NameOK]; decide, ?_⟩
  simp only [pEx, desugar, PrimeOK, VarOK, GoodTok]
  refine ⟨by decide, ⟨by decide, by decide⟩, ⟨'0', rfl, by decide⟩⟩
theorem pEx_unprime : unprime (unprime (desugar pEx))
    = .bin '*' (.bin '/' (.call ['D'] (.var ['a'])) (.call ['D'] (.var ['t']))) (.num ['1', '0']) := by rfl
/-- every hypothesis of `operate_source_prime_value` holds on a concrete string and track -/
example : operate trEx "a'*10".toList = (.ok (some [0, -10, 0]), trEx) := by
  have h := operate_source_prime_value trEx pEx (.vec [0, -10, 0]) pEx_ok.1 pEx_ok.2
    (by rw [pEx_unprime]; simp only [WFx]; decide) (by decide) trEx_noTemps trEx_noLit (by rw [pEx_unprime]; rfl)
  rw [pEx_src] at h
  exact h
example : (operate trEx "c=a'*10+b".toList).2.feats = trEx.feats ++ [(['c'], [2, -8, 5])]
    ∧ (operate trEx "a''".toList).1.toOption = some (some [0, -1, 0]) := by
  simp only [String.reduceToList]
  decide +kernel

/-- T12: `a+-b*2` is `a-b*2`, `c=a--b` is `c=a+b` -/
def mEx : Sx := .bin '-' (.var ['a']) (.bin '*' (.var ['b']) (.num ['2']))
example : operate trEx "a+-b*2".toList = operate trEx "a-b*2".toList := by
  have h := operate_source_sign_pair trEx [] preOK_nil mEx (by simp only [mEx, SrcOK, NameOK]; decide) ['a'] "b*2".toList
    '+' '-' '-' .pm (by decide +kernel) ⟨[], 'a', rfl, by decide, by decide⟩
  have hs : ([] : Str) ++ src mEx = "a-b*2".toList := by
    simp only [String.reduceToList]
    decide +kernel
  rw [hs] at h
  exact h
example : (operate trEx "a+-b*2".toList).1.toOption = some (some [-3, -6, -6])
    ∧ (operate trEx "c=a--b".toList).2.feats = trEx.feats ++ [(['c'], [3, 0, 9])] := by
  simp only [String.reduceToList]
  decide +kernel

/-- T15: `-a*(-b+a)--b` — two bare minuses and a doubled sign — is `0-a*(0-b+a)+b` -/
def gEx : Sx := .bin '+' (.bin '-' (.num ['0']) (.bin '*' (.var ['a'])
  (.par (.bin '+' (.bin '-' (.num ['0']) (.var ['b'])) (.var ['a']))))) (.var ['b'])
theorem gEx_src : src gEx = "0-a*(0-b+a)+b".toList := by
  simp only [String.reduceToList]
  decide +kernel
theorem gEx_ok : SrcOK gEx := by simp only [gEx, SrcOK, NameOK]; decide
theorem gEx_sugar : Sugar ("0-a*(0-b+a)+b".toList) ("-a*(-b+a)--b".toList) := by
  have h0 : Sugar ("0-a*(0-b+a)+b".toList) ("0-a*(".toList ++ '0' :: '-' :: "b+a)+b".toList) := by
    have e : "0-a*(".toList ++ '0' :: '-' :: "b+a)+b".toList = "0-a*(0-b+a)+b".toList := by simp
    rw [e]; exact .refl
  have h1 := Sugar.zero h0 (Or.inr ⟨"0-a*".toList, '(', by simp, Or.inr (Or.inl rfl)⟩)
  have h1' : Sugar ("0-a*(0-b+a)+b".toList) (([] : Str) ++ '0' :: '-' :: "a*(-b+a)+b".toList) := by
    have e : ([] : Str) ++ '0' :: '-' :: "a*(-b+a)+b".toList = "0-a*(".toList ++ '-' :: "b+a)+b".toList := by simp
    rw [e]; exact h1
  have h2 := Sugar.zero h1' (Or.inl rfl)
  have h2' : Sugar ("0-a*(0-b+a)+b".toList) (("-a*(-b+a".toList ++ [')']) ++ '+' :: 'b' :: []) := by
    have e : ("-a*(-b+a".toList ++ [')']) ++ '+' :: 'b' :: [] = ([] : Str) ++ '-' :: "a*(-b+a)+b".toList := by simp
    rw [e]; exact h2
  have h3 := Sugar.pair h2' SignPair.mm (by decide) (by decide) (by decide)
  have e : ("-a*(-b+a".toList ++ [')']) ++ '-' :: '-' :: 'b' :: [] = "-a*(-b+a)--b".toList := by simp
  rw [e] at h3; exact h3
example : operate trEx "-a*(-b+a)--b".toList = operate trEx "0-a*(0-b+a)+b".toList := by
  have h := operate_source_sugar trEx [] preOK_nil gEx gEx_ok "-a*(-b+a)--b".toList
    (by rw [List.nil_append, gEx_src]; exact gEx_sugar)
  rw [List.nil_append, gEx_src] at h
  exact h
example : (operate trEx "-a*(-b+a)--b".toList).1.toOption = some (some [3, -6, 9]) := by
  simp only [String.reduceToList]
  decide +kernel
example : ((preprocess "-a*(-b+a)--b".toList).bind (fun p => makeRPN p.1)).toOption
    = some (outputName :: (Expr.post (desugar gEx) ++ [['=']])) := by
  rw [tokens_of_sugared_source gEx gEx_ok _ (by rw [gEx_src]; exact gEx_sugar)]; rfl

/-- T15'': `c=-a*(-b+a)--b` stores `[3, -6, 9]` under the new name `c` -/
example : (operate trEx "c=-a*(-b+a)--b".toList).2.feats = trEx.feats ++ [(['c'], [3, -6, 9])] := by
  simp only [String.reduceToList]
  decide +kernel

/-- outside `SrcOK` (no number or name ends with `.`): a literal written `2.` directly before `*` holds the pattern `.*` of the
FILTER shorthand — `2.*a` is rewritten to `2!a`, not read as `2.0*a` (the real code does the same and raises KeyError);
`a*2.` and `2.+a` are read as written -/
example : (preprocess "2.*a".toList).toOption = some ("#output = 2!a".toList, false)
    ∧ ((preprocess "2.*a".toList).bind (fun p => makeRPN p.1)).toOption = some [outputName, ['2'], ['a'], ['!'], ['=']]
    ∧ ((preprocess "a*2.".toList).bind (fun p => makeRPN p.1)).toOption = some [outputName, ['a'], ['2', '.'], ['*'], ['=']] := by
  simp only [String.reduceToList]
  decide +kernel

end TV.C02
