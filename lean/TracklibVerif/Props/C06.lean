import TracklibVerif.Lemmas.GraphTable
import TracklibVerif.Lemmas.GraphPD
import TracklibVerif.Lemmas.GraphSessionQ
import TracklibVerif.Lemmas.GraphR4
import TracklibVerif.Lemmas.GraphWorld
import TracklibVerif.Lemmas.GraphWorldQ
import TracklibVerif.Lemmas.GraphAStarFix
import TracklibVerif.Lemmas.GraphShared
import TracklibVerif.Lemmas.GraphMetric
import TracklibVerif.Lemmas.GraphGeo
import TracklibVerif.Lemmas.GraphPrepFile
import Mathlib.Algebra.Order.Group.Int
/-! # C06 — network shortest distances are the true minimum over permitted walks

Property theorems only (helper lemmas: `Lemmas/Graph.lean`, `Lemmas/GraphStop.lean`, `Lemmas/GraphTable.lean`,
`Lemmas/GraphPath.lean` (`loopG_none_iff`), `Lemmas/GraphSession.lean`, `Lemmas/GraphSessionQ.lean`, `Lemmas/PDict.lean`,
`Lemmas/Heapq.lean`, `Lemmas/GraphPD.lean`, `Lemmas/GraphAStar.lean`, `Lemmas/GraphAStarFix.lean`, `Lemmas/GraphMetric.lean`,
`Lemmas/GraphWorld.lean`, `Lemmas/GraphWorldQ.lean`, `Lemmas/GraphShared.lean`, `Lemmas/GraphR4.lean`,
`Lemmas/GraphGeo.lean` — networks extracted by `sub_network` in either mode —, `Lemmas/GraphPrepFile.lean` — `save_prep` / `load_prep` with their files).
The model (`Model/Graph.lean`) mirrors `Network.run_routing_forward` in Dijkstra mode and the API functions that
read its result; `Model/GraphAStar.lean` adds the routing-method API (`setRoutingMethod`, `setAStarWeight`, the A* branch
as it is after fix c78e3ab — label `g`, queue priority `g + h` —, several `Network` objects with their own settings) — see
the section "the routing-method API" below for which configurations the statement holds in; `Model/GraphShared.lean` has several `Network` objects that hold the **same
`Node` objects** (what `sub_network` returns; networks filled from one pool of nodes), i.e. one common store of routing
flags of which every search resets its own network's part only — section "networks that share their `Node` objects".
Weights live in any linear order with a `0` and a `+` that satisfy `WalkAdd` (next paragraph; `ℕ ℤ ℚ ℝ`, … do) and are
non-negative (`WFNet`); there is no bound on the size of the network. `Walk net s v c` is a walk of arcs, each
traversed in a direction its orientation permits (`≥ 0`: source→target, `≤ 0`: target→source), of total
weight `c`; `IsDist net s v y` says `y` is the minimum of those weights; the sentinel `-1` is `none`.

**Weights, and float weights.** The theorems are stated for any `W` with a linear order, a `0` and a `+` such that
`0 ≤ w → a ≤ a + w` and `a ≤ b → a + w ≤ b + w` (class `WalkAdd`, `Lemmas/Graph.lean`). Nothing else is used — no
associativity, commutativity, cancellation, not even `a + 0 = a` — because the code and `Walk` both add the weights of a
walk from the source outwards (`((0 + w₁) + w₂) + …`). Every linearly ordered additive commutative (in particular every
cancellative) monoid is an instance (`instWalkAddOfMonoid`: `ℕ ℤ ℚ ℝ` …). IEEE-754 round-to-nearest addition on the
non-NaN doubles also has the two properties (rounding is monotone), so for float weights the code computes the minimum
over walks of the *left-to-right rounded* sum — that is what the theorems say at such an instance. What IEEE addition
lacks is associativity (and cancellation): that minimum need not be the rounding of the exact minimum, need not be
attained by the exactly-shortest walk, and `dist s t` need not equal `dist t s` in a symmetric network; `R4`
(`Lemmas/GraphR4.lean`, used at the end of this file) is a small non-associative instance on which the theorems apply. Lean's `Float` is opaque, so the
instance for doubles is not constructed; the float stream of the harness compares with exact rational distances at
1e-9 relative. NaN and negative weights are outside the property. -/
namespace TV.C06
open TV.Graph
variable {W : Type} [LinearOrder W] [Add W] [Zero W] [WalkAdd W]

/-- T2 (`forward_invariant`): the loop invariants of appendix A.2 (source labelled 0; settled nodes' arcs relaxed;
every label is the weight of a walk; settled labels ≤ unsettled labels; settled nodes labelled; labels are of
real nodes and non-negative) are preserved by one iteration of `run_routing_forward`'s loop. -/
theorem forward_invariant (net : Net W) (hnet : WFNet net) (s : Nat) (st : St W) (hinv : Inv net s st)
    (u : Nat) (du : W) (hpop : popMinAux st net.n = some (u, du)) : Inv net s (settle net st u du) :=
  settle_inv net hnet s st hinv u du hpop

/-- T1 (`certificate_sound`): any labelling that satisfies the invariants and leaves nothing to pop (every labelled node
settled) is the distance function: every label is the minimum weight over permitted walks, and the unlabelled nodes
are exactly the unreachable ones. -/
theorem certificate_sound (net : Net W) (s : Nat) (st : St W) (hinv : Inv net s st) (hdone : step net st = none) :
    (∀ v y, st.d v = some y ↔ IsDist net s v y) ∧ (∀ v, st.d v = none ↔ ¬ Reachable net s v) := by
  obtain ⟨h1, h2⟩ := labels_are_distances net s st hinv hdone
  exact ⟨isDist_iff_label h1 h2, unlabelled_iff_unreachable net s st hinv hdone⟩

/-- T3: after `run_routing_forward(s)` (no target, no cut-off) the label of every node is the minimum total
weight over the permitted walks from `s`, and a node is unlabelled (`poids = -1`) exactly when no walk exists. -/
theorem forward_correct (net : Net W) (hnet : WFNet net) (s : Nat) (hs : s < net.n) :
    (∀ v y, (runForward net s none none).1.d v = some y ↔ IsDist net s v y) ∧
    (∀ v, (runForward net s none none).1.d v = none ↔ ¬ Reachable net s v) :=
  ⟨fun v => (runForward_dist net hnet s hs none v (fun _ e => nomatch e)).1,
    fun v => (runForward_dist net hnet s hs none v (fun _ e => nomatch e)).2⟩

/-- T4 (`target_stop`): `shortest_distance(s, t)` — the run that stops when `t` is popped — returns the
true distance, and the sentinel exactly when `t` is unreachable. -/
theorem shortest_distance_correct (net : Net W) (hnet : WFNet net) (s t : Nat) (hs : s < net.n) :
    (∀ y, shortestDistance net s t none = some y ↔ IsDist net s t y) ∧
    (shortestDistance net s t none = none ↔ ¬ Reachable net s t) :=
  shortestDistance_spec net hnet s t hs

/-- T4 with a cut-off: `shortest_distance(s, t, cut)` returns the true distance whenever that distance does not
exceed the cut-off, and the sentinel whenever `t` is unreachable. (When the distance exceeds the cut-off the
code may return a tentative label; the property does not speak about that case.) -/
theorem shortest_distance_cut (net : Net W) (hnet : WFNet net) (s t : Nat) (hs : s < net.n) (cut : Option W) :
    (∀ y, IsDist net s t y → Within cut y → shortestDistance net s t cut = some y) ∧
    (¬ Reachable net s t → shortestDistance net s t cut = none) :=
  shortestDistance_cut net hnet s t hs cut

/-- the list form `shortest_distance(s)`: one value per node in insertion order, the distance or `none`
(rendered `1e300`) for an unreachable node. -/
theorem shortest_distance_list_correct (net : Net W) (hnet : WFNet net) (order : List Nat) (s : Nat) (hs : s < net.n) :
    ∃ d : Nat → Option W, shortestDistanceList net order s none = order.map d ∧
      (∀ v y, d v = some y ↔ IsDist net s v y) ∧ (∀ v, d v = none ↔ ¬ Reachable net s v) :=
  ⟨_, rfl, (forward_correct net hnet s hs).1, (forward_correct net hnet s hs).2⟩

/-- T5, one source: the entries written to `output_dict` by `run_routing_forward(s, cut=cut)` are exactly the
nodes whose true distance from `s` does not exceed the cut-off, each with its true distance. -/
theorem cutoff_entries (net : Net W) (hnet : WFNet net) (s : Nat) (hs : s < net.n) (cut : Option W) (v : Nat) (y : W) :
    (v, y) ∈ (runForward net s none cut).2 ↔ (IsDist net s v y ∧ Within cut y) :=
  runForward_out net hnet s hs cut v y

/-- T5 (`cutoff_table`): the table returned by `all_shortest_distances(cut)` holds, for the key `(s, v)`, the
value `y` exactly when `s` is a node, `y` is the true distance from `s` to `v`, and `y` does not exceed the cut-off. -/
theorem cutoff_table (net : Net W) (hnet : WFNet net) (order : List Nat) (horder : ∀ s ∈ order, s < net.n)
    (cut : Option W) (s v : Nat) (y : W) :
    allShortestDistances net order cut Table.empty (s, v) = some y ↔ (s ∈ order ∧ IsDist net s v y ∧ Within cut y) := by
  rw [allShortestDistances_acc net hnet order horder]
  exact ⟨fun h => h.elim id (fun h' => nomatch h'.1), Or.inl⟩

/-- `prepare(cut)` followed by `prepared_shortest_distance(s, v)`; and a second `prepare(cut2)` on the same
`DISTANCES`: the stored value is the true distance exactly for the pairs within one of the two cut-offs. -/
theorem prepared_correct (net : Net W) (hnet : WFNet net) (order : List Nat) (horder : ∀ s ∈ order, s < net.n)
    (cut : Option W) (s v : Nat) (y : W) :
    preparedShortestDistance (prepare net order cut none) s v = some y ↔ (s ∈ order ∧ IsDist net s v y ∧ Within cut y) :=
  cutoff_table net hnet order horder cut s v y

theorem prepared_twice_correct (net : Net W) (hnet : WFNet net) (order : List Nat) (horder : ∀ s ∈ order, s < net.n)
    (cut1 cut2 : Option W) (s v : Nat) (y : W) :
    preparedShortestDistance (prepare net order cut2 (some (prepare net order cut1 none))) s v = some y ↔
      (s ∈ order ∧ IsDist net s v y ∧ (Within cut1 y ∨ Within cut2 y)) := by
  show allShortestDistances net order cut2 (allShortestDistances net order cut1 Table.empty) (s, v) = some y ↔ _
  rw [allShortestDistances_acc net hnet order horder, cutoff_table net hnet order horder]
  constructor
  · rintro (⟨a, b, c⟩ | ⟨⟨a, b, c⟩, _⟩)
    · exact ⟨a, b, Or.inr c⟩
    · exact ⟨a, b, Or.inl c⟩
  · rintro ⟨a, b, c⟩
    by_cases h2 : Within cut2 y
    · exact Or.inl ⟨a, b, h2⟩
    · refine Or.inr ⟨⟨a, b, c.resolve_right h2⟩, fun ⟨_, y', hy', hw'⟩ => h2 ?_⟩
      rwa [b.unique hy']

/-- T4 with a cut-off, the other direction: whatever `shortest_distance(s, t, cut)` returns is the weight of a permitted
walk (so never below the true distance), and it returns the sentinel only when no walk within the cut-off exists. -/
theorem shortest_distance_cut_sound (net : Net W) (hnet : WFNet net) (s t : Nat) (hs : s < net.n) (cut : Option W) :
    (∀ y, shortestDistance net s t cut = some y → Walk net s t y) ∧
    (shortestDistance net s t cut = none → ∀ y, IsDist net s t y → ¬ Within cut y) := by
  constructor
  · intro y h
    exact (runForward_ended net hnet s hs (some t) cut).inv.a.a3 t y h
  · intro h y hy hw
    rw [(shortest_distance_cut net hnet s t hs cut).1 y hy hw] at h
    cases h

/-- orientation semantics, model = statement: the edges `addEdge` lists in `NEXT_EDGES[u]`, read with the loop's
"other end" rule (`fils = e.target; if fils == pere: fils = e.source`), are exactly the permitted arcs out of `u`:
an edge of orientation `≥ 0` from its source to its target, an edge of orientation `≤ 0` from its target to its
source (two-way edges both ways, self-loops included). -/
theorem next_edges_exactly_permitted_arcs (net : Net W) (u v : Nat) (w : W) :
    (∃ e ∈ net.edges, e.w = w ∧ ((0 ≤ e.ori ∧ e.src = u ∧ e.tgt = v) ∨ (e.ori ≤ 0 ∧ e.tgt = u ∧ e.src = v))) ↔
      ∃ e ∈ nextEdges net u, other e u = v ∧ e.w = w :=
  arc_iff_next net u v w

/-- every entry `run_routing_forward` writes to `output_dict`, with any target and any cut-off (so also through
`shortest_distance(s, t, cut, output_dict)`), is the true distance of its key and does not exceed the cut-off; the
entries are exactly the nodes the search marked `visite`. -/
theorem output_dict_entries_sound (net : Net W) (hnet : WFNet net) (s : Nat) (hs : s < net.n) (tgt : Option Nat)
    (cut : Option W) :
    (∀ u y, (u, y) ∈ (runForward net s tgt cut).2 → IsDist net s u y ∧ Within cut y) ∧
    (∀ u, (runForward net s tgt cut).1.vis u = true ↔ ∃ y, (u, y) ∈ (runForward net s tgt cut).2) :=
  runForward_entries net hnet s hs tgt cut

/-- `all_shortest_distances(cut, output_dict)` / `prepare(cut)` on a dictionary that already holds entries (from
earlier calls with other cut-offs, `load_prep`, …): afterwards the key `(s, v)` holds `y` iff either `s` is a node and
`y` is the true distance `s → v` and within the cut-off (written or overwritten), or the key is not within the cut-off
and held `y` before. Generalises `prepared_twice_correct` to any number of calls. -/
theorem dictionary_accumulates (net : Net W) (hnet : WFNet net) (order : List Nat) (horder : ∀ s ∈ order, s < net.n)
    (cut : Option W) (tb : Table W) (s v : Nat) (y : W) :
    allShortestDistances net order cut tb (s, v) = some y ↔
      ((s ∈ order ∧ IsDist net s v y ∧ Within cut y) ∨
       (tb (s, v) = some y ∧ ¬ (s ∈ order ∧ ∃ y', IsDist net s v y' ∧ Within cut y'))) :=
  allShortestDistances_acc net hnet order horder cut tb s v y

/-- `sub_network(s, cut, "TOPOLOGIC")` returns exactly the edges whose two end nodes are within the cut-off of `s`
(it keeps the edges with both ends `visite` after `run_routing_forward(s, cut=cut)`). -/
theorem sub_network_edges (net : Net W) (hnet : WFNet net) (s : Nat) (hs : s < net.n) (cut : Option W) (e : Edge W) :
    e ∈ subEdges net (runForward net s none cut).1 ↔
      (e ∈ net.edges ∧ (∃ y, IsDist net s e.src y ∧ Within cut y) ∧ (∃ y, IsDist net s e.tgt y ∧ Within cut y)) := by
  unfold subEdges
  simp only [List.mem_filter, Bool.and_eq_true]
  rw [visited_iff net hnet s hs cut e.src, visited_iff net hnet s hs cut e.tgt]

/-! ### what `sub_network` guarantees for the distances on the network it returns (`Lemmas/GraphGeo.lean`)

`sub_network` fills a new `Network` with some of the parent's `Edge` objects (`sub_net.addEdge(e, e.source, e.target)`: same ends,
weight, orientation). TOPOLOGIC keeps the edges with both ends visited by `run_routing_forward(source, cut=cut)`; GEOMETRIC (on a
network without spatial index) keeps the edges with an end within the planimetric distance `cut` of the centre. -/

/-- **distances on an extract, any selection rule** (`keep`; `subNetOf net keep` is the returned network). There
`shortest_distance(s, t)` is the minimum weight over the permitted walks of the PARENT that stay inside the extract (`WalkIn`:
every arc carried by a kept edge) — the sentinel iff there is none. Hence it is never below the parent's distance, and it
equals the parent's distance exactly when some shortest walk of the parent stays inside the extract. -/
theorem sub_network_distances (net : Net W) (hnet : WFNet net) (keep : Edge W → Bool) (s t : Nat) (hs : s < net.n) :
    (∀ y, shortestDistance (subNetOf net keep) s t none = some y ↔
        (WalkIn net keep s t y ∧ ∀ c, WalkIn net keep s t c → y ≤ c)) ∧
    (shortestDistance (subNetOf net keep) s t none = none ↔ ¬ ∃ c, WalkIn net keep s t c) ∧
    (∀ y y', shortestDistance (subNetOf net keep) s t none = some y → IsDist net s t y' → y' ≤ y) ∧
    (∀ y, IsDist net s t y → (shortestDistance (subNetOf net keep) s t none = some y ↔ WalkIn net keep s t y)) :=
  subNet_distance net hnet keep s t hs

/-- … the TOPOLOGIC extract is such a network: `sub_network_distances` applies to it with `keep` = both ends visited. -/
theorem sub_network_topologic_is_extract (net : Net W) (st : St W) :
    ({ n := net.n, edges := subEdges net st } : Net W) = subNetOf net (fun e => st.vis e.src && st.vis e.tgt) := rfl

/-- **TOPOLOGIC keeps the distances from its source.** On the network `sub_network(s, cut, "TOPOLOGIC")` returns,
`shortest_distance(s, t)` is the parent's distance for every node `t` within the cut-off of `s`: weights are non-negative, so every
vertex of a shortest walk `s → t` is itself within the cut-off, and every edge of the walk is kept. (Between two other nodes of
the extract the distance may be larger than in the parent: `sub_network_distances`.) -/
theorem sub_network_topologic_source_distances (net : Net W) (hnet : WFNet net) (s : Nat) (hs : s < net.n) (cut : Option W)
    (t : Nat) (y : W) (hy : IsDist net s t y) (hw : Within cut y) :
    shortestDistance ({ n := net.n, edges := subEdges net (runForward net s none cut).1 } : Net W) s t none = some y := by
  have hk : ∀ e ∈ net.edges, (∃ y, IsDist net s e.src y ∧ Within cut y) → (∃ y, IsDist net s e.tgt y ∧ Within cut y) →
      ((runForward net s none cut).1.vis e.src && (runForward net s none cut).1.vis e.tgt) = true := by
    intro e _ h1 h2
    rw [Bool.and_eq_true]
    exact ⟨(visited_iff net hnet s hs cut e.src).2 h1, (visited_iff net hnet s hs cut e.tgt).2 h2⟩
  exact ((subNet_distance net hnet (fun e => (runForward net s none cut).1.vis e.src && (runForward net s none cut).1.vis e.tgt)
    s t hs).2.2.2 y hy).2 (walkV_walkIn_both hk (walk_within net hnet s hs cut hy.1 hw))

section geometric
variable [Sub W] [Mul W]

/-- **`sub_network(centre, cut, "GEOMETRIC")`, which edges**: exactly the edges of the network one of whose two ends lies within the
planimetric (`distance2DTo`: East / North only) distance `cut` of the centre; in the order of `EDGES`. `sqrt` is any function. -/
theorem sub_network_geometric_edges (sqrt : W → W) (pos : Nat → Pos W) (net : Net W) (p : Pos W) (cut : Option W) (e : Edge W) :
    e ∈ subEdgesGeo sqrt pos net p cut ↔
      (e ∈ net.edges ∧ (Within cut (distance2DTo sqrt p (pos e.src)) ∨ Within cut (distance2DTo sqrt p (pos e.tgt)))) := by
  rw [subEdgesGeo_eq]
  simp only [subNetOf, List.mem_filter, keepGeo_iff]

/-- **`sub_network(centre, cut, "GEOMETRIC")`, which distances**: on the returned network `shortest_distance(s, t)` is the minimum
weight over the permitted walks of the parent that use only edges with an end within `cut` of the centre (sentinel iff none);
it is never below the parent's distance; it equals the parent's distance iff a shortest walk of the parent uses only such
edges — in particular when a shortest walk of the parent has all its vertices within `cut` of the centre (`WalkV`). -/
theorem sub_network_geometric_distances (sqrt : W → W) (pos : Nat → Pos W) (net : Net W) (hnet : WFNet net) (p : Pos W)
    (cut : Option W) (s t : Nat) (hs : s < net.n) :
    let sub : Net W := { n := net.n, edges := subEdgesGeo sqrt pos net p cut }
    let keep := keepGeo sqrt pos p cut
    (∀ y, shortestDistance sub s t none = some y ↔ (WalkIn net keep s t y ∧ ∀ c, WalkIn net keep s t c → y ≤ c)) ∧
    (shortestDistance sub s t none = none ↔ ¬ ∃ c, WalkIn net keep s t c) ∧
    (∀ y y', shortestDistance sub s t none = some y → IsDist net s t y' → y' ≤ y) ∧
    (∀ y, IsDist net s t y → (shortestDistance sub s t none = some y ↔ WalkIn net keep s t y)) ∧
    (∀ y, IsDist net s t y → WalkV net (fun u => Within cut (distance2DTo sqrt p (pos u))) s t y →
      shortestDistance sub s t none = some y) := by
  intro sub keep
  obtain ⟨a, b, c, d⟩ := subNet_distance net hnet keep s t hs
  refine ⟨a, b, c, d, fun y hy hv => (d y hy).2 (walkV_walkIn_both (fun e _ he _ => (keepGeo_iff sqrt pos p cut e).2 (Or.inl he)) hv)⟩
end geometric

/-! ### one `Network` object used for a sequence of calls (`Model/GraphSession.lean`) -/

/-- the reset of the routing flags: whatever `poids` / `visite` / `antecedent` the earlier searches on this network left
on the nodes of `NODES` (no flag outside `NODES`: `CleanOutside`, part of the session invariant), `__resetFlags` followed by
`source.poids = 0` yields the initial labelling of a fresh search. When another network holds the same `Node` objects
(as `sub_network` produces) there *are* flags outside `NODES`: that case is `shared_nodes_search_pure` below. -/
theorem search_starts_clean (order : List Nat) (st : St W) (s : Nat) (h : CleanOutside order st) :
    startFlags order st s = St.init s :=
  start_clean order st s h

/-- invariant over operation sequences: after any sequence of calls (`addNode`, `addEdge`, searches of every form,
`all_shortest_distances`, `prepare`, `sub_network`, in any interleaving) on a new `Network`, the object satisfies the
session invariant (non-negative weights, edges between nodes of `NODES`, no flags outside `NODES`). -/
theorem session_invariant (n : Nat) (ops : List (Op W)) : SessOK (stateAfter (Sess.new n : Sess W) ops) :=
  stateAfter_ok _ (new_ok n) ops

/-- … hence every search of a session starts from the clean labelling and answers as a search on a fresh object:
each call returns the pure function of `Model/Graph.lean` applied to the graph *as it is at that moment*, so the
theorems above apply to it. -/
theorem session_answers_pure (n : Nat) (ops : List (Op W)) (s t : Nat) (cut : Option W) (ud : Bool) :
    let σ := stateAfter (Sess.new n : Sess W) ops
    s ∈ σ.order → t ∈ σ.order →
      (exec σ (.dist s t cut ud)).2 = .val (shortestDistance σ.net s t cut) ∧
      (exec σ (.distList s cut ud)).2 = .vals (shortestDistanceList σ.net σ.order s cut) ∧
      (exec σ (.route s (some t) cut ud)).2 =
        .flags (σ.order.map (runForward σ.net s (some t) cut).1.d) (σ.order.map (runForward σ.net s (some t) cut).1.vis) ∧
      (exec σ (.all cut false)).2 = .table (allShortestDistances σ.net σ.order cut Table.empty) ∧
      (exec σ (.prepare cut)).1.prep = some (prepare σ.net σ.order cut σ.prep) := by
  intro σ hs ht
  have h := session_invariant n ops
  exact ⟨(exec_dist_eq σ h s t hs ht cut ud).1, (exec_distList_eq σ h s hs cut ud).1,
    (exec_route_eq σ h s hs (some t) (fun _ e => by cases e; exact ht) cut ud).1,
    (exec_all_eq σ h cut false).1, (exec_prepare_eq σ h cut).1⟩

/-- the property for sessions: in any state reached by any sequence of calls, `shortest_distance(s, t)` is the
minimum weight over the permitted walks of the current graph, the sentinel iff there is none; with a cut-off it is
the true distance whenever that is within the cut-off. -/
theorem session_distance_correct (n : Nat) (ops : List (Op W)) (s t : Nat) (cut : Option W) (ud : Bool) :
    let σ := stateAfter (Sess.new n : Sess W) ops
    s ∈ σ.order → t ∈ σ.order →
      ∃ d, (exec σ (.dist s t cut ud)).2 = .val d ∧
        (∀ y, IsDist σ.net s t y → Within cut y → d = some y) ∧ (¬ Reachable σ.net s t → d = none) ∧
        (cut = none → ∀ y, d = some y ↔ IsDist σ.net s t y) ∧ (cut = none → (d = none ↔ ¬ Reachable σ.net s t)) := by
  intro σ hs ht
  have h := session_invariant n ops
  exact ⟨_, (exec_dist_eq σ h s t hs ht cut ud).1, shortestDistance_props σ.net h.wf s t (h.nodes s hs) cut⟩

/-- the dictionaries of a session (`DISTANCES` and a caller's `output_dict`) hold only true distances of the current
graph, through any call that does not add an edge (adding an edge changes the distances; entries written before it
are the caller's business). -/
theorem session_tables_sound (σ : Sess W) (h : SessOK σ) (op : Op W) (hnet : (exec σ op).1.net = σ.net)
    (hu : TableSound σ.net σ.udict) (hp : ∀ tb, σ.prep = some tb → TableSound σ.net tb) :
    TableSound σ.net (exec σ op).1.udict ∧ ∀ tb, (exec σ op).1.prep = some tb → TableSound σ.net tb := by
  rw [exec_eq_execG] at hnet ⊢
  rcases execG_cases routeOn σ op with e | ⟨v, _, e⟩ | ⟨e', _, e⟩ | ⟨s, t, cut, ud, hs, e⟩ | ⟨cut, ud, e⟩ | ⟨cut, e⟩
  · rw [e]; exact ⟨hu, hp⟩
  · rw [e]; exact ⟨hu, hp⟩
  · rw [e] at hnet
    have := congrArg (fun n => n.edges.length) hnet
    simp at this
  · rw [e]
    refine ⟨?_, hp⟩
    cases ud
    · exact hu
    · show TableSound σ.net (record σ.udict s (routeOn σ.net σ.order σ.flags s t cut).2)
      rw [(routeOn_eq σ.net σ.order h.ends σ.flags h.clean s hs t cut).1]
      exact record_sound σ.net h.wf s (h.nodes s hs) t cut σ.udict hu
  · rw [e]
    refine ⟨?_, hp⟩
    cases ud
    · exact hu
    · show TableSound σ.net (allOn σ.net σ.order cut (σ.flags, σ.udict)).2
      rw [(allOn_eq σ.net σ.order h.ends cut σ.flags σ.udict h.clean).1]
      exact allShortestDistances_sound σ.net h.wf σ.order h.nodes cut σ.udict hu
  · rw [e]
    refine ⟨hu, fun tb htb => ?_⟩
    rw [← Option.some.inj htb]
    show TableSound σ.net (allOn σ.net σ.order cut (σ.flags, σ.prep.getD Table.empty)).2
    rw [(allOn_eq σ.net σ.order h.ends cut σ.flags _ h.clean).1]
    apply allShortestDistances_sound σ.net h.wf σ.order h.nodes cut
    cases hpr : σ.prep with
    | none => exact tableSound_empty _
    | some tb0 => exact hp tb0 hpr

/-! ### `save_prep` / `load_prep` with the files they write and read (`Model/GraphPrepFile.lean`) -/

/-- the two methods agree on the path, for every file name: numpy's `save` appends `.npy` unless the name ends with it; `load_prep`
appends it when the name is shorter than four characters, and then when its last four characters are not `.npy`. -/
theorem load_prep_reads_what_save_prep_wrote (f : List Char) : loadName f = saveName f :=
  loadName_eq_saveName f

/-- **round trip**: `save_prep(f)` while `DISTANCES = tb`; then any calls on the object — searches, `prepare` with other cut-offs
(which widen `DISTANCES`), new nodes and edges, `load_prep` of other files, `save_prep` to other paths; then `load_prep(f')` with a
name that designates the same path (`f' = f`, or one of them without the `.npy`): the call succeeds and `DISTANCES` is `tb` again,
so `prepared_shortest_distance(s, t)` / `has_prepared_shortest_distance(s, t)` answer for EVERY pair what they answered when
`save_prep` was called. (`tb` holds the distances of the graph as it was then: `session_tables_sound`.) -/
theorem save_load_roundtrip (x : SessF W) (f f' : List Char) (tb : Table W) (h : x.sess.prep = some tb) (ops : List (FOp W))
    (hk : ∀ op ∈ ops, keepsFile (saveName f) op) (hf : saveName f' = saveName f) (s t : Nat) :
    let y := (execF (afterF (execF x (.save f)).1 ops) (.load f')).1
    (execF (afterF (execF x (.save f)).1 ops) (.load f')).2 = .unit ∧
    y.sess.prep = some tb ∧
    (execF y (.call (.prepared s t))).2 = (execF x (.call (.prepared s t))).2 ∧
    (execF y (.call (.hasPrepared s t))).2 = (execF x (.call (.hasPrepared s t))).2 := by
  intro y
  have e := load_restores x f f' tb h ops hk hf
  have hy : y.sess.prep = some tb := by show (execF _ (.load f')).1.sess.prep = some tb; rw [e]
  refine ⟨by rw [e], hy, ?_, ?_⟩ <;> simp only [execF, exec, hy, h]

/-- `save_prep(f)` immediately followed by `load_prep(f)` leaves the object as it was: the one-step model `Op.saveLoad` (used by the
world and family streams) is the composition of the two calls. -/
theorem save_then_load_is_identity (x : SessF W) (f : List Char) (tb : Table W) (h : x.sess.prep = some tb) :
    (execF (execF x (.save f)).1 (.load f)).1.sess = x.sess ∧
    (execF (execF x (.save f)).1 (.load f)).2 = .unit ∧ (execF x (.save f)).2 = .unit ∧
    (exec x.sess .saveLoad) = (x.sess, .unit) := by
  have e := load_restores x f f tb h [] (by intro op ho; cases ho) rfl
  simp only [afterF] at e
  refine ⟨?_, ?_, ?_, ?_⟩
  · rw [e, execF_save x f tb h]
    obtain ⟨σ, fs⟩ := x
    obtain ⟨a, b, c, d, u⟩ := σ
    simp only at h
    subst h
    rfl
  · rw [e]
  · rw [execF_save x f tb h]
  · simp only [exec, h]

/-! ### networks that share their `Node` objects (`Model/GraphShared.lean`)

`sub_network` builds its result from the parent's own `Node` objects, and nothing stops a caller from adding nodes of one
network to another: the routing flags (`poids`, `visite`, `antecedent`) of such networks live in ONE store, and
`__resetFlags` of a network cleans only the nodes in its own `NODES`. The model of that situation is the code as it runs:
`routeOnPD` = reset of the own nodes + the loop with the explicit `priority_dict` on a store in any state. -/

/-- **a search on `Node` objects carrying ANY flags** — left by an earlier search of this network or of another network
that holds the same objects (nodes of this network labelled / marked visited by a foreign search, foreign nodes
labelled): the `output_dict` entries, and the flags it leaves on the nodes of its own `NODES`, are exactly those of the
pure search `runForward` on its own graph; the flags of every other node are left untouched. (`order` = `NODES`; every edge
of the network joins nodes of `NODES`, as `addEdge` guarantees.) This strengthens `search_starts_clean`, which needs the
flags outside `NODES` to be clean. The seeded change "reset only the nodes labelled by the previous search of the same
network" breaks exactly this. -/
theorem shared_nodes_search_pure (net : Net W) (hnet : WFNet net) (order : List Nat) (hnodes : ∀ v ∈ order, v < net.n)
    (hends : ∀ e ∈ net.edges, e.src ∈ order ∧ e.tgt ∈ order) (st : St W) (s : Nat) (hs : s ∈ order)
    (tgt : Option Nat) (cut : Option W) :
    (routeOnPD net order st s tgt cut).2 = (runForward net s tgt cut).2 ∧
    (∀ v ∈ order, (routeOnPD net order st s tgt cut).1.d v = (runForward net s tgt cut).1.d v ∧
                  (routeOnPD net order st s tgt cut).1.vis v = (runForward net s tgt cut).1.vis v ∧
                  (routeOnPD net order st s tgt cut).1.pred v = (runForward net s tgt cut).1.pred v) ∧
    (∀ v, v ∉ order → (routeOnPD net order st s tgt cut).1.d v = st.d v ∧
                      (routeOnPD net order st s tgt cut).1.vis v = st.vis v ∧
                      (routeOnPD net order st s tgt cut).1.pred v = st.pred v) :=
  routeOnPD_obs net hnet order hnodes hends st s hs tgt cut

/-- one call (any of `addNode` … `sub_network`) on a network whose `Node` objects carry any flags answers exactly as the
same network with `Node` objects of its own (the one-object session model `exec`), and leaves the same object up to the
flags. -/
theorem shared_nodes_call_as_private (σ σ' : Sess W) (hc : SameCore σ σ') (h : SessOK σ') (op : Op W) :
    (execSh σ op).2 = (exec σ' op).2 ∧ SameCore (execSh σ op).1 (exec σ' op).1 :=
  execSh_eq_exec σ σ' hc h op

/-- **sharing is unobservable.** Any program over a family of networks built on one pool of `Node` objects — `Network()`,
`addNode` / `addEdge` with nodes of the pool, searches of every form, `all_shortest_distances`, `prepare`, `sub_network` whose
result is kept and used like any other network (extracts of extracts included), `edge.weight = w` on an `Edge` object (which a
network and its extracts share, and which every later search reads), in any interleaving — returns, call by
call, what the same program returns when every network has `Node` objects of its own. -/
theorem family_answers_as_private (n : Nat) (ops : List (FamOp W)) :
    runFam (Fam.new n : Fam W) ops = runFamU n [] ops :=
  (runFam_eq (Fam.new n) [] (famRel_new n) ops).1

/-- **the property in a family.** In any state reached by any such program, on every network `k` of the family,
`shortest_distance(s, t[, cut])` is the minimum weight over the permitted walks of *that network's* current graph — the
sentinel iff there is none; with a cut-off the true distance whenever it is within it — whatever the other networks
holding the same `Node` objects have searched in between. -/
theorem family_distance_correct (n : Nat) (ops : List (FamOp W)) (k : Nat) (σ : Sess W)
    (hk : (famAfter (Fam.new n : Fam W) ops).nets[k]? = some σ) (s t : Nat) (hs : s ∈ σ.order) (ht : t ∈ σ.order)
    (cut : Option W) (ud : Bool) :
    ∃ d, (execFam (famAfter (Fam.new n : Fam W) ops) (.on k (.dist s t cut ud))).2 = .val d ∧
      (∀ y, IsDist σ.net s t y → Within cut y → d = some y) ∧ (¬ Reachable σ.net s t → d = none) ∧
      (cut = none → ∀ y, d = some y ↔ IsDist σ.net s t y) ∧ (cut = none → (d = none ↔ ¬ Reachable σ.net s t)) := by
  obtain ⟨σ', _, rfl, hok⟩ := (runFam_eq (Fam.new n : Fam W) [] (famRel_new n) ops).2.get hk
  obtain ⟨a, _⟩ := execSh_eq_exec { σ'.core with flags := (famAfter (Fam.new n : Fam W) ops).flags } σ' (sameCore_core σ' _) hok
    (.dist s t cut ud)
  refine ⟨_, ?_, shortestDistance_props σ'.net hok.wf s t (hok.nodes s hs) cut⟩
  simp only [execFam, hk]
  rw [a]
  exact (exec_dist_eq σ' hok s t hs ht cut ud).1

/-! ### the queue: `heapq` (`Model/Heapq.lean`) and `priority_dict` with lazy deletion (`Model/PDict.lean`) -/

/-- Python's order on `(priority, key)` tuples is a strict weak order — all `heapq` needs. -/
theorem tuple_order_ok : Heapq.Ord (PDict.tlt (W := W)) := PDict.tlt_ord

/-- `heapq.heappush` (append + `_siftdown`) keeps the heap invariant `heap[(j-1)//2] <= heap[j]` and adds exactly the
pushed item (the new list is a permutation of `item :: heap`). Any strict weak order. -/
theorem heapq_heappush {α : Type} {lt : α → α → Bool} (o : Heapq.Ord lt) (heap : List α) (item : α)
    (hh : Heapq.IsHeap lt heap) :
    Heapq.IsHeap lt (Heapq.heappush lt heap item) ∧ (Heapq.heappush lt heap item).Perm (item :: heap) :=
  Heapq.heappush_spec o heap item hh

/-- `heapq.heappop` (pop the last item, put it at the root, `_siftup`: bubble the smaller child up to a leaf, then
`_siftdown`) fails exactly on the empty list; on a heap it returns the root, which is a minimum of the multiset
(`not x < m` for every item `x`), leaves exactly the other items, and keeps the heap invariant. -/
theorem heapq_heappop_min {α : Type} {lt : α → α → Bool} (o : Heapq.Ord lt) (heap : List α)
    (hh : Heapq.IsHeap lt heap) :
    (Heapq.heappop lt heap = none ↔ heap = []) ∧
    ∀ m rest, Heapq.heappop lt heap = some (m, rest) →
      heap.Perm (m :: rest) ∧ Heapq.IsHeap lt rest ∧ (∀ x ∈ heap, lt x m = false) ∧ heap[0]? = some m :=
  ⟨Heapq.heappop_none lt heap, fun m rest h => Heapq.heappop_spec o heap hh m rest h⟩

/-- `heapq.heapify` (`_siftup(x, i)` for `i = n//2-1 … 0`) turns any list into a heap with the same items. -/
theorem heapq_heapify {α : Type} {lt : α → α → Bool} (o : Heapq.Ord lt) (x : List α) :
    Heapq.IsHeap lt (Heapq.heapify lt x) ∧ (Heapq.heapify lt x).Perm x :=
  Heapq.heapify_spec o x

/-- `priority_dict.pop_smallest`: when every current entry of the dict has its `(priority, key)` tuple in `_heap` and
`_heap` is a binary heap in tuple order (`HInv`; established by the constructor through `heapify`, kept by
`__setitem__` — `priority_dict_setitem` — and by `pop_smallest`), a pop on a non-empty dict returns the key whose
`(priority, key)` tuple is the smallest among the *current* entries, however many stale tuples the heap still holds,
removes exactly that key, and keeps `HInv`. `heappop` here is the modelled `heapq.heappop` (sift operations on the
list), whose minimum property is `heapq_heappop_min`. -/
theorem pop_smallest_min (pd : PDict.PD W) (hinv : PDict.HInv pd) (k0 : Nat) (v0 : W)
    (h0 : PDict.lookup pd.dict k0 = some v0) :
    ∃ k v pd', PDict.popSmallest pd = some (k, pd') ∧ PDict.lookup pd.dict k = some v ∧
      (∀ k' v', PDict.lookup pd.dict k' = some v' → PDict.tle (v, k) (v', k')) ∧
      (∀ k', PDict.lookup pd'.dict k' = if k' = k then none else PDict.lookup pd.dict k') ∧ PDict.HInv pd' :=
  PDict.popSmallest_spec pd hinv k0 v0 h0

/-- `pd[k] = v` (`heappush`, or `_rebuild_heap` = list + `heapify` once the heap has reached twice the size of the dict)
sets that entry only and keeps the invariant (entries present, `_heap` a binary heap); `priority_dict(d)` establishes it. -/
theorem priority_dict_setitem (pd : PDict.PD W) (hinv : PDict.HInv pd) (k : Nat) (v : W) :
    (∀ k', PDict.lookup (PDict.setitem pd k v).dict k' = if k' = k then some v else PDict.lookup pd.dict k') ∧
      PDict.HInv (PDict.setitem pd k v) ∧ ∀ d : List (Nat × W), PDict.HInv (PDict.ofDict d) :=
  ⟨(PDict.setitem_spec pd hinv k v).1, (PDict.setitem_spec pd hinv k v).2, PDict.ofDict_inv⟩

/-- `run_routing_forward` written with the explicit `priority_dict` (`fil = priority_dict({source: 0})`,
`pere = fil.pop_smallest()`, `fil[fils] = fils.poids`, `while len(fil) != 0`) computes exactly what the loop with the
abstract "pop the labelled unsettled node with the smallest (label, id)" computes — so all theorems above hold for it. -/
theorem forward_uses_priority_dict (net : Net W) (hnet : WFNet net) (s : Nat) (hs : s < net.n)
    (tgt : Option Nat) (cut : Option W) : runForwardPD net s tgt cut = runForward net s tgt cut :=
  runForwardPD_eq net hnet s hs tgt cut

/-! ### the routing-method API: `setRoutingMethod` / `setAStarWeight`, the A* branch of `run_routing_forward`, several
`Network` objects with their own settings (`Model/GraphAStar.lean`)

For which configurations does the property's statement hold?
* **Dijkstra** (an object's own `routing_mode ≠ 1`): always — `world_dijkstra_distance_correct` is the statement for any
  program over several objects; `own_setting_dijkstra_is_session` reduces every call to the session model; `routing_settings_per_object` says that only the object's *own*
  setters count, whatever other `Network` objects of the program were told.
* **A\*, no target** (list form, `all_shortest_distances`, `prepare`, `sub_network`): always, the heuristic is never
  computed (the local `heuristic` keeps its initial 0) — `no_target_no_heuristic`.
* **A\* with a target, heuristic 0** (`astar_wgt = 0`, or all nodes at the target's place): always, the run IS the Dijkstra
  run — `astar_zero_heuristic_is_dijkstra`.
* **A\* with a target, consistent heuristic** (`h u ≤ w + h v` along every permitted arc; for the code's
  `h v = astar_wgt × |v − target|` that is `0 ≤ astar_wgt` and every edge weighing at least `astar_wgt` × the straight-line
  distance between its ends — `astar_heuristic_consistent`; the configuration for which `setRoutingMethod`'s docstring promises
  the exact solution): the statement holds in full — `astar_exact` (no cut-off: the minimum, sentinel iff unreachable),
  `astar_cut` / `astar_cut_sound` (with a cut-off), `astar_output_dict_entries_sound` (every entry written to `output_dict`
  and every `visite` label is a true distance within the cut-off), `world_astar_distance_correct` (the same for
  `shortest_distance(s, t[, cut])` on an object of any program over several objects, at any moment).
* **A\* with a target, heuristic not consistent**: the statement does not apply (the docstring calls the result an
  approximation). What holds for ANY heuristic is `astar_any_heuristic_bounds`: a reported value is the weight of a permitted
  walk (never below the minimum), and without a cut-off the sentinel is reported iff no walk exists.
* **before fix c78e3ab** the code kept `g + h` in `poids` and relaxed from it, so the heuristic terms accumulated:
  `astar_old_inflates` is the 3-node road on which that variant (`…HOld`, kept as the documented pre-fix loop) reported 30
  for a distance of 20, which the model of the present code reports as 20. -/

section routing
variable {V : Type} [LT V] [DecidableLT V] [Add V] [Sub V] [Mul V] [OfNat V 0] [OfNat V 1]

/-- **instance-level settings.** In any program over any number of `Network` objects — creations, `setRoutingMethod`,
`setAStarWeight` and calls of every kind interleaved in any order — the object created `k`-th ends in the state, and has
returned the answers, that the calls addressed to *it* produce when run on it alone. What other objects are told
(in particular that they should route with A*) never changes what this one answers. -/
theorem routing_settings_per_object (sqrt : V → V) (w : World V) (ops : List (WorldOp V)) (k : Nat) (o : NetObj V)
    (hk : w[k]? = some o) :
    (worldAfter sqrt w ops)[k]? = some (objAfter sqrt o (opsOn k ops)) ∧
    answersOn k ops (runWorld sqrt w ops) = runObj sqrt o (opsOn k ops) :=
  world_projection sqrt w ops k o hk

/-- an object whose own `routing_mode` is not 1 — never configured (`Network()` sets `ROUTING_ALGO_DIJKSTRA`), or set back
to Dijkstra — answers every call as the one-object session model does (so `session_distance_correct` … apply),
whatever its `astar_wgt`. The setters change the two attributes of their own object and nothing else. -/
theorem own_setting_dijkstra_is_session (sqrt : V → V) (o : NetObj V) (hm : o.mode ≠ 1) (op : Op V) (m : Nat) (x : V) :
    execObj sqrt o (.call op) = ({ o with sess := (exec o.sess op).1 }, (exec o.sess op).2) ∧
    (NetObj.new 0 o.pos : NetObj V).mode = 0 ∧
    execObj sqrt o (.setMethod m) = ({ o with mode := m }, .unit) ∧
    execObj sqrt o (.setWeight x) = ({ o with wgt := x }, .unit) :=
  ⟨execObj_dijkstra sqrt o hm op, rfl, rfl, rfl⟩

/-- in A* mode too, every call other than a search *with a target* (`shortest_distance(s)` list form,
`run_routing_forward(s)`, `all_shortest_distances`, `prepare`, `sub_network`, …) is the Dijkstra call: the code computes
the heuristic only `if (self.routing_mode == 1) and not (target is None)`. -/
theorem no_target_no_heuristic (sqrt : V → V) (o : NetObj V) (op : Op V)
    (h1 : ∀ s t cut ud, op ≠ .route s (some t) cut ud) (h2 : ∀ s t cut ud, op ≠ .dist s t cut ud) :
    execObj sqrt o (.call op) = ({ o with sess := (exec o.sess op).1 }, (exec o.sess op).2) :=
  execObj_no_target sqrt o op h1 h2
/-- `sub_network(source, cut, "GEOMETRIC")` as a call on an object of a program (any state, any routing mode): with the centre given
as coordinates it returns the edges of `sub_network_geometric_edges` and leaves the object exactly as it was — no search is run, no
flag, table or setting is touched (unlike TOPOLOGIC, which runs `run_routing_forward`); with the centre given as a `Node` object or
an id the code raises (`self.__correctInputNode(source).coord` asks the node's *id* for `.coord`; an `int` id has no
`distance2DTo`) and the object is left as it was. -/
theorem sub_network_geometric_call (sqrt : V → V) (o : NetObj V) (p : Pos V) (v : Nat) (cut : Option V) :
    execObj sqrt o (.subGeo (.coord p) cut) = (o, subnetOut (subEdgesGeo sqrt o.pos o.sess.net p cut)) ∧
    execObj sqrt o (.subGeo (.node v) cut) = (o, .err) := ⟨rfl, rfl⟩
end routing

/-- **the property in a program with several networks.** Start with no `Network` object and run any program: creations,
`addNode` / `addEdge`, searches of every kind, `prepare`, `sub_network`, and `setRoutingMethod` / `setAStarWeight` on any of
the objects, in any interleaving (the object itself may have been in A* mode earlier). Then on every object whose own
routing method is Dijkstra at that moment, `shortest_distance(s, t[, cut])` is the minimum weight over the permitted walks
of that object's current graph — the sentinel iff there is none; with a cut-off the true distance whenever it is within
it. (The seeded change that keeps the settings at class level breaks exactly this.) -/
theorem world_dijkstra_distance_correct [Sub W] [Mul W] [OfNat W 1] (sqrt : W → W) (ops : List (WorldOp W)) (k : Nat)
    (o : NetObj W) (hk : (worldAfter sqrt [] ops)[k]? = some o) (hm : o.mode ≠ 1) (s t : Nat)
    (hs : s ∈ o.sess.order) (ht : t ∈ o.sess.order) (cut : Option W) (ud : Bool) :
    ∃ d, (execWorld sqrt (worldAfter sqrt [] ops) (.on k (.call (.dist s t cut ud)))).2 = .val d ∧
      (∀ y, IsDist o.sess.net s t y → Within cut y → d = some y) ∧ (¬ Reachable o.sess.net s t → d = none) ∧
      (cut = none → ∀ y, d = some y ↔ IsDist o.sess.net s t y) ∧
      (cut = none → (d = none ↔ ¬ Reachable o.sess.net s t)) := by
  have h : SessOK o.sess := world_ok sqrt ops k o hk
  refine ⟨_, ?_, shortestDistance_props o.sess.net h.wf s t (h.nodes s hs) cut⟩
  rw [execWorld_on sqrt _ hk, execObj_dijkstra sqrt o hm]
  exact (exec_dist_eq o.sess h s t hs ht cut ud).1

/-- **GEOMETRIC extraction in a program.** In any state reached by any program over several `Network` objects, on any object `o`
(whatever its routing method), `sub_network(ENUCoords, cut, "GEOMETRIC")` returns the edges of `sub_network_geometric_edges` and leaves
the object as it was; on the returned network, from any node `s` of `o`, `shortest_distance(s, t)` is the weight of a permitted walk of
`o`'s graph using only kept edges (sentinel iff there is none) and is never below the distance `o` itself reports. -/
theorem world_sub_network_geometric [Sub W] [Mul W] [OfNat W 1] (sqrt : W → W) (ops : List (WorldOp W)) (k : Nat)
    (o : NetObj W) (hk : (worldAfter sqrt [] ops)[k]? = some o) (p : Pos W) (cut : Option W) (s t : Nat)
    (hs : s ∈ o.sess.order) :
    let r := execWorld sqrt (worldAfter sqrt [] ops) (.on k (.subGeo (.coord p) cut))
    let sub : Net W := { n := o.sess.net.n, edges := subEdgesGeo sqrt o.pos o.sess.net p cut }
    r.2 = subnetOut sub.edges ∧ r.1[k]? = some o ∧
    (∀ y y', shortestDistance sub s t none = some y → IsDist o.sess.net s t y' → y' ≤ y) ∧
    (∀ y, shortestDistance sub s t none = some y → WalkIn o.sess.net (keepGeo sqrt o.pos p cut) s t y) ∧
    (shortestDistance sub s t none = none ↔ ¬ ∃ c, WalkIn o.sess.net (keepGeo sqrt o.pos p cut) s t c) := by
  intro r sub
  have h : SessOK o.sess := world_ok sqrt ops k o hk
  have hlen : k < (worldAfter sqrt [] ops).length := (List.getElem?_eq_some_iff.mp hk).1
  obtain ⟨a, b, c, _, _⟩ := sub_network_geometric_distances sqrt o.pos o.sess.net h.wf p cut s t (h.nodes s hs)
  refine ⟨?_, ?_, c, fun y hy => ((a y).1 hy).1, b⟩
  · simp only [r, execWorld_on sqrt _ hk]; rfl
  · simp only [r, execWorld_on sqrt _ hk]; exact List.getElem?_set_self hlen

/-- A* with a heuristic that is 0 on every node — `astar_wgt = 0` (`heuristicOf_zero_weight`), or every node at the
target's position — is Dijkstra: same pops, same labels, same recorded entries, hence the true distance (needs `a + 0 = a`,
which the other theorems do not use). -/
theorem astar_zero_heuristic_is_dijkstra (hadd : ∀ a : W, a + 0 = a) (net : Net W) (hnet : WFNet net) (h : Nat → W)
    (hz : ∀ v, h v = 0) (s t : Nat) (hs : s < net.n) (cut : Option W) :
    runForwardH net h s (some t) cut = runForward net s (some t) cut ∧
    shortestDistanceH net h s t cut = shortestDistance net s t cut ∧
    (∀ y, shortestDistanceH net h s t none = some y ↔ IsDist net s t y) ∧
    (shortestDistanceH net h s t none = none ↔ ¬ Reachable net s t) := by
  have e1 : ∀ cut, runForwardH net h s (some t) cut = runForward net s (some t) cut :=
    fun cut => forwardH_zero hadd net h hz (some t) cut net.n (St.init s) []
  have e2 : ∀ cut, shortestDistanceH net h s t cut = shortestDistance net s t cut := by
    intro cut; unfold shortestDistanceH shortestDistance; rw [e1]
  refine ⟨e1 cut, e2 cut, ?_, ?_⟩
  · intro y; rw [e2]; exact (shortest_distance_correct net hnet s t hs).1 y
  · rw [e2]; exact (shortest_distance_correct net hnet s t hs).2

/-- the A* branch with ANY heuristic (not consistent, of any sign), any cut-off: whatever `shortest_distance(s, t)` reports
is the weight of a permitted walk `s → t` — never below the true minimum; and without a cut-off it reports the sentinel
exactly when no permitted walk exists. This is all the harness' oracle asks of A* when the heuristic is not consistent. -/
theorem astar_any_heuristic_bounds (net : Net W) (hnet : WFNet net) (h : Nat → W) (s t : Nat) (hs : s < net.n) :
    (∀ cut y, shortestDistanceH net h s t cut = some y → Walk net s t y) ∧
    (shortestDistanceH net h s t none = none ↔ ¬ Reachable net s t) :=
  shortestDistanceH_any net hnet h s t hs

section consistent
variable {V : Type} [AddCommMonoid V] [LinearOrder V] [IsOrderedCancelAddMonoid V]

/-- **A\* with a consistent heuristic is exact** (`h u ≤ w + h v` along every permitted arc): `shortest_distance(s, t)` in A*
mode is the minimum weight over the permitted walks, the sentinel iff there is none. Weights in a linearly ordered
cancellative commutative monoid (`ℕ ℤ ℚ ℝ`); exact arithmetic (with floats the `g + h` comparisons are subject to
rounding: the float stream of the harness compares at 1e-9 relative). -/
theorem astar_exact (net : Net V) (hnet : WFNet net) (h : Nat → V) (hc : Consistent net h) (s t : Nat) (hs : s < net.n) :
    (∀ y, shortestDistanceH net h s t none = some y ↔ IsDist net s t y) ∧
    (shortestDistanceH net h s t none = none ↔ ¬ Reachable net s t) :=
  shortestDistanceH_spec net hnet h hc s t hs

/-- … with a cut-off (`T4 with a cut-off` for A*): `shortest_distance(s, t, cut)` returns the true distance whenever that
distance does not exceed the cut-off, and the sentinel whenever `t` is unreachable — for a consistent heuristic that is
smallest at the target (`h t ≤ h v`; the code's heuristic is `0` at the target and `≥ 0` elsewhere). That hypothesis is needed:
it does not follow from consistency and `h t = 0` (`astar_cut_needs_smallest_at_target`). The label is `g`, so the
stop test `pere.poids > cut` compares the travelled distance with the cut-off, as in Dijkstra mode. -/
theorem astar_cut (net : Net V) (hnet : WFNet net) (h : Nat → V) (hc : Consistent net h) (s t : Nat) (hs : s < net.n)
    (hmin : ∀ v, h t ≤ h v) (cut : Option V) :
    (∀ y, IsDist net s t y → Within cut y → shortestDistanceH net h s t cut = some y) ∧
    (¬ Reachable net s t → shortestDistanceH net h s t cut = none) :=
  shortestDistanceH_cut net hnet h hc s t hs hmin cut

/-- … the other direction: whatever is returned is the weight of a permitted walk, and the sentinel is returned only when
no walk within the cut-off exists. -/
theorem astar_cut_sound (net : Net V) (hnet : WFNet net) (h : Nat → V) (hc : Consistent net h) (s t : Nat) (hs : s < net.n)
    (hmin : ∀ v, h t ≤ h v) (cut : Option V) :
    (∀ y, shortestDistanceH net h s t cut = some y → Walk net s t y) ∧
    (shortestDistanceH net h s t cut = none → ∀ y, IsDist net s t y → ¬ Within cut y) := by
  constructor
  · intro y hy; exact (shortestDistanceH_any net hnet h s t hs).1 cut y hy
  · intro hn y hy hw
    rw [(shortestDistanceH_cut net hnet h hc s t hs hmin cut).1 y hy hw] at hn
    cases hn

/-- every entry `run_routing_forward` writes to `output_dict` in A* mode with a consistent heuristic — any target, any
cut-off, so also through `shortest_distance(s, t, cut, output_dict)` — is the true distance of its key and does not exceed the
cut-off; the entries are exactly the nodes the search marked `visite`, and the label (`poids`) of every such node is its
true distance. -/
theorem astar_output_dict_entries_sound (net : Net V) (hnet : WFNet net) (h : Nat → V) (hc : Consistent net h) (s : Nat)
    (hs : s < net.n) (tgt : Option Nat) (cut : Option V) :
    (∀ u y, (u, y) ∈ (runForwardH net h s tgt cut).2 → IsDist net s u y ∧ Within cut y) ∧
    (∀ u, (runForwardH net h s tgt cut).1.vis u = true ↔ ∃ y, (u, y) ∈ (runForwardH net h s tgt cut).2) ∧
    (∀ u y, (runForwardH net h s tgt cut).1.vis u = true → (runForwardH net h s tgt cut).1.d u = some y → IsDist net s u y) :=
  runForwardH_entries net hnet h hc s hs tgt cut

/-- where consistency comes from: if `g u v` (= `astar_wgt` × the straight-line distance between `u` and `v`) satisfies
the triangle inequality towards the target, `h u ≤ g u v + h v`, and no edge weighs less than `g` between its ends, the
heuristic is consistent. -/
theorem consistent_of_scaled_metric (net : Net V) (h : Nat → V) (g : Nat → Nat → V) (htri : ∀ u v, h u ≤ g u v + h v)
    (hedge : ∀ u v w, Arc net u v w → g u v ≤ w) : Consistent net h :=
  fun u v w ha => le_trans (htri u v) (add_le_add_left (hedge u v w ha) (h v))

/-- **the property for A\* in a program with several networks.** Start with no `Network` object and run any program
(creations, `addNode` / `addEdge`, searches of every kind in either mode, `prepare`, `sub_network`, `setRoutingMethod` /
`setAStarWeight` on any object, in any interleaving). On an object whose own routing method is A* at that moment, for a
target `t` towards which its heuristic `astar_wgt × |v − t|` is consistent on its current graph and smallest at `t`
(`astar_heuristic_consistent`: `0 ≤ astar_wgt`, every edge at least `astar_wgt` × the straight-line distance of its ends),
`shortest_distance(s, t[, cut])` is the minimum weight over the permitted walks of that graph — the sentinel iff there is
none; with a cut-off the true distance whenever it is within it. -/
theorem world_astar_distance_correct [Sub V] [Mul V] [OfNat V 1] (sqrt : V → V) (ops : List (WorldOp V)) (k : Nat)
    (o : NetObj V) (hk : (worldAfter sqrt [] ops)[k]? = some o) (hm : o.mode = 1) (s t : Nat)
    (hs : s ∈ o.sess.order) (ht : t ∈ o.sess.order) (cut : Option V) (ud : Bool)
    (hc : Consistent o.sess.net (o.h sqrt (some t))) (hmin : ∀ v, o.h sqrt (some t) t ≤ o.h sqrt (some t) v) :
    ∃ d, (execWorld sqrt (worldAfter sqrt [] ops) (.on k (.call (.dist s t cut ud)))).2 = .val d ∧
      (∀ y, IsDist o.sess.net s t y → Within cut y → d = some y) ∧ (¬ Reachable o.sess.net s t → d = none) ∧
      (cut = none → ∀ y, d = some y ↔ IsDist o.sess.net s t y) ∧
      (cut = none → (d = none ↔ ¬ Reachable o.sess.net s t)) := by
  have h : SessOK o.sess := world_ok sqrt ops k o hk
  refine ⟨shortestDistanceH o.sess.net (o.h sqrt (some t)) s t cut, ?_, ?_, ?_, ?_, ?_⟩
  · rw [execWorld_on sqrt _ hk]
    exact (execObj_astar_eq sqrt o h hm s t hs ht cut ud).1
  · exact (astar_cut o.sess.net h.wf _ hc s t (h.nodes s hs) hmin cut).1
  · exact (astar_cut o.sess.net h.wf _ hc s t (h.nodes s hs) hmin cut).2
  · intro hcut; subst hcut; exact (astar_exact o.sess.net h.wf _ hc s t (h.nodes s hs)).1
  · intro hcut; subst hcut; exact (astar_exact o.sess.net h.wf _ hc s t (h.nodes s hs)).2

/-- … and what such a call writes: with `output_dict` given, `shortest_distance(s, t, cut, output_dict)` /
`run_routing_forward(s, t, cut, output_dict)` on that object add exactly the entries of the pure A* search, each the true
distance of its key within the cut-off (`astar_output_dict_entries_sound`); the flags read back after
`run_routing_forward(s, t, cut)` are those of that search. -/
theorem world_astar_call_is_pure [Sub V] [Mul V] [OfNat V 1] (sqrt : V → V) (ops : List (WorldOp V)) (k : Nat)
    (o : NetObj V) (hk : (worldAfter sqrt [] ops)[k]? = some o) (hm : o.mode = 1) (s t : Nat)
    (hs : s ∈ o.sess.order) (ht : t ∈ o.sess.order) (cut : Option V) (ud : Bool) :
    (execObj sqrt o (.call (.dist s t cut ud))).2 = .val (shortestDistanceH o.sess.net (o.h sqrt (some t)) s t cut) ∧
    (execObj sqrt o (.call (.dist s t cut ud))).1.sess.udict =
      (if ud then record o.sess.udict s (runForwardH o.sess.net (o.h sqrt (some t)) s (some t) cut).2 else o.sess.udict) ∧
    (execObj sqrt o (.call (.route s (some t) cut ud))).2 =
      .flags (o.sess.order.map (runForwardH o.sess.net (o.h sqrt (some t)) s (some t) cut).1.d)
             (o.sess.order.map (runForwardH o.sess.net (o.h sqrt (some t)) s (some t) cut).1.vis) ∧
    (execObj sqrt o (.call (.route s (some t) cut ud))).1.sess.udict =
      (if ud then record o.sess.udict s (runForwardH o.sess.net (o.h sqrt (some t)) s (some t) cut).2 else o.sess.udict) :=
  execObj_astar_eq sqrt o (world_ok sqrt ops k o hk) hm s t hs ht cut ud
end consistent

section metric
variable {F : Type} [Field F] [LinearOrder F] [IsStrictOrderedRing F]

/-- **the consistency hypothesis, from the configuration.** `Node.distanceTo` is the Euclidean distance of the coordinates
(`sqrt` any square root on the non-negative elements of the ordered field: `IsSqrt`), which satisfies the triangle inequality
(`distanceTo_triangle`, Cauchy–Schwarz). So on an object in A* mode with `0 ≤ astar_wgt` whose every permitted arc weighs at
least `astar_wgt` × the straight-line distance between its ends — exactly the predicate `heuristic_consistent` of the harness'
oracle — the heuristic towards ANY target `t` is consistent and smallest at `t`. -/
theorem astar_heuristic_consistent {sqrt : F → F} (hsq : IsSqrt sqrt) (o : NetObj F) (hm : o.mode = 1) (hw : 0 ≤ o.wgt)
    (hedge : ∀ u v w, Arc o.sess.net u v w → o.wgt * distanceTo sqrt (o.pos u) (o.pos v) ≤ w) (t : Nat) :
    Consistent o.sess.net (o.h sqrt (some t)) ∧ (∀ v, o.h sqrt (some t) t ≤ o.h sqrt (some t) v) := by
  unfold NetObj.h
  rw [hm]
  exact heuristicOf_consistent hsq o.sess.net o.pos o.wgt hw t hedge

/-- **the property for A\* at full strength**, hypotheses on the configuration only: in any program over several `Network`
objects, on an object whose own routing method is A* at that moment, with `0 ≤ astar_wgt` and every permitted arc of its
current graph weighing at least `astar_wgt` × the straight-line distance between its ends, `shortest_distance(s, t[, cut])` is
the minimum weight over the permitted walks — the sentinel iff there is none; with a cut-off the true distance whenever it
is within it. -/
theorem world_astar_metric_distance_correct {sqrt : F → F} (hsq : IsSqrt sqrt) (ops : List (WorldOp F)) (k : Nat)
    (o : NetObj F) (hk : (worldAfter sqrt [] ops)[k]? = some o) (hm : o.mode = 1) (hw : 0 ≤ o.wgt)
    (hedge : ∀ u v w, Arc o.sess.net u v w → o.wgt * distanceTo sqrt (o.pos u) (o.pos v) ≤ w)
    (s t : Nat) (hs : s ∈ o.sess.order) (ht : t ∈ o.sess.order) (cut : Option F) (ud : Bool) :
    ∃ d, (execWorld sqrt (worldAfter sqrt [] ops) (.on k (.call (.dist s t cut ud)))).2 = .val d ∧
      (∀ y, IsDist o.sess.net s t y → Within cut y → d = some y) ∧ (¬ Reachable o.sess.net s t → d = none) ∧
      (cut = none → ∀ y, d = some y ↔ IsDist o.sess.net s t y) ∧
      (cut = none → (d = none ↔ ¬ Reachable o.sess.net s t)) :=
  world_astar_distance_correct sqrt ops k o hk hm s t hs ht cut ud
    (astar_heuristic_consistent hsq o hm hw hedge t).1 (astar_heuristic_consistent hsq o hm hw hedge t).2
end metric

/-- the straight road 0 –10– 1 –10– 2 with nodes at x = 0, 10, 20 and the heuristic `h v` = distance to node 2 -/
def road : Net Int := { n := 3, edges := [⟨0, 0, 1, 10, 0⟩, ⟨1, 1, 2, 10, 0⟩] }
def roadH : Nat → Int := fun v => if v = 0 then 20 else if v = 1 then 10 else 0

/-- **what fix c78e3ab repaired** (finding `astar-label-accumulates-heuristic`, now a regression case): on `road`, every
weight equal to the straight-line length, `h ≥ 0` consistent and 0 at the target, the PRE-FIX loop (`shortestDistanceHOld`:
`poids = g + h`, relaxed from) reported 30; the distance is 20, which is what the model of the present code
(`shortestDistanceH`) and Dijkstra report — also under the cut-off 20. This is
also the non-vacuity example of `astar_exact` / `astar_cut`: their hypotheses hold on `road`. -/
theorem astar_old_inflates :
    WFNet road ∧ Consistent road roadH ∧ (∀ v, roadH 2 ≤ roadH v) ∧
    shortestDistanceHOld road roadH 0 2 none = some 30 ∧
    shortestDistanceH road roadH 0 2 none = some 20 ∧ shortestDistanceH road roadH 0 2 (some 20) = some 20 ∧
    shortestDistance road 0 2 none = some 20 ∧ IsDist road 0 2 20 := by
  have hwf : WFNet road := by unfold WFNet; decide
  have hcons : Consistent road roadH := consistent_of_edges _ _ (by decide)
  have hd : shortestDistance road 0 2 none = some 20 := by decide +kernel
  have hmin : ∀ v, roadH 2 ≤ roadH v := by
    intro v
    have h2 : roadH 2 = 0 := by decide
    rw [h2]; unfold roadH; split <;> [decide; (split <;> decide)]
  exact ⟨hwf, hcons, hmin,
    by decide +kernel, by decide +kernel, by decide +kernel, hd,
    ((shortest_distance_correct road hwf 0 2 (by decide)).1 20).1 hd⟩

/-- a source `0`, a far node `1` (`0 → 1` of weight 10) where the heuristic is NEGATIVE, and the target `3` behind node `2`
(`0 → 2` of weight 2, `2 → 3` of weight 3) -/
def trap : Net Int := { n := 4, edges := [⟨0, 0, 1, 10, 1⟩, ⟨1, 0, 2, 2, 1⟩, ⟨2, 2, 3, 3, 1⟩] }
def trapH : Nat → Int := fun v => if v = 1 then -8 else if v = 2 then 1 else 0

/-- **the hypothesis `h t ≤ h v` of `astar_cut` cannot be dropped**: it does not follow from consistency and `h t = 0`. On `trap`
the heuristic `trapH` is consistent and 0 at the target, the distance `0 → 3` is 5, within the cut-off 7; node 1 (`g = 10`,
`g + h = 2`) is popped before node 2 (`g + h = 3`), its label 10 exceeds the cut-off and the search stops: `shortest_distance(0, 3,
cut=7)` reports the sentinel in A* mode (without cut-off: 5; Dijkstra with the cut-off: 5). The code's heuristic `astar_wgt ×
distance` is `≥ 0 = h t` whenever `0 ≤ astar_wgt` (`astar_heuristic_consistent`), which is the configuration the statement is held
for; a negative `astar_wgt` gives a consistent heuristic on metric weights but falls here. -/
theorem astar_cut_needs_smallest_at_target :
    WFNet trap ∧ Consistent trap trapH ∧ trapH 3 = 0 ∧ IsDist trap 0 3 5 ∧
    shortestDistanceH trap trapH 0 3 (some 7) = none ∧ shortestDistanceH trap trapH 0 3 none = some 5 ∧
    shortestDistance trap 0 3 (some 7) = some 5 := by
  have hwf : WFNet trap := by unfold WFNet; decide
  have hcons : Consistent trap trapH := consistent_of_edges _ _ (by decide)
  have hd : shortestDistance trap 0 3 none = some 5 := by decide +kernel
  exact ⟨hwf, hcons, by decide, ((shortest_distance_correct trap hwf 0 3 (by decide)).1 5).1 hd,
    by decide +kernel, by decide +kernel, by decide +kernel⟩

/-- non-vacuity of the A* theorems on a network where the heuristic matters: a detour 0 –3– 1 –4– 3 (nodes 0, 1, 3 are
corners of a 3 × 4 rectangle, node 3 opposite node 0: straight-line 5) and the direct diagonal 0 –6– 3 of weight 6 ≥ 5,
plus a dead end 0 –1– 2 pointing away from the target. `h` = straight-line distance to node 3. A* reports 6 = the minimum and
settles the source only before it pops the target; Dijkstra settles the dead end and the detour's corner first. -/
def rect : Net Int := { n := 4, edges := [⟨0, 0, 1, 3, 0⟩, ⟨1, 1, 3, 4, 0⟩, ⟨2, 0, 3, 6, 0⟩, ⟨3, 0, 2, 1, 0⟩] }
def rectH : Nat → Int := fun v => if v = 0 then 5 else if v = 1 then 4 else if v = 2 then 6 else 0
example : Consistent rect rectH := consistent_of_edges _ _ (by decide)
example : shortestDistanceH rect rectH 0 3 none = some 6 ∧ shortestDistanceH rect rectH 0 3 (some 6) = some 6 ∧
    (runForwardH rect rectH 0 (some 3) none).2 = [(0, 0)] ∧ (runForward rect 0 (some 3) none).2 = [(0, 0), (2, 1), (1, 3)] := by
  decide +kernel

/-! ### the hypotheses are satisfiable by a non-trivial network, and the model computes on it -/

/-- 3 nodes; a zero-weight two-way edge 0–1, an edge stored 2→1 that may only be travelled 1→2
(orientation −1), a heavier parallel edge 1→2, a self-loop. -/
def demo : Net Int :=
  { n := 3, edges := [⟨0, 0, 1, 0, 0⟩, ⟨1, 2, 1, 1, -1⟩, ⟨2, 1, 2, 5, 1⟩, ⟨3, 2, 2, 1, 0⟩] }

example : WFNet demo := by unfold WFNet; decide
example : shortestDistance demo 0 2 none = some 1 := by decide +kernel
example : shortestDistance demo 2 0 none = none := by decide +kernel
/-- beyond the cut-off the code returns a tentative label (outside the property's statement) -/
example : shortestDistance demo 0 2 (some 0) = some 1 := by decide +kernel
example : (runForward demo 0 none (some 0)).2 = [(0, 0), (1, 0)] := by decide +kernel
example : (runForwardPD demo 0 none (some 0)).2 = [(0, 0), (1, 0)] := by decide +kernel
/-- a stale heap entry (key 1 was lowered from 5 to 0) is skipped; ties on the priority go to the smaller key -/
example : (PDict.popSmallest (PDict.setitem (PDict.ofDict [(1, (5 : Int)), (2, 0)]) 1 0)).map (·.1) = some 1 := by decide +kernel
/-- `heapq` on integers: heapify, push, pop — the list layouts are those of CPython -/
example : Heapq.heapify (fun a b : Nat => decide (a < b)) [5, 3, 8, 1, 9, 2] = [1, 3, 2, 5, 9, 8] := by decide +kernel
example : Heapq.heappush (fun a b : Nat => decide (a < b)) [1, 3, 2, 5, 9, 8] 0 = [0, 3, 1, 5, 9, 8, 2] := by decide +kernel
example : Heapq.heappop (fun a b : Nat => decide (a < b)) [0, 3, 1, 5, 9, 8, 2] = some (0, [1, 3, 2, 5, 9, 8]) := by decide +kernel
example : Heapq.Ord (fun a b : Nat => decide (a < b)) :=
  ⟨fun a b h => by simp only [decide_eq_true_eq, decide_eq_false_iff_not] at h ⊢; omega,
   fun a b c h1 h2 => by simp only [decide_eq_false_iff_not] at h1 h2 ⊢; omega⟩
/-- a session: build 0–1 (two-way, weight 2), search, add a shortcut through a new node, search again; then a
sub-network and a prepared table — the second search does not see the labels of the first -/
def demoOps : List (Op Int) :=
  [.addEdge ⟨0, 0, 1, 2, 0⟩, .dist 0 1 none false, .addEdge ⟨1, 0, 2, 0, 1⟩, .addEdge ⟨2, 1, 2, 1, -1⟩,
   .dist 0 1 none true, .prepare (some 0), .prepared 0 2, .prepared 0 1, .sub 0 (some 0)]
example : (runOps (Sess.new 3) demoOps).map (fun o => match o with | .val d => d | _ => none)
    = [none, some 2, none, none, some 1, none, some 0, none, none] := by decide +kernel
example : (runOps (Sess.new 3) demoOps).map (fun o => match o with | .subnet ns es => (ns, es) | _ => ([], []))
    = [([], []), ([], []), ([], []), ([], []), ([], []), ([], []), ([], []), ([], []), ([0, 2], [1])] := by decide +kernel


/-- a family: the chain 0 –1– 1 –1– 2 –1– 3 (network 0), its extract around node 0 with cut-off 1 (network 1 = {0, 1},
holding the SAME `Node` objects), then: a search at the far end of network 0, a search in the extract, and searches in
network 0 again — the labels the extract's search left on nodes 0 and 1 are not seen (the seeded change C06-7 returns 0
for the distance 3 → 0 here) -/
def demoFam : List (FamOp Int) :=
  [.create, .on 0 (.addEdge ⟨0, 0, 1, 1, 0⟩), .on 0 (.addEdge ⟨1, 1, 2, 1, 0⟩), .on 0 (.addEdge ⟨2, 2, 3, 1, 0⟩),
   .extract 0 0 (some 1), .on 0 (.dist 2 3 none false), .on 1 (.dist 0 1 none false), .on 0 (.dist 3 0 none false),
   .on 0 (.dist 3 1 none false), .on 1 (.dist 1 0 (some 0) false), .on 1 (.dist 0 2 none false)]
example : (runFam (Fam.new 4) demoFam).map (fun o => match o with | .val d => d | _ => none)
    = [none, none, none, none, none, some 1, some 1, some 3, some 2, some 1, none] := by decide +kernel
example : ((runFam (Fam.new 4) demoFam).map (fun o => match o with | .subnet ns es => (ns, es) | _ => ([], [])))[4]?
    = some ([0, 1], [0]) := by decide +kernel
/-- the store really is common: after the extract's search the flags of node 1 (a node of network 0) are the extract's -/
example : ((famAfter (Fam.new 4) (demoFam.take 7)).flags.d 1, (famAfter (Fam.new 4) (demoFam.take 7)).flags.d 3)
    = (some 1, some 1) := by decide +kernel
example : runFam (Fam.new 4) demoFam = runFamU 4 [] demoFam := family_answers_as_private 4 demoFam
/-- weights are attributes of the `Edge` objects, which the extract shares with its parent: after `edge.weight = 5` on the
edge 0–1 both networks answer with the new weight (and a later `edge.weight = 0` is seen again) -/
example : ((runFam (Fam.new 4) (demoFam.take 5 ++ [.on 1 (.dist 0 1 none false), .setWeight 0 5, .on 1 (.dist 0 1 none false),
      .on 0 (.dist 0 2 none false), .setWeight 0 0, .on 0 (.dist 3 0 none false), .setWeight 1 (-1)])).drop 5).map
      (fun o => match o with | .val d => d | .err => some (-1) | _ => none)
    = [some 1, none, some 5, some 6, none, some 2, some (-1)] := by decide +kernel

/-! ### a non-associative weight structure (`R4`, `Lemmas/GraphR4.lean`: a caricature of floating point) on which all of the above holds -/

/-- the addition is not associative … -/
example : (R4.of 1 + R4.of 2) + R4.of 4 ≠ R4.of 1 + (R4.of 2 + R4.of 4) := by decide
/-- … and the theorems apply: on the path 0 –1– 1 –2– 2 –4– 3 the reported distance is the left-to-right rounded sum 8,
which is the minimum over walks of that sum (`shortest_distance_correct`), not the rounding of 1 + (2 + 4) -/
def demoR : Net R4 :=
  { n := 4, edges := [⟨0, 0, 1, R4.of 1, 0⟩, ⟨1, 1, 2, R4.of 2, 0⟩, ⟨2, 2, 3, R4.of 4, 0⟩] }
example : WFNet demoR := by unfold WFNet; decide
example : shortestDistance demoR 0 3 none = some (R4.of 8) := by decide +kernel
example : IsDist demoR 0 3 (R4.of 8) :=
  ((shortest_distance_correct demoR (by unfold WFNet; decide) 0 3 (by decide)).1 _).1 (by decide +kernel)

/-! ### the routing-method API on concrete objects -/

def roadPos : Nat → Pos Rat := fun v => ⟨10 * v, 0, 0⟩
def roadOps (k : Nat) : List (WorldOp Rat) :=
  [.on k (.call (.addEdge ⟨0, 0, 1, 10, 0⟩)), .on k (.call (.addEdge ⟨1, 1, 2, 10, 0⟩))]
/-- two `Network` objects; the second is switched to A*, the first is never configured: its answer (20 on the road) is
the Dijkstra answer, and so is the second's (before fix c78e3ab it reported the inflated 30); with `astar_wgt = 0` it reports 20 again -/
def twoRoads : List (WorldOp Rat) :=
  [.create 3 roadPos, .create 3 roadPos] ++ roadOps 0 ++ roadOps 1 ++
  [.on 1 (.setMethod 1), .on 0 (.call (.dist 0 2 none false)), .on 1 (.call (.dist 0 2 none false)),
   .on 1 (.call (.distList 0 none false)), .on 1 (.setWeight 0), .on 1 (.call (.dist 0 2 none false))]
example : ((runWorld sqrtRat [] twoRoads).drop 7).map (fun o => match o with | .val d => d | _ => none)
    = [some 20, some 20, none, none, some 20] := by decide +kernel
example : (answersOn 0 twoRoads (runWorld sqrtRat [] twoRoads)).length = 3 := by decide +kernel
/-- `math.sqrt` on rational squares, as the exact stream uses it -/
example : sqrtRat (25 / 4) = 5 / 2 ∧ isSquareRat (25 / 4) = true ∧ isSquareRat 2 = false := by decide +kernel

/-- the hypotheses of `world_astar_metric_distance_correct` hold on the second road of `twoRoads` (weights = straight-line
lengths, `astar_wgt = 1`): every arc weighs at least `astar_wgt` × the distance between its ends -/
example : ∀ e ∈ [(0, 1, (10 : Rat)), (1, 0, 10), (1, 2, 10), (2, 1, 10)],
    (1 : Rat) * distanceTo sqrtRat (roadPos e.1) (roadPos e.2.1) ≤ e.2.2 := by decide +kernel

/-- non-vacuity of the `sub_network` theorems: the road 0 –10– 1 –10– 2 (nodes at x = 0, 10, 20). GEOMETRIC around (0, 0, altitude 5):
radius 10 keeps both edges (node 1 is an end of each), radius 5 keeps edge 0 only — then node 2 is cut off (`none`) although the
parent reports 20; TOPOLOGIC from node 0 with cut-off 10 keeps edge 0 and the distance 0 → 1. -/
def roadQ : Net Rat := { n := 3, edges := [⟨0, 0, 1, 10, 0⟩, ⟨1, 1, 2, 10, 0⟩] }
example : (subEdgesGeo sqrtRat (fun v => ⟨10 * v, 0, 0⟩) roadQ ⟨0, 0, 5⟩ (some 10)).map (·.id) = [0, 1] ∧
    (subEdgesGeo sqrtRat (fun v => ⟨10 * v, 0, 0⟩) roadQ ⟨0, 0, 5⟩ (some 5)).map (·.id) = [0] ∧
    shortestDistance { n := 3, edges := subEdgesGeo sqrtRat (fun v => ⟨10 * v, 0, 0⟩) roadQ ⟨0, 0, 5⟩ (some 5) } 0 2 none = none ∧
    shortestDistance { n := 3, edges := subEdgesGeo sqrtRat (fun v => ⟨10 * v, 0, 0⟩) roadQ ⟨0, 0, 5⟩ (some 10) } 0 2 none = some 20 ∧
    shortestDistance roadQ 0 2 none = some 20 ∧
    (subEdges roadQ (runForward roadQ 0 none (some 10)).1).map (·.id) = [0] ∧
    shortestDistance { n := 3, edges := subEdges roadQ (runForward roadQ 0 none (some 10)).1 } 0 1 none = some 10 := by
  decide +kernel

/-- non-vacuity of the file theorems: the names a user may give, and a session in which a later `prepare` does not reach the file -/
example : saveName "a".toList = "a.npy".toList ∧ saveName "a.npy".toList = "a.npy".toList ∧ loadName "npy".toList = "npy.npy".toList ∧
    loadName ".npy".toList = ".npy".toList ∧ saveName "t.np".toList = "t.np.npy".toList := by decide
example : (runF (SessF.new 3 : SessF Int)
    [.call (.addEdge ⟨0, 0, 1, 2, 0⟩), .save "a".toList, .call (.prepare (some 1)), .save "a".toList, .call (.prepare none),
     .call (.prepared 0 1), .load "a.npy".toList, .call (.prepared 0 1), .call (.prepared 0 0), .load "b".toList]).map
      (fun o => match o with | .val d => d | .err => some (-1) | _ => none)
    = [none, some (-1), none, none, none, some 2, none, none, some 0, some (-1)] := by decide +kernel

end TV.C06
