import TracklibVerif.Lemmas.Resample
import TracklibVerif.Lemmas.Common.MapMForall
import TracklibVerif.Props.C03
import Mathlib.Data.Rat.Floor
/-! # C05 — linear resampling returns the piecewise-linear interpolant of the track

Property theorems (helper lemmas are in `Lemmas/Resample.lean`, and in `Lemmas/ResampleBasic.lean` those that need no arithmetic). The model
(`Model/Resample.lean`) mirrors `prepareTimeSampling`, `__resampleTemporal`, `__resampleSpatial`, the dispatcher
`interpolation.resample`, the front end `Track.resample` and the callers that delegate to linear resampling
(`track // ref`, `track ** n`, `track * k`, `sample`, `synchronize`, `TrackCollection.resample`); a fix is
`(x, y, z, t)` with `t = timestamp.toAbsTime()`; the stamp of an output is `ObsTime.readUnixTime(t)` as C03's
operation-for-operation reader computes it (`stampG` = `readUnixG`), proved equal to the integer C03 model on `⌊1000·t⌋`
(`stampOf`) for every `t ≥ 0` (S3, S2', S1'); in spatial mode the first output is a copy of the first fix and carries its own
`ObsTime` (the same stamp in exact arithmetic: C03 `readUnixG_toAbsG`). All
statements are over an arbitrary linearly ordered field (ℚ, ℝ): for every track, every list of instants, every step.
Sections: T1–T4 (temporal / spatial), D1–D4 (degenerate requests), S1 (millisecond stamps), T3d (pauses),
O1–O5 (callers), T5 (the forms giving a number of points: the property's answer for the step the output exhibits), T4c / T4' (the clamp of the interpolated time, fix 20ed89f: a no-op in exact arithmetic; what it
guarantees in ANY arithmetic), T2' / T3e / S2 (repeated timestamps: the interpolant in the original order of the fixes, legs travelled
in no time, the calendar stamps of a spatially resampled track never decrease).

`sampleT P t` / `sampleS P S s` (Lemmas) are the *specification* samples: the point of the leg
`r = firstGE v V` — the number of abscissas `< v`, i.e. the first index with `v ≤ V[r]` — at fraction
`(v − V[r−1]) / (V[r] − V[r−1])`. Theorems T2/T3 say what that leg is. -/
set_option linter.unusedSectionVars false
namespace TV.C05
open TV.Resample

variable {α : Type} [Field α] [LinearOrder α] [IsStrictOrderedRing α]

/-- T1 `temporal_count`. For a non-empty track and a chronological list of requested instants,
`__resampleTemporal` raises nothing and returns exactly one observation per requested instant lying in
`(tini, tfin]` (after the first, not after the last original stamp), in order, stamped with that instant;
each is the specification sample `sampleT` (see T2). -/
theorem temporal_count (trunc : α → Int) (P : List (Fix α)) (hn : 0 < P.length) (ref : List α)
    (href : ref.Pairwise (· ≤ ·)) :
    ∃ out, resampleTemporal trunc P (.instants ref) = .ok out ∧
      out = (ref.filter (inRange (P[0]).t (P[P.length - 1]).t)).map (sampleT P) ∧
      out.length = (ref.filter (inRange (P[0]).t (P[P.length - 1]).t)).length ∧
      out.map (·.t) = ref.filter (inRange (P[0]).t (P[P.length - 1]).t) := by
  exact ⟨_, resampleTemporal_instants trunc P hn ref href, rfl, List.length_map _, map_t_sampleT P _⟩

/-- T1' `temporal_count_any_order`. On a track whose stamps never decrease, the requested instants may
come in ANY order (repetitions included): `__resampleTemporal` raises nothing and returns exactly one
observation per requested instant lying in `(tini, tfin]`, in the order of the request, stamped with that
instant, each being the specification sample (T2). (Since the fix commit ee0419b: the scan restarts when the
previous bracket is already past the instant, and an instant after the last fix no longer ends the loop.) -/
theorem temporal_count_any_order (trunc : α → Int) (P : List (Fix α)) (hn : 0 < P.length)
    (hT : (P.map (·.t)).Pairwise (· ≤ ·)) (ref : List α) :
    ∃ out, resampleTemporal trunc P (.instants ref) = .ok out ∧
      out = (ref.filter (inRange (P[0]).t (P[P.length - 1]).t)).map (sampleT P) ∧
      out.length = (ref.filter (inRange (P[0]).t (P[P.length - 1]).t)).length ∧
      out.map (·.t) = ref.filter (inRange (P[0]).t (P[P.length - 1]).t) := by
  exact ⟨_, resampleTemporal_instants_any trunc P hn hT ref, rfl, List.length_map _, map_t_sampleT P _⟩

/-- T2' `temporal_repeated_stamps`. T2 on a track whose stamps never decrease but may REPEAT (a receiver logging faster
than the resolution of its clock, a doubled record), whatever its length. The sample returned for an instant
`t ∈ (tini, tfin]` is interpolated between two fixes that are CONSECUTIVE IN THE ORDER OF THE TRACK, `P[r−1]` and `P[r]`,
with `T[r−1] < t ≤ T[r]` — never on a leg of zero duration (`0 < T[r] − T[r−1]`), and `r` is the only such leg;
(a) every fix before `P[r]` is stamped `< t`: the leg ENDS at the FIRST fix stamped at or after `t`;
(b) every fix from `P[r]` on is stamped `> T[r−1]`: the leg STARTS at the LAST fix carrying the stamp `T[r−1]`
(of several fixes sharing a stamp, the last one is the start of the next leg and the first one the end of the previous
leg: the track is never re-ordered);
(c) an instant that IS a stamp of the track (repeated or not) is answered with the position of the first fix carrying it. -/
theorem temporal_repeated_stamps (P : List (Fix α)) (hn : 0 < P.length)
    (hT : (P.map (·.t)).Pairwise (· ≤ ·)) (t : α) (h1 : (P[0]).t < t) (h2 : t ≤ (P[P.length - 1]).t) :
    ∃ (r : Nat) (_ : 1 ≤ r) (hr : r < P.length),
      (P[r - 1]'(by omega)).t < t ∧ t ≤ P[r].t ∧ 0 < P[r].t - (P[r - 1]'(by omega)).t ∧
      sampleT P t = lerpFix (P[r - 1]'(by omega)) P[r]
        ((t - (P[r - 1]'(by omega)).t) / (P[r].t - (P[r - 1]'(by omega)).t)) t ∧
      (∀ j (hj : j < r), (P[j]'(by omega)).t < t) ∧
      (∀ j (_ : r ≤ j) (hj : j < P.length), (P[r - 1]'(by omega)).t < P[j].t) ∧
      (∀ k, 1 ≤ k → (hk : k < P.length) → (P[k - 1]'(by omega)).t < t → t ≤ P[k].t → k = r) ∧
      (t = P[r].t → sampleT P t = ⟨P[r].x, P[r].y, P[r].z, t⟩) := by
  obtain ⟨hr1, hrP, hb1, hb2⟩ := firstGE_bracket_times P hn t h1 h2
  have hd := sub_pos.mpr (lt_of_lt_of_le hb1 hb2)
  refine ⟨_, hr1, hrP, hb1, hb2, hd, sampleT_eq P t hrP, fun j hj => ?_, fun j hrj hj => ?_,
    fun k hk1 hk hlo hhi => (firstGE_unique _ hT t k (by simpa using hk) (by simpa using hlo) (by simpa using hhi)).symm,
    fun ht => ?_⟩
  · have := lt_of_lt_firstGE t (P.map (·.t)) j hj (by rw [List.length_map]; omega)
    rwa [List.getElem_map] at this
  · exact lt_of_lt_of_le (lt_of_lt_of_le hb1 hb2) (times_mono P hT _ j hrj hj)
  · rw [sampleT_eq P t hrP, (div_eq_one_iff_eq (ne_of_gt hd)).mpr (congrArg (· - _) ht), lerpFix_one]

/-- T2 `temporal_bracket`. With strictly increasing stamps, the sample returned for an instant
`t ∈ (tini, tfin]` uses the unique leg `r ≥ 1` with `T[r−1] < t ≤ T[r]` (so the denominator
`T[r] − T[r−1]` is positive) and is `P[r−1] + ((t − T[r−1]) / (T[r] − T[r−1])) · (P[r] − P[r−1])`
in x, y and z, stamped `t`. -/
theorem temporal_bracket (P : List (Fix α)) (hn : 0 < P.length)
    (hT : (P.map (·.t)).Pairwise (· < ·)) (t : α) (h1 : (P[0]).t < t) (h2 : t ≤ (P[P.length - 1]).t) :
    ∃ (r : Nat) (_ : 1 ≤ r) (hr : r < P.length),
      (P[r - 1]'(by omega)).t < t ∧ t ≤ P[r].t ∧ 0 < P[r].t - (P[r - 1]'(by omega)).t ∧
      sampleT P t = lerpFix (P[r - 1]'(by omega)) P[r]
        ((t - (P[r - 1]'(by omega)).t) / (P[r].t - (P[r - 1]'(by omega)).t)) t ∧
      (∀ k, 1 ≤ k → (hk : k < P.length) → (P[k - 1]'(by omega)).t < t → t ≤ P[k].t → k = r) := by
  obtain ⟨r, hr1, hr, hlo, hhi, hd, hs, _, _, hu, _⟩ := temporal_repeated_stamps P hn (hT.imp le_of_lt) t h1 h2
  exact ⟨r, hr1, hr, hlo, hhi, hd, hs, hu⟩

/-- T1/T2 for a numeric step `δ > 0` (`prepareTimeSampling` + `__resampleTemporal`): the result is
exactly the `K` samples at `tini + δ, tini + 2δ, …, tini + Kδ` where `K = int((tfin − tini)/δ)`, i.e.
`tini + Kδ ≤ tfin < tini + (K+1)δ`: every multiple of the step inside the range, the last one included
when the step divides the duration. -/
theorem temporal_number_step (trunc : α → Int) (htr : TruncSpec trunc) (P : List (Fix α))
    (hn : 0 < P.length) (hdur : (P[0]).t ≤ (P[P.length - 1]).t) (δ : α) (hδ : 0 < δ) :
    ∃ K : Nat,
      resampleTemporal trunc P (.number δ)
        = .ok ((List.range K).map (fun (k : Nat) => sampleT P ((P[0]).t + ((k + 1 : Nat) : α) * δ))) ∧
      (P[0]).t + (K : α) * δ ≤ (P[P.length - 1]).t ∧ (P[P.length - 1]).t < (P[0]).t + ((K : α) + 1) * δ :=
  ⟨_, resampleTemporal_number trunc htr P hn hdur δ hδ, htr.bounds_sub hdur hδ⟩

/-- T3a `spatial_samples`. `__resampleSpatial` with step `ds > 0` on a track whose 2D leg lengths are
`legs ≥ 0` and whose stamps never decrease (so that the clamp of the fix commit 20ed89f — the interpolated time kept
between the two stamps of its leg — changes nothing: `clampT_combine`) raises nothing and returns the first fix followed by the `N` specification samples at
curvilinear abscissas `ds, 2ds, …, N·ds`, where `N = int(L/ds)` is the number of multiples of `ds` not
exceeding the length `L`: `N·ds ≤ L < (N+1)·ds`. -/
theorem spatial_samples (trunc : α → Int) (htr : TruncSpec trunc) (P : List (Fix α)) (legs : List α)
    (hlen : legs.length + 1 = P.length) (hlegs : ∀ x ∈ legs, 0 ≤ x)
    (hT : (P.map (·.t)).Pairwise (· ≤ ·)) (ds : α) (hds : 0 < ds) :
    ∃ N : Nat,
      resampleSpatialLegs trunc P legs ds
        = .ok (P[0]'(by omega) :: (List.range N).map
            (fun (j : Nat) => sampleS P (cum legs) (((j + 1 : Nat) : α) * ds))) ∧
      (N : α) * ds ≤ polyLen legs ∧ polyLen legs < ((N : α) + 1) * ds :=
  ⟨_, resampleSpatialLegs_eq trunc htr P legs hlen hlegs hT ds hds, htr.bounds (polyLen_nonneg legs hlegs) hds⟩

/-- T3 `spatial_on_polyline`. The sample at abscissa `s ∈ (0, L]` (in particular `s = k·ds`,
`1 ≤ k ≤ N`) lies on the unique leg `r ≥ 1` with `S[r−1] < s ≤ S[r]` (`S` = cumulated leg lengths); that leg
has positive length `S[r] − S[r−1] = legs[r−1]`; the sample is at fraction
`f = (s − S[r−1]) / legs[r−1] ∈ (0, 1]` of it, i.e. at curvilinear abscissa `S[r−1] + f·legs[r−1] = s`,
with x, y, height and time all interpolated with that same fraction. -/
theorem spatial_on_polyline (P : List (Fix α)) (legs : List α) (hlen : legs.length + 1 = P.length)
    (hlegs : ∀ x ∈ legs, 0 ≤ x) (s : α) (h0 : 0 < s) (h1 : s ≤ polyLen legs) :
    ∃ (r : Nat) (_ : 1 ≤ r) (hr : r < P.length),
      (cum legs).getD (r - 1) 0 < s ∧ s ≤ (cum legs).getD r 0 ∧
      (cum legs).getD r 0 - (cum legs).getD (r - 1) 0 = legs[r - 1]'(by omega) ∧
      0 < legs[r - 1]'(by omega) ∧
      0 < (s - (cum legs).getD (r - 1) 0) / legs[r - 1]'(by omega) ∧
      (s - (cum legs).getD (r - 1) 0) / legs[r - 1]'(by omega) ≤ 1 ∧
      (cum legs).getD (r - 1) 0
        + (s - (cum legs).getD (r - 1) 0) / legs[r - 1]'(by omega) * legs[r - 1]'(by omega) = s ∧
      sampleS P (cum legs) s = lerpFix (P[r - 1]'(by omega)) P[r]
        ((s - (cum legs).getD (r - 1) 0) / legs[r - 1]'(by omega))
        ((P[r - 1]'(by omega)).t
          + (s - (cum legs).getD (r - 1) 0) / legs[r - 1]'(by omega) * (P[r].t - (P[r - 1]'(by omega)).t)) ∧
      (∀ k, 1 ≤ k → k < P.length → (cum legs).getD (k - 1) 0 < s → s ≤ (cum legs).getD k 0 → k = r) := by
  have hSlen := cum_length legs
  obtain ⟨hr1, hrlt, hb1, hb2⟩ :=
    firstGE_bracket (cum legs) s (by omega) (by rw [cum_zero]; exact h0) (by rw [← polyLen_eq]; exact h1)
  have hrP : firstGE s (cum legs) < P.length := by omega
  have hleg := cum_leg legs (firstGE s (cum legs)) hr1 (by omega)
  have hpos : 0 < legs[firstGE s (cum legs) - 1]'(by omega) := hleg ▸ sub_pos.mpr (lt_of_lt_of_le hb1 hb2)
  obtain ⟨f0, f1⟩ := frac_bounds _ _ s hb1 hb2
  rw [hleg] at f0 f1
  refine ⟨firstGE s (cum legs), hr1, hrP, ?_⟩
  rw [getD0_eq _ _ hrlt, getD0_eq _ (firstGE s (cum legs) - 1) (by omega)]
  refine ⟨hb1, hb2, hleg, hpos, f0, f1, ?_, ?_, fun k hk1 hk hlo hhi => ?_⟩
  · rw [div_mul_cancel₀ _ (ne_of_gt hpos), add_sub_cancel]
  · rw [sampleS_eq P _ s rfl hrlt hrP, hleg]
  · rw [getD0_eq _ _ (by omega)] at hlo hhi
    exact (firstGE_unique (cum legs) (cum_sorted legs hlegs) s k (by omega) hlo hhi).symm

/-- T4 `spatial_time_monotone`. With non-decreasing original stamps (in particular strictly increasing
ones) the timestamps of the spatially resampled track never decrease. -/
theorem spatial_time_monotone (trunc : α → Int) (htr : TruncSpec trunc) (P : List (Fix α))
    (legs : List α) (hlen : legs.length + 1 = P.length) (hlegs : ∀ x ∈ legs, 0 ≤ x)
    (hT : (P.map (·.t)).Pairwise (· ≤ ·)) (ds : α) (hds : 0 < ds) :
    ∃ out, resampleSpatialLegs trunc P legs ds = .ok out ∧ (out.map (·.t)).Pairwise (· ≤ ·) := by
  obtain ⟨N, heq, hN, _⟩ := spatial_samples trunc htr P legs hlen hlegs hT ds hds
  refine ⟨_, heq, ?_⟩
  have hSlen := cum_length legs
  -- every abscissa `(j+1)·ds`, `j < N`, lies in `(S[0], S[last]] = (0, L]`
  have hin : ∀ j, j < N → (cum legs)[0]'(by omega) < ((j + 1 : Nat) : α) * ds ∧
      ((j + 1 : Nat) : α) * ds ≤ (cum legs)[(cum legs).length - 1]'(by omega) := by
    intro j hj
    rw [cum_zero, ← polyLen_eq]
    exact ⟨mul_pos (Nat.cast_pos.mpr j.succ_pos) hds,
      le_trans (mul_le_mul_of_nonneg_right (Nat.cast_le.mpr hj) hds.le) hN⟩
  simp only [List.map_cons, List.map_map, List.pairwise_cons, List.pairwise_map]
  constructor
  · intro y hy
    obtain ⟨j, hj, rfl⟩ := List.mem_map.mp hy
    obtain ⟨h0, h1⟩ := hin j (List.mem_range.mp hj)
    obtain ⟨_, _, e1, _, hlow, _⟩ := sampleS_onLeg P (cum legs) (by omega) (by omega) hT _ h0 h1
    exact le_trans (times_le P hT (List.getElem?_eq_getElem (by omega)) e1 (Nat.zero_le _)) hlow
  · refine List.pairwise_lt_range.imp_of_mem fun ha hb hab => ?_
    exact sampleS_t_mono P (cum legs) (by omega) (by omega) hT _ _ (hin _ (List.mem_range.mp ha)).1
      (mul_le_mul_of_nonneg_right (Nat.cast_le.mpr (Nat.succ_le_succ hab.le)) hds.le) (hin _ (List.mem_range.mp hb)).2

/-- T3b `spatial_legs`. The leg lengths `__resampleSpatial` accumulates are the planimetric (2D) distances
between consecutive fixes: one per leg, non-negative, with square `Δx² + Δy²` (height is ignored) —
for any `sqrt` satisfying the contract of `math.sqrt` on non-negative reals. Hence T3a/T3/T4 apply to
`resampleSpatial sqrt trunc P ds = resampleSpatialLegs trunc P (legs2D sqrt P) ds` for every non-empty track. -/
theorem spatial_legs (sqrt : α → α) (hs : SqrtSpec sqrt) (trunc : α → Int) (P : List (Fix α))
    (hn : 0 < P.length) (ds : α) :
    resampleSpatial sqrt trunc P ds = resampleSpatialLegs trunc P (legs2D sqrt P) ds ∧
    (legs2D sqrt P).length + 1 = P.length ∧ (∀ x ∈ legs2D sqrt P, 0 ≤ x) ∧
    (∀ i (hi : i < (legs2D sqrt P).length) (hi' : i + 1 < P.length),
      (legs2D sqrt P)[i] * (legs2D sqrt P)[i]
        = (P[i + 1].x - P[i].x) * (P[i + 1].x - P[i].x) + (P[i + 1].y - P[i].y) * (P[i + 1].y - P[i].y)) := by
  have hrad : ∀ a b : Fix α, 0 ≤ (b.x - a.x) * (b.x - a.x) + (b.y - a.y) * (b.y - a.y) :=
    fun a b => add_nonneg (mul_self_nonneg _) (mul_self_nonneg _)
  have hl := legs2D_length sqrt P
  refine ⟨rfl, by omega, fun x hx => ?_, fun i hi hi' => ?_⟩
  · obtain ⟨i, hi, rfl⟩ := List.getElem_of_mem hx
    rw [legs2D_getElem sqrt P i hi (by omega)]
    exact (hs _ (hrad _ _)).1
  · rw [legs2D_getElem sqrt P i hi hi']
    exact (hs _ (hrad _ _)).2

/-- T3c `spatial_distance_along_leg`. A point at fraction `f ≥ 0` of the leg `a → b` (as produced by T3) is at
planimetric distance `f · |ab|` from `a`: together with T3 (`S[r−1] + f·legs[r−1] = s`) the sample at
`s = k·ds` is at distance `s` from the first fix *measured along the original 2D polyline*. -/
theorem spatial_distance_along_leg (sqrt : α → α) (hs : SqrtSpec sqrt) (a b : Fix α) (f t : α) (hf : 0 ≤ f) :
    sqrt (((lerpFix a b f t).x - a.x) * ((lerpFix a b f t).x - a.x)
        + ((lerpFix a b f t).y - a.y) * ((lerpFix a b f t).y - a.y))
      = f * sqrt ((b.x - a.x) * (b.x - a.x) + (b.y - a.y) * (b.y - a.y)) := by
  have hrad : ((lerpFix a b f t).x - a.x) * ((lerpFix a b f t).x - a.x)
        + ((lerpFix a b f t).y - a.y) * ((lerpFix a b f t).y - a.y)
      = f * f * ((b.x - a.x) * (b.x - a.x) + (b.y - a.y) * (b.y - a.y)) := by
    simp only [lerpFix]; ring
  rw [hrad]
  exact hs.scale hf (add_nonneg (mul_self_nonneg _) (mul_self_nonneg _))

/-- Front end `Track.resample(delta, ALGO_LINEAR, mode, npts, factor)` and the module-level dispatcher
`interpolation.resample` it calls. (a) whenever `Track.resample` returns, the table of analytical features is empty,
whereas the dispatcher alone leaves the table as it was (its assignment is to an un-mangled attribute); (b) with an
explicit `delta` on a non-empty track it is exactly `__resampleTemporal` (mode 2) / `__resampleSpatial` (mode 1,
numeric step; any other step is a TypeError); (c) with `delta = None` it is the same call with the numeric step
`(1+1e-8)·D/npts`, `D` the duration (temporal) or the 3D length (spatial) and `npts` defaulting to
`len(track)·factor`. -/
theorem frontend (sqrt : α → α) (trunc : α → Int) (g : α) (P : List (Fix α)) (feat : List String)
    (hn : 0 < P.length) (npts : Option Nat) (factor : Nat) :
    (∀ rq out f, resample sqrt trunc g P feat rq = .ok (out, f) → f = []) ∧
    (∀ mode d out f, interpResample sqrt trunc P feat mode d = .ok (out, f) → f = feat) ∧
    (∀ d, resample sqrt trunc g P feat ⟨2, some d, npts, factor⟩
        = match resampleTemporal trunc P d with | .ok out => .ok (out, []) | .error e => .error e) ∧
    (∀ ds, resample sqrt trunc g P feat ⟨1, some (.number ds), npts, factor⟩
        = match resampleSpatial sqrt trunc P ds with | .ok out => .ok (out, []) | .error e => .error e) ∧
    (∀ l, resample sqrt trunc g P feat ⟨1, some (.instants l), npts, factor⟩ = .error .type) ∧
    (npts.getD (P.length * factor) ≠ 0 →
      resample sqrt trunc g P feat ⟨2, none, npts, factor⟩
        = resample sqrt trunc g P feat ⟨2, some (.number
            (g * ((P[P.length - 1]).t - (P[0]).t) / ((npts.getD (P.length * factor) : Nat) : α))), npts, factor⟩ ∧
      resample sqrt trunc g P feat ⟨1, none, npts, factor⟩
        = resample sqrt trunc g P feat ⟨1, some (.number
            (g * total (legs3D sqrt P) / ((npts.getD (P.length * factor) : Nat) : α))), npts, factor⟩) := by
  refine ⟨?_, ?_, fun d => resample_temporal sqrt trunc g P feat hn d npts factor,
    fun ds => resample_spatial sqrt trunc g P feat hn ds npts factor,
    fun l => resample_spatial_type sqrt trunc g P feat hn (.instants l) (fun _ => nofun) npts factor,
    resample_npts sqrt trunc g P feat hn npts factor⟩
  · intro rq out f
    fun_cases resample sqrt trunc g P feat rq <;> intro h <;> cases h
    rfl
  · intro mode d out f
    fun_cases interpResample sqrt trunc P feat mode d <;> intro h <;> cases h
    all_goals rfl

/-! ### degenerate requests ("every requested instant", also when there is none) -/

/-- D1 `temporal_outside`. Requested instants that all lie outside `(tini, tfin]` (before or at the first stamp, after
the last one) yield NO observation and no exception — for every non-empty track, whatever the order of its stamps and
of the request. -/
theorem temporal_outside (trunc : α → Int) (P : List (Fix α)) (hn : 0 < P.length) (ref : List α)
    (h : ∀ t ∈ ref, t ≤ (P[0]).t ∨ (P[P.length - 1]).t < t) :
    resampleTemporal trunc P (.instants ref) = .ok [] := by
  have hnil : ref.filter (inRange (P[0]).t (P[P.length - 1]'(Nat.sub_one_lt_of_lt hn)).t) = [] := List.filter_eq_nil_iff.mpr fun t ht hin =>
    have ⟨h1, h2⟩ := (inRange_iff _ _ _).mp hin
    (h t ht).elim (not_le_of_gt h1) (not_lt_of_ge h2)
  rw [resampleTemporal_rewinding trunc P hn ref (hnil ▸ .nil), hnil]
  rfl

/-- D2 `temporal_degenerate`. The degenerate requests, for every non-empty track `P`:
(a) an empty list of instants, (b) a reference track without observation, (c) an argument that is neither a number,
a list nor a Track (no `isinstance` branch) all return the empty track; (d) a reference track is read through its
stamps only: `.track Q` is the request `.instants (stamps of Q)` — in particular a reference track with ONE
observation is the one-instant list; (e) a track with a single fix has an empty range `(tini, tfin]`: every list of
instants returns the empty track. -/
theorem temporal_degenerate (trunc : α → Int) (P : List (Fix α)) (hn : 0 < P.length) :
    resampleTemporal trunc P (.instants []) = .ok [] ∧
    resampleTemporal trunc P (.track []) = .ok [] ∧
    resampleTemporal trunc P .other = .ok [] ∧
    (∀ Q : List (Fix α), resampleTemporal trunc P (.track Q) = resampleTemporal trunc P (.instants (Q.map (·.t)))) ∧
    (P.length = 1 → ∀ ref, resampleTemporal trunc P (.instants ref) = .ok []) := by
  have h0 : resampleTemporal trunc P (.instants []) = .ok [] :=
    temporal_outside trunc P hn [] (fun _ h => absurd h (by simp))
  refine ⟨h0, ?_, ?_, fun Q => resampleTemporal_track trunc P Q, ?_⟩
  · rw [resampleTemporal_track]; exact h0
  · rw [resampleTemporal_other]; exact h0
  · intro h1 ref
    apply temporal_outside trunc P hn
    intro t _
    have : (P[P.length - 1]'(by omega)) = P[0] := by congr 1; omega
    rw [this]
    exact le_or_gt t _

/-- D3 `temporal_repeated`. An instant requested `n` times (on a track whose stamps never decrease) is answered
`n` times when it lies in `(tini, tfin]` — the same sample each time — and not at all otherwise. -/
theorem temporal_repeated (trunc : α → Int) (P : List (Fix α)) (hn : 0 < P.length)
    (hT : (P.map (·.t)).Pairwise (· ≤ ·)) (t : α) (n : Nat) :
    resampleTemporal trunc P (.instants (List.replicate n t))
      = .ok (if (P[0]).t < t ∧ t ≤ (P[P.length - 1]).t then List.replicate n (sampleT P t) else []) := by
  rw [resampleTemporal_instants_any trunc P hn hT, List.filter_replicate, apply_ite (List.map (sampleT P)), List.map_replicate,
    List.map_nil]
  exact congrArg _ (if_congr (inRange_iff _ _ _) rfl rfl)

/-- D4 `frontend_empty_request`. Through the front end `Track.resample`, an EMPTY request (`delta = []`, or a
reference track without observation) in temporal mode is a request for no instant: the track comes back empty
(and its feature table empty), whatever `npts` and `factor` — it is NOT the case `delta is None` (regular
resampling with `npts` points). -/
theorem frontend_empty_request (sqrt : α → α) (trunc : α → Int) (g : α) (P : List (Fix α)) (feat : List String)
    (hn : 0 < P.length) (npts : Option Nat) (factor : Nat) :
    resample sqrt trunc g P feat ⟨2, some (.instants []), npts, factor⟩ = .ok ([], []) ∧
    resample sqrt trunc g P feat ⟨2, some (.track []), npts, factor⟩ = .ok ([], []) := by
  obtain ⟨h0, h1, _⟩ := temporal_degenerate trunc P hn
  exact ⟨by rw [resample_temporal sqrt trunc g P feat hn, h0], by rw [resample_temporal sqrt trunc g P feat hn, h1]⟩

/-- T5 `npts_exhibits_step`. The forms of `Track.resample` that give a NUMBER OF POINTS instead of a step
(`npts=`, `factor=`, `track ** n`, `track * k`: `delta is None`). The statement of the property fixes the result *for a
step*; it does not say which step is derived from a number of points. Whatever the guard constant `g > 0` and whatever
`npts`/`factor` (not zero), on a track whose stamps never decrease the front end returns the property's answer for SOME
positive constant step, the one its output exhibits: spatial mode (a track of positive 3D length) — the first fix
followed by the `N` specification samples at curvilinear abscissas `ds, 2ds, …, N·ds` of the 2D polyline,
`N·ds ≤ L₂D < (N+1)·ds` (T3a; each on the polyline with interpolated height and time by T3/T3d, times never decreasing
by T4); temporal mode (positive duration) — the `K` specification samples at `tini + δ, …, tini + Kδ`,
`tini + Kδ ≤ tfin < tini + (K+1)δ` (T1/T2). The oracle of the harness judges these calls in exactly this way (step
recovered from the output); that the step is `g·D/npts` with `D` the 3D length / the duration is `frontend` (c) and is
checked by the correspondence only. -/
theorem npts_exhibits_step (sqrt : α → α) (hs : SqrtSpec sqrt) (trunc : α → Int) (htr : TruncSpec trunc)
    (g : α) (hg : 0 < g) (P : List (Fix α)) (feat : List String) (hn : 0 < P.length)
    (hT : (P.map (·.t)).Pairwise (· ≤ ·)) (npts : Option Nat) (factor : Nat)
    (hnp : npts.getD (P.length * factor) ≠ 0) :
    (0 < total (legs3D sqrt P) →
      ∃ (ds : α) (N : Nat), 0 < ds ∧
        resample sqrt trunc g P feat ⟨1, none, npts, factor⟩
          = .ok (P[0] :: (List.range N).map
              (fun (j : Nat) => sampleS P (cum (legs2D sqrt P)) (((j + 1 : Nat) : α) * ds)), []) ∧
        (N : α) * ds ≤ polyLen (legs2D sqrt P) ∧ polyLen (legs2D sqrt P) < ((N : α) + 1) * ds) ∧
    ((P[0]).t < (P[P.length - 1]).t →
      ∃ (δ : α) (K : Nat), 0 < δ ∧
        resample sqrt trunc g P feat ⟨2, none, npts, factor⟩
          = .ok ((List.range K).map (fun (k : Nat) => sampleT P ((P[0]).t + ((k + 1 : Nat) : α) * δ)), []) ∧
        (P[0]).t + (K : α) * δ ≤ (P[P.length - 1]).t ∧
        (P[P.length - 1]).t < (P[0]).t + ((K : α) + 1) * δ) := by
  obtain ⟨htemporal, hspatial⟩ := resample_npts sqrt trunc g P feat hn npts factor hnp
  have hnpos : (0 : α) < ((npts.getD (P.length * factor) : Nat) : α) := Nat.cast_pos.mpr (Nat.pos_of_ne_zero hnp)
  constructor
  · intro hL
    have hds := div_pos (mul_pos hg hL) hnpos
    obtain ⟨_, hlen, hlegs, _⟩ := spatial_legs sqrt hs trunc P hn 0
    obtain ⟨N, hN, hb⟩ := spatial_samples trunc htr P (legs2D sqrt P) hlen hlegs hT _ hds
    exact ⟨_, N, hds, by rw [hspatial, resample_spatial sqrt trunc g P feat hn, resampleSpatial, hN], hb⟩
  · intro hdur
    have hδ := div_pos (mul_pos hg (sub_pos.mpr hdur)) hnpos
    obtain ⟨K, hK, hb⟩ := temporal_number_step trunc htr P hn hdur.le _ hδ
    exact ⟨_, K, hδ, by rw [htemporal, resample_temporal sqrt trunc g P feat hn, hK], hb⟩

/-! ### millisecond stamps (composition with the C03 model) -/

/-- contract of `⌊1000·t⌋` on an instant that is a whole number of milliseconds -/
def MsSpec (ms : α → Int) : Prop := ∀ m : Nat, ms ((m : α) / 1000) = (m : Int)

/-- every count of milliseconds reads as a well-formed calendar stamp, and back (C03) -/
theorem readUnixMs_spec (m : Nat) :
    TV.ObsTime.WFs (TV.ObsTime.readUnixMs m) ∧ TV.ObsTime.toAbsMs (TV.ObsTime.readUnixMs m) = m :=
  ⟨TV.C03.readUnix_wellFormed m, TV.C03.toAbs_readUnix m⟩

/-- S1 `temporal_stamps`. "…stamped with that instant to the millisecond". Instants requested as whole numbers of
milliseconds `m` (what an `ObsTime` holds), in any order, on a track whose stamps never decrease: the observations
returned carry, in order, exactly the stamps `ObsTime.readUnixTime(m/1000)` of the requested instants lying in
`(tini, tfin]` — `readUnixMs m` of the C03 model — and each of these is a well-formed calendar stamp that reads
back (`toAbsTime`) as `m` milliseconds exactly. (Exact arithmetic: in floats `int((t - int(t))·1000)` may truncate
to `m − 1`; that is sampled by the correspondence with a 1 ms tolerance.) -/
theorem temporal_stamps (trunc : α → Int) (ms : α → Int) (hms : MsSpec ms) (P : List (Fix α)) (hn : 0 < P.length)
    (hT : (P.map (·.t)).Pairwise (· ≤ ·)) (req : List Nat) :
    ∃ out, resampleTemporal trunc P (.instants (req.map (fun m : Nat => (m : α) / 1000))) = .ok out ∧
      stamps ms out
        = (req.filter (fun m : Nat => inRange (P[0]).t (P[P.length - 1]).t ((m : α) / 1000))).map
            (fun m => some (TV.ObsTime.readUnixMs m)) ∧
      (∀ m : Nat, TV.ObsTime.WFs (TV.ObsTime.readUnixMs m) ∧ TV.ObsTime.toAbsMs (TV.ObsTime.readUnixMs m) = m) := by
  obtain ⟨out, hout, _, _, hts⟩ := temporal_count_any_order trunc P hn hT (req.map (fun m : Nat => (m : α) / 1000))
  refine ⟨out, hout, ?_, readUnixMs_spec⟩
  have : stamps ms out = (out.map (·.t)).map (stampOf ms) := by rw [List.map_map]; rfl
  rw [this, hts, List.filter_map, List.map_map]
  refine List.map_congr_left fun m _ => ?_
  simp only [Function.comp, stampOf, hms m, Int.toNat_natCast]
  exact if_neg (by omega)

/-- T3d `spatial_pause`. Which leg a spatial sample uses when the track pauses (consecutive fixes at the same 2D
position, i.e. legs of length 0, so that several fixes share one curvilinear abscissa). For the sample at abscissa
`s ∈ (0, L]`, on the leg `r` of T3 (`S[r−1] < s ≤ S[r]`):
(a) every fix before `P[r]` has an abscissa `< s`: the leg ENDS at the FIRST fix at or beyond `s`; a sample falling
exactly on a pause (`s = S[r]`) is the fix at which the pause BEGINS, with its height and its time (arrival);
(b) every fix from `P[r]` on has an abscissa `> S[r−1]`: the leg STARTS at the LAST fix of abscissa `S[r−1]`; a sample
beyond a pause is interpolated, in height and in time, from the fix that ENDS the pause (departure) — never from
an earlier fix of the pause;
(c) no sample is ever interpolated on a leg of length 0 (`0 < legs[r−1]`). -/
theorem spatial_pause (P : List (Fix α)) (legs : List α) (hlen : legs.length + 1 = P.length)
    (hlegs : ∀ x ∈ legs, 0 ≤ x) (s : α) (h0 : 0 < s) (h1 : s ≤ polyLen legs) :
    ∃ (r : Nat) (_ : 1 ≤ r) (hr : r < P.length),
      (cum legs).getD (r - 1) 0 < s ∧ s ≤ (cum legs).getD r 0 ∧ 0 < legs[r - 1]'(by omega) ∧
      (∀ j, j < r → (cum legs).getD j 0 < s) ∧
      (∀ j, r ≤ j → j < P.length → (cum legs).getD (r - 1) 0 < (cum legs).getD j 0) ∧
      (s = (cum legs).getD r 0 → sampleS P (cum legs) s = P[r]) := by
  obtain ⟨r, hr1, hr, hlo, hhi, hleg, hpos, _, _, _, hsmp, _⟩ := spatial_on_polyline P legs hlen hlegs s h0 h1
  have hSlen := cum_length legs
  have hsorted := cum_sorted legs hlegs
  refine ⟨r, hr1, hr, hlo, hhi, hpos, fun j hj => ?_, fun j hrj hj => ?_, fun hs => ?_⟩
  · rw [getD0_eq _ _ (by omega)] at hlo ⊢
    exact lt_of_le_of_lt (getElem_mono hsorted (by omega) (by omega)) hlo
  · rw [getD0_eq _ _ (by omega)] at hlo hhi ⊢
    rw [getD0_eq _ _ (by omega)]
    exact lt_of_lt_of_le (lt_of_lt_of_le hlo hhi) (getElem_mono hsorted hrj (by omega))
  · rw [hsmp, ← hleg, ← hs, div_self (ne_of_gt (sub_pos.mpr hlo)), lerpFix_one, one_mul, add_sub_cancel]

/-- O1 `operators`. The operators of `Track` that delegate to linear resampling, on a non-empty track whose stamps
never decrease: `track // ref` returns exactly one observation per stamp of `ref` lying in `(tini, tfin]`, in the
order of `ref`, each the specification sample (T2) — the reference may be empty, hold one observation, be unsorted or
lie entirely outside the range; `track ** n` is `Track.resample(npts = n, mode = temporal)`; `track * k` is
`Track.resample(factor = k)` in the default spatial mode; all with an empty feature table. -/
theorem operators (sqrt : α → α) (trunc : α → Int) (g : α) (P : List (Fix α)) (feat : List String)
    (hn : 0 < P.length) (hT : (P.map (·.t)).Pairwise (· ≤ ·)) :
    (∀ Q : List (Fix α), floordiv sqrt trunc g P feat Q
        = .ok (((Q.map (·.t)).filter (inRange (P[0]).t (P[P.length - 1]).t)).map (sampleT P), [])) ∧
    (∀ n, pow sqrt trunc g P feat n = resample sqrt trunc g P feat ⟨2, none, some n, 1⟩) ∧
    (∀ k, mulNumber sqrt trunc g P feat k = resample sqrt trunc g P feat ⟨1, none, none, k⟩) := by
  refine ⟨fun Q => ?_, fun _ => rfl, fun _ => rfl⟩
  unfold floordiv
  rw [resample_temporal sqrt trunc g P feat hn, resampleTemporal_track, resampleTemporal_instants_any trunc P hn hT]

/-- O2 `sample_spec`. `interpolation.sample(track, t)` on a non-empty track whose stamps never decrease returns the
specification sample at `t` (T2) when `t ∈ (tini, tfin]` and raises IndexError otherwise. -/
theorem sample_spec (sqrt : α → α) (trunc : α → Int) (P : List (Fix α)) (hn : 0 < P.length)
    (hT : (P.map (·.t)).Pairwise (· ≤ ·)) (t : α) :
    sample sqrt trunc P t
      = if (P[0]).t < t ∧ t ≤ (P[P.length - 1]).t then .ok (sampleT P t) else .error .index := by
  have h := temporal_repeated trunc P hn hT t 1
  simp only [List.replicate_one] at h
  have h21 : ((2 : Nat) = 1) = False := by simp
  unfold sample interpResample
  simp only [h21, if_false, if_true, h]
  split_ifs <;> rfl

/-- O3 `synchronize_spec`. `synchronize(track1, track2)` on two non-empty tracks whose stamps never decrease
raises nothing and leaves both tracks with exactly the SAME timestamps `req`: in chronological order, precisely the
stamps of either track lying strictly inside the common time range `(max of the first stamps, min of the last
stamps)`, each track holding at every one of them its own specification sample (T2). When no stamp lies strictly
inside the common range both tracks come back empty. (A stamp present in both tracks appears once, except that the
de-duplication loop never tests the first two positions; see `syncDedup`.) -/
theorem synchronize_spec (sqrt : α → α) (trunc : α → Int) (g : α) (P1 P2 : List (Fix α)) (f1 f2 : List String)
    (hn1 : 0 < P1.length) (hn2 : 0 < P2.length)
    (hT1 : (P1.map (·.t)).Pairwise (· ≤ ·)) (hT2 : (P2.map (·.t)).Pairwise (· ≤ ·)) :
    ∃ req : List α,
      synchronize sqrt trunc g P1 P2 f1 f2
        = .ok ((req.map (sampleT P1), []), (req.map (sampleT P2), [])) ∧
      req.Pairwise (· ≤ ·) ∧
      (∀ t, t ∈ req ↔ (t ∈ P1.map (·.t) ∨ t ∈ P2.map (·.t)) ∧
        max (P1[0]).t (P2[0]).t < t ∧ t < min (P1[P1.length - 1]).t (P2[P2.length - 1]).t) ∧
      (req.map (sampleT P1)).map (·.t) = req ∧ (req.map (sampleT P2)).map (·.t) = req := by
  refine ⟨syncRequest (P1.map (·.t)) (P2.map (·.t)) (pmax (P1[0]).t (P2[0]).t)
      (pmin (P1[P1.length - 1]'(Nat.sub_one_lt_of_lt hn1)).t (P2[P2.length - 1]'(Nat.sub_one_lt_of_lt hn2)).t),
    ?_, syncRequest_sorted _ _ _ _, fun t => by rw [mem_syncRequest, pmax_eq, pmin_eq], map_t_sampleT P1 _, map_t_sampleT P2 _⟩
  unfold synchronize
  rw [head?_of_pos P1 hn1, head?_of_pos P2 hn2, getLast?_of_pos P1 hn1, getLast?_of_pos P2 hn2]
  simp only []
  -- every requested instant lies in the range of both tracks: nothing is filtered out
  rw [resample_instants_any sqrt trunc g P1 f1 hn1 hT1, resample_instants_any sqrt trunc g P2 f2 hn2 hT2,
    List.filter_eq_self.mpr fun a ha => (inRange_of_mem_syncRequest ha).1,
    List.filter_eq_self.mpr fun a ha => (inRange_of_mem_syncRequest ha).2]

omit [IsStrictOrderedRing α] in
/-- O4 `collection_resample`. `TrackCollection.resample(delta, ALGO_LINEAR, mode)` is `Track.resample(delta, mode)`
on every track, in order: it returns (all tracks resampled) exactly when every track's resampling returns, each
track getting its own result. -/
theorem collection_resample (sqrt : α → α) (trunc : α → Int) (g : α)
    (tracks : List (List (Fix α) × List String)) (mode : Nat) (d : Step α)
    (outs : List (List (Fix α) × List String)) :
    collResample sqrt trunc g tracks mode d = .ok outs ↔
      List.Forall₂ (fun tr out => resample sqrt trunc g tr.1 tr.2 ⟨mode, some d, none, 1⟩ = .ok out) tracks outs :=
  TV.Common.mapM_ok_iff_forall₂ _ tracks outs

/-- O5 `collection_floordiv`. `collection // ref` (`TrackCollection.__floordiv__`, fix commit ea8666e) on a
collection of non-empty tracks whose stamps never decrease raises nothing and returns, for every track in order, that
track's own TEMPORAL resampling at the stamps of the reference track: exactly one observation per stamp of `ref` lying
in the track's `(tini, tfin]`, in the order of `ref`, each the specification sample (T2), with an empty feature
table — i.e. `track // ref` for every track (O1). The reference may be empty, unsorted, or outside every range. -/
theorem collection_floordiv (sqrt : α → α) (trunc : α → Int) (g : α)
    (tracks : List (List (Fix α) × List String)) (Q : List (Fix α))
    (hne : ∀ tr ∈ tracks, 0 < tr.1.length) (hT : ∀ tr ∈ tracks, (tr.1.map (·.t)).Pairwise (· ≤ ·)) :
    collFloordiv sqrt trunc g tracks Q
      = .ok (tracks.map (fun tr =>
          (((Q.map (·.t)).filter (inRange (tr.1[0]?.getD zeroFix).t (tr.1[tr.1.length - 1]?.getD zeroFix).t)).map
            (sampleT tr.1), []))) ∧
    collFloordiv sqrt trunc g tracks Q = tracks.mapM (fun tr => floordiv sqrt trunc g tr.1 tr.2 Q) := by
  refine ⟨?_, rfl⟩
  unfold collFloordiv
  refine TV.Common.mapM_ok_of_forall fun tr htr => ?_
  have hn : 0 < tr.1.length := hne tr htr
  have e0 : tr.1[0]?.getD zeroFix = tr.1[0] := by simp [hn]
  have e1 : tr.1[tr.1.length - 1]?.getD zeroFix = tr.1[tr.1.length - 1] := by
    rw [List.getElem?_eq_getElem (by omega)]; rfl
  rw [e0, e1]
  exact (operators sqrt trunc g tr.1 tr.2 hn (hT tr htr)).1 Q

/-- T3e `spatial_equal_stamp_leg`. Spatial mode, a leg of positive 2D length whose two fixes carry the SAME timestamp
(the leg is travelled in no time): the sample taken on it at abscissa `s` is stamped with exactly that timestamp —
`wbwd·t + wfwd·t = t` in exact arithmetic. (In floats `wbwd + wfwd` is not exactly 1 and the weighted mean can be one ulp
below `t`, which `readUnixTime` truncated to the millisecond before — former finding `spatial-equal-stamp-leg-ms-decrease`,
repaired by the fix commit 20ed89f: the clamp returns `t` whatever the arithmetic, see T4'.) -/
theorem spatial_equal_stamp_leg (P : List (Fix α)) (legs : List α) (hlen : legs.length + 1 = P.length)
    (hlegs : ∀ x ∈ legs, 0 ≤ x) (s : α) (h0 : 0 < s) (h1 : s ≤ polyLen legs) :
    ∃ (r : Nat) (_ : 1 ≤ r) (hr : r < P.length),
      (cum legs).getD (r - 1) 0 < s ∧ s ≤ (cum legs).getD r 0 ∧
      ((P[r - 1]'(by omega)).t = P[r].t → (sampleS P (cum legs) s).t = P[r].t) := by
  obtain ⟨r, hr1, hr, hlo, hhi, _, _, _, _, _, hsmp, _⟩ := spatial_on_polyline P legs hlen hlegs s h0 h1
  refine ⟨r, hr1, hr, hlo, hhi, fun heq => ?_⟩
  rw [hsmp, heq]
  simp only [lerpFix, sub_self, mul_zero, add_zero]

/-- contract of `⌊1000·t⌋` (the millisecond an instant falls in) -/
def MsFloor (ms : α → Int) : Prop := ∀ t : α, ((ms t : Int) : α) ≤ t * 1000 ∧ t * 1000 < ((ms t : Int) : α) + 1

theorem intPart_le {m n : Int} {x y : α} (hm : (m : α) ≤ x) (hxy : x ≤ y) (hn : y < (n : α) + 1) : m ≤ n :=
  Int.lt_add_one_iff.mp (Int.cast_lt.mp (by push_cast; exact lt_of_le_of_lt (hm.trans hxy) hn))

theorem MsFloor.mono {ms : α → Int} (h : MsFloor ms) {a b : α} (hab : a ≤ b) : ms a ≤ ms b :=
  intPart_le (h a).1 (mul_le_mul_of_nonneg_right hab (by norm_num)) (h b).2

theorem MsFloor.nonneg {ms : α → Int} (h : MsFloor ms) {a : α} (ha : 0 ≤ a) : 0 ≤ ms a :=
  intPart_le Int.cast_zero.le (mul_nonneg ha (by norm_num)) (h a).2

theorem stampOf_of_nonneg {ms : α → Int} (h : MsFloor ms) {t : α} (ht : 0 ≤ t) :
    stampOf ms t = some (TV.ObsTime.readUnixMs (ms t).toNat) :=
  if_neg (not_lt.mpr (h.nonneg ht))

/-- S2 `spatial_stamps_monotone`. "…so that timestamps never decrease", on the calendar stamps the output observations
actually carry: spatial resampling (step `ds > 0`) of a track whose stamps never decrease (repeats allowed) and are not
before 1970 returns observations stamped `ObsTime.readUnixTime(t)` = `readUnixMs m` (C03 model) with `m = ⌊1000·t⌋` the
millisecond of the interpolated time `t`; these whole milliseconds never decrease along the output, and every such
stamp is a well-formed calendar stamp reading back (`toAbsTime`) as `m` ms exactly — so the stamps compared as instants
never decrease. (Exact arithmetic; T4' is what remains true of the times in any arithmetic.) -/
theorem spatial_stamps_monotone (trunc : α → Int) (htr : TruncSpec trunc) (ms : α → Int) (hms : MsFloor ms)
    (P : List (Fix α)) (legs : List α) (hlen : legs.length + 1 = P.length) (hlegs : ∀ x ∈ legs, 0 ≤ x)
    (hT : (P.map (·.t)).Pairwise (· ≤ ·)) (h0 : (0 : α) ≤ (P[0]'(by omega)).t) (ds : α) (hds : 0 < ds) :
    ∃ out, resampleSpatialLegs trunc P legs ds = .ok out ∧
      stamps ms out = (out.map (fun p => (ms p.t).toNat)).map (fun m => some (TV.ObsTime.readUnixMs m)) ∧
      (out.map (fun p => (ms p.t).toNat)).Pairwise (· ≤ ·) ∧
      (∀ p ∈ out, (((ms p.t).toNat : Nat) : α) ≤ p.t * 1000 ∧ p.t * 1000 < (((ms p.t).toNat : Nat) : α) + 1) ∧
      (∀ m : Nat, TV.ObsTime.WFs (TV.ObsTime.readUnixMs m) ∧ TV.ObsTime.toAbsMs (TV.ObsTime.readUnixMs m) = m) := by
  obtain ⟨N, heq, _, _⟩ := spatial_samples trunc htr P legs hlen hlegs hT ds hds
  obtain ⟨out, hout, hmono⟩ := spatial_time_monotone trunc htr P legs hlen hlegs hT ds hds
  -- the first output is the first fix, and the times never decrease: no output is before 1970
  have hnn : ∀ p ∈ out, (0 : α) ≤ p.t := by
    rw [heq] at hout
    cases hout
    intro p hp
    rcases List.mem_cons.mp hp with rfl | h
    · exact h0
    · exact le_trans h0 ((List.pairwise_cons.mp hmono).1 p.t (List.mem_map_of_mem h))
  refine ⟨out, hout, ?_, ?_, fun p hp => ?_, readUnixMs_spec⟩
  · rw [stamps, List.map_map]
    exact List.map_congr_left fun p hp => stampOf_of_nonneg hms (hnn p hp)
  · rw [List.pairwise_map] at hmono ⊢
    exact hmono.imp fun hab => Int.toNat_le_toNat (hms.mono hab)
  · rw [← Int.cast_natCast, Int.toNat_of_nonneg (hms.nonneg (hnn p hp))]
    exact hms p.t

/-! ### the stamp is `ObsTime.readUnixTime` of the interpolated time (composition with C03's float-path reader) -/

/-- the contract of `int()` used by C03's reader implies the one used by the resampling model -/
theorem truncSpec_of_truncZ {trunc : α → Int} (h : TV.ObsTime.TruncZ trunc) : TruncSpec trunc := fun x hx =>
  (TV.ObsTime.frac_bounds trunc h x hx).imp sub_nonneg.mp sub_lt_iff_lt_add'.mp

theorem natFloor_unique {x : α} {M N : Nat} (hM : (M : α) ≤ x) (hM' : x < (M : α) + 1) (hN : (N : α) ≤ x)
    (hN' : x < (N : α) + 1) : M = N :=
  Int.ofNat_inj.mp (le_antisymm (intPart_le (by simpa using hM) le_rfl (by simpa using hN'))
    (intPart_le (by simpa using hN) le_rfl (by simpa using hM')))

/-- S3 `stamp_is_readUnixTime`. What `stampOf` is by definition is a theorem about the mirrored code: for EVERY instant
`t ≥ 0` (1970 or later) — a whole number of milliseconds or not, e.g. the interpolated time of a spatial sample —
`ObsTime.readUnixTime(t)` run operation for operation on the fractional seconds (`stampG` = C03's `readUnixG`: year loop with
its fuel, month loop, the three truncated divisions, `ms = int((t − int(t))·1000)`) ends and returns exactly the calendar
fields of the integer reader on the millisecond `⌊1000·t⌋`: `stampG trunc t = (stampOf ms t).map toZ`, with
`stampOf ms t = some (readUnixMs ⌊1000·t⌋)`. (Exact arithmetic and an exact `int()`; at IEEE doubles `stampG` itself is what the
driver emits and the harness compares field for field with the real code.) -/
theorem stamp_is_readUnixTime (trunc : α → Int) (htz : TV.ObsTime.TruncZ trunc) (ms : α → Int) (hms : MsFloor ms)
    (t : α) (ht : 0 ≤ t) :
    stampG trunc t = (stampOf ms t).map TV.ObsTime.Stamp.toZ ∧
    stampOf ms t = some (TV.ObsTime.readUnixMs (ms t).toNat) := by
  refine ⟨?_, stampOf_of_nonneg hms ht⟩
  -- C03 (T7, T8): the reader returns a well-formed stamp whose count of milliseconds is the integer part of `1000·t`, as `ms t` is;
  -- `readUnixMs (ms t)` is another such stamp (T1, T2), and a well-formed stamp is determined by its count
  obtain ⟨hm1, hm2⟩ := hms t
  rw [← Int.toNat_of_nonneg (hms.nonneg ht), Int.cast_natCast] at hm1 hm2
  obtain ⟨hs1, hs2⟩ := TV.C03.readUnixSpec_ms trunc htz t ht
  rw [stampOf_of_nonneg hms ht, Option.map_some, stampG, TV.C03.readUnixG_eq trunc htz t ht,
    TV.ObsTime.toAbsMs_inj _ _ (TV.C03.readUnixG_wellFormed trunc htz t ht) (TV.C03.readUnix_wellFormed _)
      ((natFloor_unique hs1 hs2 hm1 hm2).trans (TV.C03.toAbs_readUnix _).symm)]

/-- S3 along a list of outputs none of which is before 1970 -/
theorem stampG_map (trunc : α → Int) (htz : TV.ObsTime.TruncZ trunc) (ms : α → Int) (hms : MsFloor ms)
    (out : List (Fix α)) (h : ∀ p ∈ out, (0 : α) ≤ p.t) :
    out.map (fun p => stampG trunc p.t) = (stamps ms out).map (Option.map TV.ObsTime.Stamp.toZ) ∧
    out.map (fun p => stampG trunc p.t) = out.map (fun p => some (TV.ObsTime.readUnixMs (ms p.t).toNat).toZ) := by
  constructor
  · rw [stamps, List.map_map]
    exact List.map_congr_left fun p hp => (stamp_is_readUnixTime trunc htz ms hms p.t (h p hp)).1
  · refine List.map_congr_left fun p hp => ?_
    obtain ⟨h1, h2⟩ := stamp_is_readUnixTime trunc htz ms hms p.t (h p hp)
    rw [h1, h2, Option.map_some]

/-- S2' `spatial_stamps_readUnixTime`. S2 about the stamps the mirrored code computes: spatial resampling (step `ds > 0`) of a
track whose stamps never decrease and are not before 1970 returns observations whose timestamps — `ObsTime.readUnixTime` run
operation for operation on each interpolated, generally non-integral time (`stampG`) — are exactly the model's `stampOf`, i.e.
the calendar stamps `readUnixMs m` of the milliseconds `m = ⌊1000·t⌋`, and these `m` never decrease along the output: the
timestamps `__resampleSpatial` actually attaches never decrease. (Exact arithmetic.) -/
theorem spatial_stamps_readUnixTime (trunc : α → Int) (htz : TV.ObsTime.TruncZ trunc) (ms : α → Int) (hms : MsFloor ms)
    (P : List (Fix α)) (legs : List α) (hlen : legs.length + 1 = P.length) (hlegs : ∀ x ∈ legs, 0 ≤ x)
    (hT : (P.map (·.t)).Pairwise (· ≤ ·)) (h0 : (0 : α) ≤ (P[0]'(by omega)).t) (ds : α) (hds : 0 < ds) :
    ∃ out, resampleSpatialLegs trunc P legs ds = .ok out ∧
      out.map (fun p => stampG trunc p.t) = (stamps ms out).map (Option.map TV.ObsTime.Stamp.toZ) ∧
      out.map (fun p => stampG trunc p.t)
        = (out.map (fun p => (ms p.t).toNat)).map (fun m => some (TV.ObsTime.readUnixMs m).toZ) ∧
      (out.map (fun p => (ms p.t).toNat)).Pairwise (· ≤ ·) := by
  obtain ⟨out, hout, _, hmono, hfl, _⟩ :=
    spatial_stamps_monotone trunc (truncSpec_of_truncZ htz) ms hms P legs hlen hlegs hT h0 ds hds
  have hnn : ∀ p ∈ out, (0 : α) ≤ p.t := fun p hp =>
    nonneg_of_mul_nonneg_left (le_trans (Nat.cast_nonneg _) (hfl p hp).1) (by norm_num)
  obtain ⟨e1, e2⟩ := stampG_map trunc htz ms hms out hnn
  exact ⟨out, hout, e1, by rw [e2, List.map_map]; rfl, hmono⟩

/-- S1' `temporal_stamps_readUnixTime`. S1 for instants that are NOT whole milliseconds, and about the stamps the mirrored code
computes: on a track whose stamps never decrease, first fix not before 1970, instants requested in any order (any scalars):
the observation returned for each instant `t ∈ (tini, tfin]` carries `ObsTime.readUnixTime(t)` (`stampG`) = the calendar stamp
of the millisecond `⌊1000·t⌋` the instant falls in — "stamped with that instant to the millisecond". (Exact arithmetic.) -/
theorem temporal_stamps_readUnixTime (trunc : α → Int) (htz : TV.ObsTime.TruncZ trunc) (ms : α → Int) (hms : MsFloor ms)
    (P : List (Fix α)) (hn : 0 < P.length) (hT : (P.map (·.t)).Pairwise (· ≤ ·)) (h0 : (0 : α) ≤ (P[0]).t)
    (ref : List α) :
    ∃ out, resampleTemporal trunc P (.instants ref) = .ok out ∧
      out.map (fun p => stampG trunc p.t)
        = (ref.filter (inRange (P[0]).t (P[P.length - 1]).t)).map
            (fun t => some (TV.ObsTime.readUnixMs (ms t).toNat).toZ) ∧
      out.map (fun p => stampG trunc p.t) = (stamps ms out).map (Option.map TV.ObsTime.Stamp.toZ) := by
  obtain ⟨out, hout, _, _, hts⟩ := temporal_count_any_order trunc P hn hT ref
  have hnn : ∀ p ∈ out, (0 : α) ≤ p.t := by
    intro p hp
    have hm : p.t ∈ out.map (·.t) := List.mem_map_of_mem hp
    rw [hts] at hm
    exact le_trans h0 ((inRange_iff _ _ _).mp (List.mem_filter.mp hm).2).1.le
  obtain ⟨e1, e2⟩ := stampG_map trunc htz ms hms out hnn
  exact ⟨out, hout, by rw [e2, ← hts, List.map_map]; rfl, e1⟩

/-- S2'' `spatial_first_stamp_carried`. The first output of `__resampleSpatial` is `track.getFirstObs().copy()`: it carries the
first fix's own `ObsTime` `s` instead of `readUnixTime` of its time (`spatialStampsG`). When that stamp is a well-formed calendar
stamp (`t₀ = s.toAbsTime()`), this is the same list of timestamps as re-reading every output's time (`stampG`), so S2' describes
the stamps the track really holds. (Exact arithmetic: C03's round trip `readUnixTime(toAbsTime()) = id`; in doubles the carried
stamp may be one millisecond later than the re-read one — the harness compares output 0 with the first fix's own stamp.) -/
theorem spatial_first_stamp_carried (trunc : α → Int) (htz : TV.ObsTime.TruncZ trunc)
    (P : List (Fix α)) (legs : List α) (hlen : legs.length + 1 = P.length) (hlegs : ∀ x ∈ legs, 0 ≤ x)
    (hT : (P.map (·.t)).Pairwise (· ≤ ·)) (ds : α) (hds : 0 < ds)
    (s : TV.ObsTime.Stamp) (hs : TV.ObsTime.WFs s) (h0 : (P[0]'(by omega)).t = TV.ObsTime.toAbsG s.toZ) :
    ∃ out, resampleSpatialLegs trunc P legs ds = .ok out ∧
      spatialStampsG trunc s.toZ out = out.map (fun p => stampG trunc p.t) := by
  obtain ⟨N, heq, _, _⟩ := spatial_samples trunc (truncSpec_of_truncZ htz) P legs hlen hlegs hT ds hds
  refine ⟨_, heq, ?_⟩
  have hrt : stampG trunc (P[0]'(by omega)).t = some s.toZ := h0 ▸ TV.C03.readUnixG_toAbsG trunc htz s hs
  simp only [spatialStampsG, List.map_cons, hrt]

/-! ### the clamp of the interpolated time (fix commit 20ed89f) -/

/-- T4c `spatial_clamp_exact`. In exact arithmetic the clamp `T = min(max(T, t_bwd), t_fwd)` added to `__resampleSpatial`
by the fix commit 20ed89f is a no-op: for a sample at abscissa `v` of a leg `vb < v ≤ vf` whose stamps satisfy
`tb ≤ tf`, the weighted mean `wbwd·tb + wfwd·tf` already lies in `[tb, tf]` and the clamped value is the linear
interpolation `tb + ((v − vb)/(vf − vb))·(tf − tb)` — so T3a, T3, T3d, T3e, T4, S2 describe the repaired code. -/
theorem spatial_clamp_exact (vb vf v tb tf : α) (h1 : vb < v) (h2 : v ≤ vf) (ht : tb ≤ tf) :
    clampT ((vf - v) / (vf - vb) * tb + (v - vb) / (vf - vb) * tf) tb tf
      = tb + (v - vb) / (vf - vb) * (tf - tb) ∧
    tb ≤ tb + (v - vb) / (vf - vb) * (tf - tb) ∧ tb + (v - vb) / (vf - vb) * (tf - tb) ≤ tf := by
  obtain ⟨f0, f1⟩ := frac_bounds vb vf v h1 h2
  exact ⟨clampT_combine vb vf v tb tf h1 h2 ht, lerp_bounds tb tf _ ht (le_of_lt f0) f1⟩

/-- T4' `spatial_time_clamped`. What the clamp guarantees WITHOUT exact arithmetic. `β` is any linearly ordered type
with four ARBITRARY operations `+ − × ÷` (no law is assumed: they may round as IEEE doubles do; the doubles other than
NaN are linearly ordered). On a track whose stamps never decrease (repeats allowed), whenever the loop of
`__resampleSpatial` returns, there is for every output `out[i]` the leg `legs[i]` (the value of `running_id`) such that
(a) the legs never go backwards;
(b) the time handed to `readUnixTime` lies between the stamps of the two fixes of its leg, `P[r−1].t ≤ t ≤ P[r].t`;
(c) hence two outputs on different legs are in chronological order, `out[i].t ≤ out[j].t`;
(d) an output on a leg travelled in no time (both fixes stamped `t`) is stamped exactly `t`, so two outputs of such a leg
are in order too (the repaired defect: they were `t` and `t − 1 ulp`);
(e) no output is earlier than the first fix, which `__resampleSpatial` puts in front.
The only pairs NOT ordered by the clamp alone are two samples of one leg of positive duration: their order is that of the
two weighted means, which needs the arithmetic (T4, exact). -/
theorem spatial_time_clamped {β : Type} [LinearOrder β] [Add β] [Sub β] [Mul β] [Div β] [OfNat β 0] [NatCast β]
    (P : List (Fix β)) (hT : (P.map (·.t)).Pairwise (· ≤ ·)) (S : List β) (sini sfin ds : β) (n k rid : Nat)
    (out : List (Fix β)) (h : spatialLoop P S sini sfin ds n k rid = .ok out) :
    ∃ (legs : List Nat) (hl : legs.length = out.length), legs.Pairwise (· ≤ ·) ∧
      (∀ i (hi : i < out.length), ∃ pb pf, P[legs[i] - 1]? = some pb ∧ P[legs[i]]? = some pf ∧
        pb.t ≤ out[i].t ∧ out[i].t ≤ pf.t) ∧
      (∀ i j (_ : i < j) (hj : j < out.length), legs[i]'(by omega) < legs[j] → (out[i]'(by omega)).t ≤ out[j].t) ∧
      (∀ i (hi : i < out.length) pb pf, P[legs[i] - 1]? = some pb → P[legs[i]]? = some pf → pb.t = pf.t →
        out[i].t = pf.t) ∧
      (∀ o ∈ out, ∀ p0, P[0]? = some p0 → p0.t ≤ o.t) := by
  obtain ⟨legs, hF, hch⟩ := spatialLoop_any P hT S sini sfin ds n k rid out h
  have hl : legs.length = out.length := hF.length_eq
  have hget : ∀ i (hi : i < out.length), OnLeg P (legs[i]'(by omega)) out[i] := by
    intro i hi
    have := (List.forall₂_iff_get.mp hF).2 i (by omega) hi
    simpa using this
  refine ⟨legs, hl, (List.isChain_iff_pairwise.mp hch).of_cons, fun i hi => hget i hi, ?_, ?_, ?_⟩
  · intro i j hij hj hlt
    exact onLeg_le P hT (hget i (by omega)) (hget j hj) hlt
  · intro i hi pb pf e1 e2 heq
    obtain ⟨pb', pf', e1', e2', c1, c2⟩ := hget i hi
    rw [e1] at e1'; rw [e2] at e2'
    cases e1'; cases e2'
    exact le_antisymm c2 (heq ▸ c1)
  · intro o ho p0 hp0
    obtain ⟨i, hi, rfl⟩ := List.getElem_of_mem ho
    obtain ⟨pb, _, e1, _, c1, _⟩ := hget i hi
    exact le_trans (times_le P hT hp0 e1 (Nat.zero_le _)) c1

/-! ### non-vacuity -/

/-- the contract of `int()` is met by the floor function on ℚ (what the driver uses on non-negative values) -/
example : TruncSpec (fun x : ℚ => ⌊x⌋) :=
  truncSpec_of_truncZ fun x hx => ⟨Int.floor_nonneg.mpr hx, Int.floor_le x, Int.lt_floor_add_one x⟩

/-- an irregularly sampled track with a pause: 4 fixes at 10, 20, 25, 40.5 s; legs 5, 0, 5 -/
def demo : List (Fix ℚ) := [⟨0, 0, 0, 10⟩, ⟨3, 4, 10, 20⟩, ⟨3, 4, 10, 25⟩, ⟨6, 8, 0, 81/2⟩]

example : (demo.map (·.t)).Pairwise (· < ·) := by decide +kernel
example : ([5, 10, 11, 20, 81/2, 41] : List ℚ).Pairwise (· ≤ ·) := by decide +kernel
/-- instants before, at and after both ends: 5 and 10 are dropped (not after the first stamp), 41 is after the end -/
example : resampleTemporal (fun x : ℚ => x.floor) demo (.instants [5, 10, 11, 20, 81/2, 41])
    = .ok [⟨3/10, 2/5, 1, 11⟩, ⟨3, 4, 10, 20⟩, ⟨6, 8, 0, 81/2⟩] := by decide +kernel
/-- a step that does not divide the duration: 10 samples at 13, 16, …, 40 s -/
example : (resampleTemporal (fun x : ℚ => x.floor) demo (.number 3)).toOption.map List.length = some 10 := by
  decide +kernel
/-- spatial step 2 on legs 5, 0, 5: first fix + 5 samples, the last one on the last fix -/
example : resampleSpatialLegs (fun x : ℚ => x.floor) demo [5, 0, 5] 2
    = .ok [⟨0, 0, 0, 10⟩, ⟨6/5, 8/5, 4, 14⟩, ⟨12/5, 16/5, 8, 18⟩, ⟨18/5, 24/5, 8, 281/10⟩,
           ⟨24/5, 32/5, 4, 343/10⟩, ⟨6, 8, 0, 81/2⟩] := by decide +kernel

/-- T1' is not vacuous (former finding `unsorted-request-list`, repaired by ee0419b): instants that are not in
chronological order are interpolated on their own legs (`t = 15` at `(5, 0)`), an instant after the end is skipped
without ending the loop, and a repeated instant is answered twice. -/
example : resampleTemporal (fun x : ℚ => x.floor) [⟨0, 0, 0, 10⟩, ⟨10, 0, 0, 20⟩, ⟨10, 10, 0, 30⟩] (.instants [25, 15, 40, 30, 12, 12, 5])
    = .ok [⟨10, 5, 0, 25⟩, ⟨5, 0, 0, 15⟩, ⟨10, 10, 0, 30⟩, ⟨2, 0, 0, 12⟩, ⟨2, 0, 0, 12⟩] := by decide +kernel
example : resampleTemporal (fun x : ℚ => x.floor) [⟨0, 0, 0, 10⟩, ⟨10, 0, 0, 20⟩] (.instants [21, 15])
    = .ok [⟨5, 0, 0, 15⟩] := by decide +kernel

/-- `demo` has stamps 10, 20, 25, 40.5 s: every instant of this request is outside `(10, 40.5]` -/
example : resampleTemporal (fun x : ℚ => x.floor) demo (.instants [41, 10, 5, 100, 10]) = .ok [] := by decide +kernel
example : resampleTemporal (fun x : ℚ => x.floor) demo (.instants []) = .ok [] := by decide +kernel
example : resampleTemporal (fun x : ℚ => x.floor) demo (.track []) = .ok [] := by decide +kernel
/-- a reference track with one observation (only its stamp is read) -/
example : resampleTemporal (fun x : ℚ => x.floor) demo (.track [⟨100, 100, 100, 15⟩]) = .ok [⟨3/2, 2, 5, 15⟩] := by
  decide +kernel
/-- a one-fix track has an empty range -/
example : resampleTemporal (fun x : ℚ => x.floor) [(⟨1, 2, 3, 10⟩ : Fix ℚ)] (.instants [5, 10, 11]) = .ok [] := by
  decide +kernel
/-- a repeated instant is answered as many times as it is requested -/
example : resampleTemporal (fun x : ℚ => x.floor) demo (.instants [15, 15, 15])
    = .ok [⟨3/2, 2, 5, 15⟩, ⟨3/2, 2, 5, 15⟩, ⟨3/2, 2, 5, 15⟩] := by decide +kernel
/-- an empty request through the front end is NOT `delta = None`: nothing comes out although `npts = 5` is given;
`delta = None` with the same `npts` resamples regularly -/
example : resample (fun x : ℚ => x) (fun x : ℚ => x.floor) 1 demo ["speed"] ⟨2, some (.instants []), some 5, 1⟩
    = .ok ([], []) := by decide +kernel
example : (resample (fun x : ℚ => x) (fun x : ℚ => x.floor) 1 demo ["speed"] ⟨2, none, some 5, 1⟩).toOption.map
    (fun r => r.1.length) = some 5 := by decide +kernel
/-- T5 on a concrete input, spatial mode: with the stand-in `sqrt = id` the 2D legs of `demo` are 25, 0, 25 and the 3D legs
125, 0, 125; `npts = 10` derives the step 250/10 = 25 and the output is the first fix and the samples at abscissas 25 and 50
(3 observations, not 10: the step comes from the 3D length, the samples are laid along the 2D polyline) -/
example : (resample (fun x : ℚ => x) (fun x : ℚ => x.floor) 1 demo ["speed"] ⟨1, none, some 10, 1⟩).toOption.map
    (fun r => r.1.map (·.x)) = some [0, 3, 6] := by decide +kernel
example : (0 : ℚ) < total (legs3D (fun x : ℚ => x) demo) ∧ (demo[0]).t < (demo[demo.length - 1]).t := by decide +kernel

/-- the contract of `⌊1000·t⌋` is met on ℚ -/
example : MsSpec (fun t : ℚ => (t * 1000).floor) := by
  intro m
  have : ((m : ℚ) / 1000 * 1000) = ((m : Int) : ℚ) := by
    rw [div_mul_cancel₀ _ (by norm_num : (1000 : ℚ) ≠ 0)]; simp
  simp only [this]
  exact Rat.floor_intCast _
/-- stamps to the millisecond: 10.999 s is not after the first fix… 11.001 s, 20 s, 40.5 s are stamped
00:00:11.001, 00:00:20.000, 00:00:40.500 of 1970-01-01; 40.501 s is after the last fix -/
example : (resampleTemporal (fun x : ℚ => x.floor) demo
      (.instants (([9999, 11001, 20000, 40500, 40501] : List Nat).map (fun m : Nat => (m : ℚ) / 1000)))).toOption.map
      (stamps (fun t : ℚ => (t * 1000).floor))
    = some [some ⟨⟨1970, 1, 1, 0, 0, 11⟩, 1⟩, some ⟨⟨1970, 1, 1, 0, 0, 20⟩, 0⟩, some ⟨⟨1970, 1, 1, 0, 0, 40⟩, 500⟩] := by
  decide +kernel

/-- pauses: on `demo` (legs 5, 0, 5: the track pauses at (3,4) from 20 s to 25 s, its height unchanged) the sample at
abscissa 5 is the fix where the pause BEGINS (20 s); the sample at abscissa 6 is interpolated from the fix that ENDS
the pause: `t = 25 + (1/5)·15.5 = 28.1 s` (not `20 + …`), `z = 10 + (1/5)·(0 − 10) = 8` -/
example : sampleS demo (cum [5, 0, 5]) 5 = ⟨3, 4, 10, 20⟩ := by decide +kernel
example : sampleS demo (cum [5, 0, 5]) 6 = ⟨18/5, 24/5, 8, 281/10⟩ := by decide +kernel

/-- `track // ref`: a reference with stamps before, inside (unsorted, repeated) and after the range -/
example : floordiv (fun x : ℚ => x) (fun x : ℚ => x.floor) 1 demo ["speed"]
      [⟨0, 0, 0, 30⟩, ⟨0, 0, 0, 5⟩, ⟨0, 0, 0, 15⟩, ⟨0, 0, 0, 15⟩, ⟨0, 0, 0, 50⟩]
    = .ok ([⟨123/31, 164/31, 210/31, 30⟩, ⟨3/2, 2, 5, 15⟩, ⟨3/2, 2, 5, 15⟩], []) := by decide +kernel
example : floordiv (fun x : ℚ => x) (fun x : ℚ => x.floor) 1 demo [] [] = .ok ([], []) := by decide +kernel
example : sample (fun x : ℚ => x) (fun x : ℚ => x.floor) demo 15 = .ok ⟨3/2, 2, 5, 15⟩ := by decide +kernel
example : sample (fun x : ℚ => x) (fun x : ℚ => x.floor) demo 10 = .error .index := by decide +kernel

/-- `synchronize`: tracks over [0, 25] and [5, 47] s; the stamps strictly inside (5, 25) are 12 (both tracks), 14, 20 -/
def syncA : List (Fix ℚ) := [⟨0, 0, 0, 0⟩, ⟨5, 0, 0, 12⟩, ⟨5, 0, 0, 14⟩, ⟨9, 0, 0, 25⟩]
def syncB : List (Fix ℚ) := [⟨0, 1, 0, 5⟩, ⟨7, 1, 0, 12⟩, ⟨8, 1, 0, 20⟩, ⟨9, 1, 0, 47⟩]
example : synchronize (fun x : ℚ => x) (fun x : ℚ => x.floor) 1 syncA syncB [] ["f"]
    = .ok (([⟨5, 0, 0, 12⟩, ⟨5, 0, 0, 12⟩, ⟨5, 0, 0, 14⟩, ⟨5 + 24/11, 0, 0, 20⟩], []),
           ([⟨7, 1, 0, 12⟩, ⟨7, 1, 0, 12⟩, ⟨7 + 1/4, 1, 0, 14⟩, ⟨8, 1, 0, 20⟩], [])) := by decide +kernel
/-- tracks that overlap on (20, 25) only, where neither has a fix: no instant is requested, both come back empty -/
example : synchronize (fun x : ℚ => x) (fun x : ℚ => x.floor) 1
      [⟨0, 0, 0, 0⟩, ⟨5, 0, 0, 12⟩, ⟨9, 0, 0, 25⟩] [⟨0, 1, 0, 20⟩, ⟨5, 1, 0, 33⟩, ⟨9, 1, 0, 47⟩] [] []
    = .ok (([], []), ([], [])) := by decide +kernel

/-- a collection of two tracks resampled every 10 s -/
example : (collResample (fun x : ℚ => x) (fun x : ℚ => x.floor) 1 [(syncA, []), (syncB, ["f"])] 2 (.number 10)).toOption.map
    (fun l => l.map (fun r => (r.1.map (·.t), r.2))) = some [([10, 20], []), ([15, 25, 35, 45], [])] := by decide +kernel
/-- `collection // ref` (fix commit ea8666e): every track is resampled IN TIME at the stamps of the reference — here
`syncB`'s stamps 5, 12, 20, 47 s, of which 5, 12, 20 lie in `syncA`'s range (0, 25] and 12, 20, 47 in `syncB`'s (5, 47] -/
example : (collFloordiv (fun x : ℚ => x) (fun x : ℚ => x.floor) 1 [(syncA, ["f"]), (syncB, [])] syncB).toOption.map
    (fun l => l.map (fun r => (r.1.map (·.t), r.2))) = some [([5, 12, 20], []), ([12, 20, 47], [])] := by decide +kernel
example : collFloordiv (fun x : ℚ => x) (fun x : ℚ => x.floor) 1 [(syncA, [])] syncB
    = .ok [([⟨25/12, 0, 0, 5⟩, ⟨5, 0, 0, 12⟩, ⟨5 + 24/11, 0, 0, 20⟩], [])] := by decide +kernel

/-- fixes 1 and 2 share the stamp 20 s at different positions (3,4) and (6,0); legs 5, 5, 5 -/
def demoRep : List (Fix ℚ) := [⟨0, 0, 0, 10⟩, ⟨3, 4, 1, 20⟩, ⟨6, 0, 2, 20⟩, ⟨9, 4, 3, 30⟩]

example : (demoRep.map (·.t)).Pairwise (· ≤ ·) := by decide +kernel
/-- 15 s lies between fixes 0 and 1, 25 s between fixes 2 and 3 (the LAST fix stamped 20 s starts that leg); the repeated
stamp itself is answered with the FIRST fix carrying it -/
example : resampleTemporal (fun x : ℚ => x.floor) demoRep (.instants [15, 20, 25])
    = .ok [⟨3/2, 2, 1/2, 15⟩, ⟨3, 4, 1, 20⟩, ⟨15/2, 2, 5/2, 25⟩] := by decide +kernel
/-- a long track: 18 fixes of a 2 Hz receiver with a 1 s clock (fix `i` at x = 10·i, stamped `⌊i/2⌋` s); the instant 3.5 s
lies between fix 7 (the last one stamped 3 s) and fix 8 (the first one stamped 4 s) -/
def demo2Hz : List (Fix ℚ) := (List.range 18).map (fun (i : Nat) => ⟨10 * (i : ℚ), 0, 0, ((Nat.div i 2 : Nat) : ℚ)⟩)
example : (demo2Hz.map (·.t)).Pairwise (· ≤ ·) := by decide +kernel
example : resampleTemporal (fun x : ℚ => x.floor) demo2Hz (.instants [7/2, 4, 1/2])
    = .ok [⟨75, 0, 0, 7/2⟩, ⟨80, 0, 0, 4⟩, ⟨15, 0, 0, 1/2⟩] := by decide +kernel
/-- spatial mode: the sample at abscissa 6 lies on the leg travelled in no time (20 s → 20 s) and is stamped 20 s -/
example : sampleS demoRep (cum [5, 5, 5]) 6 = ⟨18/5, 16/5, 6/5, 20⟩ := by decide +kernel
/-- the contract of `⌊1000·t⌋` is met on ℚ -/
example : MsFloor (fun t : ℚ => (t * 1000).floor) := fun _ => ⟨Int.floor_le _, Int.lt_floor_add_one _⟩
/-- the stamps of `demoRep` resampled every 2 m: 10 s, then 14, 18, 20, 20 (both on the no-time leg), 20, 24, 28 s -/
example : (resampleSpatialLegs (fun x : ℚ => x.floor) demoRep [5, 5, 5] 2).toOption.map
      (fun out => out.map (fun p => ((p.t * 1000).floor).toNat))
    = some [10000, 14000, 18000, 20000, 20000, 20000, 24000, 28000] := by decide +kernel

/-- the contract of `int()` of C03's reader is met on ℚ -/
example : TV.ObsTime.TruncZ (fun x : ℚ => x.floor) :=
  fun x hx => ⟨Int.floor_nonneg.mpr hx, Int.floor_le x, Int.lt_floor_add_one x⟩
/-- S3 on an instant that is not a whole millisecond: 38.5 s + 1/3 ms reads as 1970-01-01 00:00:38.500 by the mirrored
float-path reader, which is `stampOf` (⌊1000·t⌋ = 38500) seen as an `ObsTime` -/
example : stampG (fun x : ℚ => x.floor) (77/2 + 1/3000) = some ⟨1970, 1, 1, 0, 0, 38, 500⟩ := by decide +kernel
example : (stampOf (fun t : ℚ => (t * 1000).floor) (77/2 + 1/3000)).map TV.ObsTime.Stamp.toZ
    = some ⟨1970, 1, 1, 0, 0, 38, 500⟩ := by decide +kernel

/-- the clamp acts on a value outside the two stamps (what a rounded weighted mean may be) and leaves one inside alone -/
example : clampT (77/2 - 1/1000000 : ℚ) (77/2) (77/2) = 77/2 := by decide +kernel
example : clampT (12 : ℚ) 10 20 = 12 ∧ clampT (9 : ℚ) 10 20 = 10 ∧ clampT (21 : ℚ) 10 20 = 20 := by decide +kernel

end TV.C05
