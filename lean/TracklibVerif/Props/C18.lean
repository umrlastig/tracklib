import TracklibVerif.Lemmas.DTWTable
import TracklibVerif.Lemmas.FDTW
import TracklibVerif.Lemmas.DTWFront
import TracklibVerif.Lemmas.DTWScale
import TracklibVerif.Lemmas.DTWReal
import TracklibVerif.Lemmas.DTWFastSession
import Mathlib.Analysis.SpecialFunctions.Pow.Real
import Mathlib.Analysis.Real.Sqrt
import Mathlib.Algebra.Order.Field.Basic
import Mathlib.Tactic.Ring
import Mathlib.Algebra.Order.Ring.Rat
/-! # C18 — time-warping cost is the optimal coupling cost and the matching realises it

The property theorems, with the common statements they are read off from (`warpW_correct`, `session_history`; other helpers: `Lemmas/DTW.lean`, `Lemmas/DTWTable.lean`, `Lemmas/FDTW.lean`, `Lemmas/DTWFront.lean`,
`Lemmas/DTWScale.lean`, `Lemmas/DTWReal.lean`, `Lemmas/DTWFastSession.lean`). They are
about the executable model of `Model/DTWTable.lean` — the table form that the driver runs and the correspondence check
compares with `tracklib.algo.comparison.match` / `compare` — for **all** pairs of non-empty tracks, **every point distance**
`dist` (what `_distance(·, ·, dim)` computes: `dim` 1, 2, 3 or a callable, positions of class `ENUCoords`, `GeoCoords` or
`ECEFCoords`), and every accumulation `w` that is monotone in the accumulated cost (`A + B**p` and `max(A, B)` are).

Layers: `dtw` / `fdtw` (the two algorithms, any accumulation, any point distance) — sections `coupling`, `generic`, `links`, `features`; the same for what
every front end is once `_p2weight` has returned an accumulation (`warpW`) — section `warp`; `_distance`,
`_exponent`, `_p2weight` and the front ends `matchCall` / `compareCall` as they are called (mode constant, `p` as type name + value
— a numpy scalar `p` is the Python number of the same value since 1f009f6: `exponent_numpy`, `match_numpy_scalar` —, `dim` as
a number or a callable, the class of the positions, a track1 that may carry the features of an earlier matching) — sections
`p2w`, `dist`, `forms`, `session`, `cmpValue`, `cmpgen`; `matchTracks` / `compareTracks` (the same calls on tracks without features, `p` a Python number)
over an ordered field — section `field`; the same front ends with an exponent `p` that is any positive number (`p = 0.5`, `1.5`, …:
`Model/DTWReal.lean`, what the driver runs; `B**p` a parameter) — section `realexp`, and `session` for the sessions. The swapped-call clause needs a symmetric point distance: `_distance` is symmetric
on `ENUCoords` (any `dim`) and for `dim = 3` on the other two classes (`distanceOf_symm`); `GeoCoords.distance2DTo` (`dim = 2`)
is **not** — it measures in the local frame of its argument — so for `GeoCoords` tracks with different heights the two call
orders give different scores (finding `geo-2d-distance-asymmetric`; everything but the swap clause holds: `match_onesided`).

Vocabulary: `S` is the list built by the backward step of `_dtw` (last pair first); `BackPath S` says that `S` is a
monotone coupling with unit steps that ends at `(0,0)`; `costBack w 0 D S` is its accumulated cost
`w(… w(w(0, D[0,0]), D[s₁]) …, D[last])`; `Dmat dist` is the code's distance matrix (`rows = track2`, `columns = track1`);
`partners S.reverse j` is the content of the `pair` feature of observation `j` of the output. -/
namespace TV.C18
open TV.DTW

section coupling
variable {α : Type} [LinearOrder α] [OfNat α 0]

/-- a coupling of the two tracks: a list of pairs (last pair first) from `(n2-1, n1-1)` down to `(0,0)` by unit steps -/
def IsCouplingOf (n1 n2 : Nat) (S : List (Nat × Nat)) : Prop :=
  BackPath S ∧ S.head? = some (n2 - 1, n1 - 1)

theorem optimal_of_table {dist : Pt α → Pt α → α} {w : α → α → α} (hw : ∀ a b d, a ≤ b → w a d ≤ w b d) {t1 t2 : List (Pt α)}
    {o : Out α} (hs : o.score = T w 0 (Dmat dist t1 t2) (t2.length - 1) (t1.length - 1)) :
    ∀ S, IsCouplingOf t1.length t2.length S → o.score ≤ costBack w 0 (Dmat dist t1 t2) S :=
  fun S hS => hs ▸ T_le w 0 _ hw _ _ _ (backPath_coupling w 0 _ S _ _ hS.1 hS.2)

end coupling

section generic
variable {α : Type} [Add α] [Sub α] [Mul α] [LinearOrder α] [OfNat α 0]

/-- T1 `table_optimal`: the score that `_dtw` reports (`T[-1,-1]`) is the minimum, over **all** monotone unit-step
couplings from the first pair to the last pair, of the accumulated cost: it is a lower bound of the cost of every
coupling, and some coupling attains it. Only monotonicity of `w` in the accumulated cost is used; `dist` is any function
of two positions (nothing is assumed of it: not symmetry, not sign, not the triangle inequality). -/
theorem table_optimal (dist : Pt α → Pt α → α) (w : α → α → α) (hw : ∀ a b d, a ≤ b → w a d ≤ w b d)
    (t1 t2 : List (Pt α)) (h1 : 0 < t1.length) (h2 : 0 < t2.length) :
    ∃ out, dtw dist w t1 t2 = some out ∧
      (∀ S, IsCouplingOf t1.length t2.length S → out.score ≤ costBack w 0 (Dmat dist t1 t2) S) ∧
      (∃ S, IsCouplingOf t1.length t2.length S ∧ costBack w 0 (Dmat dist t1 t2) S = out.score) := by
  obtain ⟨hS, hc⟩ := walkF_last dist w t1 t2
  exact ⟨_, dtw_spec dist w t1 t2 h1 h2 _ (List.length_map _), optimal_of_table hw rfl, _, hS, hc⟩

/-- T2 `score_symmetric`: swapping the two tracks does not change the score (the lattice is transposed), provided the
point distance is symmetric (`distanceOf_symm` below: over an ordered field `_distance` is, on `ENUCoords` for every `dim` and on
`GeoCoords` / `ECEFCoords` for `dim = 3`; `GeoCoords.distance2DTo` is not). -/
theorem score_symmetric (dist : Pt α → Pt α → α) (w : α → α → α)
    (hd : ∀ p q : Pt α, dist p q = dist q p)
    (t1 t2 : List (Pt α)) (h1 : 0 < t1.length) (h2 : 0 < t2.length) :
    ∃ o12 o21, dtw dist w t1 t2 = some o12 ∧ dtw dist w t2 t1 = some o21 ∧ o12.score = o21.score :=
  ⟨_, _, dtw_spec dist w t1 t2 h1 h2 _ (List.length_map _), dtw_spec dist w t2 t1 h2 h1 _ (List.length_map _),
    (T_swap dist hd w t1 t2 _ _).symm⟩

/-- T3 `path_valid`: the list `S` produced by the backward walk through `M` is a monotone coupling with unit steps from
the last pair down to `(0,0)`; `nb_links` is its length; the `pair` feature of the output lists exactly its pairs
(`i ∈ pair[j] ↔ (i, j) ∈ S`); consequently every observation of track1 has at least one partner and every observation of
track2 is the partner of some observation of track1. -/
theorem path_valid (dist : Pt α → Pt α → α) (w : α → α → α)
    (t1 t2 : List (Pt α)) (h1 : 0 < t1.length) (h2 : 0 < t2.length) :
    ∃ out, dtw dist w t1 t2 = some out ∧
      IsCouplingOf t1.length t2.length out.S ∧
      out.nbLinks = out.S.length ∧ out.rows.length = t1.length ∧
      (∀ s ∈ out.S, s.1 < t2.length ∧ s.2 < t1.length) ∧
      (∀ j, j < t1.length → ∃ r : Row α, out.rows[j]? = some r ∧ (∀ i, i ∈ r.pair ↔ (i, j) ∈ out.S) ∧ r.pair ≠ []) ∧
      (∀ i, i < t2.length → ∃ (j : Nat) (r : Row α), out.rows[j]? = some r ∧ i ∈ r.pair) := by
  obtain ⟨hS, _⟩ := walkF_last dist w t1 t2
  exact ⟨_, dtw_spec dist w t1 t2 h1 h2 _ (List.length_map _), hS, rfl, outOf_length dist t1 t2 _ _,
    outOf_links dist t1 t2 _ _ hS h1 h2⟩

/-- T4 `path_realises`: the accumulated cost of the returned coupling equals the reported score. This is where the
predecessor encoding matters: each back-pointer designates a *minimal* predecessor (`T_pred`; false before 42f835b). -/
theorem path_realises (dist : Pt α → Pt α → α) (w : α → α → α)
    (t1 t2 : List (Pt α)) (h1 : 0 < t1.length) (h2 : 0 < t2.length) :
    ∃ out, dtw dist w t1 t2 = some out ∧ costBack w 0 (Dmat dist t1 t2) out.S = out.score :=
  ⟨_, dtw_spec dist w t1 t2 h1 h2 _ (List.length_map _), (walkF_last dist w t1 t2).2⟩

/-- T5 `fdtw_equal`: the fast variant `_fdtw` (best-first search with `priority_dict`) reports the same score as
`_dtw`, for every accumulation that is monotone in the accumulated cost and inflationary on the distances at hand
(`a ≤ w a d`: true for `a + d^p` with `d ≥ 0` and for `max`), `big` (the 1e300 placeholder priority) being above every
candidate cost. The queue is only assumed to return *an* entry of least priority (ties between keys are irrelevant). -/
theorem fdtw_equal (dist : Pt α → Pt α → α) (big : α) (w : α → α → α) (t1 t2 : List (Pt α))
    (h1 : 0 < t1.length) (h2 : 0 < t2.length)
    (hw : ∀ a b d, a ≤ b → w a d ≤ w b d)
    (hinf : ∀ a i j, i < t2.length → j < t1.length → a ≤ w a (Dmat dist t1 t2 i j))
    (hbig : ∀ i j i' j', i < t2.length → j < t1.length → i' < t2.length → j' < t1.length →
      w (T w 0 (Dmat dist t1 t2) i j) (Dmat dist t1 t2 i' j') < big) :
    ∃ od ofast, dtw dist w t1 t2 = some od ∧ fdtw dist big w t1 t2 = some ofast ∧ ofast.score = od.score := by
  obtain ⟨_, _, hc, he⟩ := fdtw_spec dist big w t1 t2 h1 h2 hw hinf hbig
  exact ⟨_, _, dtw_spec dist w t1 t2 h1 h2 _ (List.length_map _), he _ (List.length_map _), hc⟩

/-- T5b `fdtw_path`: the matching returned by the fast variant is also a monotone unit-step coupling from the last pair
to `(0,0)` (walk through the antecedent map `A`), its accumulated cost is the reported score, `nb_links` and the `pair`
feature describe it, and nobody is left out. -/
theorem fdtw_path (dist : Pt α → Pt α → α) (big : α) (w : α → α → α) (t1 t2 : List (Pt α))
    (h1 : 0 < t1.length) (h2 : 0 < t2.length)
    (hw : ∀ a b d, a ≤ b → w a d ≤ w b d)
    (hinf : ∀ a i j, i < t2.length → j < t1.length → a ≤ w a (Dmat dist t1 t2 i j))
    (hbig : ∀ i j i' j', i < t2.length → j < t1.length → i' < t2.length → j' < t1.length →
      w (T w 0 (Dmat dist t1 t2) i j) (Dmat dist t1 t2 i' j') < big) :
    ∃ out, fdtw dist big w t1 t2 = some out ∧
      IsCouplingOf t1.length t2.length out.S ∧
      costBack w 0 (Dmat dist t1 t2) out.S = out.score ∧
      out.nbLinks = out.S.length ∧ out.rows.length = t1.length ∧
      (∀ s ∈ out.S, s.1 < t2.length ∧ s.2 < t1.length) ∧
      (∀ j, j < t1.length → ∃ r : Row α, out.rows[j]? = some r ∧ (∀ i, i ∈ r.pair ↔ (i, j) ∈ out.S) ∧ r.pair ≠ []) ∧
      (∀ i, i < t2.length → ∃ (j : Nat) (r : Row α), out.rows[j]? = some r ∧ i ∈ r.pair) := by
  obtain ⟨S, hS, _, he⟩ := fdtw_spec dist big w t1 t2 h1 h2 hw hinf hbig
  exact ⟨_, he _ (List.length_map _), hS, rfl, rfl, outOf_length dist t1 t2 _ _, outOf_links dist t1 t2 _ _ hS h1 h2⟩

end generic

section warp
variable {α : Type} [Add α] [Sub α] [Mul α] [Div α] [Neg α] [LinearOrder α] [OfNat α 0] [OfScientific α]

theorem warpW_correct (G : Geom α) (big : α) (fast : Bool) (w : α → α → α) (dim : DimArg α) (dist : Pt α → Pt α → α)
    (hd : distanceOf G dim = .ok dist) (t1 t2 : List (Pt α)) (h1 : 0 < t1.length) (h2 : 0 < t2.length)
    (H : fast = true → FastOK big w dist t1 t2) :
    ∃ out, warpW G big fast w dim (TrackObj.fresh t1) t2 = .ok out ∧
      (if fast then fdtw dist big w t1 t2 else dtw dist w t1 t2) = some out ∧
      ((fast = true → FastHyp big w dist t1 t2) → out.score = T w 0 (Dmat dist t1 t2) (t2.length - 1) (t1.length - 1)) ∧
      IsCouplingOf t1.length t2.length out.S ∧
      costBack w 0 (Dmat dist t1 t2) out.S = out.score ∧
      out.nbLinks = out.S.length ∧
      (∀ j, j < t1.length → ∃ r : Row α, out.rows[j]? = some r ∧ (∀ i, i ∈ r.pair ↔ (i, j) ∈ out.S) ∧ r.pair ≠ []) ∧
      (∀ i, i < t2.length → ∃ (j : Nat) (r : Row α), out.rows[j]? = some r ∧ i ∈ r.pair) := by
  obtain ⟨S, hS, he, hT⟩ := run_spec dist big fast w t1 t2 h1 h2 H
  have he := he (freshRows t1) (List.length_map _)
  refine ⟨outOf dist t1 t2 S _, ?_, ?_, hT, hS, rfl, rfl, (outOf_links dist t1 t2 S _ hS h1 h2).2⟩
  · rw [warpW_eq G big fast w dim dist hd _ t2 h1 h2]
    exact congrArg (fun x : Option (Out α) => match x with | some o => Except.ok o | none => .error "err:index") he
  · cases fast <;> exact he

end warp

/-! ### `_exponent` and `_p2weight`: how `p` is recognised

Since 1f009f6 `match` and `compare` start with `p = _exponent(p)`: a numpy floating scalar becomes `float(p)`, a numpy integer scalar
`int(p)`, anything else is kept. `_p2weight` itself still recognises a number by the substrings `int` / `float` of its type name
(`p2weight_number`, `p2weight_unrecognised`), but through the two public entry points it only ever sees Python numbers, callables,
or whatever non-numpy object the caller passed (`exponent_numpy`, `match_numpy_scalar`). -/
section p2w
variable {α : Type} [Add α] [Mul α] [LinearOrder α] [OfNat α 0] [OfNat α 1]

/-- `_p2weight(p)` for a number whose type name contains `int` or `float` — Python `int` and `float`, `numpy.int8/16/32/64`,
`numpy.uint8/16/32/64`, `numpy.float16/32/64` — is the accumulation of the *value* of `p`: `A + B**k` for `p == k`
(`k = 1, 2, 3, …`), `A + (B != 0)*1` for `p == 0`, `max(A, B)` for `p == inf`. -/
theorem p2weight_number (p : PArg) (v : PNorm) (hf : p.isFn = false) (hn : p.isNum = true) (hv : p.val = some v) :
    p2weight (α := α) p = .ok (weight v) := p2weight_numeric p v hn hv

/-- an infinite `p` (`float('inf')`, `math.inf`, `numpy.inf`, `numpy.float16/32/64('inf')`, `numpy.longdouble('inf')`) gives
`max(A, B)` whatever its type: the test `p == float('inf')` comes last -/
theorem p2weight_infinite (p : PArg) (hv : p.val = some .inf) : p2weight (α := α) p = .ok (weight .inf) := p2weight_inf p hv

/-- `_p2weight` called on a number other than 0 and infinity whose type name contains none of `int`, `float`, `function` (`True`,
`numpy.bool(True)`, `Fraction(2)`; also `numpy.longdouble(2)`, `numpy.longlong(2)`, `numpy.ulonglong(2)` — which no longer reach
`_p2weight` through `match` / `compare`: `match_numpy_scalar`) binds nothing: `return weight` raises UnboundLocalError -/
theorem p2weight_unrecognised (p : PArg) (hf : p.isFn = false) (hn : p.isNum = false) (h0 : p.val ≠ some (.nat 0))
    (hi : p.val ≠ some .inf) : p2weight (α := α) p = .error "err:UnboundLocalError" := by
  unfold p2weight
  simp [hf, hn, h0, hi]

end p2w

/-- the type names, as `str(type(p))` prints them (blanks removed), that `_p2weight` takes for numbers … -/
example : ∀ ty ∈ ["<class'int'>", "<class'float'>", "<class'numpy.int8'>", "<class'numpy.int16'>", "<class'numpy.int32'>",
    "<class'numpy.int64'>", "<class'numpy.uint8'>", "<class'numpy.uint16'>", "<class'numpy.uint32'>", "<class'numpy.uint64'>",
    "<class'numpy.float16'>", "<class'numpy.float32'>", "<class'numpy.float64'>"],
    PArg.isNum { tyname := ty, val := none } = true ∧ PArg.isFn { tyname := ty, val := none } = false := by
  -- a literal is `String.ofList` of its characters (`isNumpy_not_fn`)
  simp only [List.forall_mem_cons, List.not_mem_nil, false_imp_iff, implies_true, PArg.isNum, PArg.isFn]
  repeat rw [String.toList_ofList]
  decide +kernel
/-- … and those it does not (the first three are numpy scalars: `_exponent` turns them into Python numbers before `_p2weight` is
called, see `exponent_numpy`) -/
example : ∀ ty ∈ ["<class'numpy.longdouble'>", "<class'numpy.longlong'>", "<class'numpy.ulonglong'>", "<class'bool'>",
    "<class'numpy.bool'>", "<class'fractions.Fraction'>", "<class'str'>"],
    PArg.isNum { tyname := ty, val := none } = false ∧ PArg.isFn { tyname := ty, val := none } = false := by
  simp only [List.forall_mem_cons, List.not_mem_nil, false_imp_iff, implies_true, PArg.isNum, PArg.isFn]
  repeat rw [String.toList_ofList]
  decide +kernel
example : PArg.isFn { tyname := "<class'function'>", val := none } = true ∧
    PArg.isFn { tyname := "<class'builtin_function_or_method'>", val := none } = true ∧
    PArg.isNum { tyname := "<class'function'>", val := none } = false ∧
    PArg.isNum { tyname := "<class'builtin_function_or_method'>", val := none } = false := by
  simp only [PArg.isNum, PArg.isFn]
  repeat rw [String.toList_ofList]
  decide +kernel

/-- **`_exponent(p)` of a numpy scalar is the Python number of the same value** (1f009f6): for `p` of any numpy floating type
(`float16`, `float32`, `float64`, `longdouble`) or integer type (`int8` … `uint64`, `intc`, `longlong`, `ulonglong`) the argument that
`_p2weight` / `_dtw_comparison` receive has the type name of a Python `float` / `int` — recognised as a number, not as a callable —
and the value of `p`; any other `p` (Python numbers, callables, `numpy.bool`, `Fraction`) is passed on unchanged -/
theorem exponent_numpy (p : PArg) :
    (p.isNumpy = true → p.exponent.isFn = false ∧ p.exponent.isNum = true ∧ p.exponent.val = p.val ∧ p.exponent.fnw = p.fnw) ∧
    (p.isNumpy = false → p.exponent = p) :=
  ⟨PArg.exponent_numpy p, PArg.exponent_other p⟩

/-- the numpy scalar types the harness hands over (the last three are those whose name contains neither `int` nor `float`) -/
example : ∀ ty ∈ ["<class'numpy.int8'>", "<class'numpy.int16'>", "<class'numpy.int32'>", "<class'numpy.int64'>",
    "<class'numpy.uint8'>", "<class'numpy.uint16'>", "<class'numpy.uint32'>", "<class'numpy.uint64'>",
    "<class'numpy.float16'>", "<class'numpy.float32'>", "<class'numpy.float64'>",
    "<class'numpy.longdouble'>", "<class'numpy.longlong'>", "<class'numpy.ulonglong'>"],
    PArg.isNumpy { tyname := ty, val := none } = true := by
  -- each name is found in one of the two lists (no string is compared with a different one)
  simp only [List.forall_mem_cons, List.not_mem_nil, false_imp_iff, implies_true, PArg.isNumpy, isNpFloating, isNpInteger,
    List.contains_cons, beq_self_eq_true, Bool.true_or, Bool.or_true, and_self]
/-- … and what is not a numpy floating / integer scalar -/
example : ∀ ty ∈ ["<class'int'>", "<class'float'>", "<class'bool'>", "<class'numpy.bool'>", "<class'fractions.Fraction'>",
    "<class'function'>", "<class'builtin_function_or_method'>"],
    PArg.isNumpy { tyname := ty, val := none } = false := by decide +kernel
example : (PArg.exponent { tyname := "<class'numpy.longdouble'>", val := some (.nat 2) }).tyname = "<class'float'>" ∧
    (PArg.exponent { tyname := "<class'numpy.ulonglong'>", val := some (.nat 2) }).tyname = "<class'int'>" ∧
    (PArg.exponent { tyname := "<class'numpy.float16'>", val := some (.nat 3) }).tyname = "<class'float'>" := by decide +kernel

section dist
variable {α : Type} [Add α] [Sub α] [Mul α] [Div α] [Neg α] [LinearOrder α] [OfNat α 0] [OfScientific α]

/-- on `ENUCoords`, `dim = 1, 2, 3` give `abs(p1.U - p2.U)`, `(p2 - p1).norm2D()`, `(p2 - p1).norm()` (`distance`) -/
theorem distance_enu (G : Geom α) (h : G.cls = Coords.enu) (d : Nat) (hd : d = 1 ∨ d = 2 ∨ d = 3) :
    distanceOf G (.num d) = .ok (distance G.T.sqrt d) := by
  simp only [distanceOf]
  rw [if_pos hd, h]

/-- the function form of `dim` (`'function' in str(type(dim))`): the callable is the point distance, whatever the class of
the positions -/
theorem distance_function_form (G : Geom α) (f : Pt α → Pt α → α) : distanceOf G (.fn f) = .ok f := rfl

/-- on `GeoCoords`: `dim = 2` is `distance2DTo` (horizontal distance in the local frame of the second point), `dim = 3` the
distance of the two ECEF images; `dim = 1` reads an attribute `U` that a `GeoCoords` does not have -/
theorem distance_geo (G : Geom α) (h : G.cls = Coords.geo) :
    distanceOf G (.num 1) = .error "err:attr" ∧
    distanceOf G (.num 2) = .ok (fun p q => geoDistance2D G.T p.v3 q.v3) ∧
    distanceOf G (.num 3) = .ok (fun p q => geoDistance3D G.T p.v3 q.v3) := by
  simp only [distanceOf]
  simp [h]

/-- on `ECEFCoords` only `dim = 3` is defined (no `U`, no `distance2DTo`) -/
theorem distance_ecef (G : Geom α) (h : G.cls = Coords.ecef) :
    distanceOf G (.num 1) = .error "err:attr" ∧ distanceOf G (.num 2) = .error "err:attr" ∧
    distanceOf G (.num 3) = .ok (fun p q => ecefDistance G.T p.v3 q.v3) := by
  simp only [distanceOf]
  simp [h]

end dist

section forms
variable {α : Type} [Add α] [Sub α] [Mul α] [Div α] [Neg α] [LinearOrder α] [OfNat α 0] [OfNat α 1] [OfScientific α]

theorem matchCall_warpW (G : Geom α) (big : α) (mode : Mode) (p : PArg) (v : PNorm)
    (hp : p2weight (α := α) p.exponent = .ok (weight v)) (dim : DimArg α) (a : TrackObj α) (t2 : List (Pt α)) :
    matchCall G big mode.code p dim a t2
      = warpW G big (decide (mode = Mode.fdtw)) (weight (if mode = Mode.frechet then PNorm.inf else v)) dim a t2 := by
  unfold matchCall
  cases mode <;> simp only [matchBody, Mode.code, Nat.reduceEqDiff, if_true, if_false, warpOn_eq_warpW, hp,
    p2weight_inf (α := α) PArg.pyInf rfl] <;> rfl

/-- `match` looks at `p` only through `_p2weight(_exponent(p))`: every mode constant, every track1 -/
theorem matchCall_congr (G : Geom α) (big : α) (mode : Nat) (p q : PArg)
    (h : p2weight (α := α) p.exponent = p2weight q.exponent) (dim : DimArg α) (a : TrackObj α) (t2 : List (Pt α)) :
    matchCall G big mode p dim a t2 = matchCall G big mode q dim a t2 := by
  simp only [matchCall, matchBody, warpOn_eq_warpW, h]

/-- where `_distance` is not defined, `match` (any of the three modes, any recognised `p`) on two non-empty tracks raises the
error of the first `_distance` call: AttributeError for `dim = 1` on `GeoCoords` / `ECEFCoords` and `dim = 2` on `ECEFCoords` -/
theorem match_distance_error (G : Geom α) (big : α) (mode : Mode) (p : PArg) (w : α → α → α)
    (hp : p2weight (α := α) p.exponent = .ok w) (dim : DimArg α) (e : String) (hd : distanceOf G dim = .error e)
    (a : TrackObj α) (t2 : List (Pt α)) (h1 : a.pts.isEmpty = false) (h2 : t2.isEmpty = false) :
    matchCall G big mode.code p dim a t2 = .error e :=
  matchBody_distance_error G big mode.code (by cases mode <;> simp [Mode.code]) p.exponent w hp dim e hd a t2 h1 h2

/-- **every numeric form of `p` is the same call**: `match(track1, track2, mode, p, dim)` with the constant of the mode
(`MODE_MATCHING_DTW = 2`, `FDTW = 3`, `FRECHET = 4`) and `p` a number of value `v` — **any numpy floating or integer scalar**
(`numpy.longdouble`, `longlong`, `ulonglong` included: false before 1f009f6, where these raised UnboundLocalError), or any other
object whose type name contains `int` or `float` (Python `int` / `float`) — is the call that `match_correct` / `match_fdtw_correct`
are about -/
theorem match_any_form (G : Geom α) (big : α) (mode : Mode) (p : PArg) (v : PNorm)
    (hk : p.isNumpy = true ∨ (p.isFn = false ∧ p.isNum = true)) (hv : p.val = some v) (dim : DimArg α) (t1 t2 : List (Pt α)) :
    matchCall G big mode.code p dim (TrackObj.fresh t1) t2 = matchTracks G big mode v dim t1 t2 := by
  have hq : p.exponent.isNum = true ∧ p.exponent.val = some v := by
    cases hnp : p.isNumpy with
    | true =>
      obtain ⟨_, b, c, _⟩ := PArg.exponent_numpy p hnp
      exact ⟨b, c.trans hv⟩
    | false =>
      rw [PArg.exponent_other p hnp]
      rcases hk with h | h
      · rw [hnp] at h; cases h
      · exact ⟨h.2, hv⟩
  exact matchCall_congr G big _ p _ ((p2weight_numeric p.exponent v hq.1 hq.2).trans (p2weight_exponent_ofNorm v).symm) dim _ t2

/-- **a numpy scalar `p` gives the result of the Python number of the same value** (the repair 1f009f6, both front ends, every
mode constant, every track1 — with or without earlier features): `match` / `compare` called with `p` a numpy floating (integer)
scalar return exactly what they return with `float(p)` (`int(p)`). Before the repair (`matchCallOld`) `numpy.longdouble(2)`,
`numpy.longlong(2)`, `numpy.ulonglong(2)` raised UnboundLocalError (`match_numpy_scalar_old`) and `B**p`, `1.0/p` were evaluated in
the type of `p` (float16 / float32 precision, overflow and wrap-around of the small integer types). -/
theorem match_numpy_scalar (G : Geom α) (root : Nat → α → α) (ofNat : Nat → α) (big : α) (mode : Nat) (p : PArg)
    (dim : DimArg α) (a : TrackObj α) (t2 : List (Pt α)) :
    matchCall G big mode p dim a t2 = matchCall G big mode { p with tyname := exponentTy p.tyname } dim a t2 ∧
    compareCall G root ofNat big mode p dim a t2
      = compareCall G root ofNat big mode { p with tyname := exponentTy p.tyname } dim a t2 ∧
    (isNpFloating p.tyname = true → exponentTy p.tyname = "<class'float'>") ∧
    (isNpFloating p.tyname = false → isNpInteger p.tyname = true → exponentTy p.tyname = "<class'int'>") := by
  have he : p.exponent.exponent = p.exponent := PArg.exponent_exponent p
  refine ⟨?_, ?_, ?_, ?_⟩
  · show matchBody G big mode p.exponent dim a t2 = matchBody G big mode p.exponent.exponent dim a t2
    rw [he]
  · show compareBody G root ofNat big mode p.exponent dim a t2 = compareBody G root ofNat big mode p.exponent.exponent dim a t2
    rw [he]
  · intro h; simp [exponentTy, h]
  · intro h h'; simp [exponentTy, h, h']

/-- the pre-fix variant (`matchCallOld`, kept only to document the defect that 1f009f6 repaired): a numpy scalar of value other than
0 and infinity whose type name contains neither `int` nor `float` (`numpy.longdouble(2)`, `numpy.longlong(2)`, `numpy.ulonglong(2)`)
made `match` in the modes DTW / FDTW raise UnboundLocalError -/
theorem match_numpy_scalar_old (G : Geom α) (big : α) (mode : Nat) (hm : mode = 2 ∨ mode = 3) (p : PArg)
    (hf : p.isFn = false) (hn : p.isNum = false) (h0 : p.val ≠ some (.nat 0)) (hi : p.val ≠ some .inf)
    (dim : DimArg α) (a : TrackObj α) (t2 : List (Pt α)) :
    matchCallOld G big mode p dim a t2 = .error "err:UnboundLocalError" := by
  have hp : p2weight (α := α) p = .error "err:UnboundLocalError" := p2weight_unrecognised p hf hn h0 hi
  unfold matchCallOld matchBody warpOn
  rcases hm with h | h <;> subst h <;> simp [hp, bind, Except.bind]

/-- a callable `p` that computes the accumulation of `v` (`lambda A, B: A + B**2`, `lambda A, B: max(A, B)`, the builtin `max`)
is the same call as the number `v` -/
theorem match_callable_form (G : Geom α) (big : α) (mode : Mode) (p : PArg) (v : PNorm)
    (hf : p.isFn = true) (hn : p.isNum = false) (hw : p.fnw = some v) (hv : p.val = none) (dim : DimArg α) (t1 t2 : List (Pt α)) :
    matchCall G big mode.code p dim (TrackObj.fresh t1) t2 = matchTracks G big mode v dim t1 t2 := by
  have hp : p2weight (α := α) p.exponent = .ok (weight v) := by
    rw [PArg.exponent_other p (PArg.isNumpy_of_isFn p hf)]
    exact p2weight_callable p v hf hn hw hv
  exact matchCall_congr G big _ p _ (hp.trans (p2weight_exponent_ofNorm v).symm) dim _ t2

/-- any other constant (for instance one of the `MODE_COMPARISON_*`) is refused -/
theorem match_unknown_mode (G : Geom α) (big : α) (mode : Nat) (h : mode ≠ 1 ∧ mode ≠ 2 ∧ mode ≠ 3 ∧ mode ≠ 4)
    (p : PArg) (dim : DimArg α) (a : TrackObj α) (t2 : List (Pt α)) :
    matchCall G big mode p dim a t2 = .error "err:UnknownModeError" := by
  unfold matchCall matchBody
  simp [h.1, h.2.1, h.2.2.1, h.2.2.2]

/-- **a matched track matched again** (modes DTW, FRECHET): `match(m, track2, …)` where `m` carries the feature rows `rows0`
of an earlier matching (or features the user created under the names `diff`, `pair`, `ex`, `ey`) returns exactly
`match(track1, track2, …)` on the same positions without features -/
theorem match_history_irrelevant (G : Geom α) (big : α) (mode : Mode) (hm : mode ≠ Mode.fdtw) (p : PNorm) (dim : DimArg α)
    (t1 t2 : List (Pt α)) (h1 : 0 < t1.length) (h2 : 0 < t2.length) (rows0 : List (Row α)) (hl : rows0.length = t1.length) :
    matchCall G big mode.code (PArg.ofNorm p) dim { pts := t1, rows := rows0 } t2 = matchTracks G big mode p dim t1 t2 := by
  have : mode.code ≠ 3 := by cases mode <;> simp [Mode.code] at hm ⊢
  unfold matchTracks
  rw [← matchCallX_toX (fun a _ => a), ← matchCallX_toX (fun a _ => a)]
  exact matchCallX_history_all _ G big _ _ dim t1 t2 rows0 hl h1 h2 (fun h => absurd h this)


end forms

section session
variable {α : Type} [Add α] [Sub α] [Mul α] [Div α] [Neg α] [LinearOrder α] [OfNat α 0] [OfNat α 1] [OfScientific α]

/-- the session `runSeq` with every call made on copies *without* features of the tracks involved: only the positions
of the objects are kept (`none` = a call that returned no track) -/
def runFresh (G : Geom α) (root : Nat → α → α) (ofNat : Nat → α) (big : α) :
    List (Option (List (Pt α))) → List (Step α) → List (Res α)
  | _, [] => []
  | geo, st :: rest =>
    match (geo[st.a]?).join, (geo[st.b]?).join with
    | some ta, some tb =>
      if st.front then
        match matchCall G big st.mode st.p st.dim (TrackObj.fresh ta) tb with
        | .ok o => .matched o :: runFresh G root ofNat big (geo ++ [some ta]) rest
        | .error e => .err e :: runFresh G root ofNat big (geo ++ [none]) rest
      else
        (match compareCall G root ofNat big st.mode st.p st.dim (TrackObj.fresh ta) tb with
          | .ok v => .value v
          | .error e => .err e) :: runFresh G root ofNat big (geo ++ [none]) rest
    | _, _ => .err "bad-ref" :: runFresh G root ofNat big (geo ++ [none]) rest

/-- every object of the session is a non-empty track with one feature row per observation -/
def WFEnv (env : List (Option (TrackObj α))) : Prop :=
  ∀ obj, some obj ∈ env → obj.rows.length = obj.pts.length ∧ 0 < obj.pts.length

/-- the session `runSeqX` with every call made on copies *without* features of the tracks involved (`runFresh`) -/
def runFreshX (pow : α → α → α) (G : Geom α) (root : Nat → α → α) (ofNat : Nat → α) (big : α) :
    List (Option (List (Pt α))) → List (StepX α) → List (Res α)
  | _, [] => []
  | geo, st :: rest =>
    match (geo[st.a]?).join, (geo[st.b]?).join with
    | some ta, some tb =>
      if st.front then
        match matchCallX pow G big st.mode st.p st.dim (TrackObj.fresh ta) tb with
        | .ok o => .matched o :: runFreshX pow G root ofNat big (geo ++ [some ta]) rest
        | .error e => .err e :: runFreshX pow G root ofNat big (geo ++ [none]) rest
      else
        (match compareCallX pow G root ofNat big st.mode st.p st.dim (TrackObj.fresh ta) tb with
          | .ok v => .value v
          | .error e => .err e) :: runFreshX pow G root ofNat big (geo ++ [none]) rest
    | _, _ => .err "bad-ref" :: runFreshX pow G root ofNat big (geo ++ [none]) rest

theorem runFreshX_toX (pow : α → α → α) (G : Geom α) (root : Nat → α → α) (ofNat : Nat → α) (big : α)
    (steps : List (Step α)) (geo : List (Option (List (Pt α)))) :
    runFreshX pow G root ofNat big geo (steps.map Step.toX) = runFresh G root ofNat big geo steps := by
  fun_induction runFresh G root ofNat big geo steps
  all_goals simp only [List.map_cons, List.map_nil, runFreshX, Step.toX, matchCallX_toX, compareCallX_toX, if_true, if_false,
    Bool.false_eq_true, *]

/-- **histories are irrelevant in every mode**: in a session of `match` / `compare` calls on shared objects, where every call in a
FDTW mode (3 / 107) is one the fast variant is good for on the positions of every pair of objects, every call returns what it returns
on copies of the same positions that never went through `match`. The positions of an object never change (`match` returns a track
with the positions of its first argument), so what is asked of the positions is a predicate `P` fixed at the start, which every object
of the session satisfies. -/
theorem session_history (pow : α → α → α) (G : Geom α) (root : Nat → α → α) (ofNat : Nat → α) (big : α) (P : List (Pt α) → Prop) :
    ∀ (steps : List (StepX α)) (env : List (Option (TrackObj α))),
      (∀ obj, some obj ∈ env → obj.rows.length = obj.pts.length ∧ 0 < obj.pts.length ∧ P obj.pts) →
      (∀ st ∈ steps, (st.mode = 3 ∨ st.mode = 107) → ∀ ta tb, P ta → P tb → FastCallOK pow G big st.p st.dim ta tb) →
      runSeqX pow G root ofNat big env steps
        = runFreshX pow G root ofNat big (env.map (Option.map TrackObj.pts)) steps
  | [], env, _, _ => by simp [runSeqX, runFreshX]
  | st :: rest, env, hwf, hm => by
    have hrec : ∀ x : Option (TrackObj α),
        (∀ o, x = some o → o.rows.length = o.pts.length ∧ 0 < o.pts.length ∧ P o.pts) →
        runSeqX pow G root ofNat big (env ++ [x]) rest
          = runFreshX pow G root ofNat big (env.map (Option.map TrackObj.pts) ++ [x.map TrackObj.pts]) rest := by
      intro x hx
      have := session_history pow G root ofNat big P rest (env ++ [x])
        (fun obj ho => (List.mem_append.mp ho).elim (hwf obj) (fun h => hx obj (List.mem_singleton.mp h).symm))
        (fun s hs => hm s (List.mem_cons_of_mem _ hs))
      rwa [List.map_append] at this
    have hnone := hrec none (fun _ h => nomatch h)
    rw [runSeqX, runFreshX]
    simp only [List.getElem?_map, Option.join_map_eq_map_join]
    cases ha : (env[st.a]?).join with
    | none =>
      simp only [Option.map_none]
      rw [hnone]
      rfl
    | some a =>
      cases hb : (env[st.b]?).join with
      | none =>
        simp only [Option.map_none, Option.map_some]
        rw [hnone]
        rfl
      | some b =>
        obtain ⟨hla, hpa, hPa⟩ := hwf a (List.mem_of_getElem? (Option.join_eq_some_iff.mp ha))
        obtain ⟨_, hpb, hPb⟩ := hwf b (List.mem_of_getElem? (Option.join_eq_some_iff.mp hb))
        have hok : (st.mode = 3 ∨ st.mode = 107) → FastCallOK pow G big st.p st.dim a.pts b.pts :=
          fun hmode => hm st List.mem_cons_self hmode _ _ hPa hPb
        simp only [Option.map_some]
        by_cases hf : st.front = true
        · obtain ⟨r, hr, hlen⟩ := matchBodyX_history pow G big st.mode st.p.exponent st.dim a.pts b.pts hpa hpb
            (fun h => hok (Or.inl h))
          have e1 : matchCallX pow G big st.mode st.p st.dim a b.pts = r := hr a.rows hla
          have e2 : matchCallX pow G big st.mode st.p st.dim (TrackObj.fresh a.pts) b.pts = r := hr _ (List.length_map _)
          simp only [hf, if_true, e1, e2]
          cases r with
          | error e =>
            simp only
            rw [hnone]
            rfl
          | ok o =>
            simp only
            rw [hrec (some { pts := a.pts, rows := o.rows }) (fun o' h => by cases h; exact ⟨hlen o rfl, hpa, hPa⟩)]
            rfl
        · obtain ⟨r, hr⟩ := compareBodyX_history pow G root ofNat big st.mode st.p.exponent st.dim a.pts b.pts hpa hpb
            (fun h => hok (Or.inr h))
          have e1 : compareCallX pow G root ofNat big st.mode st.p st.dim a b.pts = r := hr a.rows hla
          have e2 : compareCallX pow G root ofNat big st.mode st.p st.dim (TrackObj.fresh a.pts) b.pts = r :=
            hr _ (List.length_map _)
          simp only [hf, if_false, Bool.false_eq_true, e1, e2]
          rw [hnone]
          rfl

/-- **histories are irrelevant, any exponent**: `session_history_irrelevant` for the sessions that the driver runs (`runSeqX`: `p` any
positive number, in any form), whatever `B**x` computes -/
theorem session_history_irrelevant_real (pow : α → α → α) (G : Geom α) (root : Nat → α → α) (ofNat : Nat → α) (big : α) :
    ∀ (steps : List (StepX α)) (env : List (Option (TrackObj α))), WFEnv env →
      (∀ st ∈ steps, st.mode ≠ 3 ∧ st.mode ≠ 107) →
      runSeqX pow G root ofNat big env steps
        = runFreshX pow G root ofNat big (env.map (Option.map TrackObj.pts)) steps :=
  fun steps env hwf hm => session_history pow G root ofNat big (fun _ => True) steps env
    (fun obj ho => ⟨(hwf obj ho).1, (hwf obj ho).2, trivial⟩) (fun st hs hmode => (hmode.elim (hm st hs).1 (hm st hs).2).elim)

/-- **histories are irrelevant** (sessions in the modes DTW and FRECHET, `match` and `compare`, any form of `p`, any
constants): in a session of calls on shared objects — tracks, and tracks returned by earlier `match` calls, which carry the
`diff`/`pair`/`ex`/`ey` features of that matching, used again as first or second argument — every call returns what it
returns on copies of the same positions that never went through `match`. In particular `match(match(t1, t2), t3)` returns
`match(t1, t3)`: no link of the earlier matching survives, `nb_links` counts the new links only. (The FDTW modes 3 / 107
are excluded here because their coupling is valid only under the hypotheses of `match_fdtw_correct`; `match_fdtw_history`
is the single-call statement for them.) -/
theorem session_history_irrelevant (G : Geom α) (root : Nat → α → α) (ofNat : Nat → α) (big : α) :
    ∀ (steps : List (Step α)) (env : List (Option (TrackObj α))), WFEnv env →
      (∀ st ∈ steps, st.mode ≠ 3 ∧ st.mode ≠ 107) →
      runSeq G root ofNat big env steps
        = runFresh G root ofNat big (env.map (Option.map TrackObj.pts)) steps :=
  fun steps env hwf hm => by
    rw [← runSeqX_toX (fun a _ => a), ← runFreshX_toX (fun a _ => a)]
    exact session_history_irrelevant_real _ G root ofNat big _ env hwf
      (fun st hs => by obtain ⟨s, hs', rfl⟩ := List.mem_map.mp hs; exact hm s hs')

end session

section cmpValue
variable {α : Type} [Div α] [OfNat α 1]

/-- what `compare` makes of the matching `o`: the score for FRECHET, `p = inf` and `p = 0`, `(score/nb_links)**(1/p)` otherwise -/
def cmpValue (root : Nat → α → α) (ofNat : Nat → α) (mode : Mode) (p : PNorm) (o : Out α) : α :=
  match (if mode = Mode.frechet then PNorm.inf else p) with
  | .inf => o.score
  | .nat 0 => o.score
  | .nat (k+1) => root (k+1) (o.score / ofNat o.nbLinks)

theorem cmpPostX_ofNorm (pow : α → α → α) (root : Nat → α → α) (ofNat : Nat → α) (fast : Bool) (v : PNorm) (o : Out α) :
    cmpPostX pow root ofNat fast (PArg.ofNorm v).toX o = .ok (cmpValue root ofNat Mode.dtw v o) := by
  have hf : ((PArg.ofNorm v).toX (α := α)).isFn = false := (PArg.ofNorm_isNum v).1
  have hv : ((PArg.ofNorm v).toX (α := α)).val = some (.norm v) := rfl
  simp only [cmpPostX, PArgX.isZero, PArgX.isInf, hf, hv, cmpValue, pure, Except.pure]
  rcases v with (_ | k) | _ <;> simp

end cmpValue

section cmpgen
variable {α : Type} [Add α] [Sub α] [Mul α] [Div α] [Neg α] [LinearOrder α] [OfNat α 0] [OfNat α 1] [OfScientific α]

/-- `compare(track1, track2, mode, p, dim)` in the modes DTW / FDTW / FRECHET is `match` followed by `cmpValue`: errors are
those of `match` -/
theorem compare_value (G : Geom α) (root : Nat → α → α) (ofNat : Nat → α) (big : α) (mode : Mode) (p : PNorm) (dim : DimArg α)
    (t1 t2 : List (Pt α)) :
    compareTracks G root ofNat big mode p dim t1 t2 =
      match matchTracks G big mode p dim t1 t2 with
      | .ok o => .ok (cmpValue root ofNat mode p o)
      | .error e => .error e := by
  unfold compareTracks compareCall matchTracks matchCall
  rw [PArg.exponent_ofNorm, ← compareBodyX_toX (fun a _ => a), ← matchBodyX_toX (fun a _ => a), compareBodyX_eq]
  -- an error of `match` passes through and FRECHET (`float('inf')`, the score itself) evaluates: `rfl`
  cases mode <;> simp only [Mode.code, Mode.cmpCode, Nat.reduceEqDiff, or_true, true_or, if_true, if_false, Nat.reduceSub,
      decide_true, decide_false] <;>
    cases matchBodyX (fun a _ => a) G big _ (PArg.ofNorm p).toX dim (TrackObj.fresh t1) t2 <;>
    first | rfl | exact (cmpPostX_ofNorm (fun a _ => a) root ofNat _ p _).trans rfl
end cmpgen

section links
variable {α : Type} [Add α] [Sub α] [Mul α] [LinearOrder α] [OfNat α 0]

/-- **the links, read back**: reading the `pair` lists of the track that `_dtw` returns, observation by observation
(`[(i, j) for j, l in enumerate(pairs) for i in l]`), gives exactly the coupling `S` of `path_valid` / `path_realises`, first
pair first — same pairs, same order, same multiplicity; hence the number of stored links is `nb_links` -/
theorem links_read_back (dist : Pt α → Pt α → α) (w : α → α → α)
    (t1 t2 : List (Pt α)) (h1 : 0 < t1.length) (h2 : 0 < t2.length) :
    ∃ out, dtw dist w t1 t2 = some out ∧ readBack out.rows = out.S.reverse ∧ (readBack out.rows).length = out.nbLinks := by
  have hrb := readBack_eq dist t1 t2 _ (T w 0 (Dmat dist t1 t2) (t2.length - 1) (t1.length - 1)) (walkF_last dist w t1 t2).1 h1
  exact ⟨_, dtw_spec dist w t1 t2 h1 h2 _ (List.length_map _), hrb, by rw [hrb]; exact List.length_reverse⟩

/-- the same for the fast variant, under the hypotheses of `fdtw_equal` -/
theorem fdtw_links_read_back (dist : Pt α → Pt α → α) (big : α) (w : α → α → α) (t1 t2 : List (Pt α))
    (h1 : 0 < t1.length) (h2 : 0 < t2.length)
    (hw : ∀ a b d, a ≤ b → w a d ≤ w b d)
    (hinf : ∀ a i j, i < t2.length → j < t1.length → a ≤ w a (Dmat dist t1 t2 i j))
    (hbig : ∀ i j i' j', i < t2.length → j < t1.length → i' < t2.length → j' < t1.length →
      w (T w 0 (Dmat dist t1 t2) i j) (Dmat dist t1 t2 i' j') < big) :
    ∃ out, fdtw dist big w t1 t2 = some out ∧ readBack out.rows = out.S.reverse ∧
      (readBack out.rows).length = out.nbLinks := by
  obtain ⟨S, hS, _, he⟩ := fdtw_spec dist big w t1 t2 h1 h2 hw hinf hbig
  have hrb := readBack_eq dist t1 t2 S (costBack w 0 (Dmat dist t1 t2) S) hS h1
  exact ⟨_, he _ (List.length_map _), hrb, by rw [hrb]; exact List.length_reverse⟩

end links

section features
variable {α : Type} [Add α] [Sub α] [Mul α] [LinearOrder α] [OfNat α 0]

/-- **`diff`, `ex`, `ey`, read back**: on the track that `_dtw` returns, observation `j` of track1 — whose partners, in coupling
order, are `partners S.reverse j`, the last of them being `i` — holds exactly that list in `pair`, and in `diff`, `ex`, `ey` the
distance and the coordinate differences to that **last** partner `track2[i]` (`rowFor`); nothing of an earlier state -/
theorem features_read_back (dist : Pt α → Pt α → α) (w : α → α → α) (t1 t2 : List (Pt α))
    (h1 : 0 < t1.length) (h2 : 0 < t2.length) :
    ∃ out, dtw dist w t1 t2 = some out ∧
      ∀ j i, j < t1.length → (partners out.S.reverse j).getLast? = some i →
        out.rows[j]? = some (rowFor dist t1 t2 j i (partners out.S.reverse j)) :=
  ⟨_, dtw_spec dist w t1 t2 h1 h2 _ (List.length_map _), fun j i hj hi => outOf_row dist t1 t2 _ _ j i hj hi⟩

end features

section field
variable {α : Type} [Field α]

/-- `ECEFCoords.distanceTo` is symmetric (squares of coordinate differences), for any `sqrt` -/
theorem ecefDistance_symm (T : Geo.Trig α) (a b : Geo.V3 α) : ecefDistance T a b = ecefDistance T b a := by
  simp only [ecefDistance]
  congr 1
  ring

/-- `GeoCoords.distanceTo` (distance of the ECEF images) is symmetric, whatever `sin`, `cos`, `sqrt`, `pow` compute -/
theorem geoDistance3D_symm (T : Geo.Trig α) (a b : Geo.V3 α) : geoDistance3D T a b = geoDistance3D T b a :=
  ecefDistance_symm T _ _

variable [LinearOrder α]

/-- what `_distance(·, ·, dim)` is when it is defined for a numeric `dim`: the four branches of `distanceOf` that do not raise -/
theorem distanceOf_num_ok (G : Geom α) (d : Nat) (dist : Pt α → Pt α → α) (hd : distanceOf G (.num d) = .ok dist) :
    (G.cls = Coords.enu ∧ dist = distance G.T.sqrt d) ∨
    (G.cls = Coords.geo ∧ d = 2 ∧ dist = fun p q => geoDistance2D G.T p.v3 q.v3) ∨
    (G.cls = Coords.geo ∧ d = 3 ∧ dist = fun p q => geoDistance3D G.T p.v3 q.v3) ∨
    (G.cls = Coords.ecef ∧ d = 3 ∧ dist = fun p q => ecefDistance G.T p.v3 q.v3) := by
  by_cases hr : d = 1 ∨ d = 2 ∨ d = 3
  · cases hc : G.cls with
    | enu => exact Or.inl ⟨rfl, (Except.ok.inj ((distance_enu G hc d hr).symm.trans hd)).symm⟩
    | geo =>
      obtain ⟨g1, g2, g3⟩ := distance_geo G hc
      rcases hr with rfl | rfl | rfl
      · cases g1.symm.trans hd
      · exact Or.inr (Or.inl ⟨rfl, rfl, (Except.ok.inj (g2.symm.trans hd)).symm⟩)
      · exact Or.inr (Or.inr (Or.inl ⟨rfl, rfl, (Except.ok.inj (g3.symm.trans hd)).symm⟩))
    | ecef =>
      obtain ⟨e1, e2, e3⟩ := distance_ecef G hc
      rcases hr with rfl | rfl | rfl
      · cases e1.symm.trans hd
      · cases e2.symm.trans hd
      · exact Or.inr (Or.inr (Or.inr ⟨rfl, rfl, (Except.ok.inj (e3.symm.trans hd)).symm⟩))
  · simp only [distanceOf, if_neg hr] at hd
    cases hd

/-- the accumulation that `match` uses in the modes DTW (`p`) and FRECHET (`inf`) -/
def weightOf (mode : Mode) (p : PNorm) : α → α → α := weight (if mode = Mode.frechet then PNorm.inf else p)

theorem matchTracks_warpW (G : Geom α) (big : α) (mode : Mode) (p : PNorm) (dim : DimArg α) (t1 t2 : List (Pt α)) :
    matchTracks G big mode p dim t1 t2
      = warpW G big (decide (mode = Mode.fdtw)) (weightOf mode p) dim (TrackObj.fresh t1) t2 :=
  matchCall_warpW G big mode _ p (p2weight_exponent_ofNorm p) dim _ t2

variable [IsStrictOrderedRing α]

theorem weight_mono (p : PNorm) (a b d : α) (h : a ≤ b) : weight p a d ≤ weight p b d := by
  cases p with
  | nat k => cases k <;> exact add_le_add h le_rfl
  | inf =>
    simp only [weight, pmax_eq_max]
    exact max_le_max h le_rfl

/-- `_distance` on `ENUCoords` is symmetric (`abs`, and squares of coordinate differences), for any `sqrt` -/
theorem distance_symm (sqrt : α → α) (dim : Nat) (p q : Pt α) : distance sqrt dim p q = distance sqrt dim q p := by
  rw [distance_eq, distance_eq, abs_sub_comm, sqDist_symm]

/-- **`_distance` is symmetric** on `ENUCoords` for `dim = 1, 2, 3` and on `GeoCoords` / `ECEFCoords` for `dim = 3`. (Not for
`dim = 2` on `GeoCoords`: `distance2DTo` projects on the horizontal plane of its *argument*, and the horizontal planes of two
points differ; nor, of course, for an arbitrary callable `dim`.) -/
theorem distanceOf_symm (G : Geom α) (d : Nat) (h : G.cls = Coords.enu ∨ d = 3) (dist : Pt α → Pt α → α)
    (hd : distanceOf G (.num d) = .ok dist) (p q : Pt α) : dist p q = dist q p := by
  rcases distanceOf_num_ok G d dist hd with ⟨_, rfl⟩ | ⟨hc, rfl, _⟩ | ⟨_, _, rfl⟩ | ⟨_, _, rfl⟩
  · exact distance_symm _ _ _ _
  · rcases h with h | h
    · rw [hc] at h; cases h
    · omega
  · exact geoDistance3D_symm _ _ _
  · exact ecefDistance_symm _ _ _

/-- **C18 for `match(track1, track2, mode = DTW | FRECHET, p, dim)` without the swap clause**, for every pair of non-empty
tracks, `p ∈ {0, 1, 2, 3, …, inf}` (a Python number; every other recognised form of `p` is the same call: `match_any_form`), every
class of positions and every `dim` on which `_distance` is defined (`hd`: `dim ∈ {1, 2, 3}` on `ENUCoords`, `{2, 3}` on
`GeoCoords`, `3` on `ECEFCoords`, any callable — nothing is assumed of the distance it computes): the call succeeds; the
reported score is a lower bound of the accumulated cost (`Σ d^p`, or `max d` for `p = inf` / FRECHET) of every monotone unit-step
coupling from the first to the last pair; the returned `S` is such a coupling and its accumulated cost **is** the score;
`nb_links` is its length and the `pair` feature lists exactly its pairs, with no observation of either track left out. -/
theorem match_onesided (G : Geom α) (big : α) (mode : Mode) (hm : mode ≠ Mode.fdtw) (p : PNorm) (dim : DimArg α)
    (dist : Pt α → Pt α → α) (hd : distanceOf G dim = .ok dist)
    (t1 t2 : List (Pt α)) (h1 : 0 < t1.length) (h2 : 0 < t2.length) :
    ∃ out, matchTracks G big mode p dim t1 t2 = .ok out ∧ dtw dist (weightOf mode p) t1 t2 = some out ∧
      (∀ S, IsCouplingOf t1.length t2.length S → out.score ≤ costBack (weightOf mode p) 0 (Dmat dist t1 t2) S) ∧
      IsCouplingOf t1.length t2.length out.S ∧
      costBack (weightOf mode p) 0 (Dmat dist t1 t2) out.S = out.score ∧
      out.nbLinks = out.S.length ∧
      (∀ j, j < t1.length → ∃ r : Row α, out.rows[j]? = some r ∧ (∀ i, i ∈ r.pair ↔ (i, j) ∈ out.S) ∧ r.pair ≠ []) ∧
      (∀ i, i < t2.length → ∃ (j : Nat) (r : Row α), out.rows[j]? = some r ∧ i ∈ r.pair) := by
  obtain ⟨out, e, he, hT, rest⟩ := warpW_correct G big false (weightOf mode p) dim dist hd t1 t2 h1 h2 nofun
  exact ⟨out, by rw [matchTracks_warpW, decide_eq_false hm]; exact e, he,
    optimal_of_table (fun a b d h => weight_mono _ a b d h) (hT nofun), rest⟩

/-- **C18 for `match(track1, track2, mode = DTW | FRECHET, p, dim)`**, all at once: `match_onesided`, and — when the point
distance is symmetric (`distanceOf_symm`: `ENUCoords` with `dim ∈ {1, 2, 3}`, `GeoCoords` / `ECEFCoords` with `dim = 3`) —
`match(track2, track1)` reports the same score. -/
theorem match_correct (G : Geom α) (big : α) (mode : Mode) (hm : mode ≠ Mode.fdtw) (p : PNorm) (dim : DimArg α)
    (dist : Pt α → Pt α → α) (hd : distanceOf G dim = .ok dist) (hsymm : ∀ p q, dist p q = dist q p)
    (t1 t2 : List (Pt α)) (h1 : 0 < t1.length) (h2 : 0 < t2.length) :
    ∃ out out', matchTracks G big mode p dim t1 t2 = .ok out ∧ matchTracks G big mode p dim t2 t1 = .ok out' ∧
      (∀ S, IsCouplingOf t1.length t2.length S → out.score ≤ costBack (weightOf mode p) 0 (Dmat dist t1 t2) S) ∧
      IsCouplingOf t1.length t2.length out.S ∧
      costBack (weightOf mode p) 0 (Dmat dist t1 t2) out.S = out.score ∧
      out.nbLinks = out.S.length ∧
      (∀ j, j < t1.length → ∃ r : Row α, out.rows[j]? = some r ∧ (∀ i, i ∈ r.pair ↔ (i, j) ∈ out.S) ∧ r.pair ≠ []) ∧
      (∀ i, i < t2.length → ∃ (j : Nat) (r : Row α), out.rows[j]? = some r ∧ i ∈ r.pair) ∧
      out'.score = out.score := by
  obtain ⟨out, e, _, hT, hcoup, hcost, hnb, hrows, hcov⟩ := warpW_correct G big false (weightOf mode p) dim dist hd t1 t2 h1 h2 nofun
  obtain ⟨out', e', _, hT', _⟩ := warpW_correct G big false (weightOf mode p) dim dist hd t2 t1 h2 h1 nofun
  have hf := decide_eq_false hm
  exact ⟨out, out', by rw [matchTracks_warpW, hf]; exact e, by rw [matchTracks_warpW, hf]; exact e',
    optimal_of_table (fun a b d h => weight_mono _ a b d h) (hT nofun), hcoup, hcost, hnb, hrows, hcov,
    (hT' nofun).trans ((T_swap dist hsymm _ t1 t2 _ _).trans (hT nofun).symm)⟩

/-- **the statement on `ENUCoords` tracks** (`dim ∈ {1, 2, 3}`, any `sqrt`): `match_correct` with its two hypotheses discharged -/
theorem match_correct_enu (G : Geom α) (hc : G.cls = Coords.enu) (big : α) (mode : Mode) (hm : mode ≠ Mode.fdtw) (p : PNorm)
    (d : Nat) (hd : d = 1 ∨ d = 2 ∨ d = 3) (t1 t2 : List (Pt α)) (h1 : 0 < t1.length) (h2 : 0 < t2.length) :
    ∃ out out', matchTracks G big mode p (.num d) t1 t2 = .ok out ∧ matchTracks G big mode p (.num d) t2 t1 = .ok out' ∧
      (∀ S, IsCouplingOf t1.length t2.length S →
        out.score ≤ costBack (weightOf mode p) 0 (Dmat (distance G.T.sqrt d) t1 t2) S) ∧
      IsCouplingOf t1.length t2.length out.S ∧
      costBack (weightOf mode p) 0 (Dmat (distance G.T.sqrt d) t1 t2) out.S = out.score ∧
      out.nbLinks = out.S.length ∧
      (∀ j, j < t1.length → ∃ r : Row α, out.rows[j]? = some r ∧ (∀ i, i ∈ r.pair ↔ (i, j) ∈ out.S) ∧ r.pair ≠ []) ∧
      (∀ i, i < t2.length → ∃ (j : Nat) (r : Row α), out.rows[j]? = some r ∧ i ∈ r.pair) ∧
      out'.score = out.score :=
  match_correct G big mode hm p (.num d) _ (distance_enu G hc d hd) (distance_symm _ _) t1 t2 h1 h2

/-- **the statement on `GeoCoords` / `ECEFCoords` tracks with `dim = 3`** (distance of the ECEF images): the swap clause holds too -/
theorem match_correct_3d (G : Geom α) (big : α) (mode : Mode) (hm : mode ≠ Mode.fdtw) (p : PNorm)
    (dist : Pt α → Pt α → α) (hd : distanceOf G (.num 3) = .ok dist)
    (t1 t2 : List (Pt α)) (h1 : 0 < t1.length) (h2 : 0 < t2.length) :
    ∃ out out', matchTracks G big mode p (.num 3) t1 t2 = .ok out ∧ matchTracks G big mode p (.num 3) t2 t1 = .ok out' ∧
      (∀ S, IsCouplingOf t1.length t2.length S → out.score ≤ costBack (weightOf mode p) 0 (Dmat dist t1 t2) S) ∧
      IsCouplingOf t1.length t2.length out.S ∧
      costBack (weightOf mode p) 0 (Dmat dist t1 t2) out.S = out.score ∧
      out'.score = out.score := by
  obtain ⟨out, out', e, e', hlow, hc, hcost, _, _, _, hs⟩ :=
    match_correct G big mode hm p (.num 3) dist hd (distanceOf_symm G 3 (Or.inr rfl) dist hd) t1 t2 h1 h2
  exact ⟨out, out', e, e', hlow, hc, hcost, hs⟩

theorem distance_nonneg (sqrt : α → α) (hsqrt : ∀ x, 0 ≤ sqrt x) (dim : Nat) (p q : Pt α) :
    0 ≤ distance sqrt dim p q := by
  rw [distance_eq]
  split_ifs
  · exact abs_nonneg _
  · exact hsqrt _

/-- **`_distance` is non-negative** for every numeric `dim` on every class of positions, when `sqrt` is -/
theorem distanceOf_nonneg (G : Geom α) (hsqrt : ∀ x, 0 ≤ G.T.sqrt x) (d : Nat) (dist : Pt α → Pt α → α)
    (hd : distanceOf G (.num d) = .ok dist) (p q : Pt α) : 0 ≤ dist p q := by
  rcases distanceOf_num_ok G d dist hd with ⟨_, rfl⟩ | ⟨_, _, rfl⟩ | ⟨_, _, rfl⟩ | ⟨_, _, rfl⟩
  · exact distance_nonneg _ hsqrt _ _ _
  · exact hsqrt _
  · exact hsqrt _
  · exact hsqrt _

theorem npow_nonneg (d : α) (hd : 0 ≤ d) : ∀ k, 0 ≤ npow d k :=
  fun k => npow_pow d k ▸ pow_nonneg hd k

theorem weight_infl (p : PNorm) (a d : α) (hd : 0 ≤ d) : a ≤ weight p a d := by
  cases p with
  | nat k =>
    cases k with
    | zero =>
      simp only [weight]
      apply le_add_of_nonneg_right
      split
      · exact zero_le_one
      · exact le_rfl
    | succ k => exact le_add_of_nonneg_right (npow_nonneg d hd (k+1))
  | inf =>
    simp only [weight, pmax_eq_max]
    exact le_max_left _ _

/-- **C18 for the fast variant, `match(track1, track2, mode = FDTW, p, dim)`**: for every pair of non-empty tracks,
`p ∈ {0, 1, 2, 3, …, inf}`, every class of positions and `dim` on which `_distance` is defined and non-negative (`hnn`; by
`distanceOf_nonneg` every numeric `dim` on every class when `sqrt` is non-negative), and `big` (1e300 in the code) above every
candidate cost: the call succeeds and reports **the same score as `mode = DTW`**; the returned `S` is a monotone unit-step
coupling from the first to the last pair whose accumulated cost is that score; `nb_links` and the `pair` feature describe it
and no observation of either track is left out. -/
theorem match_fdtw_correct (G : Geom α) (big : α) (p : PNorm) (dim : DimArg α)
    (dist : Pt α → Pt α → α) (hd : distanceOf G dim = .ok dist) (hnn : ∀ p q, 0 ≤ dist p q)
    (t1 t2 : List (Pt α)) (h1 : 0 < t1.length) (h2 : 0 < t2.length)
    (hbig : ∀ i j i' j', i < t2.length → j < t1.length → i' < t2.length → j' < t1.length →
      weight p (T (weight p) 0 (Dmat dist t1 t2) i j) (Dmat dist t1 t2 i' j') < big) :
    ∃ out outd, matchTracks G big Mode.fdtw p dim t1 t2 = .ok out ∧ matchTracks G big Mode.dtw p dim t1 t2 = .ok outd ∧
      out.score = outd.score ∧
      IsCouplingOf t1.length t2.length out.S ∧
      costBack (weight p) 0 (Dmat dist t1 t2) out.S = out.score ∧
      out.nbLinks = out.S.length ∧
      (∀ j, j < t1.length → ∃ r : Row α, out.rows[j]? = some r ∧ (∀ i, i ∈ r.pair ↔ (i, j) ∈ out.S) ∧ r.pair ≠ []) ∧
      (∀ i, i < t2.length → ∃ (j : Nat) (r : Row α), out.rows[j]? = some r ∧ i ∈ r.pair) := by
  have hH : FastHyp big (weight p) dist t1 t2 := ⟨weight_mono p, fun a i j _ _ => weight_infl p a _ (hnn _ _), hbig⟩
  obtain ⟨out, e, _, hT, rest⟩ := warpW_correct G big true (weight p) dim dist hd t1 t2 h1 h2 (fun _ => Or.inl hH)
  obtain ⟨outd, ed, _, hTd, _⟩ := warpW_correct G big false (weight p) dim dist hd t1 t2 h1 h2 nofun
  exact ⟨out, outd, by rw [matchTracks_warpW]; exact e, by rw [matchTracks_warpW]; exact ed,
    (hT fun _ => hH).trans (hTd nofun).symm, rest⟩

/-- `match_history_irrelevant` for the fast variant, under the hypotheses of `match_fdtw_correct` -/
theorem match_fdtw_history (G : Geom α) (big : α) (p : PNorm) (dim : DimArg α)
    (dist : Pt α → Pt α → α) (hd : distanceOf G dim = .ok dist) (hnn : ∀ p q, 0 ≤ dist p q)
    (t1 t2 : List (Pt α)) (h1 : 0 < t1.length) (h2 : 0 < t2.length)
    (hbig : ∀ i j i' j', i < t2.length → j < t1.length → i' < t2.length → j' < t1.length →
      weight p (T (weight p) 0 (Dmat dist t1 t2) i j) (Dmat dist t1 t2 i' j') < big)
    (rows0 : List (Row α)) (hl : rows0.length = t1.length) :
    matchCall G big 3 (PArg.ofNorm p) dim { pts := t1, rows := rows0 } t2 = matchTracks G big Mode.fdtw p dim t1 t2 := by
  have hH : FastHyp big (weight p) dist t1 t2 := ⟨weight_mono p, fun a i j _ _ => weight_infl p a _ (hnn _ _), hbig⟩
  obtain ⟨r, hr, _⟩ := warpW_history G big true (weight p) dim t1 t2 h1 h2
    fun _ dist' hd' => Or.inl (by cases hd.symm.trans hd'; exact hH)
  exact ((matchCall_warpW G big Mode.fdtw _ p (p2weight_exponent_ofNorm p) dim _ t2).trans (hr rows0 hl)).trans
    ((matchTracks_warpW G big Mode.fdtw p dim t1 t2).trans (hr _ (List.length_map _))).symm


/-- **`compare` in the modes DTW and FRECHET**, for every pair of non-empty tracks over an ordered field, every class of positions
and `dim` on which `_distance` is defined: the call succeeds and
returns `cmpValue` of the matching that `match` returns, which is optimal (`match_onesided`): for FRECHET / `p = inf` the value
**is** the least, over all couplings, of the largest link (the discrete Fréchet distance); for a finite `p ≥ 1` it is
`(score/nb_links)**(1/p)` with `score` the least `Σ d^p` over all couplings and `nb_links` the number of links of the returned
optimal coupling, between `max(n1, n2)` and `n1 + n2 - 1` -/
theorem compare_correct (G : Geom α) (root : Nat → α → α) (ofNat : Nat → α) (big : α) (mode : Mode)
    (hm : mode ≠ Mode.fdtw) (p : PNorm) (dim : DimArg α) (dist : Pt α → Pt α → α) (hd : distanceOf G dim = .ok dist)
    (t1 t2 : List (Pt α)) (h1 : 0 < t1.length) (h2 : 0 < t2.length) :
    ∃ out, matchTracks G big mode p dim t1 t2 = .ok out ∧
      compareTracks G root ofNat big mode p dim t1 t2 = .ok (cmpValue root ofNat mode p out) ∧
      (∀ S, IsCouplingOf t1.length t2.length S → out.score ≤ costBack (weightOf mode p) 0 (Dmat dist t1 t2) S) ∧
      IsCouplingOf t1.length t2.length out.S ∧
      costBack (weightOf mode p) 0 (Dmat dist t1 t2) out.S = out.score ∧
      out.nbLinks = out.S.length ∧
      t1.length ≤ out.nbLinks ∧ t2.length ≤ out.nbLinks ∧ out.nbLinks + 1 ≤ t1.length + t2.length := by
  obtain ⟨out, e, _, hlow, hc, hcost, hnb, _, _⟩ := match_onesided G big mode hm p dim dist hd t1 t2 h1 h2
  have hlen := backPath_length out.S _ _ hc.1 hc.2
  refine ⟨out, e, ?_, hlow, hc, hcost, hnb, by omega, by omega, by omega⟩
  rw [compare_value, e]

/-- **`compare` in the mode FDTW** (`MODE_COMPARISON_FDTW = 107`), under the hypotheses of `match_fdtw_correct`: the call succeeds
and returns `cmpValue` of the matching that `match(…, FDTW)` returns, whose score is the score of the mode DTW — the optimum
(`match_onesided`) — and whose `nb_links` is the length of a coupling realising it: for `p = inf` the value is the discrete
Fréchet distance, for a finite `p ≥ 1` it is `(score/nb_links)**(1/p)` with `max(n1, n2) ≤ nb_links ≤ n1 + n2 - 1` -/
theorem compare_fdtw_correct (G : Geom α) (root : Nat → α → α) (ofNat : Nat → α) (big : α) (p : PNorm) (dim : DimArg α)
    (dist : Pt α → Pt α → α) (hd : distanceOf G dim = .ok dist) (hnn : ∀ p q, 0 ≤ dist p q)
    (t1 t2 : List (Pt α)) (h1 : 0 < t1.length) (h2 : 0 < t2.length)
    (hbig : ∀ i j i' j', i < t2.length → j < t1.length → i' < t2.length → j' < t1.length →
      weight p (T (weight p) 0 (Dmat dist t1 t2) i j) (Dmat dist t1 t2 i' j') < big) :
    ∃ out, matchTracks G big Mode.fdtw p dim t1 t2 = .ok out ∧
      compareTracks G root ofNat big Mode.fdtw p dim t1 t2 = .ok (cmpValue root ofNat Mode.fdtw p out) ∧
      (∀ S, IsCouplingOf t1.length t2.length S → out.score ≤ costBack (weight p) 0 (Dmat dist t1 t2) S) ∧
      IsCouplingOf t1.length t2.length out.S ∧
      costBack (weight p) 0 (Dmat dist t1 t2) out.S = out.score ∧
      out.nbLinks = out.S.length ∧
      t1.length ≤ out.nbLinks ∧ t2.length ≤ out.nbLinks ∧ out.nbLinks + 1 ≤ t1.length + t2.length := by
  have hH : FastHyp big (weight p) dist t1 t2 := ⟨weight_mono p, fun a i j _ _ => weight_infl p a _ (hnn _ _), hbig⟩
  obtain ⟨out, e, _, hT, hc, hcost, hnb, _⟩ := warpW_correct G big true (weight p) dim dist hd t1 t2 h1 h2 (fun _ => Or.inl hH)
  have e' : matchTracks G big Mode.fdtw p dim t1 t2 = .ok out := by rw [matchTracks_warpW]; exact e
  have hlen := backPath_length out.S _ _ hc.1 hc.2
  exact ⟨out, e', by rw [compare_value, e'], optimal_of_table (weight_mono p) (hT fun _ => hH), hc, hcost, hnb,
    by omega, by omega, by omega⟩

theorem costBack_nonneg (dist : Pt α → Pt α → α) (hnn : ∀ p q, 0 ≤ dist p q) (p : PNorm) (t1 t2 : List (Pt α)) :
    ∀ S : List (Nat × Nat), 0 ≤ costBack (weight p) 0 (Dmat dist t1 t2) S
  | [] => le_refl _
  | _ :: rest =>
    le_trans (costBack_nonneg dist hnn p t1 t2 rest)
      (weight_infl p _ _ (hnn _ _))

/-- **`compare(DTW, p = k)` is the `k`-th root of the mean of `d^k` along the returned optimal coupling**: with exact
arithmetic — `root k` a genuine `k`-th root on non-negative numbers, `ofNat` the cast — `compare(...)^k * nb_links` is the
score, i.e. the least `Σ d^k` over all couplings. (Needs exact arithmetic: in floats `x**(1.0/k)` is rounded, and for
`k = 3` as `numpy.float16/32` the exponent `1.0/p` itself is rounded to that precision.) -/
theorem compare_mean_power (G : Geom α) (root : Nat → α → α) (big : α) (k : Nat)
    (hroot : ∀ x : α, 0 ≤ x → npow (root (k+1) x) (k+1) = x) (dim : DimArg α)
    (dist : Pt α → Pt α → α) (hd : distanceOf G dim = .ok dist) (hnn : ∀ p q, 0 ≤ dist p q)
    (t1 t2 : List (Pt α)) (h1 : 0 < t1.length) (h2 : 0 < t2.length) :
    ∃ out v, matchTracks G big Mode.dtw (.nat (k+1)) dim t1 t2 = .ok out ∧
      compareTracks G root (fun n => (n : α)) big Mode.dtw (.nat (k+1)) dim t1 t2 = .ok v ∧
      npow v (k+1) * (out.nbLinks : α) = out.score ∧
      (∀ S, IsCouplingOf t1.length t2.length S → out.score ≤ costBack (weight (.nat (k+1))) 0 (Dmat dist t1 t2) S) := by
  obtain ⟨out, e, ec, hlow, _, hcost, _, hn1, _, _⟩ :=
    compare_correct G root (fun n => (n : α)) big Mode.dtw (by decide) (.nat (k+1)) dim dist hd t1 t2 h1 h2
  have hw : weightOf (α := α) Mode.dtw (.nat (k+1)) = weight (.nat (k+1)) := rfl
  rw [hw] at hcost hlow
  refine ⟨out, _, e, ec, ?_, hlow⟩
  have hpos : (0 : α) < (out.nbLinks : α) := by exact_mod_cast (by omega : 0 < out.nbLinks)
  have hs : 0 ≤ out.score := by rw [← hcost]; exact costBack_nonneg dist hnn _ t1 t2 _
  have hv : cmpValue root (fun n => (n : α)) Mode.dtw (.nat (k+1)) out = root (k+1) (out.score / (out.nbLinks : α)) := by
    unfold cmpValue; simp
  rw [hv, hroot _ (div_nonneg hs (le_of_lt hpos))]
  exact div_mul_cancel₀ _ (ne_of_gt hpos)


/-- **the matching does not depend on the unit of the point distance**: with every point distance multiplied by `c > 0`
(metres → millimetres, degrees → arc seconds), `_dtw` with the accumulation of `p` returns the same coupling `S`, the same
`nb_links` and `pair` lists, and the score multiplied by `c**p` (by `c` for `p = inf`, unchanged for `p = 0`): no threshold,
tolerance or other absolute quantity enters the computation -/
theorem cost_unit_invariant (dist : Pt α → Pt α → α) (c : α) (hc : 0 < c) (p : PNorm)
    (t1 t2 : List (Pt α)) (h1 : 0 < t1.length) (h2 : 0 < t2.length) :
    ∃ o o', dtw dist (weight p) t1 t2 = some o ∧ dtw (fun a b => c * dist a b) (weight p) t1 t2 = some o' ∧
      o'.S = o.S ∧ o'.score = unitFactor c p * o.score ∧ o'.nbLinks = o.nbLinks ∧
      ∀ j : Nat, (o'.rows[j]?).map (fun r : Row α => r.pair) = (o.rows[j]?).map (fun r : Row α => r.pair) :=
  dtw_hom dist (fun a b => c * dist a b) (weight p) (weight p) (fun a => unitFactor c p * a)
    (fun _ _ => mul_le_mul_iff_right₀ (unitFactor_pos c hc p)) t1 t2 t1 t2 rfl rfl h1 h2 (mul_zero _)
    fun a _ _ => weight_unit c hc p a _

/-- **the unit of the coordinates does not matter** (`ENUCoords`, `dim` 1, 2, 3): with every coordinate of both tracks multiplied
by `c > 0`, `_dtw` returns the same coupling, `nb_links` and `pair` lists, and the score multiplied by `c**p` (`c` for
`p = inf`) — for a `sqrt` that is homogeneous (`sqrt(c²x) = c·sqrt(x)` on `x ≥ 0`, as the real square root is; in floating
point this holds exactly when `c` is a power of two, which is what the `slat` stream of the harness exercises) -/
theorem unit_invariant (sqrt : α → α) (c : α) (hc : 0 < c) (hs : ∀ x, 0 ≤ x → sqrt (c * c * x) = c * sqrt x) (p : PNorm)
    (d : Nat) (t1 t2 : List (Pt α)) (h1 : 0 < t1.length) (h2 : 0 < t2.length) :
    ∃ o o', dtw (distance sqrt d) (weight p) t1 t2 = some o ∧
      dtw (distance sqrt d) (weight p) (t1.map (Pt.scale c)) (t2.map (Pt.scale c)) = some o' ∧
      o'.S = o.S ∧ o'.score = unitFactor c p * o.score ∧ o'.nbLinks = o.nbLinks ∧
      ∀ j : Nat, (o'.rows[j]?).map (fun r : Row α => r.pair) = (o.rows[j]?).map (fun r : Row α => r.pair) :=
  dtw_hom (distance sqrt d) (distance sqrt d) (weight p) (weight p) (fun a => unitFactor c p * a)
    (fun _ _ => mul_le_mul_iff_right₀ (unitFactor_pos c hc p)) t1 t2 _ _ (by simp) (by simp) h1 h2 (mul_zero _)
    fun a i j => by rw [Dmat_scale sqrt c hc hs]; exact weight_unit c hc p a _

end field


/-! ### exponents that are not natural numbers (`p = 0.5`, `1.5`, `2.5`, …)

`_p2weight` gives `lambda A, B: A + B**p` for every number `p` whose type name contains `int` or `float`, whatever its value;
`Model/DTWReal.lean` has the front ends with such a `p` (`matchCallX`, `compareCallX`, `runSeqX`: what the driver runs), `B**x`
being a parameter `pow`. On the arguments of the sections above they are the front ends of those sections (`front_ends_agree`),
and for a `p = x > 0` that is not a natural number the statement of the property holds for **any** function `pow` (the plain
variant) / for any `pow` that is non-negative on non-negative distances (the fast variant) — the real power function is. -/
section realexp
variable {α : Type} [Field α] [LinearOrder α]

/-- **the front ends that the driver runs are those of the theorems above** on every argument `p` whose value is a natural number
or infinity (every type, callables included), for `match`, `compare` and whole sessions -/
theorem front_ends_agree (pow : α → α → α) (G : Geom α) (root : Nat → α → α) (ofNat : Nat → α) (big : α) :
    (∀ (mode : Nat) (p : PArg) (dim : DimArg α) (a : TrackObj α) (t2 : List (Pt α)),
      matchCallX pow G big mode p.toX dim a t2 = matchCall G big mode p dim a t2) ∧
    (∀ (mode : Nat) (p : PArg) (dim : DimArg α) (a : TrackObj α) (t2 : List (Pt α)),
      compareCallX pow G root ofNat big mode p.toX dim a t2 = compareCall G root ofNat big mode p dim a t2) ∧
    (∀ (steps : List (Step α)) (env : List (Option (TrackObj α))),
      runSeqX pow G root ofNat big env (steps.map Step.toX) = runSeq G root ofNat big env steps) :=
  ⟨fun mode p dim a t2 => matchCallX_toX pow G big mode p dim a t2,
   fun mode p dim a t2 => compareCallX_toX pow G root ofNat big mode p dim a t2,
   fun steps env => runSeqX_toX pow G root ofNat big steps env⟩

/-- `_p2weight(p)` for a number `p = x > 0` that is neither a natural number nor infinity: `lambda A, B: A + B**x` when the type
name contains `int` or `float` (Python `float` — which is what `match` / `compare` hand over for every numpy floating scalar since
1f009f6, `numpy.longdouble(1.5)` included: `match_numpy_scalar_real`), the callable itself when `p` is one computing that,
UnboundLocalError for any other type (`Fraction(3, 2)`, `Decimal('1.5')`) -/
theorem p2weight_real (pow : α → α → α) (p : PArgX α) (x : α) (hx : 0 < x) :
    (p.isNum = true → p.val = some (.real x) → p2weightX pow p = .ok (weightX pow (.real x))) ∧
    (p.isFn = true → p.isNum = false → p.fnw = some (.real x) → p.val = none → p2weightX pow p = .ok (weightX pow (.real x))) ∧
    (p.isFn = false → p.isNum = false → p.val = some (.real x) → p2weightX pow p = .error "err:UnboundLocalError") :=
  ⟨fun hn hv => p2weightX_real pow p x hn hv hx, fun hf hn hw hv => p2weightX_real_callable pow p x hf hn hw hv hx,
   fun hf hn hv => p2weightX_real_unbound pow p x hf hn hv⟩

/-- **a numpy scalar `p`, any positive value** (the front ends the driver runs): `match` / `compare` with `p` a numpy floating
(integer) scalar — `numpy.float16(1.5)`, `numpy.float32(2)`, `numpy.longdouble(2.5)`, `numpy.uint8(2)` — return exactly what they
return with the Python `float` (`int`) of the same value, for every mode constant and every track1; and for such a `p = x` that is not
a natural number `_p2weight` receives a Python float, so that `hp` of `match_real_correct` / `match_fdtw_real_correct` holds -/
theorem match_numpy_scalar_real (pow : α → α → α) (G : Geom α) (root : Nat → α → α) (ofNat : Nat → α) (big : α) (mode : Nat)
    (p : PArgX α) (dim : DimArg α) (a : TrackObj α) (t2 : List (Pt α)) :
    matchCallX pow G big mode p dim a t2 = matchCallX pow G big mode { p with tyname := exponentTy p.tyname } dim a t2 ∧
    compareCallX pow G root ofNat big mode p dim a t2
      = compareCallX pow G root ofNat big mode { p with tyname := exponentTy p.tyname } dim a t2 ∧
    (∀ x, p.isNumpy = true → p.val = some (.real x) → 0 < x → p2weightX pow p.exponent = .ok (weightX pow (.real x))) := by
  have he : p.exponent.exponent = p.exponent := by simp only [PArgX.exponent, exponentTy_idem]
  refine ⟨?_, ?_, ?_⟩
  · show matchBodyX pow G big mode p.exponent dim a t2 = matchBodyX pow G big mode p.exponent.exponent dim a t2
    rw [he]
  · show compareBodyX pow G root ofNat big mode p.exponent dim a t2 = compareBodyX pow G root ofNat big mode p.exponent.exponent dim a t2
    rw [he]
  · intro x hnp hv hx
    exact p2weightX_real pow p.exponent x (PArgX.exponent_numpy p hnp).2.1 hv hx

/-- `compare(track1, track2, DTW | FDTW, p = x)` for a number `x` that is not a natural number is `match` followed by
`(score/nb_links)**(1.0/x)`; errors are those of `match` -/
theorem compare_real_value (pow : α → α → α) (G : Geom α) (root : Nat → α → α) (ofNat : Nat → α) (big : α) (fast : Bool)
    (p : PArgX α) (x : α) (hf : p.isFn = false) (hv : p.val = some (.real x)) (dim : DimArg α) (a : TrackObj α) (t2 : List (Pt α)) :
    compareCallX pow G root ofNat big (if fast then 107 else 106) p dim a t2 =
      match matchCallX pow G big (if fast then 3 else 2) p dim a t2 with
      | .ok o => .ok (pow (o.score / ofNat o.nbLinks) (1 / x))
      | .error e => .error e := by
  have hf' : p.exponent.isFn = false := (PArgX.exponent_isFn p).trans hf
  have hv' : p.exponent.val = some (.real x) := hv
  -- `_dtw_comparison` / `_fdtw_comparison` on a number that is neither 0 nor infinity nor a natural number
  have hpost : ∀ o, cmpPostX pow root ofNat fast p.exponent o = .ok (pow (o.score / ofNat o.nbLinks) (1 / x)) := fun o => by
    simp [cmpPostX, PArgX.isZero, PArgX.isInf, hf', hv', pure, Except.pure]
  unfold compareCallX matchCallX
  have hc : compareBodyX pow G root ofNat big (if fast then 107 else 106) p.exponent dim a t2 =
      (matchBodyX pow G big (if fast then 3 else 2) p.exponent dim a t2).bind (cmpPostX pow root ofNat fast p.exponent) := by
    cases fast <;> rfl
  rw [hc]
  cases matchBodyX pow G big _ p.exponent dim a t2
  · rfl
  · exact hpost _

/-- **a matched track matched again, any `p`** (modes DTW, FRECHET and every constant that is not a matching mode): `matchCallX` on a
track1 that carries the feature rows of an earlier matching returns what it returns on the same positions without features -/
theorem match_real_history (pow : α → α → α) (G : Geom α) (big : α) (mode : Nat) (hm : mode ≠ 3) (p : PArgX α) (dim : DimArg α)
    (t1 t2 : List (Pt α)) (rows0 : List (Row α)) (hl : rows0.length = t1.length) (h1 : 0 < t1.length) (h2 : 0 < t2.length) :
    matchCallX pow G big mode p dim { pts := t1, rows := rows0 } t2 = matchCallX pow G big mode p dim (TrackObj.fresh t1) t2 :=
  matchCallX_history_all pow G big mode p dim t1 t2 rows0 hl h1 h2 (fun h => absurd h hm)

variable [IsStrictOrderedRing α]

theorem weightX_mono (pow : α → α → α) (p : PExp α) (a b d : α) (h : a ≤ b) : weightX pow p a d ≤ weightX pow p b d := by
  cases p with
  | norm v => exact weight_mono v a b d h
  | real x => exact add_le_add h le_rfl

/-- **C18 for `match(track1, track2, DTW, p = x, dim)` with `x > 0` any number that is not a natural number** (`hp`: a Python /
numpy float, or a callable computing `A + B**x` — `p2weight_real`), for every pair of non-empty tracks, every class of positions and
every `dim` on which `_distance` is defined, **whatever `B**x` computes** (`pow`): the call succeeds and returns what `_dtw` returns
with the accumulation `A + B**x`; the reported score is a lower bound of `Σ d**x` over all monotone unit-step couplings from the
first to the last pair; the returned `S` is such a coupling and its accumulated cost **is** the score (the cost table holds the
accumulated costs as computed — not rounded to integers when the point distances are integers); `nb_links` is its length, the
`pair` feature lists exactly its pairs, nobody is left out; and when the point distance is symmetric the swapped call reports
the same score. -/
theorem match_real_correct (pow : α → α → α) (G : Geom α) (big : α) (p : PArgX α) (x : α)
    (hp : p2weightX pow p.exponent = .ok (weightX pow (.real x))) (dim : DimArg α)
    (dist : Pt α → Pt α → α) (hd : distanceOf G dim = .ok dist)
    (t1 t2 : List (Pt α)) (h1 : 0 < t1.length) (h2 : 0 < t2.length) :
    ∃ out, matchCallX pow G big 2 p dim (TrackObj.fresh t1) t2 = .ok out ∧
      dtw dist (weightX pow (.real x)) t1 t2 = some out ∧
      (∀ S, IsCouplingOf t1.length t2.length S → out.score ≤ costBack (weightX pow (.real x)) 0 (Dmat dist t1 t2) S) ∧
      IsCouplingOf t1.length t2.length out.S ∧
      costBack (weightX pow (.real x)) 0 (Dmat dist t1 t2) out.S = out.score ∧
      out.nbLinks = out.S.length ∧
      (∀ j, j < t1.length → ∃ r : Row α, out.rows[j]? = some r ∧ (∀ i, i ∈ r.pair ↔ (i, j) ∈ out.S) ∧ r.pair ≠ []) ∧
      (∀ i, i < t2.length → ∃ (j : Nat) (r : Row α), out.rows[j]? = some r ∧ i ∈ r.pair) ∧
      ((∀ a b, dist a b = dist b a) →
        ∃ out', matchCallX pow G big 2 p dim (TrackObj.fresh t2) t1 = .ok out' ∧ out'.score = out.score) := by
  obtain ⟨out, e, he, hT, rest⟩ := warpW_correct G big false (weightX pow (.real x)) dim dist hd t1 t2 h1 h2 nofun
  refine ⟨out, (matchCallX_ok pow G big false p _ hp dim _ t2).trans e, he,
    optimal_of_table (weightX_mono pow _) (hT nofun), ?_⟩
  obtain ⟨hcoup, hcost, hnb, hrows, hcov⟩ := rest
  refine ⟨hcoup, hcost, hnb, hrows, hcov, fun hsymm => ?_⟩
  obtain ⟨out', e', _, hT', _⟩ := warpW_correct G big false (weightX pow (.real x)) dim dist hd t2 t1 h2 h1 nofun
  exact ⟨out', (matchCallX_ok pow G big false p _ hp dim _ t1).trans e',
    (hT' nofun).trans ((T_swap dist hsymm _ t1 t2 _ _).trans (hT nofun).symm)⟩


/-- **C18 for the fast variant with such a `p`**: when `B**x ≥ 0` on the distances at hand (`hpow`: the real power function is
non-negative on non-negative numbers), the point distance is non-negative and `big` is above every candidate cost,
`match(…, FDTW, p = x)` succeeds and reports **the same score as `mode = DTW`**; its `S` is a coupling whose accumulated cost is that
score; `nb_links` and the `pair` feature describe it and nobody is left out. -/
theorem match_fdtw_real_correct (pow : α → α → α) (G : Geom α) (big : α) (p : PArgX α) (x : α)
    (hp : p2weightX pow p.exponent = .ok (weightX pow (.real x))) (dim : DimArg α)
    (dist : Pt α → Pt α → α) (hd : distanceOf G dim = .ok dist) (hnn : ∀ a b, 0 ≤ dist a b)
    (hpow : ∀ b : α, 0 ≤ b → 0 ≤ pow b x)
    (t1 t2 : List (Pt α)) (h1 : 0 < t1.length) (h2 : 0 < t2.length)
    (hbig : ∀ i j i' j', i < t2.length → j < t1.length → i' < t2.length → j' < t1.length →
      weightX pow (.real x) (T (weightX pow (.real x)) 0 (Dmat dist t1 t2) i j) (Dmat dist t1 t2 i' j') < big) :
    ∃ out outd, matchCallX pow G big 3 p dim (TrackObj.fresh t1) t2 = .ok out ∧
      matchCallX pow G big 2 p dim (TrackObj.fresh t1) t2 = .ok outd ∧
      out.score = outd.score ∧
      IsCouplingOf t1.length t2.length out.S ∧
      costBack (weightX pow (.real x)) 0 (Dmat dist t1 t2) out.S = out.score ∧
      out.nbLinks = out.S.length ∧
      (∀ j, j < t1.length → ∃ r : Row α, out.rows[j]? = some r ∧ (∀ i, i ∈ r.pair ↔ (i, j) ∈ out.S) ∧ r.pair ≠ []) ∧
      (∀ i, i < t2.length → ∃ (j : Nat) (r : Row α), out.rows[j]? = some r ∧ i ∈ r.pair) := by
  have hH : FastHyp big (weightX pow (.real x)) dist t1 t2 :=
    ⟨weightX_mono pow _, fun a i j _ _ => le_add_of_nonneg_right (hpow _ (hnn _ _)), hbig⟩
  obtain ⟨out, e, _, hT, rest⟩ := warpW_correct G big true (weightX pow (.real x)) dim dist hd t1 t2 h1 h2 (fun _ => Or.inl hH)
  obtain ⟨outd, ed, _, hTd, _⟩ := warpW_correct G big false (weightX pow (.real x)) dim dist hd t1 t2 h1 h2 nofun
  exact ⟨out, outd, (matchCallX_ok pow G big true p _ hp dim _ t2).trans e, (matchCallX_ok pow G big false p _ hp dim _ t2).trans ed,
    (hT fun _ => hH).trans (hTd nofun).symm, rest⟩


/-- **the matching does not depend on the unit of the point distance, for such a `p` too**: with every point distance multiplied by
`c > 0`, `_dtw` with the accumulation `A + B**x` returns the same coupling, `nb_links` and `pair` lists, and the score multiplied
by `c**x` — for a `pow` that is multiplicative at `c` (`(c·b)**x = c**x · b**x`, `c**x > 0`: true of the real power function on
non-negative `b`, the point distance being non-negative; needs exact arithmetic, in floats `pow` is rounded) -/
theorem cost_unit_invariant_real (pow : α → α → α) (dist : Pt α → Pt α → α) (c x : α) (hc : 0 < pow c x)
    (hnn : ∀ a b, 0 ≤ dist a b) (hmul : ∀ b : α, 0 ≤ b → pow (c * b) x = pow c x * pow b x)
    (t1 t2 : List (Pt α)) (h1 : 0 < t1.length) (h2 : 0 < t2.length) :
    ∃ o o', dtw dist (weightX pow (.real x)) t1 t2 = some o ∧
      dtw (fun a b => c * dist a b) (weightX pow (.real x)) t1 t2 = some o' ∧
      o'.S = o.S ∧ o'.score = pow c x * o.score ∧ o'.nbLinks = o.nbLinks ∧
      ∀ j : Nat, (o'.rows[j]?).map (fun r : Row α => r.pair) = (o.rows[j]?).map (fun r : Row α => r.pair) := by
  apply dtw_hom dist (fun a b => c * dist a b) (weightX pow (.real x)) (weightX pow (.real x)) (fun a => pow c x * a)
    (fun _ _ => mul_le_mul_iff_right₀ hc) t1 t2 t1 t2 rfl rfl h1 h2 (mul_zero _)
  intro a i j
  show pow c x * a + pow (c * Dmat dist t1 t2 i j) x = pow c x * (a + pow (Dmat dist t1 t2 i j) x)
  rw [hmul (Dmat dist t1 t2 i j) (hnn _ _)]; ring

end realexp


/-! ### the hypotheses are satisfiable; a concrete run of the model (the D14 witness, in dimension 1) -/

example : ∀ a b d : ℚ, a ≤ b → weight PNorm.two a d ≤ weight PNorm.two b d := fun a b d h => weight_mono _ a b d h

/-- tracks `0,1,0` and `1,0,1` (altitudes), `p = 1`: up and left tie below the diagonal at the last cell; the score is 2
and the returned coupling `(0,0) (1,0) (2,1) (2,2)` costs `1 + 0 + 0 + 1 = 2`. -/
example :
    (dtw (α := Int) (distance id 1) (weight PNorm.one) [⟨0, 0, 0⟩, ⟨0, 0, 1⟩, ⟨0, 0, 0⟩] [⟨0, 0, 1⟩, ⟨0, 0, 0⟩, ⟨0, 0, 1⟩]).map
      (fun o => (o.score, o.S, o.rows.map (·.pair), o.nbLinks))
    = some (2, [(2, 2), (2, 1), (1, 0), (0, 0)], [[0, 1], [2], [2]], 4) := by decide +kernel

/-- same run, `diff` read back: observation 0 has partners `[0, 1]` and holds the distance to the last one (`|0 - 0|`), observations
1 and 2 have the single partner 2 (`|1 - 1|`, `|0 - 1|`), as `features_read_back` says -/
example :
    (dtw (α := Int) (distance id 1) (weight PNorm.one) [⟨0, 0, 0⟩, ⟨0, 0, 1⟩, ⟨0, 0, 0⟩] [⟨0, 0, 1⟩, ⟨0, 0, 0⟩, ⟨0, 0, 1⟩]).map
      (fun o => (o.rows.map (·.diff), readBack o.rows))
    = some ([some 0, some 0, some 1], [(0, 0), (1, 0), (2, 1), (2, 2)]) := by decide +kernel

/-- the fast variant on the same input (`big = 1000`): same score 2, a different optimal coupling. -/
example :
    (fdtw (α := Int) (distance id 1) 1000 (weight PNorm.one) [⟨0, 0, 0⟩, ⟨0, 0, 1⟩, ⟨0, 0, 0⟩] [⟨0, 0, 1⟩, ⟨0, 0, 0⟩, ⟨0, 0, 1⟩]).map
      (fun o => (o.score, o.rows.map (·.pair), o.nbLinks))
    = some (2, [[0], [0], [1, 2]], 4) := by decide +kernel

/-- `p = numpy.int32(2)` satisfies the hypotheses of `p2weight_number`; it and `numpy.longdouble(2)`, `numpy.ulonglong(2)`,
`numpy.float16(2)` (first alternative) and a Python `int` (second alternative) those of `match_any_form` -/
example : let p : PArg := { tyname := "<class'numpy.int32'>", val := some (.nat 2) }
    p.isFn = false ∧ p.isNum = true ∧ p.val = some (.nat 2) := by decide +kernel
example : ∀ ty ∈ ["<class'numpy.int32'>", "<class'numpy.longdouble'>", "<class'numpy.ulonglong'>", "<class'numpy.float16'>"],
    PArg.isNumpy { tyname := ty, val := some (.nat 2) } = true := by
  simp only [List.forall_mem_cons, List.not_mem_nil, false_imp_iff, implies_true, PArg.isNumpy, isNpFloating, isNpInteger,
    List.contains_cons, beq_self_eq_true, Bool.true_or, Bool.or_true, and_self]
example : let p : PArg := { tyname := "<class'int'>", val := some (.nat 2) }
    p.isNumpy = false ∧ p.isFn = false ∧ p.isNum = true := by decide +kernel


/-- `math` functions for the examples over `ℚ` (on `ENUCoords` only `sqrt` is called) -/
def exTrig : Geo.Trig ℚ :=
  { pi := 3, sin := id, cos := id, tan := id, atan := id, atan2 := fun y _ => y, sqrt := id, log := id, exp := id, pow := fun x _ => x }

/-- the witness of the repaired finding `p-numpy-type-name-without-int-or-float` in the model (ordinates `0, 0` against `1, 1`, abscissas
`0, 1` against `0, 2`, `dim = 2` replaced by the Manhattan callable so that the run stays in `ℚ`): `match(t1, t2, DTW,
p = numpy.longdouble(2))` succeeds with the score of `p = 2` (`1 + 4 = 5`, links `(0,0) (1,1)`), where the pre-fix `match` raised
UnboundLocalError -/
example :
    (matchCall (α := ℚ) { cls := .enu, T := exTrig } 1000 2 { tyname := "<class'numpy.longdouble'>", val := some (.nat 2) }
      (.fn (fun p q => |p.x - q.x| + |p.y - q.y|)) (TrackObj.fresh [⟨0, 0, 0⟩, ⟨1, 0, 0⟩]) [⟨0, 1, 0⟩, ⟨2, 1, 0⟩]).toOption.map
      (fun o => (o.score, o.rows.map (·.pair), o.nbLinks))
    = some (5, [[0], [1]], 2) := by decide +kernel
example :
    (matchCallOld (α := ℚ) { cls := .enu, T := exTrig } 1000 2 { tyname := "<class'numpy.longdouble'>", val := some (.nat 2) }
      (.fn (fun p q => |p.x - q.x| + |p.y - q.y|)) (TrackObj.fresh [⟨0, 0, 0⟩, ⟨1, 0, 0⟩]) [⟨0, 1, 0⟩, ⟨2, 1, 0⟩]).toOption.map
      (fun o => (o.score, o.rows.map (·.pair), o.nbLinks))
    = none := by decide +kernel

/-- a session (altitudes, `dim = 1`): `m = match(t0, t1, DTW, p = numpy.int64(1))`, then `match(m, t2, FRECHET)` with the
already matched track as first argument, where `t0` itself carried features under the same names: the second call returns
the links of `t0` with `t2` only (`nb_links = 3`), as `session_history_irrelevant` says -/
example :
    (runSeq (α := ℚ) { cls := .enu, T := exTrig } (fun _ x => x) (fun n => (n : ℚ)) 1000
      [some { pts := [⟨0, 0, 0⟩, ⟨0, 0, 1⟩], rows := [{ diff := some 5, pair := [9, 0] }, { diff := some 5, pair := [9, 1] }] },
       some (TrackObj.fresh [⟨0, 0, 1⟩]), some (TrackObj.fresh [⟨0, 0, 2⟩, ⟨0, 0, 0⟩, ⟨0, 0, 3⟩])]
      [{ front := true, mode := 2, p := { tyname := "<class'numpy.int64'>", val := some (.nat 1) }, dim := .num 1, a := 0, b := 1 },
       { front := true, mode := 4, p := PArg.pyInt1, dim := .num 1, a := 3, b := 2 }]).map
      (fun r => match r with
        | .matched o => some (o.score, o.rows.map (·.pair), o.nbLinks)
        | _ => none)
    = [some (1, [[0], [0]], 2), some (2, [[0, 1], [2]], 3)] := by decide +kernel

/-- the hypothesis `hd` of `match_onesided` / `compare_correct` is satisfiable on every class of positions: `dim = 2` on `GeoCoords`,
`dim = 3` on `ECEFCoords`, a callable (here the Manhattan distance of the first two coordinates) on any class -/
example : ∃ dist, distanceOf (α := ℚ) { cls := .geo, T := exTrig } (.num 2) = .ok dist := ⟨_, (distance_geo _ rfl).2.1⟩
example : ∃ dist, distanceOf (α := ℚ) { cls := .ecef, T := exTrig } (.num 3) = .ok dist := ⟨_, (distance_ecef _ rfl).2.2⟩
example : ∃ dist, distanceOf (α := ℚ) { cls := .geo, T := exTrig } (.fn (fun p q => |p.x - q.x| + |p.y - q.y|)) = .ok dist :=
  ⟨_, distance_function_form _ _⟩
/-- … and `hsymm` of `match_correct` too, for `dim = 3` on `GeoCoords` -/
example : ∃ dist, distanceOf (α := ℚ) { cls := .geo, T := exTrig } (.num 3) = .ok dist ∧ ∀ p q, dist p q = dist q p :=
  ⟨_, (distance_geo _ rfl).2.2, distanceOf_symm _ 3 (Or.inr rfl) _ (distance_geo _ rfl).2.2⟩

/-- the hypotheses on `sqrt` (`hsqrt` of `distanceOf_nonneg`, `hs` of `unit_invariant`) hold of the real square root -/
example : ∀ x : ℝ, 0 ≤ Real.sqrt x := Real.sqrt_nonneg
example (c : ℝ) (hc : 0 < c) : ∀ x : ℝ, 0 ≤ x → Real.sqrt (c * c * x) = c * Real.sqrt x :=
  fun x _ => by rw [Real.sqrt_mul (mul_self_nonneg c), Real.sqrt_mul_self hc.le]

/-- the hypothesis of `compare_mean_power` is satisfiable: for `p = 1` the root is the identity -/
example : ∀ x : ℚ, 0 ≤ x → npow ((fun (_ : Nat) (y : ℚ) => y) (0+1) x) (0+1) = x := fun _ _ => rfl

/-- `p = 1.5` as a Python float (or `numpy.float64(1.5)`) satisfies the hypotheses of `p2weight_real` (first clause), so that `hp` of
`match_real_correct` holds for it -/
example : let p : PArgX ℚ := { tyname := "<class'float'>", val := some (.real (3/2)) }
    p.isFn = false ∧ p.isNum = true := by decide +kernel
example : let p : PArgX ℚ := { tyname := "<class'numpy.float64'>", val := some (.real (3/2)) }
    p.isFn = false ∧ p.isNum = true := by decide +kernel
example (pow : ℚ → ℚ → ℚ) : p2weightX pow { tyname := "<class'float'>", val := some (.real (3/2)) } = .ok (weightX pow (.real (3/2))) :=
  (p2weight_real pow _ (3/2) (by norm_num)).1 (by decide +kernel) rfl
/-- … and so does `p = numpy.longdouble(1.5)` / `numpy.float16(1.5)` handed to `match` (`hp` is about `_exponent(p)`) -/
example (pow : ℚ → ℚ → ℚ) : ∀ ty ∈ ["<class'numpy.longdouble'>", "<class'numpy.float16'>", "<class'float'>"],
    p2weightX pow (PArgX.exponent { tyname := ty, val := some (.real (3/2)) }) = .ok (weightX pow (.real (3/2))) := by
  intro ty hty
  refine (p2weight_real pow _ (3/2) (by norm_num)).1 ?_ rfl
  -- `_exponent` turns the two numpy names into that of a Python float and keeps the third, which is that name
  show (hasSub "int".toList (exponentTy ty).toList || hasSub "float".toList (exponentTy ty).toList) = true
  simp only [List.mem_cons, List.not_mem_nil, or_false] at hty
  rcases hty with rfl | rfl | rfl
  · exact (exponentTy_numpy _ (by simp only [isNpFloating, List.contains_cons, beq_self_eq_true, Bool.true_or, Bool.or_true])).2
  · exact (exponentTy_numpy _ (by simp only [isNpFloating, List.contains_cons, beq_self_eq_true, Bool.true_or])).2
  · exact (pyNames_spec "<class'float'>" (by simp)).1.symm ▸ (pyNames_spec "<class'float'>" (by simp)).2.2

/-- the hypothesis `hpow` of `match_fdtw_real_correct` holds of the real power function -/
example (x : ℝ) : ∀ b : ℝ, 0 ≤ b → 0 ≤ b ^ x := fun _ hb => Real.rpow_nonneg hb x

/-- a run with integer point distances and an exponent that is not a natural number (heights `0, 4, 0` and `4, 0, 4`, `dim = 1`,
`pow b x` standing for `b**1.5` on the two distances that occur: `0**1.5 = 0`, `4**1.5 = 8`): the cost table holds `8, 8, 16` in its
first column — the accumulated costs as computed; the score is `16` and the returned coupling realises it -/
example :
    (matchCallX (α := ℚ) (fun b _ => if b = 4 then 8 else 0) { cls := .enu, T := exTrig } 1000 2
      { tyname := "<class'float'>", val := some (.real (3/2)) } (.num 1)
      (TrackObj.fresh [⟨0, 0, 0⟩, ⟨0, 0, 4⟩, ⟨0, 0, 0⟩]) [⟨0, 0, 4⟩, ⟨0, 0, 0⟩, ⟨0, 0, 4⟩]).toOption.map
      (fun o => (o.score, o.S, o.rows.map (·.pair), o.nbLinks))
    = some (16, [(2, 2), (2, 1), (1, 0), (0, 0)], [[0, 1], [2], [2]], 4) := by decide +kernel

/-- the hypotheses of `cost_unit_invariant_real` hold of the real power function on non-negative distances -/
example (c x : ℝ) (hc : 0 < c) : 0 < c ^ x ∧ ∀ b : ℝ, 0 ≤ b → (c * b) ^ x = c ^ x * b ^ x :=
  ⟨Real.rpow_pos_of_pos hc x, fun _ hb => Real.mul_rpow hc.le hb⟩

/-- a session with an exponent that is not a natural number (heights, `dim = 1`): `m = match(t0, t1, DTW, p = 1.5)` on a `t0` that
already carried features, then `match(m, t2, DTW, p = numpy.float64(1.5))`: the second call returns the links of `t0` with `t2` only,
as `session_history_irrelevant_real` says (`pow b x` standing for `b**1.5` on the distances that occur: 0, 1, 4) -/
example :
    (runSeqX (α := ℚ) (fun b _ => if b = 4 then 8 else b) { cls := .enu, T := exTrig } (fun _ x => x) (fun n => (n : ℚ)) 1000
      [some { pts := [⟨0, 0, 0⟩, ⟨0, 0, 4⟩], rows := [{ diff := some 5, pair := [9, 0] }, { diff := some 5, pair := [9, 1] }] },
       some (TrackObj.fresh [⟨0, 0, 4⟩]), some (TrackObj.fresh [⟨0, 0, 1⟩, ⟨0, 0, 0⟩, ⟨0, 0, 4⟩])]
      [{ front := true, mode := 2, p := { tyname := "<class'float'>", val := some (.real (3/2)) }, dim := .num 1, a := 0, b := 1 },
       { front := true, mode := 2, p := { tyname := "<class'numpy.float64'>", val := some (.real (3/2)) }, dim := .num 1, a := 3, b := 2 }]).map
      (fun r => match r with
        | .matched o => some (o.score, o.rows.map (·.pair), o.nbLinks)
        | _ => none)
    = [some (8, [[0], [0]], 2), some (1, [[0, 1], [2]], 3)] := by decide +kernel

end TV.C18
