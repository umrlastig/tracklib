import TracklibVerif.Props.C18
import TracklibVerif.Props.C18Fast
import TracklibVerif.Lemmas.DTWInt64
/-! # C18 — the fast variant on tracks with `numpy.int64` coordinates (finding `fdtw-numpy-int-coordinates-power-overflow`)

`Model/DTWInt64.lean` models what `_fdtw` computes when the point distance is a `numpy.int64`: `B**p` in int64, i.e. modulo 2^64
(`ipow64`). Here:
* `int64_power` — int64 `B**k` is the exact power reduced into `[-2^63, 2^63)`, and the exact power while that fits;
* `int64_power_bounds` — the largest distances for which it fits: `B ≤ 3037000499` for `p = 2`, `B ≤ 2097151` for `p = 3` (every int64 for
  `p = 1`), and the first distance beyond each bound already wraps to a negative number;
* `match_fdtw_int64_exact` — **under that bound on the point distances the int64 run is the run `match_fdtw_correct` is about**: same
  score, coupling and features as with float / Python-int coordinates; `match_fdtw_int64_correct` spells the conclusion out;
* `fdtw_int64_witness` — **the finding's witness, proved in the model**: heights `0, 2200000` against `0, 0`, `p = 3`, `dim = 1`: the
  int64 run returns the score `-15597488147419103232` (`-1.5597e19`) with the coupling `[[0], [0, 1]]`, the plain variant (and the fast one
  on float coordinates) `10648000000000000000` (`1.0648e19`) with `[[0], [1]]`.
The float table of the code holds these integers rounded to 53 bits; the theorems are over an ordered field (exact), the driver runs
the same definitions on `Float` (`C18.match64`) and is compared with the real code on every generated input of the class. -/
open TV.DTW
namespace TV.C18

/-- **`B ** k` on `numpy.int64`**: the exact power reduced modulo 2^64 into `[-2^63, 2^63)` — in whatever order the products are
taken —, hence the exact power whenever `0 ≤ B` and `B^k < 2^63` -/
theorem int64_power (b : Int) (k : Nat) :
    ipow64 b k = wrap64 (b ^ k) ∧ (-9223372036854775808 ≤ ipow64 b k ∧ ipow64 b k < 9223372036854775808) ∧
      (0 ≤ b → b ^ k < 9223372036854775808 → ipow64 b k = b ^ k) :=
  ⟨ipow64_eq_wrap b k, by rw [ipow64_eq_wrap]; exact wrap64_range _, ipow64_exact b k⟩

/-- **the bound on the point distances**: `B**2` fits int64 exactly for `0 ≤ B ≤ 3037000499`, `B**3` for `0 ≤ B ≤ 2097151` (and `B**1`
always); one more and the power is negative in int64: `3037000500**2 → -9223372036709301616`, `2097152**3 → -2^63` -/
theorem int64_power_bounds :
    (∀ b : Int, 0 ≤ b → b ≤ 3037000499 → b ^ 2 < 9223372036854775808) ∧
    (∀ b : Int, 0 ≤ b → b ≤ 2097151 → b ^ 3 < 9223372036854775808) ∧
    ipow64 3037000500 2 = -9223372036709301616 ∧ ipow64 2097152 3 = -9223372036854775808 := by
  refine ⟨fun b h0 h => ?_, fun b h0 h => ?_, by decide +kernel, by decide +kernel⟩
  · have := pow_le_pow_left₀ h0 h 2
    have e : (3037000499 : Int) ^ 2 < 9223372036854775808 := by norm_num
    linarith
  · have := pow_le_pow_left₀ h0 h 3
    have e : (2097151 : Int) ^ 3 < 9223372036854775808 := by norm_num
    linarith

section field
variable {α : Type} [Field α] [LinearOrder α]

/-- **FDTW is exact with int64 coordinates under the bound**: when every point distance `B` between an observation of track2 and one of
track1 is a non-negative integer (`toInt` reads it exactly) with `B^k < 2^63` — `int64_power_bounds`: `B ≤ 3037000499` for `p = 2`,
`B ≤ 2097151` for `p = 3` —, `match(track1, track2, FDTW, p = k, dim)` on `numpy.int64` coordinates (`matchFdtw64`) returns exactly
what it returns on the same coordinates as floats or Python ints (`matchCall … 3 …`, the call `match_fdtw_correct` is about), whatever
features track1 carries -/
theorem match_fdtw_int64_exact (toInt : α → Int) (G : Geom α) (big : α) (k : Nat) (hk : 1 ≤ k) (dim : DimArg α)
    (dist : Pt α → Pt α → α) (hd : distanceOf G dim = .ok dist) (a : TrackObj α) (t2 : List (Pt α))
    (hb : ∀ p ∈ t2, ∀ q ∈ a.pts, ((toInt (dist p q) : Int) : α) = dist p q ∧ 0 ≤ toInt (dist p q) ∧
      toInt (dist p q) ^ k < 9223372036854775808) :
    matchFdtw64 toInt (fun n : Int => (n : α)) G big k dim a t2 = matchCall G big 3 (PArg.ofNorm (.nat k)) dim a t2 := by
  obtain ⟨k', rfl⟩ : ∃ k', k = k' + 1 := ⟨k - 1, by omega⟩
  refine Eq.trans ?_ (matchCall_warpW G big Mode.fdtw _ (.nat (k' + 1)) (p2weight_exponent_ofNorm _) dim a t2).symm
  show warpW G big true _ dim a t2 = warpW G big true (weight (.nat (k' + 1))) dim a t2
  unfold warpW
  simp only [hd, if_true]
  have hc : fdtwOn dist big (weight64 toInt (fun n : Int => (n : α)) (k' + 1)) a.rows a.pts t2
      = fdtwOn dist big (weight (.nat (k' + 1))) a.rows a.pts t2 := by
    apply fdtwOn_congr
    intro p hp q hq x
    obtain ⟨e1, e2, e3⟩ := hb p hp q hq
    simp only [weight64, weight]
    rw [ipow64_exact _ _ e2 e3, npow_pow, Int.cast_pow, e1]
  rw [hc]

section
variable [IsStrictOrderedRing α]

/-- … and therefore correct: under the bound on the distances (`hb`), for a non-negative point distance and `big` above every
candidate cost, the int64 run succeeds, reports **the same score as `mode = DTW`** — the least `Σ d^k` over all couplings — and its
`S` is a coupling whose accumulated cost is that score -/
theorem match_fdtw_int64_correct (toInt : α → Int) (G : Geom α) (big : α) (k : Nat) (hk : 1 ≤ k) (dim : DimArg α)
    (dist : Pt α → Pt α → α) (hd : distanceOf G dim = .ok dist) (hnn : ∀ p q, 0 ≤ dist p q)
    (t1 t2 : List (Pt α)) (h1 : 0 < t1.length) (h2 : 0 < t2.length)
    (hb : ∀ p ∈ t2, ∀ q ∈ t1, ((toInt (dist p q) : Int) : α) = dist p q ∧ 0 ≤ toInt (dist p q) ∧
      toInt (dist p q) ^ k < 9223372036854775808)
    (hbig : ∀ i j i' j', i < t2.length → j < t1.length → i' < t2.length → j' < t1.length →
      weight (.nat k) (T (weight (.nat k)) 0 (Dmat dist t1 t2) i j) (Dmat dist t1 t2 i' j') < big) :
    ∃ out outd, matchFdtw64 toInt (fun n : Int => (n : α)) G big k dim (TrackObj.fresh t1) t2 = .ok out ∧
      matchTracks G big Mode.dtw (.nat k) dim t1 t2 = .ok outd ∧
      out.score = outd.score ∧
      (∀ S, IsCouplingOf t1.length t2.length S → out.score ≤ costBack (weight (.nat k)) 0 (Dmat dist t1 t2) S) ∧
      IsCouplingOf t1.length t2.length out.S ∧
      costBack (weight (.nat k)) 0 (Dmat dist t1 t2) out.S = out.score ∧
      out.nbLinks = out.S.length := by
  have hH : FastHyp big (weight (.nat k)) dist t1 t2 := ⟨weight_mono _, fun a i j _ _ => weight_infl _ a _ (hnn _ _), hbig⟩
  obtain ⟨out, e, _, hT, hc, hcost, hnb, _⟩ := warpW_correct G big true (weight (.nat k)) dim dist hd t1 t2 h1 h2 (fun _ => Or.inl hH)
  obtain ⟨outd, ed, _, hTd, _⟩ := warpW_correct G big false (weight (.nat k)) dim dist hd t1 t2 h1 h2 nofun
  refine ⟨out, outd, ?_, by rw [matchTracks_warpW]; exact ed, (hT fun _ => hH).trans (hTd nofun).symm,
    optimal_of_table (weight_mono _) (hT fun _ => hH), hc, hcost, hnb⟩
  rw [match_fdtw_int64_exact toInt G big k hk dim dist hd (TrackObj.fresh t1) t2 hb]
  exact (matchTracks_warpW G big Mode.fdtw (.nat k) dim t1 t2).trans e

end

/-- **above the bound the int64 run still returns a coupling whose accumulated cost is the score — in int64 arithmetic**: for any
distances (powers that wrap included), when `big` is above the accumulated wrapped cost of every partial coupling (`FastBig`; wrapped
costs are below `(n1 + n2) · 2^63` in absolute value, `big` is 1e300), `match(…, FDTW, p = k)` on `numpy.int64` coordinates succeeds, `S`
is a monotone unit-step coupling from the first to the last pair, the reported score is the sum of the **wrapped** `B**k` along `S`,
`nb_links` and the `pair` feature describe `S`, nobody is left out. What fails there is optimality with respect to the true `B**k`
(`fdtw_int64_witness`). -/
theorem match_fdtw_int64_any (toInt : α → Int) (ofInt : Int → α) (G : Geom α) (big : α) (k : Nat) (dim : DimArg α)
    (dist : Pt α → Pt α → α) (hd : distanceOf G dim = .ok dist)
    (t1 t2 : List (Pt α)) (h1 : 0 < t1.length) (h2 : 0 < t2.length)
    (hbig : FastBig big (weight64 toInt ofInt k) dist t1 t2) :
    ∃ out, matchFdtw64 toInt ofInt G big k dim (TrackObj.fresh t1) t2 = .ok out ∧
      IsCouplingOf t1.length t2.length out.S ∧
      costBack (weight64 toInt ofInt k) 0 (Dmat dist t1 t2) out.S = out.score ∧
      out.nbLinks = out.S.length ∧
      (∀ j, j < t1.length → ∃ r : Row α, out.rows[j]? = some r ∧ (∀ i, i ∈ r.pair ↔ (i, j) ∈ out.S) ∧ r.pair ≠ []) ∧
      (∀ i, i < t2.length → ∃ (j : Nat) (r : Row α), out.rows[j]? = some r ∧ i ∈ r.pair) := by
  obtain ⟨out, e, _, _, rest⟩ :=
    warpW_correct G big true (weight64 toInt ofInt k) dim dist hd t1 t2 h1 h2 (fun _ => Or.inr hbig)
  exact ⟨out, e, rest⟩

end field

/-- **the finding's witness in the model** (`known_findings.json`, class `fdtw-numpy-int-coordinates-power-overflow`): heights `0, 2200000`
against `0, 0`, `dim = 1`, `p = 3`, `big = 1e300`. With `numpy.int64` coordinates the fast variant accumulates
`wrap64 (2200000^3) = 10648000000000000000 - 2^64 = -7798744073709551616` per link to the far observation, prefers the coupling with two
such links and reports `-15597488147419103232`; on the same coordinates as floats it reports the optimum `2200000^3` with one. -/
theorem fdtw_int64_witness :
    ((matchFdtw64 (α := ℚ) (fun q => q.num) (fun n => (n : ℚ)) { cls := .enu, T := exTrig } ((10 : ℚ) ^ 300) 3 (.num 1)
        (TrackObj.fresh [⟨0, 0, 0⟩, ⟨0, 0, 2200000⟩]) [⟨0, 0, 0⟩, ⟨0, 0, 0⟩]).toOption.map
      (fun o => (o.score, o.rows.map (·.pair), o.nbLinks))
      = some (-15597488147419103232, [[0], [0, 1]], 3)) ∧
    ((matchTracks (α := ℚ) { cls := .enu, T := exTrig } ((10 : ℚ) ^ 300) Mode.fdtw (.nat 3) (.num 1)
        [⟨0, 0, 0⟩, ⟨0, 0, 2200000⟩] [⟨0, 0, 0⟩, ⟨0, 0, 0⟩]).toOption.map
      (fun o => (o.score, o.rows.map (·.pair), o.nbLinks))
      = some (10648000000000000000, [[0], [1]], 2)) ∧
    ipow64 2200000 3 = -7798744073709551616 := by
  refine ⟨by decide +kernel, by decide +kernel, by decide +kernel⟩

/-- the hypotheses of `match_fdtw_int64_exact` are satisfiable beyond small numbers: heights `0, 2097151` against `0` (distance
`2097151`, the largest whose cube fits), `p = 3` -/
example : ∀ p ∈ ([⟨0, 0, 0⟩] : List (Pt ℚ)), ∀ q ∈ ([⟨0, 0, 0⟩, ⟨0, 0, 2097151⟩] : List (Pt ℚ)),
    ((((distance id 1 p q : ℚ).num : Int) : ℚ) = distance id 1 p q ∧ 0 ≤ (distance id 1 p q : ℚ).num ∧
      (distance id 1 p q : ℚ).num ^ 3 < 9223372036854775808) := by
  decide +kernel

end TV.C18
