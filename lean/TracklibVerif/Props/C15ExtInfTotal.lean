import TracklibVerif.Props.C15Ext
/-! C15 over `Ext α`: a weight list whose total is `inf` or `-inf`. `kernel[i] /= norm` leaves only `0` and NaN
(`normalise_infinite_total`), so both sums of every cell are `0` or NaN (`inner_zn`) and their quotient, with numpy scalars, is
NaN (`Ext.zn_div`); `list_infinite_total` is then `filterWindowX_np_nan`, the run whose quotients are all NaN. -/
namespace TV.C15
open TV.Filter
set_option linter.unusedSectionVars false

section generic
variable {α : Type} [Add α] [Mul α] [Div α] [OfNat α 0] [LT α] [DecidableLT α]

/-- numpy weights, boundaries copied: if the quotient of every window that reads a sample is NaN, the call raises a ZeroDivisionError iff
some window reads no sample, and otherwise returns the boundary values and NaN at every filtered index -/
theorem filterWindowX_np_nan (v k : List (Ext α)) (hodd : k.length % 2 = 1)
    (hq : ∀ i, i < v.length → anySample (toSamples v) (k.length / 2) i k 0 = true →
      (inner (toSamples v) (k.length / 2) i k 0 (0, 0)).1 / (inner (toSamples v) (k.length / 2) i k 0 (0, 0)).2 = Ext.nan) :
    ((∃ i, i < v.length ∧ anySample (toSamples v) (k.length / 2) i k 0 = false) → filterWindowX v k false true = .error .zeroDiv) ∧
    ((∀ i, i < v.length → anySample (toSamples v) (k.length / 2) i k 0 = true) → k.length / 2 ≤ v.length →
        ∃ out, filterWindowX v k false true = .ok out ∧ out.length = v.length ∧
          ∀ i, i < v.length →
            ((k.length / 2 ≤ i ∧ i < v.length - k.length / 2) → out[i]? = some .nan) ∧
            ((i < k.length / 2 ∨ v.length - k.length / 2 ≤ i) → out[i]? = v[i]?)) := by
  refine ⟨fun ⟨i, hi, hf⟩ => filterWindowX_zeroDiv v k false true hodd i hi (Or.inl hf), fun hall hD => ?_⟩
  obtain ⟨out, ho, hl, hget⟩ := filterWindowX_ok v k false true hodd
    (fun i hi => ⟨hall i hi, fun h => Bool.noConfusion h⟩) (fun _ => hD)
  refine ⟨out, ho, hl, fun i hi => ⟨fun hf => ?_, (hget i hi).2 rfl⟩⟩
  rw [(hget i hi).1 (Or.inr hf), hq i hi (hall i hi)]

end generic

section ordered
variable {α : Type} [Field α] [LinearOrder α] [IsStrictOrderedRing α]

theorem Ext.div_inf_zn (x y : Ext α) (hy : y = Ext.pinf ∨ y = Ext.ninf) : x / y = Ext.fin 0 ∨ x / y = Ext.nan := by
  rcases hy with rfl | rfl <;> cases x <;> simp [Ext.div_def, Ext.div]

theorem Ext.zn_add (x y : Ext α) (hx : x = Ext.fin 0 ∨ x = Ext.nan) (hy : y = Ext.fin 0 ∨ y = Ext.nan) :
    x + y = Ext.fin 0 ∨ x + y = Ext.nan := by
  rcases hx with hx | hx <;> rcases hy with hy | hy <;> subst hx <;> subst hy <;> simp [Ext.add_def, Ext.add]

theorem Ext.mul_zn (x y : Ext α) (hy : y = Ext.fin 0 ∨ y = Ext.nan) :
    x * y = Ext.fin 0 ∨ x * y = Ext.nan := by
  rcases hy with hy | hy <;> subst hy <;> cases x <;> simp [Ext.mul_def, Ext.mul, Ext.mulInf]

/-- `0/0`, `0/nan`, `nan/0`, `nan/nan` with numpy scalars: NaN -/
theorem Ext.zn_div (x y : Ext α) (hx : x = Ext.fin 0 ∨ x = Ext.nan) (hy : y = Ext.fin 0 ∨ y = Ext.nan) :
    x / y = Ext.nan := by
  rcases hx with hx | hx <;> rcases hy with hy | hy <;> subst hx <;> subst hy <;> simp [Ext.div_def, Ext.div, Ext.mulInf]

theorem inner_zn (s : List (Option (Ext α))) (D i : Nat) (k : List (Ext α)) (hk : ∀ w ∈ k, w = Ext.fin 0 ∨ w = Ext.nan) :
    ((inner s D i k 0 (0, 0)).1 = Ext.fin 0 ∨ (inner s D i k 0 (0, 0)).1 = Ext.nan) ∧
    ((inner s D i k 0 (0, 0)).2 = Ext.fin 0 ∨ (inner s D i k 0 (0, 0)).2 = Ext.nan) := by
  rw [inner_eq_foldl]
  have hz : ∀ l : List (Ext α), (∀ y ∈ l, y = Ext.fin 0 ∨ y = Ext.nan) → l.foldl (· + ·) 0 = Ext.fin 0 ∨ l.foldl (· + ·) 0 = Ext.nan :=
    fun l h => List.foldlRecOn (motive := fun x => x = Ext.fin 0 ∨ x = Ext.nan) l _ (Or.inl rfl) (fun b hb y hy => Ext.zn_add b y hb (h y hy))
  refine ⟨hz _ fun y hy => ?_, hz _ fun y hy => ?_⟩
  all_goals obtain ⟨p, hp, rfl⟩ := List.mem_map.mp hy
  · exact Ext.mul_zn _ _ (hk _ (window_weight_mem hp))
  · exact hk _ (window_weight_mem hp)

theorem normalise_infinite_total (k : List (Ext α))
    (htot : k.foldl (· + ·) 0 = Ext.pinf ∨ k.foldl (· + ·) 0 = Ext.ninf) :
    ∀ w ∈ normalise k, w = Ext.fin 0 ∨ w = Ext.nan :=
  forall_mem_normalise k (fun x _ => Ext.div_inf_zn x _ htot)

/-- **A weight list whose total is infinite** (an `inf` or `-inf` weight): `fin a / ±inf = 0` and `±inf / ±inf = nan`, so the list is left holding only `0` and `nan`,
every collected norm is `0` or `nan`, and every filtered index is NaN (`0/0` with numpy scalars does not raise); ZeroDivisionError iff a window reads no sample.
With `list_zero_or_nan_total`: whenever the total of a weight list is not a non-zero finite number, no filtered output is a number. -/
theorem list_infinite_total (v k : List (Ext α)) (hodd : k.length % 2 = 1)
    (htot : k.foldl (· + ·) 0 = Ext.pinf ∨ k.foldl (· + ·) 0 = Ext.ninf) :
    (∀ w ∈ normalise k, w = Ext.fin 0 ∨ w = Ext.nan) ∧
    ((∃ i, i < v.length ∧ anySample (toSamples v) (k.length / 2) i (normalise k) 0 = false) → executeListX v k = .error .zeroDiv) ∧
    ((∀ i, i < v.length → anySample (toSamples v) (k.length / 2) i (normalise k) 0 = true) → k.length / 2 ≤ v.length →
        ∃ out, executeListX v k = .ok (normalise k, out) ∧ out.length = v.length ∧
          ∀ i, i < v.length →
            ((k.length / 2 ≤ i ∧ i < v.length - k.length / 2) → out[i]? = some .nan) ∧
            ((i < k.length / 2 ∨ v.length - k.length / 2 ≤ i) → out[i]? = v[i]?)) := by
  have hzn := normalise_infinite_total k htot
  obtain ⟨h1, h2⟩ := filterWindowX_np_nan v (normalise k) (by rw [normalise_length]; exact hodd)
    (fun i _ _ => by
      obtain ⟨a, b⟩ := inner_zn (toSamples v) ((normalise k).length / 2) i (normalise k) hzn
      exact Ext.zn_div _ _ a b)
  rw [normalise_length] at h1 h2
  refine ⟨hzn, ?_, ?_⟩
  · exact fun h => executeListX_error (h1 h)
  · intro hall hD
    obtain ⟨out, ho, hl, hi⟩ := h2 hall hD
    exact ⟨out, executeListX_ok ho, hl, hi⟩

example : executeListX (α := Int) [.fin 1, .fin 2, .fin 3] [.fin 1, .pinf, .fin 1]
    = .ok ([.fin 0, .nan, .fin 0], [.fin 1, .nan, .fin 3]) := by decide +kernel

example : executeListX (α := Int) [.fin 1, .fin 2, .fin 3, .fin 4, .fin 5] [.fin 1, .fin 2, .ninf]
    = .ok ([.fin 0, .fin 0, .nan], [.fin 1, .nan, .nan, .nan, .fin 5]) := by decide +kernel

end ordered
end TV.C15
