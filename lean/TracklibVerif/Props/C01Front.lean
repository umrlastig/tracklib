import TracklibVerif.Model.FeaturesFront
import TracklibVerif.Props.C01Call
/-! # C01 — the front ends of the write paths: ANY value given is the value read

Property theorems only. `Model/FeaturesFront.lean` models what `createAnalyticalFeature(name, val_init=0.0)` and
`track[name] = obs` do with their arguments before the table primitives are reached: the default `0.0` is used only when
no second argument is given, `"#DELETE"` is the only value the bracket treats specially. The statements are for every type
`V` of cell values — the driver runs them at `V := String`, one token per Python object (`None`, bool, str, numpy scalar …) —:
"reading a feature by name returns exactly the values last written under that name", whatever the values are.
(What the seeded change C01-11 broke: `val_init=None` taken as "use the default".) -/
set_option linter.unusedSectionVars false
namespace TV.C01
open TV.Features
variable {V : Type} [Inhabited V] {n : Nat}

/-- F0: with a second argument, `createAnalyticalFeature(name, v)` IS the table primitive on `v` — no value is replaced by the
default; without it the primitive is handed `0.0`; `name=None` does nothing. -/
theorem createFront_is_create (o : Ops V) (nm : String) (init : Init V) (st : St V) :
    createFront o (some nm) (some init) st = createC nm init st ∧
    createFront o (some nm) none st = createC nm (.scalar o.zero) st ∧
    ∀ a, createFront o none a st = (.ok (), st) :=
  ⟨rfl, rfl, fun _ => rfl⟩

/-- F1: `createAnalyticalFeature(name, v)` of a new name, for EVERY value `v` (the token of `None` included): it returns, the
name reads `v` at every observation (a list: its first `n` values), every other name reads as before. -/
theorem createFront_reads_value (o : Ops V) (st : St V) (h : Inv n st) (nm : String) (init : Init V)
    (hr : reserved nm = false) (hn : n ≠ 0) (hnew : nm ∉ names st)
    (hok : match init with | .scalar _ => True | .list l => n ≤ l.length) :
    (createFront o (some nm) (some init) st).1 = .ok () ∧
    read o (createFront o (some nm) (some init) st).2 nm = .ok (initCol n init) ∧
    ∀ m, m ≠ nm → read o (createFront o (some nm) (some init) st).2 m = read o st m :=
  read_after_create o st h nm init hr hn hnew hok

/-- `track[name] = obs` on the code's table: update when the name is listed, create otherwise -/
theorem setItem_st (nm : String) (init : Init V) (st : St V) :
    (setItem nm init : M (St V) Unit) st = if hasC st nm then updateC nm init st else createC nm init st := by
  unfold setItem
  rw [bind_of_ok (show Tbl.has nm st = (.ok (hasC st nm), st) from rfl)]
  cases hasC st nm <;> rfl

/-- F2: `track[name] = v` for EVERY value `v` other than `"#DELETE"` (scalar broadcast; a list: its first `n` values), whether the
name is new (create path) or already listed (update path): it returns, the name reads exactly the values given, every other
name reads as before — both paths store the same thing. -/
theorem bracket_reads_value (o : Ops V) (isDelete : V → Bool) (st : St V) (h : Inv n st) (nm : String) (init : Init V)
    (hr : reserved nm = false) (hn : n ≠ 0)
    (hok : match init with | .scalar _ => True | .list l => n ≤ l.length)
    (hd : ∀ v, init = .scalar v → isDelete v = false) :
    (bracketFront isDelete nm init st).1 = .ok () ∧
    read o (bracketFront isDelete nm init st).2 nm = .ok (initCol n init) ∧
    ∀ m, m ≠ nm → read o (bracketFront isDelete nm init st).2 m = read o st m := by
  have hb : bracketFront isDelete nm init st = (setItem nm init : M (St V) Unit) st := by
    cases init with
    | scalar v => simp [bracketFront, hd v rfl]
    | list l => rfl
  rw [hb, setItem_st]
  by_cases hex : nm ∈ names st
  · have h2 : hasC st nm = true := by simp [hasC, find_isSome_of_mem st.dico nm hex]
    rw [h2]
    exact read_after_update o st h nm init hr hn hex hok
  · have h2 : hasC st nm = false := by simp [hasC, find_none_of_not_mem st.dico nm hex, hr]
    rw [h2]
    exact read_after_create o st h nm init hr hn hex hok

/-- F3: `track[name] = "#DELETE"` IS removeAnalyticalFeature(name). -/
theorem bracket_delete_is_remove (isDelete : V → Bool) (nm : String) (v : V) (hd : isDelete v = true) (st : St V) :
    bracketFront isDelete nm (.scalar v) st = removeC nm st := by
  simp [bracketFront, hd]
  rfl

/-- a call with its front end IS a call of `Model/FeaturesCall.lean` — the same one on every table — or does nothing
(`createAnalyticalFeature(None, …)`) -/
theorem fcall_is_call (o : Ops V) (isDelete : V → Bool) (c : FCall V) :
    (∃ c' : Call V, ∀ (σ : Type) [Tbl σ V], (fcall o isDelete c : M σ (Ret V)) = call o c') ∨
    ∀ (σ : Type) [Tbl σ V], (fcall o isDelete c : M σ (Ret V)) = pure .none :=
  match c with
  | .api c => .inl ⟨c, fun _ _ => rfl⟩
  | .create none _ => .inr fun _ _ => rfl
  | .create (some nm) arg => .inl ⟨.one (.create nm (arg.getD (.scalar o.zero))), fun _ _ => rfl⟩
  | .bracket nm (.list l) => .inl ⟨.one (.setItem nm (.list l)), fun _ _ => rfl⟩
  | .bracket nm (.scalar v) => by
    cases hd : isDelete v
    · exact .inl ⟨.one (.setItem nm (.scalar v)), fun _ _ => by simp only [fcall, bracketFront, hd]; rfl⟩
    · exact .inl ⟨.one (.remove nm), fun _ _ => by simp only [fcall, bracketFront, hd, if_true]; rfl⟩

/-- F4: a call with its front end keeps the table aligned and does exactly what it does on the name ↦ column specification:
every theorem about histories extends to histories that go through the front ends. -/
theorem fcall_refines (o : Ops V) (isDelete : V → Bool) (c : FCall V) (st : St V) (h : Inv n st) :
    Inv n (fcall o isDelete c st).2 ∧
    fcall o isDelete c (abs st) = ((fcall o isDelete c st).1, abs (fcall o isDelete c st).2) := by
  obtain ⟨c', e⟩ | e := fcall_is_call o isDelete c
  · rw [e, e]; exact call_refines o c' st h
  · rw [e, e]; exact ⟨h, rfl⟩

/-! ## Non-vacuity: values that are not numbers. `none` stands for Python's `None`, `some k` for a number. -/

def oops : Ops (Option Int) :=
  { zero := some 0, nan := some (-1000), add := fun _ _ => none, sub := fun _ _ => none, mul := fun _ _ => none,
    ofNat := fun k => some (Int.ofNat k), isNaN := fun v => v == some (-1000), parse := fun s => s.toInt?.map some }

def u0 : St (Option Int) := fresh [some 10, some 11] [some 20, some 22] [some 30, some 33] [some 1000, some 1001]

/-- `t["q"] = None` on a new name, then `createAnalyticalFeature("f", None)`, `createAnalyticalFeature("g")`: `q` and `f` read
`None`, only `g` reads the default -/
example : ((traceF oops (fun _ => false)
      [.bracket "q" (.scalar none), .create (some "f") (some (.scalar none)), .create (some "g") none] u0).map
    (fun r => (r.1.toOption.isSome, r.2.dico, r.2.rows))).getLast? =
    some (true, [("q", 0), ("f", 1), ("g", 2)], [[none, none, some 0], [none, none, some 0]]) := by decide +kernel
example : Inv 2 u0 := inv_fresh [some 10, some 11] _ _ _ rfl rfl rfl
example : (read oops (bracketFront (fun _ => false) "q" (.scalar none) u0).2 "q").toOption = some [none, none] := by decide +kernel

end TV.C01
