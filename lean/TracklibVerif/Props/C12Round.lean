import TracklibVerif.Props.C12
import Mathlib.Order.Basic
/-! # C12 — `optimal_rounded` for an addition that is the ROUNDING of the exact sum

`optimal_rounded` (Props/C12.lean) assumes three facts about the machine numbers `F`: their embedding `ι` is monotone, their
addition is monotone, and it has relative error `u`. Here `F` is the ordered field itself carrying the addition
`a ⊕ b = fl (a + b)` for a rounding function `fl` (`Rd fl`): the first two facts are then PROVED from "`fl` is monotone", the
third is "`fl` has relative error `u`". What stays assumed about binary64 is therefore exactly: the sum of two doubles is
`fl` of their exact sum for a function `fl` on the reals that is (1) monotone and (2) within `u·|x|` of `x` — true of
round-to-nearest-even with `u = 2⁻⁵³` as long as no sum overflows and no operand is NaN (sums in the subnormal range are
exact); `Float` is opaque in Lean, so these two facts are not provable here and are what the transfer check on doubles samples. -/
namespace TV.C12
open TV.Partition

/-- an ordered field with the rounded addition `a ⊕ b = fl (a + b)` -/
structure Rd {β : Type} (fl : β → β) where
  v : β

namespace Rd
variable {β : Type} {fl : β → β}
theorem v_injective : Function.Injective (Rd.v : Rd fl → β) := fun a b h => by cases a; cases b; cases h; rfl
instance [Add β] : Add (Rd fl) := ⟨fun a b => ⟨fl (a.v + b.v)⟩⟩
instance [LinearOrder β] : LinearOrder (Rd fl) := LinearOrder.lift' Rd.v v_injective
theorem le_def [LinearOrder β] (a b : Rd fl) : a ≤ b ↔ a.v ≤ b.v := Iff.rfl
theorem add_v [Add β] (a b : Rd fl) : (a + b).v = fl (a.v + b.v) := rfl
end Rd

/-- **T2 `optimal_rounded_fl`** — `optimalPartition` run with the rounded addition `a ⊕ b = fl (a + b)` on ANY costs of an
ordered field, for ANY rounding `fl` that is monotone and has relative error `u`: the exact summed cost of the list returned
is optimal up to `((1+u)^(N−2) − 1) · (Σ|cost| along the result + Σ|cost| along the competitor)`, both directions. Monotonicity
of the embedding and of the rounded addition, hypotheses of `optimal_rounded`, hold here: `Rd fl` is ordered by its values, and `fl` is monotone (`hfl`). -/
theorem optimal_rounded_fl {β : Type} [Field β] [LinearOrder β] [IsStrictOrderedRing β]
    (fl : β → β) (u : β) (hu : 0 ≤ u)
    (hfl : ∀ x y : β, x ≤ y → fl x ≤ fl y)
    (herr : ∀ x : β, |fl x - x| ≤ u * |x|)
    (rows : Nat) (C : Nat → Nat → β) (h : 3 ≤ rows)
    (π : List Nat) (h0 : π.head? = some 0) (hN : π.getLast? = some (rows - 2)) (hinc : π.Pairwise (· < ·)) :
    let CF : Nat → Nat → Rd fl := fun a b => ⟨C a b⟩
    let ac : Nat → Nat → β := fun a b => |C a b|
    let ε : β := (1 + u) ^ (rows - 3) - 1
    pathCost 0 C (optimalPartition (⟨0⟩ : Rd fl) rows CF 0) ≤
      pathCost 0 C π + ε * (pathCost 0 ac (optimalPartition (⟨0⟩ : Rd fl) rows CF 0) + pathCost 0 ac π) ∧
    pathCost 0 C π ≤
      pathCost 0 C (optimalPartition (⟨0⟩ : Rd fl) rows CF 1)
        + ε * (pathCost 0 ac (optimalPartition (⟨0⟩ : Rd fl) rows CF 1) + pathCost 0 ac π) :=
  optimal_rounded (F := Rd fl) (fun a => a.v) u hu (fun _ _ hab => hab)
    (fun _ _ _ _ h1 h2 => hfl _ _ (add_le_add h1 h2)) (fun a b => herr (a.v + b.v)) ⟨0⟩ rows (fun a b => ⟨C a b⟩) h π h0 hN hinc

/-- **T2 `optimal_bracketed_fl`** — `optimal_bracketed` for the rounded addition `a ⊕ b = fl (a + b)` of ANY monotone rounding
`fl` (no error bound needed): `D[0, N−1]` is the value of the returned list summed with `⊕` in the order given by the split table,
and it is at least as good as EVERY bracketing, summed with `⊕`, of EVERY chain. The monotonicity of `⊕` is proved from that of
`fl`. -/
theorem optimal_bracketed_fl {β : Type} [Field β] [LinearOrder β] [IsStrictOrderedRing β]
    (fl : β → β) (hfl : ∀ x y : β, x ≤ y → fl x ≤ fl y) (rows : Nat) (C : Nat → Nat → Rd fl) (h : 3 ≤ rows) :
    (∃ t : Br, t.WF ∧ t.lo = 0 ∧ t.hi = rows - 2 ∧ t.chain = optimalPartition (⟨0⟩ : Rd fl) rows C 0 ∧
      t.val C = (tables (⟨0⟩ : Rd fl) rows C 0).D 0 (rows - 2) ∧
      ∀ t' : Br, t'.WF → t'.lo = 0 → t'.hi = rows - 2 → t.val C ≤ t'.val C) ∧
    (∃ t : Br, t.WF ∧ t.lo = 0 ∧ t.hi = rows - 2 ∧ t.chain = optimalPartition (⟨0⟩ : Rd fl) rows C 1 ∧
      t.val C = (tables (⟨0⟩ : Rd fl) rows C 1).D 0 (rows - 2) ∧
      ∀ t' : Br, t'.WF → t'.lo = 0 → t'.hi = rows - 2 → t.val C ≥ t'.val C) :=
  optimal_bracketed (β := Rd fl) (fun _ _ _ _ h1 h2 => hfl _ _ (add_le_add h1 h2)) ⟨0⟩ rows C h

/-- non-vacuity: a rounding that is monotone, has relative error `1/8`, and whose addition is NOT associative -/
example : let fl : Rat → Rat := fun x => x + x / 8
    (∀ x y : Rat, x ≤ y → fl x ≤ fl y) ∧ (∀ x : Rat, |fl x - x| ≤ (1 / 8) * |x|) ∧
    fl (fl (1 + 1) + 2) ≠ fl (1 + fl (1 + 2)) := by
  intro fl
  refine ⟨fun x y hxy => ?_, fun x => ?_, by simp only [fl]; norm_num⟩
  · show x + x / 8 ≤ y + y / 8
    linear_combination (9 / 8 : Rat) * hxy
  · show |x + x / 8 - x| ≤ 1 / 8 * |x|
    have : x + x / 8 - x = 1 / 8 * x := by ring
    rw [this, abs_mul]
    have : |(1 / 8 : Rat)| = 1 / 8 := abs_of_pos (by norm_num)
    rw [this]

end TV.C12
