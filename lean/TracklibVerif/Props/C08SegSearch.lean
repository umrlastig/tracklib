import TracklibVerif.Props.C08Search
import TracklibVerif.Lemmas.GridSegSearch
import TracklibVerif.Model.GridCall
/-! # C08, third part — the `unit = -1` search of the segment and track forms of `neighborhood`, and the argument
handling of `neighborhood(obj, j=None, unit=0)` (`Model/GridCall.lean`)

Property theorems only (helper lemmas: `Lemmas/GridSegSearch.lean`; model `Model/Grid.lean`). `AroundHolds ix cells U k`
says that some cell at most `U` units (columns and rows) from a cell of `cells` lists `k`. -/
namespace TV.C08
open TV.Grid
variable {α : Type} [Field α] [LinearOrder α]

section search
variable [IsStrictOrderedRing α]

/-- `segment_search_complete`: `neighborhood([Q1, Q2], None, -1)`, both ends inside the closed extent of an index on which
nothing raises. The call returns; with `CELLS = __cellsCrossSegment(__getCell(Q1), __getCell(Q2))`:
* it returns `None` exactly when nothing was found up to the last radius, and then NO cell of the grid lists anything;
* otherwise it returns a non-empty list `l` and there is a radius `U ≥ 1` such that `l` is EXACTLY what the cells at most
  `U` units from a crossed cell list, `U - 1` is the first radius at which something is listed (the loop adds one
  "safety" radius), and — no false negative in ground distance — every feature listed in the cell of a point `P` of the
  extent within Euclidean distance `U · min(dX, dY)` of some point of the query segment is in `l`. -/
theorem segment_search_complete {fl : α → Int} (hf : IsFloor fl) (ix : Index α) (hg : Good ix) (Q1 Q2 : α × α)
    (h1 : getCell ix Q1 ≠ none) (h2 : getCell ix Q2 ≠ none) :
    ∃ p1 p2 r, getCell ix Q1 = some p1 ∧ getCell ix Q2 = some p2 ∧ neighborhoodSeg fl ix Q1 Q2 (-1) = .ok r ∧
      (r = none → ∀ i j k, 0 ≤ i → i < ix.csize → 0 ≤ j → j < ix.lsize → ¬ Holds ix.grid i j k) ∧
      (∀ l, r = some l → l ≠ [] ∧ ∃ U : Int, 1 ≤ U ∧
        (∀ k, k ∈ l ↔ AroundHolds ix (cellsCross fl ix.csize ix.lsize p1 p2) U k) ∧
        (∃ k, AroundHolds ix (cellsCross fl ix.csize ix.lsize p1 p2) (U - 1) k) ∧
        (∀ u' k, 0 ≤ u' → u' < U - 1 → ¬ AroundHolds ix (cellsCross fl ix.csize ix.lsize p1 p2) u' k) ∧
        (∀ (k : Nat) (P cP : α × α) (s : α), getCell ix P = some cP →
          Holds ix.grid (cellOf fl ix cP).1 (cellOf fl ix cP).2 k → 0 ≤ s → s ≤ 1 →
          ((lerp Q1 Q2 s).1 - P.1) ^ 2 + ((lerp Q1 Q2 s).2 - P.2) ^ 2 ≤ (((U : Int) : α) * min ix.dX ix.dY) ^ 2 → k ∈ l)) := by
  obtain ⟨p1, hp1⟩ := Option.ne_none_iff_exists'.mp h1
  obtain ⟨p2, hp2⟩ := Option.ne_none_iff_exists'.mp h2
  obtain ⟨r, hr, r1, r2⟩ := searchSegLoop_spec ix hg.1.2 (cellsCross fl ix.csize ix.lsize p1 p2)
    ((max ix.csize ix.lsize).toNat + 2) 0 (by push_cast; omega) (not_AroundHolds_neg ix _ _ (by omega))
  have hrun : neighborhoodSeg fl ix Q1 Q2 (-1) = .ok r := by
    unfold neighborhoodSeg
    simp only [hg.getCellR, hp1, hp2]
    rw [if_neg (by decide)]
    exact hr
  -- the cell of a point of the query segment is a crossed cell
  have hcrossed : ∀ s : α, 0 ≤ s → s ≤ 1 → ∃ cQ, getCell ix (lerp Q1 Q2 s) = some cQ ∧
      ((cellOf fl ix cQ).1, (cellOf fl ix cQ).2) ∈ cellsCross fl ix.csize ix.lsize p1 p2 := by
    intro s hs0 hs1
    exact ⟨_, getCell_lerp ix Q1 Q2 p1 p2 s hs0 hs1 hp1 hp2, cellOf_mem_cellsCross hf ix hg Q1 Q2 p1 p2 hp1 hp2 s hs0 hs1⟩
  refine ⟨p1, p2, r, hp1, hp2, hrun, ?_, ?_⟩
  · intro hn i j k a b c e hH
    obtain ⟨cQ, hQ, hmem⟩ := hcrossed 0 (le_refl _) zero_le_one
    obtain ⟨hi, hj⟩ := cellOf_inGrid hf ix hg _ cQ hQ
    exact r1 hn k ⟨_, hmem, (i, j), (sq_full ix _ _ _ hi hj (by omega) (i, j)).mpr ⟨⟨a, b⟩, c, e⟩, hH⟩
  · intro l hl
    obtain ⟨U, a, c, e, f, g⟩ := r2 l hl
    refine ⟨e, U, by omega, c, f, fun u' k _ q hA => g k (hA.mono (by omega)), ?_⟩
    intro k P cP s hP hH hs0 hs1 hd
    obtain ⟨cQ, hQ, hmem⟩ := hcrossed s hs0 hs1
    exact (c k).mpr ⟨_, hmem, _, cell_within_units_dist hf ix hg P (lerp Q1 Q2 s) cP cQ U (by omega) hP hQ hd, hH⟩

/-- `track_search_returns`: `neighborhood(track, None, -1)`, every vertex inside the closed extent, on an index on which
nothing raises and in which SOME cell lists something (a built index over a collection with a segment): the call
returns a list containing, for every segment of the query track, the whole answer of the segment search
(`segment_search_complete`). (On an index that lists nothing the segment search gives `None` and the track form raises
TypeError — `for cell in None`: `track_search_on_empty_index`.) -/
theorem track_search_returns {fl : α → Int} (hf : IsFloor fl) (ix : Index α) (hg : Good ix) (track : List (α × α))
    (hin : ∀ p ∈ track, getCell ix p ≠ none)
    (hne : ∃ i j k, (0 ≤ i ∧ i < ix.csize) ∧ (0 ≤ j ∧ j < ix.lsize) ∧ Holds ix.grid i j k) :
    ∃ l, neighborhoodTrack fl ix track (-1) = .ok l ∧
      ∀ Q1 Q2, (Q1, Q2) ∈ Consec track → ∃ lseg, neighborhoodSeg fl ix Q1 Q2 (-1) = .ok (some lseg) ∧ ∀ x ∈ lseg, x ∈ l := by
  obtain ⟨l, h, _, r⟩ := neighborhoodTrackLoop_total fl ix (-1)
    (R := fun Q1 Q2 lseg => neighborhoodSeg fl ix Q1 Q2 (-1) = .ok (some lseg)) track none [] (fun Q1 Q2 hQ => by
    obtain ⟨m1, m2⟩ := mem_of_consec track Q1 Q2 hQ
    obtain ⟨_, _, r, _, _, hrun, rn, _⟩ := segment_search_complete hf ix hg Q1 Q2 (hin Q1 m1) (hin Q2 m2)
    cases r with
    | none =>
      obtain ⟨i, j, k, ⟨a, b⟩, ⟨c, e⟩, hH⟩ := hne
      exact absurd hH (rn rfl i j k a b c e)
    | some lseg => exact ⟨lseg, hrun, hrun⟩)
  exact ⟨l, h, r⟩

/-- `track_search_on_empty_index`: on an index in which no cell lists anything (e.g. built over one-vertex tracks only),
`neighborhood(track, None, -1)` for a track with a segment inside the extent raises TypeError: the segment search
returns `None` and the loop iterates over it. Outside the property (nothing can be omitted from an empty index); stated
because the model mirrors it and the correspondence compares it. -/
theorem track_search_on_empty_index {fl : α → Int} (hf : IsFloor fl) (ix : Index α) (hg : Good ix) (Q1 Q2 : α × α)
    (rest : List (α × α)) (h1 : getCell ix Q1 ≠ none) (h2 : getCell ix Q2 ≠ none)
    (hempty : ∀ i j k, 0 ≤ i → i < ix.csize → 0 ≤ j → j < ix.lsize → ¬ Holds ix.grid i j k) :
    neighborhoodTrack fl ix (Q1 :: Q2 :: rest) (-1) = .error .type := by
  obtain ⟨p1, p2, r, _, _, hrun, _, rs⟩ := segment_search_complete hf ix hg Q1 Q2 h1 h2
  cases r with
  | some l =>
    exfalso
    obtain ⟨hl, U, hU, hex, _, _, _⟩ := rs l rfl
    obtain ⟨k0, hk0⟩ := List.exists_mem_of_ne_nil l hl
    obtain ⟨cell, _, c', hc', hH⟩ := (hex k0).mp hk0
    obtain ⟨⟨a, b⟩, c, e⟩ := neighboringCells_inGrid ix cell.1 cell.2 U c' hc'
    exact hempty c'.1 c'.2 k0 a b c e hH
  | none =>
    unfold neighborhoodTrack
    simp only [neighborhoodTrackLoop, hrun]

end search

/-- `neighborhood_call_keyword`: with the radius passed BY KEYWORD — `neighborhood(coord, unit=u)`,
`neighborhood([c1, c2], unit=u)`, `neighborhood(track, unit=u)`, as every caller inside tracklib does — or as third
positional argument after any `j`, the call is the point / segment / track neighbourhood of radius `u` the other
theorems speak about (`j` is never read by these forms); `neighborhood(i, j, u)` is the cell form. -/
theorem neighborhood_call_keyword (fl : α → Int) (ix : Index α) (p a b : α × α) (t : List (α × α)) (i j' : Int)
    (j : Option Int) (u : Int) :
    neighborhoodCall fl ix (.point p) j (some u) = neighborhoodPoint fl ix p u ∧
    neighborhoodCall fl ix (.seg a b) j (some u) = neighborhoodSeg fl ix a b u ∧
    neighborhoodCall fl ix (.track t) j (some u) = (neighborhoodTrack fl ix t u).map some ∧
    neighborhoodCall fl ix (.cell i) (some j') (some u) = (neighborhoodCell ix i j' u).map some := by
  refine ⟨rfl, rfl, ?_, ?_⟩
  · unfold neighborhoodCall; dsimp only; cases neighborhoodTrack fl ix t u <;> rfl
  · unfold neighborhoodCall; dsimp only; cases neighborhoodCell ix i j' u <;> rfl

/-- `neighborhood_call_positional_unit_ignored`: the second POSITIONAL parameter of `neighborhood` is `j`, the row of
the cell form. `neighborhood(coord, 2)` — the form the comment above the method advertises ("neighborhood(coord, unit)
returns data registered in a cells located at less than 'unit' distance") — is `neighborhood(coord, unit=0)`: the number
is bound to `j`, which the coordinate / segment / track forms never read, and only the cell(s) of the query are read.
Likewise a call that leaves both out. (And the cell form without `j` raises TypeError.) -/
theorem neighborhood_call_positional_unit_ignored (fl : α → Int) (ix : Index α) (p a b : α × α) (t : List (α × α)) (i : Int)
    (j : Option Int) (u : Option Int) :
    neighborhoodCall fl ix (.point p) j none = neighborhoodPoint fl ix p 0 ∧
    neighborhoodCall fl ix (.seg a b) j none = neighborhoodSeg fl ix a b 0 ∧
    neighborhoodCall fl ix (.track t) j none = (neighborhoodTrack fl ix t 0).map some ∧
    neighborhoodCall fl ix (.cell i) none u = .error .type := by
  refine ⟨rfl, rfl, ?_, rfl⟩
  unfold neighborhoodCall; dsimp only; cases neighborhoodTrack fl ix t 0 <;> rfl

variable [IsStrictOrderedRing α]

/-- `neighborhood_call_complete`: the completeness of the neighbourhood query (`neighborhood_finds_registered`) at the
level of the CALL: for every value of the unused parameter `j`, `neighborhood(q, j, unit=groundDistanceToUnits(d))`
returns every feature listed in the cell of a point of the extent within distance `d` of `q`. -/
theorem neighborhood_call_complete {fl : α → Int} (hf : IsFloor fl) (ix : Index α) (hg : Good ix)
    (k : Nat) (P cP : α × α) (hP : getCell ix P = some cP) (hHolds : Holds ix.grid (cellOf fl ix cP).1 (cellOf fl ix cP).2 k)
    (q : α × α) (hq : getCell ix q ≠ none) (d : α) (hd : 0 ≤ d)
    (hdist : (q.1 - P.1) ^ 2 + (q.2 - P.2) ^ 2 ≤ d ^ 2) (j : Option Int) :
    ∃ u l, groundDistanceToUnits fl ix d = .ok u ∧ neighborhoodCall fl ix (.point q) j (some u) = .ok (some l) ∧ k ∈ l :=
  neighborhood_finds_registered hf ix hg k P cP hP hHolds q hq d hd hdist

/-- witness of `neighborhood_call_positional_unit_ignored` (the index of the `late_feature_complete` example: edge 2 =
(58,58)-(62,62) crosses cells next to that of (50,50)): `neighborhood(coord, unit=2)` finds edge 2,
`neighborhood(coord, 2)` returns the empty list -/
theorem neighborhood_positional_unit_witness :
    (match build Rat.floor [[((0 : ℚ), (0 : ℚ)), (100, 0)], [(0, 100), (100, 100)]] (some (10, 10)) (1/20) with
      | .ok ix =>
        (match addFeature Rat.floor ix [(58, 58), (62, 62)] 2 with
         | .ok ix' => (neighborhoodCall Rat.floor ix' (.point (50, 50)) none (some 2),
                       neighborhoodCall Rat.floor ix' (.point (50, 50)) (some 2) none)
         | .error _ => (.error .exit, .error .exit))
      | .error _ => (.error .exit, .error .exit)) = (.ok (some [2]), .ok (some [])) := by
  decide +kernel

/-- the index of corpus case 21 (10 x 10 unit cells): the search around the segment (5,5)-(7,5) finds track 1 at radius 1
and returns what lies within 2 units (tracks 1 and 0); the track form adds the search around (7,5)-(7,9) -/
example : (match build Rat.floor [[((129/16 : ℚ), (11/2 : ℚ)), (65/8, 11/2)], [(33/8, 65/16), (33/8, 17/4)], [(0, 0), (0, 1/2)],
      [(10, 10), (10, 19/2)]] (some (1, 1)) 0 with
    | .ok ix => (neighborhoodSeg Rat.floor ix (5, 5) (7, 5) (-1), neighborhoodTrack Rat.floor ix [(5, 5), (7, 5), (7, 9)] (-1))
    | .error _ => (.error .exit, .error .exit)) = (.ok (some [1, 0]), .ok [1, 0, 3]) := by
  decide +kernel

/-- an index that lists nothing: one-vertex tracks only (bounding box [0,4]²); the segment search returns `None`, the
track form raises TypeError -/
example : (match build Rat.floor [[((0 : ℚ), (0 : ℚ))], [(4, 4)]] (some (1, 1)) 0 with
    | .ok ix => (neighborhoodSeg Rat.floor ix (1, 1) (2, 2) (-1), neighborhoodTrack Rat.floor ix [(1, 1), (2, 2)] (-1))
    | .error _ => (.error .exit, .error .exit)) = (.ok none, .error .type) := by
  decide +kernel

end TV.C08
