import TracklibVerif.Lemmas.Geo
import TracklibVerif.Lemmas.GeoTrack
import TracklibVerif.Lemmas.GeoLambert
import TracklibVerif.Lemmas.GeoLambertConv
import TracklibVerif.Lemmas.GeoHeap
import TracklibVerif.Lemmas.GeoTrackRec
/-! # C14 — coordinate conversions round-trip and agree with the WGS84 ellipsoid

Property theorems only (helpers: `Lemmas/Geo.lean`, `Lemmas/GeoTrack.lean`, `Lemmas/GeoLambert.lean`,
`Lemmas/GeoLambertConv.lean`, `Lemmas/GeoHeap.lean`, `Lemmas/GeoTrackRec.lean`). They are about the model `Model/Geo.lean`
(the operations of `tracklib/core/obs_coords.py` and of `Track.to*Coords`, in the same order) and, T12–T17', about
`Model/GeoHeap.lean` (the same methods called on shared, mutable objects: identity, aliasing, in-place updates, `Track`
holding references), instantiated at `ℝ` with Mathlib's functions: `realTrig` = `Real.sin, Real.cos, Real.tan, Real.arctan,
Real.sqrt, Real.log, Real.exp`, `pow = Real.rpow`, `atan2 y x = Complex.arg (x + i y)`, `pi = Real.pi`. Angles of `V3` values are in degrees,
as in the Python. Everything about the local frame holds for *any* `Trig ℝ` whose `sin`/`cos` satisfy `sin² + cos² = 1`
(`Pyth T`), and is stated that way. IEEE rounding is outside these statements (sampled by the transfer check).

What has no exact identity and is therefore not a theorem: `ECEFCoords.toGeoCoords` for `h ≠ 0` (Bowring's one-step formula
is an approximation, about 1.3 µm at 10 km); see the `_partial` theorems and `geo_ecef_geo_residual` (T5'), which reduces the
round trip at every height, longitude and base to two explicit functions of (latitude, height) that the harness bounds on a grid. -/
namespace TV.C14
open TV.Geo Real

/-- `Real.sin`/`Real.cos` satisfy the hypothesis under which the frame theorems are stated. -/
theorem pyth_realTrig : Pyth realTrig := pyth_real

/-- T1 `ECEFCoords.toENUCoords(base)` and `ENUCoords.toECEFCoords(base)` are inverse to each other, in both orders, for
every base (given as `GeoCoords` or as `ECEFCoords`) and every position: the matrix built from the base's longitude and
latitude is orthogonal whatever these angles are. -/
theorem enu_ecef_inverse (T : Trig ℝ) (hT : Pyth T) (p : V3 ℝ) (b : Base ℝ) :
    enuToEcef T (ecefToEnu T p b) b = p ∧ ecefToEnu T (enuToEcef T p b) b = p :=
  ⟨enuToEcef_ecefToEnu' T hT p b, ecefToEnu_enuToEcef' T hT p b⟩

/-- T2 The local coordinates of the base itself are (0,0,0): for a base of either class converted as an ECEF position,
and for a `GeoCoords` position converted with itself as base (`GeoCoords.toENUCoords`). No hypothesis on `T`. -/
theorem base_is_origin (T : Trig ℝ) (b : Base ℝ) (g : V3 ℝ) :
    ecefToEnu T (b.toEcef T) b = ⟨0, 0, 0⟩ ∧ geoToEnu T g (.geo g) = ⟨0, 0, 0⟩ :=
  ⟨ecefToEnu_base' T b, geoToEnu_self' T g⟩

/-- T3a `GeoCoords.toECEFCoords` is the closed-form WGS84 formula: with `φ, λ` the latitude and longitude in radians,
`e² = f (2 − f)`, `f = 1/298.257223563` and `N = a / √(1 − e² sin² φ)`, `a = 6378137`,
`(X, Y, Z) = ((N + h) cos φ cos λ, (N + h) cos φ sin λ, ((1 − e²) N + h) sin φ)`. -/
theorem ecef_closed_form (g : V3 ℝ) :
    geoToEcef realTrig g =
      ⟨(primeVertical (g.y * π / 180) + g.z) * Real.cos (g.y * π / 180) * Real.cos (g.x * π / 180),
       (primeVertical (g.y * π / 180) + g.z) * Real.cos (g.y * π / 180) * Real.sin (g.x * π / 180),
       ((1 - e2) * primeVertical (g.y * π / 180) + g.z) * Real.sin (g.y * π / 180)⟩
    ∧ e2 = 1 / 298.257223563 * (2 - 1 / 298.257223563)
    ∧ ∀ φ, primeVertical φ = 6378137 / Real.sqrt (1 - e2 * Real.sin φ ^ 2) :=
  ⟨geoToEcef_closed_form g, by unfold e2; rw [Fe_val], fun _ => rfl⟩

/-- T3b With `h = 0` the ECEF position lies on the WGS84 ellipsoid: `X²/a² + Y²/a² + Z²/b² = 1` with `a = 6378137`,
`b = a (1 − f)` — for every longitude and latitude. -/
theorem on_ellipsoid (g : V3 ℝ) (h0 : g.z = 0) :
    (geoToEcef realTrig g).x ^ 2 / 6378137 ^ 2 + (geoToEcef realTrig g).y ^ 2 / 6378137 ^ 2
      + (geoToEcef realTrig g).z ^ 2 / (6378137 * (1 - 1 / 298.257223563)) ^ 2 = 1 := by
  rw [geoToEcef_closed_form g, h0]
  unfold merP merZ primeVertical
  rw [add_zero, add_zero, one_sub_e2, ← Fe_val]
  exact ellipsoid_eq (by norm_num) (sqrtW_pos _).ne' (sqrtW_sq _) (Real.sin_sq_add_cos_sq _)

/-- T3c The height is measured along the ellipsoid normal: the ECEF position is the foot point (same longitude and
latitude, `h = 0`) plus `h` times the unit vector `n = (cos φ cos λ, cos φ sin λ, sin φ)`, and `n` is normal to the ellipsoid
at the foot point (the gradient `(X₀/a², Y₀/a², Z₀/b²)` of the quadric there is `N/a²` times `n`). Together with T3b this
says `(lon, lat, h)` are the geodetic coordinates of `(X, Y, Z)`. -/
theorem height_along_normal (g : V3 ℝ) :
    let φ := g.y * π / 180
    let lam := g.x * π / 180
    let nx := Real.cos φ * Real.cos lam
    let ny := Real.cos φ * Real.sin lam
    let nz := Real.sin φ
    let P0 := geoToEcef realTrig ⟨g.x, g.y, 0⟩
    geoToEcef realTrig g = ⟨P0.x + g.z * nx, P0.y + g.z * ny, P0.z + g.z * nz⟩
    ∧ nx ^ 2 + ny ^ 2 + nz ^ 2 = 1
    ∧ P0.x / 6378137 ^ 2 = primeVertical φ / 6378137 ^ 2 * nx
    ∧ P0.y / 6378137 ^ 2 = primeVertical φ / 6378137 ^ 2 * ny
    ∧ P0.z / (6378137 * (1 - 1 / 298.257223563)) ^ 2 = primeVertical φ / 6378137 ^ 2 * nz := by
  intro φ lam nx ny nz P0
  have hP0 : P0 = _ := geoToEcef_closed_form ⟨g.x, g.y, 0⟩
  have hf : (1 - Fe : ℝ) ≠ 0 := (sub_pos.mpr Fe_lt_one).ne'
  rw [hP0, geoToEcef_closed_form g, ← Fe_val]
  simp only [merP, merZ, one_sub_e2, add_zero, nx, ny, nz, φ, lam]
  refine ⟨by congr 1 <;> ring, ?_, by ring, by ring, ?_⟩
  · linear_combination Real.cos (g.y * π / 180) ^ 2 * Real.sin_sq_add_cos_sq (g.x * π / 180)
      + Real.sin_sq_add_cos_sq (g.y * π / 180)
  · rw [mul_pow, mul_assoc, mul_comm (6378137 ^ 2), mul_div_mul_left _ _ (pow_ne_zero 2 hf), mul_div_right_comm]

/-- T4 Geo → ECEF → Geo returns the longitude exactly, for longitudes in (−180°, 180°], latitudes in (−90°, 90°) and any
height above −6378137 m (antimeridian +180° included; −180° comes back as +180°, the same meridian). -/
theorem lon_recovered (g : V3 ℝ) (hlon1 : -180 < g.x) (hlon2 : g.x ≤ 180) (hlat1 : -90 < g.y) (hlat2 : g.y < 90)
    (hh : -6378137 < g.z) : (ecefToGeo realTrig (geoToEcef realTrig g)).x = g.x :=
  (congrArg V3.x (geo_ecef_geo_residual' g hlon1 hlon2 hlat1 hlat2 hh) :)

/-- T5 (partial) On the ellipsoid (`h = 0`) the closed-form inverse `ECEFCoords.toGeoCoords` is exact: longitude,
latitude and height all come back. Together with T4 this is the exact part of Geo → ECEF → Geo.
MISSING: latitude and height for `h ≠ 0`. There Bowring's one-step formula is an approximation (no identity to prove):
T5' (`geo_ecef_geo_residual`) states what does hold exactly; the bound 1e-9° / 1 mm for −1 km ≤ h ≤ 10 km rests on the
numerical evaluation of the residual functions of T5' (stream `resid`) and on the correspondence and transfer checks. -/
theorem geo_ecef_geo_partial (g : V3 ℝ) (hlon1 : -180 < g.x) (hlon2 : g.x ≤ 180) (hlat1 : -90 < g.y) (hlat2 : g.y < 90)
    (h0 : g.z = 0) : ecefToGeo realTrig (geoToEcef realTrig g) = g :=
  ecefToGeo_geoToEcef_h0' g hlon1 hlon2 hlat1 hlat2 h0

/-- T6 The local frame adds no error of its own: Geo → ENU → Geo with the same base equals Geo → ECEF → Geo, for every base
of either class; Geo → ENU → ECEF equals Geo → ECEF. So the round trip through a local frame is exactly as good as the
Geo/ECEF pair (T4, T5). -/
theorem geo_enu_geo_reduces (T : Trig ℝ) (hT : Pyth T) (g : V3 ℝ) (b : Base ℝ) :
    enuToGeo T (geoToEnu T g b) b = ecefToGeo T (geoToEcef T g)
    ∧ enuToEcef T (geoToEnu T g b) (.ecef (b.toEcef T)) = geoToEcef T g :=
  ⟨enuToGeo_geoToEnu' T hT g b, enuToEcef_geoToEnu' T hT g b⟩

/-- T6' hence on the ellipsoid Geo → ENU → Geo is the identity, for every base. -/
theorem geo_enu_geo_partial (g : V3 ℝ) (b : Base ℝ) (hlon1 : -180 < g.x) (hlon2 : g.x ≤ 180) (hlat1 : -90 < g.y)
    (hlat2 : g.y < 90) (h0 : g.z = 0) : enuToGeo realTrig (geoToEnu realTrig g b) b = g := by
  rw [enuToGeo_geoToEnu' realTrig pyth_real g b]
  exact ecefToGeo_geoToEcef_h0' g hlon1 hlon2 hlat1 hlat2 h0

/-- T7 `ENUCoords.toENUCoords(base1, base2)`: changing the base and changing back is the identity, changing to the same
base is the identity, and ENU(base1) → ENU(base2) → Geo(base2) is ENU(base1) → Geo(base1). -/
theorem enu_rebase (T : Trig ℝ) (hT : Pyth T) (q : V3 ℝ) (b1 b2 : Base ℝ) :
    enuToEnu T (enuToEnu T q b1 b2) b2 b1 = q ∧ enuToEnu T q b1 b1 = q
    ∧ enuToGeo T (enuToEnu T q b1 b2) b2 = enuToGeo T q b1 :=
  ⟨enuToEnu_enuToEnu' T hT q b1 b2, enuToEnu_self' T hT q b1, enuToGeo_enuToEnu' T hT q b1 b2⟩

/-- T8 `Track.toENUCoords` records the base it used: on a non-empty Geo (resp. ECEF) track with a point base every
position goes through `GeoCoords.toENUCoords(base)` (resp. `ECEFCoords.toENUCoords(base)`) and `Track.base` becomes
`base.toGeoCoords()`; without argument the base is the position of the first observation. -/
theorem track_records_base (T : Trig ℝ) (t : Track ℝ) (p : V3 ℝ) (ps : List (V3 ℝ)) (hp : t.pts = p :: ps) (b : Base ℝ) :
    (t.kind = .geo →
      t.toENU T (some (.pt b)) = .ok ⟨.enu, t.pts.map (fun g => geoToEnu T g b), some (.pt (.geo (b.toGeo T)))⟩
      ∧ t.toENU T none = t.toENU T (some (.pt (.geo p))))
    ∧ (t.kind = .ecef →
      t.toENU T (some (.pt b)) = .ok ⟨.enu, t.pts.map (fun q => ecefToEnu T q b), some (.pt (.geo (b.toGeo T)))⟩
      ∧ t.toENU T none = t.toENU T (some (.pt (.ecef p)))) := by
  have hne : t.pts ≠ [] := by rw [hp]; exact List.cons_ne_nil _ _
  exact ⟨fun hk => ⟨toENU_geo_pt T t hk hne b, toENU_geo_none T t hk p ps hp⟩,
         fun hk => ⟨toENU_ecef_pt T t hk hne b, toENU_ecef_none T t hk p ps hp⟩⟩

/-- T9 Whole-track round trips (non-empty tracks, any number of observations):
* ECEF track → ENU(b) → ECEF(b): the positions come back exactly, the base used is on record;
* Geo track → ENU with a `GeoCoords` base → ECEF() through the *recorded* base: exactly the direct Geo → ECEF conversion;
* Geo track → ENU(b) → Geo, with `b` passed again, or through the recorded base when `b` is a `GeoCoords`: every position
  is its own Geo → ECEF → Geo image (T4, T5 then apply point by point).
The case left out here — an `ECEFCoords` base and the return through the recorded base — is where the recorded base is
`ECEFCoords.toGeoCoords()` of the base used: T9' (`track_round_trip_recorded_base`) covers it whenever that record denotes
the same point, and states what the code computes otherwise (the known finding of this property). -/
theorem track_round_trip (T : Trig ℝ) (hT : Pyth T) (t : Track ℝ) (hne : t.pts ≠ []) (b : Base ℝ) (c : V3 ℝ) :
    (t.kind = .ecef →
      (t.toENU T (some (.pt b))).bind (fun u => u.toECEF T (some (.pt b)))
        = .ok ⟨.ecef, t.pts, some (.pt (.geo (b.toGeo T)))⟩)
    ∧ (t.kind = .geo →
      (t.toENU T (some (.pt (.geo c)))).bind (fun u => u.toECEF T none)
        = .ok ⟨.ecef, t.pts.map (geoToEcef T), some (.pt (.geo c))⟩)
    ∧ (t.kind = .geo →
      (t.toENU T (some (.pt b))).bind (fun u => u.toGeo T (some (.pt b)))
        = .ok ⟨.geo, t.pts.map (fun g => ecefToGeo T (geoToEcef T g)), some (.pt (.geo (b.toGeo T)))⟩)
    ∧ (t.kind = .geo →
      (t.toENU T (some (.pt (.geo c)))).bind (fun u => u.toGeo T none)
        = .ok ⟨.geo, t.pts.map (fun g => ecefToGeo T (geoToEcef T g)), some (.pt (.geo c))⟩) :=
  ⟨fun hk => track_ecef_enu_ecef T hT t hk hne b (some b) rfl,
   fun hk => track_geo_enu_ecef T hT t hk hne (.geo c) none rfl,
   fun hk => track_geo_enu_geo T hT t hk hne b (some b) rfl,
   fun hk => track_geo_enu_geo T hT t hk hne (.geo c) none rfl⟩

/-- T10 Lambert-93, structure of `_projToLambert93` followed by `__projFromLambert93`:
* the longitude comes back exactly (for longitudes in (−90°, 90°), any latitude), the third coordinate is untouched;
* the inverse recovers the isometric latitude `L` of the input exactly, so that the latitude it returns is the 10-fold
  iterate of the loop body for that `L`, started at `2 atan(exp L) − π/2`;
* the original latitude is a fixed point of that loop body (for |φ| < 90°), hence of any number of passes;
* the loop body is a contraction with factor `E²/(1 − E²) ≤ 0.007`, for every `L`. -/
theorem lambert_loop_structure (g : V3 ℝ) :
    (-90 < g.x → g.x < 90 → (fromLambert93 realTrig (toLambert93 realTrig g)).x = g.x)
    ∧ (fromLambert93 realTrig (toLambert93 realTrig g)).y =
        iter (lambStep realTrig (lambLatIso (g.y * π / 180))) 10
          (2 * Real.arctan (Real.exp (lambLatIso (g.y * π / 180))) - π / 2) * 180 / π
    ∧ (fromLambert93 realTrig (toLambert93 realTrig g)).z = g.z
    ∧ (-90 < g.y → g.y < 90 → ∀ k, iter (lambStep realTrig (lambLatIso (g.y * π / 180))) k (g.y * π / 180) = g.y * π / 180)
    ∧ (∀ L x y, |lambStep realTrig L y - lambStep realTrig L x| ≤ lambK * |y - x|) ∧ lambK ≤ 7 / 1000 :=
  ⟨lambert_lon' g, (congrArg V3.y (lambert_round_real g) :), rfl,
   fun h1 h2 k => iter_fixed (lambert_fixed_point' (rad_mem h1 h2)) k,
   lambStep_contraction, lambK_le⟩

/-- T11 Lambert-93 round trip (over ℝ): for longitudes and latitudes in (−90°, 90°) — France is inside — forward then
inverse returns the longitude and the third coordinate exactly and the latitude within `(E²/(1−E²))¹¹ · |lat|`, which is
below 1e-20 degree: the 10 passes of the fixed-point loop converge. -/
theorem lambert_round_trip (g : V3 ℝ) (hx1 : -90 < g.x) (hx2 : g.x < 90) (hy1 : -90 < g.y) (hy2 : g.y < 90) :
    (fromLambert93 realTrig (toLambert93 realTrig g)).x = g.x
    ∧ |(fromLambert93 realTrig (toLambert93 realTrig g)).y - g.y| ≤ lambK ^ 11 * |g.y|
    ∧ |(fromLambert93 realTrig (toLambert93 realTrig g)).y - g.y| ≤ 1 / 10 ^ 20
    ∧ (fromLambert93 realTrig (toLambert93 realTrig g)).z = g.z :=
  ⟨lambert_lon' g hx1 hx2, lambert_lat_converges' g hy1 hy2, lambert_lat_bound' g hy1 hy2, rfl⟩

/-- T5' Geo → ECEF → Geo for *every* height above −6378137 m (longitudes in (−180°, 180°], latitudes in (−90°, 90°)):
* the longitude comes back exactly, and the latitude (radians) and height that come back are the explicit functions
  `bowringLat`, `bowringHgt` (`Lemmas/Geo.lean`: Bowring's one-step formula as coded) of the meridian-plane coordinates
  `p = (N + h) cos φ`, `z = ((1 − e²) N + h) sin φ` of the point: they do not depend on the longitude;
* hence they are the values `meridianRoundTrip` computes at longitude 0 — the function the driver evaluates on a dense
  (latitude, height) grid (stream `resid` of the harness), which bounds the residual numerically for all longitudes at once;
* if the latitude comes back exactly, so does the height;
* on the ellipsoid the latitude residual is zero (T5).
MISSING (why the property's bound is still `_partial`): an analytic bound on `|bowringLat (p, z) − φ|` for `h ≠ 0`. It
is about 2e-13 rad at 10 km (third order in `e² h / a`); proving it needs second-order control of `atan2` compositions. -/
theorem geo_ecef_geo_residual (g : V3 ℝ) (hlon1 : -180 < g.x) (hlon2 : g.x ≤ 180) (hlat1 : -90 < g.y) (hlat2 : g.y < 90)
    (hh : -6378137 < g.z) :
    ecefToGeo realTrig (geoToEcef realTrig g) =
        ⟨g.x, bowringLat (merP (g.y * π / 180) g.z) (merZ (g.y * π / 180) g.z) * (180 / π),
          bowringHgt (merP (g.y * π / 180) g.z) (merZ (g.y * π / 180) g.z)⟩
    ∧ ((ecefToGeo realTrig (geoToEcef realTrig g)).y, (ecefToGeo realTrig (geoToEcef realTrig g)).z)
        = meridianRoundTrip realTrig g.y g.z
    ∧ (bowringLat (merP (g.y * π / 180) g.z) (merZ (g.y * π / 180) g.z) = g.y * π / 180 →
        bowringHgt (merP (g.y * π / 180) g.z) (merZ (g.y * π / 180) g.z) = g.z)
    ∧ bowringLat (merP (g.y * π / 180) 0) (merZ (g.y * π / 180) 0) = g.y * π / 180 :=
  ⟨geo_ecef_geo_residual' g hlon1 hlon2 hlat1 hlat2 hh, meridianRoundTrip_eq g hlon1 hlon2 hlat1 hlat2 hh,
   bowringHgt_of_lat _ _ (rad_mem hlat1 hlat2), bowringLat_h0 _ (rad_mem hlat1 hlat2)⟩

/-- T6'' the same through a local frame, for every base of either class and every height: Geo → ENU → Geo returns the
longitude exactly and the same two residual functions of (latitude, height) as Geo → ECEF → Geo — the base does not
enter the result at all. -/
theorem geo_enu_geo_residual (g : V3 ℝ) (b : Base ℝ) (hlon1 : -180 < g.x) (hlon2 : g.x ≤ 180) (hlat1 : -90 < g.y)
    (hlat2 : g.y < 90) (hh : -6378137 < g.z) :
    enuToGeo realTrig (geoToEnu realTrig g b) b =
      ⟨g.x, bowringLat (merP (g.y * π / 180) g.z) (merZ (g.y * π / 180) g.z) * (180 / π),
        bowringHgt (merP (g.y * π / 180) g.z) (merZ (g.y * π / 180) g.z)⟩ := by
  rw [enuToGeo_geoToEnu' realTrig pyth_real g b]
  exact geo_ecef_geo_residual' g hlon1 hlon2 hlat1 hlat2 hh

/-- T12 Conversions do not modify their argument, their base or anything else: every step of a history other than an
in-place update (`setX/setY/setZ`, attribute assignment) leaves all existing objects as they are — the heap only grows —
and an in-place update changes the one coordinate of the one object, and no track. -/
theorem history_frame (T : Trig ℝ) (w w' : World ℝ) (op : Op ℝ) (h : w.step T op = .ok w') :
    ((∀ i c x, op ≠ .set i c x) → ∃ l, w'.heap = w.heap ++ l)
    ∧ (∀ i c x, op = .set i c x →
        ∃ o, w.heap[i]? = some o ∧ w'.heap = w.heap.set i ⟨o.kind, o.v.set c x⟩ ∧ w'.tracks = w.tracks) := by
  refine ⟨step_frame T w w' op h, ?_⟩
  intro i c x hop
  subst hop
  exact set_spec w w' i c x h

/-- T13 A conversion called on an object of the heap, with bases passed as references (or SRID numbers), allocates the
result of the pure conversion of `Model/Geo.lean` applied to the values the point and the base(s) hold *in the world the
call is made in* (`valArg w.heap` reads the base through the heap): nothing is remembered from earlier calls. Conversions to
the class the object already has return a copy. -/
theorem call_current_values (T : Trig ℝ) (w : World ℝ) (i : Nat) (o : Obj ℝ) (ho : w.heap[i]? = some o)
    (b : Val) (a : BaseArg ℝ) (hb : valArg w.heap b = some (some a)) :
    (o.kind = .geo →
      w.call T i .enu [b] = (geoToEnuArg T o.v a).map (fun v => { w with heap := w.heap ++ [⟨.enu, v⟩] })
      ∧ w.call T i .ecef [] = .ok { w with heap := w.heap ++ [⟨.ecef, geoToEcef T o.v⟩] }
      ∧ w.call T i .geo [] = .ok { w with heap := w.heap ++ [⟨.geo, o.v⟩] })
    ∧ (o.kind = .ecef →
      w.call T i .enu [b] = (ecefToEnuArg T o.v a).map (fun v => { w with heap := w.heap ++ [⟨.enu, v⟩] })
      ∧ w.call T i .geo [] = .ok { w with heap := w.heap ++ [⟨.geo, ecefToGeo T o.v⟩] }
      ∧ w.call T i .ecef [] = .ok { w with heap := w.heap ++ [⟨.ecef, o.v⟩] })
    ∧ (o.kind = .enu →
      w.call T i .ecef [b] = (enuToEcefArg T o.v a).map (fun v => { w with heap := w.heap ++ [⟨.ecef, v⟩] })
      ∧ w.call T i .geo [b] = (enuToGeoArg T o.v a).map (fun v => { w with heap := w.heap ++ [⟨.geo, v⟩] })
      ∧ ∀ b2 a2, valArg w.heap b2 = some (some a2) →
          w.call T i .enu [b, b2] = (enuToEnuArg T o.v a a2).map (fun v => { w with heap := w.heap ++ [⟨.enu, v⟩] })) := by
  obtain ⟨k, v⟩ := o
  refine ⟨fun hk => ?_, fun hk => ?_, fun hk => ?_⟩ <;> cases hk
  · exact ⟨call_of_conv T w i _ ho _ _ (callConv_geo_enu T _ _ b a hb), call_of_conv T w i _ ho .ecef (.ok _) rfl,
      call_of_conv T w i _ ho .geo (.ok _) rfl⟩
  · exact ⟨call_of_conv T w i _ ho _ _ (callConv_ecef_enu T _ _ b a hb), call_of_conv T w i _ ho .geo (.ok _) rfl,
      call_of_conv T w i _ ho .ecef (.ok _) rfl⟩
  · exact ⟨call_of_conv T w i _ ho _ _ (callConv_enu_ecef T _ _ b a hb),
      call_of_conv T w i _ ho _ _ (callConv_enu_geo T _ _ b a hb),
      fun b2 a2 hb2 => call_of_conv T w i _ ho _ _ (callConv_enu_enu T _ _ b b2 a a2 hb hb2)⟩

/-- T13' in particular: the caller updates his base object in place, then converts with it — the conversion is the one
about the *updated* base. -/
theorem update_then_convert (T : Trig ℝ) (w : World ℝ) (p b : Nat) (hpb : p ≠ b) (g c : V3 ℝ)
    (hp : w.heap[p]? = some ⟨.geo, g⟩) (hb : w.heap[b]? = some ⟨.geo, c⟩) (k : Nat) (x : ℝ) :
    (w.set b k x).bind (fun w2 => w2.call T p .enu [.ref b])
      = .ok ⟨w.heap.set b ⟨.geo, c.set k x⟩ ++ [⟨.enu, geoToEnu T g (.geo (c.set k x))⟩], w.tracks⟩ := by
  simp only [World.set, hb, Except.bind]
  have hp2 : (w.heap.set b ⟨.geo, c.set k x⟩)[p]? = some ⟨.geo, g⟩ := by rw [List.getElem?_set_ne (Ne.symm hpb)]; exact hp
  have hb2 : valArg (w.heap.set b ⟨.geo, c.set k x⟩) (.ref b) = some (some (.pt (.geo (c.set k x)))) := by
    rw [valArg_ref (List.getElem?_set_self (List.getElem?_eq_some_iff.mp hb).1)]; rfl
  exact ((call_current_values T ⟨_, w.tracks⟩ p _ hp2 _ _ hb2).1 rfl).1

/-- T14 The local coordinates of the base itself are (0,0,0) also when point and base are *the same object*
(`b.toENUCoords(b)`), for a `GeoCoords` and for an `ECEFCoords`. -/
theorem alias_base_is_origin (T : Trig ℝ) (w : World ℝ) (i : Nat) (o : Obj ℝ) (ho : w.heap[i]? = some o)
    (hk : o.kind ≠ .enu) :
    w.call T i .enu [.ref i] = .ok { w with heap := w.heap ++ [⟨.enu, ⟨0, 0, 0⟩⟩] } :=
  call_of_conv T w i o ho .enu (.ok _) (callConv_self T w.heap i o ho hk)

/-- T15 The whole-track conversions on the heap (`Track.toECEFCoords/toENUCoords/toGeoCoords/toProjCoords/toENUCoordsIfNeeded` with
`getSRID()`, the default base, `Track.base`, the per-position dispatch and the rebinding of positions and base) simulate
the pure `Track` model of `Model/Geo.lean` that T8/T9 are about: for a track whose positions all have the class of the
first one (`Abs`: the pure track is what the heap-level track holds *now*, bases read by value), the heap-level
conversion and the pure one fail with the same error, or both succeed and the new heap-level track holds the new pure
track. (`arg'` is `arg` read through the heap: `None`, an SRID, or the current value of a `GeoCoords`/`ECEFCoords`.) -/
theorem track_heap_simulation (T : Trig ℝ) (w : World ℝ) (ti : Nat) (t : HTrack) (ht : w.tracks[ti]? = some t)
    (a : Track ℝ) (hA : Abs w.heap t a) (arg : Val) (arg' : Option (BaseArg ℝ)) (harg : valArg w.heap arg = some arg')
    (srid : Nat) :
    SimRes ti (w.trackToENU T ti arg) (a.toENU T arg')
    ∧ SimRes ti (w.trackToGeo T ti arg) (a.toGeo T arg')
    ∧ SimRes ti (w.trackToECEF T ti arg) (a.toECEF T arg')
    ∧ SimRes ti (w.trackToProj T ti srid) (a.toProj T srid)
    ∧ SimRes ti (w.trackToENUIfNeeded T ti) (a.toENUIfNeeded T) :=
  ⟨trackToENU_sim T w ti t ht a hA arg arg' harg, trackToGeo_sim T w ti t ht a hA arg arg' harg,
   trackToECEF_sim T w ti t ht a hA arg arg' harg, trackToProj_sim T w ti t ht a hA srid,
   trackToENUIfNeeded_sim T w ti t ht a hA⟩

/-- T15' `Track.toENUCoordsIfNeeded()` on a Geo track is `Track.toENUCoords()` without argument (base = the first
observation, T8), on any other non-empty track it does nothing. -/
theorem track_enu_if_needed (T : Trig ℝ) (t : Track ℝ) (p : V3 ℝ) (ps : List (V3 ℝ)) (hp : t.pts = p :: ps) :
    (t.kind = .geo → t.toENUIfNeeded T = t.toENU T none) ∧ (t.kind ≠ .geo → t.toENUIfNeeded T = .ok t) := by
  obtain ⟨k, pts, base⟩ := t
  simp only at hp
  subst hp
  constructor
  · intro hk; simp only at hk; subst hk; rfl
  · intro hk; simp only at hk; cases k <;> first | exact absurd rfl hk | rfl

/-- T16 What `Track.toENUCoords` leaves in the track is new: the positions and `Track.base` are objects that did not
exist before the call (or `Track.base` is the SRID number) — the recorded base is a copy (`base.toGeoCoords()`), never the
caller's object — and no older object was touched. -/
theorem track_enu_rebinds_fresh (T : Trig ℝ) (w w' : World ℝ) (ti : Nat) (arg : Val)
    (h : w.trackToENU T ti arg = .ok w') :
    (∃ t', w'.tracks[ti]? = some t' ∧ FreshFrom w.heap.length t') ∧ ∃ l, w'.heap = w.heap ++ l :=
  ⟨trackToENU_fresh T w w' ti arg h, trackToENU_frame T w w' ti arg h⟩

/-- T17 The record survives the caller: a Geo track goes to ENU about the caller's `GeoCoords` object `b`; the caller
then updates in place *any* object that existed before that conversion (his base object `b` in particular); the track
comes back with `toGeoCoords()` and no argument. All three calls succeed and every position is its own Geo → ECEF → Geo
image (T4, T5, T5'), `Track.base` still being the base as it was when it was used. -/
theorem track_round_trip_survives_update (T : Trig ℝ) (hT : Pyth T) (w : World ℝ) (ti : Nat) (t : HTrack)
    (ht : w.tracks[ti]? = some t) (pts : List (V3 ℝ)) (hne : pts ≠ []) (ab : Option (BaseArg ℝ))
    (hA : Abs w.heap t ⟨.geo, pts, ab⟩) (b : Nat) (c : V3 ℝ) (hb : w.heap[b]? = some ⟨.geo, c⟩)
    (j k : Nat) (x : ℝ) (hj : j < w.heap.length) :
    ∃ w1 w2 w3 t3, w.trackToENU T ti (.ref b) = .ok w1 ∧ w1.set j k x = .ok w2 ∧ w2.trackToGeo T ti .none = .ok w3 ∧
      w3.tracks[ti]? = some t3 ∧
      Abs w3.heap t3 ⟨.geo, pts.map (fun g => ecefToGeo T (geoToEcef T g)), some (.pt (.geo c))⟩ :=
  enu_set_geo_sim T w ti t ht _ hA (.ref b) _ (by rw [valArg_ref hb]; rfl) _
    (track_geo_enu_geo T hT ⟨.geo, pts, ab⟩ rfl hne (.geo c) none rfl) j k x hj

/-- T9' Whole-track round trips whose return leg passes *no argument* (the code reads `Track.base`, the record), for a base
of either class (T9 has this only for a `GeoCoords` base). `Track.toENUCoords(b)` converts with `b` and records
`b.toGeoCoords()`; the point conversions read a base only through `base.toECEFCoords()`. Hence
* (no hypothesis) ECEF track → ENU(b) → ECEF(): every position goes forth with `b` and back with the record,
  `enuToEcef (ecefToEnu p b) (b.toGeoCoords())` — this is exactly what the code computes in the known finding;
* if the record denotes the point that was used — `geoToEcef (b.toGeo) = b.toEcef`: every `GeoCoords` base, and an
  `ECEFCoords` base at which the closed-form inverse is exact (`recorded_base_denotes_base_used`) — then the returns
  through the record are exact: ECEF track → ENU(b) → ECEF() gives the positions back, → Geo() gives their direct
  ECEF → Geo images; Geo track → ENU(b) → ECEF() / Geo() gives the direct Geo → ECEF conversion / the Geo → ECEF → Geo
  images (T4, T5, T5' then apply point by point); and the recorded base has local coordinates (0,0,0) in the frame used.
The hypothesis fails for an `ECEFCoords` base off the ellipsoid by Bowring's residual (about a micrometre up to 10 km):
the listed finding of this property, and nothing else, is what is left out. -/
theorem track_round_trip_recorded_base (T : Trig ℝ) (hT : Pyth T) (t : Track ℝ) (hne : t.pts ≠ []) (b : Base ℝ) :
    (t.kind = .ecef →
      (t.toENU T (some (.pt b))).bind (fun u => u.toECEF T none)
        = .ok ⟨.ecef, t.pts.map (fun p => enuToEcef T (ecefToEnu T p b) (.geo (b.toGeo T))), some (.pt (.geo (b.toGeo T)))⟩)
    ∧ (geoToEcef T (b.toGeo T) = b.toEcef T →
        (t.kind = .ecef →
          (t.toENU T (some (.pt b))).bind (fun u => u.toECEF T none) = .ok ⟨.ecef, t.pts, some (.pt (.geo (b.toGeo T)))⟩
          ∧ (t.toENU T (some (.pt b))).bind (fun u => u.toGeo T none)
              = .ok ⟨.geo, t.pts.map (ecefToGeo T), some (.pt (.geo (b.toGeo T)))⟩)
        ∧ (t.kind = .geo →
          (t.toENU T (some (.pt b))).bind (fun u => u.toECEF T none)
              = .ok ⟨.ecef, t.pts.map (geoToEcef T), some (.pt (.geo (b.toGeo T)))⟩
          ∧ (t.toENU T (some (.pt b))).bind (fun u => u.toGeo T none)
              = .ok ⟨.geo, t.pts.map (fun g => ecefToGeo T (geoToEcef T g)), some (.pt (.geo (b.toGeo T)))⟩)
        ∧ geoToEnu T (b.toGeo T) b = ⟨0, 0, 0⟩) :=
  ⟨fun hk => track_ecef_enu_ecef_rec T t hk hne b,
   fun hb => ⟨fun hk => ⟨track_ecef_enu_ecef T hT t hk hne b none hb, track_ecef_enu_geo T hT t hk hne b none hb⟩,
              fun hk => ⟨track_geo_enu_ecef T hT t hk hne b none hb, track_geo_enu_geo T hT t hk hne b none hb⟩,
              geoToEnu_of_toEcef T _ b hb⟩⟩

/-- T9'' When the hypothesis of T9' holds: for every `GeoCoords` base (any trig functions: the record is a copy), and — over
the reals — for an `ECEFCoords` base that lies on the ellipsoid (the ECEF position of any `(lon, lat, 0)` with
lon in (−180°, 180°], |lat| < 90°), where the closed-form inverse is exact (T5). -/
theorem recorded_base_denotes_base_used :
    (∀ (T : Trig ℝ) (c : V3 ℝ), geoToEcef T ((Base.geo c).toGeo T) = (Base.geo c).toEcef T)
    ∧ (∀ c : V3 ℝ, -180 < c.x → c.x ≤ 180 → -90 < c.y → c.y < 90 → c.z = 0 →
        geoToEcef realTrig ((Base.ecef (geoToEcef realTrig c)).toGeo realTrig)
          = (Base.ecef (geoToEcef realTrig c)).toEcef realTrig) :=
  ⟨fun _ _ => rfl, fun c h1 h2 h3 h4 h0 => recorded_on_ellipsoid c h1 h2 h3 h4 h0⟩

/-- T8' The base the library chooses. `Track.toENUCoords()` without argument, as coded (the statement of the property does
not fix this choice; the harness's oracle judges such a call against the recorded base only): on a non-empty Geo track the
first observation lands on (0,0,0), the record is its position, and the returns without argument are exact in the sense
of T9' (no hypothesis: the base is a `GeoCoords`); on a non-empty ECEF track the first observation lands on (0,0,0), the
record is the closed-form inverse of its position, and the returns without argument are exact when that inverse is exact
at the first position (on the ellipsoid: T9''). -/
theorem track_default_base (T : Trig ℝ) (hT : Pyth T) (t : Track ℝ) (p : V3 ℝ) (ps : List (V3 ℝ)) (hp : t.pts = p :: ps) :
    (t.kind = .geo →
      (∃ qs, t.toENU T none = .ok ⟨.enu, ⟨0, 0, 0⟩ :: qs, some (.pt (.geo p))⟩)
      ∧ (t.toENU T none).bind (fun u => u.toGeo T none)
          = .ok ⟨.geo, t.pts.map (fun g => ecefToGeo T (geoToEcef T g)), some (.pt (.geo p))⟩
      ∧ (t.toENU T none).bind (fun u => u.toECEF T none)
          = .ok ⟨.ecef, t.pts.map (geoToEcef T), some (.pt (.geo p))⟩)
    ∧ (t.kind = .ecef →
      (∃ qs, t.toENU T none = .ok ⟨.enu, ⟨0, 0, 0⟩ :: qs, some (.pt (.geo (ecefToGeo T p)))⟩)
      ∧ (geoToEcef T (ecefToGeo T p) = p →
          (t.toENU T none).bind (fun u => u.toECEF T none) = .ok ⟨.ecef, t.pts, some (.pt (.geo (ecefToGeo T p)))⟩
          ∧ (t.toENU T none).bind (fun u => u.toGeo T none)
              = .ok ⟨.geo, t.pts.map (ecefToGeo T), some (.pt (.geo (ecefToGeo T p)))⟩)) := by
  have hne : t.pts ≠ [] := by rw [hp]; exact List.cons_ne_nil _ _
  refine ⟨fun hk => ?_, fun hk => ?_⟩
  · rw [toENU_geo_none T t hk p ps hp]
    refine ⟨⟨ps.map (fun g => geoToEnu T g (.geo p)), ?_⟩, ?_, ?_⟩
    · rw [toENU_geo_pt T t hk hne (.geo p), hp, List.map_cons, geoToEnu_self' T p]; rfl
    · exact track_geo_enu_geo T hT t hk hne (.geo p) none rfl
    · exact track_geo_enu_ecef T hT t hk hne (.geo p) none rfl
  · rw [toENU_ecef_none T t hk p ps hp]
    refine ⟨⟨ps.map (fun q => ecefToEnu T q (.ecef p)), ?_⟩, fun hb => ⟨?_, ?_⟩⟩
    · rw [toENU_ecef_pt T t hk hne (.ecef p), hp, List.map_cons]
      have : ecefToEnu T p (.ecef p) = ⟨0, 0, 0⟩ := ecefToEnu_base' T (.ecef p)
      rw [this]; rfl
    · exact track_ecef_enu_ecef T hT t hk hne (.ecef p) none hb
    · exact track_ecef_enu_geo T hT t hk hne (.ecef p) none hb

/-- T17' The record of a base chosen by the library survives the caller too: a Geo track goes to ENU *without argument*
(the base is the position object of the first observation); the caller then updates in place any object that existed
before that conversion — that first position object in particular; the track comes back with `toGeoCoords()` and no
argument. All three calls succeed, every position is its own Geo → ECEF → Geo image, and `Track.base` is the first position
as it was when it was used (the record is a copy, the new positions are new objects). -/
theorem track_default_round_trip_survives_update (T : Trig ℝ) (hT : Pyth T) (w : World ℝ) (ti : Nat) (t : HTrack)
    (ht : w.tracks[ti]? = some t) (p : V3 ℝ) (ps : List (V3 ℝ)) (ab : Option (BaseArg ℝ))
    (hA : Abs w.heap t ⟨.geo, p :: ps, ab⟩) (j k : Nat) (x : ℝ) (hj : j < w.heap.length) :
    ∃ w1 w2 w3 t3, w.trackToENU T ti .none = .ok w1 ∧ w1.set j k x = .ok w2 ∧ w2.trackToGeo T ti .none = .ok w3 ∧
      w3.tracks[ti]? = some t3 ∧
      Abs w3.heap t3 ⟨.geo, (p :: ps).map (fun g => ecefToGeo T (geoToEcef T g)), some (.pt (.geo p))⟩ :=
  enu_set_geo_sim T w ti t ht _ hA .none none rfl _
    ((track_default_base T hT ⟨.geo, p :: ps, ab⟩ p ps rfl).1 rfl).2.1 j k x hj

/-- Notre-Dame de Paris on the ellipsoid comes back exactly through ECEF, and through the local frame of a base in Lyon
given as `GeoCoords`. -/
example : ecefToGeo realTrig (geoToEcef realTrig ⟨2.35, 48.853, 0⟩) = ⟨2.35, 48.853, 0⟩ :=
  geo_ecef_geo_partial _ (by norm_num) (by norm_num) (by norm_num) (by norm_num) rfl
example : enuToGeo realTrig (geoToEnu realTrig ⟨2.35, 48.853, 0⟩ (.geo ⟨4.85, 45.75, 170⟩)) (.geo ⟨4.85, 45.75, 170⟩)
    = ⟨2.35, 48.853, 0⟩ :=
  geo_enu_geo_partial _ _ (by norm_num) (by norm_num) (by norm_num) (by norm_num) rfl
/-- the antimeridian and a near-pole latitude at 10 km satisfy the hypotheses of T4 -/
example : (ecefToGeo realTrig (geoToEcef realTrig ⟨180, -89.8999, 10000⟩)).x = 180 :=
  lon_recovered _ (by norm_num) (by norm_num) (by norm_num) (by norm_num) (by norm_num)
/-- a two-point ECEF track round-trips through the frame of its own first observation passed as base -/
example : ((⟨.ecef, [⟨4201000, 168000, 4780000⟩, ⟨4201010, 168020, 4780005⟩], none⟩ : Track ℝ).toENU realTrig
      (some (.pt (.ecef ⟨4201000, 168000, 4780000⟩)))).bind (fun u => u.toECEF realTrig (some (.pt (.ecef ⟨4201000, 168000, 4780000⟩))))
    = .ok ⟨.ecef, [⟨4201000, 168000, 4780000⟩, ⟨4201010, 168020, 4780005⟩],
        some (.pt (.geo (ecefToGeo realTrig ⟨4201000, 168000, 4780000⟩)))⟩ :=
  (track_round_trip realTrig pyth_realTrig _ (by simp) (.ecef ⟨4201000, 168000, 4780000⟩) ⟨0, 0, 0⟩).1 rfl

/-- a point of the Lambert-93 domain satisfies the hypotheses of T11 -/
example : (fromLambert93 realTrig (toLambert93 realTrig ⟨2.35, 48.853, 35⟩)).x = 2.35 :=
  (lambert_round_trip _ (by norm_num) (by norm_num) (by norm_num) (by norm_num)).1

/-- a point at 8848 m satisfies the hypotheses of T5' -/
example : (ecefToGeo realTrig (geoToEcef realTrig ⟨86.925, 27.988, 8848⟩)).x = 86.925 := by
  rw [(geo_ecef_geo_residual ⟨86.925, 27.988, 8848⟩ (by norm_num) (by norm_num) (by norm_num) (by norm_num) (by norm_num)).1]

/-- a world with one Geo position (object 0), the caller's base (object 1) and a track holding object 0: the track goes to
ENU about object 1, the caller moves object 1 up by 1588 m, the track comes back (hypotheses of T17 with `j = b = 1`) -/
example : ∃ w1 w2 w3 t3,
    (⟨[⟨.geo, ⟨5.7245, 45.1885, 212⟩⟩, ⟨.geo, ⟨5.72, 45.19, 212⟩⟩], [⟨[0], .none⟩]⟩ : World ℝ).trackToENU realTrig 0 (.ref 1) = .ok w1
    ∧ w1.set 1 2 1800 = .ok w2 ∧ w2.trackToGeo realTrig 0 .none = .ok w3 ∧ w3.tracks[0]? = some t3
    ∧ Abs w3.heap t3 ⟨.geo, [ecefToGeo realTrig (geoToEcef realTrig ⟨5.7245, 45.1885, 212⟩)], some (.pt (.geo ⟨5.72, 45.19, 212⟩))⟩ :=
  track_round_trip_survives_update realTrig pyth_realTrig _ 0 ⟨[0], .none⟩ rfl [⟨5.7245, 45.1885, 212⟩] (by simp) none
    ⟨⟨[⟨.geo, ⟨5.7245, 45.1885, 212⟩⟩], rfl, by simp, rfl⟩, rfl⟩ 1 ⟨5.72, 45.19, 212⟩ rfl 1 2 1800 (by simp)

/-- the same object as point and base (hypotheses of T14) -/
example : (⟨[⟨.geo, ⟨2.35, 48.853, 35⟩⟩], []⟩ : World ℝ).call realTrig 0 .enu [.ref 0]
    = .ok ⟨[⟨.geo, ⟨2.35, 48.853, 35⟩⟩, ⟨.enu, ⟨0, 0, 0⟩⟩], []⟩ :=
  alias_base_is_origin realTrig _ 0 _ rfl (by simp)

/-- an ECEF track whose first observation lies on the ellipsoid goes to ENU without argument and comes back without
argument, exactly (hypotheses of T8' / T9'' for the base the library chooses) -/
example : ((⟨.ecef, [geoToEcef realTrig ⟨2.35, 48.853, 0⟩, ⟨4201010, 168020, 4780005⟩], none⟩ : Track ℝ).toENU realTrig none).bind
      (fun u => u.toECEF realTrig none)
    = .ok ⟨.ecef, [geoToEcef realTrig ⟨2.35, 48.853, 0⟩, ⟨4201010, 168020, 4780005⟩],
        some (.pt (.geo (ecefToGeo realTrig (geoToEcef realTrig ⟨2.35, 48.853, 0⟩))))⟩ :=
  (((track_default_base realTrig pyth_realTrig _ _ _ rfl).2 rfl).2
    (recorded_base_denotes_base_used.2 ⟨2.35, 48.853, 0⟩ (by norm_num) (by norm_num) (by norm_num) (by norm_num) rfl)).1

/-- a Geo track of two positions (objects 0, 1) goes to ENU without argument, the caller moves the first position object
up to 1800 m, the track comes back (hypotheses of T17' with `j = 0`, the object the library took as base) -/
example : ∃ w1 w2 w3 t3,
    (⟨[⟨.geo, ⟨5.7245, 45.1885, 212⟩⟩, ⟨.geo, ⟨5.72, 45.19, 212⟩⟩], [⟨[0, 1], .none⟩]⟩ : World ℝ).trackToENU realTrig 0 .none = .ok w1
    ∧ w1.set 0 2 1800 = .ok w2 ∧ w2.trackToGeo realTrig 0 .none = .ok w3 ∧ w3.tracks[0]? = some t3
    ∧ Abs w3.heap t3 ⟨.geo, [⟨5.7245, 45.1885, 212⟩, ⟨5.72, 45.19, 212⟩].map (fun g => ecefToGeo realTrig (geoToEcef realTrig g)),
        some (.pt (.geo ⟨5.7245, 45.1885, 212⟩))⟩ :=
  track_default_round_trip_survives_update realTrig pyth_realTrig _ 0 ⟨[0, 1], .none⟩ rfl ⟨5.7245, 45.1885, 212⟩
    [⟨5.72, 45.19, 212⟩] none ⟨⟨[⟨.geo, ⟨5.7245, 45.1885, 212⟩⟩, ⟨.geo, ⟨5.72, 45.19, 212⟩⟩], rfl, by simp, rfl⟩, rfl⟩ 0 2 1800 (by simp)

end TV.C14
