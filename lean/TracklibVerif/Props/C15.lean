import TracklibVerif.Lemmas.Filter
import TracklibVerif.Lemmas.FilterNp
import TracklibVerif.Lemmas.FilterKernels
import TracklibVerif.Lemmas.FilterAlgebraic
import TracklibVerif.Lemmas.FilterLocal
import Mathlib.Algebra.Order.Ring.Rat
import Mathlib.Algebra.Field.Rat
import Mathlib.Tactic.NormNum
/-! # C15 — kernel smoothing is a renormalised local weighted mean

The property theorems and the predicates they are stated with (`InDomain`, `Filtered`, `Prepared`, `GoodWindow`), each with the lemmas
that use or establish it (`InDomain.run`, `InDomain.get_filtered`, `Prepared.meanKernel`, `goodWindow_of_sum_pos`); helpers are in `Lemmas/Filter.lean`, `FilterNp.lean`, `FilterKernels.lean`,
`FilterAlgebraic.lean`, `FilterLocal.lean`, the model in
`Model/Filter.lean`. Scalars: any linearly ordered field (`ℚ`, `ℝ`); NaN is `none`. Vocabulary (defined
in `Lemmas/FilterLocal.lean` and `Lemmas/Filter.lean`):

* `window v k D i` — the pairs `(k[j], v[i - j + D])` over the kernel positions `j` whose sample index
  `i - j + D` is inside the signal and whose sample is not NaN (characterised by `window_spec`);
* `wtot W = Σ weight`, `wsum W = Σ weight · value`, `wmean W = wsum W / wtot W`;
* `filterWindow v k boundary` — `Filter.execute` once the kernel has been turned into the window `k`
  (`boundary = kernel.filterBoundary()`, `false` for a weight list); `execute` — the whole method on the
  values of the input feature; `operate` — `track.operate(Operator.FILTER, af_in, kernel, af_out)` on a
  track of named signals (kernel possibly a feature name); `operateArgs` — the argument forms of
  `Track.operate` (output name omitted, lists of names); `operateAlgebraic` — the algebraic form
  `track.operate("out = in ! w")` / `"out = in .* w"` / `"in ! w"`; `filterSeq` / `filterSeqCall` / `smooth` /
  `session` / `filterSeqRepeat` — `filter_seq` on a list of names / with its `dim` argument and the
  module-level state / `Track.smooth` / several calls in one process / several calls on the same track.

Domain (`InDomain`): odd window, non-negative weights, every collected norm positive, and a signal
at least as long as the *half* window when the boundary values are copied — no other condition on the
length: tracks shorter than the window are covered (`short_track_filtered`, `short_track_unchanged`,
`execute_short_track`, `smooth_short_track`). Outside it the theorems say what happens instead: a zero norm
(`zero_norm_fails`, `list_zero_weights`, `list_no_sample_fails`, `window_zero_sum_fails`), a track shorter
than the half window with copied boundaries (`short_track_index_error`, `smooth_too_short_fails`), a float
given as kernel (`number_kernel_refused`).

Floating point: the theorems above are over a linearly ordered field. `filter_local`, `filter_far_sample`,
`execute_local` use no law of arithmetic and hold for every scalar type, the IEEE doubles of the Python included
(`filter_local_float`): the value at an index is a function of the kernel and of the samples of its own window,
bit for bit — what is computed from them (the rounding of the weighted mean) stays outside the theorems.

Kernel functions: Uniform / Triangular / Epanechnikov (`builtin_kernels`, `builtin_kernel_windows`), Cubic /
Spheric (`pow_kernels`, `pow_kernel_windows`; `math.pow` with an integer exponent is a product), Gaussian /
Exponential (`exp_kernel_windows`, `smooth_gaussian`; `math.exp` is any positive-valued function — the one
assumption on libm), user-defined (`user_kernel_window`, `window_of_nonneg_kernel`). -/
set_option linter.unusedSectionVars false
namespace TV.C15
open TV.Filter
variable {α : Type} [Field α] [LinearOrder α] [IsStrictOrderedRing α]

/-- the property's domain for a prepared window `k` -/
structure InDomain (v : List (Option α)) (k : List α) (boundary : Bool) : Prop where
  odd : k.length % 2 = 1
  nonneg : ∀ w ∈ k, 0 ≤ w
  norm_pos : ∀ i, i < v.length → 0 < wtot (window v k (k.length / 2) i)
  long : boundary = false → k.length / 2 ≤ v.length

theorem InDomain.norm_ne {v : List (Option α)} {k : List α} {boundary : Bool} (h : InDomain v k boundary) :
    ∀ i, i < v.length → wtot (window v k (k.length / 2) i) ≠ 0 := fun i hi => ne_of_gt (h.norm_pos i hi)

theorem InDomain.run {v : List (Option α)} {k : List α} {boundary : Bool} (h : InDomain v k boundary) :
    filterWindow v k boundary = .ok (meanSignal v k boundary) := filterWindow_eq v k boundary h.odd h.norm_ne h.long

/-- index `i` is really filtered: boundaries are filtered, or `i` is not in the first / last half window -/
def Filtered (v : List (Option α)) (k : List α) (boundary : Bool) (i : Nat) : Prop :=
  boundary = true ∨ (k.length / 2 ≤ i ∧ i + k.length / 2 < v.length)

/-- what a window contains: `(w, x)` is in the window of `i` iff for some kernel position `j`,
`w = k[j]`, the index `i - j + D` is inside the signal and `x = v[i - j + D]` is not NaN. -/
theorem window_spec (v : List (Option α)) (k : List α) (D i : Nat) (w x : α) :
    (w, x) ∈ window v k D i ↔
      ∃ j, k[j]? = some w ∧ j ≤ i + D ∧ i + D - j < v.length ∧ v[i + D - j]? = some (some x) := by
  rw [mem_window]
  exact exists_congr fun j => and_congr_right fun _ => and_congr_right fun _ =>
    ⟨fun hv => ⟨(List.getElem?_eq_some_iff.mp hv).1, hv⟩, fun hv => hv.2⟩

theorem InDomain.get_filtered {v : List (Option α)} {k : List α} {boundary : Bool} (h : InDomain v k boundary)
    {out : List (Option α)} (hout : filterWindow v k boundary = .ok out) {i : Nat} (hi : i < v.length)
    (hf : Filtered v k boundary i) : out[i]? = some (some (wmean (window v k (k.length / 2) i))) := by
  rw [h.run] at hout
  cases hout
  rw [meanSignal_get v k boundary i hi, if_neg (not_copied_iff.mpr (hf.imp_right fun h => ⟨h.1, by omega⟩))]

theorem InDomain.between {v : List (Option α)} {k : List α} {boundary : Bool} (h : InDomain v k boundary) {i : Nat}
    (hi : i < v.length) :
    (∃ p ∈ window v k (k.length / 2) i, p.2 ≤ wmean (window v k (k.length / 2) i)) ∧
      (∃ p ∈ window v k (k.length / 2) i, wmean (window v k (k.length / 2) i) ≤ p.2) :=
  wmean_between _ (fun _ hp => h.nonneg _ (window_weight_mem hp)) (h.norm_pos i hi)

/-- **T1 (`filter_is_mean`)** In the domain, `Filter.execute` does not fail, returns one value per
observation, and at every filtered index the value is the weighted mean of the window's samples, the
weights being renormalised over the samples that are inside the track and not NaN:
`out[i] = (Σ_j k[j]·v[i−j+D]) / (Σ_j k[j])`, both sums over the valid `j` only. -/
theorem filter_is_mean (v : List (Option α)) (k : List α) (boundary : Bool) (h : InDomain v k boundary) :
    ∃ out, filterWindow v k boundary = .ok out ∧ out.length = v.length ∧
      ∀ i, i < v.length → Filtered v k boundary i →
        out[i]? = some (some (wmean (window v k (k.length / 2) i))) :=
  ⟨meanSignal v k boundary, h.run, meanSignal_length v k boundary, fun _ hi hf => h.get_filtered h.run hi hf⟩

/-- **T2 (`filter_bounds`)** Every filtered output lies between any lower and upper bound of the
non-NaN samples at distance at most `D` of its index — in particular between the smallest and the
largest sample of its window. -/
theorem filter_bounds (v : List (Option α)) (k : List α) (boundary : Bool) (h : InDomain v k boundary)
    (out : List (Option α)) (hout : filterWindow v k boundary = .ok out)
    (i : Nat) (hi : i < v.length) (hf : Filtered v k boundary i) (lo hi' : α)
    (hb : ∀ (m : Nat) (x : α), i ≤ m + k.length / 2 → m ≤ i + k.length / 2 → v[m]? = some (some x) → lo ≤ x ∧ x ≤ hi') :
    ∃ y, out[i]? = some (some y) ∧ lo ≤ y ∧ y ≤ hi' := by
  obtain ⟨⟨p, hp, hlo⟩, ⟨q, hq, hhi⟩⟩ := h.between hi
  obtain ⟨m, _, p1, p2, hpv⟩ := window_value_mem hp
  obtain ⟨m', _, q1, q2, hqv⟩ := window_value_mem hq
  exact ⟨_, h.get_filtered hout hi hf, le_trans (hb m p.2 p1 p2 hpv).1 hlo, le_trans hhi (hb m' q.2 q1 q2 hqv).2⟩

/-- **T2′** the same statement with the extreme values made explicit: a filtered output lies between
two samples of its own window. -/
theorem filter_between_samples (v : List (Option α)) (k : List α) (boundary : Bool) (h : InDomain v k boundary)
    (out : List (Option α)) (hout : filterWindow v k boundary = .ok out)
    (i : Nat) (hi : i < v.length) (hf : Filtered v k boundary i) :
    ∃ y, out[i]? = some (some y) ∧
      (∃ p ∈ window v k (k.length / 2) i, p.2 ≤ y) ∧ (∃ p ∈ window v k (k.length / 2) i, y ≤ p.2) :=
  ⟨_, h.get_filtered hout hi hf, h.between hi⟩

/-- **T3 (`filter_const`)** If every non-NaN sample of the signal equals `c`, every filtered output
is `c` (NaN samples do not disturb a constant signal). -/
theorem filter_const (v : List (Option α)) (k : List α) (boundary : Bool) (h : InDomain v k boundary)
    (out : List (Option α)) (hout : filterWindow v k boundary = .ok out) (c : α)
    (hc : ∀ (m : Nat) (x : α), v[m]? = some (some x) → x = c)
    (i : Nat) (hi : i < v.length) (hf : Filtered v k boundary i) : out[i]? = some (some c) := by
  obtain ⟨y, hy, h1, h2⟩ := filter_bounds v k boundary h out hout i hi hf c c
    (fun m x _ _ hv => by rw [hc m x hv]; exact ⟨le_refl _, le_refl _⟩)
  rw [hy, le_antisymm h2 h1]

/-- **T4 (`boundary_copy`)** When the kernel does not filter boundaries (always the case for a weight
list), the first and the last `D` output values are the input values, unchanged (NaN included). -/
theorem boundary_copy (v : List (Option α)) (k : List α) (h : InDomain v k false)
    (out : List (Option α)) (hout : filterWindow v k false = .ok out)
    (i : Nat) (hi : i < v.length) (hcopy : i < k.length / 2 ∨ v.length - k.length / 2 ≤ i) :
    out[i]? = v[i]? := by
  rw [h.run] at hout
  cases hout
  rw [meanSignal_get v k false i hi, if_pos ⟨rfl, hcopy⟩]
  rcases hx : v[i]? with _ | x
  · rw [List.getElem?_eq_none_iff] at hx; omega
  · rfl

/-- **T3′** A constant signal without NaN is returned unchanged as a whole (both boundary settings). -/
theorem filter_const_signal (n : Nat) (c : α) (k : List α) (boundary : Bool)
    (h : InDomain (List.replicate n (some c)) k boundary) :
    filterWindow (List.replicate n (some c)) k boundary = .ok (List.replicate n (some c)) := by
  rw [h.run]
  congr 1
  refine meanSignal_eq_self _ k boundary (fun i hi _ => ?_)
  rw [List.getElem_replicate, wmean_const _ c (h.norm_ne i hi) (fun p hp => by
    obtain ⟨m, _, _, _, hv⟩ := window_value_mem hp
    rw [List.getElem?_replicate] at hv
    split at hv <;> cases hv
    rfl)]

/-- **Domain** An odd list of positive weights, a signal at least as long as the half window, and at
every index a non-NaN sample at distance at most `D` (true for isolated NaN as soon as `D ≥ 1` and
the signal has two samples): the input is in the domain — no window has a zero norm. -/
theorem inDomain_of_positive_weights (v : List (Option α)) (k : List α) (boundary : Bool)
    (hodd : k.length % 2 = 1) (hpos : ∀ w ∈ k, 0 < w) (hlen : k.length / 2 ≤ v.length)
    (hvalid : ∀ i, i < v.length → ∃ (m : Nat) (x : α), i ≤ m + k.length / 2 ∧ m ≤ i + k.length / 2 ∧ v[m]? = some (some x)) :
    InDomain v k boundary where
  odd := hodd
  nonneg := fun w hw => le_of_lt (hpos w hw)
  norm_pos := fun i hi => by
    obtain ⟨m, x, h1, h2, hv⟩ := hvalid i hi
    obtain ⟨w, hw, hmem⟩ := mem_window_of_sample v k i m x hodd h1 h2 hv
    exact wtot_pos_of_mem _ (fun p hp => le_of_lt (hpos _ (window_weight_mem hp))) (w, x) hmem
      (hpos w (List.mem_of_getElem? hw))
  long := fun _ => hlen

/-- `w`, `b` are the window and the boundary flag that `Filter.execute` derives from its `kernel`
argument: the sliding window of a Kernel object, `[0,1,0]` for the Dirac kernel, and — up to the
scale, which the renormalised mean does not see — the caller's weights for a list. -/
def Prepared (kern : KArg α) (w : List α) (b : Bool) : Prop :=
  match kern with
  | .list k => w = k ∧ b = false ∧ k.sum ≠ 0
  | .obj true fb _ _ _ => w = [0, 1, 0] ∧ b = fb
  | .obj false fb f support S => slidingWindow f support S = .ok w ∧ b = fb

theorem Prepared.meanKernel {kern : KArg α} {w : List α} {b : Bool} (hp : Prepared kern w b) : MeanKernel kern w b := by
  cases kern with
  | list k =>
    obtain ⟨rfl, rfl, hs⟩ := hp
    exact ⟨⟨1, one_ne_zero, by simp⟩, rfl, hs⟩
  | obj dirac fb f support S => cases dirac <;> exact hp

/-- **T1 for `Filter.execute` itself** For a weight list (normalised in place by the call: the
list is left divided by its sum), a Kernel object or the Dirac kernel, in the domain, the method
returns the signal of renormalised weighted means of the prepared window (`meanSignal`, i.e. exactly
the output `filterWindow` is shown to produce in T1–T4), with the caller's un-normalised weights in
the case of a list. -/
theorem execute_is_mean (v : List (Option α)) (kern : KArg α) (w : List α) (b : Bool)
    (hp : Prepared kern w b) (h : InDomain v w b) :
    filterWindow v w b = .ok (meanSignal v w b) ∧
    ∃ k', execute v kern = .ok (k', meanSignal v w b) ∧
      (∀ k, kern = .list k → k' = some (k.map (· / k.sum))) := by
  obtain ⟨k', hex, _, hk'⟩ := execute_meanKernel v kern w b hp.meanKernel h.odd h.norm_ne
  rw [if_neg (not_short h.long)] at hex
  exact ⟨h.run, k', hex, fun k hk => by rw [hk' k hk, normalise_eq]⟩

/-- **T5 (`window_shape`)** `Kernel.toSlidingWindow()` for a support of at least 1, an even kernel
function and a non-zero sum of the sampled values: the window has `2·⌊support⌋+1` values (odd), it is
symmetric (`w[size−1−i] = w[i]`), and it sums to 1. The sample points are the integers `S, …, −S`. -/
theorem window_shape (f : α → α) (support : α) (S : Nat) (hs : ¬ support < 1)
    (heven : ∀ y, f (-y) = f y) (hsum : (rawWindow f support S).sum ≠ 0) :
    ∃ w, slidingWindow f support S = .ok w ∧ w.length = 2 * S + 1 ∧ w.length % 2 = 1 ∧
      (∀ i, i ≤ 2 * S → w[2 * S - i]? = w[i]?) ∧ w.sum = 1 := by
  refine ⟨_, slidingWindow_eq f support S hs hsum, ?_, ?_, ?_, ?_⟩
  · rw [List.length_map, rawWindow_length]
  · rw [List.length_map, rawWindow_length]; omega
  · intro i hi
    rw [List.getElem?_map, List.getElem?_map, rawWindow_symm f support S i hi heven]
  · rw [sum_map_div, div_self hsum]

/-- **T5′** if moreover the kernel function is non-negative at the sample points and positive at 0,
the sum of the sampled values is positive (so `window_shape` applies) and every weight of the window
is non-negative with a positive centre weight: the window is a legitimate input of T1–T4. -/
theorem window_nonneg (f : α → α) (support : α) (S : Nat) (hs : ¬ support < 1)
    (hf : ∀ i : Nat, i ≤ 2 * S → 0 ≤ f ((S : α) - (i : α))) (hc : 0 < f 0) :
    0 < (rawWindow f support S).sum ∧
    ∃ w, slidingWindow f support S = .ok w ∧ (∀ x ∈ w, 0 ≤ x) ∧ ∃ c, w[w.length / 2]? = some c ∧ 0 < c := by
  have hpos := rawWindow_sum_pos_of_centre f support S hs hf hc
  refine ⟨hpos, _, slidingWindow_eq f support S hs (ne_of_gt hpos), ?_, ?_⟩
  · exact map_div_nonneg _ _ (rawWindow_nonneg f support S hf) (le_of_lt hpos)
  · refine ⟨f 0 / (rawWindow f support S).sum, ?_, div_pos hc hpos⟩
    have e : (2 * S + 1) / 2 = S := by omega
    rw [List.length_map, rawWindow_length, e, List.getElem?_map, rawWindow_get f support S S (by omega),
      sub_self, evaluate_zero f support hs]
    rfl

/-- the third sentence of the property for a window `w` sampled with `S = int(support)`: odd length,
symmetric, sums to 1 — and non-negative weights, which makes it a legitimate kernel of T1–T4 -/
structure GoodWindow (w : List α) (S : Nat) : Prop where
  length : w.length = 2 * S + 1
  odd : w.length % 2 = 1
  symm : ∀ i, i ≤ 2 * S → w[2 * S - i]? = w[i]?
  sum_one : w.sum = 1
  nonneg : ∀ x ∈ w, 0 ≤ x

/-- a kernel function even and non-negative at the sample points, the sampled values having a positive sum -/
theorem goodWindow_of_sum_pos (f : α → α) (support : α) (S : Nat) (hs : ¬ support < 1)
    (heven : ∀ y, f (-y) = f y) (hf : ∀ i : Nat, i ≤ 2 * S → 0 ≤ f ((S : α) - (i : α)))
    (hsum : 0 < (rawWindow f support S).sum) : ∃ w, slidingWindow f support S = .ok w ∧ GoodWindow w S := by
  obtain ⟨w, hw, h1, h2, h3, h4⟩ := window_shape f support S hs heven (ne_of_gt hsum)
  refine ⟨w, hw, h1, h2, h3, h4, ?_⟩
  rw [slidingWindow_eq f support S hs (ne_of_gt hsum)] at hw
  cases hw
  exact map_div_nonneg _ _ (rawWindow_nonneg f support S hf) (le_of_lt hsum)

/-- a kernel function even, non-negative everywhere and positive at 0 -/
theorem goodWindow_of_even_nonneg (f : α → α) (support : α) (S : Nat) (hs : ¬ support < 1)
    (heven : ∀ y, f (-y) = f y) (hnn : ∀ x, 0 ≤ f x) (hc : 0 < f 0) : ∃ w, slidingWindow f support S = .ok w ∧ GoodWindow w S :=
  goodWindow_of_sum_pos f support S hs heven (fun _ _ => hnn _) (rawWindow_sum_pos_of_centre f support S hs (fun _ _ => hnn _) hc)

/-- **T5 for any kernel object** (built-in or `Kernel` + `setFunction`): support at least 1 with
`S = int(support) ≤ support`, an even kernel function, non-negative at the sample points
`S, …, −S` and positive at one of them (not necessarily the centre, and whatever its values at the
edge of the support — 0 included): `toSlidingWindow` succeeds and the window is odd, symmetric,
sums to 1 and has non-negative weights. -/
theorem window_of_nonneg_kernel (f : α → α) (support : α) (S : Nat) (hs : ¬ support < 1) (hS : (S : α) ≤ support)
    (heven : ∀ y, f (-y) = f y) (hf : ∀ i : Nat, i ≤ 2 * S → 0 ≤ f ((S : α) - (i : α)))
    (i0 : Nat) (hi0 : i0 ≤ 2 * S) (hpos : 0 < f ((S : α) - (i0 : α))) :
    ∃ w, slidingWindow f support S = .ok w ∧ GoodWindow w S :=
  goodWindow_of_sum_pos f support S hs heven hf
    (rawWindow_sum_pos f support S hf i0 hi0 (le_trans (absv_sample_le S i0 hi0) hS) hpos)

/-- **T5 for a kernel function that is even, non-negative everywhere and positive at 0**, support at least 1:
the sliding window is odd, symmetric, sums to 1 and is non-negative, with a positive centre weight. -/
theorem window_of_even_nonneg_kernel (f : α → α) (support : α) (S : Nat) (hs : ¬ support < 1)
    (heven : ∀ y, f (-y) = f y) (hnn : ∀ x, 0 ≤ f x) (hc : 0 < f 0) :
    ∃ w, slidingWindow f support S = .ok w ∧ GoodWindow w S ∧ ∃ c, w[w.length / 2]? = some c ∧ 0 < c := by
  obtain ⟨hsum, w, hw, _, hcentre⟩ := window_nonneg f support S hs (fun i _ => hnn _) hc
  obtain ⟨w', hw', hg⟩ := goodWindow_of_sum_pos f support S hs heven (fun i _ => hnn _) hsum
  rw [hw] at hw'
  cases hw'
  exact ⟨w, hw, hg, hcentre⟩

/-- **T5 for the built-in kernels whose function is written out in `kernel.py`** (`UniformKernel`,
`TriangularKernel`, `EpanechnikovKernel`, any size with support ≥ 1): their kernel functions are
even, non-negative and positive at 0, hence their sliding windows are odd, symmetric, sum to 1 and
have non-negative weights. -/
theorem builtin_kernels (size : α) (hsize : 0 < size) :
    (∀ y, uniformF size (-y) = uniformF size y) ∧ (∀ x, 0 ≤ uniformF size x) ∧ 0 < uniformF size 0 ∧
    (∀ y, triangularF size (-y) = triangularF size y) ∧ (∀ x, 0 ≤ triangularF size x) ∧ 0 < triangularF size 0 ∧
    (∀ y, epanechnikovF size (-y) = epanechnikovF size y) ∧ (∀ x, 0 ≤ epanechnikovF size x) ∧ 0 < epanechnikovF size 0 :=
  ⟨uniformF_even size, fun x => uniformF_nonneg size x hsize, uniformF_zero_pos size hsize,
   triangularF_even size, fun x => triangularF_nonneg size x hsize, triangularF_zero_pos size hsize,
   epanechnikovF_even size, fun x => epanechnikovF_nonneg size x hsize, epanechnikovF_zero_pos size hsize⟩

/-- **The loop `for af in dim`** of `filter_seq` (also what the list form of `Track.operate` runs on feature
names, see `operate_list_is_mean`), for a weight list of any length, a Kernel object or the Dirac kernel: every
listed coordinate / feature is replaced by its mean signal, the kernel being the same Python object at every turn. -/
theorem seqLoop_is_mean (t : Sigs α) (kern : KArg α) (w : List α) (b : Bool) (dims : List String)
    (hp : Prepared kern w b)
    (hnd : dims.Nodup) (htemp : "temp" ∉ dims)
    (hres : ∀ d ∈ dims, d ≠ "t" ∧ d ≠ "timestamp" ∧ d ≠ "idx") (hsize : trackSize t ≠ 0)
    (hall : ∀ d ∈ dims, ∃ v, getSig t d = some v ∧ InDomain v w b) :
    ∃ t', seqLoop dims (.arg kern) t = .ok t' ∧
      (∀ d ∈ dims, ∃ v, getSig t d = some v ∧ getSig t' d = some (meanSignal v w b)) ∧
      (∀ nm, nm ∉ dims → nm ≠ "temp" → getSig t' nm = getSig t nm) :=
  seqLoop_mean w b dims kern t hp.meanKernel hnd htemp hres hsize (fun d hd => by
    obtain ⟨v, hv, hin⟩ := hall d hd
    exact ⟨v, hv, hin.odd, hin.norm_ne, hin.long⟩)

/-- `filter_seq` with a list (not of length one) or a Kernel object is the loop over the dimensions -/
theorem filterSeq_k_eq (t : Sigs α) (kern : KArg α) (dims : List String) (hone : ∀ a, kern ≠ .list [a]) :
    filterSeq t (.k kern) dims = seqLoop dims (.arg kern) t := by
  unfold filterSeq
  cases kern with
  | obj _ _ _ _ _ => rfl
  | list k =>
    match k, hone with
    | [], _ => rfl
    | [a], hone => exact absurd rfl (hone a)
    | _ :: _ :: _, _ => rfl

/-- **`filter_seq`** For a weight list (not of length one), a Kernel object or the Dirac kernel, on a
track with at least one observation, and distinct dimensions none of which is the scratch feature
`temp` or one of the virtual features `t`, `timestamp`, `idx`, every one of which is a signal of the
track in the domain: `filter_seq` succeeds; each listed coordinate / feature is replaced by the
signal of renormalised weighted means of its own former values (the same window for all of them —
the in-place normalisation of the list at the first dimension does not change the result for the
following ones); every other signal except `temp` is untouched. -/
theorem filterSeq_is_mean (t : Sigs α) (kern : KArg α) (w : List α) (b : Bool) (dims : List String)
    (hp : Prepared kern w b) (hone : ∀ a, kern ≠ .list [a])
    (hnd : dims.Nodup) (htemp : "temp" ∉ dims)
    (hres : ∀ d ∈ dims, d ≠ "t" ∧ d ≠ "timestamp" ∧ d ≠ "idx") (hsize : trackSize t ≠ 0)
    (hall : ∀ d ∈ dims, ∃ v, getSig t d = some v ∧ InDomain v w b) :
    ∃ t', filterSeq t (.k kern) dims = .ok t' ∧
      (∀ d ∈ dims, ∃ v, getSig t d = some v ∧ getSig t' d = some (meanSignal v w b)) ∧
      (∀ nm, nm ∉ dims → nm ≠ "temp" → getSig t' nm = getSig t nm) := by
  rw [filterSeq_k_eq t kern dims hone]
  exact seqLoop_is_mean t kern w b dims hp hnd htemp hres hsize hall

/-- **`filter_seq` with an integer kernel** `n` stands for the list `[1]*n`; `n = 1` (like any
one-element list) returns the track unchanged. -/
theorem filterSeq_int (t : Sigs α) (n : Int) (dims : List String) :
    filterSeq t (.int n) dims = filterSeq t (.k (.list (List.replicate n.toNat 1))) dims ∧
    filterSeq t (.int 1) dims = .ok t ∧ ∀ a : α, filterSeq t (.k (.list [a])) dims = .ok t :=
  ⟨rfl, rfl, fun _ => rfl⟩

/-- **Dirac kernel** (`[0,1,0]`): a signal without NaN is returned unchanged. -/
theorem dirac_identity (v : List (Option α)) (b : Bool) (hlen : b = false → 1 ≤ v.length)
    (hv : ∀ i, i < v.length → ∃ x, v[i]? = some (some x)) :
    filterWindow v [0, 1, 0] b = .ok v := by
  rw [filterWindow_eq v [0, 1, 0] b (by simp)
    (fun i hi => by
      obtain ⟨x, hx⟩ := hv i hi
      have := (dirac_window v i x hx).2
      simp only [List.length_cons, List.length_nil] at this ⊢
      rw [this]; exact one_ne_zero)
    (fun h => by simpa using hlen h)]
  congr 1
  refine meanSignal_eq_self v _ b (fun i hi _ => ?_)
  obtain ⟨x, hx⟩ := hv i hi
  have h := dirac_window v i x hx
  simp only [List.length_cons, List.length_nil] at h ⊢
  unfold wmean
  rw [h.1, h.2, div_one, (List.getElem?_eq_some_iff.mp hx).2]

/-- **T5 when the sampled values sum to 0** (e.g. a kernel function that is 0 at every sample point):
`values[i] /= norm` divides by zero — `toSlidingWindow` fails, it never returns a window of NaN. -/
theorem window_zero_sum_fails (f : α → α) (support : α) (S : Nat) (hs : ¬ support < 1)
    (hsum : (rawWindow f support S).sum = 0) : slidingWindow f support S = .error .zeroDiv := by
  rw [slidingWindow_raw f support S hs, if_pos hsum]

/-- **User-defined kernel** `Kernel(…)` + `setFunction(f)` with `f(x) = tbl[|x|]` at the integers
`|x| < len(tbl)` and 0 elsewhere (the values may be Python ints, floats or numpy scalars: `evaluate`
turns each sample into a float): non-negative values, one of them positive at an index `j ≤ S`:
the sliding window is odd, symmetric, sums to 1 and is non-negative. -/
theorem user_kernel_window (tbl : List α) (support : α) (S : Nat) (hs : ¬ support < 1) (hS : (S : α) ≤ support)
    (hnn : ∀ y ∈ tbl, 0 ≤ y) (j : Nat) (hj : j ≤ S) (y : α) (hy : tbl[j]? = some y) (hpos : 0 < y) :
    ∃ w, slidingWindow (tableF tbl) support S = .ok w ∧ GoodWindow w S := by
  apply window_of_nonneg_kernel (tableF tbl) support S hs hS (tableF_even tbl)
    (fun i _ => tableF_nonneg tbl _ hnn) (S - j) (by omega)
  rw [tableF_sample, show ((S : Int) - ((S - j : Nat) : Int)).natAbs = j by omega, hy]
  exact hpos

/-- … and a table whose values at the indices `0..S` are all 0 makes `toSlidingWindow` fail. -/
theorem user_kernel_zero_fails (tbl : List α) (support : α) (S : Nat) (hs : ¬ support < 1)
    (hz : ∀ j, j ≤ S → (tbl[j]?).getD 0 = 0) :
    slidingWindow (tableF tbl) support S = .error .zeroDiv := by
  apply window_zero_sum_fails _ _ _ hs
  apply List.sum_eq_zero
  intro x hx
  unfold rawWindow at hx
  rw [List.mem_map] at hx
  obtain ⟨i, hi, rfl⟩ := hx
  have hi := List.mem_range.mp hi
  unfold evaluate
  rw [tableF_sample, hz _ (by omega), zero_mul]

/-- **Every built-in kernel whose function is written out in `kernel.py`**, any positive size with a
support of at least 1 (the boundary sizes included: `UniformKernel(0.5)`, `TriangularKernel(2/3)`, …):
the sliding window is odd, symmetric, sums to 1 and is non-negative. -/
theorem builtin_kernel_windows (size : α) (hsize : 0 < size) (S : Nat) :
    (¬ uniformSupport size < 1 → ∃ w, slidingWindow (uniformF size) (uniformSupport size) S = .ok w ∧ GoodWindow w S) ∧
    (¬ triangularSupport size < 1 → ∃ w, slidingWindow (triangularF size) (triangularSupport size) S = .ok w ∧ GoodWindow w S) ∧
    (¬ epanechnikovSupport size < 1 → ∃ w, slidingWindow (epanechnikovF size) (epanechnikovSupport size) S = .ok w ∧ GoodWindow w S) := by
  obtain ⟨u1, u2, u3, t1, t2, t3, e1, e2, e3⟩ := builtin_kernels size hsize
  exact ⟨fun hs => goodWindow_of_even_nonneg _ _ S hs u1 u2 u3, fun hs => goodWindow_of_even_nonneg _ _ S hs t1 t2 t3,
    fun hs => goodWindow_of_even_nonneg _ _ S hs e1 e2 e3⟩

/-- **Zero-weight lists: what the property demands and what the method does.** An odd list of
non-negative weights whose sum is not 0, on a signal at least as long as the half window, every window
holding at least one valid sample. The call succeeds, the list is left normalised, the boundary values
are copied, and at a filtered index `i`:
* if the valid weights of the window have a positive sum, the output is the renormalised weighted mean;
* if they sum to 0 — then every weight of the window is 0, so no weighted mean exists (any `m` satisfies
  `m·Σw = Σw·x`) — the output is NaN (`np.float64(0.0)/np.float64(0.0)`), never a number. -/
theorem list_zero_weights (v : List (Option α)) (k : List α) (hodd : k.length % 2 = 1)
    (hnn : ∀ w ∈ k, 0 ≤ w) (hs : k.sum ≠ 0) (hlen : k.length / 2 ≤ v.length)
    (hsample : ∀ i, i < v.length → window v k (k.length / 2) i ≠ []) :
    ∃ out, execute v (.list k) = .ok (some (k.map (· / k.sum)), out) ∧ out.length = v.length ∧
      ∀ i, i < v.length →
        ((i < k.length / 2 ∨ v.length - k.length / 2 ≤ i) → out[i]? = v[i]?) ∧
        (Filtered v k false i → 0 < wtot (window v k (k.length / 2) i) →
          out[i]? = some (some (wmean (window v k (k.length / 2) i)))) ∧
        (Filtered v k false i → wtot (window v k (k.length / 2) i) = 0 →
          out[i]? = some none ∧ ∀ p ∈ window v k (k.length / 2) i, p.1 = 0) := by
  refine ⟨outSignal v k false, ?_, outSignal_length v k false, ?_⟩
  · rw [execute_list_partial v k hodd hsample hlen hs, normalise_eq]
  · intro i hi
    have hnc : Filtered v k false i → ¬ (false = false ∧ (i < k.length / 2 ∨ v.length - k.length / 2 ≤ i)) :=
      fun hf => not_copied_iff.mpr (hf.imp_right fun h => ⟨h.1, by omega⟩)
    rw [outSignal_get v k false i hi]
    refine ⟨?_, ?_, ?_⟩
    · intro hb
      rw [if_pos ⟨rfl, hb⟩, List.getElem?_eq_getElem hi]
      rfl
    · intro hf hpos
      rw [if_neg (hnc hf), if_neg (ne_of_gt hpos)]
    · intro hf h0
      rw [if_neg (hnc hf), if_pos h0]
      exact ⟨rfl, weights_zero_of_wtot_zero _ (fun p hp => hnn _ (window_weight_mem hp)) h0⟩

/-- … and when some window holds no valid sample at all (`temp[i]` and `norm` are still the ints 0) the
call fails with a division by zero, as it does for a Kernel object on any zero norm (`zero_norm_fails`). -/
theorem list_no_sample_fails (v : List (Option α)) (k : List α) (hodd : k.length % 2 = 1)
    (i : Nat) (hi : i < v.length) (hempty : window v k (k.length / 2) i = []) :
    execute v (.list k) = .error .zeroDiv := by
  unfold execute prepare
  have hnil : window v (normalise k) ((normalise k).length / 2) i = [] := by
    rw [normalise_length]; exact (window_normalise_eq_nil v k i).mpr hempty
  have h := filterWindowG_zeroDiv v (normalise k) false true (by rw [normalise_length]; exact hodd) i hi
    (by rw [hnil, wtot_nil]) (Or.inr hnil)
  simp only [h]

/-- **T1 for `track.operate(Operator.FILTER, af_in, kernel, af_out)`** on a track with at least one
observation, an output name that is not reserved, an existing input feature in the domain: the call
succeeds, returns the signal of renormalised weighted means, stores it under `af_out` (created if
needed) and touches no other feature or coordinate. -/
theorem operate_is_mean (t : Sigs α) (afIn afOut : String) (kern : KArg α) (w : List α) (b : Bool)
    (hp : Prepared kern w b) (v : List (Option α)) (hres : reservedName afOut = false) (hsize : trackSize t ≠ 0)
    (hv : getSig t afIn = some v) (hin : InDomain v w b) :
    ∃ k' t', operate t afIn (.arg kern) afOut = .ok (.arg (nextKernel kern k'), meanSignal v w b, t') ∧
      getSig t' afOut = some (meanSignal v w b) ∧ ∀ nm, nm ≠ afOut → getSig t' nm = getSig t nm := by
  obtain ⟨_, k', hex, _⟩ := execute_is_mean v kern w b hp hin
  exact ⟨k', _, by rw [operate_arg_eq t afIn afOut kern v hres hsize (getSig_createAF_of_some t afOut afIn v hv), hex], getSig_setSig_same _ _ _,
    fun nm hne => getSig_setSig_other _ _ _ _ hne⟩

/-- **A kernel given as the name of a feature** (or coordinate) whose values contain no NaN is the list
of these values: same output, same track; the name itself is of course unchanged (the weights are
a fresh list, normalised without touching the feature). With as many weights as observations the call
is in the domain of T1 when that number is odd. -/
theorem feature_kernel_is_list (t : Sigs α) (afIn afOut name : String) (ws : List (Option α))
    (hk : getSig t name = some ws) (hnan : ws.any (·.isNone) = false) :
    operate t afIn (.feat name) afOut =
      match operate t afIn (.arg (.list (ws.filterMap id))) afOut with
      | .ok (_, out, t') => .ok (.feat name, out, t')
      | .error e => .error e := by
  unfold operate resolve
  simp only [hk, hnan, Bool.false_eq_true, if_false]
  rcases prepare (KArg.list (ws.filterMap id)) with e | ⟨k0, w, b, np⟩
  · rfl
  · simp only
    cases (w.length % 2 == 0) <;> cases reservedName afOut <;> cases (trackSize t == 0) <;> try rfl
    rcases getSig (createAF t afOut) afIn with _ | v
    · rfl
    · simp only
      rcases filterWindowG v w b np with e | out <;> rfl

/-- **Failures before the filtering loops**, in the order of the Python: a reserved output name
(`x`, `y`, `z`, `t`, `timestamp`, `idx`) and then a track without observation are refused by
`createAnalyticalFeature` — after the kernel has been prepared and found odd. -/
theorem operate_refusals (t : Sigs α) (afIn afOut : String) (k : List α) (hodd : k.length % 2 = 1) :
    (reservedName afOut = true → operate t afIn (.arg (.list k)) afOut = .error .feature) ∧
    (reservedName afOut = false → trackSize t = 0 → operate t afIn (.arg (.list k)) afOut = .error .emptyTrack) := by
  have h1 : (k.length % 2 == 0) = false := by simp [hodd]
  constructor
  · intro hr
    unfold operate resolve prepare
    simp [normalise_length, h1, hr]
  · intro hr h0
    unfold operate resolve prepare
    simp [normalise_length, h1, hr, h0]

/-- the in-place list form on feature names runs the loop of `filter_seq` -/
theorem operatePairs_inplace (dims : List String) (hxyz : ∀ d ∈ dims, ¬ (d = "x" ∨ d = "y" ∨ d = "z")) :
    ∀ (kern : KSrc α) (t : Sigs α), (operatePairs (dims.zip dims) kern t).map (·.2) = seqLoop dims kern t := by
  induction dims with
  | nil => intro kern t; rw [List.zip_nil_left, operatePairs, seqLoop]; rfl
  | cons af rest ih =>
    intro kern t
    have h := hxyz af List.mem_cons_self
    have hc : ¬ ((af == "x") = true ∨ (af == "y") = true ∨ (af == "z") = true) := by simpa using h
    rw [List.zip_cons_cons, operatePairs, seqLoop, if_neg hc]
    rcases operate t af kern af with e | ⟨k', out, t'⟩
    · rfl
    · exact ih (fun d hd => hxyz d (List.mem_cons_of_mem _ hd)) k' t'

/-- **Output name omitted** (`track.operate(Operator.FILTER, af, kernel)`): `arg3 = arg1`, the feature is
filtered in place — it becomes its own mean signal, which is also returned; nothing else changes. The same for a
list of names with `arg3` omitted or equal to `arg1`; lists of different lengths are refused. -/
theorem operate_output_omitted (t : Sigs α) (afIn : String) (kern : KArg α) (w : List α) (b : Bool)
    (hp : Prepared kern w b) (v : List (Option α)) (hres : reservedName afIn = false) (hsize : trackSize t ≠ 0)
    (hv : getSig t afIn = some v) (hin : InDomain v w b) :
    operateArgs t (.arg kern) (.one afIn none) = operateArgs t (.arg kern) (.one afIn (some afIn)) ∧
    ∃ k' t', operateArgs t (.arg kern) (.one afIn none) = .ok (.arg (nextKernel kern k'), some (meanSignal v w b), t') ∧
      getSig t' afIn = some (meanSignal v w b) ∧ ∀ nm, nm ≠ afIn → getSig t' nm = getSig t nm := by
  refine ⟨rfl, ?_⟩
  obtain ⟨k', t', h1, h2, h3⟩ := operate_is_mean t afIn afIn kern w b hp v hres hsize hv hin
  refine ⟨k', t', ?_, h2, h3⟩
  unfold operateArgs
  simp only [Option.getD_none, h1]

/-- **Lists of names** (`track.operate(Operator.FILTER, [a, c, …], kernel)`, `arg3` omitted or the same list):
distinct features (not coordinates, whose names cannot be written as features; not the virtual `t`, `timestamp`,
`idx`) of a non-empty track, each in the domain: the call succeeds, returns nothing, every listed feature becomes
its own mean signal — one window for all of them although the weight list is normalised in place again at every
turn — and no other signal changes. Lists of different lengths are refused before anything is computed. -/
theorem operate_list_is_mean (t : Sigs α) (kern : KArg α) (w : List α) (b : Bool) (dims : List String)
    (hp : Prepared kern w b) (hnd : dims.Nodup) (htemp : "temp" ∉ dims)
    (hres : ∀ d ∈ dims, d ≠ "t" ∧ d ≠ "timestamp" ∧ d ≠ "idx")
    (hxyz : ∀ d ∈ dims, ¬ (d = "x" ∨ d = "y" ∨ d = "z")) (hsize : trackSize t ≠ 0)
    (hall : ∀ d ∈ dims, ∃ v, getSig t d = some v ∧ InDomain v w b) :
    (∃ k' t', operateArgs t (.arg kern) (.many dims none) = .ok (k', none, t') ∧
      operateArgs t (.arg kern) (.many dims (some dims)) = .ok (k', none, t') ∧
      (∀ d ∈ dims, ∃ v, getSig t d = some v ∧ getSig t' d = some (meanSignal v w b)) ∧
      (∀ nm, nm ∉ dims → nm ≠ "temp" → getSig t' nm = getSig t nm)) ∧
    (∀ (ks : KSrc α) (outs : List String), dims.length ≠ outs.length →
      operateArgs t ks (.many dims (some outs)) = .error .operands) := by
  constructor
  · obtain ⟨t', h1, h2, h3⟩ := seqLoop_is_mean t kern w b dims hp hnd htemp hres hsize hall
    have hpairs := operatePairs_inplace dims hxyz (.arg kern) t
    rw [h1] at hpairs
    rcases hop : operatePairs (dims.zip dims) (.arg kern) t with e | ⟨k', t''⟩
    · rw [hop] at hpairs; cases hpairs
    · rw [hop] at hpairs
      have e : t'' = t' := by
        have : Except.ok (ε := Err) t'' = Except.ok t' := hpairs
        cases this; rfl
      subst e
      refine ⟨k', t'', ?_, ?_, h2, h3⟩
      · unfold operateArgs
        simp [hop]
      · unfold operateArgs
        simp [hop]
  · intro ks outs hne
    unfold operateArgs
    simp [hne]

/-- **A float given as kernel** (the comment above `filter_seq` documents "a float number giving the half width of
a rectangular window"): it is neither an `int`, a list nor a Kernel object; `Filter.execute` raises `TypeError` at
`len(kernel)` during the kernel preparation — before the track, the names or the output feature are looked at —
so `filter_seq` fails at the first dimension (and returns the track untouched when `dim` is empty). Never a value. -/
theorem number_kernel_refused (t : Sigs α) (af : String) (rest : List String) :
    filterSeq t .num (af :: rest) = .error .kernelType ∧ filterSeq t .num [] = .ok t ∧
    ∀ afIn afOut, operate t afIn .num afOut = .error .kernelType := by
  have hop : ∀ afIn afOut, operate t afIn (KSrc.num : KSrc α) afOut = .error .kernelType := by
    intro afIn afOut; unfold operate resolve; rfl
  refine ⟨?_, by unfold filterSeq; simp only; rw [seqLoop], hop⟩
  unfold filterSeq
  simp only
  rw [seqLoop]
  split <;> simp [hop]

/-- **Dispatch on `dim`**: omitted, it is `FILTER_XYZ` = x, y, z; a module constant `FILTER_…` stands for
the coordinates its name says; a list is taken as it is; a single `str` is walked character by
character (`"xy"` filters x and y; a feature name of several characters is *not* one dimension).
No call changes the module-level state. -/
theorem dim_dispatch (g : Globals) (t : Sigs α) (kernel : SeqArg α) :
    filterSeqCall Globals.initial t kernel .default = some (filterSeq t kernel ["x", "y", "z"], Globals.initial) ∧
    (∀ n l, (n, l) ∈ Globals.initial.filterConsts →
      filterSeqCall Globals.initial t kernel (.const n) = some (filterSeq t kernel l, Globals.initial)) ∧
    (∀ l, filterSeqCall g t kernel (.list l) = some (filterSeq t kernel l, g)) ∧
    (∀ s, filterSeqCall g t kernel (.str s) = some (filterSeq t kernel (s.toList.map String.singleton), g)) ∧
    ((Globals.initial.filterConsts.map (·.2)) =
      [["x"], ["y"], ["z"], ["x", "y"], ["x", "z"], ["y", "z"], ["x", "y", "z"]]) := by
  refine ⟨rfl, ?_, fun _ => rfl, fun _ => rfl, rfl⟩
  intro n l h
  -- the names of the seven constants are distinct: looking one up finds its own entry
  have hfind : Globals.initial.filterConsts.find? (·.1 == n) = some (n, l) :=
    (by decide : ∀ p ∈ Globals.initial.filterConsts, Globals.initial.filterConsts.find? (·.1 == p.1) = some p) (n, l) h
  have hd : dimNames Globals.initial (.const n) = some l := by
    show Option.map (·.2) (Globals.initial.filterConsts.find? (·.1 == n)) = some l
    rw [hfind]; rfl
  unfold filterSeqCall
  rw [hd]

/-- **Sessions**: calls made one after the other in one process (each on its own track, default or
explicit `dim`, any kernel, in or out of the domain, failing or not) give what each call gives alone
in a fresh process, and leave the module-level state (`FILTER_X … FILTER_XYZ`, the class attribute
`Kernel.__filter_boundary`) as it was. -/
theorem session_independent (g : Globals) (cs : List (Call α)) (h : ∀ c ∈ cs, (dimNames g c.dim).isSome) :
    session g cs = cs.map (fun c => filterSeqCall g c.t c.kernel c.dim) ∧
    ∀ r ∈ session g cs, ∃ x, r = some (x, g) := by
  induction cs with
  | nil => exact ⟨rfl, by simp [session]⟩
  | cons c cs ih =>
    obtain ⟨ih1, ih2⟩ := ih (fun c' hc' => h c' (List.mem_cons_of_mem _ hc'))
    have hc := h c List.mem_cons_self
    obtain ⟨names, hn⟩ := Option.isSome_iff_exists.mp hc
    have e : filterSeqCall g c.t c.kernel c.dim = some (filterSeq c.t c.kernel names, g) := by
      unfold filterSeqCall; rw [hn]
    constructor
    · rw [session, e, List.map_cons, e]
      simp only
      rw [ih1]
    · intro r hr
      rw [session, e] at hr
      simp only at hr
      rcases List.mem_cons.mp hr with rfl | hr
      · exact ⟨_, rfl⟩
      · exact ih2 r hr

theorem smooth_initial (t : Sigs α) (f : α → α) (support : α) (S : Nat) :
    smooth Globals.initial t f support S =
      some (seqLoop ["x", "y", "z"] (.arg (.obj false false f support S)) t, Globals.initial) :=
  (dim_dispatch Globals.initial t _).1

/-- **`Track.smooth(width)`** is `filter_seq(self, GaussianKernel(width))` with the default `dim`: on a
track with at least one observation whose x, y, z are in the domain of the Gaussian window `w`
(boundaries not filtered: `setFilterBoundary` is never called on that kernel), each coordinate becomes
the signal of renormalised weighted means of its former values, the features are untouched and the
module-level state is unchanged. -/
theorem smooth_is_mean (t : Sigs α) (f : α → α) (support : α) (S : Nat) (w : List α)
    (hw : slidingWindow f support S = .ok w) (hsize : trackSize t ≠ 0)
    (hall : ∀ d ∈ ["x", "y", "z"], ∃ v, getSig t d = some v ∧ InDomain v w false) :
    ∃ t', smooth Globals.initial t f support S = some (.ok t', Globals.initial) ∧
      (∀ d ∈ ["x", "y", "z"], ∃ v, getSig t d = some v ∧ getSig t' d = some (meanSignal v w false)) ∧
      (∀ nm, nm ∉ ["x", "y", "z"] → nm ≠ "temp" → getSig t' nm = getSig t nm) := by
  obtain ⟨t', h1, h2, h3⟩ := seqLoop_is_mean t (.obj false false f support S) w false ["x", "y", "z"]
    ⟨hw, rfl⟩ (by decide) (by decide)
    (by intro d hd; simp only [List.mem_cons, List.not_mem_nil, or_false] at hd; rcases hd with rfl | rfl | rfl <;> decide)
    hsize hall
  exact ⟨t', by rw [smooth_initial, h1], h2, h3⟩

/-- the domain does not depend on the scale of a weight list: after `kernel[i] /= sum` it is still in it -/
theorem inDomain_normalise (v : List (Option α)) (k : List α) (h : InDomain v k false) (hs : k.sum ≠ 0) :
    InDomain v (normalise k) false := by
  have hsum : 0 < k.sum := lt_of_le_of_ne (sum_nonneg' k h.nonneg) (Ne.symm hs)
  refine ⟨by rw [normalise_length]; exact h.odd, ?_, ?_, by intro hb; rw [normalise_length]; exact h.long hb⟩
  · rw [normalise_eq]
    exact map_div_nonneg k _ h.nonneg (le_of_lt hsum)
  · intro i hi
    rw [normalise_length, wtot_window_normalise]
    exact div_pos (h.norm_pos i hi) hsum

/-- **`filter_seq` called twice on the same track with the same kernel object and the same names** (the second
call finds the scratch feature `temp` in the track and a weight list that the first call has normalised in place,
once per dimension): when every listed signal and its mean signal are in the domain, both calls succeed, the first
gives the mean signals and the second the mean signals of the mean signals under the *same* window; every other
signal except `temp` is untouched. -/
theorem filterSeq_twice (g : Globals) (t : Sigs α) (kern : KArg α) (w : List α) (b : Bool) (dims : List String)
    (hp : Prepared kern w b) (hone : ∀ a, kern ≠ .list [a]) (hne : dims ≠ [])
    (hnd : dims.Nodup) (htemp : "temp" ∉ dims)
    (hres : ∀ d ∈ dims, d ≠ "t" ∧ d ≠ "timestamp" ∧ d ≠ "idx") (hsize : trackSize t ≠ 0)
    (hall : ∀ d ∈ dims, ∃ v, getSig t d = some v ∧ InDomain v w b ∧ InDomain (meanSignal v w b) w b) :
    ∃ t1 t2, filterSeqRepeat g t (.k kern) (.list dims) 2 = [some (.ok t1, g), some (.ok t2, g)] ∧
      (∀ d ∈ dims, ∃ v, getSig t d = some v ∧ getSig t1 d = some (meanSignal v w b) ∧
        getSig t2 d = some (meanSignal (meanSignal v w b) w b)) ∧
      (∀ nm, nm ∉ dims → nm ≠ "temp" → getSig t2 nm = getSig t nm) := by
  obtain ⟨t1, h1, h2, h3⟩ := filterSeq_is_mean t kern w b dims hp hone hnd htemp hres hsize
    (fun d hd => by obtain ⟨v, hv, hin, _⟩ := hall d hd; exact ⟨v, hv, hin⟩)
  have hsize1 : trackSize t1 ≠ 0 := by
    have e : trackSize t1 = trackSize t := by
      unfold trackSize
      by_cases hx : "x" ∈ dims
      · obtain ⟨v, hv, hv'⟩ := h2 "x" hx
        rw [hv, hv']; exact meanSignal_length v w b
      · rw [h3 "x" hx (by decide)]
    rw [e]; exact hsize
  obtain ⟨kern2, hk2, hm2, hone2⟩ := meanKernel_seqKernelAfter hp.meanKernel hone dims hne
  obtain ⟨t2, g1, g2, g3⟩ := seqLoop_mean w b dims kern2 t1 hm2 hnd htemp hres hsize1 (fun d hd => by
    obtain ⟨v, hv, _, hin2⟩ := hall d hd
    obtain ⟨v0, hv0, hv0'⟩ := h2 d hd
    rw [hv] at hv0
    cases hv0
    exact ⟨_, hv0', hin2.odd, hin2.norm_ne, hin2.long⟩)
  rw [← filterSeq_k_eq t1 kern2 dims hone2] at g1
  refine ⟨t1, t2, by simp only [filterSeqRepeat, dimNames, h1, hk2, g1], ?_, ?_⟩
  · intro d hd
    obtain ⟨v, hv, hv'⟩ := h2 d hd
    obtain ⟨v1, hv1, hv1'⟩ := g2 d hd
    rw [hv'] at hv1
    cases hv1
    exact ⟨v, hv, hv', hv1'⟩
  · intro nm hnm hnt
    rw [g3 nm hnm hnt, h3 nm hnm hnt]

/-! ## Tracks shorter than the window (`track.size() < N = 2D+1`)

The statement defines every output whatever the length of the track: a window that overhangs both ends at
once is renormalised over the samples that are inside the track; and when boundaries are not filtered every
index of such a track lies in the first or in the last half window. What `Filter.execute` does:
* boundaries filtered: the renormalised mean at every index (`short_track_filtered`) — T1 has no length
  hypothesis for `boundary = true`;
* boundaries copied, `D ≤ size < N`: the input is returned unchanged (`short_track_unchanged`);
* boundaries copied, `size < D`: the boundary loops read `input[i]` for `i in range(D)` and raise `IndexError`
  (`short_track_index_error`) — after the filtering loop, so a zero norm still comes first (`zero_norm_fails`). -/

/-- **Domain, any length** non-negative weights with a positive centre weight (every window of a Kernel
object satisfying `window_nonneg`, `[0,1,0]`, any positive list) and a signal without NaN: every window holds
its own centre sample, so no norm is zero — whatever the length of the signal when boundaries are filtered,
and from the half window on when they are copied. -/
theorem inDomain_of_centre_weight (v : List (Option α)) (k : List α) (boundary : Bool)
    (hodd : k.length % 2 = 1) (hnn : ∀ w ∈ k, 0 ≤ w) (c : α) (hc : k[k.length / 2]? = some c) (hpos : 0 < c)
    (hv : ∀ i, i < v.length → ∃ x, v[i]? = some (some x))
    (hlen : boundary = false → k.length / 2 ≤ v.length) : InDomain v k boundary where
  odd := hodd
  nonneg := hnn
  norm_pos := fun i hi => by
    obtain ⟨x, hx⟩ := hv i hi
    exact wtot_pos_of_mem _ (fun p hp => hnn _ (window_weight_mem hp)) (c, x)
      (centre_mem_window v k i x c hx hc) hpos
  long := hlen

/-- **Short tracks, boundaries filtered** (`setFilterBoundary(True)`), any length — in particular a track
shorter than the window: the call succeeds and *every* output is the renormalised weighted mean of its window,
lying between two samples of that window; and on a track of at most `D+1` observations every window holds every
valid sample of the track (`v[m]` with the weight `k[i+D-m]`): each output is a weighted mean of the whole track. -/
theorem short_track_filtered (v : List (Option α)) (k : List α) (h : InDomain v k true) :
    ∃ out, filterWindow v k true = .ok out ∧ out.length = v.length ∧
      ∀ i, i < v.length →
        out[i]? = some (some (wmean (window v k (k.length / 2) i))) ∧
        (∃ p ∈ window v k (k.length / 2) i, p.2 ≤ wmean (window v k (k.length / 2) i)) ∧
        (∃ p ∈ window v k (k.length / 2) i, wmean (window v k (k.length / 2) i) ≤ p.2) ∧
        (v.length ≤ k.length / 2 + 1 → ∀ (m : Nat) (x : α), v[m]? = some (some x) →
          ∃ w, k[i + k.length / 2 - m]? = some w ∧ (w, x) ∈ window v k (k.length / 2) i) := by
  refine ⟨_, h.run, meanSignal_length v k true, fun i hi =>
    ⟨h.get_filtered h.run hi (Or.inl rfl), (h.between hi).1, (h.between hi).2, fun hshort m x hx => ?_⟩⟩
  have hmlt : m < v.length := (List.getElem?_eq_some_iff.mp hx).1
  exact mem_window_of_sample v k i m x h.odd (by omega) (by omega) hx

/-- **Short tracks, boundaries copied, at least the half window** (`D ≤ size < N`; every weight list, every
kernel on which `setFilterBoundary(True)` was not called): every index lies in the first or last half window
and the input is returned unchanged, NaN included. -/
theorem short_track_unchanged (v : List (Option α)) (k : List α) (h : InDomain v k false)
    (hshort : v.length < k.length) : filterWindow v k false = .ok v := by
  rw [h.run, meanSignal_short v k (by have := h.odd; omega)]

/-- **Short tracks, boundaries copied, shorter than the half window** (`size < D`): odd window, no zero norm —
the filtering loop runs, then the boundary copy raises `IndexError`: no value is returned, in particular never
a wrong one. (Outside the property's quantifier, which starts at signals as long as the window; the statement's
"first and last half-window values are returned unchanged" would ask for the input.) -/
theorem short_track_index_error (v : List (Option α)) (k : List α) (hodd : k.length % 2 = 1)
    (hden : ∀ i, i < v.length → wtot (window v k (k.length / 2) i) ≠ 0)
    (hlen : v.length < k.length / 2) : filterWindow v k false = .error .index := by
  rw [filterWindow, filterWindowG_mean v k false false hodd hden, if_pos ⟨rfl, hlen⟩]

/-- **`Filter.execute` as a whole on a short track with copied boundaries** (weight list, Kernel object or
Dirac kernel prepared into the window `w`): `D ≤ size < N` returns the input unchanged (a list is still left
normalised); `size < D` raises `IndexError`. -/
theorem execute_short_track (v : List (Option α)) (kern : KArg α) (w : List α)
    (hp : Prepared kern w false) (hodd : w.length % 2 = 1) (hnn : ∀ x ∈ w, 0 ≤ x)
    (hpos : ∀ i, i < v.length → 0 < wtot (window v w (w.length / 2) i)) (hshort : v.length < w.length) :
    (w.length / 2 ≤ v.length → ∃ k', execute v kern = .ok (k', v)) ∧
    (v.length < w.length / 2 → execute v kern = .error .index) := by
  constructor
  · intro hlen
    have hin : InDomain v w false := ⟨hodd, hnn, hpos, fun _ => hlen⟩
    obtain ⟨_, k', hex, _⟩ := execute_is_mean v kern w false hp hin
    rw [meanSignal_short v w (by omega)] at hex
    exact ⟨k', hex⟩
  · intro hlen
    obtain ⟨k', hex, _⟩ := execute_meanKernel v kern w false hp.meanKernel hodd (fun i hi => ne_of_gt (hpos i hi))
    rw [hex, if_pos ⟨rfl, hlen⟩]

/-- **`Track.smooth(width)` on a track shorter than the Gaussian window** (boundaries are never filtered by
`smooth`) but with at least `D = int(3·width)` observations: the coordinates — and everything else except the
scratch feature `temp` — are returned unchanged. -/
theorem smooth_short_track (t : Sigs α) (f : α → α) (support : α) (S : Nat) (w : List α)
    (hw : slidingWindow f support S = .ok w) (hsize : trackSize t ≠ 0)
    (hall : ∀ d ∈ ["x", "y", "z"], ∃ v, getSig t d = some v ∧ InDomain v w false ∧ v.length < w.length) :
    ∃ t', smooth Globals.initial t f support S = some (.ok t', Globals.initial) ∧
      ∀ nm, nm ≠ "temp" → getSig t' nm = getSig t nm := by
  obtain ⟨t', h1, h2, h3⟩ := smooth_is_mean t f support S w hw hsize
    (fun d hd => by obtain ⟨v, hv, hin, _⟩ := hall d hd; exact ⟨v, hv, hin⟩)
  refine ⟨t', h1, fun nm hnm => ?_⟩
  by_cases hmem : nm ∈ ["x", "y", "z"]
  · obtain ⟨v, hv, hv'⟩ := h2 nm hmem
    obtain ⟨v0, hv0, hin, hshort⟩ := hall nm hmem
    rw [hv] at hv0
    cases hv0
    rw [hv', hv, meanSignal_short v w (by have := hin.odd; omega)]
  · exact h3 nm hmem hnm

/-- … and with fewer than `D` observations (`Track.smooth()` on a 2-point track: `D = 3`) the call raises
`IndexError` at the first coordinate, the module-level state being untouched. -/
theorem smooth_too_short_fails (t : Sigs α) (f : α → α) (support : α) (S : Nat) (w : List α)
    (hw : slidingWindow f support S = .ok w) (hodd : w.length % 2 = 1)
    (v : List (Option α)) (hv : getSig t "x" = some v) (hne : v.length ≠ 0)
    (hden : ∀ i, i < v.length → wtot (window v w (w.length / 2) i) ≠ 0) (hlen : v.length < w.length / 2) :
    smooth Globals.initial t f support S = some (.error .index, Globals.initial) := by
  have hsize : trackSize t ≠ 0 := by rw [trackSize_of_getSig t v hv]; exact hne
  obtain ⟨k', hex, _⟩ := execute_meanKernel v (.obj false false f support S) w false ⟨hw, rfl⟩ hodd hden
  rw [smooth_initial, seqLoop_step _ "x" _ t v hv hsize (by decide), hex, if_pos ⟨rfl, hlen⟩]

/-- **`CubicKernel` and `SphericKernel`** (`math.pow` with the exponents 2, 3, 5, 7 is a product): their kernel
functions are even, equal to 1 at 0, and non-negative — they are `(1-u)⁴(3u³+12u²+16u+4)/4` and `(1-u)²(2+u)/2`
with `u = |x|/sigma ≥ 0`. -/
theorem pow_kernels (sigma : α) (h : 0 < sigma) :
    (∀ y, cubicF sigma (-y) = cubicF sigma y) ∧ (∀ x, 0 ≤ cubicF sigma x) ∧ cubicF sigma 0 = 1 ∧
    (∀ y, sphericF sigma (-y) = sphericF sigma y) ∧ (∀ x, 0 ≤ sphericF sigma x) ∧ sphericF sigma 0 = 1 :=
  ⟨cubicF_even sigma, fun x => cubicF_nonneg sigma x h, cubicF_zero sigma,
   sphericF_even sigma, fun x => sphericF_nonneg sigma x h, sphericF_zero sigma⟩

/-- … hence, for any `sigma ≥ 1` (their support), their sliding windows are odd, symmetric, non-negative and sum to 1. -/
theorem pow_kernel_windows (sigma : α) (S : Nat) (hs : ¬ sigma < 1) :
    (∃ w, slidingWindow (cubicF sigma) (cubicSupport sigma) S = .ok w ∧ GoodWindow w S) ∧
    (∃ w, slidingWindow (sphericF sigma) (sphericSupport sigma) S = .ok w ∧ GoodWindow w S) := by
  have hpos : 0 < sigma := lt_of_lt_of_le one_pos (le_of_not_gt hs)
  obtain ⟨c1, c2, c3, s1, s2, s3⟩ := pow_kernels sigma hpos
  exact ⟨goodWindow_of_even_nonneg _ _ S hs c1 c2 (by rw [c3]; exact one_pos),
    goodWindow_of_even_nonneg _ _ S hs s1 s2 (by rw [s3]; exact one_pos)⟩

/-- **`GaussianKernel` and `ExponentialKernel`**, `math.exp` being any function with positive values and
`math.sqrt(2·math.pi)` any positive constant, for any `sigma` with support `3·sigma ≥ 1`: the kernel functions are
even and positive, the sliding windows odd, symmetric, non-negative, summing to 1. -/
theorem exp_kernel_windows (expF : α → α) (hexp : ∀ y, 0 < expF y) (c : α) (hc : 0 < c) (sigma : α) (S : Nat)
    (hs : ¬ gaussianSupport sigma < 1) :
    (∃ w, slidingWindow (gaussianF expF c sigma) (gaussianSupport sigma) S = .ok w ∧ GoodWindow w S) ∧
    (∃ w, slidingWindow (exponentialF expF sigma) (exponentialSupport sigma) S = .ok w ∧ GoodWindow w S) := by
  have hpos := pos_of_gaussianSupport sigma hs
  exact ⟨goodWindow_of_even_nonneg _ _ S hs (gaussianF_even expF c sigma)
      (fun x => le_of_lt (gaussianF_pos expF hexp c sigma x hc hpos)) (gaussianF_pos expF hexp c sigma 0 hc hpos),
    goodWindow_of_even_nonneg _ _ S hs (exponentialF_even expF sigma)
      (fun x => le_of_lt (exponentialF_pos expF hexp sigma x hpos)) (exponentialF_pos expF hexp sigma 0 hpos)⟩

/-- **`Track.smooth(width)` with the Gaussian kernel function written out** (`math.exp` positive): on a track
whose coordinates hold no NaN and at least `D = int(3·width)` observations, the Gaussian window exists (odd,
symmetric, non-negative, sum 1), the call succeeds, every coordinate becomes the signal of renormalised
weighted means of its former values (boundaries copied), features are untouched. -/
theorem smooth_gaussian (expF : α → α) (hexp : ∀ y, 0 < expF y) (c : α) (hc : 0 < c) (width : α) (S : Nat)
    (hs : ¬ gaussianSupport width < 1) (t : Sigs α) (hsize : trackSize t ≠ 0)
    (hall : ∀ d ∈ ["x", "y", "z"], ∃ v, getSig t d = some v ∧ S ≤ v.length ∧ ∀ i, i < v.length → ∃ x, v[i]? = some (some x)) :
    ∃ w t', slidingWindow (gaussianF expF c width) (gaussianSupport width) S = .ok w ∧ GoodWindow w S ∧
      smooth Globals.initial t (gaussianF expF c width) (gaussianSupport width) S = some (.ok t', Globals.initial) ∧
      (∀ d ∈ ["x", "y", "z"], ∃ v, getSig t d = some v ∧ getSig t' d = some (meanSignal v w false)) ∧
      (∀ nm, nm ∉ ["x", "y", "z"] → nm ≠ "temp" → getSig t' nm = getSig t nm) := by
  have hpos := pos_of_gaussianSupport width hs
  obtain ⟨w, hw, hg, c0, hc0, hc0pos⟩ := window_of_even_nonneg_kernel (gaussianF expF c width) (gaussianSupport width) S hs
    (gaussianF_even expF c width) (fun x => le_of_lt (gaussianF_pos expF hexp c width x hc hpos)) (gaussianF_pos expF hexp c width 0 hc hpos)
  obtain ⟨t', h1, h2, h3⟩ := smooth_is_mean t _ _ S w hw hsize (fun d hd => by
    obtain ⟨v, hv, hlen, hnan⟩ := hall d hd
    refine ⟨v, hv, inDomain_of_centre_weight v w false hg.odd hg.nonneg c0 hc0 hc0pos hnan (fun _ => ?_)⟩
    have := hg.length
    omega)
  exact ⟨w, t', hw, hg, h1, h2, h3⟩

/-- outside the domain: an odd window one of whose norms is zero makes the method fail with a
division by zero (what `Filter.execute` does for a Kernel object; never a wrong value). -/
theorem zero_norm_fails (v : List (Option α)) (k : List α) (boundary : Bool) (hodd : k.length % 2 = 1)
    (i : Nat) (hi : i < v.length) (h0 : wtot (window v k (k.length / 2) i) = 0) :
    filterWindow v k boundary = .error .zeroDiv :=
  filterWindowG_zeroDiv v k boundary false hodd i hi h0 (Or.inl rfl)

/-- non-vacuity: an asymmetric positive weight list on a signal with an isolated NaN is in the domain … -/
example : InDomain (α := ℚ) [some 0, none, some 1, some 4] [1, 2, 5] false := by
  apply inDomain_of_positive_weights
  · decide
  · intro w hw; simp at hw; rcases hw with rfl | rfl | rfl <;> norm_num
  · decide
  · intro i hi
    have : i = 0 ∨ i = 1 ∨ i = 2 ∨ i = 3 := by simp at hi; omega
    rcases this with rfl | rfl | rfl | rfl
    · exact ⟨0, 0, by decide, by decide, rfl⟩
    · exact ⟨0, 0, by decide, by decide, rfl⟩
    · exact ⟨2, 1, by decide, by decide, rfl⟩
    · exact ⟨3, 4, by decide, by decide, rfl⟩

/-- … and the model computes on it what the Python computes (`track.operate(Operator.FILTER, …)` with
weights `[1,2,5]` on `[0, NaN, 1, 4]` gives `[0, 1/6, 2, 4]`: index 1 averages `v[2]` with weight
`k[0] = 1` and `v[0]` with weight `k[2] = 5`, the NaN is left out of the norm). -/
example : filterWindow (α := ℚ) [some 0, none, some 1, some 4] [1, 2, 5] false
    = .ok [some 0, some (1/6), some 2, some 4] := by decide +kernel

/-- the sliding window of `TriangularKernel(2)` -/
example : slidingWindow (triangularF (2 : ℚ)) (triangularSupport 2) 3 = .ok [0, 0, 1/4, 1/2, 1/4, 0, 0] := by decide +kernel

/-- `UniformKernel(1)` with filtered boundaries is `Prepared` with the window `[0,1/3,1/3,1/3,0]` -/
example : Prepared (α := ℚ) (.obj false true (uniformF 1) (uniformSupport 1) 2) [0, 1/3, 1/3, 1/3, 0] true := by
  exact ⟨by decide +kernel, rfl⟩

/-- a user-defined kernel whose function returns 0 at the edge of its support (`[1/2, 1/4, 0]` at
`|x| = 0, 1, 2`, support 2.5): the window `[0, 1/4, 1/2, 1/4, 0]` -/
example : slidingWindow (tableF [(1 : ℚ) / 2, 1 / 4, 0]) (5 / 2) 2 = .ok [0, 1/4, 1/2, 1/4, 0] := by decide +kernel

/-- the weight list `[0,1,0]` on `[1, NaN, 3]`: the window of index 1 holds two valid samples of weight 0 —
no weighted mean, the output is NaN; the call does not fail (numpy weights) -/
example : execute (α := ℚ) [some 1, none, some 3] (.list [0, 1, 0]) = .ok (some [0, 1, 0], [some 1, none, some 3]) := by decide +kernel

/-- a 3-point track under the 5-tap window of `UniformKernel(1)` with filtered boundaries: every window
overhangs both ends, each output is the mean renormalised over the samples inside the track -/
example : filterWindow (α := ℚ) [some 0, some 10, some 0] [0, 1/3, 1/3, 1/3, 0] true
    = .ok [some 5, some (10/3), some 5] := by decide +kernel

/-- … in the domain of `short_track_filtered` (positive centre weight, no NaN) -/
example : InDomain (α := ℚ) [some 0, some 10, some 0] [0, 1/3, 1/3, 1/3, 0] true := by
  apply inDomain_of_centre_weight _ _ _ (by decide) _ (1/3) rfl (by norm_num)
  · intro i hi
    have : i = 0 ∨ i = 1 ∨ i = 2 := by simp at hi; omega
    rcases this with rfl | rfl | rfl <;> exact ⟨_, rfl⟩
  · intro h; cases h
  · intro w hw; simp at hw; rcases hw with rfl | rfl | rfl <;> norm_num

/-- the same track with copied boundaries (`D = 2 ≤ 3 < 5`) is returned unchanged … -/
example : filterWindow (α := ℚ) [some 0, some 10, some 0] [0, 1/3, 1/3, 1/3, 0] false
    = .ok [some 0, some 10, some 0] := by decide +kernel

/-- … and a 1-point track (`1 < D = 2`) makes the boundary copy fail -/
example : filterWindow (α := ℚ) [some 7] [0, 1/3, 1/3, 1/3, 0] false = .error .index := by decide +kernel

/-- the sliding window of `SphericKernel(2)`: `f(±1) = 1 - (3/4 - 1/16) = 5/16`, `f(±2) = 0` -/
example : slidingWindow (sphericF (2 : ℚ)) (sphericSupport 2) 2 = .ok [0, 5/26, 8/13, 5/26, 0] := by decide +kernel

/-- the sliding window of `CubicKernel(2)`: `f(±1) = 1 - (7/4 - 35/32 + 7/64 - 3/512) = 123/512` -/
example : slidingWindow (cubicF (2 : ℚ)) (cubicSupport 2) 2 = .ok [0, 123/758, 256/379, 123/758, 0] := by decide +kernel

/-- `dim="xy"` is walked character by character -/
example : dimNames Globals.initial (.str "xy") = some ["x", "y"] := by decide

/-- **T1 for the algebraic form of the filter** `track.operate("out = in ! w")` (also written `"out = in .* w"`), and
`track.operate("in ! w")` without left-hand side (`out = none`), for two names `in`, `w` that are features or
coordinates of a non-empty track holding no temporary (`#…`) feature, `w` without NaN and with a non-zero sum, `in`
in the domain for the weights `w`: the call succeeds; with a left-hand side it returns nothing and `out` (a feature,
new or not, or a coordinate `x`, `y`, `z`) holds the signal of renormalised weighted means; without one that signal is
returned; every other signal of the track — the temporary `#0` / `#output` are gone — reads as before. -/
theorem algebraic_is_mean (t : Sigs α) (out : Option String) (afIn name : String) (ws v : List (Option α))
    (hk : getSig t name = some ws) (hnan : ws.any (·.isNone) = false) (hsum : (ws.filterMap id).sum ≠ 0)
    (hv : getSig t afIn = some v) (hsize : trackSize t ≠ 0) (hin : InDomain v (ws.filterMap id) false)
    (htmp : ∀ p ∈ t, isTemp p.1 = false) (hout : ∀ o, out = some o → isTemp o = false) :
    ∃ t', operateAlgebraic t out afIn name =
        .ok ((match out with | some _ => none | none => some (meanSignal v (ws.filterMap id) false)), t') ∧
      (∀ o, out = some o → getSig t' o = some (meanSignal v (ws.filterMap id) false)) ∧
      (∀ nm, (∀ o, out = some o → nm ≠ o) → getSig t' nm = getSig t nm) := by
  obtain ⟨k', t1, hop, hget, hoth⟩ := operate_is_mean t afIn "#0" (.list (ws.filterMap id)) (ws.filterMap id) false
    ⟨rfl, rfl, hsum⟩ v (by decide) hsize hv hin
  have hfeat := feature_kernel_is_list t afIn "#0" name ws hk hnan
  rw [hop] at hfeat
  simp only at hfeat
  have htempTrue : isTemp "#0" = true := by decide
  have hread : ∀ (lhs nm : String), (isTemp nm = false → nm ≠ lhs) →
      getSig ((assignAF t1 lhs "#0" (meanSignal v (ws.filterMap id) false)).filter (fun p => !(isTemp p.1))) nm = getSig t nm := by
    intro lhs nm hne
    rw [getSig_dropTemp]
    cases hT : isTemp nm with
    | true =>
      simp only [if_true]
      -- no name of the track is temporary
      exact (getSig_none_of_not_any t nm (List.any_eq_false.2 fun p hp e => by
        rw [← eq_of_beq e, htmp p hp] at hT; cases hT)).symm
    | false =>
      simp only [Bool.false_eq_true, if_false]
      have h0 : nm ≠ "#0" := by
        intro e; rw [e, htempTrue] at hT; cases hT
      rw [getSig_assignAF_other _ _ _ _ _ (hne hT) h0, hoth nm h0]
  cases out with
  | some o =>
    have ho : isTemp o = false := hout o rfl
    have ho0 : o ≠ "#0" := by
      intro e; rw [e, htempTrue] at ho; cases ho
    refine ⟨_, by unfold operateAlgebraic; rw [hfeat]; rfl, ?_, fun nm hnm => hread _ nm (fun _ => hnm o rfl)⟩
    intro o' ho'
    cases ho'
    rw [getSig_dropTemp, ho]
    simp only [Bool.false_eq_true, if_false]
    exact getSig_assignAF_same _ _ _ _ ho0
  | none =>
    refine ⟨_, ?_, (fun o ho => nomatch ho), fun nm _ => hread "#output" nm (fun hT e => ?_)⟩
    · unfold operateAlgebraic
      rw [hfeat]
      simp only [Option.getD_none]
      rw [getSig_assignAF_same _ _ _ _ (by decide)]
    · rw [e] at hT
      revert hT
      decide

/-- non-vacuity: `track.operate("b = a ! w")` on a three-point track with `a = [0, 10, 0]`, `w = [1, 2, 1]` … -/
example : operateAlgebraic (α := ℚ) [("x", [some 0, some 1, some 2]), ("a", [some 0, some 8, some 4]), ("w", [some 1, some 2, some 1])]
    (some "b") "a" "w"
    = .ok (none, [("x", [some 0, some 1, some 2]), ("a", [some 0, some 8, some 4]), ("w", [some 1, some 2, some 1]), ("b", [some 0, some 5, some 4])]) := by decide +kernel

section locality
variable {β : Type} [Add β] [Mul β] [Div β] [OfNat β 0] [BEq β]

/-- **Locality (`filter_local`)** For ANY scalar type with `+`, `*`, `/`, `0` and `==` — no law of arithmetic is
assumed, so this is also a statement about the IEEE doubles the Python computes with (`filter_local_float`), where
the theorems over an ordered field say nothing: two signals of the same length that agree at every index at distance
at most `D = N / 2` of `i` are given the same value at `i` by `Filter.execute` (when both calls succeed), bit for bit.
The samples outside the window of `i` — however large — play no part in `out[i]`. -/
theorem filter_local (v v' : List (Option β)) (k : List β) (boundary np : Bool) (i : Nat)
    (hlen : v.length = v'.length)
    (hnear : ∀ m, i ≤ m + k.length / 2 → m ≤ i + k.length / 2 → v[m]? = v'[m]?)
    (out out' : List (Option β))
    (ho : filterWindowG v k boundary np = .ok out) (ho' : filterWindowG v' k boundary np = .ok out') :
    out[i]? = out'[i]? :=
  filterWindowG_local v v' k boundary np i ⟨hlen, hnear⟩ out out' ho ho'

/-- **A sample outside the window is not seen** Replacing the sample at an index `m` further than `D` from `i`
by any value (`v.set m x`; a first record of another order of magnitude, a sentinel) leaves `out[i]` as it is. -/
theorem filter_far_sample (v : List (Option β)) (k : List β) (boundary np : Bool) (i m : Nat) (x : Option β)
    (hfar : m + k.length / 2 < i ∨ i + k.length / 2 < m) (out out' : List (Option β))
    (ho : filterWindowG v k boundary np = .ok out) (ho' : filterWindowG (v.set m x) k boundary np = .ok out') :
    out[i]? = out'[i]? := by
  refine filter_local v (v.set m x) k boundary np i (by simp) ?_ out out' ho ho'
  intro j h1 h2
  rw [List.getElem?_set_ne (by omega)]

/-- **Locality for `Filter.execute` as a whole** (weight list normalised in place / Kernel object / Dirac): the
kernel preparation does not look at the signal, so the same holds for the method itself, `D` being the half length of
the prepared window. -/
theorem execute_local [Sub β] [Neg β] [LT β] [LE β] [DecidableLT β] [DecidableLE β] [OfNat β 1] [NatCast β]
    (v v' : List (Option β)) (kern : KArg β) (i : Nat) (kp : Option (List β)) (w : List β) (b np : Bool)
    (hprep : prepare kern = .ok (kp, w, b, np)) (hlen : v.length = v'.length)
    (hnear : ∀ m, i ≤ m + w.length / 2 → m ≤ i + w.length / 2 → v[m]? = v'[m]?)
    (k1 k2 : Option (List β)) (out out' : List (Option β))
    (ho : execute v kern = .ok (k1, out)) (ho' : execute v' kern = .ok (k2, out')) :
    out[i]? = out'[i]? := by
  have run : ∀ (u : List (Option β)) (k' : Option (List β)) (o : List (Option β)), execute u kern = .ok (k', o) →
      filterWindowG u w b np = .ok o := by
    intro u k' o h
    rw [execute, hprep] at h
    simp only at h
    cases hf : filterWindowG u w b np <;> rw [hf] at h <;> cases h
    rfl
  exact filter_local v v' w b np i hlen hnear _ _ (run v k1 out ho) (run v' k2 out' ho')
end locality

/-- `filter_local` at the IEEE doubles of the Lean runtime (the scalar type of the driver's float streams) -/
theorem filter_local_float (v v' : List (Option Float)) (k : List Float) (boundary np : Bool) (i : Nat)
    (hlen : v.length = v'.length)
    (hnear : ∀ m, i ≤ m + k.length / 2 → m ≤ i + k.length / 2 → v[m]? = v'[m]?)
    (out out' : List (Option Float))
    (ho : filterWindowG v k boundary np = .ok out) (ho' : filterWindowG v' k boundary np = .ok out') :
    out[i]? = out'[i]? :=
  filter_local v v' k boundary np i hlen hnear out out' ho ho'

/-- non-vacuity of the locality theorems: a first record of another order of magnitude followed by a constant stretch
(`[1.7e9, 0.1, 0.1, 0.1, 0.1]`, weights `[1,2,1]/4`): the call succeeds, the windows that do not hold the first record
return `1/10`, and so they do when the first record is `1/10` as well. -/
example : filterWindow (α := ℚ) [some 1700000000, some (1/10), some (1/10), some (1/10), some (1/10)] [1/4, 1/2, 1/4] false
    = .ok [some 1700000000, some (17000000003/40), some (1/10), some (1/10), some (1/10)] := by decide +kernel

example : filterWindow (α := ℚ) ([some 1700000000, some (1/10), some (1/10), some (1/10), some (1/10)].set 0 (some (1/10))) [1/4, 1/2, 1/4] false
    = .ok [some (1/10), some (1/10), some (1/10), some (1/10), some (1/10)] := by decide +kernel

end TV.C15
