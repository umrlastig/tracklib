import TracklibVerif.Props.C16
import TracklibVerif.Lemmas.SimplifyVwNum
import TracklibVerif.Lemmas.SimplifyVwComplete
import TracklibVerif.Lemmas.SimplifyDepth
import TracklibVerif.Lemmas.SimplifyDepthGeom
/-! # C16, continued — Visvalingam on columns without NaN / of NaN only (T6 at full strength, T6' for the whole run) and the
**depth of Douglas–Peucker's recursion** (the finding `dp-recursion-depth` as theorems about the model).

Property theorems only; helper lemmas in `Lemmas/SimplifyVwFirst.lean`, `Lemmas/SimplifyVwNum.lean`, `Lemmas/SimplifyVwComplete.lean`,
`Lemmas/SimplifyDepth.lean` (scalar-independent) and
`Lemmas/SimplifyDepthGeom.lean` (ordered field). Same conventions as `Props/C16.lean`. -/
namespace TV.C16
open TV.Simplify

section anyScalar
variable {α : Type} [Add α] [Sub α] [Mul α] [Div α] [Neg α] [LT α] [DecidableLT α] [BEq α]
  [OfNat α 0] [OfNat α 1] [OfNat α 2]

/-- T6 at full strength (**every column without NaN**): Visvalingam on a track of ≥ 2 fixes all of whose triangle areas are numbers
below ARGMIN's start value **or equal to it** (`big = float('inf')`: on doubles, areas in `[-inf, +inf]`, i.e. *not NaN* — an infinite area,
e.g. from coordinates of about 1e154, is found since b728412), for **every** tolerance: the result is a sub-sequence of the input
observations in their original order, it keeps the **first** and the last observation and at least two, every pass of the loop finds a
minimum, and the loop stops by itself within `len(track)` passes. `vw_sublist_ends` (areas strictly below `big`) is the special case;
what remains outside is exactly a NaN area (T14 pass by pass, `vw_all_nan` for a column of NaN). Any scalar type. -/
theorem vw_sublist_ends_no_nan (big eps : α) (L : List (Fix α)) (h2 : 2 ≤ L.length)
    (hnum : ∀ a b c, a ∈ L → b ∈ L → c ∈ L → areaFix a b c < big ∨ (areaFix a b c == big) = true) :
    (visvalingam big eps L).Sublist L ∧
    (visvalingam big eps L).head? = L.head? ∧
    (visvalingam big eps L).getLast? = L.getLast? ∧
    2 ≤ (visvalingam big eps L).length ∧
    AllHit big (eps * eps) L.length (vwInit L) ∧
    vwStep big (eps * eps) (vwLoop big (eps * eps) L.length (vwInit L)) = none := by
  obtain ⟨a, b, c, d, _⟩ := vw_any_tiebreak_stable big eps L _ h2 hnum (vw_own_run_is_tiebreak_run big eps L)
  exact ⟨a, b, c, d, allHit_vwInit big (eps * eps) L.length L hnum, (vw_any big eps L).2.2.2⟩

/-- T13 on columns without NaN: under the hypothesis of `vw_sublist_ends_no_nan` (infinite areas allowed) **every** run with another
choice among equally small triangles keeps the first and the last observation and at least two. Any scalar type, any tolerance. -/
theorem vw_any_tiebreak_no_nan (big eps : α) (L out : List (Fix α)) (h2 : 2 ≤ L.length)
    (hnum : ∀ a b c, a ∈ L → b ∈ L → c ∈ L → areaFix a b c < big ∨ (areaFix a b c == big) = true)
    (h : VwAnyResult big eps L out) :
    out.Sublist L ∧ out.head? = L.head? ∧ out.getLast? = L.getLast? ∧ 2 ≤ out.length := by
  have ⟨a, b, c, d, _⟩ := vw_any_tiebreak_stable big eps L out h2 hnum h
  exact ⟨a, b, c, d⟩

/-- T9 (ends) on columns without NaN: Visvalingam on a `Track` with a well-formed feature table without `'@aire'`, of ≥ 2 fixes none of
whose triangle areas is NaN (infinite areas allowed), keeps the first and the last **observation** (feature rows included), for every
tolerance. `vw_track_ends` is the special case of areas strictly below the start value. Any scalar type. -/
theorem vw_track_ends_no_nan (big eps : α) (T O : Trk α) (hf : FreshTable T) (h2 : 2 ≤ T.pts.length)
    (hnum : ∀ a b c, a ∈ fixes T.pts → b ∈ fixes T.pts → c ∈ fixes T.pts →
      areaFix a b c < big ∨ (areaFix a b c == big) = true)
    (h : vwTrk big eps T = .ok O) :
    O.pts.head? = T.pts.head? ∧ O.pts.getLast? = T.pts.getLast? :=
  vwTrk_ends_no_nan big eps T O hf h2 hnum h

/-- the statement of C16 for Visvalingam **on the `Track`, in one piece, on every column without NaN**: for every track of ≥ 2 fixes with a
well-formed feature table without `'@aire'` none of whose triangle areas is NaN, and every tolerance, the call succeeds, the
observations returned (feature rows included) are a sub-sequence of the input's with the **first and the last** observation, at least
two of them; feature dict and `uid`/`tid`/`base` are the input's. -/
theorem vw_track_correct_no_nan (big eps : α) (T : Trk α) (hf : FreshTable T) (h2 : 2 ≤ T.pts.length)
    (hnum : ∀ a b c, a ∈ fixes T.pts → b ∈ fixes T.pts → c ∈ fixes T.pts →
      areaFix a b c < big ∨ (areaFix a b c == big) = true) :
    ∃ O, vwTrk big eps T = .ok O ∧ O.pts.Sublist T.pts ∧ O.pts.head? = T.pts.head? ∧ O.pts.getLast? = T.pts.getLast? ∧
      2 ≤ O.pts.length ∧ O.dico = T.dico ∧ O.info = T.info := by
  have hne : T.pts ≠ [] := by intro e; rw [e] at h2; simp at h2
  obtain ⟨O, h, _, hs, _, hl2, hd, hi⟩ := vwTrk_any big eps T hf hne
  obtain ⟨e1, e2⟩ := vwTrk_ends_no_nan big eps T O hf h2 hnum h
  exact ⟨O, h, hs, e1, e2, hl2 h2, hd, hi⟩

/-- T6' for the **whole run** (what exactly happens with NaN areas, extreme case): when **no** triangle area of the track is a number
below ARGMIN's start value, equal to it, or above the squared tolerance — on doubles: every area, of repeated fixes too, is NaN
(`inf − inf`: coordinates that are infinite or whose every difference overflows) — every pass records no index, ARGMIN answers its
default 0, `NaN > eps` is False, and the observations are removed **from the front**: Visvalingam returns exactly the **last two**
observations (the whole track if it has at most two). Mixed columns: T14. Any scalar type, any tolerance. -/
theorem vw_all_nan (big eps : α) (L : List (Fix α))
    (hn : ∀ a b c, a ∈ L → b ∈ L → c ∈ L →
      ¬ areaFix a b c < big ∧ ¬ (areaFix a b c == big) = true ∧ ¬ areaFix a b c > eps * eps) :
    visvalingam big eps L = L.drop (L.length - 2) := by
  have := vwLoop_all_nan big (eps * eps) L.length (vwInit L) (vwInit_nanInv big (eps * eps) L hn)
    (by rw [vwInit_length]; omega)
  rw [vwInit_map_fst, vwInit_length] at this
  exact this

/-- T13 (**completeness** of the enumeration the correspondence check uses, on columns without NaN): on a track of ≥ 2 observations
identified by their tags (as the driver's and the harness' tracks are: the tag is the index) all of whose triangle areas are numbers
`<=` ARGMIN's start value (T6's hypothesis at full strength: no NaN), whenever `visvalingamAll` does not give up (`some R`: no level
held more than `cap` states) its result is **exactly** the set of results of the runs with some choice among equally small triangles:
sound (`vw_all_levels_sound`) **and complete** — every such run ends in a member of `R`. Merging the states of a level that hold the
same observations loses nothing there, because a state is a function of its observations (NaN at both ends, every interior entry
the area of the triangle with the current neighbours). So a run of the implementation that the correspondence check does not find
in `R` is not a run of T13 at all. Outside the hypothesis (a NaN area: the first observation can go and the column keeps stale
entries) completeness is not claimed. Any scalar type, any tolerance. -/
theorem vw_all_levels_complete (big eps : α) (cap : Nat) (L : List (Fix α)) (R : List (List (Fix α))) (h2 : 2 ≤ L.length)
    (hnum : ∀ a b c, a ∈ L → b ∈ L → c ∈ L → areaFix a b c < big ∨ (areaFix a b c == big) = true)
    (htag : ∀ x ∈ L, ∀ y ∈ L, x.tag = y.tag → x = y)
    (h : visvalingamAll big eps cap L = some R) : ∀ out, out ∈ R ↔ VwAnyResult big eps L out := by
  intro out
  refine ⟨fun ho => vw_all_levels_sound big eps cap L R h out ho, fun ho => ?_⟩
  unfold visvalingamAll at h
  obtain ⟨R0, hR, rfl⟩ := Option.map_eq_some_iff.mp h
  obtain ⟨S', r, hn, e⟩ := ho
  have hc := (vwAllLevels_complete big (eps * eps) cap L hnum htag (L.length + 1) [vwInit L] [] R0
    (fun T hT => by rw [List.mem_singleton.mp hT]; exact ⟨L, rfl, List.Sublist.refl _, h2⟩) hR).2 _ List.mem_cons_self S' r hn
  exact List.mem_map.mpr ⟨S', hc, e.symm⟩

/-- T16 (the depth is the depth of the same recursion): `dpDepth` is defined exactly when `douglas_peucker` returns. -/
theorem dp_depth_defined_iff (sqrt : α → α) (eps : α) (L : List (Fix α)) :
    (∃ d, dpDepth sqrt eps L = some d) ↔ ∃ out, douglasPeucker sqrt eps L = some out := by
  have h := dpDepthFuel_isSome sqrt eps L.length L
  unfold dpDepth douglasPeucker
  rw [← Option.isSome_iff_exists, ← Option.isSome_iff_exists, h]

/-- T16 (**bound**, the finding `dp-recursion-depth` seen from the model): under the hypotheses of T3 — `eps > 0`, and a chord's first end is
never at a strictly positive computed distance from it (a theorem over a field, `dp_depth_bound`; from the zero laws of rounded
arithmetic, `dp_depth_bound_zero_laws`; checked bit-exactly on the implementation by the `dist` stream) — the recursion of
`douglas_peucker` on a track of `n` fixes is defined and is **at most `n − 2` levels deep** (`0` for `n <= 2`): CPython needs at most
`n − 1` frames of `douglas_peucker`. With `dp_depth_attained` (the bound is reached by a track of every length), "RecursionError on
some track of `n` fixes iff `n − 1` frames exceed what the interpreter has left" is a statement whose only assumption outside the
model is CPython's recursion limit. Any scalar type. -/
theorem dp_depth_le (sqrt : α → α) (eps : α) (heps : (0 : α) < eps)
    (hd0 : ∀ a b : Fix α, ¬ (distFix sqrt a b a > 0)) (L : List (Fix α)) :
    ∃ d, dpDepth sqrt eps L = some d ∧ d ≤ L.length - 2 := by
  obtain ⟨d, hd⟩ := (dp_depth_defined_iff sqrt eps L).mpr (dp_total_of_self_distance sqrt eps heps hd0 L)
  exact ⟨d, hd, dpDepthFuel_le sqrt eps heps hd0 L.length L d hd⟩

/-- T16 (when the bound is reached): on a track on which every split peels exactly one fix (`PeelOne`: at every level the farthest fix
from the chord is `L[1]` and is not below the tolerance) the recursion is exactly `len(L) − 2` levels deep. Any scalar type. -/
theorem dp_depth_peel (sqrt : α → α) (eps : α) (L : List (Fix α)) (h : PeelOne sqrt eps L) :
    dpDepth sqrt eps L = some (L.length - 2) :=
  dpDepthFuel_peel sqrt eps L.length L h (by omega)

end anyScalar

section totalOrderAnyArithmetic
variable {α : Type} [Add α] [Sub α] [Mul α] [Div α] [Neg α] [BEq α] [OfNat α 0] [OfNat α 1] [OfNat α 2] [LinearOrder α]

/-- T16 under rounded arithmetic: with the six zero laws of T3' the depth is defined and at most `n − 2` for every `eps > 0` -/
theorem dp_depth_bound_zero_laws (sqrt : α → α) (hz : ZeroLaws sqrt) (eps : α) (heps : (0 : α) < eps) (L : List (Fix α)) :
    ∃ d, dpDepth sqrt eps L = some d ∧ d ≤ L.length - 2 :=
  dp_depth_le sqrt eps heps hz.self_distance L

end totalOrderAnyArithmetic

section orderedField
variable {α : Type} [Field α] [LinearOrder α] [IsStrictOrderedRing α]

/-- T16 over an ordered field with an exact sqrt: for every track and every `eps > 0` the depth is defined and at most `n − 2` -/
theorem dp_depth_bound (sqrt : α → α) (hs : SqrtOK sqrt) (eps : α) (heps : 0 < eps) (L : List (Fix α)) :
    ∃ d, dpDepth sqrt eps L = some d ∧ d ≤ L.length - 2 :=
  dp_depth_bound_zero_laws sqrt hs.zeroLaws eps heps L

/-- T16 (**the bound is attained**, the witness of the finding as a family): for every `n` the track of `n` fixes on the y-axis with
ordinates `n, −(n−1), n−2, …, ±1` (`osc 1 n 0`: `pts = [(0, (-1)**i * (n - i)) for i in range(n)]`, a collinear oscillation of linearly
decreasing amplitude) and every tolerance `0 < eps <= 1` (the finding uses 0.5) makes `douglas_peucker` recurse exactly `n − 2` levels
deep — at every level the farthest fix from the chord is `L[1]` and the split `L[0:1] / L[1:n]` peels one fix — while the result keeps
all `n` fixes. With CPython's limit of 1000 frames: `n = 1100` raises RecursionError, `n = 900` passes (findings/C16.json). Ordered
field, exact sqrt. -/
theorem dp_depth_attained (sqrt : α → α) (hs : SqrtOK sqrt) (eps : α) (heps1 : eps ≤ 1) (n : Nat) :
    (osc (1 : α) n 0).length = n ∧ dpDepth sqrt eps (osc (1 : α) n 0) = some (n - 2) := by
  refine ⟨osc_length 1 n 0, ?_⟩
  have := dp_depth_peel sqrt eps (osc (1 : α) n 0) (osc_peel sqrt hs eps heps1 n 1 0 (one_mul 1))
  rwa [osc_length] at this

end orderedField

/-- `vw_sublist_ends_no_nan` at work with an area EQUAL to the start value (`big = 8`, "infinite"): hypothesis and conclusion -/
example : ∀ a ∈ [(⟨0, 0, 0⟩ : Fix Rat), ⟨1, 2, 4⟩, ⟨2, 4, 0⟩], ∀ b ∈ [(⟨0, 0, 0⟩ : Fix Rat), ⟨1, 2, 4⟩, ⟨2, 4, 0⟩],
    ∀ c ∈ [(⟨0, 0, 0⟩ : Fix Rat), ⟨1, 2, 4⟩, ⟨2, 4, 0⟩], areaFix a b c < (8 : Rat) ∨ (areaFix a b c == (8 : Rat)) = true := by
  decide +kernel

example : (visvalingam (8 : Rat) 3 [⟨0, 0, 0⟩, ⟨1, 2, 4⟩, ⟨2, 4, 0⟩]).head? = some ⟨0, 0, 0⟩ := by decide +kernel

/-- `vw_all_nan` at work (`big = −1`: no area — all are ≥ 0 over ℚ — is below it or equal to it; tolerance 3: no area exceeds 9): the last
two observations come back -/
example : ∀ a ∈ [(⟨0, 0, 0⟩ : Fix Rat), ⟨1, 2, 4⟩, ⟨2, 4, 0⟩, ⟨3, 5, 1⟩], ∀ b ∈ [(⟨0, 0, 0⟩ : Fix Rat), ⟨1, 2, 4⟩, ⟨2, 4, 0⟩, ⟨3, 5, 1⟩],
    ∀ c ∈ [(⟨0, 0, 0⟩ : Fix Rat), ⟨1, 2, 4⟩, ⟨2, 4, 0⟩, ⟨3, 5, 1⟩],
      ¬ areaFix a b c < (-1 : Rat) ∧ ¬ (areaFix a b c == (-1 : Rat)) = true ∧ ¬ areaFix a b c > (3 : Rat) * 3 := by
  decide +kernel

example : visvalingam (-1 : Rat) 3 [⟨0, 0, 0⟩, ⟨1, 2, 4⟩, ⟨2, 4, 0⟩, ⟨3, 5, 1⟩] = [⟨2, 4, 0⟩, ⟨3, 5, 1⟩] := by decide +kernel

/-- the hypotheses of `vw_all_levels_complete` hold on the track of T13's example (`tieTrack`: three equal areas), whose three
results `visvalingamAll` lists: they are all the results any tie-break can produce -/
example : (∀ a ∈ tieTrack, ∀ b ∈ tieTrack, ∀ c ∈ tieTrack, areaFix a b c < (10 ^ 300 : Rat) ∨ (areaFix a b c == (10 ^ 300 : Rat)) = true) ∧
    (∀ x ∈ tieTrack, ∀ y ∈ tieTrack, x.tag = y.tag → x = y) ∧ (visvalingamAll (10 ^ 300 : Rat) 1 8 tieTrack).isSome = true := by
  decide +kernel

/-- the depth at work on integers with the integer square root (coordinates doubled, tolerance 1): the oscillation of 6 fixes is
4 levels deep and keeps every fix -/
example : dpDepth isqrt 1 [(⟨0, 0, 12⟩ : Fix Int), ⟨1, 0, -10⟩, ⟨2, 0, 8⟩, ⟨3, 0, -6⟩, ⟨4, 0, 4⟩, ⟨5, 0, -2⟩] = some 4 := by
  decide +kernel

example : (douglasPeucker isqrt 1 [(⟨0, 0, 12⟩ : Fix Int), ⟨1, 0, -10⟩, ⟨2, 0, 8⟩, ⟨3, 0, -6⟩, ⟨4, 0, 4⟩, ⟨5, 0, -2⟩]).map List.length
    = some 6 := by decide +kernel

/-- a track that is simplified to its chord is 0 levels deep; one split in the middle: 1 level (ℚ, the 3-4-5 triangle of `sqrtTab`) -/
example : dpDepth sqrtTab 4 [⟨0, 0, 0⟩, ⟨1, 4, 3⟩, ⟨2, 4, 0⟩] = some 0 := by decide +kernel

example : dpDepth sqrtTab 1 [⟨0, 0, 0⟩, ⟨1, 4, 0⟩, ⟨2, 4, 3⟩, ⟨3, 0, 0⟩] = some 1 := by decide +kernel

/-- over ℝ with `Real.sqrt`: a track of 1100 fixes that is 1098 levels deep (the finding's witness), and no track of 1100 fixes is deeper -/
example : dpDepth Real.sqrt (1 / 2) (osc (1 : ℝ) 1100 0) = some 1098 :=
  (dp_depth_attained Real.sqrt (fun x hx => ⟨Real.sqrt_nonneg x, Real.mul_self_sqrt hx⟩) (1 / 2) (by norm_num) 1100).2

example (L : List (Fix ℝ)) (h : L.length = 1100) : ∃ d, dpDepth Real.sqrt (1 / 2) L = some d ∧ d ≤ 1098 := by
  obtain ⟨d, a, b⟩ := dp_depth_bound Real.sqrt (fun x hx => ⟨Real.sqrt_nonneg x, Real.mul_self_sqrt hx⟩) (1 / 2) (by norm_num) L
  exact ⟨d, a, by omega⟩

end TV.C16
