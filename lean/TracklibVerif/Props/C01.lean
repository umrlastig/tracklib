import TracklibVerif.Lemmas.FeaturesInit
/-! # C01 — the feature table stays aligned with the observations under any operation history

Property theorems only. `St` is the model of the code (`Model/Features.lean`: the dict name → column index and
the per-observation `features` lists, every operation with the partial effects Python leaves when it raises);
`ATab` is the specification: an association list name ↦ column without any index. `Inv n st` says that `st`
is aligned (the dict enumerates its distinct names, every observation carries exactly one value per listed
name, `n` observations); `abs` forgets the indices. `Op` covers create / update / remove / bracket
assignment / setObs / addAnalyticalFeature / unary, binary, scalar void operators of every family (those whose
arithmetic raises mid-way included) / value-returning aggregates / `computeAbsCurv`, `estimate_speed`,
`segmentation` / `operate(str)` on an arbitrary RPN token list over `= + - * / ^ % < > & $ @`. All statements
are for every scalar type `V`, every feature name (any string) and every interpretation `o : Ops V` of the
arithmetic, exceptions included (the driver runs them at `Float`).

Continued in `Props/C01World.lean` (the same API on a heap of `Obs` objects: tracks that share or copy their
observations — `extract`, slices, `+`, `copy`, `extractSpanTime`, `loop(add=True)`, `addObs(o.copy())`) and in
`Props/C01Call.lean` (the list forms of `Track.operate`; `call_keeps_listed`: a call that is not a deleting call unlists
nothing, returning or raising) and in `Props/C01Front.lean` (the argument handling of `createAnalyticalFeature` and
`track[name] = obs`: whatever object is given — `None`, a bool, a str … — is the value read back; the driver runs the
model at `V := String`, one token per Python object, next to the `Float` instance). -/
set_option linter.unusedSectionVars false
namespace TV.C01
open TV.Features
variable {V : Type} [Inhabited V] {n : Nat}

def fresh (xs ys zs ts : List V) : St V :=
  { dico := [], rows := xs.map (fun _ => []), xs := xs, ys := ys, zs := zs, ts := ts }

/-- T1a: a fresh track is aligned. -/
theorem inv_fresh (xs ys zs ts : List V) (hy : ys.length = xs.length) (hz : zs.length = xs.length)
    (ht : ts.length = xs.length) : Inv xs.length (fresh xs ys zs ts) := by
  refine ⟨rfl, by simp [names, fresh], ?_, by simp [fresh], rfl, hy, hz, ht⟩
  intro r hr
  simp only [fresh, List.mem_map] at hr
  obtain ⟨_, _, rfl⟩ := hr
  rfl

/-- T1b: every API call keeps the table aligned, whether it returns or raises (a list initialiser
shorter than the track included: since fix 2976f2b it is refused before anything is written). After the call every observation still carries exactly one value per listed name. -/
theorem inv_step (o : Ops V) (op : Op V) (st : St V) (h : Inv n st) :
    Inv n (step o op st).2 := (gsim_step (I := Inv n) (ab := abs) o op st h).1

/-- T2: refinement. On an aligned table every API call of the code does exactly what the same call does on the
name ↦ column table: same outcome (value returned or exception kind) and corresponding resulting tables.
Everything observable through names (listed names in order, every column, coordinates) therefore evolves as
in the specification, where "reading a name returns what was last written under it", "delete does not touch
the other names" and "nothing else changes" hold by construction. -/
theorem step_refines (o : Ops V) (op : Op V) (st : St V) (h : Inv n st) :
    step o op (abs st) = ((step o op st).1, abs (step o op st).2) := (gsim_step (I := Inv n) (ab := abs) o op st h).2.1

/-- T3a: every state reached along any finite history is aligned. -/
theorem history_aligned (o : Ops V) (ops : List (Op V)) (st : St V) (h : Inv n st): ∀ r ∈ trace o ops st, Inv n r.2 :=
  (gsim_trace (I := Inv n) (ab := abs) o ops st h).2

/-- T3b: along any finite history the code and the specification produce the same outcomes, and the tables
correspond after every call. -/
theorem history_refines (o : Ops V) (ops : List (Op V)) (st : St V) (h : Inv n st):
    trace o ops (abs st) = (trace o ops st).map (fun r => (r.1, abs r.2)) :=
  (gsim_trace (I := Inv n) (ab := abs) o ops st h).1

/-- T3c: the same for the final state. -/
theorem run_refines (o : Ops V) (ops : List (Op V)) (st : St V) (h : Inv n st):
    Inv n (runOps o ops st) ∧ abs (runOps o ops st) = runOps o ops (abs st) :=
  gsim_runOps (I := Inv n) (ab := abs) o ops st h

theorem isHash_empty : isHash "" = false := by decide +kernel

/-- a name that is neither listed before `operate(str)` nor a token of the expression is not listed after the
evaluation (before the purge) either — used for the empty name -/
theorem evaluate_no_new_name (o : Ops V) (rpn : List String) (st : St V) (h : Inv n st) (m : String)
    (hm : m ∉ names st) (hrpn : m ∉ rpn) (hh : isHash m = false) : m ∉ names (evaluate o rpn st).2 :=
  fun hmem => hm ((reads_kept (gsim_evaluate o rpn) o h (frame_evaluate o rpn (abs st)) m (fun ht =>
    ht.elim (fun h1 => hrpn h1.1) (fun h2 => by rw [hh] at h2; cases h2))).2.mp hmem)

/-- T4: after `operate(str)` no listed name starts with `#`, for every RPN token list and every table — the empty
string as a feature name or a token included (fix 06982f0: `af.startswith("#")`) —, whether the evaluation returned
or raised (the purge sits in a `finally`; an operator failing mid-way included), including `#` names listed before the call. -/
theorem no_temporaries (o : Ops V) (rpn : List String) (st : St V) (h : Inv n st) :
    ∀ nm ∈ names (step o (.expr rpn) st).2, isHash nm = false := by
  intro nm hnm
  rw [← names_abs, expr_purged o rpn st h] at hnm
  simp only [anames, List.mem_map, List.mem_filter] at hnm
  obtain ⟨p, ⟨_, hp⟩, rfl⟩ := hnm
  simpa using hp

/-- a list initialiser shorter than the track with a new name (fix 2976f2b): `createAnalyticalFeature(nm, l)` raises
IndexError and the track is exactly as it was — nothing registered, no observation extended. -/
theorem short_list_refused (st : St V) (h : Inv n st) (nm : String) (l : List V)
    (hr : reserved nm = false) (hn : n ≠ 0) (hnew : nm ∉ names st) (hl : l.length < n) :
    createC nm (.list l) st = (.error .index, st) := by
  unfold createC
  have h1 : st.rows.isEmpty = false := by rw [isEmpty_rows h]; simpa using hn
  have h2 : hasC st nm = false := by
    simp [hasC, find_none_of_not_mem st.dico nm hnew, hr]
  have h3 : l.length < st.rows.length := by rw [h.size]; exact hl
  simp [hr, h1, h2, h3]

/-! ## Consequences read on the code's table: `read o st m` is what `getAnalyticalFeature(m)` returns -/

/-- every observation carries exactly one value per listed name, and a listed (non-virtual) name reads as a
full column: one value per observation -/
theorem aligned_reads (o : Ops V) (st : St V) (h : Inv n st) :
    (∀ r ∈ st.rows, r.length = (names st).length) ∧ (names st).Nodup ∧
    ∀ nm ∈ names st, reserved nm = false → ∃ col, read o st nm = .ok col ∧ col.length = n := by
  refine ⟨fun r hr => by rw [h.rows r hr, h.dico_length], h.nodup, ?_⟩
  intro nm hnm hr
  obtain ⟨idx, _, hl⟩ := lookup_abs_of_mem hnm
  exact ⟨_, by rw [read_abs o h, aread_feature o _ hr, hl], by rw [colAt_length, h.size]⟩

/-- create of a new name: it returns, the new name reads as the initial values, every other name
(feature or virtual) reads as before. -/
theorem read_after_create (o : Ops V) (st : St V) (h : Inv n st) (nm : String) (init : Init V)
    (hr : reserved nm = false) (hn : n ≠ 0) (hnew : nm ∉ names st)
    (hok' : match init with | .scalar _ => True | .list l => n ≤ l.length) :
    (createC nm init st).1 = .ok () ∧ read o (createC nm init st).2 nm = .ok (initCol n init) ∧
    ∀ m, m ≠ nm → read o (createC nm init st).2 m = read o st m := by
  have hl : lookup (abs st).cols nm = none := by
    rw [abs_lookup, find_none_of_not_mem _ _ hnew]; rfl
  obtain ⟨e1, _, hrd⟩ := read_after (sim_create (n := n) nm init) o h
    (createA_new (abs st) nm init hr (by rw [abs_size h]; exact hn) hl (by rw [abs_size h]; exact hok'))
  refine ⟨e1, ?_, ?_⟩
  · rw [hrd, aread_feature o _ hr]
    simp only [lookup_append_new _ _ _ _ hl, if_true, abs_size h]
  · exact fun m hm => (reads_kept (sim_create nm init) o h (wrote_create nm init (abs st)).same m hm).1

/-- creating a name that is already listed writes nothing at all -/
theorem create_existing_noop (st : St V) (h : Inv n st) (nm : String) (init : Init V)
    (hex : nm ∈ names st) (hr : reserved nm = false) (hn : n ≠ 0) : createC nm init st = (.ok (), st) := by
  unfold createC
  have h1 : st.rows.isEmpty = false := by rw [isEmpty_rows h]; simpa using hn
  have h2 : hasC st nm = true := by simp [hasC, find_isSome_of_mem st.dico nm hex]
  simp [hr, h1, h2]

/-- update / bracket assignment of a listed name: it returns, the name reads as the new values (a scalar is
broadcast), every other name reads as before. -/
theorem read_after_update (o : Ops V) (st : St V) (h : Inv n st) (nm : String) (init : Init V)
    (hr : reserved nm = false) (hn : n ≠ 0) (hex : nm ∈ names st)
    (hok : match init with | .scalar _ => True | .list l => n ≤ l.length) :
    (updateC nm init st).1 = .ok () ∧ read o (updateC nm init st).2 nm = .ok (initCol n init) ∧
    ∀ m, m ≠ nm → read o (updateC nm init st).2 m = read o st m := by
  obtain ⟨idx, _, hl⟩ := lookup_abs_of_mem hex
  obtain ⟨e1, _, hrd⟩ := read_after (sim_update (n := n) nm init) o h
    (updateA_ok (abs st) nm init _ (by rw [abs_size h]; exact hn) hl (by rw [colAt_length, h.size, abs_size h])
      (by rw [abs_size h]; exact hok))
  refine ⟨e1, ?_, ?_⟩
  · rw [hrd, aread_feature o _ hr]
    simp only [lookup_replaceCol, if_true, hl, Option.map_some, abs_size h]
  · exact fun m hm => (reads_kept (sim_update nm init) o h (wrote_update nm init (abs st)).same m hm).1

/-- writing one cell of a listed feature: that cell changes, every other cell of every name reads as before -/
theorem read_after_setObs (o : Ops V) (st : St V) (h : Inv n st) (nm : String) (i : Nat) (v : V)
    (hr : reserved nm = false) (hi : i < n) (hex : nm ∈ names st) :
    (setObsC nm i v st).1 = .ok () ∧
    (∃ col, read o st nm = .ok col ∧ read o (setObsC nm i v st).2 nm = .ok (col.set i v)) ∧
    ∀ m, m ≠ nm → read o (setObsC nm i v st).2 m = read o st m := by
  obtain ⟨idx, _, hl⟩ := lookup_abs_of_mem hex
  obtain ⟨e1, _, hrd⟩ := read_after (sim_setObs (n := n) nm i v) o h
    (setObsA_ok (abs st) nm i v _ hr hl (by rw [colAt_length, h.size]; exact hi))
  refine ⟨e1, ⟨colAt st.rows idx, ?_, ?_⟩, ?_⟩
  · rw [read_abs o h, aread_feature o _ hr, hl]
  · rw [hrd, aread_feature o _ hr]
    simp only [lookup_replaceCol, if_true, hl, Option.map_some]
  · exact fun m hm => (reads_kept (sim_setObs nm i v) o h (wrote_setObs nm i v (abs st)).same m hm).1

/-- deleting a listed feature: it returns, the name is no longer a feature, and what is read under every
other name is unchanged — whatever the position of the deleted column. -/
theorem read_after_remove (o : Ops V) (st : St V) (h : Inv n st) (nm : String)
    (hr : reserved nm = false) (hex : nm ∈ names st) :
    (removeC nm st).1 = .ok () ∧ read o (removeC nm st).2 nm = .error .unknown ∧
    nm ∉ names (removeC nm st).2 ∧
    ∀ m, m ≠ nm → read o (removeC nm st).2 m = read o st m := by
  have hsome : (lookup (abs st).cols nm).isSome = true := by
    rw [abs_lookup]; simpa using find_isSome_of_mem st.dico nm hex
  obtain ⟨e1, e2, hrd⟩ := read_after (sim_remove (n := n) nm) o h (removeA_ok (abs st) nm hsome)
  refine ⟨e1, ?_, ?_, ?_⟩
  · rw [hrd, aread_feature o _ hr]
    simp only [lookup_filter_self]
  · rw [← names_abs, e2]
    simp only [anames, List.mem_map, List.mem_filter, not_exists, not_and]
    intro p hp e
    simp [e] at hp
  · exact fun m hm => (reads_kept (sim_remove nm) o h (same_remove nm (abs st)) m hm).1

/-- the four table primitives never touch a coordinate or a timestamp (only `setObs` on `x`/`y`/`z` does) -/
theorem prims_keep_coords (st : St V) (nm : String) (init : Init V) (i : Nat) (v : V) (hr : reserved nm = false) :
    (∀ c, (createC nm init st).2.coord c = st.coord c) ∧ (∀ c, (updateC nm init st).2.coord c = st.coord c) ∧
    (∀ c, (removeC nm st).2.coord c = st.coord c) ∧ (∀ c, (setObsC nm i v st).2.coord c = st.coord c) := by
  refine ⟨fun c => ?_, fun c => ?_, fun c => ?_, fun c => ?_⟩
  · fun_cases createC nm init st <;> cases c <;> rfl
  · fun_cases updateC nm init st <;> cases c <;> rfl
  · fun_cases removeC nm st <;> cases c <;> rfl
  · fun_cases setObsC nm i v st
    -- the two branches that write a coordinate are closed to a name that is not reserved
    case case1 _ hc _ | case2 _ hc _ => simp [(coord?_of_not_reserved hr).1] at hc
    all_goals rfl

/-- T5: no side effects. For every API call — operators and `operate(str)` on any RPN included, returning or
raising — a name the call does not designate (`touched`: the written name; for an expression its non-operator
tokens and the `#` names) reads exactly as before, whether it is a feature, a coordinate `x y z`, the
timestamps `t` or `idx`; and it is listed afterwards iff it was listed before. -/
theorem step_frame (o : Ops V) (op : Op V) (st : St V) (h : Inv n st) (m : String)
    (hm : ¬ touched op m) :
    read o (step o op st).2 m = read o st m ∧ (m ∈ names (step o op st).2 ↔ m ∈ names st) :=
  reads_kept (gsim_step o op) o h (frame_step o op (abs st)) m hm

/-- T5 for the aggregate `SUM` (a non-void operator): the table is left exactly as it was. -/
theorem sum_keeps_table (o : Ops V) (inp : String) (st : St V) (h : Inv n st) (m : String) :
    read o (step o (.sum inp) st).2 m = read o st m :=
  (step_frame o (.sum inp) st h m (fun hf => hf)).1

/-- T6a: when a binary void operator (ADDER, SUBSTRACTER, MULTIPLIER) returns the list `temp`, the output
feature reads exactly `temp` (whether it was created by the call or overwritten, and even if it is also an input). -/
theorem binaryVoid_read_back (o : Ops V) (k : BOp) (in1 in2 : String) (out : Option String) (st : St V)
    (h : Inv n st) (temp : List V) (hres : (step o (.binaryVoid k in1 in2 out) st).1 = .ok (.col temp)) :
    read o (step o (.binaryVoid k in1 in2 out) st).2 (out.getD in1) = .ok temp :=
  read_back (x := .col temp) o (gsim_step o (.binaryVoid k in1 in2 out))
    (fun a a' hA e => binaryVoid_result o k in1 in2 _ a a' temp hA (bind_col_ok e)) st h hres

/-- T6b: the same for the scalar void operators (SCALAR_ADDER, SCALAR_SUBSTRACTER, SCALAR_REV_SUBSTRACTER, SCALAR_MULTIPLIER). -/
theorem scalarVoid_read_back (o : Ops V) (k : SOp) (inp : String) (arg : V) (out : Option String) (st : St V)
    (h : Inv n st) (temp : List V) (hres : (step o (.scalarVoid k inp arg out) st).1 = .ok (.col temp)) :
    read o (step o (.scalarVoid k inp arg out) st).2 (out.getD inp) = .ok temp :=
  read_back (x := .col temp) o (gsim_step o (.scalarVoid k inp arg out))
    (fun a a' hA e => scalarVoid_result o k inp arg _ a a' temp hA (bind_col_ok e)) st h hres

/-- T6c: the same for the unary void operators (INTEGRATOR, DIFFERENTIATOR). -/
theorem unaryVoid_read_back (o : Ops V) (k : UOp) (inp : String) (out : Option String) (st : St V)
    (h : Inv n st) (temp : List V) (hres : (step o (.unaryVoid k inp out) st).1 = .ok (.col temp)) :
    read o (step o (.unaryVoid k inp out) st).2 (out.getD inp) = .ok temp :=
  read_back (x := .col temp) o (gsim_step o (.unaryVoid k inp out))
    (fun a a' hA e => unaryVoid_result o k inp _ a a' temp hA (bind_col_ok e)) st h hres

/-- T6d: the same for every APPLY-based unary void operator (RECTIFIER, SQRT, DIODE, SIGN, EXP, COS, SIN, TAN, INVERSER … —
any cell function `f`, which may raise mid-way: then nothing is returned and the statement is about returning calls). -/
theorem applyVoid_read_back (o : Ops V) (f : V → Except Err V) (inp out : String) (st : St V)
    (h : Inv n st) (temp : List V) (hres : (applyVoid o f inp out st).1 = .ok temp) :
    read o (applyVoid o f inp out st).2 out = .ok temp :=
  read_back o (gsim_applyVoid o f inp out) (fun a a' => applyVoid_result o f inp out a a' temp) st h hres

theorem bind_fst_ok {σ α β : Type} {m : M σ α} {f : α → M σ β} {s : σ} {x : β}
    (h : ((m >>= f) s).1 = .ok x) : ∃ y, (m s).1 = .ok y ∧ (m >>= f) s = f y (m s).2 := by
  obtain ⟨y, s1, h1, _⟩ := bind_ok (x := x) (s' := ((m >>= f) s).2) (Prod.ext h rfl)
  exact ⟨y, by rw [h1], by rw [bind_of_ok h1, h1]⟩

/-- T6e: the same for SCALAR_DIVIDER, SCALAR_REV_DIVIDER (single divisions in the create / loop / addListToAF form since
fixes 5676890 / 2dd86ce, which may raise mid-way on a zero),
SHIFT_CIRCULAR, SHIFT_CIRCULAR_REV and the twelve plain scalar operators (`scalarKind`): when the call returns `temp`,
the output feature reads `temp`. -/
theorem scalarKind_read_back (o : Ops V) (k : SKind) (inp : String) (arg : V) (out : String) (st : St V)
    (h : Inv n st) (temp : List V) (hres : (scalarKind o k inp arg out st).1 = .ok temp) :
    Features.read o (scalarKind o k inp arg out st).2 out = .ok temp := by
  cases k with
  | plain s => exact applyVoid_read_back o (fun x => s.f o x arg) inp out st h temp hres
  | divider => exact applyVoid_read_back o (divCell o arg) inp out st h temp hres
  | revDivider => exact applyVoid_read_back o (revDivCell o arg) inp out st h temp hres
  | shift =>
    exact read_back o (gsim_shiftCircular o inp arg out) (fun a a' => shiftCircular_result o inp arg out a a' temp) st h hres
  | shiftRev =>
    exact read_back o (gsim_shiftCircular o inp _ out) (fun a a' => shiftCircular_result o inp _ out a a' temp) st h hres

/-- T5 for the value-returning aggregates SUM AVG MIN MAX ARGMIN ARGMAX (`aggFn`, any aggregate function, raising or
not): the table is left exactly as it was. -/
theorem agg_keeps_table (o : Ops V) (f inp : String) (st : St V) (h : Inv n st) (m : String) :
    read o (step o (.aggFn f inp) st).2 m = read o st m :=
  (step_frame o (.aggFn f inp) st h m (fun hf => hf)).1

/-- T7: every read path returns the same values. On an aligned table, whatever `getAnalyticalFeature(m)` returns as
column — for a feature name (any string: `X`, `E`, `N`, `idx2`, the empty string …), a coordinate `x y z`, `t` or
`idx` — `getObsAnalyticalFeature(m, i)` (= `track[m, i]`, and the read every operator and `setX/Y/ZFromAnalyticalFeature`
makes) returns its `i`-th element and changes nothing. -/
theorem cell_read_agrees (o : Ops V) (st : St V) (h : Inv n st) (m : String) (col : List V)
    (hc : read o st m = .ok col) (i : Nat) (hi : i < col.length) :
    (getObsC o m i st).1 = .ok (col[i]'hi) ∧ (getObsC o m i st).2 = st := by
  refine ⟨?_, getObsC_state o m i st⟩
  have hs := (sim_getObs (n := n) o m i st h).2.1
  have ha : (getA o m (abs st)).1 = .ok col := by
    have := read_abs o h m
    unfold Features.read Features.aread at this
    rw [← this]; exact hc
  rw [acell_agrees o (abs st) m col ha i hi] at hs
  exact (congrArg Prod.fst hs).symm

/-- T8: a track that is handed a table — what `copy()`, `extract`, a slice and `+` build (`__transmitAF` copies the
dict, the observations keep their `features`) — is aligned and carries exactly that table, provided the names are
distinct and every column has one value per observation; every theorem above then applies to the histories that start
from it. -/
theorem carried_table_aligned (cols : List (String × List V)) (xs ys zs ts : List V)
    (hnd : (cols.map Prod.fst).Nodup) (hlen : ∀ p ∈ cols, p.2.length = xs.length)
    (hy : ys.length = xs.length) (hz : zs.length = xs.length) (ht : ts.length = xs.length) :
    Inv xs.length (mkSt cols xs ys zs ts) ∧
    abs (mkSt cols xs ys zs ts) = { cols := cols, xs := xs, ys := ys, zs := zs, ts := ts } :=
  ⟨inv_mkSt cols xs ys zs ts hnd hy hz ht, abs_mkSt cols xs ys zs ts hlen⟩

/-! ## Non-vacuity: an explicit history with delete-then-recreate, over the integers -/

/-- integer arithmetic, `-1000` standing for NaN; only the literals `2` and `3` parse -/
def iops : Ops Int :=
  { zero := 0, nan := -1000, add := (· + ·), sub := (· - ·), mul := (· * ·), ofNat := Int.ofNat,
    isNaN := fun v => v == -1000, parse := fun s => if s == "2" then some 2 else if s == "3" then some 3 else none,
    one := 1, divide := (· / ·), eqZero := fun v => v == 0,
    pow := fun a b => if b < 0 then (if a == 0 then .error .value else .ok 0) else .ok (a ^ b.toNat),
    mod := fun a b => if b == 0 then .error .value else .ok (a % b),
    lt := fun a b => decide (a < b),
    fn := fun f v => if f == "SQRT" && v < 0 then .error .value else .ok (if f == "ABS" then Int.ofNat v.natAbs else v),
    agg := fun f l => if f == "AVG" && l.isEmpty then .error .value else .ok (l.foldl (· + ·) 0),
    shiftIdx := fun k i m => if m == 0 then .error .value else .ok ((((i : Int) - k) % (m : Int)).toNat) }

def t0 : St Int := fresh [10, 11, 12] [20, 22, 24] [30, 33, 36] [1000, 1001, 1002]

/-- create a, create b, `track["c"] = [4,5,6]`, delete a (a non-last column), recreate a, `b = c*2 + a` -/
def hist : List (Op Int) :=
  [.create "a" (.list [1, 2, 3]), .create "b" (.scalar 7), .setItem "c" (.list [4, 5, 6]),
   .remove "a", .create "a" (.scalar 0), .expr ["b", "c", "2", "*", "a", "+", "="]]

example : Inv 3 t0 := inv_fresh [10, 11, 12] _ _ _ rfl rfl rfl
example : (runOps iops hist t0).dico = [("c", 0), ("a", 1), ("b", 2)] := by decide +kernel
example : (runOps iops hist t0).rows = [[4, 0, 8], [5, 0, 10], [6, 0, 12]] := by decide +kernel
example : (runOps iops hist (abs t0)).cols = [("c", [4, 5, 6]), ("a", [0, 0, 0]), ("b", [8, 10, 12])] := by decide +kernel
/-- an expression that raises after its first temporary exists: `c = a*2 + nosuch` -/
example : ((trace iops [.create "a" (.scalar 5), .expr ["c", "a", "2", "*", "nosuch", "+", "="]] t0).map
    (fun r => (r.1.toOption.isSome, r.2.dico))) = [(true, [("a", 0)]), (false, [("a", 0)])] := by decide +kernel

/-- `y = 3` (fix 144a468): the number is written to the coordinate of every observation, the call returns,
the table and the other coordinates are untouched — on the code's table and on the specification table alike -/
example : ((trace iops [.create "a" (.scalar 5), .expr ["y", "3", "="]] t0).map
    (fun r => (r.1.toOption.isSome, r.2.dico, r.2.rows, r.2.ys))) =
    [(true, [("a", 0)], [[5], [5], [5]], [20, 22, 24]), (true, [("a", 0)], [[5], [5], [5]], [3, 3, 3])] := by decide +kernel
example : ((trace iops [.create "a" (.scalar 5), .expr ["y", "3", "="]] t0).map (fun r => (r.2.xs, r.2.zs, r.2.ts))) =
    [([10, 11, 12], [30, 33, 36], [1000, 1001, 1002]), ([10, 11, 12], [30, 33, 36], [1000, 1001, 1002])] := by decide +kernel
example : ((trace iops [.create "a" (.scalar 5), .expr ["y", "3", "="]] (abs t0)).map
    (fun r => (r.1.toOption.isSome, r.2.cols, r.2.ys))) =
    [(true, [("a", [5, 5, 5])], [20, 22, 24]), (true, [("a", [5, 5, 5])], [3, 3, 3])] := by decide +kernel
/-- `x = 2*3`: a right-hand side that folds to a number; `t = 3` still raises (KeyError: `t` is not writable) -/
example : ((trace iops [.expr ["x", "2", "3", "*", "="], .expr ["t", "3", "="]] t0).map
    (fun r => (r.1.toOption.isSome, r.2.xs, r.2.ts))) =
    [(true, [6, 6, 6], [1000, 1001, 1002]), (false, [6, 6, 6], [1000, 1001, 1002])] := by decide +kernel

/-- an operator that raises mid-way: `c = 2/a` with a zero in `a`. SCALAR_REV_DIVIDER has already created its output `#0` when
`2 / 0` raises at the second observation; the call raises, the temporary is purged, `c` is not created, `a` and
the coordinates are as before, every observation carries one value -/
example : ((trace iops [.create "a" (.list [1, 0, 3]), .expr ["c", "2", "a", "/", "="]] t0).map
    (fun r => (r.1.toOption.isSome, r.2.dico, r.2.rows, r.2.xs))) =
    [(true, [("a", 0)], [[1], [0], [3]], [10, 11, 12]), (false, [("a", 0)], [[1], [0], [3]], [10, 11, 12])] := by decide +kernel
/-- the same expression when no value is zero: `c` reads `2 / a` as SCALAR_REV_DIVIDER computes it since fix 5676890 (integer
division here; it used to be `(1 / a) * 2`), no temporary is left -/
example : ((runOps iops [.create "a" (.list [1, 2, 3]), .expr ["c", "2", "a", "/", "="]] t0).dico,
    (runOps iops [.create "a" (.list [1, 2, 3]), .expr ["c", "2", "a", "/", "="]] t0).rows) =
    ([("a", 0), ("c", 1)], [[1, 2 / 1], [2, 2 / 2], [3, 2 / 3]]) := by decide +kernel
/-- operators `% ^ <`, a shift and a function call in one expression: `c = ABS{a} % 3 + (a ^ 2) + (a < 2) + (a >> 2)` -/
example : (runOps iops [.create "a" (.list [1, 2, 3]),
    .expr ["c", "ABS", "a", "@", "3", "%", "a", "2", "^", "+", "a", "2", "<", "+", "a", "2", "&", "+", "="]] t0).rows =
    [[1, 1 + 1 + 1 + 2], [2, 2 + 4 + 0 + 3], [3, 0 + 9 + 0 + 1]] := by decide +kernel
/-- with a feature whose name is the empty string the purge works like for any other name (fix 06982f0; `af[0]` used
to raise IndexError there and `#0` stayed listed) -/
example : ((trace iops [.create "" (.scalar 5), .create "a" (.scalar 1), .expr ["c", "a", "2", "+", "="]] t0).map
    (fun r => (r.1.toOption.isSome, r.2.dico.map Prod.fst))) =
    [(true, [""]), (true, ["", "a"]), (true, ["", "a", "c"])] := by decide +kernel
/-- a short list initialiser (fix 2976f2b): refused, the track as it was; the next call works on an aligned table -/
example : ((trace iops [.create "a" (.list [1, 2]), .setItem "b" (.list [7]), .create "a" (.list [1, 2, 3])] t0).map
    (fun r => (r.1.toOption.isSome, r.2.dico, r.2.rows))) =
    [(false, [], [[], [], []]), (false, [], [[], [], []]), (true, [("a", 0)], [[1], [2], [3]])] := by decide +kernel
/-- a carried table: the track built by `extract` / `copy` / `+` from columns `a`, `N` is aligned -/
example : Inv 2 (mkSt [("a", [1, 2]), ("N", [3, 4])] [10, 11] [20, 22] [30, 33] [1000, 1001] : St Int) :=
  (carried_table_aligned [("a", [1, 2]), ("N", [3, 4])] [10, 11] [20, 22] [30, 33] [1000, 1001]
    (by decide) (by decide) rfl rfl rfl).1
/-- a feature named `N` is read through every path as what was written under it, not as a coordinate -/
example : (getObsC iops "N" 1 (mkSt [("a", [1, 2]), ("N", [3, 4])] [10, 11] [20, 22] [30, 33] [1000, 1001] : St Int)).1.toOption
    = some 4 := by decide +kernel

end TV.C01
