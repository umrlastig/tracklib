import TracklibVerif.Lemmas.FeaturesKeep
import TracklibVerif.Props.C01World
/-! # C01 — the list forms of `Track.operate`

Property theorems only. `Model/FeaturesCall.lean`: the list form of a void operator family is one `execute` per position
(`stepList`), the list form of a value-returning unary / binary operator raises TypeError before touching anything
(`Call.refused`). `call` is one call of the API in any of these forms. L5 (`call_keeps_listed`, lemmas in
`Lemmas/FeaturesKeep.lean`): no call but the deleting ones unlists a feature. -/
set_option linter.unusedSectionVars false
namespace TV.C01
open TV.Features
variable {V : Type} [Inhabited V] {n : Nat}


/-- L1: every call of the API in any form — single, list form of a void family (stopped by the first exception or not),
refused list form — keeps the table aligned and does on it exactly what it does on the name ↦ column specification. -/
theorem call_refines (o : Ops V) (c : Call V) (st : St V) (h : Inv n st) :
    Inv n (call o c st).2 ∧ call o c (abs st) = ((call o c st).1, abs (call o c st).2) := by
  obtain ⟨h1, h2, _⟩ := gsim_call (I := Inv n) (ab := abs) o c st h
  exact ⟨h1, h2⟩

/-- L2: the same on a heap of `Obs` objects, for a track of pairwise distinct objects: the call does what it does on the
table the track shows, the track stays such a track, objects outside it are untouched. -/
theorem heap_call_refines (o : Ops V) (c : Call V) (w : Wd V) (h : GoodTrack n w) :
    GoodTrack n (call o c w).2 ∧ call o c (view w) = ((call o c w).1, view (call o c w).2) ∧
    (call o c w).2.ids = w.ids ∧ ∀ id, id ∉ w.ids → (call o c w).2.heap[id]? = w.heap[id]? := by
  obtain ⟨hg, he, _⟩ := gsim_call (I := WGood n w.heap w.ids) (ab := view) o c w h.wgood
  exact ⟨hg.good, he, hg.ids, hg.other⟩

def touchedC : Call V → String → Prop
  | .one op, m => touched op m
  | .list ops, m => ∃ op ∈ ops, touched op m
  | .refused, _ => False

/-- L3 (no side effects): for a call in any form, returning or raising, a name that none of its positions designates
reads as before — feature, coordinate, `t`, `idx` — and is listed afterwards iff it was listed before. -/
theorem call_frame (o : Ops V) (c : Call V) (st : St V) (h : Inv n st) (m : String) (hm : ¬ touchedC c m) :
    read o (call o c st).2 m = read o st m ∧ (m ∈ names (call o c st).2 ↔ m ∈ names st) := by
  refine reads_kept (gsim_call o c) o h ?_ m hm
  cases c with
  | one op => exact frame_step o op (abs st)
  | list ops => exact frame_stepList o ops (abs st)
  | refused => exact Same.refl _ _

/-- L4: the list form IS the history of its single calls, cut after the first one that raises: it returns nothing when
all return, else it raises what that call raises; the state is the state of that history. -/
theorem list_form_is_history {σ : Type} [Tbl σ V] (o : Ops V) (ops : List (Op V)) (s : σ) :
    ∃ k, k ≤ ops.length ∧ (stepList o ops s).2 = runOps o (ops.take k) s ∧
      (((stepList o ops s).1 = .ok .none ∧ k = ops.length ∧ ∀ r ∈ trace o ops s, ∃ x, r.1 = .ok x) ∨
       (∃ e op, (stepList o ops s).1 = .error e ∧ ops[k - 1]? = some op ∧ 0 < k ∧
          (step o op (runOps o (ops.take (k - 1)) s)).1 = .error e)) := by
  induction ops generalizing s with
  | nil => exact ⟨0, Nat.le_refl _, rfl, .inl ⟨rfl, rfl, fun r hr => by simp [trace] at hr⟩⟩
  | cons op rest ih =>
    cases hst : step o op s with
    | mk r s1 =>
      have hrun : ∀ l : List (Op V), runOps o (op :: l) s = runOps o l s1 := by
        intro l; simp only [runOps, List.foldl_cons, hst]
      cases r with
      | error e =>
        have hbind : stepList o (op :: rest) s = (.error e, s1) := bind_of_error hst
        refine ⟨1, by simp, ?_, .inr ⟨e, op, by rw [hbind], by simp, by omega, ?_⟩⟩
        · rw [hbind]; simp [runOps, hst]
        · simp [runOps, hst]
      | ok x =>
        have hbind : stepList o (op :: rest) s = stepList o rest s1 := bind_of_ok hst
        obtain ⟨k, hk, hs, hcase⟩ := ih s1
        refine ⟨k + 1, by simpa using hk, by rw [hbind, hs, List.take_succ_cons, hrun], ?_⟩
        rcases hcase with ⟨h1, h2, h3⟩ | ⟨e, op', h1, h2, h3, h4⟩
        · refine .inl ⟨by rw [hbind, h1], by simp [h2], ?_⟩
          intro r hr
          simp only [trace, List.mem_cons] at hr
          rcases hr with rfl | hr
          · exact ⟨x, by rw [hst]⟩
          · rw [hst] at hr; exact h3 r hr
        · refine .inr ⟨e, op', by rw [hbind, h1], ?_, by omega, ?_⟩
          · rw [Nat.add_sub_cancel]
            have : k = (k - 1) + 1 := by omega
            rw [this, List.getElem?_cons_succ]; exact h2
          · rw [Nat.add_sub_cancel]
            have : k = (k - 1) + 1 := by omega
            rw [this, List.take_succ_cons, hrun]; exact h4

/-- a list form of two positions, the second of which raises (unknown input): the first position's output stays, the
second's output was created and holds zeros, the call raises -/
example : ((call iops (.list [.unaryVoid .integrator "a" (some "c"), .unaryVoid .integrator "zz" (some "d")])
      (runOps iops [.create "a" (.list [1, 2, 3])] t0)).1.toOption.isSome,
    (call iops (.list [.unaryVoid .integrator "a" (some "c"), .unaryVoid .integrator "zz" (some "d")])
      (runOps iops [.create "a" (.list [1, 2, 3])] t0)).2.rows) = (false, [[1, 0, 0], [2, 2, 0], [3, 5, 0]]) := by decide +kernel

/-- L5 and L6 in one statement: a call in any form on an aligned table, returning or raising, unlists no name outside
`Call.mayUnlist`; a deleting call is taken on a track with at least one observation. -/
theorem call_unlists (o : Ops V) (c : Call V) (st : St V) (h : Inv n st) (hn : c.deletes = true → n ≠ 0) (m : String)
    (hm : m ∈ names st) (hx : ¬ c.mayUnlist m) : m ∈ names (call o c st).2 := by
  obtain ⟨_, href⟩ := call_refines o c st h
  have hk := unl_call o c hn h m
  rw [href] at hk
  rw [← names_abs] at hm ⊢
  unfold anames at hm ⊢
  rw [← lookup_isSome_iff] at hm ⊢
  exact hk hm hx

/-- L5 (nothing disappears behind the caller's back): a call in any form none of whose positions is a deleting call —
`removeAnalyticalFeature` / `'#DELETE'`, `computeAbsCurv` (which drops its intermediate `ds`), `operate(str)` (re-assignment is
get / remove / create, and the `#` names are purged) — unlists NOTHING, whether it returns or raises: create, update, bracket
assignment, cell writes, addAnalyticalFeature, every operator object (an operator whose arithmetic fails mid-way — `sqrt` of a
negative, `1/0` — with an output feature that already exists included), `estimate_speed`, `segmentation`, the list forms. Every
feature listed before the call is listed after it (and, the table being aligned by L1, reads as a full column). This is the
statement the seeded change C01-9 broke (`Apply.execute` removing its output column when the cell function raises). For the three
deleting calls see L6 (`call_unlists_only_designated`). -/
theorem call_keeps_listed (o : Ops V) (c : Call V) (st : St V) (h : Inv n st) (hc : c.deletes = false) (m : String)
    (hm : m ∈ names st) : m ∈ names (call o c st).2 :=
  call_unlists o c st h (fun hd => by rw [hc] at hd; cases hd) m hm
    (fun hx => by have := Call.mayUnlist_deletes hx; rw [hc] at this; cases this)

/-- `operate(Operator.SQRT, "a", "b")` with `b` listed and a negative value in `a`: the call raises (the hypothesis of L5 holds:
it is not a deleting call), `b` stays listed, the table stays aligned and `b` still reads what was last written -/
example : Call.deletes (.one (.fnVoid "SQRT" "a" (some "b")) : Call Int) = false := rfl
example : ((call iops (.one (.fnVoid "SQRT" "a" (some "b")))
      (runOps iops [.create "a" (.list [4, -1, 9]), .create "b" (.list [1, 2, 3])] t0)).1.toOption.isSome,
    (call iops (.one (.fnVoid "SQRT" "a" (some "b")))
      (runOps iops [.create "a" (.list [4, -1, 9]), .create "b" (.list [1, 2, 3])] t0)).2.dico,
    (call iops (.one (.fnVoid "SQRT" "a" (some "b")))
      (runOps iops [.create "a" (.list [4, -1, 9]), .create "b" (.list [1, 2, 3])] t0)).2.rows) =
    (false, [("a", 0), ("b", 1)], [[4, 1], [-1, 2], [9, 3]]) := by decide +kernel

/-- L6 (the deleting calls delete only what they are meant to delete; completes L5 to EVERY call form): on a track with at
least one observation, a call in any form — single, list form, refused; returning or raising — unlists no name outside
`Call.mayUnlist`: the argument of `removeAnalyticalFeature` / `'#DELETE'`; `ds` for `computeAbsCurv` (so a user's `abs_curv`,
and every other name, stays); for `operate(str)` only names starting with `#` (the evaluator's temporaries and `#output`) —
in particular the left-hand side of a re-assignment `a = <expr>`, which `__applyOperation` removes and re-creates, IS listed
afterwards, also when a later operator of the expression or the purge raises; nothing at all for any other call. The reserved
names (`x y z t timestamp idx`) are excepted for `operate(str)`: the API never lists them (`__controlName`), the alignment
invariant alone does not say so. `n ≠ 0` is the property's quantifier (tracks of every size ≥ 1): on a track emptied of its
observations whose dict still lists features, `a=b` does unlist `a` (remove succeeds, create refuses an empty track). -/
theorem call_unlists_only_designated (o : Ops V) (c : Call V) (st : St V) (h : Inv n st) (hn : n ≠ 0) (m : String)
    (hm : m ∈ names st) (hx : ¬ c.mayUnlist m) : m ∈ names (call o c st).2 :=
  call_unlists o c st h (fun _ => hn) m hm hx

/-- L6 for `operate(str)`: every listed name that does not start with `#` (and is not a reserved word) is listed after the
call, returning or raising — re-assigned left-hand sides included -/
theorem expr_unlists_only_hash (o : Ops V) (rpn : List String) (st : St V) (h : Inv n st) (hn : n ≠ 0) (m : String)
    (hm : m ∈ names st) (hh : isHash m = false) (hr : reserved m = false) :
    m ∈ names (step o (.expr rpn) st).2 :=
  call_unlists_only_designated o (.one (.expr rpn)) st h hn m hm (by
    intro hx
    rcases hx with hx | hx
    · rw [hh] at hx; cases hx
    · rw [hr] at hx; cases hx)

/-- L6 for `computeAbsCurv`: every listed name but `ds` is listed after the call, returning or raising -/
theorem absCurv_unlists_only_ds (o : Ops V) (st : St V) (h : Inv n st) (hn : n ≠ 0) (m : String)
    (hm : m ∈ names st) (hne : m ≠ "ds") : m ∈ names (step o .absCurv st).2 :=
  call_unlists_only_designated o (.one .absCurv) st h hn m hm hne

/-- `operate("a=b+zz")` with `a`, `b` listed and `zz` unknown: the call raises after nothing was written, `a` and `b` stay;
`operate("a=b+b")`: `a` is removed and re-created (it moves to the last column) and reads the sum, no `#` name remains -/
example : ((call iops (.one (.expr ["a", "b", "b", "+", "="]))
      (runOps iops [.create "a" (.list [1, 2, 3]), .create "b" (.list [4, 5, 6])] t0)).1.toOption.isSome,
    (call iops (.one (.expr ["a", "b", "b", "+", "="]))
      (runOps iops [.create "a" (.list [1, 2, 3]), .create "b" (.list [4, 5, 6])] t0)).2.dico,
    (call iops (.one (.expr ["a", "b", "b", "+", "="]))
      (runOps iops [.create "a" (.list [1, 2, 3]), .create "b" (.list [4, 5, 6])] t0)).2.rows) =
    (true, [("b", 0), ("a", 1)], [[4, 8], [5, 10], [6, 12]]) := by decide +kernel
example : ¬ Call.mayUnlist (.one (.expr ["a", "b", "b", "+", "="]) : Call Int) "a" := by
  intro h; rcases h with h | h <;> revert h <;> decide +kernel

example : ((call iops (.one (.expr ["a", "b", "zz", "+", "="]))
      (runOps iops [.create "a" (.list [1, 2, 3]), .create "b" (.list [4, 5, 6])] t0)).1.toOption.isSome,
    (call iops (.one (.expr ["a", "b", "zz", "+", "="]))
      (runOps iops [.create "a" (.list [1, 2, 3]), .create "b" (.list [4, 5, 6])] t0)).2.dico,
    (call iops (.one (.expr ["a", "b", "zz", "+", "="]))
      (runOps iops [.create "a" (.list [1, 2, 3]), .create "b" (.list [4, 5, 6])] t0)).2.rows) =
    (false, [("a", 0), ("b", 1)], [[1, 4], [2, 5], [3, 6]]) := by decide +kernel
example : ¬ Call.mayUnlist (.one .absCurv : Call Int) "abs_curv" := by
  show ¬ ("abs_curv" = "ds"); decide

end TV.C01
