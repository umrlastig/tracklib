import TracklibVerif.Props.C15Ext
import TracklibVerif.Lemmas.Filter
/-! C15 over `Ext α`: `filter_seq(track, weights)` with a weight list whose total is 0 or NaN. Such a list normalises to non-finite
values and stays non-finite however often it is divided by its total again (`normalise_nonfin_all_nan`), so one
`operate` call writes NaN at every filtered index (`operateListX_nonfin`), and so does every turn of the loop over the coordinates
(`seqLoopListX_nonfin`); `filterSeq_zero_total_list` is the loop on `x`, `y`, `z`. -/
namespace TV.C15
open TV.Filter
set_option linter.unusedSectionVars false

section frontX
variable {α : Type} [Add α] [Mul α] [Div α] [OfNat α 0] [LT α] [DecidableLT α]

theorem toOpt_ofOpt (o : Option (Ext α)) (h : o ≠ some Ext.nan) : toOpt (ofOpt o) = o := by
  cases o with
  | none => rfl
  | some y => cases y <;> first | rfl | exact absurd rfl h

theorem anySample_nanfree (v : List (Option (Ext α))) (hv : ∀ o ∈ v, o ≠ none ∧ o ≠ some Ext.nan) (k : List (Ext α)) (D : Nat)
    (hD : D < k.length) (i : Nat) (hi : i < v.length) : anySample (toSamples (v.map ofOpt)) D i k 0 = true := by
  have hmem := hv v[i] (List.getElem_mem _)
  cases hvi : v[i] with
  | none => exact absurd hvi hmem.1
  | some y =>
    have hy : y ≠ Ext.nan := fun h => hmem.2 (by rw [hvi, h])
    have : (toSamples (v.map ofOpt))[i]? = some (some y) := by
      unfold toSamples
      rw [List.map_map, List.getElem?_map, List.getElem?_eq_getElem hi, hvi]
      cases y <;> first | rfl | exact absurd rfl hy
    -- the centre of the window reads `v[i]`
    exact (anySample_iff_exists_mem _ k D i).mpr ⟨(k[D], y),
      (mem_window _ k D i _).mpr ⟨D, List.getElem?_eq_getElem hD, by omega, by rw [Nat.add_sub_cancel]; exact this⟩⟩

/-- a non-empty list of non-finite weights has a non-finite total, and `kernel[i] /= norm` leaves only NaN -/
theorem normalise_nonfin_all_nan (k : List (Ext α)) (hne : k ≠ []) (hk : ∀ w ∈ k, w.isFin = false) :
    ∀ w ∈ normalise k, w = Ext.nan := by
  obtain ⟨a, ha⟩ := List.exists_mem_of_ne_nil k hne
  have htot := foldl_add_nonfin_of_mem k a ha (hk a ha) (0 : Ext α)
  exact forall_mem_normalise k (fun x hx => Ext.div_nonfin _ _ (hk x hx) htot)

/-- one call `track.operate(FILTER, af, weights, "temp")` with weights that normalise to non-finite values, every window reading a sample:
the list is left normalised, `temp` holds the copied boundary values and NaN at every filtered index -/
theorem operateListX_nonfin (t : Sigs (Ext α)) (afIn : String) (k : List (Ext α)) (hin : afIn ≠ "temp")
    (hnf : ∀ w ∈ normalise k, w.isFin = false) (hodd : k.length % 2 = 1) (hts : trackSize t ≠ 0)
    (v : List (Option (Ext α))) (hget : getSig t afIn = some v) (hD : k.length / 2 ≤ v.length)
    (hall : ∀ i, i < v.length → anySample (toSamples (v.map ofOpt)) (k.length / 2) i k 0 = true) :
    ∃ out, operateListX t afIn k "temp" = .ok (normalise k, out, setSig (createAF t "temp") "temp" (out.map toOpt)) ∧
      out.length = v.length ∧
      ∀ i, i < v.length →
        ((k.length / 2 ≤ i ∧ i < v.length - k.length / 2) → out[i]? = some .nan) ∧
        ((i < k.length / 2 ∨ v.length - k.length / 2 ≤ i) → out[i]? = (v.map ofOpt)[i]?) := by
  obtain ⟨_, h2⟩ := nonfinite_weights_nan (v.map ofOpt) (normalise k) false true (by rw [normalise_length]; exact hodd) hnf
  rw [normalise_length, List.length_map] at h2
  have hall' : ∀ i, i < v.length → anySample (toSamples (v.map ofOpt)) (k.length / 2) i (normalise k) 0 = true := by
    intro i hi
    rw [normalise_eq, anySample_map]
    exact hall i hi
  obtain ⟨out, ho, hl, hi⟩ := (h2 hall').2 (Or.inr hD)
  refine ⟨out, ?_, hl, ?_⟩
  · unfold operateListX
    have e1 : ((normalise k).length % 2 == 0) = false := by rw [normalise_length]; simp [hodd]
    have e2 : reservedName "temp" = false := by decide
    have e3 : (trackSize t == 0) = false := by simpa using hts
    have hget' : getSig (createAF t "temp") afIn = some v := by rw [getSig_createAF_other _ _ _ hin]; exact hget
    simp only [e1, e2, e3, Bool.false_eq_true, if_false, hget', ho]
  · intro i hi'
    obtain ⟨a, b⟩ := hi i hi'
    exact ⟨fun h => a (Or.inr h), b rfl⟩

theorem seqLoopListX_step (t : Sigs (Ext α)) (af : String) (rest : List String) (k : List (Ext α))
    (haf : af = "x" ∨ af = "y" ∨ af = "z")
    (hnf : ∀ w ∈ normalise k, w.isFin = false) (hodd : k.length % 2 = 1) (hts : trackSize t ≠ 0)
    (v : List (Option (Ext α))) (hget : getSig t af = some v) (hD : k.length / 2 ≤ v.length)
    (hv : ∀ o ∈ v, o ≠ none ∧ o ≠ some Ext.nan) :
    ∃ o : List (Option (Ext α)),
      seqLoopListX (af :: rest) k t = seqLoopListX rest (normalise k) (stepSig t af o) ∧
      o.length = v.length ∧
      ∀ i, i < v.length →
        ((k.length / 2 ≤ i ∧ i < v.length - k.length / 2) → o[i]? = some none) ∧
        ((i < k.length / 2 ∨ v.length - k.length / 2 ≤ i) → o[i]? = v[i]?) := by
  obtain ⟨out, hop, hl, hi⟩ := operateListX_nonfin t af k (coord_ne_temp haf) hnf hodd hts v hget hD
    (fun i hi => anySample_nanfree v hv k _ (by omega) i hi)
  refine ⟨out.map toOpt, ?_, by rw [List.length_map]; exact hl, ?_⟩
  · rw [seqLoopListX, if_pos (by simpa using haf)]
    simp only [hop, setSig_createAF]
    unfold stepSig
    rw [if_pos haf]
  · intro i hi'
    obtain ⟨a, b⟩ := hi i hi'
    refine ⟨fun h => ?_, fun h => ?_⟩
    · rw [List.getElem?_map, a h]; rfl
    · rw [List.getElem?_map, b h, List.getElem?_map, List.getElem?_eq_getElem hi']
      simp only [Option.map_some]
      rw [toOpt_ofOpt _ (hv _ (List.getElem_mem _)).2]

/-- **The loop of `filter_seq` over coordinates with a weight list that normalises to non-finite values** (a total equal to 0 or NaN), for any
list of distinct coordinates holding no NaN: the loop succeeds, the list has been divided by its total once per coordinate, every listed
coordinate keeps its first and last `D` values and is NaN in between, and nothing else but `temp` is touched. The weights stay non-finite
from turn to turn (`normalise_nonfin_all_nan`): after the first they are all NaN. -/
theorem seqLoopListX_nonfin (N : Nat) (hodd : N % 2 = 1) :
    ∀ (dims : List String) (k : List (Ext α)) (t : Sigs (Ext α)), k.length = N → (∀ w ∈ normalise k, w.isFin = false) →
      dims.Nodup → (∀ d ∈ dims, d = "x" ∨ d = "y" ∨ d = "z") → trackSize t ≠ 0 →
      (∀ d ∈ dims, ∃ v, getSig t d = some v ∧ N / 2 ≤ v.length ∧ ∀ o ∈ v, o ≠ none ∧ o ≠ some Ext.nan) →
      ∃ t', seqLoopListX dims k t = .ok (normaliseN k dims.length, t') ∧
        (∀ d ∈ dims, ∃ v out, getSig t d = some v ∧ getSig t' d = some out ∧ out.length = v.length ∧
          ∀ i, i < v.length →
            ((N / 2 ≤ i ∧ i < v.length - N / 2) → out[i]? = some none) ∧
            ((i < N / 2 ∨ v.length - N / 2 ≤ i) → out[i]? = v[i]?)) ∧
        (∀ nm, nm ∉ dims → nm ≠ "temp" → getSig t' nm = getSig t nm) := by
  intro dims
  induction dims with
  | nil =>
    intro k t _ _ _ _ _ _
    exact ⟨t, by rw [seqLoopListX]; rfl, (fun _ h => nomatch h), (fun _ _ _ => rfl)⟩
  | cons af rest ih =>
    intro k t hk hnf hnd hxyz hsize hall
    subst hk
    obtain ⟨v, hv, hD, hnan⟩ := hall af List.mem_cons_self
    rw [List.nodup_cons] at hnd
    have hc := hxyz af List.mem_cons_self
    obtain ⟨o, hstep, hlo, ho⟩ := seqLoopListX_step t af rest k hc hnf hodd hsize v hv hD hnan
    have hother : ∀ d ∈ rest, getSig (stepSig t af o) d = getSig t d := fun d hd =>
      getSig_stepSig_other _ _ _ _ (fun e => hnd.1 (e ▸ hd)) (coord_ne_temp (hxyz d (List.mem_cons_of_mem _ hd)))
    have hne : normalise k ≠ [] := fun h => by
      have := normalise_length k; rw [h] at this; simp at this; omega
    obtain ⟨t', h1, h2, h3⟩ := ih (normalise k) (stepSig t af o) (normalise_length k)
      (nan_nonfin_of_all_nan _ (normalise_nonfin_all_nan _ hne hnf)) hnd.2
      (fun d hd => hxyz d (List.mem_cons_of_mem _ hd))
      (by rw [trackSize_stepSig t af v o hv hlo (coord_ne_temp hc)]; exact hsize)
      (fun d hd => by
        obtain ⟨u, hu, hr⟩ := hall d (List.mem_cons_of_mem _ hd)
        exact ⟨u, by rw [hother d hd]; exact hu, hr⟩)
    refine ⟨t', by rw [hstep]; exact h1, fun d hd => ?_, fun nm hnm hnt => ?_⟩
    · rcases List.mem_cons.mp hd with rfl | hd
      · exact ⟨v, o, hv, by rw [h3 d hnd.1 (coord_ne_temp hc), getSig_stepSig_same], hlo, ho⟩
      · obtain ⟨u, out, hu, hr⟩ := h2 d hd
        exact ⟨u, out, by rw [← hother d hd]; exact hu, hr⟩
    · rw [h3 nm (fun h => hnm (List.mem_cons_of_mem _ h)) hnt,
        getSig_stepSig_other _ _ _ _ (fun h : nm = af => hnm (h ▸ List.mem_cons_self)) hnt]

/-- **`filter_seq(track, weights)` with a weight list whose total is 0 or NaN** — e.g. the derivative kernel `[1, 0, -1]` — on a track of at least
`D` points whose coordinates hold no NaN: the call succeeds; the caller's list is left as `[nan, …, nan]` (it is divided by its total at every
dimension: `[inf, nan, -inf]` after x, all NaN after y); and EVERY coordinate has become NaN at every filtered index, its first and last `D`
values being kept. Nothing is raised: the user gets a track of NaN. -/
theorem filterSeq_zero_total_list (t : Sigs (Ext α)) (k : List (Ext α)) (hodd : k.length % 2 = 1) (h1 : k.length ≠ 1)
    (htot : (∃ z, k.foldl (· + ·) 0 = Ext.fin z ∧ ¬ 0 < z ∧ ¬ z < 0) ∨ k.foldl (· + ·) 0 = Ext.nan)
    (vx vy vz : List (Option (Ext α))) (hx : getSig t "x" = some vx) (hy : getSig t "y" = some vy) (hz : getSig t "z" = some vz)
    (hly : vy.length = vx.length) (hlz : vz.length = vx.length) (hlen : k.length / 2 ≤ vx.length) (hne : vx.length ≠ 0)
    (hnan : ∀ v ∈ [vx, vy, vz], ∀ o ∈ v, o ≠ none ∧ o ≠ some Ext.nan) :
    ∃ t', filterSeqListX t k ["x", "y", "z"] = .ok (List.replicate k.length Ext.nan, t') ∧
      ∀ d v, (d, v) ∈ [("x", vx), ("y", vy), ("z", vz)] →
        ∃ out, getSig t' d = some out ∧ out.length = v.length ∧
          ∀ i, i < v.length →
            ((k.length / 2 ≤ i ∧ i < v.length - k.length / 2) → out[i]? = some none) ∧
            ((i < k.length / 2 ∨ v.length - k.length / 2 ≤ i) → out[i]? = v[i]?) := by
  have hnf1 := normalise_zero_or_nan_total k htot
  have hpos : ∀ l : List (Ext α), l.length = k.length → l ≠ [] := fun l hl h => by rw [h] at hl; simp at hl; omega
  have hnan2 := normalise_nonfin_all_nan _ (hpos _ (normalise_length k)) hnf1
  have hnan3 := normalise_nonfin_all_nan _ (hpos _ (by rw [normalise_length, normalise_length])) (nan_nonfin_of_all_nan _ hnan2)
  have hk3 : normaliseN k 3 = List.replicate k.length Ext.nan :=
    List.eq_replicate_iff.mpr ⟨by simp only [normaliseN, normalise_length], hnan3⟩
  obtain ⟨t', h1', h2, _⟩ := seqLoopListX_nonfin k.length hodd ["x", "y", "z"] k t rfl hnf1 (by decide)
    (fun d hd => by simpa using hd) (by rw [trackSize_of_getSig t vx hx]; exact hne)
    (fun d hd => by
      simp only [List.mem_cons, List.not_mem_nil, or_false] at hd
      rcases hd with rfl | rfl | rfl
      · exact ⟨vx, hx, hlen, hnan vx (by simp)⟩
      · exact ⟨vy, hy, by rw [hly]; exact hlen, hnan vy (by simp)⟩
      · exact ⟨vz, hz, by rw [hlz]; exact hlen, hnan vz (by simp)⟩)
  refine ⟨t', ?_, fun d v hmem => ?_⟩
  · unfold filterSeqListX
    rw [if_neg (by simpa using h1), h1', ← hk3]
    rfl
  · simp only [List.mem_cons, Prod.mk.injEq, List.not_mem_nil, or_false] at hmem
    have hd : d ∈ ["x", "y", "z"] ∧ getSig t d = some v := by
      rcases hmem with ⟨rfl, rfl⟩ | ⟨rfl, rfl⟩ | ⟨rfl, rfl⟩
      · exact ⟨by simp, hx⟩
      · exact ⟨by simp, hy⟩
      · exact ⟨by simp, hz⟩
    obtain ⟨u, out, hu, hout, hr⟩ := h2 d hd.1
    rw [hd.2] at hu
    cases hu
    exact ⟨out, hout, hr⟩

/-- the derivative kernel `[1, 0, -1]` on a track of five points: the three coordinates are NaN at the filtered indices, the list is `[nan, nan, nan]` -/
example : (filterSeqListX (α := Int)
      [("x", [some (.fin 1), some (.fin 2), some (.fin 3), some (.fin 4), some (.fin 5)]),
       ("y", [some (.fin 1), some (.fin 4), some (.fin 9), some (.fin 16), some (.fin 25)]),
       ("z", [some (.fin 0), some (.fin 0), some (.fin 0), some (.fin 0), some (.fin 0)])]
      [.fin 1, .fin 0, .fin (-1)] ["x", "y", "z"]) =
    .ok ([.nan, .nan, .nan],
      [("x", [some (.fin 1), none, none, none, some (.fin 5)]),
       ("y", [some (.fin 1), none, none, none, some (.fin 25)]),
       ("z", [some (.fin 0), none, none, none, some (.fin 0)]),
       ("temp", [some (.fin 0), none, none, none, some (.fin 0)])]) := by decide +kernel

end frontX
end TV.C15
