import TracklibVerif.Lemmas.Seq
import TracklibVerif.Lemmas.SeqSearch
import TracklibVerif.Lemmas.SeqFeat
import TracklibVerif.Lemmas.SeqRadix
import TracklibVerif.Lemmas.SeqSession
import TracklibVerif.Lemmas.SeqSlice
import TracklibVerif.Lemmas.ObsTime
/-! # C04 — sequence operations on a track select exactly the designated observations

Property theorems only (helper lemmas: `Lemmas/Seq*.lean`); continued in `Props/C04Slice.lean` (slices with a negative
step, what the code does where the arguments designate no observation) and `Props/C04More.lean` (`reverse`, `makeOdd`,
`makeEven`, `setObs`, `getFirstObs`, `getLastObs`, `track / n`, `removeObsList` with timestamps; model `Model/SeqMore.lean`).
The model is `Model/Seq.lean` (the operators) and `Model/SeqOps.lean` (reads by name, the remaining entry points, `sortRadix`, operators in sequence);
observations are opaque records `(tag, time, feature values)`, so "the same observation with its own
position and timestamp" is equality of records; a track carries its feature TABLE, the pairs (name, column),
and "its own feature values" is what the observation reads by name through the table of the track it is in
(`readAF`, section "the feature table is carried over"). Every statement below is for lists of any length.
The model is purely functional: the source track of an operator is an argument that the result does not
replace, so "without modifying the source track" is checked on the real code by the harness (every track of
the pool is dumped after every operation). -/
namespace TV.C04
open TV.Seq
variable {α : Type}

def atIdx (p : Nat → Bool) (l : List α) : List α := (l.zipIdx.filter (fun q => p q.2)).map (·.1)

/-! ## T5 — slicing operators -/

/-- `extract(a, b)` with `b` a valid index returns exactly the observations `a, a+1, …, b`
(both ends included; none when `a > b`), with the feature table (names and columns) of the source. -/
theorem extract_spec (tr : Track) (a b : Nat) (hb : b < tr.pts.length) :
    extract tr a b = some ⟨(tr.pts.drop a).take (b + 1 - a), tr.table⟩ := by
  unfold extract transmitAF
  have e : ((b : Int) + 1 - (a : Int)).toNat = b + 1 - a := by omega
  rw [e, extractLoop_eq _ a (b + 1 - a) (fun _ => by omega)]; rfl

/-- `extractSpanTime(t1, t2)` returns exactly the observations whose timestamp lies in the closed
interval between the two bounds, whichever order the bounds are given in. -/
theorem extractSpanTime_spec (tr : Track) (t1 t2 : Int) :
    extractSpanTime tr t1 t2 =
      ⟨tr.pts.filter (fun o => decide (min t1 t2 ≤ o.time ∧ o.time ≤ max t1 t2)), tr.table⟩ := by
  unfold extractSpanTime transmitAF
  show Track.mk _ _ = Track.mk _ _
  congr 1
  apply List.filter_congr
  intro o _
  rw [Bool.eq_iff_iff]; simp only [Bool.and_eq_true, Bool.not_eq_true', decide_eq_false_iff_not, decide_eq_true_eq]
  omega

/-- `t1 + t2` is the observations of `t1` followed by those of `t2`. Its table is decided by the two lists of
NAMES only: the table of `t1` when they are equal position by position, the empty table otherwise
(different sets, the same names in another order, one side without features). -/
theorem concat_spec (t1 t2 : Track) :
    (concat t1 t2).pts = t1.pts ++ t2.pts ∧
      (concat t1 t2).table = if t1.names = t2.names then t1.table else [] :=
  ⟨rfl, concat_table t1 t2⟩

/-- `track % n` (`n ≥ 1`) keeps exactly the observations at positions `0, n, 2n, …`: it is the
sub-sequence at the positions `≡ 0 (mod n)`, and its `i`-th observation is the source's `(i·n)`-th. -/
theorem decimateStep_spec (tr : Track) (n : Nat) (hn : 1 ≤ n) :
    ∃ r, decimateStep tr n = some r ∧ r.table = tr.table ∧
      r.pts = atIdx (fun j => j % n == 0) tr.pts ∧ ∀ i, r.pts[i]? = tr.pts[i * n]? := by
  refine ⟨⟨stepAux n 0 tr.pts, tr.table⟩, ?_, rfl, ?_, ?_⟩
  · rw [decimateStep_eq_getitemSlice, getitemSlice, pySlice_all_pos tr.pts n hn]; rfl
  · show stepAux n 0 tr.pts = _
    exact stepAux_eq_keepIdx n 0 0 tr.pts (by omega) (by simp)
  · intro i
    show (stepAux n 0 tr.pts)[i]? = _
    rw [stepAux_getElem? n hn]; simp

/-- `track % pattern` keeps exactly the observations whose position `j` has `pattern[j mod len]` true. -/
theorem decimatePattern_spec (tr : Track) (pat : List Bool) (hp : pat ≠ []) :
    decimatePattern tr pat =
      some ⟨atIdx (fun j => pat[j % pat.length]?.getD false) tr.pts, tr.table⟩ := by
  have : pat.isEmpty = false := by cases pat <;> simp_all
  simp only [decimatePattern, this, Bool.false_and, Bool.false_eq_true, if_false, transmitAF]
  rw [patLoop_eq_keepIdx]; rfl

/-- `track > n` drops exactly the first `n` observations (all of them when `n ≥ size`). -/
theorem dropFirst_spec (tr : Track) (n : Nat) : dropFirst tr n = ⟨tr.pts.drop n, tr.table⟩ := by
  simp [dropFirst, pySliceFrom, transmitAF]

/-- `track < n` drops exactly the last `n` observations (all of them when `n ≥ size`; this is the
behaviour after fix 8550bff). -/
theorem dropLast_spec (tr : Track) (n : Nat) :
    dropLast tr n = ⟨tr.pts.take (tr.pts.length - n), tr.table⟩ := by
  unfold dropLast transmitAF
  congr 2
  omega

/-- `removeObsList(tab)` with distinct valid indices (in any order) leaves exactly the observations
whose position is not in `tab`, in order, and returns the number removed. -/
theorem removeByIdx_spec (l : List α) (tab : List Int)
    (hr : ∀ x ∈ tab, 0 ≤ x ∧ x < l.length) (hn : tab.Nodup) :
    removeByIdx l tab = (atIdx (fun j => !tab.contains (j : Int)) l, some tab.length) := by
  exact removeByIdx_nodup l tab hr hn

/-- an index list with a repeated index is refused: nothing is removed and 0 is returned. -/
theorem removeByIdx_refuses_duplicates (l : List α) (tab : List Int) (hn : ¬ tab.Nodup) :
    removeByIdx l tab = (l, some 0) := by rw [removeByIdx_eq, if_neg hn]


/-! ## the feature table is carried over: what every observation of a result reads by name

A track's table maps a feature name to a COLUMN of the observations' value lists (`readAF` =
`getObsAnalyticalFeature(name, i)` = `track[name, i]`). `Carries r s` says: `r` has the table of `s` (same names,
same columns), every observation of `r` is an observation of `s`, and it reads under every name exactly what it
read in `s`. It holds for EVERY argument of the operator (also those that designate nothing). Which
observations the result holds is the subject of the `_spec` theorems above. -/

def Carries (r s : Track) : Prop :=
  r.table = s.table ∧ ∀ (i : Nat) (o : Obs), r.pts[i]? = some o →
    ∃ j : Nat, s.pts[j]? = some o ∧ ∀ nm, readAF r nm (i : Int) = readAF s nm (j : Int)

theorem carries_intro {r s : Track} (ht : r.table = s.table) (hm : ∀ o ∈ r.pts, o ∈ s.pts) : Carries r s := by
  refine ⟨ht, fun i o hi => ?_⟩
  obtain ⟨j, hj⟩ := List.mem_iff_getElem?.mp (hm o (List.mem_of_getElem? hi))
  exact ⟨j, hj, fun nm => readAF_congr ht (hi.trans hj.symm) nm⟩

theorem carries_map {s r : Track} {sel : Option (List Obs)} (h : sel.map (fun p => transmitAF p s) = some r)
    (hm : ∀ p, sel = some p → ∀ o ∈ p, o ∈ s.pts) : Carries r s := by
  obtain ⟨p, hp, rfl⟩ := Option.map_eq_some_iff.mp h
  exact carries_intro rfl (hm p hp)

/-- `extract(a, b)` (any integers for which the code does not raise) -/
theorem extract_carries (tr : Track) (a b : Int) (r : Track) (h : extract tr a b = some r) : Carries r tr :=
  carries_map h (extractLoop_subset tr.pts _ a)

/-- `extractSpanTime(t1, t2)` -/
theorem extractSpanTime_carries (tr : Track) (t1 t2 : Int) : Carries (extractSpanTime tr t1 t2) tr :=
  carries_intro rfl (fun _ ho => (List.mem_filter.mp ho).1)

/-- `extractSpanTime(track)`: the span of the other track's first and last observation -/
theorem extractSpanTrack_spec (tr other : Track) (a b : Obs) (ha : other.pts.head? = some a)
    (hb : other.pts.getLast? = some b) :
    extractSpanTrack tr other = some (extractSpanTime tr a.time b.time) := by
  have hl : 0 < other.pts.length := List.length_pos_iff.mpr (fun e => by rw [e] at ha; cases ha)
  have h0 : bucketOf other.pts.length 0 = some 0 := bucketOf_of hl (Or.inl rfl)
  have h1 : bucketOf other.pts.length (-1) = some (other.pts.length - 1) := bucketOf_of (by omega) (Or.inr (by omega))
  simp only [extractSpanTrack, pyGet_eq, h0, h1, Option.bind_some, ← List.head?_eq_getElem?, ← List.getLast?_eq_getElem?, ha, hb]

theorem extractSpanTrack_carries (tr other r : Track) (h : extractSpanTrack tr other = some r) : Carries r tr := by
  unfold extractSpanTrack at h
  split at h
  · cases h; exact extractSpanTime_carries tr _ _
  · cases h

/-- `track[a:b:c]` -/
theorem getitemSlice_carries (tr : Track) (a b c : Option Int) (r : Track) (h : getitemSlice tr a b c = some r) :
    Carries r tr :=
  carries_map h (pySlice_subset tr.pts a b c)

/-- `track % n` is `track[::n]` -/
theorem decimateStep_carries (tr : Track) (n : Int) (r : Track) (h : decimateStep tr n = some r) : Carries r tr :=
  getitemSlice_carries tr none none (some n) r ((decimateStep_eq_getitemSlice tr n).symm.trans h)

/-- `track % pattern` -/
theorem decimatePattern_carries (tr : Track) (pat : List Bool) (r : Track) (h : decimatePattern tr pat = some r) :
    Carries r tr := by
  unfold decimatePattern at h
  split at h
  · cases h
  · cases h; exact carries_intro rfl (patLoop_subset pat 0 tr.pts)

/-- `track > n` -/
theorem dropFirst_carries (tr : Track) (n : Int) : Carries (dropFirst tr n) tr :=
  carries_intro rfl (pySliceFrom_subset tr.pts n)

/-- `track < n` -/
theorem dropLast_carries (tr : Track) (n : Int) : Carries (dropLast tr n) tr :=
  carries_intro rfl (fun _ ho => List.mem_of_mem_take ho)

/-- `sort()` (any permutation `argsort` returns) -/
theorem sort_carries (tr : Track) (perm : List Nat) (r : Track) (h : sortWith perm tr = some r) : Carries r tr :=
  carries_map h (gather_subset tr.pts perm)

/-- `removeObsList(tab)` (hence `removeObs`, `removeFirstObs`, `removeLastObs`, `popObs`), any index list -/
theorem removeObsList_carries (tr : Track) (tab : List Int) :
    Carries ⟨(removeByIdx tr.pts tab).1, tr.table⟩ tr :=
  carries_intro rfl (removeByIdx_subset tr.pts tab)

/-- `insertObs(obs)`, `insertObs(obs, i)`, `addObs(obs)`: the table is unchanged, the old observations read as
before, the new one reads its own value list through the track's table -/
theorem insert_carries (tr : Track) (o : Obs) (r : Track)
    (h : insertChrono tr o = some r ∨ (∃ i, r = insertAt tr o i) ∨ r = addObs tr o) :
    r.table = tr.table ∧ ∀ (i : Nat) (x : Obs), r.pts[i]? = some x →
      (x = o ∧ ∀ nm, readAF r nm (i : Int) = o.read tr.table nm) ∨
      (∃ j : Nat, tr.pts[j]? = some x ∧ ∀ nm, readAF r nm (i : Int) = readAF tr nm (j : Int)) := by
  have key := insert_mem h
  refine ⟨key.1, ?_⟩
  intro i x hi
  rcases key.2 x (List.mem_of_getElem? hi) with e | hm
  · left
    refine ⟨e, fun nm => ?_⟩
    rw [readAF_of_get hi nm, key.1, e]
  · right
    obtain ⟨j, hj⟩ := List.mem_iff_getElem?.mp hm
    exact ⟨j, hj, fun nm => readAF_congr key.1 (hi.trans hj.symm) nm⟩

/-- every table the public interface builds is well-formed (distinct names, the column of a name is its rank): the
empty table is, `createAnalyticalFeature` and `removeAnalyticalFeature` keep it so, and every operator of this
file copies the table of its source. This is the hypothesis of `concat_carries` and of `Good`. -/
theorem table_wellformed (tr : Track) (h : WF tr.table) (nm : String) :
    WF ([] : Table) ∧ (∀ vals r, createAF tr nm vals = some r → WF r.table) ∧
      (∀ r, removeAF tr nm = some r → WF r.table) :=
  ⟨wf_nil, fun vals r hc => createAF_wf tr nm vals r h hc, fun r hr => removeAF_wf tr nm r h hr⟩

/-- `t1 + t2` when the two tracks list the same names, both tables being well-formed (distinct names, the column
of a name is its rank: what `createAnalyticalFeature` / `removeAnalyticalFeature` build, `createAF_wf`,
`removeAF_wf`): the sum has that table and EVERY observation — those of `t2` too — reads under every name what
it read in its own track. -/
theorem concat_carries (t1 t2 : Track) (h1 : WF t1.table) (h2 : WF t2.table) (hn : t1.names = t2.names) :
    (concat t1 t2).table = t1.table ∧
    (∀ i : Nat, i < t1.pts.length → (concat t1 t2).pts[i]? = t1.pts[i]? ∧
      ∀ nm, readAF (concat t1 t2) nm (i : Int) = readAF t1 nm (i : Int)) ∧
    (∀ k : Nat, (concat t1 t2).pts[t1.pts.length + k]? = t2.pts[k]? ∧
      ∀ nm, readAF (concat t1 t2) nm ((t1.pts.length + k : Nat) : Int) = readAF t2 nm (k : Int)) := by
  have ht : (concat t1 t2).table = t1.table := by rw [(concat_spec t1 t2).2, if_pos hn]
  have h12 : t1.table = t2.table := wf_eq_of_names h1 h2 hn
  refine ⟨ht, ?_, ?_⟩
  · intro i hi
    have hp : (concat t1 t2).pts[i]? = t1.pts[i]? := by
      show (t1.pts ++ t2.pts)[i]? = _
      rw [List.getElem?_append_left hi]
    exact ⟨hp, fun nm => readAF_congr ht hp nm⟩
  · intro k
    have hp : (concat t1 t2).pts[t1.pts.length + k]? = t2.pts[k]? := by
      show (t1.pts ++ t2.pts)[t1.pts.length + k]? = _
      rw [List.getElem?_append_right (by omega)]
      congr 1; omega
    exact ⟨hp, fun nm => readAF_congr (ht.trans h12) hp nm⟩

/-- `t1 + t2` when the lists of names differ (different sets, another order, one side without features): the sum
lists NO feature; every read by name raises `AnalyticalFeatureError` (the value lists stay in the observations,
out of reach). So "under every name the result lists" holds vacuously, and no observation can read another's value. -/
theorem concat_names_differ (t1 t2 : Track) (hn : t1.names ≠ t2.names) :
    (concat t1 t2).names = [] ∧ ∀ nm (i : Int), readAF (concat t1 t2) nm i = .noFeature := by
  have ht : (concat t1 t2).table = [] := by rw [(concat_spec t1 t2).2, if_neg hn]
  refine ⟨by simp [Track.names, ht], ?_⟩
  intro nm i
  simp [readAF, ht, colOf]

/-! ## operators applied in sequence

`Good own tr`: the table of `tr` is well-formed and every observation of `tr` reads, under every name `tr`
lists, ITS OWN value (`own tag name`). Every operation of the statement keeps every track of the pool good —
the result of an operator as well as its operands — so the property "each observation reads its own feature
values" holds after any sequence of operators, the result of one being an operand of the next. -/

theorem good_of_carries {own : Nat → String → Int} {r s : Track} (hs : Good own s) (hc : Carries r s) :
    Good own r :=
  good_of_sub hs hc.1 (fun o ho => by
    obtain ⟨i, hi⟩ := List.mem_iff_getElem?.mp ho
    obtain ⟨j, hj, _⟩ := hc.2 i o hi
    exact List.mem_of_getElem? hj)

/-- the operations the invariant speaks of: a new observation must hold its own values (laid out by `mkObs` as
the track's table says); the creation / removal of a feature changes what "own value" means and is excluded. -/
def OpOk (own : Nat → String → Int) : Op → Prop
  | .insert _ tag _ vals => ∀ nm v, lookVal vals nm = some v → v = own tag nm
  | .insertAt _ _ tag _ vals => ∀ nm v, lookVal vals nm = some v → v = own tag nm
  | .addObs _ tag _ vals => ∀ nm v, lookVal vals nm = some v → v = own tag nm
  | .create .. => False
  | .delete .. => False
  | _ => True

theorem applyOp_good (own : Nat → String → Int) (pool : List Track) (op : Op) (hok : OpOk own op)
    (hg : ∀ t ∈ pool, Good own t) : ∀ t ∈ (applyOp pool op).1, Good own t := by
  have hat : ∀ {k : Nat} {tr : Track}, pool[k]? = some tr → Good own tr := fun h => hg _ (List.mem_of_getElem? h)
  -- a new track carried by a good source; an operand replaced by some of its observations; an operand plus one own-valued observation
  have new : ∀ {tr : Track} (r : Option Track) (err : String), Good own tr → (∀ r', r = some r' → Carries r' tr) →
      ∀ t ∈ (newTrack pool r err).1, Good own t :=
    fun r err h hc => newTrack_good _ _ _ _ hg (fun r' e => good_of_carries h (hc r' e))
  have sub : ∀ {tr : Track} (k : Nat) (p : List Obs) (out : Out), Good own tr → (∀ o ∈ p, o ∈ tr.pts) →
      ∀ t ∈ (inPlace pool k ⟨p, tr.table⟩ out).1, Good own t :=
    fun k p out h hm => inPlace_good _ _ _ _ _ hg (good_of_sub h rfl hm)
  have ins : ∀ {tr : Track} (k : Nat) (tag : Nat) (time : Int) (vals : List (String × Int)) (f : Obs → List Track × Out),
      Good own tr → (∀ nm v, lookVal vals nm = some v → v = own tag nm) →
      (∀ o, (∀ nm ∈ tr.names, o.read tr.table nm = .val (own o.tag nm)) → ∀ t ∈ (f o).1, Good own t) →
      ∀ t ∈ (match mkObs tr tag time vals with | none => (pool, Out.noTrack) | some o => f o).1, Good own t := by
    intro tr k tag time vals f h hv hf
    cases ho : mkObs tr tag time vals with
    | none => exact hg
    | some o => exact hf o (mkObs_reads (own := own) tr h.1 tag time vals o ho hv).2
  cases op with
  | extract k a b =>
    exact withTrack_mem pool k _ hg fun tr h => new _ _ (hat h) (extract_carries tr a b)
  | span k t1 t2 =>
    exact withTrack_mem pool k _ hg fun tr h => new _ _ (hat h)
      (fun r' e => by cases e; exact extractSpanTime_carries tr t1 t2)
  | spanTrack k m =>
    exact withTracks_mem pool k m _ hg fun tr other h _ => new _ _ (hat h) (extractSpanTrack_carries tr other)
  | add k m =>
    exact withTracks_mem pool k m _ hg fun t1 t2 h1 h2 => newTrack_good _ _ _ _ hg
      (fun r' e => by cases e; exact good_concat (hat h1) (hat h2))
  | step k n =>
    exact withTrack_mem pool k _ hg fun tr h => new _ _ (hat h) (decimateStep_carries tr n)
  | pattern k pat =>
    exact withTrack_mem pool k _ hg fun tr h => new _ _ (hat h) (decimatePattern_carries tr pat)
  | gt k n =>
    exact withTrack_mem pool k _ hg fun tr h => new _ _ (hat h) (fun r' e => by cases e; exact dropFirst_carries tr n)
  | lt k n =>
    exact withTrack_mem pool k _ hg fun tr h => new _ _ (hat h) (fun r' e => by cases e; exact dropLast_carries tr n)
  | slice k a b c =>
    exact withTrack_mem pool k _ hg fun tr h => new _ _ (hat h) (getitemSlice_carries tr a b c)
  | sort k =>
    exact withTrack_mem pool k _ hg fun tr h => tryInPlace_good _ pool k _ _ hg fun r hr =>
      good_of_carries (hat h) (sort_carries tr _ r hr)
  | insert k tag time vals =>
    exact withTrack_mem pool k _ hg fun tr h => ins k tag time vals _ (hat h) hok fun o ho =>
      tryInPlace_good _ pool k _ _ hg fun r hr =>
        good_insert (hat h) ho (insert_mem (.inl hr)).1 (insert_mem (.inl hr)).2
  | insertAt k i tag time vals =>
    exact withTrack_mem pool k _ hg fun tr h => ins k tag time vals _ (hat h) hok fun o ho =>
      inPlace_good _ _ _ _ _ hg (good_insert (hat h) ho rfl (pyInsert_mem tr.pts i o))
  | addObs k tag time vals =>
    exact withTrack_mem pool k _ hg fun tr h => ins k tag time vals _ (hat h) hok fun o ho =>
      inPlace_good _ _ _ _ _ hg (good_insert (hat h) ho rfl (insert_mem (.inr (.inr rfl))).2)
  | remove k idx =>
    exact withTrack_mem pool k _ hg fun tr h => sub k _ _ (hat h) (removeByIdx_subset tr.pts idx)
  | removeObs k i =>
    exact withTrack_mem pool k _ hg fun tr h => sub k _ _ (hat h) (removeByIdx_subset tr.pts [i])
  | removeFirst k =>
    exact withTrack_mem pool k _ hg fun tr h => sub k _ _ (hat h) (removeByIdx_subset tr.pts [0])
  | removeLast k =>
    exact withTrack_mem pool k _ hg fun tr h => sub k _ _ (hat h) (removeByIdx_subset tr.pts [_])
  | pop k i =>
    exact withTrack_mem pool k _ hg fun tr h => sub k _ _ (hat h) (popObs_subset tr.pts i)
  | get k i =>
    exact withTrack_mem pool k _ hg fun _ _ => hg
  | read k nm i =>
    exact withTrack_mem pool k _ hg fun _ _ => hg
  | column k nm =>
    exact withTrack_mem pool k _ hg fun _ _ => hg
  | create k nm vals =>
    exact absurd hok id
  | delete k nm =>
    exact absurd hok id

/-- operators applied in sequence: if every track of the pool is good at the start, every track of the pool —
operands and results — is good after the whole sequence. -/
theorem finalPool_good (own : Nat → String → Int) : ∀ (ops : List Op) (pool : List Track),
    (∀ op ∈ ops, OpOk own op) → (∀ t ∈ pool, Good own t) → ∀ t ∈ finalPool pool ops, Good own t :=
  fun ops _ hok hg => List.foldlRecOn (motive := fun p => ∀ t ∈ p, Good own t) ops _ hg
    fun p hp op hop => applyOp_good own p op (hok op hop) hp

/-- a good track read through `readAF` (`track[name, i]`): the value is the observation's own -/
theorem good_readAF (own : Nat → String → Int) (tr : Track) (h : Good own tr) (i : Nat) (o : Obs)
    (hi : tr.pts[i]? = some o) (nm : String) (hnm : nm ∈ tr.names) :
    readAF tr nm (i : Int) = .val (own o.tag nm) := by
  rw [readAF_of_get hi nm]
  exact h.2 o (List.mem_of_getElem? hi) nm hnm

/-! ## the other entry points of the statement -/

/-- `addObs(obs)` -/
theorem addObs_spec (tr : Track) (o : Obs) : addObs tr o = ⟨tr.pts ++ [o], tr.table⟩ := rfl

/-- `insertObs(obs, i)` with `0 ≤ i ≤ size` puts the observation at position `i` -/
theorem insertAt_spec (tr : Track) (o : Obs) (i : Nat) (hi : i ≤ tr.pts.length) :
    insertAt tr o i = ⟨tr.pts.take i ++ o :: tr.pts.drop i, tr.table⟩ := by
  rw [insertAt, pyInsert_nat tr.pts i o hi]

/-- `removeObs(i)` with a valid index removes exactly that observation and returns 1 -/
theorem removeObs_spec (l : List α) (i : Nat) (hi : i < l.length) :
    removeObs l (i : Int) = (l.eraseIdx i, some 1) := by
  rw [removeObs_eq, bucketOf_of hi (Or.inl rfl)]

/-- `removeFirstObs()` on a non-empty track -/
theorem removeFirst_spec (l : List α) (h : l ≠ []) : removeFirst l = (l.tail, some 1) := by
  have hl : 0 < l.length := List.length_pos_iff.mpr h
  have := removeObs_spec l 0 hl
  rw [List.eraseIdx_zero] at this
  exact this

/-- `removeLastObs()` on a non-empty track -/
theorem removeLast_spec (l : List α) (h : l ≠ []) : removeLast l = (l.dropLast, some 1) := by
  have hl : 0 < l.length := List.length_pos_iff.mpr h
  have e : ((l.length : Int) - 1) = ((l.length - 1 : Nat) : Int) := by omega
  unfold removeLast
  rw [e, removeObs_spec l (l.length - 1) (by omega), List.eraseIdx_length_sub_one]

/-- `popObs(i)` with a valid index returns that observation and removes it -/
theorem popObs_spec (l : List α) (i : Nat) (hi : i < l.length) :
    popObs l (i : Int) = (l.eraseIdx i, some l[i]) := by
  simp only [popObs, pyGet_nat, List.getElem?_eq_getElem hi, removeObs_spec l i hi]

/-- `track[i]`: the observation at `i`; a negative `i ≥ -size` counts from the end -/
theorem getitemInt_spec (tr : Track) (i : Nat) (hi : i < tr.pts.length) :
    getitemInt tr (i : Int) = some tr.pts[i] ∧
    getitemInt tr (-((i : Int) + 1)) = some (tr.pts[tr.pts.length - 1 - i]'(by omega)) := by
  constructor
  · simp only [getitemInt, pyGet_nat, List.getElem?_eq_getElem hi]
  · rw [getitemInt, pyGet_eq, bucketOf_of (k := tr.pts.length - 1 - i) (by omega) (Or.inr (by omega))]
    exact List.getElem?_eq_getElem _

/-- `track[a:b:c]` with a step `c ≥ 1`: with `s`, `e` the bounds `a`, `b` brought into `0..size` as Python does
(a negative bound counts from the end, an absent one is `0` / `size`, everything is clamped), the result holds
exactly the observations at the positions `s, s+c, s+2c, … < e`, in order — it is `(track[a:b]) % c` — with the
feature table of the source. (A negative step: `getitemSlice_neg_spec` in `Props/C04Slice.lean`.) -/
theorem getitemSlice_spec (tr : Track) (a b : Option Int) (c : Nat) (hc : 1 ≤ c) :
    ∃ s e : Nat, s ≤ tr.pts.length ∧ e ≤ tr.pts.length ∧
      sliceBounds tr.pts.length a b (c : Int) = ((s : Int), (e : Int)) ∧
      (∀ x : Nat, a = some (x : Int) → s = min x tr.pts.length) ∧ (a = none → s = 0) ∧
      (∀ x : Nat, b = some (x : Int) → e = min x tr.pts.length) ∧ (b = none → e = tr.pts.length) ∧
      getitemSlice tr a b (some (c : Int)) = some ⟨stepAux c 0 ((tr.pts.take e).drop s), tr.table⟩ ∧
      ∀ i : Nat, (stepAux c 0 ((tr.pts.take e).drop s))[i]? = if s + i * c < e then tr.pts[s + i * c]? else none := by
  obtain ⟨s, e, hb, hs, he, h1, h2, h3, h4⟩ := sliceBounds_pos tr.pts.length a b (c : Int) (by omega)
  refine ⟨s, e, hs, he, hb, h1, h2, h3, h4, ?_, fun i => ?_⟩
  · simp only [getitemSlice, pySlice_pos tr.pts a b c s e hc hb he, Option.map_some, transmitAF]
  · rw [stepAux_getElem? c hc, List.getElem?_drop, List.getElem?_take, Nat.zero_add]

/-- `track[a:b]` with `0 ≤ a`, `0 ≤ b` (no step): the observations at the positions `a ≤ j < b` -/
theorem getitemSlice_simple (tr : Track) (a b : Nat) :
    getitemSlice tr (some (a : Int)) (some (b : Int)) none = some ⟨(tr.pts.take b).drop a, tr.table⟩ := by
  -- an absent step is 1
  obtain ⟨s, e, _, _, _, h1, _, h3, _, hg, _⟩ := getitemSlice_spec tr (some (a : Int)) (some (b : Int)) 1 (Nat.le_refl 1)
  rw [stepAux_one, h1 a rfl, h3 b rfl, ← List.take_eq_take_min] at hg
  refine hg.trans ?_
  congr 2
  -- a start beyond the end leaves nothing, clamped or not
  rcases Nat.le_total a tr.pts.length with h | h
  · rw [Nat.min_eq_left h]
  · rw [Nat.min_eq_right h, List.drop_eq_nil_of_le (by rw [List.length_take]; omega),
      List.drop_eq_nil_of_le (by rw [List.length_take]; omega)]

/-! ## `sortRadix` (after fix b323645: the year buckets span the earliest to the latest year of the track) -/

/-- the six key functions of `sortRadix`, most significant first: `year`, `month-1`, `day-1`, `hour`, `min`,
`sec*1000+ms` of the observation at a position -/
def radixKeys (digits : Nat → List Int) : List (Nat → Int) :=
  [5, 4, 3, 2, 1, 0].map (fun k => fun id => (digits id).getD k 0)

/-- `sortRadix()` when the five lower digits are inside their buckets (`0 ≤ sec*1000+ms < 60000`, `min < 60`,
`hour < 24`, `1 ≤ day ≤ 31`, `1 ≤ month ≤ 12`) — the YEARS ARE ARBITRARY integers (before 1970, after 2069, both in
one track): no `IndexError`; the result is the same observations (a permutation), ordered lexicographically by
(year, month, day, hour, min, sec·1000+ms), and observations with equal keys keep their order (`i < j`): a
stable sort. The empty track is included (no year bucket at all). -/
theorem sortRadix_spec (l : List α) (digits : Nat → List Int)
    (hd : ∀ i, i < l.length → ∀ k, k < 5 → 0 ≤ (digits i).getD k 0 ∧ (digits i).getD k 0 < (radixBuckets.getD k 0 : Nat)) :
    ∃ ids r, sortRadixIds digits l.length = some ids ∧ sortRadix l digits = some r ∧
      ids.Perm (List.range l.length) ∧ r = ids.filterMap (fun i => l[i]?) ∧ r.Perm l ∧
      ids.Pairwise (LexLe (· < ·) (radixKeys digits)) := by
  have hk : ∀ p ∈ (radixBuckets.zipIdx.map (fun p => ((p.1, fun id => (digits id).getD p.2 0) : Nat × (Nat → Int))) ++
        [yearPass digits l.length]),
      ∀ i ∈ List.range l.length, 0 ≤ p.2 i ∧ p.2 i < (p.1 : Int) := by
    intro p hp i hi
    rcases List.mem_append.mp hp with hp | hp
    · exact digitPasses_inRange radixBuckets digits l.length hd p hp i hi
    · cases List.mem_singleton.mp hp
      exact yearPass_inRange digits l.length i (List.mem_range.mp hi)
  obtain ⟨ids, e, hp, hs⟩ := runPasses_spec (· < ·) _ [] (List.range l.length) hk
    (by simpa [LexLe] using List.pairwise_lt_range (n := l.length))
  obtain ⟨hg, hpl⟩ := gather_perm l ids hp
  refine ⟨ids, ids.filterMap (fun i => l[i]?), e, ?_, hp, rfl, hpl, ?_⟩
  · unfold sortRadix
    have e' : sortRadixIds digits l.length = some ids := e
    simp only [e']
    exact hg
  · have hs' : ids.Pairwise (LexLe (· < ·)
        ((fun id => yearDigit digits id - minD ((List.range l.length).map (yearDigit digits)) 0) ::
          [4, 3, 2, 1, 0].map (fun k => fun id => (digits id).getD k 0))) := hs
    refine hs'.imp ?_
    intro i j h
    exact (lexLe_shift (· < ·) (yearDigit digits) _ _ i j).mp h

/-- `sortRadix()` sorts by time: if the lexicographic order of the digits implies the order of the timestamps
(C03: the field-wise order of `ObsTime` is the order of the epoch instants), the result is non-decreasing in time. -/
theorem sortRadix_sorted (l : List Obs) (digits : Nat → List Int)
    (hd : ∀ i, i < l.length → ∀ k, k < 5 → 0 ≤ (digits i).getD k 0 ∧ (digits i).getD k 0 < (radixBuckets.getD k 0 : Nat))
    (hkey : ∀ i j (a b : Obs), l[i]? = some a → l[j]? = some b → LexLe (· < ·) (radixKeys digits) i j → a.time ≤ b.time) :
    ∃ r, sortRadix l digits = some r ∧ r.Perm l ∧ r.Pairwise (fun a b => a.time ≤ b.time) := by
  obtain ⟨ids, r, _, h, _, hr, hperm, hs⟩ := sortRadix_spec l digits hd
  refine ⟨r, h, hperm, ?_⟩
  rw [hr]
  refine List.Pairwise.filterMap _ ?_ hs
  intro i j hij a ha b hb
  exact hkey i j a b ha hb hij

/-- the digits `sortRadix` reads from an `ObsTime` (C03's `Stamp`), least significant first -/
def stampDigits (t : TV.ObsTime.Stamp) : List Int :=
  [(t.d.sec : Int) * 1000 + t.ms, t.d.min, t.d.hour, (t.d.day : Int) - 1, (t.d.month : Int) - 1, t.d.year]

theorem lex_stamps (a b : TV.ObsTime.Stamp) (ha : TV.ObsTime.WFs a) (hb : TV.ObsTime.WFs b) (i j : Nat)
    (keys : Nat → List Int) (hi : keys i = stampDigits a) (hj : keys j = stampDigits b)
    (h : LexLe (· < ·) (radixKeys keys) i j) :
    TV.ObsTime.toAbsMs a < TV.ObsTime.toAbsMs b ∨ (TV.ObsTime.toAbsMs a = TV.ObsTime.toAbsMs b ∧ i < j) := by
  -- the keys compared are the fields compared: casts and the shifts of month and day drop out
  simp only [radixKeys, List.map_cons, List.map_nil, LexLe, hi, hj, stampDigits, List.getD_cons_succ,
    List.getD_cons_zero, Int.sub_lt_sub_right_iff, Int.sub_left_inj, Int.ofNat_lt, Int.natCast_inj] at h
  have hams := ha.2
  have hbms := hb.2
  have lt : _ → TV.ObsTime.toAbsMs a < TV.ObsTime.toAbsMs b ∨ (TV.ObsTime.toAbsMs a = TV.ObsTime.toAbsMs b ∧ i < j) :=
    fun c => Or.inl ((TV.ObsTime.ltS_iff a b ha hb).mp ((TV.ObsTime.ltS_iff_lex a b).mpr c))
  rcases h with k | ⟨e1, k | ⟨e2, k | ⟨e3, k | ⟨e4, k | ⟨e5, k | ⟨e6, hij⟩⟩⟩⟩⟩⟩
  · exact lt (.inl k)
  · exact lt (.inr ⟨e1, .inl k⟩)
  · exact lt (.inr ⟨e1, .inr ⟨e2, .inl k⟩⟩)
  · exact lt (.inr ⟨e1, .inr ⟨e2, .inr ⟨e3, .inl k⟩⟩⟩)
  · exact lt (.inr ⟨e1, .inr ⟨e2, .inr ⟨e3, .inr ⟨e4, .inl k⟩⟩⟩⟩)
  · exact lt (.inr ⟨e1, .inr ⟨e2, .inr ⟨e3, .inr ⟨e4, .inr ⟨e5, by omega⟩⟩⟩⟩⟩)
  · have e6 : a.d.sec = b.d.sec ∧ a.ms = b.ms := by omega
    exact Or.inr ⟨by simp only [TV.ObsTime.toAbsMs, TV.ObsTime.toAbsSec, e1, e2, e3, e4, e5, e6], hij⟩

theorem stampDigits_inRange (t : TV.ObsTime.Stamp) (h : TV.ObsTime.WFs t) (k : Nat) (hk : k < 5) :
    0 ≤ (stampDigits t).getD k 0 ∧ (stampDigits t).getD k 0 < (radixBuckets.getD k 0 : Nat) := by
  obtain ⟨⟨_, hm1, hm2, hd1, hd2, hh, hmi, hs⟩, hms⟩ := h
  have hmd := TV.ObsTime.monthDays_le t.d.year (t.d.month - 1)
  have : k = 0 ∨ k = 1 ∨ k = 2 ∨ k = 3 ∨ k = 4 := by omega
  rcases this with rfl | rfl | rfl | rfl | rfl <;>
    simp only [stampDigits, radixBuckets, List.getD_cons_succ, List.getD_cons_zero] <;> omega

/-- For EVERY track of well-formed timestamps (C03's `WFs`: a calendar date from 1970 on, no upper bound on the
year) `sortRadix` is a stable sort by time: no exception, the same observations, non-decreasing epoch instants, and
observations with the same instant keep their order. -/
theorem sortRadix_stamps (l : List α) (stamp : α → TV.ObsTime.Stamp) (hwf : ∀ x ∈ l, TV.ObsTime.WFs (stamp x)) :
    ∃ (ids : List Nat) (r : List α), sortRadix l (fun i => (l[i]?.map (fun x => stampDigits (stamp x))).getD []) = some r ∧
      ids.Perm (List.range l.length) ∧ r = ids.filterMap (fun i => l[i]?) ∧ r.Perm l ∧
      r.Pairwise (fun a b => TV.ObsTime.toAbsMs (stamp a) ≤ TV.ObsTime.toAbsMs (stamp b)) ∧
      ids.Pairwise (fun i j => ∀ a b, l[i]? = some a → l[j]? = some b →
        TV.ObsTime.toAbsMs (stamp a) < TV.ObsTime.toAbsMs (stamp b) ∨
          (TV.ObsTime.toAbsMs (stamp a) = TV.ObsTime.toAbsMs (stamp b) ∧ i < j)) := by
  have hdig : ∀ (i : Nat) (x : α), l[i]? = some x →
      (l[i]?.map (fun x => stampDigits (stamp x))).getD [] = stampDigits (stamp x) := by
    intro i x h; simp [h]
  have hd : ∀ i : Nat, i < l.length → ∀ k, k < 5 →
      0 ≤ ((l[i]?.map (fun x => stampDigits (stamp x))).getD []).getD k 0 ∧
      ((l[i]?.map (fun x => stampDigits (stamp x))).getD []).getD k 0 < (radixBuckets.getD k 0 : Nat) := by
    intro i hi k hk
    rw [hdig i l[i] (List.getElem?_eq_getElem hi)]
    exact stampDigits_inRange _ (hwf l[i] (List.getElem_mem hi)) k hk
  obtain ⟨ids, r, _, h, hp, hr, hperm, hs⟩ := sortRadix_spec l _ hd
  have hstab : ids.Pairwise (fun i j => ∀ a b, l[i]? = some a → l[j]? = some b →
      TV.ObsTime.toAbsMs (stamp a) < TV.ObsTime.toAbsMs (stamp b) ∨
        (TV.ObsTime.toAbsMs (stamp a) = TV.ObsTime.toAbsMs (stamp b) ∧ i < j)) := by
    refine hs.imp ?_
    intro i j hij a b hia hjb
    exact lex_stamps (stamp a) (stamp b) (hwf a (List.mem_of_getElem? hia)) (hwf b (List.mem_of_getElem? hjb)) i j _
      (hdig i a hia) (hdig j b hjb) hij
  refine ⟨ids, r, h, hp, hr, hperm, ?_, hstab⟩
  rw [hr]
  refine List.Pairwise.filterMap _ ?_ hstab
  intro i j hij a ha b hb
  have := hij a b ha hb
  omega

/-! ## T1 — the dichotomy stays in range and terminates -/

/-- T1. For ANY timestamps (sorted or not), any size `N` and any first step `2^j` with `2·2^j ≤ N`, the
search loop of `__getInsertionIndex`, run with an element access that raises on EVERY index outside
`0..N-1` (`strictGet`: no negative wrap-around), terminates within the fuel `j + N + 3` without any
error, at an index `0 ≤ r ≤ N-1`. So every index the loop reads is in `0..N-1`. -/
theorem dichotomy_in_range (T : List Int) (ts : Int) (j : Nat) (hj : 2 * 2 ^ j ≤ T.length) :
    ∃ r : Nat, searchLoop (strictGet T) T.length ts (j + T.length + 3) 0 ((2 : Int) ^ j) = .ok (r : Int)
      ∧ r + 1 ≤ T.length := by
  obtain ⟨r, hr, h⟩ := reaches_start (T := T) (ts := ts) j hj
  refine ⟨r, ?_, hr⟩
  rw [show j + T.length + 3 = 1 + T.length + j + 2 by omega]
  exact h _ (strictGet_readsOn T) 1

/-- T1 for the whole function, as the code computes its first step (`2^(⌊log₂ N⌋-1)`): on every list
of timestamps the three loops, run with the strict element access, return an index `0 ≤ r ≤ N`
(no `IndexError`, no read outside `0..N-1`, fuel sufficient), and the model as run (Python's
wrapping `L[i]`) returns the same index. -/
theorem insertionIndex_no_index_error (T : List Int) (ts : Int) :
    ∃ r : Nat, r ≤ T.length ∧
      insertionIndexWith (strictGet T) (ilog2 T.length - 1) T ts = .ok (r : Int) ∧
      insertionIndex T ts = .ok (r : Int) := by
  obtain ⟨r, hr, h, _⟩ := insertionIndex_split T ts
  exact ⟨r, hr, h _ (strictGet_readsOn T), h _ (pyGet_readsOn T)⟩

/-! ## T2 — the insertion index on a time-sorted track -/

/-- T2. On time-sorted timestamps (`N ≥ 2`), for any first step `2^j` with `2·2^j ≤ N` (so also for an
under-estimate of `⌊log₂ N⌋`), the result is the upper-bound insertion point: the number of timestamps
`≤ ts`. -/
theorem insertionIndexFrom_spec (T : List Int) (ts : Int) (j : Nat) (hN : 2 ≤ T.length)
    (hj : 2 * 2 ^ j ≤ T.length) (hs : T.Pairwise (· ≤ ·)) :
    insertionIndexFrom j T ts = .ok ((T.countP (fun t => decide (t ≤ ts)) : Nat) : Int) := by
  obtain ⟨r, hr, h, hsplit⟩ := insertionIndexWith_bounds (T := T) (ts := ts) j hN hj
  obtain ⟨h1, h2⟩ := hsplit hs
  have : T.countP (fun t => decide (t ≤ ts)) = r :=
    countP_of_split T _ r hr (fun t ht => by simpa using h1 t ht) (fun t ht => by have := h2 t ht; simp; omega)
  rw [this]; exact h _ (pyGet_readsOn T)

/-- T2 with the first step the code computes; a single observation is the one special case of the
code: there the new observation goes BEFORE an equal timestamp (`countP (· < ts)`). -/
theorem insertionIndex_spec (T : List Int) (ts : Int) (hs : T.Pairwise (· ≤ ·)) :
    insertionIndex T ts = .ok ((if T.length = 1 then T.countP (fun t => decide (t < ts))
      else T.countP (fun t => decide (t ≤ ts)) : Nat) : Int) := by
  match T, hs with
  | [], _ => rfl
  | [t0], _ =>
    rw [insertionIndex_singleton]
    by_cases h : t0 < ts <;> simp [h]
  | a :: b :: rest, hs =>
    have hN : 2 ≤ (a :: b :: rest).length := by simp
    have hne : ¬ ((a :: b :: rest).length = 1) := by simp
    rw [if_neg hne]
    exact insertionIndexFrom_spec _ ts _ hN (ilog2_first_step _ hN) hs

/-! ## T3 — chronological insertion -/

/-- on EVERY track (sorted or not) `insertObs(obs)` succeeds and yields the old observations in their
order with the new one inserted at some position `r ≤ N`; the feature table is unchanged. -/
theorem insert_total (tr : Track) (o : Obs) :
    ∃ r : Nat, r ≤ tr.pts.length ∧
      insertChrono tr o = some ⟨tr.pts.take r ++ o :: tr.pts.drop r, tr.table⟩ := by
  obtain ⟨r, hr, _, h⟩ := insertionIndex_no_index_error (tr.pts.map (·.time)) o.time
  rw [List.length_map] at hr
  exact ⟨r, hr, insertChrono_of_index tr o r hr h⟩

/-- T3. Inserting an observation without an index into a time-sorted track leaves it sorted: the
result is the old observations in their order with the new one at a position `r`, it is a permutation
of `new :: old` (every record intact), and it is non-decreasing in time. -/
theorem insert_sorted (tr : Track) (o : Obs) (hs : tr.pts.Pairwise (fun a b => a.time ≤ b.time)) :
    ∃ r : Nat, r ≤ tr.pts.length ∧
      insertChrono tr o = some ⟨tr.pts.take r ++ o :: tr.pts.drop r, tr.table⟩ ∧
      (tr.pts.take r ++ o :: tr.pts.drop r).Perm (o :: tr.pts) ∧
      (tr.pts.take r ++ o :: tr.pts.drop r).Pairwise (fun a b => a.time ≤ b.time) := by
  have hT : (tr.pts.map (·.time)).Pairwise (· ≤ ·) := List.pairwise_map.mpr hs
  obtain ⟨r, hr, h, hsplit⟩ := insertionIndex_split (tr.pts.map (·.time)) o.time
  obtain ⟨h1, h2⟩ := hsplit hT
  rw [List.length_map] at hr
  refine ⟨r, hr, insertChrono_of_index tr o r hr (h _ (pyGet_readsOn _)), ?_, ?_⟩
  · rw [← insertIdx_eq_take_drop tr.pts r o hr]; exact List.perm_insertIdx o tr.pts hr
  · have hsplit : (tr.pts.take r ++ tr.pts.drop r).Pairwise (fun a b => a.time ≤ b.time) := by
      rw [List.take_append_drop]; exact hs
    obtain ⟨hA, hB, hAB⟩ := List.pairwise_append.mp hsplit
    have hbefore : ∀ a ∈ tr.pts.take r, a.time ≤ o.time :=
      fun a ha => h1 a.time (by rw [← List.map_take]; exact List.mem_map_of_mem ha)
    have hafter : ∀ b ∈ tr.pts.drop r, o.time ≤ b.time :=
      fun b hb => h2 b.time (by rw [← List.map_drop]; exact List.mem_map_of_mem hb)
    refine List.pairwise_append.mpr ⟨hA, List.pairwise_cons.mpr ⟨hafter, hB⟩, ?_⟩
    intro a ha b hb
    rcases List.mem_cons.mp hb with rfl | hb
    · exact hbefore a ha
    · exact hAB a ha b hb

/-! ## T4 — sort -/

/-- contract assumed of `np.argsort(timestamps)`: a permutation of the positions `0..N-1` along
which the timestamps are non-decreasing (nothing is assumed about the order of equal timestamps). -/
def IsArgsort (T : List Int) (perm : List Nat) : Prop :=
  perm.Perm (List.range T.length) ∧
    perm.Pairwise (fun i j => ∀ a b, T[i]? = some a → T[j]? = some b → a ≤ b)

/-- `sort()` with ANY sorting permutation returned by `argsort`: the result consists of the same
observations (each record unchanged: it is a permutation of the list of records), in
non-decreasing time order, and the feature table is unchanged. -/
theorem sort_spec (tr : Track) (perm : List Nat) (h : IsArgsort (tr.pts.map (·.time)) perm) :
    ∃ r, sortWith perm tr = some r ∧ r.table = tr.table ∧ r.pts.Perm tr.pts ∧
      r.pts.Pairwise (fun a b => a.time ≤ b.time) := by
  obtain ⟨hperm, hsorted⟩ := h
  rw [List.length_map] at hperm
  obtain ⟨hg, hp⟩ := gather_perm tr.pts perm hperm
  refine ⟨⟨perm.filterMap (fun i => tr.pts[i]?), tr.table⟩, by rw [sortWith, hg]; rfl, rfl, hp, ?_⟩
  refine List.Pairwise.filterMap _ ?_ hsorted
  intro i j hij a ha b hb
  apply hij a.time b.time <;> simp [ha, hb]

/-- the model's `argsort` (stable merge sort of the positions) satisfies the contract. -/
theorem argsort_isArgsort (T : List Int) : IsArgsort T (argsort T) :=
  ⟨argsort_perm T, argsort_sorted T⟩

/-- `sort()` as run by the driver. -/
theorem sortByTime_spec (tr : Track) :
    ∃ r, sortByTime tr = some r ∧ r.table = tr.table ∧ r.pts.Perm tr.pts ∧
      r.pts.Pairwise (fun a b => a.time ≤ b.time) :=
  sort_spec tr _ (argsort_isArgsort _)


/-! ## non-vacuity: the hypotheses are satisfiable by non-trivial inputs, and witnesses -/

/-- a time-sorted track with a tie, of power-of-two size, satisfies the hypotheses of T1–T3 -/
example : ([1, 3, 3, 7, 9, 9, 13, 15] : List Int).Pairwise (· ≤ ·) := by decide
example : 2 * 2 ^ 2 ≤ ([1, 3, 3, 7, 9, 9, 13, 15] : List Int).length := by decide
example : insertionIndex [1, 3, 3, 7, 9, 9, 13, 15] 3 = .ok 3 := by decide +kernel
example : insertionIndex [1, 3, 3, 7, 9, 9, 13, 15] 0 = .ok 0 := by decide +kernel
example : insertionIndex [1, 3, 3, 7, 9, 9, 13, 15] 16 = .ok 8 := by decide +kernel
/-- the negative unit step does not vanish (`-1 >> 1 = -1`): insertion before four equal timestamps
reaches index 0 through the leftward walk (2 → 1 → 0 with step -1, then `break`) -/
example : searchLoop (strictGet [1, 1, 1, 1]) 4 0 8 0 2 = .ok 0 := by decide +kernel
/-- the one-observation special case puts the new observation before an equal timestamp -/
example : insertionIndex [5] 5 = .ok 0 := by decide +kernel
/-- distinct valid indices in any order -/
example : (∀ x ∈ ([2, 0] : List Int), 0 ≤ x ∧ x < ([10, 11, 12, 13] : List Nat).length) ∧ ([2, 0] : List Int).Nodup := by
  decide
example : atIdx (fun j => !([2, 0] : List Int).contains (j : Int)) [10, 11, 12, 13] = [11, 13] := by decide
/-- regression witness of fix 8550bff: `track < n` with `n > size` is empty -/
example : dropLast ⟨[⟨0, 1, [0]⟩, ⟨1, 3, [10]⟩], [("f", 0)]⟩ 3 = ⟨[], [("f", 0)]⟩ := by decide +kernel
/-- a sorting permutation that is NOT the stable one also satisfies the contract of `sort_spec` -/
example : IsArgsort [3, 1, 3] [1, 2, 0] :=
  ⟨by decide, (by decide : ([1, 2, 0] : List Nat).Pairwise
      (fun i j => ([3, 1, 3] : List Int)[i]?.getD 0 ≤ ([3, 1, 3] : List Int)[j]?.getD 0)).imp
    (fun {i j} h a b ha hb => by rw [ha, hb] at h; exact h)⟩

/-! ### the feature table: layouts reached through the public interface, and what `+` does with them -/

/-- two observations with the features `f` then `g` created in this order -/
def exT1 : Track := ⟨[⟨0, 1, [10, 20]⟩, ⟨1, 3, [11, 21]⟩], [("f", 0), ("g", 1)]⟩
/-- the same names, `f` removed and re-created: the columns are `g`, `f` -/
def exT2 : Track := ⟨[⟨50, 5, [70, 60]⟩], [("g", 0), ("f", 1)]⟩

/-- the layouts are what `createAnalyticalFeature` / `removeAnalyticalFeature` produce -/
example : ((createAF ⟨[⟨50, 5, []⟩], []⟩ "f" [0]).bind (fun t => (createAF t "g" [70]).bind (fun t =>
    (removeAF t "f").bind (fun t => createAF t "f" [60])))) = some exT2 := by decide +kernel
example : WF exT1.table ∧ WF exT2.table := by
  refine ⟨⟨by decide, by decide⟩, ⟨by decide, by decide⟩⟩
/-- every observation reads its own values by name, whatever the column order -/
example : readAF exT1 "f" 1 = .val 11 ∧ readAF exT2 "f" 0 = .val 60 ∧ readAF exT2 "g" 0 = .val 70 := by decide +kernel
/-- same SET of names in another order: the sum lists no feature (hypothesis of `concat_names_differ`) -/
example : exT1.names ≠ exT2.names ∧ (concat exT1 exT2).table = [] := by decide +kernel
/-- same names in the same order (hypotheses of `concat_carries`): the observations of the right operand read
their own values in the sum -/
example : exT1.names = (dropFirst exT1 1).names ∧ readAF (concat exT1 (dropFirst exT1 1)) "g" 2 = .val 21 := by
  decide +kernel
/-- why `concat_carries` needs well-formed tables: `__add__` compares the NAMES only; with the same names on other
columns (a table no sequence of creations / removals produces) an observation of the right operand would read
another feature's value -/
example : let t2 : Track := ⟨[⟨50, 5, [70, 60]⟩], [("f", 1), ("g", 0)]⟩
    exT1.names = t2.names ∧ readAF t2 "f" 0 = .val 60 ∧ readAF (concat exT1 t2) "f" 2 = .val 70 := by decide +kernel
/-- a slice with bounds from the end and a step: positions 1, 3 of 5 -/
example : (getitemSlice ⟨[⟨0, 1, []⟩, ⟨1, 2, []⟩, ⟨2, 3, []⟩, ⟨3, 4, []⟩, ⟨4, 5, []⟩], []⟩ (some (-4)) none (some 2)).map
    (fun t => t.pts.map (·.tag)) = some [1, 3] := by decide +kernel
/-- the hypotheses of `finalPool_good` are satisfiable: a good pool, a sequence with an insertion -/
example : let own : Nat → String → Int := fun tag nm => if nm = "f" then 10 + tag else 20 + tag
    Good own exT1 ∧ OpOk own (.insert 0 7 2 [("f", 17), ("g", 27)]) ∧ OpOk own (.add 0 0) := by
  refine ⟨⟨⟨by decide, by decide⟩, by decide⟩, fun nm v h => ?_, trivial⟩
  by_cases h1 : nm = "f"
  · subst h1; cases h; rfl
  · by_cases h2 : nm = "g"
    · subst h2; cases h; rfl
    · have e1 : (("f", (17 : Int)).1 == nm) = false := beq_false_of_ne (Ne.symm h1)
      have e2 : (("g", (27 : Int)).1 == nm) = false := beq_false_of_ne (Ne.symm h2)
      rw [lookVal, List.find?_cons_of_neg (by rw [e1]; nofun), List.find?_cons_of_neg (by rw [e2]; nofun)] at h
      cases h
/-- `sortRadix`: the digits of 2000-01-01 00:00:00.500 are inside their buckets (hypothesis of `sortRadix_spec`) -/
example : ∀ k, k < 5 → 0 ≤ ([500, 0, 0, 0, 0, 2000] : List Int).getD k 0 ∧
    ([500, 0, 0, 0, 0, 2000] : List Int).getD k 0 < (radixBuckets.getD k 0 : Nat) := by decide
/-- the year pass of the two regression witnesses of fix b323645: 2070 and 2000 get the buckets 70 and 0 of 71;
1969, 2000, 1971 get 0, 31, 2 of 32; the empty track has no year bucket -/
example : (yearPass (fun i => [[0, 0, 0, 0, 0, 2070], [0, 0, 0, 0, 0, 2000]].getD i []) 2).1 = 71 ∧
    (yearPass (fun i => [[0, 0, 0, 0, 0, 1969], [0, 0, 0, 0, 0, 2000], [0, 0, 0, 0, 0, 1971]].getD i []) 3).1 = 32 ∧
    (yearPass (fun _ => []) 0).1 = 0 := by decide +kernel
/-- 2000-02-29 12:00:00.500 is a well-formed timestamp (hypothesis of `sortRadix_stamps`) -/
example : TV.ObsTime.WFs ⟨⟨2000, 2, 29, 12, 0, 0⟩, 500⟩ := by
  refine ⟨⟨by decide, by decide, by decide, by decide, by decide, by decide, by decide, by decide⟩, by decide⟩
/-- two passes on small buckets (least significant first): the second key decides, the first breaks its ties,
equal pairs keep their order -/
example : runPasses [(3, fun i => [2, 0, 2, 1].getD i 0), (2, fun i => [1, 1, 0, 1].getD i 0)] [0, 1, 2, 3] = some [2, 1, 3, 0] := by
  decide +kernel
/-- a key outside the buckets (a month 13): `IndexError`, as in the code -/
example : bucketPass 12 (fun _ => 12) [0] = none := by decide +kernel

end TV.C04
