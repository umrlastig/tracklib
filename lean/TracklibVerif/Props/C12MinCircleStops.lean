import TracklibVerif.Props.C12
import TracklibVerif.Props.C12MinCircle
import TracklibVerif.Lemmas.MinCircleStops
/-! # C12 — `findStopsGlobal`'s reward matrix with the circles computed by the MODEL of `minCircle`

`stops_fit_in_circle` (Props/C12.lean) takes `minCircle`'s answers as a table with two hypotheses: every circle encloses its
segment (`hc`) and is minimal (`hmin`). Here the table is `circOfMinCircle` — `minCircleOfPoints` run on the fixes of each
segment with its own draw sequence — and minimality is PROVED (`mincircle_enclosing_is_minimal`): the only hypothesis left is
the certificate that the answers enclose their segments, which is what can fail (`mincircle_not_enclosing`) and what the
driver evaluates on every case (`enc`, `enclosedB`). -/
namespace TV.C12
open TV.Partition TV.MinCircle
variable {K : Type} [Field K] [LinearOrder K] [IsStrictOrderedRing K]

/-- **T3 `stops_fit_in_circle_mincircle`** — `findStopsGlobal`'s reward matrix with `minCircle` as modelled, for EVERY draw
sequence of every call: if the circles returned enclose their segments (`henc`) and the call for `p_a … p_{b−1}` did not
return `None`, the reward of `(a, b)` is `(b − a)²` exactly when the segment lasts at least `duration` and its observations fit in
SOME disc of diameter at most `diameter` — the documented criterion; `0` otherwise. No minimality hypothesis. -/
theorem stops_fit_in_circle_mincircle (sq : Nat → K) (tr : Nat → Fix K) (eps : K) (draw : Nat → Nat → Nat → Nat)
    (diameter duration : K) (hd : 0 ≤ diameter) (size : Nat)
    (henc : ∀ i e c, i ≤ e → e < size → (minCircleOfPoints eps (draw i e) (segPts tr i e)).1 = .circ c →
      encloses c (segPts tr i e) = true)
    (a b : Nat) (hab : a < b) (hb : b ≤ size - 2) (hs : 3 ≤ size)
    (hsome : (minCircleOfPoints eps (draw a (b - 1)) (segPts tr a (b - 1))).1 ≠ .none) :
    let circ2 := circOfMinCircle eps draw tr size
    let fits := duration ≤ (tr (b - 1)).t - (tr a).t ∧
      ∃ cx cy r2, Enclosed tr cx cy r2 a (b - 1) ∧ 4 * r2 ≤ diameter * diameter
    (fits → stopsReward 0 sq (stopPredTrack 0 tr circ2 diameter duration) size a b = sq (b - a)) ∧
    (¬ fits → stopsReward 0 sq (stopPredTrack 0 tr circ2 diameter duration) size a b = 0) := by
  intro circ2 fits
  refine stops_fit_in_circle sq tr circ2 diameter duration hd size ?_ ?_ a b hab hb hs ?_
  · intro i e c _ _ h
    obtain ⟨h1, h2, c0, hm, rfl⟩ := circOfMinCircle_some h
    exact ⟨c0.cx, c0.cy, c0.r2, rfl, (enclosed_iff_enc tr c0 i e).mpr (encloses_sound c0 _ (henc i e c0 h1 h2 hm))⟩
  · intro i e c h cx cy r2 hE
    obtain ⟨h1, h2, c0, hm, rfl⟩ := circOfMinCircle_some h
    have h0 : 0 ≤ r2 := le_trans (add_nonneg (mul_self_nonneg _) (mul_self_nonneg _)) (hE i (Nat.le_refl _) h1)
    exact mul_le_mul_of_nonneg_left ((mincircle_enclosing_is_minimal eps (draw i e) (segPts tr i e) c0 hm
      (henc i e c0 h1 h2 hm)).2 ⟨cx, cy, r2⟩ h0 ((enclosed_iff_enc tr ⟨cx, cy, r2⟩ i e).mp hE)) zero_le_four
  · obtain ⟨R', e, _⟩ := mincircle_answer eps (draw a (b - 1)) (segPts tr a (b - 1))
    rcases e ▸ base_cases R' with ⟨hm, _⟩ | ⟨c0, hm⟩
    · exact absurd hm hsome
    · intro hnone
      simp only [circ2, circOfMinCircle, if_pos (show a ≤ b - 1 ∧ b - 1 < size by omega), hm] at hnone
      cases hnone

end TV.C12
