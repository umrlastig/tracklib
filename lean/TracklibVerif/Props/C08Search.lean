import TracklibVerif.Props.C08
import TracklibVerif.Lemmas.GridAround
/-! # C08, second part — radii given in units, the incremental (`unit = -1`) search, segment / track neighbourhoods,
later additions that leave the extent, and what survives of the cell computation under rounding

Property theorems only (helper lemmas: `Lemmas/GridSearch.lean`, `Lemmas/GridAround.lean`; model `Model/Grid.lean`).
As in `Props/C08.lean` the statements are over a linearly ordered field with an exact `floor`, except the last section
(`rounded_*`), which is about ANY monotone rounded subtraction / division.

`InSq ix c U i j` says that `(i, j)` is a cell of the grid at most `U` units (columns and rows) from the cell `c` — the
clipped square that `__neighboringcells(c[0], c[1], U)` enumerates (`neighboringCells_square`). -/
namespace TV.C08
open TV.Grid

def InSq {α : Type} (ix : Index α) (c : Int × Int) (U : Int) (i j : Int) : Prop :=
  (c.1 - U ≤ i ∧ i ≤ c.1 + U ∧ 0 ≤ i ∧ i < ix.csize) ∧ (c.2 - U ≤ j ∧ j ≤ c.2 + U ∧ 0 ≤ j ∧ j < ix.lsize)

theorem inSq_iff {α : Type} (ix : Index α) (c : Int × Int) (U i j : Int) :
    (i, j) ∈ neighboringCells ix c.1 c.2 U false ↔ InSq ix c U i j :=
  neighboringCells_square ix c.1 c.2 U i j

theorem sqHolds_iff {α : Type} (ix : Index α) (c : Int × Int) (U : Int) (k : Nat) :
    SqHolds ix c.1 c.2 U k ↔ ∃ i j, InSq ix c U i j ∧ Holds ix.grid i j k := by
  constructor
  · rintro ⟨⟨i, j⟩, hc, hH⟩
    exact ⟨i, j, (inSq_iff ix c U i j).mp hc, hH⟩
  · rintro ⟨i, j, hc, hH⟩
    exact ⟨(i, j), (inSq_iff ix c U i j).mpr hc, hH⟩

variable {α : Type} [Field α] [LinearOrder α] [IsStrictOrderedRing α]

/-- T4a' `units_cover_ground_distance`: what a radius of `U ≥ 0` UNITS means on the ground. On an index on which nothing
raises, a point `P` of the extent whose coordinates differ from those of `q` by at most `U · min(dX, dY)` (in particular
a point within that Euclidean distance) lies in a cell at most `U` columns and `U` rows from the cell of `q`: the square
that `neighborhood(q, unit=U)` reads. (`groundDistanceToUnits(d) = floor(d / min(dX, dY)) + 1` is one more than needed
when `d` is a multiple of the smaller cell side.) -/
theorem units_cover_ground_distance {fl : α → Int} (hf : IsFloor fl) (ix : Index α) (hg : Good ix) (P q cP cq : α × α)
    (U : Int) (hU : 0 ≤ U) (hP : getCell ix P = some cP) (hq : getCell ix q = some cq)
    (hx : -(((U : Int) : α) * min ix.dX ix.dY) ≤ q.1 - P.1 ∧ q.1 - P.1 ≤ ((U : Int) : α) * min ix.dX ix.dY)
    (hy : -(((U : Int) : α) * min ix.dX ix.dY) ≤ q.2 - P.2 ∧ q.2 - P.2 ≤ ((U : Int) : α) * min ix.dX ix.dY) :
    InSq ix (cellOf fl ix cq) U (cellOf fl ix cP).1 (cellOf fl ix cP).2 :=
  (inSq_iff ix _ U _ _).mp (cell_within_units hf ix hg P q cP cq U hU hP hq hx hy)

/-- `neighborhood_unit_complete`: `neighborhood(q, unit=U)` with a radius given directly in units, `U ≥ 0`, `q` any point
of the closed extent of an index on which nothing raises: it returns, and the answer contains every feature listed in
the cell of a point `P` of the extent within Euclidean distance `U · min(dX, dY)` of `q`. -/
theorem neighborhood_unit_complete {fl : α → Int} (hf : IsFloor fl) (ix : Index α) (hg : Good ix) (q cq : α × α)
    (hq : getCell ix q = some cq) (U : Int) (hU : 0 ≤ U) :
    ∃ l, neighborhoodPoint fl ix q U = .ok (some l) ∧
      ∀ (k : Nat) (P cP : α × α), getCell ix P = some cP → Holds ix.grid (cellOf fl ix cP).1 (cellOf fl ix cP).2 k →
        (q.1 - P.1) ^ 2 + (q.2 - P.2) ^ 2 ≤ (((U : Int) : α) * min ix.dX ix.dY) ^ 2 → k ∈ l := by
  obtain ⟨l, hl, hmem⟩ := neighborhoodCell_unit ix hg.1.2 (cellOf fl ix cq).1 (cellOf fl ix cq).2 U hU
  exact ⟨l, neighborhoodPoint_of_cell fl ix hg q cq hq U l hl, fun k P cP hP hH hd =>
    (hmem k).mpr ⟨_, cell_within_units_dist hf ix hg P q cP cq U hU hP hq hd, hH⟩⟩

/-- `incremental_search_complete`: the incremental search `neighborhood(q, unit=-1)` ("the smallest unit such that the
answer is not empty"), `q` any point of the closed extent of an index on which nothing raises (a built index, also
after later additions). It returns a list `l`, and there is a radius `U` (the last ring read, `0 ≤ U ≤ max(csize, lsize)`)
such that
* (a) `l` is EXACTLY what the cells at most `U` columns and rows from the cell of `q` list: nothing registered in a ring
  that was read is omitted (the rings are cut on the clipped square, which repeats cells and loses none), nothing else
  is returned;
* (b) no false negative in ground distance: every feature listed in the cell of a point `P` of the extent within
  Euclidean distance `U · min(dX, dY)` of `q` is in `l`;
* (c) why it stopped: either `l` is empty and no cell of the grid lists anything, or `l` is not empty, `U ≥ 1`, some cell
  at most `U - 1` units away lists a feature and no cell at most `U - 2` units away lists any: the search stops one
  ring after the first ring that holds a feature.
What it does NOT guarantee is in `incremental_search_misses_nearest`. -/
theorem incremental_search_complete {fl : α → Int} (hf : IsFloor fl) (ix : Index α) (hg : Good ix) (q cq : α × α)
    (hq : getCell ix q = some cq) :
    ∃ (l : List Nat) (U : Int), neighborhoodPoint fl ix q (-1) = .ok (some l) ∧ 0 ≤ U ∧ U ≤ max ix.csize ix.lsize ∧
      (∀ k, k ∈ l ↔ ∃ i j, InSq ix (cellOf fl ix cq) U i j ∧ Holds ix.grid i j k) ∧
      (∀ (k : Nat) (P cP : α × α), getCell ix P = some cP → Holds ix.grid (cellOf fl ix cP).1 (cellOf fl ix cP).2 k →
        (q.1 - P.1) ^ 2 + (q.2 - P.2) ^ 2 ≤ (((U : Int) : α) * min ix.dX ix.dY) ^ 2 → k ∈ l) ∧
      ((l = [] ∧ ∀ i j k, 0 ≤ i → i < ix.csize → 0 ≤ j → j < ix.lsize → ¬ Holds ix.grid i j k) ∨
       (l ≠ [] ∧ 1 ≤ U ∧ (∃ i j k, InSq ix (cellOf fl ix cq) (U - 1) i j ∧ Holds ix.grid i j k) ∧
         ∀ i j k, InSq ix (cellOf fl ix cq) (U - 2) i j → ¬ Holds ix.grid i j k)) := by
  obtain ⟨hi, hj⟩ := cellOf_inGrid hf ix hg q cq hq
  obtain ⟨out, U, hrun, hU0, hUM, hout, hstop⟩ := neighborhoodCell_search ix hg.1.2 _ _ hi hj
  refine ⟨out, U, neighborhoodPoint_of_cell fl ix hg q cq hq (-1) out hrun, hU0, hUM, ?_, ?_, ?_⟩
  · intro k
    rw [hout k, sqHolds_iff ix (cellOf fl ix cq) U k]
  · intro k P cP hP hH hd
    exact (hout k).mpr ⟨_, cell_within_units_dist hf ix hg P q cP cq U hU0 hP hq hd, hH⟩
  · rcases hstop with ⟨h1, h2⟩ | ⟨h1, h2, ⟨d, h3⟩, h4⟩
    · left
      refine ⟨h1, ?_⟩
      intro i j k a b c e hH
      have : k ∈ out := (hout k).mpr ⟨(i, j), (sq_full ix _ _ U hi hj (by omega) (i, j)).mpr ⟨⟨a, b⟩, c, e⟩, hH⟩
      rw [h1] at this; cases this
    · right
      refine ⟨h2, h1, ?_, ?_⟩
      · obtain ⟨i, j, hc, hH⟩ := (sqHolds_iff ix (cellOf fl ix cq) (U - 1) d).mp h3
        exact ⟨i, j, d, hc, hH⟩
      · intro i j k hc hH
        exact h4 k ((sqHolds_iff ix (cellOf fl ix cq) (U - 2) k).mpr ⟨i, j, hc, hH⟩)

/-- `incremental_search_on_built_index`: the same for an index built by `SpatialIndex(collection, resolution, margin)`
(`margin ≥ 0`, default or positive cell size) in terms of the FEATURES: `neighborhood(q, unit=-1)` returns a list `l`
and there is a radius `U ≥ 0` (the last ring read) such that every feature with a point within Euclidean distance
`U · min(dX, dY)` of `q` is in `l`; and `l` is not empty as soon as the collection has a segment. -/
theorem incremental_search_on_built_index {fl : α → Int} (hf : IsFloor fl) (feats : List (List (α × α)))
    (res : Option (α × α)) (margin : α) (ix : Index α) (hm : 0 ≤ margin) (hres : ∀ r, res = some r → 0 < r.1 ∧ 0 < r.2)
    (hb : build fl feats res margin = .ok ix) (q : α × α) (hq : getCell ix q ≠ none) :
    ∃ (l : List Nat) (U : Int), neighborhoodPoint fl ix q (-1) = .ok (some l) ∧ 0 ≤ U ∧
      (∀ (k : Nat) (t : List (α × α)) (A B : α × α) (s : α), feats[k]? = some t → (A, B) ∈ Consec t → 0 ≤ s → s ≤ 1 →
        (q.1 - (lerp A B s).1) ^ 2 + (q.2 - (lerp A B s).2) ^ 2 ≤ (((U : Int) : α) * min ix.dX ix.dY) ^ 2 → k ∈ l) ∧
      ((∃ t ∈ feats, Consec t ≠ []) → l ≠ []) := by
  have hg := build_good hf feats res margin ix hm hres hb
  obtain ⟨cq, hcq⟩ := Option.ne_none_iff_exists'.mp hq
  obtain ⟨l, U, hrun, hU0, _, _, hdist, hstop⟩ := incremental_search_complete hf ix hg q cq hcq
  refine ⟨l, U, hrun, hU0, ?_, ?_⟩
  · intro k t A B s hk hAB hs0 hs1 hd
    obtain ⟨cP, hP, hH⟩ := index_complete hf feats res margin ix hm hres hb k t hk A B hAB s hs0 hs1
    exact hdist k _ cP hP hH hd
  · rintro ⟨t, ht, hne⟩ hl
    obtain ⟨k, hk⟩ := List.getElem?_of_mem ht
    obtain ⟨⟨A, B⟩, hAB⟩ := List.exists_mem_of_ne_nil _ hne
    obtain ⟨cP, hP, hH⟩ := index_complete hf feats res margin ix hm hres hb k t hk A B hAB 0 (le_refl _) zero_le_one
    obtain ⟨⟨a, b⟩, c, e⟩ := cellOf_inGrid hf ix hg _ cP hP
    rcases hstop with ⟨_, h2⟩ | ⟨h1, _⟩
    · exact h2 _ _ k a b c e hH
    · exact h1 hl

/-- `segment_neighborhood_complete`: `neighborhood([Q1, Q2], None, unit)` with `unit = groundDistanceToUnits(d)`, `d ≥ 0`,
both ends inside the closed extent of an index on which nothing raises: both calls return, and the answer contains every
feature listed in the cell of a point `P` of the extent within Euclidean distance `d` of SOME point `Q` of the query
segment (with `index_complete`: every feature having a point within `d` of the query segment). -/
theorem segment_neighborhood_complete {fl : α → Int} (hf : IsFloor fl) (ix : Index α) (hg : Good ix) (Q1 Q2 : α × α)
    (h1 : getCell ix Q1 ≠ none) (h2 : getCell ix Q2 ≠ none) (d : α) (hd : 0 ≤ d) :
    ∃ u l, groundDistanceToUnits fl ix d = .ok u ∧ neighborhoodSeg fl ix Q1 Q2 u = .ok (some l) ∧
      ∀ (k : Nat) (P cP : α × α) (s : α), getCell ix P = some cP → Holds ix.grid (cellOf fl ix cP).1 (cellOf fl ix cP).2 k →
        0 ≤ s → s ≤ 1 → ((lerp Q1 Q2 s).1 - P.1) ^ 2 + ((lerp Q1 Q2 s).2 - P.2) ^ 2 ≤ d ^ 2 → k ∈ l := by
  obtain ⟨p1, hp1⟩ := Option.ne_none_iff_exists'.mp h1
  obtain ⟨p2, hp2⟩ := Option.ne_none_iff_exists'.mp h2
  obtain ⟨l, hl, hall⟩ := neighborhoodSeg_unit_spec fl ix hg Q1 Q2 p1 p2 (fl (d / min ix.dX ix.dY + 1))
    (le_trans zero_le_one (units_pos hf d _ hd hg.side_pos)) hp1 hp2
  refine ⟨_, l, groundDistanceToUnits_eq fl ix hg.side_pos d, hl, fun k P cP s hP hH hs0 hs1 hdist => ?_⟩
  exact (hall k).mpr ⟨_, cellOf_mem_cellsCross hf ix hg Q1 Q2 p1 p2 hp1 hp2 s hs0 hs1, _,
    cell_within_dist hf ix hg P (lerp Q1 Q2 s) cP _ d hd hP (getCell_lerp ix Q1 Q2 p1 p2 s hs0 hs1 hp1 hp2) hdist, hH⟩

/-- `track_neighborhood_complete`: the same for `neighborhood(track, None, unit)`, `unit = groundDistanceToUnits(d)`, every
vertex of the query track inside the closed extent: it returns, and the answer contains every feature listed in the cell
of a point of the extent within Euclidean distance `d` of some point of some segment of the query track. -/
theorem track_neighborhood_complete {fl : α → Int} (hf : IsFloor fl) (ix : Index α) (hg : Good ix) (track : List (α × α))
    (hin : ∀ p ∈ track, getCell ix p ≠ none) (d : α) (hd : 0 ≤ d) :
    ∃ u l, groundDistanceToUnits fl ix d = .ok u ∧ neighborhoodTrack fl ix track u = .ok l ∧
      ∀ (k : Nat) (P cP Q1 Q2 : α × α) (s : α), (Q1, Q2) ∈ Consec track → getCell ix P = some cP →
        Holds ix.grid (cellOf fl ix cP).1 (cellOf fl ix cP).2 k → 0 ≤ s → s ≤ 1 →
        ((lerp Q1 Q2 s).1 - P.1) ^ 2 + ((lerp Q1 Q2 s).2 - P.2) ^ 2 ≤ d ^ 2 → k ∈ l := by
  have hu := groundDistanceToUnits_eq fl ix hg.side_pos d
  -- every segment of the query track is answered as `segment_neighborhood_complete` says
  obtain ⟨l, hl, _, hall⟩ := neighborhoodTrackLoop_total fl ix (fl (d / min ix.dX ix.dY + 1)) track none [] fun A B h => by
    obtain ⟨u, lseg, hu', hseg⟩ := segment_neighborhood_complete hf ix hg A B
      (hin A (mem_of_consec track A B h).1) (hin B (mem_of_consec track A B h).2) d hd
    cases hu.symm.trans hu'
    exact ⟨lseg, hseg⟩
  refine ⟨_, l, hu, hl, fun k P cP Q1 Q2 s hQ hP hH hs0 hs1 hdist => ?_⟩
  obtain ⟨lseg, hc, hsub⟩ := hall Q1 Q2 hQ
  exact hsub k (hc k P cP s hP hH hs0 hs1 hdist)

/-- `late_feature_outside_exact`: `addFeature(track, num)` on an index on which nothing raises, for ANY track — vertices
outside the extent allowed (a later `Network.addEdge` that leaves the extent fixed at construction). The call returns,
keeps extent / dimensions / everything registered before, and
* when the FIRST vertex is outside the extent nothing at all is registered (`ix' = ix`): `coord1` stays on that vertex,
  `p1 is None` at every later vertex and every segment is skipped — also the segments that lie wholly inside the extent;
* when the first vertex is inside, the result is EXACTLY that of `addFeature` on the polyline through the vertices that
  are inside the extent (an outside vertex is skipped and `coord1` keeps the last inside vertex, so a CHORD is registered
  in place of the two legs): every point of every chord between consecutive inside vertices lies in a cell listing `num`;
  in particular every leg of the track with BOTH ends inside the extent is registered completely (it is such a chord).
For a leg with an end outside the extent nothing is guaranteed about its part inside the extent
(`late_feature_outside_leg_not_registered`). -/
theorem late_feature_outside_exact {fl : α → Int} (hf : IsFloor fl) (ix : Index α) (hg : Good ix)
    (v0 : α × α) (rest : List (α × α)) (num : Nat) :
    ∃ ix', addFeature fl ix (v0 :: rest) num = .ok ix' ∧ Good ix' ∧ Same ix ix' ∧
      (∀ i j k, Holds ix.grid i j k → Holds ix'.grid i j k) ∧
      (getCell ix v0 = none → ix' = ix) ∧
      (getCell ix v0 ≠ none →
        addFeature fl ix (v0 :: rest) num = addFeature fl ix ((v0 :: rest).filter (insideB ix)) num ∧
        (∀ A B, (A, B) ∈ Consec ((v0 :: rest).filter (insideB ix)) → ∀ s : α, 0 ≤ s → s ≤ 1 →
          ∃ c, getCell ix' (lerp A B s) = some c ∧ Holds ix'.grid (cellOf fl ix' c).1 (cellOf fl ix' c).2 num) ∧
        (∀ A B, (A, B) ∈ Consec (v0 :: rest) → getCell ix A ≠ none → getCell ix B ≠ none →
          (A, B) ∈ Consec ((v0 :: rest).filter (insideB ix)))) := by
  cases h0 : getCell ix v0 with
  | none =>
    have hrun : addFeature fl ix (v0 :: rest) num = .ok ix := by
      unfold addFeature
      simp only [addFeatureLoop]
      exact addFeatureLoop_stuck fl num ix hg v0 h0 rest
    exact ⟨ix, hrun, hg, ⟨rfl, rfl, rfl, rfl, rfl, rfl, rfl, rfl⟩, fun _ _ _ h => h, fun _ => rfl, fun h => absurd rfl h⟩
  | some c0 =>
    have hin0 := (insideB_iff ix v0).mpr (h0 ▸ Option.some_ne_none c0)
    have hfilt : (v0 :: rest).filter (insideB ix) = v0 :: rest.filter (insideB ix) := by
      rw [List.filter_cons, if_pos hin0]
    have heq : addFeature fl ix (v0 :: rest) num = addFeature fl ix ((v0 :: rest).filter (insideB ix)) num := by
      rw [hfilt]
      unfold addFeature
      simp only [addFeatureLoop]
      exact addFeatureLoop_filter hf num rest ix hg v0 (by rw [h0]; exact Option.some_ne_none _)
    have hall : ∀ p ∈ (v0 :: rest).filter (insideB ix), getCell ix p ≠ none := fun p hp =>
      (insideB_iff ix p).mp (List.mem_filter.mp hp).2
    obtain ⟨ix', h, hg', e, hreg⟩ := addFeature_complete hf ix hg _ num hall
    refine ⟨ix', by rw [heq]; exact h, hg', e.1, e.2, (fun hc => by cases hc), fun _ => ⟨heq, hreg, ?_⟩⟩
    exact fun A B hAB hA hB => consec_filter _ _ _ _ hAB ((insideB_iff ix A).mpr hA) ((insideB_iff ix B).mpr hB)

/-! ### what the code does not guarantee (refutations with witnesses, replayed on the real code by the corpus) -/

/-- `incremental_search_misses_nearest`: the natural reading of the incremental search — "the nearest feature is among
those returned" — is FALSE, also with square cells and the extra ring the loop adds. Four tracks on a 10 x 10 grid of unit
cells over [0,10]² (margin 0); query point `q = (95/16, 11/2)` in cell (5,5). Track 1 = (33/8,65/16)-(33/8,17/4) is in
cell (4,4) (first non-empty ring: 1), the search reads ring 2 and stops; track 0 = (129/16,11/2)-(65/8,11/2) is in cell
(8,5), ring 3, and is not returned — although its point (129/16, 11/2) is at distance 17/8 of `q`, nearer than EVERY point
of track 1 (all at distance > 11/5). (The rings are Chebyshev rings of cells; a feature in ring `u` can be as far as
`(u + 1)·√2` cells, farther than one in ring `u + 2`.) -/
theorem incremental_search_misses_nearest :
    ∃ (ix : Index ℚ) (l : List Nat),
      build Rat.floor [[((129/16 : ℚ), (11/2 : ℚ)), (65/8, 11/2)], [(33/8, 65/16), (33/8, 17/4)], [(0, 0), (0, 1/2)],
        [(10, 10), (10, 19/2)]] (some (1, 1)) 0 = .ok ix ∧
      neighborhoodPoint Rat.floor ix (95/16, 11/2) (-1) = .ok (some l) ∧ 1 ∈ l ∧ 0 ∉ l ∧
      ((95/16 : ℚ) - 129/16) ^ 2 + ((11/2 : ℚ) - 11/2) ^ 2 = (17/8) ^ 2 ∧
      ∀ s : ℚ, 0 ≤ s → s ≤ 1 →
        (17/8 : ℚ) ^ 2 < ((95/16 : ℚ) - (lerp ((33/8 : ℚ), (65/16 : ℚ)) (33/8, 17/4) s).1) ^ 2
          + ((11/2 : ℚ) - (lerp ((33/8 : ℚ), (65/16 : ℚ)) (33/8, 17/4) s).2) ^ 2 := by
  -- one evaluation: the query on the built index returns `[1]` (so, in particular, the constructor returns)
  have hq : (match build Rat.floor [[((129/16 : ℚ), (11/2 : ℚ)), (65/8, 11/2)], [(33/8, 65/16), (33/8, 17/4)], [(0, 0), (0, 1/2)],
      [(10, 10), (10, 19/2)]] (some (1, 1)) 0 with
      | .ok ix => neighborhoodPoint Rat.floor ix (95/16, 11/2) (-1)
      | .error _ => .error .exit) = .ok (some [1]) := by decide +kernel
  cases hbuild : build Rat.floor [[((129/16 : ℚ), (11/2 : ℚ)), (65/8, 11/2)], [(33/8, 65/16), (33/8, 17/4)], [(0, 0), (0, 1/2)],
      [(10, 10), (10, 19/2)]] (some (1, 1)) 0 with
  | error e => rw [hbuild] at hq; cases hq
  | ok ix =>
    rw [hbuild] at hq
    refine ⟨ix, [1], rfl, hq, by simp, by simp, by norm_num, ?_⟩
    intro s hs0 hs1
    unfold lerp
    dsimp only
    nlinarith [mul_nonneg hs0 hs0]

/-- `late_feature_first_vertex_outside_dropped`: witness of the first case of `late_feature_outside_exact`. The network of
the two edges (0,0)-(100,0) and (0,100)-(100,100), cells 10 x 10, margin 1/20 (extent [-5,105]²); the edge
(200,50)-(40,50)-(60,50) added under number 2 has its second segment wholly INSIDE the extent, yet the point (50,50) of
that segment does not find it (the same edge given from its other end, (60,50)-(40,50)-(200,50), is found). -/
theorem late_feature_first_vertex_outside_dropped :
    (match build Rat.floor [[((0 : ℚ), (0 : ℚ)), (100, 0)], [(0, 100), (100, 100)]] (some (10, 10)) (1/20) with
      | .ok ix =>
        (match addFeature Rat.floor ix [(200, 50), (40, 50), (60, 50)] 2, addFeature Rat.floor ix [(60, 50), (40, 50), (200, 50)] 2 with
         | .ok ix1, .ok ix2 => (requestPoint Rat.floor ix1 (50, 50), requestPoint Rat.floor ix2 (50, 50))
         | _, _ => (.error .exit, .error .exit))
      | .error _ => (.error .exit, .error .exit)) = (.ok [], .ok [2]) := by
  decide +kernel

/-- `late_feature_outside_leg_not_registered`: witness of the second case. Same network; the edge (40,50)-(50,200)-(60,50)
added under number 2 leaves the extent at its middle vertex: the chord (40,50)-(60,50) is registered — the point (50,50),
which is on no leg, finds it — and the point (42,80) of the leg (40,50)-(50,200), inside the extent, does not. -/
theorem late_feature_outside_leg_not_registered :
    (match build Rat.floor [[((0 : ℚ), (0 : ℚ)), (100, 0)], [(0, 100), (100, 100)]] (some (10, 10)) (1/20) with
      | .ok ix =>
        (match addFeature Rat.floor ix [(40, 50), (50, 200), (60, 50)] 2 with
         | .ok ix1 => (requestPoint Rat.floor ix1 (50, 50), requestPoint Rat.floor ix1 (42, 80),
                       lerp ((40 : ℚ), (50 : ℚ)) (50, 200) (1/5))
         | .error _ => (.error .exit, .error .exit, (0, 0)))
      | .error _ => (.error .exit, .error .exit, (0, 0))) = (.ok [2], .ok [], (42, 80)) := by
  decide +kernel

/-! ### rounding: what the cell computation keeps under ANY monotone rounded subtraction / division

The theorems above are about exact values. `__getCell` and `request(coord)` compute, in doubles,
`min(floor(min((x − xmin) / dX, csize)), csize − 1)`. The statement one would like at the float level,
`floor((x − xmin) / dX) < csize` for `xmin ≤ x < xmax`, is FALSE in IEEE doubles — `xmin = 0`, `xmax = 0.5`, 7 columns
(`dX = 0.5 / 7`), `x = 0.49999999999999994 < xmax`: `(x − xmin) / dX` is exactly `7.0` (corpus case
`23-float-index-reaches-csize-below-xmax`) — and it does not follow from monotonicity and exactness at the two ends either
(`rounded_floor_may_reach_csize`: a counter-model). What does hold for every rounding that is monotone, exact on `o − o`
and on `0 / d` — IEEE subtraction and division in any rounding mode — is below: thanks to the two clamps the computed
column is always a column of the grid (no IndexError and, as important in Python, no negative index that would silently
read the LAST column), it is monotone in `x`, and `xmin` is in column 0. How far the computed column can be from the
exact one (at most one column for `csize < 2^51`, since each operation is within one ulp) is NOT proved. -/

section rounded
variable {β : Type} [LinearOrder β]

/-- what is assumed of the rounded operations: `sub a o` is the computed `a − o`, `div a d` the computed `a / d`, `fl` is
`math.floor` on the computed numbers, `ofInt` the conversion of a Python `int` (exact for the grid sizes in question) -/
structure RoundedAxis (sub div : β → β → β) (fl : β → Int) (ofInt : Int → β) (zero : β) : Prop where
  sub_mono : ∀ a b o, a ≤ b → sub a o ≤ sub b o
  sub_self : ∀ o, sub o o = zero
  div_mono : ∀ a b d, zero < d → a ≤ b → div a d ≤ div b d
  zero_div : ∀ d, zero < d → div zero d = zero
  fl_mono : ∀ a b, a ≤ b → fl a ≤ fl b
  fl_ofInt : ∀ n, fl (ofInt n) = n
  ofInt_zero : ofInt 0 = zero
  ofInt_mono : ∀ m n, m ≤ n → ofInt m ≤ ofInt n

/-- the column `request(coord)` / `neighborhood(coord)` compute for abscissa `x`:
`min(floor(min((x − xmin) / dX, csize)), csize − 1)` with the rounded operations -/
def roundedCell (sub div : β → β → β) (fl : β → Int) (ofInt : Int → β) (xmin dX : β) (cs : Int) (x : β) : Int :=
  min (fl (min (div (sub x xmin) dX) (ofInt cs))) (cs - 1)

/-- `rounded_cell_mono`: the computed column is monotone in `x` -/
theorem rounded_cell_mono {sub div : β → β → β} {fl : β → Int} {ofInt : Int → β} {zero : β}
    (h : RoundedAxis sub div fl ofInt zero) (xmin dX : β) (cs : Int) (hd : zero < dX) (x x' : β) (hx : x ≤ x') :
    roundedCell sub div fl ofInt xmin dX cs x ≤ roundedCell sub div fl ofInt xmin dX cs x' := by
  unfold roundedCell
  have h1 := h.div_mono _ _ dX hd (h.sub_mono x x' xmin hx)
  have h2 := h.fl_mono _ _ (min_le_min_right (ofInt cs) h1)
  omega

/-- `rounded_cell_at_xmin`: the lower border of the extent is in column 0 -/
theorem rounded_cell_at_xmin {sub div : β → β → β} {fl : β → Int} {ofInt : Int → β} {zero : β}
    (h : RoundedAxis sub div fl ofInt zero) (xmin dX : β) (cs : Int) (hd : zero < dX) (hcs : 1 ≤ cs) :
    roundedCell sub div fl ofInt xmin dX cs xmin = 0 := by
  unfold roundedCell
  have h2 : zero ≤ ofInt cs := by
    have := h.ofInt_mono 0 cs (by omega)
    rwa [h.ofInt_zero] at this
  rw [h.sub_self, h.zero_div dX hd, min_eq_left h2, ← h.ofInt_zero, h.fl_ofInt]
  omega

/-- `rounded_cell_in_grid`: for every `x ≥ xmin`, positive cell side and at least one column, the computed column is a
column of the grid, whatever the rounding does -/
theorem rounded_cell_in_grid {sub div : β → β → β} {fl : β → Int} {ofInt : Int → β} {zero : β}
    (h : RoundedAxis sub div fl ofInt zero) (xmin dX : β) (cs : Int) (hd : zero < dX) (hcs : 1 ≤ cs) (x : β) (hx : xmin ≤ x) :
    0 ≤ roundedCell sub div fl ofInt xmin dX cs x ∧ roundedCell sub div fl ofInt xmin dX cs x ≤ cs - 1 := by
  refine ⟨?_, min_le_right _ _⟩
  rw [← rounded_cell_at_xmin h xmin dX cs hd hcs]
  exact rounded_cell_mono h xmin dX cs hd xmin x hx

/-- `rounded_floor_may_reach_csize`: monotone rounding that is exact at both ends of the extent does NOT give
`floor((x − xmin) / dX) < csize` for `xmin ≤ x < xmax`. Counter-model on the integers: `div a d` rounds up, extent
[0, 10], 5 columns of side 2 (the index of `xmax` is exactly 5); `x = 9 < xmax` gets index 5 = csize. Only the clamp
`min(·, csize − 1)` keeps it in the last column — where it belongs. -/
theorem rounded_floor_may_reach_csize :
    ∃ (sub div : Int → Int → Int) (fl : Int → Int) (ofInt : Int → Int) (xmin xmax dX x cs : Int),
      RoundedAxis sub div fl ofInt 0 ∧ 0 < dX ∧ div (sub xmax xmin) dX = ofInt cs ∧ xmin ≤ x ∧ x < xmax ∧
      ¬ fl (div (sub x xmin) dX) < cs ∧ roundedCell sub div fl ofInt xmin dX cs x = cs - 1 := by
  refine ⟨fun a o => a - o, fun a d => (a + d - 1) / d, id, id, 0, 10, 2, 9, 5, ?_, by decide, by decide, by decide, by decide,
    by decide, by decide⟩
  refine ⟨fun a b o hab => by show a - o ≤ b - o; omega, fun o => by show o - o = 0; omega, ?_, ?_, fun a b hab => hab, fun n => rfl, rfl,
    fun m n hmn => hmn⟩
  · intro a b d hd hab
    exact Int.ediv_le_ediv hd (by omega)
  · intro d hd
    simp only [zero_add]
    exact Int.ediv_eq_zero_of_lt (by omega) (by omega)

end rounded

/-- the search on the index of the refutation above: from (1/2, 1/2) — cell (0,0), which holds track 2 — the search
reads rings 0 and 1 and returns track 2 only; a given-unit query with 5 units from the same point returns tracks 1 and 2 -/
example : (match build Rat.floor [[((129/16 : ℚ), (11/2 : ℚ)), (65/8, 11/2)], [(33/8, 65/16), (33/8, 17/4)], [(0, 0), (0, 1/2)],
      [(10, 10), (10, 19/2)]] (some (1, 1)) 0 with
    | .ok ix => (neighborhoodPoint Rat.floor ix (1/2, 1/2) (-1), neighborhoodPoint Rat.floor ix (1/2, 1/2) 5,
        neighborhoodSeg Rat.floor ix (5, 5) (7, 5) 1, neighborhoodTrack Rat.floor ix [(5, 5), (7, 5), (7, 9)] 1)
    | .error _ => (.error .exit, .error .exit, .error .exit, .error .exit))
    = (.ok (some [2]), .ok (some [2, 1]), .ok (some [1, 0]), .ok [1, 0]) := by
  decide +kernel

end TV.C08
