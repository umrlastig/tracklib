import TracklibVerif.Props.C15Ext
/-! C15 over `Ext α`: finite non-negative weights on a signal with infinite samples. A zero weight on an infinite sample makes the
sum of products NaN, since `inf * 0` is NaN (`inner_zero_weight_nan`, `inf_sample_zero_weight_nan`); when every infinite sample is
`+inf` and lies under a positive weight the output is `+inf` (`inf_sample_nonneg_pinf`). -/
namespace TV.C15
open TV.Filter
set_option linter.unusedSectionVars false

section ordered
variable {α : Type} [Field α] [LinearOrder α] [IsStrictOrderedRing α]

theorem Ext.inf_mul_zero (val : Ext α) (hv : val = .pinf ∨ val = .ninf) : val * Ext.fin (0 : α) = .nan := by
  rcases hv with h | h <;> subst h <;> simp [Ext.mul_def, Ext.mul, Ext.mulInf]

/-- a zero weight met on an infinite sample puts a NaN among the products, and the sum of products is NaN whatever the other weights -/
theorem inner_zero_weight_nan (s : List (Option (Ext α))) (D i : Nat) (ws : List α) (a : Nat) (ha : a < ws.length)
    (hw : ws[a] = 0) (hsa : sample s D i a = some .pinf ∨ sample s D i a = some .ninf) :
    (inner s D i (ws.map Ext.fin) 0 (0, 0)).1 = .nan := by
  obtain ⟨x, hx, hinf⟩ : ∃ x, sample s D i a = some x ∧ (x = .pinf ∨ x = .ninf) := by
    rcases hsa with h | h
    · exact ⟨_, h, Or.inl rfl⟩
    · exact ⟨_, h, Or.inr rfl⟩
  rw [inner_eq_foldl]
  exact foldl_add_nan _ (List.mem_map.mpr ⟨_, mem_window_fin_of_sample s D i ws a ha x hx,
    by rw [hw]; exact Ext.inf_mul_zero x hinf⟩) _

/-- **A zero weight on an infinite sample** (the edge of a Uniform / Triangular window over a `±inf` sample), all weights non-negative: `0 * inf` is NaN and
the output is NaN — not the mean of the samples that carry weight. -/
theorem inf_sample_zero_weight_nan (v : List (Ext α)) (ws : List α) (boundary np : Bool) (out : List (Ext α))
    (h : filterWindowX v (ws.map .fin) boundary np = .ok out) (i : Nat) (hi : i < v.length)
    (hfilt : boundary = true ∨ (ws.length / 2 ≤ i ∧ i < v.length - ws.length / 2))
    (hz : ∃ j, j < ws.length ∧ ws[j]? = some 0 ∧ (sample (toSamples v) (ws.length / 2) i j = some .pinf ∨ sample (toSamples v) (ws.length / 2) i j = some .ninf)) :
    out[i]? = some .nan := by
  obtain ⟨jz, hz1, hz2, hz3⟩ := hz
  rw [filterWindowX_ok_getElem? v (ws.map Ext.fin) boundary np out h i hi (by rw [List.length_map]; exact hfilt), List.length_map,
    inner_zero_weight_nan (toSamples v) (ws.length / 2) i ws jz hz1
      (by rw [List.getElem?_eq_getElem hz1] at hz2; exact Option.some.inj hz2) hz3]
  rfl

/-- **Non-negative weights, a `+inf` sample, no `-inf` sample, every infinite sample under a positive weight**: the output is `+inf`
(a zero weight on a finite sample adds `0`). -/
theorem inf_sample_nonneg_pinf (v : List (Ext α)) (ws : List α) (boundary np : Bool) (hnn : ∀ w ∈ ws, 0 ≤ w) (out : List (Ext α))
    (h : filterWindowX v (ws.map .fin) boundary np = .ok out) (i : Nat) (hi : i < v.length)
    (hfilt : boundary = true ∨ (ws.length / 2 ≤ i ∧ i < v.length - ws.length / 2))
    (hp : ∃ j, j < ws.length ∧ sample (toSamples v) (ws.length / 2) i j = some .pinf)
    (hpw : ∀ j, j < ws.length → sample (toSamples v) (ws.length / 2) i j = some .pinf → ∃ w, ws[j]? = some w ∧ 0 < w)
    (hn : ∀ j, j < ws.length → sample (toSamples v) (ws.length / 2) i j ≠ some .ninf) :
    out[i]? = some .pinf :=
  inf_sample_pinf_nonneg_weights v ws boundary np hnn out h i hi hfilt hp hpw hn

/-- a Uniform-like window `[0,1,1,1,0]` `+inf` where the zero edge falls on finite samples, NaN where it falls on the `+inf` sample -/
example : filterWindowX (α := Int) [.fin 1, .fin 2, .pinf, .fin 4, .fin 5] [.fin 0, .fin 1, .fin 1, .fin 1, .fin 0] true false
    = .ok [.nan, .pinf, .pinf, .pinf, .nan] := by decide +kernel

/-- the zero edge of the window `[0,1,0]` on an infinite sample: NaN -/
example : filterWindowX (α := Int) [.fin 1, .fin 2, .pinf] [.fin 0, .fin 1, .fin 0] true false
    = .ok [.fin 1, .nan, .pinf] := by decide +kernel

end ordered
end TV.C15
