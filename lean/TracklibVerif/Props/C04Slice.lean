import TracklibVerif.Props.C04
/-! # C04, part 2 — slices with a negative step; what the code does where the arguments designate no observation

`track[a:b:c]` with `c ≤ -1` (every `a`, `b`, absent or not), and the boundary of the oracle's domain as theorems about
the model: for each operator, exactly which arguments raise (and which exception the model's `none` stands for) and
which selection the clamped / wrapped arguments make. The harness compares the model with the code on all these
arguments (streams `extract`, `step`, `pattern`, `gt`, `lt`, `remove`, one-operation sessions), so the statements below
say what the CODE does there; the property's oracle (`spec`) does not speak of these arguments. -/
namespace TV.C04
open TV.Seq
variable {α : Type}

/-- `track[a:b:c]` with `c = -d ≤ -1`, EVERY `a` and `b` (absent, negative, beyond the ends). With `(s, e)` the bounds as
CPython's `PySlice_AdjustIndices` (= `slice.indices`) adjusts them — an absent start is the last position `size-1`,
an absent stop is `-1` (one before the first), a bound `x ≥ 0` is `min(x, size-1)`, a bound `x < 0` is
`max(x + size, -1)` — the result holds exactly the observations at the positions `s, s-d, s-2d, … > e`, in THIS
(reversed) order, nothing else, with the feature table of the source: its `i`-th observation is the source's
`(s - i·d)`-th. Equivalently it is every `d`-th observation of `reversed(track[e+1 : s+1])`. -/
theorem getitemSlice_neg_spec (tr : Track) (a b : Option Int) (d : Nat) (hd : 1 ≤ d) :
    ∃ (s e : Int) (r : Track), sliceBounds tr.pts.length a b (-(d : Int)) = (s, e) ∧
      -1 ≤ s ∧ s ≤ (tr.pts.length : Int) - 1 ∧ -1 ≤ e ∧ e ≤ (tr.pts.length : Int) - 1 ∧
      (a = none → s = (tr.pts.length : Int) - 1) ∧
      (∀ x : Int, a = some x → 0 ≤ x → s = min x ((tr.pts.length : Int) - 1)) ∧
      (∀ x : Int, a = some x → x < 0 → s = max (x + (tr.pts.length : Int)) (-1)) ∧
      (b = none → e = -1) ∧
      (∀ x : Int, b = some x → 0 ≤ x → e = min x ((tr.pts.length : Int) - 1)) ∧
      (∀ x : Int, b = some x → x < 0 → e = max (x + (tr.pts.length : Int)) (-1)) ∧
      getitemSlice tr a b (some (-(d : Int))) = some r ∧ r.table = tr.table ∧
      (∀ i : Nat, r.pts[i]? =
        if e < s - (i : Int) * (d : Int) then tr.pts[(s - (i : Int) * (d : Int)).toNat]? else none) ∧
      r.pts = stepAux d 0 ((tr.pts.take (s + 1).toNat).drop (e + 1).toNat).reverse := by
  obtain ⟨s, e, hb, h1, h2, h3, h4, h5, h6, h7, h8, h9, h10⟩ :=
    sliceBounds_neg tr.pts.length a b (-(d : Int)) (by omega)
  obtain ⟨hp, hr⟩ := pySlice_neg tr.pts a b d hd s e hb h2 h3
  refine ⟨s, e, ⟨stepAux d 0 ((tr.pts.take (s + 1).toNat).drop (e + 1).toNat).reverse, tr.table⟩, hb, h1, h2, h3, h4, h5, h6, h7, h8, h9, h10, ?_, rfl, hr, rfl⟩
  simp only [getitemSlice, hp, Option.map_some, transmitAF]

/-- `track[::-d]` (`d ≥ 1`, both bounds absent): every `d`-th observation of the reversed track -/
theorem getitemSlice_neg_all (tr : Track) (d : Nat) (hd : 1 ≤ d) :
    getitemSlice tr none none (some (-(d : Int))) = some ⟨stepAux d 0 tr.pts.reverse, tr.table⟩ := by
  rw [getitemSlice, pySlice_all_neg tr.pts d hd]; rfl

/-- `track[::-1]` is the track in reverse order (all its observations, the last one first), table carried -/
theorem getitemSlice_reversed (tr : Track) :
    getitemSlice tr none none (some (-1)) = some ⟨tr.pts.reverse, tr.table⟩ := by
  have h := getitemSlice_neg_all tr 1 (Nat.le_refl 1)
  rw [stepAux_one] at h
  exact h

/-- `track % (-d)` (`d ≥ 1`) is `track[::-d]`: the observations at the positions `size-1, size-1-d, …`, last first -/
theorem decimateStep_neg_spec (tr : Track) (d : Nat) (hd : 1 ≤ d) :
    decimateStep tr (-(d : Int)) = getitemSlice tr none none (some (-(d : Int))) ∧
    ∃ r, decimateStep tr (-(d : Int)) = some r ∧ r.table = tr.table ∧
      ∀ i : Nat, r.pts[i]? = if i * d < tr.pts.length then tr.pts[tr.pts.length - 1 - i * d]? else none := by
  have heq := decimateStep_eq_getitemSlice tr (-(d : Int))
  refine ⟨heq, _, heq.trans (getitemSlice_neg_all tr d hd), rfl, fun i => ?_⟩
  have := stepAux_reverse_getElem? tr.pts d hd 0 tr.pts.length (Nat.le_refl _) i
  rwa [List.take_length, List.drop_zero, Nat.zero_add] at this

/-- `track[a:b:c]` raises (`ValueError: slice step cannot be zero`) exactly when the step is 0; every other slice
returns a track -/
theorem getitemSlice_raises_iff (tr : Track) (a b c : Option Int) :
    getitemSlice tr a b c = none ↔ c = some 0 := by
  rw [getitemSlice, Option.map_eq_none_iff, pySlice_eq_none_iff]

/-- `track % 0` raises (`ValueError`); every other integer returns a track -/
theorem decimateStep_raises_iff (tr : Track) (n : Int) : decimateStep tr n = none ↔ n = 0 := by
  rw [decimateStep_eq_getitemSlice, getitemSlice_raises_iff, Option.some_inj]

/-- `track % []` raises (`ZeroDivisionError`) exactly on a non-empty track; on the empty track the loop does not run and
the result is the empty track with the source's table. A non-empty pattern never raises. -/
theorem decimatePattern_raises_iff (tr : Track) (pat : List Bool) :
    (decimatePattern tr pat = none ↔ pat = [] ∧ tr.pts ≠ []) ∧
    (tr.pts = [] → decimatePattern tr pat = some ⟨[], tr.table⟩) := by
  constructor
  · unfold decimatePattern
    cases pat <;> cases hp : tr.pts <;> simp
  · intro h
    unfold decimatePattern
    simp [h, patLoop, transmitAF]

/-- `extract(a, b)` for EVERY pair of integers. It raises (`IndexError`) exactly when `a ≤ b` and one of the indices
`a..b` is outside `-size..size-1` (`a < -size` or `b ≥ size`). Otherwise the result has `b+1-a` observations (none when
`a > b`), the `i`-th being `track[a+i]` with Python's indexing: a NEGATIVE `a` wraps (`extract(-2, 1)` on 5 observations
holds the observations 3, 4, 0, 1); the table is the source's. -/
theorem extract_total (tr : Track) (a b : Int) :
    (extract tr a b = none ↔ a ≤ b ∧ (a < -(tr.pts.length : Int) ∨ (tr.pts.length : Int) ≤ b)) ∧
    ∀ r, extract tr a b = some r → r.table = tr.table ∧ r.pts.length = (b + 1 - a).toNat ∧
      ∀ i : Nat, i < (b + 1 - a).toNat → r.pts[i]? = pyGet tr.pts (a + (i : Int)) := by
  obtain ⟨h1, h2⟩ := extractLoop_get tr.pts (b + 1 - a).toNat a
  constructor
  · unfold extract
    rw [Option.map_eq_none_iff, h2]
    constructor
    · rintro ⟨i, hi, hg⟩
      have := (pyGet_none_iff _ _).mp hg
      omega
    · rintro ⟨hab, h | h⟩
      · exact ⟨0, by omega, (pyGet_none_iff _ _).mpr (by omega)⟩
      · exact ⟨(b - a).toNat, by omega, (pyGet_none_iff _ _).mpr (by omega)⟩
  · intro r hr
    obtain ⟨p, hl, rfl⟩ := Option.map_eq_some_iff.mp hr
    exact ⟨rfl, h1 p hl⟩

/-- `track > n` with a NEGATIVE `n = -k` keeps the LAST `k` observations (`L[-k:]`), the whole track when `k ≥ size`;
no integer raises -/
theorem dropFirst_neg (tr : Track) (k : Nat) (hk : 1 ≤ k) :
    dropFirst tr (-(k : Int)) = ⟨tr.pts.drop (tr.pts.length - k), tr.table⟩ := by
  have h0 : ¬ ((0 : Int) ≤ -(k : Int)) := by omega
  simp only [dropFirst, pySliceFrom, h0, if_false, transmitAF]
  congr 2
  omega

/-- `track < n` with a negative `n` returns ALL the observations (`L[0 : size - n]`, the stop is beyond the end); no
integer raises -/
theorem dropLast_neg (tr : Track) (n : Int) (hn : n ≤ 0) : dropLast tr n = ⟨tr.pts, tr.table⟩ := by
  simp only [dropLast, transmitAF]
  congr 1
  apply List.take_of_length_le
  omega

/-- `track[i]` raises (`IndexError`) exactly when `i ≥ size` or `i < -size` -/
theorem getitemInt_raises_iff (tr : Track) (i : Int) :
    getitemInt tr i = none ↔ (tr.pts.length : Int) ≤ i ∨ i < -(tr.pts.length : Int) :=
  pyGet_none_iff tr.pts i

/-- `removeObs(i)` for EVERY integer: an index `-size ≤ i < 0` counts from the end (the observation `size+i` is removed,
1 returned); `i ≥ size` or `i < -size` raises `IndexError` and removes nothing. (`0 ≤ i < size`: `removeObs_spec`.) -/
theorem removeObs_total (l : List α) (i : Int) :
    (-(l.length : Int) ≤ i → i < 0 → removeObs l i = (l.eraseIdx ((l.length : Int) + i).toNat, some 1)) ∧
    ((l.length : Int) ≤ i ∨ i < -(l.length : Int) → removeObs l i = (l, none)) := by
  constructor
  · intro h1 h2
    rw [removeObs_eq, bucketOf_of (k := ((l.length : Int) + i).toNat) (by omega) (Or.inr (by omega))]
  · intro h
    rw [removeObs_eq, (bucketOf_eq_none_iff _ _).mpr h]

/-- `removeFirstObs()` / `removeLastObs()` on the EMPTY track raise `IndexError` (`del L[0]`, `del L[-1]`) -/
theorem removeEnds_empty : removeFirst ([] : List α) = ([], none) ∧ removeLast ([] : List α) = ([], none) := by
  constructor
  · exact (removeObs_total ([] : List α) 0).2 (Or.inl (by simp))
  · exact (removeObs_total ([] : List α) _).2 (Or.inr (by simp))

/-- `popObs(i)` outside `-size..size-1` raises `IndexError` at the read and removes nothing; with `-size ≤ i < 0` it
returns and removes the observation `size+i` -/
theorem popObs_total (l : List α) (i : Int) :
    ((l.length : Int) ≤ i ∨ i < -(l.length : Int) → popObs l i = (l, none)) ∧
    (-(l.length : Int) ≤ i → i < 0 →
      popObs l i = (l.eraseIdx ((l.length : Int) + i).toNat, l[((l.length : Int) + i).toNat]?)) := by
  constructor
  · intro h
    simp only [popObs, (pyGet_none_iff l i).mpr h]
  · intro h1 h2
    have hlt : ((l.length : Int) + i).toNat < l.length := by omega
    have hb := bucketOf_of hlt (i := i) (Or.inr (by omega))
    simp only [popObs, pyGet_eq, removeObs_eq, hb, Option.bind_some, List.getElem?_eq_getElem hlt]

/-- `insertObs(obs, i)` for EVERY integer `i` never raises: the observation goes to the position `p` = `i` clamped as
`list.insert` does (`i > size` → `size`: appended; `i < 0` → `max(0, size + i)`), the others keep their order -/
theorem insertAt_total (tr : Track) (o : Obs) (i : Int) :
    ∃ p : Nat, p ≤ tr.pts.length ∧ insertAt tr o i = ⟨tr.pts.take p ++ o :: tr.pts.drop p, tr.table⟩ ∧
      (0 ≤ i → (p : Int) = min i (tr.pts.length : Int)) ∧ (i < 0 → (p : Int) = max 0 ((tr.pts.length : Int) + i)) := by
  obtain ⟨h1, h2, _⟩ := sliceAdj_pos_step tr.pts.length i
  refine ⟨(sliceAdj tr.pts.length 0 tr.pts.length i).toNat, by omega, ?_, fun h => ?_, fun h => ?_⟩
  · rw [insertAt, pyInsert_eq, insertIdx_eq_take_drop _ _ _ (by omega)]
  · rw [sliceAdj_of_nonneg h]; omega
  · rw [sliceAdj_of_neg h]; omega

/-- `removeObsList(tab)` with distinct indices the LARGEST of which is `≥ size`: the first deletion (the loop goes
from the largest index down) raises `IndexError`; nothing has been removed -/
theorem removeByIdx_index_error (l : List α) (tab : List Int) (hn : tab.Nodup)
    (hm : ∃ m ∈ tab, (l.length : Int) ≤ m) : removeByIdx l tab = (l, none) := by
  obtain ⟨m, hmt, hml⟩ := hm
  have hperm := List.mergeSort_perm tab (fun a b => decide (a ≤ b))
  have hrev : (tab.mergeSort (fun a b => decide (a ≤ b))).reverse.Pairwise (· ≥ ·) :=
    List.pairwise_reverse.mpr (sortInts_sorted tab)
  have hmem : m ∈ (tab.mergeSort (fun a b => decide (a ≤ b))).reverse := List.mem_reverse.mpr (hperm.mem_iff.mpr hmt)
  rw [removeByIdx_eq, if_pos hn]
  cases hr : (tab.mergeSort (fun a b => decide (a ≤ b))).reverse with
  | nil => rw [hr] at hmem; cases hmem
  | cons y ys =>
    rw [hr] at hrev hmem
    have hy : (l.length : Int) ≤ y := by
      rcases List.mem_cons.mp hmem with h | h
      · omega
      · have := (List.pairwise_cons.mp hrev).1 m h; omega
    exact delLoop_cons_none ys 0 ((pyDel_none_iff l y).mpr (Or.inl hy))

/-! ### `removeObsList` with ANY list of integers: the deletions done before the `IndexError` stay done -/

/-- the deletions `del L[i]` for the indices of `is` in this order, all of them succeeding -/
def delAll : List Int → List α → Option (List α)
  | [], l => some l
  | i :: rest, l => (pyDel l i).bind (delAll rest)

/-- the loop of `__removeObsListById` on ANY list of integers `is` (in the order of the loop), negative and
out-of-range ones included: there is a number `k` of deletions done, the first `k` indices of `is` were all deleted
(`del L[i]` on the list as it is at that moment, a negative `i` counting from the CURRENT end), each removing exactly
one observation; the list left is that one (a sub-sequence of the source with `k` observations fewer) — ALSO when the
`IndexError` is raised; the call returns (the counter advanced by `k = len(is)`) exactly when all the indices were
deleted, and otherwise raises at `is[k]`, which is out of range for the list left -/
theorem delLoop_partial (is : List Int) (l : List α) (c : Nat) :
    ∃ (k : Nat) (l' : List α), k ≤ is.length ∧ delAll (is.take k) l = some l' ∧
      l'.Sublist l ∧ l'.length + k = l.length ∧ (delLoop is l c).1 = l' ∧
      ((delLoop is l c).2 = none ↔ k < is.length) ∧
      (k = is.length → (delLoop is l c).2 = some (c + k)) ∧
      (∀ h : k < is.length, pyDel l' is[k] = none) := by
  induction is generalizing l c with
  | nil => exact ⟨0, l, by simp, by simp [delAll], List.Sublist.refl l, by simp, by simp [delLoop], by simp [delLoop],
      by simp [delLoop], by simp⟩
  | cons i rest ih =>
    cases hd : pyDel l i with
    | none =>
      rw [delLoop_cons_none rest c hd]
      exact ⟨0, l, by simp, by simp [delAll], List.Sublist.refl l, by simp, rfl, by simp, by simp, fun _ => by simpa using hd⟩
    | some l1 =>
      obtain ⟨hs1, hl1⟩ := pyDel_some l l1 i hd
      obtain ⟨k, l', hk, hall, hsub, hlen, h1, h2, h3, h4⟩ := ih l1 (c + 1)
      rw [delLoop_cons_some rest c hd]
      refine ⟨k + 1, l', by simp; omega, by simp [delAll, hd, hall], hsub.trans hs1, by omega, h1, ?_, ?_, ?_⟩
      · rw [h2, List.length_cons]; omega
      · intro hk'
        rw [h3 (by simpa using hk'), Nat.add_assoc, Nat.add_comm 1]
      · intro hk'
        have hk'' : k < rest.length := by simpa using hk'
        simpa using h4 hk''

/-- `removeObsList(tab)`, ANY list of integers (negative, repeated, out of range): either nothing is removed and 0
returned (empty list, or a repeated index), or the loop runs over the indices sorted in DECREASING order `d` and
`delLoop_partial` says what is left: the first `k` of them deleted one observation each, and the call returns `k =
len(tab)` or raises `IndexError` at `d[k]` with these `k` deletions done -/
theorem removeByIdx_partial (l : List α) (tab : List Int) :
    removeByIdx l tab = (l, some 0) ∨
    ∃ (d : List Int) (k : Nat) (l' : List α), d.Perm tab ∧ d.Pairwise (· ≥ ·) ∧ k ≤ d.length ∧
      delAll (d.take k) l = some l' ∧ l'.Sublist l ∧ l'.length + k = l.length ∧
      (removeByIdx l tab).1 = l' ∧
      ((removeByIdx l tab).2 = none ↔ k < d.length) ∧
      (k = d.length → (removeByIdx l tab).2 = some k) ∧
      (∀ h : k < d.length, pyDel l' d[k] = none) := by
  rw [removeByIdx_eq]
  by_cases hn : tab.Nodup
  · right
    rw [if_pos hn]
    obtain ⟨k, l', hk, hall, hsub, hlen, h1, h2, h3, h4⟩ :=
      delLoop_partial (tab.mergeSort (fun a b => decide (a ≤ b))).reverse l 0
    exact ⟨_, k, l', (List.reverse_perm _).trans (List.mergeSort_perm tab _), List.pairwise_reverse.mpr (sortInts_sorted tab),
      hk, hall, hsub, hlen, h1, h2, fun hk' => by simpa using h3 hk', h4⟩
  · left; rw [if_neg hn]

/-- `removeObsList(tab)`, ANY list of integers, returning or raising: what is left is a SUB-SEQUENCE of the source (the
observations left keep their order, none is duplicated or invented); when the call returns `n`, exactly `n`
observations are gone and `n` is 0 (refused) or `len(tab)` -/
theorem removeByIdx_sublist_any (l : List α) (tab : List Int) :
    (removeByIdx l tab).1.Sublist l ∧
    ∀ n, (removeByIdx l tab).2 = some n →
      (removeByIdx l tab).1.length + n = l.length ∧ (n = 0 ∨ n = tab.length) := by
  rcases removeByIdx_partial l tab with h | ⟨d, k, l', hperm, _, hk, _, hsub, hlen, h1, h2, h3, _⟩
  · rw [h]; exact ⟨List.Sublist.refl l, fun n hn => by cases hn; exact ⟨rfl, Or.inl rfl⟩⟩
  · rw [h1]
    refine ⟨hsub, fun n hn => ?_⟩
    have hkd : k = d.length := by
      rcases Nat.lt_or_ge k d.length with hlt | hge
      · rw [h2.mpr hlt] at hn; cases hn
      · omega
    rw [h3 hkd] at hn; cases hn
    exact ⟨hlen, Or.inr (by rw [hkd]; exact hperm.length_eq)⟩

/-- `extractSpanTime(track)` with an EMPTY other track raises `IndexError` (`track[0]`) -/
theorem extractSpanTrack_empty (tr other : Track) (h : other.pts = []) : extractSpanTrack tr other = none := by
  simp [extractSpanTrack, h, pyGet]

/-! ## non-vacuity and witnesses -/

/-- bounds from the end, beyond the ends and absent, with a negative step, on 5 observations -/
example : let tr : Track := ⟨[⟨0, 1, []⟩, ⟨1, 2, []⟩, ⟨2, 3, []⟩, ⟨3, 4, []⟩, ⟨4, 5, []⟩], []⟩
    (getitemSlice tr (some (-2)) (some 0) (some (-2))).map (fun t => t.pts.map (·.tag)) = some [3, 1] ∧
    (getitemSlice tr (some 9) (some (-9)) (some (-3))).map (fun t => t.pts.map (·.tag)) = some [4, 1] ∧
    (getitemSlice tr none (some 1) (some (-1))).map (fun t => t.pts.map (·.tag)) = some [4, 3, 2] ∧
    (getitemSlice tr (some 1) (some 3) (some (-1))).map (fun t => t.pts.map (·.tag)) = some [] ∧
    sliceBounds 5 (some 9) (some (-9)) (-3) = (4, -1) := by decide +kernel
/-- a negative `a` wraps in `extract` -/
example : (extract ⟨[⟨0, 1, []⟩, ⟨1, 2, []⟩, ⟨2, 3, []⟩, ⟨3, 4, []⟩, ⟨4, 5, []⟩], []⟩ (-2) 1).map
    (fun t => t.pts.map (·.tag)) = some [3, 4, 0, 1] := by decide +kernel
/-- the hypotheses of `removeByIdx_index_error` -/
example : ([3, 0] : List Int).Nodup ∧ ∃ m ∈ ([3, 0] : List Int), (([10, 11, 12] : List Nat).length : Int) ≤ m := by
  refine ⟨by decide, 3, by decide, by decide⟩
/-- a valid largest index followed by an invalid negative one (the loop of `removeObsList([2, -4])`, largest index
first): the deletion of 2 is done before `-4` raises -/
example : delLoop [2, -4] [10, 11, 12] 0 = ([10, 11], none) := by decide +kernel

/-- the loop of `removeObsList([2, -4])` on three observations (`d = [2, -4]`, `k = 1`): one deletion done, then `IndexError` at `-4` -/
example : delLoop [2, -4] [10, 11, 12] 0 = ([10, 11], none) ∧ delAll [2] [10, 11, 12] = some [10, 11] ∧
    pyDel [10, 11] (-4) = none := by decide +kernel
/-- negative indices count from the CURRENT end: the loop of `removeObsList([-1, -2])` (`d = [-1, -2]`) removes the last and then the one before the
NEW last but one, i.e. positions 3 and 1 of four (not 3 and 2) -/
example : delLoop [-1, -2] [10, 11, 12, 13] 0 = ([10, 12], some 2) := by decide +kernel

end TV.C04
