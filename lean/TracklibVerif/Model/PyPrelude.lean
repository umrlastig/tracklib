/-! Fixed semantic choices of the Python → Lean translator `tools/py2lean.py` (core Lean only).

The translator maps the `ast` of ONE whitelisted pure numeric Python function to ONE Lean `def` in
`lean/TracklibVerif/Gen/*.lean` (regenerated from /repo's current source on every run). Everything that is not
a literal copy of the Python text is decided HERE, once, and is what must be read to trust the tie:

* A Python function becomes a function into `M τ = Except Err τ`: `.ok v` is "returns `v`", `.error e` is
  "raises" (`ZeroDivisionError`, `IndexError`, `TypeError`). Statements are sequenced with `bind`, in
  Python's evaluation order (left to right, operands before the operation, the condition of an `if` before
  its branches). `return` ends the function: statements after it on the same path are dropped.
  `if c: A else: B` followed by `rest` is `if c then ⟦A; rest⟧ else ⟦B; rest⟧`.
* A Python `float` is a value of an abstract scalar type `α` with exactly the operations the function uses
  (`Add`, `Sub`, `Mul`, `Div`, `Neg`, `LT`, `LE` and their decision procedures, literals through
  `OfNat α n` for an integer literal `n` met in float arithmetic and `OfScientific α` for a literal with a
  decimal point or an exponent). Nothing is assumed about these operations: the generated definitions
  evaluate at `Float` (IEEE doubles, Python's floats) and at `Rat`, and the tie theorems hold for every `α`.
  `+ - * unary-` are the class operations with Python's association.
* `a / b` on floats (`fdiv`): `ZeroDivisionError` when `b == 0` (true for `0.0` and `-0.0`, false for NaN),
  else the class division.
* `a == b` on floats (`feq`): `a ≤ b ∧ b ≤ a`. On IEEE doubles this is Python's `==` (false when either side
  is NaN, `0.0 == -0.0`); on an ordered field it is equality. `!=` is its negation.
  `a < b`, `a <= b` are `decide (a < b)`, `decide (a ≤ b)`; `a > b`, `a >= b` are the same with the operands
  swapped (`b < a`, `b ≤ a`; both operands are pure values at that point, so the swap is not observable).
* `and` / `or` / `not` / `&` / `|` on `bool`s are `&&` / `||` / `!` (the translator only accepts them when
  both operands are already-evaluated boolean values, so short-circuiting is not observable).
* `math.fabs(v)` and `abs(v)` on a float (`fabs`): `v` if `0 < v` else `0 - v` (same double as C's `fabs` for
  every double including `-0.0`; NaN stays NaN).
* `min(a, b)` / `max(a, b)` on floats (`fmin` / `fmax`): CPython's rule — the first argument unless the
  second is strictly smaller / strictly greater.
* `x ** y` and `pow(x, y)` with a float operand are a parameter `pow : α → α → α` (C's `pow`; the exceptions Python
  raises for `0.0 ** -1` or a negative base with a fractional exponent are NOT modelled).
* `math.sqrt`, `math.sin`, … are NOT interpreted: they are function parameters of the generated definition
  (`sqrt : α → α`), instantiated by libm in the driver and by Mathlib's real functions in theorems. Their
  `ValueError` on a domain error (e.g. `math.sqrt(-1.0)`) is NOT modelled.
* `math.floor(x)` is a parameter `floor : α → Int`, `int(x)` on a float a parameter `trunc : α → Int`, `math.pi` a
  parameter `pi : α` (uninterpreted, like `sqrt`); `x.is_integer()` is `float(floor(x)) == x` (`isInteger`).
* An object parameter (`self`, `coord`) is declared in the translator's signature with the attributes and the
  argument-less accessor methods the function reads; each is one parameter of the generated definition
  (`self_xmin`, `coord_getX`): the accessors are ASSUMED to be pure getters, they are not translated.
* Strings (`"…"`, `"…".format(…)`, `str(…)`, `+` of those) and `print(…)` are not rendered; they can only flow
  into `print`, and their sub-expressions are assumed not to raise.
* `L[k]` with a literal `k ≥ 0` on a list (`getItem`): `IndexError` when `k ≥ len(L)`.
  `x.append(e)` on a list created in the same function is `x := x ++ [e]`.
* A Python `int` is a Lean `Int`; `%` and `//` are the floor versions (`Int.fmod`, `Int.fdiv`) with
  `ZeroDivisionError` on a zero divisor; `==` is decidable equality.
* An `int` met in float arithmetic is converted (`IntCast α`); an integer LITERAL there is the literal of `α`.

LOOPS (second half of this file).
* A loop is a call of `forList` (a `for`) or `whileLoop` (a `while`) on a BODY FUNCTION from the LOOP STATE — the tuple,
  in order of first assignment, of the variables the body assigns that are live outside one iteration — to
  `M (Ctl σ ρ)`: `.cont s` = the iteration ended (fell off the end of the body, or `continue`) with state `s`,
  `.brk s` = `break`, `.ret r` = `return r` from inside the loop. The loop itself yields `M (Out σ ρ)`: `.done s` = the loop
  ended normally or by `break` with state `s` (Python does not distinguish them unless the loop has an `else`
  clause, which is not accepted), `.ret r` = the function returned from inside the loop.
* `for i in range(a, b)`: `forList body (range a b) s`, `range a b = [a, a+1, …, b-1]` (empty when `b ≤ a`), evaluated ONCE
  before the loop as in Python; `range(a, b, step)`: `rangeStep`, `ValueError` on step 0. `for x in L`: `forList body L s`
  (the translator only accepts a list that the body does not modify). The loop variable is a parameter of the body.
* `while c: B`: `whileLoop body fuel s` with `body s = if c then ⟦B⟧ else .ok (.brk s)`: at most `fuel` evaluations of the body;
  when the fuel is exhausted the result is `.error .fuel` — never a value. `fuel` is a parameter of the generated
  definition; a tie theorem says for which fuels (all those above a bound) the definition returns the model's value.
* `L[i]` with a computed `i` (`getIdx`): Python's rule — `i` itself when `0 ≤ i < len(L)`, `len(L) + i` when
  `-len(L) ≤ i < 0`, `IndexError` otherwise. `len(L)` is `(L.length : Int)`.
* A variable that is assigned only inside a loop / a branch and read later (`xproj` of `proj_polyligne`) has type
  `Option τ` (`none` = not yet bound); reading it is `getBound`: `UnboundLocalError` on `none`.
* `b * k` with `b` a bool and `k` an int: `True` is 1, `False` is 0. `a ** e` on two ints (`ipow`): `a ^ e` when `e ≥ 0`; when `e < 0`
  Python returns a float, which cannot be typed: the error value `Err.type` (to be excluded by the tie's hypotheses).
* `a >> k` on ints (`ishr`): the floor shift `Int.shiftRight` (so `-1 >> 1 == -1`), `ValueError` on a negative count; `abs` on an int
  (`iabs`); `min` / `max` of ints (`imin` / `imax`, n-ary ones folded from the left: CPython's "first among the smallest / greatest").
* `for k, x in enumerate(L)`: `forList` over `enumerate L` = `[(0, L[0]), (1, L[1]), …]`. `[c] * n` (`replicate`): `n` copies, none when
  `n ≤ 0`. `L[i] = v` on a list created in the function (`setIdx`): the list with item `i` replaced, Python's negative indices,
  `IndexError` out of range; `L[i] op= e` reads `L[i]`, evaluates `e`, stores the result at `i`.
* TABLES: a 2-D numpy array of floats that is only indexed `T[i, j]` is the list of its rows: `np.zeros((r, c))` (`zeros2`, `ValueError` on a negative dimension), `T[i, j]`
  (`getIdx2`), `T[i, j] = v` (`setIdx2`, the value converted to a float as numpy does for a float64 array), `T.shape[0]` (`len`). A row
  index is resolved before the column index; both follow Python's rule for negative indices (numpy's is the same) and raise `IndexError`.
* `raise E(…)`: the error value `Err.raised`, whatever the class and the message. `b * x` with `b` a bool and `x` a float: `True` is 1, `False` is 0.
* `sys.float_info.max` is a parameter `dblmax : α` (uninterpreted). `lambda p: e` bound to a local and called later is its body on
  the argument (the translator refuses a lambda that reads a variable the function assigns).
* `x in L` / `x not in L` on a list of ints / tuples of ints: `List.elem` with decidable equality (`contains`).
  `L.remove(v)`: `List.erase` (first occurrence), `ValueError` if absent.
-/
namespace TV.Py

/-- the Python exceptions the translated subset can raise -/
inductive Err where
  | zerodiv   -- ZeroDivisionError
  | index     -- IndexError
  | type      -- TypeError (e.g. subscripting `None`)
  | exit      -- SystemExit (`exit()`; never produced by the translator, present for the same reason as `unbound`)
  | unbound   -- UnboundLocalError: a variable declared "maybe unbound" in the signature read before it was assigned
  | value     -- ValueError (`range(a, b, 0)`, `L.remove(v)` with `v` absent)
  | fuel      -- NOT a Python exception: the fuel of a `while` loop ran out (the Python loop would still be running)
  | raised    -- an exception raised by a `raise` statement of the translated function (class and message are not tracked)
  deriving DecidableEq, Repr

/-- result of a Python call: a value or an exception -/
abbrev M := Except Err

/-- sequencing -/
@[inline] def bind {β γ : Type} (m : M β) (f : β → M γ) : M γ :=
  match m with
  | .error e => .error e
  | .ok v => f v

@[simp] theorem bind_ok {β γ : Type} (v : β) (f : β → M γ) : bind (.ok v) f = f v := rfl
@[simp] theorem bind_error {β γ : Type} (e : Err) (f : β → M γ) : bind (.error e : M β) f = .error e := rfl

/-- `if_pos` / `if_neg` with the `Decidable` instance found by unification (proof helpers of the tie modules:
after unfolding, the instance argument of an `if` may be a different, definitionally equal term) -/
theorem ite_pos' {c : Prop} {inst : Decidable c} {β : Sort _} {t e : β} (h : c) : @ite β c inst t e = t :=
  @if_pos c inst h β t e
theorem ite_neg' {c : Prop} {inst : Decidable c} {β : Sort _} {t e : β} (h : ¬c) : @ite β c inst t e = e :=
  @if_neg c inst h β t e

section scalar
variable {α : Type}

/-- float `a == b` -/
@[inline] def feq [LE α] [DecidableLE α] (a b : α) : Bool := decide (a ≤ b) && decide (b ≤ a)

/-- float `a / b` -/
@[inline] def fdiv [Div α] [LE α] [DecidableLE α] [OfNat α 0] (a b : α) : M α :=
  if feq b 0 then .error .zerodiv else .ok (a / b)

theorem bind_fdiv_ok [Div α] [LE α] [DecidableLE α] [OfNat α 0] {β : Type} {a b : α} {f : α → M β} {v : β}
    (h : bind (fdiv a b) f = .ok v) : f (a / b) = .ok v := by
  unfold fdiv at h
  by_cases hz : feq b 0 = true
  · rw [ite_pos' hz] at h; exact nomatch h
  · rw [ite_neg' hz] at h; exact h

/-- `math.fabs(v)`, `abs(v)` on a float -/
@[inline] def fabs [Sub α] [LT α] [DecidableLT α] [OfNat α 0] (v : α) : α := if 0 < v then v else 0 - v

/-- `min(a, b)` -/
@[inline] def fmin [LT α] [DecidableLT α] (a b : α) : α := if b < a then b else a

/-- `max(a, b)` -/
@[inline] def fmax [LT α] [DecidableLT α] (a b : α) : α := if a < b then b else a

/-- `x.is_integer()` on a float, `floor` being `math.floor`: `float(floor(x)) == x` -/
@[inline] def isInteger [LE α] [DecidableLE α] [IntCast α] (floor : α → Int) (x : α) : Bool :=
  feq ((floor x : Int) : α) x

end scalar

/-- `L[k]`, `k` a non-negative literal -/
def getItem {β : Type} (l : List β) (k : Nat) : M β :=
  match l[k]? with
  | some v => .ok v
  | none => .error .index

@[simp] theorem getItem_zero {β : Type} (a : β) (l : List β) : getItem (a :: l) 0 = .ok a := rfl
@[simp] theorem getItem_succ {β : Type} (a : β) (l : List β) (k : Nat) : getItem (a :: l) (k + 1) = getItem l k := rfl
@[simp] theorem getItem_nil {β : Type} (k : Nat) : getItem ([] : List β) k = .error .index := rfl

/-- int `a % b` (sign of the divisor) -/
@[inline] def imod (a b : Int) : M Int := if b = 0 then .error .zerodiv else .ok (Int.fmod a b)

/-- int `a // b` (floor) -/
@[inline] def ifloordiv (a b : Int) : M Int := if b = 0 then .error .zerodiv else .ok (Int.fdiv a b)

/-! ## Loops, computed indices, possibly-unbound variables -/

/-- what one evaluation of a loop body says: go on (`continue` / end of the body), `break`, or `return r` -/
inductive Ctl (σ ρ : Type) where
  | cont (s : σ)
  | brk (s : σ)
  | ret (r : ρ)

/-- what a loop says to the code after it: the final state, or "the function returned `r`" -/
inductive Out (σ ρ : Type) where
  | done (s : σ)
  | ret (r : ρ)

/-- `for x in l: body` from state `s` -/
def forList {β σ ρ : Type} (body : β → σ → M (Ctl σ ρ)) : List β → σ → M (Out σ ρ)
  | [], s => .ok (.done s)
  | x :: xs, s =>
    match body x s with
    | .error e => .error e
    | .ok (.cont s') => forList body xs s'
    | .ok (.brk s') => .ok (.done s')
    | .ok (.ret r) => .ok (.ret r)

/-- `while …: body` from state `s`, at most `fuel` evaluations of the body (the loop test is part of the body) -/
def whileLoop {σ ρ : Type} (body : σ → M (Ctl σ ρ)) : Nat → σ → M (Out σ ρ)
  | 0, _ => .error .fuel
  | f + 1, s =>
    match body s with
    | .error e => .error e
    | .ok (.cont s') => whileLoop body f s'
    | .ok (.brk s') => .ok (.done s')
    | .ok (.ret r) => .ok (.ret r)

@[simp] theorem forList_nil {β σ ρ : Type} (body : β → σ → M (Ctl σ ρ)) (s : σ) :
    forList body [] s = .ok (.done s) := rfl
theorem forList_cons {β σ ρ : Type} (body : β → σ → M (Ctl σ ρ)) (x : β) (xs : List β) (s : σ) :
    forList body (x :: xs) s = (match body x s with
      | .error e => .error e
      | .ok (.cont s') => forList body xs s'
      | .ok (.brk s') => .ok (.done s')
      | .ok (.ret r) => .ok (.ret r)) := rfl
theorem forList_cons_cont {β σ ρ : Type} {body : β → σ → M (Ctl σ ρ)} {x : β} {xs : List β} {s s' : σ}
    (h : body x s = .ok (.cont s')) : forList body (x :: xs) s = forList body xs s' := by
  rw [forList_cons, h]
theorem forList_cons_brk {β σ ρ : Type} {body : β → σ → M (Ctl σ ρ)} {x : β} {xs : List β} {s s' : σ}
    (h : body x s = .ok (.brk s')) : forList body (x :: xs) s = .ok (.done s') := by
  rw [forList_cons, h]
theorem forList_cons_ret {β σ ρ : Type} {body : β → σ → M (Ctl σ ρ)} {x : β} {xs : List β} {s : σ} {r : ρ}
    (h : body x s = .ok (.ret r)) : forList body (x :: xs) s = .ok (.ret r) := by
  rw [forList_cons, h]
theorem forList_cons_error {β σ ρ : Type} {body : β → σ → M (Ctl σ ρ)} {x : β} {xs : List β} {s : σ} {e : Err}
    (h : body x s = .error e) : forList body (x :: xs) s = .error e := by
  rw [forList_cons, h]
/-- `.done` does not tell a `break` from a normal end of the loop over `l₁`: hence `hnb` -/
theorem forList_append {β σ ρ : Type} (body : β → σ → M (Ctl σ ρ)) (l₁ l₂ : List β) (s s' : σ)
    (h : forList body l₁ s = .ok (.done s')) (hnb : ∀ x ∈ l₁, ∀ t t', body x t ≠ .ok (.brk t')) :
    forList body (l₁ ++ l₂) s = forList body l₂ s' := by
  induction l₁ generalizing s with
  | nil => simp only [forList_nil, Except.ok.injEq, Out.done.injEq] at h; subst h; rfl
  | cons x xs ih =>
    rw [List.cons_append, forList_cons]
    rw [forList_cons] at h
    cases hb : body x s with
    | error e => rw [hb] at h; exact nomatch h
    | ok c =>
      rw [hb] at h
      cases c with
      | cont s1 => exact ih s1 h (fun y hy => hnb y (List.mem_cons_of_mem x hy))
      | brk s1 => exact absurd hb (hnb x (List.mem_cons_self) s s1)
      | ret r => exact nomatch h

theorem forList_eq_foldl {β σ ρ : Type} (body : β → σ → M (Ctl σ ρ)) (step : σ → β → σ) (l : List β) (s : σ)
    (h : ∀ x ∈ l, ∀ t, body x t = .ok (.cont (step t x))) :
    forList body l s = .ok (.done (l.foldl step s)) := by
  induction l generalizing s with
  | nil => rfl
  | cons x xs ih =>
    rw [forList_cons_cont (h x List.mem_cons_self s), List.foldl_cons]
    exact ih _ (fun y hy => h y (List.mem_cons_of_mem x hy))

@[simp] theorem whileLoop_zero {σ ρ : Type} (body : σ → M (Ctl σ ρ)) (s : σ) : whileLoop body 0 s = .error .fuel := rfl
theorem whileLoop_succ {σ ρ : Type} (body : σ → M (Ctl σ ρ)) (f : Nat) (s : σ) :
    whileLoop body (f + 1) s = (match body s with
      | .error e => .error e
      | .ok (.cont s') => whileLoop body f s'
      | .ok (.brk s') => .ok (.done s')
      | .ok (.ret r) => .ok (.ret r)) := rfl
theorem whileLoop_cont {σ ρ : Type} {body : σ → M (Ctl σ ρ)} {f : Nat} {s s' : σ}
    (h : body s = .ok (.cont s')) : whileLoop body (f + 1) s = whileLoop body f s' := by
  rw [whileLoop_succ, h]
theorem whileLoop_brk {σ ρ : Type} {body : σ → M (Ctl σ ρ)} {f : Nat} {s s' : σ}
    (h : body s = .ok (.brk s')) : whileLoop body (f + 1) s = .ok (.done s') := by
  rw [whileLoop_succ, h]
theorem whileLoop_ret {σ ρ : Type} {body : σ → M (Ctl σ ρ)} {f : Nat} {s : σ} {r : ρ}
    (h : body s = .ok (.ret r)) : whileLoop body (f + 1) s = .ok (.ret r) := by
  rw [whileLoop_succ, h]
theorem whileLoop_error {σ ρ : Type} {body : σ → M (Ctl σ ρ)} {f : Nat} {s : σ} {e : Err}
    (h : body s = .error e) : whileLoop body (f + 1) s = .error e := by
  rw [whileLoop_succ, h]
theorem whileLoop_mono {σ ρ : Type} (body : σ → M (Ctl σ ρ)) (f g : Nat) (s : σ) (hfg : f ≤ g)
    (h : whileLoop body f s ≠ .error .fuel) : whileLoop body g s = whileLoop body f s := by
  induction f generalizing g s with
  | zero => exact absurd rfl h
  | succ f ih =>
    cases g with
    | zero => omega
    | succ g =>
      rw [whileLoop_succ] at h ⊢
      rw [whileLoop_succ]
      cases hb : body s with
      | error e => rfl
      | ok c =>
        cases c with
        | cont s1 => rw [hb] at h; exact ih g s1 (by omega) h
        | brk s1 => rfl
        | ret r => rfl

/-- `[a, a+step, …]`, `n` elements -/
def rangeFrom (a step : Int) : Nat → List Int
  | 0 => []
  | n + 1 => a :: rangeFrom (a + step) step n

/-- `range(a, b)` -/
def range (a b : Int) : List Int := rangeFrom a 1 (b - a).toNat

theorem range_empty {a b : Int} (h : b ≤ a) : range a b = [] := by
  unfold range; rw [Int.toNat_eq_zero.mpr (by omega)]; rfl
theorem range_cons {a b : Int} (h : a < b) : range a b = a :: range (a + 1) b := by
  unfold range
  have h1 : (b - a).toNat = (b - (a + 1)).toNat + 1 := by omega
  rw [h1]; rfl
theorem rangeFrom_snoc (a step : Int) (n : Nat) : rangeFrom a step (n + 1) = rangeFrom a step n ++ [a + (n : Int) * step] := by
  induction n generalizing a with
  | zero => simp [rangeFrom]
  | succ n ih =>
    rw [rangeFrom, ih (a + step), rangeFrom, List.cons_append, Int.natCast_succ, Int.add_mul, Int.one_mul,
      Int.add_assoc, Int.add_comm step]
theorem mem_rangeFrom_one {a x : Int} {n : Nat} (h : x ∈ rangeFrom a 1 n) : a ≤ x ∧ x < a + n := by
  induction n generalizing a with
  | zero => exact nomatch h
  | succ n ih =>
    rw [rangeFrom, List.mem_cons] at h
    rcases h with h | h
    · omega
    · have := ih h; omega
theorem mem_range {a b x : Int} (h : x ∈ range a b) : a ≤ x ∧ x < b := by
  have := mem_rangeFrom_one h; omega
theorem rangeFrom_append (a : Int) (m n : Nat) : rangeFrom a 1 (m + n) = rangeFrom a 1 m ++ rangeFrom (a + (m : Int)) 1 n := by
  induction m generalizing a with
  | zero => simp [rangeFrom]
  | succ m ih =>
    rw [show m + 1 + n = (m + n) + 1 by omega, rangeFrom, rangeFrom, ih (a + 1), List.cons_append]
    congr 3; omega
theorem range_append {a b c : Int} (h1 : a ≤ b) (h2 : b ≤ c) : range a c = range a b ++ range b c := by
  unfold range
  have h : (c - a).toNat = (b - a).toNat + (c - b).toNat := by omega
  rw [h, rangeFrom_append]
  congr 2; omega
theorem range_snoc {a b : Int} (h : a ≤ b) : range a (b + 1) = range a b ++ [b] := by
  rw [range_append h (Int.le_add_one (Int.le_refl b)), range_cons (Int.lt_add_one_iff.2 (Int.le_refl b)),
    range_empty (Int.le_refl _)]
theorem length_rangeFrom (a step : Int) (n : Nat) : (rangeFrom a step n).length = n := by
  induction n generalizing a with
  | zero => rfl
  | succ n ih => simp [rangeFrom, ih]

/-- `range(a, b, step)`: `a, a+step, …` while `< b` (step > 0) / `> b` (step < 0); `ValueError` when `step == 0` -/
def rangeStep (a b step : Int) : M (List Int) :=
  if step = 0 then .error .value
  else if 0 < step then .ok (rangeFrom a step ((b - a + step - 1) / step).toNat)
  else .ok (rangeFrom a step ((a - b + (-step) - 1) / (-step)).toNat)

/-- `len(L)` -/
@[inline] def len {β : Type} (l : List β) : Int := (l.length : Int)

/-- `L[i]`, `i` any int: Python's negative indices, `IndexError` out of range -/
def getIdx {β : Type} (l : List β) (i : Int) : M β :=
  if 0 ≤ i then getItem l i.toNat
  else if 0 ≤ len l + i then getItem l (len l + i).toNat
  else .error .index

theorem getIdx_natCast {β : Type} (l : List β) (k : Nat) : getIdx l (k : Int) = getItem l k := by
  unfold getIdx; rw [if_pos (by omega)]; rfl
theorem getIdx_nonneg {β : Type} (l : List β) {i : Int} (h : 0 ≤ i) : getIdx l i = getItem l i.toNat := by
  unfold getIdx; rw [if_pos h]
theorem getItem_eq_ok {β : Type} {l : List β} {k : Nat} {v : β} (h : l[k]? = some v) : getItem l k = .ok v := by
  unfold getItem; rw [h]
theorem getItem_eq_error {β : Type} {l : List β} {k : Nat} (h : l[k]? = none) : getItem l k = .error .index := by
  unfold getItem; rw [h]

/-- `enumerate(L)`: the list of pairs (position, element), positions from 0 -/
def enumFrom {β : Type} : Int → List β → List (Int × β)
  | _, [] => []
  | k, x :: xs => (k, x) :: enumFrom (k + 1) xs
@[inline] def enumerate {β : Type} (l : List β) : List (Int × β) := enumFrom 0 l

/-- `[c] * n`: `n` copies of `c`, none when `n ≤ 0` -/
@[inline] def replicate {β : Type} (n : Int) (c : β) : List β := List.replicate n.toNat c

/-- `L[i] = v`, `i` any int: Python's negative indices, `IndexError` out of range; the list with that item replaced -/
def setIdx {β : Type} (l : List β) (i : Int) (v : β) : M (List β) :=
  if 0 ≤ i then (if i.toNat < l.length then .ok (l.set i.toNat v) else .error .index)
  else if 0 ≤ len l + i then .ok (l.set (len l + i).toNat v)
  else .error .index

theorem setIdx_natCast {β : Type} (l : List β) (k : Nat) (v : β) (h : k < l.length) : setIdx l (k : Int) v = .ok (l.set k v) := by
  unfold setIdx; rw [if_pos (by omega), Int.toNat_natCast, if_pos h]
theorem setIdx_natCast_error {β : Type} (l : List β) (k : Nat) (v : β) (h : l.length ≤ k) : setIdx l (k : Int) v = .error .index := by
  unfold setIdx; rw [if_pos (by omega), Int.toNat_natCast, if_neg (by omega)]

/-- `np.zeros((r, c))` as a table: `r` rows of `c` zeros; `ValueError` on a negative dimension -/
def zeros2 {β : Type} (r c : Int) (z : β) : M (List (List β)) :=
  if r < 0 ∨ c < 0 then .error .value else .ok (replicate r (replicate c z))

/-- `T[i, j]` on a table (list of rows): row `i`, then item `j`, each with Python's / numpy's negative indices and `IndexError` -/
def getIdx2 {β : Type} (t : List (List β)) (i j : Int) : M β := bind (getIdx t i) fun r => getIdx r j

/-- `T[i, j] = v` on a table -/
def setIdx2 {β : Type} (t : List (List β)) (i j : Int) (v : β) : M (List (List β)) :=
  bind (getIdx t i) fun r => bind (setIdx r j v) fun r' => setIdx t i r'

/-- reading a variable that may not have been assigned yet -/
@[inline] def getBound {β : Type} : Option β → M β
  | some v => .ok v
  | none => .error .unbound
@[simp] theorem getBound_some {β : Type} (v : β) : getBound (some v) = .ok v := rfl
@[simp] theorem getBound_none {β : Type} : getBound (none : Option β) = .error .unbound := rfl

/-- `x in L` on values with decidable equality (ints, tuples of ints) -/
@[inline] def contains {β : Type} [DecidableEq β] (l : List β) (x : β) : Bool := l.elem x

/-- `L.remove(v)`: the list without the first element equal to `v`; `ValueError` when there is none.
`eqv` is Python's `==` on the elements (the translator passes `feq` for floats, decidable equality for ints). -/
def removeFirst {β : Type} (eqv : β → β → Bool) : List β → β → M (List β)
  | [], _ => .error .value
  | a :: r, v => if eqv a v then .ok r else
      match removeFirst eqv r v with
      | .ok r' => .ok (a :: r')
      | .error e => .error e

/-- int `a >> k` (floor shift), `ValueError` on a negative count -/
@[inline] def ishr (a k : Int) : M Int := if k < 0 then .error .value else .ok (Int.shiftRight a k.toNat)

/-- int `a ** e`: the int `a ^ e` for `e ≥ 0`. For `e < 0` Python returns a FLOAT (`2 ** -1 == 0.5`), which the translator cannot
type: the result is then the error value `Err.type` (NOT Python's behaviour — a tie theorem has to exclude that case). -/
@[inline] def ipow (a e : Int) : M Int := if e < 0 then .error .type else .ok (a ^ e.toNat)

/-- int `abs` -/
@[inline] def iabs (a : Int) : Int := if a < 0 then -a else a

/-- int `min` / `max` of two (CPython: the first unless the second is strictly smaller / greater) -/
@[inline] def imin (a b : Int) : Int := if b < a then b else a
@[inline] def imax (a b : Int) : Int := if a < b then b else a

end TV.Py
