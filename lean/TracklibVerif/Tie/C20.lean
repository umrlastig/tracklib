import TracklibVerif.Model.Proj
import TracklibVerif.Lemmas.ProjSentinel
import TracklibVerif.Gen.Geometry
import TracklibVerif.Lemmas.PyLoops
/-! Tie for C20: the definitions translated from the CURRENT `tracklib/util/geometry.py` by `tools/py2lean.py`
(`TV.Gen.Geometry.*`, regenerated on every run) are equal, on all arguments, to the hand-written model
`TV.Proj.*` the theorems of `Props/C20.lean` are about. Over bare operation classes: nothing is assumed of
the scalar type, so the equalities hold for IEEE doubles as well as for an ordered field. -/
namespace TV.Tie.C20
open TV TV.Py

/-- the model's exceptions as Python exceptions -/
def liftErr : Proj.Err → Py.Err
  | .zerodiv => .zerodiv
  | .index => .index
  | .overflow => .value   -- never met below: the translator's `pow` is total (see `tie_proj_polyligne_exact`)

def lift {β : Type} : Except Proj.Err β → Py.M β
  | .ok v => .ok v
  | .error e => .error (liftErr e)

set_option linter.unusedSectionVars false
section
variable {α : Type} [Add α] [Sub α] [Mul α] [Div α] [Neg α] [LT α] [LE α]
  [DecidableLT α] [DecidableLE α] [OfNat α 0]

/-- `cartesienne(segment)` on a list of at least four numbers returns the list `[a, b, c]` of the model's triple
(only the first four elements are read). -/
theorem tie_cartesienne (x1 y1 x2 y2 : α) (rest : List α) :
    Gen.Geometry.cartesienne (x1 :: y1 :: x2 :: y2 :: rest) =
      .ok [(Proj.cartesienne x1 y1 x2 y2).1, (Proj.cartesienne x1 y1 x2 y2).2.1, (Proj.cartesienne x1 y1 x2 y2).2.2] := rfl

/-- on a shorter list `cartesienne` raises `IndexError` (so the model's four scalars are all there is) -/
theorem tie_cartesienne_short (segment : List α) (h : segment.length < 4) :
    Gen.Geometry.cartesienne segment = .error .index := by
  match segment, h with
  | [], _ => rfl
  | [_], _ => rfl
  | [_, _], _ => rfl
  | [_, _, _], _ => rfl

/-- a float division followed by the rest of the code: `ZeroDivisionError` when the divisor `== 0` -/
theorem bind_fdiv {β : Type} (u v : α) (k : α → Py.M β) :
    Py.bind (Py.fdiv u v) k = if Proj.isZero v then .error .zerodiv else k (u / v) := by
  unfold Py.fdiv
  cases h : Py.feq v 0 <;> simp only [show Proj.isZero v = _ from h] <;> rfl

/-- the foot computation, which the source has twice with identical text (in `projection_droite` and in the inclusion
branch of `proj_segment`), followed by the rest of the code `k`, is the model's `foot` -/
theorem foot_tie {β : Type} (sqrt : α → α) (a b c x y : α) (k : α × α → Py.M β) :
    (Py.bind (Py.fdiv (-c) b) fun yb =>
      Py.bind (Py.fdiv ((x - 0) * -b + (y - yb) * a) (sqrt (-b * -b + a * a))) fun bh =>
      Py.bind (Py.fdiv (bh * -b) (sqrt (-b * -b + a * a))) fun t1 =>
      Py.bind (Py.fdiv (bh * a) (sqrt (-b * -b + a * a))) fun t2 => k (0 + t1, yb + t2)) =
    Py.bind (lift (Proj.foot sqrt a b c x y)) k := by
  simp only [bind_fdiv, Proj.foot]
  cases Proj.isZero b
  · cases Proj.isZero (sqrt (-b * -b + a * a)) <;> rfl
  · rfl

/-- `projection_droite([a, b, c], x, y)` is the model's `projectionDroite`, exceptions included -/
theorem tie_projection_droite (sqrt : α → α) (a b c x y : α) (rest : List α) :
    Gen.Geometry.projection_droite sqrt (a :: b :: c :: rest) x y = lift (Proj.projectionDroite sqrt a b c x y) := by
  simp only [Gen.Geometry.projection_droite, getItem_zero, getItem_succ, bind_ok, Proj.projectionDroite]
  change (if Proj.isZero b then _ else _) = _
  cases Proj.isZero b
  · refine (foot_tie sqrt a b c x y .ok).trans ?_
    cases Proj.foot sqrt a b c x y <;> rfl
  · rfl

/-- `proj_segment([x1, y1, x2, y2], x, y)` is the model's `projSegment`, exceptions included -/
theorem tie_proj_segment (sqrt : α → α) (x1 y1 x2 y2 x y : α) (rest : List α) :
    Gen.Geometry.proj_segment sqrt (x1 :: y1 :: x2 :: y2 :: rest) x y = lift (Proj.projSegment sqrt x1 y1 x2 y2 x y) := by
  simp only [Gen.Geometry.proj_segment, tie_cartesienne, Proj.projSegment, bind_ok, getItem_zero, getItem_succ,
    tie_projection_droite]
  generalize Proj.cartesienne x1 y1 x2 y2 = p
  rw [bind_fdiv]
  cases Proj.isZero (sqrt (p.1 * p.1 + p.2.1 * p.2.1))
  · cases Proj.projectionDroite sqrt p.1 p.2.1 p.2.2 x y with
    | error e => rfl
    | ok pr =>
      simp only [lift, bind_ok]
      change (if Proj.included x1 y1 x2 y2 pr.1 pr.2 then _ else _) = _
      cases Proj.included x1 y1 x2 y2 pr.1 pr.2
      · by_cases hd : sqrt ((x - x1) * (x - x1) + (y - y1) * (y - y1)) ≤ sqrt ((x - x2) * (x - x2) + (y - y2) * (y - y2)) <;>
          simp only [Proj.nearestEnd, hd, decide_true, decide_false, ↓reduceIte, Bool.false_eq_true]
      · refine (foot_tie sqrt p.1 p.2.1 p.2.2 x y fun q => .ok (_, q.1, q.2)).trans ?_
        cases Proj.foot sqrt p.1 p.2.1 p.2.2 x y <;> rfl
  · rfl

end

/-! ## `proj_polyligne` (the initial answer `Xp[0], Yp[0], 0`, the `for i in range(len(Xp) - 1)` loop, the sentinel `1e400`,
the lines after the loop) — the source since the `fix:` commit 563eeba

The translated function keeps the state `(distmin, xproj, yproj, iproj)`, initially `(inf, Xp[0], Yp[0], 0)`, and ends with
`if distmin == inf: distmin = sqrt(pow(x - xproj, 2) + pow(y - yproj, 2))`. The sentinel-faithful model
(`Proj.polyLoopXYS / projPolyligneXYS`, and `polyLoopS / projPolyligneS` on pairs) keeps `none` while nothing is kept;
`Proj.encS inf x0 y0` is the code's state for a model state and `Proj.finishS` the lines after the loop, literally.
`tie_proj_polyligne_exact` / `tie_proj_polyligne_pairs_exact` prove the translated code EQUAL to the model on ALL inputs,
with NO hypothesis, the model's squaring `sq` being `fun v => .ok (pow v 2)` (the translator renders `v ** 2` by an
uninterpreted TOTAL `pow`: Python's `OverflowError` on a float whose square leaves the double range is outside the
translated subset; the driver's instance of `sq` has it and the correspondence check compares it).

The theorems of `Props/C20.lean` are about the `none`-state forms (`Proj.projPolyligneXY / projPolyligne`): every distance
beats the sentinel, squares are `v * v`. `tie_proj_polyligne` / `tie_proj_polyligne_pairs` tie the code to them under the
explicit hypotheses that separate the two forms (`Lemmas/ProjSentinel.lean`): every distance met is `< inf` (`hinf`), a
value `< inf` is not `== inf` (`hne`), `inf == inf` (`hii`), `pow v 2 = v * v` (`hpow`) — all true of an ordered field with
`inf` above the distances, and of doubles with finite distances away from overflow. -/

/-- the front-end model's exceptions (`IndexError` added) as Python exceptions -/
def liftErrX : Proj.ErrX → Py.Err
  | .base e => liftErr e
  | .index => .index

def liftX {β : Type} : Except Proj.ErrX β → Py.M β
  | .ok v => .ok v
  | .error e => .error (liftErrX e)

/-- the model's answer `(distmin, xproj, yproj, iproj)` with its `Nat` index as the Python `int` the code returns -/
def idx {α : Type} (r : α × α × α × Nat) : α × α × α × Int := (r.1, r.2.1, r.2.2.1, (r.2.2.2 : Int))

/-- loop state of the translated `proj_polyligne`: `(distmin, xproj, yproj, iproj)` -/
abbrev St (α : Type) := α × α × α × Int

/-- the loop state of the code that corresponds to a model state: `none` ↦ `(inf, Xp[0], Yp[0], 0)`,
`some (d, xp, yp, i)` ↦ `(d, xp, yp, i)` -/
def enc {α : Type} (inf x0 y0 : α) (c : Option (α × α × α × Nat)) : St α := idx (Proj.encS inf x0 y0 c)

/-- the result of the model's loop as the result of the translated `for` -/
def liftLoop {α : Type} (inf x0 y0 : α) :
    Except Proj.ErrX (Option (α × α × α × Nat)) → Py.M (Py.Out (St α) (α × α × α × Int))
  | .error e => .error (liftErrX e)
  | .ok c => .ok (.done (enc inf x0 y0 c))

theorem getIdx_natCast_succ {β : Type} (l : List β) (k : Nat) : getIdx l ((k : Int) + 1) = getItem l (k + 1) := by
  rw [show (k : Int) + 1 = ((k + 1 : Nat) : Int) from by omega, getIdx_natCast]

theorem getItem_one_cons {β : Type} (a b : β) (l : List β) : getItem (a :: b :: l) 1 = .ok b := rfl
theorem getItem_one_single {β : Type} (a : β) : getItem [a] 1 = .error .index := rfl

section
variable {α : Type} [Add α] [Sub α] [Mul α] [Div α] [Neg α] [LT α] [LE α]
  [DecidableLT α] [DecidableLE α] [OfNat α 0]

/-- one iteration of the loop of `proj_polyligne` once its four reads succeeded, written with the model's functions -/
def core (sqrt : α → α) (eps x y x1 y1 x2 y2 : α) (i : Int) (s : St α) : Py.M (Py.Ctl (St α) (α × α × α × Int)) :=
  if Proj.skipped eps x1 y1 x2 y2 then .ok (.cont s) else
  Py.bind (lift (Proj.projSegment sqrt x1 y1 x2 y2 x y)) fun r =>
    if decide (r.1 < s.1) then .ok (.cont (r.1, r.2.1, r.2.2, i)) else .ok (.cont s)

theorem core_enc (inf x0 y0 : α) (sqrt : α → α) (eps x y x1 y1 x2 y2 : α) (i : Nat) (cur : Option (α × α × α × Nat)) :
    core sqrt eps x y x1 y1 x2 y2 (i : Int) (enc inf x0 y0 cur) =
      if Proj.skipped eps x1 y1 x2 y2 then .ok (.cont (enc inf x0 y0 cur)) else
      Py.bind (lift (Proj.projSegment sqrt x1 y1 x2 y2 x y)) fun r =>
        .ok (.cont (enc inf x0 y0 (if Proj.betterS inf r.1 cur then some (r.1, r.2.1, r.2.2, i) else cur))) := by
  have hbs : ∀ d, decide (d < (enc inf x0 y0 cur).1) = Proj.betterS inf d cur := fun d => by cases cur <;> rfl
  simp only [core, hbs, apply_ite (enc inf x0 y0), apply_ite Py.Ctl.cont, apply_ite Except.ok]
  rfl

/-- the `for` loop of `proj_polyligne` against the SENTINEL-FAITHFUL model's recursion (`Proj.polyLoopXYS`), for an
arbitrary body that reads `Xp[i]`, `Yp[i]`, `Xp[i+1]`, `Yp[i+1]` in this order and then does `core`: no hypothesis on the
distances (in the state `none` both sides test `dist < inf`); `x0`, `y0` (the initial answer) are arbitrary. -/
theorem polyLoopXYS_tie (inf x0 y0 : α) (sqrt : α → α) (eps x y : α) (body : Nat → St α → Py.M (Py.Ctl (St α) (α × α × α × Int))) :
    ∀ (xs ys : List α) (i : Nat) (cur : Option (α × α × α × Nat)),
      (∀ (j : Nat) (s : St α), body (i + j) s =
        Py.bind (getItem xs j) fun x1 => Py.bind (getItem ys j) fun y1 =>
        Py.bind (getItem xs (j + 1)) fun x2 => Py.bind (getItem ys (j + 1)) fun y2 =>
          core sqrt eps x y x1 y1 x2 y2 ((i + j : Nat) : Int) s) →
      Py.forList body (List.range' i (xs.length - 1)) (enc inf x0 y0 cur) =
        liftLoop inf x0 y0 (Proj.polyLoopXYS false inf sqrt eps x y xs ys i cur) := by
  intro xs
  induction xs with
  | nil => exact fun _ _ _ _ => rfl
  | cons x1 tl ih =>
    cases tl with
    | nil => exact fun _ _ _ _ => rfl
    | cons x2 xs' =>
      intro ys i cur hb
      have hb0 := hb 0 (enc inf x0 y0 cur)
      simp only [Nat.add_zero, Nat.zero_add, getItem_zero, getItem_one_cons, bind_ok] at hb0
      change Py.forList body (i :: List.range' (i + 1) xs'.length) _ = _
      match ys with
      | [] =>
        simp only [getItem_nil, bind_error] at hb0
        rw [forList_cons_error hb0]; rfl
      | [y1] =>
        simp only [getItem_zero, getItem_one_single, bind_ok, bind_error] at hb0
        rw [forList_cons_error hb0]; rfl
      | y1 :: y2 :: ys' =>
        simp only [getItem_zero, getItem_one_cons, bind_ok, core_enc] at hb0
        have htl := fun c => ih (y2 :: ys') (i + 1) c fun j s => by
          rw [Nat.add_right_comm, Nat.add_assoc, hb (j + 1) s]
          simp only [getItem_succ]
        rw [Proj.polyLoopXYS]
        cases hsk : Proj.skipped eps x1 y1 x2 y2 with
        | true =>
          rw [hsk, if_pos rfl] at hb0
          rw [forList_cons_cont hb0, if_pos rfl]
          exact htl cur
        | false =>
          rw [hsk, if_neg Bool.false_ne_true] at hb0
          rw [if_neg Bool.false_ne_true, Proj.projSegmentG_false]
          cases hp : Proj.projSegment sqrt x1 y1 x2 y2 x y with
          | error e =>
            rw [hp] at hb0
            rw [forList_cons_error hb0]; rfl
          | ok r =>
            rw [hp] at hb0
            rw [forList_cons_cont hb0]
            exact htl _

/-- the squaring of the translated code as the model's `sq`: `v ** 2` is `pow v 2`, total -/
def sqPow [OfNat α 2] (pow : α → α → α) : α → Except Proj.Err α := fun v => .ok (pow v 2)

/-- the lines after the loop: the translated `if distmin == inf: ...; return distmin, xproj, yproj, iproj` on the code's
state of a model state is the model's `finishS` -/
theorem finish_tie [OfNat α 2] (inf : α) (sqrt : α → α) (pow : α → α → α) (x y : α) (s : α × α × α × Nat) :
    (if Py.feq (idx s).1 inf then
        (.ok (sqrt (pow (x - (idx s).2.1) 2 + pow (y - (idx s).2.2.1) 2), (idx s).2.1, (idx s).2.2.1, (idx s).2.2.2) : Py.M (α × α × α × Int))
      else .ok ((idx s).1, (idx s).2.1, (idx s).2.2.1, (idx s).2.2.2)) =
      liftX (((Proj.finishS inf sqrt (sqPow pow) x y s).mapError Proj.ErrX.base).map idx) := by
  unfold Proj.finishS sqPow
  by_cases h : Proj.isEq s.1 inf = true
  · have h' : Py.feq (idx s).1 inf = true := h
    rw [ite_pos' h, ite_pos' h']; rfl
  · have h' : ¬ Py.feq (idx s).1 inf = true := h
    rw [ite_neg' h, ite_neg' h']; rfl

/-- **`proj_polyligne(Xp, Yp, x, y)`, exact** (translated from the CURRENT source; `inf` is the sentinel `1e400`, `pow` the
translator's rendering of `**`): it is the SENTINEL-FAITHFUL model `Proj.projPolyligneXYS` with Python numbers
(`np = false`), the same sentinel `inf`, `sq v = pow v 2` and `eps = 1e-16`, on ALL arguments, exceptions included —
`IndexError` for an empty `Xp` / `Yp` (`Xp[0]`, `Yp[0]`) and for a `Yp` shorter than `Xp`, `ZeroDivisionError` from
`proj_segment`; when no segment is kept (every segment skipped, or no distance `< inf`: all distances `inf`/NaN on
doubles) the first vertex and the distance to it. NO hypothesis: nothing is assumed of the scalar type, of `inf`, of `pow`
or of the input. -/
theorem tie_proj_polyligne_exact [OfScientific α] [OfNat α 2] (inf : α) (sqrt : α → α) (pow : α → α → α) (Xp Yp : List α) (x y : α) :
    Gen.Geometry.proj_polyligne inf sqrt pow Xp Yp x y =
      liftX ((Proj.projPolyligneXYS false inf sqrt (sqPow pow) (1e-16 : α) Xp Yp x y).map idx) := by
  unfold Gen.Geometry.proj_polyligne Proj.projPolyligneXYS
  match Xp, Yp with
  | [], _ => rfl
  | x0 :: xs, [] => rfl
  | x0 :: xs, y0 :: ys =>
    simp only [getItem_zero, bind_ok]
    rw [show Py.len (x0 :: xs) - 1 = ((xs.length : Nat) : Int) by simp only [Py.len, List.length_cons]; omega]
    have hl : ∀ body, _ → Py.forList body (Py.range (0 : Int) ((xs.length : Nat) : Int)) (inf, x0, y0, (0 : Int)) = _ :=
      fun body h => (forRange_nat body 0 xs.length xs.length (Nat.zero_add _) _).trans
        (polyLoopXYS_tie inf x0 y0 sqrt (1e-16 : α) x y _ (x0 :: xs) (y0 :: ys) 0 none h)
    rw [hl _ ?spec]
    case spec =>
      intro j s
      simp only [Nat.zero_add, getIdx_natCast, getIdx_natCast_succ, tie_proj_segment, core]
      rfl
    cases Proj.polyLoopXYS false inf sqrt (1e-16 : α) x y (x0 :: xs) (y0 :: ys) 0 none with
    | error e => rfl
    | ok c =>
      simp only [liftLoop, bind_ok, enc]
      exact finish_tie inf sqrt pow x y (Proj.encS inf x0 y0 c)

theorem projPolyligneXYS_pairs (inf : α) (sqrt : α → α) (sq : α → Except Proj.Err α) (eps : α) (pts : List (α × α)) (x y : α) :
    Proj.projPolyligneXYS false inf sqrt sq eps (pts.map Prod.fst) (pts.map Prod.snd) x y =
      (Proj.projPolyligneS inf sqrt sq eps pts x y).mapError Proj.ErrX.base := by
  unfold Proj.projPolyligneXYS Proj.projPolyligneS
  match pts with
  | [] => rfl
  | p0 :: rest =>
    simp only [List.map_cons]
    have h := (Proj.polyLoopXY_pairs sqrt eps x y (p0 :: rest) 0 none).2 inf
    simp only [List.map_cons] at h
    rw [h]
    cases Proj.polyLoopS inf sqrt eps x y (p0 :: rest) 0 none with
    | error e => rfl
    | ok c => rfl

/-- **`proj_polyligne`, exact, on the abscissas and ordinates of a list of vertices** (how `__projOnTrack` calls it) is
the sentinel-faithful kernel model `Proj.projPolyligneS` on the vertices, on ALL arguments, exceptions included
(`ZeroDivisionError`; `IndexError` on an empty track). NO hypothesis. -/
theorem tie_proj_polyligne_pairs_exact [OfScientific α] [OfNat α 2] (inf : α) (sqrt : α → α) (pow : α → α → α) (pts : List (α × α)) (x y : α) :
    Gen.Geometry.proj_polyligne inf sqrt pow (pts.map Prod.fst) (pts.map Prod.snd) x y =
      lift ((Proj.projPolyligneS inf sqrt (sqPow pow) (1e-16 : α) pts x y).map idx) := by
  rw [tie_proj_polyligne_exact, projPolyligneXYS_pairs]
  cases Proj.projPolyligneS inf sqrt (sqPow pow) (1e-16 : α) pts x y with
  | error e => cases e <;> rfl
  | ok c => rfl

/-- **`proj_polyligne(Xp, Yp, x, y)`** against the `none`-state model `projPolyligneXY` the theorems of `Props/C20.lean`
are about (Python numbers, `eps = 1e-16`), exceptions included (`IndexError`, `ZeroDivisionError`), under the explicit
hypotheses that separate the two renderings of the sentinel: `hinf` — on every segment `j` of the two sequences that is
not skipped and on which `proj_segment` returns, the returned distance is `< inf`; `hne` — a value `< inf` is not `== inf`;
`hii` — `inf == inf`; `hpow` — `pow v 2 = v * v`. A corollary of the exact tie and of the agreement lemma
`Proj.projPolyligneXYS_eq_false` (`Lemmas/ProjSentinel.lean`): the hypotheses serve only to pass from the sentinel-faithful
model to the `none`-state model, not to tie the code. -/
theorem tie_proj_polyligne [OfScientific α] [OfNat α 2] (inf : α) (sqrt : α → α) (pow : α → α → α) (Xp Yp : List α) (x y : α)
    (hinf : ∀ (j : Nat) (x1 y1 x2 y2 : α) (r : α × α × α), Xp[j]? = some x1 → Yp[j]? = some y1 → Xp[j + 1]? = some x2 →
      Yp[j + 1]? = some y2 → Proj.skipped (1e-16 : α) x1 y1 x2 y2 = false →
      Proj.projSegment sqrt x1 y1 x2 y2 x y = .ok r → r.1 < inf)
    (hne : ∀ d : α, d < inf → Proj.isEq d inf = false) (hii : Proj.isEq inf inf = true) (hpow : ∀ v : α, pow v 2 = v * v) :
    Gen.Geometry.proj_polyligne inf sqrt pow Xp Yp x y =
      liftX ((Proj.projPolyligneXY false sqrt (1e-16 : α) Xp Yp x y).map idx) := by
  rw [tie_proj_polyligne_exact,
    Proj.projPolyligneXYS_eq_false inf sqrt (sqPow pow) (1e-16 : α) Xp Yp x y hinf hne hii (fun v => by simp only [sqPow, hpow])]

theorem polyLoopXY_pairs (sqrt : α → α) (eps x y : α) :
    ∀ (pts : List (α × α)) (i : Nat) (cur : Option (α × α × α × Nat)),
      Proj.polyLoopXY false sqrt eps x y (pts.map Prod.fst) (pts.map Prod.snd) i cur =
        (Proj.polyLoop sqrt eps x y pts i cur).mapError Proj.ErrX.base :=
  fun pts i cur => (Proj.polyLoopXY_pairs sqrt eps x y pts i cur).1

/-- **`proj_polyligne`** on the abscissas and ordinates of a list of vertices (how `__projOnTrack` calls it:
`track.getX()`, `track.getY()`) is the kernel model `projPolyligne` on the vertices, exceptions included
(`ZeroDivisionError`; `IndexError` on an empty track), under the hypotheses of `tie_proj_polyligne` stated on the
segments of the vertex list. -/
theorem tie_proj_polyligne_pairs [OfScientific α] [OfNat α 2] (inf : α) (sqrt : α → α) (pow : α → α → α) (pts : List (α × α)) (x y : α)
    (hinf : ∀ (j : Nat) (p1 p2 : α × α) (r : α × α × α), pts[j]? = some p1 → pts[j + 1]? = some p2 →
      Proj.skipped (1e-16 : α) p1.1 p1.2 p2.1 p2.2 = false →
      Proj.projSegment sqrt p1.1 p1.2 p2.1 p2.2 x y = .ok r → r.1 < inf)
    (hne : ∀ d : α, d < inf → Proj.isEq d inf = false) (hii : Proj.isEq inf inf = true) (hpow : ∀ v : α, pow v 2 = v * v) :
    Gen.Geometry.proj_polyligne inf sqrt pow (pts.map Prod.fst) (pts.map Prod.snd) x y =
      lift ((Proj.projPolyligne sqrt (1e-16 : α) pts x y).map idx) := by
  rw [tie_proj_polyligne_pairs_exact,
    Proj.projPolyligneS_eq inf sqrt (sqPow pow) (1e-16 : α) pts x y hinf hne hii (fun v => by simp only [sqPow, hpow])]

/-- the hypothesis `hinf` cannot be dropped (the `none`-state MODEL's rendering of the sentinel deviates from the code
there): on a single kept segment whose distance is NOT `< inf` (a distance that is `inf` or NaN on doubles, e.g.
`proj_polyligne([0, 1e308], [0, 1e308], -1e308, -1e308)`), the code keeps nothing and answers from its initial state — the
FIRST VERTEX, index 0, `distmin` recomputed by the lines after the loop if `inf == inf` (before 563eeba it raised
`UnboundLocalError`) — while the `none`-state model returns that segment. -/
theorem proj_polyligne_sentinel_deviation [OfScientific α] [OfNat α 2] (inf : α) (sqrt : α → α) (pow : α → α → α)
    (x1 y1 x2 y2 x y : α) (r : α × α × α)
    (hs : Proj.skipped (1e-16 : α) x1 y1 x2 y2 = false) (hp : Proj.projSegment sqrt x1 y1 x2 y2 x y = .ok r)
    (hn : ¬ r.1 < inf) :
    Gen.Geometry.proj_polyligne inf sqrt pow [x1, x2] [y1, y2] x y =
        liftX (((Proj.finishS inf sqrt (sqPow pow) x y (inf, x1, y1, 0)).mapError Proj.ErrX.base).map idx) ∧
      Proj.projPolyligneXY false sqrt (1e-16 : α) [x1, x2] [y1, y2] x y = .ok (r.1, r.2.1, r.2.2, 0) := by
  have hp' : Proj.projSegmentG false sqrt x1 y1 x2 y2 x y = .ok r := by rw [Proj.projSegmentG_false]; exact hp
  obtain ⟨h1, h2⟩ := Proj.projPolyligneXYS_single_not_lt false inf sqrt (sqPow pow) (1e-16 : α) x1 y1 x2 y2 x y r hs hp' hn
  exact ⟨by rw [tie_proj_polyligne_exact, h1], h2⟩

end
end TV.Tie.C20
