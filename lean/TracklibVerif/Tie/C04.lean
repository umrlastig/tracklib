import TracklibVerif.Model.Seq
import TracklibVerif.Gen.Track
import TracklibVerif.Props.C04
import TracklibVerif.Lemmas.PyLoops
/-! Tie for C04: `Track.__getInsertionIndex` of `tracklib/core/track.py` translated from the CURRENT source
(tools/py2lean.py → `Gen/Track.lean`) against the hand-written model `Seq.insertionIndex` (`Model/Seq.lean`).

The track is the list of its timestamps as integer keys (`self : List Int`, the model's `T`), `self.getObs(id).timestamp`
is Python's `L[id]` (`Py.getIdx`, the model's `pyGet`), the float computation `(int)(math.log(N) / math.log(2))` goes
through the uninterpreted parameters `log : α → α`, `trunc : α → Int`.

* `getIdx_pyGet`, `iabs_pyAbs` — the prelude's `L[i]` / `abs` are the model's `pyGet` / `pyAbs`.
* `bind_getIdx` — a read followed by code is a `match` on `pyGet`; with `TV.Py.ite_decide`, `TV.Py.ite_not_decide` (the translated guards
  `decide p` / `!decide p` are the propositions) rewriting with it turns a generated loop body into the model's words, which is how the
  three pointwise equations below are proved.
* `loopsAt_eq_model` — with at least the model's fuels the three loops run at ONE fuel give the model's result
  (`Seq.insertionIndex_loops`: the index reached does not depend on the fuel once it suffices).
* `searchLoop_tie`, `fixLeft_tie`, `fixRight_tie` — EXACT-FUEL loop lemmas: a `Py.whileLoop` on an arbitrary body satisfying
  the pointwise equation of the Python loop body is, at EQUAL fuel, the model's loop (`.ok`, `IndexError` and "out of fuel"
  all correspond); the dichotomy loop is stated together with its continuation, which does not read the final `delta`. Each is one
  round of the code compared with one round of the model (`TV.Py.whileLoop_unique`, `whileLoop_bind_unique`).
* `tie_getInsertionIndex_exactFuel` — `N ≥ 2`, EVERY fuel: the translated function (ONE fuel shared by its three `while` loops) is
  `lift` of the model's three loops each run with that fuel (`loopsAt`), "out of fuel" included.
* `tie_getInsertionIndex` — for every fuel ≥ the largest of the model's three fuels (`ilog2 N - 1 + N + 3`), whenever the model
  is not out of fuel, the translated function is `lift` of the model's result (value ↔ value, `IndexError` ↔ `.indexErr`).
* `tie_getInsertionIndex_total` — with `TV.C04.insertionIndex_no_index_error` (the model never runs out of fuel and never
  raises): the equality without the side condition, and the translated function returns an index `0 ≤ r ≤ N`.
* `tie_getInsertionIndex_sorted` — with `TV.C04.insertionIndex_spec`: on sorted timestamps the translated function returns the
  number of timestamps `≤ ts` (`< ts` when `N = 1`).

Hypotheses on the float computation (the model's stated contract, `Seq.ilog2`), needed only for `N ≥ 2`:
`hlog2 : ¬ Py.feq (log 2) 0 = true` (`math.log(2) != 0`: no `ZeroDivisionError`) and
`htr : 2 ≤ N → trunc (log (N : α) / log 2) = ilog2 N` (`(int)(math.log(N)/math.log(2)) = ⌊log₂ N⌋`).

The pointwise equations are proved of the generated bodies, nothing of the generated text is copied here. -/
namespace TV.Tie.C04
open TV TV.Py

/-- the model's outcome as an outcome of the translated function: a value, `IndexError`, or the fuel of a `while` ran out -/
def lift : Seq.Res → Py.M Int
  | .ok id => .ok id
  | .indexErr => .error .index
  | .outOfFuel => .error .fuel

theorem getIdx_pyGet (l : List Int) (i : Int) :
    Py.getIdx l i = (match Seq.pyGet l i with | some v => .ok v | none => .error .index) := by
  unfold Py.getIdx Seq.pyGet Py.getItem Py.len
  by_cases h0 : 0 ≤ i
  · rw [if_pos h0, if_pos h0]; cases l[i.toNat]? <;> rfl
  · rw [if_neg h0, if_neg h0]
    by_cases h1 : 0 ≤ (l.length : Int) + i
    · rw [if_pos h1, if_pos h1]; cases l[((l.length : Int) + i).toNat]? <;> rfl
    · rw [if_neg h1, if_neg h1]

theorem iabs_pyAbs (a : Int) : Py.iabs a = Seq.pyAbs a := by
  unfold Py.iabs Seq.pyAbs; split <;> omega

theorem shr_eq (a : Int) : Int.shiftRight a 1 = a >>> 1 := rfl

theorem bind_getIdx {γ : Type} (l : List Int) (i : Int) (k : Int → Py.M γ) :
    Py.bind (Py.getIdx l i) k = (match Seq.pyGet l i with | some v => k v | none => .error .index) := by
  rw [getIdx_pyGet]; cases Seq.pyGet l i <;> rfl

/-- the model's outcome as the outcome of a `while` loop whose state is `id` -/
def liftOut : Seq.Res → Py.M (Py.Out Int Int)
  | .ok id => .ok (.done id)
  | .indexErr => .error .index
  | .outOfFuel => .error .fuel

/-- the dichotomy loop (state `(delta, id)`) followed by code `k` that does not read the final `delta`: a body that is, point by
point, the Python loop body (written with the model's `get`, `pyAbs`, `>>>`) runs, at equal fuel, as the model's `searchLoop` — `k` is
entered with the same `id`, `IndexError` ↔ `.indexErr`, out of fuel ↔ `.outOfFuel`. -/
theorem searchLoop_tie {γ : Type} (get : Int → Option Int) (N : Nat) (ts : Int)
    (body : Int × Int → Py.M (Py.Ctl (Int × Int) Int))
    (h : ∀ delta id : Int, body (delta, id) =
      if delta = 0 then .ok (.brk (delta, id))
      else if (N : Int) ≤ id + delta then .ok (.cont (-(Seq.pyAbs (delta >>> 1)), id + delta))
      else if id + delta = 0 then .ok (.brk (delta, id + delta))
      else match get (id + delta) with
        | none => .error .index
        | some t => if ts < t then .ok (.cont (-(Seq.pyAbs (delta >>> 1)), id + delta))
                    else .ok (.cont (Seq.pyAbs (delta >>> 1), id + delta)))
    (k : Py.Out (Int × Int) Int → Py.M γ) (hk : ∀ d d' r : Int, k (.done (d, r)) = k (.done (d', r))) :
    ∀ (fuel : Nat) (id delta : Int), Py.bind (Py.whileLoop body fuel (delta, id)) k =
      (match Seq.searchLoop get N ts fuel id delta with
       | .ok r => k (.done (0, r))
       | .indexErr => .error .index
       | .outOfFuel => .error .fuel) := by
  intro fuel id delta
  refine whileLoop_bind_unique body k
    (fun f s => match Seq.searchLoop get N ts f s.2 s.1 with
      | .ok r => k (.done (0, r)) | .indexErr => .error .index | .outOfFuel => .error .fuel)
    (fun _ => rfl) (fun f s => ?_) fuel (delta, id)
  obtain ⟨delta, id⟩ := s
  rw [h, Seq.searchLoop]
  by_cases hd : delta = 0
  · simp only [hd, ↓reduceIte]
  · by_cases hN : (N : Int) ≤ id + delta
    · simp only [hd, ge_iff_le, hN, ↓reduceIte]
    · by_cases h0 : id + delta = 0
      · simp only [hd, ge_iff_le, hN, if_pos h0, ↓reduceIte]; exact hk _ _ _
      · simp only [hd, ge_iff_le, hN, if_neg h0, ↓reduceIte]
        cases get (id + delta) with
        | none => rfl
        | some t => by_cases ht : ts < t <;> simp only [gt_iff_lt, ht, ↓reduceIte]

/-- the first correction loop (`while self.getObs(id).timestamp > timestamp`) at equal fuel -/
theorem fixLeft_tie (get : Int → Option Int) (ts : Int) (body : Int → Py.M (Py.Ctl Int Int))
    (h : ∀ id : Int, body id =
      match get id with
      | none => .error .index
      | some t => if ts < t then (if id = 0 then .ok (.brk id) else .ok (.cont (id - 1))) else .ok (.brk id)) :
    ∀ (fuel : Nat) (id : Int), Py.whileLoop body fuel id = liftOut (Seq.fixLeft get ts fuel id) := by
  refine whileLoop_unique body (fun f id => liftOut (Seq.fixLeft get ts f id)) (fun _ => rfl) fun f id => ?_
  rw [h, Seq.fixLeft]
  cases get id with
  | none => rfl
  | some t => by_cases ht : ts < t <;> by_cases h0 : id = 0 <;> simp only [gt_iff_lt, ht, h0, ↓reduceIte] <;> rfl

/-- the second correction loop (`while self.getObs(id).timestamp <= timestamp`) at equal fuel -/
theorem fixRight_tie (get : Int → Option Int) (N : Nat) (ts : Int) (body : Int → Py.M (Py.Ctl Int Int))
    (h : ∀ id : Int, body id =
      match get id with
      | none => .error .index
      | some t => if t ≤ ts then (if id + 1 = (N : Int) then .ok (.brk (id + 1)) else .ok (.cont (id + 1))) else .ok (.brk id)) :
    ∀ (fuel : Nat) (id : Int), Py.whileLoop body fuel id = liftOut (Seq.fixRight get N ts fuel id) := by
  refine whileLoop_unique body (fun f id => liftOut (Seq.fixRight get N ts f id)) (fun _ => rfl) fun f id => ?_
  rw [h, Seq.fixRight]
  cases get id with
  | none => rfl
  | some t => by_cases ht : t ≤ ts <;> by_cases h0 : id + 1 = (N : Int) <;> simp only [ht, h0, ↓reduceIte] <;> rfl

/-- the model's three loops on `T` (element access `pyGet T`, first step `2^j`) run with ONE fuel `f` each, as the translated
function does (the model `Seq.insertionIndexWith` gives them `j + N + 3`, `N + 2`, `N + 2`) -/
def loopsAt (T : List Int) (ts : Int) (j f : Nat) : Seq.Res :=
  ((Seq.searchLoop (Seq.pyGet T) T.length ts f 0 ((2 : Int) ^ j)).bind
    (Seq.fixLeft (Seq.pyGet T) ts f)).bind (Seq.fixRight (Seq.pyGet T) T.length ts f)

theorem loopsAt_eq_model (T : List Int) (ts : Int) (j fuel : Nat) (hN : 2 ≤ T.length) (hj : 2 * 2 ^ j ≤ T.length)
    (hfuel : j + T.length + 3 ≤ fuel) : loopsAt T ts j fuel = Seq.insertionIndexFrom j T ts := by
  obtain ⟨r, _, h, _⟩ := Seq.insertionIndex_loops (T := T) (ts := ts) j hj
  unfold Seq.insertionIndexFrom loopsAt
  rw [Seq.insertionIndexWith_ge2 _ hN, h _ (Seq.pyGet_readsOn T) _ _ _ (Nat.le_succ _) (Nat.le_succ _) (Nat.le_succ _),
    h _ (Seq.pyGet_readsOn T) _ _ _ (Nat.le_of_succ_le hfuel) (by omega) (by omega)]

section
variable {α : Type} [Div α] [LE α] [DecidableLE α] [IntCast α] [OfNat α 0] [OfNat α 2]

/-- EXACT FUEL, `N ≥ 2`. For EVERY `fuel`, the translation of the CURRENT source of `Track.__getInsertionIndex` on the timestamps `T`
is the composition of the model's three loops each run with that fuel (`loopsAt`): same index, `IndexError` ↔ `.indexErr`,
and `.error .fuel` exactly when one of the model's loops is out of fuel.
Hypotheses: `hlog2` — `math.log(2) != 0` (no `ZeroDivisionError`); `htr` — the model's contract of the float computation,
`(int)(math.log(N) / math.log(2)) = ⌊log₂ N⌋ = Seq.ilog2 N` (so that the exponent `… - 1` is `≥ 0` and `2 ** …` is an int). -/
theorem tie_getInsertionIndex_exactFuel (log : α → α) (trunc : α → Int) (fuel : Nat) (T : List Int) (ts : Int)
    (hN : 2 ≤ T.length)
    (hlog2 : ¬ Py.feq (log (2 : α)) 0 = true)
    (htr : trunc (log ((T.length : Int) : α) / log (2 : α)) = (Seq.ilog2 T.length : Int)) :
    Gen.Track.Track_getInsertionIndex log trunc fuel T ts = lift (loopsAt T ts (Seq.ilog2 T.length - 1) fuel) := by
  unfold Gen.Track.Track_getInsertionIndex
  simp only []
  have hl : Py.len T = (T.length : Int) := rfl
  have hj1 : 1 ≤ Seq.ilog2 T.length := (Nat.le_log2 (by omega)).mpr (by omega)
  rw [Py.ite_neg' (by rw [decide_eq_true_eq, hl]; omega), Py.ite_neg' (by rw [decide_eq_true_eq, hl]; omega)]
  unfold Py.fdiv Py.ipow
  rw [Py.ite_neg' hlog2, Py.bind_ok, hl, htr, if_neg (by omega), Py.bind_ok]
  have hpow : (2 : Int) ^ ((Seq.ilog2 T.length : Int) - 1).toNat = (2 : Int) ^ (Seq.ilog2 T.length - 1) := by
    congr 1; omega
  rw [hpow]
  unfold loopsAt
  generalize Seq.ilog2 T.length - 1 = j
  rw [searchLoop_tie (Seq.pyGet T) T.length ts _ ?spec1 _ ?hk1]
  case spec1 =>
    intro delta id
    simp only [bind_getIdx, ite_decide, ite_not_decide, iabs_pyAbs, shr_eq]
    cases Seq.pyGet T (id + delta) <;> rfl
  case hk1 => intro d d' r; rfl
  cases Seq.searchLoop (Seq.pyGet T) T.length ts fuel 0 (2 ^ j) with
  | outOfFuel => rfl
  | indexErr => rfl
  | ok r0 =>
    simp only [Seq.Res.bind]
    rw [fixLeft_tie (Seq.pyGet T) ts _ ?spec2]
    case spec2 =>
      intro id
      simp only [bind_getIdx, ite_decide]
      cases Seq.pyGet T id <;> rfl
    cases Seq.fixLeft (Seq.pyGet T) ts fuel r0 with
    | outOfFuel => rfl
    | indexErr => rfl
    | ok r1 =>
      simp only [liftOut, Py.bind_ok]
      rw [fixRight_tie (Seq.pyGet T) T.length ts _ ?spec3]
      case spec3 =>
        intro id
        simp only [bind_getIdx, ite_decide]
        cases Seq.pyGet T id <;> rfl
      cases Seq.fixRight (Seq.pyGet T) T.length ts fuel r1 <;> rfl

/-- `Track.__getInsertionIndex` ↔ `Seq.insertionIndex`. For EVERY `fuel` ≥ the largest of the model's three fuels
(`ilog2 N - 1 + N + 3`), whenever the model is not out of fuel (it never is: `tie_getInsertionIndex_total`), the translation of the
CURRENT source on the timestamps `T` (integer keys) returns the model's index and raises `IndexError` exactly when the model says
`.indexErr`.
Hypotheses: `hlog2` — `math.log(2) != 0`; `htr` — for `N ≥ 2` (the only sizes for which the code evaluates it),
`(int)(math.log(N) / math.log(2)) = Seq.ilog2 N = ⌊log₂ N⌋`, the model's stated contract of the float computation. -/
theorem tie_getInsertionIndex (log : α → α) (trunc : α → Int) (fuel : Nat) (T : List Int) (ts : Int)
    (hlog2 : ¬ Py.feq (log (2 : α)) 0 = true)
    (htr : 2 ≤ T.length → trunc (log ((T.length : Int) : α) / log (2 : α)) = (Seq.ilog2 T.length : Int))
    (hfuel : Seq.ilog2 T.length - 1 + T.length + 3 ≤ fuel)
    (hm : Seq.insertionIndex T ts ≠ .outOfFuel) :
    Gen.Track.Track_getInsertionIndex log trunc fuel T ts = lift (Seq.insertionIndex T ts) := by
  match T, htr, hfuel, hm with
  | [], _, _, _ => rfl
  | [t0], _, _, _ =>
    rw [Seq.insertionIndex_singleton]
    -- `return (self.getFirstObs().timestamp < timestamp) * 1`
    show Except.ok ((if decide (t0 < ts) = true then (1 : Int) else 0) * 1) = Except.ok (if t0 < ts then 1 else 0)
    rw [Int.mul_one, Py.ite_decide]
  | a :: b :: rest, htr, hfuel, hm =>
    have hN : 2 ≤ (a :: b :: rest).length := by simp
    rw [tie_getInsertionIndex_exactFuel log trunc fuel _ ts hN hlog2 (htr hN)]
    exact congrArg lift (loopsAt_eq_model _ ts _ fuel hN (Seq.ilog2_first_step _ hN) hfuel)

/-- unconditional form, with `TV.C04.insertionIndex_no_index_error` (on EVERY list of timestamps the model returns an index
`0 ≤ r ≤ N`: no `IndexError`, never out of fuel): for every `fuel ≥ ilog2 N - 1 + N + 3` the translated function returns the
model's index, which is in `0..N`. Hypotheses `hlog2`, `htr` as in `tie_getInsertionIndex`. -/
theorem tie_getInsertionIndex_total (log : α → α) (trunc : α → Int) (fuel : Nat) (T : List Int) (ts : Int)
    (hlog2 : ¬ Py.feq (log (2 : α)) 0 = true)
    (htr : 2 ≤ T.length → trunc (log ((T.length : Int) : α) / log (2 : α)) = (Seq.ilog2 T.length : Int))
    (hfuel : Seq.ilog2 T.length - 1 + T.length + 3 ≤ fuel) :
    Gen.Track.Track_getInsertionIndex log trunc fuel T ts = lift (Seq.insertionIndex T ts) ∧
    ∃ r : Nat, r ≤ T.length ∧ Seq.insertionIndex T ts = .ok (r : Int) ∧
      Gen.Track.Track_getInsertionIndex log trunc fuel T ts = .ok (r : Int) := by
  obtain ⟨r, hr, _, hi⟩ := TV.C04.insertionIndex_no_index_error T ts
  have h := tie_getInsertionIndex log trunc fuel T ts hlog2 htr hfuel (by rw [hi]; exact fun h => nomatch h)
  exact ⟨h, r, hr, hi, by rw [h, hi]; rfl⟩

/-- end to end on a time-sorted track (`TV.C04.insertionIndex_spec`): for every `fuel ≥ ilog2 N - 1 + N + 3` the translated
`__getInsertionIndex` returns the number of timestamps `≤ ts` (`< ts` on a single observation: the code's special case). -/
theorem tie_getInsertionIndex_sorted (log : α → α) (trunc : α → Int) (fuel : Nat) (T : List Int) (ts : Int)
    (hlog2 : ¬ Py.feq (log (2 : α)) 0 = true)
    (htr : 2 ≤ T.length → trunc (log ((T.length : Int) : α) / log (2 : α)) = (Seq.ilog2 T.length : Int))
    (hfuel : Seq.ilog2 T.length - 1 + T.length + 3 ≤ fuel) (hs : T.Pairwise (· ≤ ·)) :
    Gen.Track.Track_getInsertionIndex log trunc fuel T ts =
      .ok ((if T.length = 1 then T.countP (fun t => decide (t < ts)) else T.countP (fun t => decide (t ≤ ts)) : Nat) : Int) := by
  rw [(tie_getInsertionIndex_total log trunc fuel T ts hlog2 htr hfuel).1, TV.C04.insertionIndex_spec T ts hs]; rfl

end

end TV.Tie.C04
