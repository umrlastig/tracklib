import TracklibVerif.Gen.Segmentation
import TracklibVerif.Lemmas.SplitUid
import TracklibVerif.Lemmas.PyLoops
/-! Translation tie for the feature-name half of `split(track, source, limit)` (tracklib/algo/segmentation.py):
the generated `TV.Gen.Segmentation.split_feature` against the hand-written loop `TV.Split.goU` / `TV.Split.splitU`
(`Model/Split.lean`), on ALL arguments with `len(source) = track.size()`.

Reading of the generated definition: `source` is the marker column, a piece `track.extract(begin, i)` is the pair of its
bounds `(begin, i)`, `newtrack.length()` is the uninterpreted `Piece_length (begin, i)`.
Reading of the model: an observation is its index (`β := Nat`), the marker list is
`obsOf source = [(0, source[0] == 1), (1, source[1] == 1), …]`, a piece is the list of its indices; the model's `short` /
`keepTail` are `limitShort` / `limitKeepTail` on `Piece_length (bounds n p)`, where `bounds n p` is (first index, last
index) of a non-empty piece `p` and, for the EMPTY piece (only possible as the closing piece, when the last observation
is marked: `begin = n`), the pair `(n, n - 1)` the code passes to `extract` then.  Core Lean only. -/
namespace TV.Tie.C11Split
open TV TV.Py

/-- `(begin, end)` numbers of a piece's uid, as Python ints -/
def proj (β : Type) (x : Split.PId × β) : Int × Int := ((x.1.2.1 : Int), (x.1.2.2 : Int))

theorem range'_snoc (b i : Nat) (h : b ≤ i) : List.range' b (i - b) ++ [i] = List.range' b (i + 1 - b) := by
  rw [Nat.sub_add_comm h, List.range'_concat, Nat.one_mul, Nat.add_sub_cancel' h]

/-- the marker list of a track whose observations are their indices `i, i+1, …, i+k-1`, `m j` = observation `j` is marked -/
def obsFrom (m : Nat → Bool) (i k : Nat) : List (Nat × Bool) := (List.range' i k).map (fun j => (j, m j))

theorem obsFrom_succ (m : Nat → Bool) (i k : Nat) : obsFrom m i (k + 1) = (i, m i) :: obsFrom m (i + 1) k := by
  unfold obsFrom; rw [List.range'_succ]; rfl

theorem length_obsFrom (m : Nat → Bool) (i k : Nat) : (obsFrom m i k).length = k := by
  unfold obsFrom; rw [List.length_map, List.length_range']

theorem map_fst_obsFrom (m : Nat → Bool) (i k : Nat) : (obsFrom m i k).map Prod.fst = List.range' i k :=
  Split.map_fst_tag m _

theorem range'_of_idOk {n : Nat} {x : Split.PId × List Nat} (h : Split.IdOk (List.range' 0 n) x) :
    x.2 = List.range' x.1.2.1 (x.1.2.2 + 1 - x.1.2.1) := by
  obtain ⟨hp, -, hel⟩ := h
  rw [List.length_range'] at hel
  rw [hp, List.take_range'_of_length_ge hel, List.drop_range', Nat.zero_add, Nat.mul_one]

/-- what the code passes to `extract` for the piece `p` of a track of `n` observations: (first index, last index);
for the empty piece — the closing piece when the last observation is marked — `(n, n - 1)` -/
def bounds (n : Nat) (p : List Nat) : Int × Int :=
  match p.head?, p.getLast? with
  | some b, some e => ((b : Int), (e : Int))
  | _, _ => ((n : Int), (n : Int) - 1)

theorem bounds_nil (n : Nat) : bounds n [] = ((n : Int), (n : Int) - 1) := rfl

theorem bounds_range' (n b k : Nat) (hk : 0 < k) : bounds n (List.range' b k) = ((b : Int), ((b + k - 1 : Nat) : Int)) := by
  unfold bounds
  rw [List.head?_range', List.getLast?_range', if_neg (by omega), if_neg (by omega)]

theorem bounds_tail (n b : Nat) (h : b ≤ n) : bounds n (List.range' b (n - b)) = ((b : Int), (n : Int) - 1) := by
  by_cases hbn : b = n
  · subst hbn; rw [Nat.sub_self, List.range'_zero, bounds_nil]
  · have hlt : b < n := Nat.lt_of_le_of_ne h hbn
    rw [bounds_range' n b (n - b) (Nat.sub_pos_of_lt hlt), Nat.add_sub_cancel' h, Int.ofNat_sub (Nat.one_le_of_lt hlt)]
    rfl

section scalar
variable {α : Type} [LT α] [LE α] [DecidableLT α] [DecidableLE α] [OfNat α 0] [OfNat α 1]

/-- the model's `short`: `limit > 0 and newtrack.length() < limit` -/
def short (n : Nat) (limit : α) (plen : Int × Int → α) (p : List Nat) : Bool :=
  Split.limitShort limit (plen (bounds n p))

/-- the model's `keepTail`: `limit == 0 or (limit > 0 and newtrack.length() >= limit)`, `==` being the model's `BEq α` -/
def keepTail [BEq α] (n : Nat) (limit : α) (plen : Int × Int → α) (p : List Nat) : Bool :=
  Split.limitKeepTail limit (plen (bounds n p))

/-- observation `j` is marked: `source[j] == 1` (Python's float `==`, `Py.feq`) -/
def mark (source : List α) (j : Nat) : Bool :=
  match source[j]? with
  | some v => Py.feq v (1 : α)
  | none => false

/-- the marker list of the model: observation = its index, marker = `source[i] == 1` -/
def obsOf (source : List α) : List (Nat × Bool) := (List.range source.length).map (fun j => (j, mark source j))

end scalar

theorem obsOf_eq {α : Type} [LE α] [DecidableLE α] [OfNat α 1] (source : List α) :
    obsOf source = obsFrom (mark source) 0 source.length := by
  unfold obsOf obsFrom; rw [List.range_eq_range']

/-- the `for i in range(track.size())` loop, for an ARBITRARY body that satisfies the pointwise equation of the generated
one (`sh` = the `limit > 0 and length < limit` test on the bounds of the piece), is the model's `goU` -/
theorem loop_tie (n : Nat) (m : Nat → Bool) (sh : Int × Int → Bool) (shortM : List Nat → Bool)
    (body : Int → (List (Int × Int) × Int × Int) → M (Ctl (List (Int × Int) × Int × Int) (List (Int × Int))))
    (h : ∀ (i : Nat) (NT : List (Int × Int)) (count begin : Int), i < n →
      body (i : Int) (NT, count, begin) =
        if m i then
          (if sh (begin, (i : Int)) then .ok (.cont (NT, count, (i : Int) + 1))
           else .ok (.cont (NT ++ [(begin, (i : Int))], count + 1, (i : Int) + 1)))
        else .ok (.cont (NT, count, begin)))
    (hs : ∀ b k : Nat, 0 < k → shortM (List.range' b k) = sh ((b : Int), ((b + k - 1 : Nat) : Int)))
    (k : Nat) : ∀ (i b c : Nat) (acc : List (Split.PId × List Nat)), i + k = n → b ≤ i →
    Py.forList body (Py.range (i : Int) (n : Int)) (acc.map (proj _), (c : Int), (b : Int)) =
      .ok (.done (((Split.goU shortM (obsFrom m i k) i b c (List.range' b (i - b)) acc).1.map (proj _)),
        ((Split.goU shortM (obsFrom m i k) i b c (List.range' b (i - b)) acc).2.2.2 : Int),
        ((Split.goU shortM (obsFrom m i k) i b c (List.range' b (i - b)) acc).2.2.1 : Int))) := by
  -- the loop state is named once, so that each step rewrites one copy of `goU …` and not three
  intro i b c acc hik hb
  rw [forRange_nat body i k n hik]
  generalize hr : Split.goU shortM (obsFrom m i k) i b c (List.range' b (i - b)) acc = r
  induction k generalizing i b c acc with
  | zero => rw [← hr]; rfl
  | succ k ih =>
    have hlt : i < n := hik ▸ Nat.lt_add_of_pos_right (Nat.succ_pos k)
    have hik' : i + 1 + k = n := (Nat.add_right_comm i 1 k).trans hik
    have hb' : b ≤ i + 1 := Nat.le_succ_of_le hb
    have he : ([] : List Nat) = List.range' (i + 1) (i + 1 - (i + 1)) := by rw [Nat.sub_self]; rfl
    have hsi : shortM (List.range' b (i + 1 - b)) = sh ((b : Int), (i : Int)) := by
      rw [hs b _ (Nat.sub_pos_of_lt (Nat.lt_succ_of_le hb)), Nat.add_sub_cancel' hb']; rfl
    rw [obsFrom_succ, Split.goU, range'_snoc b i hb, hsi] at hr
    rw [List.range'_succ, Py.forList_cons, h i _ _ _ hlt]
    by_cases hm : m i = true
    · rw [if_pos hm] at hr ⊢
      by_cases hsh : sh ((b : Int), (i : Int)) = true
      · rw [if_pos hsh, he] at hr
        rw [if_pos hsh]
        exact ih (i + 1) (i + 1) c acc hik' (Nat.le_refl _) hr
      · rw [if_neg hsh, he] at hr
        rw [if_neg hsh]
        have := ih (i + 1) (i + 1) (c + 1) (acc ++ [((c, b, i), List.range' b (i + 1 - b))]) hik' (Nat.le_refl _) hr
        rw [List.map_append] at this
        exact this
    · rw [if_neg hm] at hr ⊢
      exact ih (i + 1) b c acc hik' hb' hr

section main
variable {α : Type} [LT α] [LE α] [DecidableLT α] [DecidableLE α] [OfNat α 0] [OfNat α 1]

/-- **translation tie of `split(track, <feature name>, limit)`**: when the marker column has one value per observation
(`source.length = n`, `n = track.size()`), the Lean translation of the CURRENT source never raises and returns exactly
the `(begin, end)` numbers of the pieces of the model's `splitU`, in order — loop pieces `(begin, i)` (the skipped ones
absent, `begin` moved all the same), then the closing piece `(begin, n - 1)` under the code's `begin != 0` and `keepTail`
tests. Hypothesis `hbeq`: the model's `limit == 0` is Python's float `==` (`Py.feq`). -/
theorem tie_split_feature [BEq α] (n : Nat) (source : List α) (limit : α) (plen : Int × Int → α)
    (hn : source.length = n) (hbeq : (limit == (0 : α)) = Py.feq limit (0 : α)) :
    Gen.Segmentation.split_feature (n : Int) source limit plen =
      .ok ((Split.splitU (short n limit plen) (keepTail n limit plen) (obsOf source)).map (proj _)) := by
  have hl : ∀ body, _ → Py.forList body (Py.range (0 : Int) (n : Int)) (([] : List (Int × Int)), (0 : Int), (0 : Int)) = _ :=
    fun body h => loop_tie n (mark source) (fun be => decide ((0 : α) < limit) && decide (plen be < limit))
      (short n limit plen) body h
      (fun b k hk => by unfold short Split.limitShort; rw [bounds_range' n b k hk]) n 0 0 0 [] (Nat.zero_add n) (Nat.le_refl _)
  obtain ⟨-, -, hcur, hle⟩ := Split.goU_init (short n limit plen) (obsFrom (mark source) 0 n)
  rw [map_fst_obsFrom, List.drop_range', Nat.zero_add, Nat.mul_one] at hcur
  rw [length_obsFrom] at hle
  unfold Gen.Segmentation.split_feature
  dsimp only
  rw [hl _ ?spec]
  case spec =>
    intro i NT count begin hi
    have hv := List.getElem?_eq_getElem (hn ▸ hi : i < source.length)
    simp only [Py.getIdx_natCast, Py.getItem_eq_ok hv, Py.bind_ok, mark, hv]
  simp only [Py.bind_ok, Split.splitU, obsOf_eq, hn, Nat.sub_self, List.range'_zero, length_obsFrom]
  generalize Split.goU (short n limit plen) (obsFrom (mark source) 0 n) 0 0 0 [] [] = r at hle hcur ⊢
  obtain ⟨acc, cur, bg, cnt⟩ := r
  simp only at hle hcur ⊢
  by_cases hb0 : bg = 0
  · subst hb0; simp
  · have hbi : ¬ ((bg : Int) = 0) := fun h => hb0 (Int.natCast_eq_zero.mp h)
    have hn1 : (((n - 1 : Nat) : Int)) = (n : Int) - 1 := Int.ofNat_sub (Nat.le_trans (Nat.pos_of_ne_zero hb0) hle)
    have hkt : keepTail n limit plen cur =
        (Py.feq limit (0 : α) || (decide ((0 : α) < limit) && decide (limit ≤ plen ((bg : Int), (n : Int) - 1)))) := by
      unfold keepTail Split.limitKeepTail
      rw [hbeq, hcur, bounds_tail n bg hle]
    simp only [hbi, decide_false, Bool.not_false, ite_true, ← hkt, ne_eq, hb0, not_false_eq_true]
    by_cases hk : keepTail n limit plen cur = true
    · simp [hk, proj, hn1]
    · simp [hk]

/-- the same with the model's `BEq α` taken to be `Py.feq` itself: no hypothesis besides `source.length = n` -/
theorem tie_split_feature_feq (n : Nat) (source : List α) (limit : α) (plen : Int × Int → α) (hn : source.length = n) :
    Gen.Segmentation.split_feature (n : Int) source limit plen =
      .ok ((Split.splitU (short n limit plen) (@keepTail α _ _ _ _ _ ⟨Py.feq⟩ n limit plen) (obsOf source)).map (proj _)) :=
  @tie_split_feature α _ _ _ _ _ _ ⟨Py.feq⟩ n source limit plen hn rfl

end main

section
variable {α : Type} [LE α] [DecidableLE α] [OfNat α 1]

/-- **the bounds determine the piece**: every numbered piece `((count, b, e), p)` of the model's `splitU` on a track whose
observations are their indices is the index range `[b, …, e]` (`p = List.range' b (e + 1 - b)`; the empty closing piece,
`b = n`, `e = n - 1`, included) — for ANY filters `short` / `keepTail` -/
theorem splitU_pieces_are_ranges (sh kt : List Nat → Bool) (source : List α) :
    ∀ x ∈ Split.splitU sh kt (obsOf source), x.2 = List.range' x.1.2.1 (x.1.2.2 + 1 - x.1.2.1) := by
  intro x hx
  have h := (Split.splitU_ids sh kt (obsOf source)).1 x hx
  rw [obsOf_eq, map_fst_obsFrom] at h
  exact range'_of_idOk h
end
end TV.Tie.C11Split
