import TracklibVerif.Model.Grid
import TracklibVerif.Gen.Geometry
import TracklibVerif.Gen.SpatialIndex
import TracklibVerif.Lemmas.PyLoops
/-! Tie for C08 (geometry helpers of the spatial index): the definitions translated from the CURRENT
`tracklib/util/geometry.py` (`cartesienne`, `__eval`, `isSegmentIntersects`) equal the hand-written
`TV.Grid.cartesienne / evalLine / isSegmentIntersects` on all arguments. Bare operation classes only.

Also tied: `SpatialIndex.__getCell`, `SpatialIndex.groundDistanceToUnits` and `SpatialIndex.__cellsCrossSegment` of the
CURRENT `tracklib/core/spatial_index.py`. `tie_getCellR` / `tie_groundDistanceToUnits` are about the model's executed forms (`ZeroDivisionError` on a zero
cell side and the caps `min(index, size)` included); that the executed form returns the value function `getCell` the
theorems use is the proved `TV.C08.getCell_min_is_identity`.
`groundDistanceToUnits` adds the Python literal `1` (`(1 : α)`), the model the converted integer
`((1 : Int) : α)`: `h1` says they are the same number. -/
namespace TV.Tie.C08
open TV TV.Py
set_option linter.unusedSectionVars false
section
variable {α : Type} [Add α] [Sub α] [Mul α] [Neg α] [LE α] [DecidableLE α] [OfNat α 0]

/-- a segment as the Python list `[x1, y1, x2, y2]` (anything after the fourth element is never read) -/
def segList (s : Grid.Seg α) (rest : List α) : List α := s.x1 :: s.y1 :: s.x2 :: s.y2 :: rest

/-- `cartesienne(segment)` returns the list `[a, b, c]` of the model's triple -/
theorem tie_cartesienne (s : Grid.Seg α) (rest : List α) :
    Gen.Geometry.cartesienne (segList s rest) =
      .ok [(Grid.cartesienne s).1, (Grid.cartesienne s).2.1, (Grid.cartesienne s).2.2] := rfl

/-- `__eval([a, b, c], x, y)` is the model's `evalLine` -/
theorem tie_eval (a b c x y : α) (rest : List α) :
    Gen.Geometry.py__eval (a :: b :: c :: rest) x y = .ok (Grid.evalLine (a, b, c) x y) := rfl

/-- `isSegmentIntersects(segment1, segment2)` is the model's straddle test -/
theorem tie_isSegmentIntersects (s1 s2 : Grid.Seg α) (r1 r2 : List α) :
    Gen.Geometry.isSegmentIntersects (segList s1 r1) (segList s2 r2) = .ok (Grid.isSegmentIntersects s1 s2) := rfl

/-- a list shorter than four numbers raises `IndexError` (so the model's `Seg` is all there is) -/
theorem tie_isSegmentIntersects_short1 (l1 l2 : List α) (h : l1.length < 4) :
    Gen.Geometry.isSegmentIntersects l1 l2 = .error .index := by
  match l1, h with
  | [], _ => rfl
  | [_], _ => rfl
  | [_, _], _ => rfl
  | [_, _, _], _ => rfl

end
section
variable {α : Type} [Add α] [Sub α] [Mul α] [Div α] [Neg α] [LT α] [LE α]
  [DecidableLT α] [DecidableLE α] [IntCast α] [OfNat α 0] [OfNat α 1]

def liftErr : Grid.Err → Py.Err
  | .zerodiv => .zerodiv
  | .index => .index
  | .type => .type
  | .exit => .exit

def lift {β : Type} : Grid.Res β → Py.M β
  | .ok v => .ok v
  | .error e => .error (liftErr e)

/-- `__getCell(coord)` as executed — the two range tests, the two divisions (`ZeroDivisionError` included) and the
caps `min(index, csize)`, `min(index, lsize)` — is the model's `getCellR`. `hz`: the model's `x == 0`
(`¬ x < 0 ∧ ¬ 0 < x`) is Python's (`x ≤ 0 ∧ 0 ≤ x`) — true in every linear order and of every double that is not NaN.
(That `getCellR` returns the affine value function `getCell` the theorems use is `TV.C08.getCell_min_is_identity`.) -/
theorem tie_getCellR (hz : ∀ x : α, Grid.isZero x = Py.feq x 0) (ix : Grid.Index α) (p : α × α) :
    Gen.SpatialIndex.SpatialIndex_getCell ix.xmin ix.xmax ix.ymin ix.ymax ix.dX ix.dY ix.csize ix.lsize p.1 p.2
      = lift (Grid.getCellR ix p) := by
  have hm : ∀ a b : α, Py.fmin a b = Grid.pyMin a b := fun _ _ => rfl
  unfold Gen.SpatialIndex.SpatialIndex_getCell
  fun_cases Grid.getCellR ix p <;> simp_all [Py.fdiv, lift, liftErr]

/-- `groundDistanceToUnits(distance)`, `ZeroDivisionError` included. `h1`: the Python literal `1` is the converted
integer `1`; `hz` as in `tie_getCellR`. -/
theorem tie_groundDistanceToUnits (fl : α → Int) (ix : Grid.Index α) (distance : α)
    (h1 : ((1 : Int) : α) = (1 : α)) (hz : ∀ x : α, Grid.isZero x = Py.feq x 0) :
    Gen.SpatialIndex.SpatialIndex_groundDistanceToUnits fl ix.dX ix.dY distance = lift (Grid.groundDistanceToUnits fl ix distance) := by
  have hm : Py.fmin ix.dX ix.dY = Grid.pyMin ix.dX ix.dY := rfl
  simp only [Gen.SpatialIndex.SpatialIndex_groundDistanceToUnits, Grid.groundDistanceToUnits, Py.fdiv, hz, h1, hm]
  by_cases h : Py.feq (Grid.pyMin ix.dX ix.dY) 0 = true
  · simp [h, lift, liftErr]
  · simp [h, lift]
end

/-! ### `SpatialIndex.__cellsCrossSegment` (two nested `for … in range(…)` loops) ↔ `Grid.cellsCross`

No hypothesis on the scalar is needed: the model converts `i + 1` as the code does (`float(i + 1)` of the integer sum),
the eight comparisons are the same strict `<` on the same operands in the same order, the four straddle tests are
`tie_isSegmentIntersects`, and the int `min` / `max`, `range`, `in` of the prelude are proved equal to the model's. -/
section
theorem range_eq_rangeI (lo hi : Int) : Py.range lo hi = Grid.rangeI lo hi := Py.range_eq_map _ _
/-- CPython's `min(a, b)` / `max(a, b)` on ints (`b if b < a else a`, `b if a < b else a`) are `min` / `max` of `Int` -/
theorem imin_eq_min (a b : Int) : Py.imin a b = min a b := by
  unfold Py.imin; rw [Int.min_def]; split <;> split <;> omega
theorem imax_eq_max (a b : Int) : Py.imax a b = max a b := by
  unfold Py.imax; rw [Int.max_def]; split <;> split <;> omega
/-- `x in L` on pairs of ints: the prelude tests with the `BEq` of decidable equality, the model's `addNew` with the
componentwise `BEq` of pairs; both are membership -/
theorem contains_eq (l : List (Int × Int)) (x : Int × Int) : Py.contains l x = l.contains x := by
  rw [Bool.eq_iff_iff]
  have h1 : Py.contains l x = true ↔ x ∈ l := by
    unfold Py.contains; exact @List.elem_iff (Int × Int) instBEqOfDecidableEq inferInstance x l
  have h2 : l.contains x = true ↔ x ∈ l := List.contains_iff_mem
  rw [h1, h2]
/-- one link of a translated `a and b` chain -/
theorem ite_ok_and (c a : Bool) :
    (if c = true then (Except.ok a : Py.M Bool) else Except.ok false) = Except.ok (c && a) := by
  cases c <;> rfl
/-- the shape of the loop body after the eight comparisons: `if A: add elif B1: add elif … elif B4: add` (each `add` is
`if cell not in CELLS: CELLS.append(cell)`, every branch ends the iteration normally) is one step of the model's fold -/
theorem hit_shape {σ ρ : Type} (A B1 B2 B3 B4 C : Bool) (s s' : σ) :
    (if A = true then (if (!C) = true then (Except.ok (Ctl.cont s') : Py.M (Ctl σ ρ)) else Except.ok (Ctl.cont s))
     else Py.bind (Except.ok B1 : Py.M Bool) fun b1 =>
      if b1 = true then (if (!C) = true then Except.ok (Ctl.cont s') else Except.ok (Ctl.cont s))
     else Py.bind (Except.ok B2 : Py.M Bool) fun b2 =>
      if b2 = true then (if (!C) = true then Except.ok (Ctl.cont s') else Except.ok (Ctl.cont s))
     else Py.bind (Except.ok B3 : Py.M Bool) fun b3 =>
      if b3 = true then (if (!C) = true then Except.ok (Ctl.cont s') else Except.ok (Ctl.cont s))
     else Py.bind (Except.ok B4 : Py.M Bool) fun b4 =>
      if b4 = true then (if (!C) = true then Except.ok (Ctl.cont s') else Except.ok (Ctl.cont s))
     else Except.ok (Ctl.cont s))
    = Except.ok (Ctl.cont (if (if A = true then true else if B1 = true then true else if B2 = true then true
        else if B3 = true then true else if B4 = true then true else false) = true
        then (if C = true then s else s') else s)) := by
  cases A <;> cases B1 <;> cases B2 <;> cases B3 <;> cases B4 <;> cases C <;> rfl

variable {α : Type} [Add α] [Sub α] [Mul α] [Neg α] [LT α] [LE α] [DecidableLT α] [DecidableLE α] [IntCast α]
  [OfNat α 0]

theorem isSegmentIntersects_lit (a b c d e f g h : α) :
    Gen.Geometry.isSegmentIntersects [a, b, c, d] [e, f, g, h]
      = .ok (Grid.isSegmentIntersects ⟨a, b, c, d⟩ ⟨e, f, g, h⟩) := rfl

/-- `__cellsCrossSegment(coord1, coord2)` of the CURRENT source — bounds `min(floor, floor, size - 1)` …
`min(max(floor, floor), size - 1)`, the two nested loops over `range(xmin, xmax + 1)`, `range(ymin, ymax + 1)`, the
eight strict comparisons, the four straddle tests in the order bottom, left, top, right, `if (i, j) not in CELLS:
CELLS.append((i, j))` — returns the model's `cellsCross` on ALL arguments (any scalar with the bare operations, any
`floor`, any `csize`, `lsize`; whatever follows the second coordinate in the lists is never read). No hypothesis. -/
theorem tie_cellsCrossSegment (floor : α → Int) (cs ls : Int) (x1 y1 x2 y2 : α) (r1 r2 : List α) :
    Gen.SpatialIndex.SpatialIndex_cellsCrossSegment floor cs ls (x1 :: y1 :: r1) (x2 :: y2 :: r2)
      = .ok (Grid.cellsCross floor cs ls (x1, y1) (x2, y2)) := by
  unfold Gen.SpatialIndex.SpatialIndex_cellsCrossSegment
  simp only [Py.getItem_zero, Py.getItem_succ, Py.bind_ok, imin_eq_min, imax_eq_max, range_eq_rangeI]
  rw [Py.forList_eq_foldl _ (fun cells i =>
      (Grid.rangeI (min (min (floor y1) (floor y2)) (ls - 1)) (min (max (floor y1) (floor y2)) (ls - 1) + 1)).foldl
        (fun cells j => if Grid.cellHit (x1, y1) (x2, y2) i j then Grid.addNew cells (i, j) else cells) cells) _ _ ?h]
  · rfl
  · intro i _ t
    rw [Py.forList_eq_foldl _
      (fun cells j => if Grid.cellHit (x1, y1) (x2, y2) i j then Grid.addNew cells (i, j) else cells) _ _ ?h2]
    · rfl
    · intro j _ cells
      simp only [ite_ok_and, Py.bind_ok, List.map_cons, List.map_nil, isSegmentIntersects_lit, contains_eq]
      exact hit_shape _ _ _ _ _ _ _ _

theorem tie_cellsCrossSegment_short1 (floor : α → Int) (cs ls : Int) (l1 l2 : List α) (h : l1.length < 2) :
    Gen.SpatialIndex.SpatialIndex_cellsCrossSegment floor cs ls l1 l2 = .error .index := by
  match l1, h with
  | [], _ => rfl
  | [_], _ => rfl

theorem tie_cellsCrossSegment_short2 (floor : α → Int) (cs ls : Int) (x1 y1 : α) (r1 l2 : List α)
    (h : l2.length < 2) :
    Gen.SpatialIndex.SpatialIndex_cellsCrossSegment floor cs ls (x1 :: y1 :: r1) l2 = .error .index := by
  match l2, h with
  | [], _ => rfl
  | [_], _ => rfl
end

end TV.Tie.C08
