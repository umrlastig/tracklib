import TracklibVerif.Model.Simplify
import TracklibVerif.Gen.Geometry
/-! Tie for C16: `distance_to_segment` and `triangle_area` translated from `tracklib/util/geometry.py` equal the model's
`distanceToSegment` and `triangleArea` on all arguments, the first under `hbeq` (`==` is Python's), the second under `h05` (`0.5 = 1/2`).

The model tests `l == 0` with a `BEq α` instance and then divides with the plain `/`; the translation tests it with
`Py.feq` (`l ≤ 0 ∧ 0 ≤ l`) and divides with `Py.fdiv` (which raises on a zero divisor). The hypothesis `hbeq` says the
`BEq` instance is Python's `==` on numbers; it holds for `Float` (IEEE `==`) and for every ordered field. Under it the
guarded divisions cannot raise, and the two definitions coincide. -/
namespace TV.Tie.C16
open TV TV.Py
set_option linter.unusedSectionVars false
section
variable {α : Type} [Add α] [Sub α] [Mul α] [Div α] [LT α] [LE α] [DecidableLT α] [DecidableLE α] [BEq α] [OfNat α 0]

theorem tie_distance_to_segment (hbeq : ∀ a b : α, (a == b) = Py.feq a b) (sqrt : α → α) (x0 y0 x1 y1 x2 y2 : α) :
    Gen.Geometry.distance_to_segment sqrt x0 y0 x1 y1 x2 y2 = .ok (Simplify.distanceToSegment sqrt x0 y0 x1 y1 x2 y2) := by
  simp only [Gen.Geometry.distance_to_segment, Simplify.distanceToSegment, Py.fdiv, hbeq]
  by_cases h : Py.feq (sqrt ((x2 - x1) * (x2 - x1) + (y2 - y1) * (y2 - y1))) 0 = true
  · simp only [ite_pos' h]
  · simp only [ite_neg' h, bind_ok]; rfl

/-- `triangle_area(x0, y0, x1, y1, x2, y2)` is the model's `triangleArea`; `h05`: the Python literal `0.5` is the
model's `1 / 2` (true of `Float`, `Rat` and every field of characteristic ≠ 2) -/
theorem tie_triangle_area [Neg α] [OfScientific α] [OfNat α 1] [OfNat α 2] (h05 : (0.5 : α) = 1 / 2) (x0 y0 x1 y1 x2 y2 : α) :
    Gen.Geometry.triangle_area x0 y0 x1 y1 x2 y2 = .ok (Simplify.triangleArea x0 y0 x1 y1 x2 y2) := by
  simp only [Gen.Geometry.triangle_area, Simplify.triangleArea, h05]
  rfl

end
end TV.Tie.C16
