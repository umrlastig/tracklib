import TracklibVerif.Model.Filter
import TracklibVerif.Gen.Operators
import TracklibVerif.Lemmas.PyLoops
/-! Tie for C15 (loops of `Filter.execute`, tracklib/core/operators.py, kernel argument a `Kernel` object that is not
the Dirac kernel): the definition `Gen.Operators.Filter_execute_kernel` translated from the CURRENT source equals the
hand-written model `TV.Filter.filterWindow` (Model/Filter.lean, section `core`) on ALL arguments, errors included.

NaN: the generated code works on raw scalars and tests `isnan(val)` = `!(val == val)`; the model works on
`List (Option α)` with `none` = NaN. The model input is `af_input.map enc` (`enc x = some x` unless `x != x`); the model
output `w` is read back by `decode af_input w` (`some y ↦ y`, `none` at index `i` ↦ `af_input[i]`), which undoes `enc` at the same
index (`enc_getD`): that is what the entries `copyBoundary` copies from `af_input.map enc` need. The interior cells of a run that
does not raise are `some (c.1 / c.2)` and are compared EXACTLY (NaN or not).

Hypotheses of `tie_execute_kernel`: `af_input.length = n` (the column has `track.size()` entries) and
`trunc ((N : α) / 2) = N / 2` (`int(N / 2)` is the integer half of `N = len(window)`; true of doubles for every list length
and of an ordered field with truncation). The model's `BEq α` is instantiated by `⟨Py.feq⟩` (Python's `==`).

* `innerLoop_tie`, `outerLoop_tie`, `copyLoop_ok`, `copyLoop_index` — loop lemmas for an arbitrary body satisfying a pointwise
  equation; nothing of the generated text is copied here.
* `tie_execute_kernel` — the equality. -/
namespace TV.Tie.C15Filter
open TV TV.Py TV.Filter
set_option linter.unusedSectionVars false

/-- `for i in range(a, b): temp[i] = af[i]` inside both lists: item `i` of the result is `af[i]` for `a ≤ i < b`,
`temp[i]` elsewhere -/
theorem copyLoop_ok {β ρ : Type} (af : List β) (body : Int → List β → M (Ctl (List β) ρ))
    (h : ∀ (i : Nat) (temp : List β), body (i : Int) temp
      = Py.bind (getIdx af (i : Int)) fun x => Py.bind (setIdx temp (i : Int) x) fun t => .ok (.cont t))
    (m : Nat) : ∀ (a : Nat) (temp : List β), a + m ≤ af.length → temp.length = af.length →
      ∃ r, forList body (range (a : Int) ((a + m : Nat) : Int)) temp = .ok (.done r) ∧ r.length = af.length ∧
        ∀ i, r[i]? = if a ≤ i ∧ i < a + m then af[i]? else temp[i]? := by
  induction m with
  | zero =>
    intro a temp _ hl
    refine ⟨temp, ?_, hl, ?_⟩
    · rw [range_empty (by omega)]; rfl
    · intro i; rw [if_neg (by omega)]
  | succ m ih =>
    intro a temp ha hl
    have hlt : a < af.length := by omega
    have hx : af[a]? = some af[a] := List.getElem?_eq_getElem hlt
    have hb : body (a : Int) temp = .ok (.cont (temp.set a af[a])) := by
      rw [h, getIdx_of_getElem? hx, bind_ok, setIdx_natCast _ _ _ (by omega), bind_ok]
    obtain ⟨r, hr, hrl, hri⟩ := ih (a + 1) (temp.set a af[a]) (by omega) (by simp [hl])
    refine ⟨r, ?_, hrl, ?_⟩
    · rw [range_cons (by omega), forList_cons_cont hb]
      have e1 : ((a : Int) + 1) = ((a + 1 : Nat) : Int) := by omega
      have e2 : ((a + (m + 1) : Nat) : Int) = ((a + 1 + m : Nat) : Int) := by omega
      rw [e1, e2]; exact hr
    · intro i
      rw [hri i]
      by_cases hia : i = a
      · subst hia
        rw [if_neg (by omega), if_pos (by omega), List.getElem?_set_self (by omega), hx]
      · by_cases hc : a + 1 ≤ i ∧ i < a + 1 + m
        · rw [if_pos hc, if_pos (by omega)]
        · rw [if_neg hc, if_neg (by omega), List.getElem?_set_ne (by omega)]

/-- `for i in range(a, b): temp[i] = af[i]` with `a ≤ len(af) < b`: IndexError (at `i = len(af)`) -/
theorem copyLoop_index {β ρ : Type} (af : List β) (body : Int → List β → M (Ctl (List β) ρ))
    (h : ∀ (i : Nat) (temp : List β), body (i : Int) temp
      = Py.bind (getIdx af (i : Int)) fun x => Py.bind (setIdx temp (i : Int) x) fun t => .ok (.cont t))
    (b : Nat) (hb : af.length < b)
    (m : Nat) : ∀ (a : Nat) (temp : List β), a + m = af.length → temp.length = af.length →
      forList body (range (a : Int) (b : Int)) temp = .error .index := by
  intro a temp ha hl
  obtain ⟨r, hr, _, _⟩ := copyLoop_ok af body h m a temp (by omega) hl
  rw [ha] at hr
  -- the copy up to `len(af)` ends normally (no turn leaves the loop by `break`); the next turn reads `af[len(af)]`
  rw [range_append (b := (af.length : Int)) (by omega) (by omega), forList_append _ _ _ _ _ hr, range_cons (by omega)]
  · apply forList_cons_error
    rw [h, getIdx_natCast, getItem_eq_error (List.getElem?_eq_none (Nat.le_refl _))]; rfl
  · intro x hx t t' hbrk
    rw [← Int.toNat_of_nonneg (by have := mem_range hx; omega : 0 ≤ x), h] at hbrk
    rcases hg : getIdx af (x.toNat : Int) with e | y <;> rw [hg] at hbrk
    · exact nomatch hbrk
    · rcases hs : setIdx t (x.toNat : Int) y with e | u <;> rw [bind_ok, hs] at hbrk <;> exact nomatch hbrk

/-- using a loop lemma stated with `∃` under a `bind` -/
theorem bind_forList_exists {β σ ρ γ : Type} {body : β → σ → M (Ctl σ ρ)} {l : List β} {s : σ} {P : σ → Prop}
    {F : Out σ ρ → M γ} {R : M γ} (h : ∃ r, forList body l s = .ok (.done r) ∧ P r)
    (hk : ∀ r, P r → F (.done r) = R) : Py.bind (forList body l s) F = R := by
  obtain ⟨r, e, p⟩ := h
  rw [e]; exact hk r p

section
variable {α : Type} [Add α] [Mul α] [Div α] [LE α] [DecidableLE α] [OfNat α 0]

/-- encoding of a raw scalar: NaN (`x != x`) is `none` -/
def enc (x : α) : Option α := if Py.feq x x then some x else none

/-- reading back a model signal against the raw input column: `some y ↦ y`, `none` at index `i` ↦ `af[i]` -/
def decode (af : List α) (w : List (Option α)) : List α := List.zipWith (fun o x => o.getD x) w af

/-- exceptions: `KernelError` (in fact NameError) is `raised`; the errors `filterWindow` cannot produce go to `raised` -/
def liftErr : TV.Filter.Err → Py.Err
  | .zeroDiv => .zerodiv
  | .index => .index
  | _ => .raised

def lift (af : List α) : Except TV.Filter.Err (List (Option α)) → Py.M (List α)
  | .error e => .error (liftErr e)
  | .ok w => .ok (decode af w)

theorem sample_lt (v : List (Option α)) (D i j : Nat) (h : (i : Int) - (j : Int) + (D : Int) < 0) :
    sample v D i j = none := by
  unfold sample; simp only []; rw [if_pos h]

theorem sample_ge (v : List (Option α)) (D i j : Nat) (h1 : ¬ (i : Int) - (j : Int) + (D : Int) < 0)
    (h : (v.length : Int) ≤ (i : Int) - (j : Int) + (D : Int)) : sample v D i j = none := by
  unfold sample; simp only []; rw [if_neg h1, if_pos h]

theorem sample_in (af : List α) (D i j : Nat) (h1 : ¬ (i : Int) - (j : Int) + (D : Int) < 0)
    (h2 : ¬ (af.length : Int) ≤ (i : Int) - (j : Int) + (D : Int)) :
    ∃ x, getIdx af ((i : Int) - (j : Int) + (D : Int)) = .ok x ∧ sample (af.map enc) D i j = enc x := by
  have hm : ((i : Int) - (j : Int) + (D : Int)).toNat < af.length := by omega
  refine ⟨af[((i : Int) - (j : Int) + (D : Int)).toNat], ?_, ?_⟩
  · rw [getIdx_nonneg _ (by omega)]; exact getItem_eq_ok (List.getElem?_eq_getElem hm)
  · unfold sample; simp only []
    rw [if_neg h1, if_neg (by rw [List.length_map]; exact h2), List.getElem?_map, List.getElem?_eq_getElem hm]
    simp only [Option.map_some]
    cases enc af[((i : Int) - (j : Int) + (D : Int)).toNat] <;> rfl

/-- the loop `for j in range(N)`: only `temp[i]` and `norm` change, as in `inner` -/
theorem innerLoop_tie {ρ : Type} (v : List (Option α)) (D i : Nat) (pre suf : List α)
    (body : Int → List α × α → M (Ctl (List α × α) ρ)) (ks : List α) :
    ∀ (j0 : Nat), (∀ (m : Nat) (kj t norm : α), ks[m]? = some kj →
        body ((j0 + m : Nat) : Int) (pre ++ t :: suf, norm) = .ok (.cont (match sample v D i (j0 + m) with
          | none => (pre ++ t :: suf, norm)
          | some val => (pre ++ (t + val * kj) :: suf, norm + kj)))) →
      ∀ (t norm : α), forList body (range (j0 : Int) ((j0 + ks.length : Nat) : Int)) (pre ++ t :: suf, norm)
        = .ok (.done (pre ++ (inner v D i ks j0 (t, norm)).1 :: suf, (inner v D i ks j0 (t, norm)).2)) := by
  induction ks with
  | nil => intro j0 _ t norm; rw [range_empty (by simp)]; rfl
  | cons kj ks ih =>
    intro j0 h t norm
    have h0 := h 0 kj t norm rfl
    rw [Nat.add_zero] at h0
    have e1 : ((j0 : Int) + 1) = ((j0 + 1 : Nat) : Int) := by omega
    have e2 : ((j0 + (kj :: ks).length : Nat) : Int) = ((j0 + 1 + ks.length : Nat) : Int) := by
      rw [List.length_cons]; omega
    have h' : ∀ (m : Nat) (kj t norm : α), ks[m]? = some kj →
        body ((j0 + 1 + m : Nat) : Int) (pre ++ t :: suf, norm) = .ok (.cont (match sample v D i (j0 + 1 + m) with
          | none => (pre ++ t :: suf, norm)
          | some val => (pre ++ (t + val * kj) :: suf, norm + kj))) := by
      intro m kj' t' norm' hk
      have := h (m + 1) kj' t' norm' (by rw [List.getElem?_cons_succ]; exact hk)
      rw [show j0 + (m + 1) = j0 + 1 + m by omega] at this
      exact this
    rw [range_cons (by rw [List.length_cons]; omega), forList_cons_cont h0, e1, e2]
    cases hs : sample v D i j0 with
    | none => simp only [inner, hs]; exact ih (j0 + 1) h' t norm
    | some val => simp only [inner, hs]; exact ih (j0 + 1) h' _ _

theorem innerLoop_tie0 {ρ : Type} (v : List (Option α)) (D i : Nat) (pre suf : List α)
    (body : Int → List α × α → M (Ctl (List α × α) ρ)) (ks : List α)
    (h : ∀ (j : Nat) (kj t norm : α), ks[j]? = some kj →
      body (j : Int) (pre ++ t :: suf, norm) = .ok (.cont (match sample v D i j with
        | none => (pre ++ t :: suf, norm)
        | some val => (pre ++ (t + val * kj) :: suf, norm + kj)))) :
    forList body (range 0 (ks.length : Int)) (pre ++ 0 :: suf, 0)
      = .ok (.done (pre ++ (inner v D i ks 0 (0, 0)).1 :: suf, (inner v D i ks 0 (0, 0)).2)) := by
  have := innerLoop_tie v D i pre suf body ks 0 (by intro j kj t norm hk; rw [Nat.zero_add]; exact h j kj t norm hk) 0 0
  rw [Nat.zero_add] at this
  exact this

/-- `temp[i] /= norm` cell after cell, stopping at the first zero norm -/
def divCells : List (α × α) → M (List α)
  | [] => .ok []
  | c :: cs => if Py.feq c.2 0 then .error .zerodiv else
      match divCells cs with
      | .error e => .error e
      | .ok l => .ok (c.1 / c.2 :: l)

theorem divCells_eq (cs : List (α × α)) :
    divCells cs = if cs.any (fun c => Py.feq c.2 0) then .error .zerodiv else .ok (cs.map fun c => c.1 / c.2) := by
  induction cs with
  | nil => rfl
  | cons c cs ih =>
    rw [divCells, ih, List.any_cons]
    by_cases hc : Py.feq c.2 0 = true
    · rw [if_pos hc, hc]; rfl
    · have hc' : Py.feq c.2 0 = false := by simpa using hc
      rw [if_neg hc, hc', Bool.false_or]
      by_cases ha : cs.any (fun c => Py.feq c.2 0) = true
      · rw [if_pos ha, if_pos ha]
      · rw [if_neg ha, if_neg ha]; rfl

/-- the loop `for i in range(track.size())`: the state is the cells already divided followed by the untouched zeros -/
theorem outerLoop_tie {ρ : Type} (f : Nat → α × α) (n : Nat) (body : Int → List α → M (Ctl (List α) ρ))
    (h : ∀ (i m : Nat) (pre : List α), pre.length = i → i + m + 1 = n →
      body (i : Int) (pre ++ List.replicate (m + 1) 0)
        = if Py.feq (f i).2 0 then .error .zerodiv else .ok (.cont (pre ++ ((f i).1 / (f i).2) :: List.replicate m 0)))
    (m : Nat) : ∀ (i : Nat) (pre : List α), pre.length = i → i + m = n →
      forList body (range (i : Int) (n : Int)) (pre ++ List.replicate m 0)
        = match divCells ((List.range' i m).map f) with
          | .error e => .error e
          | .ok l => .ok (.done (pre ++ l)) := by
  induction m with
  | zero =>
    intro i pre hp hn
    rw [range_empty (by omega)]; rfl
  | succ m ih =>
    intro i pre hp hn
    rw [range_cons (by omega), List.range'_succ, List.map_cons, divCells]
    have hb := h i m pre hp (by omega)
    by_cases hz : Py.feq (f i).2 0 = true
    · rw [if_pos hz] at hb
      rw [forList_cons_error hb, if_pos hz]
    · rw [if_neg hz] at hb
      rw [forList_cons_cont hb, if_neg hz]
      have e1 : ((i : Int) + 1) = ((i + 1 : Nat) : Int) := by omega
      have := ih (i + 1) (pre ++ [(f i).1 / (f i).2]) (by simp [hp]) (by omega)
      rw [List.append_assoc, List.singleton_append] at this
      rw [e1, this]
      cases divCells ((List.range' (i + 1) m).map f) with
      | error e => rfl
      | ok l => simp

theorem outerLoop_tie0 {ρ : Type} (f : Nat → α × α) (n : Nat) (body : Int → List α → M (Ctl (List α) ρ))
    (h : ∀ (i m : Nat) (pre : List α), pre.length = i → i + m + 1 = n →
      body (i : Int) (pre ++ List.replicate (m + 1) 0)
        = if Py.feq (f i).2 0 then .error .zerodiv else .ok (.cont (pre ++ ((f i).1 / (f i).2) :: List.replicate m 0))) :
    forList body (range 0 (n : Int)) (List.replicate n 0)
      = match divCells ((List.range' 0 n).map f) with
        | .error e => .error e
        | .ok l => .ok (.done l) := by
  have := outerLoop_tie f n body h n 0 [] rfl (by omega)
  rw [List.nil_append] at this
  rw [show (0 : Int) = ((0 : Nat) : Int) from rfl, this]
  cases divCells ((List.range' 0 n).map f) <;> rfl

/-- first boundary loop `for i in range(0, D)` -/
theorem copyLoop_prefix {β ρ : Type} (af : List β) (body : Int → List β → M (Ctl (List β) ρ))
    (h : ∀ (i : Nat) (temp : List β), body (i : Int) temp
      = Py.bind (getIdx af (i : Int)) fun x => Py.bind (setIdx temp (i : Int) x) fun t => .ok (.cont t))
    (D : Nat) (temp : List β) (hD : D ≤ af.length) (hl : temp.length = af.length) :
    ∃ r, forList body (range 0 (D : Int)) temp = .ok (.done r) ∧ r.length = af.length ∧
        ∀ i, r[i]? = if i < D then af[i]? else temp[i]? := by
  obtain ⟨r, h1, h2, h3⟩ := copyLoop_ok af body h D 0 temp (by omega) hl
  rw [Nat.zero_add] at h1
  refine ⟨r, h1, h2, ?_⟩
  intro i; rw [h3 i]
  by_cases hi : i < D
  · rw [if_pos (by omega), if_pos hi]
  · rw [if_neg (by omega), if_neg hi]

/-- second boundary loop `for i in range(n - D, n)` -/
theorem copyLoop_suffix {β ρ : Type} (af : List β) (body : Int → List β → M (Ctl (List β) ρ))
    (h : ∀ (i : Nat) (temp : List β), body (i : Int) temp
      = Py.bind (getIdx af (i : Int)) fun x => Py.bind (setIdx temp (i : Int) x) fun t => .ok (.cont t))
    (D n : Nat) (temp : List β) (hn : af.length = n) (hD : D ≤ n) (hl : temp.length = n) :
    ∃ r, forList body (range ((n : Int) - (D : Int)) (n : Int)) temp = .ok (.done r) ∧ r.length = n ∧
        ∀ i, r[i]? = if n - D ≤ i ∧ i < n then af[i]? else temp[i]? := by
  obtain ⟨r, h1, h2, h3⟩ := copyLoop_ok af body h D (n - D) temp (by omega) (by omega)
  have e1 : ((n - D : Nat) : Int) = (n : Int) - (D : Int) := by omega
  have e2 : n - D + D = n := by omega
  rw [e1, e2] at h1
  refine ⟨r, h1, by omega, ?_⟩
  intro i; rw [h3 i, e2]

theorem enc_getD (x : α) : (enc x).getD x = x := by
  unfold enc; by_cases h : Py.feq x x = true
  · rw [if_pos h]; rfl
  · rw [if_neg h]; rfl

theorem decode_map {γ : Type} (g : γ → Option α) (q : γ → α) (cs : List γ) :
    ∀ (af : List α), (∀ c ∈ cs, g c = some (q c)) → cs.length = af.length → decode af (cs.map g) = cs.map q := by
  induction cs with
  | nil => intro af _ _; rfl
  | cons c cs ih =>
    intro af hg hl
    cases af with
    | nil => exact nomatch hl
    | cons x af =>
      have := ih af (fun c' hc' => hg c' (List.mem_cons_of_mem c hc')) (by simpa using hl)
      unfold decode at this ⊢
      rw [List.map_cons, List.zipWith_cons_cons, this, hg c List.mem_cons_self]; rfl

/-- the list left by the two boundary loops is the decoded `copyBoundary` -/
theorem final_eq (af : List α) (cs : List (α × α)) (D n : Nat) (hn : af.length = n) (hcs : cs.length = n) (hD : D ≤ n)
    (g : α × α → Option α) (hg : ∀ c ∈ cs, g c = some (c.1 / c.2))
    (r : List α) (hrl : r.length = n)
    (hr : ∀ i, r[i]? = if n - D ≤ i ∧ i < n then af[i]?
      else if i < D then af[i]? else (cs.map fun c => c.1 / c.2)[i]?) :
    r = decode af (copyBoundary (af.map enc) (cs.map g) D) := by
  apply List.ext_getElem?
  intro i
  rw [hr i]
  unfold decode copyBoundary
  rw [List.getElem?_zipWith, List.length_map, hn]
  by_cases hi : i < n
  · have hia : i < af.length := by omega
    have hic : i < cs.length := by omega
    simp only [List.getElem?_map, List.getElem?_range hi, List.getElem?_eq_getElem hia, List.getElem?_eq_getElem hic, Option.map_some,
      Option.join_some]
    rw [hg cs[i] (List.getElem_mem hic)]
    by_cases h1 : n - D ≤ i ∧ i < n
    · rw [if_pos h1, if_pos (Or.inr h1.1), enc_getD]
    · rw [if_neg h1]
      by_cases h2 : i < D
      · rw [if_pos h2, if_pos (Or.inl h2), enc_getD]
      · rw [if_neg h2, if_neg (by omega)]; rfl
  · rw [if_neg (by omega), if_neg (by omega), List.getElem?_eq_none (by omega : af.length ≤ i), List.getElem?_map,
      List.getElem?_eq_none (by omega : cs.length ≤ i)]
    cases (List.map
          (fun i =>
            if i < D ∨ n - D ≤ i then (List.map enc af)[i]?.join else (List.map g cs)[i]?.join)
          (List.range n))[i]? <;> rfl

/-- `Filter.execute` (Kernel object, not Dirac) = `filterWindow` on the encoded column, on ALL arguments: `KernelError` on an
even window, `ZeroDivisionError` when a collected norm is `== 0`, `IndexError` in the boundary copy of a track shorter than
the half window, else the decoded model signal. Hypotheses: `hn` the column has `n = track.size()` entries; `hD`
`int(N / 2)` is the integer half of the window length; the model's `==` is `Py.feq`. -/
theorem tie_execute_kernel [IntCast α] [OfNat α 2] (trunc : α → Int) (n : Nat) (af_input k : List α) (boundary : Bool)
    (hn : af_input.length = n)
    (hD : trunc (((k.length : Int) : α) / 2) = ((k.length / 2 : Nat) : Int)) :
    Gen.Operators.Filter_execute_kernel trunc (n : Int) af_input boundary k
      = lift af_input (@TV.Filter.filterWindow α _ _ _ _ ⟨Py.feq⟩ (af_input.map enc) k boundary) := by
  unfold Gen.Operators.Filter_execute_kernel
  simp only [Py.len, hD, replicate_natCast]
  have hf : (k.length : Int).fmod 2 = ((k.length % 2 : Nat) : Int) := fmod_natCast k.length 2
  simp only [hf]
  rw [outerLoop_tie0 (fun i => inner (af_input.map enc) (k.length / 2) i k 0 (0, 0)) n _ ?spec]
  case spec =>
    intro i m pre hp hm
    have hg : ∀ t suf, getIdx (pre ++ t :: suf) (i : Int) = .ok t := fun t suf => hp ▸ getIdx_append_cons pre t suf
    have hset : ∀ t x suf, setIdx (pre ++ t :: suf) (i : Int) x = .ok (pre ++ x :: suf) := fun t x suf =>
      hp ▸ setIdx_append_cons pre t x suf
    simp only [List.replicate_succ]
    rw [innerLoop_tie0 (af_input.map enc) (k.length / 2) i pre (List.replicate m 0) _ k ?spec']
    case spec' =>
      intro j kj t norm hk
      simp only []
      by_cases h1 : (i : Int) - (j : Int) + ((k.length / 2 : Nat) : Int) < 0
      · rw [sample_lt _ _ _ _ h1, ite_pos' (decide_eq_true h1)]
      · rw [ite_neg' (by simpa using h1)]
        by_cases h2 : (n : Int) ≤ (i : Int) - (j : Int) + ((k.length / 2 : Nat) : Int)
        · rw [sample_ge _ _ _ _ h1 (by rw [List.length_map, hn]; exact h2), ite_pos' (decide_eq_true h2)]
        · obtain ⟨x, hx, hs⟩ := sample_in af_input _ i j h1 (by rw [hn]; exact h2)
          rw [ite_neg' (by simpa using h2), hx, hs]
          simp only [bind_ok, Gen.Utils.isnan, enc]
          by_cases hxx : Py.feq x x = true
          · simp only [hxx, Bool.not_true, Bool.false_eq_true, if_false, if_true, hg,
              getIdx_of_getElem? hk, bind_ok, hset]
          · have hxx' : Py.feq x x = false := by simpa using hxx
            simp only [hxx', Bool.not_false, if_true, Bool.false_eq_true, if_false]
    simp only [bind_ok, hg, Py.fdiv]
    by_cases hz : Py.feq (inner (af_input.map enc) (k.length / 2) i k 0 (0, 0)).2 0 = true
    · simp only [hz, if_true, bind_error]
    · simp only [hz, Bool.false_eq_true, if_false, bind_ok, hset]
  unfold filterWindow filterWindowG
  simp only [List.length_map, hn]
  have hcells : cells (af_input.map enc) k (k.length / 2)
      = (List.range' 0 n).map (fun i => inner (af_input.map enc) (k.length / 2) i k 0 (0, 0)) := by
    unfold cells; rw [List.length_map, hn, List.range_eq_range']
  rw [hcells]
  generalize hcs : (List.range' 0 n).map (fun i => inner (af_input.map enc) (k.length / 2) i k 0 (0, 0)) = cs
  have hcl : cs.length = n := by rw [← hcs]; simp
  have hcond : (fun c : (α × α) × Nat =>
      Py.feq c.1.2 0 && (!false || !anySample (af_input.map enc) (k.length / 2) c.2 k 0))
      = (fun c' : α × α => Py.feq c'.2 0) ∘ Prod.fst := by
    funext c; simp only [Function.comp, Bool.not_false, Bool.true_or, Bool.and_true]
  rw [hcond, ← List.any_map, List.zipIdx_map_fst, divCells_eq]
  by_cases hev : k.length % 2 = 0
  · have h1 : (k.length % 2 == 0) = true := by simp [hev]
    rw [if_pos h1, hev]; rfl
  · have h1 : ¬ ((k.length % 2 == 0) = true) := by simpa using hev
    have h2 : ¬ (decide (((k.length % 2 : Nat) : Int) = 0) = true) := by
      intro h; exact hev (by have := of_decide_eq_true h; omega)
    rw [if_neg h1, ite_neg' h2, bind_ok]
    by_cases hany : cs.any (fun c => Py.feq c.2 0) = true
    · rw [if_pos hany, if_pos hany]; rfl
    · rw [if_neg hany, if_neg hany]
      simp only [bind_ok]
      have hnz : ∀ c ∈ cs, (fun c : α × α => if Py.feq c.2 0 = true then none else some (c.1 / c.2)) c
          = some (c.1 / c.2) := by
        intro c hc
        have : ¬ Py.feq c.2 0 = true := fun h => hany (List.any_eq_true.mpr ⟨c, hc, h⟩)
        simp only [if_neg this]
      cases boundary with
      | true =>
        simp only [Bool.not_true, Bool.false_eq_true, if_false, if_true]
        unfold lift; simp only []
        rw [decode_map _ (fun c => c.1 / c.2) cs af_input hnz (by omega)]
      | false =>
        simp only [Bool.not_false, if_true, Bool.false_eq_true, if_false]
        by_cases hlt : n < k.length / 2
        · rw [if_pos hlt]
          rw [show (0 : Int) = ((0 : Nat) : Int) from rfl,
            copyLoop_index af_input _ (fun i temp => rfl) (k.length / 2) (by omega) n 0 _ (by omega) (by simp; omega)]
          rfl
        · rw [if_neg hlt]
          refine bind_forList_exists (copyLoop_prefix af_input _ (fun i temp => rfl) (k.length / 2)
            (cs.map fun c => c.1 / c.2) (by omega) (by simp; omega)) ?_
          intro r1 ⟨l1, g1⟩
          simp only []
          refine bind_forList_exists (copyLoop_suffix af_input _ (fun i temp => rfl) (k.length / 2) n r1 hn
            (by omega) (by omega)) ?_
          intro r2 ⟨l2, g2⟩
          unfold lift; simp only []
          congr 1
          apply final_eq af_input cs (k.length / 2) n hn hcl (by omega) _ hnz r2 l2
          intro i; rw [g2 i, g1 i]
end

end TV.Tie.C15Filter
