import TracklibVerif.Model.Geo
import TracklibVerif.Gen.ObsCoords
/-! Tie for C14: the closed forms of `tracklib/core/obs_coords.py` — `GeoCoords.toECEFCoords`, `ECEFCoords.toGeoCoords`,
`ECEFCoords.toENUCoords`, `ENUCoords.toECEFCoords` — translated from the CURRENT source equal the model's
`TV.Geo.geoToEcef` / `ecefToGeo` / `ecefToEnu` / `enuToEcef`. In the two rotations the first statement
`base = base.toECEFCoords()` is a dynamic dispatch on the class of `base`: the translator reads it as a declared accessor
(three numbers), which the tie instantiates with the model's `base.toEcef` (a copy for an ECEF base, `geoToEcef` for a
geographic one); the call `base.toGeoCoords()` that follows is resolved statically (the object is an `ECEFCoords`).

The model divides with the plain `/` (it has no `ZeroDivisionError` branch), so the statements are: WHENEVER the
translated function returns a value, that value is the model's (for every input on which Python does not raise).
Python's integer literals `1`, `2`, `3` in these formulas are written `1.0`, `2.0`, `3.0` in the model: `h1 h2 h3`
say they denote the same numbers (true of `Float` and of every field). Nothing else is assumed of the scalar type or
of the `math` functions (fields of `Trig`). -/
namespace TV.Tie.C14
open TV TV.Py
set_option linter.unusedSectionVars false
section
variable {α : Type} [Add α] [Sub α] [Mul α] [Div α] [Neg α] [LE α] [DecidableLE α] [OfScientific α]
  [OfNat α 0] [OfNat α 1] [OfNat α 2] [OfNat α 3]

/-- `GeoCoords(lon, lat, hgt).toECEFCoords()`: when it returns, it returns the model's `geoToEcef` -/
theorem tie_geoToEcef (T : Geo.Trig α) (g : Geo.V3 α) (v : α × α × α)
    (h1 : (1 : α) = 1.0) (h2 : (2 : α) = 2.0)
    (h : Gen.ObsCoords.GeoCoords_toECEFCoords T.pi T.sqrt T.sin T.cos T.pow g.x g.y g.z = .ok v) :
    v = ((Geo.geoToEcef T g).x, (Geo.geoToEcef T g).y, (Geo.geoToEcef T g).z) := by
  simp only [Gen.ObsCoords.GeoCoords_toECEFCoords] at h
  have h := bind_fdiv_ok h
  simp only [h1, h2] at h
  exact (Except.ok.inj h).symm

/-- `ECEFCoords(X, Y, Z).toGeoCoords()`: when it returns, it returns the model's `ecefToGeo` -/
theorem tie_ecefToGeo (T : Geo.Trig α) (p : Geo.V3 α) (v : α × α × α)
    (h1 : (1 : α) = 1.0) (h2 : (2 : α) = 2.0) (h3 : (3 : α) = 3.0)
    (h : Gen.ObsCoords.ECEFCoords_toGeoCoords T.pi T.sqrt T.sin T.cos T.atan2 T.pow p.x p.y p.z = .ok v) :
    v = ((Geo.ecefToGeo T p).x, (Geo.ecefToGeo T p).y, (Geo.ecefToGeo T p).z) := by
  simp only [Gen.ObsCoords.ECEFCoords_toGeoCoords] at h
  have h := bind_fdiv_ok h
  have h := bind_fdiv_ok h
  have h := bind_fdiv_ok h
  have h := bind_fdiv_ok h
  have h := bind_fdiv_ok h
  simp only [h1, h2, h3] at h
  exact (Except.ok.inj h).symm

theorem bind_eq_ok {β γ : Type} {m : M β} {f : β → M γ} {v : γ} (h : Py.bind m f = .ok v) :
    ∃ w, m = .ok w ∧ f w = .ok v := by
  cases m with
  | error e => exact nomatch h
  | ok w => exact ⟨w, rfl, h⟩

/-- `ECEFCoords(X, Y, Z).toENUCoords(base)`, `base.toECEFCoords()` being the model's `base.toEcef`: when it returns,
it returns the model's `ecefToEnu` -/
theorem tie_ecefToEnu (T : Geo.Trig α) (p : Geo.V3 α) (base : Geo.Base α) (v : α × α × α)
    (h1 : (1 : α) = 1.0) (h2 : (2 : α) = 2.0) (h3 : (3 : α) = 3.0)
    (h : Gen.ObsCoords.ECEFCoords_toENUCoords T.pi T.sqrt T.sin T.cos T.atan2 T.pow p.x p.y p.z
          (base.toEcef T).x (base.toEcef T).y (base.toEcef T).z = .ok v) :
    v = ((Geo.ecefToEnu T p base).x, (Geo.ecefToEnu T p base).y, (Geo.ecefToEnu T p base).z) := by
  simp only [Gen.ObsCoords.ECEFCoords_toENUCoords] at h
  obtain ⟨w, hg, h⟩ := bind_eq_ok h
  obtain rfl := tie_ecefToGeo T (base.toEcef T) w h1 h2 h3 hg
  exact (Except.ok.inj h).symm

/-- `ENUCoords(E, N, U).toECEFCoords(base)`: when it returns, it returns the model's `enuToEcef` -/
theorem tie_enuToEcef (T : Geo.Trig α) (q : Geo.V3 α) (base : Geo.Base α) (v : α × α × α)
    (h1 : (1 : α) = 1.0) (h2 : (2 : α) = 2.0) (h3 : (3 : α) = 3.0)
    (h : Gen.ObsCoords.ENUCoords_toECEFCoords T.pi T.sqrt T.sin T.cos T.atan2 T.pow q.x q.y q.z
          (base.toEcef T).x (base.toEcef T).y (base.toEcef T).z = .ok v) :
    v = ((Geo.enuToEcef T q base).x, (Geo.enuToEcef T q base).y, (Geo.enuToEcef T q base).z) := by
  simp only [Gen.ObsCoords.ENUCoords_toECEFCoords] at h
  obtain ⟨w, hg, h⟩ := bind_eq_ok h
  obtain rfl := tie_ecefToGeo T (base.toEcef T) w h1 h2 h3 hg
  exact (Except.ok.inj h).symm

end
end TV.Tie.C14
