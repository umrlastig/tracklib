import TracklibVerif.Model.ObsTimeG
import TracklibVerif.Gen.ObsTime
import TracklibVerif.Lemmas.PyLoops
/-! Tie for C03: the functions of `tracklib/core/obs_time.py` translated from the CURRENT source (tools/py2lean.py →
`Gen/ObsTime.lean`) against the hand-written models.

* `tie_isLeapYear`  — `ObsTime.isLeapYear(year)` = `ObsTime.isLeap` on every year ≥ 0 (Python's `%` is `Int.fmod`).
* `tie_toAbsTime`   — `ObsTime.toAbsTime` (two `for` loops over `range`, table lookup `__day_per_month[m - 1]`, the integer
  accumulator `seconds`, the final float operation) = `ObsTime.toAbsG`, on every stamp with `month ≤ 13`;
  `tie_toAbsTime_index`: for `month ≥ 14` the code raises `IndexError`; `tie_toAbsTime_total`: both, against `ObsTime.toAbsGE`.
* `tie_readUnixTime_modelFuel`, `tie_readUnixTime` — `ObsTime.readUnixTime` on a float (the `while True` year loop with
  `break`, the `for i in range(12)` month loop with `break`, the five truncations) = `ObsTime.readUnixG`: with the model's
  own fuel the two agree including "out of fuel", and for EVERY larger fuel the translated function returns the model's stamp.
  An `ObsTime` is the tuple of its attributes in constructor order `(year, month, day, hour, min, sec, ms, zone)`.

The loop lemmas (`yearLoop_tie`, `monthLoop_tie`) are stated for an arbitrary body satisfying a pointwise equation; the
equation is then proved of the generated body, so nothing of the generated text is copied here. -/
namespace TV.Tie.C03
open TV TV.Py
set_option linter.unusedSectionVars false

theorem tie_isLeapYear (y : Nat) : Gen.ObsTime.isLeapYear (y : Int) = .ok (ObsTime.isLeap y) := by
  have h4 : Int.fmod (y : Int) 4 = ((y % 4 : Nat) : Int) := fmod_natCast y 4
  have h100 : Int.fmod (y : Int) 100 = ((y % 100 : Nat) : Int) := fmod_natCast y 100
  have h400 : Int.fmod (y : Int) 400 = ((y % 400 : Nat) : Int) := fmod_natCast y 400
  simp only [Gen.ObsTime.isLeapYear, ObsTime.isLeap, h4, h100, h400, Int.natCast_eq_zero]
  rfl

theorem years_fold (y : Nat) (s : Int) :
    (Py.range 1970 (y : Int)).foldl (fun (t : Int) (y : Int) => t + 86400 * 365 + (if ObsTime.isLeap y.toNat then 86400 else 0)) s
      = s + (ObsTime.daysBeforeYear (y - 1970) : Int) * 86400 := by
  rw [range_foldl_prefix _ (fun k => (ObsTime.daysBeforeYear k : Int) * 86400) 1970 (Int.zero_mul _),
    show ((y : Int) - 1970).toNat = y - 1970 by omega]
  intro k s
  simp only [ObsTime.daysBeforeYear, ObsTime.yearDays, show (1970 + (k : Int)).toNat = 1970 + k by omega]
  split <;> omega

theorem months_fold (y m : Nat) (s : Int) :
    (Py.range 1 (m : Int)).foldl (fun (t : Int) (m : Int) => t + (ObsTime.monthDays y (m - 1).toNat : Int) * 86400) s
      = s + (ObsTime.daysBeforeMonth y (m - 1) : Int) * 86400 := by
  rw [range_foldl_prefix _ (fun k => (ObsTime.daysBeforeMonth y k : Int) * 86400) 1 (Int.zero_mul _),
    show ((m : Int) - 1).toNat = m - 1 by omega]
  intro k s
  simp only [ObsTime.daysBeforeMonth, show (1 + (k : Int) - 1).toNat = k by omega]
  omega

theorem yd_cast (y : Nat) : ((ObsTime.yearDays y * 86400 : Nat) : Int) = if ObsTime.isLeap y then 86400 * 365 + 86400 else 86400 * 365 := by
  unfold ObsTime.yearDays; split <;> rfl

theorem monthDays_ne1 (y m : Nat) (h : m ≠ 1) : ObsTime.monthDays y m = ObsTime.monthDays 1 m := by
  unfold ObsTime.monthDays; split <;> first | rfl | omega
theorem monthDays_feb (y : Nat) : ObsTime.monthDays y 1 = if ObsTime.isLeap y then 29 else 28 := rfl

section
variable {α : Type} [Add α] [Sub α] [Mul α] [Div α] [LT α] [DecidableLT α] [IntCast α] [OfScientific α]

theorem dpm_idx0 (m : Nat) (h : m < 12) :
    Py.getIdx [(31 : Int), 28, 31, 30, 31, 30, 31, 31, 30, 31, 30, 31] (m : Int) = .ok ((ObsTime.monthDays 1 m : Nat) : Int) :=
  -- `__day_per_month` is the model's `monthDays` of a common year, tabulated
  getIdx_of_getElem? (l := (List.range 12).map fun m => ((ObsTime.monthDays 1 m : Nat) : Int))
    (by rw [List.getElem?_map, List.getElem?_range h]; rfl)

/-- the body of the month loop of `toAbsTime`: the table entry, and one more day for a leap February -/
theorem dpm_idx (y : Nat) (m : Int) (h1 : 1 ≤ m) (h2 : m ≤ 12) :
    Py.getIdx [(31 : Int), 28, 31, 30, 31, 30, 31, 31, 30, 31, 30, 31] (m - 1) = .ok (if m = 2 then 28 else (ObsTime.monthDays y (m - 1).toNat : Int)) := by
  obtain ⟨k, rfl⟩ : ∃ k : Nat, m = k + 1 := ⟨(m - 1).toNat, by omega⟩
  rw [show (k : Int) + 1 - 1 = k by omega, dpm_idx0 k (by omega), Int.toNat_natCast]
  by_cases hk : k = 1
  · subst hk; rfl
  · rw [if_neg (by omega), monthDays_ne1 y k hk]

/-- a `for m in range(1, month)` whose body is a pure update up to `m = 12` and raises `IndexError` at `m = 13` -/
theorem monthFold_tie {ρ : Type} (body : Int → Int → Py.M (Py.Ctl Int ρ)) (g : Int → Int → Int)
    (h : ∀ m, 1 ≤ m → m ≤ 12 → ∀ s, body m s = .ok (.cont (g s m)))
    (h13 : ∀ s, body 13 s = .error .index) (month : Nat) (s : Int) :
    Py.forList body (Py.range 1 month) s =
      if month ≤ 13 then .ok (.done ((Py.range 1 month).foldl g s)) else .error .index := by
  have hfold : ∀ b : Int, b ≤ 13 → Py.forList body (Py.range 1 b) s = .ok (.done ((Py.range 1 b).foldl g s)) :=
    fun b hb => Py.forList_eq_foldl _ g _ _ fun m hm => h m (Py.mem_range hm).1 (by have := (Py.mem_range hm).2; omega)
  by_cases hm : month ≤ 13
  · rw [if_pos hm, hfold _ (by omega)]
  · rw [if_neg hm, Py.range_append (b := 13) (by omega) (by omega),
      Py.forList_append _ _ _ _ _ (hfold 13 (Int.le_refl _))
        (fun m hm t t' => by rw [h m (Py.mem_range hm).1 (by have := (Py.mem_range hm).2; omega)]; exact nofun),
      Py.range_cons (by omega), Py.forList_cons_error (h13 _)]

/-- `ObsTime.toAbsTime` on every stamp: the integer `seconds` of the model and the one float operation, or the
`IndexError` of `__day_per_month[m - 1]` at `m = 13` -/
theorem toAbsTime_core (t : ObsTime.StampZ) :
    Gen.ObsTime.ObsTime_toAbsTime (α := α) (t.year : Int) (t.month : Int) t.day t.hour t.min t.sec t.ms
      = if t.month ≤ 13 then .ok (((ObsTime.secondsZ t : Int) : α) + ((t.ms : Int) : α) / (1000.0 : α))
        else .error .index := by
  unfold Gen.ObsTime.ObsTime_toAbsTime
  simp only []
  rw [Py.forList_eq_foldl _ (fun (t : Int) (y : Int) => t + 86400 * 365 + (if ObsTime.isLeap y.toNat then 86400 else 0))]
  · simp only [Py.bind_ok]
    rw [monthFold_tie _ (fun (s : Int) (m : Int) => s + (ObsTime.monthDays t.year (m - 1).toNat : Int) * 86400)]
    · split
      · simp only [Py.bind_ok]
        rw [years_fold, months_fold]
        have key : ∀ a b c d e f : Int, 0 + a * 86400 + b * 86400 + c + d + e + f = (a + b) * 86400 + c + d + e + f := by
          intros; omega
        rw [key]
        simp only [ObsTime.secondsZ, Int.natCast_add]
      · rfl
    · intro m h1 h12 s
      rw [dpm_idx t.year m h1 h12, tie_isLeapYear]
      simp only [Py.bind_ok]
      by_cases h2 : m = 2
      · subst h2
        by_cases hl : ObsTime.isLeap t.year = true
        · simp [hl, ObsTime.monthDays]; omega
        · simp [hl, ObsTime.monthDays]
      · simp [h2]
    · intro s; rfl
  · intro y hy s
    have hr := Py.mem_range hy
    have : y = ((y.toNat : Nat) : Int) := by omega
    rw [this, tie_isLeapYear]
    simp only [Py.bind_ok, Int.toNat_natCast]
    by_cases hl : ObsTime.isLeap y.toNat = true
    · simp [hl]
    · simp [hl]

theorem tie_toAbsTime (t : ObsTime.StampZ) (hm : t.month ≤ 13)
    (h1000 : (1000.0 : α) = ((1000 : Int) : α)) :
    Gen.ObsTime.ObsTime_toAbsTime (α := α) (t.year : Int) (t.month : Int) t.day t.hour t.min t.sec t.ms
      = .ok (ObsTime.toAbsG t) := by
  rw [toAbsTime_core, if_pos hm, h1000]; rfl

/-- error correspondence for `toAbsTime`: the model's `toAbsG` is total (a month beyond the table counts 31 days), the
code reads `__day_per_month[m - 1]` for `m` up to `month - 1` and raises `IndexError` as soon as `month ≥ 14` -/
theorem tie_toAbsTime_index (t : ObsTime.StampZ) (hm : 14 ≤ t.month) :
    Gen.ObsTime.ObsTime_toAbsTime (α := α) (t.year : Int) (t.month : Int) t.day t.hour t.min t.sec t.ms
      = .error .index := by
  rw [toAbsTime_core, if_neg (by omega)]

/-- **`ObsTime.toAbsTime`, all stamps**: the translation of the CURRENT source returns the model's value where the model has one and
raises `IndexError` exactly where the model's `toAbsGE` is `none` (month ≥ 14) -/
theorem tie_toAbsTime_total (t : ObsTime.StampZ) (h1000 : (1000.0 : α) = ((1000 : Int) : α)) :
    Gen.ObsTime.ObsTime_toAbsTime (α := α) (t.year : Int) (t.month : Int) t.day t.hour t.min t.sec t.ms
      = match ObsTime.toAbsGE t with
        | some v => .ok v
        | none => .error .index := by
  unfold ObsTime.toAbsGE
  by_cases hm : t.month ≤ 13
  · rw [if_pos hm]; exact tie_toAbsTime t hm h1000
  · rw [if_neg hm]; exact tie_toAbsTime_index t (by omega)

/-- the `while True` year loop of `readUnixTime` against `yearLoopG`: same fuel, same result, "out of fuel" for `none` -/
theorem yearLoop_tie {ρ : Type} (e : α) (body : Int × Int → Py.M (Py.Ctl (Int × Int) ρ))
    (h : ∀ (y sec : Nat), body ((sec : Int), (y : Int)) =
      if e - (((sec : Nat) : Int) : α) < (((ObsTime.yearDays y * 86400 : Nat) : Int) : α) then .ok (.brk ((sec : Int), (y : Int)))
      else .ok (.cont (((sec + ObsTime.yearDays y * 86400 : Nat) : Int), ((y + 1 : Nat) : Int))))
    (f y sec : Nat) :
    Py.whileLoop body f ((sec : Int), (y : Int)) =
      match ObsTime.yearLoopG e f y sec with
      | some r => .ok (.done ((r.2 : Int), (r.1 : Int)))
      | none => .error .fuel := by
  induction f generalizing y sec with
  | zero => rfl
  | succ f ih =>
    rw [Py.whileLoop_succ, h, ObsTime.yearLoopG]
    by_cases hc : e - (((sec : Nat) : Int) : α) < (((ObsTime.yearDays y * 86400 : Nat) : Int) : α)
    · simp only [hc, if_true]
    · simp only [hc, if_false]; exact ih _ _

/-- the `for i in range(12)` month loop of `readUnixTime` against `monthLoopG` -/
theorem monthLoop_tie {ρ : Type} (y : Nat) (body : Int → α × Int → Py.M (Py.Ctl (α × Int) ρ))
    (h : ∀ (i : Int) (e : α) (m : Nat), m < 12 → body i (e, (m : Int)) =
      if e < (((ObsTime.monthDays y m * 86400 : Nat) : Int) : α) then .ok (.brk (e, (m : Int)))
      else .ok (.cont (e - (((ObsTime.monthDays y m * 86400 : Nat) : Int) : α), ((m + 1 : Nat) : Int))))
    (f m : Nat) (e : α) (hf : m + f ≤ 12) (i0 : Int) :
    Py.forList body (Py.range i0 (i0 + (f : Int))) (e, (m : Int)) =
      .ok (.done ((ObsTime.monthLoopG y f m e).2, ((ObsTime.monthLoopG y f m e).1 : Int))) := by
  induction f generalizing m e i0 with
  | zero => rw [Py.range_empty (by omega)]; rfl
  | succ f ih =>
    rw [Py.range_cons (by omega), Py.forList_cons, h _ _ _ (by omega), ObsTime.monthLoopG]
    by_cases hc : e < (((ObsTime.monthDays y m * 86400 : Nat) : Int) : α)
    · simp only [hc, if_true]
    · simp only [hc, if_false]
      have : i0 + ((f + 1 : Nat) : Int) = (i0 + 1) + (f : Int) := by omega
      rw [this]
      exact ih (m + 1) _ (by omega) (i0 + 1)

def stampTuple (t : ObsTime.StampZ) : Int × Int × Int × Int × Int × Int × Int × Int :=
  ((t.year : Int), (t.month : Int), t.day, t.hour, t.min, t.sec, t.ms, 0)

variable [OfNat α 60] [OfNat α 1000] [OfNat α 3600] [OfNat α 86400]

/-- `readUnixG` after its year loop (the text of `Model/ObsTimeG.lean`; `readUnixG_eq` checks it is) -/
def restG (trunc : α → Int) (e0 : α) (y sec : Nat) : ObsTime.StampZ :=
    let e1 := e0 - (((sec : Nat) : Int) : α)
    let (m, e2) := ObsTime.monthLoopG y 12 0 e1
    let day : Int := trunc (e2 / ((86400 : Int) : α)) + 1
    let e3 := e2 - (((day - 1) * 86400 : Int) : α)
    let hour : Int := trunc (e3 / ((3600 : Int) : α))
    let e4 := e3 - ((hour * 3600 : Int) : α)
    let mn : Int := trunc (e4 / ((60 : Int) : α))
    let e5 := e4 - ((mn * 60 : Int) : α)
    let sc : Int := trunc e5
    let e6 := e5 - ((sc : Int) : α)
    let ms : Int := trunc (e6 * ((1000 : Int) : α))
    ⟨y, m + 1, day, hour, mn, sc, ms⟩

theorem readUnixG_eq (trunc : α → Int) (e0 : α) :
    ObsTime.readUnixG trunc e0 =
      match ObsTime.yearLoopG e0 ((trunc (e0 / ((31536000 : Int) : α))).toNat + 1) 1970 0 with
      | none => none
      | some r => some (restG trunc e0 r.1 r.2) := by
  unfold ObsTime.readUnixG restG
  cases ObsTime.yearLoopG e0 ((trunc (e0 / ((31536000 : Int) : α))).toNat + 1) 1970 0 with
  | none => rfl
  | some r => rfl

theorem readUnix_core (trunc : α → Int) (e0 : α) (fuel : Nat)
    (h60 : (60 : α) = ((60 : Int) : α)) (h1000 : (1000 : α) = ((1000 : Int) : α))
    (h3600 : (3600 : α) = ((3600 : Int) : α)) (h86400 : (86400 : α) = ((86400 : Int) : α)) :
    Gen.ObsTime.ObsTime_readUnixTime trunc fuel e0 =
      match ObsTime.yearLoopG e0 fuel 1970 0 with
      | none => .error .fuel
      | some r => .ok (stampTuple (restG trunc e0 r.1 r.2)) := by
  unfold Gen.ObsTime.ObsTime_readUnixTime
  simp only []
  have hy : ∀ body : Int × Int → Py.M (Py.Ctl (Int × Int) (Int × Int × Int × Int × Int × Int × Int × Int)), _ →
      Py.whileLoop body fuel (0, 1970) = _ := fun body h => yearLoop_tie e0 body h fuel 1970 0
  rw [hy _ ?spec]
  case spec =>
    intro y sec
    simp only [tie_isLeapYear, Py.bind_ok, Int.natCast_add, yd_cast, Int.natCast_one]
    by_cases hl : ObsTime.isLeap y = true
    · simp only [hl, if_true, decide_eq_true_eq]
    · simp only [hl, decide_eq_true_eq]; rfl
  cases ObsTime.yearLoopG e0 fuel 1970 0 with
  | none => rfl
  | some r =>
    obtain ⟨y, sec⟩ := r
    simp only [Py.bind_ok]
    have hm : ∀ body : Int → α × Int → Py.M (Py.Ctl (α × Int) (Int × Int × Int × Int × Int × Int × Int × Int)), _ →
      Py.forList body (Py.range 0 12) (e0 - (((sec : Nat) : Int) : α), 0) = _ :=
        fun body h => monthLoop_tie y body h 12 0 (e0 - (((sec : Nat) : Int) : α)) (by omega) 0
    rw [hm _ ?spec2]
    case spec2 =>
      intro i e m hm12
      rw [dpm_idx0 m hm12, tie_isLeapYear]
      -- in each case the two sides differ by a numeral: `28 * 86400 + 86400` against `29 * 86400` in a leap February
      by_cases h1 : m = 1
      · subst h1
        by_cases hl : ObsTime.isLeap y = true
        · simp only [monthDays_feb, hl, if_true, Int.natCast_one, decide_true, Py.bind_ok, decide_eq_true_eq, Int.natCast_add]
          rfl
        · simp only [monthDays_feb, hl, if_false, Int.natCast_one, decide_true, if_true, Py.bind_ok, decide_eq_true_eq, Bool.false_eq_true, Int.natCast_add]
          rfl
      · have h1' : ¬ ((m : Int) = 1) := by omega
        simp only [monthDays_ne1 y m h1, h1', decide_false, Py.bind_ok, decide_eq_true_eq, Bool.false_eq_true, if_false, Int.natCast_add, Int.natCast_one, Int.natCast_mul]
        rfl
    simp only [Py.bind_ok, stampTuple, restG, h86400, h3600, h60, h1000]
    rfl

/-- **`ObsTime.readUnixTime` (float path), with the model's own fuel**: the translation of the CURRENT source, run with the fuel
`int(e / 31536000) + 1` that `readUnixG` gives its year loop, returns the attributes of the model's stamp (zone 0), and is
out of fuel exactly when the model's loop is (`none`). Hypotheses: the four float literals of the source are the converted
integers (true for doubles and in every ordered field). -/
theorem tie_readUnixTime_modelFuel (trunc : α → Int) (e0 : α)
    (h60 : (60 : α) = ((60 : Int) : α)) (h1000 : (1000 : α) = ((1000 : Int) : α))
    (h3600 : (3600 : α) = ((3600 : Int) : α)) (h86400 : (86400 : α) = ((86400 : Int) : α)) :
    Gen.ObsTime.ObsTime_readUnixTime trunc ((trunc (e0 / ((31536000 : Int) : α))).toNat + 1) e0 =
      match ObsTime.readUnixG trunc e0 with
      | some t => .ok (stampTuple t)
      | none => .error .fuel := by
  rw [readUnix_core trunc e0 _ h60 h1000 h3600 h86400, readUnixG_eq]
  cases ObsTime.yearLoopG e0 ((trunc (e0 / ((31536000 : Int) : α))).toNat + 1) 1970 0 <;> rfl

/-- **`ObsTime.readUnixTime` (float path), every sufficient fuel**: whenever the model returns a stamp, the translated function
returns its attributes for EVERY fuel at least the model's bound. -/
theorem tie_readUnixTime (trunc : α → Int) (e0 : α) (t : ObsTime.StampZ) (fuel : Nat)
    (h60 : (60 : α) = ((60 : Int) : α)) (h1000 : (1000 : α) = ((1000 : Int) : α))
    (h3600 : (3600 : α) = ((3600 : Int) : α)) (h86400 : (86400 : α) = ((86400 : Int) : α))
    (hfuel : (trunc (e0 / ((31536000 : Int) : α))).toNat + 1 ≤ fuel)
    (hmodel : ObsTime.readUnixG trunc e0 = some t) :
    Gen.ObsTime.ObsTime_readUnixTime trunc fuel e0 = .ok (stampTuple t) := by
  have h0 := tie_readUnixTime_modelFuel trunc e0 h60 h1000 h3600 h86400
  rw [hmodel] at h0
  exact Py.whileLoop_bind_mono hfuel h0

end
end TV.Tie.C03
