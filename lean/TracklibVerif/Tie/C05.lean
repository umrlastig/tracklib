import TracklibVerif.Lemmas.ResampleBasic
import TracklibVerif.Gen.Interpolation
import TracklibVerif.Lemmas.PyLoops
/-! Tie for C05, temporal half: `prepareTimeSampling` and `__resampleTemporal` of `tracklib/algo/interpolation.py` translated from
the CURRENT source (tools/py2lean.py → `Gen/Interpolation.lean`, three variants each: the `input` / `reference` argument declared
a number, a list of instants, a track) against the hand-written model `Model/Resample.lean`.

An observation is the record `(E, N, U, t)`, `t = timestamp.toAbsTime()` (`toFix` / `ofFix` to the model's `Fix`); the model's exceptions
`index`, `zerodiv`, `nonterm`, `type` are `IndexError`, `ZeroDivisionError`, "out of fuel" (`Py.Err.fuel`), `TypeError` (`liftErr`, `lift`, `liftT`).

* `tie_prepareTimeSampling_list`, `_track` — equal to the model's `prepareTimes` on every argument.
* `tie_prepareTimeSampling_number_fuel` — the `while 1` loop with fuel `f` IS the model's `prepareNumber … f` (out of fuel ⇔ `none`), no
  hypothesis; `tie_prepareTimeSampling_number` — = `prepareTimes` for every fuel ≥ the model's whenever the model does not say `nonterm`;
  `tie_prepareTimeSampling_number_nonpos` — a non-positive step: = `prepareTimes` for every fuel ≥ 1 (`[tini]` when `tini + δ > tfin`,
  `prepareTimeSampling_number_first_round`; else out of fuel for EVERY fuel = the model's `nonterm`).
* `temporalLoop_tie` — the `for k in range(len(REF))` loop (skip tests, `rewind_tie`, `scan_tie`, `bracket_tie`/`weights_tie`, the new
  observation appended) against `temporalLoop`, for an arbitrary body satisfying a pointwise equation.
* `tie_resampleTemporal_list`, `_track` — equal to `lift (resampleTemporal …)` on EVERY track and reference, every fuel > `len(track)`,
  under `htri` (`Tri`: the model's `den < 0 ∨ 0 < den` is Python's `den != 0` on the differences of two stamps).
* `tie_resampleTemporal_number_fuel` (same fuel as `prepareNumber`, no hypothesis on the step), `tie_resampleTemporal_number` (every fuel
  above the bounds, whenever the model does not say `nonterm`), `tie_resampleTemporal_number_nonpos`.

The general lemmas `getIdx_nat`, `getIdx_pred` (`L[r - 1]` is the model's `bwdIdx`), `getIdx_last`, `weights_tie` and `bracket_tie` (any table `V`:
the spatial half uses it on the abscissas) mention no loop; the loops that collect a column are `TV.Py.forList_collect`. Core Lean only. -/
namespace TV.Tie.C05
open TV TV.Py
set_option linter.unusedSectionVars false

/-- an optional element as the result of a subscript: `IndexError` when there is none -/
def optM {β : Type} : Option β → M β
  | some v => .ok v
  | none => .error .index

theorem getItem_eq_optM {β : Type} (l : List β) (k : Nat) : Py.getItem l k = optM l[k]? := by
  unfold Py.getItem optM; cases l[k]? <;> rfl

theorem getIdx_nat {β : Type} (l : List β) (r : Nat) : Py.getIdx l (r : Int) = optM l[r]? := by
  rw [Py.getIdx_natCast, getItem_eq_optM]

/-- `L[r - 1]` for a natural number `r`: Python reads the LAST element when `r = 0` — the model's `bwdIdx` -/
theorem getIdx_pred {β : Type} (l : List β) (r : Nat) :
    Py.getIdx l ((r : Int) - 1) = optM l[Resample.bwdIdx r l.length]? := by
  unfold Resample.bwdIdx
  by_cases h0 : r = 0
  · subst h0
    rw [if_pos rfl]
    unfold Py.getIdx Py.len
    rw [if_neg (by omega)]
    by_cases hl : l.length = 0
    · rw [if_neg (by omega)]
      have : l[l.length - 1]? = none := by rw [List.getElem?_eq_none]; omega
      rw [this]; rfl
    · rw [if_pos (by omega), getItem_eq_optM]
      have : ((l.length : Int) + (((0 : Nat) : Int) - 1)).toNat = l.length - 1 := by omega
      rw [this]
  · rw [if_neg h0]
    have : (r : Int) - 1 = ((r - 1 : Nat) : Int) := by omega
    rw [this, getIdx_nat]

theorem getIdx_last {β : Type} (l : List β) : Py.getIdx l (Py.len l - 1) = optM l.getLast? := by
  have h := getIdx_pred l l.length
  unfold Py.len
  rw [h, List.getLast?_eq_getElem?]
  unfold Resample.bwdIdx
  by_cases h0 : l.length = 0
  · rw [if_pos h0]
  · rw [if_neg h0]

theorem getItem_zero_eq {β : Type} (l : List β) : Py.getItem l 0 = optM l.head? := by
  cases l <;> rfl

section
variable {α : Type}

def toFix (p : α × α × α × α) : Resample.Fix α := ⟨p.1, p.2.1, p.2.2.1, p.2.2.2⟩
def ofFix (p : Resample.Fix α) : α × α × α × α := (p.x, p.y, p.z, p.t)
@[simp] theorem ofFix_toFix (p : α × α × α × α) : ofFix (toFix p) = p := rfl
@[simp] theorem toFix_ofFix (p : Resample.Fix α) : toFix (ofFix p) = p := rfl
@[simp] theorem toFix_t (p : α × α × α × α) : (toFix p).t = p.2.2.2 := rfl

/-- the model's exceptions as the translator's: `nonterm` (the `while 1` loop never ends) is "out of fuel for every fuel" -/
def liftErr : Resample.Err → Py.Err
  | .index => .index
  | .zerodiv => .zerodiv
  | .nonterm => .fuel
  | .type => .type

def lift : Except Resample.Err (List (Resample.Fix α)) → Py.M (List (α × α × α × α))
  | .ok l => .ok (l.map ofFix)
  | .error e => .error (liftErr e)

def liftT : Except Resample.Err (List α) → Py.M (List α)
  | .ok l => .ok l
  | .error e => .error (liftErr e)

theorem map_toFix_t (l : List (α × α × α × α)) : (l.map toFix).map (·.t) = l.map (·.2.2.2) := by
  rw [List.map_map]; rfl

end

section
variable {α : Type} [Add α] [Sub α] [Mul α] [Div α] [LT α] [LE α] [DecidableLT α] [DecidableLE α]
  [OfNat α 0] [NatCast α]

/-- how the model's test "the denominator is not zero" (`den < 0 ∨ 0 < den`) relates to Python's `den == 0` (`Py.feq den 0`,
i.e. `den ≤ 0 ∧ 0 ≤ den`): true in every ordered field and for every double that is not NaN -/
def Tri (den : α) : Prop := (den < 0 ∨ 0 < den) ↔ ¬ (den ≤ 0 ∧ 0 ≤ den)

/-- `Tri` holds wherever `<` is the negation of the reversed `≤` (every linear order; the doubles without NaN) -/
theorem Tri_of_lt_iff_not_le (den : α) (h1 : den < 0 ↔ ¬ 0 ≤ den) (h2 : 0 < den ↔ ¬ den ≤ 0) : Tri den := by
  unfold Tri
  rw [h1, h2, Decidable.not_and_iff_not_or_not, or_comm]

theorem fdiv_of_tri {a den : α} (h : Tri den) :
    Py.fdiv a den = if den < 0 ∨ 0 < den then .ok (a / den) else .error .zerodiv := by
  unfold Py.fdiv Py.feq
  by_cases hd : den < 0 ∨ 0 < den
  · rw [if_pos hd, ite_neg' (by simpa only [Bool.and_eq_true, decide_eq_true_eq] using h.mp hd)]
  · rw [if_neg hd, ite_pos' (by simpa only [Bool.and_eq_true, decide_eq_true_eq] using Decidable.of_not_not (fun hn => hd (h.mpr hn)))]

/-- the two divisions `wbwd = (vf - v) / (vf - vb)`, `wfwd = (v - vb) / (vf - vb)` are the model's `weights` -/
theorem weights_tie {γ : Type} (vb vf v : α) (htri : Tri (vf - vb)) (K : α → α → M γ) :
    Py.bind (Py.fdiv (vf - v) (vf - vb)) (fun wb => Py.bind (Py.fdiv (v - vb) (vf - vb)) (fun wf => K wb wf)) =
      match Resample.weights vb vf v with
      | .ok (wb, wf) => K wb wf
      | .error e => .error (liftErr e) := by
  rw [fdiv_of_tri htri, fdiv_of_tri htri]
  unfold Resample.weights
  by_cases hd : (vf - vb < 0 ∨ 0 < vf - vb)
  · simp only [if_pos hd, Py.bind_ok]
  · simp only [if_neg hd, Py.bind_error]
    rfl

/-- the six reads/divisions after the scan — `pt_bwd = track.getObs(r-1); pt_fwd = track.getObs(r); vb = V[r-1]; vf = V[r]` and the two
weights — are the model's `bracket` (for ANY table `V`: the temporal loop uses the instants, the spatial loop the abscissas) -/
theorem bracket_tie {γ : Type} (track : List (α × α × α × α)) (V : List α) (v : α) (r : Nat)
    (htri : ∀ vb ∈ V, ∀ vf ∈ V, Tri (vf - vb)) (K : α × α × α × α → α × α × α × α → α → α → M γ) :
    Py.bind (Py.getIdx track ((r : Int) - 1)) (fun pb => Py.bind (Py.getIdx track (r : Int)) (fun pf =>
      Py.bind (Py.getIdx V ((r : Int) - 1)) (fun vb => Py.bind (Py.getIdx V (r : Int)) (fun vf =>
        Py.bind (Py.fdiv (vf - v) (vf - vb)) (fun wb => Py.bind (Py.fdiv (v - vb) (vf - vb)) (fun wf => K pb pf wb wf)))))) =
      match Resample.bracket (track.map toFix) V v r with
      | .ok (pb, pf, wb, wf) => K (ofFix pb) (ofFix pf) wb wf
      | .error e => .error (liftErr e) := by
  rw [getIdx_pred, getIdx_nat]
  unfold Resample.bracket
  rw [List.length_map, List.getElem?_map, List.getElem?_map]
  cases h1 : track[Resample.bwdIdx r track.length]? with
  | none => rfl
  | some pb =>
    cases h2 : track[r]? with
    | none => rfl
    | some pf =>
      simp only [optM, Py.bind_ok, Option.map_some]
      rw [getIdx_pred, getIdx_nat]
      cases h3 : V[Resample.bwdIdx r V.length]? with
      | none => rfl
      | some vb =>
        cases h4 : V[r]? with
        | none => rfl
        | some vf =>
          simp only [optM, Py.bind_ok]
          rw [weights_tie vb vf v (htri vb (List.mem_of_getElem? h3) vf (List.mem_of_getElem? h4))]
          cases Resample.weights vb vf v with
          | error e => rfl
          | ok w => rfl

/-- `while V[running_id] < v: running_id += 1` against the model's `advance`: `IndexError` past the end; the loop needs
`len(V) - running_id + 1` evaluations of its body at most, and one in any case (the read that raises) -/
theorem scan_tie {ρ : Type} (V : List α) (v : α) (body : Int → M (Ctl Int ρ))
    (h : ∀ r : Nat, body (r : Int) = Py.bind (Py.getIdx V (r : Int)) (fun w =>
      if w < v then .ok (.cont ((r : Int) + 1)) else .ok (.brk (r : Int))))
    (fuel r : Nat) (h1 : 1 ≤ fuel) (h2 : V.length < r + fuel) :
    Py.whileLoop body fuel (r : Int) =
      match Resample.advance V v r with
      | some r1 => .ok (.done (r1 : Int))
      | none => .error .index := by
  induction fuel generalizing r with
  | zero => omega
  | succ f ih =>
    rw [Py.whileLoop_succ, h, getIdx_nat, Resample.advance_step]
    cases hw : V[r]? with
    | none => rfl
    | some w =>
      have hr := (List.getElem?_eq_some_iff.mp hw).1
      simp only [optM, Py.bind_ok]
      by_cases hc : w < v
      · rw [if_pos hc, if_pos hc, ← Int.natCast_succ]
        exact ih (r + 1) (by omega) (by omega)
      · rw [if_neg hc, if_neg hc]

/-- `if running_id > 0 and T[running_id - 1] >= t: running_id = 0` (translated with a join) against the model's `rewind` -/
theorem rewind_tie {γ : Type} (T : List α) (t : α) (r : Nat) (K : Int → M γ) :
    Py.bind (if decide ((0 : Int) < (r : Int)) then Py.bind (Py.getIdx T ((r : Int) - 1)) (fun w => .ok (decide (t ≤ w))) else .ok false)
      (fun c => Py.bind (if c then .ok (0 : Int) else .ok (r : Int)) K) =
      match Resample.rewind T t r with
      | some r0 => K (r0 : Int)
      | none => .error .index := by
  unfold Resample.rewind
  by_cases h0 : r = 0
  · subst h0
    simp only [Int.natCast_zero, Int.lt_irrefl, decide_false, Bool.false_eq_true, if_false, Py.bind_ok, if_true]
  · have hp : (0 : Int) < (r : Int) := by omega
    rw [if_neg h0]
    simp only [hp, decide_true, if_true]
    have : (r : Int) - 1 = ((r - 1 : Nat) : Int) := by omega
    rw [this, getIdx_nat]
    cases T[r - 1]? with
    | none => rfl
    | some w =>
      simp only [optM, Py.bind_ok]
      by_cases hc : t ≤ w
      · simp only [hc, decide_true, if_true, Py.bind_ok, Int.natCast_zero]
      · simp only [hc, decide_false, Bool.false_eq_true, if_false, Py.bind_ok]

/-- the `while 1: output.append(time); time += δ; if time > tfin: break` loop against `prepareNumber`, SAME fuel: the accumulated
prefix `out` in front of the model's list; out of fuel exactly when the model's loop is (`none`) -/
theorem prepareLoop_tie {ρ : Type} (δ tfin : α) (body : List α × α → M (Ctl (List α × α) ρ))
    (h : ∀ out time, body (out, time) =
      if tfin < time + δ then .ok (.brk (out ++ [time], time + δ)) else .ok (.cont (out ++ [time], time + δ)))
    (fin : Out (List α × α) ρ → M (List α)) (hfin : ∀ s, fin (.done s) = .ok s.1)
    (fuel : Nat) (out : List α) (time : α) :
    Py.bind (Py.whileLoop body fuel (out, time)) fin =
      match Resample.prepareNumber δ tfin fuel time with
      | some l => .ok (out ++ l)
      | none => .error .fuel := by
  induction fuel generalizing out time with
  | zero => rfl
  | succ f ih =>
    rw [Py.whileLoop_succ, h, Resample.prepareNumber]
    by_cases hc : tfin < time + δ
    · simp only [hc, if_true, Py.bind_ok, hfin]
    · simp only [hc, if_false]
      rw [ih]
      cases Resample.prepareNumber δ tfin f (time + δ) with
      | none => rfl
      | some l => simp only [List.append_assoc, List.singleton_append]

/-- **`prepareTimeSampling(δ, tini, tfin)`, `δ` a number, every fuel**: the translated function run with `fuel` returns the list of
the model's `prepareNumber` run with the SAME fuel, and is out of fuel exactly when the model's loop is. No hypothesis. -/
theorem tie_prepareTimeSampling_number_fuel (fuel : Nat) (δ tini tfin : α) :
    Gen.Interpolation.prepareTimeSampling_number fuel δ tini tfin =
      match Resample.prepareNumber δ tfin fuel tini with
      | some l => .ok l
      | none => .error .fuel := by
  unfold Gen.Interpolation.prepareTimeSampling_number
  simp only []
  have hw : ∀ (body : List α × α → M (Ctl (List α × α) (List α))) (fin : Out (List α × α) (List α) → M (List α)), _ → _ →
      Py.bind (Py.whileLoop body fuel ([], tini)) fin = _ :=
    fun body fin h hfin => prepareLoop_tie δ tfin body h fin hfin fuel [] tini
  rw [hw _ _ ?spec ?specfin]
  case spec =>
    intro out time
    by_cases hc : tfin < time + δ
    · simp only [hc, decide_true, if_true]
    · simp only [hc, decide_false, Bool.false_eq_true, if_false]
  case specfin => intro s; rfl
  cases Resample.prepareNumber δ tfin fuel tini <;> simp only [List.nil_append]

/-- a step that never carries an instant `≤ tfin` past `tfin` (every non-positive step of an ordered field; every non-positive or NaN
double step) keeps the `while 1` loop running for ever: the model's `prepareNumber` is `none` for every fuel -/
theorem prepareNumber_none (δ tfin : α) (hstay : ∀ x : α, ¬ tfin < x → ¬ tfin < x + δ) (f : Nat) (time : α) (h0 : ¬ tfin < time) :
    Resample.prepareNumber δ tfin f time = none := by
  induction f generalizing time with
  | zero => rfl
  | succ f ih =>
    rw [Resample.prepareNumber, if_neg (hstay time h0), ih _ (hstay time h0)]

/-- whatever the sign of the step, when `tini + δ > tfin` the Python loop stops after its first round and returns `[tini]` -/
theorem prepareTimeSampling_number_first_round (fuel : Nat) (δ tini tfin : α) (h : tfin < tini + δ) :
    Gen.Interpolation.prepareTimeSampling_number (fuel + 1) δ tini tfin = .ok [tini] := by
  rw [tie_prepareTimeSampling_number_fuel, Resample.prepareNumber, if_pos h]

/-- **`prepareTimeSampling(δ, tini, tfin)`, `δ` a number**: whenever the model `prepareTimes` returns a list (the step is positive and the
model's own fuel `int((tfin - tini)/δ) + 2` is enough for its loop, or the step is not positive and the first round already ends the
loop), the translated function returns that list for EVERY fuel at least `int((tfin - tini)/δ) + 2`. -/
theorem tie_prepareTimeSampling_number (trunc : α → Int) (fuel : Nat) (δ tini tfin : α)
    (hmodel : Resample.prepareTimes trunc (.number δ) tini tfin ≠ .error .nonterm)
    (hfuel : (trunc ((tfin - tini) / δ)).toNat + 2 ≤ fuel) :
    Gen.Interpolation.prepareTimeSampling_number fuel δ tini tfin = liftT (Resample.prepareTimes trunc (.number δ) tini tfin) := by
  unfold Resample.prepareTimes at hmodel ⊢
  simp only [] at hmodel ⊢
  by_cases hδ : 0 < δ
  · have h0 := tie_prepareTimeSampling_number_fuel ((trunc ((tfin - tini) / δ)).toNat + 2) δ tini tfin
    rw [if_pos hδ] at hmodel ⊢
    cases hp : Resample.prepareNumber δ tfin ((trunc ((tfin - tini) / δ)).toNat + 2) tini with
    | none => rw [hp] at hmodel; exact absurd rfl hmodel
    | some l =>
      rw [hp] at h0
      exact Py.whileLoop_bind_mono hfuel h0
  · rw [if_neg hδ] at hmodel ⊢
    by_cases h1 : tfin < tini + δ
    · obtain ⟨f, rfl⟩ : ∃ f, fuel = f + 1 := ⟨fuel - 1, by omega⟩
      rw [if_pos h1, prepareTimeSampling_number_first_round f δ tini tfin h1]; rfl
    · rw [if_neg h1] at hmodel; exact absurd rfl hmodel

/-- **`prepareTimeSampling(δ, tini, tfin)`, a step that is not positive**: for EVERY fuel ≥ 1 the translated function is the model's
`prepareTimes` — `[tini]` when `tini + δ > tfin` (the first round ends the loop: a track whose last stamp is before its first), else
"never ends": out of fuel for every fuel = the model's `nonterm`. Hypothesis `hstay`: the step never carries an instant that is not
past `tfin` past `tfin` (true for every `δ ≤ 0` of an ordered field, for every double `δ ≤ 0` and for NaN); it is used only in the
second case. -/
theorem tie_prepareTimeSampling_number_nonpos (trunc : α → Int) (fuel : Nat) (δ tini tfin : α) (hδ : ¬ 0 < δ)
    (hfuel : 1 ≤ fuel) (hstay : ∀ x : α, ¬ tfin < x → ¬ tfin < x + δ) :
    Gen.Interpolation.prepareTimeSampling_number fuel δ tini tfin = liftT (Resample.prepareTimes trunc (.number δ) tini tfin) := by
  obtain ⟨f, rfl⟩ : ∃ f, fuel = f + 1 := ⟨fuel - 1, by omega⟩
  unfold Resample.prepareTimes
  simp only []
  rw [if_neg hδ]
  by_cases h1 : tfin < tini + δ
  · rw [prepareTimeSampling_number_first_round f δ tini tfin h1, if_pos h1]; rfl
  · rw [tie_prepareTimeSampling_number_fuel, Resample.prepareNumber, if_neg h1, if_neg h1,
      prepareNumber_none δ tfin hstay f (tini + δ) h1]
    rfl

/-- **`prepareTimeSampling(l, tini, tfin)`, `l` a list of `ObsTime`** (seen through `toAbsTime()`): the list itself, as in the model -/
theorem tie_prepareTimeSampling_list (trunc : α → Int) (l : List α) (tini tfin : α) :
    Gen.Interpolation.prepareTimeSampling_list l tini tfin = liftT (Resample.prepareTimes trunc (.instants l) tini tfin) := by
  unfold Gen.Interpolation.prepareTimeSampling_list
  simp only [forList_collect, List.map_id']
  rfl

/-- **`prepareTimeSampling(Q, tini, tfin)`, `Q` a track**: the instants of its observations, as in the model -/
theorem tie_prepareTimeSampling_track (trunc : α → Int) (Q : List (α × α × α × α)) (tini tfin : α) :
    Gen.Interpolation.prepareTimeSampling_track Q tini tfin =
      liftT (Resample.prepareTimes trunc (.track (Q.map toFix)) tini tfin) := by
  unfold Gen.Interpolation.prepareTimeSampling_track Resample.prepareTimes
  simp only [forList_collect, map_toFix_t]
  rfl

/-- one round of the model's `temporalLoop` that is not skipped: the new fix and the new `running_id`
(the text of `Model/Resample.lean`; `temporalLoop_cons` checks it is) -/
def iter (P : List (Resample.Fix α)) (T : List α) (t : α) (rid : Nat) : Except Resample.Err (Resample.Fix α × Nat) :=
  match Resample.rewind T t rid with
  | none => .error .index
  | some r0 =>
    match Resample.advance T t r0 with
    | none => .error .index
    | some r =>
      match Resample.bracket P T t r with
      | .error e => .error e
      | .ok (pb, pf, wb, wf) =>
        .ok (⟨wb * pb.x + wf * pf.x, wb * pb.y + wf * pf.y, wb * pb.z + wf * pf.z, t⟩, r)

theorem temporalLoop_cons (P : List (Resample.Fix α)) (T : List α) (tini tfin t : α) (rest : List α) (rid : Nat) :
    Resample.temporalLoop P T tini tfin (t :: rest) rid =
      if t ≤ tini then Resample.temporalLoop P T tini tfin rest rid
      else if tfin < t then Resample.temporalLoop P T tini tfin rest rid
      else match iter P T t rid with
        | .error e => .error e
        | .ok (p, r) =>
          match Resample.temporalLoop P T tini tfin rest r with
          | .error e => .error e
          | .ok out => .ok (p :: out) := by
  rw [Resample.temporalLoop]
  refine ite_congr rfl (fun _ => rfl) fun _ => ite_congr rfl (fun _ => rfl) fun _ => ?_
  fun_cases iter P T t rid <;> simp only [*]
  rfl

/-- what one round of the translated loop does, in the model's terms -/
def roundG (P : List (Resample.Fix α)) (T : List α) (tini tfin : α) (t : α) (ip : List (α × α × α × α)) (r : Nat) :
    M (Ctl (List (α × α × α × α) × Int) (List (α × α × α × α))) :=
  if t ≤ tini then .ok (.cont (ip, (r : Int)))
  else if tfin < t then .ok (.cont (ip, (r : Int)))
  else match iter P T t r with
    | .error e => .error (liftErr e)
    | .ok (p, r1) => .ok (.cont (ip ++ [ofFix p], (r1 : Int)))

/-- the loop against `temporalLoop`, for an arbitrary body that reads `t = REF[k]` and then does `roundG`: the points accumulated so far
(`ip`, the code APPENDS) in front of the model's list (the model CONSES) -/
theorem temporalLoop_tie_aux (P : List (Resample.Fix α)) (T : List α) (tini tfin : α) (REF : List α)
    (body : Int → List (α × α × α × α) × Int → M (Ctl (List (α × α × α × α) × Int) (List (α × α × α × α))))
    (h : ∀ (i : Int) (ip : List (α × α × α × α)) (r : Nat),
      body i (ip, (r : Int)) = Py.bind (Py.getIdx REF i) (fun t => roundG P T tini tfin t ip r))
    (fin : Out (List (α × α × α × α) × Int) (List (α × α × α × α)) → M (List (α × α × α × α)))
    (hfin : ∀ s, fin (.done s) = .ok s.1)
    (suf pre : List α) (hl : REF = pre ++ suf) (ip : List (α × α × α × α)) (r : Nat) :
    Py.bind (Py.forList body (Py.range (pre.length : Int) (Py.len REF)) (ip, (r : Int))) fin =
      match Resample.temporalLoop P T tini tfin suf r with
      | .ok out => .ok (ip ++ out.map ofFix)
      | .error e => .error (liftErr e) := by
  induction suf generalizing pre ip r with
  | nil =>
    rw [Py.range_empty (by subst hl; simp [Py.len]), Py.forList_nil, Py.bind_ok, hfin, Resample.temporalLoop]
    simp only [List.map_nil, List.append_nil]
  | cons t rest ih =>
    have hlt : (pre.length : Int) < Py.len REF := by subst hl; simp [Py.len]; omega
    have hget : REF[pre.length]? = some t := by subst hl; simp
    have hnext : ∀ ip' (r' : Nat), Py.bind (Py.forList body (Py.range ((pre.length : Int) + 1) (Py.len REF)) (ip', (r' : Int))) fin =
        match Resample.temporalLoop P T tini tfin rest r' with
        | .ok out => .ok (ip' ++ out.map ofFix)
        | .error e => .error (liftErr e) := by
      intro ip' r'
      have := ih (pre ++ [t]) (by rw [hl]; simp) ip' r'
      simp only [List.length_append, List.length_cons, List.length_nil, Int.natCast_add] at this
      exact this
    rw [Py.range_cons hlt, Py.forList_cons, h, Py.getIdx_natCast, Py.getItem_eq_ok hget, Py.bind_ok, temporalLoop_cons]
    unfold roundG
    by_cases h1 : t ≤ tini
    · simp only [h1, if_true]; exact hnext ip r
    · simp only [h1, if_false]
      by_cases h2 : tfin < t
      · simp only [h2, if_true]; exact hnext ip r
      · simp only [h2, if_false]
        cases iter P T t r with
        | error e => rfl
        | ok pr =>
          obtain ⟨p, r1⟩ := pr
          simp only []
          rw [hnext]
          cases Resample.temporalLoop P T tini tfin rest r1 with
          | error e => rfl
          | ok out => simp only [List.map_cons, List.append_assoc, List.singleton_append]

theorem temporalLoop_tie (P : List (Resample.Fix α)) (T : List α) (tini tfin : α) (REF : List α)
    (body : Int → List (α × α × α × α) × Int → M (Ctl (List (α × α × α × α) × Int) (List (α × α × α × α))))
    (h : ∀ (i : Int) (ip : List (α × α × α × α)) (r : Nat),
      body i (ip, (r : Int)) = Py.bind (Py.getIdx REF i) (fun t => roundG P T tini tfin t ip r))
    (fin : Out (List (α × α × α × α) × Int) (List (α × α × α × α)) → M (List (α × α × α × α)))
    (hfin : ∀ s, fin (.done s) = .ok s.1) :
    Py.bind (Py.forList body (Py.range 0 (Py.len REF)) ([], (0 : Int))) fin = lift (Resample.temporalLoop P T tini tfin REF 0) := by
  have := temporalLoop_tie_aux P T tini tfin REF body h fin hfin REF [] rfl [] 0
  simp only [List.length_nil, Int.natCast_zero, List.nil_append] at this
  rw [this]
  cases Resample.temporalLoop P T tini tfin REF 0 <;> rfl

/-- **`__resampleTemporal(track, l)`, `l` a list of `ObsTime`** (seen through `toAbsTime()`): for EVERY fuel greater than the number of
observations (the `while T[running_id] < t` scan evaluates its body at most `len(T) + 1` times), the translated function returns the
model's track (`lift`: the observations as records `(E, N, U, t)`, the model's `index` / `zerodiv` as `IndexError` / `ZeroDivisionError`) on
EVERY track and list — empty track, instants in any order, instants outside `(tini, tfin]`, repeated stamps included.
Hypothesis `htri`: on every difference `den` of two stamps of the track, the model's test `den < 0 ∨ 0 < den` is the negation of Python's
`den == 0` (`den ≤ 0 ∧ 0 ≤ den`): true in an ordered field; true for doubles unless `den` is NaN (two infinite stamps), where the model
says `zerodiv` and Python divides. `trunc` is not used (it only sets the model's fuel for a numeric step). -/
theorem tie_resampleTemporal_list (trunc : α → Int) (fuel : Nat) (track : List (α × α × α × α)) (l : List α)
    (hfuel : track.length + 1 ≤ fuel)
    (htri : ∀ vb ∈ track.map (·.2.2.2), ∀ vf ∈ track.map (·.2.2.2), Tri (vf - vb)) :
    Gen.Interpolation.resampleTemporal_list fuel track l =
      lift (Resample.resampleTemporal trunc (track.map toFix) (.instants l)) := by
  unfold Gen.Interpolation.resampleTemporal_list Resample.resampleTemporal
  simp only [forList_collect, Py.bind_ok, map_toFix_t]
  generalize hT : track.map (·.2.2.2) = T at htri
  have hTl : T.length = track.length := by rw [← hT, List.length_map]
  rw [getItem_zero_eq, getIdx_last]
  cases T.head? with
  | none => rfl
  | some tini =>
    cases T.getLast? with
    | none => rfl
    | some tfin =>
      simp only [optM, Py.bind_ok]
      rw [tie_prepareTimeSampling_list trunc]
      cases Resample.prepareTimes trunc (.instants l) tini tfin with
      | error e => rfl
      | ok REF =>
        simp only [liftT, Py.bind_ok]
        have hloop : ∀ body fin, _ → _ → Py.bind (Py.forList body (Py.range 0 (Py.len REF)) ([], (0 : Int))) fin = _ :=
          fun body fin h hfin => temporalLoop_tie (track.map toFix) T tini tfin REF body h fin hfin
        rw [hloop _ _ ?spec ?specfin]
        case specfin => intro s; rfl
        case spec =>
          intro i ip r
          simp only []
          cases Py.getIdx REF i with
          | error e => rfl
          | ok t =>
            simp only [Py.bind_ok]
            unfold roundG
            by_cases h1 : t ≤ tini
            · simp only [h1, decide_true, if_true]
            · simp only [h1, decide_false, Bool.false_eq_true, if_false]
              by_cases h2 : tfin < t
              · simp only [h2, decide_true, if_true]
              · simp only [h2, decide_false, Bool.false_eq_true, if_false]
                rw [rewind_tie]
                unfold iter
                cases Resample.rewind T t r with
                | none => rfl
                | some r0 =>
                  simp only []
                  have hw : ∀ wbody : Int → M (Ctl Int (List (α × α × α × α))), _ → Py.whileLoop wbody fuel (r0 : Int) = _ :=
                    fun wbody h => scan_tie T t wbody h fuel r0 (by omega) (by omega)
                  rw [hw _ ?wspec]
                  case wspec =>
                    intro r'
                    simp only [decide_eq_true_eq]
                  cases Resample.advance T t r0 with
                  | none => rfl
                  | some r1 =>
                    simp only [Py.bind_ok]
                    rw [bracket_tie track T t r1 htri]
                    cases Resample.bracket (track.map toFix) T t r1 with
                    | error e => rfl
                    | ok b =>
                      obtain ⟨pb, pf, wb, wf⟩ := b
                      simp only [Gen.ObsCoords.ENUCoords_getX, Gen.ObsCoords.ENUCoords_getY, Gen.ObsCoords.ENUCoords_getZ,
                        Py.bind_ok, ofFix]

theorem resampleTemporal_eq (trunc : α → Int) (P : List (Resample.Fix α)) (step : Resample.Step α) :
    Resample.resampleTemporal trunc P step =
      match (P.map (·.t)).head?, (P.map (·.t)).getLast? with
      | some tini, some tfin =>
        match Resample.prepareTimes trunc step tini tfin with
        | .error e => .error e
        | .ok ref => Resample.temporalLoop P (P.map (·.t)) tini tfin ref 0
      | _, _ => .error .index := rfl

/-- the three translated variants differ only in the call of `prepareTimeSampling`: the variant "number" is the variant "list" run on
the list `prepareTimeSampling` returns -/
theorem number_eq_list (fuel : Nat) (track : List (α × α × α × α)) (δ : α) :
    Gen.Interpolation.resampleTemporal_number fuel track δ =
      match (track.map (·.2.2.2)).head?, (track.map (·.2.2.2)).getLast? with
      | some tini, some tfin => Py.bind (Gen.Interpolation.prepareTimeSampling_number fuel δ tini tfin)
          (fun REF => Gen.Interpolation.resampleTemporal_list fuel track REF)
      | _, _ => .error .index := by
  unfold Gen.Interpolation.resampleTemporal_number Gen.Interpolation.resampleTemporal_list
  simp only [forList_collect, Py.bind_ok]
  generalize track.map (·.2.2.2) = T
  rw [getItem_zero_eq, getIdx_last]
  cases T.head? with
  | none => rfl
  | some tini =>
    cases T.getLast? with
    | none => rfl
    | some tfin =>
      simp only [optM, Py.bind_ok]
      cases Gen.Interpolation.prepareTimeSampling_number fuel δ tini tfin with
      | error e => rfl
      | ok REF =>
        simp only [Py.bind_ok]
        rw [tie_prepareTimeSampling_list (fun _ => 0)]
        rfl

/-- the variant "track" reads the reference track through its stamps only: it is the variant "list" on them -/
theorem track_eq_list (fuel : Nat) (track Q : List (α × α × α × α)) :
    Gen.Interpolation.resampleTemporal_track fuel track Q =
      Gen.Interpolation.resampleTemporal_list fuel track (Q.map (·.2.2.2)) := by
  have h : ∀ tini tfin : α, Gen.Interpolation.prepareTimeSampling_track Q tini tfin =
      Gen.Interpolation.prepareTimeSampling_list (Q.map (·.2.2.2)) tini tfin := fun tini tfin => by
    rw [tie_prepareTimeSampling_track (fun _ => 0), tie_prepareTimeSampling_list (fun _ => 0), ← map_toFix_t]
    rfl
  unfold Gen.Interpolation.resampleTemporal_track Gen.Interpolation.resampleTemporal_list
  simp only [h]

/-- **`__resampleTemporal(track, Q)`, `Q` a reference track** (only the stamps of `Q` are read): as `tie_resampleTemporal_list`, same
hypotheses, on every `track` and `Q`. -/
theorem tie_resampleTemporal_track (trunc : α → Int) (fuel : Nat) (track Q : List (α × α × α × α))
    (hfuel : track.length + 1 ≤ fuel)
    (htri : ∀ vb ∈ track.map (·.2.2.2), ∀ vf ∈ track.map (·.2.2.2), Tri (vf - vb)) :
    Gen.Interpolation.resampleTemporal_track fuel track Q =
      lift (Resample.resampleTemporal trunc (track.map toFix) (.track (Q.map toFix))) := by
  rw [track_eq_list, tie_resampleTemporal_list trunc fuel track _ hfuel htri, ← map_toFix_t]
  rfl

/-- **`__resampleTemporal(track, δ)`, `δ` a number of seconds, every fuel**: for EVERY fuel greater than the number of observations the
translated function is: `IndexError` on an empty track; out of fuel when the model's `prepareNumber`, run with the SAME fuel, is (`none`);
else the model's `temporalLoop` on the list `prepareNumber` returns. Hypothesis `htri` as in `tie_resampleTemporal_list`; no hypothesis
on `δ` (positive or not), no `trunc`. -/
theorem tie_resampleTemporal_number_fuel (fuel : Nat) (track : List (α × α × α × α)) (δ : α)
    (hfuel : track.length + 1 ≤ fuel)
    (htri : ∀ vb ∈ track.map (·.2.2.2), ∀ vf ∈ track.map (·.2.2.2), Tri (vf - vb)) :
    Gen.Interpolation.resampleTemporal_number fuel track δ =
      match (track.map (·.2.2.2)).head?, (track.map (·.2.2.2)).getLast? with
      | some tini, some tfin =>
        match Resample.prepareNumber δ tfin fuel tini with
        | none => .error .fuel
        | some REF => lift (Resample.temporalLoop (track.map toFix) (track.map (·.2.2.2)) tini tfin REF 0)
      | _, _ => .error .index := by
  rw [number_eq_list]
  cases h1 : (track.map (·.2.2.2)).head? with
  | none => rfl
  | some tini =>
    cases h2 : (track.map (·.2.2.2)).getLast? with
    | none => rfl
    | some tfin =>
      simp only []
      rw [tie_prepareTimeSampling_number_fuel]
      cases Resample.prepareNumber δ tfin fuel tini with
      | none => rfl
      | some REF =>
        simp only [Py.bind_ok]
        rw [tie_resampleTemporal_list (fun _ => 0) fuel track REF hfuel htri, resampleTemporal_eq, map_toFix_t, h1, h2]
        rfl

/-- the model's fuel for the `while 1` loop of `prepareTimeSampling` on this track: `int((tfin - tini)/δ) + 2` -/
def numberFuel (trunc : α → Int) (track : List (α × α × α × α)) (δ : α) : Nat :=
  match (track.map (·.2.2.2)).head?, (track.map (·.2.2.2)).getLast? with
  | some tini, some tfin => (trunc ((tfin - tini) / δ)).toNat + 2
  | _, _ => 0

theorem number_of_prepare (trunc : α → Int) (fuel : Nat) (track : List (α × α × α × α)) (δ : α)
    (hfuel : track.length + 1 ≤ fuel)
    (htri : ∀ vb ∈ track.map (·.2.2.2), ∀ vf ∈ track.map (·.2.2.2), Tri (vf - vb))
    (hprep : ∀ tini tfin, (track.map (·.2.2.2)).head? = some tini → (track.map (·.2.2.2)).getLast? = some tfin →
      Gen.Interpolation.prepareTimeSampling_number fuel δ tini tfin = liftT (Resample.prepareTimes trunc (.number δ) tini tfin)) :
    Gen.Interpolation.resampleTemporal_number fuel track δ =
      lift (Resample.resampleTemporal trunc (track.map toFix) (.number δ)) := by
  rw [number_eq_list, resampleTemporal_eq, map_toFix_t]
  cases h1 : (track.map (·.2.2.2)).head? with
  | none => rfl
  | some tini =>
    cases h2 : (track.map (·.2.2.2)).getLast? with
    | none => rfl
    | some tfin =>
      simp only []
      rw [hprep tini tfin h1 h2]
      cases hp : Resample.prepareTimes trunc (.number δ) tini tfin with
      | error e => cases e <;> rfl
      | ok REF =>
        simp only [liftT, Py.bind_ok]
        rw [tie_resampleTemporal_list trunc fuel track REF hfuel htri, resampleTemporal_eq, map_toFix_t, h1, h2]
        rfl

/-- **`__resampleTemporal(track, δ)`, `δ` a number of seconds**: whenever the model does not say "never ends" (`nonterm`: the step is not
positive and the first round does not end the loop, or the model's own fuel `int((tfin - tini)/δ) + 2` is too small for its `while 1`
loop), the translated function returns the model's result — track or `IndexError` / `ZeroDivisionError` — for EVERY fuel greater than
the number of observations and at least `int((tfin - tini)/δ) + 2`. Hypothesis `htri` as in `tie_resampleTemporal_list`. -/
theorem tie_resampleTemporal_number (trunc : α → Int) (fuel : Nat) (track : List (α × α × α × α)) (δ : α)
    (hfuel : track.length + 1 ≤ fuel) (hfuel2 : numberFuel trunc track δ ≤ fuel)
    (htri : ∀ vb ∈ track.map (·.2.2.2), ∀ vf ∈ track.map (·.2.2.2), Tri (vf - vb))
    (hmodel : Resample.resampleTemporal trunc (track.map toFix) (.number δ) ≠ .error .nonterm) :
    Gen.Interpolation.resampleTemporal_number fuel track δ =
      lift (Resample.resampleTemporal trunc (track.map toFix) (.number δ)) := by
  apply number_of_prepare trunc fuel track δ hfuel htri
  intro tini tfin h1 h2
  rw [resampleTemporal_eq, map_toFix_t, h1, h2] at hmodel
  unfold numberFuel at hfuel2
  rw [h1, h2] at hfuel2
  simp only [] at hmodel hfuel2
  have hm : Resample.prepareTimes trunc (.number δ) tini tfin ≠ .error .nonterm := by
    intro h; rw [h] at hmodel; exact hmodel rfl
  exact tie_prepareTimeSampling_number trunc fuel δ tini tfin hm hfuel2

/-- **`__resampleTemporal(track, δ)`, a step that is not positive**: for EVERY fuel greater than the number of observations the translated
function is `lift` of the model's result on EVERY track: `IndexError` on an empty track; when `tini + δ > tfin` (last stamp before the first)
the loop over `[tini]`, i.e. the empty track; else out of fuel for every fuel = the model's `nonterm`. Hypotheses: `htri` as in
`tie_resampleTemporal_list`; `hstay` (the step never carries an instant that is not past the last stamp past it: every `δ ≤ 0` of an ordered
field, every double `δ ≤ 0`, NaN). -/
theorem tie_resampleTemporal_number_nonpos (trunc : α → Int) (fuel : Nat) (track : List (α × α × α × α)) (δ : α)
    (hδ : ¬ 0 < δ) (hfuel : track.length + 1 ≤ fuel)
    (htri : ∀ vb ∈ track.map (·.2.2.2), ∀ vf ∈ track.map (·.2.2.2), Tri (vf - vb))
    (hstay : ∀ tfin, (track.map (·.2.2.2)).getLast? = some tfin → ∀ x : α, ¬ tfin < x → ¬ tfin < x + δ) :
    Gen.Interpolation.resampleTemporal_number fuel track δ =
      lift (Resample.resampleTemporal trunc (track.map toFix) (.number δ)) := by
  apply number_of_prepare trunc fuel track δ hfuel htri
  intro tini tfin h1 h2
  exact tie_prepareTimeSampling_number_nonpos trunc fuel δ tini tfin hδ (by omega) (hstay tfin h2)

end

end TV.Tie.C05
