import TracklibVerif.Lemmas.ResampleBasic
import TracklibVerif.Gen.Interpolation
import TracklibVerif.Tie.C17
import TracklibVerif.Tie.C05
/-! Tie for C05, spatial half: `__resampleSpatial` of `tracklib/algo/interpolation.py` translated from the CURRENT source
(tools/py2lean.py → `Gen.Interpolation.resampleSpatial`) against the hand-written model `TV.Resample.resampleSpatial`
(`legs2D`, `cum`, `scanB`/`advanceB`, `pmin`, `bwdIdx`, `weights`, `bracket`, `spatialLoop`, `resampleSpatialLegs`).

An observation is the record `(E, N, U, t)`, `t = timestamp.toAbsTime()`; the model's `Fix` is `⟨x, y, z, t⟩`: `toFix` / `ofFix`.
The model's exceptions are mapped by `liftErr` (`index`, `zerodiv`, `nonterm`, `type` ↦ `.index`, `.zerodiv`, `.fuel`, `.type`).

* `tie_resampleSpatial` — for EVERY fuel `≥ len(track)` the translated function equals `lift` of the model's result, exceptions
  included, on every track (the empty one too) and every step, under: `x ** 2 = x * x`; `IntCast` agrees with `NatCast`;
  the zero test of a divisor (`Py.fdiv`: `x == 0`) is the negation of the model's `x < 0 ∨ 0 < x` for `ds` and for the
  differences of two entries of the abscissa table (`ZeroTest`: true in an ordered field, true of every non-NaN double).
* `tie_resampleSpatial_of_zeroTest` — the same with the zero-test hypothesis for every scalar (ordered fields).
* `resampleSpatial_empty_zero` — on an empty track with `ds == 0` the code raises ZeroDivisionError (`(sfin - sini) / ds` is
  evaluated before `track.getFirstObs()`) and so does the model.

The loop lemmas (`cumLoop_tie`, `advanceB_tie`, `spatialLoop_tie`) are stated for an arbitrary body satisfying a
pointwise equation, which is then proved of the generated bodies: nothing of the generated text is copied here. The reads and
divisions after the scan are the temporal half's `TV.Tie.C05.bracket_tie` (`ZeroTest.tri` carries the zero test over). -/
namespace TV.Tie.C05Spatial
open TV TV.Py
set_option linter.unusedSectionVars false

/-- an observation: the record `(E, N, U, t)`, `t = timestamp.toAbsTime()` -/
abbrev Rec (α : Type) := α × α × α × α

def toFix {α : Type} (o : Rec α) : Resample.Fix α := ⟨o.1, o.2.1, o.2.2.1, o.2.2.2⟩
def ofFix {α : Type} (p : Resample.Fix α) : Rec α := (p.x, p.y, p.z, p.t)

theorem ofFix_toFix {α : Type} (o : Rec α) : ofFix (toFix o) = o := rfl
theorem toFix_ofFix {α : Type} (p : Resample.Fix α) : toFix (ofFix p) = p := rfl

/-- the model's exceptions as Python exceptions (`nonterm` = the loop would still be running = out of fuel) -/
def liftErr : Resample.Err → Py.Err
  | .index => .index
  | .zerodiv => .zerodiv
  | .nonterm => .fuel
  | .type => .type

def lift {α : Type} : Except Resample.Err (List (Resample.Fix α)) → Py.M (List (Rec α))
  | .ok l => .ok (l.map ofFix)
  | .error e => .error (liftErr e)

theorem getIdx_succ {β : Type} {l : List β} {j : Nat} {v : β} (h : l[j + 1]? = some v) :
    Py.getIdx l ((j : Int) + 1) = .ok v := by
  have : (j : Int) + 1 = ((j + 1 : Nat) : Int) := by omega
  rw [this]; exact getIdx_of_getElem? h

section
variable {α : Type} [Add α] [Sub α] [Mul α] [Div α] [LT α] [LE α] [DecidableLT α] [DecidableLE α]
  [IntCast α] [NatCast α] [OfNat α 0] [OfNat α 2]

/-- the 2D length of the leg from `a` to `b`, as the model's `legs2D` writes it -/
def leg (sqrt : α → α) (a b : Rec α) : α :=
  sqrt ((b.1 - a.1) * (b.1 - a.1) + (b.2.1 - a.2.1) * (b.2.1 - a.2.1))

/-- `a.position.distance2DTo(b.position)` is that leg (through `TV.Tie.C17.tie_distance2DTo`) -/
theorem dist_leg (sqrt : α → α) (pow : α → α → α) (hsq : ∀ x : α, pow x 2 = x * x) (a b : Rec α) :
    Gen.ObsCoords.ENUCoords_distance2DTo sqrt pow a.1 a.2.1 a.2.2.1 b.1 b.2.1 b.2.2.1 = .ok (leg sqrt a b) :=
  @TV.Tie.C17.tie_distance2DTo α _ _ _ _ _ _ ⟨fun _ _ => true⟩ sqrt pow hsq (a.1, a.2.1) (b.1, b.2.1) a.2.2.1 b.2.2.1

theorem legs2D_cons2 (sqrt : α → α) (a b : Rec α) (rest : List (Rec α)) :
    Resample.legs2D sqrt ((a :: b :: rest).map toFix) = leg sqrt a b :: Resample.legs2D sqrt ((b :: rest).map toFix) := rfl

theorem length_cum (sqrt : α → α) (P : List (Resample.Fix α)) (h : P ≠ []) :
    (Resample.cum (Resample.legs2D sqrt P)).length = P.length := by
  unfold Resample.cum
  rw [Resample.cumFrom_length, Resample.legs2D_length]
  cases P with
  | nil => exact absurd rfl h
  | cons a r => simp only [List.length_cons]; omega

/-! ### first loop: `S = [0]; for i in range(1, n): S.append(S[i-1] + dl)` is `cum (legs2D …)` -/

/-- generalised over the part of the track already walked (`done`) and the part of `S` already built (`pre ++ [s]`) -/
theorem cumLoop_tie {ρ : Type} (sqrt : α → α) (track : List (Rec α)) (body : Int → List α → Py.M (Py.Ctl (List α) ρ))
    (h : ∀ (j : Nat) (a b : Rec α) (S : List α) (s : α), track[j]? = some a → track[j + 1]? = some b → S[j]? = some s →
      body ((j : Int) + 1) S = .ok (.cont (S ++ [s + leg sqrt a b])))
    (rest dn : List (Rec α)) (a : Rec α) (pre : List α) (s : α)
    (htr : track = dn ++ a :: rest) (hlen : pre.length = dn.length) :
    Py.forList body (Py.range ((dn.length : Int) + 1) (track.length : Int)) (pre ++ [s])
      = .ok (.done (pre ++ Resample.cumFrom s (Resample.legs2D sqrt ((a :: rest).map toFix)))) := by
  induction rest generalizing dn a pre s with
  | nil =>
    rw [Py.range_empty (by rw [htr, List.length_append]; simp only [List.length_cons, List.length_nil]; omega)]
    rfl
  | cons b rest ih =>
    have hl : track.length = dn.length + (rest.length + 2) := by
      rw [htr, List.length_append]; simp only [List.length_cons]
    have ha : track[dn.length]? = some a := by
      rw [htr, List.getElem?_append_right (Nat.le_refl _), Nat.sub_self]; rfl
    have hb : track[dn.length + 1]? = some b := by
      rw [htr, List.getElem?_append_right (by omega)]
      have : dn.length + 1 - dn.length = 1 := by omega
      rw [this]; rfl
    have hs : (pre ++ [s])[dn.length]? = some s := by
      rw [List.getElem?_append_right (by omega), hlen, Nat.sub_self]; rfl
    rw [Py.range_cons (by omega), Py.forList_cons_cont (h dn.length a b (pre ++ [s]) s ha hb hs)]
    have ih' := ih (dn ++ [a]) b (pre ++ [s]) (s + leg sqrt a b) (by rw [htr, List.append_assoc]; rfl)
      (by simp only [List.length_append, List.length_cons, List.length_nil]; omega)
    have e1 : (((dn ++ [a]).length : Nat) : Int) + 1 = (dn.length : Int) + 1 + 1 := by
      simp only [List.length_append, List.length_cons, List.length_nil]; omega
    rw [e1] at ih'
    rw [ih', legs2D_cons2, Resample.cumFrom, List.append_assoc]
    rfl

/-! ### the scan `while running_id < len(S) - 1 and S[running_id] < s: running_id += 1` -/

/-- the scan from `running_id = rid` inside the table: the model's `advanceB` finds an index and the `while` loop — with fuel for
`len(S) - rid` evaluations of its test — ends on it (the `none` branch never happens) -/
theorem advanceB_tie {ρ : Type} (S : List α) (s : α) (body : Int → Py.M (Py.Ctl Int ρ))
    (h : ∀ (r : Nat) (w : α), S[r]? = some w → body (r : Int) =
      if r + 1 < S.length ∧ w < s then .ok (.cont ((r : Int) + 1)) else .ok (.brk (r : Int)))
    (rid fuel : Nat) (hrid : rid < S.length) (hf : S.length - rid ≤ fuel) :
    Py.whileLoop body fuel (rid : Int) =
      match Resample.advanceB S s rid with
      | some r => .ok (.done (r : Int))
      | none => .error .index := by
  induction fuel generalizing rid with
  | zero => omega
  | succ f ih =>
    have hb := h rid S[rid] (List.getElem?_eq_getElem hrid)
    rw [Resample.advanceB_step S s rid hrid]
    by_cases hc : rid + 1 < S.length ∧ S[rid] < s
    · rw [if_pos hc] at hb ⊢
      rw [Py.whileLoop_cont hb, ← Int.natCast_succ]
      exact ih (rid + 1) hc.1 (by omega)
    · rw [if_neg hc] at hb ⊢
      exact Py.whileLoop_brk hb

/-- "`x == 0` is the negation of `x < 0 or 0 < x`" for the value `x`: how the code (`Py.fdiv`: ZeroDivisionError iff `x == 0`)
and the model (`x < 0 ∨ 0 < x`, else `zerodiv`) test a divisor. True of every element of an ordered field and of every
double that is not NaN (for NaN the code divides, the model says `zerodiv`). -/
def ZeroTest (x : α) : Prop := Py.feq x 0 = true ↔ ¬ (x < 0 ∨ 0 < x)

/-- the zero test as the temporal half states it -/
theorem ZeroTest.tri {x : α} (h : ZeroTest x) : C05.Tri x := by
  unfold ZeroTest Py.feq at h
  simp only [Bool.and_eq_true, decide_eq_true_eq] at h
  exact ⟨fun hx hc => h.mp hc hx, fun hn => Decidable.of_not_not fun hx => hn (h.mpr hx)⟩

theorem fdiv_eq {a x : α} (hx : ZeroTest x) :
    Py.fdiv a x = if x < 0 ∨ 0 < x then .ok (a / x) else .error .zerodiv :=
  C05.fdiv_of_tri hx.tri

theorem fmin_eq_pmin (a b : α) : Py.fmin a b = Resample.pmin a b := rfl
theorem fmax_eq_pmax (a b : α) : Py.fmax a b = Resample.pmax a b := rfl

/-- the observation the model's `spatialLoop` conses, as a record (time component: `T = min(max(T, t_bwd), t_fwd)`, the model's
`clampT`) -/
def newPt (pb pf : Resample.Fix α) (wb wf : α) : Rec α :=
  (wb * pb.x + wf * pf.x, wb * pb.y + wf * pf.y, wb * pb.z + wf * pf.z,
    Resample.clampT (wb * pb.t + wf * pf.t) pb.t pf.t)

/-! ### main loop `for k in range(1, N + 1)` against `spatialLoop` -/

/-- the main loop with what follows it (`cont`: the code after the loop only reads `interp_points`), generalised over the list `acc` of
points already appended (the model conses in front of the recursive result) -/
theorem spatialLoop_tie {ρ : Type} (P : List (Resample.Fix α)) (S : List α) (sini sfin ds : α)
    (body : Int → (List (Rec α) × Int) → Py.M (Py.Ctl (List (Rec α) × Int) ρ))
    (cont : Py.Out (List (Rec α) × Int) ρ → Py.M (List (Rec α)))
    (h : ∀ (k : Nat) (acc : List (Rec α)) (rid : Nat), rid < S.length →
      body (k : Int) (acc, (rid : Int)) =
        match Resample.advanceB S (Resample.pmin ((k : α) * ds + sini) sfin) rid with
        | none => .error .index
        | some r =>
          match Resample.bracket P S (Resample.pmin ((k : α) * ds + sini) sfin) r with
          | .error e => .error (liftErr e)
          | .ok (pb, pf, wb, wf) => .ok (.cont (acc ++ [newPt pb pf wb wf], (r : Int))))
    (hcont : ∀ (l : List (Rec α)) (r : Int), cont (.done (l, r)) = .ok l)
    (n k rid : Nat) (acc : List (Rec α)) (hrid : rid < S.length) :
    Py.bind (Py.forList body (Py.range (k : Int) ((k : Int) + (n : Int))) (acc, (rid : Int))) cont =
      match Resample.spatialLoop P S sini sfin ds n k rid with
      | .error e => .error (liftErr e)
      | .ok out => .ok (acc ++ out.map ofFix) := by
  induction n generalizing k rid acc with
  | zero =>
    rw [Py.range_empty (by omega), Py.forList_nil, Py.bind_ok, hcont]
    simp only [Resample.spatialLoop, List.map_nil, List.append_nil]
  | succ n ih =>
    rw [Py.range_cons (by omega), Py.forList_cons, h k acc rid hrid, Resample.spatialLoop]
    cases ha : Resample.advanceB S (Resample.pmin ((k : α) * ds + sini) sfin) rid with
    | none => rfl
    | some r =>
      simp only []
      cases hb : Resample.bracket P S (Resample.pmin ((k : α) * ds + sini) sfin) r with
      | error e => rfl
      | ok q =>
        obtain ⟨pb, pf, wb, wf⟩ := q
        have ih' := ih (k + 1) r (acc ++ [newPt pb pf wb wf]) (Resample.advanceB_bounds S _ rid r ha).2
        rw [show ((k + 1 : Nat) : Int) = (k : Int) + 1 by omega] at ih'
        rw [show (k : Int) + ((n + 1 : Nat) : Int) = (k : Int) + 1 + (n : Int) by omega]
        simp only []
        rw [ih']
        cases Resample.spatialLoop P S sini sfin ds n (k + 1) r with
        | error e => rfl
        | ok out => simp only [List.map_cons, List.append_assoc, List.singleton_append]; rfl

theorem resampleSpatialLegs_eq (trunc : α → Int) (P : List (Resample.Fix α)) (legs : List α) (ds sini sfin : α)
    (h0 : (Resample.cum legs)[0]? = some sini)
    (h1 : (Resample.cum legs)[(Resample.cum legs).length - 1]? = some sfin) :
    Resample.resampleSpatialLegs trunc P legs ds =
      if ds < 0 ∨ 0 < ds then
        match P[0]? with
        | some first =>
          match Resample.spatialLoop P (Resample.cum legs) sini sfin ds (trunc ((sfin - sini) / ds)).toNat 1 0 with
          | .error e => .error e
          | .ok out => .ok (first :: out)
        | none => .error .index
      else .error .zerodiv := by
  unfold Resample.resampleSpatialLegs
  simp only [List.head?_eq_getElem?, List.getLast?_eq_getElem?, h0, h1]
  rfl

/-- the model on the empty track: `(sfin - sini) / ds` is evaluated before `track.getFirstObs()` -/
theorem model_nil (sqrt : α → α) (trunc : α → Int) (ds : α) :
    Resample.resampleSpatial sqrt trunc (([] : List (Rec α)).map toFix) ds
      = if ds < 0 ∨ 0 < ds then .error .index else .error .zerodiv := by
  unfold Resample.resampleSpatial
  rw [resampleSpatialLegs_eq trunc _ _ ds 0 0 rfl rfl]
  rfl

/-- the code on the empty track (`S = [0]`) does the same -/
theorem tie_nil (sqrt : α → α) (pow : α → α → α) (trunc : α → Int) (fuel : Nat) (ds : α) (hds : ZeroTest ds) :
    Gen.Interpolation.resampleSpatial sqrt pow trunc fuel ([] : List (Rec α)) ds
      = lift (Resample.resampleSpatial sqrt trunc (([] : List (Rec α)).map toFix) ds) := by
  unfold Gen.Interpolation.resampleSpatial
  simp only []
  rw [Py.range_empty (show Py.len ([] : List (Rec α)) ≤ 1 by simp [Py.len])]
  simp only [Py.forList_nil, Py.bind_ok, Py.getItem_zero]
  rw [show Py.getIdx [(0 : α)] (Py.len [(0 : α)] - 1) = .ok 0 from rfl]
  simp only [Py.bind_ok]
  rw [fdiv_eq hds, model_nil]
  split <;> rfl

/-- **`__resampleSpatial(track, ds)` = the model's `resampleSpatial`, exceptions included, for every fuel `≥ len(track)`.**
Hypotheses: `hsq` — `x ** 2 = x * x` (as for `TV.Tie.C17.tie_distance2DTo`); `hcast` — the conversion of the `int` `k` to a float
is the model's cast of the natural number `k`; `hds`, `hden` — for the step `ds` and for every difference of two entries of
the table `S` of curvilinear abscissas, `x == 0` (the test of `Py.fdiv`) is the negation of `x < 0 ∨ 0 < x` (the model's test):
true in an ordered field and for every double that is not NaN; `hfuel` — the scans evaluate their test at most `len(S) =
len(track)` times. Every track is covered, the empty one included (`S = [0]`; `ds == 0`: ZeroDivisionError on both sides —
`resampleSpatial_empty_zero` —, else IndexError from `track.getFirstObs()` on both sides). A negative
`N = int((sfin - sini)/ds)` needs no hypothesis: `range(1, N + 1)` is empty as is the model's `N.toNat` iterations. -/
theorem tie_resampleSpatial (sqrt : α → α) (pow : α → α → α) (trunc : α → Int) (fuel : Nat) (track : List (Rec α)) (ds : α)
    (hsq : ∀ x : α, pow x 2 = x * x)
    (hcast : ∀ n : Nat, ((n : Int) : α) = (n : α))
    (hds : ZeroTest ds)
    (hden : ∀ a ∈ Resample.cum (Resample.legs2D sqrt (track.map toFix)),
      ∀ b ∈ Resample.cum (Resample.legs2D sqrt (track.map toFix)), ZeroTest (a - b))
    (hfuel : track.length ≤ fuel) :
    Gen.Interpolation.resampleSpatial sqrt pow trunc fuel track ds
      = lift (Resample.resampleSpatial sqrt trunc (track.map toFix) ds) := by
  cases track with
  | nil => exact tie_nil sqrt pow trunc fuel ds hds
  | cons a rest =>
    obtain ⟨P, hP⟩ : ∃ P, P = (a :: rest).map toFix := ⟨_, rfl⟩
    obtain ⟨S, hSdef⟩ : ∃ S, S = Resample.cum (Resample.legs2D sqrt P) := ⟨_, rfl⟩
    rw [← hP] at hden ⊢
    rw [← hSdef] at hden
    have hlenP : P.length = (a :: rest).length := by rw [hP, List.length_map]
    have hlen : S.length = (a :: rest).length := by
      rw [hSdef, length_cum _ _ (by rw [hP]; exact List.cons_ne_nil _ _), hlenP]
    have hpos : 0 < S.length := by rw [hlen]; exact Nat.succ_pos _
    obtain ⟨sini, h0⟩ : ∃ v, S[0]? = some v := ⟨S[0], List.getElem?_eq_getElem hpos⟩
    obtain ⟨sfin, hl⟩ : ∃ v, S[S.length - 1]? = some v := ⟨_, List.getElem?_eq_getElem (by omega)⟩
    unfold Gen.Interpolation.resampleSpatial
    simp only []
    have h1 : ∀ body : Int → List α → Py.M (Py.Ctl (List α) (List (Rec α))), _ →
        Py.forList body (Py.range 1 (Py.len (a :: rest))) [0] = .ok (.done S) :=
      fun body h => hSdef ▸ hP ▸ cumLoop_tie sqrt (a :: rest) body h rest [] a [] 0 rfl rfl
    rw [h1 _ ?spec1]
    case spec1 =>
      intro j a' b' S' s ha hb hs
      simp only [Int.add_sub_cancel, getIdx_of_getElem? ha, getIdx_succ hb, getIdx_of_getElem? hs, Py.bind_ok, dist_leg sqrt pow hsq]
    simp only [Py.bind_ok]
    have e1 : Py.len S - 1 = ((S.length - 1 : Nat) : Int) := by unfold Py.len; omega
    rw [getItem_eq_ok h0, e1, getIdx_of_getElem? hl]
    simp only [Py.bind_ok]
    rw [fdiv_eq hds]
    unfold Resample.resampleSpatial
    rw [resampleSpatialLegs_eq trunc P _ ds sini sfin (by rw [← hSdef]; exact h0)
      (by rw [← hSdef]; exact hl), ← hSdef]
    by_cases hc : ds < 0 ∨ 0 < ds
    · rw [if_pos hc, if_pos hc, show P[0]? = some (toFix a) by rw [hP]; rfl]
      simp only [Py.bind_ok]
      rw [show Py.getIdx (a :: rest) 0 = .ok a from rfl]
      simp only [Py.bind_ok]
      have hr : Py.range ((1 : Nat) : Int) (((1 : Nat) : Int) + ((trunc ((sfin - sini) / ds)).toNat : Int))
          = Py.range 1 (trunc ((sfin - sini) / ds) + 1) := by
        unfold Py.range; congr 1; omega
      have hL : ∀ (body : Int → (List (Rec α) × Int) → Py.M (Py.Ctl (List (Rec α) × Int) (List (Rec α))))
          (cont : Py.Out (List (Rec α) × Int) (List (Rec α)) → Py.M (List (Rec α))), _ → _ →
          Py.bind (Py.forList body (Py.range 1 (trunc ((sfin - sini) / ds) + 1)) ([a], 0)) cont =
            match Resample.spatialLoop P S sini sfin ds (trunc ((sfin - sini) / ds)).toNat 1 0 with
            | .error e => .error (liftErr e)
            | .ok out => .ok (a :: out.map ofFix) :=
        fun body cont h hcont => hr ▸ spatialLoop_tie P S sini sfin ds body cont h hcont _ 1 0 [a] hpos
      rw [hL _ _ ?spec2 ?spec3]
      case spec3 => intro l r; rfl
      case spec2 =>
        intro k acc rid hrid
        simp only [hcast, fmin_eq_pmin]
        generalize Resample.pmin ((k : α) * ds + sini) sfin = s
        have hw : ∀ body : Int → Py.M (Py.Ctl Int (List (Rec α))), _ → Py.whileLoop body fuel (rid : Int) = _ :=
          fun body h => advanceB_tie S s body h rid fuel hrid (by rw [hlen]; omega)
        rw [hw _ ?spec4]
        case spec4 =>
          intro r w hw
          by_cases hr1 : r + 1 < S.length
          · have hlt : ((r : Int) < ((S.length - 1 : Nat) : Int)) := by omega
            simp only [hlt, decide_true, if_true, getIdx_of_getElem? hw, Py.bind_ok]
            by_cases hws : w < s
            · simp only [hws, hr1, decide_true, and_self, if_true]
            · simp only [hws, hr1, decide_false, and_false, if_false, Bool.false_eq_true]
          · have hlt : ¬ ((r : Int) < ((S.length - 1 : Nat) : Int)) := by omega
            simp only [hlt, decide_false, Bool.false_eq_true, if_false, Py.bind_ok, hr1, false_and]
        cases ha : Resample.advanceB S s rid with
        | none => rfl
        | some r =>
          simp only [Py.bind_ok]
          rw [C05.bracket_tie (a :: rest) S s r (fun vb hvb vf hvf => (hden vf hvf vb hvb).tri),
            show (C05.toFix : Rec α → _) = toFix from rfl, ← hP]
          cases Resample.bracket P S s r with
          | error e => cases e <;> rfl
          | ok b =>
            obtain ⟨pb, pf, wb, wf⟩ := b
            simp only [Gen.ObsCoords.ENUCoords_getX, Gen.ObsCoords.ENUCoords_getY, Gen.ObsCoords.ENUCoords_getZ, Py.bind_ok]
            rfl
      cases Resample.spatialLoop P S sini sfin ds (trunc ((sfin - sini) / ds)).toNat 1 0 with
      | error e => rfl
      | ok out => rfl
    · rw [if_neg hc, if_neg hc]; rfl

/-- `tie_resampleSpatial` when the zero test of a divisor is the model's for EVERY scalar (an ordered field) -/
theorem tie_resampleSpatial_of_zeroTest (sqrt : α → α) (pow : α → α → α) (trunc : α → Int) (fuel : Nat) (track : List (Rec α))
    (ds : α) (hsq : ∀ x : α, pow x 2 = x * x) (hcast : ∀ n : Nat, ((n : Int) : α) = (n : α))
    (hzero : ∀ x : α, ZeroTest x) (hfuel : track.length ≤ fuel) :
    Gen.Interpolation.resampleSpatial sqrt pow trunc fuel track ds
      = lift (Resample.resampleSpatial sqrt trunc (track.map toFix) ds) :=
  tie_resampleSpatial sqrt pow trunc fuel track ds hsq hcast (hzero ds) (fun a _ b _ => hzero (a - b)) hfuel

/-- the empty track with `ds == 0`: the code computes
`S = [0]`, then `N = int((sfin - sini) / ds)` raises ZeroDivisionError BEFORE `track.getFirstObs()` can raise IndexError; the
model tests `ds` before it reads the first observation: `zerodiv` on both sides (`hds`: `ds == 0` is the model's zero test) -/
theorem resampleSpatial_empty_zero (sqrt : α → α) (pow : α → α → α) (trunc : α → Int) (fuel : Nat) (ds : α)
    (hz : Py.feq ds 0 = true) (hds : ZeroTest ds) :
    Gen.Interpolation.resampleSpatial sqrt pow trunc fuel ([] : List (Rec α)) ds = .error .zerodiv ∧
    Resample.resampleSpatial sqrt trunc (([] : List (Rec α)).map toFix) ds = .error .zerodiv := by
  rw [tie_nil sqrt pow trunc fuel ds hds, model_nil, if_neg (hds.mp hz)]
  exact ⟨rfl, rfl⟩

end

/-- the hypotheses of `tie_resampleSpatial_of_zeroTest` are satisfiable (here: the integers, with `x ** 2 := x * x`) -/
example (sqrt : Int → Int) (trunc : Int → Int) (fuel : Nat) (track : List (Rec Int)) (ds : Int)
    (hfuel : track.length ≤ fuel) :
    Gen.Interpolation.resampleSpatial sqrt (fun x _ => x * x) trunc fuel track ds
      = lift (Resample.resampleSpatial sqrt trunc (track.map toFix) ds) :=
  tie_resampleSpatial_of_zeroTest sqrt (fun x _ => x * x) trunc fuel track ds (fun _ => rfl) (fun _ => rfl)
    (fun x => by unfold ZeroTest Py.feq; simp only [Bool.and_eq_true, decide_eq_true_eq]; omega) hfuel

end TV.Tie.C05Spatial
