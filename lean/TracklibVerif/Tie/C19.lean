import TracklibVerif.Model.Raster
import TracklibVerif.Gen.Raster
import TracklibVerif.Gen.Utils
import TracklibVerif.Lemmas.PyLoops
/-! Tie for C19: `Raster.getCell` translated from the CURRENT `tracklib/core/raster.py` equals the model's
`TV.Raster.getCell`.

Hypotheses (all true of Python's floats and of an ordered field with its floor): `hbeq` — the model's `BEq` instance
is Python's `==` on numbers; `htr` — `int(v)` (truncation, the parameter `trunc`) is `math.floor(v)` whenever
`v.is_integer()` (the model writes `floor` where the code, under that guard, writes `int`); `hrx`, `hry` — the
resolution is not `== 0` (the model divides with the plain `/`, the code would raise `ZeroDivisionError`). -/
namespace TV.Tie.C19
open TV TV.Py
set_option linter.unusedSectionVars false
section
variable {α : Type} [Add α] [Sub α] [Mul α] [Div α] [OfNat α 0] [OfNat α 1] [OfNat α 2] [IntCast α] [NatCast α]
  [LT α] [DecidableLT α] [LE α] [DecidableLE α] [BEq α]

/-- `Raster.getCell(coord)` is the model's `getCell` (column, line), `None` outside the extent -/
theorem tie_getCell (floor trunc : α → Int) (g : Raster.Grid α) (x y : α)
    (hbeq : ∀ a b : α, (a == b) = Py.feq a b)
    (htr : ∀ v : α, Py.isInteger floor v = true → trunc v = floor v)
    (hrx : ¬ Py.feq g.rx 0 = true) (hry : ¬ Py.feq g.ry 0 = true) :
    Gen.Raster.Raster_getCell floor trunc g.xmin g.xmax g.ymin g.ymax (g.rx, g.ry) g.nrow g.ncol x y
      = .ok (Raster.getCell floor g x y) := by
  simp only [Gen.Raster.Raster_getCell, Raster.getCell, Py.fdiv, ite_neg' hrx, ite_neg' hry, bind_ok, hbeq]
  by_cases h1 : x < g.xmin
  · simp [h1]
  · by_cases h2 : g.xmax < x
    · simp [h2]
    · by_cases h3 : y < g.ymin
      · simp [h1, h2, h3]
      · by_cases h4 : g.ymax < y
        · simp [h1, h2, h4]
        · simp only [h1, h2, h3, h4, decide_false, Bool.or_false, Bool.false_eq_true, ite_false, or_self]
          generalize (x - g.xmin) / g.rx = idx
          generalize ((g.nrow - 1 : Int) : α) - (y - g.ymin) / g.ry = idy
          have hI : Py.feq ((floor idy : Int) : α) idy = Py.isInteger floor idy := rfl
          by_cases hi : Py.isInteger floor idy = true
          · rw [htr idy hi, hI, hi]
            by_cases hc : Py.feq idx ((g.ncol : Int) : α) = true <;> by_cases hp : floor idy > -1 <;> by_cases hm : floor idy = -1 <;>
              simp [hc, hp, hm]
          · rw [hI]
            have hi' : Py.isInteger floor idy = false := by simpa using hi
            by_cases hc : Py.feq idx ((g.ncol : Int) : α) = true <;> simp [hc, hi']
end

/-! ## The cell operators of `core/utils.py` (`co_sum`, `co_min`, `co_max`, `co_count`, `co_avg`, `co_median`)

The generated definitions `Gen.Utils.co_*` are polymorphic in the scalar and test NaN by `isnan x = !(x == x)`. The model
(`Model/Raster.lean`) represents the values of a cell as a `List (Option α)`, `none` standing for NaN. The ties instantiate
the generated definitions at the NaN-EXTENDED scalar `Nan α` (`Option α` with IEEE-like operations: arithmetic with a NaN
operand is NaN, every comparison with a NaN operand is false), so that `isnan none = true` and, for `a ≤ a`,
`isnan (some a) = false`; the result of the code is then the model's value on ALL lists (no exception is raised).
Common hypothesis `hle : ∀ x : α, x ≤ x`: `α` is the NON-NaN part of the scalar (true of the non-NaN doubles and of an
ordered field). -/

/-- the scalar `α` extended with one NaN (`none`): arithmetic with a NaN operand is NaN, every comparison with a NaN
operand is false -/
def Nan (α : Type) := Option α

namespace Nan
variable {α : Type}
def lift2 (f : α → α → α) : Nan α → Nan α → Nan α
  | some x, some y => some (f x y)
  | some _, none => none
  | none, _ => none
def rel (r : α → α → Prop) : Nan α → Nan α → Prop
  | some x, some y => r x y
  | some _, none => False
  | none, _ => False
def decRel (r : α → α → Prop) [d : ∀ a b, Decidable (r a b)] : ∀ a b, Decidable (rel r a b)
  | some x, some y => d x y
  | some _, none => isFalse (fun h => h)
  | none, _ => isFalse (fun h => h)
instance [Add α] : Add (Nan α) := ⟨lift2 (· + ·)⟩
instance [Sub α] : Sub (Nan α) := ⟨lift2 (· - ·)⟩
instance [Mul α] : Mul (Nan α) := ⟨lift2 (· * ·)⟩
instance [Div α] : Div (Nan α) := ⟨lift2 (· / ·)⟩
instance [LE α] : LE (Nan α) := ⟨rel (· ≤ ·)⟩
instance [LT α] : LT (Nan α) := ⟨rel (· < ·)⟩
instance [LE α] [d : DecidableLE α] : DecidableLE (Nan α) := decRel (· ≤ ·) (d := d)
instance [LT α] [d : DecidableLT α] : DecidableLT (Nan α) := decRel (· < ·) (d := d)
instance {n : Nat} [OfNat α n] : OfNat (Nan α) n := ⟨some (OfNat.ofNat n)⟩
instance [IntCast α] : IntCast (Nan α) := ⟨fun k => some (k : α)⟩
instance [OfScientific α] : OfScientific (Nan α) := ⟨fun m s e => some (OfScientific.ofScientific m s e)⟩

/-- `some a` / `none` with the type `Nan α` (for the elaborator; they unfold reducibly) -/
abbrev num (a : α) : Nan α := Option.some a
abbrev nan : Nan α := Option.none
@[elab_as_elim] theorem casesOn' {motive : Nan α → Prop} (v : Nan α) (nan : motive nan) (num : ∀ a, motive (num a)) : motive v :=
  match v with
  | none => nan
  | some a => num a
theorem feq_num [LE α] [DecidableLE α] (a b : α) : Py.feq (num a) (num b) = Py.feq a b := rfl
theorem feq_nan_left [LE α] [DecidableLE α] (b : Nan α) : Py.feq nan b = false := rfl
theorem isnan_nan [LE α] [DecidableLE α] : Gen.Utils.isnan (nan : Nan α) = .ok true := rfl
theorem isnan_num [LE α] [DecidableLE α] (a : α) (h : a ≤ a) : Gen.Utils.isnan (num a) = .ok false := by
  show Except.ok (!(decide (a ≤ a) && decide (a ≤ a))) = _
  simp [h]
theorem lt_num [LT α] [DecidableLT α] (a b : α) : decide (num a < num b) = decide (a < b) := rfl
theorem le_num [LE α] [DecidableLE α] (a b : α) : decide (num a ≤ num b) = decide (a ≤ b) := rfl
theorem zero_eq [OfNat α 0] : (0 : Nan α) = num 0 := rfl
theorem add_num [Add α] (a b : α) : num a + num b = num (a + b) := rfl
end Nan

section
variable {α : Type}
open Nan

/-- the loop shared by the six operators, `for i in range(len(l)): val = l[i]; if isnan(val): continue; …`, on the
NaN-extended scalars: when what follows the test ends normally on every number (`rest (num a) s = cont (step s a)`), the loop is
the left fold of `step` over the non-NaN values -/
theorem forList_skipNaN [LE α] [DecidableLE α] (hle : ∀ x : α, x ≤ x) {σ ρ : Type} (l : List (Nan α)) (step : σ → α → σ)
    (body : Int → σ → M (Ctl σ ρ)) (rest : Nan α → σ → M (Ctl σ ρ))
    (h : ∀ i s, body i s = Py.bind (Py.getIdx l i) (fun v =>
      Py.bind (Gen.Utils.isnan v) (fun b => if b then .ok (.cont s) else rest v s)))
    (hrest : ∀ a s, rest (num a) s = .ok (.cont (step s a))) (s : σ) :
    Py.forList body (Py.range 0 (Py.len l)) s
      = .ok (.done (l.foldl (fun s (v : Nan α) => match v with | none => s | some a => step s a) s)) := by
  refine forList_range_getIdx_foldl l _ body (fun i s => ?_) s
  rw [h]
  cases Py.getIdx l i with
  | error e => rfl
  | ok v =>
    cases v using Nan.casesOn' with
    | nan => simp only [Nan.isnan_nan, Py.bind_ok, if_true]
    | num a => simp only [Nan.isnan_num a (hle a), Py.bind_ok, Bool.false_eq_true, if_false, hrest]

/-- the loop of `co_min` / `co_max` (`q` the comparison of the code, `p` the one of the model): the current extremum is replaced
when it is still NaN or the new value is preferred -/
theorem pickLoop [LE α] [DecidableLE α] (hle : ∀ x : α, x ≤ x) (p : α → α → Prop) [DecidableRel p] (q : Nan α → Nan α → Bool)
    (hq : ∀ a b, q (num a) (num b) = decide (p a b)) {ρ : Type} (l : List (Nan α)) (body : Int → Nan α → M (Ctl (Nan α) ρ))
    (h : ∀ i s, body i s = Py.bind (Py.getIdx l i) (fun v =>
      Py.bind (Gen.Utils.isnan v) (fun b => if b then .ok (.cont s) else
        Py.bind (Gen.Utils.isnan s) (fun b' => if (b' || q v s) then .ok (.cont v) else .ok (.cont s))))) :
    Py.forList body (Py.range 0 (Py.len l)) nan
      = .ok (.done (l.foldl (fun (m : Option α) (v : Option α) => match v with
          | none => m
          | some a => match m with
            | none => some a
            | some b => if p a b then some a else some b) none)) := by
  refine forList_skipNaN hle l _ body _ h (fun a s => ?_) nan
  cases s using Nan.casesOn' with
  | nan => simp only [Nan.isnan_nan, Py.bind_ok, Bool.true_or, if_true]
  | num b =>
    simp only [Nan.isnan_num b (hle b), Py.bind_ok, Bool.false_or, hq, decide_eq_true_eq]
    by_cases hab : p a b <;> simp only [hab, ↓reduceIte] <;> rfl

theorem len_pos_of_ne_nil {β : Type} {l : List β} (h : l ≠ []) : ¬ Py.len l ≤ 0 := fun h0 =>
  h (List.eq_nil_of_length_eq_zero (by unfold Py.len at h0; omega))

/-- `co_sum(tarray)` on a list with NaNs is `some (coSum l)` (never NaN, never an exception).
Hypothesis: `hle` — `≤` is reflexive on the non-NaN scalars. -/
theorem tie_co_sum [Add α] [OfNat α 0] [LE α] [DecidableLE α] (l : List (Option α)) (hle : ∀ x : α, x ≤ x) :
    Gen.Utils.co_sum (α := Nan α) l = .ok (some (Raster.coSum l)) := by
  revert l; intro (l : List (Nan α))
  unfold Gen.Utils.co_sum
  simp only []
  rw [forList_skipNaN hle l (fun (t : Nan α) a => t + num a) _ (fun val somme => .ok (.cont (somme + val)))
    (fun _ _ => rfl) (fun _ _ => rfl)]
  simp only [Py.bind_ok]
  unfold Raster.coSum
  show Except.ok (List.foldl _ (num 0) l) = _
  rw [List.foldl_hom (f := (num : α → Nan α)) (g₁ := fun s (v : Nan α) => match v with | none => s | some a => s + a)]
  · rfl
  · intro x y; cases y using Nan.casesOn' <;> rfl

/-- `co_min(tarray)` is the model's `coMin` (`none` = the function returns NaN: empty list or only NaNs).
Hypothesis: `hle` — `≤` is reflexive on the non-NaN scalars. -/
theorem tie_co_min [LT α] [DecidableLT α] [LE α] [DecidableLE α] (l : List (Option α)) (hle : ∀ x : α, x ≤ x) :
    Gen.Utils.co_min (α := Nan α) (nan := none) l = .ok (Raster.coMin l) := by
  revert l; intro (l : List (Nan α))
  unfold Gen.Utils.co_min
  simp only []
  rcases l with _ | ⟨x, xs⟩
  · rfl
  · rw [if_neg (by simpa using len_pos_of_ne_nil (List.cons_ne_nil x xs)),
      pickLoop hle (fun a b => a < b) (fun v s => decide (v < s)) (fun _ _ => rfl) (x :: xs) _ (fun _ _ => rfl)]
    rfl

/-- `co_max(tarray)` is the model's `coMax` (`none` = NaN). Hypothesis: `hle`. -/
theorem tie_co_max [LT α] [DecidableLT α] [LE α] [DecidableLE α] (l : List (Option α)) (hle : ∀ x : α, x ≤ x) :
    Gen.Utils.co_max (α := Nan α) (nan := none) l = .ok (Raster.coMax l) := by
  revert l; intro (l : List (Nan α))
  unfold Gen.Utils.co_max
  simp only []
  rcases l with _ | ⟨x, xs⟩
  · rfl
  · rw [if_neg (by simpa using len_pos_of_ne_nil (List.cons_ne_nil x xs)),
      pickLoop hle (fun a b => b < a) (fun v s => decide (s < v)) (fun _ _ => rfl) (x :: xs) _ (fun _ _ => rfl)]
    rfl

theorem foldl_count (l : List (Nan α)) (c : Int) :
    l.foldl (fun (c : Int) (v : Nan α) => match v with | none => c | some _ => c + 1) c = c + (Raster.coCount l : Nat) := by
  induction l generalizing c with
  | nil => simp [Raster.coCount]
  | cons x xs ih =>
    cases x using Nan.casesOn' with
    | nan => exact ih c
    | num a =>
      rw [List.foldl_cons]
      show List.foldl _ (c + 1) xs = c + ((Raster.coCount xs + 1 : Nat) : Int)
      rw [ih]; omega

/-- `co_count(tarray)` is the model's `coCount` (number of non-NaN values), as a Python int. Hypothesis: `hle`. -/
theorem tie_co_count [LE α] [DecidableLE α] (l : List (Option α)) (hle : ∀ x : α, x ≤ x) :
    Gen.Utils.co_count (α := Nan α) l = .ok ((Raster.coCount l : Nat) : Int) := by
  revert l; intro (l : List (Nan α))
  unfold Gen.Utils.co_count
  simp only []
  rw [forList_skipNaN hle l (fun (c : Int) _ => c + 1) _ (fun _ count => .ok (.cont (count + 1))) (fun _ _ => rfl) (fun _ _ => rfl)]
  simp only [Py.bind_ok, foldl_count, Int.zero_add]


/-- the (sum, count) fold of `co_avg` -/
theorem foldl_avg [Add α] (l : List (Nan α)) (s : α) (c : Int) :
    l.foldl (fun (p : Nan α × Int) (v : Nan α) => match v with | none => p | some a => (p.1 + num a, p.2 + 1)) (num s, c)
      = (num (l.foldl (fun s (v : Nan α) => match v with | none => s | some a => s + a) s), c + (Raster.coCount l : Nat)) := by
  induction l generalizing s c with
  | nil => simp [Raster.coCount]
  | cons x xs ih =>
    cases x using Nan.casesOn' with
    | nan => exact ih s c
    | num a =>
      rw [List.foldl_cons, List.foldl_cons]
      show List.foldl _ (num (s + a), c + 1) xs = (_, c + ((Raster.coCount xs + 1 : Nat) : Int))
      rw [ih]; congr 1; omega

/-- `co_avg(tarray)` is the model's `coAvg` (`none` = NaN: empty list or only NaNs); no `ZeroDivisionError`.
Hypotheses: `hle`; `hcast` — converting a non-negative Python int to a float (`IntCast`, what the code does with `count`)
is the model's `NatCast`; `hnz` — a positive count converted to a float is not `== 0` (both true of doubles and of an
ordered field of characteristic 0). -/
theorem tie_co_avg [Add α] [Div α] [OfNat α 0] [IntCast α] [NatCast α] [LE α] [DecidableLE α] (l : List (Option α))
    (hle : ∀ x : α, x ≤ x) (hcast : ∀ n : Nat, ((n : Int) : α) = (n : α))
    (hnz : ∀ n : Nat, n ≠ 0 → ¬ Py.feq (((n : Int) : α)) 0 = true) :
    Gen.Utils.co_avg (α := Nan α) (nan := none) l = .ok (Raster.coAvg l) := by
  revert l; intro (l : List (Nan α))
  unfold Gen.Utils.co_avg
  simp only []
  rw [Nan.zero_eq, forList_skipNaN hle l (fun (p : Nan α × Int) a => (p.1 + num a, p.2 + 1)) _
    (fun val p => .ok (.cont (p.1 + val, p.2 + 1))) (fun _ _ => rfl) (fun _ _ => rfl)]
  simp only [Py.bind_ok, foldl_avg, Int.zero_add]
  unfold Raster.coAvg
  by_cases hnil : l = []
  · subst hnil; rfl
  · have h0 := len_pos_of_ne_nil hnil
    have hl : ¬ @List.length (Option α) l = 0 := fun h => hnil (List.eq_nil_of_length_eq_zero h)
    simp only [h0, decide_false, Bool.false_eq_true, if_false]
    rw [if_neg hl]
    by_cases hc : Raster.coCount l = 0
    · rw [hc]; simp only [Int.natCast_zero, decide_true, if_true]
    · have hc' : ¬ ((Raster.coCount l : Nat) : Int) = 0 := by omega
      simp only [hc', decide_false, Bool.false_eq_true, if_false]
      rw [if_neg hc]
      show Py.bind (if Py.feq (((Raster.coCount l : Nat) : Int) : α) 0 = true then _ else _) _ = _
      rw [if_neg (hnz _ hc)]
      show Except.ok (some (_ / (((Raster.coCount l : Nat) : Int) : α))) = _
      rw [hcast]; rfl

end

section
variable {α : Type}
open Nan

theorem foldl_nonNaN (l : List (Nan α)) (acc : List (Nan α)) :
    l.foldl (fun (acc : List (Nan α)) (v : Nan α) => match v with | none => acc | some a => acc ++ [num a]) acc
      = acc ++ (Raster.nonNaN l).map num := by
  induction l generalizing acc with
  | nil => show acc = acc ++ List.map num []; simp
  | cons x xs ih =>
    cases x using Nan.casesOn' with
    | nan => exact ih acc
    | num a =>
      rw [List.foldl_cons]
      show List.foldl _ (acc ++ [num a]) xs = acc ++ List.map num (a :: Raster.nonNaN xs)
      rw [ih]; simp

theorem innerMin [LE α] [DecidableLE α] {ρ : Type} (body : Nan α → Nan α → M (Ctl (Nan α) ρ))
    (h : ∀ v m, body (num v) (num m) = .ok (.cont (if v ≤ m then num v else num m))) (arr : List α) (a : α) :
    Py.forList body (arr.map num) (num a) = .ok (.done (num (Raster.lastMin a arr))) := by
  induction arr generalizing a with
  | nil => rfl
  | cons x xs ih =>
    rw [List.map_cons, Py.forList_cons_cont (h x a)]
    by_cases hx : x ≤ a
    · rw [if_pos hx, ih]; simp [Raster.lastMin, hx]
    · rw [if_neg hx, ih]; simp [Raster.lastMin, hx]

theorem beq_self [LE α] [DecidableLE α] [BEq α] (hbeq : ∀ a b : α, (a == b) = Py.feq a b) (hle : ∀ x : α, x ≤ x) (m : α) :
    (m == m) = true := by
  rw [hbeq, Py.feq, decide_eq_true (hle m)]; rfl

theorem removeFirst_erase [LE α] [DecidableLE α] [BEq α] (hbeq : ∀ a b : α, (a == b) = Py.feq a b) (hle : ∀ x : α, x ≤ x)
    (arr : List α) (m : α) (hm : m ∈ arr) :
    Py.removeFirst Py.feq (arr.map num) (num m) = .ok ((arr.erase m).map num) := by
  rw [removeFirst_eq_eraseP, if_pos (List.any_eq_true.2 ⟨num m, List.mem_map_of_mem hm, (hbeq m m).symm.trans (beq_self hbeq hle m)⟩),
    List.eraseP_map, List.erase_eq_eraseP']
  exact congrArg (fun p => Except.ok ((arr.eraseP p).map num)) (funext fun a => (hbeq a m).symm)

theorem length_erase [LE α] [DecidableLE α] [BEq α] (hbeq : ∀ a b : α, (a == b) = Py.feq a b) (hle : ∀ x : α, x ≤ x)
    {arr : List α} {m : α} (hm : m ∈ arr) : (arr.erase m).length = arr.length - 1 := by
  rw [List.erase_eq_eraseP']; exact List.length_eraseP_of_mem hm (beq_self hbeq hle m)

/-- what is left of the array after `k` rounds of the selection sort -/
def selRest [LE α] [DecidableLE α] [BEq α] : Nat → List α → List α
  | 0, l => l
  | _ + 1, [] => []
  | k + 1, a :: r => selRest k ((a :: r).erase (Raster.lastMin a (a :: r)))

theorem lastMin_mem_self [LE α] [DecidableLE α] (a : α) (r : List α) : Raster.lastMin a (a :: r) ∈ a :: r :=
  List.foldlRecOn (a :: r) _ List.mem_cons_self fun m hm v hv => by split; exact hv; exact hm

/-- the selection-sort loop of `co_median` (the loop index is not used by the body) -/
theorem sortLoop [LE α] [DecidableLE α] [BEq α] {ρ : Type} (hbeq : ∀ a b : α, (a == b) = Py.feq a b) (hle : ∀ x : α, x ≤ x)
    (body : Int → List (Nan α) × List (Nan α) → M (Ctl (List (Nan α) × List (Nan α)) ρ))
    (h : ∀ i a r tab, body i ((a :: r).map num, tab) =
      .ok (.cont (((a :: r).erase (Raster.lastMin a (a :: r))).map num, tab ++ [num (Raster.lastMin a (a :: r))])))
    (is : List Int) (arr : List α) (tab : List (Nan α)) (hlen : is.length ≤ arr.length) :
    Py.forList body is (arr.map num, tab)
      = .ok (.done ((selRest is.length arr).map num, tab ++ (Raster.selSort is.length arr).map num)) := by
  induction is generalizing arr tab with
  | nil => simp [selRest, Raster.selSort]
  | cons i is ih =>
    cases arr with
    | nil => simp at hlen
    | cons a r =>
      rw [Py.forList_cons_cont (h i a r tab)]
      have hl := length_erase hbeq hle (lastMin_mem_self a r)
      rw [ih _ _ (by simp only [List.length_cons] at hlen hl; omega)]
      simp [selRest, Raster.selSort]

theorem length_selSort [LE α] [DecidableLE α] [BEq α] (hbeq : ∀ a b : α, (a == b) = Py.feq a b) (hle : ∀ x : α, x ≤ x)
    (k : Nat) (arr : List α) (hk : k ≤ arr.length) : (Raster.selSort k arr).length = k := by
  fun_induction Raster.selSort k arr with
  | case1 => rfl
  | case2 => exact nomatch hk
  | case3 k a r m ih =>
    have hl : ((a :: r).erase m).length = _ := length_erase hbeq hle (lastMin_mem_self a r)
    exact congrArg (· + 1) (ih (by simp only [List.length_cons] at hk hl; omega))

theorem length_range0 (n : Nat) : (Py.range 0 (n : Int)).length = n := by
  unfold Py.range; rw [Py.length_rangeFrom]; omega

theorem getIdx_map_num (tab : List α) (k : Nat) (hk : k < tab.length) :
    Py.getIdx (tab.map num) (k : Int) = .ok (num tab[k]) :=
  Py.getIdx_of_getElem? (by simp [hk])

theorem getItem_map_cons (a : α) (r : List α) : Py.getItem ((a :: r).map num) 0 = .ok (num a) := rfl

/-- the middle positions of a list of `n` elements (`n` odd / even), as the code computes them on Python ints -/
theorem odd_mid {n : Nat} (h : n % 2 = 1) :
    (n : Int) % 2 = 1 ∧ (n : Int) - 1 = ((n - 1 : Nat) : Int) ∧ (n - 1) / 2 < n := by omega
theorem even_mid {n : Nat} (h0 : ¬ n = 0) (h : ¬ n % 2 = 1) :
    ¬ (n : Int) % 2 = 1 ∧ n % 2 = 0 ∧ ((n / 2 : Nat) : Int) - 1 = ((n / 2 - 1 : Nat) : Int) ∧ n / 2 < n ∧ n / 2 - 1 < n := by
  omega

/-- `int(x)` on the NaN-extended scalar (`int(nan)` raises in Python; it is never evaluated on a NaN by `co_median`) -/
def truncNan (trunc0 : α → Int) : Nan α → Int
  | some x => trunc0 x
  | none => 0

/-- `co_median(tarray)` is the model's `coMedian` (`none` = NaN); no `IndexError` / `ValueError` (`list.remove`).
`int(·)` on the NaN-extended scalar is `truncNan trunc0` (it is only ever applied to non-NaN values here).
Hypotheses: `hbeq` — the model's `==` (used by `List.erase`) is Python's float `==` (`Py.feq`); `hle` — `≤` reflexive on the
non-NaN scalars (so that `valmin` is found by `remove`); `htr` — `int(float(k) / 2) = k // 2` for a natural `k`;
`htr1` — `int(float(k) / 2 - 1) = k // 2 - 1` for an EVEN natural `k` (for `k = 1` truncation gives `0`, not `-1`; the code
only evaluates it for even `n`); `hhalf` — the literal `0.5` is `1 / 2` (the model writes `1 / 2`). -/
theorem tie_co_median [Add α] [Sub α] [Mul α] [Div α] [LE α] [DecidableLE α] [IntCast α] [OfScientific α] [OfNat α 1] [OfNat α 2]
    [BEq α] (trunc0 : α → Int) (l : List (Option α))
    (hbeq : ∀ a b : α, (a == b) = Py.feq a b) (hle : ∀ x : α, x ≤ x)
    (htr : ∀ k : Nat, trunc0 (((k : Int) : α) / 2) = ((k / 2 : Nat) : Int))
    (htr1 : ∀ k : Nat, k % 2 = 0 → trunc0 (((k : Int) : α) / 2 - 1) = ((k / 2 : Nat) : Int) - 1)
    (hhalf : (0.5 : α) = 1 / 2) :
    Gen.Utils.co_median (α := Nan α) (nan := none) (trunc := truncNan trunc0) l = .ok (Raster.coMedian l) := by
  revert l; intro (l : List (Nan α))
  unfold Gen.Utils.co_median
  simp only []
  rw [forList_skipNaN hle l (fun (acc : List (Nan α)) a => acc ++ [num a]) _ (fun val acc => .ok (.cont (acc ++ [val])))
    (fun _ _ => rfl) (fun _ _ => rfl)]
  simp only [Py.bind_ok, foldl_nonNaN, List.nil_append]
  unfold Raster.coMedian
  by_cases hnil : l = []
  · subst hnil; rfl
  · have h0 := len_pos_of_ne_nil hnil
    have hl : ¬ @List.length (Option α) l = 0 := fun h => hnil (List.eq_nil_of_length_eq_zero h)
    simp only [h0, decide_false, Bool.false_eq_true, if_false]
    rw [if_neg hl]
    generalize Raster.nonNaN l = arr
    clear h0 hl hnil l
    have hlen : Py.len (List.map num arr) = (arr.length : Int) := by simp [Py.len]
    rw [hlen]
    by_cases hn : arr.length = 0
    · simp [hn]
    · have hn' : ¬ (arr.length : Int) = 0 := by omega
      simp only [hn', decide_false, Bool.false_eq_true, if_false]
      rw [if_neg hn]
      have hs : ∀ body : Int → List (Nan α) × List (Nan α) → Py.M (Py.Ctl (List (Nan α) × List (Nan α)) (Nan α)), _ →
          Py.forList body (Py.range 0 (arr.length : Int)) (List.map num arr, []) = _ :=
        fun body h => sortLoop hbeq hle body h (Py.range 0 (arr.length : Int)) arr []
          (by rw [length_range0]; exact Nat.le_refl _)
      rw [hs _ ?spec2]
      case spec2 =>
        intro i a r tab
        simp only [getItem_map_cons, Py.bind_ok]
        have hi : ∀ body' : Nan α → Nan α → Py.M (Py.Ctl (Nan α) (Nan α)), _ →
            Py.forList body' (List.map num (a :: r)) (num a) = _ := fun body' h => innerMin body' h (a :: r) a
        rw [hi _ ?spec3]
        case spec3 =>
          intro v m
          simp only [Nan.le_num]
          by_cases hvm : v ≤ m
          · simp only [hvm, decide_true, if_true]
          · simp only [hvm, decide_false, Bool.false_eq_true, if_false]
        simp only [removeFirst_erase hbeq hle (a :: r) _ (lastMin_mem_self a r), Py.bind_ok]
      simp only [Py.bind_ok, length_range0, List.nil_append]
      clear hs
      have hlen2 := length_selSort hbeq hle arr.length arr (Nat.le_refl _)
      generalize Raster.selSort arr.length arr = tab at hlen2 ⊢
      generalize arr.length = n at *
      rw [Int.fmod_eq_emod_of_nonneg _ (by decide)]
      by_cases hodd : n % 2 = 1
      · obtain ⟨ho, e1, hb⟩ := odd_mid hodd
        have e2 : truncNan trunc0 ((((n : Int) - 1 : Int) : Nan α) / 2) = (((n - 1) / 2 : Nat) : Int) := by
          rw [e1]; exact htr (n - 1)
        replace hb := lt_of_lt_of_eq hb hlen2.symm
        simp only [ho, decide_true, if_true]
        rw [if_pos hodd, e2, getIdx_map_num tab _ hb, Py.bind_ok, List.getElem?_eq_getElem hb]
      · obtain ⟨ho, hev, e1, hb1, hb2⟩ := even_mid hn hodd
        have e2 : truncNan trunc0 (((n : Int) : Nan α) / 2) = ((n / 2 : Nat) : Int) := htr n
        have e3 : truncNan trunc0 (((n : Int) : Nan α) / 2 - 1) = ((n / 2 - 1 : Nat) : Int) :=
          (htr1 n hev).trans e1
        replace hb1 := lt_of_lt_of_eq hb1 hlen2.symm
        replace hb2 := lt_of_lt_of_eq hb2 hlen2.symm
        simp only [ho, decide_false, Bool.false_eq_true, if_false]
        rw [if_neg hodd, e2, e3, getIdx_map_num tab _ hb1, Py.bind_ok, getIdx_map_num tab _ hb2, Py.bind_ok,
          List.getElem?_eq_getElem hb1, List.getElem?_eq_getElem hb2]
        show Except.ok (some ((0.5 : α) * _)) = _
        rw [hhalf]; rfl

end
end TV.Tie.C19
