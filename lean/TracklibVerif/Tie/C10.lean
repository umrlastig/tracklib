import TracklibVerif.Tie.C20
/-! Tie for C10. The map-matching model (`Model/MapMatch`) projects on edge geometries with `TV.Proj.projSegment`
(through `projPolyligne` / `projOnTrack`); the functions of `tracklib/util/geometry.py` it stands for are tied in
`Tie/C20.lean`. This module restates, for C10's audit, the equalities C10 rests on. -/
namespace TV.Tie.C10
open TV TV.Py
section
variable {α : Type} [Add α] [Sub α] [Mul α] [Div α] [Neg α] [LT α] [LE α]
  [DecidableLT α] [DecidableLE α] [OfNat α 0]

/-- the translation of the current `proj_segment` is the model's `projSegment` (all arguments, exceptions included) -/
theorem tie_proj_segment (sqrt : α → α) (x1 y1 x2 y2 x y : α) (rest : List α) :
    Gen.Geometry.proj_segment sqrt (x1 :: y1 :: x2 :: y2 :: rest) x y =
      C20.lift (Proj.projSegment sqrt x1 y1 x2 y2 x y) :=
  C20.tie_proj_segment sqrt x1 y1 x2 y2 x y rest

/-- the translation of the current `projection_droite` is the model's `projectionDroite` -/
theorem tie_projection_droite (sqrt : α → α) (a b c x y : α) (rest : List α) :
    Gen.Geometry.projection_droite sqrt (a :: b :: c :: rest) x y = C20.lift (Proj.projectionDroite sqrt a b c x y) :=
  C20.tie_projection_droite sqrt a b c x y rest

/-- the translation of the current `proj_polyligne` (initial answer `Xp[0], Yp[0], 0`, loop over `range(len(Xp) - 1)`,
sentinel `1e400` = the parameter `inf`, `continue` on a near-zero-length segment, distance to the first vertex when nothing
was kept: the source since the `fix:` commit 563eeba) is the model's `projPolyligneXY` with Python numbers and
`eps = 1e-16`, exceptions included (`IndexError`, `ZeroDivisionError`), on all arguments on which every distance met is
`< inf` (`hinf`), for a sentinel with `d < inf → ¬ d == inf` and `inf == inf`, and `pow v 2 = v * v`; see `Tie/C20.lean`. -/
theorem tie_proj_polyligne [OfScientific α] [OfNat α 2] (inf : α) (sqrt : α → α) (pow : α → α → α) (Xp Yp : List α) (x y : α)
    (hinf : ∀ (j : Nat) (x1 y1 x2 y2 : α) (r : α × α × α), Xp[j]? = some x1 → Yp[j]? = some y1 → Xp[j + 1]? = some x2 →
      Yp[j + 1]? = some y2 → Proj.skipped (1e-16 : α) x1 y1 x2 y2 = false →
      Proj.projSegment sqrt x1 y1 x2 y2 x y = .ok r → r.1 < inf)
    (hne : ∀ d : α, d < inf → Proj.isEq d inf = false) (hii : Proj.isEq inf inf = true) (hpow : ∀ v : α, pow v 2 = v * v) :
    Gen.Geometry.proj_polyligne inf sqrt pow Xp Yp x y =
      C20.liftX ((Proj.projPolyligneXY false sqrt (1e-16 : α) Xp Yp x y).map C20.idx) :=
  C20.tie_proj_polyligne inf sqrt pow Xp Yp x y hinf hne hii hpow

/-- the same on the abscissas / ordinates of a vertex list (an edge geometry, a track): the kernel model `projPolyligne`
the map-matching model projects with — a geometry all of whose vertices coincide included (its first vertex) -/
theorem tie_proj_polyligne_pairs [OfScientific α] [OfNat α 2] (inf : α) (sqrt : α → α) (pow : α → α → α) (pts : List (α × α)) (x y : α)
    (hinf : ∀ (j : Nat) (p1 p2 : α × α) (r : α × α × α), pts[j]? = some p1 → pts[j + 1]? = some p2 →
      Proj.skipped (1e-16 : α) p1.1 p1.2 p2.1 p2.2 = false →
      Proj.projSegment sqrt p1.1 p1.2 p2.1 p2.2 x y = .ok r → r.1 < inf)
    (hne : ∀ d : α, d < inf → Proj.isEq d inf = false) (hii : Proj.isEq inf inf = true) (hpow : ∀ v : α, pow v 2 = v * v) :
    Gen.Geometry.proj_polyligne inf sqrt pow (pts.map Prod.fst) (pts.map Prod.snd) x y =
      C20.lift ((Proj.projPolyligne sqrt (1e-16 : α) pts x y).map C20.idx) :=
  C20.tie_proj_polyligne_pairs inf sqrt pow pts x y hinf hne hii hpow

/-- **exact**: the translation of the current `proj_polyligne` is the SENTINEL-FAITHFUL model `Proj.projPolyligneXYS` (the
sentinel `1e400` = the parameter `inf`, tested `dist < inf` and `distmin == inf` as in the code, `v ** 2` = `pow v 2`) with
Python numbers and `eps = 1e-16`, on ALL arguments, exceptions included (`IndexError`, `ZeroDivisionError`); NO hypothesis.
`Lemmas/ProjSentinel.lean` `Proj.projPolyligneXYS_eq_false` gives `projPolyligneXYS = projPolyligneXY` under the hypotheses
of `tie_proj_polyligne`. -/
theorem tie_proj_polyligne_exact [OfScientific α] [OfNat α 2] (inf : α) (sqrt : α → α) (pow : α → α → α) (Xp Yp : List α) (x y : α) :
    Gen.Geometry.proj_polyligne inf sqrt pow Xp Yp x y =
      C20.liftX ((Proj.projPolyligneXYS false inf sqrt (C20.sqPow pow) (1e-16 : α) Xp Yp x y).map C20.idx) :=
  C20.tie_proj_polyligne_exact inf sqrt pow Xp Yp x y

/-- **exact**, on the abscissas / ordinates of a vertex list (an edge geometry, a track): the sentinel-faithful kernel
model `Proj.projPolyligneS` (`= projPolyligne` under the hypotheses above: `Proj.projPolyligneS_eq`); NO hypothesis -/
theorem tie_proj_polyligne_pairs_exact [OfScientific α] [OfNat α 2] (inf : α) (sqrt : α → α) (pow : α → α → α) (pts : List (α × α)) (x y : α) :
    Gen.Geometry.proj_polyligne inf sqrt pow (pts.map Prod.fst) (pts.map Prod.snd) x y =
      C20.lift ((Proj.projPolyligneS inf sqrt (C20.sqPow pow) (1e-16 : α) pts x y).map C20.idx) :=
  C20.tie_proj_polyligne_pairs_exact inf sqrt pow pts x y

end
end TV.Tie.C10
