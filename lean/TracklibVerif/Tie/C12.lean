import TracklibVerif.Gen.Segmentation
import TracklibVerif.Lemmas.PartitionFront
import TracklibVerif.Lemmas.PyLoops
/-! Translation tie for C12: the D / M tables of `optimalPartition(cost_matrix, mode, verbose)` (tracklib/algo/segmentation.py),
generated as `TV.Gen.Segmentation.optimalPartition_tables`, against the table form of the hand-written model
(`TV.Partition.tables`: `init`, `stepK`, `cellLoop`, `diagLoop`, `fill`).

A numpy table is the list of its rows; `mk F N` is the `N × N` table whose entry `(i, j)` is `F i j`.
Main theorem: `tie_optimalPartition_tables` (and the `mode.toNat` corollary `tie_optimalPartition_tables_toNat`). -/
namespace TV.Tie.C12
open TV TV.Py TV.Partition

def mk {β : Type} (F : Nat → Nat → β) (N : Nat) : List (List β) :=
  (List.range N).map fun i => (List.range N).map (F i)

def Rep {β : Type} (T : List (List β)) (F : Nat → Nat → β) (N : Nat) : Prop := T = mk F N

theorem mk_congr {β : Type} {F G : Nat → Nat → β} {N : Nat} (h : ∀ i, i < N → ∀ j, j < N → F i j = G i j) :
    mk F N = mk G N := by
  unfold mk
  apply List.map_congr_left
  intro i hi
  apply List.map_congr_left
  intro j hj
  exact h i (List.mem_range.mp hi) j (List.mem_range.mp hj)

theorem zeros2_mk {β : Type} (N : Nat) (z : β) : Py.zeros2 (N : Int) (N : Int) z = .ok (mk (fun _ _ => z) N) := by
  unfold Py.zeros2 Py.replicate mk
  rw [if_neg (by omega), Int.toNat_natCast]
  simp only [List.map_const', List.length_range]

theorem zeros2_neg {β : Type} (r c : Int) (z : β) (h : r < 0) : Py.zeros2 r c z = .error .value := by
  unfold Py.zeros2; rw [if_pos (Or.inl h)]

theorem getIdx2_mk {β : Type} (F : Nat → Nat → β) (N i j : Nat) (hi : i < N) (hj : j < N) :
    Py.getIdx2 (mk F N) (i : Int) (j : Int) = .ok (F i j) := by
  unfold Py.getIdx2
  rw [getIdx_natCast, getItem_eq_ok (v := (List.range N).map (F i)) (by simp [mk, hi]), bind_ok, getIdx_natCast,
    getItem_eq_ok (v := F i j) (by simp [hj])]

theorem set_map_range {β : Type} (G : Nat → β) (N j : Nat) (v : β) :
    ((List.range N).map G).set j v = (List.range N).map (fun b => if b = j then v else G b) := by
  refine List.ext_getElem (by simp) fun k h1 h2 => ?_
  simp only [List.getElem_set, List.getElem_map, List.getElem_range]
  exact ite_iff_congr eq_comm _ _

theorem setIdx2_mk {β : Type} (F : Nat → Nat → β) (N i j : Nat) (v : β) (hi : i < N) (hj : j < N) :
    Py.setIdx2 (mk F N) (i : Int) (j : Int) v = .ok (mk (upd F i j v) N) := by
  unfold Py.setIdx2
  rw [getIdx_natCast, getItem_eq_ok (v := (List.range N).map (F i)) (by simp [mk, hi]), bind_ok,
    setIdx_natCast _ _ _ (by simp [hj]), bind_ok, setIdx_natCast _ _ _ (by simp [mk, hi])]
  congr 1
  unfold mk
  rw [set_map_range, set_map_range]
  refine List.map_congr_left fun a _ => ?_
  by_cases ha : a = i
  · subst ha
    rw [if_pos rfl]
    exact List.map_congr_left fun b _ => ite_iff_congr (c := b = j) (d := a = a ∧ b = j) ⟨fun h => ⟨rfl, h⟩, fun h => h.2⟩ _ _
  · rw [if_neg ha]
    exact List.map_congr_left fun b _ => (if_neg fun h => ha h.1).symm

/-- `T[i, j]` on a table given as a list of rows, as a function of two naturals (default `z` out of range) -/
def cmAt {β : Type} (cm : List (List β)) (z : β) (i j : Nat) : β := ((cm[i]?).bind (·[j]?)).getD z

theorem getIdx2_cm {β : Type} (cm : List (List β)) (z : β) (n i j : Nat) (hrow : ∀ r ∈ cm, n ≤ r.length)
    (hi : i < cm.length) (hj : j < n) : Py.getIdx2 cm (i : Int) (j : Int) = .ok (cmAt cm z i j) := by
  have hr : n ≤ (cm[i]).length := hrow _ (List.getElem_mem hi)
  have hj' : j < (cm[i]).length := by omega
  unfold Py.getIdx2 cmAt
  rw [getIdx_natCast, getItem_eq_ok (List.getElem?_eq_getElem hi), bind_ok, getIdx_natCast,
    getItem_eq_ok (List.getElem?_eq_getElem hj')]
  simp [List.getElem?_eq_getElem hi, List.getElem?_eq_getElem hj']

theorem loop_eq_foldl {σ : Type} (lo n : Nat) (body : Nat → σ → σ) (s : σ) :
    loop lo n body s = (List.range' lo n).foldl (fun t x => body x t) s := by
  induction n with
  | zero => rfl
  | succ n ih => rw [List.range'_concat, List.foldl_append, ← ih, Nat.one_mul]; rfl

/-- a generated `for x in range(a, b)` whose body, on encoded states, is the encoded `step` runs the model's `loop` -/
theorem forRange_loop {σ τ ρ : Type} (enc : τ → σ) (body : Int → σ → M (Ctl σ ρ)) (step : Nat → τ → τ)
    (n lo : Nat) (t : τ) (a b : Int) (s : σ) (hs : s = enc t) (ha : a = (lo : Int)) (hn : (b - a).toNat = n)
    (h : ∀ x, lo ≤ x → x < lo + n → ∀ t, body (x : Int) (enc t) = .ok (.cont (enc (step x t)))) :
    forList body (range a b) s = .ok (.done (enc (loop lo n step t))) := by
  subst hs ha
  by_cases hb : (lo : Int) ≤ b
  · obtain ⟨hi, rfl⟩ : ∃ hi : Nat, b = (hi : Int) := ⟨b.toNat, by omega⟩
    rw [loop_eq_foldl]
    exact forRange_foldl (fun _ => enc) body (fun t x => step x t) n lo hi (by omega) (fun x h1 h2 => h x h1 (by omega)) t
  · rw [range_empty (by omega), show n = 0 by omega]; rfl

variable {α : Type}

/-- the generated state `(D, M)`: both tables as lists of rows, `M` holding the model's integers cast to the scalar -/
def enc [IntCast α] (N : Nat) (t : Tabs α) : List (List α) × List (List α) :=
  (mk t.D N, mk (fun a b => ((t.M a b : Int) : α)) N)

@[simp] theorem enc_fst [IntCast α] (N : Nat) (t : Tabs α) : (enc N t).fst = mk t.D N := rfl
@[simp] theorem enc_snd [IntCast α] (N : Nat) (t : Tabs α) : (enc N t).snd = mk (fun a b => ((t.M a b : Int) : α)) N := rfl

theorem upd_cast [IntCast α] (Mt : Nat → Nat → Int) (i j : Nat) (z : Int) :
    upd (fun a b => ((Mt a b : Int) : α)) i j ((z : Int) : α) = fun a b => ((upd Mt i j z a b : Int) : α) := by
  funext a b
  unfold upd
  split <;> rfl

theorem setIdx2_mkM [IntCast α] (Mt : Nat → Nat → Int) (N i j : Nat) (z : Int) (hi : i < N) (hj : j < N) :
    Py.setIdx2 (mk (fun a b => ((Mt a b : Int) : α)) N) (i : Int) (j : Int) ((z : Int) : α)
      = .ok (mk (fun a b => ((upd Mt i j z a b : Int) : α)) N) := by
  rw [setIdx2_mk _ _ _ _ _ hi hj, upd_cast]

/-- `forRange_loop` with the state written as the pair `(D, M)` the generated loops hold (`rw` does not find `enc N t` in it) -/
theorem forRange_tabs [IntCast α] {ρ : Type} (N : Nat) (body : Int → List (List α) × List (List α) → M (Ctl (List (List α) × List (List α)) ρ))
    (step : Nat → Tabs α → Tabs α) (lo n : Nat) (a b : Int) (t : Tabs α) (ha : a = (lo : Int)) (hn : (b - a).toNat = n)
    (h : ∀ x, lo ≤ x → x < lo + n → ∀ t, body (x : Int) (enc N t) = .ok (.cont (enc N (step x t)))) :
    forList body (range a b) (mk t.D N, mk (fun a b => ((t.M a b : Int) : α)) N) = .ok (.done (enc N (loop lo n step t))) :=
  forRange_loop (enc N) body step n lo t a b _ rfl ha hn h

/-- `D[i,j] = C[i,j]; M[i,j] = -1` -/
def initCell (C : Nat → Nat → α) (i j : Nat) (t : Tabs α) : Tabs α := ⟨upd t.D i j (C i j), upd t.M i j (-1)⟩
/-- `for j in range(i, N): …` -/
def initRow (N : Nat) (C : Nat → Nat → α) (i : Nat) (t : Tabs α) : Tabs α := loop i (N - i) (initCell C i) t
/-- `D = zeros; M = zeros; for i in range(N): for j in range(i, N): …` -/
def initL (zero : α) (N : Nat) (C : Nat → Nat → α) : Tabs α := loop 0 N (initRow N C) ⟨fun _ _ => zero, fun _ _ => 0⟩

theorem loop_tabs (lo n : Nat) (f : Nat → (Nat → Nat → α) → Nat → Nat → α) (g : Nat → (Nat → Nat → Int) → Nat → Nat → Int)
    (t : Tabs α) : loop lo n (fun x t => ⟨f x t.D, g x t.M⟩) t = ⟨loop lo n f t.D, loop lo n g t.M⟩ := by
  induction n with
  | zero => rfl
  | succ n ih => simp only [loop, ih]

theorem initL_eq (zero : α) (N : Nat) (C : Nat → Nat → α) : initL zero N C = init zero N C := by
  have row : initRow N C = fun i t => ⟨loop i (N - i) (fun j D => upd D i j (C i j)) t.D,
      loop i (N - i) (fun j M => upd M i j (-1)) t.M⟩ := by
    funext i t; exact loop_tabs i (N - i) (fun j D => upd D i j (C i j)) (fun j M => upd M i j (-1)) t
  unfold initL init
  rw [row, loop_tabs 0 N (fun i D => loop i (N - i) (fun j D => upd D i j (C i j)) D)
    (fun i M => loop i (N - i) (fun j M => upd M i j (-1)) M)]
  congr 1 <;> funext a b
  · rw [rows_write _ (fun i => i) N C]; exact ite_iff_congr (by omega) _ _
  · rw [rows_write _ (fun i => i) N (fun _ _ => (-1 : Int))]; exact ite_iff_congr (by omega) _ _

/-- MAIN TIE. For a cost matrix with `rows ≥ 1` rows, each of length `≥ rows − 1` (`N = rows − 1`; a square matrix
qualifies), any `verbose`, any int `mode` and any model mode `m` with `mode = 0 ↔ m = 0`, `mode = 1 ↔ m = 1`: the generated
`optimalPartition_tables` never raises and returns the `N × N` table of the model's `(tables 0 rows C m).M`, cast to the
scalar, `C i j` being `cost_matrix[i][j]`. Scalar hypotheses: `((0 : Int) : α) = 0`, `((-1 : Int) : α) = -(1 : α)`. -/
theorem tie_optimalPartition_tables [Add α] [Neg α] [LT α] [DecidableLT α] [IntCast α] [OfNat α 0] [OfNat α 1]
    (hc0 : ((0 : Int) : α) = (0 : α)) (hcm1 : ((-1 : Int) : α) = -(1 : α))
    (cost_matrix : List (List α)) (mode : Int) (verbose : Bool) (rows : Nat) (hrows : 1 ≤ rows)
    (hlen : cost_matrix.length = rows) (hrow : ∀ r ∈ cost_matrix, rows - 1 ≤ r.length)
    (m : Nat) (hm0 : mode = 0 ↔ m = 0) (hm1 : mode = 1 ↔ m = 1) :
    Gen.Segmentation.optimalPartition_tables cost_matrix mode verbose
      = .ok (mk (fun i j => (((tables (0 : α) rows (cmAt cost_matrix 0) m).M i j : Int) : α)) (rows - 1)) := by
  unfold Gen.Segmentation.optimalPartition_tables
  simp only []
  have hN : Py.len cost_matrix - 1 = ((rows - 1 : Nat) : Int) := by unfold Py.len; omega
  rw [hN]
  unfold tables
  generalize hNN : rows - 1 = N at *
  have hlen' : N < cost_matrix.length := by omega
  rw [zeros2_mk, bind_ok, bind_ok]
  have hz : (mk (fun _ _ => (0 : α)) N, mk (fun _ _ => (0 : α)) N) = enc N ⟨fun _ _ => (0 : α), fun _ _ => 0⟩ := by
    unfold enc; simp only [hc0]
  -- the initialisation loops, against the loop form `initL` of the model's `init`
  rw [← initL_eq, initL, forRange_loop (enc N) _ (initRow N (cmAt cost_matrix 0)) N 0 _ 0 N _ hz rfl (by omega) ?specInit]
  case specInit =>
    intro x _ hx t
    have hx : x < N := by omega
    simp only [enc_fst, enc_snd]
    rw [forRange_tabs N _ (initCell (cmAt cost_matrix 0) x) x (N - x) x N t rfl (by omega) ?specRow]
    case specRow =>
      intro j hxj hj t
      have hj : j < N := by omega
      simp only [enc_fst, enc_snd]
      rw [getIdx2_cm cost_matrix 0 N x j hrow (by omega) hj, bind_ok, setIdx2_mk _ N x j _ hx hj, bind_ok, ← hcm1,
        setIdx2_mkM _ N x j _ hx hj, bind_ok]
      rfl
    simp only [bind_ok, enc_fst, enc_snd]
    rfl
  simp only [bind_ok, ite_self, enc_fst, enc_snd]
  -- the dynamic programme
  generalize loop 0 N (initRow N (cmAt cost_matrix 0)) _ = t0
  rw [forRange_tabs N _ (diagLoop m N) 2 (N - 2) 2 N t0 rfl (by omega) ?specFill]
  case specFill =>
    intro d _ _ t
    simp only [enc_fst, enc_snd]
    rw [forRange_tabs N _ (fun i => cellLoop m i (i + d)) 0 (N - d) 0 _ t rfl (by omega) ?specDiag]
    case specDiag =>
      intro i _ hi t
      have hi : i + d < N := by omega
      simp only [enc_fst, enc_snd, ← Int.natCast_add]
      rw [forRange_tabs N _ (stepK m i (i + d)) (i + 1) (i + d - (i + 1)) _ _ t (by omega) (by omega) ?specCell]
      case specCell =>
        intro k hik hkj t
        have hiN : i < N := by omega
        have hkN : k < N := by omega
        simp only [enc_fst, enc_snd, getIdx2_mk _ N i k hiN hkN, getIdx2_mk _ N k (i + d) hkN hi,
          getIdx2_mk _ N i (i + d) hiN hi, setIdx2_mk _ N i (i + d) _ hiN hi, bind_ok, upd_cast]
        have e0 : decide (mode = 0) = decide (m = 0) := decide_eq_decide.mpr hm0
        have e1 : decide (mode = 1) = decide (m = 1) := decide_eq_decide.mpr hm1
        rw [e0, e1]
        unfold stepK enc
        simp only []
        by_cases c0 : m = 0
        · have c1 : ¬ m = 1 := by omega
          by_cases ca : t.D i k + t.D k (i + d) < t.D i (i + d)
          · simp [c0, ca]
          · simp [c0, ca]
        · by_cases c1 : m = 1
          · by_cases cb : t.D i (i + d) < t.D i k + t.D k (i + d)
            · simp [c1, cb]
            · simp [c1, cb]
          · simp [c0, c1]
      simp only [bind_ok, enc_fst, enc_snd]
      rfl
    simp only [bind_ok, enc_fst, enc_snd]
    rfl
  simp only [bind_ok, enc_snd]
  rfl

/-- The tie in the explicit list form, for a non-negative `mode` (the model's mode is `mode.toNat`): the generated
`optimalPartition_tables` never raises on a matrix with `rows ≥ 1` rows, each of length `≥ rows − 1`, and returns the
`(rows−1) × (rows−1)` table whose entry `(i, j)` is the model's `M i j` cast to the scalar.
Hypotheses on the scalar: `((0 : Int) : α) = 0` and `((-1 : Int) : α) = -(1 : α)` (the int-to-float conversion agrees with the
literals; true for IEEE doubles and for ordered fields). -/
theorem tie_optimalPartition_tables_toNat [Add α] [Neg α] [LT α] [DecidableLT α] [IntCast α] [OfNat α 0] [OfNat α 1]
    (hc0 : ((0 : Int) : α) = (0 : α)) (hcm1 : ((-1 : Int) : α) = -(1 : α))
    (cost_matrix : List (List α)) (mode : Int) (verbose : Bool) (rows : Nat) (hrows : 1 ≤ rows)
    (hlen : cost_matrix.length = rows) (hrow : ∀ r ∈ cost_matrix, rows - 1 ≤ r.length) (hmode : 0 ≤ mode) :
    Gen.Segmentation.optimalPartition_tables cost_matrix mode verbose
      = .ok ((List.range (rows - 1)).map (fun i => (List.range (rows - 1)).map (fun j =>
          (((tables (0 : α) rows (fun i j => ((cost_matrix[i]?).bind (·[j]?)).getD 0) mode.toNat).M i j : Int) : α)))) :=
  tie_optimalPartition_tables hc0 hcm1 cost_matrix mode verbose rows hrows hlen hrow mode.toNat (by omega) (by omega)

/-- The tie for EVERY int `mode`: only `mode == 0` / `mode == 1` matter (any other value, negative ones included, behaves
as the model's mode 2: no cell is ever updated). -/
theorem tie_optimalPartition_tables_anyMode [Add α] [Neg α] [LT α] [DecidableLT α] [IntCast α] [OfNat α 0] [OfNat α 1]
    (hc0 : ((0 : Int) : α) = (0 : α)) (hcm1 : ((-1 : Int) : α) = -(1 : α))
    (cost_matrix : List (List α)) (mode : Int) (verbose : Bool) (rows : Nat) (hrows : 1 ≤ rows)
    (hlen : cost_matrix.length = rows) (hrow : ∀ r ∈ cost_matrix, rows - 1 ≤ r.length) :
    Gen.Segmentation.optimalPartition_tables cost_matrix mode verbose
      = .ok (mk (fun i j => (((tables (0 : α) rows (cmAt cost_matrix 0)
          (if mode = 0 then 0 else if mode = 1 then 1 else 2)).M i j : Int) : α)) (rows - 1)) :=
  tie_optimalPartition_tables hc0 hcm1 cost_matrix mode verbose rows hrows hlen hrow _
    (by by_cases h0 : mode = 0 <;> by_cases h1 : mode = 1 <;> simp [h0, h1])
    (by by_cases h0 : mode = 0 <;> by_cases h1 : mode = 1 <;> simp [h0, h1] <;> omega)

/-- error correspondence: an empty cost matrix (`N = −1`) raises ValueError in `np.zeros((N, N))` -/
theorem tie_optimalPartition_tables_empty [Add α] [Neg α] [LT α] [DecidableLT α] [IntCast α] [OfNat α 0] [OfNat α 1]
    (mode : Int) (verbose : Bool) :
    Gen.Segmentation.optimalPartition_tables ([] : List (List α)) mode verbose = .error .value := by
  unfold Gen.Segmentation.optimalPartition_tables
  simp only []
  rw [zeros2_neg _ _ _ (by unfold Py.len; simp), bind_error]

end TV.Tie.C12
