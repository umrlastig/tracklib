import TracklibVerif.Gen.Segmentation
import TracklibVerif.Lemmas.SplitVal
import TracklibVerif.Lemmas.PyLoops
/-! Translation tie for C11: `segmentation()` of tracklib/algo/segmentation.py.

`TV.Gen.Segmentation.segmentation` (generated by tools/py2lean.py from /repo's current source) is the write log
`[(i, 1 or 0)]` of `track.setObsAnalyticalFeature(af_output, i, ·)`, the tested features being seen as their columns
(`track.getObsAnalyticalFeature(af, i)` = `Py.getIdx column i`). It is tied here to the hand-written model
`TV.Split.markersG` (`Model/SplitVal.lean`) with `isnan` = `number != number` and `<=` = the scalar's `≤` (which never
raises), and to the numeric special case `TV.Split.markers` (`Model/Split.lean`). Nothing of the generated text is
copied: the loop lemmas are stated for an arbitrary body satisfying a pointwise equation. -/
namespace TV.Tie.C11
open TV TV.Py TV.Split
section
variable {α : Type} [LE α] [DecidableLE α]

/-- `utils.isnan(v)`: `v != v` with the translator's float `==` -/
def isnanF (v : α) : Bool := !Py.feq v v

/-- `v <= th` on scalars: never raises -/
def leF (a b : α) : Except String Bool := .ok (decide (a ≤ b))

/-- the tested values of observation `i` (one per column, in the order of `afs_input`), for `i < n`; an entry is `none`
only where a column is shorter than `i + 1` (never, under the hypothesis of the tie) -/
def rows (n : Nat) (afs : List (List α)) : List (List (Option α)) :=
  (List.range n).map (fun i => afs.map (fun c => c[i]?))

/-- the write log of the markers `bs`, the first one being written at index `k` -/
def logFrom : Nat → List Bool → List (Int × Int)
  | _, [] => []
  | k, b :: bs => ((k : Int), if b then 1 else 0) :: logFrom (k + 1) bs

/-- the model's result as the generated definition renders it: the markers as the log of writes `(i, 1 / 0)`; the model's
error (only `"index"` occurs here: `markersG_error`) as `IndexError` -/
def lift : Except String (List Bool) → Py.M (List (Int × Int))
  | .ok bs => .ok (logFrom 0 bs)
  | .error _ => .error .index

theorem logFrom_eq_zipIdx (bs : List Bool) (k : Nat) :
    logFrom k bs = (bs.zipIdx k).map (fun p => ((p.2 : Int), if p.1 then 1 else 0)) := by
  induction bs generalizing k with
  | nil => rfl
  | cons b bs ih => simp only [logFrom, List.zipIdx_cons, List.map_cons, ih]

theorem lift_ok (bs : List Bool) :
    lift (.ok bs) = .ok (bs.zipIdx.map (fun p => ((p.2 : Int), if p.1 then 1 else 0))) := by
  simp only [lift, logFrom_eq_zipIdx]

theorem length_logFrom (bs : List Bool) (k : Nat) : (logFrom k bs).length = bs.length := by
  rw [logFrom_eq_zipIdx, List.length_map, List.length_zipIdx]

def liftB {ρ : Type} : Except String Bool → Py.M (Py.Out Bool ρ)
  | .ok b => .ok (.done b)
  | .error _ => .error .index

/-- a `for` over `enumerate(cols)` (from position `k`) whose body, on a column that has an item `i`, skips a NaN, raises
`IndexError` where the model's `threshold` says `none` and otherwise folds `v ≤ th` into the accumulator with `and` / `or`,
is the model's `foldCmpG` on the items `i` of the columns -/
theorem inner_tie {ρ : Type} (fmax : α) (andMode : Bool) (ths : List α) (i : Nat)
    (body : Int × List α → Bool → Py.M (Py.Ctl Bool ρ)) (cols : List (List α))
    (h : ∀ (idx : Nat) (c : List α) (v : α) (acc : Bool), c ∈ cols → c[i]? = some v →
      body ((idx : Int), c) acc =
        if isnanF v then .ok (.cont acc)
        else match threshold fmax ths idx with
          | none => .error .index
          | some th => .ok (.cont (if andMode then acc && decide (v ≤ th) else acc || decide (v ≤ th))))
    (hlen : ∀ c ∈ cols, i < c.length) (k : Nat) (acc : Bool) :
    Py.forList body (Py.enumFrom (k : Int) cols) acc =
      liftB (foldCmpG isnanF leF fmax andMode ths k (cols.map (fun c => c[i]?)) acc) := by
  induction cols generalizing k acc with
  | nil => rfl
  | cons c cs ih =>
    have hi : i < c.length := hlen c List.mem_cons_self
    have hv : c[i]? = some c[i] := List.getElem?_eq_getElem hi
    have ih' := fun k acc => ih (fun idx c' v acc hc => h idx c' v acc (List.mem_cons_of_mem c hc))
      (fun c' hc => hlen c' (List.mem_cons_of_mem c hc)) k acc
    have hk : (k : Int) + 1 = ((k + 1 : Nat) : Int) := rfl
    have hb := h k c c[i] acc List.mem_cons_self hv
    rw [Py.enumFrom, List.map_cons, hv, hk]
    by_cases hn : isnanF c[i] = true
    · rw [if_pos hn] at hb
      rw [forList_cons_cont hb, foldCmpG_skip _ _ _ _ _ _ _ _ _ (fun _ h => Option.some.inj h ▸ hn)]
      exact ih' _ _
    · rw [if_neg hn] at hb
      cases ht : threshold fmax ths k with
      | none =>
        rw [ht] at hb
        rw [forList_cons_error hb, foldCmpG, if_neg hn, ht]
        rfl
      | some th =>
        rw [ht] at hb
        rw [forList_cons_cont hb, ih', foldCmpG_cmp _ _ _ _ _ _ _ (eq_false_of_ne_true hn) ht rfl]

/-- a `for` over `range(k, n)` whose body appends `(i, 1 / 0)` for the model's marker of row `rs i` (and raises
`IndexError` where the model fails) is the model's `markersG` on the rows `k .. n-1` -/
theorem outer_tie (fmax : α) (andMode : Bool) (ths : List α) (rs : Nat → List (Option α)) (n : Nat)
    (body : Int → List (Int × Int) → Py.M (Py.Ctl (List (Int × Int)) (List (Int × Int))))
    (h : ∀ (i : Nat) (log : List (Int × Int)), i < n →
      body (i : Int) log =
        match markerG isnanF leF fmax andMode ths (rs i) with
        | .error _ => .error .index
        | .ok b => .ok (.cont (log ++ [((i : Int), if b then 1 else 0)])))
    (m k : Nat) (hk : k + m = n) (log : List (Int × Int)) :
    Py.forList body (Py.range (k : Int) (n : Int)) log =
      match markersG isnanF leF fmax andMode ths ((List.range' k m).map rs) with
      | .error _ => .error .index
      | .ok bs => .ok (.done (log ++ logFrom k bs)) := by
  rw [forRange_nat body k m n hk]
  induction m generalizing k log with
  | zero => simp only [List.range'_zero, List.map_nil, markersG, logFrom, List.append_nil, forList_nil]
  | succ m ih =>
    rw [List.range'_succ, List.map_cons, markersG]
    have hb := h k log (hk ▸ Nat.lt_add_of_pos_right (Nat.succ_pos m))
    cases hm : markerG isnanF leF fmax andMode ths (rs k) with
    | error e =>
      rw [hm] at hb
      rw [forList_cons_error (body := fun (i : Nat) => body (i : Int)) hb]
    | ok b =>
      rw [hm] at hb
      rw [forList_cons_cont (body := fun (i : Nat) => body (i : Int)) hb, ih (k + 1) ((Nat.add_right_comm k 1 m).trans hk)]
      cases markersG isnanF leF fmax andMode ths ((List.range' (k + 1) m).map rs) with
      | error e => rfl
      | ok bs => simp only [logFrom, List.append_assoc, List.singleton_append]

/-- **`segmentation()`, all arguments** (every scalar type with a decidable `≤`, every mode, any thresholds, any number of
tested features and observations), hypothesis: every tested column has one value per observation (`track.size()` values —
what `getObsAnalyticalFeature` guarantees). The write log of the generated definition is the model's `markersG` (with
`isnan(v)` = `v != v`, `<=` = the scalar's, which never raises) on the rows of the columns, exceptions included: the
`IndexError` of `thresholds_max[index]` when `index == len(thresholds_max)` on a non-NaN value. -/
theorem tie_segmentation (fmax : α) (n : Nat) (afs : List (List α)) (ths : List α) (mode : Int)
    (hlen : ∀ c ∈ afs, c.length = n) :
    Gen.Segmentation.segmentation fmax (n : Int) afs ths mode =
      lift (markersG isnanF leF fmax (decide (mode = 1)) ths (rows n afs)) := by
  unfold Gen.Segmentation.segmentation
  dsimp only
  have ho : ∀ body : Int → List (Int × Int) → Py.M (Py.Ctl (List (Int × Int)) (List (Int × Int))), _ →
      Py.forList body (Py.range (0 : Int) (n : Int)) [] = _ :=
    fun body h => outer_tie fmax (decide (mode = 1)) ths (fun i => afs.map (fun c => c[i]?)) n body h n 0 (Nat.zero_add n) []
  rw [ho _ ?spec]
  case spec =>
    intro i log hi
    have hc : (if (decide (mode = (1 : Int))) = true then (.ok true : Py.M Bool) else .ok false)
        = .ok (decide (mode = 1)) := by
      by_cases h1 : mode = 1 <;> simp [h1]
    rw [hc, bind_ok]
    have hin : ∀ body : Int × List α → Bool → Py.M (Py.Ctl Bool (List (Int × Int))), _ →
        Py.forList body (Py.enumerate afs) (decide (mode = 1)) = _ :=
      fun body h => inner_tie fmax (decide (mode = 1)) ths i body afs h (fun c hc => by rw [hlen c hc]; exact hi) 0
        (decide (mode = 1))
    rw [hin _ ?ispec]
    case ispec =>
      intro idx c v acc hc hv
      simp only [getIdx_natCast, getItem_eq_ok hv, bind_ok, Gen.Utils.isnan, Bool.true_and, isnanF, threshold, Py.len,
        Bool.not_not, ← apply_ite (fun x => (Except.ok (Ctl.cont x) : Py.M (Ctl Bool (List (Int × Int))))),
        Int.ofNat_le, decide_eq_true_eq, ge_iff_le]
      cases Py.feq v v
      · rfl
      · by_cases hle : idx ≤ ths.length
        · simp only [Bool.not_true, Bool.false_eq_true, if_pos hle, if_true, if_false, getItem]
          cases ths[idx]? <;> rfl
        · simp only [Bool.not_true, Bool.false_eq_true, if_neg hle, if_true, if_false]
    unfold markerG
    cases foldCmpG isnanF leF fmax (decide (mode = 1)) ths 0 (List.map (fun c => c[i]?) afs) (decide (mode = 1)) with
    | error e => rfl
    | ok r => cases r <;> rfl
  unfold rows
  rw [List.range_eq_range']
  cases markersG isnanF leF fmax (decide (mode = 1)) ths
      (List.map (fun i => List.map (fun c => c[i]?) afs) (List.range' 0 n)) with
  | error e => rfl
  | ok bs => simp only [bind_ok, lift, List.nil_append]

theorem tie_segmentation_ok (fmax : α) (n : Nat) (afs : List (List α)) (ths : List α) (mode : Int)
    (hlen : ∀ c ∈ afs, c.length = n) (bs : List Bool)
    (h : markersG isnanF leF fmax (decide (mode = 1)) ths (rows n afs) = .ok bs) :
    Gen.Segmentation.segmentation fmax (n : Int) afs ths mode =
      .ok (bs.zipIdx.map (fun p => ((p.2 : Int), if p.1 then 1 else 0))) := by
  rw [tie_segmentation fmax n afs ths mode hlen, h, lift_ok]

/-- a tested value as the numeric model sees it: `none` where `isnan` says NaN -/
def clean (isnan : α → Bool) (o : Option α) : Option α := o.bind (fun v => if isnan v then none else some v)

/-- the numeric model's result in the error type of `markersG` -/
def ofOpt {β : Type} : Option β → Except String β
  | none => .error "index"
  | some b => .ok b

theorem markersG_eq_markers (isnan : α → Bool) (fmax : α) (andMode : Bool) (ths : List α) (rs : List (List (Option α))) :
    markersG isnan leF fmax andMode ths rs = ofOpt (markers fmax andMode ths (rs.map (fun r => r.map (clean isnan)))) :=
  markersG_num isnan fmax andMode ths rs

/-- the only error of `markersG` with a `<=` that never raises is `"index"` (so `lift` loses nothing) -/
theorem markersG_error (isnan : α → Bool) (fmax : α) (andMode : Bool) (ths : List α) (rs : List (List (Option α)))
    (e : String) (h : markersG isnan leF fmax andMode ths rs = .error e) : e = "index" := by
  rw [markersG_eq_markers] at h
  cases hm : markers fmax andMode ths (rs.map (fun r => r.map (clean isnan))) with
  | none => rw [hm] at h; exact (Except.error.inj h).symm
  | some bs => rw [hm] at h; exact nomatch h

/-- the rows of the numeric model: the item `i` of every column, `none` where it is a NaN (`v != v`) -/
def rowsN (n : Nat) (afs : List (List α)) : List (List (Option α)) :=
  (List.range n).map (fun i => afs.map (fun c => (c[i]?).bind (fun v => if isnanF v then none else some v)))

/-- **`segmentation()` against the numeric model `TV.Split.markers`** (`Model/Split.lean`), all arguments, same hypothesis
as `tie_segmentation`: the write log is `(i, 1 / 0)` for the model's markers, `IndexError` exactly where the model says `none` -/
theorem tie_segmentation_markers (fmax : α) (n : Nat) (afs : List (List α)) (ths : List α) (mode : Int)
    (hlen : ∀ c ∈ afs, c.length = n) :
    Gen.Segmentation.segmentation fmax (n : Int) afs ths mode =
      match markers fmax (decide (mode = 1)) ths (rowsN n afs) with
      | none => .error .index
      | some bs => .ok (bs.zipIdx.map (fun p => ((p.2 : Int), if p.1 then 1 else 0))) := by
  rw [tie_segmentation fmax n afs ths mode hlen, markersG_eq_markers]
  have hr : (rows n afs).map (fun r => r.map (clean isnanF)) = rowsN n afs := by
    simp only [rows, rowsN, List.map_map, Function.comp_def, clean]
  rw [hr]
  cases markers fmax (decide (mode = 1)) ths (rowsN n afs) with
  | none => rfl
  | some bs => exact lift_ok bs
end
end TV.Tie.C11
