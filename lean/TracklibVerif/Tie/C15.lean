import TracklibVerif.Model.Filter
import TracklibVerif.Gen.Kernel
import TracklibVerif.Lemmas.PyLoops
import Mathlib.Algebra.Order.Field.Basic
/-! Tie for C15 (kernel part): `Kernel.evaluate` and `Kernel.toSlidingWindow` of `tracklib/core/kernel.py` translated from the
CURRENT source (tools/py2lean.py → `Gen/Kernel.lean`) against the hand-written model `Model/Filter.lean`, section `kernel`.

* `tie_evaluate` — `Kernel.evaluate(x)` = `Filter.evaluate f support x`, under the hypothesis that `abs(x) <= support` has the
  same truth value with Python's `abs` (`Py.fabs`) and with the model's `absv`; `fabs_le_iff_field`: the hypothesis holds in every
  ordered field (there `Py.fabs = absv`, `fabs_eq_absv_field`). At IEEE doubles the two differ only in the sign of zero
  (`abs(-0.0)` is `0.0`, `absv (-0.0)` is `-0.0`) and on no comparison.
* `tie_toSlidingWindow` — `Kernel.toSlidingWindow()` (`raise KernelError` on `support < 1`, the sampling loop writing `values[i]`
  and accumulating `norm`, the normalisation loop `values[i] /= norm`) = `lift (Filter.slidingWindow f support S)` with
  `S = int(self.support) ≥ 0`: equality on every result, errors included (`lift`: `support ↦ raised`, `zeroDiv ↦ ZeroDivisionError`);
  `slidingWindow_error`: the model raises no other error; `tie_toSlidingWindow_field`: the same in an ordered field, where only
  the reading of the literals `2.0`, `0.5` remains a hypothesis.

The loop lemmas (`loop1_tie0`, `loop2_tie0`: instances of `forRange_foldl`; `loop2_err`) are stated for an arbitrary body satisfying a
pointwise equation; the equation is then proved of the generated body, so nothing of the generated text is copied here. -/
namespace TV.Tie.C15
open TV TV.Py
set_option linter.unusedSectionVars false
set_option linter.unusedSimpArgs false

section prelude
variable {β : Type}

theorem getIdx_cons_zero (x : β) (post : List β) : Py.getIdx (x :: post) (0 : Int) = .ok x :=
  getIdx_append_cons [] x post
end prelude

section evaluate
variable {α : Type} [Sub α] [Mul α] [Neg α] [LT α] [LE α] [DecidableLT α] [DecidableLE α] [OfNat α 0] [OfNat α 1]

/-- `Kernel.evaluate(x)` returns the model's `evaluate f support x` (and never raises), provided `abs(x) <= support` has the same
truth value for Python's `abs` (`Py.fabs x = if 0 < x then x else 0 - x`) and for the model's `absv x = if x < 0 then -x else x`.
True in every ordered field (`fabs_le_iff_field`); at IEEE doubles `abs(-0.0)` is `0.0` for Python and `-0.0` for `absv` (and NaN
stays NaN for both), which no comparison with `support` distinguishes. The bool-times-float `f(x) * (abs(x) <= support)` of the
source and the model's `f x * ind (…)` unfold to the same term. -/
theorem tie_evaluate (support : α) (f : α → α) (x : α)
    (h : decide (Py.fabs x ≤ support) = decide (Filter.absv x ≤ support)) :
    Gen.Kernel.Kernel_evaluate support f x = .ok (Filter.evaluate f support x) := by
  unfold Gen.Kernel.Kernel_evaluate Filter.evaluate Filter.ind
  simp only [Py.bind_ok]      -- also when the lambda's parameter has another name than the argument (`Py.bind (.ok x) fun u => …`)
  rw [h]
  by_cases hc : Filter.absv x ≤ support
  · simp only [hc, decide_true, if_true]
  · simp only [hc, decide_false, if_false, Bool.false_eq_true]
end evaluate

section field
variable {α : Type} [Field α] [LinearOrder α] [IsStrictOrderedRing α]

theorem fabs_eq_absv_field (x : α) : Py.fabs x = Filter.absv x := by
  unfold Py.fabs Filter.absv
  by_cases h1 : 0 < x
  · rw [if_pos h1, if_neg (not_lt.mpr h1.le)]
  · rw [if_neg h1, zero_sub]
    by_cases h2 : x < 0
    · rw [if_pos h2]
    · rw [if_neg h2]
      have : x = 0 := le_antisymm (not_lt.mp h1) (not_lt.mp h2)
      rw [this, neg_zero]

theorem fabs_le_iff_field (x s : α) : decide (Py.fabs x ≤ s) = decide (Filter.absv x ≤ s) := by
  rw [fabs_eq_absv_field]
end field

section window
variable {α : Type} [Add α] [Sub α] [Mul α] [Div α] [Neg α] [LT α] [LE α] [DecidableLT α] [DecidableLE α]
  [OfNat α 0] [OfNat α 1] [NatCast α] [IntCast α] [OfScientific α]

/-- the model's errors as Python exceptions: `support` is the `raise KernelError`, `zeroDiv` the `ZeroDivisionError` of
`values[i] /= norm`; `slidingWindow` produces no other error (`slidingWindow_error`) -/
def lift : Except Filter.Err (List α) → Py.M (List α)
  | .ok w => .ok w
  | .error .support => .error .raised
  | .error .zeroDiv => .error .zerodiv
  | .error _ => .error .type

theorem slidingWindow_error [BEq α] (f : α → α) (support : α) (S : Nat) (e : Filter.Err)
    (h : Filter.slidingWindow f support S = .error e) : e = .support ∨ e = .zeroDiv := by
  unfold Filter.slidingWindow at h
  simp only [] at h
  split at h
  · left; injection h with h; exact h.symm
  · split at h
    · right; injection h with h; exact h.symm
    · exact nomatch h

/-- first loop (`values[i] = self.evaluate(x); norm += values[i]`), for an arbitrary body that at position `k = len(pre) < N`
overwrites item `k` with `g k` and adds `g k` to the accumulator: `[0]*N` becomes `[g 0, …, g (N-1)]`, the accumulator their
left-to-right sum (`forRange_foldl`: after `i` rounds the state is `[g 0, …, g (i-1)] ++ [0]*(N-i)`) -/
theorem loop1_tie0 {ρ : Type} (g : Nat → α) (N : Nat) (body : Int → List α × α → Py.M (Py.Ctl (List α × α) ρ))
    (h : ∀ (pre : List α) (x : α) (post : List α) (nrm : α), pre.length < N →
      body (pre.length : Int) (pre ++ x :: post, nrm) = .ok (.cont (pre ++ g pre.length :: post, nrm + g pre.length)))
    (nrm : α) :
    Py.forList body (Py.range (0 : Int) (N : Int)) (List.replicate N (0 : α), nrm)
      = .ok (.done ((List.range N).map g, ((List.range N).map g).foldl (· + ·) nrm)) := by
  have := forRange_foldl (fun i (s : α) => ((List.range i).map g ++ List.replicate (N - i) 0, s)) body (fun s i => s + g i) N 0 N
    (by omega)
    (fun i _ hi s => by
      have hb := h ((List.range i).map g) 0 (List.replicate (N - (i + 1)) 0) s (by simpa using hi)
      rw [List.length_map, List.length_range] at hb
      rw [show N - i = (N - (i + 1)) + 1 by omega, List.replicate_succ, hb, List.range_succ, List.map_append, List.append_assoc]
      rfl) nrm
  simpa [List.foldl_map, List.range_eq_range'] using this

/-- second loop (`values[i] /= norm`) when the division does not raise, for an arbitrary body that divides the item at
position `len(pre)` by `nrm`: every item is divided (after `i` rounds, the first `i` of them) -/
theorem loop2_tie0 {ρ : Type} (nrm : α) (N : Nat) (body : Int → List α → Py.M (Py.Ctl (List α) ρ))
    (h : ∀ (pre : List α) (x : α) (post : List α),
      body (pre.length : Int) (pre ++ x :: post) = .ok (.cont (pre ++ (x / nrm) :: post)))
    (vals : List α) (hl : vals.length = N) :
    Py.forList body (Py.range (0 : Int) (N : Int)) vals = .ok (.done (vals.map (· / nrm))) := by
  subst hl
  have := forRange_foldl (τ := Unit) (fun i _ => (vals.take i).map (· / nrm) ++ vals.drop i) body (fun _ _ => ()) vals.length 0 vals.length (by omega)
    (fun i _ hi _ => by
      have hb := h ((vals.take i).map (· / nrm)) vals[i] (vals.drop (i + 1))
      rw [List.length_map, List.length_take, Nat.min_eq_left (by omega)] at hb
      rw [List.drop_eq_getElem_cons (by omega), hb, List.take_succ_eq_append_getElem (by omega), List.map_append, List.append_assoc]
      rfl) ()
  rw [List.take_zero, List.map_nil, List.nil_append, List.drop_zero, List.take_length, List.drop_length, List.append_nil] at this
  exact this

/-- second loop when `norm == 0`: the first division raises (the list is not empty) -/
theorem loop2_err {ρ : Type} (N : Nat) (body : Int → List α → Py.M (Py.Ctl (List α) ρ))
    (h : ∀ (x : α) (post : List α), body (0 : Int) (x :: post) = .error .zerodiv)
    (vals : List α) (hl : vals.length = N) (hN : 0 < N) :
    Py.forList body (Py.range (0 : Int) (N : Int)) vals = .error .zerodiv := by
  cases vals with
  | nil => simp only [List.length_nil] at hl; omega
  | cons x post => rw [Py.range_cons (by omega), Py.forList_cons_error (h x post)]

/-- `Kernel.toSlidingWindow()` is the model's `slidingWindow f support S`, errors included, for `S = int(self.support)` (a
natural number: `hS`; `int(support) < 0` is excluded — then `support < 1`, see the remark below).
Hypotheses on the scalar type, all true at IEEE doubles and in an ordered field: the literal `2.0` is the cast of `2` (`h2`),
`0.5` is `1 / 2` (`h05`), the cast of a non-negative `int` is the cast of the natural number (`hcast`), the model's `==` is
Python's float `==` (`hbeq`); and the hypothesis of `tie_evaluate` at the `2 S + 1` sample points (`hev`).
Remark: when `trunc support` is negative the source raises `KernelError` as soon as `support < 1`; a `trunc` that returns a
negative number on a `support ≥ 1` is not Python's `int`. -/
theorem tie_toSlidingWindow [BEq α] (trunc : α → Int) (support : α) (f : α → α) (S : Nat)
    (hS : trunc support = (S : Int))
    (h2 : (2.0 : α) = ((2 : Nat) : α))
    (h05 : (0.5 : α) = (1 : α) / ((2 : Nat) : α))
    (hcast : ∀ k : Nat, (((k : Nat) : Int) : α) = ((k : Nat) : α))
    (hbeq : ∀ a b : α, (a == b) = Py.feq a b)
    (hev : ∀ i : Nat, i < 2 * S + 1 →
      decide (Py.fabs (Filter.samplePoint (α := α) (2 * S + 1) i) ≤ support)
        = decide (Filter.absv (Filter.samplePoint (α := α) (2 * S + 1) i) ≤ support)) :
    Gen.Kernel.Kernel_toSlidingWindow trunc support f = lift (Filter.slidingWindow f support S) := by
  unfold Gen.Kernel.Kernel_toSlidingWindow Filter.slidingWindow
  simp only []
  by_cases hs : support < 1
  · simp only [hs, decide_true, if_true, Py.bind_error, lift]
  · have hsz : (2 : Int) * (S : Int) + 1 = ((2 * S + 1 : Nat) : Int) := by omega
    simp only [hs, decide_false, if_false, Bool.false_eq_true, Py.bind_ok]
    rw [hS, hsz, replicate_natCast]
    rw [loop1_tie0 (fun i => Filter.evaluate f support (Filter.samplePoint (2 * S + 1) i)) (2 * S + 1) _ ?spec1 0]
    case spec1 =>
      intro pre x post nrm hlt
      simp only [h2, h05, hcast, ← Filter.samplePoint.eq_1]
      rw [tie_evaluate support f _ (hev _ hlt)]
      simp only [Py.bind_ok, setIdx_append_cons, getIdx_append_cons]
    simp only [Py.bind_ok, hbeq]
    generalize hv : List.map (fun i => Filter.evaluate f support (Filter.samplePoint (2 * S + 1) i))
      (List.range (2 * S + 1)) = vals
    have hlen : vals.length = 2 * S + 1 := by rw [← hv]; simp only [List.length_map, List.length_range]
    generalize List.foldl (fun x1 x2 => x1 + x2) (0 : α) vals = nrm
    by_cases hz : Py.feq nrm 0 = true
    · rw [loop2_err (2 * S + 1) _ ?spec2 vals hlen (by omega)]
      case spec2 =>
        intro x post
        simp only [getIdx_cons_zero, Py.bind_ok, Py.fdiv, hz, if_true, Py.bind_error]
      simp only [Py.bind_error, hz, if_true, lift]
    · rw [loop2_tie0 nrm (2 * S + 1) _ ?spec3 vals hlen]
      case spec3 =>
        intro pre x post
        have hz' : Py.feq nrm 0 = false := Bool.eq_false_iff.mpr hz
        simp only [getIdx_append_cons, setIdx_append_cons, Py.bind_ok, Py.fdiv, hz', Bool.false_eq_true, if_false]
      simp only [Py.bind_ok, hz, Bool.false_eq_true, if_false, lift]
end window

/-- `tie_toSlidingWindow` in an ordered field: the hypotheses on the casts, on `==` and on `abs` hold there; what remains assumed is
the reading of the two decimal literals (`2.0` is 2, `0.5` is 1/2) by the field's `OfScientific` -/
theorem tie_toSlidingWindow_field {α : Type} [Field α] [LinearOrder α] [IsStrictOrderedRing α] [OfScientific α]
    (trunc : α → Int) (support : α) (f : α → α) (S : Nat) (hS : trunc support = (S : Int))
    (h2 : (2.0 : α) = ((2 : Nat) : α)) (h05 : (0.5 : α) = (1 : α) / ((2 : Nat) : α)) :
    Gen.Kernel.Kernel_toSlidingWindow trunc support f = lift (Filter.slidingWindow f support S) :=
  tie_toSlidingWindow trunc support f S hS h2 h05 (fun k => Int.cast_natCast k)
    (fun a b => by
      unfold Py.feq
      by_cases h : a = b
      · subst h; simp only [beq_self_eq_true, le_refl, decide_true, Bool.and_self]
      · have h3 : ¬ (a ≤ b ∧ b ≤ a) := fun h' => h (le_antisymm h'.1 h'.2)
        rw [show (a == b) = false from beq_eq_false_iff_ne.mpr h, ← Bool.decide_and, decide_eq_false h3])
    (fun i _ => fabs_le_iff_field _ _)

end TV.Tie.C15
